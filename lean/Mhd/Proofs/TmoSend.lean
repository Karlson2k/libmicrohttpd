/-
  Send progress is activity: what one `call_handlers` of the select loop does with a replying
  connection, depending on whether its socket took more bytes in this round.
-/
import Mhd.Proofs.TmoExact
namespace Mhd.Tmo
open Mhd.Gen.Tmo

theorem writeStep_events (v : Variant) (d : Daemon) (i : Id) :
    ∀ e, e ∈ (writeStep v d i).2 → e = Event.completed i := by
  intro e he
  unfold writeStep at he
  dsimp only at he
  by_cases hf : i ∈ d.fset
  · rw [if_pos hf] at he
    dsimp only at he
    by_cases hk : ((if i ∈ d.wset then updateLastActivity v d i else d).c i).kind = Kind.expect
    · rw [if_pos hk] at he; exact absurd he List.not_mem_nil
    · rw [if_neg hk] at he; exact List.mem_singleton.1 he
  · rw [if_neg hf] at he
    exact absurd he List.not_mem_nil

theorem callHandlersSel0_replying (v : Variant) (d : Daemon) (i : Id) (r : Bool)
    (hc : (d.c i).closed = false) (hr : (d.c i).replying = true) :
    callHandlersSel0 v d i r = seq2 (writeStep v d i) (fun d => handleIdle d i) := by
  unfold callHandlersSel0
  simp [hc, hr]

/-- **A send with progress — partial or complete — restarts the timer and the connection is not closed
    for timeout in that round**, however long it had been idle before. -/
theorem send_progress_is_activity (v : Variant) (d : Daemon) (i : Id) (r : Bool)
    (hc : (d.c i).closed = false) (hr : (d.c i).replying = true)
    (hs : (d.c i).suspended = false) (h0 : (d.c i).tmo ≠ 0) (hw : i ∈ d.wset) :
    ((writeStep v d i).1.c i).la = d.now ∧ ∀ a, Event.tmoClose i a ∉ (callHandlersSel0 v d i r).2 := by
  have hla : ((updateLastActivity v d i).c i).la = d.now := by
    rcases updateLastActivity_cases v d i with ⟨x, _⟩ | ⟨n, f, e⟩
    · rcases x with x | x
      · exact absurd x h0
      · rw [hs] at x; cases x
    · rw [e]; simp
  have hnow : (updateLastActivity v d i).now = d.now := (touch_updateLastActivity v d i).now
  have key : ((writeStep v d i).1.c i).la = d.now ∧ (writeStep v d i).1.now = d.now := by
    unfold writeStep
    simp only [hw, if_true]
    split
    · simp [finishRec, hla, hnow]
    · exact ⟨hla, hnow⟩
  refine ⟨key.1, fun a hm => ?_⟩
  rw [callHandlersSel0_replying v d i r hc hr] at hm
  rcases List.mem_append.1 hm with x | x
  · cases writeStep_events v d i _ x
  · -- closed by the idle part: then the close decision held for the record the send has just stamped
    have := (((sound_idle _ i).handleIdle ⟨Steps.refl _, evOk_nil _⟩).2 i a x).2.2
    rw [checkTimedOut_fresh _ _ (key.1.trans key.2.symm)] at this
    cases this

end Mhd.Tmo
