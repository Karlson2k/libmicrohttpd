/-
  No conversion of the sleep hint makes the wait longer than the hint: every `uint64_t` value, every
  cap.  (With `hint_bound` this is "never longer than the earliest deadline + granularity".)
-/
import Mhd.Model.TmoConv
namespace Mhd.Tmo

theorem toInt64_small {u : Nat} (h : u < 9223372036854775808) : toInt64 u = u := by simp [toInt64, h]

/-! The conversions of a hint take the minimum of the hint and the largest value of the result type (and of
    the cap, if there is one).  The constants are unfolded only after the case distinctions: the `if`s of
    the model carry them in their decidability instances. -/

theorem getTimeout64s_eq (u : Nat) : getTimeout64s (some u) = min (u : Int) int64Max := by
  simp only [getTimeout64s]
  split <;> rename_i h <;> simp only [int64Max] at h ⊢
  · omega
  · rw [toInt64_small (by omega)]; omega

theorem getTimeoutI_eq (u : Nat) : getTimeoutI (some u) = min (u : Int) intMax := by
  simp only [getTimeoutI, getTimeout64s_eq]
  split <;> rename_i h <;> simp only [int64Max, intMax] at h ⊢ <;> omega

theorem getTimeoutMillisec_eq (u : Nat) (maxT : Int) (hM : maxT ≤ intMax) :
    getTimeoutMillisec (some u) maxT =
      if maxT = 0 then 0 else if 0 < maxT then min (u : Int) maxT else min (u : Int) int64Max := by
  simp only [getTimeoutMillisec]
  split
  · rfl
  split
  · rename_i h; rw [if_pos h.1]; omega
  rename_i h1
  split <;> rename_i h2 <;> simp only [int64Max, intMax] at h2 hM ⊢
  · split <;> omega
  · rw [toInt64_small (by omega)]; split <;> omega

theorem getTimeout64s_spec (u : Nat) :
    0 ≤ getTimeout64s (some u) ∧ getTimeout64s (some u) ≤ u ∧ getTimeout64s (some u) ≤ int64Max ∧
    ((u : Int) ≤ int64Max → getTimeout64s (some u) = u) := by
  rw [getTimeout64s_eq]; simp only [int64Max]; omega

theorem getTimeoutI_spec (u : Nat) :
    0 ≤ getTimeoutI (some u) ∧ getTimeoutI (some u) ≤ u ∧ getTimeoutI (some u) ≤ intMax ∧
    ((u : Int) ≤ intMax → getTimeoutI (some u) = u) := by
  rw [getTimeoutI_eq]; simp only [intMax]; omega

theorem getTimeout64s_none : getTimeout64s none = -1 := by decide

theorem getTimeoutI_none : getTimeoutI none = -1 := by decide

theorem getTimeoutULL_spec (u : Nat) (hu : u < W) : getTimeoutULL (some u) = some u := by
  simp [getTimeoutULL, Nat.mod_eq_of_lt hu]

theorem getTimeoutULL_none : getTimeoutULL none = none := rfl

/-- the result is `min (hint, cap)` (cap ignored when -1), clamped to INT64_MAX: never above the hint -/
theorem getTimeoutMillisec_spec (u : Nat) (maxT : Int) (hm : -1 ≤ maxT) (hM : maxT ≤ intMax) :
    0 ≤ getTimeoutMillisec (some u) maxT ∧ getTimeoutMillisec (some u) maxT ≤ u ∧
    (0 ≤ maxT → getTimeoutMillisec (some u) maxT ≤ maxT) ∧
    (maxT = -1 → (u : Int) ≤ int64Max → getTimeoutMillisec (some u) maxT = u) ∧
    (0 < maxT → (u : Int) ≤ maxT → getTimeoutMillisec (some u) maxT = u) := by
  rw [getTimeoutMillisec_eq u maxT hM]
  simp only [int64Max, intMax] at *
  split
  · omega
  · split <;> omega

theorem getTimeoutMillisec_none (maxT : Int) : getTimeoutMillisec none maxT = maxT := by
  simp only [getTimeoutMillisec]; split <;> simp_all

theorem getTimeoutMillisecInt_spec (u : Nat) (maxT : Int) (hm : -1 ≤ maxT) (hM : maxT ≤ intMax) :
    0 ≤ getTimeoutMillisecInt (some u) maxT ∧ getTimeoutMillisecInt (some u) maxT ≤ u ∧
    getTimeoutMillisecInt (some u) maxT ≤ intMax ∧
    (0 ≤ maxT → getTimeoutMillisecInt (some u) maxT ≤ maxT) ∧
    ((u : Int) ≤ intMax → (maxT = -1 ∨ (u : Int) ≤ maxT) → maxT ≠ 0 → getTimeoutMillisecInt (some u) maxT = u) := by
  have h := getTimeoutMillisec_spec u maxT hm hM
  simp only [getTimeoutMillisecInt]
  split <;> rename_i h1 <;> simp only [intMax, int64Max] at * <;> omega

theorem getTimeoutMillisecInt_none (maxT : Int) (hm : maxT ≤ intMax) : getTimeoutMillisecInt none maxT = maxT := by
  simp only [getTimeoutMillisecInt, getTimeoutMillisec_none]
  split <;> rename_i h1 <;> simp only [intMax] at * <;> omega

theorem selectTmo_spec (u : Nat) (millisec : Int) :
    ∃ t, selectTmo (some u) millisec = some t ∧ t ≤ u ∧ (0 < millisec → (t : Int) ≤ millisec) ∧
      (millisec ≤ 0 ∨ (u : Int) ≤ millisec → t = u) := by
  simp only [selectTmo]
  split
  · rename_i hc
    refine ⟨millisec.toNat, rfl, by omega, fun _ => by omega, fun h => by omega⟩
  · exact ⟨u, rfl, Nat.le_refl _, fun h => by omega, fun _ => rfl⟩

/-- the `struct timeval` of MHD_select denotes exactly the value (every `uint64_t`) -/
theorem selectTv_exact (ms : Nat) (h : ms < W) :
    0 ≤ (selectTv ms).1 ∧ 0 ≤ (selectTv ms).2 ∧ (selectTv ms).2 < 1000000 ∧
    (selectTv ms).1 * 1000 + (selectTv ms).2 / 1000 = ms := by
  have : ms / 1000 < 9223372036854775808 := by simp only [W] at h; omega
  simp only [selectTv, toInt64_small this]
  omega

theorem tpcPoll_spec (ms : Nat) :
    0 ≤ tpcPoll ms ∧ tpcPoll ms ≤ ms ∧ tpcPoll ms ≤ intMax ∧ ((ms : Int) < intMax → tpcPoll ms = ms) := by
  simp only [tpcPoll]
  by_cases h1 : (ms : Int) ≥ intMax
  · rw [if_pos h1]; simp only [intMax] at *; omega
  · rw [if_neg h1]; exact ⟨by omega, Int.le_refl _, by omega, fun _ => rfl⟩

end Mhd.Tmo
