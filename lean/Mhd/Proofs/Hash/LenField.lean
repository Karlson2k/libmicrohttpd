/-
  C16: the length field that `*_finish` stores into the last block is the full-width bit length
  of everything fed since `init` — the part of the `…_chunks` theorems of Props/C16 that a
  message of 2^29 bytes and more (bit length beyond 32 bits) depends on.
-/
import Mhd.Model.Hash.SpecSha512
import Mhd.Proofs.Hash.MD

namespace Mhd.Hash

/-- value of a byte string read as a big-endian number -/
def beVal (bs : List UInt8) : Nat := bs.foldl (fun a b => a * 256 + b.toNat) 0
/-- value of a byte string read as a little-endian number -/
def leVal (bs : List UInt8) : Nat := bs.foldr (fun b a => b.toNat + 256 * a) 0

/-- the bytes `*_finish` stores at offset `BLOCK_SIZE - SIZE_OF_LEN_ADD` of the last block
    (`_MHD_PUT_64BIT_xx (…, num_bits)`, for SHA-512/256 preceded by `count_bits_hi`) -/
def lengthField (A : Alg S) (c : Ctx S) : List UInt8 := A.putLen c.countHi ((c.count * 8) % 2 ^ 64)

theorem finish_uses_lengthField (A : Alg S) (c : Ctx S) :
    finish A c = finishCore A c.H c.buffer (c.count % A.B) (lengthField A c) := rfl

/-- the `k` low base-256 digits of `n`, least significant first -/
def digitsLE (n : Nat) : Nat → List UInt8
  | 0 => []
  | k + 1 => UInt8.ofNat n :: digitsLE (n / 256) k

theorem leVal_digitsLE (n k : Nat) : leVal (digitsLE n k) = n % 256 ^ k := by
  induction k generalizing n with
  | zero => simp [digitsLE, leVal, Nat.mod_one]
  | succ k ih =>
    have := ih (n / 256)
    rw [leVal] at this
    rw [digitsLE, leVal, List.foldr_cons, this, Nat.pow_succ', Nat.mod_mul, UInt8.toNat_ofNat']

theorem beVal_reverse (bs : List UInt8) : beVal bs.reverse = leVal bs := by
  rw [beVal, List.foldl_reverse, leVal]
  congr 1; funext b a; omega

theorem beVal_append (xs ys : List UInt8) : beVal (xs ++ ys) = beVal xs * 256 ^ ys.length + beVal ys := by
  simp only [beVal, List.foldl_append]
  generalize List.foldl (fun a b => a * 256 + b.toNat) 0 xs = a
  induction ys generalizing a with
  | nil => simp
  | cons y ys ih =>
    rw [List.foldl_cons, ih, List.foldl_cons, ih (0 * 256 + y.toNat), List.length_cons, Nat.pow_succ']
    simp only [Nat.add_mul, Nat.mul_assoc, Nat.zero_mul, Nat.zero_add, Nat.add_assoc]

theorem shr_toUInt8 (w k : UInt64) (hk : k.toNat < 64) :
    (w >>> k).toUInt8 = UInt8.ofNat (w.toNat / 2 ^ k.toNat) := by
  apply UInt8.toNat_inj.mp
  rw [UInt64.toNat_toUInt8, UInt64.toNat_shiftRight, Nat.mod_eq_of_lt hk, Nat.shiftRight_eq_div_pow,
    UInt8.toNat_ofNat']

theorem bytesLE64_eq (w : UInt64) : bytesLE64 w = digitsLE w.toNat 8 := by
  simp only [bytesLE64, digitsLE, Nat.div_div_eq_div_mul, Nat.reduceMul]
  rw [shr_toUInt8 w 56 (by decide), shr_toUInt8 w 48 (by decide), shr_toUInt8 w 40 (by decide),
    shr_toUInt8 w 32 (by decide), shr_toUInt8 w 24 (by decide), shr_toUInt8 w 16 (by decide),
    shr_toUInt8 w 8 (by decide)]
  rfl

theorem leVal_bytesLE64 (w : UInt64) : leVal (bytesLE64 w) = w.toNat := by
  rw [bytesLE64_eq, leVal_digitsLE]; exact Nat.mod_eq_of_lt w.toNat_lt

theorem beVal_bytesBE64 (w : UInt64) : beVal (bytesBE64 w) = w.toNat := by
  rw [show bytesBE64 w = (bytesLE64 w).reverse from rfl, beVal_reverse, leVal_bytesLE64]

variable {S : Type} {A : Alg S} {Sp : Spec.Hash S} {lenOK : Nat → Prop} {cnt : Nat → Nat × Nat}

theorem lengthField_eq (R : Refines A Sp lenOK cnt) (c : Ctx S) (hc : c.buffer.length = A.B)
    (chunks : List (Nat × List UInt8)) (hl : ∀ ch ∈ chunks, lenOK ch.2.length) :
    ∃ c', feed A (init A c) chunks = .ok c' ∧
      lengthField A c' = Sp.lenField ((chunks.map (·.2)).flatten).length := by
  obtain ⟨c', hf, hI⟩ := feed_inv R chunks (init A c) [] (inv_init R c hc) hl
  refine ⟨c', hf, ?_⟩
  rw [lengthField, hI.count, hI.countHi]
  exact R.putLen_eq _

/-- `val` is `beVal` or `leVal`, `m` the capacity of the field (`2 ^ 64`, for SHA-512/256 `2 ^ 128`) -/
theorem lengthField_val (R : Refines A Sp lenOK cnt) (val : List UInt8 → Nat) (m : Nat)
    (hval : ∀ n, val (Sp.lenField n) = 8 * n % m) (k : Nat) (hk : 8 * k ≤ m) (c : Ctx S)
    (hc : c.buffer.length = A.B) (chunks : List (Nat × List UInt8)) (hl : ∀ ch ∈ chunks, lenOK ch.2.length) :
    ∃ c', feed A (init A c) chunks = .ok c' ∧
      val (lengthField A c') = 8 * ((chunks.map (·.2)).flatten).length % m ∧
      (((chunks.map (·.2)).flatten).length < k →
        val (lengthField A c') = 8 * ((chunks.map (·.2)).flatten).length) := by
  obtain ⟨c', hf, h⟩ := lengthField_eq R c hc chunks hl
  refine ⟨c', hf, ?_, fun hlt => ?_⟩ <;> rw [h, hval]
  exact Nat.mod_eq_of_lt (Nat.lt_of_lt_of_le (Nat.mul_lt_mul_of_pos_left hlt (by decide)) hk)

/-- the length field of SHA-1 and SHA-256 -/
theorem beVal_lenField64 (n : Nat) : beVal (bytesBE64 (UInt64.ofNat (8 * n))) = (8 * n) % 2 ^ 64 := by
  rw [beVal_bytesBE64, UInt64.toNat_ofNat']
/-- the length field of MD5 -/
theorem leVal_lenField64 (n : Nat) : leVal (bytesLE64 (UInt64.ofNat (8 * n))) = (8 * n) % 2 ^ 64 := by
  rw [leVal_bytesLE64, UInt64.toNat_ofNat']
theorem sha512_lenField_val (n : Nat) : beVal (Spec.Sha512.spec.lenField n) = (8 * n) % 2 ^ 128 := by
  show beVal (bytesBE64 (UInt64.ofNat (8 * n / 2 ^ 64)) ++ bytesBE64 (UInt64.ofNat (8 * n))) = _
  rw [beVal_append, beVal_bytesBE64, beVal_bytesBE64, UInt64.toNat_ofNat', UInt64.toNat_ofNat',
    show (bytesBE64 (UInt64.ofNat (8 * n))).length = 8 from rfl, show 2 ^ 128 = 2 ^ 64 * 2 ^ 64 from rfl,
    Nat.mod_mul, Nat.add_comm, Nat.mul_comm (2 ^ 64)]

end Mhd.Hash
