/-
  C16, MD5: `md5_transform` as modelled from the recorded step tables (aligned and misaligned
  input paths) equals the block processing of RFC 1321 §3.4 on every 64-byte block and chaining
  value; hence the model `Refines` the specification.
  Obligations tying the proof to the C source: `steps_closed`, `stepsMis_closed` (the recorded
  tables are the RFC's k, s, T with cycling register names; F/G/H/I per round), `iv_eq`.
-/
import Mhd.Model.Hash.Md5
import Mhd.Model.Hash.SpecMd5
import Mhd.Proofs.Hash.Lists
import Mhd.Proofs.Hash.Rounds
import Mhd.Proofs.Hash.MD
namespace Mhd.Hash.Md5
open Mhd.Hash

theorem F_eq (x y z : UInt32) : F_FUNC x y z = Spec.Md5.F x y z := by
  unfold F_FUNC Spec.Md5.F
  apply UInt32.eq_of_toBitVec_eq
  simp only [UInt32.toBitVec_xor, UInt32.toBitVec_and, UInt32.toBitVec_not, UInt32.toBitVec_or]
  ext i hi
  simp only [BitVec.getElem_xor, BitVec.getElem_and, BitVec.getElem_not, BitVec.getElem_or]
  cases x.toBitVec[i] <;> cases y.toBitVec[i] <;> cases z.toBitVec[i] <;> rfl

theorem I_eq (x y z : UInt32) : I_FUNC x y z = Spec.Md5.I x y z := by
  rw [I_FUNC, Spec.Md5.I, UInt32.xor_comm, UInt32.or_comm]

/-- round 2 adds `G` in two summands; they have no bit in common, so their sum is their `|||` -/
theorem G_eq (x y z : UInt32) : G_FUNC_1 x y z + G_FUNC_2 x y z = Spec.Md5.G x y z := by
  unfold G_FUNC_1 G_FUNC_2 Spec.Md5.G
  apply UInt32.eq_of_toBitVec_eq
  simp only [UInt32.toBitVec_add, UInt32.toBitVec_and, UInt32.toBitVec_not, UInt32.toBitVec_or]
  rw [BitVec.add_eq_or_of_and_eq_zero]
  · ext i hi
    simp only [BitVec.getElem_and, BitVec.getElem_not, BitVec.getElem_or]
    cases x.toBitVec[i] <;> cases y.toBitVec[i] <;> cases z.toBitVec[i] <;> rfl
  · ext i hi
    simp only [BitVec.getElem_and, BitVec.getElem_not, BitVec.getElem_zero]
    cases x.toBitVec[i] <;> cases y.toBitVec[i] <;> cases z.toBitVec[i] <;> rfl

theorem rotl32_eq (x : UInt32) (n : Nat) (h0 : 0 < n) (h : n < 32) : rotl32 x n = Spec.Md5.rotl n x := by
  unfold rotl32 Spec.Md5.rotl
  simp only [Nat.mod_eq_of_lt h]
  rw [if_neg (by omega)]

/-- register names of step `t`: (A,B,C,D), (D,A,B,C), (C,D,A,B), (B,C,D,A) -/
def rot4 : Nat → List Nat
  | 0 => [0, 1, 2, 3]
  | 1 => [3, 0, 1, 2]
  | 2 => [2, 3, 0, 1]
  | _ => [1, 2, 3, 0]

/-- the step table in closed form: the standard's k, s, T; on aligned input (`mis = false`) the first
    sixteen steps load their word from the block -/
def closedRow (mis : Bool) (t : Nat) : Row :=
  (rot4 (t % 4), t / 16 + 1, Spec.Md5.S.getD t 0, (Spec.Md5.T.getD t 0).toNat, Spec.Md5.K.getD t 0,
   if t < 16 ∧ !mis then 0 else 2, Spec.Md5.K.getD t 0)

set_option synthInstance.maxSize 512 in
theorem steps_closed : Mhd.Gen.Hash.md5Steps = (List.range 64).map (closedRow false) := by decide +kernel
/-- the misaligned path runs the same steps, every operand read from `X[]` -/
theorem stepsMis_closed : Mhd.Gen.Hash.md5StepsMis = (List.range 64).map (closedRow true) := by
  have h : Mhd.Gen.Hash.md5StepsMis = Mhd.Gen.Hash.md5Steps.map
      (fun r => (r.1, r.2.1, r.2.2.1, r.2.2.2.1, r.2.2.2.2.1, 2, r.2.2.2.2.2.2)) := rfl
  rw [h, steps_closed, List.map_map]
  exact List.map_congr_left fun t _ => by
    simp only [Function.comp, closedRow, Bool.not_true, Bool.false_eq_true, and_false, if_false]
theorem iv_eq : ivOf Mhd.Gen.Hash.md5IV = Spec.Md5.IV := by decide

theorem S_range (t : Nat) (ht : t < 64) : 0 < Spec.Md5.S.getD t 0 ∧ Spec.Md5.S.getD t 0 < 32 :=
  (by decide : ∀ s ∈ Spec.Md5.S, 0 < s ∧ s < 32) _ (getD_mem _ t 0 ht)
theorem K_range (t : Nat) (ht : t < 64) : Spec.Md5.K.getD t 0 < 16 :=
  (by decide : ∀ k ∈ Spec.Md5.K, k < 16) _ (getD_mem _ t 0 ht)
theorem K_lo : ∀ t, t < 16 → Spec.Md5.K.getD t 0 = t := by decide +kernel

theorem closedRow_eq (mis : Bool) (t : Nat) : closedRow mis t =
    (names4 (rname 4 (t % 4)), t / 16 + 1, Spec.Md5.S.getD t 0, (Spec.Md5.T.getD t 0).toNat, Spec.Md5.K.getD t 0,
     if t < 16 ∧ !mis then 0 else 2, Spec.Md5.K.getD t 0) := by
  rw [closedRow, (by decide : ∀ r, r < 4 → rot4 r = names4 (rname 4 r)) _ (Nat.mod_lt _ (by decide))]

/-- one operation of RFC 1321 §3.4 with everything looked up -/
def specOp (f : UInt32 → UInt32 → UInt32 → UInt32) (s : Nat) (xk ti : UInt32) (r : R4 UInt32) : R4 UInt32 :=
  ⟨r.d, r.b + Spec.Md5.rotl s (r.a + f r.b r.c r.d + xk + ti), r.b, r.c⟩

def fOf (round : Nat) : UInt32 → UInt32 → UInt32 → UInt32 :=
  if round = 1 then Spec.Md5.F else if round = 2 then Spec.Md5.G else if round = 3 then Spec.Md5.H else Spec.Md5.I

theorem add_g (a x g1 g2 : UInt32) : a + x + g1 + g2 = a + (g1 + g2) + x := by ac_rfl
theorem add_f (a x t f : UInt32) : a + (x + t) + f = a + f + x + t := by ac_rfl
theorem add_g' (a x t g1 g2 : UInt32) : a + (x + t) + g1 + g2 = a + (g1 + g2) + x + t := by ac_rfl

/-- One `MD5STEP_Rn` on the registers named after `r` rotations.  Only the first-named register is
    assigned (up to four times); seen through the next rotation that is the RFC's
    `a = b + ((a + f(b,c,d) + X[k] + T[i]) <<< s)` followed by the cycling. -/
theorem step_view (blk : List UInt8) (s : TS) (r : Nat) (hr : r < 4) (round sh t dst kind arg : Nat)
    (hs0 : 0 < sh) (hs : sh < 32)
    (hok : rowOK (names4 (rname 4 r), round, sh, t, dst, kind, arg) = true) :
    (step blk s (names4 (rname 4 r), round, sh, t, dst, kind, arg)).ok = s.ok ∧
    (step blk s (names4 (rname 4 r), round, sh, t, dst, kind, arg)).x =
      (if kind = 0 then s.x.setIfInBounds dst (getLE32 blk arg) else s.x) ∧
    (step blk s (names4 (rname 4 r), round, sh, t, dst, kind, arg)).v.view ((r + 1) % 4) =
      specOp (fOf round) sh (if kind = 0 then getLE32 blk arg else s.x.getD arg 0) t.toUInt32 (s.v.view r) := by
  have hget := R4.get_rname r (α := UInt32)
  have hrd : round = 1 ∨ round = 2 ∨ round = 3 ∨ round = 4 := by
    simp only [rowOK, Bool.and_eq_true, decide_eq_true_eq] at hok
    omega
  unfold step
  rw [hok, R4.view_succ r hr]
  refine ⟨rfl, rfl, ?_⟩
  -- every read of a named register is a field of the view, every assignment an update of its field `a`
  rcases hrd with rfl | rfl | rfl | rfl <;>
    simp only [names4, fOf, specOp, Bool.not_true, Bool.false_eq_true, Nat.reduceEqDiff, ↓reduceIte,
      (hget _).1, (hget _).2.1, (hget _).2.2.1, (hget _).2.2.2, R4.view_set_first r hr,
      rotl32_eq _ _ hs0 hs, R4.mk.injEq, true_and, and_true] <;>
    rw [UInt32.add_comm]
  · rw [add_f, F_eq]
  · rw [add_g', G_eq]
  · rw [add_f]; rfl
  · rw [add_f, I_eq]

theorem rowOK_closed (mis : Bool) (t : Nat) (ht : t < 64) : rowOK (closedRow mis t) = true := by
  have hk := K_range t ht
  have hr : t / 16 + 1 ≤ 4 := by omega
  rw [closedRow_eq, rowOK]
  simp only [names4_ok, Bool.true_and, hk, hr, Nat.le_add_left, decide_true]
  split <;> rfl

def x0 (mis : Bool) (blk : List UInt8) : Array UInt32 := if mis then loadX blk else Array.replicate 16 0

theorem aux_eq (t : Nat) (ht : t < 64) : Spec.Md5.aux t = fOf (t / 16 + 1) := by
  unfold Spec.Md5.aux
  by_cases h1 : t < 16
  · rw [if_pos h1, Nat.div_eq_of_lt h1]; rfl
  · rw [if_neg h1]
    by_cases h2 : t < 32
    · rw [if_pos h2, Nat.div_eq_of_lt_le (k := 1) (Nat.le_of_not_lt h1) h2]; rfl
    · rw [if_neg h2]
      by_cases h3 : t < 48
      · rw [if_pos h3, Nat.div_eq_of_lt_le (k := 2) (Nat.le_of_not_lt h2) h3]; rfl
      · rw [if_neg h3, Nat.div_eq_of_lt_le (k := 3) (Nat.le_of_not_lt h3) ht]; rfl

theorem loadX_getD (blk : List UInt8) (j : Nat) (hj : j < 16) : (loadX blk).getD j 0 = getLE32 blk j := by
  unfold loadX
  simp only [Array.getD_eq_getD_getElem?, List.getElem?_toArray, List.getElem?_map]
  rw [List.getElem?_range hj]
  rfl

/-- `X[j]` holds word `j` of the block from the step that loads it on (from the start if the
    block was copied to `X[]` first) -/
def XOk (mis : Bool) (blk : List UInt8) (x : Array UInt32) (n : Nat) : Prop :=
  x.size = 16 ∧ ∀ j, j < 16 → (j < n ∨ mis = true) → x.getD j 0 = getLE32 blk j

theorem XOk.zero (mis : Bool) (blk : List UInt8) : XOk mis blk (x0 mis blk) 0 := by
  cases mis
  · exact ⟨Array.size_replicate, fun j _ h => h.elim (fun h => absurd h (Nat.not_lt_zero _)) Bool.noConfusion⟩
  · exact ⟨by simp [x0, loadX], fun j hj _ => loadX_getD blk j hj⟩

section
variable {mis : Bool} {blk : List UInt8} {x : Array UInt32} {n : Nat}

theorem XOk.all (h : XOk mis blk x n) (hc : ¬ (n < 16 ∧ (!mis) = true)) (j : Nat) (hj : j < 16) :
    x.getD j 0 = getLE32 blk j := by
  refine h.2 j hj ?_
  cases mis
  · exact .inl (Nat.lt_of_lt_of_le hj (Nat.le_of_not_lt fun hn => hc ⟨hn, rfl⟩))
  · exact .inr rfl

theorem XOk.operand (h : XOk mis blk x n) (hk : Spec.Md5.K.getD n 0 < 16) :
    (if n < 16 ∧ (!mis) = true then getLE32 blk (Spec.Md5.K.getD n 0) else x.getD (Spec.Md5.K.getD n 0) 0) =
      getLE32 blk (Spec.Md5.K.getD n 0) := by
  split
  · rfl
  · exact h.all ‹_› _ hk

theorem XOk.next (h : XOk mis blk x n) :
    XOk mis blk (if n < 16 ∧ (!mis) = true then
      x.setIfInBounds (Spec.Md5.K.getD n 0) (getLE32 blk (Spec.Md5.K.getD n 0)) else x) (n + 1) := by
  split
  · -- a loading step puts word `n` into `X[n]`
    rename_i hc
    rw [K_lo n hc.1]
    refine ⟨by rw [Array.size_setIfInBounds]; exact h.1, fun j hj hjn => ?_⟩
    rw [array_getD_set _ _ _ _ _ (by rw [h.1]; exact hc.1)]
    by_cases e : n = j
    · rw [if_pos e, e]
    · rw [if_neg e]; exact h.2 j hj (hjn.imp (fun _ => by omega) id)
  · exact ⟨h.1, fun j hj _ => h.all ‹_› j hj⟩
end

theorem step_closed (mis : Bool) (blk : List UInt8) (hblk : blk.length = 64) (s : TS) (t : Nat) (ht : t < 64)
    (hx : XOk mis blk s.x t) :
    (step blk s (closedRow mis t)).ok = s.ok ∧ XOk mis blk (step blk s (closedRow mis t)).x (t + 1) ∧
    (step blk s (closedRow mis t)).v.view ((t % 4 + 1) % 4) = Spec.Md5.op (wordsLE32 blk) (s.v.view (t % 4)) t := by
  have hs := S_range t ht
  have hk := K_range t ht
  have hrow := rowOK_closed mis t ht
  rw [closedRow_eq] at hrow ⊢
  obtain ⟨e1, e2, e3⟩ := step_view blk s (t % 4) (Nat.mod_lt _ (by decide)) _ _ _ _ _ _ hs.1 hs.2 hrow
  rw [e2, e3, show (Spec.Md5.T.getD t 0).toNat.toUInt32 = Spec.Md5.T.getD t 0 from UInt32.ofNat_toNat,
    ite_kind _ 2 (by decide), ite_kind _ 2 (by decide), hx.operand hk]
  refine ⟨e1, hx.next, ?_⟩
  unfold Spec.Md5.op specOp
  rw [aux_eq t ht, wordsLE32_eq, hblk, List.getD_map_range _ _ hk]

theorem transform_eq (mis : Bool) (H : R4 UInt32) (blk : List UInt8) (hblk : blk.length = 64) :
    transform mis H blk = .ok (Spec.Md5.compress H blk) := by
  have htbl : (if mis then Mhd.Gen.Hash.md5StepsMis else Mhd.Gen.Hash.md5Steps)
      = (List.range 64).map (closedRow mis) := by
    cases mis
    · exact steps_closed
    · exact stepsMis_closed
  obtain ⟨hok, -, hv⟩ := foldl_range_rel
    (fun n (s : TS) r => s.ok = true ∧ XOk mis blk s.x n ∧ s.v.view (n % 4) = r)
    (fun s t => step blk s (closedRow mis t)) (Spec.Md5.op (wordsLE32 blk)) 64
    (fun t s r ht ⟨hok, hx, hv⟩ => by
      obtain ⟨e1, e2, e3⟩ := step_closed mis blk hblk s t ht hx
      exact ⟨e1.trans hok, e2, by rw [← Nat.mod_add_mod, e3, hv]⟩)
    { v := H, x := x0 mis blk, ok := true } H ⟨rfl, XOk.zero mis blk, rfl⟩
  rw [show 64 % 4 = 0 from rfl, R4.view_zero] at hv
  unfold transform Spec.Md5.compress
  simp only [htbl, List.foldl_map]
  rw [show (if mis = true then loadX blk else Array.replicate 16 0) = x0 mis blk from rfl]
  simp only [hok, if_true, hv]

theorem refines : Refines alg Spec.Md5.spec (fun _ => True) (fun n => (n % 2 ^ 64, 0)) where
  B_eq := by decide
  L_eq := by decide
  L_pos := by decide
  L_lt := by decide
  B_lt := by decide
  iv_eq := iv_eq
  transform_eq := transform_eq
  cnt_zero := rfl
  bump_eq := fun n len _ => bump64_mod n len
  cnt_mod := fun n => Nat.mod_mod_of_dvd n (by decide)
  putLen_eq := fun n => congrArg bytesLE64 (ofNat_count_shl3 n)
  lenField_len := fun _ => rfl
  digest_eq := fun _ => rfl

end Mhd.Hash.Md5
