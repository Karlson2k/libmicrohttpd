/-
  C16: what the unrolled step loops of the four transforms have in common, for any word type:
  a message schedule that grows word by word, the 16-word cyclic buffer that holds its last
  words, and step macros that update registers in place under names that rotate by one
  after every step (the standards instead shift the values through fixed names).
  `unrolled_eq_rounds` is the loop argument of the three SHA transforms, once.
-/
import Mhd.Proofs.Hash.Lists
namespace Mhd.Hash
variable {α : Type}

/-- a list extended word by word, each new word computed from those before it -/
def extend (next : List α → α) (n : Nat) (M : List α) : List α :=
  (List.range n).foldl (fun W _ => W ++ [next W]) M

section
variable (next : List α → α)

theorem extend_succ (n : Nat) (M : List α) :
    extend next (n + 1) M = extend next n M ++ [next (extend next n M)] :=
  foldl_range_succ _ _ _

theorem extend_length (n : Nat) (M : List α) : (extend next n M).length = M.length + n := by
  induction n with
  | zero => rfl
  | succ n ih => rw [extend_succ, List.length_append, ih]; rfl

theorem extend_getD_lt (M : List α) (n t : Nat) (d : α) (ht : t < M.length + n) :
    (extend next (n + 1) M).getD t d = (extend next n M).getD t d := by
  rw [extend_succ, List.getD_eq_getElem?_getD, List.getElem?_append_left (by rw [extend_length]; exact ht),
    ← List.getD_eq_getElem?_getD]

theorem extend_getD_lo (M : List α) (n t : Nat) (d : α) (ht : t < M.length) :
    (extend next n M).getD t d = M.getD t d := by
  induction n with
  | zero => rfl
  | succ n ih => rw [extend_getD_lt _ _ _ _ _ (Nat.lt_of_lt_of_le ht (Nat.le_add_right _ _)), ih]

theorem extend_getD_hi (M : List α) (n t : Nat) (d : α) (h0 : M.length ≤ t) (ht : t < M.length + n) :
    ∃ P : List α, P.length = t ∧ (∀ i, i < t → P.getD i d = (extend next n M).getD i d) ∧
      (extend next n M).getD t d = next P := by
  induction n with
  | zero => exact absurd ht (Nat.not_lt.mpr h0)
  | succ n ih =>
    rcases Nat.lt_or_ge t (M.length + n) with hlt | hge
    · obtain ⟨P, hl, hP, h⟩ := ih hlt
      exact ⟨P, hl, fun i hi => by rw [hP i hi, extend_getD_lt _ _ _ _ _ (Nat.lt_trans hi hlt)],
        by rw [extend_getD_lt _ _ _ _ _ hlt, h]⟩
    · have ht' : t = M.length + n := Nat.le_antisymm (Nat.le_of_lt_succ ht) hge
      have hl : (extend next n M).length = t := by rw [extend_length, ht']
      refine ⟨extend next n M, hl, fun i hi => (extend_getD_lt _ _ _ _ _ (ht' ▸ hi)).symm, ?_⟩
      rw [extend_succ, List.getD_eq_getElem?_getD, List.getElem?_append_right (Nat.le_of_eq hl), hl, Nat.sub_self]
      rfl
end

/-- the 16-word cyclic buffer `W[t & 15]`: `w` holds the last (at most 16) of the first `n` words of `W` -/
def Window (d : α) (w : Array α) (W : List α) (n : Nat) : Prop :=
  w.size = 16 ∧ ∀ j, j < n → n ≤ j + 16 → w.getD (j % 16) d = W.getD j d

theorem array_getD_set (w : Array α) (i j : Nat) (x d : α) (hi : i < w.size) :
    (w.setIfInBounds i x).getD j d = if i = j then x else w.getD j d := by
  simp only [Array.getD_eq_getD_getElem?, Array.getElem?_setIfInBounds, hi, if_true]
  split <;> rfl

section
variable {d : α} {w : Array α} {W : List α} {n : Nat}

theorem Window.push (h : Window d w W n) : Window d (w.setIfInBounds (n % 16) (W.getD n d)) W (n + 1) := by
  refine ⟨by rw [Array.size_setIfInBounds]; exact h.1, fun j hj1 hj2 => ?_⟩
  rw [array_getD_set _ _ _ _ _ (by rw [h.1]; exact Nat.mod_lt _ (by decide))]
  by_cases hjn : j = n
  · rw [hjn, if_pos rfl]
  · rw [if_neg (by omega)]
    exact h.2 j (by omega) (by omega)

theorem Window.back (h : Window d w W n) (hn : 16 ≤ n) (i : Nat) (h1 : 0 < i) (h16 : i ≤ 16) :
    w.getD ((n - i) % 16) d = W.getD (n - i) d :=
  h.2 _ (by omega) (by omega)

theorem Window.ahead (h : Window d w W n) (hn : 16 ≤ n) (i : Nat) (h1 : 0 < i) (h16 : i ≤ 16) :
    w.getD ((n + (16 - i)) % 16) d = W.getD (n - i) d := by
  rw [show n + (16 - i) = n - i + 16 by omega, Nat.add_mod_right]
  exact h.back hn i h1 h16

theorem Window.oldest (h : Window d w W n) (hn : 16 ≤ n) : w.getD (n % 16) d = W.getD (n - 16) d := by
  have e : n % 16 = (n - 16) % 16 := by rw [← Nat.add_mod_right (n - 16) 16, Nat.sub_add_cancel hn]
  rw [e]
  exact h.back hn 16 (by decide) (by decide)

theorem Window.congr {P : List α} (h : Window d w W n) (hP : ∀ i, i < n → P.getD i d = W.getD i d) :
    Window d w P n :=
  ⟨h.1, fun j hj hn => (h.2 j hj hn).trans (hP j hj).symm⟩
end

/-- the operand kind of a recorded step (0 = load from the block) written as a condition -/
theorem ite_kind {γ : Type} (c : Prop) [Decidable c] (k : Nat) (hk : k ≠ 0) (a b : γ) :
    (if (if c then 0 else k) = 0 then a else b) = if c then a else b := by
  by_cases hc : c
  · rw [if_pos hc, if_pos hc, if_pos rfl]
  · rw [if_neg hc, if_neg hc, if_neg hk]

/-! Step `t` of an unrolled transform is written with the register names rotated `t` places:
  `STEP (a,b,…,h)`, `STEP (h,a,…,g)`, …  `rname n r i` is the register that plays the role of
  the `i`-th working variable after `r` rotations; `view r` reads the working variables off. -/

def rname (n r i : Nat) : Nat := (i + (n - r)) % n

/-- the register list of a table row, from a naming of the working variables -/
def names4 (n : Nat → Nat) : List Nat := [n 0, n 1, n 2, n 3]
def names5 (n : Nat → Nat) : List Nat := [n 0, n 1, n 2, n 3, n 4]
def names8 (n : Nat → Nat) : List Nat := [n 0, n 1, n 2, n 3, n 4, n 5, n 6, n 7]

theorem names4_ok (r : Nat) : ((names4 (rname 4 r)).length == 4 && (names4 (rname 4 r)).all (· < 4)) = true := by
  simp [names4, rname, Nat.mod_lt]
theorem names5_ok (r : Nat) : ((names5 (rname 5 r)).length == 5 && (names5 (rname 5 r)).all (· < 5)) = true := by
  simp [names5, rname, Nat.mod_lt]
theorem names8_ok (r : Nat) : ((names8 (rname 8 r)).length == 8 && (names8 (rname 8 r)).all (· < 8)) = true := by
  simp [names8, rname, Nat.mod_lt]

def R8.view (r : Nat) (v : R8 α) : R8 α :=
  ⟨v.get (rname 8 r 0), v.get (rname 8 r 1), v.get (rname 8 r 2), v.get (rname 8 r 3),
   v.get (rname 8 r 4), v.get (rname 8 r 5), v.get (rname 8 r 6), v.get (rname 8 r 7)⟩

theorem R8.view_zero (v : R8 α) : v.view 0 = v := rfl

/-- `SHA2STEP`: `h += t1 (e, f, g); d += h; h += t2 (a, b, c)` on the registers named by `n` -/
def R8.sha2Step (add : α → α → α) (t1 t2 : α → α → α → α) (n : Nat → Nat) (v : R8 α) : R8 α :=
  let h1 := add (v.get (n 7)) (t1 (v.get (n 4)) (v.get (n 5)) (v.get (n 6)))
  let v := v.set (n 7) h1
  let v := v.set (n 3) (add (v.get (n 3)) h1)
  v.set (n 7) (add (v.get (n 7)) (t2 (v.get (n 0)) (v.get (n 1)) (v.get (n 2))))

/-- the same step as the standards write it: the values move on by one name -/
def R8.sha2Round (add : α → α → α) (t1 t2 : α → α → α → α) (s : R8 α) : R8 α :=
  ⟨add (add s.h (t1 s.e s.f s.g)) (t2 s.a s.b s.c), s.a, s.b, s.c,
   add s.d (add s.h (t1 s.e s.f s.g)), s.e, s.f, s.g⟩

theorem R8.view_sha2Step (add : α → α → α) (t1 t2 : α → α → α → α) (r : Nat) (hr : r < 8) (v : R8 α) :
    (R8.sha2Step add t1 t2 (rname 8 r) v).view ((r + 1) % 8) = R8.sha2Round add t1 t2 (v.view r) := by
  obtain ⟨a, b, c, d, e, f, g, h⟩ := v
  match r, hr with
  | 0, _ | 1, _ | 2, _ | 3, _ | 4, _ | 5, _ | 6, _ | 7, _ => rfl

def R5.view (r : Nat) (v : R5 α) : R5 α :=
  ⟨v.get (rname 5 r 0), v.get (rname 5 r 1), v.get (rname 5 r 2), v.get (rname 5 r 3), v.get (rname 5 r 4)⟩

theorem R5.view_zero (v : R5 α) : v.view 0 = v := rfl

/-- `SHA1STEP32`: `e = t (a, b, c, d, e); b = rot (b)` on the registers named by `n` -/
def R5.sha1Step (t : α → α → α → α → α → α) (rot : α → α) (n : Nat → Nat) (v : R5 α) : R5 α :=
  let v := v.set (n 4) (t (v.get (n 0)) (v.get (n 1)) (v.get (n 2)) (v.get (n 3)) (v.get (n 4)))
  v.set (n 1) (rot (v.get (n 1)))

def R5.sha1Round (t : α → α → α → α → α → α) (rot : α → α) (s : R5 α) : R5 α :=
  ⟨t s.a s.b s.c s.d s.e, s.a, rot s.b, s.c, s.d⟩

theorem R5.view_sha1Step (t : α → α → α → α → α → α) (rot : α → α) (r : Nat) (hr : r < 5) (v : R5 α) :
    (R5.sha1Step t rot (rname 5 r) v).view ((r + 1) % 5) = R5.sha1Round t rot (v.view r) := by
  obtain ⟨a, b, c, d, e⟩ := v
  match r, hr with
  | 0, _ | 1, _ | 2, _ | 3, _ | 4, _ => rfl

def R4.view (r : Nat) (v : R4 α) : R4 α :=
  ⟨v.get (rname 4 r 0), v.get (rname 4 r 1), v.get (rname 4 r 2), v.get (rname 4 r 3)⟩

theorem R4.view_zero (v : R4 α) : v.view 0 = v := rfl

/-- an MD5 step only ever assigns to the register that plays `a`: a field update of the view -/
theorem R4.view_set_first (r : Nat) (hr : r < 4) (x : α) (v : R4 α) :
    (v.set (rname 4 r 0) x).view r = { v.view r with a := x } := by
  obtain ⟨a, b, c, d⟩ := v
  match r, hr with
  | 0, _ | 1, _ | 2, _ | 3, _ => rfl

/-- one more rotation of the names moves the values on as RFC 1321 cycles them -/
theorem R4.view_succ (r : Nat) (hr : r < 4) (v : R4 α) :
    v.view ((r + 1) % 4) = ⟨(v.view r).d, (v.view r).a, (v.view r).b, (v.view r).c⟩ := by
  match r, hr with
  | 0, _ | 1, _ | 2, _ | 3, _ => rfl

theorem R4.get_rname (r : Nat) (v : R4 α) :
    v.get (rname 4 r 0) = (v.view r).a ∧ v.get (rname 4 r 1) = (v.view r).b ∧
    v.get (rname 4 r 2) = (v.view r).c ∧ v.get (rname 4 r 3) = (v.view r).d := ⟨rfl, rfl, rfl, rfl⟩

section
variable {σ τ κ : Type} (d : α)
  (v : τ → σ) (w : τ → Array α) (ok : τ → Bool) (f : τ → Nat → τ) (load : Nat → α) (gen : Array α → Nat → α)
  (next : List α → α) (K : List κ) (k0 : κ) (round : σ → κ × α → σ) (p : Nat) (view : Nat → σ → σ)

/-- the schedule word of step `t`: `GET_W_FROM_DATA (data, t)` or `Wgen (W, t)` -/
def wordOf (w : Array α) (t : Nat) : α := if t < 16 then load t else gen w t

/-- The models fold a `step` over the recorded table, each over its own state type `τ`; `f s t` is
    step `t`, and of the state only `v` (the working registers a, b, …), `w` (the array `W[16]`) and
    `ok` (the table made sense so far) are looked at.
    `hM`: the block is the sixteen words that `load` reads.
    `hstep` is one step macro: it takes its word (`wordOf`), stores it in `W[t & 15]` and updates the
    registers in place.  The macro call of step `t` is written with the register names rotated
    `t mod p` places, so read through that rotation (`view`) the update is one `round` of the
    standard, which instead shifts the values through fixed names.
    `hgen`: `Wgen` is the standard's recurrence `next` whenever `W[16]` is the cyclic window
    (`Window`) on the last sixteen words so far; that it is, is the invariant of the induction.
    The conclusion has the form of the standards' `compress`: `round` folded over the round
    constants zipped with the schedule. -/
theorem unrolled_eq_rounds (N : Nat) (hN : 16 ≤ N) (hK : K.length = N) (M : List α)
    (hM : M = (List.range 16).map load)
    (hgen : ∀ w P t, 16 ≤ t → P.length = t → Window d w P t → gen w t = next P)
    (hstep : ∀ s t, t < N → ok (f s t) = ok s ∧
      w (f s t) = (w s).setIfInBounds (t % 16) (wordOf load gen (w s) t) ∧
      view ((t % p + 1) % p) (v (f s t)) = round (view (t % p) (v s)) (K.getD t k0, wordOf load gen (w s) t))
    (W : List α) (hW : W = extend next (N - 16) M) (s0 : τ) (hs0 : (w s0).size = 16) :
    ok ((List.range N).foldl f s0) = ok s0 ∧
    view (N % p) (v ((List.range N).foldl f s0)) = (K.zip W).foldl round (view 0 (v s0)) := by
  subst hW
  have hl : M.length = 16 := by rw [hM, List.length_map, List.length_range]
  rw [foldl_zip_range K _ (by rw [extend_length, hl, hK]; omega) round _ k0 d, hK]
  have h := foldl_range_rel
    (fun n s r => ok s = ok s0 ∧ Window d (w s) (extend next (N - 16) M) n ∧ view (n % p) (v s) = r) f
    (fun r t => round r (K.getD t k0, (extend next (N - 16) M).getD t d)) N ?_ s0 _
    ⟨rfl, ⟨hs0, fun _ h => absurd h (Nat.not_lt_zero _)⟩, by rw [Nat.zero_mod]⟩
  · exact ⟨h.1, h.2.2⟩
  · intro t s r ht ⟨hok, hw, hv⟩
    obtain ⟨e1, e2, e3⟩ := hstep s t ht
    have hword : wordOf load gen (w s) t = (extend next (N - 16) M).getD t d := by
      unfold wordOf
      by_cases h16 : t < 16
      · rw [if_pos h16, extend_getD_lo next M _ t d (hl ▸ h16), hM, List.getD_map_range _ _ h16]
      · -- the word added at position `t` is `next` of the `t` words before it, which the window shows
        obtain ⟨P, hP, hlo, h⟩ := extend_getD_hi next M (N - 16) t d (by omega) (by omega)
        rw [if_neg h16, h, hgen _ P t (Nat.le_of_not_lt h16) hP (hw.congr hlo)]
    rw [hword] at e2 e3
    exact ⟨e1.trans hok, e2 ▸ hw.push, by rw [← Nat.mod_add_mod, e3, hv]⟩
end

end Mhd.Hash
