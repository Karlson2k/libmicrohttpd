/-
  C16, SHA-1: `sha1_transform` (both copies: src/microhttpd/sha1.c and src/microhttpd_ws/sha1.c)
  as modelled from the recorded step tables equals the computation of FIPS 180-4 §6.1.2 on every
  64-byte block and chaining value; hence both models refine the specification (`Refines`).
  Obligations tying the proof to the C sources: `steps_closed`, `stepsMis_closed`,
  `wsSteps_closed`, `wsStepsMis_closed`, `iv_eq`, `wsIv_eq`.
-/
import Mhd.Model.Hash.Sha1
import Mhd.Model.Hash.SpecSha1
import Mhd.Proofs.Hash.Lists
import Mhd.Proofs.Hash.Rounds
import Mhd.Proofs.Hash.MD
namespace Mhd.Hash.Sha1
open Mhd.Hash

theorem Ch_eq (x y z : UInt32) : Ch x y z = Spec.Sha1.ch x y z :=
  UInt32.eq_of_toBitVec_eq (bv_ch x.toBitVec y.toBitVec z.toBitVec)

theorem Maj_eq (x y z : UInt32) : Maj x y z = Spec.Sha1.maj x y z :=
  UInt32.eq_of_toBitVec_eq (bv_maj x.toBitVec y.toBitVec z.toBitVec)

theorem rotl32_eq (x : UInt32) (n : Nat) (h0 : 0 < n) (h : n < 32) : rotl32 x n = Spec.Sha1.rotl n x := by
  unfold rotl32 Spec.Sha1.rotl
  simp only [Nat.mod_eq_of_lt h]
  rw [if_neg (by omega)]

/-- register names of step `t`: (a,b,c,d,e), (e,a,b,c,d), (d,e,a,b,c), … -/
def rot5 : Nat → List Nat
  | 0 => [0, 1, 2, 3, 4]
  | 1 => [4, 0, 1, 2, 3]
  | 2 => [3, 4, 0, 1, 2]
  | 3 => [2, 3, 4, 0, 1]
  | _ => [1, 2, 3, 4, 0]

/-- which `ft` the source passes at step `t` (0 = Ch, 1 = Par, 2 = Maj) -/
def fkOf (t : Nat) : Nat := if t < 20 then 0 else if t < 40 then 1 else if t < 60 then 2 else 1

def closedRow (t : Nat) : Row :=
  (rot5 (t % 5), fkOf t, (Spec.Sha1.K t).toNat, t % 16, if t < 16 then 0 else 1, t)

theorem steps_closed : Mhd.Gen.Hash.sha1Steps = (List.range 80).map closedRow := by decide +kernel
/-- a misaligned block is copied first; the same steps run on it -/
theorem stepsMis_closed : Mhd.Gen.Hash.sha1StepsMis = (List.range 80).map closedRow :=
  (rfl : Mhd.Gen.Hash.sha1StepsMis = Mhd.Gen.Hash.sha1Steps).trans steps_closed
/-- the second copy of the file executes the same steps -/
theorem wsSteps_closed : Mhd.Gen.Hash.wsSha1Steps = (List.range 80).map closedRow :=
  (rfl : Mhd.Gen.Hash.wsSha1Steps = Mhd.Gen.Hash.sha1Steps).trans steps_closed
theorem wsStepsMis_closed : Mhd.Gen.Hash.wsSha1StepsMis = (List.range 80).map closedRow :=
  (rfl : Mhd.Gen.Hash.wsSha1StepsMis = Mhd.Gen.Hash.sha1Steps).trans steps_closed
theorem iv_eq : ivOf Mhd.Gen.Hash.sha1IV = Spec.Sha1.H0 := by decide
theorem wsIv_eq : ivOf Mhd.Gen.Hash.wsSha1IV = Spec.Sha1.H0 := by decide

theorem closedRow_eq (t : Nat) : closedRow t =
    (names5 (rname 5 (t % 5)), fkOf t, (Spec.Sha1.K t).toNat, t % 16, if t < 16 then 0 else 1, t) := by
  rw [closedRow, (by decide : ∀ r, r < 5 → rot5 r = names5 (rname 5 r)) _ (Nat.mod_lt _ (by decide))]

theorem fkOf_lt (t : Nat) : fkOf t < 3 := by
  unfold fkOf; split <;> (try split) <;> (try split) <;> omega

theorem rowOK_closed (t : Nat) : rowOK (closedRow t) = true := by
  have h16 : t % 16 < 16 := Nat.mod_lt _ (by decide)
  rw [closedRow_eq, rowOK]
  simp only [names5_ok, Bool.true_and, h16, fkOf_lt t, decide_true]
  by_cases ht : t < 16
  · simp [ht]
  · simp [ht, Nat.le_of_not_lt ht]

theorem step_row (blk : List UInt8) (s : TS) (n : Nat → Nat) (fk k dst kind arg : Nat)
    (hok : rowOK (names5 n, fk, k, dst, kind, arg) = true) :
    step blk s (names5 n, fk, k, dst, kind, arg) =
      { v := R5.sha1Step
               (fun a b c d e => e + (rotl32 a 5 + ftOf fk b c d + k.toUInt32 +
                 (if kind = 0 then getBE32 blk arg else wgen s.w arg)))
               (rotl32 · 30) n s.v,
        w := s.w.setIfInBounds dst (if kind = 0 then getBE32 blk arg else wgen s.w arg), ok := s.ok } := by
  unfold step
  rw [hok]
  rfl

theorem ftOf_fkOf (t : Nat) : ftOf (fkOf t) = fun x y z => Spec.Sha1.f t x y z := by
  unfold Spec.Sha1.f fkOf
  by_cases h1 : t < 20
  · rw [if_pos h1, if_pos h1]; funext x y z; exact Ch_eq x y z
  · rw [if_neg h1, if_neg h1]
    by_cases h2 : t < 40
    · rw [if_pos h2, if_pos h2]; rfl
    · rw [if_neg h2, if_neg h2]
      by_cases h3 : t < 60
      · rw [if_pos h3, if_pos h3]; funext x y z; exact Maj_eq x y z
      · rw [if_neg h3, if_neg h3]; rfl

theorem add5 (e r f k w : UInt32) : e + (r + f + k + w) = r + f + e + k + w := by ac_rfl

theorem wgen_next (w : Array UInt32) (P : List UInt32) (t : Nat) (h16 : 16 ≤ t) (hl : P.length = t)
    (hw : Window 0 w P t) : wgen w t = Spec.Sha1.nextW P := by
  rw [wgen, Spec.Sha1.nextW, hl, hw.oldest h16, hw.ahead h16 3 (by decide) (by decide),
    hw.ahead h16 8 (by decide) (by decide), hw.ahead h16 14 (by decide) (by decide),
    rotl32_eq _ 1 (by decide) (by decide)]

theorem step_closed (blk : List UInt8) (s : TS) (t : Nat) (ht : t < 80) :
    (step blk s (closedRow t)).ok = s.ok ∧
    (step blk s (closedRow t)).w = s.w.setIfInBounds (t % 16) (wordOf (getBE32 blk) wgen s.w t) ∧
    (step blk s (closedRow t)).v.view ((t % 5 + 1) % 5) =
      Spec.Sha1.round (s.v.view (t % 5)) ((List.range 80).getD t 0, wordOf (getBE32 blk) wgen s.w t) := by
  have hrow := rowOK_closed t
  rw [closedRow_eq] at hrow
  rw [closedRow_eq, step_row _ _ _ _ _ _ _ _ hrow,
    show (Spec.Sha1.K t).toNat.toUInt32 = Spec.Sha1.K t from UInt32.ofNat_toNat, ite_kind _ 1 (by decide)]
  refine ⟨rfl, rfl, ?_⟩
  rw [R5.view_sha1Step _ _ _ (Nat.mod_lt _ (by decide)), R5.sha1Round, ftOf_fkOf, add5, range_getD 80 t 0 ht]
  simp only [Spec.Sha1.round, rotl32_eq _ 5 (by decide) (by decide), rotl32_eq _ 30 (by decide) (by decide), wordOf]

theorem transformWith_eq (tbl tblMis : List Row) (h1 : tbl = (List.range 80).map closedRow)
    (h2 : tblMis = (List.range 80).map closedRow)
    (mis : Bool) (H : R5 UInt32) (blk : List UInt8) (hblk : blk.length = 64) :
    transformWith tbl tblMis mis H blk = .ok (Spec.Sha1.compress H blk) := by
  have htbl : (if mis then tblMis else tbl) = (List.range 80).map closedRow := by
    cases mis
    · exact h1
    · exact h2
  obtain ⟨hok, hv⟩ := unrolled_eq_rounds 0 TS.v TS.w TS.ok (fun s t => step blk s (closedRow t)) (getBE32 blk) wgen
    Spec.Sha1.nextW (List.range 80) 0 Spec.Sha1.round 5 R5.view 80 (by decide) List.length_range (wordsBE32 blk)
    (by rw [wordsBE32_eq, hblk]) wgen_next (step_closed blk)
    (Spec.Sha1.schedule (wordsBE32 blk)) rfl { v := H, w := Array.replicate 16 0, ok := true } Array.size_replicate
  rw [show 80 % 5 = 0 from rfl, R5.view_zero, R5.view_zero] at hv
  unfold transformWith Spec.Sha1.compress
  simp only [htbl, List.foldl_map, hok, if_true, hv, UInt32.add_comm]

/-- any copy of the file whose recorded tables, initial value and sizes are the standard's -/
theorem mkAlg_refines (tbl tblMis : List Row) (iv : List Nat) (B L : Nat)
    (h1 : tbl = (List.range 80).map closedRow) (h2 : tblMis = (List.range 80).map closedRow)
    (hiv : ivOf iv = Spec.Sha1.H0) (hB : B = 64) (hL : L = 8) :
    Refines (mkAlg tbl tblMis iv B L) Spec.Sha1.spec (fun _ => True) (fun n => (n % 2 ^ 64, 0)) := by
  subst hB hL
  exact {
    B_eq := rfl
    L_eq := rfl
    L_pos := (by decide : 0 < 8)
    L_lt := (by decide : 8 < 64)
    B_lt := (by decide : 64 < 2 ^ 32)
    iv_eq := hiv
    transform_eq := fun mis H blk h => transformWith_eq _ _ h1 h2 mis H blk h
    cnt_zero := rfl
    bump_eq := fun n len _ => bump64_mod n len
    cnt_mod := fun n => Nat.mod_mod_of_dvd n (by decide : 64 ∣ 2 ^ 64)
    putLen_eq := fun n => congrArg bytesBE64 (ofNat_count_shl3 n)
    lenField_len := fun _ => rfl
    digest_eq := fun _ => rfl }

theorem refines : Refines alg Spec.Sha1.spec (fun _ => True) (fun n => (n % 2 ^ 64, 0)) :=
  mkAlg_refines _ _ _ _ _ steps_closed stepsMis_closed iv_eq rfl rfl

theorem wsRefines : Refines wsAlg Spec.Sha1.spec (fun _ => True) (fun n => (n % 2 ^ 64, 0)) :=
  mkAlg_refines _ _ _ _ _ wsSteps_closed wsStepsMis_closed wsIv_eq rfl rfl

end Mhd.Hash.Sha1
