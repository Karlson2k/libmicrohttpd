/-
  C16: the widths of the integers in the control flow of the update/finish functions.  Every conversion to a narrower
  type that clang finds there (`Mhd.Gen.HashCasts`, regenerated each run) gets an operand whose syntactic bound
  `CExpr.ub` fits into the target type, hence is the identity.
-/
import Mhd.Gen.HashCasts
namespace Mhd.Hash

theorem CExpr.eval_of_const? (env : String → Nat) {e : CExpr} {n : Nat} (h : e.const? = some n) :
    e.eval env = n := by
  cases e <;> simp only [CExpr.const?, Option.some.injEq, reduceCtorEq] at h
  exact h

theorem CExpr.eval_lt_ub (env : String → Nat) : ∀ (e : CExpr) (b : Nat), e.ub = some b → e.eval env < b := by
  intro e
  induction e with
  | other t bits =>
    intro b h; simp only [CExpr.ub, Option.some.injEq] at h; subst h
    exact Nat.mod_lt _ (Nat.two_pow_pos bits)
  | lit n => intro b h; simp only [CExpr.ub, Option.some.injEq] at h; subst h; exact Nat.lt_succ_self n
  | band a b iha ihb =>
    intro bd h
    simp only [CExpr.ub] at h
    have hl : (a.eval env &&& b.eval env) ≤ a.eval env := Nat.and_le_left
    have hr : (a.eval env &&& b.eval env) ≤ b.eval env := Nat.and_le_right
    cases ha : a.ub <;> cases hb : b.ub <;> simp only [ha, hb, Option.some.injEq, reduceCtorEq] at h
    · subst h; exact Nat.lt_of_le_of_lt hr (ihb _ hb)
    · subst h; exact Nat.lt_of_le_of_lt hl (iha _ ha)
    · subst h; exact Nat.lt_min.mpr ⟨Nat.lt_of_le_of_lt hl (iha _ ha), Nat.lt_of_le_of_lt hr (ihb _ hb)⟩
  | mod a b iha _ =>
    intro bd h
    simp only [CExpr.ub] at h
    have hle : a.eval env % b.eval env ≤ a.eval env := Nat.mod_le _ _
    cases hc : b.const? with
    | none => simp only [hc] at h; exact Nat.lt_of_le_of_lt hle (iha _ h)
    | some n =>
      simp only [hc] at h
      by_cases hn : n = 0
      · simp only [hn, if_true] at h; exact Nat.lt_of_le_of_lt hle (iha _ h)
      · simp only [hn, if_false, Option.some.injEq] at h; subst h
        simp only [CExpr.eval, eval_of_const? env hc]; exact Nat.mod_lt _ (Nat.pos_of_ne_zero hn)
  | shr a b iha _ =>
    intro bd h
    simp only [CExpr.ub] at h
    cases ha : a.ub with
    | none => simp only [ha, reduceCtorEq] at h
    | some x =>
      have hx := iha _ ha
      cases hc : b.const? with
      | none =>
        simp only [ha, hc, Option.some.injEq] at h; subst h
        simp only [CExpr.eval, Nat.shiftRight_eq_div_pow]
        exact Nat.lt_of_le_of_lt (Nat.div_le_self _ _) hx
      | some s =>
        simp only [ha, hc, Option.some.injEq] at h; subst h
        simp only [CExpr.eval, eval_of_const? env hc, Nat.shiftRight_eq_div_pow]
        have : a.eval env / 2 ^ s ≤ (x - 1) / 2 ^ s := Nat.div_le_div_right (by omega)
        omega

theorem NarrowCast.harmless_keeps_value (c : NarrowCast) (h : c.harmless = true) (env : String → Nat) :
    c.operand.eval env % 2 ^ c.dstBits = c.operand.eval env := by
  unfold NarrowCast.harmless at h
  cases hu : c.operand.ub with
  | none => simp [hu] at h
  | some b =>
    simp only [hu, decide_eq_true_eq] at h
    exact Nat.mod_eq_of_lt (Nat.lt_of_lt_of_le (CExpr.eval_lt_ub env _ _ hu) h)

theorem casts_harmless : ∀ c ∈ Mhd.Gen.Hash.narrowingCasts, c.dataPath = false → c.harmless = true := by decide

theorem length_params_64 : ∀ u ∈ Mhd.Gen.Hash.updateLengthBits, u.2.2 = 64 := by decide

/-- `bytes_have = (unsigned int) (ctx->count & (BLOCK_SIZE - 1))` is the model's `count % B`, for a
    block size `2 ^ k` -/
theorem bytes_have (count k : Nat) (hk : k ≤ 32) : (count &&& 2 ^ k - 1) % 2 ^ 32 = count % 2 ^ k := by
  rw [Nat.and_two_pow_sub_one_eq_mod]
  exact Nat.mod_eq_of_lt (Nat.lt_of_lt_of_le (Nat.mod_lt _ (Nat.two_pow_pos k)) (Nat.pow_le_pow_right (by decide) hk))

end Mhd.Hash
