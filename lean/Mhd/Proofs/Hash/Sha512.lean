/-
  C16, SHA-512/256: `sha512_transform` as modelled from the recorded step table
  (`Mhd.Hash.Sha512.transform`) equals the compression function of FIPS 180-4 §6.4.2
  (`Spec.Sha512.compress`) on every 128-byte block and chaining value; hence the model
  `Refines` the specification in the sense of `Proofs/Hash/MD.lean`.
  The obligations that tie the proof to the C source: `steps_closed`, `stepsMis_closed`
  (the recorded table is the standard's K with rotating register names), `iv_eq`.
-/
import Mhd.Model.Hash.Sha512
import Mhd.Model.Hash.SpecSha512
import Mhd.Proofs.Hash.Lists
import Mhd.Proofs.Hash.Rounds
import Mhd.Proofs.Hash.MD
namespace Mhd.Hash.Sha512
open Mhd.Hash

theorem Ch_eq (x y z : UInt64) : Ch x y z = Spec.Sha512.ch x y z :=
  UInt64.eq_of_toBitVec_eq (bv_ch x.toBitVec y.toBitVec z.toBitVec)

theorem Maj_eq (x y z : UInt64) : Maj x y z = Spec.Sha512.maj x y z :=
  UInt64.eq_of_toBitVec_eq (bv_maj x.toBitVec y.toBitVec z.toBitVec)

theorem rotr64_eq (x : UInt64) (n : Nat) (h0 : 0 < n) (h : n < 64) : rotr64 x n = Spec.Sha512.rotr n x := by
  unfold rotr64 Spec.Sha512.rotr
  simp only [Nat.mod_eq_of_lt h]
  rw [if_neg (by omega)]

theorem SIG0_eq (x : UInt64) : SIG0 x = Spec.Sha512.bsig0 x := by
  unfold SIG0 Spec.Sha512.bsig0
  rw [rotr64_eq x 28 (by decide) (by decide), rotr64_eq x 34 (by decide) (by decide),
    rotr64_eq x 39 (by decide) (by decide)]
theorem SIG1_eq (x : UInt64) : SIG1 x = Spec.Sha512.bsig1 x := by
  unfold SIG1 Spec.Sha512.bsig1
  rw [rotr64_eq x 14 (by decide) (by decide), rotr64_eq x 18 (by decide) (by decide),
    rotr64_eq x 41 (by decide) (by decide)]
theorem sig0_eq (x : UInt64) : sig0 x = Spec.Sha512.ssig0 x := by
  unfold sig0 Spec.Sha512.ssig0
  rw [rotr64_eq x 1 (by decide) (by decide), rotr64_eq x 8 (by decide) (by decide)]
  rfl
theorem sig1_eq (x : UInt64) : sig1 x = Spec.Sha512.ssig1 x := by
  unfold sig1 Spec.Sha512.ssig1
  rw [rotr64_eq x 19 (by decide) (by decide), rotr64_eq x 61 (by decide) (by decide)]
  rfl

/-- register names of step `t`: `SHA2STEP64 (a,b,…,h)`, `(h,a,…,g)`, `(g,h,a,…,f)`, … -/
def rot8 : Nat → List Nat
  | 0 => [0, 1, 2, 3, 4, 5, 6, 7]
  | 1 => [7, 0, 1, 2, 3, 4, 5, 6]
  | 2 => [6, 7, 0, 1, 2, 3, 4, 5]
  | 3 => [5, 6, 7, 0, 1, 2, 3, 4]
  | 4 => [4, 5, 6, 7, 0, 1, 2, 3]
  | 5 => [3, 4, 5, 6, 7, 0, 1, 2]
  | 6 => [2, 3, 4, 5, 6, 7, 0, 1]
  | _ => [1, 2, 3, 4, 5, 6, 7, 0]

/-- the step table in closed form: register names rotate, K is the standard's table,
    words 0–15 are loaded from the block, words 16–63 come from the schedule recurrence -/
def closedRow (t : Nat) : Row :=
  (rot8 (t % 8), (Spec.Sha512.K.getD t 0).toNat, t % 16, if t < 16 then 0 else 1, t)

theorem steps_closed : Mhd.Gen.Hash.sha512Steps = (List.range 80).map closedRow := by decide +kernel
/-- a misaligned block is copied first; the same steps run on it -/
theorem stepsMis_closed : Mhd.Gen.Hash.sha512StepsMis = (List.range 80).map closedRow :=
  (rfl : Mhd.Gen.Hash.sha512StepsMis = Mhd.Gen.Hash.sha512Steps).trans steps_closed
theorem iv_eq : ivOf Mhd.Gen.Hash.sha512IV = Spec.Sha512.H0 := by decide

theorem closedRow_eq (t : Nat) : closedRow t =
    (names8 (rname 8 (t % 8)), (Spec.Sha512.K.getD t 0).toNat, t % 16, if t < 16 then 0 else 1, t) := by
  rw [closedRow, (by decide : ∀ r, r < 8 → rot8 r = names8 (rname 8 r)) _ (Nat.mod_lt _ (by decide))]

theorem rowOK_closed (t : Nat) : rowOK (closedRow t) = true := by
  have h16 : t % 16 < 16 := Nat.mod_lt _ (by decide)
  rw [closedRow_eq, rowOK]
  simp only [names8_ok, Bool.true_and, h16, decide_true]
  by_cases ht : t < 16
  · simp [ht]
  · simp [ht, Nat.le_of_not_lt ht]

theorem step_row (blk : List UInt8) (s : TS) (n : Nat → Nat) (k dst kind arg : Nat)
    (hok : rowOK (names8 n, k, dst, kind, arg) = true) :
    step blk s (names8 n, k, dst, kind, arg) =
      { v := R8.sha2Step (· + ·)
               (fun e f g => SIG1 e + Ch e f g + k.toUInt64 + (if kind = 0 then getBE64 blk arg else wgen s.w arg))
               (fun a b c => SIG0 a + Maj a b c) n s.v,
        w := s.w.setIfInBounds dst (if kind = 0 then getBE64 blk arg else wgen s.w arg), ok := s.ok } := by
  unfold step
  rw [hok]
  rfl

theorem add4 (a b c d : UInt64) : a + b + c + d = b + c + d + a := by ac_rfl

theorem wgen_next (w : Array UInt64) (P : List UInt64) (t : Nat) (h16 : 16 ≤ t) (hl : P.length = t)
    (hw : Window 0 w P t) : wgen w t = Spec.Sha512.nextW P := by
  rw [wgen, Spec.Sha512.nextW, hl, hw.back h16 16 (by decide) (by decide), hw.back h16 2 (by decide) (by decide),
    hw.back h16 7 (by decide) (by decide), hw.back h16 15 (by decide) (by decide), sig0_eq, sig1_eq]
  exact add4 _ _ _ _

theorem step_closed (blk : List UInt8) (s : TS) (t : Nat) :
    (step blk s (closedRow t)).ok = s.ok ∧
    (step blk s (closedRow t)).w = s.w.setIfInBounds (t % 16) (wordOf (getBE64 blk) wgen s.w t) ∧
    (step blk s (closedRow t)).v.view ((t % 8 + 1) % 8) =
      Spec.Sha512.round (s.v.view (t % 8)) (Spec.Sha512.K.getD t 0, wordOf (getBE64 blk) wgen s.w t) := by
  have hrow := rowOK_closed t
  rw [closedRow_eq] at hrow
  rw [closedRow_eq, step_row _ _ _ _ _ _ _ hrow,
    show (Spec.Sha512.K.getD t 0).toNat.toUInt64 = Spec.Sha512.K.getD t 0 from UInt64.ofNat_toNat,
    ite_kind _ 1 (by decide)]
  refine ⟨rfl, rfl, ?_⟩
  rw [R8.view_sha2Step _ _ _ _ (Nat.mod_lt _ (by decide))]
  simp only [R8.sha2Round, Spec.Sha512.round, SIG0_eq, SIG1_eq, Ch_eq, Maj_eq, UInt64.add_assoc, wordOf]

theorem transform_eq (mis : Bool) (H : R8 UInt64) (blk : List UInt8) (hblk : blk.length = 128) :
    transform mis H blk = .ok (Spec.Sha512.compress H blk) := by
  have htbl : (if mis then Mhd.Gen.Hash.sha512StepsMis else Mhd.Gen.Hash.sha512Steps)
      = (List.range 80).map closedRow := by
    cases mis
    · exact steps_closed
    · exact stepsMis_closed
  obtain ⟨hok, hv⟩ := unrolled_eq_rounds 0 TS.v TS.w TS.ok (fun s t => step blk s (closedRow t)) (getBE64 blk) wgen
    Spec.Sha512.nextW Spec.Sha512.K 0 Spec.Sha512.round 8 R8.view 80 (by decide) rfl (wordsBE64 blk)
    (by rw [wordsBE64_eq, hblk]) wgen_next (fun s t _ => step_closed blk s t)
    (Spec.Sha512.schedule (wordsBE64 blk)) rfl { v := H, w := Array.replicate 16 0, ok := true } Array.size_replicate
  rw [show 80 % 8 = 0 from rfl, R8.view_zero, R8.view_zero] at hv
  unfold transform Spec.Sha512.compress
  simp only [htbl, List.foldl_map, hok, if_true, hv, UInt64.add_comm]

/-- the abstract counters of sha512_256.c: `count` = length mod 2^61 (bytes),
    `count_bits_hi` = the bits above: (length / 2^61) mod 2^64 -/
def cnt512 (n : Nat) : Nat × Nat := (n % 2305843009213693952, (n / 2305843009213693952) % 18446744073709551616)

/-- the two carries of `bump512` in one statement -/
theorem bump512_eq (count hi len : Nat) (hc : count < 2305843009213693952) (hh : hi < 18446744073709551616)
    (hl : len < 18446744073709551616) :
    bump512 count hi len =
      ((count + len) % 2305843009213693952, (hi + (count + len) / 2305843009213693952) % 18446744073709551616) := by
  unfold bump512
  by_cases hw : count + len < 18446744073709551616
  · -- no wrap of the 64-bit addition
    have h1 : ¬ len > count + len := by omega
    simp only [Nat.mod_eq_of_lt hw, h1, if_false]
    split
    · rfl
    · have : count + len < 2305843009213693952 := Nat.lt_of_div_eq_zero (by decide) (Decidable.of_not_not ‹_›)
      rw [Nat.mod_eq_of_lt this, Nat.div_eq_of_lt this, Nat.add_zero, Nat.mod_eq_of_lt hh]
  · -- wrap: what is left in `count` is below 2^61, and `length > count` detects the wrap
    obtain ⟨r, hr⟩ := Nat.exists_eq_add_of_le (Nat.le_of_not_lt hw)
    have hrP : r < 2305843009213693952 := by omega
    have hlr : len > r := by omega
    have hrQ : r % 18446744073709551616 = r := Nat.mod_eq_of_lt (Nat.lt_trans hrP (by decide))
    have hq : (18446744073709551616 + r) / 2305843009213693952 = 8 :=
      (Nat.mul_add_div (m := 2305843009213693952) (by decide) 8 r).trans (by rw [Nat.div_eq_of_lt hrP])
    have hm : (18446744073709551616 + r) % 2305843009213693952 = r :=
      (Nat.mul_add_mod_self_left 2305843009213693952 8 r).trans (Nat.mod_eq_of_lt hrP)
    simp only [hr, Nat.add_mod_left, hrQ, hlr, if_true, Nat.div_eq_of_lt hrP, ne_eq, not_true_eq_false,
      if_false, hq, hm]

theorem bump_eq (n len : Nat) (hl : len < 18446744073709551616) :
    bump512 (cnt512 n).1 (cnt512 n).2 len = cnt512 (n + len) := by
  have hq : (n + len) / 2305843009213693952 =
      n / 2305843009213693952 + (n % 2305843009213693952 + len) / 2305843009213693952 := by
    rw [← Nat.mul_add_div (by decide), ← Nat.add_assoc, Nat.div_add_mod]
  unfold cnt512
  rw [bump512_eq _ _ _ (Nat.mod_lt _ (by decide)) (Nat.mod_lt _ (by decide)) hl, Nat.mod_add_mod,
    Nat.mod_add_mod, hq]

theorem refines : Refines alg Spec.Sha512.spec (fun len => len < 18446744073709551616) cnt512 where
  B_eq := by decide
  L_eq := by decide
  L_pos := by decide
  L_lt := by decide
  B_lt := by decide
  iv_eq := iv_eq
  transform_eq := transform_eq
  cnt_zero := rfl
  bump_eq := bump_eq
  cnt_mod := fun n => Nat.mod_mod_of_dvd n (by decide)
  putLen_eq := by
    intro n
    -- `count_bits_hi` and `count << 3` are the two 64-bit halves of `8 n`
    have e1 : n / 2305843009213693952 = 8 * n / 2 ^ 64 := (Nat.mul_div_mul_left n 2305843009213693952 (by decide)).symm
    have e2 : n % 2305843009213693952 * 8 = 8 * n % 2 ^ 64 := by
      rw [Nat.mul_comm]; exact (Nat.mul_mod_mul_left 8 n 2305843009213693952).symm
    simp only [alg, cnt512, Spec.Sha512.spec, Spec.Sha512.lenField, e1, e2, Nat.mod_mod]
    rw [show (18446744073709551616 : Nat) = 2 ^ 64 from rfl, ofNat_mod64, ofNat_mod64]
  lenField_len := fun _ => rfl
  digest_eq := fun _ => rfl

end Mhd.Hash.Sha512
