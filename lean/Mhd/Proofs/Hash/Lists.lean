/-
  C16: facts about lists and the parsing of a block into words, shared by the four compression-function
  proofs, and the bitwise identities behind the `Ch`/`Maj` macros of the three SHA sources.
-/
import Mhd.Model.Hash.Common
import Mhd.Proofs.Lists
namespace Mhd.Hash

theorem foldl_zip_range {α β γ : Type} (K : List α) (W : List β) (hl : K.length = W.length)
    (f : γ → α × β → γ) (H : γ) (a : α) (b : β) :
    (K.zip W).foldl f H = (List.range K.length).foldl (fun s t => f s (K.getD t a, W.getD t b)) H := by
  induction K generalizing W H with
  | nil => rfl
  | cons k ks ih =>
    match W, hl with
    | w :: ws, hl =>
      rw [List.zip_cons_cons, List.foldl_cons, List.length_cons, List.range_succ_eq_map, List.foldl_cons,
        List.foldl_map, ih ws (Nat.succ.inj hl)]
      rfl

theorem foldl_range_succ {β : Type} (f : β → Nat → β) (b : β) (n : Nat) :
    (List.range (n + 1)).foldl f b = f ((List.range n).foldl f b) n := by
  rw [List.range_succ, List.foldl_append]; rfl

theorem foldl_range_rel {β γ : Type} (r : Nat → β → γ → Prop) (f : β → Nat → β) (g : γ → Nat → γ) (N : Nat)
    (hs : ∀ t b c, t < N → r t b c → r (t + 1) (f b t) (g c t)) (b : β) (c : γ) (h0 : r 0 b c) :
    r N ((List.range N).foldl f b) ((List.range N).foldl g c) := by
  induction N with
  | zero => exact h0
  | succ n ih =>
    rw [foldl_range_succ, foldl_range_succ]
    exact hs n _ _ (Nat.lt_succ_self n) (ih fun t b c ht => hs t b c (Nat.lt_succ_of_lt ht))

theorem getD_mem {α : Type} (l : List α) (t : Nat) (d : α) (h : t < l.length) : l.getD t d ∈ l := by
  rw [List.getD_eq_getElem?_getD, List.getElem?_eq_getElem h]
  exact List.getElem_mem h

theorem range_getD (n t d : Nat) (h : t < n) : (List.range n).getD t d = t := by
  rw [List.getD_eq_getElem?_getD, List.getElem?_range h]; rfl

theorem wordsBE32_eq : ∀ l : List UInt8, wordsBE32 l = (List.range (l.length / 4)).map (getBE32 l)
  | b0 :: b1 :: b2 :: b3 :: rest => by
    rw [wordsBE32, wordsBE32_eq rest, show (b0 :: b1 :: b2 :: b3 :: rest).length = rest.length + 4 from rfl,
      Nat.add_div_right _ (by decide), List.range_succ_eq_map, List.map_cons, List.map_map]
    rfl
  | [] | [_] | [_, _] | [_, _, _] => by simp [wordsBE32]

theorem wordsLE32_eq : ∀ l : List UInt8, wordsLE32 l = (List.range (l.length / 4)).map (getLE32 l)
  | b0 :: b1 :: b2 :: b3 :: rest => by
    rw [wordsLE32, wordsLE32_eq rest, show (b0 :: b1 :: b2 :: b3 :: rest).length = rest.length + 4 from rfl,
      Nat.add_div_right _ (by decide), List.range_succ_eq_map, List.map_cons, List.map_map]
    rfl
  | [] | [_] | [_, _] | [_, _, _] => by simp [wordsLE32]

theorem wordsLE32_length : ∀ (l : List UInt8), (wordsLE32 l).length = l.length / 4 := fun l => by
  rw [wordsLE32_eq, List.length_map, List.length_range]

theorem wordsBE64_eq : ∀ l : List UInt8, wordsBE64 l = (List.range (l.length / 8)).map (getBE64 l)
  | b0 :: b1 :: b2 :: b3 :: b4 :: b5 :: b6 :: b7 :: rest => by
    rw [wordsBE64, wordsBE64_eq rest,
      show (b0 :: b1 :: b2 :: b3 :: b4 :: b5 :: b6 :: b7 :: rest).length = rest.length + 8 from rfl,
      Nat.add_div_right _ (by decide), List.range_succ_eq_map, List.map_cons, List.map_map]
    rfl
  | [] | [_] | [_, _] | [_, _, _] | [_, _, _, _] | [_, _, _, _, _] | [_, _, _, _, _, _]
  | [_, _, _, _, _, _, _] => by simp [wordsBE64]

/-- `Ch` as the C sources compute it -/
theorem bv_ch {w : Nat} (x y z : BitVec w) : z ^^^ (x &&& (y ^^^ z)) = (x &&& y) ^^^ (~~~x &&& z) := by
  ext i hi
  simp only [BitVec.getElem_xor, BitVec.getElem_and, BitVec.getElem_not]
  cases x[i] <;> cases y[i] <;> cases z[i] <;> rfl

/-- `Maj` as the C sources compute it -/
theorem bv_maj {w : Nat} (x y z : BitVec w) :
    (x &&& y) ^^^ (z &&& (x ^^^ y)) = (x &&& y) ^^^ (x &&& z) ^^^ (y &&& z) := by
  ext i hi
  simp only [BitVec.getElem_xor, BitVec.getElem_and]
  cases x[i] <;> cases y[i] <;> cases z[i] <;> rfl

end Mhd.Hash
