/-
  C16, generic part: the incremental update/finish shape of `Mhd.Hash` (Model/Hash/MD.lean) computes
  `Spec.Hash.hash` of the concatenation of the chunks, for any algorithm that `Refines` its
  specification.  Invariant: H = fold of the compression function over the full blocks of
  the prefix ∧ buffer = the incomplete tail of the prefix ∧ counters = |prefix|.
  Every sub-operation (`phase1`, `blocksLoop`, `phase3`, `finishSpill`) is described once by what
  it does to a buffer that holds given bytes (`Buf`); `update` and `finish` compose these.
-/
import Mhd.Model.Hash.MD
namespace Mhd.Hash
variable {S : Type}

/-- pure reference absorption: all full `B`-byte blocks of `xs` folded into `H`, and the rest -/
def absorb (B : Nat) (f : S → List UInt8 → S) (H : S) (xs : List UInt8) : S × List UInt8 :=
  if _h : 0 < B ∧ B ≤ xs.length then absorb B f (f H (xs.take B)) (xs.drop B) else (H, xs)
termination_by xs.length
decreasing_by simp only [List.length_drop]; omega

section
variable {B : Nat} (f : S → List UInt8 → S)

theorem absorb_lt (H : S) (xs : List UInt8) (h : xs.length < B) : absorb B f H xs = (H, xs) := by
  rw [absorb, dif_neg]; omega

theorem absorb_ge (H : S) (xs : List UInt8) (hB : 0 < B) (h : B ≤ xs.length) :
    absorb B f H xs = absorb B f (f H (xs.take B)) (xs.drop B) := by
  rw [absorb, dif_pos ⟨hB, h⟩]

theorem absorb_block (H : S) (blk rest : List UInt8) (hB : 0 < B) (h : blk.length = B) :
    absorb B f H (blk ++ rest) = absorb B f (f H blk) rest := by
  rw [absorb_ge f H _ hB (by rw [List.length_append, h]; exact Nat.le_add_right _ _),
    List.take_left' h, List.drop_left' h]

theorem absorb_last (H : S) (blk : List UInt8) (hB : 0 < B) (h : blk.length = B) :
    absorb B f H blk = (f H blk, []) := by
  rw [← List.append_nil blk, absorb_block f H blk [] hB h, absorb_lt f _ [] hB, List.append_nil]

theorem absorb_rem (hB : 0 < B) (H : S) (xs : List UInt8) :
    (absorb B f H xs).2.length = xs.length % B := by
  fun_induction absorb B f H xs with
  | case1 H xs h ih => rw [ih, List.length_drop, ← Nat.mod_eq_sub_mod h.2]
  | case2 H xs h => exact (Nat.mod_eq_of_lt (Nat.lt_of_not_le fun hle => h ⟨hB, hle⟩)).symm

theorem absorb_append (hB : 0 < B) (H : S) (xs ys : List UInt8) :
    absorb B f H (xs ++ ys) = absorb B f (absorb B f H xs).1 ((absorb B f H xs).2 ++ ys) := by
  fun_induction absorb B f H xs with
  | case1 H xs h ih =>
    rw [absorb_ge f H (xs ++ ys) hB (by rw [List.length_append]; exact Nat.le_trans h.2 (Nat.le_add_right _ _)),
      List.take_append_of_le_length h.2, List.drop_append_of_le_length h.2]
    exact ih
  | case2 H xs h => rfl

theorem absorb_blocks (hB : 0 < B) (H : S) (xs : List UInt8) (hd : xs.length % B = 0) :
    absorb B f H xs = ((blocks B xs).foldl f H, []) := by
  fun_induction absorb B f H xs with
  | case1 H xs h ih =>
    have ht : (xs.take B).length = B := by rw [List.length_take, Nat.min_eq_left h.2]
    rw [blocks, dif_pos ⟨h.1, ht⟩, List.foldl_cons]
    exact ih (by rw [List.length_drop, ← Nat.mod_eq_sub_mod h.2]; exact hd)
  | case2 H xs h =>
    have hl : xs.length < B := Nat.lt_of_not_le fun hle => h ⟨hB, hle⟩
    rw [Nat.mod_eq_of_lt hl] at hd
    rw [List.eq_nil_of_length_eq_zero hd, blocks,
      dif_neg (fun h' => Nat.ne_of_lt hB (by rw [← h'.2, List.take_nil]; rfl))]
    rfl
end

/-- a buffer of `B` bytes whose first bytes are `t` -/
def Buf (B : Nat) (buf t : List UInt8) : Prop := buf.length = B ∧ buf.take t.length = t

section
variable {B : Nat} {buf t : List UInt8}

theorem Buf.nil (h : buf.length = B) : Buf B buf [] := ⟨h, rfl⟩

theorem Buf.full (h : Buf B buf t) (ht : t.length = B) : buf = t := by
  rw [← h.2, ht, ← h.1, List.take_length]

/-- `memcpy` behind the bytes already there -/
theorem Buf.write (h : Buf B buf t) (src : List UInt8) (hfit : t.length + src.length ≤ B) :
    ∃ buf', bufWrite buf t.length src = some buf' ∧ Buf B buf' (t ++ src) := by
  refine ⟨buf.take t.length ++ src ++ buf.drop (t.length + src.length), ?_, ?_, ?_⟩
  · rw [bufWrite, if_pos (by rw [h.1]; exact hfit)]
  · rw [List.length_append, List.length_append, List.length_drop, h.2, h.1]; omega
  · rw [h.2, List.take_left]

theorem Buf.fill (h : Buf B buf t) (n : Nat) (hfit : t.length + n ≤ B) :
    ∃ buf', bufFill buf t.length n = some buf' ∧ Buf B buf' (t ++ List.replicate n 0) :=
  h.write (List.replicate n 0) (by rw [List.length_replicate]; exact hfit)
end

theorem readBlock_ok (src : List UInt8) (n : Nat) (h : n ≤ src.length) :
    readBlock src n = some (src.take n) := by
  simp [readBlock, List.length_take, Nat.min_eq_left h]

/-! the 64-bit byte counter of md5.c / sha1.c / sha256.c: `count` is the length mod 2^64 -/

theorem bump64_mod (n len : Nat) : bump64 (n % 2 ^ 64) 0 len = ((n + len) % 2 ^ 64, 0) := by
  simp only [bump64, Nat.mod_add_mod]

theorem ofNat_mod64 (x : Nat) : UInt64.ofNat (x % 2 ^ 64) = UInt64.ofNat x :=
  UInt64.toNat_inj.mp (by rw [UInt64.toNat_ofNat', UInt64.toNat_ofNat', Nat.mod_mod])

/-- `count << 3` loses exactly the bits that a 64-bit length field cannot hold -/
theorem ofNat_count_shl3 (n : Nat) : UInt64.ofNat (n % 2 ^ 64 * 8 % 2 ^ 64) = UInt64.ofNat (8 * n) := by
  rw [ofNat_mod64, ← ofNat_mod64, Nat.mod_mul_mod, ofNat_mod64, Nat.mul_comm]

theorem usub_eq (x y : Nat) (hy : y ≤ x) : usub x y = x - y := if_pos hy

/-- what has to be shown about one algorithm to plug it into the frame -/
structure Refines (A : Alg S) (Sp : Spec.Hash S) (lenOK : Nat → Prop) (cnt : Nat → Nat × Nat) : Prop where
  B_eq : A.B = Sp.B
  L_eq : A.L = Sp.L
  L_pos : 0 < A.L
  L_lt : A.L < A.B
  B_lt : A.B < 2 ^ 32
  iv_eq : A.iv = Sp.iv
  transform_eq : ∀ mis H blk, blk.length = A.B → A.transform mis H blk = .ok (Sp.compress H blk)
  cnt_zero : cnt 0 = (0, 0)
  bump_eq : ∀ n len, lenOK len → A.bump (cnt n).1 (cnt n).2 len = cnt (n + len)
  cnt_mod : ∀ n, (cnt n).1 % A.B = n % A.B
  putLen_eq : ∀ n, A.putLen (cnt n).2 (((cnt n).1 * 8) % 2 ^ 64) = Sp.lenField n
  lenField_len : ∀ n, (Sp.lenField n).length = Sp.L
  digest_eq : ∀ H, A.digest H = Sp.out H

section
variable {A : Alg S} {Sp : Spec.Hash S} {lenOK : Nat → Prop} {cnt : Nat → Nat × Nat}

theorem Refines.B_pos (R : Refines A Sp lenOK cnt) : 0 < A.B := Nat.lt_trans R.L_pos R.L_lt

theorem callTransform_eq (R : Refines A Sp lenOK cnt) (mis : Bool) (H : S) (src : List UInt8)
    (h : A.B ≤ src.length) :
    callTransform A mis H src = .ok (Sp.compress H (src.take A.B)) := by
  unfold callTransform
  rw [readBlock_ok src A.B h]
  exact R.transform_eq mis H _ (by rw [List.length_take, Nat.min_eq_left h])

theorem Buf.transform (R : Refines A Sp lenOK cnt) {buf t : List UInt8} (h : Buf A.B buf t)
    (ht : t.length = A.B) (H : S) : callTransform A false H buf = .ok (Sp.compress H t) := by
  rw [h.full ht, callTransform_eq R _ _ _ (Nat.le_of_eq ht.symm), ← ht, List.take_length]

theorem blocksLoop_eq (R : Refines A Sp lenOK cnt) (H : S) (data : List UInt8) :
    ∀ addr, blocksLoop A addr H data data.length =
      .ok ((absorb A.B Sp.compress H data).1, (absorb A.B Sp.compress H data).2,
           (absorb A.B Sp.compress H data).2.length) := by
  fun_induction absorb A.B Sp.compress H data with
  | case1 H xs h ih =>
    intro addr
    rw [blocksLoop, dif_pos h, callTransform_eq R _ _ _ h.2]
    simp only
    have := ih (addr + A.B)
    rw [List.length_drop] at this
    exact this
  | case2 H xs h =>
    intro addr
    rw [blocksLoop, dif_neg h]

theorem phase1_spec (R : Refines A Sp lenOK cnt) (H : S) (buf t data : List UInt8) (addr : Nat)
    (hb : Buf A.B buf t) (ht : t.length < A.B) :
    ∃ H1 buf1 t1 addr1 data1, phase1 A H buf t.length addr data data.length =
        .ok (H1, buf1, t1.length, addr1, data1, data1.length) ∧ Buf A.B buf1 t1 ∧
      (t1 = [] ∨ t1.length + data1.length < A.B) ∧
      absorb A.B Sp.compress H (t ++ data) = absorb A.B Sp.compress H1 (t1 ++ data1) := by
  unfold phase1
  by_cases h0 : t.length = 0
  · refine ⟨H, buf, [], addr, data, ?_, Buf.nil hb.1, Or.inl rfl, ?_⟩
    · rw [if_neg (by rw [h0]; exact fun h => h rfl), h0]; rfl
    · rw [List.eq_nil_of_length_eq_zero h0]
  · rw [if_pos h0, usub_eq _ _ (Nat.le_of_lt ht)]
    by_cases hge : data.length ≥ A.B - t.length
    · have hpl : (data.take (A.B - t.length)).length = A.B - t.length := by
        rw [List.length_take, Nat.min_eq_left hge]
      obtain ⟨buf1, hw, hb1⟩ := hb.write (data.take (A.B - t.length)) (by rw [hpl]; omega)
      have hfull : (t ++ data.take (A.B - t.length)).length = A.B := by
        rw [List.length_append, hpl]; omega
      refine ⟨Sp.compress H (t ++ data.take (A.B - t.length)), buf1, [], addr + (A.B - t.length),
        data.drop (A.B - t.length), ?_, Buf.nil hb1.1, Or.inl rfl, ?_⟩
      · simp only [if_pos hge, readBlock_ok _ _ hge, hw, hb1.transform R hfull, List.length_drop, List.length_nil]
      · rw [List.nil_append, ← absorb_block _ _ _ _ R.B_pos hfull, List.append_assoc, List.take_append_drop]
    · exact ⟨H, buf, t, addr, data, by rw [if_neg hge], hb, Or.inr (by omega), rfl⟩

theorem phase3_spec {B : Nat} {buf t : List UInt8} (hb : Buf B buf t) (rest : List UInt8)
    (hfit : t.length + rest.length ≤ B) :
    ∃ buf3, phase3 buf t.length rest rest.length = .ok buf3 ∧ Buf B buf3 (t ++ rest) := by
  unfold phase3
  by_cases hz : rest.length = 0
  · refine ⟨buf, by rw [if_neg (fun h => h hz)], ?_⟩
    rw [List.eq_nil_of_length_eq_zero hz, List.append_nil]; exact hb
  · obtain ⟨buf3, hw, hb3⟩ := hb.write rest hfit
    exact ⟨buf3, by simp only [if_pos hz, readBlock_ok _ _ (Nat.le_refl _), List.take_length, hw, liftO], hb3⟩

theorem absorb_tail {B : Nat} (f : S → List UInt8 → S) (H : S) (t data : List UInt8)
    (h : t = [] ∨ t.length + data.length < B) :
    absorb B f H (t ++ data) = ((absorb B f H data).1, t ++ (absorb B f H data).2) := by
  rcases h with rfl | h
  · rfl
  · rw [absorb_lt f H data (by omega), absorb_lt f H (t ++ data) (by rw [List.length_append]; exact h)]

/-- representation invariant: the context after absorbing the byte string `pre` -/
def Inv (A : Alg S) (Sp : Spec.Hash S) (cnt : Nat → Nat × Nat) (c : Ctx S) (pre : List UInt8) : Prop :=
  (c.count, c.countHi) = cnt pre.length ∧ c.H = (absorb A.B Sp.compress Sp.iv pre).1 ∧
  Buf A.B c.buffer (absorb A.B Sp.compress Sp.iv pre).2

theorem Inv.count {c : Ctx S} {pre : List UInt8} (h : Inv A Sp cnt c pre) : c.count = (cnt pre.length).1 :=
  congrArg Prod.fst h.1

theorem Inv.countHi {c : Ctx S} {pre : List UInt8} (h : Inv A Sp cnt c pre) : c.countHi = (cnt pre.length).2 :=
  congrArg Prod.snd h.1

theorem update_inv (R : Refines A Sp lenOK cnt) (c : Ctx S) (pre data : List UInt8) (addr : Nat)
    (hI : Inv A Sp cnt c pre) (hl : lenOK data.length) :
    ∃ c', update A c addr data = .ok c' ∧ Inv A Sp cnt c' (pre ++ data) := by
  have hB := R.B_pos
  have ⟨_, hH, hbuf⟩ := hI
  unfold update
  by_cases hz : data.length = 0
  · refine ⟨c, if_pos hz, ?_⟩
    rw [List.eq_nil_of_length_eq_zero hz, List.append_nil]
    exact hI
  generalize hr : absorb A.B Sp.compress Sp.iv pre = r at hH hbuf
  have hrl : r.2.length = pre.length % A.B := by rw [← hr]; exact absorb_rem _ hB _ _
  have happ : absorb A.B Sp.compress Sp.iv (pre ++ data) = absorb A.B Sp.compress c.H (r.2 ++ data) := by
    rw [absorb_append _ hB, hr, hH]
  obtain ⟨H1, buf1, t1, addr1, data1, hp1, hb1, hcase, habs⟩ :=
    phase1_spec R c.H c.buffer r.2 data addr hbuf (by rw [hrl]; exact Nat.mod_lt _ hB)
  have hfit : t1.length + (absorb A.B Sp.compress H1 data1).2.length ≤ A.B := by
    rcases hcase with rfl | h
    · rw [absorb_rem _ hB, List.length_nil, Nat.zero_add]; exact Nat.le_of_lt (Nat.mod_lt _ hB)
    · rw [absorb_lt _ _ _ (by omega)]; exact Nat.le_of_lt h
  obtain ⟨buf3, hp3, hb3⟩ := phase3_spec hb1 _ hfit
  simp only [if_neg hz, hI.count, hI.countHi, R.cnt_mod, ← hrl, hp1, blocksLoop_eq R, hp3]
  refine ⟨_, rfl, ?_, ?_, ?_⟩
  · rw [R.bump_eq _ _ hl, List.length_append]
  · rw [happ, habs, absorb_tail _ _ _ _ hcase]
  · rw [happ, habs, absorb_tail _ _ _ _ hcase]; exact hb3

theorem padZeros_mod (B L n : Nat) : Spec.padZeros B L n = Spec.padZeros B L (n % B) := by
  unfold Spec.padZeros
  rw [Nat.add_assoc, Nat.add_assoc (n % B), Nat.mod_add_mod]

theorem padZeros_fit (B L n : Nat) (h : n + 1 + L ≤ B) : Spec.padZeros B L n = B - L - (n + 1) := by
  unfold Spec.padZeros
  rw [Nat.sub_sub, Nat.add_comm L]
  rcases Nat.lt_or_eq_of_le h with hlt | heq
  · rw [Nat.mod_eq_of_lt hlt]
    exact Nat.mod_eq_of_lt (Nat.sub_lt (Nat.lt_of_le_of_lt (Nat.zero_le _) hlt)
      (Nat.lt_of_lt_of_le (Nat.succ_pos n) (Nat.le_add_right _ _)))
  · rw [heq, Nat.mod_self, Nat.sub_zero, Nat.mod_self, Nat.sub_self]

theorem padZeros_spill (B L n : Nat) (hn : n < B) (hL : L < B) (h : B < n + 1 + L) :
    Spec.padZeros B L n = B - (n + 1) + (B - L) := by
  unfold Spec.padZeros
  have h1 : n + 1 + L - B < B := by omega
  rw [Nat.mod_eq_sub_mod (Nat.le_of_lt h), Nat.mod_eq_of_lt h1, Nat.mod_eq_of_lt (by omega)]
  omega

theorem pad_length_mod (R : Refines A Sp lenOK cnt) (msg : List UInt8) :
    (Sp.pad msg).length % A.B = 0 := by
  have hB := R.B_pos
  have hlt := Nat.mod_lt (msg.length + 1 + A.L) hB
  simp only [Spec.Hash.pad, Spec.padZeros, List.length_append, List.length_cons, List.length_nil,
    List.length_replicate, R.lenField_len, ← R.B_eq, ← R.L_eq, Nat.zero_add]
  rw [Nat.add_right_comm _ _ A.L, Nat.add_mod, Nat.mod_mod]
  by_cases h0 : (msg.length + 1 + A.L) % A.B = 0
  · rw [h0, Nat.sub_zero, Nat.mod_self]; rfl
  · rw [Nat.mod_eq_of_lt (Nat.sub_lt hB (Nat.pos_of_ne_zero h0)), Nat.add_sub_cancel' (Nat.le_of_lt hlt),
      Nat.mod_self]

theorem hash_eq_absorb (R : Refines A Sp lenOK cnt) (msg : List UInt8) :
    Sp.hash msg = Sp.out (absorb A.B Sp.compress (absorb A.B Sp.compress Sp.iv msg).1
      ((absorb A.B Sp.compress Sp.iv msg).2 ++
        ([0x80] ++ List.replicate (Spec.padZeros A.B A.L msg.length) 0 ++ Sp.lenField msg.length))).1 := by
  have h := absorb_blocks Sp.compress R.B_pos Sp.iv (Sp.pad msg) (pad_length_mod R msg)
  unfold Spec.Hash.hash
  unfold Spec.Hash.pad at h ⊢
  rw [← R.B_eq, ← R.L_eq] at h ⊢
  rw [← absorb_append _ R.B_pos, ← List.append_assoc, ← List.append_assoc, h]

/-- the "no space for the length" branch of `finish` from a buffer that holds `u` (the data and the
    0x80 byte); the `memset` is skipped when 0x80 was its last byte -/
theorem finishSpill_spec (R : Refines A Sp lenOK cnt) (H : S) {buf u : List UInt8} (hb : Buf A.B buf u)
    (hu0 : 0 < u.length) (hu : u.length ≤ A.B) (rest : List UInt8) :
    ∃ H2 buf2 t2, finishSpill A H buf u.length = .ok (H2, buf2, t2.length) ∧ Buf A.B buf2 t2 ∧
      t2.length + A.L ≤ A.B ∧
      absorb A.B Sp.compress H (u ++ List.replicate (Spec.padZeros A.B A.L (u.length - 1)) 0 ++ rest) =
        absorb A.B Sp.compress H2 (t2 ++ List.replicate (A.B - A.L - t2.length) 0 ++ rest) := by
  have hLB := R.L_lt
  unfold finishSpill
  rw [usub_eq _ _ hu]
  by_cases hf : u.length + A.L ≤ A.B
  · refine ⟨H, buf, u, by rw [if_neg (Nat.not_lt.mpr (Nat.le_sub_of_add_le' hf))], hb, hf, ?_⟩
    rw [padZeros_fit _ _ _ (by rw [Nat.sub_add_cancel hu0]; exact hf), Nat.sub_add_cancel hu0]
  · have hfull : (u ++ List.replicate (A.B - u.length) 0).length = A.B := by
      rw [List.length_append, List.length_replicate]; omega
    refine ⟨Sp.compress H (u ++ List.replicate (A.B - u.length) 0), ?_⟩
    have habs : absorb A.B Sp.compress H (u ++ List.replicate (Spec.padZeros A.B A.L (u.length - 1)) 0 ++ rest) =
        absorb A.B Sp.compress (Sp.compress H (u ++ List.replicate (A.B - u.length) 0))
          ([] ++ List.replicate (A.B - A.L - ([] : List UInt8).length) 0 ++ rest) := by
      rw [padZeros_spill _ _ _ (by omega) hLB (by omega), Nat.sub_add_cancel hu0, ← List.replicate_append_replicate,
        ← absorb_block _ _ _ _ R.B_pos hfull]
      simp only [List.append_assoc, List.nil_append, List.length_nil, Nat.sub_zero]
    have hroom : ([] : List UInt8).length + A.L ≤ A.B := by rw [List.length_nil, Nat.zero_add]; exact Nat.le_of_lt hLB
    rw [if_pos (by omega)]
    by_cases hlt : u.length < A.B
    · obtain ⟨buf2, hw, hb2⟩ := hb.fill (A.B - u.length) (by omega)
      exact ⟨buf2, [], by simp only [if_pos hlt, hw, hb2.transform R hfull]; rfl, Buf.nil hb2.1, hroom, habs⟩
    · have e : u.length = A.B := Nat.le_antisymm hu (Nat.le_of_not_lt hlt)
      refine ⟨buf, [], ?_, Buf.nil hb.1, hroom, habs⟩
      simp only [if_neg hlt, hb.transform R e]
      rw [e, Nat.sub_self, List.replicate_zero, List.append_nil]; rfl

theorem finishCore_eq (R : Refines A Sp lenOK cnt) (H : S) {buffer t : List UInt8} (lenF : List UInt8)
    (hb : Buf A.B buffer t) (ht : t.length < A.B) (hll : lenF.length = A.L) :
    finishCore A H buffer t.length lenF =
      .ok (Sp.out (absorb A.B Sp.compress H
        (t ++ ([0x80] ++ List.replicate (Spec.padZeros A.B A.L t.length) 0 ++ lenF))).1, wiped A) := by
  have hLB := R.L_lt
  obtain ⟨buf1, hw1, hb1⟩ := hb.write [0x80] ht
  have hl1 : (t ++ [0x80]).length = t.length + 1 := List.length_append
  obtain ⟨H2, buf2, t2, hs, hb2, hroom, habs⟩ :=
    finishSpill_spec R H hb1 (by rw [hl1]; exact Nat.succ_pos _) (by rw [hl1]; exact ht) lenF
  rw [hl1] at hs
  rw [hl1, Nat.add_sub_cancel, List.append_assoc t, List.append_assoc t] at habs
  obtain ⟨buf3, hw3, hb3⟩ := hb2.fill (A.B - A.L - t2.length) (by omega)
  have hoff : A.B - A.L = (t2 ++ List.replicate (A.B - A.L - t2.length) 0).length := by
    rw [List.length_append, List.length_replicate]; omega
  obtain ⟨buf4, hw4, hb4⟩ := hb3.write lenF (by rw [← hoff, hll]; omega)
  have hfull : (t2 ++ List.replicate (A.B - A.L - t2.length) 0 ++ lenF).length = A.B := by
    rw [List.length_append, ← hoff, hll]; omega
  unfold finishCore
  rw [← hoff] at hw4
  simp only [hw1, hs, usub_eq _ _ (show t2.length ≤ A.B - A.L by omega), hw3, hw4, hb4.transform R hfull,
    R.digest_eq, habs, absorb_last _ _ _ R.B_pos hfull]

theorem inv_init (R : Refines A Sp lenOK cnt) (c : Ctx S) (h : c.buffer.length = A.B) :
    Inv A Sp cnt (init A c) [] := by
  rw [Inv, absorb_lt _ _ [] R.B_pos]
  exact ⟨R.cnt_zero.symm, R.iv_eq, Buf.nil h⟩

theorem finish_correct (R : Refines A Sp lenOK cnt) (c : Ctx S) (msg : List UInt8)
    (hI : Inv A Sp cnt c msg) :
    finish A c = .ok (Sp.hash msg, wiped A) := by
  have hB := R.B_pos
  have hrl := absorb_rem Sp.compress hB Sp.iv msg
  unfold finish
  simp only [hI.count, hI.countHi, R.cnt_mod, R.putLen_eq, ← hrl]
  rw [finishCore_eq R _ _ hI.2.2 (by rw [hrl]; exact Nat.mod_lt _ hB) (by rw [R.lenField_len, R.L_eq]),
    hash_eq_absorb R, hI.2.1, hrl, ← padZeros_mod]

theorem feed_inv (R : Refines A Sp lenOK cnt) (chunks : List (Nat × List UInt8)) :
    ∀ (c : Ctx S) (pre : List UInt8), Inv A Sp cnt c pre → (∀ ch ∈ chunks, lenOK ch.2.length) →
    ∃ c', feed A c chunks = .ok c' ∧ Inv A Sp cnt c' (pre ++ (chunks.map (·.2)).flatten) := by
  induction chunks with
  | nil => intro c pre hI _; exact ⟨c, rfl, by simpa using hI⟩
  | cons ch rest ih =>
    intro c pre hI hl
    obtain ⟨addr, d⟩ := ch
    obtain ⟨c1, hu, hI1⟩ := update_inv R c pre d addr hI (hl (addr, d) (by simp))
    obtain ⟨c2, hf, hI2⟩ := ih c1 (pre ++ d) hI1 (fun ch h => hl ch (by simp [h]))
    refine ⟨c2, ?_, ?_⟩
    · simp only [feed, hu, hf]
    · simpa [List.append_assoc] using hI2

/-- **Generic C16 statement.**  Whatever context is passed in (fresh from `malloc`, wiped by an
    earlier `finish`, or abandoned in mid-message) — after `init`, feeding any list of chunks at
    any addresses and `finish` yields the specification's hash of the concatenation, never
    faults, and leaves the wiped context. -/
theorem run_correct (R : Refines A Sp lenOK cnt) (c : Ctx S) (hc : c.buffer.length = A.B)
    (chunks : List (Nat × List UInt8)) (hl : ∀ ch ∈ chunks, lenOK ch.2.length) :
    run A c chunks = .ok (Sp.hash (chunks.map (·.2)).flatten, wiped A) := by
  obtain ⟨c', hf, hI⟩ := feed_inv R chunks (init A c) [] (inv_init R c hc) hl
  simp only [run, hf]
  simpa using finish_correct R c' _ hI
end
end Mhd.Hash
