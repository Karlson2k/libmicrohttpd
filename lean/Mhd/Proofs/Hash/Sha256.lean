/-
  C16, SHA-256: `sha256_transform` as modelled from the recorded step table
  (`Mhd.Hash.Sha256.transform`) equals the compression function of FIPS 180-4 §6.2.2
  (`Spec.Sha256.compress`) on every 64-byte block and chaining value; hence the model
  `Refines` the specification in the sense of `Proofs/Hash/MD.lean`.
  The obligations that tie the proof to the C source: `steps_closed`, `stepsMis_closed`
  (the recorded table is the standard's K with rotating register names), `iv_eq`.
-/
import Mhd.Model.Hash.Sha256
import Mhd.Model.Hash.SpecSha256
import Mhd.Proofs.Hash.Lists
import Mhd.Proofs.Hash.Rounds
import Mhd.Proofs.Hash.MD
namespace Mhd.Hash.Sha256
open Mhd.Hash

theorem Ch_eq (x y z : UInt32) : Ch x y z = Spec.Sha256.ch x y z :=
  UInt32.eq_of_toBitVec_eq (bv_ch x.toBitVec y.toBitVec z.toBitVec)

theorem Maj_eq (x y z : UInt32) : Maj x y z = Spec.Sha256.maj x y z :=
  UInt32.eq_of_toBitVec_eq (bv_maj x.toBitVec y.toBitVec z.toBitVec)

theorem rotr32_eq (x : UInt32) (n : Nat) (h0 : 0 < n) (h : n < 32) : rotr32 x n = Spec.Sha256.rotr n x := by
  unfold rotr32 Spec.Sha256.rotr
  simp only [Nat.mod_eq_of_lt h]
  rw [if_neg (by omega)]

theorem SIG0_eq (x : UInt32) : SIG0 x = Spec.Sha256.bsig0 x := by
  unfold SIG0 Spec.Sha256.bsig0
  rw [rotr32_eq x 2 (by decide) (by decide), rotr32_eq x 13 (by decide) (by decide),
    rotr32_eq x 22 (by decide) (by decide)]
theorem SIG1_eq (x : UInt32) : SIG1 x = Spec.Sha256.bsig1 x := by
  unfold SIG1 Spec.Sha256.bsig1
  rw [rotr32_eq x 6 (by decide) (by decide), rotr32_eq x 11 (by decide) (by decide),
    rotr32_eq x 25 (by decide) (by decide)]
theorem sig0_eq (x : UInt32) : sig0 x = Spec.Sha256.ssig0 x := by
  unfold sig0 Spec.Sha256.ssig0
  rw [rotr32_eq x 7 (by decide) (by decide), rotr32_eq x 18 (by decide) (by decide)]
  rfl
theorem sig1_eq (x : UInt32) : sig1 x = Spec.Sha256.ssig1 x := by
  unfold sig1 Spec.Sha256.ssig1
  rw [rotr32_eq x 17 (by decide) (by decide), rotr32_eq x 19 (by decide) (by decide)]
  rfl

/-- register names of step `t`: `SHA2STEP32 (a,b,…,h)`, `(h,a,…,g)`, `(g,h,a,…,f)`, … -/
def rot8 : Nat → List Nat
  | 0 => [0, 1, 2, 3, 4, 5, 6, 7]
  | 1 => [7, 0, 1, 2, 3, 4, 5, 6]
  | 2 => [6, 7, 0, 1, 2, 3, 4, 5]
  | 3 => [5, 6, 7, 0, 1, 2, 3, 4]
  | 4 => [4, 5, 6, 7, 0, 1, 2, 3]
  | 5 => [3, 4, 5, 6, 7, 0, 1, 2]
  | 6 => [2, 3, 4, 5, 6, 7, 0, 1]
  | _ => [1, 2, 3, 4, 5, 6, 7, 0]

/-- the step table in closed form: register names rotate, K is the standard's table,
    words 0–15 are loaded from the block, words 16–63 come from the schedule recurrence -/
def closedRow (t : Nat) : Row :=
  (rot8 (t % 8), (Spec.Sha256.K.getD t 0).toNat, t % 16, if t < 16 then 0 else 1, t)

theorem steps_closed : Mhd.Gen.Hash.sha256Steps = (List.range 64).map closedRow := by decide +kernel
/-- a misaligned block is copied first; the same steps run on it -/
theorem stepsMis_closed : Mhd.Gen.Hash.sha256StepsMis = (List.range 64).map closedRow :=
  (rfl : Mhd.Gen.Hash.sha256StepsMis = Mhd.Gen.Hash.sha256Steps).trans steps_closed
theorem iv_eq : ivOf Mhd.Gen.Hash.sha256IV = Spec.Sha256.H0 := by decide

theorem closedRow_eq (t : Nat) : closedRow t =
    (names8 (rname 8 (t % 8)), (Spec.Sha256.K.getD t 0).toNat, t % 16, if t < 16 then 0 else 1, t) := by
  rw [closedRow, (by decide : ∀ r, r < 8 → rot8 r = names8 (rname 8 r)) _ (Nat.mod_lt _ (by decide))]

theorem rowOK_closed (t : Nat) : rowOK (closedRow t) = true := by
  have h16 : t % 16 < 16 := Nat.mod_lt _ (by decide)
  rw [closedRow_eq, rowOK]
  simp only [names8_ok, Bool.true_and, h16, decide_true]
  by_cases ht : t < 16
  · simp [ht]
  · simp [ht, Nat.le_of_not_lt ht]

theorem step_row (blk : List UInt8) (s : TS) (n : Nat → Nat) (k dst kind arg : Nat)
    (hok : rowOK (names8 n, k, dst, kind, arg) = true) :
    step blk s (names8 n, k, dst, kind, arg) =
      { v := R8.sha2Step (· + ·)
               (fun e f g => SIG1 e + Ch e f g + k.toUInt32 + (if kind = 0 then getBE32 blk arg else wgen s.w arg))
               (fun a b c => SIG0 a + Maj a b c) n s.v,
        w := s.w.setIfInBounds dst (if kind = 0 then getBE32 blk arg else wgen s.w arg), ok := s.ok } := by
  unfold step
  rw [hok]
  rfl

theorem add4 (a b c d : UInt32) : a + b + c + d = b + c + d + a := by ac_rfl

theorem wgen_next (w : Array UInt32) (P : List UInt32) (t : Nat) (h16 : 16 ≤ t) (hl : P.length = t)
    (hw : Window 0 w P t) : wgen w t = Spec.Sha256.nextW P := by
  rw [wgen, Spec.Sha256.nextW, hl, hw.back h16 16 (by decide) (by decide), hw.back h16 2 (by decide) (by decide),
    hw.back h16 7 (by decide) (by decide), hw.back h16 15 (by decide) (by decide), sig0_eq, sig1_eq]
  exact add4 _ _ _ _

theorem step_closed (blk : List UInt8) (s : TS) (t : Nat) :
    (step blk s (closedRow t)).ok = s.ok ∧
    (step blk s (closedRow t)).w = s.w.setIfInBounds (t % 16) (wordOf (getBE32 blk) wgen s.w t) ∧
    (step blk s (closedRow t)).v.view ((t % 8 + 1) % 8) =
      Spec.Sha256.round (s.v.view (t % 8)) (Spec.Sha256.K.getD t 0, wordOf (getBE32 blk) wgen s.w t) := by
  have hrow := rowOK_closed t
  rw [closedRow_eq] at hrow
  rw [closedRow_eq, step_row _ _ _ _ _ _ _ hrow,
    show (Spec.Sha256.K.getD t 0).toNat.toUInt32 = Spec.Sha256.K.getD t 0 from UInt32.ofNat_toNat,
    ite_kind _ 1 (by decide)]
  refine ⟨rfl, rfl, ?_⟩
  rw [R8.view_sha2Step _ _ _ _ (Nat.mod_lt _ (by decide))]
  simp only [R8.sha2Round, Spec.Sha256.round, SIG0_eq, SIG1_eq, Ch_eq, Maj_eq, UInt32.add_assoc, wordOf]

theorem transform_eq (mis : Bool) (H : R8 UInt32) (blk : List UInt8) (hblk : blk.length = 64) :
    transform mis H blk = .ok (Spec.Sha256.compress H blk) := by
  have htbl : (if mis then Mhd.Gen.Hash.sha256StepsMis else Mhd.Gen.Hash.sha256Steps)
      = (List.range 64).map closedRow := by
    cases mis
    · exact steps_closed
    · exact stepsMis_closed
  obtain ⟨hok, hv⟩ := unrolled_eq_rounds 0 TS.v TS.w TS.ok (fun s t => step blk s (closedRow t)) (getBE32 blk) wgen
    Spec.Sha256.nextW Spec.Sha256.K 0 Spec.Sha256.round 8 R8.view 64 (by decide) rfl (wordsBE32 blk)
    (by rw [wordsBE32_eq, hblk]) wgen_next (fun s t _ => step_closed blk s t)
    (Spec.Sha256.schedule (wordsBE32 blk)) rfl { v := H, w := Array.replicate 16 0, ok := true } Array.size_replicate
  rw [show 64 % 8 = 0 from rfl, R8.view_zero, R8.view_zero] at hv
  unfold transform Spec.Sha256.compress
  simp only [htbl, List.foldl_map, hok, if_true, hv, UInt32.add_comm]

/-- the abstract byte counter of md5.c / sha1.c / sha256.c: `count` is the length mod 2^64 -/
def cnt64 (n : Nat) : Nat × Nat := (n % 2 ^ 64, 0)

theorem refines : Refines alg Spec.Sha256.spec (fun _ => True) cnt64 where
  B_eq := by decide
  L_eq := by decide
  L_pos := by decide
  L_lt := by decide
  B_lt := by decide
  iv_eq := iv_eq
  transform_eq := transform_eq
  cnt_zero := rfl
  bump_eq := fun n len _ => bump64_mod n len
  cnt_mod := fun n => Nat.mod_mod_of_dvd n (by decide)
  putLen_eq := fun n => congrArg bytesBE64 (ofNat_count_shl3 n)
  lenField_len := fun _ => rfl
  digest_eq := fun _ => rfl

end Mhd.Hash.Sha256
