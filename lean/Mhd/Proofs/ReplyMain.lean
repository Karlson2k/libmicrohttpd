import Mhd.Proofs.ReplyMainLemmas
namespace Mhd.Reply
open Mhd.ReplyStr Mhd.Resp
open Mhd.Http (FieldOK NameOK NoCRLF normField ChunkOK chunkBytes clsOf tesOf connsOf ciEq lower isOWS Framing)
open Mhd.Gen.Reply (sizeUnknown maxChunk)

/-- the request as the grammar sees it -/
def reqOf (c : Conn) : Mhd.Http.Req := ⟨c.mthd == .head, ver11Compat c.ver⟩

/-- the body bytes the application supplies -/
def appBody : BodySrc → Bytes
  | .buffer d => d
  | .callback ps _ => ps.flatten

/-- the application keeps its side of the content contract -/
def SrcLegal (r : Resp) (wb : Nat) : BodySrc → Prop
  | .buffer data => data.length = r.totalSize ∧ r.totalSize ≠ sizeUnknown
  | .callback pieces ending => ending = .eos ∧ (∀ p ∈ pieces, p ≠ [] ∧ p.length ≤ chunkLimit wb) ∧
      (r.totalSize ≠ sizeUnknown → sumLen pieces = r.totalSize) ∧
      (r.totalSize = sizeUnknown → sumLen pieces < sizeUnknown)

/-- no body may be sent: 1xx, 204, HEAD, 304 -/
def NoBody (c : Conn) (code : Nat) : Prop := (code < 200 ∨ code = 204) ∨ c.mthd = .head ∨ code = 304

instance (c : Conn) (code : Nat) : Decidable (NoBody c code) := by unfold NoBody; infer_instance

/-- the header block that is produced when the buffer is large enough -/
def headBytes (c : Conn) (r : Resp) (rcode : Nat) (icy : Bool) (date : Option Bytes) : Bytes :=
  let ka := (setupReplyProperties c r rcode).1
  let props := (setupReplyProperties c r rcode).2
  ((headSegs c r rcode icy date ka props).map (·.piece)).flatten

theorem buildHeader_eq (c : Conn) (r : Resp) (rcode : Nat) (icy : Bool) (date : Option Bytes) (bs : Nat) (h : Bytes)
    (hh : (buildHeaderResponse c r rcode icy date bs).2.2 = some h) :
    (buildHeaderResponse c r rcode icy date bs).1 = (setupReplyProperties c r rcode).1 ∧
    (buildHeaderResponse c r rcode icy date bs).2.1 = (setupReplyProperties c r rcode).2 ∧
    h = headBytes c r rcode icy date := by
  unfold buildHeaderResponse at hh ⊢
  rcases hs : setupReplyProperties c r rcode with ⟨ka, props⟩
  simp only [hs] at hh ⊢
  refine ⟨by first | rfl | trivial, by first | rfl | trivial, ?_⟩
  split at hh
  · simp at hh
  · have := runSegs_eq bs _ _ _ hh
    simp at this
    unfold headBytes
    rw [hs]; exact this

theorem noBody_iff (c : Conn) (code : Nat) :
    (isReplyBodyNeeded c.mthd code == .send) = false ↔ NoBody c code := by
  obtain ⟨_, h2⟩ := bodyNeeded_cases c.mthd code
  unfold NoBody
  constructor
  · intro h
    by_cases hn : ((code < 200 ∨ code = 204) ∨ c.mthd = .head ∨ code = 304)
    · exact hn
    · have := h2.2 hn; simp [this] at h
  · intro h
    cases hx : (isReplyBodyNeeded c.mthd code == .send) with
    | false => rfl
    | true => have hx' : isReplyBodyNeeded c.mthd code = .send := by simpa using hx
              exact absurd h (h2.1 hx')

theorem reasons_ok : ∀ p ∈ Mhd.Gen.Reply.reasons, (!p.2.isEmpty && p.2.all fun b => b != 13 && b != 10) = true := by
  decide

theorem reasonPhrase_ok (code : Nat) : reasonPhrase code ≠ [] ∧ NoCRLF (reasonPhrase code) := by
  unfold reasonPhrase
  split
  · rename_i p hp
    have hm := List.mem_of_find?_eq_some hp
    have := reasons_ok p hm
    simp only [Bool.and_eq_true, Bool.not_eq_true', List.all_eq_true, bne_iff_ne, ne_eq] at this
    constructor
    · intro hh; rw [hh] at this; simp at this
    · intro b hb; exact this.2 b hb
  · constructor
    · decide
    · unfold NoCRLF; decide

theorem versionStr_ok (r : Resp) (icy : Bool) : Mhd.Http.okVersion (versionStr r icy) = true := by
  unfold versionStr
  cases icy <;> cases r.flags.http10Server <;> decide

theorem head_parse (c : Conn) (r : Resp) (code : Nat) (icy : Bool) (date : Option Bytes) (body : Bytes)
    (hinv : Inv r) (hdate : ∀ d, date = some d → NoCRLF d) (hsz : r.totalSize < 2 ^ 64)
    (h100 : 100 ≤ code) (h999 : code ≤ 999) :
    Mhd.Http.parseReply (reqOf c) (headBytes c r code icy date ++ body) =
      Mhd.Http.frameReply (reqOf c) (versionStr r icy) code (reasonPhrase code)
        (((allFields c r date (setupReplyProperties c r code).1 (setupReplyProperties c r code).2).map toHttp).map normField)
        body := by
  obtain ⟨d1, d2, d3, hcd, hd1, hd2, hd3, hd0, hval⟩ := Mhd.ReplyNum.codeDigits_spec code h100 h999
  have hcd' : codeDigits code = [d1, d2, d3] := by unfold codeDigits; rw [hcd]; rfl
  obtain ⟨hr1, hr2⟩ := reasonPhrase_ok code
  have hf := allFields_fieldOK c r date (setupReplyProperties c r code).1 (setupReplyProperties c r code).2 hinv hdate hsz
  have := Mhd.Http.parseReply_render (reqOf c) (versionStr r icy) d1 d2 d3 (reasonPhrase code) _ body
    (versionStr_ok r icy) hd1 hd2 hd3 hd0 hr1 hr2 hf
  rw [hval] at this
  rw [← this]
  unfold headBytes
  simp only
  rw [headSegs_pieces, hcd']
  simp [List.append_assoc]

/-- what the parser must find -/
def expectedFraming (c : Conn) (r : Resp) (code : Nat) : Framing :=
  if NoBody c code then .none
  else if (setupReplyProperties c r code).2.chunked then .chunked
  else if r.totalSize ≠ sizeUnknown then .length r.totalSize
  else .close

theorem reqOf_head (c : Conn) : (reqOf c).head = true ↔ c.mthd = .head := by simp [reqOf]

theorem noBody_req (c : Conn) (code : Nat) :
    ((code < 200 ∨ code = 204) ∨ (reqOf c).head = true ∨ code = 304) ↔ NoBody c code := by
  unfold NoBody; rw [reqOf_head]

theorem expectedFraming_chunked (c : Conn) (r : Resp) (code : Nat) :
    expectedFraming c r code = .chunked ↔ ¬ NoBody c code ∧ (setupReplyProperties c r code).2.chunked = true := by
  unfold expectedFraming
  by_cases hnb : NoBody c code
  · rw [if_pos hnb]; exact ⟨nofun, fun h => absurd hnb h.1⟩
  · rw [if_neg hnb]
    by_cases hch : (setupReplyProperties c r code).2.chunked = true
    · rw [if_pos hch]; exact ⟨fun _ => ⟨hnb, hch⟩, fun _ => rfl⟩
    · rw [if_neg hch]; exact ⟨fun h => (by split at h <;> cases h), fun h => absurd h.2 hch⟩

theorem expectedFraming_length (c : Conn) (r : Resp) (code n : Nat) (h : expectedFraming c r code = .length n) :
    ¬ NoBody c code ∧ r.totalSize ≠ sizeUnknown ∧ n = r.totalSize := by
  unfold expectedFraming at h
  by_cases hnb : NoBody c code
  · rw [if_pos hnb] at h; cases h
  · rw [if_neg hnb] at h
    by_cases hch : (setupReplyProperties c r code).2.chunked = true
    · rw [if_pos hch] at h; cases h
    · rw [if_neg hch] at h
      by_cases hkn : r.totalSize ≠ sizeUnknown
      · rw [if_pos hkn] at h; injection h with h; exact ⟨hnb, hkn, h.symm⟩
      · rw [if_neg hkn] at h; cases h

theorem normalBody_buffer (total : Nat) (data : Bytes) (hd : data.length = total) :
    normalBody total (.buffer data) 0 = ⟨data, true⟩ := by
  unfold normalBody
  by_cases h0 : total = 0
  · have : data = [] := List.length_eq_zero_iff.1 (hd.trans h0)
    rw [this, h0]; rfl
  · have h1 : (0 == total) = false := beq_eq_false_iff_ne.2 (Ne.symm h0)
    rw [beq_eq_false_iff_ne.2 h0, if_neg Bool.false_ne_true]
    dsimp only
    rw [h1, if_neg Bool.false_ne_true, if_pos (Nat.pos_of_ne_zero h0)]; rfl

theorem sumLen_zero (ps : List Bytes) (h : ∀ p ∈ ps, p ≠ []) (hs : sumLen ps = 0) : ps = [] := by
  cases ps with
  | nil => rfl
  | cons p t =>
    have := List.length_pos_iff.2 (h p List.mem_cons_self)
    rw [sumLen_cons] at hs; omega

theorem normalBody_callback (total : Nat) (pieces : List Bytes) (hp : ∀ p ∈ pieces, p ≠ [])
    (hk : total ≠ sizeUnknown → sumLen pieces = total) (hu : total = sizeUnknown → sumLen pieces < sizeUnknown) :
    normalBody total (.callback pieces .eos) 0 = ⟨pieces.flatten, true⟩ := by
  unfold normalBody
  by_cases h0 : total = 0
  · have := sumLen_zero pieces hp (by rw [hk (by rw [h0]; decide), h0])
    rw [this, h0]; rfl
  · obtain ⟨i1, i2⟩ := normalCallback_spec total pieces 0 [] hp (by simpa using hk) (by simpa using hu)
    rw [beq_eq_false_iff_ne.2 h0, if_neg Bool.false_ne_true]
    dsimp only
    rw [List.nil_append] at i1
    generalize normalCallbackBody total pieces 0 [] = o at i1 i2
    obtain ⟨b, cpl⟩ := o
    dsimp only at i1 i2 ⊢
    subst i1
    cases cpl with
    | true => rfl
    | false =>
      -- an incomplete identity body is in order only when no size was announced: the callback ended it
      rw [if_neg Bool.false_ne_true]
      by_cases ht : total = sizeUnknown
      · rw [ht]; rfl
      · exact absurd (i2 ht) Bool.false_ne_true

theorem queue_pretend (c : Conn) (st : CState) (allow : Bool) (code0 : Nat) (r : Resp) (q : Queued)
    (hq : queueResponse c st false false allow code0 r = some q) (hnb : ¬ NoBody c q.code) :
    q.bodyPretendSent = false := by
  rw [(queue_facts c st allow code0 r q hq).2.2.2.2, beq_noContent, beq_notModified]
  unfold NoBody at hnb
  have h200 : ¬ ((q.code : Int) < Mhd.Gen.Reply.httpOk) := fun h => hnb (.inl (.inl (Int.ofNat_lt.1 h)))
  simp only [not_or] at hnb
  rw [beq_eq_false_iff_ne.2 hnb.2.1, decide_eq_false h200, beq_eq_false_iff_ne.2 hnb.1.2, beq_eq_false_iff_ne.2 hnb.2.2]
  rfl

theorem setup_sendBody (c : Conn) (r : Resp) (code : Nat) :
    (setupReplyProperties c r code).2.sendReplyBody = ! decide (NoBody c code) := by
  rw [(setup_props c r code).2.1]
  by_cases hn : NoBody c code
  · rw [(noBody_iff c code).2 hn, decide_eq_true hn]; rfl
  · rw [decide_eq_false hn]
    cases hx : (isReplyBodyNeeded c.mthd code == BodyUse.send) with
    | true => rfl
    | false => exact absurd ((noBody_iff c code).1 hx) hn

/-- A queued response whose header block `hd` fitted: what goes out is the block and, unless the status or the method
    forbids a body, the body from its start, chunked or as it is.  `MHD_queue_response` has seen to it that an
    upgrade response has status 101 and that the write position is 0 whenever a body is due. -/
theorem sendReply_queued (c : Conn) (r : Resp) (st : CState) (allow : Bool) (code0 : Nat) (q : Queued) (src : BodySrc)
    (date : Option Bytes) (wb : Nat) (hd : Bytes)
    (hq : queueResponse c st false false allow code0 r = some q)
    (hb : (buildHeaderResponse c r q.code q.icy date wb).2.2 = some hd) :
    sendReply c r q src date wb (startPosAfterQueue q r 0) =
      (let props := (setupReplyProperties c r q.code).2
       let b : BodyOut := if NoBody c q.code then ⟨[], true⟩
         else if props.chunked then chunkedBody wb r src 0 else normalBody r.totalSize src 0
       ⟨hd ++ b.bytes, (setupReplyProperties c r q.code).1, props, b.complete⟩) := by
  obtain ⟨e1, e2, _⟩ := buildHeader_eq c r q.code q.icy date wb hd hb
  unfold sendReply
  rcases hx : buildHeaderResponse c r q.code q.icy date wb with ⟨ka, props, hdr⟩
  rw [hx] at hb e1 e2
  dsimp only at hb e1 e2
  subst hb e1 e2
  dsimp only
  rw [setup_sendBody]
  by_cases hnb : NoBody c q.code
  · rw [decide_eq_true hnb, if_pos hnb, List.append_nil]
    exact ite_cases (· = _) (fun _ => rfl) fun _ => rfl
  · have hnu : r.upgrade = false := by
      cases hx : r.upgrade with
      | false => rfl
      | true => exact absurd (.inl (.inl (by rw [(queue_facts c st allow code0 r q hq).2.2.2.1 hx]; decide))) hnb
    have hsp : startPosAfterQueue q r 0 = 0 := by
      rw [startPosAfterQueue, queue_pretend c st allow code0 r q hq hnb]; rfl
    rw [hnu, if_neg Bool.false_ne_true, decide_eq_false hnb, if_neg (by decide), if_neg hnb, hsp]

theorem framing_fields (c : Conn) (r : Resp) (date : Option Bytes) (code : Nat) (hinv : Inv r)
    (hsz : r.totalSize < 2 ^ 64) :
    let props := (setupReplyProperties c r code).2
    let PF := ((allFields c r date (setupReplyProperties c r code).1 props).map toHttp).map normField
    (tesOf PF).length = b2n props.chunked ∧
    (clsOf PF).length = b2n (props.useReplyBodyHeaders && ! props.chunked &&
        (r.fa.contentLength || (! r.flags.headOnly && r.totalSize != Mhd.Gen.Reply.sizeUnknown))) ∧
    Mhd.Http.HeadOK (reqOf c) code PF := by
  obtain ⟨fc1, fc2, fc3⟩ := field_counts c r date code hinv
  obtain ⟨s1, _, s3, _⟩ := setup_props c r code
  dsimp only at fc1 fc2 fc3 s1 s3 ⊢
  have lte := (tesOf_len _).trans fc1
  have lcl := (clsOf_len _).trans fc2
  have nil_of : ∀ {l : List Mhd.Http.Field} {b : Bool}, l.length = b2n b → b = false → l = [] := fun h hb => by
    rw [hb] at h; exact List.length_eq_zero_iff.1 h
  have chunked_of : tesOf _ ≠ [] → (setupReplyProperties c r code).2.chunked = true := fun hne => by
    cases hch : (setupReplyProperties c r code).2.chunked with
    | true => rfl
    | false => exact absurd (nil_of lte hch) hne
  refine ⟨lte, lcl, by rw [lcl]; exact b2n_le_one _, by rw [lte]; exact b2n_le_one _, (connsOf_len _) ▸ fc3,
    ?_, ?_, ?_, fun hne => (s3 (chunked_of hne)).2.1, fun hl => ?_⟩
  · cases hch : (setupReplyProperties c r code).2.chunked with
    | true => exact .inl (nil_of lcl (by rw [hch]; simp))
    | false => exact .inr (nil_of lte hch)
  · intro f hf
    rw [clsOf_bridge] at hf
    simp only [List.mem_map, List.mem_filter] at hf
    obtain ⟨g, ⟨g0, ⟨hg0, hg1⟩, rfl⟩, rfl⟩ := hf
    exact cl_values c r date _ _ hinv hsz g0 hg0 hg1
  · intro f hf
    rw [tesOf_bridge] at hf
    simp only [List.mem_map, List.mem_filter] at hf
    obtain ⟨g, ⟨g0, ⟨hg0, hg1⟩, rfl⟩, rfl⟩ := hf
    exact te_values c r date _ _ hinv g0 hg0 hg1
  · have hu : (setupReplyProperties c r code).2.useReplyBodyHeaders = false := by
      rw [s1, ((bodyNeeded_cases c.mthd code).1).2 hl]; rfl
    refine ⟨nil_of lcl (by rw [hu]; rfl), nil_of lte ?_⟩
    cases hch : (setupReplyProperties c r code).2.chunked with
    | false => rfl
    | true => have := (s3 hch).1; rw [hu] at this; cases this

theorem chunkedBody_spec (wb : Nat) (r : Resp) (src : BodySrc) (hsrc : SrcLegal r wb src) (hwb : 128 ≤ wb)
    (hcomp : (chunkedBody wb r src 0).complete = true) :
    ∃ cs, chunkedBody wb r src 0 = ⟨framesOf cs ++ 48 :: 13 :: 10 ::
          (Mhd.Http.renderFields ((footerFields r.hdrs).map toHttp) ++ [13, 10]), true⟩ ∧
        (cs.map (·.2)).flatten = appBody src ∧ ∀ c ∈ cs, ChunkOK c := by
  unfold chunkedBody at hcomp ⊢
  dsimp only at hcomp ⊢
  generalize hbd : (if (r.totalSize == 0) = true then (([], true) : Bytes × Bool) else _) = body at hcomp ⊢
  have hbody : ∃ cs, body = (framesOf cs, true) ∧ (cs.map (·.2)).flatten = appBody src ∧ ∀ c ∈ cs, ChunkOK c := by
    rw [← hbd]
    by_cases h0 : r.totalSize = 0
    · -- nothing to send: the application's body is empty
      rw [if_pos (by rw [h0]; rfl)]
      refine ⟨[], rfl, ?_, fun c hc => nomatch hc⟩
      cases src with
      | buffer data => exact (List.length_eq_zero_iff.1 (hsrc.1.trans h0)).symm
      | callback pieces ending =>
        obtain ⟨_, hpc, hk, _⟩ := hsrc
        rw [sumLen_zero pieces (fun p hp => (hpc p hp).1) (by rw [hk (by rw [h0]; decide), h0])]; rfl
    · rw [if_neg (by rw [beq_iff_eq]; exact h0)]
      cases src with
      | buffer data =>
        obtain ⟨cs, c1, c2, c3⟩ := chunkedBuffer_spec wb r.totalSize data hsrc.1 hwb (data.length + 1) 0 []
          (Nat.zero_le _) (by rw [hsrc.1]; exact Nat.lt_succ_self _)
        exact ⟨cs, by dsimp only; rw [c1]; rfl, by simpa [appBody] using c2, c3⟩
      | callback pieces ending =>
        obtain ⟨hend, hpc, hk, hu⟩ := hsrc
        subst hend
        obtain ⟨cs, c1, c2, c3⟩ := chunkedCallback_spec wb r.totalSize pieces 0 [] hpc
          (by simpa using hk) (by simpa using hu)
        exact ⟨cs, by dsimp only; rw [c1]; rfl, by rw [appBody, ← c2], c3⟩
  obtain ⟨cs, hcb, hcs1, hcs2⟩ := hbody
  refine ⟨cs, ?_, hcs1, hcs2⟩
  rw [hcb] at hcomp ⊢
  dsimp only at hcomp ⊢
  rw [if_neg (by decide)] at hcomp ⊢
  cases hf : buildFooter r wb with
  | none => rw [hf] at hcomp; cases hcomp
  | some f => rw [buildFooter_eq r wb f hf]

theorem normalBody_spec (r : Resp) (wb : Nat) (src : BodySrc) (hsrc : SrcLegal r wb src) :
    normalBody r.totalSize src 0 = ⟨appBody src, true⟩ := by
  cases src with
  | buffer data => exact normalBody_buffer _ _ hsrc.1
  | callback pieces ending =>
    obtain ⟨hend, hpc, hk, hu⟩ := hsrc
    subst hend
    exact normalBody_callback _ _ (fun p hp => (hpc p hp).1) hk hu

theorem appBody_length (r : Resp) (wb : Nat) (src : BodySrc) (hsrc : SrcLegal r wb src) (hkn : r.totalSize ≠ sizeUnknown) :
    (appBody src).length = r.totalSize := by
  cases src with
  | buffer data => exact hsrc.1
  | callback pieces ending =>
    rw [appBody, List.length_flatten]; exact hsrc.2.2.1 hkn

theorem autoCL_value (n : Nat) (hsz : n < 2 ^ 64) :
    Mhd.Http.parseDec (normField (toHttp ⟨sContentLength, sizeDigits n⟩)).value = some n := by
  obtain ⟨z1, z2, z3⟩ := sizeDigits_ok n hsz
  exact (parseDec_digits _ z1 z2).trans (congrArg some z3)

/-- a completely sent reply parses, with the head, framing, body and trailers the model intends -/
theorem reply_parses (c : Conn) (r : Resp) (st : CState) (allow : Bool) (code0 : Nat) (q : Queued) (src : BodySrc)
    (date : Option Bytes) (wb : Nat)
    (hinv : Inv r) (hq : queueResponse c st false false allow code0 r = some q)
    (hdate : ∀ d, date = some d → NoCRLF d) (hsz : r.totalSize < 2 ^ 64)
    (hsrc : SrcLegal r wb src) (hwb : 128 ≤ wb)
    (hcomp : (sendReply c r q src date wb (startPosAfterQueue q r 0)).complete = true) :
    Mhd.Http.parseReply (reqOf c) (sendReply c r q src date wb (startPosAfterQueue q r 0)).wire =
      some ⟨versionStr r q.icy, q.code, reasonPhrase q.code,
            ((allFields c r date (setupReplyProperties c r q.code).1 (setupReplyProperties c r q.code).2).map toHttp).map normField,
            expectedFraming c r q.code,
            if NoBody c q.code then [] else appBody src,
            if ¬ NoBody c q.code ∧ (setupReplyProperties c r q.code).2.chunked = true
              then ((footerFields r.hdrs).map toHttp).map normField else []⟩ := by
  obtain ⟨h100, h999, hho, _⟩ := queue_facts c st allow code0 r q hq
  obtain ⟨s1, s2, s3, s4⟩ := setup_props c r q.code
  obtain ⟨lte, lcl, hok⟩ := framing_fields c r date q.code hinv hsz
  have nil_of : ∀ {l : List Mhd.Http.Field} {b : Bool}, l.length = b2n b → b = false → l = [] := fun h hb => by
    rw [hb] at h; exact List.length_eq_zero_iff.1 h
  -- the header block fitted, or the reply would not be complete
  cases hb : (buildHeaderResponse c r q.code q.icy date wb).2.2 with
  | none =>
    exfalso
    unfold sendReply at hcomp
    rcases hx : buildHeaderResponse c r q.code q.icy date wb with ⟨ka, props, hdr⟩
    rw [hx] at hb hcomp
    dsimp only at hb; subst hb
    exact absurd hcomp Bool.false_ne_true
  | some h =>
    obtain ⟨_, _, e3⟩ := buildHeader_eq c r q.code q.icy date wb h hb
    have hp := fun body => head_parse c r q.code q.icy date body hinv hdate hsz h100 h999
    rw [sendReply_queued c r st allow code0 q src date wb h hq hb] at hcomp ⊢
    dsimp only at hcomp ⊢
    generalize hF : ((allFields c r date (setupReplyProperties c r q.code).1 (setupReplyProperties c r q.code).2).map
      toHttp).map normField = PF at *
    rw [e3, expectedFraming]
    have hnbr := fun hh => (noBody_req c q.code).1 hh
    by_cases hnb : NoBody c q.code
    · rw [if_pos hnb, if_pos hnb, if_pos hnb, if_neg (fun h => h.1 hnb), hp]
      exact Mhd.Http.frameReply_noBody _ _ _ _ PF hok ((noBody_req c q.code).2 hnb)
    · have hub : (setupReplyProperties c r q.code).2.useReplyBodyHeaders = true := by
        rw [s1]
        cases hx : isReplyBodyNeeded c.mthd q.code with
        | none => exact absurd (.inl (((bodyNeeded_cases c.mthd q.code).1).1 hx)) hnb
        | headersOnly | send => rfl
      have hnho : r.flags.headOnly = false := by
        cases hx : r.flags.headOnly with
        | false => rfl
        | true =>
          refine absurd ?_ (hho hx)
          have := setup_sendBody c r q.code; rw [s2, decide_eq_false hnb] at this
          exact beq_iff_eq.1 this
      have hncl : r.fa.contentLength = false := by
        cases hx : r.fa.contentLength with
        | false => rfl
        | true => have := hinv.clHead hx; rw [hnho] at this; cases this
      rw [if_neg hnb] at hcomp
      rw [if_neg hnb, if_neg hnb, if_neg hnb]
      cases hch : (setupReplyProperties c r q.code).2.chunked with
      | true =>
        rw [hch, if_pos rfl] at hcomp
        obtain ⟨cs, hcb, hcs1, hcs2⟩ := chunkedBody_spec wb r src hsrc hwb hcomp
        rw [if_pos rfl, if_pos rfl, if_pos ⟨hnb, rfl⟩, hcb, hp, ← hcs1]
        exact Mhd.Http.frameReply_chunked (reqOf c) _ _ _ PF cs ((footerFields r.hdrs).map toHttp) hok
          (fun h => by rw [h, hch] at lte; cases lte) (fun hh => hnb (hnbr hh)) hcs2 (footer_fieldOK r hinv)
      | false =>
        simp only [Bool.false_eq_true, if_false, and_false]
        rw [normalBody_spec r wb src hsrc, hp]
        have ltes : tesOf PF = [] := nil_of lte hch
        by_cases hkn : r.totalSize = sizeUnknown
        · have hac := close_in_fields c r date _ (setupReplyProperties c r q.code).2 hinv (s4 hch hub hkn)
          rw [hF] at hac
          rw [if_neg (not_not_intro hkn)]
          exact Mhd.Http.frameReply_close (reqOf c) _ _ _ PF _ hok
            (nil_of lcl (by rw [hkn, hncl]; simp)) ltes hac (fun hh => hnb (hnbr hh))
        · -- Content-Length: the single such field is the automatic one
          have lcl1 : (clsOf PF).length = 1 := by
            rw [lcl, hub, hch, hncl, hnho, bne_iff_ne.2 hkn]; rfl
          have hmem : normField (toHttp ⟨sContentLength, sizeDigits r.totalSize⟩) ∈ clsOf PF := by
            rw [← hF, clsOf_bridge]
            refine List.mem_map_of_mem (List.mem_map_of_mem (List.mem_filter.2 ⟨?_, nameIs_cl_cl⟩))
            unfold allFields bodyFields
            simp [hub, hnho, hch, hkn, hncl]
          obtain ⟨f, hf1⟩ := List.length_eq_one_iff.1 lcl1
          rw [hf1, List.mem_singleton] at hmem
          rw [if_pos hkn]
          exact Mhd.Http.frameReply_length (reqOf c) _ _ _ PF f r.totalSize _ hok hf1 ltes
            (by rw [← hmem]; exact autoCL_value _ hsz) (appBody_length r wb src hsrc hkn) (fun hh => hnb (hnbr hh))
end Mhd.Reply
