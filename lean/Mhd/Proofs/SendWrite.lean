/-
  C07 — the chunk frames of the reply stream, and the invariant across the write-buffer branches of
  MHD_connection_handle_write (HEADERS_SENDING, CHUNKED_BODY_READY, FOOTERS_SENDING).
-/
import Mhd.Proofs.SendInv
namespace Mhd.Send
open Mhd.Gen.Send

theorem framesAux_end (r : Resp) (f p : Nat) (h : r.body.length ≤ p) : framesAux r f p = [] := by
  cases f with
  | zero => rfl
  | succ f => rw [framesAux, if_neg (Nat.not_lt.mpr h)]

theorem frames_end (r : Resp) (p : Nat) (h : r.body.length ≤ p) : frames r p = [] :=
  framesAux_end r _ p h

theorem sub_advance {L p n f : Nat} (h : L - p ≤ f + 1) (hn : n ≠ 0) : L - (p + n) ≤ f := by
  rw [Nat.sub_add_eq]
  exact Nat.le_trans (Nat.sub_le_sub_right h n) (Nat.sub_le_of_le_add (Nat.add_le_add_left (Nat.pos_of_ne_zero hn) f))

/-- every chunk advances the position, so any fuel that covers the positions left gives the same frames -/
theorem framesAux_fuel (r : Resp) : ∀ (f g p : Nat), r.body.length - p ≤ f → r.body.length - p ≤ g →
    framesAux r f p = framesAux r g p
  | 0, g, p, hf, _ => by
    have hend := Nat.le_of_sub_eq_zero (Nat.le_zero.mp hf)
    rw [framesAux_end r g p hend, framesAux_end r 0 p hend]
  | f + 1, 0, p, _, hg => by
    have hend := Nat.le_of_sub_eq_zero (Nat.le_zero.mp hg)
    rw [framesAux_end r (f + 1) p hend, framesAux_end r 0 p hend]
  | f + 1, g + 1, p, hf, hg => by
    rw [framesAux, framesAux]
    by_cases hlt : p < r.body.length
    · rw [if_pos hlt, if_pos hlt]
      simp only []
      generalize capMax r.cbMax (min (sizeToFill0 r) (r.body.length - p)) = n
      by_cases hn : n = 0
      · rw [if_pos hn, if_pos hn]
      · rw [if_neg hn, if_neg hn, framesAux_fuel r f g (p + n) (sub_advance hf hn) (sub_advance hg hn)]
    · rw [if_neg hlt, if_neg hlt]

theorem frames_step (r : Resp) (p : Nat) (h : p < r.body.length)
    (hn : capMax r.cbMax (min (sizeToFill0 r) (r.body.length - p)) ≠ 0) :
    frames r p = chunkFrame (slice r.body p (capMax r.cbMax (min (sizeToFill0 r) (r.body.length - p))))
                 ++ frames r (p + capMax r.cbMax (min (sizeToFill0 r) (r.body.length - p))) := by
  have hk : r.body.length - p ≤ r.body.length - p - 1 + 1 :=
    Nat.le_of_eq (Nat.succ_pred_eq_of_pos (Nat.sub_pos_of_lt h)).symm
  unfold frames
  rw [framesAux_fuel r _ _ p (Nat.le_refl _) hk, framesAux, if_pos h]
  simp only []
  rw [if_neg hn, framesAux_fuel r _ (r.body.length - (p + _)) _ (sub_advance hk hn) (Nat.le_refl _)]

theorem sizeUnknown_big : maxChunk < sizeUnknown := by decide

/-- the states in which `MHD_connection_handle_write` does something -/
def writeActive (s : St) : Prop :=
  s = .headersSending ∨ s = .normalBodyReady ∨ s = .chunkedBodyReady ∨ s = .footersSending

theorem handleWrite_idle {r : Resp} {c : Conn} (hs : ¬ writeActive c.st) (s1 s2 : SockRes) (app : AppAns) (alloc : Bool) :
    handleWrite r c s1 s2 app alloc = c := by
  unfold handleWrite
  split
  · exact absurd (Or.inl ‹_›) hs
  · exact absurd (Or.inr (Or.inl ‹_›)) hs
  · exact absurd (Or.inr (Or.inr (Or.inl ‹_›))) hs
  · exact absurd (Or.inr (Or.inr (Or.inr ‹_›))) hs
  · rfl


theorem hw_chunkedReady_inv {r : Resp} {c : Conn} (hw : WF r) (h : Inv r c) (hs : c.st = .chunkedBodyReady)
    (s1 s2 : SockRes) (app : AppAns) (alloc : Bool) : Inv r (handleWrite r c s1 s2 app alloc) := by
  have hwb : isWbState c.st := Or.inr (Or.inl hs)
  have hfl := h.stChunk (Or.inr (Or.inl hs))
  unfold handleWrite
  rw [hs]
  simp only [(wbPending_some h hwb).1]
  refine wbAccount_inv h hwb (after := frames r c.rp ++ r.footer)
    ⟨fun so' out' => by simp only [pending, hs, List.append_assoc], fun out' => ?_, ?_, ?_, ?_⟩ (sendData_spec _ s1)
  · split
    · rename_i ht
      simp only [pending]
      rw [frames_end r c.rp (tot_eq_rp_end hw (h.core hwb.ne_closed) hfl.1 ht)]; rfl
    · simp only [pending]
  · split <;> exact nofun
  · split <;> exact nofun
  · exact fun _ => hfl

theorem hw_footers_inv {r : Resp} {c : Conn} (h : Inv r c) (hs : c.st = .footersSending)
    (s1 s2 : SockRes) (app : AppAns) (alloc : Bool) : Inv r (handleWrite r c s1 s2 app alloc) := by
  have hwb : isWbState c.st := Or.inr (Or.inr hs)
  unfold handleWrite
  rw [hs]
  simp only [(wbPending_some h hwb).1]
  exact wbAccount_inv h hwb (after := []) (next := .fullReplySent)
    ⟨fun so' out' => by simp only [pending, hs, List.append_nil], fun out' => by simp only [pending], nofun, nofun, nofun⟩
    (sendData_spec _ s1)

/-- what goes into the same call as the header block: the whole body of a plain buffer response -/
def withHdr (r : Resp) (c : Conn) : Bytes :=
  if r.sendBody ∧ r.kind = .buffer ∧ c.rp = 0 ∧ ¬ r.chunked then slice r.body 0 c.dz else []

theorem hwHeaders_eq {r : Resp} {c : Conn} {part : Bytes} (hp : wbPending c = some part) (s1 s2 : SockRes) :
    hwHeaders r c s1 s2 =
      account c (sendHdrAndBody false r.noVec r.nonblk part (withHdr r c) s1 s2) (fun ret =>
        checkWriteDone
          (if c.ao - c.so < ret then
            { c with out := c.out ++ (sendHdrAndBody false r.noVec r.nonblk part (withHdr r c) s1 s2).wire,
                     so := c.so + (c.ao - c.so), rp := ret - (c.ao - c.so) }
           else
            { c with out := c.out ++ (sendHdrAndBody false r.noVec r.nonblk part (withHdr r c) s1 s2).wire,
                     so := c.so + ret }) .headersSent) := by
  unfold hwHeaders withHdr
  rw [hp]
  by_cases hc : r.sendBody ∧ r.kind = .buffer ∧ c.rp = 0 ∧ ¬ r.chunked
  · simp only [if_pos hc]; rfl
  · simp only [if_neg hc]; rfl

theorem hwHeaders_none {r : Resp} {c : Conn} (hp : wbPending c = none) (s1 s2 : SockRes) :
    hwHeaders r c s1 s2 = setFault c := by
  unfold hwHeaders; rw [hp]

theorem withHdr_eq {r : Resp} {c : Conn} (hc : Core r c) :
    withHdr r c = [] ∨ (withHdr r c = r.body ∧ afterHeaders r c.rp = r.body ∧ r.kind = .buffer ∧ r.sendBody = true ∧
      r.chunked = false) := by
  unfold withHdr
  by_cases h : r.sendBody ∧ r.kind = .buffer ∧ c.rp = 0 ∧ ¬ r.chunked
  · obtain ⟨hsb, hk, hrp, hnc⟩ := h
    have hwin := hc.win_buffer hk
    have hnc' : r.chunked = false := by simpa using hnc
    right
    rw [if_pos ⟨hsb, hk, hrp, hnc⟩]
    refine ⟨by rw [slice, List.drop_zero, hwin.2, List.take_length], ?_, hk, hsb, hnc'⟩
    rw [afterHeaders, if_pos hsb, hnc', hrp]; rfl
  · exact Or.inl (if_neg h)

theorem hw_headers_inv {r : Resp} {c : Conn} (hw : WF r) (h : Inv r c) (hs : c.st = .headersSending)
    (s1 s2 : SockRes) (h2 : s2.Legal) : Inv r (hwHeaders r c s1 s2) := by
  have hwb : isWbState c.st := Or.inl hs
  have hcore := h.core hwb.ne_closed
  have hlt := (h.wbuf hwb).1
  obtain ⟨hpart, hlen⟩ := wbPending_some h hwb
  have hx : WbStep r c (afterHeaders r c.rp) .headersSent :=
    ⟨fun so' out' => by simp only [pending, hs], fun out' => by simp only [pending], nofun, nofun, nofun⟩
  have hpend := hx.same
  rw [hwHeaders_eq hpart]
  have hspec := sendHdrAndBody_spec r.noVec r.nonblk (slice c.wb c.so (c.ao - c.so)) (withHdr r c) s1 s2 h2
  generalize sendHdrAndBody false r.noVec r.nonblk (slice c.wb c.so (c.ao - c.so)) (withHdr r c) s1 s2 = o at hspec ⊢
  generalize hpt : slice c.wb c.so (c.ao - c.so) = part at hspec hlen
  have hsmall : ∀ ret, ret ≤ c.ao - c.so → o.wire = part.take ret →
      Inv r (checkWriteDone { c with out := c.out ++ o.wire, so := c.so + ret } .headersSent) := fun ret hle hwire =>
    wb_ok_step h hwb hx o.wire ret hle (by rw [hpt]; exact hwire)
  rcases withHdr_eq hcore with he | ⟨he, haft, hk, hsb, hnc⟩ <;> rw [he] at hspec
  · rw [List.append_nil] at hspec
    refine account_inv h hwb.ne_closed hspec (by rw [hpend c.so c.out, hpt]; exact List.prefix_append _ _) (fun ret hr => ?_)
    obtain ⟨hn, hwire⟩ := hspec.ok ret hr
    rw [hlen] at hn
    rw [if_neg (by omega)]
    exact hsmall ret hn hwire
  · have hp : pending r c = part ++ r.body := by rw [hpend c.so c.out, hpt, haft]
    refine account_inv h hwb.ne_closed hspec (by rw [hp]; exact List.prefix_refl _) (fun ret hr => ?_)
    obtain ⟨hn, hwire⟩ := hspec.ok ret hr
    rw [List.length_append, hlen] at hn
    by_cases hbig : c.ao - c.so < ret
    · -- the complete header block and some of the body
      rw [if_pos hbig]
      unfold checkWriteDone
      rw [if_neg (by simp only [ne_eq, Decidable.not_not]; omega)]
      refine h.sent hwb.ne_closed (w := o.wire) rfl ?_ h.nofault ?_ nofun nofun nofun
      · show pending r c = o.wire ++ afterHeaders r (ret - (c.ao - c.so))
        rw [hp, hwire, afterHeaders, if_pos hsb, hnc, ← hlen]
        exact (prefix_take_app part r.body ret (by omega)).symm
      · refine ⟨fun _ => by show ret - (c.ao - c.so) ≤ _; omega, hcore.win, fun hk' => (by rw [hk] at hk'; cases hk'), ?_,
          hcore.sfOk, hcore.winChunk, hcore.iovNe, hcore.sfWin⟩
        unfold TotOk
        rw [if_pos (hw.known (Or.inl hk))]
        exact hcore.tot_known (hw.known (Or.inl hk))
    · rw [if_neg hbig]
      refine hsmall ret (by omega) ?_
      rw [hwire, List.take_append_of_le_length (by omega)]

end Mhd.Send
