/-
  C06 — proofs: quiescence (MHD_get_timeout64 says "no timeout" and no watched
  descriptor is ready), histories of a select / poll daemon, and the two-connection
  witness against a traversal that reads `pos->prev` after the handlers ran.
-/
import Mhd.Proofs.LoopInv
namespace Mhd.Loop
open Mhd.Gen.Loop
variable {W : Type}

/-- what the daemon asks the application to watch for one connection -/
def fdStep (acc : Ready) (c : Conn W) : Ready :=
  match c.loc.eli with
  | .read | .processRead => { acc with r := acc.r ++ [c.id], e := acc.e ++ [c.id] }
  | .write => { acc with w := acc.w ++ [c.id], e := acc.e ++ [c.id] }
  | .process => { acc with e := acc.e ++ [c.id] }
  | .cleanup => acc

theorem getFdset_eq (d : Daemon W) (h : d.shutdown = false) : getFdset d = d.conns.reverse.foldl fdStep {} := by
  unfold getFdset
  simp only [h, Bool.false_eq_true, if_false]
  rfl

/-- MHD_get_fdset2 in closed form: the read set and the write set -/
theorem fdFold_eq (l : List (Conn W)) (acc : Ready) :
    (l.foldl fdStep acc).r = acc.r ++ ids (l.filter (·.loc.eli.hasRead)) ∧
    (l.foldl fdStep acc).w = acc.w ++ ids (l.filter (·.loc.eli.isWrite)) := by
  induction l generalizing acc with
  | nil => simp
  | cons x rest ih =>
    rw [List.foldl_cons, (ih _).1, (ih _).2, List.filter_cons, List.filter_cons]
    unfold fdStep
    cases x.loc.eli <;> simp +decide

/-- the daemon says "no timeout" and none of the descriptors it asked to watch is ready -/
def Quiescent (d : Daemon W) (rdy : Ready) : Prop :=
  getTimeout d = .none ∧ (∀ id ∈ (getFdset d).r, rdyR rdy id = false) ∧ (∀ id ∈ (getFdset d).w, rdyW rdy id = false)

theorem getTimeout_none {d : Daemon W} (h : getTimeout d = .none) :
    d.dap = false ∧ d.cleanup = [] ∧ d.resuming = false ∧ d.haveNew = false ∧ d.shutdown = false ∧
    (d.epoll = true → d.eready = []) := by
  unfold getTimeout at h
  by_cases h1 : (d.dap || !d.cleanup.isEmpty || d.resuming || d.haveNew || d.shutdown) = true
  · rw [if_pos h1] at h; cases h
  by_cases h2 : (d.epoll && !d.eready.isEmpty) = true
  · rw [if_neg h1, if_pos h2] at h; cases h
  simp only [Bool.or_eq_true, not_or, Bool.not_eq_true, Bool.not_eq_false', List.isEmpty_iff] at h1
  exact ⟨h1.1.1.1.1, h1.1.1.1.2, h1.1.1.2, h1.1.2, h1.2, fun he => by simpa [he] using h2⟩

/-- **No lost wake-up (select / poll daemon).**  In a quiescent state no active connection
    has work that could proceed: none needs processing, none waits for readability with its
    descriptor readable, none waits for writability with its descriptor writable. -/
theorem no_lost_wakeup_sp {needs : Local W → Bool} {d : Daemon W} (h : InvSP needs d) (rdy : Ready)
    (q : Quiescent d rdy) :
    ∀ c ∈ d.conns, needs c.loc = false ∧ ¬ (c.loc.eli.hasRead = true ∧ rdyR rdy c.id = true) ∧
      ¬ (c.loc.eli.isWrite = true ∧ rdyW rdy c.id = true) := by
  obtain ⟨ht, hr, hw⟩ := q
  obtain ⟨hdap, _, _, _, hsd, _⟩ := getTimeout_none ht
  rw [getFdset_eq d hsd, (fdFold_eq _ _).1] at hr
  rw [getFdset_eq d hsd, (fdFold_eq _ _).2] at hw
  intro c hc
  refine ⟨?_, ?_, ?_⟩
  · cases hn : needs c.loc with
    | false => rfl
    | true =>
      have := h.flag c hc (h.sync c hc hn)
      rw [hdap] at this; cases this
  · rintro ⟨h1, h2⟩
    have := hr c.id (mem_ids (List.mem_filter.mpr ⟨List.mem_reverse.mpr hc, h1⟩))
    rw [h2] at this; cases this
  · rintro ⟨h1, h2⟩
    have := hw c.id (mem_ids (List.mem_filter.mpr ⟨List.mem_reverse.mpr hc, h1⟩))
    rw [h2] at this; cases this

/-- a connection handed to MHD_add_connection: new id, valid socket, nothing read yet -/
def FreshConn (needs : Local W → Bool) (d : Daemon W) (c : Conn W) : Prop :=
  c.id ∉ ids d.conns ∧ c.id ∉ ids d.susp ∧ c.id ∉ ids d.cleanup ∧ c.id ∉ ids d.newc ∧
  c.sockValid = true ∧ c.loc.eli = .read ∧ needs c.loc = false

theorem addConn_nodup {d : Daemon W} {c : Conn W} (h : (ids d.conns ++ ids d.susp ++ ids d.cleanup ++ ids d.newc).Nodup)
    (h1 : c.id ∉ ids d.conns) (h2 : c.id ∉ ids d.susp) (h3 : c.id ∉ ids d.cleanup) (h4 : c.id ∉ ids d.newc) :
    (ids d.conns ++ ids d.susp ++ ids d.cleanup ++ ids (c :: d.newc)).Nodup := by
  rw [ids_cons, List.perm_middle.nodup_iff, List.nodup_cons]
  refine ⟨?_, h⟩
  simp only [List.mem_append, not_or]
  exact ⟨⟨⟨h1, h2⟩, h3⟩, h4⟩

theorem resumeReq_ids (d : Daemon W) (id : CId) : ids (resumeReq d id).susp = ids d.susp := by
  simp only [resumeReq, ids, List.map_map]
  exact List.map_congr_left fun c _ => by simp only [Function.comp, apply_ite Conn.id, ite_self]

theorem addConn_inv {needs : Local W → Bool} {d : Daemon W} (h : InvSP needs d) {c : Conn W}
    (hc : FreshConn needs d c) : InvSP needs (addConn d c) := by
  obtain ⟨h1, h2, h3, h4, h5, h6, h7⟩ := hc
  refine ⟨h.noep, addConn_nodup h.nodup h1 h2 h3 h4, ?_, h.sync, h.flag, ?_, (fun hn => nomatch hn), h.nocleanup, h.fault⟩
  · intro x hx
    have hx' : x ∈ d.conns ∨ x ∈ d.susp ∨ x ∈ c :: d.newc := hx
    rcases hx' with hx' | hx' | hx'
    · exact h.valid x (Or.inl hx')
    · exact h.valid x (Or.inr (Or.inl hx'))
    · rcases List.mem_cons.mp hx' with e | e
      · rw [e]; exact h5
      · exact h.valid x (Or.inr (Or.inr e))
  · intro x hx
    rcases List.mem_cons.mp (show x ∈ c :: d.newc from hx) with e | e
    · rw [e]; exact ⟨h6, h7⟩
    · exact h.fresh x e

theorem resumeReq_inv {needs : Local W → Bool} {d : Daemon W} (h : InvSP needs d) (id : CId) :
    InvSP needs (resumeReq d id) := by
  refine ⟨h.noep, ?_, ?_, h.sync, h.flag, h.fresh, h.newcFlag, h.nocleanup, h.fault⟩
  · show (ids d.conns ++ ids (resumeReq d id).susp ++ ids d.cleanup ++ ids d.newc).Nodup
    rw [resumeReq_ids]; exact h.nodup
  · intro x hx
    have hx' : x ∈ d.conns ∨ x ∈ d.susp.map (fun c => if c.id = id then { c with resuming := true } else c) ∨ x ∈ d.newc := hx
    rcases hx' with hx' | hx' | hx'
    · exact h.valid x (Or.inl hx')
    · obtain ⟨y, hy, rfl⟩ := List.mem_map.mp hx'
      have := h.valid y (Or.inr (Or.inl hy))
      split <;> exact this
    · exact h.valid x (Or.inr (Or.inr hx'))

/-- reachable states of a daemon that runs the select loop (`poll = false`) or the poll loop, both
    with the next pointer saved before the handlers are called -/
inductive Reach (ops : Ops W) (needs : Local W → Bool) (poll : Bool) : Daemon W → Prop where
  | init (allowSuspend : Bool) : Reach ops needs poll { allowSuspend := allowSuspend }
  | add {d : Daemon W} (c : Conn W) : Reach ops needs poll d → FreshConn needs d c → Reach ops needs poll (addConn d c)
  | resume {d : Daemon W} (id : CId) : Reach ops needs poll d → Reach ops needs poll (resumeReq d id)
  | round {d : Daemon W} (rdy : Ready) : Reach ops needs poll d →
      Reach ops needs poll (if poll then pollAllWith ops true d rdy else runFromSelectWith ops true d rdy)

theorem init_inv (needs : Local W → Bool) (a : Bool) : InvSP needs ({ allowSuspend := a } : Daemon W) :=
  ⟨rfl, by simp, by intro c h; simp at h, by intro c h; simp at h, by intro c h; simp at h,
   by intro c h; simp at h, fun _ => rfl, rfl, rfl⟩

namespace Witness

/-- a per-connection step satisfying all laws: reading finds the peer gone and closes;
    idle moves a closed connection to the cleanup list and leaves everything else alone -/
def ops : Ops Unit where
  read := fun _ _ _ l => { l with st := stClosed, eli := .cleanup }
  write := fun _ _ l => l
  idle := fun _ _ wh l => if l.st = stClosed then (l, .cleanup) else (l, wh)
  close := fun _ _ l => l

/-- "needs processing" = waits for the application (content callback not ready) -/
def needs (l : Local Unit) : Bool := l.eli.hasProcess

theorem laws : Laws ops needs where
  idle_sync := by
    intro id k wh l _ hn
    unfold ops at hn ⊢
    simp only [] at hn ⊢
    split <;> simp_all [needs]
  idle_closed := by intro id k l h; simp [ops, h]
  read_force := by intro id k l; rfl
  idle_where := by
    intro id k wh l h
    unfold ops
    simp only []
    split
    · simp
    · exact h

def mkLoc (st : Nat) (e : Eli) : Local Unit := { st := st, eli := e, rdReady := false, wrReady := false, bufSpace := true, w := () }

/-- connection 0 arrived first (tail), waits for its request; connection 1 arrived later (head)
    and waits for its content callback (CHUNKED_BODY_UNREADY, PROCESS); the previous round
    therefore left data_already_pending set -/
def d0 : Daemon Unit :=
  { conns := [{ id := 1, loc := mkLoc 17 .process }, { id := 0, loc := mkLoc stInit .read }], dap := true }

/-- the client of connection 0 closes: its descriptor becomes readable -/
def rdy : Ready := { r := [0], e := [] }

theorem d0_inv : InvSP needs d0 := by
  refine ⟨rfl, by decide, ?_, ?_, ?_, ?_, fun _ => rfl, rfl, rfl⟩
  · intro c hc
    simp only [d0, List.mem_cons, List.not_mem_nil, or_false] at hc
    rcases hc with (rfl | rfl) | h | h <;> first | rfl | (simp at h)
  · intro c hc
    simp only [d0, List.mem_cons, List.not_mem_nil, or_false] at hc
    rcases hc with rfl | rfl <;> intro _ <;> first | rfl | (rename_i h; revert h; decide)
  · intro c _ _; rfl
  · intro c hc; simp [d0] at hc

def after : Daemon Unit := runFromSelectWith ops false d0 rdy

theorem after_conns : after.conns.map (fun c => (c.id, c.loc.st, c.loc.eli)) = [(1, 17, .process)] := by decide
theorem after_flags : after.dap = false ∧ after.cleanup.length = 0 ∧ after.fault = none := by decide
theorem after_log : after.log = [.idle 0, .read 0] := by decide
theorem after_hint : getTimeout after = .none := by decide
theorem after_fdset : getFdset after = { r := [], w := [], e := [1] } := by decide

end Witness
end Mhd.Loop
