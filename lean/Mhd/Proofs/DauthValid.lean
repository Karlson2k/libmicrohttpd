/-
  C12 proofs, §2: `expectedClass … = ok` iff the semantic credential is RFC-valid within the size limits.
-/
import Mhd.Proofs.DauthOk
namespace Mhd.Dauth
open Mhd.Auth Mhd.Gen.Auth Mhd.Gen.Dauth

theorem ext_none_iff {c : Cred} {lv : LenView} (hls : LenSem c lv) : lv kUsernameExt = none ↔ c.ext = none := by
  rw [hls.ext]; cases c.ext <;> simp

/-- what the user-name clause of `specUsername_iff` asks of the presence check -/
theorem presUsername_shape {c : Cred} {lv : LenView} (hls : LenSem c lv) {ds : Nat}
    (h : presUsername ds lv c.userhash = .ok ()) :
    (c.val kUsername = none ∧ c.ext ≠ none ∧ c.userhash = false) ∨ (c.val kUsername ≠ none ∧ c.ext = none) := by
  refine ((presUsername_ok ds lv c.userhash).mp h).1.imp ?_ ?_
  · rintro ⟨hu, ⟨el, he, _⟩, huh⟩
    exact ⟨(hls.none_iff _).mp hu, fun hn => (nomatch he.symm.trans ((ext_none_iff hls).mpr hn)), huh⟩
  · rintro ⟨hu, he⟩
    exact ⟨fun hn => hu ((hls.none_iff _).mpr hn), (ext_none_iff hls).mp he⟩

/-- the values `get_rq_dauth_qop` can produce -/
def QopRange (c : Cred) : Prop := c.qop = qopInvalid ∨ c.qop = qopNone ∨ c.qop = qopAuth ∨ c.qop = qopAuthInt

theorem qop_none_or_auth {call : Call} {c : Cred} (hr : QopRange c) (h : stageQopN call c.qop = .ok ()) :
    (c.qop = qopNone ∨ c.qop = qopAuth) ∧ c.qop = (c.qop &&& call.mqop) := by
  rw [stageQopN_iff] at h
  obtain ⟨h1, h2, h3⟩ := h
  refine ⟨?_, h2⟩
  rcases hr with hr | hr | hr | hr
  · exact absurd hr h1
  · exact Or.inl hr
  · exact Or.inr hr
  · rw [hr] at h3; exact absurd h3 (by decide)

theorem valid_of_ok (cfg : Cfg) (tbl : Mhd.Nonce.Table) (now : Nat) (r : Req) (call : Call) (timeout maxNc : Nat)
    (c : Cred) (lv : LenView) (hls : LenSem c lv) (hr : QopRange c)
    (h : (expectedClass cfg tbl now r call timeout maxNc c lv).2 = .ok) :
    ∃ a nci nonce t, WithinLimits a call c lv ∧ RFCValid cfg tbl now r call timeout maxNc c a nci nonce t := by
  rw [expected_ok_stages] at h
  obtain ⟨a, nci, n, t, hpre, hfresh, hpost⟩ := h
  rw [specPre_ok_iff] at hpre
  obtain ⟨hA, hQ, hP, hR, hU, hNc, hNo⟩ := hpre
  rw [specPost_ok_iff] at hpost
  obtain ⟨uri, hUri, hResp, hBind⟩ := hpost
  obtain ⟨p1, p2, p3, p4, p5, p6⟩ := (presenceV_ok ..).mp hP
  have p3 := (presNcCnonce_ok ..).mp p3
  rw [specUsername_iff a call c (presUsername_shape hls p1)] at hU
  obtain ⟨hUser, hExtLim⟩ := hU
  rw [specUri_iff] at hUri
  obtain ⟨hu1, hu2, hu3⟩ := hUri
  rw [specNonce_iff] at hNo
  obtain ⟨hn1, hn2, hn3, hn4⟩ := hNo
  rw [specResponse_iff] at hResp
  obtain ⟨h1, resp, bin, nonce', mid, hr1, hr2, hr3, hr4, hr5, hr6, hr7, hr8⟩ := hResp
  rw [hn1] at hr6; injection hr6 with hr6; subst hr6
  obtain ⟨hq1, hq2⟩ := qop_none_or_auth hr hQ
  refine ⟨a, nci, n, t, ?_, ?_⟩
  · refine ⟨((presUsername_ok ..).mp p1).2, ((presRealm_ok ..).mp p2).2, fun hq => (p3 hq).1.le, fun hq => (p3 hq).2.le, ?_,
      ((presNonce_ok ..).mp p5).le, ((presResponse_ok ..).mp p6).le, hExtLim⟩
    intro l hl
    rw [hl] at hu2
    exact (noBuffer_false_iff _).mp hu2
  · refine ⟨(stageAlgoN_iff _ _ _).mp hA, ⟨hq1, hq2⟩, hUser, (specRealm_iff _ _).mp hR, ⟨hn1, hn2, hn3, hn4⟩, hfresh,
      ⟨uri, hu1, ((presUri_ok lv).mp p4).val_ne_nil hls hu1, hu3⟩, ?_, ?_⟩
    · refine ⟨uri, mid, h1, resp, bin, hu1, ?_, hr1, hr2, hr4, hr3, hr5, hr8⟩
      rw [specQopPart_iff] at hr7
      rw [specNc_iff] at hNc
      rcases hr7 with ⟨hqn, hmid⟩ | ⟨hqn, nc, cn, q, e1, e2, e3, hmid⟩
      · rcases hNc with ⟨_, hn⟩ | ⟨hqn', _⟩
        · exact Or.inl ⟨hqn, hn, hmid⟩
        · exact absurd hqn hqn'
      · rcases hNc with ⟨hqn', _⟩ | ⟨_, txt, t1, t2, t3, t4, t5⟩
        · exact absurd hqn' hqn
        · rw [e1] at t1; injection t1 with t1; subst t1
          right
          refine ⟨hq1.resolve_left hqn, nc, cn, q, e1, e2, e3, (p3 hqn).2.val_ne_nil hls e2, t3, by omega, t5, hmid⟩
    · intro hb
      rw [specBind_iff] at hBind
      obtain ⟨nn, hnn1, hnn2⟩ := hBind hb
      rw [hn1] at hnn2; injection hnn2 with hnn2; subst hnn2
      exact hnn1

theorem extName_len (e name : Bytes) (h : extName e = some name) : extMinLen ≤ e.length := by
  unfold extName at h
  split at h
  · cases h
  · omega

theorem parseNc_nil : Mhd.Nonce.parseNc [] = none := by decide
theorem hexToBin_nil : hexToBin [] = none := rfl

theorem ok_of_valid (cfg : Cfg) (tbl : Mhd.Nonce.Table) (now : Nat) (r : Req) (call : Call) (timeout maxNc : Nat)
    (c : Cred) (lv : LenView) (hls : LenSem c lv) (a : Algo) (nci : Nat) (nonce : Bytes) (t : Nat)
    (hl : WithinLimits a call c lv) (hv : RFCValid cfg tbl now r call timeout maxNc c a nci nonce t) :
    (expectedClass cfg tbl now r call timeout maxNc c lv).2 = .ok := by
  rw [expected_ok_stages]
  obtain ⟨uri, hu1, hu2, hu3⟩ := hv.uri
  obtain ⟨uri', mid, h1, resp, bin, hr0, hcount, hr1, hr2, hr4, hr3, hr5, hr8⟩ := hv.response
  rw [hu1] at hr0; injection hr0 with hr0; subst hr0
  obtain ⟨hn1, hn2, hn3, hn4⟩ := hv.nonceVal
  have hqne : c.qop ≠ qopInvalid := by rcases hv.qop.1 with h | h <;> rw [h] <;> decide
  have hqai : (c.qop &&& qopAuthInt) = 0 := by rcases hv.qop.1 with h | h <;> rw [h] <;> decide
  have hnne : nonce ≠ [] := by
    intro h; rw [h] at hn2; revert hn2; cases a <;> decide
  have hrne : resp ≠ [] := by intro h; rw [h, hexToBin_nil] at hr4; cases hr4
  have there : ∀ {k v}, c.val k = some v → lv k ≠ none := fun hv h => nomatch hv.symm.trans ((hls.none_iff _).mp h)
  have pU : presUsername a.size lv c.userhash = .ok () := by
    refine (presUsername_ok ..).mpr ⟨?_, hl.userhash⟩
    rcases hv.user with ⟨_, hu, he⟩ | ⟨huh, hu, e, he, hx⟩ | ⟨_, he, u, hu, _⟩
    · exact .inr ⟨there hu, (ext_none_iff hls).mpr he⟩
    · exact .inl ⟨(hls.none_iff _).mpr hu, ⟨e.length, by rw [hls.ext, he]; rfl, extName_len e _ hx⟩, huh⟩
    · exact .inr ⟨there hu, (ext_none_iff hls).mpr he⟩
  have hP : presenceV a call lv c.qop c.userhash = .ok () := by
    refine (presenceV_ok ..).mpr ⟨pU, (presRealm_ok ..).mpr ⟨there hv.realm, hl.realm⟩, (presNcCnonce_ok ..).mpr fun hq => ?_,
      (presUri_ok lv).mpr (.of_val hls hu1 hu2 fun l h => Nat.le_of_succ_le (hl.uri l h)),
      (presNonce_ok ..).mpr (.of_val hls hn1 hnne hl.nonce), (presResponse_ok ..).mpr (.of_val hls hr2 hrne hl.response)⟩
    rcases hcount with ⟨hqn, _⟩ | ⟨_, nc, cn, q, e1, e2, e3, hcn, hp, hpos, _⟩
    · exact absurd hqn hq
    · exact ⟨.of_val hls e1 (fun h => by rw [h, parseNc_nil] at hp; cases hp) (hl.nc hq), .of_val hls e2 hcn (hl.cnonce hq)⟩
  refine ⟨a, nci, nonce, t, ?_, hv.fresh, ?_⟩
  · rw [specPre_ok_iff]
    refine ⟨(stageAlgoN_iff _ _ _).mpr hv.algo, (stageQopN_iff _ _).mpr ⟨hqne, hv.qop.2, hqai⟩, hP,
      (specRealm_iff _ _).mpr hv.realm, (specUsername_iff a call c (presUsername_shape hls pU)).mpr ⟨hv.user, hl.ext⟩, ?_,
      (specNonce_iff _ _ _ _ _ _).mpr ⟨hn1, hn2, hn3, hn4⟩⟩
    rw [specNc_iff]
    rcases hcount with ⟨hqn, hn, _⟩ | ⟨hqa, nc, cn, q, e1, e2, e3, hcn, hp, hpos, hmx, _⟩
    · exact Or.inl ⟨hqn, hn⟩
    · right
      refine ⟨by rw [hqa]; decide, nc, e1, ?_, hp, by omega, hmx⟩
      intro h; rw [h, parseNc_nil] at hp; cases hp
  · rw [specPost_ok_iff]
    refine ⟨uri, (specUri_iff _ _ _ _ _).mpr ⟨hu1, ?_, hu3⟩, ?_, ?_⟩
    · cases hlu : lv kUri with
      | none => exact absurd hlu (there hu1)
      | some lu => exact (noBuffer_false_iff _).mpr (hl.uri lu hlu)
    · rw [specResponse_iff]
      refine ⟨h1, resp, bin, nonce, mid, hr1, hr2, hr3, hr4, hr5, hn1, ?_, hr8⟩
      rw [specQopPart_iff]
      rcases hcount with ⟨hqn, _, hm⟩ | ⟨hqa, nc, cn, q, e1, e2, e3, _, _, _, _, hm⟩
      · exact Or.inl ⟨hqn, hm⟩
      · exact Or.inr ⟨by rw [hqa]; decide, nc, cn, q, e1, e2, e3, hm⟩
    · rw [specBind_iff]
      intro hb
      exact ⟨nonce, hv.bind hb, hn1⟩

/-- C12 §2: success iff RFC-valid (within the documented size limits) -/
theorem expected_ok_iff (cfg : Cfg) (tbl : Mhd.Nonce.Table) (now : Nat) (r : Req) (call : Call) (timeout maxNc : Nat)
    (c : Cred) (lv : LenView) (hls : LenSem c lv) (hr : QopRange c) :
    (expectedClass cfg tbl now r call timeout maxNc c lv).2 = .ok ↔
      ∃ a nci nonce t, WithinLimits a call c lv ∧ RFCValid cfg tbl now r call timeout maxNc c a nci nonce t :=
  ⟨valid_of_ok cfg tbl now r call timeout maxNc c lv hls hr,
   fun ⟨a, nci, nonce, t, hl, hv⟩ => ok_of_valid cfg tbl now r call timeout maxNc c lv hls a nci nonce t hl hv⟩

end Mhd.Dauth
