/-
  C12 proofs, allocation failure (`Mhd.Model.DauthAlloc`: `checkInnerA fails …`, `fails = true` = every `malloc`
  of the check returns NULL).

  One relation, `Sim fails H x y`, is proved stage by stage between the model with the allocator and the model of
  `Mhd.Model.Dauth`, and composed to `checkInnerA_sim`; the `checkInnerA_*` theorems are its instances.  With
  `fails = false` the two models coincide, so all C12 theorems apply; the failing run answers as the succeeding run,
  or stops with `MHD_DAUTH_ERROR` (before `check_nonce_nc`: table untouched; after: same table).
-/
import Mhd.Model.DauthAlloc
import Mhd.Proofs.DauthSafe
import Mhd.Proofs.DauthEx
namespace Mhd.Dauth
open Mhd.Auth Mhd.Gen.Auth Mhd.Gen.Dauth

/-- `x` is a computation of the model with the allocator, `y` the same computation of `Mhd.Model.Dauth`, `H` says that
    one of its buffer requests exceeds the stack buffer.  They agree unless `malloc` fails and is needed, and then `x`
    stops with `MHD_DAUTH_ERROR`; and when `malloc` fails, `x` succeeds only if it was not needed. -/
structure Sim {α : Type} (fails : Bool) (H : Prop) (x y : Except Res α) : Prop where
  rel : x = y ∨ (fails = true ∧ H ∧ x = .error .error)
  small : fails = true → ∀ v, x = .ok v → ¬ H

theorem Sim.same {α : Type} {fails : Bool} {H : Prop} {x : Except Res α} (h : ∀ v, x = .ok v → ¬ H) : Sim fails H x x :=
  ⟨Or.inl rfl, fun _ => h⟩

theorem Sim.error {α : Type} {fails : Bool} {H : Prop} {e : Res} : Sim fails H (.error e : Except Res α) (.error e) :=
  .same fun _ h => by cases h

theorem Sim.bind {α β : Type} {fails : Bool} {H₁ H₂ : Prop} {x y : Except Res α} {f g : α → Except Res β}
    (h : Sim fails H₁ x y) (hf : ∀ a, Sim fails H₂ (f a) (g a)) : Sim fails (H₁ ∨ H₂) (x >>= f) (y >>= g) := by
  constructor
  · rcases h.rel with rfl | ⟨hf', h1, rfl⟩
    · cases x with
      | error e => exact Or.inl rfl
      | ok a =>
        rcases (hf a).rel with e | ⟨hf', h2, e⟩
        · exact Or.inl e
        · exact Or.inr ⟨hf', Or.inr h2, e⟩
    · exact Or.inr ⟨hf', Or.inl h1, rfl⟩
  · intro hf' v hv
    cases x with
    | error e => cases hv
    | ok a => exact fun hh => hh.elim (h.small hf' a rfl) ((hf a).small hf' v hv)

theorem Sim.bind_left {α β : Type} {fails : Bool} {H : Prop} {x y : Except Res α} (h : Sim fails H x y)
    (f : α → Except Res β) : Sim fails H (x >>= f) (y >>= f) := by
  constructor
  · rcases h.rel with rfl | ⟨hf', h1, rfl⟩
    · exact Or.inl rfl
    · exact Or.inr ⟨hf', h1, rfl⟩
  · intro hf' v hv
    cases x with
    | error e => cases hv
    | ok a => exact h.small hf' a rfl

theorem Sim.bind_right {α β : Type} {fails : Bool} {H : Prop} (x : Except Res α) {f g : α → Except Res β}
    (hf : ∀ a, Sim fails H (f a) (g a)) : Sim fails H (x >>= f) (x >>= g) := by
  cases x with
  | error e => exact .error
  | ok a => exact hf a

theorem Sim.need {β : Type} {fails : Bool} {H : Prop} (o : Option Param) {f g : Param → Except Res β}
    (hf : ∀ p, o = some p → Sim fails H (f p) (g p)) : Sim fails H (need o >>= f) (need o >>= g) := by
  cases o with
  | none => exact .error
  | some p => exact hf p rfl

theorem Sim.ite {α : Type} {fails : Bool} {H : Prop} {c : Prop} [Decidable c] {x y z : Except Res α}
    (h : c → Sim fails H x y) : Sim fails (c ∧ H) (if c then x else z) (if c then y else z) := by
  by_cases hc : c
  · rw [if_pos hc, if_pos hc]
    exact ⟨(h hc).rel.imp_right fun ⟨a, b, e⟩ => ⟨a, ⟨hc, b⟩, e⟩, fun hf v hv hh => (h hc).small hf v hv hh.2⟩
  · rw [if_neg hc, if_neg hc]
    exact .same fun _ _ hh => hc hh.1

theorem sim_buffer {α : Type} (fails : Bool) (n : Nat) (ex : Except Res α) (ry : Res) (k : Except Res α)
    (h1 : maxParam < n → ex = .error ry) (h2 : ¬ maxParam < n → ex = .error .error) :
    Sim fails (tmp1Size < n) (if noBufferA fails n then ex else k) (if noBuffer n then .error ry else k) := by
  by_cases ht : tmp1Size < n
  · by_cases hm : maxParam < n
    · have ea : noBufferA fails n = true := by simp [noBufferA, ht, hm]
      have eb : noBuffer n = true := by simp [noBuffer, ht, hm]
      rw [ea, eb, if_pos rfl, if_pos rfl, h1 hm]
      exact .error
    · have eb : noBuffer n = false := by simp [noBuffer, hm]
      cases fails with
      | false =>
        have ea : noBufferA false n = false := by simp [noBufferA, hm]
        rw [ea, eb]
        exact ⟨Or.inl rfl, fun h => by cases h⟩
      | true =>
        have ea : noBufferA true n = true := by simp [noBufferA, ht]
        rw [ea, eb, if_pos rfl, h2 hm]
        exact ⟨Or.inr ⟨rfl, ht, rfl⟩, fun _ v h => by cases h⟩
  · have ea : noBufferA fails n = false := by simp [noBufferA, ht]
    have eb : noBuffer n = false := by simp [noBuffer, ht]
    rw [ea, eb]
    exact ⟨Or.inl rfl, fun _ _ _ => ht⟩

theorem getUnqA_sim (fails : Bool) (p : Param) : Sim fails (tmp1Size < reqOf (some p)) (getUnqA fails p) (getUnq p) := by
  unfold getUnqA getUnq
  cases hq : p.quoted with
  | false => exact .same fun _ _ => by simp [reqOf, hq]
  | true =>
    have e : reqOf (some p) = p.raw.length := by simp [reqOf, hq]
    rw [e]
    exact sim_buffer fails _ _ _ _ (fun _ => rfl) (fun _ => rfl)

theorem stageUsernameA_sim (fails : Bool) (a : Algo) (call : Call) (d : DAuth) :
    Sim fails (tmp1Size < reqExt d) (stageUsernameA fails a call d) (stageUsername a call d) := by
  unfold stageUsernameA stageUsername
  by_cases hu : (!d.userhash) = true
  · rw [if_pos hu, if_pos hu]
    cases hs : d.slots kUsername with
    | some u => exact .same fun _ _ => by simp [reqExt, hs]
    | none =>
      refine Sim.need _ fun e he => ?_
      have e' : reqExt d = e.raw.length + 1 - extMinLen := by simp [reqExt, hu, hs, he]
      rw [e']
      exact sim_buffer fails _ _ _ _ (fun h => if_pos h) (fun h => if_neg h)
  · rw [if_neg hu, if_neg hu]
    exact .same fun _ _ => by simp [reqExt, hu]

theorem stageNcA_sim (fails : Bool) (m : Nat) (d : DAuth) :
    Sim fails (d.qop ≠ qopNone ∧ tmp1Size < reqOf (d.slots kNc)) (stageNcA fails m d) (stageNc m d) := by
  unfold stageNcA stageNc
  exact Sim.ite fun _ => Sim.need _ fun p hp => hp ▸ (getUnqA_sim fails p).bind_left _

theorem stageNonceA_sim (fails : Bool) (a : Algo) (now t : Nat) (d : DAuth) :
    Sim fails (tmp1Size < reqOf (d.slots kNonce)) (stageNonceA fails a now t d) (stageNonce a now t d) := by
  unfold stageNonceA stageNonce
  exact Sim.need _ fun p hp => hp ▸ (getUnqA_sim fails p).bind_left _

/-- a buffer request of the stages before `check_nonce_nc` exceeds the stack buffer -/
def PreHeap (d : DAuth) : Prop :=
  tmp1Size < reqExt d ∨ (d.qop ≠ qopNone ∧ tmp1Size < reqOf (d.slots kNc)) ∨ tmp1Size < reqOf (d.slots kNonce)

theorem stagePreA_sim (fails : Bool) (now t m : Nat) (call : Call) (d : DAuth) :
    Sim fails (PreHeap d) (stagePreA fails now t m call d) (stagePre now t m call d) := by
  unfold stagePreA stagePre
  exact Sim.bind_right _ fun a => Sim.bind_right _ fun _ => Sim.bind_right _ fun _ => Sim.bind_right _ fun _ =>
    (stageUsernameA_sim fails a call d).bind fun _ => (stageNcA_sim fails m d).bind fun _ =>
    (stageNonceA_sim fails a now t d).bind_left _

theorem stageUriA_sim (fails : Bool) (cfg : Cfg) (r : Req) (d : DAuth) :
    Sim fails (tmp1Size < reqCopy (d.slots kUri)) (stageUriA fails cfg r d) (stageUri cfg r d) := by
  unfold stageUriA stageUri
  exact Sim.need _ fun p hp => hp ▸ sim_buffer fails _ _ _ _ (fun _ => rfl) (fun _ => rfl)

theorem needUnqA_sim (fails : Bool) (o : Option Param) :
    Sim fails (tmp1Size < reqOf o) ((need o).bind (getUnqA fails)) ((need o).bind getUnq) :=
  Sim.need o fun p hp => hp ▸ getUnqA_sim fails p

/-- a buffer request of `qopPart` exceeds the stack buffer -/
def QopHeap (d : DAuth) : Prop :=
  d.qop ≠ qopNone ∧
    (tmp1Size < reqOf (d.slots kNc) ∨ tmp1Size < reqOf (d.slots kCnonce) ∨ tmp1Size < reqOf (d.slots kQop))

theorem qopPartA_sim (fails : Bool) (d : DAuth) : Sim fails (QopHeap d) (qopPartA fails d) (qopPart d) := by
  unfold qopPartA qopPart
  exact Sim.ite fun _ => (needUnqA_sim fails _).bind fun _ => (needUnqA_sim fails _).bind fun _ =>
    (needUnqA_sim fails _).bind_left _

theorem stageResponseA_sim (fails : Bool) (a : Algo) (r : Req) (call : Call) (d : DAuth) (uri : Bytes) :
    Sim fails (tmp1Size < reqOf (d.slots kResponse) ∨ tmp1Size < reqOf (d.slots kNonce) ∨ QopHeap d)
      (stageResponseA fails a r call d uri) (stageResponse a r call d uri) := by
  unfold stageResponseA stageResponse
  refine Sim.bind_right _ fun h1 => Sim.need _ fun rp hrp => hrp ▸ (getUnqA_sim fails rp).bind fun resp => ?_
  by_cases c1 : a.size * 2 < resp.length
  · simp only [c1, if_true]; exact .error
  · simp only [c1, if_false]
    by_cases c2 : maxDigest < (resp.length + 1) / 2
    · simp only [c2, if_true]; exact .error
    · simp only [c2, if_false]
      cases hexToBin resp with
      | none => exact .error
      | some bin =>
        simp only
        by_cases c3 : bin.length ≠ a.size
        · rw [if_pos c3, if_pos c3]; exact .error
        · rw [if_neg c3, if_neg c3]
          exact Sim.need _ fun np hnp => hnp ▸ (getUnqA_sim fails np).bind fun _ => (qopPartA_sim fails d).bind_left _

/-- a buffer request of the stages after `check_nonce_nc` exceeds the stack buffer -/
def PostHeap (d : DAuth) : Prop :=
  tmp1Size < reqCopy (d.slots kUri) ∨
    (tmp1Size < reqOf (d.slots kResponse) ∨ tmp1Size < reqOf (d.slots kNonce) ∨ QopHeap d)

theorem stagePostA_sim (fails : Bool) (cfg : Cfg) (r : Req) (call : Call) (d : DAuth) (a : Algo) (t : Nat) :
    Sim fails (PostHeap d)
      (do let uri ← stageUriA fails cfg r d
          stageResponseA fails a r call d uri
          stageBind cfg a r call d t : Except Res Unit)
      (do let uri ← stageUri cfg r d
          stageResponse a r call d uri
          stageBind cfg a r call d t : Except Res Unit) :=
  (stageUriA_sim fails cfg r d).bind fun uri => (stageResponseA_sim fails a r call d uri).bind_left _

theorem needsHeap_iff (d : DAuth) : needsHeap d = true ↔ PreHeap d ∨ PostHeap d := by
  unfold needsHeap heapRequests PreHeap PostHeap QopHeap
  by_cases hq : d.qop ≠ qopNone
  · rw [if_pos hq, if_pos hq]
    simp only [List.any_append, List.any_cons, List.any_nil, Bool.or_false, Bool.or_eq_true, decide_eq_true_eq]
    omega
  · rw [if_neg hq, if_neg hq]
    simp only [List.any_append, List.any_cons, List.any_nil, Bool.or_false, Bool.or_eq_true, decide_eq_true_eq]
    omega

theorem checkInnerA_sim (fails : Bool) (cfg : Cfg) (tbl : Mhd.Nonce.Table) (now : Nat) (r : Req) (call : Call)
    (timeout maxNc : Nat) (d : DAuth) :
    (checkInnerA fails cfg tbl now r call timeout maxNc (some d) = checkInner cfg tbl now r call timeout maxNc (some d) ∨
      fails = true ∧ needsHeap d = true ∧
        (checkInnerA fails cfg tbl now r call timeout maxNc (some d) = (tbl, .error) ∨
          checkInnerA fails cfg tbl now r call timeout maxNc (some d) =
            ((checkInner cfg tbl now r call timeout maxNc (some d)).1, .error))) ∧
    (fails = true → (checkInnerA fails cfg tbl now r call timeout maxNc (some d)).2 = .ok → needsHeap d = false) := by
  have hpre := stagePreA_sim fails now timeout maxNc call d
  unfold checkInnerA checkInner
  simp only
  rcases hpre.rel with e | ⟨hf, hH, e⟩
  · cases hS : stagePre now timeout maxNc call d with
    | error e' =>
      rw [hS] at e; rw [e]
      exact ⟨Or.inl rfl, fun _ h => absurd h (stagePre_err _ _ _ _ _ (stageAlgoN_nook _ _) (fun _ h => h.1) e' hS)⟩
    | ok x =>
      obtain ⟨a, nci, n, t⟩ := x
      rw [hS] at e; rw [e]
      simp only
      cases hc : (Mhd.Nonce.checkNonceNc tbl n t nci).2 with
      | ok =>
        simp only
        have hpost := stagePostA_sim fails cfg r call d a t
        unfold stagePostA stagePost
        rcases hpost.rel with e2 | ⟨hf, hH, e2⟩
        · rw [e2]
          refine ⟨Or.inl rfl, fun hf h => ?_⟩
          cases hB : (do
              let uri ← stageUri cfg r d
              stageResponse a r call d uri
              stageBind cfg a r call d t : Except Res Unit) with
          | error e' => rw [hB] at h; exact absurd h (stagePost_err cfg r call d a t e' hB).1
          | ok u =>
            exact eq_false_of_ne_true fun hn => ((needsHeap_iff d).mp hn).elim
              (hpre.small hf _ e) (hpost.small hf u (e2.trans hB))
        · rw [e2]
          exact ⟨Or.inr ⟨hf, (needsHeap_iff d).mpr (Or.inr hH), Or.inr rfl⟩, fun _ h => by cases h⟩
      | stale => exact ⟨Or.inl rfl, fun _ h => by cases h⟩
      | wrong => exact ⟨Or.inl rfl, fun _ h => by cases h⟩
      | fault => exact ⟨Or.inl rfl, fun _ h => by cases h⟩
  · rw [e]
    exact ⟨Or.inr ⟨hf, (needsHeap_iff d).mpr (Or.inl hH), Or.inl rfl⟩, fun _ h => by cases h⟩


theorem checkInnerA_false (cfg : Cfg) (tbl : Mhd.Nonce.Table) (now : Nat) (r : Req) (call : Call) (timeout maxNc : Nat)
    (p : Option DAuth) : checkInnerA false cfg tbl now r call timeout maxNc p = checkInner cfg tbl now r call timeout maxNc p := by
  cases p with
  | none => rfl
  | some d => exact (checkInnerA_sim false cfg tbl now r call timeout maxNc d).1.resolve_right fun h => by cases h.1

theorem checkAllA_false (cfg : Cfg) (tbl : Mhd.Nonce.Table) (now : Nat) (r : Req) (call : Call) :
    checkAllA false cfg tbl now r call = checkAll cfg tbl now r call := by
  simp only [checkAllA, checkAll, checkInnerA_false] <;> rfl

theorem digestCheckA_false (cfg : Cfg) (tbl : Mhd.Nonce.Table) (now : Nat) (r : Req) (call : Call) :
    digestCheckA false cfg tbl now r call = digestCheck cfg tbl now r call := by
  simp only [digestCheckA, digestCheck, checkAllA_false] <;> rfl

theorem legacyCheckA_false (cfg : Cfg) (tbl : Mhd.Nonce.Table) (now : Nat) (r : Req) (realm username : Bytes) (secret : Secret)
    (nonceTimeout algo : Nat) :
    legacyCheckA false cfg tbl now r realm username secret nonceTimeout algo =
      legacyCheck cfg tbl now r realm username secret nonceTimeout algo := by
  simp only [legacyCheckA, legacyCheck, digestCheckA_false] <;> rfl

theorem checkInnerA_true_cases (cfg : Cfg) (tbl : Mhd.Nonce.Table) (now : Nat) (r : Req) (call : Call) (timeout maxNc : Nat)
    (p : Option DAuth) :
    checkInnerA true cfg tbl now r call timeout maxNc p = checkInner cfg tbl now r call timeout maxNc p
    ∨ checkInnerA true cfg tbl now r call timeout maxNc p = (tbl, .error)
    ∨ checkInnerA true cfg tbl now r call timeout maxNc p = ((checkInner cfg tbl now r call timeout maxNc p).1, .error) := by
  cases p with
  | none => exact Or.inl rfl
  | some d => exact (checkInnerA_sim true cfg tbl now r call timeout maxNc d).1.imp_right fun h => h.2.2

theorem checkInnerA_true_class (cfg : Cfg) (tbl : Mhd.Nonce.Table) (now : Nat) (r : Req) (call : Call) (timeout maxNc : Nat)
    (p : Option DAuth) :
    (checkInnerA true cfg tbl now r call timeout maxNc p).2 = (checkInner cfg tbl now r call timeout maxNc p).2
    ∨ (checkInnerA true cfg tbl now r call timeout maxNc p).2 = .error := by
  rcases checkInnerA_true_cases cfg tbl now r call timeout maxNc p with h | h | h
  · exact Or.inl (by rw [h])
  · exact Or.inr (by rw [h])
  · exact Or.inr (by rw [h])

theorem checkInnerA_no_overflow (fails : Bool) (cfg : Cfg) (tbl : Mhd.Nonce.Table) (now : Nat) (r : Req) (call : Call)
    (timeout maxNc : Nat) (p : Option DAuth) : ¬ Overflow (checkInnerA fails cfg tbl now r call timeout maxNc p).2 := by
  cases fails with
  | false => rw [checkInnerA_false]; exact checkInner_no_overflow _ _ _ _ _ _ _ _
  | true =>
    rcases checkInnerA_true_class cfg tbl now r call timeout maxNc p with h | h
    · rw [h]; exact checkInner_no_overflow _ _ _ _ _ _ _ _
    · rw [h]; simp [Overflow]

theorem checkAllA_true_class (cfg : Cfg) (tbl : Mhd.Nonce.Table) (now : Nat) (r : Req) (call : Call) :
    (checkAllA true cfg tbl now r call).2 = (checkAll cfg tbl now r call).2 ∨ (checkAllA true cfg tbl now r call).2 = .error := by
  unfold checkAllA checkAll
  simp only
  cases getParams r with
  | error e => exact Or.inl rfl
  | ok params => exact checkInnerA_true_class _ _ _ _ _ _ _ _

theorem digestCheckA_true_class (cfg : Cfg) (tbl : Mhd.Nonce.Table) (now : Nat) (r : Req) (call : Call) :
    (digestCheckA true cfg tbl now r call).2 = (digestCheck cfg tbl now r call).2
    ∨ (digestCheckA true cfg tbl now r call).2 = .error := by
  unfold digestCheckA digestCheck
  cases call.secret with
  | password _ => exact checkAllA_true_class _ _ _ _ _
  | userdigest dg =>
    simp only
    by_cases h1 : bit call.malgo3 baseMd5 + bit call.malgo3 baseSha256 + bit call.malgo3 baseSha512 ≠ 1
    · rw [if_pos h1, if_pos h1]; exact Or.inl rfl
    · rw [if_neg h1, if_neg h1]
      by_cases h2 : hashSizeOf call.malgo3 ≠ dg.length
      · rw [if_pos h2, if_pos h2]; exact Or.inl rfl
      · rw [if_neg h2, if_neg h2]; exact checkAllA_true_class _ _ _ _ _

theorem legacyCheckA_true_class (cfg : Cfg) (tbl : Mhd.Nonce.Table) (now : Nat) (r : Req) (realm username : Bytes)
    (secret : Secret) (nonceTimeout algo : Nat) :
    (legacyCheckA true cfg tbl now r realm username secret nonceTimeout algo).2 =
        (legacyCheck cfg tbl now r realm username secret nonceTimeout algo).2
    ∨ (legacyCheckA true cfg tbl now r realm username secret nonceTimeout algo).2 = .no := by
  unfold legacyCheckA legacyCheck
  cases legacyMalgo algo with
  | none => exact Or.inl rfl
  | some m =>
    simp only
    rcases digestCheckA_true_class cfg tbl now r ⟨realm, username, secret, nonceTimeout, 0, mqopAuth, m⟩ with h | h
    · rw [h]; exact Or.inl rfl
    · rw [h]; exact Or.inr rfl


theorem checkInnerA_true_ok_small (cfg : Cfg) (tbl : Mhd.Nonce.Table) (now : Nat) (r : Req) (call : Call) (timeout maxNc : Nat)
    (d : DAuth) (h : (checkInnerA true cfg tbl now r call timeout maxNc (some d)).2 = .ok) : needsHeap d = false :=
  (checkInnerA_sim true cfg tbl now r call timeout maxNc d).2 rfl h

/-! a concrete accepted credential that needs the heap (non-vacuity): the credential of `Ex` for a request
    whose path has 130 bytes; `uri` is sent as it is, the copy needs 131 bytes -/
namespace ExA
def path : Bytes := 47 :: List.replicate 129 97
def req : Req := { Ex.req with url := path, args := [] }
def respBin : Bytes := rfcResponse .md5 Ex.h1 Ex.nonce Ex.mid path req.method
def vals (k : Nat) : Option Bytes :=
  if k = kUri then some path else if k = kResponse then some (binToHex respBin) else Ex.cred.val k
def d : DAuth :=
  { slots := fun k => (vals k).map fun v => ⟨0, v, false⟩, userhash := false, algo3 := algoMd5, qop := qopAuth }

theorem respBin_len : respBin.length = 16 := md5_len _

theorem wq : WQ d := by
  intro k p hp hq
  simp only [d] at hp
  cases hv : vals k with
  | none => rw [hv] at hp; cases hp
  | some v => rw [hv] at hp; simp only [Option.map_some, Option.some.injEq] at hp; subst hp; cases hq

theorem qp : QopParsed d := by unfold QopParsed; decide

theorem valid : RFCValid Ex.cfg Ex.tbl 6000 req Ex.call 90 1000 (semOf d) .md5 10 Ex.nonce 5000 where
  algo := by decide
  qop := by decide
  user := Or.inl ⟨rfl, rfl, rfl⟩
  realm := rfl
  nonceVal := ⟨rfl, by decide, by decide, by decide⟩
  fresh := by decide +kernel
  uri := ⟨path, rfl, by decide, by decide +kernel⟩
  response := ⟨path, Ex.mid, Ex.h1, binToHex respBin, respBin, rfl,
    Or.inr ⟨rfl, ([48, 48, 48, 48, 48, 48, 48, 65] : Bytes), ([99, 110] : Bytes), ([97, 117, 116, 104] : Bytes), rfl, rfl, rfl, by decide, by decide, by decide, Or.inr (by decide), rfl⟩,
    rfl, rfl,
    hexToBin_binToHex _ (by intro h; have := respBin_len; rw [h] at this; cases this),
    by rw [binToHex_length, respBin_len]; decide, respBin_len, rfl⟩
  bind := fun h => absurd rfl h

theorem limits : WithinLimits .md5 Ex.call (semOf d) (lenView d) where
  userhash := fun h => by cases h
  realm := fun _ l hl => by have e : lenView d kRealm = some 4 := rfl; rw [e] at hl; cases hl; decide
  nc := fun _ l hl => by have e : lenView d kNc = some 8 := rfl; rw [e] at hl; cases hl; decide
  cnonce := fun _ l hl => by have e : lenView d kCnonce = some 2 := rfl; rw [e] at hl; cases hl; decide
  uri := fun l hl => by have e : lenView d kUri = some 130 := rfl; rw [e] at hl; cases hl; decide
  nonce := fun l hl => by have e : lenView d kNonce = some 44 := rfl; rw [e] at hl; cases hl; decide
  response := fun l hl => by
    have e : lenView d kResponse = some (binToHex respBin).length := rfl
    rw [e, binToHex_length, respBin_len] at hl; cases hl; decide
  ext := fun e he => by cases he

theorem accepted : (checkInner Ex.cfg Ex.tbl 6000 req Ex.call 90 1000 (some d)).2 = .ok := by
  rw [checkInner_sem _ _ _ _ _ _ _ d wq qp]
  exact ok_of_valid _ _ _ _ _ _ _ _ _ (lenSem_semOf d wq) .md5 10 Ex.nonce 5000 limits valid

theorem needs : needsHeap d = true := by decide +kernel
end ExA

/-! two more concrete credentials: a quoted `cnonce` of 200 bytes, a 130-byte `uri` alone -/
namespace ExB
def dCn : DAuth :=
  { slots := fun k => if k = kCnonce then some ⟨0, 92 :: List.replicate 199 99, true⟩
                      else if k = kNc ∨ k = kQop then some ⟨0, [49], false⟩ else none,
    userhash := false, algo3 := algoMd5, qop := qopAuth }
def dUri : DAuth :=
  { slots := fun k => if k = kUri then some ⟨0, ExA.path, false⟩ else none, userhash := false, algo3 := algoMd5, qop := qopAuth }
end ExB

end Mhd.Dauth
