/-
  C05 — upload accounting: the invariant `UInv` of the connection record holds over every event sequence,
  independently of the refinement relation and without a hypothesis on the environment.
-/
import Mhd.Proofs.ConnSMOps
namespace Mhd.ConnSM
open Mhd.Gen.ConnState Mhd.Protocol

/-- upload accounting of the request in progress:
    * before the handler has been called nothing has been taken;
    * from HEADERS_PROCESSED to FULL_REPLY_SENT, for a request with Content-Length whose upload has not been
      discarded (early response, error): bytes taken by the application + bytes still to come = Content-Length;
    * from BODY_RECEIVED on nothing remains, unless the upload has been discarded -/
def UInv {σ} (c : Conn σ) : Prop :=
  (c.state.toNat ≤ 4 → c.upOff = 0) ∧
  (5 ≤ c.state.toNat → c.state.toNat ≤ 21 → c.haveChunked = false → c.discard = false →
     c.upOff + c.remaining = frameLen c.framing) ∧
  (8 ≤ c.state.toNat → c.state.toNat ≤ 21 → c.discard = false → c.remaining = 0)

/-- out of the scope of the accounting: closed / upgraded, or the rest of the upload is discarded -/
def Safe {σ} (c : Conn σ) : Prop := 22 ≤ c.state.toNat ∨ (c.discard = true ∧ 5 ≤ c.state.toNat)

theorem Safe.uinv {σ} {c : Conn σ} (h : Safe c) : UInv c := by
  unfold UInv
  rcases h with h | ⟨h1, h2⟩
  · refine ⟨fun _ => ?_, fun _ _ => ?_, fun _ _ => ?_⟩ <;> omega
  · refine ⟨fun _ => ?_, fun _ _ _ hd => ?_, fun _ _ hd => ?_⟩
    · omega
    · rw [h1] at hd; cases hd
    · rw [h1] at hd; cases hd

theorem UInv.congr {σ} {c c2 : Conn σ} (h : UInv c) (e1 : c2.state = c.state := by rfl)
    (e2 : c2.upOff = c.upOff := by rfl) (e3 : c2.remaining = c.remaining := by rfl)
    (e4 : c2.framing = c.framing := by rfl) (e5 : c2.haveChunked = c.haveChunked := by rfl)
    (e6 : c2.discard = c.discard := by rfl) : UInv c2 := by
  unfold UInv at h ⊢
  rw [e1, e2, e3, e4, e5, e6]; exact h

theorem Safe.past {σ} {c : Conn σ} (s : CState) (e : c.state = s) (hs : 22 ≤ s.toNat) : Safe c :=
  .inl (e ▸ hs)

theorem Safe.discarded {σ} {c : Conn σ} (s : CState) (e : c.state = s) (hs : 5 ≤ s.toNat) (hd : c.discard = true) :
    Safe c :=
  .inr ⟨hd, e ▸ hs⟩

theorem UInv.low {σ} {c : Conn σ} (s : CState) (e : c.state = s) (hs : s.toNat ≤ 4) (hu : c.upOff = 0) : UInv c := by
  unfold UInv
  rw [e]
  exact ⟨fun _ => hu, fun x => absurd x (by omega), fun x => absurd x (by omega)⟩

/-- the first two clauses of the accounting hold in `s'` if they hold in `s` -/
abbrev Covers (s s' : CState) : Prop :=
  (s'.toNat ≤ 4 → s.toNat ≤ 4) ∧ (5 ≤ s'.toNat → s'.toNat ≤ 21 → 5 ≤ s.toNat ∧ s.toNat ≤ 21)

/-- the last clause of the accounting holds in `s'` if it holds in `s` -/
abbrev CoversDone (s s' : CState) : Prop := 8 ≤ s'.toNat → s'.toNat ≤ 21 → 8 ≤ s.toNat ∧ s.toNat ≤ 21

/-- `h2`: into BODY_RECEIVED … FULL_REPLY_SENT from an earlier state only once nothing remains. -/
theorem UInv.restate {σ} {c c2 : Conn σ} {s : CState} (h : UInv c) (hs : c.state = s) (s' : CState)
    (h1 : Covers s s') (h2 : c.remaining = 0 ∨ CoversDone s s' := by exact .inr (by decide))
    (hs' : c2.state = s' := by rfl) (e2 : c2.upOff = c.upOff := by rfl) (e3 : c2.remaining = c.remaining := by rfl)
    (e4 : c2.framing = c.framing := by rfl) (e5 : c2.haveChunked = c.haveChunked := by rfl)
    (e6 : c2.discard = c.discard := by rfl) : UInv c2 := by
  unfold UInv at h ⊢
  rw [e2, e3, e4, e5, e6, hs']
  rw [hs] at h
  refine ⟨fun a => h.1 (h1.1 a), fun a b => h.2.1 (h1.2 a b).1 (h1.2 a b).2, fun a b d => ?_⟩
  rcases h2 with h2 | h2
  · exact h2
  · exact h.2.2 (h2 a b).1 (h2 a b).2 d

theorem closeConn_safe {σ} (c : Conn σ) (code : Nat) : Safe (closeConn c code).1 :=
  .past _ (closeConn_state c code) (by decide)

theorem closeError_safe {σ} (c : Conn σ) : Safe (closeError c).1 := closeConn_safe _ _

theorem transmitError_safe {σ} (cfg : Cfg) (env : IdleEnv) (c : Conn σ) : Safe (transmitError cfg env c).1 := by
  rcases transmitError_out cfg env c with e | e | e
  · exact .past _ e (by decide)
  · exact .discarded _ e.1 (by decide) e.2
  · exact .past _ e.2 (by decide)

theorem UInv.acct {σ} {c c' : Conn σ} (h : UInv c) (ha : Acct c c' 0) : UInv c' := by
  obtain ⟨a1, -, -, -, a5, a6, a7 | a7⟩ := ha
  · exact h.congr a7.1 a6 a7.2.1 a5 a1 a7.2.2
  · exact (Safe.discarded _ a7.2.1 (by decide) a7.2.2).uinv

theorem queueResponse_uinv {σ} (env : IdleEnv) (c : Conn σ) (r : Resp) (h : UInv c) : UInv (queueResponse env c r).1 :=
  h.acct (queueResponse_acct env c r)

theorem callConnectionHandler_uinv {σ} (cfg : Cfg) (app : App σ) (env : IdleEnv) (c : Conn σ) (site : Site) (h : UInv c) :
    UInv (callConnectionHandler cfg app env c site).1 := by
  rcases callConnectionHandler_acct cfg app env c site with e | e
  · exact (Safe.past _ e (by decide)).uinv
  · exact h.acct e

theorem BodyRun.uinv {σ} {cfg : Cfg} {app : App σ} {env : IdleEnv} {c : Conn σ} {o : Out σ} (r : BodyRun cfg app env c o)
    (hst : c.state = .bodyReceiving) (h : UInv c) : UInv o.1 := by
  induction r with
  | @upload c k c1 l taken o _ _ _ ha hle _ ih =>
    -- the bytes taken, at most `remaining` of them, move from `remaining` to `upOff`
    obtain ⟨hs1, b2, b3⟩ := ha.body hst
    obtain ⟨a1, -, -, -, a5, a6, -⟩ := ha
    refine ih hs1 ⟨fun x => absurd x (by rw [hs1]; decide), fun _ _ hch hd => ?_, fun x => absurd x (by rw [hs1]; decide)⟩
    have hch : c.haveChunked = false := a1 ▸ (afterUpload_frame c1 taken).2.1 ▸ hch
    unfold afterUpload at hd ⊢
    rw [if_neg (by rw [a1, hch]; decide)] at hd ⊢
    have hacc := h.2.1 (by rw [hst]; decide) (by rw [hst]; decide) hch (b3 ▸ hd)
    have hle : taken ≤ c.remaining := by
      unfold bodyOffer at hle; rw [if_neg (by rw [hch]; decide)] at hle
      exact Nat.le_trans hle (Nat.min_le_left _ _)
    show c1.upOff + (c1.remaining - taken) = frameLen c1.framing
    rw [a6, b2, a5]; omega
  | chunkEnd _ _ ih | chunkHdr _ _ _ ih => exact ih hst h.congr
  | stop => exact h.congr
  | last hc =>
    -- the last chunk: only chunked framing gets here, and its accounting is not in `UInv`
    exact ⟨fun x => h.1 x, fun _ _ x => absurd (hc.1.symm.trans x) (by decide), fun _ _ _ => rfl⟩
  | err => exact (transmitError_safe _ _ _).uinv
  | fail => exact (closeError_safe _).uinv

theorem connectionReset_uinv {σ} (c : Conn σ) (reuse : Bool) : UInv (connectionReset c reuse).1 := by
  rw [connectionReset_fst]
  cases reuse
  · exact (Safe.past .closed rfl (by decide)).uinv
  · exact .low .init rfl (by decide) rfl

theorem cleanupConnection_uinv {σ} (c : Conn σ) (h : UInv c) : UInv (cleanupConnection c).1 := by
  rw [cleanupConnection_fst]
  split
  · exact h
  · exact h.congr

section
variable {σ : Type} {cfg : Cfg} {app : App σ} {env : IdleEnv} {c c0 : Conn σ} {l0 : List LEv}

theorem Mid.uinv (m : Mid cfg app env c c0 l0) (h : UInv c) : UInv c0 := by
  cases m with
  | start => exact h
  | uri hlow => exact .low .reqLineReceived rfl (by decide) (h.1 (by omega))
  | final => exact callConnectionHandler_uinv cfg app env c .final h
  | body hst => exact (processBody_run cfg app env _ _ c).uinv hst h

theorem IdleStep.uinv {r} (st : IdleStep cfg app env c r) (h : UInv c) : UInv r.1 := by
  have mv : ∀ m ∈ idleMoves, Covers m.1 m.2.1 ∧ (m.2.1 = .bodyReceived ∨ CoversDone m.1 m.2.1) := by decide
  have fm : ∀ m ∈ firstMoves, Covers .headersProcessed m.1 ∧
      (m.1 = .fullReqReceived ∨ CoversDone .headersProcessed m.1) := by decide
  cases st with
  | go m => exact m.uinv h
  | stay m => exact (m.uinv h).congr
  | kept => exact h
  | move m hs hm hr => exact (m.uinv h).restate hs _ (mv _ hm).1 ((mv _ hm).2.imp hr id)
  | err => exact (transmitError_safe _ _ _).uinv
  | close => exact (closeError_safe _).uinv
  | firstDiscard => exact (Safe.discarded .fullReqReceived rfl (by decide) rfl).uinv
  | upgrade => exact (Safe.past .upgrade (dropResp_state _).1 (by decide)).uinv
  | headers hst => exact .low .headersReceived rfl (by decide) (h.1 (by rw [hst]; decide))
  | @parsed n _ hst hn =>
    -- parse_connection_headers: nothing taken yet, all of the declared length remains
    refine ⟨fun x => absurd x (of_decide_eq_false rfl), fun _ _ x _ => ?_, fun x => absurd x (of_decide_eq_false rfl)⟩
    rcases hn with e | e
    · exact absurd (e.symm.trans x) (by decide)
    · show c.upOff + n = frameLen c.framing
      rw [h.1 (by rw [hst]; decide), e.2, Nat.zero_add]
  | firstOut => exact callConnectionHandler_uinv cfg app env c .first h
  | first _ hs1 hm hr =>
    exact (callConnectionHandler_uinv cfg app env c .first h).restate hs1 _ (fm _ hm).1 ((fm _ hm).2.imp hr id)
  | interim hst =>
    -- an interim reply: the same request goes on in HEADERS_PROCESSED
    show UInv (dropResp _).1
    rw [dropResp_fst]
    exact h.restate hst .headersProcessed (by decide)
  | reset => exact connectionReset_uinv c _
  | cleanup => exact cleanupConnection_uinv c h

theorem IdleRun.uinv {r} (run : IdleRun cfg app env c r) (h : UInv c) : UInv r.1 := by
  induction run with
  | fuel => exact h.congr
  | susp => exact h
  | last st => exact st.uinv h
  | more st _ ih => exact ih (st.uinv h)

end

theorem recvNoSpace_uinv {σ} (cfg : Cfg) (env : IdleEnv) (c : Conn σ) (h : UInv c) : UInv (recvNoSpace cfg env c).1 := by
  have hcs : Safe (chunkSizeLineNoSpace cfg env c).1 := by
    unfold chunkSizeLineNoSpace
    split
    · have h1 := transmitError_safe cfg env c
      generalize transmitError cfg env c = r1 at h1 ⊢
      obtain ⟨c1, l1⟩ := r1
      dsimp only
      split
      · exact h1
      · exact transmitError_safe _ _ _
    · exact transmitError_safe _ _ _
  unfold recvNoSpace
  split
  · exact (closeError_safe c).uinv
  · exact (transmitError_safe _ _ _).uinv
  · exact (transmitError_safe _ _ _).uinv
  · split
    · exact hcs.uinv
    · exact (transmitError_safe _ _ _).uinv
  · exact (transmitError_safe _ _ _).uinv
  · exact h

theorem epollUpdate_uinv {σ} (cfg : Cfg) (env : IdleEnv) (c : Conn σ) (h : UInv c) : UInv (epollUpdate cfg env c).1 := by
  unfold epollUpdate
  split
  · exact h
  split
  · exact h
  · exact h.congr
  · split
    · exact cleanupConnection_uinv _ (closeConn_safe _ _).uinv
    · exact cleanupConnection_uinv _ (Safe.past .closed rfl (by decide)).uinv

theorem handleIdleWith_uinv {σ} (n : Nat) (cfg : Cfg) (app : App σ) (env : IdleEnv) (c : Conn σ) (h : UInv c) :
    UInv (handleIdleWith n cfg app env c).1 := by
  unfold handleIdleWith
  have h0 := (idleLoop_run cfg app env n { c with touched := false }).uinv h.congr
  generalize idleLoop cfg app env n { c with touched := false } = rr at h0
  obtain ⟨c1, l1, f⟩ := rr
  have hu : UInv (updateEventLoopInfo cfg env c1).1 := by
    unfold updateEventLoopInfo
    split
    · exact h0
    · split
      · exact recvNoSpace_uinv cfg env c1 h0
      · exact h0
  cases f
  case dead | keep => exact h0
  case again | stop =>
    simp only
    split
    · exact (closeConn_safe _ _).uinv
    split
    · exact cleanupConnection_uinv _ hu
    split
    · exact epollUpdate_uinv cfg env _ hu
    · exact hu

theorem handleRead_uinv {σ} (c : Conn σ) (e : Ev) (h : UInv c) : UInv (handleRead c e).1 := by
  rcases handleRead_cases c e with e | ⟨b, e⟩ | ⟨c', code, e, -⟩ <;> rw [e]
  · exact h
  · exact h.congr
  · exact (closeConn_safe _ _).uinv

theorem handleWrite_uinv {σ} (c : Conn σ) (r : WriteRes) (h : UInv c) : UInv (handleWrite c r).1 := by
  rcases handleWrite_cases c r with e | e | e | ⟨m, hm, hst, e⟩ <;> rw [e]
  · exact h
  · exact (closeError_safe c).uinv
  · exact h.congr
  · -- a completed send moves among HEADERS_SENDING … FULL_REPLY_SENT
    have : ∀ m ∈ writeMoves, 13 ≤ m.1.toNat ∧ m.1.toNat ≤ 21 ∧ 13 ≤ m.2.toNat ∧ m.2.toNat ≤ 21 := by decide
    obtain ⟨m1, m2, m3, m4⟩ := this m hm
    exact h.restate hst m.2 ⟨fun _ => by omega, fun _ _ => by omega⟩ (.inr fun _ _ => by omega)

theorem UInv.guard {σ} {c : Conn σ} (h : UInv c) {q : Prop} [Decidable q] {o : Out σ} (ho : UInv o.1) :
    UInv (if q then (c, []) else o).1 := by
  split
  · exact h
  · exact ho

theorem step_uinv {σ} (cfg : Cfg) (app : App σ) (c : Conn σ) (e : Ev) (h : UInv c) : UInv (step cfg app c e).1 := by
  unfold step
  refine h.guard ?_
  cases e
  case start => exact h.guard h.congr
  case startFailed => exact h.guard (Safe.past .closed rfl (by decide)).uinv
  case recv | recvEof | recvErr => exact h.guard (h.guard (handleRead_uinv c _ h))
  case idle env => exact h.guard (h.guard (handleIdleWith_uinv _ cfg app env c h))
  case write r => exact h.guard (h.guard (handleWrite_uinv c r h))
  case forceClose => exact h.guard (h.guard (closeConn_safe _ _).uinv)
  case resume => exact h.guard (h.guard h.congr)
  case shutdownClose => exact h.guard (h.guard (Safe.past .closed (closeConn_state _ _) (by decide)).uinv)
  case appQueue r env =>
    refine h.guard (h.guard ?_)
    have hq := queueResponse_uinv env c r h
    dsimp only
    split
    · exact handleIdleWith_uinv _ cfg app env _ hq
    · exact hq
  case upgradeDone =>
    refine h.guard (h.guard ?_)
    show UInv { (notify c _).1 with suspended := false, inCleanup := true }
    rw [notify_fst]; exact h.congr
  case cleanup =>
    refine h.guard ?_
    show UInv (if c.inCleanup = true then _ else (c, [])).1
    split
    · show UInv { (dropResp c).1 with cleaned := true }
      rw [dropResp_fst]; exact h.congr
    · exact h

theorem run_uinv {σ} (cfg : Cfg) (app : App σ) : ∀ (evs : List Ev) (c : Conn σ), UInv c → UInv (run cfg app c evs).1 := by
  intro evs
  induction evs with
  | nil => intro c h; exact h
  | cons e es ih =>
    intro c h
    simp only [run]
    exact ih _ (step_uinv cfg app c e h)

theorem init_uinv {σ} (s : σ) : UInv (Conn.init s) := .low .init rfl (by decide) rfl

end Mhd.ConnSM
