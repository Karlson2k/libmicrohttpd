/-
  Function-level facts about `connection_check_timedout` / `connection_get_wait`
  (model: `checkTimedOut`, `getWait`), with the uint64 wrap-around.
-/
import Mhd.Model.TmoLoop
namespace Mhd.Tmo
open Mhd.Gen.Tmo

theorem sub64_of_le {a b : Nat} (h : b ≤ a) (ha : a < W) : sub64 a b = a - b := by
  rw [sub64, Nat.add_comm, Nat.add_sub_assoc h, Nat.add_mod_left,
    Nat.mod_eq_of_lt (Nat.lt_of_le_of_lt (Nat.sub_le a b) ha)]

theorem sub64_of_lt {a b : Nat} (h : a < b) (hb : b < W) : sub64 a b = a + W - b := by
  rw [sub64, Nat.mod_eq_of_lt (by omega)]

theorem sub64_self (a : Nat) : sub64 a a = 0 := by
  rw [sub64, Nat.add_sub_cancel_left, Nat.mod_self]

theorem sub64_past {now la : Nat} (h1 : la ≤ now) (h2 : now < 2 ^ 63) :
    sub64 now la = now - la ∧ ¬ halfRange < now - la :=
  ⟨sub64_of_le h1 (Nat.lt_trans h2 (by decide)), by simp only [halfRange]; omega⟩

theorem sub64_behind {now la tmo : Nat} (h1 : now < la) (hj : la - now < 2 ^ 62) (hla : la < W) (ht : tmo < 2 ^ 63) :
    tmo < sub64 now la ∧ halfRange < sub64 now la ∧ sub64 la now = la - now := by
  have key : 2 ^ 63 + 2 ^ 62 ≤ sub64 now la := by
    rw [sub64_of_lt h1 hla]; simp only [W] at *; omega
  exact ⟨Nat.lt_of_lt_of_le (Nat.lt_trans ht (by decide)) key, Nat.lt_of_lt_of_le (by decide) key,
    sub64_of_le (Nat.le_of_lt h1) hla⟩

/-- Exactness of the close decision under a clock that has not run backwards past the stamp. -/
theorem checkTimedOut_iff (now : Nat) (c : Conn) (h1 : c.la ≤ now) (h2 : now < 2 ^ 63) :
    checkTimedOut now c = true ↔ c.suspended = false ∧ c.tmo ≠ 0 ∧ c.tmo < now - c.la := by
  obtain ⟨hs, hh⟩ := sub64_past h1 h2
  simp only [checkTimedOut, hs, if_neg hh]
  cases c.suspended <;> simp

theorem checkTimedOut_suspended (now : Nat) (c : Conn) (h : c.suspended = true) :
    checkTimedOut now c = false := by
  unfold checkTimedOut; simp [h]

theorem checkTimedOut_noTimeout (now : Nat) (c : Conn) (h : c.tmo = 0) :
    checkTimedOut now c = false := by
  unfold checkTimedOut; simp [h]

theorem checkTimedOut_fresh (now : Nat) (c : Conn) (h : c.la = now) : checkTimedOut now c = false := by
  simp only [checkTimedOut, h, sub64_self, Nat.not_lt_zero, if_false, ite_self]

/-- The jump-back rule: a stamp at most `jumpBackLimit` ms in the future is not a timeout … -/
theorem checkTimedOut_jumpBack (now : Nat) (c : Conn) (h1 : now < c.la) (h2 : c.la - now ≤ jumpBackLimit)
    (hla : c.la < W) (ht : c.tmo < 2 ^ 63) : checkTimedOut now c = false := by
  obtain ⟨a, b, e⟩ := sub64_behind h1 (Nat.lt_of_le_of_lt h2 (by decide)) hla ht
  simp only [checkTimedOut, a, b, e, h2, if_true, ite_self]

/-- … and the sleep hint for such a connection is the granularity (100 ms), not 0. -/
theorem getWait_jumpBack (now : Nat) (c : Conn) (h1 : now < c.la) (h2 : c.la - now ≤ jumpBackLimit)
    (hla : c.la < W) (ht : c.tmo < 2 ^ 63) : getWait now c = granularity := by
  obtain ⟨a, b, e⟩ := sub64_behind h1 (Nat.lt_of_le_of_lt h2 (by decide)) hla ht
  simp only [getWait, a, b, e, h2, if_true]

/-- A larger backward jump is treated as a timeout (the code's rule). -/
theorem checkTimedOut_bigJumpBack (now : Nat) (c : Conn) (h1 : now < c.la) (h2 : jumpBackLimit < c.la - now)
    (h3 : c.la - now < 2 ^ 62) (hla : c.la < W) (ht : c.tmo < 2 ^ 63) (hs0 : c.suspended = false) (h0 : c.tmo ≠ 0) :
    checkTimedOut now c = true := by
  obtain ⟨a, b, e⟩ := sub64_behind h1 h3 hla ht
  simp only [checkTimedOut, hs0, h0, a, b, e, Nat.not_le.2 h2, if_true, if_false, Bool.false_eq_true]

theorem getWait_bound (now : Nat) (c : Conn) (h1 : c.la ≤ now) (h2 : now < 2 ^ 63) :
    getWait now c ≤ (c.la + c.tmo - now) + granularity ∧
    (c.la + c.tmo < now → getWait now c = 0) ∧
    (now < c.la + c.tmo → getWait now c = c.la + c.tmo - now) := by
  obtain ⟨hs, hh⟩ := sub64_past h1 h2
  simp only [getWait, hs, if_neg hh, granularity]
  clear hs hh h2
  -- in terms of the idle time `k = now - la`
  obtain ⟨k, rfl⟩ := Nat.exists_eq_add_of_le h1
  rw [Nat.add_sub_cancel_left, Nat.add_sub_add_left]
  simp only [Nat.add_lt_add_iff_left]
  split
  · omega
  split
  · omega
  · omega

theorem behind_small {now la : Nat} (h1 : la ≤ now + jumpBackLimit) (h2 : now < 2 ^ 62) :
    la - now ≤ jumpBackLimit ∧ la < W :=
  ⟨Nat.sub_le_iff_le_add'.2 h1, Nat.lt_of_le_of_lt h1 (by simp only [W, jumpBackLimit]; omega)⟩

/-- Exactness of the close decision when the clock may be up to `jumpBackLimit` behind the stamp
    (`now - la` is 0 when the clock is behind the stamp). -/
theorem checkTimedOut_iff_jump (now : Nat) (c : Conn) (h1 : c.la ≤ now + jumpBackLimit) (h2 : now < 2 ^ 62)
    (ht : c.tmo < 2 ^ 63) :
    checkTimedOut now c = true ↔ c.suspended = false ∧ c.tmo ≠ 0 ∧ c.tmo < now - c.la := by
  obtain ⟨h3, hla⟩ := behind_small h1 h2
  rcases Nat.lt_or_ge now c.la with hlt | hle
  · simp [checkTimedOut_jumpBack now c hlt h3 hla ht, Nat.sub_eq_zero_of_le (Nat.le_of_lt hlt)]
  · exact checkTimedOut_iff now c hle (Nat.lt_trans h2 (by decide))

theorem getWait_bound_jump (now : Nat) (c : Conn) (h1 : c.la ≤ now + jumpBackLimit) (h2 : now < 2 ^ 62)
    (ht : c.tmo < 2 ^ 63) :
    getWait now c ≤ (c.la + c.tmo - now) + granularity ∧ (c.la + c.tmo < now → getWait now c = 0) := by
  obtain ⟨h3, hla⟩ := behind_small h1 h2
  rcases Nat.lt_or_ge now c.la with hlt | hle
  · rw [getWait_jumpBack now c hlt h3 hla ht]
    exact ⟨Nat.le_add_left .., fun h => by omega⟩
  · have := getWait_bound now c hle (Nat.lt_trans h2 (by decide))
    exact ⟨this.1, this.2.1⟩

end Mhd.Tmo
