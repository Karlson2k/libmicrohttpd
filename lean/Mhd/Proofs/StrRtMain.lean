/-
  C17 proofs: `MHD_str_remove_tokens_caseless_` = "filter the element list of the
  normalised string by the token list", for every normalised input and every token list.
-/
import Mhd.Proofs.StrRtRound
import Mhd.Proofs.StrRtTok

namespace Mhd.Str

/-- `e` survives: it equals none of the tokens (caselessly) -/
def keepAll (ts : List Bytes) (e : Bytes) : Bool := !ts.any (fun t => ceqBytes e t)

/-- the elements of a ", "-separated list (`[]` for the empty string) -/
def csElems (s : Bytes) : List Bytes :=
  if s = [] then [] else
  match splitComma s with
  | [] => []
  | p :: ps => p :: ps.map (List.drop 1)

/-- the documented precondition of `MHD_str_remove_tokens_caseless_`, as far as the function
    relies on it: the string is the ", "-join of non-empty, comma-free elements (decidable) -/
def isCsList (s : Bytes) : Bool := (csElems s).all elemOk && s == joinWith sepCS (csElems s)

def removeTokensOut (s tokens : Bytes) : Bytes := joinWith sepCS ((csElems s).filter (keepAll (tokListOf tokens)))
def removeTokensFlag (s tokens : Bytes) : Bool := (csElems s).any (fun e => !keepAll (tokListOf tokens) e)

theorem keepAll_nil (e : Bytes) : keepAll [] e = true := rfl

theorem keepAll_cons (T : Bytes) (ts : List Bytes) (e : Bytes) :
    keepAll (T :: ts) e = (!ceqBytes e T && keepAll ts e) := by
  simp [keepAll, List.any_cons, Bool.not_or]

theorem filter_keepAll_cons (T : Bytes) (ts : List Bytes) (l : List Bytes) :
    l.filter (keepAll (T :: ts)) = (l.filter (fun x => !ceqBytes x T)).filter (keepAll ts) := by
  rw [List.filter_filter]
  congr 1; funext e; rw [keepAll_cons, Bool.and_comm]

theorem any_notKeep_cons (T : Bytes) (ts : List Bytes) (l : List Bytes) :
    l.any (fun e => !keepAll (T :: ts) e) =
      (l.any (fun x => ceqBytes x T) || (l.filter (fun x => !ceqBytes x T)).any (fun e => !keepAll ts e)) := by
  induction l with
  | nil => rfl
  | cons a t ih =>
    rw [List.any_cons, ih, List.any_cons, List.filter_cons, keepAll_cons]
    cases hc : ceqBytes a T <;> cases hk : keepAll ts a <;> simp [hk]

theorem mem_join_cases (l : List Bytes) (hne : ∀ x ∈ l, x ≠ []) (x : Bytes) (hx : x ∈ l) :
    l = [x] ∨ x.length + 3 ≤ (joinWith sepCS l).length := by
  cases l with
  | nil => cases hx
  | cons a t =>
    cases t with
    | nil => left; rw [List.mem_singleton.mp hx]
    | cons b t' =>
      right
      rw [joinWith_cons_cons]
      have hb : 0 < (joinWith sepCS (b :: t')).length :=
        List.length_pos_iff.mpr (joinWith_ne_nil _ _ _ (hne b (by simp)))
      have ha : 0 < a.length := List.length_pos_iff.mpr (hne a (by simp))
      have hm : x = a ∨ x.length ≤ (joinWith sepCS (b :: t')).length := by
        rcases List.mem_cons.mp hx with h | h
        · exact Or.inl h
        · exact Or.inr (joinWith_length_mem sepCS (b :: t') x h)
      simp only [List.length_append, List.length_cons, List.length_nil]
      rcases hm with rfl | hm <;> omega

theorem join_eq_nil (l : List Bytes) (hne : ∀ x ∈ l, x ≠ []) (h : joinWith sepCS l = []) : l = [] := by
  cases l with
  | nil => rfl
  | cons a t => exact absurd h (joinWith_ne_nil _ _ _ (hne a (by simp)))

theorem elems_length_le (l : List Bytes) (hne : ∀ x ∈ l, x ≠ []) : l.length ≤ (joinWith sepCS l).length := by
  induction l with
  | nil => exact Nat.zero_le _
  | cons a t ih =>
    rw [joinWith_cons, List.length_append, List.length_cons, Nat.add_comm]
    refine Nat.add_le_add (List.length_pos_iff.mpr (hne a (by simp))) ?_
    by_cases ht : t = []
    · rw [ht]; exact Nat.zero_le _
    · rw [if_neg ht, List.length_append]
      exact Nat.le_trans (ih (fun x hx => hne x (List.mem_cons_of_mem _ hx))) (Nat.le_add_left _ _)

theorem whole_match (l : List Bytes) (hok : ∀ x ∈ l, elemOk x = true) (T : Bytes) (hT : T ≠ []) (hTc : ∀ y ∈ T, y ≠ 0x2c)
    (hlen : (joinWith sepCS l).length = T.length) :
    l.filter (fun x => !ceqBytes x T) = (if ceqBytes (joinWith sepCS l) T then [] else l) ∧
    l.any (fun x => ceqBytes x T) = ceqBytes (joinWith sepCS l) T := by
  have hne : ∀ x ∈ l, x ≠ [] := fun x hx => ((elemOk_iff x).mp (hok x hx)).1
  cases l with
  | nil => exact absurd (List.eq_nil_of_length_eq_zero hlen.symm) hT
  | cons a t =>
    cases t with
    | nil =>
      show List.filter _ [a] = (if ceqBytes a T then [] else [a]) ∧ List.any [a] _ = ceqBytes a T
      rw [List.filter_cons, List.any_cons]
      cases ceqBytes a T <;> exact ⟨rfl, rfl⟩
    | cons b t' =>
      -- the joined string holds a comma, the token does not
      have hf : ceqBytes (joinWith sepCS (a :: b :: t')) T = false :=
        Bool.eq_false_iff.mpr (fun hc => ceqBytes_commafree _ _ hc hTc 0x2c (by rw [joinWith_cons_cons]; simp) rfl)
      rw [hf, if_neg Bool.false_ne_true]
      refine no_match_of_length _ T (fun x hx => ?_)
      rcases mem_join_cases _ hne x hx with h | h
      · cases h
      · omega

def OInv (es : List Bytes) (tokens : Bytes) (N : Nat) (st : RtSt) : Prop :=
  ∃ cur : List Bytes, (∀ x ∈ cur, elemOk x = true) ∧ st.buf.take st.len = joinWith sepCS cur ∧
    st.len ≤ N ∧ st.buf.length = N ∧ st.pt ≤ tokens.length ∧
    es.filter (keepAll (tokListOf tokens)) = cur.filter (keepAll (tokListOf (tokens.drop st.pt))) ∧
    es.any (fun e => !keepAll (tokListOf tokens) e) =
      (st.removed || cur.any (fun e => !keepAll (tokListOf (tokens.drop st.pt)) e))

def OPost (es : List Bytes) (tokens : Bytes) (N : Nat) (r : Bool × Nat × Bytes) : Prop :=
  r.2.2.length = N ∧ r.2.1 ≤ N ∧ r.2.2.take r.2.1 = joinWith sepCS (es.filter (keepAll (tokListOf tokens))) ∧
  r.1 = es.any (fun e => !keepAll (tokListOf tokens) e)

theorem opost_of_done (es : List Bytes) (tokens : Bytes) (N : Nat) (st : RtSt) (hi : OInv es tokens N st)
    (h : tokListOf (tokens.drop st.pt) = [] ∨ st.len = 0) : OPost es tokens N (st.removed, st.len, st.buf) := by
  obtain ⟨cur, hcur, hbuf, hlen, hN, hpt, hf, ha⟩ := hi
  rcases h with h | h
  · refine ⟨hN, hlen, ?_, ?_⟩
    · show st.buf.take st.len = _
      rw [hf, h, hbuf, List.filter_eq_self.mpr (fun x _ => keepAll_nil x)]
    · show st.removed = _
      rw [ha, h]; simp [keepAll]
  · have : cur = [] := join_eq_nil cur (fun x hx => ((elemOk_iff x).mp (hcur x hx)).1) (by rw [← hbuf, h]; rfl)
    refine ⟨hN, hlen, ?_, ?_⟩
    · show st.buf.take st.len = _
      rw [hf, this, hbuf, this]; rfl
    · show st.removed = _
      rw [ha, this]; simp

/-- what `rtOuterStep` does with the token found at `tkn`, with the scan of `tokens` already at `pt` -/
def rtRoundPart (tokens : Bytes) (tkn tknLen pt : Nat) (st : RtSt) : M (RtSt ⊕ (Bool × Nat × Bytes)) := do
  if st.len = tknLen then
    if ← equalCaselessBinAt st.buf 0 tokens tkn tknLen then
      return .inl { st with pt := pt, len := 0, removed := true }
    else return .inl { st with pt := pt }
  if st.len > tknLen + 2 then
    let (len, buf, removed) ← iter (rtInnerStep tokens tkn tknLen st.len) (st.len + 1) ⟨0, 0, st.buf, st.removed⟩
    return .inl ⟨pt, len, buf, removed⟩
  return .inl { st with pt := pt }

theorem rtOuterStep_eq (tokens : Bytes) (st : RtSt) :
    rtOuterStep tokens st =
      if st.pt < tokens.length ∧ st.len ≠ 0 then do
        let pt ← skipN tokens isWsComma st.pt
        if pt ≥ tokens.length then return .inr (st.removed, st.len, st.buf)
        let (pt', tknLen) ← iter (rtTokenEndStep tokens pt) (tokens.length + 1) (pt, 0)
        rtRoundPart tokens pt tknLen pt' st
      else return .inr (st.removed, st.len, st.buf) := by
  unfold rtOuterStep rtRoundPart
  rfl

theorem rtRound_spec (tokens : Bytes) (tkn tknLen pt N : Nat) (T jt : Bytes) (cur : List Bytes) (st : RtSt)
    (hT : tokens.drop tkn = T ++ jt) (hTl : T.length = tknLen) (hTne : T ≠ []) (hTc : ∀ y ∈ T, y ≠ 0x2c)
    (hcur : ∀ x ∈ cur, elemOk x = true) (hbuf : st.buf.take st.len = joinWith sepCS cur) (hlen : st.len ≤ N)
    (hN : st.buf.length = N) :
    ∃ st', rtRoundPart tokens tkn tknLen pt st = .ok (.inl st') ∧ st'.pt = pt ∧ st'.buf.length = N ∧ st'.len ≤ N ∧
      st'.buf.take st'.len = joinWith sepCS (cur.filter (fun x => !ceqBytes x T)) ∧
      st'.removed = (st.removed || cur.any (fun x => ceqBytes x T)) := by
  have hne : ∀ x ∈ cur, x ≠ [] := fun x hx => ((elemOk_iff x).mp (hcur x hx)).1
  have hjl : (joinWith sepCS cur).length = st.len := by rw [← hbuf]; exact List.length_take_of_le (hN.symm ▸ hlen)
  have hdrop0 : st.buf.drop 0 = joinWith sepCS cur ++ st.buf.drop st.len := by
    rw [← hbuf]; exact (List.take_append_drop _ _).symm
  unfold rtRoundPart
  by_cases h1 : st.len = tknLen
  · subst h1
    have hE := equalCaselessBinAt_spec st.buf 0 tokens tkn st.len (joinWith sepCS cur) T _ jt hdrop0 hT hjl hTl
    obtain ⟨w1, w2⟩ := whole_match cur hcur T hTne hTc (hjl.trans hTl.symm)
    simp only [↓reduceIte, hE, bind_ok', pure_eq_ok]
    rw [w1, w2]
    cases hc : ceqBytes (joinWith sepCS cur) T with
    | true => exact ⟨_, rfl, rfl, hN, Nat.zero_le _, rfl, by simp⟩
    | false => exact ⟨_, rfl, rfl, hN, hlen, hbuf, by simp⟩
  · simp only [h1, if_false]
    by_cases h2 : st.len > tknLen + 2
    · obtain ⟨e, rest, rfl⟩ : ∃ e rest, cur = e :: rest := by
        cases cur with
        | nil => exact absurd (hjl ▸ h2) (Nat.not_lt_zero _)
        | cons e rest => exact ⟨e, rest, rfl⟩
      have hfuel := elems_length_le _ hne
      rw [join_split] at hdrop0 hjl hfuel
      obtain ⟨len', buf', hr, r1, r2, r3⟩ := rtInner_go tokens tkn tknLen st.len N T jt (st.buf.drop st.len) hT hTl hTc
        (st.len + 1) rest e [] ⟨0, 0, st.buf, st.removed⟩ hcur
        ⟨by rw [hdrop0, List.append_assoc], (Nat.zero_add _).trans hjl, hN, rfl, ⟨fun _ => rfl, fun _ => rfl⟩, Or.inl rfl⟩
        ((Nat.zero_add _).symm ▸ Nat.le_of_lt (Nat.lt_of_le_of_lt (Nat.le_add_right _ _) h2))
        (Nat.lt_succ_of_le (Nat.le_of_succ_le (hjl ▸ hfuel)))
      simp only [h2, if_true, hr, bind_ok', pure_eq_ok]
      exact ⟨_, rfl, rfl, r1, Nat.le_trans r2 hlen, by simpa using r3, rfl⟩
    · -- a single element of another length than the token, or several shorter ones
      obtain ⟨w1, w2⟩ := no_match_of_length cur T (fun x hx => by
        rcases mem_join_cases cur hne x hx with rfl | h
        · exact fun h => h1 (hjl.symm.trans (h.trans hTl))
        · omega)
      simp only [h2, if_false, pure_eq_ok]
      rw [w1, w2]
      exact ⟨_, rfl, rfl, hN, hlen, hbuf, by simp⟩

theorem rtOuter_step (es : List Bytes) (tokens : Bytes) (N : Nat) (st : RtSt) (hi : OInv es tokens N st) :
    (∃ s', rtOuterStep tokens st = .ok (.inl s') ∧ OInv es tokens N s' ∧
        (tokens.drop s'.pt).length < (tokens.drop st.pt).length) ∨
    (∃ r, rtOuterStep tokens st = .ok (.inr r) ∧ OPost es tokens N r) := by
  have hi0 := hi
  obtain ⟨cur, hcur, hbuf, hlen, hN, hpt, hf, ha⟩ := hi
  rw [rtOuterStep_eq]
  by_cases hgo : st.pt < tokens.length ∧ st.len ≠ 0
  · obtain ⟨hs1, hs2, hs3⟩ := skipN_exact tokens isWsComma st.pt _ hpt rfl
    have hstop := dropWhile_stops isWsComma (tokens.drop st.pt)
    have hskip := tokListOf_skip (tokens.drop st.pt)
    have hsuf := List.length_dropWhile_le isWsComma (tokens.drop st.pt)
    generalize st.pt + ((tokens.drop st.pt).takeWhile isWsComma).length = pt1 at hs1 hs2 hs3
    generalize (tokens.drop st.pt).dropWhile isWsComma = r1 at hs2 hstop hskip hsuf
    rw [hskip] at hf ha
    simp only [hgo, ne_eq, not_false_eq_true, and_self, if_true, hs1, bind_ok', ge_iff_le]
    rcases hstop with rfl | ⟨x, R', rfl, hx⟩
    · right
      rw [if_pos (List.drop_eq_nil_iff.mp hs2)]
      refine ⟨_, rfl, opost_of_done es tokens N st hi0 (Or.inl ?_)⟩
      rw [hskip, tokListOf_nil]
    · left
      rw [if_neg (Nat.not_le.mpr (lt_of_drop hs2))]
      obtain ⟨ptE, jt, hit, hTd, hTc, hrest, hle⟩ := rtTokenEnd_spec tokens pt1 x R' hs2 hx
      obtain ⟨hT, hTne⟩ := tokListOf_elem x R' hx
      rw [hT, ← hrest] at hf ha
      generalize trimR (headElem (x :: R')) = T at hit hTd hTc hTne hf ha
      obtain ⟨st', hst', q1, q2, q3, q4, q5⟩ := rtRound_spec tokens pt1 T.length ptE N T jt cur st (hs2.trans hTd) rfl hTne hTc
        hcur hbuf hlen hN
      simp only [hit, bind_ok', hst']
      refine ⟨st', rfl, ⟨cur.filter (fun x => !ceqBytes x T), fun x hx => hcur x (List.mem_filter.mp hx).1, q4, q3, q2,
        by rw [q1]; exact hle, ?_, ?_⟩, ?_⟩
      · rw [q1, hf, filter_keepAll_cons]
      · rw [q1, ha, any_notKeep_cons, q5, Bool.or_assoc]
      rw [q1, hrest]
      exact Nat.lt_of_lt_of_le (rest_lt_of_elem x R' hx 0) hsuf
  · right
    rw [if_neg hgo]
    refine ⟨_, rfl, opost_of_done es tokens N st hi0 ?_⟩
    by_cases h : st.len = 0
    · exact Or.inr h
    · left
      have : ¬ st.pt < tokens.length := fun h' => hgo ⟨h', h⟩
      rw [List.drop_eq_nil_of_le (Nat.le_of_not_lt this), tokListOf_nil]

/-- `MHD_str_remove_tokens_caseless_ (str, &str_len, tokens, tokens_len)` on a normalised string:
    the elements that equal none of the tokens, in order, joined with ", "; the flag says whether
    an element was removed; the string does not grow; no fault. -/
theorem removeTokensCaseless_spec (str tokens : Bytes) (hn : isCsList str = true) :
    ∃ buf, removeTokensCaseless str tokens =
        .ok (removeTokensFlag str tokens, (removeTokensOut str tokens).length, buf) ∧
      buf.length = str.length ∧ (removeTokensOut str tokens).length ≤ str.length ∧
      buf.take (removeTokensOut str tokens).length = removeTokensOut str tokens := by
  unfold isCsList at hn
  simp only [Bool.and_eq_true, List.all_eq_true, beq_iff_eq] at hn
  obtain ⟨hok, hjoin⟩ := hn
  unfold removeTokensCaseless
  obtain ⟨⟨fl, len, buf⟩, hr, q1, q2, q3, q4⟩ := iter_spec (rtOuterStep tokens) (OInv (csElems str) tokens str.length)
    (fun st => (tokens.drop st.pt).length) (OPost (csElems str) tokens str.length) (rtOuter_step (csElems str) tokens str.length)
    (tokens.length + 1) ⟨0, str.length, str, false⟩
    ⟨csElems str, hok, by simpa using hjoin, Nat.le_refl _, rfl, Nat.zero_le _, rfl, rfl⟩ (Nat.lt_succ_self _)
  have q4 : fl = _ := q4
  have hl : (removeTokensOut str tokens).length = len := by
    unfold removeTokensOut; rw [← q3]; exact List.length_take_of_le (q1.symm ▸ q2)
  refine ⟨buf, ?_, q1, hl.symm ▸ q2, ?_⟩
  · rw [hr, hl, q4]; rfl
  · rw [hl, q3]; rfl

end Mhd.Str
