import Mhd.Model.NoSpace

namespace Mhd.NoSpace
open Mhd.Gen.ConnMem

/-- which element a request with a *standard* method is told to shorten: the field lines (431) when
    they dominate the request target by the code's thresholds, otherwise the target (414) -/
def headersDominate (opt uri hl : Nat) : Bool :=
  if maxReasonableHeaders < opt then decide (opt > uri / 8)
  else if maxReasonableTarget < uri then false
  else if minReasonableHeaders < opt then decide (opt * 4 > uri)
  else if minReasonableTarget < uri then false
  else if 1 < opt ∨ 1 < uri then decide (opt ≥ uri)
  else decide (hl ≠ 0)

/-- a leaf of the decision tree where the method token competes with another element: the other
    element wins whenever the method is empty -/
theorem method_leaf {P : Prop} [Decidable P] (r m : Nat) (h0 : m = 0 → P) :
    (if P then r else httpNotImplemented) = r ∨ ((if P then r else httpNotImplemented) = httpNotImplemented ∧ 0 < m) := by
  by_cases hp : P
  · left; rw [if_pos hp]
  · right; rw [if_neg hp]; exact ⟨rfl, Nat.pos_of_ne_zero fun h => hp (h0 h)⟩

/-- the decision tail blames the field lines or the target by `headersDominate`, unless it blames a
    (non-empty) method token: at each comparison with the method the guards passed so far make the
    other side positive -/
theorem blame_eq (opt uri m hl : Nat) :
    blame opt uri m hl = (if headersDominate opt uri hl then httpHeaderFieldsTooLarge else httpUriTooLong) ∨
    (blame opt uri m hl = httpNotImplemented ∧ 0 < m) := by
  unfold blame headersDominate
  simp only [maxReasonableHeaders, maxReasonableTarget, minReasonableHeaders, minReasonableTarget, minReasonableMethod]
  by_cases c1 : 6144 < opt <;> simp only [c1, ↓reduceIte]
  · by_cases c2 : opt > uri / 8 <;> simp only [c2, ↓reduceIte, decide_true, decide_false, Bool.false_eq_true]
    · exact method_leaf _ _ (by omega)
    · exact method_leaf _ _ (by omega)
  by_cases c3 : 8000 < uri <;> simp only [c3, ↓reduceIte, Bool.false_eq_true]
  · exact method_leaf _ _ (by omega)
  by_cases c4 : 26 < opt <;> simp only [c4, ↓reduceIte]
  · by_cases c5 : opt * 4 > uri <;> simp only [c5, ↓reduceIte, decide_true, decide_false, Bool.false_eq_true]
    · exact method_leaf _ _ (by omega)
    · exact method_leaf _ _ (by omega)
  by_cases c6 : 40 < uri <;> simp only [c6, ↓reduceIte, Bool.false_eq_true]
  · exact method_leaf _ _ (by omega)
  by_cases c7 : 16 < m <;> simp only [c7, ↓reduceIte]
  · right; exact ⟨trivial, by omega⟩
  left
  by_cases c8 : 1 < opt ∨ 1 < uri <;> simp only [c8, ↓reduceIte]
  · by_cases c9 : opt ≥ uri <;> simp [c9]
  · by_cases c9 : hl = 0 <;> simp [c9]

theorem blame_in_set (opt uri m hl : Nat) :
    blame opt uri m hl = httpUriTooLong ∨ blame opt uri m hl = httpHeaderFieldsTooLarge ∨
    blame opt uri m hl = httpNotImplemented := by
  rcases blame_eq opt uri m hl with h | h
  · rw [h]; split
    · exact .inr (.inl rfl)
    · exact .inl rfl
  · exact .inr (.inr h.1)

theorem blame_std_method (opt uri hl : Nat) :
    blame opt uri 0 hl = if headersDominate opt uri hl then httpHeaderFieldsTooLarge else httpUriTooLong :=
  (blame_eq opt uri 0 hl).resolve_right fun h => Nat.lt_irrefl 0 h.2

/-- every path of `get_no_space_err_status_code` returns one of the four "too large" codes -/
theorem status_in_set (i : Input) :
    status i = httpContentTooLarge ∨ status i = httpUriTooLong ∨
    status i = httpHeaderFieldsTooLarge ∨ status i = httpNotImplemented := by
  unfold status
  split
  · left; rfl
  · right; exact blame_in_set _ _ _ _

end Mhd.NoSpace
