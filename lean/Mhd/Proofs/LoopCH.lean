/-
  C06 — proofs: lists of connections with distinct ids (lookup, update, `prev` pointers), and call_handlers on one
  connection: the handler calls it makes form a `Chain` that ends with handle_idle (`chLocal_ind`), so what the laws
  (`Laws`, `IdlePost`) say of a connection handle_idle leaves active holds after the call.
-/
import Mhd.Model.LoopRounds
namespace Mhd.Loop
variable {W : Type}

def ids (l : List (Conn W)) : List CId := l.map (·.id)

@[simp] theorem ids_nil : ids ([] : List (Conn W)) = [] := rfl
@[simp] theorem ids_cons (c : Conn W) (l) : ids (c :: l) = c.id :: ids l := rfl
@[simp] theorem ids_append (a b : List (Conn W)) : ids (a ++ b) = ids a ++ ids b := by simp [ids]

theorem mem_ids {l : List (Conn W)} {c : Conn W} (h : c ∈ l) : c.id ∈ ids l := List.mem_map.mpr ⟨c, h, rfl⟩

theorem nodup_mid_notin {A B : List (Conn W)} {c : Conn W} (h : (ids (A ++ c :: B)).Nodup) : c.id ∉ ids A := by
  rw [ids_append, ids_cons] at h
  exact fun hm => (List.nodup_append.mp h).2.2 _ hm _ List.mem_cons_self rfl

theorem not_mem_of_nodup_mid {A B : List (Conn W)} {c x : Conn W} (h : (ids (A ++ c :: B)).Nodup) (hx : x ∈ A ++ B) :
    x.id ≠ c.id := by
  intro e
  rw [ids_append, ids_cons] at h
  have h2 := (List.perm_middle.nodup_iff).mp h
  exact (List.nodup_cons.mp h2).1 (e ▸ ids_append A B ▸ mem_ids hx)

theorem mem_mid {α : Type} {A B : List α} {c x : α} (hx : x ∈ A ++ B) : x ∈ A ++ c :: B :=
  List.mem_append.mpr ((List.mem_append.mp hx).imp_right (List.mem_cons_of_mem _))

theorem mem_mid_ne {α : Type} {A B : List α} {c x : α} (hx : x ∈ A ++ c :: B) (hne : x ≠ c) : x ∈ A ++ B := by
  rcases List.mem_append.mp hx with h | h
  · exact List.mem_append_left _ h
  · rcases List.mem_cons.mp h with h | h
    · exact absurd h hne
    · exact List.mem_append_right _ h

theorem nodup3 {a b c : List CId} (h : (a ++ b ++ c).Nodup) :
    a.Nodup ∧ b.Nodup ∧ (∀ x ∈ a, x ∉ b) ∧ (∀ x ∈ a, x ∉ c) ∧ (∀ x ∈ b, x ∉ c) := by
  obtain ⟨hab, _, h3⟩ := List.nodup_append.mp h
  obtain ⟨ha, hb, h2⟩ := List.nodup_append.mp hab
  exact ⟨ha, hb, fun x hx hy => h2 x hx x hy rfl, fun x hx hy => h3 x (List.mem_append_left _ hx) x hy rfl,
    fun x hx hy => h3 x (List.mem_append_right _ hx) x hy rfl⟩

theorem findConn_eq_find? (l : List (Conn W)) (id : CId) : findConn l id = l.find? (·.id = id) := by
  induction l with
  | nil => rfl
  | cons x rest ih => by_cases h : x.id = id <;> simp [findConn, h, ih]

theorem findConn_none {l : List (Conn W)} {id : CId} (h : id ∉ ids l) : findConn l id = none := by
  rw [findConn_eq_find?, List.find?_eq_none]
  exact fun x hx e => h (of_decide_eq_true e ▸ mem_ids hx)

theorem findConn_mem {l : List (Conn W)} {id : CId} {c : Conn W} (h : findConn l id = some c) : c ∈ l ∧ c.id = id := by
  rw [findConn_eq_find?] at h
  exact ⟨List.mem_of_find?_eq_some h, by simpa using List.find?_some h⟩

theorem findConn_none_of {l : List (Conn W)} {p : CId} (h : findConn l p = none) : p ∉ ids l := by
  rw [findConn_eq_find?, List.find?_eq_none] at h
  exact fun hm => have ⟨x, hx, e⟩ := List.mem_map.mp hm; h x hx (decide_eq_true e)

theorem findConn_isSome {l : List (Conn W)} {p : CId} (h : p ∈ ids l) : (findConn l p).isSome := by
  cases hf : findConn l p with
  | none => exact absurd h (findConn_none_of hf)
  | some c => rfl

theorem findConn_mid {A B : List (Conn W)} {c : Conn W} (h : c.id ∉ ids A) :
    findConn (A ++ c :: B) c.id = some c := by
  rw [findConn_eq_find?, List.find?_append, ← findConn_eq_find?, findConn_none h]
  simp

theorem findConn_mid_ne {A B : List (Conn W)} {c : Conn W} {q : CId} (h : q ≠ c.id) :
    findConn (A ++ c :: B) q = findConn (A ++ B) q := by
  simp only [findConn_eq_find?, List.find?_append, List.find?_cons, decide_eq_false (Ne.symm h)]

theorem setConn_mid {A B : List (Conn W)} {c c' : Conn W} (h : c.id ∉ ids A) (he : c'.id = c.id) :
    setConn (A ++ c :: B) c' = A ++ c' :: B := by
  induction A with
  | nil => simp [setConn, he]
  | cons x rest ih =>
    simp only [ids_cons, List.mem_cons, not_or] at h
    simp only [List.cons_append, setConn]
    rw [if_neg (fun e => h.1 (by rw [he] at e; exact e.symm))]
    rw [ih h.2]

theorem eraseConn_mid {A B : List (Conn W)} {c : Conn W} (h : c.id ∉ ids A) :
    eraseConn (A ++ c :: B) c.id = A ++ B := by
  induction A with
  | nil => simp [eraseConn]
  | cons x rest ih =>
    simp only [ids_cons, List.mem_cons, not_or] at h
    simp only [List.cons_append, eraseConn]
    rw [if_neg (fun e => h.1 e.symm)]
    rw [ih h.2]

theorem ids_setConn (l : List (Conn W)) (c' : Conn W) : ids (setConn l c') = ids l := by
  induction l with
  | nil => rfl
  | cons x rest ih =>
    simp only [setConn]
    split
    · rename_i h; simp [ids_cons, h]
    · simp [ids_cons, ih]

theorem eraseConn_eq_eraseP (l : List (Conn W)) (id : CId) : eraseConn l id = l.eraseP (·.id = id) := by
  induction l with
  | nil => rfl
  | cons x rest ih => by_cases h : x.id = id <;> simp [eraseConn, h, ih]

theorem ids_eraseConn (l : List (Conn W)) (id : CId) : ids (eraseConn l id) = (ids l).erase id := by
  induction l with
  | nil => rfl
  | cons x rest ih => by_cases h : x.id = id <;> simp [eraseConn, h, ih]

theorem eraseConn_subset {l : List (Conn W)} {id : CId} {x : Conn W} (h : x ∈ eraseConn l id) : x ∈ l :=
  (eraseConn_eq_eraseP l id ▸ List.eraseP_sublist).subset h

theorem eraseConn_keep {l : List (Conn W)} {id : CId} {x : Conn W} (hx : x ∈ l) (hne : x.id ≠ id) : x ∈ eraseConn l id :=
  eraseConn_eq_eraseP l id ▸ (List.mem_eraseP_of_neg (by simpa using hne)).mpr hx

theorem eraseConn_ne_of_nodup {l : List (Conn W)} {id : CId} (hn : (ids l).Nodup) {x : Conn W} (hx : x ∈ eraseConn l id) :
    x.id ≠ id :=
  ((List.Nodup.mem_erase_iff hn).mp (ids_eraseConn l id ▸ mem_ids hx)).1

theorem eraseConn_perm {l : List (Conn W)} {id : CId} (h : id ∈ ids l) : (id :: ids (eraseConn l id)).Perm (ids l) :=
  ids_eraseConn l id ▸ (List.perm_cons_erase h).symm

theorem eraseConn_mem_ne {l : List (Conn W)} {id q : CId} (hq : q ∈ ids l) (hne : q ≠ id) : q ∈ ids (eraseConn l id) :=
  ids_eraseConn l id ▸ (List.mem_erase_of_ne hne).mpr hq

theorem tailId_nil : tailId ([] : List (Conn W)) = none := rfl
theorem tailId_concat (A : List (Conn W)) (a : Conn W) : tailId (A ++ [a]) = some a.id := by
  simp [tailId]

/-! The `prev` pointer of a node depends on the ids only, so the lists of connections inherit what is shown for the
    eready list of ids. -/

theorem prevInIds_go_mid {E1 E2 : List CId} {p : CId} (q : CId) (h : p ∉ E1) :
    prevInIds.go q (E1 ++ p :: E2) p = some (some (E1.getLast?.getD q)) := by
  induction E1 generalizing q with
  | nil => simp [prevInIds.go]
  | cons x rest ih =>
    simp only [List.mem_cons, not_or] at h
    simp only [List.cons_append, prevInIds.go]
    rw [if_neg (fun e => h.1 e.symm), ih x h.2, List.getLast?_cons, Option.getD_some]

theorem prevInIds_mid {E1 E2 : List CId} {p : CId} (h : p ∉ E1) : prevInIds (E1 ++ p :: E2) p = some E1.getLast? := by
  cases E1 with
  | nil => simp [prevInIds]
  | cons x rest =>
    simp only [List.mem_cons, not_or] at h
    simp only [List.cons_append, prevInIds]
    rw [if_neg (fun e => h.1 e.symm), prevInIds_go_mid x h.2, List.getLast?_cons]

theorem prevGo_ids (q : CId) (l : List (Conn W)) (id : CId) : prevGo q l id = prevInIds.go q (ids l) id := by
  induction l generalizing q with
  | nil => rfl
  | cons x rest ih =>
    rw [prevGo, ids_cons, prevInIds.go, ih]

theorem prevIn_ids (l : List (Conn W)) (id : CId) : prevIn l id = prevInIds (ids l) id := by
  cases l with
  | nil => rfl
  | cons x rest => rw [prevIn, ids_cons, prevInIds, prevGo_ids]

theorem prevIn_mid {A B : List (Conn W)} {c : Conn W} (h : c.id ∉ ids A) :
    prevIn (A ++ c :: B) c.id = some (tailId A) := by
  rw [prevIn_ids, ids_append, ids_cons, prevInIds_mid h]
  simp [tailId, ids]

open Mhd.Gen.Loop

/-- the fields of the daemon that neither a list move nor a handler call touches -/
structure Frame (d d' : Daemon W) : Prop where
  fault : d'.fault = d.fault
  newc : d'.newc = d.newc
  epoll : d'.epoll = d.epoll
  resuming : d'.resuming = d.resuming
  haveNew : d'.haveNew = d.haveNew
  shutdown : d'.shutdown = d.shutdown
  allowSuspend : d'.allowSuspend = d.allowSuspend

theorem Frame.refl (d : Daemon W) : Frame d d := ⟨rfl, rfl, rfl, rfl, rfl, rfl, rfl⟩
theorem Frame.trans {a b c : Daemon W} (h1 : Frame a b) (h2 : Frame b c) : Frame a c :=
  ⟨h2.fault.trans h1.fault, h2.newc.trans h1.newc, h2.epoll.trans h1.epoll, h2.resuming.trans h1.resuming,
   h2.haveNew.trans h1.haveNew, h2.shutdown.trans h1.shutdown, h2.allowSuspend.trans h1.allowSuspend⟩

theorem setList_frame (d : Daemon W) (wh : Wh) (l : List (Conn W)) : Frame d (d.setList wh l) := by
  cases wh <;> exact ⟨rfl, rfl, rfl, rfl, rfl, rfl, rfl⟩

theorem place_frame (d : Daemon W) (c' : Conn W) (w1 w2 : Wh) : Frame d (d.place c' w1 w2) := by
  unfold Daemon.place
  split
  · exact setList_frame ..
  · exact (setList_frame ..).trans (setList_frame ..)

theorem setList_rest (d : Daemon W) (wh : Wh) (l : List (Conn W)) :
    (d.setList wh l).eready = d.eready ∧ (d.setList wh l).dap = d.dap ∧ (d.setList wh l).log = d.log := by
  cases wh <;> exact ⟨rfl, rfl, rfl⟩

theorem place_rest (d : Daemon W) (c' : Conn W) (w1 w2 : Wh) :
    (d.place c' w1 w2).eready = d.eready ∧ (d.place c' w1 w2).dap = d.dap ∧ (d.place c' w1 w2).log = d.log := by
  unfold Daemon.place
  split
  · exact setList_rest ..
  · obtain ⟨a1, a2, a3⟩ := setList_rest d w1 (eraseConn (d.listOf w1) c'.id)
    obtain ⟨b1, b2, b3⟩ := setList_rest (d.setList w1 (eraseConn (d.listOf w1) c'.id)) w2
      (c' :: (d.setList w1 (eraseConn (d.listOf w1) c'.id)).listOf w2)
    exact ⟨b1.trans a1, b2.trans a2, b3.trans a3⟩

theorem place_active {d : Daemon W} {A B : List (Conn W)} {c c' : Conn W} (hc : d.conns = A ++ c :: B)
    (hA : c.id ∉ ids A) (hid : c'.id = c.id) (wh' : Wh) :
    (d.place c' .active wh').conns = (if wh' = .active then A ++ c' :: B else A ++ B) ∧
    (d.place c' .active wh').susp = (if wh' = .susp then c' :: d.susp else d.susp) ∧
    (d.place c' .active wh').cleanup = (if wh' = .cleanup then c' :: d.cleanup else d.cleanup) := by
  have e1 : eraseConn (A ++ c :: B) c'.id = A ++ B := by rw [hid]; exact eraseConn_mid hA
  have e2 : setConn (A ++ c :: B) c' = A ++ c' :: B := setConn_mid hA hid
  cases wh' <;> simp [Daemon.place, Daemon.setList, Daemon.listOf, hc, e1, e2]

/-- the eready list after the IN_EREADY bit of connection `id` went from `was` to `now` -/
def erNew (er : List CId) (id : CId) (was now : Bool) : List CId :=
  if now && !was then id :: er else if !now && was then er.erase id else er

theorem syncEready_eq (d : Daemon W) (id : CId) (was now : Bool) :
    syncEready d id was now = { d with eready := erNew d.eready id was now } := by
  unfold syncEready erNew
  split
  · rfl
  · split <;> rfl

theorem erNew_same (er : List CId) (id : CId) (b : Bool) : erNew er id b b = er := by
  cases b <;> rfl

theorem mem_erNew_ne {er : List CId} {id x : CId} (was now : Bool) (h : x ≠ id) : x ∈ erNew er id was now ↔ x ∈ er := by
  unfold erNew
  split
  · simp [h]
  · split
    · exact List.mem_erase_of_ne h
    · exact Iff.rfl

theorem mem_erNew_self {er : List CId} {id : CId} {was : Bool} (now : Bool) (hn : er.Nodup) (hw : was = true ↔ id ∈ er) :
    id ∈ erNew er id was now ↔ now = true := by
  unfold erNew
  cases now <;> cases was <;> simp_all [List.Nodup.mem_erase_iff]

theorem nodup_erNew {er : List CId} {id : CId} {was : Bool} (now : Bool) (hn : er.Nodup) (hw : was = true ↔ id ∈ er) :
    (erNew er id was now).Nodup := by
  unfold erNew
  cases now <;> cases was <;> simp_all [List.Nodup.erase]

theorem isRead_cases (e : Eli) : e.isRead = true ↔ e = .read := by cases e <;> decide
theorem isWrite_cases (e : Eli) : e.isWrite = true ↔ e = .write := by
  cases e <;> decide
theorem isCleanup_cases (e : Eli) : e.isCleanup = true ↔ e = .cleanup := by cases e <;> decide
theorem hasProcess_read : Eli.read.hasProcess = false := by decide
theorem hasRead_process : Eli.process.hasRead = false := by decide
theorem hasRead_write : Eli.write.hasRead = false := by decide

theorem epollUpdate_eq (c : Conn W) : epollUpdate c =
    { c with inEready := (c.loc.eli.hasProcess && !c.inEready) || c.inEready
             inEpollSet := (!c.inEpollSet && !c.epSusp &&
               ((c.loc.eli.isWrite && !c.loc.wrReady) || (c.loc.eli.hasRead && !c.loc.rdReady))) || c.inEpollSet } := by
  unfold epollUpdate
  cases c.loc.eli.hasProcess && !c.inEready <;> simp only [Bool.false_eq_true, if_false, if_true] <;>
    cases !c.inEpollSet && !c.epSusp && ((c.loc.eli.isWrite && !c.loc.wrReady) || (c.loc.eli.hasRead && !c.loc.rdReady)) <;> rfl

theorem epollUpdate_loc (c : Conn W) : (epollUpdate c).loc = c.loc := by rw [epollUpdate_eq]
theorem epollUpdate_id (c : Conn W) : (epollUpdate c).id = c.id := by
  rw [epollUpdate_eq]
theorem epollUpdate_k (c : Conn W) : (epollUpdate c).k = c.k := by
  rw [epollUpdate_eq]
theorem epollUpdate_nonblock (c : Conn W) : (epollUpdate c).nonblock = c.nonblock := by
  rw [epollUpdate_eq]

/-- the fields the loop never changes during handler calls -/
structure SameStatic (a b : Conn W) : Prop where
  id : a.id = b.id
  nonblock : a.nonblock = b.nonblock
  resuming : a.resuming = b.resuming
  sockValid : a.sockValid = b.sockValid
  tmo : a.tmo = b.tmo
  epError : a.epError = b.epError

theorem SameStatic.refl (a : Conn W) : SameStatic a a := ⟨rfl, rfl, rfl, rfl, rfl, rfl⟩
theorem SameStatic.trans {a b c : Conn W} (h1 : SameStatic a b) (h2 : SameStatic b c) : SameStatic a c :=
  ⟨h1.id.trans h2.id, h1.nonblock.trans h2.nonblock, h1.resuming.trans h2.resuming,
   h1.sockValid.trans h2.sockValid, h1.tmo.trans h2.tmo, h1.epError.trans h2.epError⟩

theorem SameStatic.ite {p : Prop} [Decidable p] {a b c : Conn W} (ha : SameStatic a c) (hb : SameStatic b c) :
    SameStatic (if p then a else b) c := by
  split
  · exact ha
  · exact hb

theorem epollUpdate_static (c : Conn W) : SameStatic (epollUpdate c) c := by
  rw [epollUpdate_eq]
  exact ⟨rfl, rfl, rfl, rfl, rfl, rfl⟩

theorem doRead_static (ops : Ops W) (f : Bool) (s : CS W) : SameStatic (doRead ops f s).c s.c := ⟨rfl, rfl, rfl, rfl, rfl, rfl⟩
theorem doWrite_static (ops : Ops W) (s : CS W) : SameStatic (doWrite ops s).c s.c := ⟨rfl, rfl, rfl, rfl, rfl, rfl⟩
theorem doClose_static (ops : Ops W) (s : CS W) : SameStatic (doClose ops s).c s.c := ⟨rfl, rfl, rfl, rfl, rfl, rfl⟩
theorem doWrite_wh (ops : Ops W) (s : CS W) : (doWrite ops s).wh = s.wh := rfl

theorem doIdle_wh (ops : Ops W) (ep : Bool) (s : CS W) :
    (doIdle ops ep s).wh = (ops.idle s.c.id s.c.k s.wh s.c.loc).2 := rfl

theorem doIdle_evs (ops : Ops W) (ep : Bool) (s : CS W) : (doIdle ops ep s).evs = Ev.idle s.c.id :: s.evs := rfl

theorem doIdle_static (ops : Ops W) (ep : Bool) (s : CS W) : SameStatic (doIdle ops ep s).c s.c :=
  have h2 : SameStatic (if ep && s.wh = .active && (ops.idle s.c.id s.c.k s.wh s.c.loc).2 = .susp
      then epollSuspend { s.c with k := s.c.k + 1, loc := (ops.idle s.c.id s.c.k s.wh s.c.loc).1 }
      else { s.c with k := s.c.k + 1, loc := (ops.idle s.c.id s.c.k s.wh s.c.loc).1 }) s.c :=
    .ite ⟨rfl, rfl, rfl, rfl, rfl, rfl⟩ ⟨rfl, rfl, rfl, rfl, rfl, rfl⟩
  .ite ((epollUpdate_static _).trans h2) h2

theorem doIdle_loc (ops : Ops W) (ep : Bool) (s : CS W) :
    (doIdle ops ep s).c.loc = (ops.idle s.c.id s.c.k s.wh s.c.loc).1 := by
  unfold doIdle
  simp only [epollUpdate_loc, apply_ite Conn.loc, epollSuspend, ite_self]

/-- the states of a connection during one call of call_handlers that started in `s0`: reached by any sequence of its
    handler calls (MHD_connection_handle_read, _handle_write, the forced close, _handle_idle) -/
inductive Chain (ops : Ops W) (ep : Bool) (s0 : CS W) : CS W → Prop where
  | refl : Chain ops ep s0 s0
  | read (f : Bool) {t : CS W} : Chain ops ep s0 t → Chain ops ep s0 (doRead ops f t)
  | write {t : CS W} : Chain ops ep s0 t → Chain ops ep s0 (doWrite ops t)
  | close {t : CS W} : Chain ops ep s0 t → Chain ops ep s0 (doClose ops t)
  | idle {t : CS W} : Chain ops ep s0 t → Chain ops ep s0 (doIdle ops ep t)

/-- the last call of the sequence that leads to `t` was handle_idle -/
def LastIdle (ops : Ops W) (ep : Bool) (s0 t : CS W) : Prop := ∃ u, Chain ops ep s0 u ∧ t = doIdle ops ep u

theorem LastIdle.chain {ops : Ops W} {ep : Bool} {s0 t : CS W} (h : LastIdle ops ep s0 t) : Chain ops ep s0 t :=
  have ⟨_, hu, e⟩ := h
  e ▸ hu.idle

/-- The shape of call_handlers after the read block: a write and handle_idle if the connection waits for
    writability and is writable; a lone handle_idle if nothing has been processed; else up to two more rounds of
    "write, handle_idle" (the fast track).  What holds after the first part and is kept by such a round holds of
    the result. -/
theorem chTail_ind {Q : CS W → Prop} (ops : Ops W) (ep onFast wr : Bool) (s : CS W) (processed : Bool)
    (hstep : ∀ t, Q t → Q (doIdle ops ep (doWrite ops t)))
    (hw : (s.c.loc.eli.isWrite && wr) = true → Q (doIdle ops ep (doWrite ops s)))
    (hp : (s.c.loc.eli.isWrite && wr) = false → processed = true → Q s)
    (hi : (s.c.loc.eli.isWrite && wr) = false → processed = false → Q (doIdle ops ep s)) :
    ∃ t, chTail ops ep onFast wr s processed = ⟨t.c, t.wh, t.evs, true⟩ ∧ Q t := by
  have hite : ∀ (p : Prop) [Decidable p] (t : CS W), Q t → Q (if p then doIdle ops ep (doWrite ops t) else t) := by
    intro p _ t ht
    split
    · exact hstep t ht
    · exact ht
  have h1 : ((processed || (s.c.loc.eli.isWrite && wr)) = true →
        Q (if s.c.loc.eli.isWrite && wr then doIdle ops ep (doWrite ops s) else s)) ∧
      ((processed || (s.c.loc.eli.isWrite && wr)) = false →
        Q (doIdle ops ep (if s.c.loc.eli.isWrite && wr then doIdle ops ep (doWrite ops s) else s))) := by
    cases hwr : s.c.loc.eli.isWrite && wr
    · exact ⟨fun h => hp hwr (by simpa using h), fun h => hi hwr (by simpa using h)⟩
    · exact ⟨fun _ => hw hwr, fun h => by simp at h⟩
  refine ⟨_, rfl, ?_⟩
  generalize (if s.c.loc.eli.isWrite && wr then doIdle ops ep (doWrite ops s) else s) = s1 at h1
  cases hpr : processed || (s.c.loc.eli.isWrite && wr)
  · exact h1.2 hpr
  · simp only [Bool.not_true, Bool.false_eq_true, if_false]
    split
    · exact hite _ _ (hite _ _ (h1.1 hpr))
    · exact h1.1 hpr

/-- call_handlers walked once.  It starts in one of four ways — read and handle_idle; when forced to close and there
    is nothing to read, close and handle_idle; write and handle_idle; a lone handle_idle — and, unless forced to close,
    goes on with rounds of "write, handle_idle" (`chTail_ind`).  The `data_already_pending` block is reached unless
    the call was forced to close. -/
theorem chLocal_ind {Q : CS W → Prop} (ops : Ops W) (ep : Bool) (c0 : Conn W) (wh0 : Wh) (rr wr fc : Bool)
    (hstep : fc = false → ∀ t, Q t → Q (doIdle ops ep (doWrite ops t)))
    (hR : (c0.loc.eli.hasRead && (rr || (fc && c0.nonblock))) = true → Q (doIdle ops ep (doRead ops fc ⟨c0, wh0, []⟩)))
    (hC : fc = true → Q (doIdle ops ep (doClose ops ⟨c0, wh0, []⟩)))
    (hW : (c0.loc.eli.hasRead && (rr || (fc && c0.nonblock))) = false → fc = false → (c0.loc.eli.isWrite && wr) = true →
      Q (doIdle ops ep (doWrite ops ⟨c0, wh0, []⟩)))
    (hI : (c0.loc.eli.hasRead && (rr || (fc && c0.nonblock))) = false → fc = false → (c0.loc.eli.isWrite && wr) = false →
      Q (doIdle ops ep ⟨c0, wh0, []⟩)) :
    ∃ t, chLocal ops ep c0 wh0 rr wr fc = ⟨t.c, t.wh, t.evs, !fc⟩ ∧ Q t := by
  unfold chLocal
  simp only []
  cases fc with
  | true =>
    by_cases h1 : (c0.loc.eli.hasRead && (rr || (true && c0.nonblock))) = true
    · rw [if_pos h1]; exact ⟨_, rfl, hR h1⟩
    · rw [if_neg h1]; exact ⟨_, rfl, hC rfl⟩
  | false =>
    simp only [Bool.false_eq_true, if_false]
    by_cases h1 : (c0.loc.eli.hasRead && (rr || (false && c0.nonblock))) = true
    · rw [if_pos h1]
      exact chTail_ind ops ep _ wr _ true (hstep rfl) (fun _ => hstep rfl _ (hR h1)) (fun _ _ => hR h1) (fun _ h => nomatch h)
    · rw [if_neg h1]
      have h1' := Bool.not_eq_true _ ▸ h1
      exact chTail_ind ops ep _ wr _ false (hstep rfl) (hW h1' rfl) (fun _ h => nomatch h) (fun h _ => hI h1' rfl h)

theorem chLocal_lastIdle (ops : Ops W) (ep : Bool) (c0 : Conn W) (wh0 : Wh) (rr wr fc : Bool) :
    ∃ t, chLocal ops ep c0 wh0 rr wr fc = ⟨t.c, t.wh, t.evs, !fc⟩ ∧ LastIdle ops ep ⟨c0, wh0, []⟩ t :=
  chLocal_ind ops ep c0 wh0 rr wr fc
    (fun _ _ ht => ⟨_, ht.chain.write, rfl⟩) (fun _ => ⟨_, .read fc .refl, rfl⟩) (fun _ => ⟨_, .close .refl, rfl⟩)
    (fun _ _ _ => ⟨_, .write .refl, rfl⟩) (fun _ _ _ => ⟨_, .refl, rfl⟩)

theorem chain_static {ops : Ops W} {ep : Bool} {s0 u : CS W} (h : Chain ops ep s0 u) : SameStatic u.c s0.c := by
  induction h with
  | refl => exact SameStatic.refl _
  | read f _ ih => exact (doRead_static ops f _).trans ih
  | write _ ih => exact (doWrite_static ops _).trans ih
  | close _ ih => exact (doClose_static ops _).trans ih
  | idle _ ih => exact (doIdle_static ops ep _).trans ih

/-- only handle_idle changes the list a connection is in or its IN_EREADY bit -/
theorem chain_bit {ops : Ops W} {ep : Bool} {P : Wh → Bool → Prop} {s0 u : CS W} (h : Chain ops ep s0 u)
    (h0 : P s0.wh s0.c.inEready)
    (hi : ∀ t, Chain ops ep s0 t → P t.wh t.c.inEready → P (doIdle ops ep t).wh (doIdle ops ep t).c.inEready) :
    P u.wh u.c.inEready := by
  induction h with
  | refl => exact h0
  | read f _ ih => exact ih
  | write _ ih => exact ih
  | close _ ih => exact ih
  | idle ht ih => exact hi _ ht ih

/-- the laws the theorems assume of the abstract per-connection step -/
structure Laws (ops : Ops W) (needs : Local W → Bool) : Prop where
  /-- handle_idle ends with MHD_connection_update_event_loop_info: a connection that stays
      active and has work that can proceed without network input is in a PROCESS state -/
  idle_sync : ∀ id k wh l, (ops.idle id k wh l).2 = .active → needs (ops.idle id k wh l).1 = true →
      (ops.idle id k wh l).1.eli.hasProcess = true
  /-- handle_idle on a closed connection moves it to the cleanup list -/
  idle_closed : ∀ id k l, l.st = stClosed → (ops.idle id k .active l).2 = .cleanup
  /-- `mhd_assert (! force_close || MHD_CONNECTION_CLOSED == con->state)` in call_handlers -/
  read_force : ∀ id k l, (ops.read id k true l).st = stClosed
  /-- a handler never puts a connection back into the active list -/
  idle_where : ∀ id k wh l, wh ≠ .active → (ops.idle id k wh l).2 ≠ .active

/-- the wait state of `c` is up to date, as MHD_connection_update_event_loop_info leaves it: work that can proceed without
    network input shows as a PROCESS state -/
def Sync (needs : Local W → Bool) (c : Conn W) : Prop := needs c.loc = true → c.loc.eli.hasProcess = true

theorem chLocal_static (ops : Ops W) (ep : Bool) (c0 : Conn W) (wh0 : Wh) (rr wr fc : Bool) :
    SameStatic (chLocal ops ep c0 wh0 rr wr fc).c c0 := by
  obtain ⟨t, e, ht⟩ := chLocal_lastIdle ops ep c0 wh0 rr wr fc
  rw [e]
  exact chain_static ht.chain

theorem chLocal_idled (ops : Ops W) (ep : Bool) (c0 : Conn W) (wh0 : Wh) (rr wr fc : Bool) :
    Ev.idle c0.id ∈ (chLocal ops ep c0 wh0 rr wr fc).evs := by
  obtain ⟨_, e, u, hu, rfl⟩ := chLocal_lastIdle ops ep c0 wh0 rr wr fc
  rw [e, doIdle_evs, (chain_static hu).id]
  exact List.mem_cons_self

/-- `Q` holds of every connection handle_idle leaves in the active list; `Laws.idle_sync` says this of one `Q`,
    the laws `LawOpen` and `LawTable` of Mhd.Proofs.LoopProgress of two more -/
def IdlePost (ops : Ops W) (Q : Local W → Prop) : Prop :=
  ∀ id k wh l, (ops.idle id k wh l).2 = .active → Q (ops.idle id k wh l).1

theorem IdlePost.doIdle {ops : Ops W} {Q : Local W → Prop} (h : IdlePost ops Q) (ep : Bool) (s : CS W)
    (hw : (doIdle ops ep s).wh = .active) : Q (doIdle ops ep s).c.loc :=
  doIdle_loc ops ep s ▸ h _ _ _ _ hw

theorem IdlePost.chLocal {ops : Ops W} {Q : Local W → Prop} (h : IdlePost ops Q) (ep : Bool) (c0 : Conn W) (wh0 : Wh)
    (rr wr fc : Bool) (hw : (chLocal ops ep c0 wh0 rr wr fc).wh = .active) : Q (chLocal ops ep c0 wh0 rr wr fc).c.loc := by
  obtain ⟨_, e, u, _, rfl⟩ := chLocal_lastIdle ops ep c0 wh0 rr wr fc
  rw [e] at hw ⊢
  exact h.doIdle ep u hw

theorem chLocal_sync {ops : Ops W} {needs : Local W → Bool} (L : Laws ops needs) (ep : Bool) (c0 : Conn W) (wh0 : Wh)
    (rr wr fc : Bool) (h : (chLocal ops ep c0 wh0 rr wr fc).wh = .active) :
    Sync needs (chLocal ops ep c0 wh0 rr wr fc).c :=
  IdlePost.chLocal (Q := fun l => needs l = true → l.eli.hasProcess = true) L.idle_sync ep c0 wh0 rr wr fc h

/-- a call that skips the data_already_pending block was forced to close, and then the connection was closed before the
    last handle_idle, which moved it to the cleanup list -/
theorem chLocal_dapCheck {ops : Ops W} {needs : Local W → Bool} (L : Laws ops needs) (ep : Bool) (c0 : Conn W)
    (rr wr fc : Bool) (h : (chLocal ops ep c0 .active rr wr fc).wh = .active) :
    (chLocal ops ep c0 .active rr wr fc).dapCheck = true := by
  obtain ⟨t, e, ht⟩ := chLocal_ind (Q := fun t => fc = true → t.wh = .cleanup) ops ep c0 .active rr wr fc
    (fun hf _ _ hf' => nomatch hf.symm.trans hf')
    (fun _ hf => hf ▸ L.idle_closed _ _ (doRead ops true ⟨c0, .active, []⟩).c.loc (L.read_force _ _ _))
    (fun _ _ => L.idle_closed _ _ (doClose ops ⟨c0, .active, []⟩).c.loc rfl)
    (fun _ hf _ hf' => nomatch hf.symm.trans hf') (fun _ hf _ hf' => nomatch hf.symm.trans hf')
  rw [e] at h ⊢
  cases fc with
  | false => rfl
  | true => exact nomatch (ht rfl).symm.trans h

end Mhd.Loop
