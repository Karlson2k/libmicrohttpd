/-
  C12 proofs: every clause of `expectedClass`, characterised (`…_iff`); `expectedClass … = ok` in terms of the
  clauses; the link between lengths as sent and meanings (`LenSem`).
-/
import Mhd.Proofs.DauthSafe
import Mhd.Proofs.AuthInfo
namespace Mhd.Dauth
open Mhd.Auth Mhd.Gen.Auth Mhd.Gen.Dauth

theorem stageAlgoN_iff (call : Call) (x : Nat) (a : Algo) :
    stageAlgoN call x = .ok a ↔
      x ≠ algoInvalid ∧ x = (x &&& call.malgo3) ∧ (x &&& algoSession) = 0 ∧ baseAlgo x = some a := by
  unfold stageAlgoN
  by_cases h1 : x = algoInvalid
  · simp [h1]
  · by_cases h2 : x ≠ (x &&& call.malgo3)
    · simp [h1, h2]
    · by_cases h3 : (x &&& algoSession) ≠ 0
      · simp [h1, h2, h3]
      · simp only [ne_eq, Decidable.not_not] at h2 h3
        cases hb : baseAlgo x with
        | none => simp [h1, ← h2, h3]
        | some b => simp [h1, ← h2, h3]

theorem specRealm_iff (call : Call) (c : Cred) : specRealm call c = .ok () ↔ c.val kRealm = some call.realm := by
  unfold specRealm
  cases c.val kRealm with
  | none => simp [needV, bind, Except.bind]
  | some v =>
    by_cases h : v = call.realm <;> simp [needV, bind, Except.bind, h]

theorem specNc_iff (maxNc : Nat) (c : Cred) (nci : Nat) :
    specNc maxNc c = .ok nci ↔
      (c.qop = qopNone ∧ nci = 1) ∨
      (c.qop ≠ qopNone ∧ ∃ txt, c.val kNc = some txt ∧ txt ≠ [] ∧ Mhd.Nonce.parseNc txt = some nci ∧ nci ≠ 0 ∧
        (maxNc = 0 ∨ nci ≤ maxNc)) := by
  unfold specNc
  by_cases hq : c.qop ≠ qopNone
  · rw [if_pos hq]
    simp only [bind_ok, needV_ok, guard_ok]
    constructor
    · rintro ⟨txt, e1, h0, h⟩
      cases e2 : Mhd.Nonce.parseNc txt with
      | none => rw [e2] at h; cases h
      | some v =>
        rw [e2] at h
        simp only [guard_ok] at h
        obtain ⟨hz, hm, hv⟩ := h
        cases hv
        exact Or.inr ⟨hq, txt, e1, fun e => h0 (by rw [e]; rfl), e2, hz, by omega⟩
    · rintro (⟨h, _⟩ | ⟨_, txt, e1, hne, e2, hz, hm⟩)
      · exact absurd h hq
      · refine ⟨txt, e1, fun e => hne (List.length_eq_zero_iff.mp e), ?_⟩
        rw [e2]
        simp only [guard_ok]
        exact ⟨hz, by omega, trivial⟩
  · rw [if_neg hq]
    constructor
    · intro h
      cases h
      exact Or.inl ⟨Decidable.not_not.mp hq, rfl⟩
    · rintro (⟨_, rfl⟩ | ⟨h, _⟩)
      · rfl
      · exact absurd h hq

theorem specNonce_iff (a : Algo) (now timeout : Nat) (c : Cred) (n : Bytes) (t : Nat) :
    specNonce a now timeout c = .ok (n, t) ↔
      c.val kNonce = some n ∧ n.length = a.stdLen ∧ Mhd.Nonce.getNonceTimestamp n n.length = .ts t ∧
      ¬ Mhd.Nonce.trim (Mhd.Nonce.sub64 now t) > (timeout * 1000) % 2 ^ Mhd.Gen.Nonce.timeoutBits := by
  unfold specNonce
  simp only [bind_ok, needV_ok, guard_ok, ne_eq, Decidable.not_not]
  constructor
  · rintro ⟨m, e1, hl, h⟩
    cases hg : Mhd.Nonce.getNonceTimestamp m m.length with
    | fault => rw [hg] at h; cases h
    | invalid => rw [hg] at h; cases h
    | ts t' =>
      rw [hg] at h
      simp only [guard_ok] at h
      obtain ⟨hs, hv⟩ := h
      cases hv
      exact ⟨e1, hl.symm, hg, hs⟩
  · rintro ⟨e1, hl, hg, hs⟩
    refine ⟨n, e1, hl.symm, ?_⟩
    rw [hg]
    simp only [guard_ok]
    exact ⟨hs, trivial⟩

theorem specUri_iff (cfg : Cfg) (r : Req) (c : Cred) (lv : LenView) (u : Bytes) :
    specUri cfg r c lv = .ok u ↔
      c.val kUri = some u ∧ noBuffer ((lv kUri).getD 0 + 1) = false ∧
      checkUriMatch cfg.strictUnescape u r.url r.args = true := by
  unfold specUri
  cases hv : c.val kUri with
  | none => simp [needV, bind, Except.bind]
  | some w =>
    cases hb : noBuffer ((lv kUri).getD 0 + 1) <;>
    cases hm : checkUriMatch cfg.strictUnescape w r.url r.args <;>
    simp [needV, bind, Except.bind, hm]
    · intro h; subst h; simp [hm]
    · rintro rfl; exact hm

theorem specQopPart_iff (c : Cred) (mid : Bytes) :
    specQopPart c = .ok mid ↔
      (c.qop = qopNone ∧ mid = []) ∨
      (c.qop ≠ qopNone ∧ ∃ nc cn q, c.val kNc = some nc ∧ c.val kCnonce = some cn ∧ c.val kQop = some q ∧
        mid = nc ++ 58 :: (cn ++ 58 :: (q ++ [58]))) := by
  unfold specQopPart
  by_cases hq : c.qop ≠ qopNone
  · rw [if_pos hq]
    simp only [bind_ok, needV_ok]
    constructor
    · rintro ⟨nc, e1, cn, e2, q, e3, h⟩
      cases h
      exact Or.inr ⟨hq, nc, cn, q, e1, e2, e3, rfl⟩
    · rintro (⟨h, _⟩ | ⟨_, nc, cn, q, e1, e2, e3, rfl⟩)
      · exact absurd h hq
      · exact ⟨nc, e1, cn, e2, q, e3, rfl⟩
  · rw [if_neg hq]
    constructor
    · intro h
      cases h
      exact Or.inl ⟨Decidable.not_not.mp hq, rfl⟩
    · rintro (⟨_, rfl⟩ | ⟨h, _⟩)
      · rfl
      · exact absurd h hq

theorem specBind_iff (cfg : Cfg) (a : Algo) (r : Req) (call : Call) (c : Cred) (t : Nat) :
    specBind cfg a r call c t = .ok () ↔
      (cfg.bindType ≠ bindNone → ∃ nn, calcNonce cfg r call.realm a t = some nn ∧ c.val kNonce = some nn) := by
  unfold specBind
  by_cases hb : cfg.bindType ≠ bindNone
  · simp only [hb, if_true, ne_eq, not_false_eq_true, forall_const]
    cases h1 : calcNonce cfg r call.realm a t with
    | none => simp
    | some nn =>
      cases h2 : c.val kNonce with
      | none => simp [needV, bind, Except.bind]
      | some n =>
        by_cases h : n = nn
        · simp [needV, bind, Except.bind, h]
        · simp [needV, bind, Except.bind, h]
  · simp [hb]

theorem specResponse_iff (a : Algo) (r : Req) (call : Call) (c : Cred) (uri : Bytes) :
    specResponse a r call c uri = .ok () ↔
      ∃ h1 resp bin nonce mid, ha1Hex a call = .ok h1 ∧ c.val kResponse = some resp ∧ resp.length ≤ a.size * 2 ∧
        hexToBin resp = some bin ∧ bin.length = a.size ∧ c.val kNonce = some nonce ∧ specQopPart c = .ok mid ∧
        bin = rfcResponse a h1 nonce mid uri r.method := by
  unfold specResponse
  simp only [bind_ok, needV_ok, guard_ok, Nat.not_lt]
  constructor
  · rintro ⟨h1, e1, resp, e2, hl, h⟩
    cases e3 : hexToBin resp with
    | none => rw [e3] at h; cases h
    | some bin =>
      rw [e3] at h
      simp only [bind_ok, needV_ok, guard_ok, accept_ok, ne_eq, Decidable.not_not] at h
      obtain ⟨hb, nonce, e4, mid, e5, he⟩ := h
      exact ⟨h1, resp, bin, nonce, mid, e1, e2, hl, e3, hb, e4, e5, he⟩
  · rintro ⟨h1, resp, bin, nonce, mid, e1, e2, hl, e3, hb, e4, e5, he⟩
    refine ⟨h1, e1, resp, e2, hl, ?_⟩
    rw [e3]
    simp only [bind_ok, needV_ok, guard_ok, accept_ok, ne_eq, Decidable.not_not]
    exact ⟨hb, nonce, e4, mid, e5, he⟩

/-- the lengths as sent agree with the meanings about presence and emptiness -/
structure LenSem (c : Cred) (lv : LenView) : Prop where
  none_iff : ∀ k, lv k = none ↔ c.val k = none
  zero_iff : ∀ k, lv k = some 0 ↔ c.val k = some []
  ext : lv kUsernameExt = c.ext.map List.length

theorem paramUnq_nil_iff (p : Param) (h : PQ p) : paramUnq p = [] ↔ p.raw = [] := by
  unfold paramUnq
  cases hq : p.quoted
  · simp
  · obtain ⟨v, hv⟩ := Option.isSome_iff_exists.mp (h hq)
    simp only [if_true, unquote, hv, Option.getD_some]
    constructor
    · intro hv0; subst hv0; exact eq_nil_of_unquoteLoop_nil _ hv
    · intro hr; rw [hr] at hv; simp [unquoteLoop] at hv; exact hv.symm ▸ rfl

theorem lenSem_semOf (d : DAuth) (hwq : WQ d) : LenSem (semOf d) (lenView d) := by
  refine ⟨fun k => ?_, fun k => ?_, ?_⟩
  · simp [lenView, semOf]
  · simp only [lenView, semOf]
    cases hp : d.slots k with
    | none => simp
    | some p =>
      simp only [Option.map_some, Option.some.injEq, List.length_eq_zero_iff]
      exact (paramUnq_nil_iff p (wq_pq hwq hp)).symm
  · simp [lenView, semOf, Function.comp_def]

theorem Sent.val_ne_nil {c : Cred} {lv : LenView} (hls : LenSem c lv) {k B : Nat} (h : Sent (lv k) B) {v : Bytes}
    (hv : c.val k = some v) : v ≠ [] := fun hn => h.pos ((hls.zero_iff k).mpr (hn ▸ hv))

theorem Sent.of_val {c : Cred} {lv : LenView} (hls : LenSem c lv) {k B : Nat} {v : Bytes} (hv : c.val k = some v)
    (hne : v ≠ []) (hb : ∀ l, lv k = some l → l ≤ B) : Sent (lv k) B :=
  ⟨fun h => (nomatch hv.symm.trans ((hls.none_iff k).mp h)),
   fun h => hne (Option.some.inj (hv.symm.trans ((hls.zero_iff k).mp h))), hb⟩

theorem noBuffer_false (n : Nat) (h : n ≤ maxParam) : noBuffer n = false := by
  unfold noBuffer; simp; omega

theorem noBuffer_false_iff (n : Nat) : noBuffer n = false ↔ n ≤ maxParam := by
  unfold noBuffer
  have : tmp1Size ≤ maxParam := by decide
  simp; omega

theorem specUsername_iff (a : Algo) (call : Call) (c : Cred)
    (hpres : (c.val kUsername = none ∧ c.ext ≠ none ∧ c.userhash = false) ∨ (c.val kUsername ≠ none ∧ c.ext = none)) :
    specUsername a call c = .ok () ↔
      UserOk a call c ∧ (∀ e, c.ext = some e → c.val kUsername = none → e.length + 1 - extMinLen ≤ maxParam) := by
  unfold specUsername UserOk
  rcases hpres with ⟨hu, he, huh⟩ | ⟨hu, he⟩
  · cases hev : c.ext with
    | none => exact absurd hev he
    | some e =>
      simp only [huh, Bool.not_false, if_true, hu, needV, bind, Except.bind]
      cases hb : noBuffer (e.length + 1 - extMinLen)
      · have hb' := (noBuffer_false_iff _).mp hb
        cases hx : extName e with
        | none => simp [hx]
        | some name =>
          by_cases hn : name = call.username <;> simp [hn, hx] <;> omega
      · have hb' : ¬ e.length + 1 - extMinLen ≤ maxParam := by
          intro h; rw [(noBuffer_false_iff _).mpr h] at hb; cases hb
        simp
        intro _; omega
  · cases huv : c.val kUsername with
    | none => exact absurd huv hu
    | some u =>
      cases huh : c.userhash
      · by_cases hn : u = call.username <;> simp [he, hn]
      · simp only [Bool.not_true, Bool.false_eq_true, if_false, needV, bind, Except.bind, he]
        by_cases hn : eqClS (binToHex (userhash a call.username call.realm)) u = true <;> simp [hn]

theorem lv_of_val {c : Cred} {lv : LenView} (hls : LenSem c lv) {k : Nat} {v : Bytes} (h : c.val k = some v) :
    ∃ l, lv k = some l ∧ (l = 0 ↔ v = []) := by
  cases hl : lv k with
  | none => rw [(hls.none_iff k).mp hl] at h; cases h
  | some l =>
    refine ⟨l, rfl, ?_⟩
    constructor
    · intro h0; subst h0
      have := (hls.zero_iff k).mp hl
      rw [h] at this; injection this
    · intro hv; subst hv
      have := (hls.zero_iff k).mpr h
      rw [hl] at this; injection this

theorem val_of_lv {c : Cred} {lv : LenView} (hls : LenSem c lv) {k l : Nat} (h : lv k = some l) :
    ∃ v, c.val k = some v ∧ (l = 0 ↔ v = []) := by
  cases hv : c.val k with
  | none => rw [(hls.none_iff k).mpr hv] at h; cases h
  | some v =>
    obtain ⟨l', hl', hz⟩ := lv_of_val hls hv
    rw [h] at hl'; injection hl' with hl'; subst hl'
    exact ⟨v, rfl, hz⟩

theorem specPost_ok_iff (cfg : Cfg) (r : Req) (call : Call) (c : Cred) (lv : LenView) (a : Algo) (t : Nat) :
    specPost cfg r call c lv a t = .ok ↔
      ∃ uri, specUri cfg r c lv = .ok uri ∧ specResponse a r call c uri = .ok () ∧ specBind cfg a r call c t = .ok () := by
  unfold specPost
  cases h1 : specUri cfg r c lv with
  | error e => simp [bind, Except.bind]; exact (specUri_err cfg r c lv e h1).1
  | ok uri =>
    cases h2 : specResponse a r call c uri with
    | error e => simp [bind, Except.bind, h2]; exact (specResponse_err a r call c uri e h2).1
    | ok u =>
      cases h3 : specBind cfg a r call c t with
      | error e => simp [bind, Except.bind, h2]; exact (specBind_err cfg a r call c t e h3).1
      | ok u2 => simp [bind, Except.bind, h2]

theorem ofNc_ok_iff (x : Mhd.Nonce.NcRes) : ofNc x = .ok ↔ x = .ok := by cases x <;> simp [ofNc]

theorem expected_ok_stages (cfg : Cfg) (tbl : Mhd.Nonce.Table) (now : Nat) (r : Req) (call : Call) (timeout maxNc : Nat)
    (c : Cred) (lv : LenView) :
    (expectedClass cfg tbl now r call timeout maxNc c lv).2 = .ok ↔
      ∃ a nci n t, specPre now timeout maxNc call c lv = .ok (a, nci, n, t) ∧
        (Mhd.Nonce.checkNonceNc tbl n t nci).2 = .ok ∧ specPost cfg r call c lv a t = .ok := by
  unfold expectedClass
  cases hS : specPre now timeout maxNc call c lv with
  | error e => simp; exact specPre_nook _ _ _ _ _ _ e hS
  | ok x =>
    obtain ⟨a, nci, n, t⟩ := x
    simp only [Except.ok.injEq, Prod.mk.injEq]
    cases hN : (Mhd.Nonce.checkNonceNc tbl n t nci).2 with
    | ok =>
      simp only
      constructor
      · intro h; exact ⟨a, nci, n, t, ⟨rfl, rfl, rfl, rfl⟩, hN, h⟩
      · rintro ⟨a', nci', n', t', ⟨rfl, rfl, rfl, rfl⟩, _, h⟩; exact h
    | stale =>
      simp only [ofNc]
      constructor
      · intro h; cases h
      · rintro ⟨a', nci', n', t', ⟨rfl, rfl, rfl, rfl⟩, h, _⟩; rw [hN] at h; cases h
    | wrong =>
      simp only [ofNc]
      constructor
      · intro h; cases h
      · rintro ⟨a', nci', n', t', ⟨rfl, rfl, rfl, rfl⟩, h, _⟩; rw [hN] at h; cases h
    | fault =>
      simp only [ofNc]
      constructor
      · intro h; cases h
      · rintro ⟨a', nci', n', t', ⟨rfl, rfl, rfl, rfl⟩, h, _⟩; rw [hN] at h; cases h

end Mhd.Dauth
