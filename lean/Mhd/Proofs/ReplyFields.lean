import Mhd.Proofs.ReplyHead
import Mhd.Proofs.ReplyBridge
import Mhd.Proofs.ReplyNum
namespace Mhd.Reply
open Mhd.ReplyStr Mhd.Resp
open Mhd.Http (FieldOK NameOK NoCRLF normField clsOf tesOf connsOf ciEq lower)

theorem nameOK_of_clean (n : Bytes) (h : NameClean n) : NameOK n := h

theorem nameOK_sDate : NameOK sDate := by unfold NameOK; decide
theorem nameOK_sConnection : NameOK sConnection := nameClean_conn
theorem nameOK_sTE : NameOK sTransferEncoding := by unfold NameOK; decide
theorem nameOK_sCL : NameOK sContentLength := by unfold NameOK; decide

theorem noCRLF_append (a b : Bytes) (ha : NoCRLF a) (hb : NoCRLF b) : NoCRLF (a ++ b) := allQ_append a b ha hb

theorem noCRLF_digits (ds : Bytes) (h : ds.all Mhd.Http.isDigit = true) : NoCRLF ds := by
  intro b hb
  rw [List.all_eq_true] at h
  exact Mhd.Http.isDigit_noCRLF b (h b hb)

theorem sizeDigits_ok (n : Nat) (h : n < 2 ^ 64) :
    sizeDigits n ≠ [] ∧ (sizeDigits n).all Mhd.Http.isDigit = true ∧ Mhd.Http.decValue (sizeDigits n) = n := by
  obtain ⟨ds, h1, h2, h3, h4⟩ := Mhd.ReplyNum.sizeDigits_spec n h
  unfold sizeDigits; rw [h1]; exact ⟨h2, h3, h4⟩

/-- the loop state `add_user_headers` starts in -/
def userSt (c : Conn) (r : Resp) (ka : KA) (props : Props) : UH :=
  userInit r (! props.chunked) (! props.useReplyBodyHeaders && ! r.flags.insanity) (useConnClose ka) (useConnKAlive c r ka)

/-- the token MHD merges in front of a stored Connection value -/
def connPre (c : Conn) (r : Resp) (ka : KA) : Bytes :=
  if useConnClose ka && ! r.fa.connClose then sCloseSep else if useConnKAlive c r ka then sKeepAliveSep else []

theorem userFields_eq (c : Conn) (r : Resp) (ka : KA) (props : Props) (hinv : Inv r) :
    userFields c r ka props =
      prefixFirst (userSt c r ka props).pre ((r.hdrs.filter (userSt c r ka props).sends).map fun h => ⟨h.name, h.value⟩) := by
  unfold userFields userSt
  rw [hinv.noInsanity]
  exact userLoop_eq r.hdrs _ (by rw [hinv.te]; exact b2n_le_one _)

/-- the user part of the head, the leading Connection header apart: the merged token goes to that header -/
theorem userFields_split (c : Conn) (r : Resp) (ka : KA) (props : Props) (hinv : Inv r) :
    (∃ v rest, r.fa.connHdr = true ∧ r.hdrs = ⟨.header, sConnection, v⟩ :: rest ∧ cnt sConnection rest = 0 ∧
      userFields c r ka props = ⟨sConnection, connPre c r ka ++ v⟩ ::
        (rest.filter (userSt c r ka props).sends).map fun h => ⟨h.name, h.value⟩) ∨
    (r.fa.connHdr = false ∧ cnt sConnection r.hdrs = 0 ∧
      userFields c r ka props = (r.hdrs.filter (userSt c r ka props).sends).map fun h => ⟨h.name, h.value⟩) := by
  rw [userFields_eq c r ka props hinv]
  cases hf : r.fa.connHdr with
  | true =>
    obtain ⟨v, rest, hh, h0, _, _⟩ := conn_shape r hinv hf
    refine .inl ⟨v, rest, rfl, hh, h0, ?_⟩
    have hp : (userSt c r ka props).pre = connPre c r ka := by
      simp only [userSt, userInit, UH.pre, connPre, hf]
      cases r.fa.connClose <;> cases useConnClose ka <;> rfl
    rw [hh, List.filter_cons_of_pos (by simp [UH.sends, nameIs_conn_te, nameIs_conn_cl]), hp]; rfl
  | false =>
    have hcn := hinv.conn; rw [hf] at hcn
    refine .inr ⟨rfl, hcn.1, ?_⟩
    have : (userSt c r ka props).pre = [] := by simp [userSt, userInit, UH.pre, hf]
    rw [this, prefixFirst_nil]

theorem noCRLF_connPre (c : Conn) (r : Resp) (ka : KA) : NoCRLF (connPre c r ka) :=
  ite_cases NoCRLF (fun _ => by unfold NoCRLF; decide) fun _ =>
    ite_cases NoCRLF (fun _ => by unfold NoCRLF; decide) fun _ => by unfold NoCRLF; decide

theorem allFields_fieldOK (c : Conn) (r : Resp) (date : Option Bytes) (ka : KA) (props : Props) (hinv : Inv r)
    (hdate : ∀ d, date = some d → NoCRLF d) (hsz : r.totalSize < 2 ^ 64) :
    ∀ f ∈ (allFields c r date ka props).map toHttp, FieldOK f := by
  intro f hf
  obtain ⟨g, hg, rfl⟩ := List.mem_map.1 hf
  rcases mem_allFields hg with ⟨d, hd, rfl⟩ | hg | hg | rfl | rfl
  · exact ⟨nameOK_sDate, hdate d hd⟩
  · rcases (mem_connFields hg).2 with ⟨_, rfl⟩ | ⟨_, rfl⟩ <;>
      exact ⟨nameOK_sConnection, by unfold NoCRLF; decide⟩
  · have sent : ∀ {hs : List Hdr} {st : UH}, (∀ h ∈ hs, h ∈ r.hdrs) →
        g ∈ (hs.filter st.sends).map (fun h => (⟨h.name, h.value⟩ : Field)) → FieldOK (toHttp g) := fun hsub hg => by
      obtain ⟨h, hm, _, rfl⟩ := mem_sent hg
      exact ⟨(hinv.clean h (hsub h hm)).1, (hinv.clean h (hsub h hm)).2.2⟩
    rcases userFields_split c r ka props hinv with ⟨v, rest, _, hh, _, e⟩ | ⟨_, _, e⟩ <;> rw [e] at hg
    · rcases List.mem_cons.1 hg with rfl | hg
      · exact ⟨nameOK_sConnection, noCRLF_append _ _ (noCRLF_connPre c r ka)
          (hinv.clean ⟨.header, sConnection, v⟩ (hh ▸ List.mem_cons_self)).2.2⟩
      · exact sent (fun h hm => hh ▸ List.mem_cons_of_mem _ hm) hg
    · exact sent (fun _ hm => hm) hg
  · exact ⟨nameOK_sTE, by unfold NoCRLF; decide⟩
  · exact ⟨nameOK_sCL, noCRLF_digits _ (sizeDigits_ok _ hsz).2.1⟩

/-- `keepalive_possible` for anything but an upgrade: every early exit says "must close"; keep-alive is decided
    only after the read side, the discard flag and the response's own `close` have been looked at -/
theorem keepalivePossible_cases (c : Conn) (r : Resp) (hu : r.upgrade = false) :
    keepalivePossible c r = .mustClose ∨
    (keepalivePossible c r = .useKeepalive ∧ c.readClosed = false ∧ c.discardRequest = false ∧ r.fa.connClose = false) := by
  let P : KA → Prop := fun k =>
    k = .mustClose ∨ (k = .useKeepalive ∧ c.readClosed = false ∧ c.discardRequest = false ∧ r.fa.connClose = false)
  have no : P .mustClose := Or.inl rfl
  show P (keepalivePossible c r)
  unfold keepalivePossible
  rw [if_neg (by simp [hu])]
  refine ite_cases P (fun _ => no) fun _ => ite_cases P (fun _ => no) fun hrd => ?_
  refine ite_cases P (fun _ => no) fun _ => ite_cases P (fun _ => no) fun hcc => ?_
  refine ite_cases P (fun _ => no) fun _ => ite_cases P (fun _ => no) fun _ => ?_
  rw [Bool.or_eq_true, not_or, Bool.not_eq_true, Bool.not_eq_true] at hrd
  rw [Bool.not_eq_true] at hcc
  have yes : P .useKeepalive := Or.inr ⟨rfl, hrd.1, hrd.2, hcc⟩
  exact ite_cases P (fun _ => ite_cases P (fun _ => yes) fun _ => no) fun _ => ite_cases P (fun _ => yes) fun _ => no

theorem setup_eq (c : Conn) (r : Resp) (code : Nat) :
    setupReplyProperties c r code =
      let use := isReplyBodyNeeded c.mthd code
      let ch := use != .none && (r.totalSize == Mhd.Gen.Reply.sizeUnknown || r.fa.transEnc) && ver11Compat c.ver &&
        !(r.flags.http10Strict || r.flags.http10Server)
      (if use != .none && r.totalSize == Mhd.Gen.Reply.sizeUnknown && !ch then .mustClose else keepalivePossible c r,
       ⟨use == .send, use != .none, ch⟩) := by
  unfold setupReplyProperties
  dsimp only
  generalize keepalivePossible c r = k
  generalize (isReplyBodyNeeded c.mthd code != BodyUse.none) = a
  generalize (r.totalSize == Mhd.Gen.Reply.sizeUnknown) = b
  generalize r.fa.transEnc = t
  generalize ver11Compat c.ver = v
  generalize (r.flags.http10Strict || r.flags.http10Server) = s
  cases a <;> cases b <;> cases t <;> cases v <;> cases s <;> rfl

theorem setup_props (c : Conn) (r : Resp) (code : Nat) :
    let p := (setupReplyProperties c r code).2
    p.useReplyBodyHeaders = (isReplyBodyNeeded c.mthd code != .none) ∧
    p.sendReplyBody = (isReplyBodyNeeded c.mthd code == .send) ∧
    (p.chunked = true → p.useReplyBodyHeaders = true ∧ ver11Compat c.ver = true ∧
       (r.totalSize = Mhd.Gen.Reply.sizeUnknown ∨ r.fa.transEnc = true)) ∧
    (p.chunked = false → p.useReplyBodyHeaders = true → r.totalSize = Mhd.Gen.Reply.sizeUnknown →
       (setupReplyProperties c r code).1 = .mustClose) := by
  rw [setup_eq]
  dsimp only
  refine ⟨rfl, rfl, ?_, ?_⟩
  · intro h
    simp only [Bool.and_eq_true, Bool.or_eq_true, beq_iff_eq] at h
    exact ⟨h.1.1.1, h.1.2, h.1.1.2⟩
  · intro hc hu hs
    rw [hc, hu, hs]; rfl

theorem setup_ka_cases (c : Conn) (r : Resp) (code : Nat) :
    (setupReplyProperties c r code).1 = .mustClose ∨ (setupReplyProperties c r code).1 = keepalivePossible c r := by
  rw [setup_eq]
  dsimp only
  apply ite_cases (fun k => k = .mustClose ∨ k = keepalivePossible c r) (fun _ => Or.inl rfl) fun _ => Or.inr rfl

theorem setup_ka_noUpgrade (c : Conn) (r : Resp) (code : Nat) (hu : r.upgrade = false) :
    (setupReplyProperties c r code).1 = .mustClose ∨
    ((setupReplyProperties c r code).1 = .useKeepalive ∧ c.readClosed = false ∧ c.discardRequest = false ∧
      r.fa.connClose = false) := by
  rcases setup_ka_cases c r code with h | h
  · exact .inl h
  · rw [h]; exact keepalivePossible_cases c r hu

/-- `setup_reply_properties` for a response with an upgrade handler and a 1xx status — on ANY connection, also one
    that is already in MUST_CLOSE (request with ambiguous framing): `keepalive_possible` decides the upgrade first
    (fix F37, `Mhd.C04.upgrade_reply_no_close`): `keepalive = MHD_CONN_MUST_UPGRADE`, no body, no body headers -/
theorem setup_upgrade (c : Conn) (r : Resp) (code : Nat) (hu : r.upgrade = true) (hc : code ≤ 199) :
    setupReplyProperties c r code = (.mustUpgrade, ⟨false, false, false⟩) := by
  have hb : isReplyBodyNeeded c.mthd code = .none := by
    unfold isReplyBodyNeeded
    have : (199 ≥ code) := hc
    simp [this]
  unfold setupReplyProperties keepalivePossible
  simp [hu, hb]

theorem beq_noContent (code : Nat) : ((code : Int) == Mhd.Gen.Reply.httpNoContent) = (code == 204) := by
  rw [Bool.eq_iff_iff, beq_iff_eq, beq_iff_eq]; exact Int.ofNat_inj (n := 204)
theorem beq_notModified (code : Nat) : ((code : Int) == Mhd.Gen.Reply.httpNotModified) = (code == 304) := by
  rw [Bool.eq_iff_iff, beq_iff_eq, beq_iff_eq]; exact Int.ofNat_inj (n := 304)

theorem isReplyBodyNeeded_eq (m : Mthd) (code : Nat) :
    isReplyBodyNeeded m code =
      if code < 200 ∨ code = 204 then .none else if m = .head ∨ code = 304 then .headersOnly else .send := by
  unfold isReplyBodyNeeded
  rw [beq_noContent, beq_notModified]
  simp only [ite_or, beq_iff_eq, ge_iff_le, ← Nat.lt_succ_iff, Nat.reduceSucc]

theorem bodyNeeded_cases (m : Mthd) (code : Nat) :
    (isReplyBodyNeeded m code = .none ↔ (code < 200 ∨ code = 204)) ∧
    (isReplyBodyNeeded m code = .send ↔ ¬ ((code < 200 ∨ code = 204) ∨ m = .head ∨ code = 304)) := by
  rw [isReplyBodyNeeded_eq]
  by_cases h1 : code < 200 ∨ code = 204
  · rw [if_pos h1]
    exact ⟨⟨fun _ => h1, fun _ => rfl⟩, nofun, fun h => absurd (Or.inl h1) h⟩
  · rw [if_neg h1]
    by_cases h2 : m = .head ∨ code = 304
    · rw [if_pos h2]
      exact ⟨⟨nofun, fun h => absurd h h1⟩, nofun, fun h => absurd (Or.inr h2) h⟩
    · rw [if_neg h2]
      exact ⟨⟨nofun, fun h => absurd h h1⟩, fun _ h => h.elim h1 h2, fun _ => rfl⟩

theorem nameIs_date_te : nameIs sDate sTransferEncoding = false := by decide
theorem nameIs_date_cl : nameIs sDate sContentLength = false := by decide
theorem nameIs_date_conn : nameIs sDate sConnection = false := by decide
theorem nameIs_te_te : nameIs sTransferEncoding sTransferEncoding = true := by decide
theorem nameIs_te_cl : nameIs sTransferEncoding sContentLength = false := by decide
theorem nameIs_te_conn : nameIs sTransferEncoding sConnection = false := by decide
theorem nameIs_cl_cl : nameIs sContentLength sContentLength = true := by decide
theorem nameIs_cl_te : nameIs sContentLength sTransferEncoding = false := by decide
theorem nameIs_cl_conn : nameIs sContentLength sConnection = false := by decide

theorem fcnt_nil (k : Bytes) : fcnt k [] = 0 := rfl
theorem fcnt_single (k : Bytes) (f : Field) : fcnt k [f] = b2n (nameIs f.name k) := by
  rw [fcnt_cons, fcnt_nil]; omega

theorem fcnt_date (c : Conn) (r : Resp) (date : Option Bytes) :
    fcnt sTransferEncoding (dateFields c r date) = 0 ∧ fcnt sContentLength (dateFields c r date) = 0 ∧
    fcnt sConnection (dateFields c r date) = 0 := by
  unfold dateFields
  split
  · cases date <;> simp [fcnt_nil, fcnt_single, nameIs_date_te, nameIs_date_cl, nameIs_date_conn, b2n]
  · simp [fcnt_nil]

theorem fcnt_conn (c : Conn) (r : Resp) (ka : KA) :
    fcnt sTransferEncoding (connFields c r ka) = 0 ∧ fcnt sContentLength (connFields c r ka) = 0 ∧
    fcnt sConnection (connFields c r ka) ≤ b2n (! r.fa.connHdr) := by
  unfold connFields
  split
  · rename_i h
    simp at h
    split
    · simp [fcnt_single, nameIs_conn_te, nameIs_conn_cl, nameIs_conn_conn, b2n, h]
    · split
      · simp [fcnt_single, nameIs_conn_te, nameIs_conn_cl, nameIs_conn_conn, b2n, h]
      · simp [fcnt_nil]
  · simp [fcnt_nil]

theorem fcnt_body (r : Resp) (props : Props) :
    fcnt sTransferEncoding (bodyFields r props) =
      b2n (props.useReplyBodyHeaders && ! r.flags.headOnly && props.chunked && ! r.fa.transEnc) ∧
    fcnt sContentLength (bodyFields r props) =
      b2n (props.useReplyBodyHeaders && ! r.flags.headOnly && ! props.chunked &&
           (r.totalSize != Mhd.Gen.Reply.sizeUnknown) && ! r.fa.contentLength) ∧
    fcnt sConnection (bodyFields r props) = 0 := by
  unfold bodyFields
  by_cases h1 : (props.useReplyBodyHeaders && ! r.flags.headOnly) = true
  · simp only [h1, if_true]
    by_cases h2 : props.chunked = true
    · by_cases h3 : r.fa.transEnc = true <;>
        simp [h2, h3, fcnt_nil, fcnt_single, nameIs_te_te, nameIs_te_cl, nameIs_te_conn, b2n]
    · by_cases h3 : (r.totalSize != Mhd.Gen.Reply.sizeUnknown) = true
      · by_cases h4 : r.fa.contentLength = true <;>
          simp [h2, h3, h4, fcnt_nil, fcnt_single, nameIs_cl_te, nameIs_cl_cl, nameIs_cl_conn, b2n]
      · simp [h2, h3, fcnt_nil, b2n]
  · have h1' : (props.useReplyBodyHeaders && ! r.flags.headOnly) = false := by simpa using h1
    simp [h1', fcnt_nil, b2n]

/-- what the user part contributes: a stored Transfer-Encoding is sent on a chunked reply, a stored Content-Length
    when body headers are in use, the stored Connection header always -/
theorem userFields_counts (c : Conn) (r : Resp) (ka : KA) (props : Props) (hinv : Inv r) :
    fcnt sTransferEncoding (userFields c r ka props) = b2n (r.fa.transEnc && props.chunked) ∧
    fcnt sContentLength (userFields c r ka props) = b2n (r.fa.contentLength && props.useReplyBodyHeaders) ∧
    fcnt sConnection (userFields c r ka props) = b2n r.fa.connHdr := by
  have key : ∀ {h : Hdr} {k : Bytes}, isHdr k h = true → h.kind = .header ∧ nameIs h.name k = true := fun hh => by
    rw [isHdr_of, Bool.and_eq_true, beq_iff_eq] at hh; exact hh
  have hconn : cnt sConnection r.hdrs = b2n r.fa.connHdr := by
    rcases userFields_split c r ka props hinv with ⟨v, rest, hf, hh, h0, _⟩ | ⟨hf, h0, _⟩
    · rw [hh, cnt_cons, isHdr_conn_head, h0, hf]; rfl
    · rw [h0, hf]; rfl
  rw [userFields_eq c r ka props hinv]
  simp only [fcnt_prefixFirst]
  refine ⟨?_, ?_, ?_⟩
  · rw [fcnt_sent _ _ (r.fa.transEnc && !props.chunked) (fun h hh => by
      obtain ⟨hk, hn⟩ := key hh
      simp [UH.sends, userSt, userInit, hk, hn, nameIs_excl _ _ _ hn lenNe_TL]), hinv.te]
    cases r.fa.transEnc <;> cases props.chunked <;> rfl
  · rw [fcnt_sent _ _ (r.fa.contentLength && !props.useReplyBodyHeaders) (fun h hh => by
      obtain ⟨hk, hn⟩ := key hh
      simp [UH.sends, userSt, userInit, hk, hn, nameIs_excl _ _ _ hn lenNe_TL.symm, hinv.noInsanity]), hinv.cl]
    cases r.fa.contentLength <;> cases props.useReplyBodyHeaders <;> rfl
  · rw [fcnt_sent _ _ false (fun h hh => by
      obtain ⟨hk, hn⟩ := key hh
      simp [UH.sends, hk, nameIs_excl _ _ _ hn lenNe_CT, nameIs_excl _ _ _ hn lenNe_CL]), hconn]
    rfl

/-- the counting of `field_counts` once every part has been counted: a truth table over the flags
    (`C` chunked, `U` body headers in use, `T` / `L` / `K` stored Transfer-Encoding / Content-Length / Connection,
    `H` head-only, `S` size known, `n` automatic Connection fields) -/
theorem field_counts_table : ∀ (C U T L H S K : Bool) (n : Nat), n ≤ b2n (!K) →
    (C = true → L = false ∧ (H = true → T = true)) → (C = true → U = true) → (L = true → H = true) →
    0 + 0 + b2n (T && C) + b2n (U && !H && C && !T) = b2n C ∧
    0 + 0 + b2n (L && U) + b2n (U && !H && !C && S && !L) = b2n (U && !C && (L || !H && S)) ∧
    0 + n + b2n K + 0 ≤ 1 := by
  intro C U T L H S K n hn h1 h2 h3
  refine ⟨?_, ?_, ?_⟩
  · revert C U T L H; decide
  · revert C U T L H S; decide
  · rw [Nat.zero_add, Nat.add_zero]
    cases K
    · exact hn
    · exact Nat.succ_le_succ hn

theorem field_counts (c : Conn) (r : Resp) (date : Option Bytes) (code : Nat) (hinv : Inv r) :
    let ka := (setupReplyProperties c r code).1
    let props := (setupReplyProperties c r code).2
    let F := allFields c r date ka props
    fcnt sTransferEncoding F = b2n props.chunked ∧
    fcnt sContentLength F = b2n (props.useReplyBodyHeaders && ! props.chunked &&
        (r.fa.contentLength || (! r.flags.headOnly && r.totalSize != Mhd.Gen.Reply.sizeUnknown))) ∧
    fcnt sConnection F ≤ 1 := by
  intro ka props F
  obtain ⟨s1, s2, s3, s4⟩ := setup_props c r code
  obtain ⟨u1, u2, u3⟩ := userFields_counts c r ka props hinv
  obtain ⟨d1, d2, d3⟩ := fcnt_date c r date
  obtain ⟨c1, c2, c3⟩ := fcnt_conn c r ka
  obtain ⟨b1, b2, b3⟩ := fcnt_body r props
  -- what ties "chunked" to the flags: no stored Content-Length, and a head-only response has its own Transfer-Encoding
  have hchunk : props.chunked = true → r.fa.contentLength = false ∧ (r.flags.headOnly = true → r.fa.transEnc = true) := by
    intro hc
    have h3 := (s3 hc).2.2
    have sized : r.flags.headOnly = true → r.fa.transEnc = true := fun hho =>
      h3.resolve_left fun h => by rw [hinv.headSize hho] at h; exact absurd h (by decide)
    refine ⟨?_, sized⟩
    cases hx : r.fa.contentLength with
    | false => rfl
    | true => exact absurd ⟨sized (hinv.clHead hx), hx⟩ hinv.teCl
  have hub : props.chunked = true → props.useReplyBodyHeaders = true := fun hc => (s3 hc).1
  have hclh := hinv.clHead
  show fcnt sTransferEncoding (allFields c r date ka props) = _ ∧ fcnt sContentLength (allFields c r date ka props) = _ ∧
    fcnt sConnection (allFields c r date ka props) ≤ 1
  unfold allFields
  simp only [fcnt_append, u1, u2, u3, d1, d2, d3, c1, c2, b1, b2, b3]
  exact field_counts_table _ _ _ _ _ _ _ _ c3 hchunk hub hclh
end Mhd.Reply
