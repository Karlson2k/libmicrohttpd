/-
  C09 — histories.  Every script operation, and hence every history,
  keeps each of the four ledgers (`StepOk`); over a whole trace the life-cycle
  ledger reads `TInv`.  Also: what a shutdown and a round after all clients
  have gone leave in the lists.
-/
import Mhd.Proofs.LimitsStep

namespace Mhd.Limits

/-- the life-cycle bookkeeping over a whole trace: every connection index below `nextId` is either
    still in a list or its socket has been closed exactly once; started = still served + closed -/
def TInv (s : St) (tr : List Ev) : Prop := ∀ c,
  fdc c tr + NN c s [] + LL c s [] = (if c < s.nextId then 1 else 0) ∧
  stc c tr = LL c s [] + clc c tr ∧ clc c tr ≤ fdc c tr

/-- what an operation, and a history, does to each ledger -/
structure StepOk (s s' : St) (e : List Ev) : Prop where
  inv : Inv s → Inv s'
  rinv : RInv s → RInv s'
  fb : ∀ r, FB r s.resps s'.resps e
  tinv : ∀ tr, TInv s tr → TInv s' (tr ++ e)

theorem StepOk.refl (s : St) : StepOk s s [] :=
  ⟨id, id, fun r => FB.refl r _, fun tr h => (List.append_nil tr).symm ▸ h⟩

theorem StepOk.trans {s0 s1 s2 : St} {e1 e2 : List Ev} (h1 : StepOk s0 s1 e1) (h2 : StepOk s1 s2 e2) :
    StepOk s0 s2 (e1 ++ e2) :=
  ⟨h2.inv ∘ h1.inv, h2.rinv ∘ h1.rinv, fun r => (h1.fb r).trans (h2.fb r),
   fun tr h => List.append_assoc tr e1 e2 ▸ h2.tinv _ (h1.tinv tr h)⟩

theorem StepOk.ofTr {s s' : St} {e : List Ev} (n : Nat) (b : List Nat)
    (h : Tr b { s with nextId := n } [] [] s' [] [] e)
    (hb : ∀ c, (if c < n then 1 else 0) = (if c < s.nextId then 1 else 0) + b.count c) : StepOk s s' e := by
  refine ⟨fun h0 => h.inv ⟨h0.conns, h0.le, h0.ip, h0.ipLe, h0.cf⟩,
          fun h0 => h.rinv ⟨h0.rt, h0.fresh, h0.rf⟩, h.fb, fun tr h0 c => ?_⟩
  obtain ⟨a1, a2, a3⟩ := h0 c
  obtain ⟨b1, b2, b3⟩ := h.bal c
  have hn : s'.nextId = n := h.next
  have hb := hb c
  rw [hn, fdc_append, stc_append, clc_append]
  change fdc c e + NN c s' [] + LL c s' [] = NN c s [] + LL c s [] + b.count c at b1
  change stc c e + LL c s [] = LL c s' [] + clc c e at b2
  exact ⟨by clear a2 a3 b2 b3; omega, by clear a1 a3 b1 b3 hb; omega, by clear a1 a2 b1 b2 hb; omega⟩

theorem StepOk.ofTr0 {s s' : St} {e : List Ev} (h : Tr [] s [] [] s' [] [] e) : StepOk s s' e :=
  StepOk.ofTr s.nextId [] h (fun _ => rfl)

theorem step_ok (s : St) (o : Op) : StepOk s (step s o).1 (step s o).2 := by
  unfold step
  split
  · exact StepOk.refl s
  · rename_i hcond
    cases o with
    | arrive a v ext =>
      exact StepOk.ofTr (s.nextId + 1) [s.nextId] (arrive_tr s a v ext)
        (fun c => by rw [List.count_singleton]; grind)
    | armFail site => exact .ofTr0 (Tr.ctl s [] [] _ _ _)
    | disarm => exact .ofTr0 (Tr.ctl s [] [] _ _ _)
    | req id b => exact .ofTr0 (mapAll_tr s id _)
    | clientClose id => exact .ofTr0 (mapAll_tr s id _)
    | hold id => exact .ofTr0 (mapAll_tr s id _)
    | drain id => exact .ofTr0 (mapAll_tr s id _)
    | resume id => exact .ofTr0 (suspUpd_tr s id _)
    | upClose id => exact .ofTr0 (suspUpd_tr s id _)
    | round => exact .ofTr0 (round_tr s)
    | query =>
      dsimp only
      split
      · exact StepOk.refl s
      · exact .ofTr0 (cleanupAll_tr s [])
    | stop => exact .ofTr0 (stop_tr s)
    | respCreate r big hasCb upg =>
      have hn : s.resps r = none := by
        simp [Op.legal] at hcond
        exact hcond.2
      exact .ofTr0 (respCreate_tr s r big hasCb upg hn)
    | respDrop r =>
      dsimp only
      cases hx : s.resps r with
      | none => exact StepOk.refl s
      | some x =>
        have happ : x.app = true := by
          simp [Op.legal, hx] at hcond
          exact hcond.2.1
        exact .ofTr0 (respDrop_tr s r x hx happ _ rfl)
    | extQueue id r =>
      have hl : s.susp.any (extQueueable id) = true := by
        simp [Op.legal] at hcond
        simpa using hcond.2.2
      exact .ofTr0 (extQueue_tr s id r hl)
    | acceptFail => exact StepOk.refl s

theorem run_ok (ops : List Op) : ∀ s : St, StepOk s (run s ops).1 (run s ops).2 := by
  induction ops with
  | nil => exact StepOk.refl
  | cons o os ih => exact fun s => (step_ok s o).trans (ih _)

theorem init_inv (cfg : Cfg) : Inv (St.init cfg) :=
  ⟨rfl, Nat.zero_le _, fun _ => (ite_self 0).symm, fun _ => Nat.zero_le _, cf_none⟩

theorem init_rinv (cfg : Cfg) : RInv (St.init cfg) := ⟨fun _ => rfl, fun _ => rfl, rfree_none⟩

theorem init_tinv (cfg : Cfg) : TInv (St.init cfg) [] := fun _ => ⟨rfl, rfl, Nat.le_refl _⟩

theorem run_inv (ops : List Op) : ∀ (s : St), Inv s → Inv (run s ops).1 := fun s => (run_ok ops s).inv

theorem cleanupList_frame (l : List Conn) : ∀ s : St, ∃ n ip T f,
    (cleanupList s l).1 = { s with connections := n, ipCount := ip, resps := T, fault := f } := by
  induction l with
  | nil => exact fun s => ⟨_, _, _, _, rfl⟩
  | cons x rest ih =>
    intro s
    obtain ⟨_, _, _, _, h⟩ := ih (cleanupOne s x).1
    show ∃ n ip T f, (cleanupList (cleanupOne s x).1 rest).1 = _
    rw [h, cleanupOne_eq s x _ rfl, ipDel_eq]
    exact ⟨_, _, _, _, rfl⟩

theorem cleanupAll_frame (s : St) : ∃ n ip T f,
    (cleanupAll s).1 = { s with cleanup := [], connections := n, ipCount := ip, resps := T, fault := f } :=
  cleanupList_frame s.cleanup.reverse { s with cleanup := [] }

theorem closeNewList_frame (l : List Conn) : ∀ s : St, ∃ ip f,
    (closeNewList s l).1 = { s with ipCount := ip, fault := f } := by
  induction l with
  | nil => exact fun s => ⟨_, _, rfl⟩
  | cons x rest ih =>
    intro s
    obtain ⟨_, _, h⟩ := ih (ipDel s x.addr)
    show ∃ ip f, (closeNewList (ipDel s x.addr) rest).1 = _
    rw [h, ipDel_eq]
    exact ⟨_, _, rfl⟩

theorem forceResume_lists (flag : Bool) (s : St) : (forceResume flag s).1.newL = s.newL ∧
    (forceResume flag s).1.susp = (if flag then s.susp.filter (fun c => !canResume c) else s.susp) := by
  cases flag <;> exact ⟨rfl, rfl⟩

theorem stopTail_empties (s : St) (hnew : s.newL = []) (hp : stopPanics s = false) :
    (stopTail s).1.newL = [] ∧ (stopTail s).1.active = [] ∧ (stopTail s).1.susp = [] ∧ (stopTail s).1.cleanup = [] := by
  unfold stopTail
  simp only []
  obtain ⟨_, _, _, _, hc⟩ := cleanupAll_frame (closeActive (forceResume s.cfg.allowUpgrade (markUpgraded s)).1).1
  obtain ⟨f1, f3⟩ := forceResume_lists s.cfg.allowUpgrade (markUpgraded s)
  rw [hc]
  refine ⟨f1.trans ?_, rfl, f3.trans ?_, rfl⟩
  · unfold markUpgraded; split <;> exact hnew
  · unfold stopPanics at hp
    unfold markUpgraded
    cases hu : s.cfg.allowUpgrade with
    | false =>
      simp only [hu, Bool.false_eq_true, if_false] at hp ⊢
      cases h : s.susp with
      | nil => rfl
      | cons x l => rw [h] at hp; cases hp
    | true =>
      simp only [hu, if_true] at hp ⊢
      rw [List.filter_eq_nil_iff]
      intro x hx
      obtain ⟨y, hy, rfl⟩ := List.mem_map.mp hx
      have hux : y.urh = true := by simpa using List.any_eq_false.mp hp y hy
      simp [canResume, markAppClosed, hux]

theorem stop_empties (s : St) (hp : (stop s).1.fault ≠ some .stopSuspended) :
    (stop s).1.newL = [] ∧ (stop s).1.active = [] ∧ (stop s).1.susp = [] ∧ (stop s).1.cleanup = [] := by
  unfold stop at hp ⊢
  simp only [] at hp ⊢
  obtain ⟨_, _, h1⟩ := closeNewList_frame s.newL.reverse { s with shutdown := true, newL := [] }
  generalize closeNewList { s with shutdown := true, newL := [] } s.newL.reverse = r1 at h1 hp ⊢
  have h2 := (forceResume_lists r1.1.cfg.allowSuspend r1.1).1
  generalize forceResume r1.1.cfg.allowSuspend r1.1 = r2 at h2 hp ⊢
  by_cases hpan : stopPanics r2.1 = true
  · rw [if_pos hpan] at hp; exact absurd rfl hp
  · rw [if_neg hpan]; simp only []
    exact stopTail_empties r2.1 (h2.trans (h1 ▸ rfl)) (eq_false_of_ne_true hpan)

theorem step_stop_eq (s : St) (h1 : s.shutdown = false) (h2 : s.fault = none) : step s .stop = stop s := by
  unfold step
  simp [h1, h2, Op.legal]

theorem handleConn_closed (cfg : Cfg) (R : RespTab) (c : Conn) (h1 : c.req = none) (h2 : c.clientClosed = true) :
    (handleConn cfg R c).2.2.1 = .clean := by
  unfold handleConn handleReq
  simp [h1, afterReq, h2]

theorem handleList_allclosed (cfg : Cfg) (l : List Conn) : ∀ (acc : HAcc),
    (∀ c ∈ l, c.req = none ∧ c.clientClosed = true) →
    (handleList cfg acc l).kept = acc.kept ∧ (handleList cfg acc l).susp = acc.susp := by
  induction l with
  | nil => exact fun acc _ => ⟨rfl, rfl⟩
  | cons x rest ih =>
    intro acc h
    unfold handleList
    have hx := h x (List.mem_cons_self ..)
    have hk := handleConn_closed cfg acc.R x hx.1 hx.2
    generalize handleConn cfg acc.R x = q at hk ⊢
    obtain ⟨R1, c1, d, e⟩ := q
    cases hk
    exact ih _ (fun c hc => h c (List.mem_cons_of_mem _ hc))

/-- after every client has closed (no connection waiting, suspended or with an unanswered
    request), one event-loop round disposes of every connection -/
theorem round_closes_all (s : St) (h1 : s.newL = []) (h2 : s.susp = [])
    (h3 : ∀ c ∈ s.active, c.req = none ∧ c.clientClosed = true) :
    (round s).1.newL = [] ∧ (round s).1.active = [] ∧ (round s).1.susp = [] ∧ (round s).1.cleanup = [] := by
  unfold round
  simp only []
  have hr : (if s.cfg.allowSuspend then resumePass s else (s, [])).1.newL = [] ∧
      (if s.cfg.allowSuspend then resumePass s else (s, [])).1.susp = [] ∧
      (if s.cfg.allowSuspend then resumePass s else (s, [])).1.active = s.active := by
    split
    · unfold resumePass
      split
      · exact ⟨h1, h2, rfl⟩
      · simp [h1, h2]
    · exact ⟨h1, h2, rfl⟩
  generalize (if s.cfg.allowSuspend then resumePass s else (s, [])) = r1 at hr ⊢
  obtain ⟨a1, a2, a3⟩ := hr
  have hp : processNew r1.1 = (r1.1, []) := by
    unfold processNew; rw [a1]
    exact congrArg (fun l => ({ r1.1 with newL := l }, ([] : List Ev))) a1.symm
  rw [hp]
  obtain ⟨_, _, _, _, hc⟩ := cleanupAll_frame (handlePass r1.1).1
  rw [hc]
  unfold handlePass
  have hl := handleList_allclosed r1.1.cfg r1.1.active.reverse
    { R := { tab := r1.1.resps, fault := none }, kept := [], clean := [], susp := [], evs := [] }
    (fun c hc => h3 c (a3 ▸ List.mem_reverse.mp hc))
  generalize handleList r1.1.cfg _ r1.1.active.reverse = acc at hl ⊢
  exact ⟨a1, hl.1, (congrArg (· ++ r1.1.susp) hl.2).trans a2, rfl⟩

end Mhd.Limits
