/-
  C11 — lossless continuation.  Three per-connection turn relations, taken through the entry points of a turn
  together (`LL`): `DU` (upload stream: bytes delivered to the handler ++ read buffer ++ socket stay what they were),
  `RW` (reply stream, invariant `RInv`), `CW` (framing of Content-Length requests, invariant `CInv`).

  The machine has a request side (up to FULL_REQ_RECEIVED) and a reply side.  A step of the request side keeps the
  reply fields (`RKS`), so `RW` has nothing to show for it; a step of the reply side keeps the request fields (`Rep`),
  so `DU` and `CW` have nothing to show for it.  Over a history the three are one ghost accounting of the connection
  (`Acct`), lifted by one `Lift_run` (`run_acct`).
-/
import Mhd.Proofs.SuspDaemon
namespace Mhd.Susp

/-- the application script with every suspend point (and the partition of the upload into
    calls) erased -/
def Plan.erase (p : Plan) : Plan := { p with fs := [], takes := [], us := [], ls := [], rs := [], rd := false }

def St.pre : St → Bool
  | .recvHead | .hdrProcessed | .bodyRecv => true
  | _ => false

def DU (k : Conn) (evs : List CEv) (k' : Conn) : Prop :=
  upBytes evs ++ dataOf k'.rbuf ++ dataOf k'.inbox = dataOf k.rbuf ++ dataOf k.inbox ∧ k'.sent = k.sent

theorem DU_rel : TurnRel DU where
  refl := fun _ => ⟨rfl, rfl⟩
  trans := by
    intro k e1 k1 e2 k2 h1 h2
    refine ⟨?_, h2.2.trans h1.2⟩
    rw [upBytes_append, List.append_assoc, List.append_assoc, ← List.append_assoc (upBytes e2), h2.1, ← List.append_assoc, h1.1]

theorem DU_of_same {k k' : Conn} {evs} (h1 : k'.rbuf = k.rbuf) (h2 : k'.inbox = k.inbox) (h3 : k'.sent = k.sent)
    (he : upBytes evs = []) : DU k evs k' := ⟨by rw [he, h1, h2]; rfl, h3⟩

theorem DU_of_keeps {k k' : Conn} {evs} (h : Keeps k k') (he : upBytes evs = []) : DU k evs k' :=
  DU_of_same h.rbuf h.inbox h.sent he

theorem Parse.du {k k' : Conn} {evs} (h : Parse k evs k') : DU k evs k' := by
  refine ⟨?_, h.sent⟩
  rw [h.body, h.inbox]
  rcases h.evs with e | ⟨w, e⟩ <;> rw [e] <;> rfl

theorem Deliver.du {g : Guards} {k k' : Conn} {evs took} (hd : Deliver g k evs k' took) : DU k evs k' := by
  refine ⟨?_, hd.sent⟩
  rw [hd.up, hd.rbuf, hd.inbox, dataOf_drop_lead _ _ hd.le]

theorem DU_setFault (k : Conn) (w : String) : DU k [.fault w] (k.setFault w).1 := ⟨rfl, rfl⟩

theorem DU_procBody (g : Guards) : Sat DU (procBody g) :=
  fun k => sat_procBody DU_rel (fun _ => True) DU_setFault Parse.du (fun _ hd => hd.du) (fun _ _ _ => trivial) k trivial

def Conn.req (k : Conn) := (k.rbuf, k.inbox, k.sent, k.plan, k.later, k.done)

theorem Keeps.req {k k' : Conn} (h : Keeps k k') : k'.req = k.req := by
  simp only [Conn.req, h.rbuf, h.inbox, h.sent, h.plan, h.later, h.done]

/-- a step of the reply side: the request fields stay, the handler is given no upload bytes, and the state
    stays past the request body -/
structure Rep (k : Conn) (evs : List CEv) (k' : Conn) : Prop where
  req : k'.req = k.req
  up : upBytes evs = []
  late : k.st.pre = false → k'.st.pre = false

theorem Rep.du {k k' : Conn} {evs} (h : Rep k evs k') : DU k evs k' :=
  DU_of_same (congrArg (·.1) h.req) (congrArg (·.2.1) h.req) (congrArg (·.2.2.1) h.req) h.up

theorem Reader.rep {g : Guards} {k k1 k' : Conn} {evs ret} (h : Reader g k evs k1 ret) (e : k'.req = k1.req)
    (hl : k1.st.pre = false → k'.st.pre = false) : Rep k evs k' :=
  ⟨e.trans h.call.keeps.req, h.up, fun hp => hl (h.call.keeps.st ▸ hp)⟩

theorem Rep_readyChunked (g : Guards) (k : Conn) : Rep k (readyChunked g k).2.1 (readyChunked g k).1 := by
  rcases readyChunked_cases g k with ⟨_, e⟩ | ⟨k1, evs, ret, hr, ⟨_, e⟩ | ⟨_, e⟩ | ⟨n, _, e⟩⟩ <;> rw [e]
  · exact ⟨rfl, rfl, fun _ => rfl⟩
  · exact hr.rep rfl fun _ => rfl
  · exact hr.rep rfl id
  · exact hr.rep rfl fun _ => rfl

theorem Rep_tryReadyNormal (g : Guards) (k : Conn) : Rep k (tryReadyNormal g k).2.1 (tryReadyNormal g k).1 := by
  rcases tryReadyNormal_cases g k with e | ⟨k1, evs, ret, hr, ⟨_, e⟩ | ⟨_, e⟩ | ⟨n, _, e⟩⟩ <;> rw [e]
  · exact ⟨rfl, rfl, id⟩
  · have := hr.rep (k' := (k1.setFault "end of stream from a known-size reader").1) rfl id
    exact ⟨this.req, by rw [upBytes_append, this.up]; rfl, this.late⟩
  · exact hr.rep rfl fun _ => rfl
  · exact hr.rep rfl id

theorem Rep_writeBodyKnown (g : Guards) (k : Conn) : Rep k (writeBodyKnown g k).2 (writeBodyKnown g k).1 := by
  rcases writeBodyKnown_cases g k with ⟨_, e⟩ | ⟨_, k1, evs, rdy, et, e | ⟨_, _, n, s, _, hs, e⟩⟩ <;> rw [e]
  · exact ⟨rfl, rfl, fun _ => rfl⟩
  all_goals
    have ht := Rep_tryReadyNormal g k
    rw [et] at ht
  · exact ht
  · refine ⟨ht.req, by rw [upBytes_append, ht.up]; rfl, fun hp => ?_⟩
    rcases hs with ⟨e, _⟩ | ⟨e, _⟩ <;> rw [show ({ k1 with rwp := k1.rwp + n, st := s } : Conn).st = s from rfl, e]
    · rfl
    · exact ht.late hp

theorem patRange_append (rid a n m : Nat) : patRange rid a n ++ patRange rid (a + n) m = patRange rid a (n + m) := by
  induction n generalizing a with
  | zero => rw [Nat.zero_add]; rfl
  | succ n ih =>
    rw [Nat.add_right_comm n 1 m, show a + (n + 1) = (a + 1) + n by omega]
    exact congrArg (pat rid a :: ·) (ih (a + 1))

theorem patRange_zero_append (rid n m : Nat) : patRange rid 0 n ++ patRange rid n m = patRange rid 0 (n + m) := by
  have := patRange_append rid 0 n m
  rwa [Nat.zero_add] at this

/-- the complete reply bodies of a list of requests, in order -/
def bodies : List Plan → List UInt8
  | [] => []
  | p :: r => patRange p.rid 0 p.size ++ bodies r

theorem bodies_append (a b : List Plan) : bodies (a ++ b) = bodies a ++ bodies b := by
  induction a with
  | nil => rfl
  | cons p r ih => exact (congrArg (patRange p.rid 0 p.size ++ ·) ih).trans (List.append_assoc _ _ _).symm

/-- invariant of the reply side: `w` = body bytes sent so far on this connection: the complete
    bodies of the requests already served, then the first `rwp` bytes of the current reply -/
structure RInv (k : Conn) (w : List UInt8) : Prop where
  wire : w ++ k.wpend = bodies k.done ++ patRange k.plan.rid 0 k.rwp
  le : k.rwp ≤ k.plan.size
  win : k.winStart + k.winSize ≤ k.plan.size
  ready : k.st ≠ .bodyReady → k.wpend = []
  known : k.chunkedReply = false → k.wpend = []
  eosv : k.eos = true → k.rwp = k.plan.size
  sentv : (k.st = .bodySent ∨ k.st = .footersSending) → k.eos = true
  done : (k.st = .replySent ∨ k.st = .finished) → k.rwp = k.plan.size

def RW (k : Conn) (evs : List CEv) (k' : Conn) : Prop := ∀ w, RInv k w → RInv k' (w ++ wireBytes evs)

theorem RW_rel : TurnRel RW where
  refl := fun k w h => by rw [wireBytes_nil, List.append_nil]; exact h
  trans := by
    intro k e1 k1 e2 k2 h1 h2 w hw
    rw [wireBytes_append, ← List.append_assoc]; exact h2 _ (h1 w hw)

theorem RW_quiet {k k' : Conn} {evs} (he : wireBytes evs = []) (h : ∀ w, RInv k w → RInv k' w) : RW k evs k' :=
  fun w hw => by rw [he, List.append_nil]; exact h w hw

structure RKeeps (k k' : Conn) : Prop where
  plan : k'.plan = k.plan
  rwp : k'.rwp = k.rwp
  wpend : k'.wpend = k.wpend
  eos : k'.eos = k.eos
  winStart : k'.winStart = k.winStart
  winSize : k'.winSize = k.winSize
  done : k'.done = k.done

theorem RKeeps.of_reply {k k' : Conn} (h : k'.reply = k.reply) : RKeeps k k' := by
  simp only [Conn.reply, Prod.mk.injEq] at h
  obtain ⟨h1, h2, h3, h4, h5, h6, h7⟩ := h
  exact ⟨h1, h2, h3, h4, h5, h6, h7⟩

theorem RKeeps.reply {k k' : Conn} (h : RKeeps k k') : k'.reply = k.reply := by
  simp only [Conn.reply, h.plan, h.rwp, h.wpend, h.eos, h.winStart, h.winSize, h.done]

theorem Keeps.toR {k k' : Conn} (h : Keeps k k') : RKeeps k k' := ⟨h.plan, h.rwp, h.wpend, h.eos, h.winStart, h.winSize, h.done⟩
theorem RKeeps.refl (k : Conn) : RKeeps k k := .of_reply rfl
theorem RKeeps.trans {a b c : Conn} (h1 : RKeeps a b) (h2 : RKeeps b c) : RKeeps a c := .of_reply (h2.reply.trans h1.reply)

/-- the reply fields stay and the state moves: what the new state asks of them -/
theorem RInv.move {k k' : Conn} {w} (h : RInv k w) (hr : RKeeps k k') (h1 : k'.st ≠ .bodyReady → k.wpend = [])
    (h2 : k'.st = .bodySent ∨ k'.st = .footersSending → k.eos = true)
    (h3 : k'.st = .replySent ∨ k'.st = .finished → k.rwp = k.plan.size) : RInv k' w := by
  have hch : k'.chunkedReply = k.chunkedReply := by unfold Conn.chunkedReply; rw [hr.plan]
  refine ⟨?_, ?_, ?_, ?_, ?_, ?_, ?_, ?_⟩
  · rw [hr.wpend, hr.plan, hr.rwp, hr.done]; exact h.wire
  · rw [hr.plan, hr.rwp]; exact h.le
  · rw [hr.plan, hr.winStart, hr.winSize]; exact h.win
  · rw [hr.wpend]; exact h1
  · rw [hch, hr.wpend]; exact h.known
  · rw [hr.eos, hr.rwp, hr.plan]; exact h.eosv
  · rw [hr.eos]; exact h2
  · rw [hr.rwp, hr.plan]; exact h3

/-- states in which the reply has not reached the body yet, or is waiting for the reader -/
def St.early : St → Bool
  | .bodyReady | .bodySent | .footersSending | .replySent | .finished => false
  | _ => true

theorem RW_of_rkeeps {k k' : Conn} {evs} (h : RKeeps k k') (he : wireBytes evs = [])
    (hst : k'.st = k.st ∨ (k.st ≠ .bodyReady ∧ k'.st.early = true)) : RW k evs k' := by
  refine RW_quiet he fun w hw => ?_
  rcases hst with e | ⟨e1, e2⟩
  · exact hw.move h (e ▸ hw.ready) (e ▸ hw.sentv) (e ▸ hw.done)
  · refine hw.move h (fun _ => hw.ready e1) (fun hx => ?_) (fun hx => ?_) <;>
      rcases hx with hx | hx <;> rw [hx] at e2 <;> exact nomatch e2

theorem RW_of_keeps {k k' : Conn} {evs} (h : Keeps k k') (he : wireBytes evs = []) : RW k evs k' :=
  RW_of_rkeeps h.toR he (.inl h.st)

def RKS (k : Conn) (evs : List CEv) (k' : Conn) : Prop := RKeeps k k' ∧ k'.st = k.st ∧ wireBytes evs = []

theorem RKS_rel : TurnRel RKS where
  refl := fun k => ⟨.refl k, rfl, rfl⟩
  trans := fun _ _ _ _ _ h1 h2 =>
    ⟨h1.1.trans h2.1, h2.2.1.trans h1.2.1, by rw [wireBytes_append, h1.2.2, h2.2.2]; rfl⟩

theorem RKS_of_keeps {k k' : Conn} {evs} (h : Keeps k k') (he : wireBytes evs = []) : RKS k evs k' := ⟨h.toR, h.st, he⟩

theorem Parse.rks {k k' : Conn} {evs} (h : Parse k evs k') : RKS k evs k' := by
  refine ⟨.of_reply h.reply, h.st, ?_⟩
  rcases h.evs with e | ⟨w, e⟩ <;> rw [e] <;> rfl

theorem RKS_procBody (g : Guards) : Sat RKS (procBody g) :=
  fun k => sat_procBody RKS_rel (fun _ => True) (fun _ _ => ⟨.of_reply rfl, rfl, rfl⟩) Parse.rks
    (fun _ hd => ⟨.of_reply hd.reply, hd.st, hd.wire⟩) (fun _ _ _ => trivial) k trivial

theorem Reader.room {g : Guards} {k k1 : Conn} {evs ret n} (h : Reader g k evs k1 ret) (hle : k.rwp ≤ k.plan.size)
    (hn : ret = some n) : k.rwp + n ≤ k1.plan.size := by
  rw [h.call.keeps.plan]; exact Nat.add_le_of_le_sub' hle (h.le n hn)

theorem Reader.rinv {g : Guards} {k k1 : Conn} {evs ret w} (h : Reader g k evs k1 ret) (hw : RInv k w) :
    RInv k1 (w ++ wireBytes evs) := RW_of_keeps h.call.keeps h.call.wire w hw

theorem RW_readyChunked (g : Guards) (k : Conn) (hst : k.st = .bodyUnready) (hch : k.chunkedReply = true) :
    RW k (readyChunked g k).2.1 (readyChunked g k).1 := by
  intro w hw
  have hwp : k.wpend = [] := hw.ready (by rw [hst]; exact nofun)
  rcases readyChunked_cases g k with ⟨heos, e⟩ | ⟨k1, evs, ret, hr, ⟨hn, e⟩ | ⟨_, e⟩ | ⟨n, hn, e⟩⟩ <;> rw [e]
  · rw [wireBytes_nil, List.append_nil]
    exact hw.move (.of_reply rfl) (fun _ => hwp) (fun _ => heos) (·.elim nofun nofun)
  all_goals
    have h1 := hr.rinv hw
    have hk := hr.call.keeps
  · -- end of stream: the reader had announced exactly `size` bytes
    have hsz : k1.rwp = k1.plan.size := by
      rw [hk.rwp, hk.plan]; exact Nat.le_antisymm hw.le (hr.eos hn)
    exact ⟨h1.wire, h1.le, h1.win, fun _ => hk.wpend.trans hwp, fun _ => hk.wpend.trans hwp, fun _ => hsz, fun _ => rfl,
      (·.elim nofun nofun)⟩
  · exact h1
  · have hle := hr.room hw.le hn
    have hch1 : k1.chunkedReply = true := by unfold Conn.chunkedReply at *; rw [hk.plan]; exact hch
    refine ⟨?_, hle, h1.win, fun hx => absurd rfl hx, fun hx => (nomatch (show k1.chunkedReply = false from hx).symm.trans hch1),
      fun he => ?_, (·.elim nofun nofun), (·.elim nofun nofun)⟩
    · show (w ++ wireBytes evs) ++ patRange k.plan.rid k.rwp (n + 1) = bodies k1.done ++ patRange k1.plan.rid 0 (k.rwp + (n + 1))
      have := h1.wire
      rw [hk.wpend, hwp, List.append_nil, hk.rwp] at this
      rw [this, List.append_assoc, hk.plan, patRange_zero_append]
    · -- the stream has not ended
      have := h1.eosv he
      rw [hk.rwp] at this
      exact absurd (Nat.lt_of_lt_of_le (Nat.lt_add_of_pos_right (Nat.succ_pos n)) (this ▸ hle)) (Nat.lt_irrefl _)

theorem RW_tryReadyNormal (g : Guards) (k : Conn) (hch : k.chunkedReply = false) :
    RW k (tryReadyNormal g k).2.1 (tryReadyNormal g k).1 := by
  rcases tryReadyNormal_cases g k with e | ⟨k1, evs, ret, hr, ⟨_, e⟩ | ⟨_, e⟩ | ⟨n, hn, e⟩⟩ <;> rw [e]
  · exact RW_rel.refl k
  all_goals
    intro w hw
    have h1 := hr.rinv hw
    have hk := hr.call.keeps
  · rw [wireBytes_append, ← List.append_assoc]
    exact RW_of_rkeeps (k := k1) (k' := (k1.setFault _).1) (.of_reply rfl) rfl (.inl rfl) _ h1
  · have hwp : k1.wpend = [] := hk.wpend.trans (hw.known hch)
    refine ⟨h1.wire, h1.le, ?_, fun _ => hwp, fun _ => hwp, h1.eosv, (·.elim nofun nofun), (·.elim nofun nofun)⟩
    show k.rwp + 0 ≤ k1.plan.size
    rw [hk.plan]; exact hw.le
  · refine ⟨h1.wire, h1.le, ?_, h1.ready, h1.known, h1.eosv, h1.sentv, h1.done⟩
    exact hr.room hw.le hn

/-- sending the rest of the window `[ws, ws + wz)` from position `p` stays within the size -/
theorem window_rest {p ws wz size : Nat} (hw : ws + wz ≤ size) (hp : p ≤ size) :
    p + (ws + wz - p) ≤ size ∧ (p = size → p + (ws + wz - p) = size) := by omega

theorem RW_writeBodyKnown (g : Guards) (k : Conn) (hch : k.chunkedReply = false) :
    RW k (writeBodyKnown g k).2 (writeBodyKnown g k).1 := by
  rcases writeBodyKnown_cases g k with ⟨hlt, e⟩ | ⟨_, k1, evs, rdy, et, e | ⟨_, _, n, s, hn, hs, e⟩⟩ <;> rw [e]
  · exact RW_quiet rfl fun w hw =>
      hw.move (.of_reply rfl) (fun _ => hw.known hch) (·.elim nofun nofun) (fun _ => Nat.le_antisymm hw.le (Nat.le_of_not_lt hlt))
  all_goals
    have t : RW k evs k1 ∧ k1.plan = k.plan := by
      have := And.intro (RW_tryReadyNormal g k hch) (congrArg (·.2.2.2.1) (Rep_tryReadyNormal g k).req)
      rw [et] at this; exact this
  · exact t.1
  · -- the rest of the window goes on the wire
    intro w hw
    have h1 := t.1 w hw
    have hwp : k1.wpend = [] := h1.known (by unfold Conn.chunkedReply at *; rw [t.2]; exact hch)
    have hr := window_rest h1.win h1.le
    rw [← hn] at hr
    rw [wireBytes_append, ← List.append_assoc]
    refine ⟨?_, hr.1, h1.win, fun _ => hwp, fun _ => hwp, fun he => hr.2 (h1.eosv he), fun hx => ?_, fun hx => ?_⟩
    · show (w ++ wireBytes evs ++ (patRange k1.plan.rid k1.rwp n ++ [])) ++ k1.wpend
        = bodies k1.done ++ patRange k1.plan.rid 0 (k1.rwp + n)
      have := h1.wire
      rw [hwp, List.append_nil] at this ⊢
      rw [List.append_nil, this, List.append_assoc, patRange_zero_append]
    · have hx : s = .bodySent ∨ s = .footersSending := hx
      rcases hs with ⟨e, _⟩ | ⟨e, _⟩ <;> rw [e] at hx
      · exact hx.elim nofun nofun
      · exact h1.sentv hx
    · have hx : s = .replySent ∨ s = .finished := hx
      exact hs.elim (·.2) fun h => hr.2 (h1.done (h.1 ▸ hx))

/-- the request boundary: the reply just completed joins `done`, the next one starts at position 0 -/
theorem RW_nextRequest (k : Conn) (hst : k.st = .replySent) : RW k (nextRequest k).2.1 (nextRequest k).1 := by
  intro w hw
  have hwp : k.wpend = [] := hw.ready (by rw [hst]; exact nofun)
  have hdone : k.rwp = k.plan.size := hw.done (.inl hst)
  rcases nextRequest_cases k with ⟨_, e⟩ | ⟨p, ps, _, e⟩ <;> rw [e, show wireBytes [.completed] = [] from rfl, List.append_nil]
  · exact hw.move (.of_reply rfl) (fun _ => hwp) (·.elim nofun nofun) (fun _ => hdone)
  · refine ⟨?_, Nat.zero_le _, Nat.zero_le _, fun _ => rfl, fun _ => rfl, fun h => (nomatch h), (·.elim nofun nofun),
      (·.elim nofun nofun)⟩
    show w ++ [] = bodies (k.done ++ [k.plan]) ++ []
    have := hw.wire
    rw [hwp, hdone] at this
    rw [this, bodies_append, List.append_nil]
    show _ = _ ++ (_ ++ [])
    rw [List.append_nil]

theorem RInv_init (p : Plan) (l : List Plan) : RInv { plan := p, later := l } [] :=
  ⟨rfl, Nat.zero_le _, Nat.zero_le _, fun _ => rfl, fun _ => rfl, fun h => (nomatch h), (·.elim nofun nofun), (·.elim nofun nofun)⟩

def clSum : List Plan → Nat
  | [] => 0
  | p :: r => p.clen + clSum r

theorem clSum_append (a b : List Plan) : clSum (a ++ b) = clSum a + clSum b := by
  induction a with
  | nil => exact (Nat.zero_add _).symm
  | cons p r ih => exact (congrArg (p.clen + ·) ih).trans (Nat.add_assoc _ _ _).symm

def NoChunk (k : Conn) : Prop := ∀ p ∈ k.script, p.body ≠ .chunked

/-- `u` = all upload bytes the handler has consumed on this connection -/
structure CInv (k : Conn) (u : List UInt8) : Prop where
  head : k.st = .recvHead → u.length = clSum k.done
  hdr : k.st = .hdrProcessed → u.length = clSum k.done ∧ k.remaining = k.plan.clen
  body : k.st = .bodyRecv → u.length + k.remaining = clSum k.done + k.plan.clen
  late : k.st.pre = false → u.length = clSum k.done + k.plan.clen

def CW (k : Conn) (evs : List CEv) (k' : Conn) : Prop :=
  k'.script = k.script ∧ (NoChunk k → ∀ u, CInv k u → CInv k' (u ++ upBytes evs))

theorem CW_rel : TurnRel CW where
  refl := fun k => ⟨rfl, fun _ u h => by rw [upBytes_nil, List.append_nil]; exact h⟩
  trans := by
    intro k e1 k1 e2 k2 h1 h2
    refine ⟨h2.1.trans h1.1, fun hn u hu => ?_⟩
    rw [upBytes_append, ← List.append_assoc]
    exact h2.2 (by unfold NoChunk; rw [h1.1]; exact hn) _ (h1.2 hn u hu)

theorem CInv.of_head {k : Conn} {u} (hs : k.st = .recvHead) (h : u.length = clSum k.done) : CInv k u := by
  refine ⟨fun _ => h, fun e => ?_, fun e => ?_, fun e => ?_⟩ <;> rw [hs] at e <;> exact nomatch e
theorem CInv.of_hdr {k : Conn} {u} (hs : k.st = .hdrProcessed) (h : u.length = clSum k.done ∧ k.remaining = k.plan.clen) : CInv k u := by
  refine ⟨fun e => ?_, fun _ => h, fun e => ?_, fun e => ?_⟩ <;> rw [hs] at e <;> exact nomatch e
theorem CInv.of_body {k : Conn} {u} (hs : k.st = .bodyRecv) (h : u.length + k.remaining = clSum k.done + k.plan.clen) : CInv k u := by
  refine ⟨fun e => ?_, fun e => ?_, fun _ => h, fun e => ?_⟩ <;> rw [hs] at e <;> exact nomatch e
theorem CInv.of_late {k : Conn} {u} (hs : k.st.pre = false) (h : u.length = clSum k.done + k.plan.clen) : CInv k u := by
  refine ⟨fun e => ?_, fun e => ?_, fun e => ?_, fun _ => h⟩ <;> rw [e] at hs <;> exact nomatch hs

theorem CW_same {k k' : Conn} {evs} (hs : k'.script = k.script) (h1 : k'.st = k.st) (h2 : k'.remaining = k.remaining)
    (h3 : k'.plan = k.plan) (h4 : k'.done = k.done) (he : upBytes evs = []) : CW k evs k' := by
  refine ⟨hs, fun _ u hu => ?_⟩
  rw [he, List.append_nil]
  exact ⟨by rw [h1, h4]; exact hu.head, by rw [h1, h4, h2, h3]; exact hu.hdr,
    by rw [h1, h4, h2, h3]; exact hu.body, by rw [h1, h4, h3]; exact hu.late⟩

theorem CW_of_keeps {k k' : Conn} {evs} (h : Keeps k k') (he : upBytes evs = []) : CW k evs k' :=
  CW_same h.script h.st h.remaining h.plan h.done he

theorem CW_of_late {k k' : Conn} {evs} (hs : k'.script = k.script) (hp : k'.plan = k.plan) (hd : k'.done = k.done)
    (he : upBytes evs = []) (h1 : k.st.pre = false) (h2 : k'.st.pre = false) : CW k evs k' :=
  ⟨hs, fun _ _ hu => .of_late h2 (by rw [he, List.append_nil, hd, hp]; exact hu.late h1)⟩

theorem Rep.cw {k k' : Conn} {evs} (h : Rep k evs k') (h1 : k.st.pre = false) : CW k evs k' := by
  have e := h.req
  simp only [Conn.req, Prod.mk.injEq] at e
  exact CW_of_late (by unfold Conn.script; rw [e.2.2.2.1, e.2.2.2.2.1, e.2.2.2.2.2]) e.2.2.2.1 e.2.2.2.2.2 h.up h1 (h.late h1)

theorem noBody_clen {p : Plan} (h : p.noBody = true) : p.clen = 0 := by
  unfold Plan.noBody at h; unfold Plan.clen
  cases hb : p.body with
  | none => rfl
  | cl n =>
    rw [hb] at h
    have h : (n == 0) = true := h
    exact beq_iff_eq.1 h
  | chunked => rw [hb] at h

theorem procBody_script (g : Guards) (k : Conn) : (procBody g k).1.script = k.script :=
  sat_procBody (R := fun k _ k' => k'.script = k.script) ⟨fun _ => rfl, fun _ _ _ _ _ h1 h2 => h2.trans h1⟩
    (fun _ => True) (fun _ _ => rfl) (fun p => congrArg (·.1) p.flags) (fun _ hd => hd.script) (fun _ _ _ => trivial) k trivial

/-- process_request_body of a Content-Length upload: `remaining` goes down by what the handler took -/
theorem CI_procBody (g : Guards) (k : Conn) (hnc : k.chunkedUp = false) (hst : k.st = .bodyRecv) (u : List UInt8) (hu : CInv k u) :
    CInv (procBody g k).1 (u ++ upBytes (procBody g k).2) ∧ (procBody g k).1.st = .bodyRecv ∧
    (procBody g k).1.chunkedUp = false := by
  unfold procBody
  rw [hnc, if_neg Bool.false_ne_true]
  rcases procBodyCL_cases g k with e | ⟨took, hd, hle, hrem, hplan, hdone⟩
  · rw [e]; exact ⟨by rw [upBytes_nil, List.append_nil]; exact hu, hst, hnc⟩
  · refine ⟨.of_body (hd.st.trans hst) ?_, hd.st.trans hst, by unfold Conn.chunkedUp at *; rw [hplan]; exact hnc⟩
    have := hu.body hst
    rw [hd.up, List.length_append, List.length_take, Nat.min_eq_left hd.le, hrem, hdone, hplan]
    omega

def LL (k : Conn) (evs : List CEv) (k' : Conn) : Prop := DU k evs k' ∧ RW k evs k' ∧ CW k evs k'

theorem LL_rel : TurnRel LL where
  refl := fun k => ⟨DU_rel.refl k, RW_rel.refl k, CW_rel.refl k⟩
  trans := fun _ _ _ _ _ h1 h2 =>
    ⟨DU_rel.trans _ _ _ _ _ h1.1 h2.1, RW_rel.trans _ _ _ _ _ h1.2.1 h2.2.1, CW_rel.trans _ _ _ _ _ h1.2.2 h2.2.2⟩

theorem LL_of_keeps {k k' : Conn} {evs} (h : Keeps k k') (hu : upBytes evs = []) (hw : wireBytes evs = []) : LL k evs k' :=
  ⟨DU_of_keeps h hu, RW_of_keeps h hw, CW_of_keeps h hu⟩

theorem Rep.ll {k k' : Conn} {evs} (h : Rep k evs k') (h1 : k.st.pre = false) (hw : RW k evs k') : LL k evs k' :=
  ⟨h.du, hw, h.cw h1⟩

theorem LL_idleStep (g : Guards) (k : Conn) : LL k (idleStep g k).2.1 (idleStep g k).1 := by
  -- a step of the request side keeps the reply fields and stays in early states: `RW` has nothing to show
  have early {k' : Conn} {evs} (h : RKS k evs k') {s : St} (hs : k.st ≠ .bodyReady) (he : s.early = true) :
      RW k evs { k' with st := s } := RW_of_rkeeps (.of_reply h.1.reply) h.2.2 (.inr ⟨hs, he⟩)
  refine idleStep_cases g k (P := fun r => LL k r.2.1 r.1) ?_ ?_ ?_ ?_ ?_ ?_ ?_ ?_ ?_ ?_ (LL_rel.refl k) <;> intro hst
  · rcases stRecvHead_cases k with e | ⟨r, hr, e⟩ <;> rw [e]
    · exact LL_rel.refl k
    · exact ⟨⟨congrArg (· ++ _) (dataOf_skip hr rfl), rfl⟩,
        RW_of_rkeeps (.of_reply rfl) rfl (.inr ⟨by rw [hst]; exact nofun, rfl⟩),
        rfl, fun _ u hu => by rw [upBytes_nil, List.append_nil]; exact .of_hdr rfl ⟨hu.head hst, rfl⟩⟩
  · obtain ⟨k1, evs, hc, hup, e | e⟩ := stHdrProcessed_cases g k <;> rw [e]
    · exact LL_of_keeps hc.keeps hup hc.wire
    · have hk := hc.keeps
      refine ⟨DU_of_same hk.rbuf hk.inbox hk.sent hup, early (RKS_of_keeps hk hc.wire) (by rw [hst]; exact nofun) ?_,
        hk.script, fun _ u hu => ?_⟩
      · cases k.plan.noBody <;> rfl
      · have hh := hu.hdr hst
        rw [hup, List.append_nil]
        cases hnb : k.plan.noBody
        · refine .of_body rfl ?_
          show u.length + k1.remaining = clSum k1.done + k1.plan.clen
          rw [hk.remaining, hk.done, hk.plan, hh.1, hh.2]
        · refine .of_late rfl ?_
          show u.length = clSum k1.done + k1.plan.clen
          rw [hk.done, hk.plan, noBody_clen hnb]; exact hh.1
  · obtain ⟨k1, evs, hp, hr⟩ := stBodyRecv_cases g k
    have h : DU k evs k1 ∧ RKS k evs k1 ∧ k1.script = k.script := by
      rcases hp with e | e
      · cases e; exact ⟨DU_rel.refl k, RKS_rel.refl k, rfl⟩
      · have := And.intro (DU_procBody g k) (And.intro (RKS_procBody g k) (procBody_script g k))
        rw [← e] at this; exact this
    have hb (hn : NoChunk k) (u) (hu : CInv k u) : CInv k1 (u ++ upBytes evs) ∧ k1.st = .bodyRecv ∧ k1.chunkedUp = false := by
      have hnc : k.chunkedUp = false := by
        have := hn k.plan (plan_mem_script k)
        unfold Conn.chunkedUp
        cases hb : k.plan.body <;> first | rfl | exact absurd hb this
      rcases hp with e | e
      · cases e; exact ⟨by rw [upBytes_nil, List.append_nil]; exact hu, hst, hnc⟩
      · have := CI_procBody g k hnc hst u hu
        rw [← e] at this; exact this
    rcases hr with e | ⟨hd, e⟩ <;> rw [e]
    · exact ⟨h.1, RW_of_rkeeps h.2.1.1 h.2.1.2.2 (.inl h.2.1.2.1), h.2.2, fun hn u hu => (hb hn u hu).1⟩
    · refine ⟨h.1, early h.2.1 (by rw [hst]; exact nofun) rfl, h.2.2, fun hn u hu => .of_late rfl ?_⟩
      obtain ⟨b, hst1, hnc1⟩ := hb hn u hu
      have hrem : k1.remaining = 0 := by
        unfold Conn.bodyDone at hd; rw [hnc1, if_neg Bool.false_ne_true] at hd; exact beq_iff_eq.1 hd
      have := b.body hst1
      rw [hrem, Nat.add_zero] at this
      exact this
  · have he : (if k.chunkedUp then St.footersRecv else St.fullReq).early = true ∧
        (if k.chunkedUp then St.footersRecv else St.fullReq).pre = false := by cases k.chunkedUp <;> exact ⟨rfl, rfl⟩
    exact ⟨DU_of_same rfl rfl rfl rfl, early (RKS_rel.refl k) (by rw [hst]; exact nofun) he.1,
      CW_of_late rfl rfl rfl rfl (congrArg St.pre hst) he.2⟩
  · rcases stFootersRecv_cases k with e | ⟨r, hr, e⟩ <;> rw [e]
    · exact LL_rel.refl k
    · exact ⟨⟨congrArg (· ++ _) (dataOf_skip hr rfl), rfl⟩,
        RW_of_rkeeps (.of_reply rfl) rfl (.inr ⟨by rw [hst]; exact nofun, rfl⟩),
        CW_of_late rfl rfl rfl rfl (congrArg St.pre hst) rfl⟩
  · obtain ⟨k1, evs, hc, hup, e | e⟩ := stFullReq_cases g k <;> rw [e]
    · exact LL_of_keeps hc.keeps hup hc.wire
    · have hk := hc.keeps
      exact ⟨DU_of_same hk.rbuf hk.inbox hk.sent hup, early (RKS_of_keeps hk hc.wire) (by rw [hst]; exact nofun) rfl,
        CW_of_late hk.script hk.plan hk.done hup (congrArg St.pre hst) rfl⟩
  · exact Rep.ll ⟨rfl, rfl, fun _ => rfl⟩ (congrArg St.pre hst) (early (RKS_rel.refl k) (by rw [hst]; exact nofun) rfl)
  · rcases stBodyUnready_cases g k with ⟨hc, e⟩ | ⟨hc, ⟨hz, e⟩ | ⟨k1, evs, rdy, et, e⟩⟩ <;> rw [e]
    · exact (Rep_readyChunked g k).ll (congrArg St.pre hst) (RW_readyChunked g k hst hc)
    · exact Rep.ll ⟨rfl, rfl, fun _ => rfl⟩ (congrArg St.pre hst) (RW_quiet rfl fun w hw =>
        hw.move (.of_reply rfl) (fun _ => hw.known hc) (·.elim nofun nofun) (fun _ => Nat.le_antisymm hw.le (hz ▸ Nat.zero_le _)))
    · have t : Rep k evs k1 ∧ RW k evs k1 := by
        have := And.intro (Rep_tryReadyNormal g k) (RW_tryReadyNormal g k hc)
        rw [et] at this; exact this
      cases rdy
      · exact t.1.ll (congrArg St.pre hst) t.2
      · exact Rep.ll ⟨t.1.req, t.1.up, fun _ => rfl⟩ (congrArg St.pre hst) fun w hw =>
          (t.2 w hw).move (.of_reply rfl) (fun hx => absurd rfl hx) (·.elim nofun nofun) (·.elim nofun nofun)
  · exact Rep.ll ⟨rfl, rfl, fun _ => rfl⟩ (congrArg St.pre hst) (RW_quiet rfl fun w hw =>
      hw.move (.of_reply rfl) (fun _ => hw.ready (by rw [hst]; exact nofun)) (fun _ => hw.sentv (.inl hst)) (·.elim nofun nofun))
  · have hw := RW_nextRequest k hst
    rcases nextRequest_cases k with ⟨_, e⟩ | ⟨p, ps, hl, e⟩ <;> rw [e] at hw ⊢
    · exact Rep.ll ⟨rfl, rfl, fun _ => rfl⟩ (congrArg St.pre hst) hw
    · refine ⟨DU_of_same rfl rfl rfl rfl, hw, ?_, fun _ u hu => .of_head rfl ?_⟩
      · show (k.done ++ [k.plan]) ++ p :: ps = k.done ++ k.plan :: k.later
        rw [hl, List.append_assoc]; rfl
      · show (u ++ []).length = clSum (k.done ++ [k.plan])
        rw [List.append_nil, clSum_append, hu.late (congrArg St.pre hst)]; rfl

theorem LL_handleIdle (g : Guards) (ep : Bool) : Sat LL (handleIdle g ep) := by
  apply sat_handleIdle LL_rel
  · exact sat_idleLoop LL_rel (fun k w => LL_of_keeps (.of_data rfl) rfl rfl) (fun k _ => LL_idleStep g k) _
  · exact fun k => LL_of_keeps (.of_data (updateEli_frame g k).1) rfl rfl
  · exact fun k => LL_of_keeps (.of_data (epollUpdate_frame k).1) rfl rfl

theorem LL_handleRead (g : Guards) : Sat LL (handleRead g) := by
  intro k
  rcases handleRead_cases g k with ⟨_, e⟩ | ⟨_, ⟨_, e⟩ | e⟩ <;> rw [e]
  · exact LL_rel.refl k
  · exact LL_of_keeps (.of_data rfl) rfl rfl
  · refine ⟨⟨?_, rfl⟩, RW_of_rkeeps (.of_reply rfl) rfl (.inl rfl), CW_same rfl rfl rfl rfl rfl rfl⟩
    show [] ++ dataOf (k.rbuf ++ k.inbox) ++ dataOf [] = _
    rw [dataOf_append]; exact List.append_nil _

/-- every step of MHD_connection_handle_write belongs to the reply side -/
theorem LL_handleWrite (g : Guards) : Sat LL (handleWrite g) := by
  intro k
  rcases handleWrite_cases g k with e | ⟨_, ⟨hst, e⟩ | ⟨hst, _, e⟩ | ⟨hst, hch, e⟩ | ⟨hst, e⟩⟩ <;> rw [e]
  · exact LL_rel.refl k
  · exact Rep.ll ⟨rfl, rfl, fun _ => rfl⟩ (congrArg St.pre hst)
      (RW_of_rkeeps (.of_reply rfl) rfl (.inr ⟨by rw [hst]; exact nofun, rfl⟩))
  · refine Rep.ll ⟨rfl, rfl, fun _ => rfl⟩ (congrArg St.pre hst) fun w hw => ?_
    refine ⟨?_, hw.le, hw.win, fun _ => rfl, fun _ => rfl, hw.eosv, (·.elim nofun nofun), (·.elim nofun nofun)⟩
    show (w ++ (k.wpend ++ [])) ++ [] = _
    rw [List.append_nil, List.append_nil]; exact hw.wire
  · exact (Rep_writeBodyKnown g k).ll (congrArg St.pre hst) (RW_writeBodyKnown g k hch)
  · exact Rep.ll ⟨rfl, rfl, fun _ => rfl⟩ (congrArg St.pre hst) (RW_quiet rfl fun w hw =>
      hw.move (.of_reply rfl) (fun _ => hw.ready (by rw [hst]; exact nofun)) (·.elim nofun nofun)
        (fun _ => hw.eosv (hw.sentv (.inr hst))))

theorem DU_callHandlers (g : Guards) (ep rr wr : Bool) : Sat DU (fun k => callHandlers g ep k rr wr) :=
  sat_callHandlers DU_rel (fun k => (LL_handleRead g k).1) (fun k => (LL_handleWrite g k).1) (fun k => (LL_handleIdle g ep k).1) rr wr

/-- the ghost accounting of a connection: `u` = all upload bytes its handler has consumed, `w` = all reply body
    bytes put on the wire -/
structure Acct (k : Conn) (u w : List UInt8) : Prop where
  up : u ++ dataOf k.rbuf ++ dataOf k.inbox = dataOf k.sent
  cnt : NoChunk k → CInv k u
  rep : RInv k w

/-- a piece of a turn keeps the books.  Unlike `DU`, this form absorbs a `send` of the client (`sent` grows). -/
def AW (k : Conn) (evs : List CEv) (k' : Conn) : Prop :=
  k'.script = k.script ∧ ∀ u w, Acct k u w → Acct k' (u ++ upBytes evs) (w ++ wireBytes evs)

theorem AW_rel : TurnRel AW where
  refl := fun k => ⟨rfl, fun u w h => by rw [upBytes_nil, wireBytes_nil, List.append_nil, List.append_nil]; exact h⟩
  trans := by
    intro k e1 k1 e2 k2 h1 h2
    refine ⟨h2.1.trans h1.1, fun u w h => ?_⟩
    rw [upBytes_append, wireBytes_append, ← List.append_assoc, ← List.append_assoc]
    exact h2.2 _ _ (h1.2 u w h)

theorem LL.aw {k k' : Conn} {evs} (h : LL k evs k') : AW k evs k' := by
  have hn (x : NoChunk k') : NoChunk k := by unfold NoChunk at *; rw [← h.2.2.1]; exact x
  refine ⟨h.2.2.1, fun u w a => ⟨?_, fun x => h.2.2.2 (hn x) u (a.cnt (hn x)), h.2.1 w a.rep⟩⟩
  rw [h.1.2, ← a.up, List.append_assoc, List.append_assoc, List.append_assoc, ← List.append_assoc (upBytes evs), h.1.1]

theorem run_acct (g : Guards) (ops : List Op) (m : Mode) (plans : Nat → Plan) (later : Nat → List Plan) (c : Nat) :
    ((run g (Daemon.init m plans later) ops).1.conn c).script = plans c :: later c ∧
    Acct ((run g (Daemon.init m plans later) ops).1.conn c) (upBytes (proj c (run g (Daemon.init m plans later) ops).2))
      (wireBytes (proj c (run g (Daemon.init m plans later) ops).2)) := by
  have send (k : Conn) (syms : List Sym) : CW k [] { k with inbox := k.inbox ++ syms, sent := k.sent ++ syms } ∧
      RW k [] { k with inbox := k.inbox ++ syms, sent := k.sent ++ syms } :=
    ⟨CW_same rfl rfl rfl rfl rfl rfl, RW_of_rkeeps (.of_reply rfl) rfl (.inl rfl)⟩
  have h := Lift_run AW_rel (fun _ _ _ h => (LL_of_keeps h.keeps h.up h.wire).aw) g (fun k => (LL_handleRead g k).aw)
    (fun k => (LL_handleWrite g k).aw) (fun ep k => (LL_handleIdle g ep k).aw)
    (fun k syms => ⟨rfl, fun u w a => ⟨by
        show u ++ [] ++ dataOf k.rbuf ++ dataOf (k.inbox ++ syms) = dataOf (k.sent ++ syms)
        rw [List.append_nil, dataOf_append, dataOf_append, ← a.up, List.append_assoc, List.append_assoc, List.append_assoc],
      fun hn => (send k syms).1.2 hn u (a.cnt hn), (send k syms).2 w a.rep⟩⟩) ops (Daemon.init m plans later) c
  exact ⟨h.1, h.2 [] [] ⟨rfl, fun _ => .of_head rfl rfl, RInv_init (plans c) (later c)⟩⟩

theorem Acct.finished {k : Conn} {u w : List UInt8} {s : List Plan} (a : Acct k u w) (hs : k.script = s)
    (hf : k.st = .finished) (hl : k.later = []) :
    w = bodies s ∧ ((∀ p ∈ s, p.body ≠ .chunked) → u.length = clSum s) := by
  have e : k.done ++ [k.plan] = s := by unfold Conn.script at hs; rw [hl] at hs; exact hs
  refine ⟨?_, fun hn => ?_⟩
  · have := a.rep.wire
    rw [a.rep.ready (by rw [hf]; exact nofun), List.append_nil, a.rep.done (.inr hf)] at this
    rw [this, ← e, bodies_append]
    show _ = _ ++ (_ ++ [])
    rw [List.append_nil]
  · rw [(a.cnt fun p hp => hn p (hs ▸ hp)).late (by rw [hf]; rfl), ← e, clSum_append]; rfl

/-- the requests of the connection that have been served completely -/
def Conn.served (k : Conn) : List Plan := if k.st = .finished then k.done ++ [k.plan] else k.done

theorem bodies_map_erase : ∀ a : List Plan, bodies (a.map Plan.erase) = bodies a
  | [] => rfl
  | p :: r => congrArg (patRange p.rid 0 p.size ++ ·) (bodies_map_erase r)

theorem clSum_map_erase : ∀ a : List Plan, clSum (a.map Plan.erase) = clSum a
  | [] => rfl
  | p :: r => congrArg (p.clen + ·) (clSum_map_erase r)

/-- `bodies`, `clSum` and "no chunked upload" only look at fields that `erase` keeps -/
theorem bodies_erase {a b : List Plan} (h : a.map Plan.erase = b.map Plan.erase) : bodies a = bodies b ∧ clSum a = clSum b ∧
    ((∀ p ∈ a, p.body ≠ .chunked) → ∀ p ∈ b, p.body ≠ .chunked) := by
  refine ⟨?_, ?_, fun hh => ?_⟩
  · rw [← bodies_map_erase a, h, bodies_map_erase]
  · rw [← clSum_map_erase a, h, clSum_map_erase]
  · have := List.forall_mem_map (f := Plan.erase) (P := fun q => q.body ≠ .chunked) |>.2 hh
    rw [h] at this
    exact List.forall_mem_map (f := Plan.erase) (P := fun q => q.body ≠ .chunked) |>.1 this

/-- stutter equivalence over a keep-alive pipeline (see `Mhd.C11.stutter_equivalence`), under any guards -/
theorem stutter_any (g : Guards) (m₁ m₂ : Mode) (pl₁ pl₂ : Nat → Plan) (la₁ la₂ : Nat → List Plan)
    (ops₁ ops₂ : List Op) (c : Nat) :
    let r₁ := run g (Daemon.init m₁ pl₁ la₁) ops₁
    let r₂ := run g (Daemon.init m₂ pl₂ la₂) ops₂
    (pl₁ c :: la₁ c).map Plan.erase = (pl₂ c :: la₂ c).map Plan.erase →
    dataOf (r₁.1.conn c).sent = dataOf (r₂.1.conn c).sent →
    (r₁.1.conn c).st = .finished ∧ (r₁.1.conn c).later = [] →
    (r₂.1.conn c).st = .finished ∧ (r₂.1.conn c).later = [] →
    wireBytes (proj c r₁.2) = wireBytes (proj c r₂.2) ∧
    ((∀ p ∈ pl₁ c :: la₁ c, p.body ≠ .chunked) → upBytes (proj c r₁.2) = upBytes (proj c r₂.2)) := by
  intro _ _ hplan hsent hf₁ hf₂
  have be := bodies_erase hplan
  have a₁ := run_acct g ops₁ m₁ pl₁ la₁ c
  have a₂ := run_acct g ops₂ m₂ pl₂ la₂ c
  have t₁ := a₁.2.finished a₁.1 hf₁.1 hf₁.2
  have t₂ := a₂.2.finished a₂.1 hf₂.1 hf₂.2
  refine ⟨t₁.1.trans (be.1.trans t₂.1.symm), fun hn => ?_⟩
  -- both handlers have consumed a prefix, of the same length, of what the clients sent
  have u1 := a₁.2.up
  rw [hsent, ← a₂.2.up, List.append_assoc, List.append_assoc] at u1
  exact (List.append_inj u1 ((t₁.2 hn).trans (be.2.1.trans (t₂.2 (be.2.2 hn)).symm))).1

/-- STUTTER EQUIVALENCE over a keep-alive pipeline (see Mhd.Props.C11) -/
theorem stutter (g : Guards) (hg : g.Sound) (m₁ m₂ : Mode) (pl₁ pl₂ : Nat → Plan) (la₁ la₂ : Nat → List Plan)
    (ops₁ ops₂ : List Op) (c : Nat)
    (hplan : (pl₁ c :: la₁ c).map Plan.erase = (pl₂ c :: la₂ c).map Plan.erase)
    (hsent : dataOf ((run g (Daemon.init m₁ pl₁ la₁) ops₁).1.conn c).sent = dataOf ((run g (Daemon.init m₂ pl₂ la₂) ops₂).1.conn c).sent)
    (hf₁ : ((run g (Daemon.init m₁ pl₁ la₁) ops₁).1.conn c).st = .finished ∧ ((run g (Daemon.init m₁ pl₁ la₁) ops₁).1.conn c).later = [])
    (hf₂ : ((run g (Daemon.init m₂ pl₂ la₂) ops₂).1.conn c).st = .finished ∧ ((run g (Daemon.init m₂ pl₂ la₂) ops₂).1.conn c).later = []) :
    wireBytes (proj c (run g (Daemon.init m₁ pl₁ la₁) ops₁).2) = wireBytes (proj c (run g (Daemon.init m₂ pl₂ la₂) ops₂).2) ∧
    ((∀ p ∈ pl₁ c :: la₁ c, p.body ≠ .chunked) →
      upBytes (proj c (run g (Daemon.init m₁ pl₁ la₁) ops₁).2) = upBytes (proj c (run g (Daemon.init m₂ pl₂ la₂) ops₂).2)) :=
  have _ := hg
  stutter_any g m₁ m₂ pl₁ pl₂ la₁ la₂ ops₁ ops₂ c hplan hsent hf₁ hf₂

end Mhd.Susp
