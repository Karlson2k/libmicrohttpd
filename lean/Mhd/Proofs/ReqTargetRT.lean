/-
  The encoder side of the request target: renderings of a (path, arguments) pair as token lists
  (which bytes are escaped, hex-digit case, space as '+', optional trailing '&'),
  `decode (render x) = x` (`target_decode_render`), and the rendering of a pair that escapes every
  byte (`escAll`, `encArg`, `needTr`), by which every pair has one (`C02.every_target_has_rendering`).
  The literals a rendering may use are the request-line characters `RLP.rplain`, so that the
  composition with the request-line scanner (`Mhd.Proofs.ReqTargetNC`) can send it.
-/
import Mhd.Proofs.ReqTarget
import Mhd.Proofs.ReqLineRoundtrip
namespace Mhd.Req
namespace TGT
open RLP (BufIs)

/-- hex digit of a nibble, upper or lower case -/
def hexd (n : Fin 16) (up : Bool) : UInt8 :=
  if n.val < 10 then UInt8.ofNat (48 + n.val) else if up then UInt8.ofNat (55 + n.val) else UInt8.ofNat (87 + n.val)

/-- one unit of a rendering of a byte string: the byte itself, a percent escape `%HL` (each
    hex digit in either case), or '+' standing for a space (query arguments only) -/
inductive Tok where
  | lit (c : UInt8)
  | esc (h l : Fin 16) (u1 u2 : Bool)
  | plus
  deriving DecidableEq, Repr

/-- the byte a token stands for -/
def Tok.val : Tok → UInt8
  | .lit c => c
  | .esc h l _ _ => UInt8.ofNat h.val * 16 + UInt8.ofNat l.val
  | .plus => cSP

/-- the bytes a token is sent as -/
def Tok.render : Tok → List UInt8
  | .lit c => [c]
  | .esc h l u1 u2 => [37, hexd h u1, hexd l u2]
  | .plus => [43]

def renderToks : List Tok → List UInt8
  | [] => []
  | t :: ts => t.render ++ renderToks ts

/-- the byte string a token list stands for -/
def semToks (ts : List Tok) : List UInt8 := ts.map Tok.val

/-- a byte that may stand for itself inside a request line: not CR LF SP HT VT FF NUL -/
def rplainB (c : UInt8) : Bool := c != 13 && c != 10 && c != 32 && c != 9 && c != 11 && c != 12 && c != 0

/-- admissible in the path: a literal is a request-line character other than '%' and '?';
    '+' is an ordinary character there (so `plus` is not a path token) -/
def Tok.okPath : Tok → Bool
  | .lit c => rplainB c && c != 37 && c != 63
  | .esc _ _ _ _ => true
  | .plus => false

/-- admissible in an argument name: a literal is none of '%' '+' '&' '=' -/
def Tok.okKey : Tok → Bool
  | .lit c => rplainB c && c != 37 && c != 43 && c != 38 && c != 61
  | _ => true

/-- admissible in an argument value: a literal is none of '%' '+' '&' ('=' and '?' are fine) -/
def Tok.okVal : Tok → Bool
  | .lit c => rplainB c && c != 37 && c != 43 && c != 38
  | _ => true

theorem rplainB_iff (c : UInt8) : rplainB c = true ↔ RLP.rplain c := by
  unfold rplainB RLP.rplain cCR cLF cSP cHT cVT cFF
  simp only [Bool.and_eq_true, bne_iff_ne, ne_eq]
  constructor
  · rintro ⟨⟨⟨⟨⟨⟨a, b⟩, c⟩, d⟩, e⟩, f⟩, g⟩; exact ⟨a, b, c, d, e, f, g⟩
  · rintro ⟨a, b, c, d, e, f, g⟩; exact ⟨⟨⟨⟨⟨⟨a, b⟩, c⟩, d⟩, e⟩, f⟩, g⟩

theorem xdigit_hexd : ∀ (n : Fin 16) (u : Bool), xdigit (hexd n u) = some (UInt8.ofNat n.val) := by decide +kernel

theorem hexd_plain : ∀ (n : Fin 16) (u : Bool), rplainB (hexd n u) = true ∧ hexd n u ≠ 37 ∧ hexd n u ≠ 43 ∧
    hexd n u ≠ 38 ∧ hexd n u ≠ 61 ∧ hexd n u ≠ 63 := by decide +kernel

theorem renderToks_all (P : UInt8 → Prop) (ts : List Tok) (hl : ∀ c, Tok.lit c ∈ ts → P c)
    (h37 : P 37) (h43 : Tok.plus ∈ ts → P 43) (hx : ∀ n u, P (hexd n u)) : ∀ x ∈ renderToks ts, P x := by
  induction ts with
  | nil => intro x hx'; simp [renderToks] at hx'
  | cons t ts ih =>
    intro x hx'
    simp only [renderToks, List.mem_append] at hx'
    rcases hx' with h | h
    · cases t with
      | lit c => simp [Tok.render] at h; subst h; exact hl _ (by simp)
      | esc a b u1 u2 =>
        simp [Tok.render] at h
        rcases h with rfl | rfl | rfl
        · exact h37
        · exact hx _ _
        · exact hx _ _
      | plus => simp [Tok.render] at h; subst h; exact h43 (by simp)
    · exact ih (fun c hc => hl c (by simp [hc])) (fun hp => h43 (by simp [hp])) x h

/-- `plus` replaced by a literal space: what `MHD_unescape_plus` leaves -/
def Tok.unplus : Tok → Tok
  | .plus => .lit cSP
  | t => t

theorem plusMap_render (ts : List Tok) (h : ∀ c, Tok.lit c ∈ ts → c ≠ 43) :
    plusMap (renderToks ts) = renderToks (ts.map Tok.unplus) := by
  induction ts with
  | nil => rfl
  | cons t ts ih =>
    have ih' := ih (fun c hc => h c (by simp [hc]))
    simp only [renderToks, List.map_cons]
    unfold plusMap at *
    rw [List.map_append, ih']
    congr 1
    cases t with
    | lit c =>
      have := h c (by simp)
      simp [Tok.render, Tok.unplus, this]
    | esc a b u1 u2 =>
      simp [Tok.render, Tok.unplus, (hexd_plain a u1).2.2.1, (hexd_plain b u2).2.2.1]
    | plus => simp [Tok.render, Tok.unplus]

theorem val_unplus (t : Tok) : t.unplus.val = t.val := by cases t <;> rfl

/-- no `plus` token and no literal '%' -/
def Tok.pctFree : Tok → Prop
  | .lit c => c ≠ 37
  | .esc _ _ _ _ => True
  | .plus => False

theorem hex2_hexd (a b : Fin 16) (u1 u2 : Bool) (rest : List UInt8) :
    hex2 (hexd a u1 :: hexd b u2 :: rest) = some (UInt8.ofNat a.val * 16 + UInt8.ofNat b.val) := by
  simp only [hex2, xdigit_hexd]

theorem decS_render (ts : List Tok) (h : ∀ t ∈ ts, t.pctFree) : decS (renderToks ts) = some (semToks ts) := by
  induction ts with
  | nil => rfl
  | cons t ts ih =>
    have ih' := ih (fun t' ht' => h t' (by simp [ht']))
    have ht := h t (by simp)
    cases t with
    | lit c =>
      show decS (c :: renderToks ts) = _
      rw [decS_cons_ne _ ht, ih']; rfl
    | esc a b u1 u2 =>
      show decS (37 :: hexd a u1 :: hexd b u2 :: renderToks ts) = _
      rw [decS_pct, hex2_hexd]
      show (decS (renderToks ts)).map _ = _
      rw [ih']; rfl
    | plus => exact ht.elim

theorem decL_render (ts : List Tok) (h : ∀ t ∈ ts, t.pctFree) : decL (renderToks ts) = semToks ts :=
  decL_of_decS _ _ (decS_render ts h)

theorem decView_render (strict : Bool) (ts : List Tok) (h : ∀ t ∈ ts, t.pctFree) :
    decView strict (renderToks ts) = semToks ts := by
  unfold decView
  cases strict with
  | true => simp only [↓reduceIte, resS, decS_render ts h, List.nil_append]
  | false => simpa using decL_render ts h

/-- no literal '%' or '+' (argument names and values) -/
def Tok.argFree : Tok → Prop
  | .lit c => c ≠ 37 ∧ c ≠ 43
  | _ => True

theorem argView_render (strict : Bool) (ts : List Tok) (h : ∀ t ∈ ts, t.argFree) :
    argView strict (renderToks ts) = semToks ts := by
  unfold argView
  rw [plusMap_render ts (fun c hc => (h _ hc).2)]
  rw [decView_render strict _ (by
    intro t ht
    simp only [List.mem_map] at ht
    obtain ⟨t0, ht0, rfl⟩ := ht
    have := h t0 ht0
    cases t0 with
    | lit c => exact this.1
    | esc _ _ _ _ => trivial
    | plus => show cSP ≠ 37; decide)]
  unfold semToks
  rw [List.map_map]
  apply List.map_congr_left
  intro t _; exact val_unplus t

/-- rendering of one argument: `key` or `key=value` -/
structure ArgR where
  key : List Tok
  value : Option (List Tok)
  deriving DecidableEq, Repr

def ArgR.render (a : ArgR) : List UInt8 :=
  renderToks a.key ++ match a.value with
    | none => []
    | some v => 61 :: renderToks v

/-- the argument it stands for: name and value, or name only (`value = NULL`) -/
def ArgR.sem (a : ArgR) : List UInt8 × Option (List UInt8) := (semToks a.key, a.value.map semToks)

def ArgR.ok (a : ArgR) : Bool :=
  a.key.all Tok.okKey && match a.value with
    | none => true
    | some v => v.all Tok.okVal

/-- segments joined by '&', optionally followed by one more '&' -/
def renderSegs : List (List UInt8) → Bool → List UInt8
  | [], _ => []
  | [s], tr => s ++ (if tr then [38] else [])
  | s :: s2 :: rest, tr => s ++ 38 :: renderSegs (s2 :: rest) tr

/-- the trailing '&' is possible only after at least one argument and necessary after an empty
    last segment (an argument with empty name and no value) -/
def segsTrailOK : List (List UInt8) → Bool → Bool
  | [], tr => !tr
  | [s], tr => !s.isEmpty || tr
  | _ :: s2 :: rest, tr => segsTrailOK (s2 :: rest) tr

theorem specArgs_render (dv : List UInt8 → List UInt8) : ∀ (segs : List (List UInt8)) (tr : Bool),
    (∀ s ∈ segs, ∀ x ∈ s, x ≠ 38) → segsTrailOK segs tr = true →
    specArgs dv (renderSegs segs tr) = segs.map (argEntrySpec dv) := by
  intro segs
  induction segs with
  | nil => intro tr _ _; exact specArgs_nil dv
  | cons s rest ih =>
    intro tr hs hok
    have hs0 := hs s (by simp)
    cases rest with
    | nil =>
      cases tr with
      | true => exact (specArgs_cons dv [] hs0).trans (by rw [specArgs_nil]; rfl)
      | false =>
        have hne : s ≠ [] := by rintro rfl; simp [segsTrailOK] at hok
        show specArgs dv (s ++ []) = _
        rw [List.append_nil, specArgs_last dv hne hs0]; rfl
    | cons s2 rest2 =>
      show specArgs dv (s ++ 38 :: renderSegs (s2 :: rest2) tr) = _
      rw [specArgs_cons dv _ hs0, ih tr (fun s' hs' => hs s' (by simp [hs'])) hok]; rfl

theorem okPath_bytes (ts : List Tok) (h : ts.all Tok.okPath = true) :
    (∀ t ∈ ts, t.pctFree) ∧ ∀ x ∈ renderToks ts, RLP.rplain x ∧ x ≠ 63 := by
  rw [List.all_eq_true] at h
  constructor
  · intro t ht
    have := h t ht
    cases t with
    | lit c => simp only [Tok.okPath, Bool.and_eq_true, bne_iff_ne, ne_eq] at this; exact this.1.2
    | esc _ _ _ _ => trivial
    | plus => simp [Tok.okPath] at this
  · apply renderToks_all
    · intro c hc
      have := h _ hc
      simp only [Tok.okPath, Bool.and_eq_true, bne_iff_ne, ne_eq] at this
      exact ⟨(rplainB_iff c).mp this.1.1, this.2⟩
    · exact ⟨(rplainB_iff 37).mp (by decide), by decide⟩
    · intro hp; have := h _ hp; simp [Tok.okPath] at this
    · intro n u
      exact ⟨(rplainB_iff _).mp (hexd_plain n u).1, (hexd_plain n u).2.2.2.2.2⟩

theorem okKey_bytes (ts : List Tok) (h : ts.all Tok.okKey = true) :
    (∀ t ∈ ts, t.argFree) ∧ ∀ x ∈ renderToks ts, RLP.rplain x ∧ x ≠ 38 ∧ x ≠ 61 := by
  rw [List.all_eq_true] at h
  constructor
  · intro t ht
    have := h t ht
    cases t with
    | lit c => simp only [Tok.okKey, Bool.and_eq_true, bne_iff_ne, ne_eq] at this; exact ⟨this.1.1.1.2, this.1.1.2⟩
    | esc _ _ _ _ => trivial
    | plus => trivial
  · apply renderToks_all
    · intro c hc
      have := h _ hc
      simp only [Tok.okKey, Bool.and_eq_true, bne_iff_ne, ne_eq] at this
      exact ⟨(rplainB_iff c).mp this.1.1.1.1, this.1.2, this.2⟩
    · exact ⟨(rplainB_iff 37).mp (by decide), by decide, by decide⟩
    · intro _; exact ⟨(rplainB_iff 43).mp (by decide), by decide, by decide⟩
    · intro n u
      have := hexd_plain n u
      exact ⟨(rplainB_iff _).mp this.1, this.2.2.2.1, this.2.2.2.2.1⟩

theorem okVal_bytes (ts : List Tok) (h : ts.all Tok.okVal = true) :
    (∀ t ∈ ts, t.argFree) ∧ ∀ x ∈ renderToks ts, RLP.rplain x ∧ x ≠ 38 := by
  rw [List.all_eq_true] at h
  constructor
  · intro t ht
    have := h t ht
    cases t with
    | lit c => simp only [Tok.okVal, Bool.and_eq_true, bne_iff_ne, ne_eq] at this; exact ⟨this.1.1.2, this.1.2⟩
    | esc _ _ _ _ => trivial
    | plus => trivial
  · apply renderToks_all
    · intro c hc
      have := h _ hc
      simp only [Tok.okVal, Bool.and_eq_true, bne_iff_ne, ne_eq] at this
      exact ⟨(rplainB_iff c).mp this.1.1.1, this.2⟩
    · exact ⟨(rplainB_iff 37).mp (by decide), by decide⟩
    · intro _; exact ⟨(rplainB_iff 43).mp (by decide), by decide⟩
    · intro n u
      exact ⟨(rplainB_iff _).mp (hexd_plain n u).1, (hexd_plain n u).2.2.2.1⟩

theorem ArgR.ok_parts {a : ArgR} (h : a.ok = true) :
    a.key.all Tok.okKey = true ∧ ∀ v, a.value = some v → v.all Tok.okVal = true := by
  unfold ArgR.ok at h
  rw [Bool.and_eq_true] at h
  refine ⟨h.1, ?_⟩
  intro v hv
  rw [hv] at h
  exact h.2

theorem ArgR.render_bytes {a : ArgR} (h : a.ok = true) : ∀ x ∈ a.render, RLP.rplain x ∧ x ≠ 38 := by
  obtain ⟨hk, hv⟩ := ArgR.ok_parts h
  intro x hx
  unfold ArgR.render at hx
  rw [List.mem_append] at hx
  rcases hx with hx | hx
  · have := (okKey_bytes _ hk).2 x hx; exact ⟨this.1, this.2.1⟩
  · cases hval : a.value with
    | none => rw [hval] at hx; simp at hx
    | some v =>
      rw [hval] at hx
      simp only [List.mem_cons] at hx
      rcases hx with rfl | hx
      · exact ⟨(rplainB_iff 61).mp (by decide), by decide⟩
      · exact (okVal_bytes _ (hv v hval)).2 x hx

theorem arg_decode_render (strict : Bool) (a : ArgR) (h : a.ok = true) :
    argEntrySpec (argView strict) a.render = a.sem := by
  obtain ⟨hk, hv⟩ := ArgR.ok_parts h
  have kb := okKey_bytes _ hk
  have k61 : ∀ x ∈ renderToks a.key, x ≠ 61 := fun x hx => (kb.2 x hx).2.2
  unfold ArgR.render ArgR.sem
  cases hval : a.value with
  | none => rw [List.append_nil, argEntrySpec_key _ k61, argView_render strict _ kb.1]; rfl
  | some v =>
    show argEntrySpec _ (renderToks a.key ++ 61 :: renderToks v) = _
    rw [argEntrySpec_kv _ _ k61, argView_render strict _ kb.1, argView_render strict _ (okVal_bytes _ (hv v hval)).1]; rfl

theorem renderSegs_bytes (P : UInt8 → Prop) (h38 : P 38) : ∀ (segs : List (List UInt8)) (tr : Bool),
    (∀ s ∈ segs, ∀ x ∈ s, P x) → ∀ x ∈ renderSegs segs tr, P x := by
  intro segs
  induction segs with
  | nil => intro tr _ x hx; simp [renderSegs] at hx
  | cons s rest ih =>
    intro tr hs x hx
    cases rest with
    | nil =>
      simp only [renderSegs, List.mem_append] at hx
      rcases hx with hx | hx
      · exact hs s (by simp) x hx
      · cases tr <;> simp at hx
        subst hx; exact h38
    | cons s2 rest2 =>
      simp only [renderSegs, List.mem_append, List.mem_cons] at hx
      rcases hx with hx | rfl | hx
      · exact hs s (by simp) x hx
      · exact h38
      · exact ih tr (fun s' hs' => hs s' (by simp [hs'])) x hx

/-- a rendering of a request target: the path, and — if there is a '?' — the arguments
    joined by '&' with an optional trailing '&' -/
structure TargetR where
  path : List Tok
  query : Option (List ArgR × Bool)
  deriving DecidableEq, Repr

def TargetR.render (R : TargetR) : List UInt8 :=
  renderToks R.path ++ match R.query with
    | none => []
    | some (as, tr) => 63 :: renderSegs (as.map ArgR.render) tr

def TargetR.semPath (R : TargetR) : List UInt8 := semToks R.path

def TargetR.semArgs (R : TargetR) : List (List UInt8 × Option (List UInt8)) :=
  match R.query with
  | none => []
  | some (as, _) => as.map ArgR.sem

/-- admissibility of a rendering (decidable): non-empty path of path tokens, every argument
    admissible, trailing '&' consistent -/
def TargetR.ok (R : TargetR) : Bool :=
  !R.path.isEmpty && R.path.all Tok.okPath && match R.query with
    | none => true
    | some (as, tr) => as.all ArgR.ok && segsTrailOK (as.map ArgR.render) tr

theorem TargetR.ok_parts {R : TargetR} (h : R.ok = true) :
    R.path ≠ [] ∧ R.path.all Tok.okPath = true ∧
      ∀ as tr, R.query = some (as, tr) → as.all ArgR.ok = true ∧ segsTrailOK (as.map ArgR.render) tr = true := by
  unfold TargetR.ok at h
  simp only [Bool.and_eq_true, Bool.not_eq_true', List.isEmpty_eq_false_iff] at h
  refine ⟨h.1.1, h.1.2, ?_⟩
  intro as tr hq
  rw [hq] at h
  simpa using h.2

theorem renderToks_ne_nil {ts : List Tok} (h : ts ≠ []) : renderToks ts ≠ [] := by
  cases ts with
  | nil => exact absurd rfl h
  | cons t ts => cases t <;> simp [renderToks, Tok.render]

theorem TargetR.render_bytes {R : TargetR} (h : R.ok = true) : R.render ≠ [] ∧ ∀ x ∈ R.render, RLP.rplain x := by
  obtain ⟨hp0, hp, hq⟩ := TargetR.ok_parts h
  constructor
  · unfold TargetR.render
    intro he
    exact renderToks_ne_nil hp0 (List.append_eq_nil_iff.mp he).1
  · intro x hx
    unfold TargetR.render at hx
    rw [List.mem_append] at hx
    rcases hx with hx | hx
    · exact ((okPath_bytes _ hp).2 x hx).1
    · cases hqq : R.query with
      | none => rw [hqq] at hx; simp at hx
      | some q =>
        obtain ⟨as, tr⟩ := q
        rw [hqq] at hx
        simp only [List.mem_cons] at hx
        rcases hx with rfl | hx
        · exact (rplainB_iff 63).mp (by decide)
        · have hall := (hq as tr hqq).1
          rw [List.all_eq_true] at hall
          refine renderSegs_bytes RLP.rplain ((rplainB_iff 38).mp (by decide)) _ tr ?_ x hx
          intro s hs y hy
          simp only [List.mem_map] at hs
          obtain ⟨a, ha, rfl⟩ := hs
          exact (ArgR.render_bytes (hall a ha) y hy).1

/-- **decode (render x) = x for the request target**: for every admissible rendering, the
    reference decoding (split at the first '?', the query at every '&', each segment at its
    first '=', '+' → space, percent-decoding — strict or lenient) returns the path and the
    argument list the rendering stands for: in order, with multiplicity, name-only arguments
    without value. -/
theorem target_decode_render (strict : Bool) (R : TargetR) (h : R.ok = true) :
    decView strict (pathOf R.render) = R.semPath ∧
      specArgs (argView strict) (queryOf R.render) = R.semArgs := by
  obtain ⟨_, hp, hq⟩ := TargetR.ok_parts h
  have pb := okPath_bytes _ hp
  have p63 : ∀ x ∈ renderToks R.path, x ≠ 63 := fun x hx => (pb.2 x hx).2
  unfold TargetR.render TargetR.semPath TargetR.semArgs
  cases hqq : R.query with
  | none =>
    rw [List.append_nil, (target_noq p63).1, (target_noq p63).2]
    exact ⟨decView_render strict _ pb.1, specArgs_nil _⟩
  | some q =>
    obtain ⟨as, tr⟩ := q
    show decView strict (pathOf (renderToks R.path ++ 63 :: _)) = _ ∧ specArgs _ (queryOf (renderToks R.path ++ 63 :: _)) = _
    rw [(target_q _ p63).1, (target_q _ p63).2]
    refine ⟨decView_render strict _ pb.1, ?_⟩
    obtain ⟨hall, htr⟩ := hq as tr hqq
    rw [List.all_eq_true] at hall
    rw [specArgs_render _ _ tr ?_ htr, List.map_map]
    · exact List.map_congr_left fun a ha => arg_decode_render strict a (hall a ha)
    · intro s hs x hx
      obtain ⟨a, ha, rfl⟩ := List.mem_map.mp hs
      exact (ArgR.render_bytes (hall a ha) x hx).2

/-- the escape `%HL` (upper-case digits) of a byte -/
def escAll (c : UInt8) : Tok :=
  .esc ⟨c.toNat / 16, Nat.div_lt_of_lt_mul c.toNat_lt⟩ ⟨c.toNat % 16, Nat.mod_lt _ (Nat.succ_pos 15)⟩ true true

/-- `c = c / 16 * 16 + c % 16`, and `UInt8.ofNat` respects sums and products -/
theorem escAll_val (c : UInt8) : (escAll c).val = c := by
  show UInt8.ofNat (c.toNat / 16) * UInt8.ofNat 16 + UInt8.ofNat (c.toNat % 16) = c
  rw [← UInt8.ofNat_mul, ← UInt8.ofNat_add, Nat.div_add_mod', UInt8.ofNat_toNat]

theorem semToks_escAll (w : List UInt8) : semToks (w.map escAll) = w := by
  unfold semToks
  rw [List.map_map]
  conv => rhs; rw [← List.map_id w]
  apply List.map_congr_left
  intro c _; exact escAll_val c

/-- the fully escaped rendering of one argument -/
def encArg (a : List UInt8 × Option (List UInt8)) : ArgR := ⟨a.1.map escAll, a.2.map (·.map escAll)⟩

theorem encArg_sem (a : List UInt8 × Option (List UInt8)) : (encArg a).sem = a := by
  obtain ⟨k, v⟩ := a
  unfold encArg ArgR.sem
  cases v with
  | none => simp [semToks_escAll]
  | some v => simp [semToks_escAll]

theorem all_escAll (p : Tok → Bool) (hp : ∀ c, p (escAll c) = true) (w : List UInt8) : (w.map escAll).all p = true := by
  rw [List.all_eq_true]
  intro t ht
  simp only [List.mem_map] at ht
  obtain ⟨c, _, rfl⟩ := ht
  exact hp c

theorem encArg_ok (a : List UInt8 × Option (List UInt8)) : (encArg a).ok = true := by
  obtain ⟨k, v⟩ := a
  unfold encArg ArgR.ok
  cases v with
  | none => simp [all_escAll Tok.okKey (fun _ => rfl)]
  | some v => simp [all_escAll Tok.okKey (fun _ => rfl), all_escAll Tok.okVal (fun _ => rfl)]

theorem encArg_render_nil (a : List UInt8 × Option (List UInt8)) (h : (encArg a).render = []) : a = ([], none) := by
  obtain ⟨k, v⟩ := a
  unfold encArg ArgR.render at h
  cases v with
  | some v => simp at h
  | none =>
    cases k with
    | nil => rfl
    | cons c k => simp [renderToks, escAll, Tok.render] at h

/-- a trailing '&' is needed exactly after a last argument with empty name and no value -/
def needTr : List (List UInt8 × Option (List UInt8)) → Bool
  | [] => false
  | [a] => a.1.isEmpty && a.2.isNone
  | _ :: b :: rest => needTr (b :: rest)

theorem segsTrailOK_enc : ∀ (args : List (List UInt8 × Option (List UInt8))),
    segsTrailOK (args.map (fun a => (encArg a).render)) (needTr args) = true := by
  intro args
  induction args with
  | nil => rfl
  | cons a rest ih =>
    cases rest with
    | nil =>
      simp only [List.map_cons, List.map_nil, segsTrailOK, needTr]
      by_cases he : (encArg a).render = []
      · have := encArg_render_nil a he; subst this; rfl
      · simp [he]
    | cons b rest2 =>
      simp only [List.map_cons, segsTrailOK, needTr] at ih ⊢
      exact ih

end TGT
end Mhd.Req
