/-
  C06 — the wait class computed by the C05 connection model agrees with the state → wait-class table generated for
  C06 (Mhd.Gen.Loop).
-/
import Mhd.Model.ConnSM
import Mhd.Gen.Loop
namespace Mhd.Loop
open Mhd.Gen.Loop

/-- the numeric code of the C05 model's wait class -/
def connsmEliCode : Mhd.ConnSM.ELI → Nat
  | .read => eliRead | .write => eliWrite | .process => eliProcess | .processRead => eliProcessRead | .cleanup => eliCleanup

/-- The wait class the C05 state-machine model (`Mhd.ConnSM.eventLoopInfo` of Mhd.Model.ConnSM, written by hand from
    MHD_connection_update_event_loop_info) computes agrees with the state → wait-class table C06 generates from the
    source text, for every connection state the table lists and every value of the other fields.  BODY_RECEIVING is
    in none of the lists, so nothing is said about it. -/
theorem connsm_eli_in_table {σ : Type} (c : Mhd.ConnSM.Conn σ) :
    (c.state.toNat ∈ writeStates → connsmEliCode (Mhd.ConnSM.eventLoopInfo c) = eliWrite) ∧
    (c.state.toNat ∈ processStates → connsmEliCode (Mhd.ConnSM.eventLoopInfo c) = eliProcess) ∧
    (c.state.toNat ∈ readStates → connsmEliCode (Mhd.ConnSM.eventLoopInfo c) = eliRead) ∧
    (c.state.toNat = stClosed → connsmEliCode (Mhd.ConnSM.eventLoopInfo c) = eliCleanup) := by
  unfold Mhd.ConnSM.eventLoopInfo
  cases c.state
  case bodyReceiving => exact ⟨(absurd · (by decide)), (absurd · (by decide)), (absurd · (by decide)), (absurd · (by decide))⟩
  all_goals (dsimp only; decide)

end Mhd.Loop
