/-
  C19: a loop trip over `a ++ b` compared with the trip over `a` (`iter_append`) — it looks
  only at the bytes it consumes, except that a payload copy cut short by the end of `a` is
  continued by the next trip (two partial copies merge into one).  The core of split independence.
-/
import Mhd.Proofs.WSRun
namespace Mhd.WS

def shiftR (n : Nat) : R → R
  | .cont ws k => .cont ws (n + k)
  | .ret ws st k pl plen => .ret ws st (n + k) pl plen
  | .fault s => .fault s

theorem payloadFinish_shift (n k : Nat) (ws : WS) :
    payloadFinish false (n + k) ws = shiftR n (payloadFinish false k ws) := by
  unfold payloadFinish
  split
  · cases payloadComplete false ws <;> rfl
  · rfl

/-- two loop-trip results the application cannot tell apart: equal, except that after a
    negative status (the session is over) only status and payload are compared -/
def RSim : R → R → Prop
  | .ret _ st _ pl plen, .ret _ st' _ pl' plen' => st < 0 ∧ st' = st ∧ pl' = pl ∧ plen' = plen
  | _, _ => False

theorem RSim.symm {r r' : R} (h : RSim r r') : RSim r' r := by
  cases r <;> cases r' <;> try exact h
  obtain ⟨h1, rfl, rfl, rfl⟩ := h
  exact ⟨h1, rfl, rfl, rfl⟩

def RSimEq (r r' : R) : Prop := r = r' ∨ RSim r r'

theorem errRet_sim (w w' : WS) (code : Nat) (st : Int) (k k' : Nat) (hst : st < 0) (hf : w.flags = w'.flags)
    (hr : w.rng = w'.rng) (hl : w.allocLimit = w'.allocLimit) : RSim (errRet w code st k) (errRet w' code st k') := by
  unfold errRet
  have := genClose_congr { w with validity := 0 } { w' with validity := 0 } code hf (fun _ _ => hr) hl
  exact ⟨hst, rfl, by rw [this], by rw [this]⟩

theorem adv_setReg_adv (ws : WS) (bufA bufAB : List UInt8) (ka kb ρ : Nat) :
    payloadAdvance (setReg (payloadAdvance ws bufA ka) ρ) bufAB kb = setReg (payloadAdvance ws bufAB (ka + kb)) ρ := by
  unfold setReg payloadAdvance
  by_cases h : ws.step = 17
  · simp only [h, if_true, Nat.add_assoc]
  · simp only [h, if_false, Nat.add_assoc]

theorem setReg_setReg (ws : WS) (ρ s : Nat) : setReg (setReg ws ρ) s = setReg ws s := by
  unfold setReg
  by_cases h : ws.step = 17
  · simp only [h, if_true]
  · simp only [h, if_false]

/-- a payload copy leaves alone what a generated close frame depends on -/
theorem adv_env (ws : WS) (buf : List UInt8) (k : Nat) :
    (payloadAdvance ws buf k).flags = ws.flags ∧ (payloadAdvance ws buf k).rng = ws.rng ∧
    (payloadAdvance ws buf k).allocLimit = ws.allocLimit := by
  unfold payloadAdvance; split <;> exact ⟨rfl, rfl, rfl⟩

theorem setReg_env (ws : WS) (ρ : Nat) :
    (setReg ws ρ).flags = ws.flags ∧ (setReg ws ρ).rng = ws.rng ∧ (setReg ws ρ).allocLimit = ws.allocLimit := by
  unfold setReg; split <;> exact ⟨rfl, rfl, rfl⟩

/-- **two partial payload copies merge into one**: the validator is incremental, and the status
    code of a close frame is skipped in whichever part it lies -/
theorem plTrip_append (ws : WS) (h0 : UInt8) (bufA bufAB bA bB : List UInt8) (hB : bB ≠ [])
    (hlt : ws.payloadIndex + bA.length < ws.payloadSize) :
    RSim (plTrip ws h0 bufA bA) (plTrip ws h0 bufAB (bA ++ bB)) ∨
    ∃ ρ, plTrip ws h0 bufA bA = .cont (setReg (payloadAdvance ws bufA bA.length) ρ) bA.length ∧
      RSimEq (plTrip ws h0 bufAB (bA ++ bB))
        (shiftR bA.length (plTrip (setReg (payloadAdvance ws bufA bA.length) ρ) h0 bufAB bB)) := by
  have fin : ∀ ρ, payloadFinish false bA.length (setReg (payloadAdvance ws bufA bA.length) ρ) =
      .cont (setReg (payloadAdvance ws bufA bA.length) ρ) bA.length := by
    intro ρ
    obtain ⟨h1, h2, _⟩ := setReg_adv ws h0 bufA bA.length ρ
    unfold payloadFinish
    rw [if_neg (by rw [h1, h2]; omega)]
  have second : ∀ ρ, plTrip (setReg (payloadAdvance ws bufA bA.length) ρ) h0 bufAB bB =
      if Checked ws h0 ∧ skipOf ws - bA.length < bB.length then
        match checkUtf8 (bB.drop (skipOf ws - bA.length)) ρ 0 with
        | .invalid o => errRet (setReg (payloadAdvance ws bufAB (bA.length + bB.length)) ρ) 1007 (-6)
            (o + (skipOf ws - bA.length))
        | .ok s => payloadFinish false bB.length (setReg (payloadAdvance ws bufAB (bA.length + bB.length)) s)
      else payloadFinish false bB.length (setReg (payloadAdvance ws bufAB (bA.length + bB.length)) ρ) := by
    intro ρ
    obtain ⟨_, _, h3, h4, h5, _⟩ := setReg_adv ws h0 bufA bA.length ρ
    unfold plTrip
    simp only [h3, h4, h5, adv_setReg_adv, setReg_setReg]
    rfl
  have hlen : (bA ++ bB).length = bA.length + bB.length := List.length_append
  have hbl : 0 < bB.length := List.length_pos_iff.mpr hB
  -- an error in the second part: same status and close frame, whatever the states and offsets
  have simErr : ∀ (ρ o o' n : Nat), RSimEq (errRet (payloadAdvance ws bufAB (bA.length + bB.length)) 1007 (-6) o)
      (shiftR n (errRet (setReg (payloadAdvance ws bufAB (bA.length + bB.length)) ρ) 1007 (-6) o')) := by
    intro ρ o o' n
    obtain ⟨e1, e2, e3⟩ := setReg_env (payloadAdvance ws bufAB (bA.length + bB.length)) ρ
    exact .inr (errRet_sim _ _ _ _ _ _ (by omega) e1.symm e2.symm e3.symm)
  by_cases hA : Checked ws h0 ∧ skipOf ws < bA.length
  · -- the first part reaches into the text
    have hdrop : (bA ++ bB).drop (skipOf ws) = bA.drop (skipOf ws) ++ bB :=
      List.drop_append_of_le_length (by omega)
    have hz : skipOf ws - bA.length = 0 := by omega
    have eA : plTrip ws h0 bufA bA = _ := if_pos hA
    have eAB : plTrip ws h0 bufAB (bA ++ bB) = _ := if_pos ⟨hA.1, by omega⟩
    rw [eA, eAB, hlen, hdrop, checkUtf8_append]
    cases checkUtf8 (bA.drop (skipOf ws)) (regOf ws) 0 with
    | invalid o =>
      obtain ⟨a1, a2, a3⟩ := adv_env ws bufA bA.length
      obtain ⟨b1, b2, b3⟩ := adv_env ws bufAB (bA.length + bB.length)
      exact .inl (errRet_sim _ _ _ _ _ _ (by omega) (a1.trans b1.symm) (a2.trans b2.symm) (a3.trans b3.symm))
    | ok ρ =>
      refine .inr ⟨ρ, fin ρ, ?_⟩
      dsimp only
      rw [second ρ, if_pos ⟨hA.1, by omega⟩, hz, List.drop_zero, checkUtf8_shift bB ρ (0 + _)]
      cases checkUtf8 bB ρ 0 with
      | invalid o2 => exact simErr _ _ _ _
      | ok t => exact .inl (payloadFinish_shift _ _ _)
  · have eA : plTrip ws h0 bufA bA = .cont (setReg (payloadAdvance ws bufA bA.length) (regOf ws)) bA.length := by
      rw [← fin, setReg_regOf]; exact if_neg hA
    refine .inr ⟨regOf ws, eA, ?_⟩
    rw [second]
    by_cases hAB : Checked ws h0 ∧ skipOf ws < bA.length + bB.length
    · -- the status code of a close frame ends in the second part
      have hge : bA.length ≤ skipOf ws := Nat.le_of_not_lt (fun c => hA ⟨hAB.1, c⟩)
      have hdrop : (bA ++ bB).drop (skipOf ws) = bB.drop (skipOf ws - bA.length) := by
        rw [List.drop_append, List.drop_of_length_le hge, List.nil_append]
      have eAB : plTrip ws h0 bufAB (bA ++ bB) = _ := if_pos (by rw [hlen]; exact hAB)
      rw [eAB, hlen, hdrop, if_pos ⟨hAB.1, by omega⟩]
      cases checkUtf8 (bB.drop (skipOf ws - bA.length)) (regOf ws) 0 with
      | invalid o => exact simErr _ _ _ _
      | ok t => exact .inl (payloadFinish_shift _ _ _)
    · have eAB : plTrip ws h0 bufAB (bA ++ bB) = _ := if_neg (by rw [hlen]; exact hAB)
      rw [eAB, hlen, if_neg (fun c => hAB ⟨c.1, by omega⟩), setReg_regOf]
      exact .inl (payloadFinish_shift _ _ _)

theorem iter_stable {ws : WS} (h : Inv ws) (a b : List UInt8) (ha : a ≠ [])
    (hp : (ws.step ≠ 17 ∧ ws.step ≠ 18) ∨ ws.payloadSize - ws.payloadIndex ≤ a.length) :
    iter false ws (a ++ b) = iter false ws a := by
  cases a with
  | nil => exact absurd rfl ha
  | cons x a' =>
    rw [List.cons_append]
    rcases h.stepCases with hs | hs | hs | hs | hs | hs | hs | hs | hs
    · rw [iter_start _ _ _ hs, iter_start _ _ _ hs]
    · rw [iter_len1 _ _ _ hs, iter_len1 _ _ _ hs]
    · rw [iter_len2of2 _ _ _ hs, iter_len2of2 _ _ _ hs]
    · rw [iter_len8of8 _ _ _ hs, iter_len8of8 _ _ _ hs]
    · rw [iter_mask4 _ _ _ hs, iter_mask4 _ _ _ hs]
    · rw [iter_hc _ _ _ hs, iter_hc _ _ _ hs]
    · rw [iter_payload _ _ (by simp) hs, iter_payload _ _ (by simp) hs, stepPayload_eq h hs, stepPayload_eq h hs,
        ← List.cons_append, List.take_append_of_le_length (hp.resolve_left (by omega))]
    · rw [iter_broken _ _ _ hs, iter_broken _ _ _ hs]
    · rw [iter_store _ _ _ hs, iter_store _ _ _ hs]

theorem written_append (buf : List UInt8) (off : Nat) (x y : List UInt8) (h : off + (x.length + y.length) ≤ buf.length) :
    written (written buf off x) (off + x.length) y = written buf off (x ++ y) := by
  have h1 := writeAt_eq buf off x (by omega)
  have h2 := writeAt_append buf off x y _ h1
  rw [writeAt_eq _ _ _ (by rw [List.length_append]; exact h),
    writeAt_eq _ _ _ (by rw [writeAt_length _ _ _ _ h1]; omega)] at h2
  exact (Option.some.inj h2).symm

theorem iter_append {ws : WS} (h : Inv ws) (hv : ws.validity ≠ 0) (a b : List UInt8) (ha : a ≠ []) (hb : b ≠ []) :
    RSimEq (iter false ws a) (iter false ws (a ++ b)) ∨
    ∃ ws1, iter false ws a = .cont ws1 a.length ∧ sil ws1 = 0 ∧
      RSimEq (iter false ws (a ++ b)) (shiftR a.length (iter false ws1 b)) := by
  by_cases hp : (ws.step = 17 ∨ ws.step = 18) ∧ a.length < ws.payloadSize - ws.payloadIndex
  case neg =>
    refine .inl (.inl (iter_stable h a b ha ?_).symm)
    by_cases hs : ws.step = 17 ∨ ws.step = 18
    · exact .inr (Nat.le_of_not_lt fun c => hp ⟨hs, c⟩)
    · exact .inl ⟨fun c => hs (.inl c), fun c => hs (.inr c)⟩
  obtain ⟨hs, hlt⟩ := hp
  have hidx := h.idx
  have hbl : 0 < b.length := List.length_pos_iff.mpr hb
  have hal : 0 < a.length := List.length_pos_iff.mpr ha
  have h16 : ¬ ws.step = 16 := by omega
  have hmore : ¬ ((ws.step = 17 ∨ ws.step = 18) ∧ ws.payloadSize = ws.payloadIndex + a.length) := fun c => by omega
  have hlt' : ws.payloadIndex + a.length < ws.payloadSize := by omega
  have hok := iter_ok h hv a hal
  have htA : a.take (ws.payloadSize - ws.payloadIndex) = a := List.take_of_length_le (Nat.le_of_lt hlt)
  have htAB : (a ++ b).take (ws.payloadSize - ws.payloadIndex) =
      a ++ b.take (ws.payloadSize - ws.payloadIndex - a.length) := by rw [List.take_append, htA]
  rw [iter_payload _ _ ha hs, stepPayload_eq h hs a, htA] at hok ⊢
  rw [iter_payload _ _ (by simp [ha]) hs, stepPayload_eq h hs (a ++ b), htAB, copyPayload_append]
  generalize hA : copyPayload a ws.maskKey (ws.payloadIndex % 4) = A at hok ⊢
  generalize hB : copyPayload (b.take (ws.payloadSize - ws.payloadIndex - a.length)) ws.maskKey
    ((ws.payloadIndex + a.length) % 4) = B
  have hlA : A.length = a.length := by rw [← hA, copyPayload_length]
  have hlB : B.length = min (ws.payloadSize - ws.payloadIndex - a.length) b.length := by
    rw [← hB, copyPayload_length, List.length_take]
  have hAne : A ≠ [] := fun c => by rw [c] at hlA; exact Nat.ne_of_lt hal hlA
  have hBne : B ≠ [] := fun c => by rw [c, List.length_nil] at hlB; omega
  obtain ⟨buf, hbuf, hlen⟩ := h.plBuf hs (by omega)
  have hfit : plBase ws + ws.payloadIndex + (A.length + B.length) ≤ buf.length := by omega
  unfold payTrip at hok ⊢
  rw [if_neg hAne, hbuf, Option.getD_some] at hok ⊢
  rw [if_neg (by simp [hAne])]
  rcases plTrip_append ws (ws.hdr.getD 0 0) (written buf (plBase ws + ws.payloadIndex) A)
      (written buf (plBase ws + ws.payloadIndex) (A ++ B)) A B hBne (hlA.symm ▸ hlt') with hsim | ⟨ρ, e1, e2⟩
  · exact .inl (.inr hsim)
  rw [hlA] at e1 e2
  rw [e1] at hok
  obtain ⟨f1, f2, _, _, _, f6, f7, f8, g2, g1, _⟩ :=
    setReg_adv ws 0 (written buf (plBase ws + ws.payloadIndex) A) a.length ρ
  refine .inr ⟨_, e1, ?_, ?_⟩
  · unfold sil
    rw [f6, f1, f2, if_neg h16, if_neg hmore]
  -- the second trip starts where the first stopped, in the buffer the first wrote
  rw [iter_payload _ _ hb (f6.symm ▸ hs), stepPayload_eq hok.1 (f6.symm ▸ hs) b, f1, f2, f8,
    Nat.sub_add_eq, hB]
  unfold payTrip
  rw [if_neg hBne, g1, g2, f7, f1, Option.getD_some, ← Nat.add_assoc, ← hlA, written_append _ _ _ _ hfit]
  rw [hlA]
  exact e2

/-- `iter_append` for `trip`: a trip that needs no input does not look at the input at all -/
theorem trip_append {ws : WS} (h : Inv ws) (hv : ws.validity ≠ 0) (a b : List UInt8) (hg : a ≠ [] ∨ sil ws ≠ 0)
    (hb : b ≠ []) :
    RSimEq (trip ws a) (trip ws (a ++ b)) ∨
    ∃ ws1, trip ws a = .cont ws1 a.length ∧ sil ws1 = 0 ∧
      RSimEq (trip ws (a ++ b)) (shiftR a.length (trip ws1 b)) := by
  by_cases ha : a = []
  · subst ha
    rw [List.nil_append, trip_ne hb, iter_silent (hg.resolve_left (fun c => c rfl)) hb]
    exact .inl (.inl (if_pos rfl))
  · simp only [trip_ne hb, trip_ne ha, trip_ne (List.append_ne_nil_of_left_ne_nil ha b)]
    exact iter_append h hv a b ha hb

end Mhd.WS
