/-
  C05 — upload accounting for chunked framing (ghost field `chunkTotal`): the invariant `CInv` and what
  process_request_body keeps of it (`BodyRun.binv`).  That `step` preserves `CInv` is NOT proved.
-/
import Mhd.Proofs.ConnSMUpload
namespace Mhd.ConnSM
open Mhd.Gen.ConnState Mhd.Protocol

/-- upload accounting for chunked framing (ghost `chunkTotal` = sum of the chunk sizes declared so far) -/
def CInv {σ} (c : Conn σ) : Prop :=
  (c.state.toNat ≤ 4 → c.upOff = 0 ∧ c.chunkLeft = 0 ∧ c.chunkTotal = 0 ∧ c.haveChunked = false) ∧
  (5 ≤ c.state.toNat → c.state.toNat ≤ 21 → c.haveChunked = true → c.discard = false →
     c.upOff + c.chunkLeft = c.chunkTotal ∧ (c.inChunk = false → c.chunkLeft = 0)) ∧
  (5 ≤ c.state.toNat → c.state.toNat ≤ 7 → c.haveChunked = true → c.discard = false → c.remaining = 0 →
     c.state.toNat = 5 ∧ c.chunkLeft = 0) ∧
  (8 ≤ c.state.toNat → c.state.toNat ≤ 21 → c.haveChunked = true → c.discard = false → c.chunkLeft = 0)

theorem Safe.cinv {σ} {c : Conn σ} (h : Safe c) : CInv c := by
  unfold CInv
  rcases h with h | ⟨h1, h2⟩
  · refine ⟨fun _ => ?_, fun _ _ => ?_, fun _ _ => ?_, fun _ _ => ?_⟩ <;> omega
  · refine ⟨fun _ => ?_, fun _ _ _ hd => ?_, fun _ _ _ hd => ?_, fun _ _ _ hd => ?_⟩
    · omega
    all_goals (rw [h1] at hd; cases hd)

theorem CInv.congr {σ} {c c2 : Conn σ} (h : CInv c) (e1 : c2.state = c.state) (e2 : c2.upOff = c.upOff)
    (e3 : c2.remaining = c.remaining) (e4 : c2.chunkLeft = c.chunkLeft) (e5 : c2.haveChunked = c.haveChunked)
    (e6 : c2.discard = c.discard) (e7 : c2.chunkTotal = c.chunkTotal) (e8 : c2.inChunk = c.inChunk) : CInv c2 := by
  unfold CInv at h ⊢
  rw [e1, e2, e3, e4, e5, e6, e7, e8]; exact h

theorem dropResp_frame2 {σ} (c : Conn σ) : (dropResp c).1.chunkLeft = c.chunkLeft ∧
    (dropResp c).1.chunkTotal = c.chunkTotal ∧ (dropResp c).1.inChunk = c.inChunk := by
  rw [dropResp_fst]; exact ⟨rfl, rfl, rfl⟩

theorem notify_frame2 {σ} (c : Conn σ) (code : Nat) : (notify c code).1.chunkLeft = c.chunkLeft ∧
    (notify c code).1.chunkTotal = c.chunkTotal ∧ (notify c code).1.inChunk = c.inChunk := by
  rw [notify_fst]; exact ⟨rfl, rfl, rfl⟩

theorem CInv.acct {σ} {c c' : Conn σ} (h : CInv c) (ha : Acct c c' 0) : CInv c' := by
  obtain ⟨a1, a2, a3, a4, -, a6, a7 | a7⟩ := ha
  · exact h.congr a7.1 a6 a7.2.1 a2 a1 a7.2.2 a3 a4
  · exact (Safe.discarded _ a7.2.1 (by decide) a7.2.2).cinv

theorem callConnectionHandler_cinv {σ} (cfg : Cfg) (app : App σ) (env : IdleEnv) (c : Conn σ) (site : Site) (h : CInv c) :
    CInv (callConnectionHandler cfg app env c site).1 := by
  rcases callConnectionHandler_acct cfg app env c site with e | e
  · exact (Safe.past _ e (by decide)).cinv
  · exact h.acct e

/-- what process_request_body keeps (state BODY_RECEIVING, chunked, upload not discarded) -/
def BInv {σ} (c : Conn σ) : Prop :=
  c.haveChunked = true → c.discard = false →
    c.upOff + c.chunkLeft = c.chunkTotal ∧ (c.inChunk = false → c.chunkLeft = 0) ∧ (c.remaining = 0 → c.chunkLeft = 0)

theorem BodyRun.binv {σ} {cfg : Cfg} {app : App σ} {env : IdleEnv} {c : Conn σ} {o : Out σ} (r : BodyRun cfg app env c o)
    (hst : c.state = .bodyReceiving) (h : BInv c)
    (hrem : c.haveChunked = true → c.discard = false → c.remaining ≠ 0) :
    Safe o.1 ∨ (o.1.state = .bodyReceiving ∧ BInv o.1) := by
  -- while the loop goes on the last chunk has not been seen
  induction r with
  | @upload c k c1 l taken o _ hnc _ ha hle _ ih =>
    -- the bytes taken, at most `chunkLeft` of them, move from `chunkLeft` to `upOff`
    obtain ⟨hs1, b2, b3⟩ := ha.body hst
    obtain ⟨a1, a2, a3, a4, -, a6, -⟩ := ha
    have hf := afterUpload_frame c1 taken
    cases hch : c.haveChunked
    · have hn : (afterUpload c1 taken).haveChunked = false := hf.2.1.trans (a1.trans hch)
      exact ih hs1 (fun x => absurd (hn.symm.trans x) (by decide)) (fun x => absurd (hn.symm.trans x) (by decide))
    refine ih hs1 ?_ ?_ <;> (unfold afterUpload; rw [if_pos (a1.trans hch)])
    · intro _ hd
      have hd : c.discard = false := b3 ▸ hd
      obtain ⟨i1, i2, i3⟩ := h hch hd
      have hin : c.inChunk = true := by
        cases hh : c.inChunk
        · exact absurd ⟨hch, by simp [hh]⟩ hnc
        · rfl
      have hle : taken ≤ c.chunkLeft := by
        unfold bodyOffer at hle; rw [if_pos hch] at hle
        exact Nat.le_trans hle (Nat.min_le_left _ _)
      refine ⟨?_, fun hi => absurd (a4 ▸ hi) (by rw [hin]; decide), fun hr => absurd (b2 ▸ hr) (hrem hch hd)⟩
      show c1.upOff + (c1.chunkLeft - taken) = c1.chunkTotal
      rw [a6, a2, a3]; omega
    · exact fun _ hd hr => hrem hch (b3 ▸ hd) (b2 ▸ hr)
  | chunkEnd hc _ ih => exact ih hst (fun a b => ⟨(h a b).1, fun _ => hc.2.2, (h a b).2.2⟩) hrem
  | @chunkHdr c k o hc _ _ ih =>
    have hnin : c.inChunk = false := by cases hh : c.inChunk <;> simp_all
    refine ih hst (fun a b => ?_) hrem
    have := (h a b).2.1 hnin
    exact ⟨by show c.upOff + k = c.chunkTotal + k; have := (h a b).1; omega, nofun, fun hr => absurd hr (hrem a b)⟩
  | stop => exact .inr ⟨hst, h⟩
  | @last c b hc =>
    have hnin : c.inChunk = false := by cases hh : c.inChunk <;> simp_all
    exact .inr ⟨hst, fun a b => ⟨(h a b).1, (h a b).2.1, fun _ => (h a b).2.1 hnin⟩⟩
  | err => exact .inl (transmitError_safe _ _ _)
  | fail => exact .inl (closeError_safe _)

end Mhd.ConnSM
