/-
  C20: every primitive of the upgrade model is a chain of `Act`s, walked once, here.  A property `P` is `Kept cfg A P`
  when every act keeps it on connections that satisfy `A`; the theorems `Kept.*` carry a kept property through the
  composite operations — a handler call, a round of the event loop, the shutdown — once for all invariants of C20.
-/
import Mhd.Proofs.UpgLog
namespace Mhd.Upg

@[simp] theorem notifyCompleted_loc (x : Conn) (code : Nat) : (notifyCompleted x code).loc = x.loc := by
  unfold notifyCompleted; split <;> rfl
@[simp] theorem notifyCompleted_aware (x : Conn) (code : Nat) : (notifyCompleted x code).clientAware = false := by
  unfold notifyCompleted; split <;> simp_all
@[simp] theorem notifyCompleted_urh (x : Conn) (code : Nat) : (notifyCompleted x code).urh = x.urh := by
  unfold notifyCompleted; split <;> rfl
@[simp] theorem notifyCompleted_resuming (x : Conn) (code : Nat) : (notifyCompleted x code).resuming = x.resuming := by
  unfold notifyCompleted; split <;> rfl
@[simp] theorem emit_loc (x : Conn) (e : Ev) : (x.emit e).loc = x.loc := rfl
@[simp] theorem emit_log (x : Conn) (e : Ev) : (x.emit e).log = x.log ++ [e] := rfl
@[simp] theorem closeConn_loc (x : Conn) (code : Nat) : (closeConn x code).loc = .cleanup := rfl
@[simp] theorem queueResponse_loc (cfg sh) (x : Conn) (rid : Nat) : (queueResponse cfg sh x rid).1.loc = x.loc := by
  unfold queueResponse; split <;> rfl
@[simp] theorem startReply_loc (cfg) (x : Conn) : (startReply cfg x).loc = x.loc := by
  unfold startReply; split <;> rfl
@[simp] theorem handlerEntered_loc (x : Conn) (fin : Bool) : (handlerEntered x fin).loc = x.loc := rfl
@[simp] theorem firstCallOnly_loc (x : Conn) : (firstCallOnly x).loc = x.loc := rfl
@[simp] theorem consumeHead_loc (x : Conn) (hd : Head) : (consumeHead x hd).loc = x.loc := rfl
@[simp] theorem replyDone_loc (x : Conn) : (replyDone x).loc = x.loc := by simp [replyDone]
@[simp] theorem markAppClosed_loc (x : Conn) : (markAppClosed x).loc = x.loc := rfl

@[simp] theorem upgradeActionClose_loc (x : Conn) : (upgradeActionClose x).1.loc = x.loc := by
  unfold upgradeActionClose
  split
  · rfl
  · split <;> rfl

@[simp] theorem tryQueue_loc (cfg sh) (l : List Nat) : ∀ (x : Conn), (tryQueue cfg sh x l).loc = x.loc := by
  induction l with
  | nil => intro x; rfl
  | cons rid rest ih =>
    intro x
    simp only [tryQueue]
    split
    · exact queueResponse_loc ..
    · exact (ih _).trans (queueResponse_loc ..)

theorem cleanupOne_loc (x : Conn) : (cleanupOne x).loc = if x.loc = .cleanup then .freed else x.loc := by
  unfold cleanupOne
  split <;> rfl

theorem clientSendConn_loc (x : Conn) (bs : Bytes) : (clientSendConn x bs).loc = x.loc := by
  unfold clientSendConn; split <;> rfl
theorem arriveConn_loc (x : Conn) : (arriveConn x).loc = .new ∨ (arriveConn x).loc = x.loc := by
  unfold arriveConn; split
  · left; rfl
  · right; rfl

@[simp] theorem closeConn_resuming (x : Conn) (c : Nat) : (closeConn x c).resuming = x.resuming := by
  simp [closeConn, Conn.emit]
@[simp] theorem queueResponse_resuming (cfg sh) (x : Conn) (rid : Nat) :
    (queueResponse cfg sh x rid).1.resuming = x.resuming := by
  unfold queueResponse; split <;> rfl
@[simp] theorem tryQueue_resuming (cfg sh) (l : List Nat) : ∀ (x : Conn), (tryQueue cfg sh x l).resuming = x.resuming := by
  induction l with
  | nil => intro x; rfl
  | cons rid rest ih => intro x; simp only [tryQueue]; split <;> simp [ih, Conn.emit]
@[simp] theorem startReply_resuming (cfg) (x : Conn) : (startReply cfg x).resuming = x.resuming := by
  unfold startReply; split <;> rfl
@[simp] theorem replyCall_resuming (cfg sh) (x : Conn) (f : Bool) : (replyCall cfg sh x f).resuming = x.resuming := by
  unfold replyCall; simp only; split <;> simp [handlerEntered]
@[simp] theorem handlerCalls_resuming (cfg sh) (x : Conn) : (handlerCalls cfg sh x).resuming = x.resuming := by
  unfold handlerCalls; split <;> simp [firstCallOnly, handlerEntered]
@[simp] theorem tryRequest_resuming (cfg sh) (x : Conn) : (tryRequest cfg sh x).resuming = x.resuming := by
  unfold tryRequest; split
  · split <;> simp [consumeHead]
  · rfl
@[simp] theorem handleRead_resuming (x : Conn) (n : Nat) : (handleRead x n).resuming = x.resuming := by
  unfold handleRead; split <;> rfl
@[simp] theorem handleWrite_resuming (x : Conn) (n : Nat) : (handleWrite x n).resuming = x.resuming := by
  unfold handleWrite; split <;> rfl
@[simp] theorem finishOrdinary_resuming (x : Conn) : (finishOrdinary x).resuming = x.resuming := by
  unfold finishOrdinary; split <;> simp [nextRequest, replyDone]
@[simp] theorem internalSuspend_resuming (x : Conn) : (internalSuspend x).resuming = false := by
  unfold internalSuspend; split <;> simp_all
@[simp] theorem newToActive_resuming (x : Conn) : (newToActive x).resuming = x.resuming := by
  unfold newToActive; split <;> rfl
@[simp] theorem cleanupOne_resuming (x : Conn) : (cleanupOne x).resuming = x.resuming := by
  unfold cleanupOne; split
  · simp only; split <;> rfl
  · rfl
theorem arriveConn_resuming (x : Conn) : (arriveConn x).resuming = x.resuming := by
  unfold arriveConn; split <;> rfl
theorem clientSendConn_resuming (x : Conn) (bs : Bytes) : (clientSendConn x bs).resuming = x.resuming := by
  unfold clientSendConn; split <;> rfl

theorem internalSuspend_takeExtra {x : Conn} (hr : x.resuming = false) :
    internalSuspend (takeExtra x) = { takeExtra x with loc := .suspended } := by
  simp [internalSuspend, takeExtra, hr]

theorem ite_some_eq_none {α} {c : Prop} [Decidable c] {a : α} {t : Option α} :
    (if c then some a else t) = none ↔ ¬ c ∧ t = none := by
  by_cases h : c <;> simp [h]

theorem queueCheck_eq_none {cfg : Cfg} {sh : Bool} {x : Conn} {rs : Resp} :
    queueCheck cfg sh x rs = none ↔ ∃ h, x.req = some h ∧
      x.rp = none ∧ (x.st = .headersProcessed ∨ x.st = .fullReq) ∧ sh = false ∧
      (rs.upgrade = true → cfg.allowUpgrade = true) ∧
      (rs.upgrade = true → rs.code = Mhd.Gen.Upg.switchingProtocols) ∧
      (rs.upgrade = true → rs.connHdr ≠ none) ∧
      (rs.upgrade = true → hasToken (rs.connHdr.getD []) Mhd.Gen.Upg.upgradeToken = true) ∧
      (rs.upgrade = true → h.ver.compat11 = true) ∧
      (rs.code = Mhd.Gen.Upg.switchingProtocols → rs.upgrade = true) ∧
      (100 ≤ rs.code ∧ rs.code ≤ 999) ∧ (rs.code < 200 → h.ver ≠ .v10) ∧ (rs.code < 200 → rs.flags10 = false) ∧
      (h.connect = true → rs.code / 100 ≠ 2) := by
  unfold queueCheck
  split
  · rename_i hr; simp [hr]
  · rename_i h hr
    simp only [ite_some_eq_none, hr, Option.some.injEq, exists_eq_left', and_true, not_and, not_or, Decidable.not_not,
      Nat.not_lt, Bool.not_eq_true, Option.isSome_eq_false_iff, Option.isNone_iff_eq_none, Bool.not_eq_false, ne_eq]
    rw [Decidable.or_iff_not_imp_left]

/-- events that carry no bytes, that no counter looks at and that are not daemon I/O -/
def Ev.neutral : Ev → Bool
  | .queued .. | .upClose _ | .stopMark | .appSend _ | .fault _ => true
  | _ => false

/-- shapes of state that `Life` excludes and on which the model nevertheless has a branch: `internalSuspend` inside
    `executeUpgrade` with `resuming` set, `resumeOne` on a suspended connection without a handle, `cleanupOne` /
    `stopNew` with the socket already closed -/
def Conn.incoherent (x : Conn) : Prop :=
  (x.loc = .active ∧ x.resuming = true) ∨ (x.loc = .suspended ∧ x.urh = none) ∨
  ((x.loc = .new ∨ x.loc = .cleanup) ∧ x.sockOpen = false)

/-- What one branch of one primitive does to a connection: the guard of the branch as hypotheses, a plain record
    update as result.  On the incoherent shapes the relation is larger than the model (`incoherent` relates such a
    state to anything): `executeUpgrade` runs `internalSuspend`, whose result depends on `resuming`, so a property
    can be carried through it for every `P` only if the branch that `Life` excludes carries no obligation; the
    instances close that case by `Life.coherent`. -/
inductive Act (cfg : Cfg) : Conn → Conn → Prop
  | emit {x} (e : Ev) : e.neutral = true → Act cfg x (x.emit e)
  | shutdown {x} : x.loc = .active → Act cfg x (x.emit .ioShutdown)
  | ctl {x} (s : St) (r : Option Head) (d : Bool) : s ≠ .sending → Act cfg x { x with st := s, req := r, discard := d }
  | dropRp {x} : Act cfg x { x with rp := none }
  | entered {x} (fin : Bool) : x.loc = .active → Act cfg x (handlerEntered x fin)
  | accept {x} (sh : Bool) (rid : Nat) (d : Bool) : queueCheck cfg sh x (cfg.resp rid) = none →
      Act cfg x { x with rp := some rid, discard := d, st := .startReply }
  | built {x} (rid : Nat) : x.loc = .active → x.rp = some rid →
      Act cfg x { x with wbuf := x.wbuf ++ replyBytes cfg rid, outq := x.outq ++ [replyBytes cfg rid], st := .sending }
  | completed {x} (code : Nat) : x.clientAware = true →
      Act cfg x { x with log := x.log ++ [.completed x.reqNo code], clientAware := false, reqNo := x.reqNo + 1 }
  | toCleanup {x} : x.loc = .active → x.clientAware = false → Act cfg x { x with loc := .cleanup }
  | head {x} (h : Head) : x.loc = .active → cfg.parser.parse x.rbuf = some h → Act cfg x (consumeHead x h)
  | recv {x} (n : Nat) : x.loc = .active → x.st = .recv →
      Act cfg x { x with log := x.log ++ [.ioRecv n], rbuf := x.rbuf ++ x.sockIn.take n, sockIn := x.sockIn.drop n }
  | send {x} (n : Nat) : x.loc = .active → x.st = .sending →
      Act cfg x { x with log := x.log ++ [.ioSend (x.wbuf.take n)], wbuf := x.wbuf.drop n }
  | handover {x} (rid : Nat) : x.loc = .active → x.st = .sending → x.wbuf = [] → x.rp = some rid →
      (cfg.resp rid).upgrade = true →
      Act cfg x { takeExtra x with loc := .suspended, log := x.log ++ [.upgrade rid x.rbuf] }
  | marked {x} (u : Urh) : x.loc = .suspended → x.urh = some u →
      Act cfg x { x with urh := some { u with wasClosed := true }, resuming := true }
  | resumeClean {x} (u : Urh) : x.loc = .suspended → x.resuming = true → x.urh = some u → u.wasClosed = true →
      u.cleanReady = true → x.clientAware = false → Act cfg x { x with loc := .cleanup, resuming := false }
  | started {x} : x.loc = .new → Act cfg x { x with log := x.log ++ [.start], loc := .active }
  | release {x} : x.loc = .cleanup →
      Act cfg x { x with urh := none, log := x.log ++ [.connClose] ++ [.sockClose], sockOpen := false, loc := .freed }
  | stopNew {x} : x.loc = .new → Act cfg x { x with log := x.log ++ [.sockClose], sockOpen := false, loc := .freed }
  | arrive {x} : x.loc = .none → Act cfg x { x with loc := .new, sockOpen := true }
  | clientSend {x} (bs : Bytes) : x.sockOpen = true → Act cfg x { x with sockIn := x.sockIn ++ bs, sent := x.sent ++ bs }
  | appRecv {x} (n : Nat) : x.urh.isSome = true → Act cfg x (appRecvConn x n)
  | incoherent {x y} : x.incoherent → Act cfg x y

abbrev Any : Conn → Prop := fun _ => True

structure Kept (cfg : Cfg) (A P : Conn → Prop) : Prop where
  act : ∀ {x y : Conn}, Act cfg x y → A x → P x → P y

theorem Kept.and {cfg : Cfg} {A P : Conn → Prop} (a : Kept cfg Any A) (p : Kept cfg A P) :
    Kept cfg Any (fun x => A x ∧ P x) :=
  ⟨fun h _ hx => ⟨a.act h trivial hx.1, p.act h hx.1 hx.2⟩⟩

theorem Kept.of_iff {cfg : Cfg} {A P Q : Conn → Prop} (k : Kept cfg A P) (h : ∀ x, P x ↔ Q x) : Kept cfg A Q :=
  ⟨fun a ha hq => (h _).mp (k.act a ha ((h _).mpr hq))⟩

section
variable {cfg : Cfg} {P : Conn → Prop} (k : Kept cfg Any P)
include k

theorem Kept.emit {x : Conn} (e : Ev) (he : e.neutral = true) (h : P x) : P (x.emit e) := k.act (.emit e he) trivial h

theorem Kept.notifyCompleted {x : Conn} (code : Nat) (h : P x) : P (notifyCompleted x code) := by
  unfold Upg.notifyCompleted; split
  · rename_i ha; exact k.act (.completed code ha) trivial h
  · exact h

theorem Kept.replyDone {x : Conn} (h : P x) : P (replyDone x) := k.act .dropRp trivial (k.notifyCompleted _ h)

theorem Kept.closeConn {x : Conn} (code : Nat) (ha : x.loc = .active) (h : P x) : P (closeConn x code) :=
  k.act (.toCleanup (x := { Upg.notifyCompleted (x.emit .ioShutdown) code with st := .closed, rp := none })
      (by simp [ha]) (by simp)) trivial
    (k.act .dropRp trivial (k.act (.ctl .closed _ _ nofun) trivial
      (k.notifyCompleted code (k.act (.shutdown ha) trivial h))))

theorem Kept.queueResponse {x : Conn} (sh : Bool) (rid : Nat) (h : P x) : P (queueResponse cfg sh x rid).1 := by
  unfold Upg.queueResponse; split
  · exact h
  · rename_i hq; exact k.act (.accept sh rid _ hq) trivial h

theorem Kept.startReply {x : Conn} (ha : x.loc = .active) (h : P x) : P (startReply cfg x) := by
  unfold Upg.startReply; split
  · exact h
  · rename_i rid hr; exact k.act (.built rid ha hr) trivial h

theorem Kept.handleRead {x : Conn} (n : Nat) (h : P x) : P (handleRead x n) := by
  unfold Upg.handleRead; split
  · rename_i hg; exact k.act (.recv _ hg.1 hg.2) trivial h
  · exact h

theorem Kept.handleWrite {x : Conn} (n : Nat) (h : P x) : P (handleWrite x n) := by
  unfold Upg.handleWrite; split
  · rename_i hg; exact k.act (.send _ hg.1 hg.2) trivial h
  · exact h

theorem Kept.newToActive {x : Conn} (h : P x) : P (newToActive x) := by
  unfold Upg.newToActive; split
  · rename_i hn; exact k.act (.started hn) trivial h
  · exact h

theorem Kept.arriveConn {x : Conn} (h : P x) : P (arriveConn x) := by
  unfold Upg.arriveConn; split
  · rename_i hn; exact k.act (.arrive hn) trivial h
  · exact k.emit _ rfl h

theorem Kept.clientSendConn {x : Conn} (bs : Bytes) (h : P x) : P (clientSendConn x bs) := by
  unfold Upg.clientSendConn; split
  · rename_i hs; exact k.act (.clientSend bs hs) trivial h
  · exact h

theorem Kept.upgradeActionClose {x : Conn} (hs : x.urh.isSome = true → x.loc = .suspended) (h : P x) :
    P (upgradeActionClose x).1 := by
  unfold Upg.upgradeActionClose; split
  · exact k.emit _ rfl h
  · rename_i u hu
    split
    · exact k.emit _ rfl h
    · have : markAppClosed x = { x with urh := some { u with wasClosed := true }, resuming := true } := by
        simp [markAppClosed, hu]
      rw [this]
      exact k.emit _ rfl (k.act (.marked u (hs (by rw [hu]; rfl)) hu) trivial h)

theorem Kept.executeUpgrade {x : Conn} (rid : Nat) (ha : x.loc = .active) (hs : x.st = .sending) (hw : x.wbuf = [])
    (hr : x.rp = some rid) (hu : (cfg.resp rid).upgrade = true) (h : P x) : P (executeUpgrade cfg x rid).1 := by
  cases hres : x.resuming with
  | true => exact k.act (.incoherent (.inl ⟨ha, hres⟩)) trivial h
  | false =>
    have h1 : P (handOver (internalSuspend (takeExtra x)) rid x.rbuf) := by
      rw [internalSuspend_takeExtra hres]
      exact k.act (.handover rid ha hs hw hr hu) trivial h
    unfold Upg.executeUpgrade
    simp only
    split
    · exact k.act .dropRp trivial (k.upgradeActionClose (fun _ => by rw [internalSuspend_takeExtra hres]; rfl) h1)
    · exact k.act .dropRp trivial h1

theorem Kept.resumeOne {x : Conn} (h : P x) : P (resumeOne x) := by
  unfold Upg.resumeOne; split
  · rename_i hg
    split
    · rename_i hu; exact k.act (.incoherent (.inr (.inl ⟨hg.1, hu⟩))) trivial h
    · rename_i u hu
      split
      · rename_i hc
        exact k.act (.resumeClean (x := Upg.notifyCompleted x _) u (by simp [hg.1]) (by simp [hg.2]) (by simp [hu])
          hc.1 hc.2 (by simp)) trivial (k.notifyCompleted _ h)
      · exact h
  · exact h

theorem Kept.cleanupOne {x : Conn} (h : P x) : P (cleanupOne x) := by
  by_cases hc : x.loc = .cleanup
  · cases hso : x.sockOpen with
    | false => exact k.act (.incoherent (.inr (.inr ⟨.inr hc, hso⟩))) trivial h
    | true =>
      have : Upg.cleanupOne x = { x with urh := none, log := x.log ++ [.connClose] ++ [.sockClose], sockOpen := false,
                                         loc := .freed } := by
        simp only [Upg.cleanupOne, hc, hso, Conn.emit, if_true]
      rw [this]; exact k.act (.release hc) trivial h
  · rw [show Upg.cleanupOne x = x from if_neg hc]; exact h

theorem Kept.stopNew {x : Conn} (hn : x.loc = .new) (h : P x) : P (stopNew x) := by
  cases hso : x.sockOpen with
  | false => exact k.act (.incoherent (.inr (.inr ⟨.inl hn, hso⟩))) trivial h
  | true => unfold Upg.stopNew; simp only [Conn.emit, hso, if_true]; exact k.act (.stopNew hn) trivial h

theorem Kept.stopMarkSuspended {x : Conn} (h : P x) : P (stopMarkSuspended cfg x) := by
  unfold Upg.stopMarkSuspended; split
  · rename_i hs
    split
    · split
      · exact k.emit _ rfl h
      · rename_i u hu; exact k.act (.marked u hs hu) trivial h
    · exact k.emit _ rfl h
  · exact h

theorem Kept.tryQueue (sh : Bool) (l : List Nat) : ∀ {x : Conn}, P x → P (tryQueue cfg sh x l) := by
  induction l with
  | nil => intro x h; exact h
  | cons rid rest ih =>
    intro x h
    simp only [Upg.tryQueue]
    split
    · exact k.emit _ rfl (k.queueResponse sh rid h)
    · exact ih (k.emit _ rfl (k.queueResponse sh rid h))

theorem Kept.replyCall {x : Conn} (ha : x.loc = .active) (h : P x) (sh fin : Bool) : P (replyCall cfg sh x fin) := by
  have h1 := k.tryQueue sh (cfg.beh x.reqNo).tries (k.act (.entered fin ha) trivial h)
  have hl : (Upg.tryQueue cfg sh (Upg.handlerEntered x fin) (cfg.beh x.reqNo).tries).loc = .active :=
    (tryQueue_loc ..).trans ha
  unfold Upg.replyCall
  simp only
  split
  · exact k.closeConn _ hl h1
  · exact k.startReply hl h1

theorem Kept.handlerCalls {x : Conn} (ha : x.loc = .active) (h : P x) (sh : Bool) : P (handlerCalls cfg sh x) := by
  unfold Upg.handlerCalls
  split
  · exact k.replyCall ha h sh false
  · exact k.replyCall (x := Upg.firstCallOnly x) ha
      (k.act (.ctl .fullReq _ _ nofun) trivial (k.act (.entered false ha) trivial h)) sh true

theorem Kept.tryRequest {x : Conn} (h : P x) (sh : Bool) : P (tryRequest cfg sh x) := by
  unfold Upg.tryRequest
  split
  · rename_i hg
    split
    · exact h
    · rename_i hd hp
      exact k.handlerCalls (x := Upg.consumeHead x hd) hg.1 (k.act (.head hd hg.1 hp) trivial h) sh
  · exact h

theorem Kept.afterSend {x : Conn} (h : P x) : P (afterSend cfg x).1 := by
  unfold Upg.afterSend
  split
  · rename_i hg
    split
    · exact h
    · rename_i rid hrp
      split
      · rename_i hu
        exact k.executeUpgrade rid hg.1 hg.2.1 (List.isEmpty_iff.mp hg.2.2) hrp hu h
      · unfold finishOrdinary
        split
        · exact k.act (.ctl .recv none false nofun) trivial (k.replyDone h)
        · exact k.closeConn _ ((replyDone_loc x).trans hg.1) (k.replyDone h)
  · exact h

theorem Kept.idle {x : Conn} (h : P x) (sh : Bool) : P (idle cfg sh x).1 :=
  k.tryRequest (k.afterSend h) sh

end

theorem callHandlers_keeps {Q : CB → Prop} {cfg : Cfg} {sh : Bool}
    (hrd : ∀ p n, Q p → Q (handleRead p.1 n, p.2)) (hwr : ∀ p n, Q p → Q (handleWrite p.1 n, p.2))
    (hid : ∀ p, Q p → Q (idleP cfg sh p)) {x : Conn} (h : Q (x, false)) (a : IoAct) : Q (callHandlers cfg sh x a) := by
  have hrs : ∀ p, Q p → Q (rdStage cfg sh a p) := by
    intro p hp; unfold rdStage; split
    · exact hid _ (hrd _ _ hp)
    · exact hp
  have hws : ∀ p, Q p → Q (wrStage cfg sh a p) := by
    intro p hp; unfold wrStage; split
    · exact hid _ (hwr _ _ hp)
    · exact hp
  unfold callHandlers
  split
  · exact h
  · have h2 := hws _ (hrs _ h)
    simp only
    split
    · exact hid _ h2
    · split
      · exact hid _ (hwr _ _ h2)
      · exact h2

theorem Kept.round {cfg : Cfg} {P : Conn → Prop} (k : Kept cfg Any P) {x : Conn} (h : P x) (sh scan : Bool)
    (a : Option IoAct) : P (roundConn cfg sh scan a x).1 := by
  unfold roundConn
  have h1 : P (Upg.newToActive (if scan = true then Upg.resumeOne x else x)) := by
    apply k.newToActive
    split
    · exact k.resumeOne h
    · exact h
  simp only
  split
  · exact k.cleanupOne (callHandlers_keeps (Q := fun p => P p.1) (fun p n => k.handleRead n)
      (fun p n => k.handleWrite n) (fun p hp => k.idle hp sh) h1 _)
  · exact k.cleanupOne h1

theorem Kept.stop {cfg : Cfg} {P : Conn → Prop} (k : Kept cfg Any P) {x : Conn} (h : P x) : P (stopConn cfg x) := by
  have hres : ∀ {y : Conn}, P y → P (resumeIf cfg y) := by
    intro y hy; unfold resumeIf; split
    · exact k.resumeOne hy
    · exact hy
  have h0 := k.emit .stopMark rfl h
  unfold stopConn
  split
  · rename_i hn; exact k.stopNew hn h0
  · apply k.cleanupOne
    have h1 : P (stopShutdownActive (Upg.stopMarkSuspended cfg (resumeIf cfg (x.emit .stopMark)))) := by
      unfold stopShutdownActive; split
      · rename_i ha; exact k.act (.shutdown ha) trivial (k.stopMarkSuspended (hres h0))
      · exact k.stopMarkSuspended (hres h0)
    unfold stopCloseActive; split
    · rename_i ha; exact k.closeConn _ ha (hres h1)
    · exact hres h1

end Mhd.Upg
