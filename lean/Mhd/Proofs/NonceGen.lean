/-
  C13 proofs about nonce *generation* (`Mhd.Model.NonceGen`, `Mhd.Dauth.calcNonce`): format of a generated
  nonce, generation as a step of C13's runs, acceptance by the verifier's nonce checks, the binding re-check
  (modulo explicit hash-inequality hypotheses), the retry.
-/
import Mhd.Model.NonceGen
import Mhd.Proofs.NoncePolicy
import Mhd.Proofs.DauthHex
import Mhd.Proofs.DauthSem0

namespace Mhd.NonceGen
open Mhd.Nonce Mhd.Dauth Mhd.Gen.Dauth Mhd.Gen.NonceGen Mhd.Gen.Nonce Mhd.Auth Mhd.Gen.Auth

theorem size_cases (a : Algo) : a.size = 16 ∨ a.size = 32 := by
  cases a <;> simp [Algo.size, md5Size, sha256Size, sha512Size]

theorem stdLen_cases (a : Algo) : a.stdLen = stdLenMd5 ∨ a.stdLen = stdLenSha := by
  cases a <;> simp [Algo.stdLen, Algo.size, md5Size, sha256Size, sha512Size, tsBin, stdLenMd5, stdLenSha]

theorem hexDigitL_eq (n : Nat) : hexDigitL n = hexChar n := rfl

theorem pow_256 (k : Nat) : 256 ^ k = 16 ^ (2 * k) := (Nat.pow_mul 16 2 k).symm

theorem byte_hi (t k : Nat) : t / 256 ^ k % 256 / 16 = t / 16 ^ (2 * k + 1) % 16 := by
  rw [pow_256, Nat.pow_succ, ← Nat.div_div_eq_div_mul]
  omega

theorem byte_lo (t k : Nat) : t / 256 ^ k % 256 % 16 = t / 16 ^ (2 * k) % 16 := by
  rw [pow_256]
  omega

theorem binToHex_tsBytes (t : Nat) : binToHex (tsBytes t) = hexTs t := by
  have h6 : List.range 6 = [0, 1, 2, 3, 4, 5] := by decide
  have h12 : List.range 12 = [0, 1, 2, 3, 4, 5, 6, 7, 8, 9, 10, 11] := by decide
  have hb : ∀ x : Nat, (UInt8.ofNat (x % 256)).toNat = x % 256 := by
    intro x; simp [UInt8.toNat_ofNat']
  have hd : ∀ k, k < 12 → trim t / 16 ^ k % 16 = t / 16 ^ k % 16 := fun k h => Mhd.Num.mod_pow_div_mod t 16 h
  simp only [tsBytes, hexTs, tsBin, tsChars, timestampBinSize, h6, h12, List.map_cons, List.map_nil, binToHex,
    hexDigitL_eq, hb, byte_hi, byte_lo, Nat.reduceSub, Nat.reduceMul, Nat.reduceAdd]
  simp only [hd, Nat.reduceLT]

/-- `calculate_nonce` = lower-case hex of the hash of the bound inputs, then the hex time stamp -/
theorem calcNonce_eq (cfg : Cfg) (r : Req) (realm : Bytes) (a : Algo) (t : Nat) (n : Bytes)
    (h : calcNonce cfg r realm a t = some n) :
    ∃ x, nonceInput cfg r realm t = some x ∧ n = mkNonce (binToHex (a.hash x)) t := by
  unfold calcNonce at h
  cases hx : nonceInput cfg r realm t with
  | none => rw [hx] at h; cases h
  | some x =>
    rw [hx] at h
    simp only [Option.map_some, Option.some.injEq] at h
    exact ⟨x, rfl, by rw [← h, binToHex_tsBytes]; rfl⟩

theorem mkNonce_length (a : Algo) (x : Bytes) (t : Nat) : (mkNonce (binToHex (a.hash x)) t).length = a.stdLen := by
  simp only [mkNonce, List.length_append, binToHex_length, hash_len, hexTs_length, Algo.stdLen, tsBin]
  omega

theorem isLowerHex_hexChar : ∀ d, d < 16 → isLowerHex (hexChar d) = true := by decide

theorem binToHex_lower (b : Bytes) : ∀ c ∈ binToHex b, isLowerHex c = true := by
  induction b with
  | nil => intro c hc; cases hc
  | cons x t ih =>
    intro c hc
    simp only [binToHex, List.mem_cons] at hc
    have h1 : x.toNat / 16 < 16 := by have := x.toNat_lt; omega
    have h2 : x.toNat % 16 < 16 := by omega
    rcases hc with rfl | rfl | hc
    · exact isLowerHex_hexChar _ h1
    · exact isLowerHex_hexChar _ h2
    · exact ih c hc

theorem hexTs_lower (t : Nat) : ∀ c ∈ hexTs t, isLowerHex c = true := by
  intro c hc
  simp only [hexTs, List.mem_map, List.mem_range] at hc
  obtain ⟨j, _, rfl⟩ := hc
  exact isLowerHex_hexChar _ (Nat.mod_lt _ (by decide))

theorem lower_ne_zero (c : UInt8) (h : isLowerHex c = true) : c ≠ 0 := by
  intro hc; subst hc; revert h; decide

/-- the age of a nonce as the verifier computes it (`TRIM_TO_TIMESTAMP (t' - nonce_time)`) is the real age,
    as long as that is below 2^48 ms -/
theorem age_eq (now t : Nat) (h1 : t ≤ now) (h2 : now < W64) (h3 : now - t < 2 ^ 48) :
    trim (sub64 now (trim t)) = now - t := by
  simp only [trim, sub64, W64, tsBits, timestampBinSize] at *
  omega

theorem tsBytes_trim (t : Nat) : tsBytes (trim t) = tsBytes t := by
  unfold tsBytes
  apply List.map_congr_left
  intro j hj
  have hk : tsBin - 1 - j < 6 := by have := List.mem_range.mp hj; simp only [tsBin] at *; omega
  exact congrArg UInt8.ofNat (Mhd.Num.mod_pow_div_mod t 256 hk)

/-- the verifier recomputes the nonce from the *parsed* time stamp: same bytes -/
theorem nonceInput_trim (cfg : Cfg) (r : Req) (realm : Bytes) (t : Nat) :
    nonceInput cfg r realm (trim t) = nonceInput cfg r realm t := by
  simp only [nonceInput, tsBytes_trim]

theorem calcNonce_trim (cfg : Cfg) (r : Req) (realm : Bytes) (a : Algo) (t : Nat) :
    calcNonce cfg r realm a (trim t) = calcNonce cfg r realm a t := by
  simp only [calcNonce, nonceInput_trim, tsBytes_trim]

/-- `n` has the format of a nonce made for algorithm `a` at time `t`: what the correspondence driver checks of
    every nonce the real `calculate_add_nonce` reports, and all that the verifier's checks before the table
    need of a generated nonce -/
abbrev Format (a : Algo) (t : Nat) (n : Bytes) : Prop := nonceFormatOk a.stdLen t n = true

theorem format_iff (a : Algo) (t : Nat) (n : Bytes) :
    Format a t n ↔ n.length = a.stdLen ∧ (∀ c ∈ n, isLowerHex c = true) ∧ n.drop (a.stdLen - tsChars) = hexTs t := by
  simp only [Format, nonceFormatOk, Bool.and_eq_true, beq_iff_eq, List.all_eq_true, and_assoc]

theorem calcNonce_format (cfg : Cfg) (r : Req) (realm : Bytes) (a : Algo) (t : Nat) (n : Bytes)
    (h : calcNonce cfg r realm a t = some n) : Format a t n := by
  obtain ⟨x, _, rfl⟩ := calcNonce_eq cfg r realm a t n h
  refine (format_iff a t _).mpr ⟨mkNonce_length a x t, fun c hc => ?_, ?_⟩
  · rcases List.mem_append.mp hc with hc | hc
    · exact binToHex_lower _ c hc
    · exact hexTs_lower _ c hc
  · have : a.stdLen - tsChars = (binToHex (a.hash x)).length := by
      rw [binToHex_length, hash_len]; simp only [Algo.stdLen, tsBin, tsChars, timestampBinSize]; omega
    rw [this, mkNonce, List.drop_left]

namespace Format
variable {a : Algo} {t : Nat} {n : Bytes}

theorem length (h : Format a t n) : n.length = a.stdLen := ((format_iff a t n).mp h).1

theorem eq_mkNonce (h : Format a t n) : n = mkNonce (n.take (a.stdLen - tsChars)) t := by
  rw [mkNonce, ← ((format_iff a t n).mp h).2.2, List.take_append_drop]

theorem timestamp (h : Format a t n) : getNonceTimestamp n n.length = .ts (trim t) := by
  have hl := h.length
  rw [h.eq_mkNonce] at hl ⊢
  have := getNonceTimestamp_mkNonce _ [] t (by rw [hl]; exact stdLen_cases a)
  rwa [List.append_nil] at this

theorem wf (h : Format a t n) : (Op.add t n).Wf := by
  have hl := h.length
  have hs := stdLen_cases a
  refine ⟨fun b hb => lower_ne_zero b (((format_iff a t n).mp h).2.1 b hb), ?_, ?_⟩
  · intro he; rw [he] at hl; simp only [List.length_nil, stdLenMd5, stdLenSha] at *; omega
  · simp only [stdLenMd5, stdLenSha, maxNonceLen] at *; omega

theorem presNonce (h : Format a t n) (lv : LenView) (hl : lv kNonce = some n.length) :
    presNonce a lv = .ok () := by
  have hlen := h.length
  have hs := stdLen_cases a
  unfold Dauth.presNonce
  rw [hl]
  simp only []
  rw [if_neg (by simp only [stdLenMd5, stdLenSha] at hs; omega), if_neg (by omega)]

/-- "Get 'nonce' with basic checks": accepted until it expires, then stale -/
theorem stageNonce (h : Format a t n) (d : DAuth) (p : Param) (hp : d.slots kNonce = some p)
    (hu : getUnq p = .ok n) (now timeout : Nat) (h1 : t ≤ now) (h2 : now < W64) (h4 : now - t < 2 ^ 48) :
    stageNonce a now timeout d =
      if now - t > (timeout * 1000) % 2 ^ timeoutBits then .error .nonceStale else .ok (n, trim t) := by
  unfold Dauth.stageNonce
  simp only [hp, need, bind, Except.bind, hu]
  rw [if_neg (by rw [h.length]; exact fun e => e rfl), h.timestamp]
  simp only [age_eq now t h1 h2 h4]

theorem present (h : Format a t n) (tbl : Table) (now tmo mx c : Nat) (hc0 : c ≠ 0)
    (hmx : c ≤ (if mx = 0 then defMaxNc else mx)) (h1 : t ≤ now) (h2 : now < W64) (h4 : now - t < 2 ^ 48) :
    present tbl now tmo mx a.stdLen n c =
      if now - t > ((if tmo = 0 then defTimeout else tmo) * 1000) % 2 ^ timeoutBits then (tbl, .stale)
      else step tbl (.check n (trim t) c) := by
  have hage := age_eq now t h1 h2 h4
  rw [← h.length]
  by_cases hexp : now - t > ((if tmo = 0 then defTimeout else tmo) * 1000) % 2 ^ timeoutBits
  · rw [if_pos hexp, present_expired tbl now tmo mx n c _ hc0 (by omega) h.timestamp (by rw [hage]; exact hexp)]
  · rw [if_neg hexp, present_live tbl now tmo mx n c _ hc0 hmx h.timestamp (by rw [hage]; omega)]
    rfl

end Format

theorem age_small {now t T : Nat} (h3 : now - t ≤ T % 2 ^ timeoutBits) : now - t < 2 ^ 48 :=
  Nat.lt_of_le_of_lt h3 (Nat.lt_trans (Nat.mod_lt _ (by decide)) (by decide))

def outOf (g : Gen) : Out := if g.added then .added else .refused

theorem calcAddNonce_step (cfg : Cfg) (tbl tbl' : Table) (r : Req) (realm : Bytes) (a : Algo) (t : Nat) (g : Gen)
    (h : calcAddNonce cfg tbl r realm a t = (tbl', some g)) :
    calcNonce cfg r realm a t = some g.nonce ∧ step tbl (.add t g.nonce) = (tbl', outOf g) := by
  unfold calcAddNonce at h
  cases hn : calcNonce cfg r realm a t with
  | none => rw [hn] at h; cases h
  | some n =>
    rw [hn] at h
    simp only [Prod.mk.injEq] at h
    obtain ⟨h1, h2⟩ := h
    cases hx : (addNonce tbl t n).2 with
    | added => rw [hx] at h2; cases h2; exact ⟨rfl, by simp [step, h1, hx, Out.ofAdd, outOf]⟩
    | refused => rw [hx] at h2; cases h2; exact ⟨rfl, by simp [step, h1, hx, Out.ofAdd, outOf]⟩
    | fault => rw [hx] at h2; cases h2

theorem calcAddNonce_of_added (cfg : Cfg) (tbl : Table) (r : Req) (realm : Bytes) (a : Algo) (t : Nat) (n : Bytes)
    (hn : calcNonce cfg r realm a t = some n) (hs : (step tbl (.add t n)).2 = .added) :
    calcAddNonce cfg tbl r realm a t = ((calcAddNonce cfg tbl r realm a t).1, some ⟨n, true⟩) := by
  have hadd : (addNonce tbl t n).2 = .added := (ofAdd_eq_added _).mp hs
  unfold calcAddNonce
  rw [hn]
  simp only [hadd]

/-- A generation at any point of any run is the run extended by the operation `add t nonce`
    with a *well-formed* nonce: every theorem of C13 about arbitrary well-formed operation
    sequences covers the nonces the daemon really makes. -/
theorem generation_is_run_step (size : Nat) (ops : List Op) (hwf : ∀ o ∈ ops, o.Wf)
    (cfg : Cfg) (r : Req) (realm : Bytes) (a : Algo) (t : Nat) (tbl' : Table) (g : Gen)
    (h : calcAddNonce cfg (run size ops).1 r realm a t = (tbl', some g)) :
    run size (ops ++ [.add t g.nonce]) = (tbl', ⟨.add t g.nonce, outOf g⟩ :: (run size ops).2) ∧
    (∀ o ∈ ops ++ [.add t g.nonce], o.Wf) := by
  obtain ⟨h1, h2⟩ := calcAddNonce_step cfg _ tbl' r realm a t g h
  refine ⟨by rw [run_snoc, h2], ?_⟩
  intro o ho
  rcases List.mem_append.mp ho with ho | ho
  · exact hwf o ho
  · simp only [List.mem_singleton] at ho; subst ho; exact (calcNonce_format cfg r realm a t g.nonce h1).wf

theorem stageNonce_length_tie (a : Algo) (now timeout : Nat) (d : DAuth) (p : Param) (n : Bytes)
    (hp : d.slots kNonce = some p) (hu : getUnq p = .ok n) (hl : a.stdLen ≠ n.length) :
    stageNonce a now timeout d = .error .nonceWrong := by
  unfold stageNonce
  simp only [hp, need, bind, Except.bind, hu]
  rw [if_pos hl]

theorem binToHex_inj (u v : Bytes) (h : binToHex u = binToHex v) : u = v := by
  have h1 := hexPairs_binToHex u
  rw [h, hexPairs_binToHex] at h1
  exact (Option.some.inj h1).symm

theorem has_ne_none {b x : Nat} (h : has b x = true) : b ≠ bindNone := by
  rintro rfl
  simp [has, bindNone] at h

theorem stageBind_differs (cfg : Cfg) (a : Algo) (r r' : Req) (realm : Bytes) (call : Call) (d : DAuth) (t : Nat)
    (n : Bytes) (np : Param) (hg : calcNonce cfg r realm a t = some n) (hb : cfg.bindType ≠ bindNone)
    (hnp : d.slots kNonce = some np) (hpq : PQ np) (hun : paramUnq np = n)
    (x y : Bytes) (hx : nonceInput cfg r realm t = some x) (hy : nonceInput cfg r' call.realm t = some y)
    (hH : a.hash x ≠ a.hash y) :
    stageBind cfg a r' call d (trim t) = .error .nonceOtherCond := by
  unfold stageBind
  rw [if_pos hb, if_neg (tmp1_ok' a), calcNonce_trim]
  have hn : n = binToHex (a.hash x) ++ binToHex (tsBytes t) := by
    simp only [calcNonce, hx, Option.map_some, Option.some.injEq] at hg; exact hg.symm
  simp only [calcNonce, hy, Option.map_some, hnp, need, bind, Except.bind, isParamEq_sem np _ hpq, hun]
  rw [if_neg]
  simp only [decide_eq_true_eq]
  intro he
  rw [hn] at he
  exact hH (binToHex_inj _ _ (List.append_cancel_right he))

theorem nonceInput_url_ne (cfg : Cfg) (r : Req) (realm u' : Bytes) (t : Nat) (x y : Bytes)
    (hb : has cfg.bindType bindUri = true) (hu : u' ≠ r.url)
    (hx : nonceInput cfg r realm t = some x) (hy : nonceInput cfg { r with url := u' } realm t = some y) : x ≠ y := by
  have hm : methodForNonce { r with url := u' } = methodForNonce r := rfl
  unfold nonceInput at hx hy
  simp only [hb, hm] at hx hy
  split at hx
  · cases hx
  · rename_i ipPart hip
    rw [hip] at hy
    simp only [Option.some.injEq] at hx hy
    subst hx; subst hy
    intro h
    simp at h
    exact hu h.symm

theorem nonceInput_realm_ne (cfg : Cfg) (r : Req) (realm realm' : Bytes) (t : Nat) (x y : Bytes)
    (hb : has cfg.bindType bindRealm = true) (hu : realm' ≠ realm)
    (hx : nonceInput cfg r realm t = some x) (hy : nonceInput cfg r realm' t = some y) : x ≠ y := by
  unfold nonceInput at hx hy
  simp only [hb] at hx hy
  split at hx
  · cases hx
  · rename_i ipPart hip
    rw [hip] at hy
    simp only [Option.some.injEq] at hx hy
    subst hx; subst hy
    intro h
    simp at h
    exact hu h.symm

theorem nonceInput_args_ne (cfg : Cfg) (r : Req) (realm : Bytes) (args' : List (Bytes × Option Bytes)) (t : Nat) (x y : Bytes)
    (hb : has cfg.bindType bindUriParams = true) (hu : argsForNonce args' ≠ argsForNonce r.args)
    (hx : nonceInput cfg r realm t = some x) (hy : nonceInput cfg { r with args := args' } realm t = some y) : x ≠ y := by
  have hm : methodForNonce { r with args := args' } = methodForNonce r := rfl
  unfold nonceInput at hx hy
  simp only [hb, hm] at hx hy
  split at hx
  · cases hx
  · rename_i ipPart hip
    rw [hip] at hy
    simp only [Option.some.injEq] at hx hy
    subst hx; subst hy
    intro h
    simp at h
    exact hu h.symm

theorem jumpBack_le (rnd : Nat) : jumpBack rnd ≤ jumpbackMax := by
  unfold jumpBack
  exact Nat.and_le_right

theorem sub64_back (t d : Nat) (ht : t < W64) (h1 : 1 ≤ d) (hd : d < W64) :
    sub64 t d ≠ t ∧ sub64 t d < W64 ∧ sub64 t (sub64 t d) = d := by
  simp only [sub64, W64] at *
  omega

end Mhd.NonceGen
