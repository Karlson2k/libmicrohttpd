/-
  One event-loop round, of the select loop or of the epoll loop, preserves `Inv` (repaired variant;
  the select-loop flag `savePrev` is arbitrary): `Inv` with the position of the connection is an instance
  of `Handler`, with the connections still to visit one of `Trav.rule`, and phase by phase one of `Round`.
  Then every script operation and every history (`inv_run`).
-/
import Mhd.Proofs.TmoHandlers
namespace Mhd.Tmo
open Mhd.Gen.Tmo

theorem inv_epollArm {d : Daemon} (h : Inv d) (i : Id) (hi : i ∈ d.conns ∨ i ∈ d.cleanup) : Inv (epollArm d i) := by
  rcases epollArm_cases d i with e | ⟨he, e⟩ <;> rw [e]
  · exact h
  · apply inv_inessential h
    case hnde => exact h.ndEready
    case hnep => intro x; simp [he] at x
    case hrdy => intro j hj; simp at hj; grind
    case hc => intro j; by_cases e : j = i <;> simp [e]

theorem inv_epollQueue {d : Daemon} (h : Inv d) (i : Id) (hi : i ∈ d.conns ∨ i ∈ d.cleanup) : Inv (epollQueue d i) := by
  rcases epollQueue_cases d i with e | ⟨he, hn, e⟩ <;> rw [e]
  · exact h
  · apply inv_inessential h
    case hnde => exact List.nodup_cons.2 ⟨hn, h.ndEready⟩
    case hnep => intro x; simp [he] at x
    case hrdy => intro j hj; simp at hj; grind
    case hc => intro j; exact ⟨rfl, rfl, rfl⟩

theorem inv_epollUpdate {d : Daemon} (h : Inv d) (i : Id) (hi : i ∈ d.conns ∨ i ∈ d.cleanup) : Inv (epollUpdate d i) := by
  unfold epollUpdate
  have s := epollQueue_same d i
  exact inv_epollArm (inv_epollQueue h i hi) i (by rw [s.1, s.2.1]; exact hi)

/-- where `handleIdle` may be called: on a live connection, on one already in the cleanup list
    (`in_cleanup`), or on one that the handler has just suspended -/
def IdleOk (d : Daemon) (i : Id) : Prop :=
  i ∈ d.conns ∨ i ∈ d.cleanup ∨ ((d.c i).suspended = true ∧ (d.c i).closed = false)

theorem inv_idle (i : Id) :
    Idle (fun r => Inv r.1 ∧ i ∈ r.1.conns) (fun r => Inv r.1 ∧ IdleOk r.1 i) (fun r => Inv r.1) i where
  idle h := ⟨h.1, .inl h.2⟩
  set x h1 h2 h3 _ h := ⟨inv_set_inessential h.1 i x h1 h2 h3, h.2⟩
  cleanup {d} hc h := by
    rcases h.2 with hi | hi | hi
    · exact inv_cleanupConnection h.1 i (.inl hi)
    · exact inv_cleanupConnection h.1 i (.inr hi)
    · rw [hi.2] at hc; cases hc
  arm {d} _ h := by
    rcases h.2 with hi | hi | hi
    · exact inv_epollUpdate h.1 i (.inl hi)
    · exact inv_epollUpdate h.1 i (.inr hi)
    · -- suspended: neither queued nor armed
      have hs : (d.c i).suspended = true := hi.1
      have e1 : epollQueue d i = d := by simp [epollQueue, procWait, hs]
      have e2 : epollArm d i = d := by simp [epollArm, hs]
      show Inv (epollUpdate d i)
      unfold epollUpdate; rw [e1, e2]; exact h.1
  timeout _ _ h := inv_set_inessential h.1 i _ rfl rfl rfl

theorem inv_handler {v : Variant} (hv : v.actSorted = true) (i : Id) :
    Handler v (fun r => Inv r.1 ∧ i ∈ r.1.conns) (fun r => Inv r.1 ∧ IdleOk r.1 i) (fun r => Inv r.1) i where
  toIdle := inv_idle i
  seq ha hf := hf ha
  live hi h := ⟨h.1, hi⟩
  event _ _ h := h
  stamp {d} h := ⟨inv_updateLastActivity hv h.1 i h.2, by rw [updateLastActivity_conns]; exact h.2⟩
  suspend {d} hc h := by
    have p := internalSuspend_post d i h.2
    exact ⟨inv_internalSuspend h.1 i h.2, p.1.elim .inl fun q => .inr (.inr ⟨q, p.2.trans hc⟩)⟩

theorem inv_notePending {d : Daemon} (h : Inv d) (v : Variant) (i : Id) : Inv (notePending v d i) := by
  rw [notePending_eq]; exact { h with }

theorem inv_callHandlersSel {v : Variant} (hv : v.actSorted = true) {d : Daemon} (h : Inv d) (i : Id) (r : Bool)
    (hi : i ∈ d.conns) : Inv (callHandlersSel v d i r).1 :=
  inv_notePending ((inv_handler hv i).callHandlersSel0 r ⟨h, hi⟩) v i

/-- `Trav.rule` for the invariant: the list has no repetition and every connection still to visit
    satisfies `Q`, which the handlers of the other connections preserve -/
theorem Trav.inv {T H stop} (hT : Trav T H stop) {Q : Daemon → Id → Prop}
    (hH : ∀ d j, Inv d → Q d j → Inv (H d j).1) (hQ : ∀ d j k, k ≠ j → Q d k → Q (H d j).1 k)
    (l : List Id) (d : Daemon) (h : Inv d) (hnd : l.Nodup) (hm : ∀ j, j ∈ l → Q d j) : Inv (T l d).1 :=
  hT.rule (G := fun r => Inv r.1) (Q := fun d l => l.Nodup ∧ ∀ j, j ∈ l → Q d j) (fun ha hf => hf ha)
    (fun d j _ h q =>
      have nd := List.nodup_cons.1 q.1
      ⟨hH d j h (q.2 j (List.mem_cons_self ..)), nd.2, fun k hk =>
        hQ d j k (fun e => nd.1 (e ▸ hk)) (q.2 k (List.mem_cons_of_mem _ hk))⟩) l d h ⟨hnd, hm⟩

theorem fresh_others {d d' : Daemon} {i j : Id} (o : Others i d d') (hji : j ≠ i) (hf : Fresh d j) :
    Fresh d' j := by
  obtain ⟨f1, f2, f3, f4, f5, f6, f7⟩ := hf
  have hc := o.c j hji
  exact ⟨fun x => f1 ((o.conns j hji).1 x), fun x => f2 ((o.susp j hji).1 x), fun x => f3 ((o.cleanup j hji).1 x),
    o.newL ▸ f4, o.used ▸ f5, by rw [hc, o.cfg]; exact f6, by rw [hc]; exact f7⟩

theorem inv_processNew {v : Variant} (hv : Fixed v) {d : Daemon} (h : Inv d) : Inv (processNew v d).1 := by
  unfold processNew
  by_cases hn : d.haveNew = true
  · rw [if_pos hn]
    have h0 : Inv { d with newL := [], haveNew := false } :=
      { h with ndNew := List.nodup_nil, newT := fun _ x => absurd x List.not_mem_nil,
               disjNew := fun _ x => absurd x List.not_mem_nil,
               usedAll := fun j x => h.usedAll j (x.elim (absurd · List.not_mem_nil) .inr) }
    refine (trav_foldl _).inv (Q := Fresh) (fun d i hd hp => inv_processOneNew hv hd i hp)
      (fun d i j hji hp => fresh_others (touch_processOneNew v d i).toOthersOf hji hp) _ _ h0
      h.ndNew.reverse ?_
    intro i hi
    have hi' : i ∈ d.newL := List.mem_reverse.1 hi
    have a := h.disjNew i hi'
    have b := h.newT i hi'
    exact ⟨a.1, a.2.1, a.2.2, List.not_mem_nil, h.usedAll i (.inl hi'), b.1, b.2⟩
  · rw [if_neg hn]; exact h

theorem inv_resumeSuspended {v : Variant} (hv : v.actSorted = true) {d : Daemon} (h : Inv d) : Inv (resumeSuspended v d) := by
  unfold resumeSuspended
  refine (trav_foldl _).inv (Q := fun d i => i ∈ d.susp) (fun d i hd hp => inv_resumeOne hv hd i hp)
    (fun d i j hji hp => ((touch_resumeOne v d i).susp j hji).2 hp) _ _ { h with } ?_ ?_
  · split
    · exact h.ndSusp.reverse
    · exact List.nodup_nil
  · intro i hi
    split at hi
    · exact List.mem_reverse.1 hi
    · exact absurd hi List.not_mem_nil

theorem foldl_free_ready : ∀ (l : List Id) (d : Daemon) (j : Id),
    (j ∈ (l.foldl freeOne d).eready → j ∈ d.eready ∧ j ∉ l) ∧
    (j ∈ (l.foldl freeOne d).kq → j ∈ d.kq ∧ j ∉ l) ∧ (l.foldl freeOne d).cleanup = d.cleanup
  | [], d, j => by simp
  | i :: rest, d, j => by
    rw [List.foldl_cons]
    have ih := foldl_free_ready rest (freeOne d i) j
    refine ⟨?_, ?_, ?_⟩
    · intro hj; have := ih.1 hj; simp [freeOne] at this; simp; grind
    · intro hj; have := ih.2.1 hj; simp [freeOne] at this; simp; grind
    · rw [ih.2.2]; rfl

theorem inv_cleanupAll {d : Daemon} (h : Inv d) : Inv (cleanupAll d).1 := by
  unfold cleanupAll
  have h1 : Inv (d.cleanup.reverse.foldl freeOne d) :=
    (trav_foldl _).inv (Q := fun d i => i ∈ d.cleanup) (fun d i hd hp => inv_freeOne hd i hp)
      (fun d i j hji hp => ((touch_freeOne d i).cleanup j hji).2 hp) _ _ h
      h.ndClean.reverse (fun i hi => List.mem_reverse.1 hi)
  have hr := foldl_free_ready d.cleanup.reverse d
  refine { h1 with ndClean := List.nodup_nil, disjNew := fun j hj => ?_, disjClean := fun j hj => absurd hj List.not_mem_nil,
                   usedAll := fun j hj => ?_, ready := fun j hj => ?_ }
  · have := h1.disjNew j hj; exact ⟨this.1, this.2.1, List.not_mem_nil⟩
  · rcases hj with x | x | x | x
    · exact h1.usedAll j (.inl x)
    · exact h1.usedAll j (.inr (.inl x))
    · exact h1.usedAll j (.inr (.inr (.inl x)))
    · exact absurd x List.not_mem_nil
  · -- what is still ready was not in the cleanup list
    rcases h1.ready j hj with x | x
    · exact .inl x
    · rw [(hr j).2.2] at x
      rcases hj with y | y
      · exact absurd (List.mem_reverse.2 x) ((hr j).1 y).2
      · exact absurd (List.mem_reverse.2 x) ((hr j).2.1 y).2

theorem inv_roundStart {v : Variant} (hv : v.actSorted = true) {d : Daemon} (h : Inv d) : Inv (roundStart v d) := by
  unfold roundStart
  split
  · exact { inv_resumeSuspended hv h with }
  · exact { h with }

theorem inv_epollEvent {d : Daemon} (h : Inv d) (i : Id) (hi : i ∈ d.conns ∨ i ∈ d.cleanup)
    (he : d.cfg.epoll = true) : Inv (epollEvent d i) := by
  rcases epollEvent_cases d i with e | ⟨x, l, h1, h2, h3, _, _, _, hl, e⟩ <;> rw [e]
  · exact h
  · apply inv_inessential h
    case hnde =>
      rcases hl with y | ⟨y1, y2⟩
      · exact y ▸ h.ndEready
      · exact y2 ▸ List.nodup_cons.2 ⟨y1, h.ndEready⟩
    case hnep => intro x; simp [he] at x
    case hrdy =>
      intro j hj
      rcases hj with y | y
      · rcases hl with z | ⟨_, z⟩
        · exact .inl (z ▸ y)
        · rcases List.mem_cons.1 (z ▸ y) with w | w
          · exact .inr (.inr (w ▸ hi))
          · exact .inl w
      · exact .inr (.inl y)
    case hc => intro j; by_cases e : j = i <;> simp [e, h1, h2, h3]

theorem inv_epollWait {d : Daemon} (h : Inv d) : Inv (epollWait d) := by
  unfold epollWait
  have h0 : Inv { d with kq := [] } :=
    { h with ready := fun j hj => h.ready j (.inl (hj.elim id (absurd · List.not_mem_nil))),
             nonEpoll := fun he => ⟨(h.nonEpoll he).1, rfl⟩ }
  -- the kernel's list may name a connection twice: no `Nodup` here, and `epoll_wait` moves no connection
  refine (trav_foldl epollEvent).rule (G := fun r => Inv r.1)
    (Q := fun d l => ∀ i, i ∈ l → (i ∈ d.conns ∨ i ∈ d.cleanup) ∧ d.cfg.epoll = true) (fun ha hf => hf ha)
    (fun d i _ hd q => ?_) _ _ h0 ?_
  · have hi := q i (List.mem_cons_self ..)
    have s := epollEvent_same d i
    exact ⟨inv_epollEvent hd i hi.1 hi.2, fun j hj => by
      show (j ∈ (epollEvent d i).conns ∨ j ∈ (epollEvent d i).cleanup) ∧ (epollEvent d i).cfg.epoll = true
      rw [s.1, s.2.1, s.2.2]; exact q j (List.mem_cons_of_mem _ hj)⟩
  · intro i hi
    refine ⟨h.ready i (Or.inr hi), ?_⟩
    cases he : d.cfg.epoll
    · have := (h.nonEpoll he).2; rw [this] at hi; exact absurd hi List.not_mem_nil
    · rfl

theorem inv_scan {T stop} (hT : Trav T handleIdleP stop) :
    ∀ (l : List Id) (d : Daemon), Inv d → l.Nodup → (∀ i, i ∈ l → i ∈ d.conns) → Inv (T l d).1 :=
  hT.inv (fun _ j h hj => (inv_idle j).handleIdleP ⟨h, hj⟩) (fun d j k hk x => ((others_handleIdleP d j).conns k hk).2 x)

theorem inv_eready_shrink {d : Daemon} (h : Inv d) (i : Id) : Inv { d with eready := without d.eready i } := by
  apply inv_inessential h
  case hnde => exact nodup_without i h.ndEready
  case hnep =>
    intro he
    obtain ⟨e1, e2⟩ := h.nonEpoll he
    exact ⟨by show without d.eready i = []; rw [e1]; rfl, e2⟩
  case hrdy =>
    intro j hj
    rcases hj with x | x
    · exact Or.inl (mem_without.1 x).1
    · exact Or.inr (Or.inl x)
  case hc => intro j; exact ⟨rfl, rfl, rfl⟩

theorem inv_callHandlersE0 {v : Variant} (hv : v.actSorted = true) {d : Daemon} (h : Inv d) (i : Id)
    (hi : i ∈ d.conns ∨ i ∈ d.cleanup) : Inv (callHandlersE0 v d i).1 :=
  (inv_handler hv i).callHandlersE0 h fun hcl => ⟨h, hi.resolve_right hcl⟩

theorem inv_callHandlersE1 {v : Variant} (hv : v.actSorted = true) {d : Daemon} (h : Inv d) (i : Id)
    (hi : i ∈ d.conns ∨ i ∈ d.cleanup) : Inv (callHandlersE1 v d i).1 := by
  rcases callHandlersE1_cases v d i with e | e <;> rw [e]
  · exact inv_callHandlersE0 hv h i hi
  · exact inv_notePending (inv_callHandlersE0 hv h i hi) v i

theorem inv_callHandlersE {v : Variant} (hv : v.actSorted = true) {d : Daemon} (h : Inv d) (i : Id)
    (hi : i ∈ d.conns ∨ i ∈ d.cleanup) : Inv (callHandlersE v d i).1 := by
  rcases callHandlersE_cases v d i with e | e <;> rw [e]
  · exact inv_callHandlersE1 hv h i hi
  · exact inv_eready_shrink (inv_callHandlersE1 hv h i hi) i

theorem inv_roundLaws {v : Variant} (hv : Fixed v) : Round v (fun r => Inv r.1) where
  seq ha hf := hf ha
  start := inv_roundStart hv.2.2.2.2
  wait := inv_epollWait
  new := inv_processNew hv
  manual h := inv_scan trav_scanManual _ _ h h.ndManual.reverse
    (fun i hi => (h.connsIff i).2 (Or.inr (List.mem_reverse.1 hi)))
  normal h := inv_scan trav_scanNormal _ _ h h.ndNormal.reverse
    (fun i hi => (h.connsIff i).2 (Or.inl (List.mem_reverse.1 hi)))
  eready h := (trav_procEready v).inv (fun _ j h hj => inv_callHandlersE hv.2.2.2.2 h j hj)
    (fun d j k hk x => x.imp ((others_callHandlersE v d j).conns k hk).2 ((others_callHandlersE v d j).cleanup k hk).2)
    _ _ h h.ndEready.reverse (fun i hi => h.ready i (Or.inl (List.mem_reverse.1 hi)))
  select rs h := (trav_travSel v rs).inv (fun _ j h hj => inv_callHandlersSel hv.2.2.2.2 h j _ hj)
    (fun d j k hk x => ((others_callHandlersSel v d j _).conns k hk).2 x) _ _ h h.ndConns.reverse
    (fun _ hi => List.mem_reverse.1 hi)
  clean := inv_cleanupAll

theorem inv_round {v : Variant} (hv : Fixed v) {d : Daemon} (h : Inv d) : Inv (round v d).1 :=
  (inv_roundLaws hv).round h

/-- the operation does not turn the clock back -/
def Op.monotone : Op → Prop
  | .tickback _ => False
  | _ => True

instance (o : Op) : Decidable o.monotone := by
  cases o <;> simp only [Op.monotone] <;> infer_instance

theorem inv_kqPush {d : Daemon} (h : Inv d) (i : Id) (hi : i ∈ d.conns) (he : d.cfg.epoll = true) :
    Inv { d with kq := d.kq ++ [i] } := by
  apply inv_inessential h
  case hnde => exact h.ndEready
  case hnep => intro hh; simp [he] at hh
  case hrdy =>
    intro j hj
    rcases hj with x | x
    · exact Or.inl x
    · rcases List.mem_append.1 x with y | y
      · exact Or.inr (Or.inl y)
      · simp at y; subst y; exact Or.inr (Or.inr (Or.inl hi))
  case hc => intro j; exact ⟨rfl, rfl, rfl⟩

theorem inv_clientData {d : Daemon} (h : Inv d) (i : Id) (k : Kind) (n : Nat) : Inv (clientData d i k n) := by
  unfold clientData
  dsimp only
  split
  · split
    · rename_i hc
      apply inv_kqPush
      · exact inv_set_inessential h i _ rfl rfl rfl
      · simpa using hc.2.1
      · simpa using hc.1
    · exact inv_set_inessential h i _ rfl rfl rfl
  · exact inv_set_inessential h i _ rfl rfl rfl

theorem inv_clientClose {d : Daemon} (h : Inv d) (i : Id) : Inv (clientClose d i) := by
  unfold clientClose
  dsimp only
  split
  · rename_i hc
    apply inv_kqPush
    · exact inv_set_inessential h i _ rfl rfl rfl
    · simpa using hc.2.1
    · simpa using hc.1
  · exact inv_set_inessential h i _ rfl rfl rfl

theorem inv_resumeRequest {d : Daemon} (h : Inv d) (i : Id) : Inv (resumeRequest d i) :=
  { inv_set_inessential h i { (d.c i) with resuming := true } rfl rfl rfl with }

theorem inv_step {v : Variant} (hv : Fixed v) {d : Daemon} (h : Inv d) (o : Op)
    (r : Daemon × List Event) (hr : step v d o = some r) : Inv r.1 := by
  cases o with
  | arrive i => obtain ⟨hc, rfl⟩ := ite_eq_some hr; exact inv_arrive h i hc.2
  | send i => obtain ⟨_, rfl⟩ := ite_eq_some hr; exact inv_clientData h i _ _
  | sendp i => obtain ⟨_, rfl⟩ := ite_eq_some hr; exact inv_clientData h i _ _
  | sendn i k => obtain ⟨_, rfl⟩ := ite_eq_some hr; exact inv_clientData h i _ _
  | slow i => obtain ⟨_, rfl⟩ := ite_eq_some hr; exact inv_set_inessential h i _ rfl rfl rfl
  | cclose i => obtain ⟨_, rfl⟩ := ite_eq_some hr; exact inv_clientClose h i
  | tick ms => cases hr; exact inv_clock h _ _ (by omega)
  | tickback ms => obtain ⟨hc, rfl⟩ := ite_eq_some hr; exact inv_clock h _ _ (by omega)
  | setTimeout i s =>
    obtain ⟨hc, rfl⟩ := ite_eq_some hr
    exact inv_setTimeout hv h i s (by simpa [Daemon.started] using hc.1) (Nat.mul_le_mul_right _ hc.2)
  | susp i => obtain ⟨_, rfl⟩ := ite_eq_some hr; exact inv_set_inessential h i _ rfl rfl rfl
  | resume i => obtain ⟨_, rfl⟩ := ite_eq_some hr; exact inv_resumeRequest h i
  | round => cases hr; exact inv_round hv { h with }
  | roundw ws fs => cases hr; exact inv_round hv { h with }
  | allow i => obtain ⟨_, rfl⟩ := ite_eq_some hr; exact h
  | get i e =>
    obtain ⟨_, rfl⟩ := ite_eq_some hr
    exact inv_clientData (inv_set_inessential h i { (d.c i) with limited := true } rfl rfl rfl) i _ _

theorem inv_run {v : Variant} (hv : Fixed v) : ∀ (ops : List Op) (d : Daemon), Inv d → Inv (run v d ops)
  | [], d, h => by simpa [run] using h
  | o :: os, d, h => by
    unfold run
    split
    · rename_i r hr
      exact inv_run hv os r.1 (inv_step hv h o r hr)
    · exact inv_run hv os d h

end Mhd.Tmo
