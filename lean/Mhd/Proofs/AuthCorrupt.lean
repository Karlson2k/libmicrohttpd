/-
  C14: single-byte corruptions of a rendered Digest credential string.

  The rendering of `pre ++ e :: post` is split as
      valPrefix lead pre e ++ (renderValue e.item.value e.r.form ++ valSuffix e post)
  and the byte at offset `j` of the value region is replaced.  Two outcomes are proved:
  * the region still is a value of the same form (`QBody` / token bytes): the string is the
    rendering of the list with that one value replaced, so only that parameter changes;
  * the replacement byte is NUL (quoted form) or NUL / ';' (token form): rejected.
-/
import Mhd.Proofs.AuthSem
namespace Mhd.Auth
open Mhd.Gen.Auth Mhd.Auth.Lenient

theorem scanQ_nul (t : UInt8) (q : Bytes) (j : Nat) (rest : Bytes) (hq : QBody q = true)
    (hj : j < q.length) : scanQ (some t) (q.set j 0 ++ rest) = .reject := by
  fun_induction QBody q generalizing j with
  | case1 => simp at hj
  | case2 => cases hq
  | case3 => cases hq
  | case4 c2 r2 _ ih =>
    simp only [Bool.and_eq_true, decide_eq_true_eq, ne_eq] at hq
    match j with
    | 0 => simp [scanQ_zero]
    | 1 => simp [scanQ_esc0]
    | j + 2 =>
      simp only [List.set_cons_succ, List.cons_append]
      rw [scanQ_esc _ _ _ hq.1, ih j hq.2 (by simp at hj; omega)]
      rfl
  | case5 c r h34 h92 ih =>
    simp only [Bool.and_eq_true, decide_eq_true_eq, ne_eq] at hq
    match j with
    | 0 => simp [scanQ_zero]
    | j + 1 =>
      simp only [List.set_cons_succ, List.cons_append]
      rw [scanQ_plain _ _ _ h34 h92 hq.1, ih j hq.2 (by simp at hj; omega)]
      rfl

theorem scanTok_bad (t : UInt8) (b : UInt8) (hb : b = 0 ∨ b = 59 ∨ b = 34) : ∀ (v : Bytes) (j : Nat) (rest : Bytes),
    v.all tokByte = true → j < v.length → scanTok (some t) (v.set j b ++ rest) = .reject := by
  intro v
  induction v with
  | nil => intro j rest _ hj; simp at hj
  | cons c r ih =>
    intro j rest hv hj
    simp only [List.all_cons, Bool.and_eq_true] at hv
    match j with
    | 0 =>
      rcases hb with h | h | h <;> subst h <;> simp [scanTok_cons]
    | j + 1 =>
      have hc := hv.1
      simp only [tokByte, Bool.and_eq_true, ne_eq, decide_eq_true_eq] at hc
      obtain ⟨⟨⟨⟨⟨h34, h0⟩, h32⟩, h9⟩, h44⟩, h59⟩ := hc
      simp only [List.set_cons_succ, List.cons_append]
      rw [scanTok_cons, ih j rest hv.2 (by simp at hj; omega)]
      simp [h34, h0, h32, h9, h44, h59]

/-- the parameters before the one looked at, each with its separating comma -/
def sepList : List Elem → Bytes
  | [] => []
  | p :: ps => renderElem p ++ 44 :: (p.r.ws4 ++ sepList ps)

/-- name, BWS "=" BWS of a parameter: what stands between the previous separator and the value -/
def nameEq (e : Elem) : Bytes := caseRender e.r.upper (nameOf e.item.slot) ++ (e.r.ws1 ++ 61 :: e.r.ws2)

/-- everything before the value of `e` in `render lead (pre ++ e :: post)` -/
def valPrefix (lead : Bytes) (pre : List Elem) (e : Elem) : Bytes := lead ++ (sepList pre ++ nameEq e)

/-- everything after the value of `e` in `render lead (pre ++ e :: post)` -/
def valSuffix (e : Elem) (post : List Elem) : Bytes :=
  e.r.ws3 ++ (match post with
    | [] => []
    | p :: ps => 44 :: (e.r.ws4 ++ renderList (p :: ps)))

theorem renderList_cons_ne (p : Elem) (l : List Elem) (h : l ≠ []) :
    renderList (p :: l) = renderElem p ++ 44 :: (p.r.ws4 ++ renderList l) := by
  cases l with
  | nil => exact absurd rfl h
  | cons a b => rfl

theorem renderList_split (pre : List Elem) (e : Elem) (post : List Elem) :
    renderList (pre ++ e :: post) =
      sepList pre ++ (nameEq e ++ (renderValue e.item.value e.r.form ++ valSuffix e post)) := by
  induction pre with
  | nil =>
    cases post with
    | nil => simp [renderList, sepList, nameEq, valSuffix, renderElem, List.append_assoc]
    | cons p ps => simp [renderList, sepList, nameEq, valSuffix, renderElem, List.append_assoc]
  | cons p ps ih =>
    rw [List.cons_append, renderList_cons_ne p _ (by simp), ih]
    simp [sepList, List.append_assoc]

theorem render_split (lead : Bytes) (pre : List Elem) (e : Elem) (post : List Elem) :
    render lead (pre ++ e :: post) =
      valPrefix lead pre e ++ (renderValue e.item.value e.r.form ++ valSuffix e post) := by
  simp [render, valPrefix, renderList_split, List.append_assoc]

/-- the same parameter with another value / form; name, case and white space kept -/
def Elem.withValue (e : Elem) (v : Bytes) (f : Form) : Elem :=
  ⟨⟨e.item.slot, v⟩, ⟨e.r.upper, e.r.ws1, e.r.ws2, f, e.r.ws3, e.r.ws4⟩⟩

theorem valPrefix_withValue (lead : Bytes) (pre : List Elem) (e : Elem) (v : Bytes) (f : Form) :
    valPrefix lead pre (e.withValue v f) = valPrefix lead pre e := rfl
theorem valSuffix_withValue (e : Elem) (post : List Elem) (v : Bytes) (f : Form) :
    valSuffix (e.withValue v f) post = valSuffix e post := rfl

theorem WF_mid (lead : Bytes) (pre : List Elem) (e : Elem) (post : List Elem) (h : WF lead (pre ++ e :: post) = true) :
    allWs lead = true ∧ pre.all Elem.wf = true ∧ e.wf = true ∧ post.all Elem.wf = true := by
  simpa only [WF, Bool.and_eq_true, List.all_append, List.all_cons] using h

theorem parse_replaced (lead : Bytes) (pre : List Elem) (e : Elem) (post : List Elem) (t : UInt8) (ht : t ≠ 59)
    (hwf : WF lead (pre ++ e :: post) = true) (v' : Bytes) (f' : Form) (hwf' : (e.withValue v' f').wf = true) :
    ∃ d, parseDigest (valPrefix lead pre e ++ (renderValue v' f' ++ valSuffix e post)) (some t) = .ok d ∧
      (∀ k, (d.slots k).map paramUnq = view (pre ++ e.withValue v' f' :: post) k) ∧
      d.algo3 = algoSem (view (pre ++ e.withValue v' f' :: post) kAlgorithm) ∧
      d.qop = qopSem (view (pre ++ e.withValue v' f' :: post) kQop) ∧
      d.userhash = userhashSem (view (pre ++ e.withValue v' f' :: post) kUserhash) := by
  obtain ⟨hlead, hpre, _, hpost⟩ := WF_mid lead pre e post hwf
  have hw : WF lead (pre ++ e.withValue v' f' :: post) = true := by
    simp only [WF, Bool.and_eq_true, List.all_append, List.all_cons]
    exact ⟨hlead, hpre, hwf', hpost⟩
  have := parseDigest_render lead (pre ++ e.withValue v' f' :: post) t ht hw
  rw [render_split] at this
  exact this

theorem view_withValue (pre : List Elem) (e : Elem) (post : List Elem) (v' : Bytes) (f' : Form) (k : Nat)
    (hk : k ≠ e.item.slot) : view (pre ++ e.withValue v' f' :: post) k = view (pre ++ e :: post) k := by
  have hne : ¬ e.item.slot = k := fun h => hk h.symm
  simp [view, List.foldl_append, Elem.withValue, hne]

theorem set_in_value (P V S : Bytes) (j : Nat) (b : UInt8) (hj : j < V.length) :
    (P ++ (V ++ S)).set (P.length + j) b = P ++ (V.set j b ++ S) := by
  rw [List.set_append_right _ _ (by omega)]
  simp only [Nat.add_sub_cancel_left]
  rw [List.set_append_left _ _ hj]

theorem sepList_eq (pre : List Elem) : sepList pre = sepL (toLs (pre.map .known)) := by
  induction pre with
  | nil => rfl
  | cons p ps ih => simp only [sepList, List.map_cons, toLs, sepL, toL_render, GElem.render, GElem.ws4] at ih ⊢; rw [ih]

/-- the loop walks over the parameters before `e`, reads the name of `e` and "=", and gives up in the value -/
theorem parse_value_reject (lead : Bytes) (pre : List Elem) (e : Elem) (post : List Elem) (t : UInt8) (ht : t ≠ 59)
    (hwf : WF lead (pre ++ e :: post) = true) (V : Bytes) (hV : ∃ c r, V = c :: r ∧ isWs c = false)
    (hrej : valueAt (some t) V = .reject) :
    parseDigest (valPrefix lead pre e ++ V) (some t) = .reject := by
  obtain ⟨hlead, hpre, he, _⟩ := WF_mid lead pre e post hwf
  have hall : ∀ x ∈ toLs (pre.map .known), x.1.wf = true ∧ x.1.exact = true ∧ allWs x.2 = true := fun x hx => by
    obtain ⟨g, hg, rfl⟩ := List.mem_map.mp hx
    obtain ⟨p, hp, rfl⟩ := List.mem_map.mp hg
    have := List.all_eq_true.mp hpre p hp
    exact ⟨toL_known_wf p this, rfl, (p.wf_ws this).2.2.2.2⟩
  obtain ⟨hslot, hw1, hw2, _, _⟩ := e.wf_ws he
  have hname := caseRender_nameOf e.r.upper _ hslot
  have hs : nameEq e ++ V = caseRender e.r.upper (nameOf e.item.slot) ++ (e.r.ws1 ++ 61 :: (e.r.ws2 ++ V)) := by
    simp [nameEq, List.append_assoc]
  obtain ⟨c, r, hcr, hc⟩ := name_head _ hslot _ hname
  have hY : NoWs (nameEq e ++ V) :=
    Or.inr ⟨c, r ++ (e.r.ws1 ++ 61 :: (e.r.ws2 ++ V)), by rw [hs, hcr]; rfl, isWs_false_of_isDelim_false hc⟩
  obtain ⟨st', hrun, _⟩ := runLoop_walk t ht (valPrefix lead pre e ++ V).length _ Slots.empty _ hall hY
  have hturn : turn (some t) (nameEq e ++ V) = .reject := by
    rw [hs, turn_known _ _ hslot _ _ _ hname hw1, knownValue_eq _ _ _ hw1, skipWs_append _ _ hw2,
      skipWs_stop _ (Or.inr hV), hrej]
    rfl
  have hskip : skipWs (valPrefix lead pre e ++ V) = sepL (toLs (pre.map .known)) ++ (nameEq e ++ V) := by
    rw [show valPrefix lead pre e ++ V = lead ++ (sepList pre ++ (nameEq e ++ V)) by simp [valPrefix, List.append_assoc],
      skipWs_append _ _ hlead, sepList_eq, skipWs_stop _ (sepL_noWs _ hall _ hY)]
  rw [parseDigest_eq_runLoop, hskip, hrun, runLoop_turn _ _ _ _ (by rw [hs, hcr]; simp), hturn]
  rfl

end Mhd.Auth
