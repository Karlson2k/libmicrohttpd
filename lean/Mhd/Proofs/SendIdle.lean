/-
  C07 — try_ready_chunked_body and the reply states of MHD_connection_handle_idle: what they can do
  (`Chunked`, the per-state equations of `idleStep`), and the invariant across them; then the
  invariant for rounds and runs.
-/
import Mhd.Proofs.SendWrite
import Mhd.Proofs.SendBody
namespace Mhd.Send
open Mhd.Gen.Send

theorem hexOf_length (n : Nat) (h : n ≤ maxChunk) : 1 ≤ (hexOf n).length ∧ (hexOf n).length ≤ chunkHdrDigits := by
  have hlt : n < 16777216 := Nat.lt_of_le_of_lt h (by decide)
  have h1 : n / 268435456 % 16 = 0 := by rw [Nat.div_eq_of_lt (by omega)]
  have h2 : n / 16777216 % 16 = 0 := by rw [Nat.div_eq_of_lt hlt]
  unfold hexOf leadNibbles
  rw [h1, h2, List.length_map, List.length_append, List.dropWhile_cons_of_pos (by rfl),
    List.dropWhile_cons_of_pos (by rfl)]
  have := (List.dropWhile_suffix (fun x => decide (x = 0))
    (l := [n / 1048576 % 16, n / 65536 % 16, n / 4096 % 16, n / 256 % 16, n / 16 % 16])).length_le
  exact ⟨Nat.le_add_left _ _, Nat.succ_le_succ this⟩

theorem sizeToFill0_eq (r : Resp) : sizeToFill0 r = min maxChunk (r.wbSize - maxChunkOverhead) :=
  ite_lt_eq_min _ _

theorem sizeToFill0_le (r : Resp) : sizeToFill0 r ≤ maxChunk ∧ sizeToFill0 r ≤ r.wbSize - maxChunkOverhead := by
  rw [sizeToFill0_eq]; exact ⟨Nat.min_le_left _ _, Nat.min_le_right _ _⟩

theorem slice_length (l : Bytes) (a n : Nat) (h : a + n ≤ l.length) : (slice l a n).length = n := by
  rw [slice, List.length_take, List.length_drop, Nat.min_eq_left (Nat.le_sub_of_add_le' h)]

/-- the frame that try_ready_chunked_body writes into the write buffer behind `pad` unused bytes -/
theorem chunk_in_wb (hx d : Bytes) (pad n : Nat) (hd : d.length = n) :
    slice (List.replicate pad 0 ++ hx ++ crlf ++ d ++ crlf) pad (hx.length + 2 + n + 2) = hx ++ crlf ++ d ++ crlf := by
  have e : List.replicate pad (0 : UInt8) ++ hx ++ crlf ++ d ++ crlf = List.replicate pad 0 ++ (hx ++ crlf ++ d ++ crlf) := by
    simp only [List.append_assoc]
  rw [slice, e, List.drop_left' List.length_replicate]
  exact List.take_of_length_le (by simp only [List.length_append, crlf, List.length_cons, List.length_nil]; omega)

/-- the connection with a chunk of `n` content bytes framed in the write buffer -/
def framed (r : Resp) (c : Conn) (n : Nat) : Conn :=
  { c with wb := List.replicate (maxChunkHdrLen - ((hexOf n).length + 2)) 0 ++ hexOf n ++ crlf ++ slice r.body c.rp n ++ crlf,
           so := maxChunkHdrLen - ((hexOf n).length + 2), ao := maxChunkHdrLen + n + 2, rp := c.rp + n }

theorem framed_same (r : Resp) (c : Conn) (n : Nat) :
    (framed r c n).st = c.st ∧ (framed r c n).out = c.out ∧ (framed r c n).bk = c.bk := by
  unfold framed; exact ⟨rfl, rfl, rfl⟩

/-- a chunk header of `l` digits stands right-aligned in the `H` bytes kept for it; `n` content bytes follow -/
theorem frame_offsets {H l n : Nat} (h : l + 2 ≤ H) :
    H + n + 2 - (H - (l + 2)) = l + 2 + n + 2 ∧ H - (l + 2) < H + n + 2 ∧
    H + n + 2 ≤ H - (l + 2) + l + 2 + n + 2 := by
  have hp : H - (l + 2) + (l + 2) = H := Nat.sub_add_cancel h
  generalize H - (l + 2) = pad at hp ⊢
  omega

theorem framed_inv {r : Resp} {c : Conn} (h : Inv r c) (hs : c.st = .chunkedBodyUnready) (n : Nat)
    (hlt : c.rp < r.body.length) (hn0 : n ≠ 0)
    (hn : n = capMax r.cbMax (min (sizeToFill0 r) (r.body.length - c.rp))) (hki : r.kind ≠ .iovec) :
    Inv r { framed r c n with st := .chunkedBodyReady } := by
  have hne : c.st ≠ .closed := by rw [hs]; exact nofun
  have hcore := h.core hne
  have hnle : c.rp + n ≤ r.body.length := by
    have : n ≤ r.body.length - c.rp := by rw [hn]; exact Nat.le_trans (capMax_le _ _) (Nat.min_le_right _ _)
    omega
  have hnmax : n ≤ maxChunk := by
    rw [hn]; exact Nat.le_trans (capMax_le _ _) (Nat.le_trans (Nat.min_le_left _ _) (sizeToFill0_le r).1)
  have hdl : (slice r.body c.rp n).length = n := slice_length _ _ _ hnle
  have hfr := frames_step r c.rp hlt (by rw [← hn]; exact hn0)
  rw [← hn, chunkFrame, hdl] at hfr
  obtain ⟨o1, o2, o3⟩ := frame_offsets (H := maxChunkHdrLen) (n := n) (Nat.add_le_add_right (hexOf_length n hnmax).2 2)
  simp only [framed]
  generalize hexOf n = hx at hfr o1 o2 o3
  refine h.sent hne (w := []) (List.append_nil _).symm ?_ h.nofault ?_ (fun _ => ⟨o2, ?_⟩) nofun
    (fun _ => h.stChunk (Or.inl hs))
  · simp only [pending, hs, List.nil_append]
    rw [o1, chunk_in_wb _ _ _ _ hdl, hfr]
  · exact hcore.advance n rfl hnle rfl rfl rfl id (fun hk => absurd hk hki) hcore.iovNe
  · show maxChunkHdrLen + n + 2 ≤ _
    simp only [List.length_append, List.length_replicate, hdl, crlf, List.length_cons, List.length_nil]
    exact o3

/-- `left_to_send` of try_ready_chunked_body -/
def chunkLeft (c : Conn) : Nat := if c.tot = sizeUnknown then sizeUnknown else c.tot - c.rp

/-- `size_to_fill` of try_ready_chunked_body -/
def chunkFill (r : Resp) (c : Conn) : Nat := if chunkLeft c < sizeToFill0 r then chunkLeft c else sizeToFill0 r

/-- what try_ready_chunked_body does with the reader's answer (`none`: there is no reader) -/
def chunkTail (r : Resp) (c : Conn) : Option CbRes → Conn × Option Bool
  | none => (closeErr c, none)
  | some .err => (closeErr { c with tot := c.rp }, none)
  | some .eos => ({ c with tot := c.rp }, some true)
  | some (.data 0) => ({ c with st := .chunkedBodyUnready }, none)
  | some (.data n) =>
    if chunkFill r c < n then (closeErr c, none)
    else if r.wbSize < maxChunkHdrLen + n + 2 then (setFault c, none)
    else (framed r c n, some false)

theorem tryChunk_eq (r : Resp) (c : Conn) (app : AppAns) :
    tryReadyChunkedBody r c app =
      if r.wbSize < minChunkBuf then (closeErr c, none)
      else chunkTail r c
        (if chunkLeft c = 0 then some .eos
         else if c.ds ≤ c.rp ∧ c.rp < c.ds + c.dz then
           some (.data (if chunkFill r c < c.dz - (c.rp - c.ds) then chunkFill r c else c.dz - (c.rp - c.ds)))
         else if r.kind = .buffer ∨ r.kind = .iovec then none
         else some (crcCall r c.rp (chunkFill r c) app)) := rfl

/- From here on `framed` is used through `framed_same`, `framed_inv` and `chunkTail_data` only: a
   definitional check that unfolds it compares write buffers, which evaluates `hexOf` on a variable. -/
attribute [irreducible] framed

theorem chunkFill_eq (r : Resp) (c : Conn) : chunkFill r c = min (chunkLeft c) (sizeToFill0 r) :=
  ite_lt_eq_min _ _

theorem chunkFill_le (r : Resp) (c : Conn) : chunkFill r c ≤ sizeToFill0 r := by
  rw [chunkFill_eq]; exact Nat.min_le_right _ _

theorem chunkLeft_ge {r : Resp} {c : Conn} (hw : WF r) (hc : Core r c) : r.body.length - c.rp ≤ chunkLeft c := by
  have hsz := hw.size
  unfold chunkLeft
  rcases hc.tot_cases with ht | ht
  · rw [if_neg (by omega), ht]; exact Nat.le_refl _
  · rw [if_pos ht]; omega

theorem min_fill {r : Resp} {c : Conn} {L : Nat} (h : L ≤ chunkLeft c) : min (chunkFill r c) L = min (sizeToFill0 r) L := by
  rw [chunkFill_eq, Nat.min_comm (chunkLeft c), Nat.min_assoc, Nat.min_eq_right h]

/-- a write buffer of the minimum size leaves room for content in a chunk -/
theorem chunkFill_pos {r : Resp} {c : Conn} (hb : ¬ r.wbSize < minChunkBuf) (hl : chunkLeft c ≠ 0) : 1 ≤ chunkFill r c := by
  have hroom : 1 + maxChunkOverhead ≤ r.wbSize := Nat.le_trans (by decide) (Nat.le_of_not_lt hb)
  rw [chunkFill_eq, sizeToFill0_eq]
  exact Nat.le_min.mpr ⟨Nat.pos_of_ne_zero hl, Nat.le_min.mpr ⟨by decide, Nat.le_sub_of_add_le hroom⟩⟩

theorem chunkTail_data {r : Resp} {c : Conn} {n : Nat} (hb : ¬ r.wbSize < minChunkBuf) (hn0 : n ≠ 0)
    (hn : n ≤ chunkFill r c) : chunkTail r c (some (.data n)) = (framed r c n, some false) := by
  have hfit : ¬ r.wbSize < maxChunkHdrLen + n + 2 := by
    have h1 : n ≤ r.wbSize - maxChunkOverhead := Nat.le_trans hn (Nat.le_trans (chunkFill_le r c) (sizeToFill0_le r).2)
    have h2 : maxChunkOverhead ≤ r.wbSize := Nat.le_trans (by decide) (Nat.le_of_not_lt hb)
    have e : maxChunkHdrLen + n + 2 = n + maxChunkOverhead := by
      unfold maxChunkHdrLen maxChunkOverhead; rw [Nat.add_right_comm, Nat.add_comm]
    rw [e]; exact Nat.not_lt.mpr (Nat.add_le_of_le_sub h2 h1)
  obtain ⟨m, rfl⟩ : ∃ m, n = m + 1 := ⟨n - 1, (Nat.succ_pred_eq_of_ne_zero hn0).symm⟩
  simp only [chunkTail]
  rw [if_neg (Nat.not_lt.mpr hn), if_neg hfit]

/-- what `try_ready_chunked_body` can return -/
inductive Chunked (r : Resp) (c : Conn) (app : AppAns) : Conn × Option Bool → Prop
  | small : r.wbSize < minChunkBuf → Chunked r c app (closeErr c, none)
  | noReader : chunkLeft c ≠ 0 → ¬ (c.ds ≤ c.rp ∧ c.rp < c.ds + c.dz) → (r.kind = .buffer ∨ r.kind = .iovec) →
      Chunked r c app (closeErr c, none)
  | readerErr : crcCall r c.rp (chunkFill r c) app = .err → Chunked r c app (closeErr { c with tot := c.rp }, none)
  | eos : (chunkLeft c = 0 ∨ crcCall r c.rp (chunkFill r c) app = .eos) →
      Chunked r c app ({ c with tot := c.rp }, some true)
  | wait : ¬ r.wbSize < minChunkBuf → chunkLeft c ≠ 0 → crcCall r c.rp (chunkFill r c) app = .data 0 →
      Chunked r c app ({ c with st := .chunkedBodyUnready }, none)
  | frame (n : Nat) : n ≠ 0 →
      ((c.ds ≤ c.rp ∧ c.rp < c.ds + c.dz) ∧
          n = min (chunkFill r c) (c.dz - (c.rp - c.ds)) ∨
       ¬ (r.kind = .buffer ∨ r.kind = .iovec) ∧ crcCall r c.rp (chunkFill r c) app = .data n) →
      Chunked r c app (framed r c n, some false)

theorem tryChunk_chunked (r : Resp) (c : Conn) (app : AppAns) : Chunked r c app (tryReadyChunkedBody r c app) := by
  rw [tryChunk_eq]
  by_cases hb : r.wbSize < minChunkBuf
  · rw [if_pos hb]; exact .small hb
  rw [if_neg hb]
  by_cases hl : chunkLeft c = 0
  · rw [if_pos hl]; exact .eos (Or.inl hl)
  rw [if_neg hl]
  have hfill := chunkFill_pos hb hl
  by_cases hwin : c.ds ≤ c.rp ∧ c.rp < c.ds + c.dz
  · rw [if_pos hwin]
    rw [ite_lt_eq_min, chunkTail_data hb (by omega) (Nat.min_le_left _ _)]
    exact .frame _ (by omega) (Or.inl ⟨hwin, rfl⟩)
  rw [if_neg hwin]
  by_cases hk : r.kind = .buffer ∨ r.kind = .iovec
  · rw [if_pos hk]; exact .noReader hl hwin hk
  rw [if_neg hk]
  cases hcrc : crcCall r c.rp (chunkFill r c) app with
  | err => exact .readerErr hcrc
  | eos => exact .eos (Or.inr hcrc)
  | data n =>
    by_cases hn0 : n = 0
    · subst hn0; exact .wait hb hl hcrc
    · rw [chunkTail_data hb hn0 (crcCall_size hcrc hn0).1]
      exact .frame n hn0 (Or.inr ⟨hk, hcrc⟩)

/-- the final state after `try_ready_chunked_body` as `MHD_connection_handle_idle` sets it -/
def afterChunkTry (c' : Conn) : Option Bool → Conn
  | some fin => { c' with st := if fin then St.chunkedBodySent else St.chunkedBodyReady }
  | none => c'

theorem Chunked.inv {r : Resp} {c c' : Conn} {app : AppAns} {res : Option Bool} (hw : WF r) (h : Inv r c)
    (hs : c.st = .chunkedBodyUnready) (hr : Chunked r c app (c', res)) : Inv r (afterChunkTry c' res) := by
  have hne : c.st ≠ .closed := by rw [hs]; exact nofun
  have hcore := h.core hne
  have hfl := h.stChunk (Or.inl hs)
  have hrp := hcore.rpLe hfl.1
  have hge := chunkLeft_ge hw hcore
  cases hr with
  | small | noReader | readerErr => exact Inv.closed h.nofault rfl h.pfx
  | eos he =>
    -- nothing of the content is left; the position reached becomes the size
    have hend : r.body.length ≤ c.rp := by
      rcases he with he | he
      · omega
      · exact crcCall_eos he
    refine h.sent hne (w := []) (List.append_nil _).symm ?_ h.nofault ?_ nofun nofun (fun _ => hfl)
    · simp only [pending, hs, afterChunkTry, if_true, frames_end r c.rp hend]
    · exact ⟨hcore.rpLe, hcore.win, hcore.iovOk, TotOk.eos (Nat.le_antisymm hrp hend) (Nat.le_antisymm hrp hend),
        hcore.sfOk, hcore.winChunk, hcore.iovNe, hcore.sfWin⟩
  | wait =>
    show Inv r { c with st := .chunkedBodyUnready }
    rw [← hs]; exact h
  | frame n hn0 hsrc =>
    have hmin : min (chunkFill r c) (r.body.length - c.rp) = min (sizeToFill0 r) (r.body.length - c.rp) :=
      min_fill hge
    rcases hsrc with ⟨hwin, hn⟩ | ⟨hk, hcrc⟩
    · -- the window of a chunked reply is the plain buffer
      have hkb : r.kind = .buffer := Decidable.by_contra fun hkb => by
        have := hcore.winChunk hfl.2 hkb; omega
      have hwin2 := hcore.win_buffer hkb
      rw [hwin2.1, hwin2.2, Nat.sub_zero] at hn
      rw [hwin2.1, hwin2.2, Nat.zero_add] at hwin
      refine framed_inv h hs n hwin.2 hn0 ?_ (by rw [hkb]; exact nofun)
      rw [hw.cb_max (by rw [hkb]; exact nofun), capMax, if_pos rfl, ← hmin, hn]
    · obtain ⟨hlt, hn⟩ := crcCall_data hcrc hn0
      refine framed_inv h hs n hlt hn0 ?_ (fun x => hk (Or.inr x))
      rw [hn, hmin]
      split
      · rfl
      · rw [hw.cb_max ‹_›]

/-- the states in which `MHD_connection_handle_idle` does something for the reply -/
def idleActive (s : St) : Prop :=
  s = .headersSent ∨ s = .normalBodyUnready ∨ s = .chunkedBodyUnready ∨ s = .chunkedBodySent ∨ s = .fullReplySent

theorem idleStep_headersSent {r : Resp} {c : Conn} (hs : c.st = .headersSent) (app : AppAns) (alloc : Bool) :
    idleStep r c app alloc =
      { c with st := if r.sendBody then (if r.chunked then .chunkedBodyUnready else .normalBodyUnready)
                     else .fullReplySent } := by
  unfold idleStep; rw [hs]
  cases r.sendBody <;> cases r.chunked <;> rfl

theorem idleStep_nbUnready {r : Resp} {c : Conn} (hs : c.st = .normalBodyUnready) (app : AppAns) (alloc : Bool) :
    idleStep r c app alloc =
      if c.tot = 0 then { c with st := if r.chunked then .chunkedBodySent else .fullReplySent }
      else match tryReadyNormalBody r c app alloc with
        | (c', true) => { c' with st := .normalBodyReady }
        | (c', false) => c' := by
  unfold idleStep; rw [hs]
  simp only []
  split
  · rfl
  · generalize tryReadyNormalBody r c app alloc = p
    obtain ⟨c', ok⟩ := p
    cases ok <;> rfl

theorem idleStep_cbUnready {r : Resp} {c : Conn} (hs : c.st = .chunkedBodyUnready) (app : AppAns) (alloc : Bool) :
    idleStep r c app alloc =
      if c.tot = 0 ∨ c.rp = c.tot then { c with st := .chunkedBodySent }
      else afterChunkTry (tryReadyChunkedBody r c app).1 (tryReadyChunkedBody r c app).2 := by
  unfold idleStep; rw [hs]
  simp only []
  split
  · rfl
  · generalize tryReadyChunkedBody r c app = p
    obtain ⟨c', res⟩ := p
    cases res <;> rfl

theorem idleStep_cbSent {r : Resp} {c : Conn} (hs : c.st = .chunkedBodySent) (app : AppAns) (alloc : Bool) :
    idleStep r c app alloc =
      if alloc then { c with wb := r.footer, so := 0, ao := r.footer.length, st := .footersSending }
      else closeErr c := by
  unfold idleStep; rw [hs]

theorem idleStep_fullReplySent {r : Resp} {c : Conn} (hs : c.st = .fullReplySent) (app : AppAns) (alloc : Bool) :
    idleStep r c app alloc = { c with st := .done, bk := c.bk.reset r.reuse r.stopErr } := by
  unfold idleStep; rw [hs]

theorem idleStep_idle {r : Resp} {c : Conn} (hs : ¬ idleActive c.st) (app : AppAns) (alloc : Bool) :
    idleStep r c app alloc = c := by
  unfold idleStep
  split
  · exact absurd (Or.inl ‹_›) hs
  · exact absurd (Or.inr (Or.inl ‹_›)) hs
  · exact absurd (Or.inr (Or.inr (Or.inl ‹_›))) hs
  · exact absurd (Or.inr (Or.inr (Or.inr (Or.inl ‹_›)))) hs
  · exact absurd (Or.inr (Or.inr (Or.inr (Or.inr ‹_›)))) hs
  · rfl

/-- a state change that sends nothing: what is pending has to read the same in the new state -/
theorem Inv.restate {r : Resp} {c : Conn} (h : Inv r c) (hne : c.st ≠ .closed) (s : St)
    (hp : pending r c = pending r { c with st := s })
    (hwb : isWbState s → c.so < c.ao ∧ c.ao ≤ c.wb.length)
    (hB : (s = .normalBodyUnready ∨ s = .normalBodyReady) → r.sendBody = true ∧ r.chunked = false)
    (hC : (s = .chunkedBodyUnready ∨ s = .chunkedBodyReady ∨ s = .chunkedBodySent ∨ s = .footersSending) →
          r.sendBody = true ∧ r.chunked = true) : Inv r { c with st := s } :=
  h.sent hne (w := []) (List.append_nil _).symm hp h.nofault ((h.core hne).congr rfl rfl rfl rfl rfl rfl) hwb hB hC

theorem idleStep_inv {r : Resp} {c : Conn} (hw : WF r) (h : Inv r c) (app : AppAns) (alloc : Bool) :
    Inv r (idleStep r c app alloc) := by
  by_cases hi : ¬ idleActive c.st
  · rw [idleStep_idle hi]; exact h
  rcases Classical.not_not.mp hi with hs | hs | hs | hs | hs
  · have hne : c.st ≠ .closed := by rw [hs]; exact nofun
    have hp : pending r c = afterHeaders r c.rp := by simp only [pending, hs]
    rw [idleStep_headersSent hs]
    by_cases hsb : r.sendBody = true
    · rw [if_pos hsb]
      by_cases hch : r.chunked = true
      · rw [if_pos hch]
        exact h.restate hne _ (by rw [hp, afterHeaders, if_pos hsb, if_pos hch]; rfl) nofun nofun (fun _ => ⟨hsb, hch⟩)
      · rw [if_neg hch]
        exact h.restate hne _ (by rw [hp, afterHeaders, if_pos hsb, if_neg hch]; rfl) nofun
          (fun _ => ⟨hsb, by simpa using hch⟩) nofun
    · rw [if_neg hsb]
      exact h.restate hne _ (by rw [hp, afterHeaders, if_neg hsb]; rfl) nofun nofun nofun
  · have hst : isNb c.st := Or.inl hs
    rw [idleStep_nbUnready hs]
    by_cases h0 : c.tot = 0
    · rw [if_pos h0, (h.stBody hst).2]
      have hend := tot_zero_empty (h.core hst.ne_closed) h0
      exact h.restate hst.ne_closed _ (by rw [pending_nb hst, List.drop_eq_nil_of_le hend]; rfl) nofun nofun nofun
    · rw [if_neg h0]
      have hr := tryReady_ready r c app alloc
      generalize tryReadyNormalBody r c app alloc = p at hr ⊢
      obtain ⟨c', ok⟩ := p
      obtain ⟨hinv', -⟩ := hr.inv hw h hst
      cases ok with
      | false => exact hinv'
      | true =>
        have hst' : isNb c'.st := by rw [(hr.same.2.2.2 rfl).1]; exact hst
        exact hinv'.restate hst'.ne_closed _ (by rw [pending_nb hst']; rfl) nofun (fun _ => h.stBody hst) nofun
  · have hne : c.st ≠ .closed := by rw [hs]; exact nofun
    have hfl := h.stChunk (Or.inl hs)
    rw [idleStep_cbUnready hs]
    by_cases h0 : c.tot = 0 ∨ c.rp = c.tot
    · rw [if_pos h0]
      have hend : r.body.length ≤ c.rp := by
        rcases h0 with h0 | h0
        · exact tot_zero_empty (h.core hne) h0
        · exact tot_eq_rp_end hw (h.core hne) hfl.1 h0.symm
      exact h.restate hne _ (by simp only [pending, hs, frames_end r c.rp hend, List.nil_append]) nofun nofun (fun _ => hfl)
    · rw [if_neg h0]
      exact (tryChunk_chunked r c app).inv hw h hs
  · have hne : c.st ≠ .closed := by rw [hs]; exact nofun
    rw [idleStep_cbSent hs]
    cases alloc with
    | false => exact Inv.closed h.nofault rfl h.pfx
    | true =>
      -- build_connection_chunked_response_footer: the footer is the whole write buffer
      rw [if_pos rfl]
      refine h.sent hne (w := []) (List.append_nil _).symm ?_ h.nofault ((h.core hne).congr rfl rfl rfl rfl rfl rfl)
        (fun _ => ⟨List.length_pos_iff.mpr hw.footer_ne, Nat.le_refl _⟩) nofun
        (fun _ => h.stChunk (Or.inr (Or.inr (Or.inl hs))))
      simp only [pending, hs, slice, List.drop_zero, Nat.sub_zero, List.take_length, List.nil_append]
  · have hne : c.st ≠ .closed := by rw [hs]; exact nofun
    rw [idleStep_fullReplySent hs]
    exact (h.restate hne .done (by simp only [pending, hs]) nofun nofun nofun).setBk _

theorem handleIdle_inv {r : Resp} {c : Conn} (hw : WF r) (h : Inv r c) (app : AppAns) (alloc : Bool) :
    Inv r (handleIdle r c app alloc) :=
  idleClosed_inv (idleStep_inv hw (idleStep_inv hw (idleStep_inv hw (idleStep_inv hw h app alloc) app alloc) app alloc) app alloc)

theorem handleWrite_inv {r : Resp} {c : Conn} (hw : WF r) (h : Inv r c) (s1 s2 : SockRes) (h2 : s2.Legal)
    (app : AppAns) (alloc : Bool) : Inv r (handleWrite r c s1 s2 app alloc) := by
  by_cases ha : ¬ writeActive c.st
  · rw [handleWrite_idle ha]; exact h
  rcases Classical.not_not.mp ha with hs | hs | hs | hs
  · unfold handleWrite; rw [hs]; exact hw_headers_inv hw h hs s1 s2 h2
  · unfold handleWrite; rw [hs]; exact hw_normalBody_inv hw h hs s1 app alloc
  · exact hw_chunkedReady_inv hw h hs s1 s2 app alloc
  · exact hw_footers_inv h hs s1 s2 app alloc

theorem init_inv {r : Resp} (hw : WF r) : Inv r (initConn r) := by
  refine ⟨rfl, fun _ => ?_, fun _ => ?_, List.nil_prefix,
    fun _ => ⟨List.length_pos_iff.mpr hw.hdr_ne, Nat.le_refl _⟩, nofun, nofun⟩
  · refine ⟨fun hsb => ?_, ?_, fun _ hsb => ?_, ?_, id, fun _ hk => ?_, nofun, fun hsf => ?_⟩
    · simp only [initConn, hsb, if_true, Nat.zero_le]
    · by_cases hk : r.kind = .buffer
      · simp only [initConn, hk, if_true, and_self]
      · simp only [initConn, hk, if_false, Nat.add_zero, Nat.zero_le]
    · simp only [initConn, hsb, if_true, Bool.false_eq_true, if_false]
    · unfold TotOk
      by_cases hkn : r.sizeKnown = true
      · simp only [initConn, hkn, if_true]
      · simp only [initConn, hkn, Bool.false_eq_true, if_false, true_or]
    · simp only [initConn, hk, if_false]
    · simp only [initConn, hw.sf_kind hsf, reduceCtorEq, if_false]
  · simp only [initConn, pending, stream, slice, List.drop_zero, Nat.sub_zero, List.take_length, List.nil_append]
    by_cases hsb : r.sendBody = true
    · simp only [hsb, if_true]
    · simp only [afterHeaders, hsb, Bool.false_eq_true, if_false]

theorem start_inv {r : Resp} (hw : WF r) (alloc : Bool) : Inv r (startReply r alloc) := by
  cases alloc with
  | true => exact init_inv hw
  | false => exact Inv.closed rfl rfl List.nil_prefix

/-- Only the answer to the second system call of a round (the body call of `thenBody`) has to be
    `SockRes.Legal`; `SendSpec` holds of the first call whatever the answer. -/
def Round.Legal (x : Round) : Prop := x.s2.Legal

instance : DecidablePred Round.Legal := fun x => inferInstanceAs (Decidable x.s2.Legal)

theorem round_inv {r : Resp} {c : Conn} (hw : WF r) (h : Inv r c) (x : Round) (hx : x.Legal) : Inv r (round r c x) := by
  unfold round
  apply handleIdle_inv hw
  split
  · exact handleWrite_inv hw h x.s1 x.s2 hx x.appW x.allocW
  · exact h

theorem run_cons (r : Resp) (c : Conn) (x : Round) (xs : List Round) :
    run r c (x :: xs) = run r (round r c x) xs := rfl

theorem run_inv {r : Resp} (hw : WF r) : ∀ (xs : List Round) (c : Conn), Inv r c → (∀ x ∈ xs, x.Legal) → Inv r (run r c xs) :=
  fun xs _ h hl => List.foldlRecOn xs _ h fun _ hc x hx => round_inv hw hc x (hl x hx)

end Mhd.Send
