/-
  Specification predicates for C15: what it means that a sequence of iterator calls delivers a list of
  fields (`Delivers`), and what both parsers' invariants share: a field in delivery (`Delivering`) and the
  induction over the chunk list (`feedAll_fut`).
-/
import Mhd.Model.PP
namespace Mhd.PP


/-- the metadata arguments of an iterator call -/
structure Meta where
  key : Option Bytes
  filename : Option Bytes := none
  ctype : Option Bytes := none
  enc : Option Bytes := none
  deriving DecidableEq, Repr

def Event.meta (e : Event) : Meta := ⟨e.key, e.filename, e.ctype, e.enc⟩

/-- `es` are iterator calls that all carry the metadata `m`, whose offsets are contiguous
    starting at `o` and whose data concatenate to `v` -/
def Pieces (m : Meta) : Nat → Bytes → List Event → Prop
  | _, v, [] => v = []
  | o, v, e :: es => e.meta = m ∧ e.off = o ∧ ∃ v', v = e.data ++ v' ∧ Pieces m (o + e.data.length) v' es

/-- the calls `evs` deliver exactly the fields `fs`, in order: for each field at least one call,
    all with the field's metadata, offsets contiguous from 0, data concatenating to the value -/
def Delivers : List Event → List (Meta × Bytes) → Prop
  | evs, [] => evs = []
  | evs, (m, v) :: fs => ∃ es rest, evs = es ++ rest ∧ es ≠ [] ∧ Pieces m 0 v es ∧ Delivers rest fs

theorem Pieces.append {m : Meta} {es1 : List Event} : ∀ {o : Nat} {v1 v2 : Bytes} {es2 : List Event},
    Pieces m o v1 es1 → Pieces m (o + v1.length) v2 es2 → Pieces m o (v1 ++ v2) (es1 ++ es2) := by
  induction es1 with
  | nil =>
    intro o v1 v2 es2 h1 h2
    cases (h1 : v1 = [])
    exact h2
  | cons e es1 ih =>
    intro o v1 v2 es2 h1 h2
    obtain ⟨hm, ho, v', rfl, hp⟩ := h1
    rw [List.length_append, ← Nat.add_assoc] at h2
    exact ⟨hm, ho, v' ++ v2, List.append_assoc _ _ _, ih hp h2⟩

theorem Delivers.snoc {fs : List (Meta × Bytes)} : ∀ {evs : List Event} {m : Meta} {v : Bytes} {es : List Event},
    Delivers evs fs → es ≠ [] → Pieces m 0 v es → Delivers (evs ++ es) (fs ++ [(m, v)]) := by
  induction fs with
  | nil =>
    intro evs m v es h hne hp
    cases (h : evs = [])
    exact ⟨es, [], (List.append_nil _).symm, hne, hp, rfl⟩
  | cons f fs ih =>
    intro evs m v es h hne hp
    obtain ⟨es', rest, rfl, hne', hp', hd⟩ := h
    exact ⟨es', rest ++ es, List.append_assoc _ _ _, hne', hp', ih hd hne hp⟩

/-- The call both parsers make for the next piece of a value (`process_value`, `process_value_to_boundary`):
    `if (must_ikvi || 0 != len) ikvi (…)`, so under the condition `cnd` of the call, which holds whenever there is
    something to report. -/
theorem pieces_emit {m : Meta} {off : Nat} {ev : Event} (cnd : Prop) [Decidable cnd] (hm : ev.meta = m) (ho : ev.off = off)
    (h : ev.data ≠ [] → cnd) : Pieces m off ev.data (if cnd then [ev] else []) := by
  by_cases hc : cnd
  · rw [if_pos hc]
    exact ⟨hm, ho, [], (List.append_nil _).symm, rfl⟩
  · rw [if_neg hc]
    exact Classical.not_not.mp fun hd => hc (h hd)

/-- A field in delivery: after the calls for the fields `fs`, the calls so far for the current field carry the
    metadata `m` and the bytes `sent` of its value; `ikvi` = `must_ikvi` (no call need have been made yet),
    `off` = `value_offset`. -/
def Delivering (evs : List Event) (ikvi : Bool) (off : Nat) (fs : List (Meta × Bytes)) (m : Meta) (sent : Bytes) : Prop :=
  ∃ evs0 cur, evs = evs0 ++ cur ∧ Delivers evs0 fs ∧ Pieces m 0 sent cur ∧ (cur ≠ [] ∨ ikvi = true) ∧ off = sent.length

theorem Delivering.start {evs : List Event} {fs : List (Meta × Bytes)} {m : Meta} (h : Delivers evs fs) :
    Delivering evs true 0 fs m [] :=
  ⟨evs, [], (List.append_nil _).symm, h, rfl, Or.inr rfl, rfl⟩

theorem Delivering.more {evs es : List Event} {ik : Bool} {off : Nat} {fs : List (Meta × Bytes)} {m : Meta} {sent data : Bytes}
    (h : Delivering evs ik off fs m sent) (hp : Pieces m off data es) (hne : ik = true → es ≠ []) :
    Delivering (evs ++ es) false (off + data.length) fs m (sent ++ data) := by
  obtain ⟨evs0, cur, rfl, hd, hc, hi, rfl⟩ := h
  refine ⟨evs0, cur ++ es, List.append_assoc _ _ _, hd, Pieces.append hc (by rwa [Nat.zero_add]), Or.inl fun h => ?_,
    (List.length_append).symm⟩
  obtain ⟨h1, h2⟩ := List.append_eq_nil_iff.mp h
  exact hi.elim (fun h => h h1) (fun h => hne h h2)

theorem Delivering.done {evs : List Event} {off : Nat} {fs : List (Meta × Bytes)} {m : Meta} {v : Bytes}
    (h : Delivering evs false off fs m v) : Delivers evs (fs ++ [(m, v)]) := by
  obtain ⟨evs0, cur, rfl, hd, hc, hi, _⟩ := h
  exact Delivers.snoc hd (hi.resolve_right Bool.false_ne_true) hc

/-- An invariant indexed by the input still to come, kept by every call that is given a prefix of that input,
    is kept by every sequence of calls, and each of them returns `MHD_YES`: the induction over the chunk list
    behind every "for every split" statement. -/
theorem feedAll_fut (G : PP → Bytes → Prop)
    (step : ∀ pp d F, G pp (d ++ F) → (feed pp d).2 = true ∧ G (feed pp d).1 F) :
    ∀ (chunks : List Bytes) (pp : PP) (F : Bytes), G pp (chunks.flatten ++ F) →
      G (feedAll pp chunks) F ∧
      ∀ pre c post, chunks = pre ++ c :: post → (feed (feedAll pp pre) c).2 = true := by
  intro chunks
  induction chunks with
  | nil => exact fun pp F h => ⟨h, fun pre c post he => by cases pre <;> cases he⟩
  | cons c0 cs ih =>
    intro pp F h
    rw [List.flatten_cons, List.append_assoc] at h
    obtain ⟨f1, f2⟩ := step pp c0 _ h
    obtain ⟨g1, g2⟩ := ih _ F f2
    refine ⟨g1, fun pre c post he => ?_⟩
    cases pre with
    | nil => cases he; exact f1
    | cons p0 pre' =>
      obtain ⟨h0, he'⟩ := List.cons.inj he
      subst h0
      exact g2 pre' c post he'
end Mhd.PP
