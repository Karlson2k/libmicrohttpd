/-
  The handlers that `call_handlers` runs for one connection are compositions of a few primitive effects
  on the connection, in three phases (`Idle`, `Handler`), so a property of "state reached, events
  emitted" that each primitive effect preserves holds after every handler; that a handler for `i` touches
  only `i` (`touch_handler`) is the first instance.  The same one level up, twice: the four list
  traversals of the loops and `foldl` have one shape (`Trav`, induction `Trav.rule`), and a round of
  either loop is a sequence of the same phases (`Round`).
-/
import Mhd.Proofs.TmoPrim
namespace Mhd.Tmo
open Mhd.Gen.Tmo

theorem epollArm_cases (d : Daemon) (i : Id) :
    epollArm d i = d ∨ (d.cfg.epoll = true ∧
      epollArm d i = { d.set i { (d.c i) with inSet := true } with kq := d.kq ++ [i] }) := by
  unfold epollArm
  dsimp only
  split
  · next hc => exact .inr ⟨hc.1, rfl⟩
  · exact .inl rfl

theorem epollQueue_cases (d : Daemon) (i : Id) :
    epollQueue d i = d ∨ (d.cfg.epoll = true ∧ i ∉ d.eready ∧ epollQueue d i = { d with eready := i :: d.eready }) := by
  unfold epollQueue
  split
  · next hc => exact .inr ⟨hc.1, hc.2.2, rfl⟩
  · exact .inl rfl

theorem epollQueue_same (d : Daemon) (i : Id) :
    (epollQueue d i).conns = d.conns ∧ (epollQueue d i).cleanup = d.cleanup ∧ (epollQueue d i).c = d.c := by
  rcases epollQueue_cases d i with e | ⟨_, _, e⟩ <;> rw [e] <;> exact ⟨rfl, rfl, rfl⟩

theorem idleCheck_cases (d : Daemon) (i : Id) :
    (checkTimedOut d.now (d.c i) = true ∧
      idleCheck d i = (d.set i { (d.c i) with closed := true, aware := false }, [Event.tmoClose i (d.c i).aware])) ∨
    (checkTimedOut d.now (d.c i) = false ∧ idleCheck d i = (epollUpdate d i, [])) := by
  unfold idleCheck
  dsimp only
  cases ht : checkTimedOut d.now (d.c i)
  · exact .inr ⟨rfl, rfl⟩
  · exact .inl ⟨rfl, rfl⟩

theorem idleCheck_conns (d : Daemon) (i : Id) : (idleCheck d i).1.conns = d.conns ∧ (idleCheck d i).1.cleanup = d.cleanup := by
  rcases idleCheck_cases d i with ⟨_, e⟩ | ⟨_, e⟩ <;> rw [e]
  · exact ⟨rfl, rfl⟩
  · unfold epollUpdate
    have s := epollQueue_same d i
    rcases epollArm_cases (epollQueue d i) i with e | ⟨_, e⟩ <;> rw [e] <;> exact ⟨s.1, s.2.1⟩


theorem idleCheck_closes {d : Daemon} {i : Id} (ht : checkTimedOut d.now (d.c i) = true) :
    Event.tmoClose i (d.c i).aware ∈ (idleCheck d i).2 ∧ ((idleCheck d i).1.c i).closed = true := by
  unfold idleCheck
  simp [ht]

theorem handleIdle_closes {d : Daemon} {i : Id} (hc : (d.c i).closed = false)
    (ht : checkTimedOut d.now (d.c i) = true) :
    Event.tmoClose i (d.c i).aware ∈ (handleIdle d i).2 := by
  unfold handleIdle
  simp only [hc, Bool.false_eq_true, if_false]
  exact (idleCheck_closes ht).1

theorem procBuf_cases (d : Daemon) (i : Id) :
    procBuf d i = d ∨ procBuf d i = d.set i { (d.c i) with buf := bufAfterCall (d.c i) } := by
  unfold procBuf
  dsimp only
  split
  · exact .inr rfl
  · exact .inl rfl

theorem notePending_eq (v : Variant) (d : Daemon) (i : Id) :
    notePending v d i = { d with dataPending := (notePending v d i).dataPending } := by
  unfold notePending
  split
  · split <;> rfl
  · rfl

theorem epollEvent_cases (d : Daemon) (i : Id) :
    epollEvent d i = d ∨ ∃ x e, x.la = (d.c i).la ∧ x.tmo = (d.c i).tmo ∧ x.suspended = (d.c i).suspended ∧
      x.closed = (d.c i).closed ∧ x.aware = (d.c i).aware ∧ x.replying = (d.c i).replying ∧
      (e = d.eready ∨ (i ∉ d.eready ∧ e = i :: d.eready)) ∧ epollEvent d i = { d.set i x with eready := e } := by
  unfold epollEvent
  dsimp only
  by_cases hp : (d.c i).peerClosed = true
  · rw [if_pos hp]
    refine .inr ⟨{ (d.c i) with errFlag := true }, _, rfl, rfl, rfl, rfl, rfl, rfl, ?_, rfl⟩
    by_cases he : i ∈ d.eready
    · exact .inl (if_pos he)
    · exact .inr ⟨he, if_neg he⟩
  rw [if_neg hp]
  by_cases hu : (d.c i).unread = true
  · rw [if_pos hu]
    simp only [set_eready]
    by_cases he : i ∉ d.eready
    · exact .inr ⟨{ (d.c i) with readReady := true }, _, rfl, rfl, rfl, rfl, rfl, rfl, .inr ⟨he, rfl⟩, if_pos he⟩
    · exact .inr ⟨{ (d.c i) with readReady := true }, _, rfl, rfl, rfl, rfl, rfl, rfl, .inl rfl, if_neg he⟩
  · exact .inl (if_neg hu)

theorem epollEvent_same (d : Daemon) (i : Id) :
    (epollEvent d i).conns = d.conns ∧ (epollEvent d i).cleanup = d.cleanup ∧ (epollEvent d i).cfg = d.cfg := by
  rcases epollEvent_cases d i with e | ⟨x, l, _, _, _, _, _, _, _, e⟩ <;> rw [e] <;> exact ⟨rfl, rfl, rfl⟩

theorem callHandlersE1_cases (v : Variant) (d : Daemon) (i : Id) :
    callHandlersE1 v d i = callHandlersE0 v d i ∨
    callHandlersE1 v d i = (notePending v (callHandlersE0 v d i).1 i, (callHandlersE0 v d i).2) := by
  unfold callHandlersE1
  dsimp only
  split
  · exact .inl rfl
  · exact .inr rfl

theorem callHandlersE_cases (v : Variant) (d : Daemon) (i : Id) :
    callHandlersE v d i = callHandlersE1 v d i ∨
    callHandlersE v d i = ({ (callHandlersE1 v d i).1 with eready := without (callHandlersE1 v d i).1.eready i },
      (callHandlersE1 v d i).2) := by
  unfold callHandlersE
  dsimp only
  split
  · exact .inr rfl
  · exact .inl rfl

/-- A handler for connection `i` has three phases: `L` while the connection is known to be live (read,
    write: record updates and timer restarts), `M` once it may have been suspended (the idle part), `G` when
    it is done.  The fields are the primitive effects; each gets the phase predicate of the state it starts
    in and what the code has tested on the way.  `Idle`: what `MHD_connection_handle_idle` alone needs. -/
structure Idle (L M G : Daemon × List Event → Prop) (i : Id) : Prop where
  idle : ∀ {r : Daemon × List Event}, L r → M r
  set : ∀ {d : Daemon} (x : Conn), x.la = (d.c i).la → x.tmo = (d.c i).tmo → x.suspended = (d.c i).suspended →
    ((d.c i).closed = true → x.closed = true) → L (d, []) → L (d.set i x, [])
  cleanup : ∀ {d : Daemon}, (d.c i).closed = true → M (d, []) → G (cleanupConnection d i, [])
  arm : ∀ {d : Daemon}, (d.c i).closed = false → M (d, []) → G (epollUpdate d i, [])
  timeout : ∀ {d : Daemon}, (d.c i).closed = false → checkTimedOut d.now (d.c i) = true → M (d, []) →
    G (d.set i { (d.c i) with closed := true, aware := false }, [Event.tmoClose i (d.c i).aware])

structure Handler (v : Variant) (L M G : Daemon × List Event → Prop) (i : Id) : Prop extends Idle L M G i where
  seq : ∀ {a : Daemon × List Event} {f : Daemon → Daemon × List Event},
    M a → (M (a.1, []) → G (f a.1)) → G (seq2 a f)
  live : ∀ {d : Daemon}, i ∈ d.conns → M (d, []) → L (d, [])
  event : ∀ {d : Daemon} (e : Event), (∀ j a, e ≠ Event.tmoClose j a) → M (d, []) → M (d, [e])
  stamp : ∀ {d : Daemon}, L (d, []) → L (updateLastActivity v d i, [])
  suspend : ∀ {d : Daemon}, (d.c i).closed = false → L (d, []) → M (internalSuspend d i, [])

namespace Idle
variable {L M G : Daemon × List Event → Prop} {i : Id} (H : Idle L M G i) {d : Daemon}
include H

theorem handleIdle (h : M (d, [])) : G (handleIdle d i) := by
  unfold Tmo.handleIdle
  by_cases hc : (d.c i).closed = true
  · rw [if_pos hc]; exact H.cleanup hc h
  · rw [if_neg hc]
    have hc' : (d.c i).closed = false := by simpa using hc
    rcases idleCheck_cases d i with ⟨ht, e⟩ | ⟨_, e⟩ <;> rw [e]
    · exact H.timeout hc' ht h
    · exact H.arm hc' h

theorem handleIdleP (h : L (d, [])) : G (handleIdleP d i) := by
  unfold Tmo.handleIdleP
  rcases procBuf_cases d i with e | e <;> rw [e]
  · exact H.handleIdle (H.idle h)
  · exact H.handleIdle (H.idle (H.set _ rfl rfl rfl id h))

end Idle

namespace Handler
variable {v : Variant} {L M G : Daemon × List Event → Prop} {i : Id} (H : Handler v L M G i) {d : Daemon}
include H

theorem closeOther (code : Nat) (h : L (d, [])) : M (closeOther d i code) :=
  H.event _ (fun _ _ => nofun) (H.idle (H.set _ rfl rfl rfl (fun _ => rfl) h))

theorem readData (hc : (d.c i).closed = false) (h : L (d, [])) : M (readData v d i) := by
  have h2 := H.stamp (H.set (readRec (d.c i)) rfl rfl rfl id h)
  have hc2 : ((updateLastActivity v (d.set i (readRec (d.c i))) i).c i).closed = false := by
    rw [updateLastActivity_closed]; simpa [readRec] using hc
  unfold Tmo.readData
  dsimp only
  generalize updateLastActivity v (d.set i (readRec (d.c i))) i = d2 at h2 hc2 ⊢
  by_cases hk : (d2.c i).kind = Kind.post
  · rw [if_pos hk]
    by_cases hw : (d2.c i).wantSusp = true
    · rw [if_pos hw]
      exact H.event _ (fun _ _ => nofun) (H.suspend (by simpa [suspRec] using hc2) (H.set (suspRec _) rfl rfl rfl id h2))
    · rw [if_neg hw]; exact H.idle (H.set (callRec _) rfl rfl rfl id h2)
  · rw [if_neg hk]
    by_cases hg : (d2.c i).kind = Kind.get ∨ (d2.c i).kind = Kind.expect
    · rw [if_pos hg]; exact H.idle (H.set (replyRec _) rfl rfl rfl id h2)
    · rw [if_neg hg]; exact H.idle h2

theorem writeStep (h : L (d, [])) : M (writeStep v d i) := by
  unfold Tmo.writeStep
  dsimp only
  have h1 : L (if i ∈ d.wset then updateLastActivity v d i else d, []) := by
    split
    · exact H.stamp h
    · exact h
  generalize (if i ∈ d.wset then updateLastActivity v d i else d) = d1 at h1 ⊢
  by_cases hf : i ∈ d.fset
  · rw [if_pos hf]
    have h2 := H.idle (H.set (finishRec (d1.c i)) rfl rfl rfl id h1)
    by_cases hk : (d1.c i).kind = Kind.expect
    · rw [if_pos hk]; exact h2
    · rw [if_neg hk]; exact H.event _ (fun _ _ => nofun) h2
  · rw [if_neg hf]; exact H.idle h1

theorem fastTrack (h : M (d, [])) : G (fastTrack v d i) := by
  unfold Tmo.fastTrack
  split
  · next hc => exact H.seq (H.writeStep (H.live hc.2.2 h)) H.toIdle.handleIdle
  · exact H.toIdle.handleIdle h

theorem callHandlersSel0 (r : Bool) (h : L (d, [])) : G (callHandlersSel0 v d i r) := by
  unfold Tmo.callHandlersSel0
  dsimp only
  by_cases hc : (d.c i).closed = true
  · rw [if_pos hc]; exact H.toIdle.handleIdle (H.idle h)
  rw [if_neg hc]
  by_cases hr : (d.c i).replying = true
  · rw [if_pos hr]; exact H.seq (H.writeStep h) H.toIdle.handleIdle
  rw [if_neg hr]
  by_cases hu : r ∧ (d.c i).unread ∧ (d.c i).buf = 0
  · rw [if_pos hu]; exact H.seq (H.readData (by simpa using hc) h) H.fastTrack
  rw [if_neg hu]
  by_cases hp : r ∧ (d.c i).peerClosed ∧ (d.c i).buf = 0
  · rw [if_pos hp]; exact H.seq (H.closeOther _ h) H.toIdle.handleIdle
  · rw [if_neg hp]; exact H.toIdle.handleIdleP h

theorem callHandlersE0 (hG : G (d, [])) (h : i ∉ d.cleanup → L (d, [])) : G (callHandlersE0 v d i) := by
  unfold Tmo.callHandlersE0
  dsimp only
  by_cases hcl : i ∈ d.cleanup
  · rw [if_pos hcl]; exact hG
  rw [if_neg hcl]
  have h := h hcl
  have idle := H.toIdle.handleIdle (H.idle h)
  by_cases he : (d.c i).errFlag = true
  · rw [if_pos he]
    by_cases hc : (d.c i).closed = true
    · rw [if_pos hc]; exact idle
    · rw [if_neg hc]; exact H.seq (H.closeOther _ h) H.toIdle.handleIdle
  rw [if_neg he]
  by_cases hc : (d.c i).closed = true
  · rw [if_pos hc]; exact idle
  rw [if_neg hc]
  by_cases hb : (d.c i).buf > 0
  · rw [if_pos hb]; exact H.toIdle.handleIdleP h
  rw [if_neg hb]
  by_cases hr : (d.c i).readReady = true
  · rw [if_pos hr]
    by_cases hu : (d.c i).unread = true
    · rw [if_pos hu]; exact H.seq (H.readData (by simpa using hc) h) H.toIdle.handleIdle
    rw [if_neg hu]
    by_cases hp : (d.c i).peerClosed = true
    · rw [if_pos hp]; exact H.seq (H.closeOther _ h) H.toIdle.handleIdle
    · rw [if_neg hp]; exact H.toIdle.handleIdle (H.idle (H.set _ rfl rfl rfl id h))
  · rw [if_neg hr]; exact idle

end Handler

theorem touch_epollUpdate (d : Daemon) (i : Id) : Touch i d (epollUpdate d i) := by
  unfold epollUpdate
  have h1 : Touch i d (epollQueue d i) := by
    rcases epollQueue_cases d i with e | ⟨_, _, e⟩ <;> rw [e]
    · exact Touch.refl i d
    · exact ⟨⟨rfl, rfl, rfl, rfl, rfl, fun _ _ => .rfl, fun _ _ => .rfl, fun _ _ => .rfl, fun _ _ => rfl⟩, rfl,
        Step1.refl _ _⟩
  refine h1.trans ?_
  rcases epollArm_cases (epollQueue d i) i with e | ⟨_, e⟩ <;> rw [e]
  · exact Touch.refl i _
  · refine touch_lists i _ ?_ (fun _ _ => .rfl) (fun _ _ => .rfl) (fun _ _ => .rfl)
    exact Step1.keep rfl rfl id id

theorem touch_epollEvent (d : Daemon) (i : Id) : Touch i d (epollEvent d i) := by
  rcases epollEvent_cases d i with e | ⟨x, l, h1, h2, h3, h4, _, _, _, e⟩ <;> rw [e]
  · exact Touch.refl i d
  · exact touch_lists i d (Step1.keep h1 h2 (fun h => h3.trans h) (fun h => h4.trans h)) (fun _ _ => .rfl)
      (fun _ _ => .rfl) (fun _ _ => .rfl)

theorem touch_idle (i : Id) (d0 : Daemon) :
    Idle (fun r => Touch i d0 r.1) (fun r => Touch i d0 r.1) (fun r => Touch i d0 r.1) i where
  idle h := h
  set x h1 h2 h3 h4 h := h.trans (touch_set i _ x h1 h2 h3 h4)
  cleanup hc h := h.trans (touch_cleanupConnection _ i hc)
  arm _ h := h.trans (touch_epollUpdate _ i)
  timeout _ _ h := h.trans (touch_set i _ _ rfl rfl rfl (fun _ => rfl))

theorem touch_handler (v : Variant) (i : Id) (d0 : Daemon) :
    Handler v (fun r => Touch i d0 r.1) (fun r => Touch i d0 r.1) (fun r => Touch i d0 r.1) i where
  toIdle := touch_idle i d0
  seq ha hf := hf ha
  live _ h := h
  event _ _ h := h
  stamp h := h.trans (touch_updateLastActivity v _ i)
  suspend _ h := h.trans (touch_internalSuspend _ i)

theorem others_handleIdleP (d : Daemon) (i : Id) : Others i d (handleIdleP d i).1 :=
  ((touch_idle i d).handleIdleP (Touch.refl i d)).toOthersOf

theorem others_notePending (v : Variant) (d : Daemon) (i j : Id) : Others j d (notePending v d i) := by
  rw [notePending_eq]
  exact ⟨rfl, rfl, rfl, rfl, rfl, fun _ _ => .rfl, fun _ _ => .rfl, fun _ _ => .rfl, fun _ _ => rfl⟩

theorem others_callHandlersSel (v : Variant) (d : Daemon) (i : Id) (r : Bool) : Others i d (callHandlersSel v d i r).1 :=
  ((touch_handler v i d).callHandlersSel0 r (Touch.refl i d)).toOthersOf.trans (others_notePending v _ i i)

theorem others_callHandlersE (v : Variant) (d : Daemon) (i : Id) : Others i d (callHandlersE v d i).1 := by
  have o0 := ((touch_handler v i d).callHandlersE0 (Touch.refl i d) fun _ => Touch.refl i d).toOthersOf
  have o : Others i d (callHandlersE1 v d i).1 := by
    rcases callHandlersE1_cases v d i with e | e <;> rw [e]
    · exact o0
    · exact o0.trans (others_notePending v _ i i)
  rcases callHandlersE_cases v d i with e | e <;> rw [e]
  · exact o
  · exact ⟨o.used, o.newL, o.cfg, o.now, o.back, o.conns, o.susp, o.cleanup, o.c⟩

/-- `T` runs the handler `H` for the head of the list and, unless `stop` holds of the result, goes on with
    the tail in the state reached: the shape of `travSel`, `scanManual`, `scanNormal` and `procEready`. -/
structure Trav (T : List Id → Daemon → Daemon × List Event) (H : Daemon → Id → Daemon × List Event)
    (stop : Daemon × List Event → Id → Prop) : Prop where
  nil : ∀ d, T [] d = (d, [])
  cons : ∀ j rest d, (stop (H d j) j ∧ T (j :: rest) d = H d j) ∨
    (¬ stop (H d j) j ∧ T (j :: rest) d = seq2 (H d j) (T rest))

theorem trav_scanManual : Trav scanManual handleIdleP (fun _ _ => False) :=
  ⟨fun _ => rfl, fun _ _ _ => .inr ⟨id, rfl⟩⟩

theorem trav_procEready (v : Variant) : Trav (procEready v) (callHandlersE v) (fun _ _ => False) :=
  ⟨fun _ => rfl, fun _ _ _ => .inr ⟨id, rfl⟩⟩

theorem trav_scanNormal : Trav scanNormal handleIdleP (fun r j => ¬ (r.1.c j).closed = true) := by
  refine ⟨fun _ => rfl, fun j rest d => ?_⟩
  rw [scanNormal]
  by_cases hc : ((handleIdleP d j).1.c j).closed = true
  · exact .inr ⟨fun x => x hc, if_pos hc⟩
  · exact .inl ⟨hc, if_neg hc⟩

theorem trav_travSel (v : Variant) (rs : List Id) : Trav (travSel v rs) (fun d j => callHandlersSel v d j (rs.contains j))
    (fun r j => v.savePrev = false ∧ j ∉ r.1.conns) := by
  refine ⟨fun _ => rfl, fun j rest d => ?_⟩
  rw [travSel]
  by_cases hc : v.savePrev = false ∧ j ∉ (callHandlersSel v d j (rs.contains j)).1.conns
  · exact .inl ⟨hc, if_pos hc⟩
  · exact .inr ⟨hc, if_neg hc⟩

theorem trav_foldl (f : Daemon → Id → Daemon) :
    Trav (fun l d => (l.foldl f d, [])) (fun d j => (f d j, [])) (fun _ _ => False) :=
  ⟨fun _ => rfl, fun _ _ _ => .inr ⟨id, rfl⟩⟩

/-- Induction along a traversal, with a guard `Q` on "state, connections still to visit" that each
    handler call hands on. -/
theorem Trav.rule {T H stop} (hT : Trav T H stop) {G : Daemon × List Event → Prop} {Q : Daemon → List Id → Prop}
    (seq : ∀ {a : Daemon × List Event} {f : Daemon → Daemon × List Event}, G a → (G (a.1, []) → G (f a.1)) → G (seq2 a f))
    (hH : ∀ d j rest, G (d, []) → Q d (j :: rest) → G (H d j) ∧ Q (H d j).1 rest) :
    ∀ (l : List Id) (d : Daemon), G (d, []) → Q d l → G (T l d)
  | [], d, h, _ => by rw [hT.nil]; exact h
  | j :: rest, d, h, q => by
    have h1 := hH d j rest h q
    rcases hT.cons j rest d with ⟨_, e⟩ | ⟨_, e⟩ <;> rw [e]
    · exact h1.1
    · exact seq h1.1 fun h' => hT.rule seq hH rest _ h' h1.2

theorem Trav.others {T H stop} (hT : Trav T H stop) (hO : ∀ d j, Others j d (H d j).1) (l : List Id) (d : Daemon) :
    OthersOf (· ∈ l) d (T l d).1 :=
  hT.rule (G := fun r => OthersOf (· ∈ l) d r.1) (Q := fun _ l' => ∀ j, j ∈ l' → j ∈ l) (fun ha hf => hf ha)
    (fun d' j _ h q => ⟨h.trans ((hO d' j).mono fun k (e : k = j) => e ▸ q j (List.mem_cons_self ..)),
      fun k hk => q k (List.mem_cons_of_mem _ hk)⟩) l d (OthersOf.refl _ d) (fun _ h => h)

/-- the state in which both loops begin their work: resume requests served, pending flag reset -/
def roundStart (v : Variant) (d : Daemon) : Daemon :=
  { (if d.cfg.allowSuspend then resumeSuspended v d else d) with dataPending := false }


/-- `G` survives each phase of a round of either loop. -/
structure Round (v : Variant) (G : Daemon × List Event → Prop) : Prop where
  seq : ∀ {a : Daemon × List Event} {f : Daemon → Daemon × List Event}, G a → (G (a.1, []) → G (f a.1)) → G (seq2 a f)
  start : ∀ {d : Daemon}, G (d, []) → G (roundStart v d, [])
  wait : ∀ {d : Daemon}, G (d, []) → G (epollWait d, [])
  new : ∀ {d : Daemon}, G (d, []) → G (processNew v d)
  manual : ∀ {d : Daemon}, G (d, []) → G (scanManual d.manual.reverse d)
  normal : ∀ {d : Daemon}, G (d, []) → G (scanNormal d.normal.reverse d)
  eready : ∀ {d : Daemon}, G (d, []) → G (procEready v d.eready.reverse d)
  select : ∀ {d : Daemon} (rs : List Id), G (d, []) → G (travSel v rs d.conns.reverse d)
  clean : ∀ {d : Daemon}, G (d, []) → G (cleanupAll d)

theorem Round.round {v : Variant} {G : Daemon × List Event → Prop} (R : Round v G) {d : Daemon} (h : G (d, [])) :
    G (round v d) := by
  unfold Tmo.round
  split
  · exact R.seq (R.seq (R.seq (R.seq (R.new (R.wait (R.start h))) R.manual) R.normal) R.eready) R.clean
  · exact R.seq (R.seq (R.new (R.start h)) (R.select _)) R.clean

end Mhd.Tmo
