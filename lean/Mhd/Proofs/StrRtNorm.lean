/-
  C17 proofs: why every output of `MHD_str_remove_token_caseless_` satisfies the precondition
  (`isCsList`) of `MHD_str_remove_tokens_caseless_`, with the kept elements as its elements:
  the ", "-join of legal elements is such a list with those elements (`isCsList_join`,
  `csElems_join`), and the kept elements are legal (`keptOut_elemOk`).
-/
import Mhd.Proofs.StrRmMain
import Mhd.Proofs.StrRtMain

namespace Mhd.Str

theorem elemOk_notComma {e : Bytes} (h : elemOk e = true) : ∀ x ∈ e, notComma x = true :=
  List.all_eq_true.mp (Bool.and_eq_true _ _ ▸ h).2

theorem splitComma_sp (Y : Bytes) : splitComma (0x20 :: Y) =
    match splitComma Y with
    | [] => [[0x20]]
    | h :: t => (0x20 :: h) :: t := by
  rw [splitComma_eq (0x20 :: Y), splitComma_eq Y, headElem_cons _ _ (by decide), restElems_cons _ _ (by decide)]

theorem splitComma_join (k : Bytes) (ks : List Bytes) (hok : ∀ x ∈ k :: ks, elemOk x = true) :
    splitComma (joinWith sepCS (k :: ks)) = k :: ks.map (fun e => 0x20 :: e) := by
  induction ks generalizing k with
  | nil =>
    have hall := elemOk_notComma (hok k List.mem_cons_self)
    show splitComma k = [k]
    rw [splitComma_eq, show headElem k = k from List.takeWhile_all hall, show restElems k = [] from dropWhile_all _ k hall]
  | cons k' ks' ih =>
    have hall := elemOk_notComma (hok k List.mem_cons_self)
    rw [joinWith_cons_cons, splitComma_eq, headElem_append_word _ _ hall, restElems_append_word _ _ hall]
    show (k ++ []) :: splitComma (0x20 :: joinWith sepCS (k' :: ks')) = _
    rw [List.append_nil, splitComma_sp, ih k' (fun x hx => hok x (List.mem_cons_of_mem _ hx))]
    rfl

theorem csElems_join (ks : List Bytes) (hok : ∀ x ∈ ks, elemOk x = true) : csElems (joinWith sepCS ks) = ks := by
  cases ks with
  | nil => rfl
  | cons k t =>
    have hne : joinWith sepCS (k :: t) ≠ [] := joinWith_ne_nil _ _ _ ((elemOk_iff k).mp (hok k List.mem_cons_self)).1
    unfold csElems
    rw [if_neg hne, splitComma_join k t hok]
    show k :: (t.map _).map (List.drop 1) = k :: t
    rw [List.map_map]
    exact congrArg _ (List.map_id t)

theorem isCsList_join (ks : List Bytes) (hok : ∀ x ∈ ks, elemOk x = true) : isCsList (joinWith sepCS ks) = true := by
  unfold isCsList
  rw [csElems_join ks hok]
  simp only [Bool.and_eq_true, List.all_eq_true, beq_self_eq_true, and_true]
  exact hok

theorem wordsAux_mem (acc e : Bytes) : ∀ w ∈ wordsAux acc e, ∀ x ∈ w, x ∈ acc ∨ x ∈ e := by
  have hclosed : ∀ (acc w : Bytes), w ∈ (if acc = [] then [] else [acc.reverse]) → ∀ x ∈ w, x ∈ acc := by
    intro acc w hw x hx
    by_cases ha : acc = []
    · rw [if_pos ha] at hw; cases hw
    · rw [if_neg ha, List.mem_singleton] at hw; exact List.mem_reverse.mp (hw ▸ hx)
  induction e generalizing acc with
  | nil => intro w hw x hx; rw [wordsAux_nil] at hw; exact Or.inl (hclosed acc w hw x hx)
  | cons c t ih =>
    intro w hw x hx
    by_cases hc : isWs c = true
    · rw [wordsAux_cons_ws acc c t hc] at hw
      rcases List.mem_append.mp hw with h | h
      · exact Or.inl (hclosed acc w h x hx)
      · rcases ih [] w h x hx with h | h
        · cases h
        · exact Or.inr (List.mem_cons_of_mem _ h)
    · rw [wordsAux_cons_word acc c t (by simpa using hc)] at hw
      rcases ih (c :: acc) w hw x hx with h | h
      · rcases List.mem_cons.mp h with h | h
        · exact Or.inr (h ▸ List.mem_cons_self)
        · exact Or.inl h
      · exact Or.inr (List.mem_cons_of_mem _ h)

theorem splitAux_bytes (acc r : Bytes) : ∀ p ∈ splitAux acc r, ∀ x ∈ p, x ∈ acc ∨ x ∈ r ∧ x ≠ 0x2c := by
  induction r generalizing acc with
  | nil =>
    intro p hp x hx
    rw [splitAux, List.mem_singleton] at hp
    exact .inl (List.mem_reverse.mp (hp ▸ hx))
  | cons c t ih =>
    intro p hp x hx
    rw [splitAux] at hp
    by_cases hc : c = 0x2c
    · rw [if_pos hc, List.mem_cons] at hp
      rcases hp with hp | hp
      · exact .inl (List.mem_reverse.mp (hp ▸ hx))
      · exact (ih [] p hp x hx).elim nofun fun h => .inr ⟨List.mem_cons_of_mem _ h.1, h.2⟩
    · rw [if_neg hc] at hp
      rcases ih (c :: acc) p hp x hx with h | h
      · rcases List.mem_cons.mp h with h | h
        · exact .inr ⟨h ▸ List.mem_cons_self, h ▸ hc⟩
        · exact .inl h
      · exact .inr ⟨List.mem_cons_of_mem _ h.1, h.2⟩

theorem trimWs_subset (e : Bytes) : ∀ x ∈ trimWs e, x ∈ e := by
  intro x hx
  unfold trimWs trimR at hx
  exact List.dropWhile_subset _ (List.dropWhile_subset _ (List.mem_reverse.mp hx) |> List.mem_reverse.mp)

theorem trimWs_head_nonws (e : Bytes) (x : UInt8) (t : Bytes) (h : trimWs e = x :: t) : isWs x = false := by
  unfold trimWs at h
  rcases dropWhile_stops isWs e with h0 | ⟨z, b', h1, hz⟩
  · rw [h0] at h; simp [trimR] at h
  · rw [h1, trimR_cons] at h
    by_cases hc : trimR b' = [] ∧ isWs z = true
    · simp [hc] at h
    · simp only [hc, if_false] at h
      injection h with e1 _; rw [← e1]; exact hz

theorem kept_bytes (tok s : Bytes) : ∀ k ∈ keptOut tok s, ∀ x ∈ k, x = 0x20 ∨ x ∈ s ∧ x ≠ 0x2c := by
  intro k hk x hx
  obtain ⟨e, he, rfl⟩ := List.mem_map.mp hk
  obtain ⟨p, hp, rfl⟩ := List.mem_map.mp (List.mem_filter.mp he).1
  rcases joinWith_mem _ _ x hx with h | ⟨w, hw, hxw⟩
  · exact .inl (List.mem_singleton.mp h)
  · exact (wordsAux_mem [] _ w hw x hxw).elim nofun fun h =>
      (splitAux_bytes [] s p hp x (trimWs_subset p x h)).elim nofun .inr

theorem keptOut_elemOk (tok s : Bytes) : ∀ k ∈ keptOut tok s, elemOk k = true := by
  intro k hk
  have hb := kept_bytes tok s k hk
  obtain ⟨e, he, rfl⟩ := List.mem_map.mp hk
  obtain ⟨hmem, hcond⟩ := List.mem_filter.mp he
  obtain ⟨p, hp, rfl⟩ := List.mem_map.mp hmem
  simp only [Bool.and_eq_true, Bool.not_eq_true', List.isEmpty_eq_false_iff] at hcond
  obtain ⟨c, t, hct⟩ := List.exists_cons_of_ne_nil hcond.1
  rw [elemOk_iff, hct]
  refine ⟨normElem_ne_nil c t (trimWs_head_nonws p c t hct), fun x hx => ?_⟩
  rcases hb x (hct ▸ hx) with rfl | h
  · decide
  · exact h.2

end Mhd.Str
