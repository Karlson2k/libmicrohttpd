/-
  One control frame (ping, pong, close) at any frame boundary of a live stream, and the round
  trip of the frames `MHD_websocket_encode_ping / _pong / _close` produce.
-/
import Mhd.Proofs.WSRound
namespace Mhd.WS

theorem headerComplete_ctrl (w : WS) (b0 : UInt8) (n : Nat) (h0 : w.hdr[0]? = some b0) (hpsz : w.payloadSize = n)
    (hop : opcodeOf b0 = 8 ∨ opcodeOf b0 = 9 ∨ opcodeOf b0 = 10) (hal : n + 1 ≤ w.allocLimit)
    (hlt : w.allocLimit < 2 ^ 63) :
    headerComplete false w = .cont { w with ctrlBuf := grownBuf [] n, ctrlUtf8 := 0, step := 18 } 0 := by
  subst hpsz
  rw [headerComplete_of_ctrl false h0 hop, Nat.mod_eq_of_lt (by rw [W_eq]; omega)]
  exact withBuf_grown (Nat.zero_add _).symm (fun _ => alloc_fresh w _ hal) _
    (fun b => .cont { w with ctrlBuf := b, ctrlUtf8 := 0, step := 18 } 0) (fun _ => rfl)

theorem ctrl_payload {S : WS} (hi : Inv S) (hs : S.step = 18) (b0 : UInt8) (h0 : S.hdr[0]? = some b0)
    (p body key : List UInt8) (hbuf : S.ctrlBuf = grownBuf [] p.length) (hidx : S.payloadIndex = 0)
    (hpsz : S.payloadSize = p.length) (hkey : S.maskKey = key) (hcu : S.ctrlUtf8 = 0)
    (hbody : copyPayload body key 0 = p) (hne : body ≠ [])
    (hutf : opcodeOf b0 = 8 → 2 < p.length → checkUtf8 (p.drop 2) 0 0 = .ok 0) :
    stepPayload false S body = payloadFinish false body.length { S with ctrlBuf := plOf p, payloadIndex := p.length } := by
  have hbl : body.length = p.length := by rw [← hbody, copyPayload_length]
  have hn0 : p.length ≠ 0 := fun h0 => hne (List.length_eq_zero_iff.mp (hbl.trans h0))
  have hp : p ≠ [] := fun h0 => hn0 (by rw [h0]; rfl)
  have h17 : ¬ S.step = 17 := by omega
  have hw : written (List.replicate (p.length + 1) 0) (0 + 0) p = p ++ [0] :=
    Option.some.inj ((writeAt_eq _ _ _ (by simp)).symm.trans (writeAt_acc [] p))
  have e1 : plBufO S = some (List.replicate (p.length + 1) 0) := by
    unfold plBufO; rw [if_neg h17, hbuf, grownBuf_pos [] hn0]; rfl
  have e2 : plBase S = 0 := if_neg h17
  have he := stepPayload_eq hi (.inr hs) body
  rw [hpsz, hidx, Nat.sub_zero, List.take_of_length_le (Nat.le_of_eq hbl), hkey, hbody] at he
  unfold payTrip plTrip at he
  rw [if_neg hp, e1, e2, Option.getD_some, hidx, hw, getD_hdr0 h0] at he
  rw [he, hbl, plOf_ne hp]
  unfold Checked skipOf regOf setReg payloadAdvance
  simp only [if_neg h17, hidx, Nat.zero_add, Nat.sub_zero, hcu]
  by_cases hc : opcodeOf b0 = 8 ∧ 2 < p.length
  · rw [if_pos hc, hutf hc.1 hc.2]
  · rw [if_neg hc]

theorem pc_ctrl (W : WS) (b0 : UInt8) (pl : Option (List UInt8)) (n : Nat) (h0 : W.hdr[0]? = some b0)
    (hfin : finBit b0 = true) (hs : W.step = 18) (hu : W.ctrlUtf8 = 0) (hpl : W.ctrlBuf = pl) (hn : W.payloadSize = n) :
    payloadComplete false W =
      .ret { W with ctrlBuf := none, step := 0, payloadIndex := 0, hdrSize := 0 } (Int.ofNat (opcodeOf b0)) 0 pl n := by
  unfold payloadComplete
  simp only [h0, hfin, if_true, hs, hu, hpl, hn, ne_eq, not_true_eq_false, and_false, if_false]
  rfl

/-- **(ii) round trip, one control frame** (ping, pong, close; FIN; payload ≤ 125 bytes, a close
    payload of ≠ 1 byte whose reason text is complete valid UTF-8; any key) at a frame boundary of
    a live stream: it is handed out at once, unchanged, the message under assembly is untouched,
    and after a close frame the decoder takes "only control frames" -/
theorem ctrl_frame_run {ws : WS} (h : Inv ws) (hs : ws.step = 0) (hv : ws.validity ≠ 0)
    (op : Nat) (hop : op = 8 ∨ op = 9 ∨ op = 10) (p : List UInt8) (hn : p.length ≤ 125) (hclose : op = 8 → p.length ≠ 1)
    (hmax : ws.maxPayload = 0 ∨ p.length ≤ ws.maxPayload) (hal : p.length + 1 ≤ ws.allocLimit)
    (hutf : op = 8 → 2 < p.length → checkUtf8 (p.drop 2) 0 0 = .ok 0)
    (masked : Bool) (hm : masked = !ws.isClient) (k : Key) :
    ∃ ws', Run ws (wireOf masked (UInt8.ofNat (0x80 + op)) p k) [(Int.ofNat op, plOf p, p.length)] (.more ws') ∧
      SameData ws ws' ∧ ws'.validity = (if op = 8 then 2 else ws.validity) ∧ ws'.step = 0 := by
  -- with RSV = 0 and FIN set the opcode is all there is to the first byte
  obtain ⟨hr, hfin, hopc⟩ := finByte_spec op (by omega)
  generalize UInt8.ofNat (0x80 + op) = b0 at hr hfin hopc ⊢
  subst hopc
  obtain ⟨w, hreads, hb⟩ := frame_header h hs hv b0 p.length masked k hm (not_startBad_of hr (.inr (.inr ⟨hop, hfin⟩)))
    (Nat.lt_of_le_of_lt hn (by decide)) (fun _ => hn) hclose hmax
  have hsame := hb.same
  have hhc := headerComplete_ctrl w b0 p.length hb.hdr0 hb.psz hop (hsame.2.2.2.2.2.2 ▸ hal)
    (hsame.2.2.2.2.2.2 ▸ h.allocLt)
  have hv' : w.validity ≠ 0 := by
    rw [hb.val]; split
    · decide
    · exact hv
  have hiS := headerComplete_inv hb.inv hv' hb.step hhc
  have hidx : w.payloadIndex = 0 := hb.inv.idx0 (by rw [hb.step]; decide)
  have hpos : 0 < Int.ofNat (opcodeOf b0) := Int.natCast_pos.mpr (by rcases hop with a | a | a <;> rw [a] <;> decide)
  have hpc := pc_ctrl { ({ w with ctrlBuf := grownBuf [] p.length, ctrlUtf8 := 0, step := 18 } : WS) with
    ctrlBuf := plOf p, payloadIndex := p.length } b0 (plOf p) p.length hb.hdr0 hfin rfl rfl rfl hb.psz
  refine ⟨{ w with ctrlBuf := none, ctrlUtf8 := 0, step := 0, payloadIndex := 0, hdrSize := 0 }, ?_, hsame, hb.val, rfl⟩
  refine frame_run hreads hb.step hhc (.inr rfl) hb.psz ?_
    (ctrl_payload hiS rfl b0 hb.hdr0 p _ _ rfl hidx hb.psz hb.key rfl (copyPayload_involutive ..) · hutf)
    (.of_ret hpc hpos) rfl
  rintro rfl
  show ({ w with ctrlBuf := none, ctrlUtf8 := 0, step := 18, payloadIndex := 0 } : WS) = _
  rw [← hidx]
  rfl

theorem copyPayload_code_reason (code : Nat) (reason mask : List UInt8) :
    copyPayload (beBytes 2 code) mask 0 ++ (if reason.length ≠ 0 then copyPayload reason mask 2 else []) =
      copyPayload (beBytes 2 code ++ reason) mask 0 := by
  have h : copyPayload (beBytes 2 code ++ reason) mask 0 = _ ++ copyPayload reason mask 2 :=
    copyPayload_append mask 0 (beBytes 2 code) reason
  rw [h]
  by_cases hr : reason.length ≠ 0
  · rw [if_pos hr]
  · rw [if_neg hr, List.length_eq_zero_iff.mp ((copyPayload_length reason mask 2).trans (Decidable.not_not.mp hr))]

theorem encodePingPong_eq (ws : WS) (pl : List UInt8) (op : Nat) (hn : pl.length ≤ 125) :
    encodePingPong ws pl op = encodeFrame ws (UInt8.ofNat (0x80 + op)) pl.length (fun mask => copyPayload pl mask 0) := by
  unfold encodePingPong; rw [if_neg (by omega)]

theorem encodeClose_eq (ws : WS) (code : Nat) (reason : List UInt8) (hcode : 1000 ≤ code) (hn : reason.length ≤ 123)
    (hutf : checkUtf8 reason 0 0 = .ok 0) :
    encodeClose ws code reason =
      encodeFrame ws 0x88 (beBytes 2 code ++ reason).length (fun mask => copyPayload (beBytes 2 code ++ reason) mask 0) := by
  unfold encodeClose
  rw [if_neg (by omega), if_neg (by omega), if_neg (by rw [hutf]; simp)]
  simp only [show code ≠ 0 by omega, ne_eq, not_false_eq_true, if_true, List.length_append, beBytes_length]
  congr 1
  funext mask
  exact copyPayload_code_reason code reason mask

theorem encodeClose_noreason_eq (ws : WS) :
    encodeClose ws 0 [] = encodeFrame ws 0x88 ([] : List UInt8).length (fun mask => copyPayload [] mask 0) := by
  rw [encodeClose_nil, if_neg (by omega)]
  congr 1
  funext mask
  unfold copyPayload xorMask; simp

end Mhd.WS
