/-
  C11 — resume: `resume_moves_back` (a pending resume request is served by the next
  resume_suspended_connections: the connection re-enters the active list with an unchanged
  record, in epoll mode queued as read- and write-ready) and `race_same_state` (both orders of
  "another thread resumes right after the handler suspended" continue from the same state).
-/
import Mhd.Proofs.SuspDaemon
namespace Mhd.Susp

theorem moveBack_conn_same (g : Guards) (d : Daemon) (c : Nat) :
    (moveBack g d c).conn c = resumedConn g d.isEpoll (d.conn c) := setConn_same _ _ _

theorem moveBack_mode (g : Guards) (d : Daemon) (c : Nat) : (moveBack g d c).isEpoll = d.isEpoll := rfl

theorem resumeScan_other (g : Guards) (c : Nat) : ∀ (l : List Nat) (d : Daemon), c ∉ l →
    (resumeScan g l d).1.conn c = d.conn c ∧ (c ∈ d.active → c ∈ (resumeScan g l d).1.active) ∧
    (c ∈ d.eready → c ∈ (resumeScan g l d).1.eready) ∧ (c ∉ d.susp → c ∉ (resumeScan g l d).1.susp) ∧
    (resumeScan g l d).1.isEpoll = d.isEpoll := by
  intro l
  induction l with
  | nil => exact fun d _ => ⟨rfl, id, id, id, rfl⟩
  | cons a rest ih =>
    intro d hc
    have hcr : c ∉ rest := fun hm => hc (List.mem_cons_of_mem _ hm)
    unfold resumeScan
    cases (d.conn a).resuming
    · exact ih d hcr
    · have r := ih (moveBack g d a) hcr
      refine ⟨r.1.trans (moveBack_conn_ne g d fun e => hc (e ▸ List.mem_cons_self)), fun h => r.2.1 (List.mem_cons_of_mem _ h),
        fun h => r.2.2.1 ?_, fun h => r.2.2.2.1 fun hm => h (List.mem_of_mem_erase hm), r.2.2.2.2⟩
      show c ∈ if d.isEpoll then a :: d.eready else d.eready
      cases d.isEpoll
      · exact h
      · exact List.mem_cons_of_mem _ h

theorem resumeScan_moves (g : Guards) (c : Nat) : ∀ (l : List Nat) (d : Daemon), l.Nodup → c ∈ l → d.susp.Nodup →
    (d.conn c).resuming = true →
    (c, CEv.resumed) ∈ (resumeScan g l d).2 ∧ c ∈ (resumeScan g l d).1.active ∧ c ∉ (resumeScan g l d).1.susp ∧
    (resumeScan g l d).1.conn c = resumedConn g d.isEpoll (d.conn c) ∧
    (d.isEpoll = true → c ∈ (resumeScan g l d).1.eready) := by
  intro l
  induction l with
  | nil => exact fun d _ h => nomatch h
  | cons a rest ih =>
    intro d hnd hc hns hr
    have hnd' := List.nodup_cons.1 hnd
    unfold resumeScan
    by_cases hac : a = c
    · subst hac
      rw [if_pos hr]
      have r := resumeScan_other g a rest (moveBack g d a) hnd'.1
      refine ⟨List.mem_cons_self, r.2.1 List.mem_cons_self, r.2.2.2.1 fun hm => ((hns.mem_erase_iff).1 hm).1 rfl,
        r.1.trans (moveBack_conn_same g d a), fun hep => r.2.2.1 ?_⟩
      show a ∈ if d.isEpoll then a :: d.eready else d.eready
      rw [if_pos hep]; exact List.mem_cons_self
    · have hcr : c ∈ rest := (List.mem_cons.1 hc).resolve_left fun e => hac e.symm
      cases (d.conn a).resuming
      · exact ih d hnd'.2 hcr hns hr
      · have hconn : (moveBack g d a).conn c = d.conn c := moveBack_conn_ne g d (Ne.symm hac)
        have r := ih (moveBack g d a) hnd'.2 hcr (hns.erase a) (hconn ▸ hr)
        rw [hconn] at r
        exact ⟨List.mem_cons_of_mem _ r.1, r.2.1, r.2.2.1, r.2.2.2.1, r.2.2.2.2⟩

theorem resume_moves_back (g : Guards) (d : Daemon) (hw : WF d) (c : Nat) (hs : c ∈ d.susp)
    (hr : (d.conn c).resuming = true) :
    (c, CEv.resumed) ∈ (resumeSuspended g d).2 ∧ c ∈ (resumeSuspended g d).1.active ∧ c ∉ (resumeSuspended g d).1.susp ∧
    (resumeSuspended g d).1.conn c = resumedConn g d.isEpoll (d.conn c) ∧
    (d.isEpoll = true → c ∈ (resumeSuspended g d).1.eready) := by
  have hres : d.resuming = true := hw.no_lost c ((hw.susp_iff c).2 hs) hr
  simp only [resumeSuspended, hres, if_true]
  exact resumeScan_moves g c d.susp.reverse { d with resuming := false } hw.nd_susp.reverse
    (List.mem_reverse.2 hs) hw.nd_susp hr

/-- the record without the epoll bookkeeping bits -/
def Conn.noEpoll (k : Conn) : Conn :=
  { k with inSet := false, readReady := false, writeReady := false, epSusp := false, inEready := false }

/-- `kA`: suspend, resume, then the daemon's resume_suspended_connections; `kB`: resume first, then the suspend,
    which only clears the `resuming` flag -/
theorem race_same_state (g : Guards) (hg : g.shortcut = true) (ep : Bool) (k : Conn)
    (hs : k.suspended = false) (hr : k.resuming = false) :
    let kA := resumedConn g ep (suspendAct g k .imm).1
    let kB := (suspendAct g k .pre).1
    kA.noEpoll = kB.noEpoll ∧ kA.suspended = false ∧ kB.suspended = false ∧
    kA.resuming = false ∧ kB.resuming = false ∧ kA.dres = true ∧ kB.dres = true ∧
    (suspendAct g k .imm).2 = [.suspend true, .resumeReq] ∧ (suspendAct g k .pre).2 = [.resumeReq, .suspend false] := by
  cases ep <;>
    simp [suspendAct, hs, hr, hg, Conn.doSuspend, Conn.doResumeReq, resumedConn, Conn.noEpoll]

end Mhd.Susp
