/-
  One data frame — text, binary or continuation, any payload, any key — from a frame boundary up
  to `decode_payload_complete` (`data_frame_complete`), in the vocabulary of a stream between two
  frames (`U8`, `Bnd`, `Recv`, `Fits`, `DataOp`); a data frame with FIN, of which the single text /
  binary frame is the case of no message under assembly; what the encoders produce.
-/
import Mhd.Proofs.WSBodyRun
namespace Mhd.WS

/-- over the payload `p` of a message of type `t` the validator goes from `u` to `u'`: it runs
    (and accepts) when the message is text, and is left alone otherwise -/
def U8 (t : Nat) (p : List UInt8) (u u' : Nat) : Prop :=
  (t = 1 → checkUtf8 p u 0 = .ok u') ∧ (t ≠ 1 → u' = u)

theorem U8.nil {t u u' : Nat} (h : U8 t [] u u') : u' = u := by
  by_cases h1 : t = 1
  · exact (Utf8Res.ok.inj (h.1 h1)).symm
  · exact h.2 h1

theorem U8.split {t : Nat} {a b : List UInt8} {u u' : Nat} (h : U8 t (a ++ b) u u') :
    ∃ u1, U8 t a u u1 ∧ U8 t b u1 u' := by
  by_cases h1 : t = 1
  · obtain ⟨u1, ha, hb⟩ := checkUtf8_append_ok _ _ _ _ (h.1 h1)
    exact ⟨u1, ⟨fun _ => ha, fun hn => absurd h1 hn⟩, ⟨fun _ => hb, fun hn => absurd h1 hn⟩⟩
  · exact ⟨u, ⟨fun h => absurd h h1, fun _ => rfl⟩, ⟨fun h => absurd h h1, h.2⟩⟩

theorem U8.le {t : Nat} {p : List UInt8} {u u' : Nat} (h : U8 t p u u') (hu : u ≤ 10) : u' ≤ 10 := by
  by_cases h1 : t = 1
  · exact checkUtf8_le _ _ _ _ hu (h.1 h1)
  · exact h.2 h1 ▸ hu

theorem U8.given {t : Nat} {p : List UInt8} {u u' : Nat} (h : U8 t p u u') :
    givenUtf8 u' ≤ givenUtf8 u + p.length := by
  by_cases h1 : t = 1
  · exact checkUtf8_given _ _ _ _ (h.1 h1)
  · exact h.2 h1 ▸ Nat.le_add_right ..

/-- `decode_header_complete` for a data frame: `realloc` behind `acc` for a continuation frame,
    `malloc` (`acc = []`) for a text / binary frame -/
theorem headerComplete_data (w : WS) (b0 : UInt8) (acc : List UInt8) (t' n : Nat) (h0 : w.hdr[0]? = some b0)
    (hpsz : w.payloadSize = n)
    (hop : (opcodeOf b0 = 0 ∧ t' = w.dataType ∧ w.dataBuf = plOf acc ∧ w.dataSize = acc.length) ∨
           ((opcodeOf b0 = 1 ∨ opcodeOf b0 = 2) ∧ t' = opcodeOf b0 ∧ acc = []))
    (hmax : w.maxPayload = 0 ∨ acc.length + n ≤ w.maxPayload)
    (hal : acc.length + n + 1 ≤ w.allocLimit) (hlt : w.allocLimit < 2 ^ 63) :
    headerComplete false w =
      .cont { w with dataBuf := grownBuf acc n, dataStart := acc.length, dataSize := n + acc.length,
                     dataType := t', step := 17 } 0 := by
  subst hpsz
  have hW : ∀ k, k ≤ acc.length + w.payloadSize + 1 → k % W = k := fun k hk =>
    Nat.mod_eq_of_lt (by rw [W_eq]; omega)
  rcases hop with ⟨hc, rfl, hbuf, hsz⟩ | ⟨hf, rfl, rfl⟩
  · rw [headerComplete_of_cont false h0 hc, hsz, hW (w.payloadSize + acc.length) (by omega),
      hW (w.payloadSize + acc.length + 1) (by omega), if_neg (by omega), hbuf, Nat.add_comm w.payloadSize]
    exact withBuf_grown rfl (fun _ => realloc_grown w acc _ hal) _
      (fun b => .cont { w with dataBuf := b, dataStart := acc.length, dataSize := acc.length + w.payloadSize, step := 17 } 0)
      (fun h => by rw [(Nat.add_eq_zero_iff.mp h).1])
  · rw [headerComplete_of_data false h0 hf, hW _ (by omega)]
    exact withBuf_grown (Nat.zero_add _).symm (fun _ => alloc_fresh w _ (by simpa using hal)) _
      (fun b => .cont { w with dataBuf := b, dataStart := 0, dataSize := w.payloadSize, dataType := opcodeOf b0, step := 17 } 0)
      (fun _ => rfl)

theorem data_payload {S : WS} (hi : Inv S) (hs : S.step = 17) (acc p body key : List UInt8) (u' : Nat)
    (hbuf : S.dataBuf = grownBuf acc p.length) (hds : S.dataStart = acc.length) (hidx : S.payloadIndex = 0)
    (hpsz : S.payloadSize = p.length) (hkey : S.maskKey = key) (hbody : copyPayload body key 0 = p) (hne : body ≠ [])
    (hu : U8 S.dataType p S.dataUtf8 u') :
    stepPayload false S body = payloadFinish false body.length
      { S with dataBuf := plOf (acc ++ p), payloadIndex := p.length, dataUtf8 := u' } := by
  have hbl : body.length = p.length := by rw [← hbody, copyPayload_length]
  have hn0 : p.length ≠ 0 := fun h0 => hne (List.length_eq_zero_iff.mp (hbl.trans h0))
  have hp : p ≠ [] := fun h0 => hn0 (by rw [h0]; rfl)
  have hpl : plOf (acc ++ p) = some (acc ++ p ++ [0]) :=
    plOf_ne fun hh => hp (List.append_eq_nil_iff.mp hh).2
  have hw : written (acc ++ List.replicate (p.length + 1) 0) (acc.length + 0) p = acc ++ p ++ [0] :=
    Option.some.inj ((writeAt_eq _ _ _ (by simp)).symm.trans (writeAt_acc acc p))
  have e1 : plBufO S = some (acc ++ List.replicate (p.length + 1) 0) := by
    unfold plBufO; rw [if_pos hs, hbuf, grownBuf_pos acc hn0]
  have e2 : plBase S = acc.length := (if_pos hs).trans hds
  have he := stepPayload_eq hi (.inl hs) body
  rw [hpsz, hidx, Nat.sub_zero, List.take_of_length_le (Nat.le_of_eq hbl), hkey, hbody] at he
  unfold payTrip plTrip at he
  rw [if_neg hp, e1, e2, Option.getD_some, hidx, hw] at he
  rw [he, hbl, hpl]
  unfold Checked skipOf regOf setReg payloadAdvance
  simp only [if_pos hs, List.drop_zero, hidx, Nat.zero_add]
  by_cases h1 : S.dataType = 1
  · rw [if_pos ⟨h1, Nat.pos_of_ne_zero hn0⟩, hu.1 h1]
  · rw [if_neg (fun c => h1 c.1), hu.2 h1]

/-- with no payload bytes the payload case leaves the state as it is -/
theorem data_end_nil (S : WS) (acc : List UInt8) (u' : Nat) (hbuf : S.dataBuf = plOf acc)
    (hidx : S.payloadIndex = 0) (hu : u' = S.dataUtf8) :
    ({ S with dataBuf := plOf (acc ++ []), payloadIndex := ([] : List UInt8).length, dataUtf8 := u' } : WS) = S := by
  rw [List.append_nil, ← hbuf, List.length_nil, ← hidx, hu]

/-- status of a data frame handed out with FIN -/
def finStatus (want : Bool) (cont : Bool) (t' : Nat) : Int :=
  Int.ofNat (if want ∧ cont then t' ||| 0x40 else t')

/-- the decoder (`W`) has the whole payload of a data frame `b0` in the data buffer: `d` is what
    is assembled of the message, this payload included, `t'` its type, `u'` the validator state -/
structure DataEnd (ws W : WS) (b0 : UInt8) (t' u' : Nat) (d : List UInt8) : Prop where
  hdr0 : W.hdr[0]? = some b0
  step : W.step = 17
  dtype : W.dataType = t'
  u8 : W.dataUtf8 = u'
  buf : W.dataBuf = plOf d
  size : W.dataSize = d.length
  pos : W.dataStart + W.payloadIndex = d.length
  cfg : Cfg ws W
  val : W.validity = ws.validity

theorem pc_fin {ws W : WS} {b0 : UInt8} {t' u' : Nat} {d : List UInt8} (he : DataEnd ws W b0 t' u' d)
    (hfin : finBit b0 = true) (hu : t' = 1 → u' = 0) :
    payloadComplete false W =
      .ret { W with dataBuf := none, dataStart := 0, dataSize := 0, step := 0, payloadIndex := 0, dataType := 0,
                    hdrSize := 0 }
        (finStatus ws.wantFragments (opcodeOf b0 = 0) t') 0 (plOf d) d.length := by
  have hc : ¬ (t' = 1 ∧ W.dataUtf8 ≠ 0) := fun hh => hh.2 (he.u8.trans (hu hh.1))
  unfold payloadComplete finStatus
  simp only [he.hdr0, hfin, if_true, he.step, Bool.false_eq_true, not_false_eq_true, true_and, hc, if_false,
    he.cfg.want, he.dtype, he.buf, he.size, decide_eq_true_eq]

theorem ctlBit_of_lt {b : UInt8} (h : opcodeOf b < 8) : ctlBit b = false := by
  unfold opcodeOf at h
  unfold ctlBit
  rw [decide_eq_false_iff_not]
  omega

/-- a live stream between two frames with the bytes `acc` of a message of type `t` assembled,
    UTF-8 validator in state `u`, validity `v`.  With no message under assembly (`t = 0`) nothing
    is asked of `data_payload`: `decode_header_complete` replaces it for a text / binary frame
    without reading it. -/
structure Bnd (ws : WS) (t : Nat) (acc : List UInt8) (u v : Nat) : Prop where
  inv : Inv ws
  step : ws.step = 0
  val : ws.validity = v
  dtype : ws.dataType = t
  buf : t ≠ 0 → ws.dataBuf = plOf acc ∧ ws.dataSize = acc.length
  u8 : ws.dataUtf8 = u

theorem Bnd.carry {ws : WS} {t : Nat} {acc : List UInt8} {u v : Nat} (hb : Bnd ws t acc u v) :
    givenUtf8 u ≤ acc.length := by
  by_cases h1 : t = 1
  · have := hb.inv.carry (hb.dtype.trans h1)
    rwa [if_neg (by rw [hb.step]; decide), (hb.buf (by omega)).2, hb.u8] at this
  · have : u = 0 := hb.u8.symm.trans (hb.inv.u8a (hb.dtype ▸ h1))
    rw [this]
    exact Nat.zero_le _

theorem Bnd.u8_le {ws : WS} {t : Nat} {acc : List UInt8} {u v : Nat} (hb : Bnd ws t acc u v) : u ≤ 10 :=
  hb.u8 ▸ hb.inv.u8b

/-- the receiver's configuration as the frame theorems use it: what the peer does about
    masking, whether the application wants fragments, the two size limits -/
structure Recv (ws : WS) (masked want : Bool) (mx al : Nat) : Prop where
  mask : masked = !ws.isClient
  want : ws.wantFragments = want
  max : ws.maxPayload = mx
  alloc : ws.allocLimit = al

theorem Recv.cfg {ws ws' : WS} {masked want : Bool} {mx al : Nat} (h : Recv ws masked want mx al) (hc : Cfg ws ws') :
    Recv ws' masked want mx al :=
  ⟨hc.client ▸ h.mask, hc.want.trans h.want, hc.2.1.trans h.max, hc.2.2.trans h.alloc⟩

/-- `n` payload bytes are within the receiver's maximum payload size (0: no limit) and can be
    allocated together with their terminator -/
def Fits (mx al n : Nat) : Prop := (mx = 0 ∨ n ≤ mx) ∧ n + 1 ≤ al

theorem Fits.mono {mx al m n : Nat} (h : Fits mx al n) (hmn : m ≤ n) : Fits mx al m :=
  ⟨h.1.imp_right (Nat.le_trans hmn), Nat.le_trans (Nat.succ_le_succ hmn) h.2⟩

/-- the first byte `b0` of a data frame fits a stream with `acc` of a message of type `t` under
    assembly (`t = 0`: none), and the message then has type `t'`: a continuation frame inside a
    message, a text or binary frame outside -/
def DataOp (t : Nat) (acc : List UInt8) (b0 : UInt8) (t' : Nat) : Prop :=
  (opcodeOf b0 = 0 ∧ t ≠ 0 ∧ t' = t) ∨ ((opcodeOf b0 = 1 ∨ opcodeOf b0 = 2) ∧ t = 0 ∧ acc = [] ∧ t' = opcodeOf b0)

theorem DataOp.ne_zero {t : Nat} {acc : List UInt8} {b0 : UInt8} {t' : Nat} (h : DataOp t acc b0 t') : t' ≠ 0 := by
  rcases h with ⟨_, a, b⟩ | ⟨a | a, _, _, b⟩ <;> omega

/-- **one data frame** (first frame or continuation, any payload, any key) at a frame boundary
    with no close frame seen: the decoder reaches a state `W` with the payload appended to what was
    assembled, the validator moved on, and the run over the frame is whatever
    `decode_payload_complete` makes of `W` -/
theorem data_frame_complete {ws : WS} {t : Nat} {acc : List UInt8} {u : Nat} {masked want : Bool} {mx al : Nat}
    (hb : Bnd ws t acc u 1) (hc : Recv ws masked want mx al) (b0 : UInt8) (hr : rsvBits b0 = 0) (t' : Nat)
    (hop : DataOp t acc b0 t') (p : List UInt8) (k : Key) (hfit : Fits mx al (acc.length + p.length))
    (u' : Nat) (hu : U8 t' p u u') :
    ∃ W, DataEnd ws W b0 t' u' (acc ++ p) ∧
      ∀ {E : List Ev} {ws' : WS}, Completes (payloadComplete false W) E ws' → ws'.step = 0 →
        Run ws (wireOf masked b0 p k) E (.more ws') := by
  have h := hb.inv
  have hlt := h.allocLt
  have hmax := hc.max.symm ▸ hfit.1
  have hal := hc.alloc.symm ▸ hfit.2
  have hv0 : ws.validity ≠ 0 := hb.val ▸ Nat.one_ne_zero
  have hv2 : ws.validity ≠ 2 := hb.val ▸ by decide
  have hop8 : opcodeOf b0 < 8 := by rcases hop with ⟨a, _⟩ | ⟨a | a, _⟩ <;> rw [a] <;> decide
  obtain ⟨w, hreads, hw⟩ := frame_header h hb.step hv0 b0 p.length masked k hc.mask (not_startBad_of hr
      (hop.elim (fun ⟨a, b, _⟩ => .inl ⟨a, hb.dtype ▸ b, hv2⟩) (fun ⟨a, b, _⟩ => .inr (.inl ⟨a, hb.dtype.trans b, hv2⟩))))
    (Nat.lt_of_le_of_lt (Nat.le_add_left ..) (Nat.lt_of_lt_of_le (Nat.lt_of_succ_le hal) (Nat.le_of_lt hlt)))
    (fun hh => absurd (ctlBit_of_lt hop8 ▸ hh) Bool.false_ne_true) (fun h8 => absurd h8 (Nat.ne_of_lt hop8))
    (hmax.imp_right (Nat.le_trans (Nat.le_add_left ..)))
  obtain ⟨sdt, sbuf, ssz, su8, sfl, smx, sal⟩ := hw.same
  have hval : w.validity = ws.validity := hw.val.trans (if_neg (Nat.ne_of_lt hop8))
  have hhc := headerComplete_data w b0 acc t' p.length hw.hdr0 hw.psz
    (by rcases hop with ⟨a, b, c⟩ | ⟨a, _, c, d⟩
        · exact .inl ⟨a, c.trans (sdt.trans hb.dtype).symm, sbuf.trans (hb.buf b).1, ssz.trans (hb.buf b).2⟩
        · exact .inr ⟨a, d, c⟩)
    (smx ▸ hmax) (sal ▸ hal) (sal ▸ hlt)
  have hiS := headerComplete_inv hw.inv (hval ▸ hv0) hw.step hhc
  have hidx : w.payloadIndex = 0 := hw.inv.idx0 (by rw [hw.step]; decide)
  have hu' : U8 t' p w.dataUtf8 u' := (su8.trans hb.u8).symm ▸ hu
  refine ⟨{ ({ w with dataBuf := grownBuf acc p.length, dataStart := acc.length, dataSize := p.length + acc.length,
                       dataType := t', step := 17 } : WS) with
             dataBuf := plOf (acc ++ p), payloadIndex := p.length, dataUtf8 := u' },
    ⟨hw.hdr0, rfl, rfl, rfl, rfl, (List.length_append.trans (Nat.add_comm ..)).symm, List.length_append.symm,
      ⟨sfl, smx, sal⟩, hval⟩,
    fun {E ws'} hc hst => ?_⟩
  refine frame_run hreads hw.step hhc (.inl rfl) hw.psz ?_
    (data_payload hiS rfl acc p _ _ u' rfl rfl hidx hw.psz hw.key (copyPayload_involutive ..) · hu') hc hst
  rintro rfl
  exact data_end_nil _ acc u' (grownBuf_zero acc) hidx hu'.nil

theorem fragMark_pos (t' m : Nat) (h : t' ≠ 0) : 0 < fragMark t' m :=
  Int.natCast_pos.mpr (Nat.pos_of_ne_zero fun h0 => h (Nat.or_eq_zero_iff.mp h0).1)

theorem finStatus_pos (want cont : Bool) (t' : Nat) (h : t' ≠ 0) : 0 < finStatus want cont t' := by
  unfold finStatus
  split
  · exact fragMark_pos t' 0x40 h
  · exact Int.natCast_pos.mpr (Nat.pos_of_ne_zero h)

/-- **a data frame with FIN** ends the message: it is handed out whole (assembling mode), or
    as the last fragment together with what was kept back (fragment mode) -/
theorem data_frame_fin {ws : WS} {t : Nat} {acc : List UInt8} {u : Nat} {masked want : Bool} {mx al : Nat}
    (hb : Bnd ws t acc u 1) (hc : Recv ws masked want mx al) (b0 : UInt8) (hr : rsvBits b0 = 0)
    (hfin : finBit b0 = true) (t' : Nat) (hop : DataOp t acc b0 t') (p : List UInt8) (k : Key)
    (hfit : Fits mx al (acc.length + p.length)) (hu : U8 t' p u 0) :
    ∃ ws', Run ws (wireOf masked b0 p k)
        [(finStatus want (opcodeOf b0 = 0) t', plOf (acc ++ p), (acc ++ p).length)] (.more ws') ∧
      Bnd ws' 0 [] 0 1 ∧ Cfg ws ws' := by
  obtain ⟨W, he, hrun⟩ := data_frame_complete hb hc b0 hr t' hop p k hfit 0 hu
  have hpc := pc_fin he hfin (fun _ => rfl)
  rw [hc.want] at hpc
  have hR := hrun (.of_ret hpc (finStatus_pos _ _ _ hop.ne_zero)) rfl
  exact ⟨_, hR, ⟨(hR.more_quiet hb.inv (by rw [hb.val]; decide) rfl).1, rfl, he.val.trans hb.val, rfl, fun h => absurd rfl h, he.u8⟩,
    he.cfg⟩

theorem finByte_spec : ∀ op, op < 16 →
    rsvBits (UInt8.ofNat (0x80 + op)) = 0 ∧ finBit (UInt8.ofNat (0x80 + op)) = true ∧
    opcodeOf (UInt8.ofNat (0x80 + op)) = op := by decide

/-- **(ii) round trip, single data frame, any length including 0**: a text or binary message
    encoded by the peer (masked iff the receiver is a server, any key) is returned unchanged. -/
theorem roundtrip_data_run (ws : WS) (h : Inv ws) (hs : ws.step = 0) (hv : ws.validity = 1) (hdt : ws.dataType = 0)
    (op : Nat) (hop : op = 1 ∨ op = 2) (payload : List UInt8) (hmax : ws.maxPayload = 0 ∨ payload.length ≤ ws.maxPayload)
    (hal : payload.length + 1 ≤ ws.allocLimit) (hutf : op = 1 → checkUtf8 payload 0 0 = .ok 0) (masked : Bool)
    (hm : masked = !ws.isClient) (k : Key) :
    ∃ ws', Run ws (wireOf masked (UInt8.ofNat (0x80 + op)) payload k)
      [(Int.ofNat op, plOf payload, payload.length)] (.more ws') := by
  obtain ⟨hrsv, hfin, hopc⟩ := finByte_spec op (by omega)
  obtain ⟨ws', hR, _⟩ := data_frame_fin (t := 0) (acc := []) ⟨h, hs, hv, hdt, fun h => absurd rfl h, h.u8a (hdt ▸ by decide)⟩
    ⟨hm, rfl, rfl, rfl⟩ _ hrsv hfin op (.inr ⟨hopc.symm ▸ hop, rfl, rfl, hopc.symm⟩) payload k
    ⟨by simpa using hmax, by simpa using hal⟩ ⟨hutf, fun _ => rfl⟩
  have hst : finStatus ws.wantFragments (opcodeOf (UInt8.ofNat (0x80 + op)) = 0) op = Int.ofNat op := by
    unfold finStatus; rw [hopc, if_neg (by simpa using fun _ => (by omega : op ≠ 0))]
  rw [hst] at hR
  exact ⟨ws', hR⟩

theorem maskFor_snd (ws : WS) : ∃ k : Key, (maskFor ws).2 = keyOf ws.isClient k := by
  unfold maskFor genMask keyOf
  cases hc : ws.isClient
  · exact ⟨(0, 0, 0, 0), by simp⟩
  · simp only [if_true]
    have hl : ((ws.rng.take 4 ++ List.replicate 4 0).take 4).length = 4 := by
      simp only [List.length_take, List.length_append, List.length_replicate]; omega
    match hk : (ws.rng.take 4 ++ List.replicate 4 0).take 4, hl with
    | [a, b, c, d], _ => exact ⟨(a, b, c, d), rfl⟩

/-- the common tail of the encoders when the allocation succeeds: status OK and RFC 6455
    framing of the payload, masked with the generated key iff client -/
theorem encodeFrame_full (wsS : WS) (b0 : UInt8) (n : Nat) (body : List UInt8 → List UInt8)
    (hb : ∀ m, (body m).length = n) (hal : overheadSize wsS n + n + 1 ≤ wsS.allocLimit) :
    ∃ k : Key,
      encodeFrame wsS b0 n body =
        { ws := (maskFor wsS).1, st := 0,
          frame := some (frameBytes wsS.isClient b0 n (keyOf wsS.isClient k) (body (keyOf wsS.isClient k)) ++ [0]),
          len := overheadSize wsS n + n } ∧
      (frameBytes wsS.isClient b0 n (keyOf wsS.isClient k) (body (keyOf wsS.isClient k))).length = overheadSize wsS n + n := by
  obtain ⟨k, hk⟩ := maskFor_snd wsS
  refine ⟨k, ?_⟩
  have hal' : alloc (maskFor wsS).1 (overheadSize wsS n + n + 1) =
      some (List.replicate (overheadSize wsS n + n + 1) 0) := by
    obtain ⟨r, hr⟩ := maskFor_ws wsS
    unfold alloc
    rw [hr]
    exact if_pos hal
  have hlen : (frameBytes wsS.isClient b0 n (keyOf wsS.isClient k) (body (keyOf wsS.isClient k))).length =
      overheadSize wsS n + n := by
    unfold frameBytes overheadSize keyOf
    simp only [List.length_cons, List.length_append, lenBytes_length, hb]
    cases wsS.isClient <;> simp <;> omega
  refine ⟨?_, hlen⟩
  unfold encodeFrame
  simp only [hk, hal', hlen, if_true]

/-- **encode → any chunking → decode, one frame.**  What the common tail of the encoders returns for
    the payload `pl` is `wire ++ [0]`; if the decoder hands out `E` over the frame whatever its key,
    the receiving application gets `E` for every way of cutting `wire` into chunks -/
theorem roundtrip_frame {wsR : WS} (wsS : WS) (h : Inv wsR) (hs : wsR.step = 0) (hv : wsR.validity ≠ 0) (b0 : UInt8)
    (pl : List UInt8) {E : List Ev} (halS : overheadSize wsS pl.length + pl.length + 1 ≤ wsS.allocLimit)
    (hrun : ∀ k, ∃ ws', Run wsR (wireOf wsS.isClient b0 pl k) E (.more ws')) :
    ∃ wire, (encodeFrame wsS b0 pl.length (fun mask => copyPayload pl mask 0)).st = 0 ∧
      (encodeFrame wsS b0 pl.length (fun mask => copyPayload pl mask 0)).frame = some (wire ++ [0]) ∧
      ∀ chunks : List (List UInt8), chunks.flatten = wire → session wsR chunks = E := by
  obtain ⟨k, he, _⟩ := encodeFrame_full wsS b0 pl.length (fun mask => copyPayload pl mask 0)
    (fun _ => copyPayload_length ..) halS
  obtain ⟨ws', hr⟩ := hrun k
  rw [he]
  exact ⟨wireOf wsS.isClient b0 pl k, rfl, rfl, session_of_wire h (sil_of_step0 hs) hv hr⟩

end Mhd.WS
