/-
  SPECIFICATION (hand-written, part of the trusted base of C04): a strict HTTP/1.x
  response grammar as an executable parser.  `WellFramed req bytes` holds when `bytes` is
  exactly one response message whose body delimitation is self-consistent for the request
  `req` (RFC 7230 §3, §3.3.3, §4.1).  Independent of the model: nothing of `Mhd.Model.*` is used.
  An independent Python twin lives in tools/props/C04.py (`parse_reply`).
-/
namespace Mhd.Http

abbrev Bytes := List UInt8

/-- what the grammar needs to know about the request -/
structure Req where
  /-- the request method is HEAD -/
  head : Bool
  /-- the client speaks HTTP/1.1 (or a later 1.x) -/
  http11 : Bool
deriving Repr, DecidableEq

structure Field where
  name : Bytes
  value : Bytes
deriving Repr, DecidableEq

inductive Framing where
  | none            -- no body allowed (HEAD, 1xx, 204, 304)
  | length (n : Nat)
  | chunked
  | close           -- delimited by closing the connection
deriving Repr, DecidableEq

structure Parsed where
  version : Bytes
  code : Nat
  reason : Bytes
  fields : List Field
  framing : Framing
  body : Bytes
  trailers : List Field
deriving Repr, DecidableEq

/-- one line up to CRLF; a bare CR or a bare LF is an error -/
def takeLine : Bytes → Option (Bytes × Bytes)
  | [] => none
  | b :: rest =>
    if b = 13 then
      (match rest with
       | c :: rest' => if c = 10 then some ([], rest') else none
       | [] => none)
    else if b = 10 then none
    else match takeLine rest with
      | some (l, r) => some (b :: l, r)
      | none => none

def isOWS (b : UInt8) : Bool := b = 32 || b = 9

/-- `field-name ":" OWS field-value`; the name is non-empty and contains no whitespace -/
def parseField (line : Bytes) : Option Field :=
  let name := line.takeWhile (fun b => b ≠ 58)
  match line.drop name.length with
  | [] => none
  | _ :: v => if name.isEmpty || name.any isOWS then none else some ⟨name, v.dropWhile isOWS⟩

/-- field lines up to the empty line -/
def parseFields : Nat → Bytes → Option (List Field × Bytes)
  | 0, _ => none
  | fuel + 1, bs =>
    match takeLine bs with
    | none => none
    | some (l, rest) =>
      if l.isEmpty then some ([], rest) else
      match parseField l, parseFields fuel rest with
      | some f, some (fs, r) => some (f :: fs, r)
      | _, _ => none

def isDigit (b : UInt8) : Bool := 48 ≤ b.toNat && b.toNat ≤ 57

def decValue (ds : Bytes) : Nat := ds.foldl (fun acc d => acc * 10 + (d.toNat - 48)) 0

/-- `1*DIGIT` -/
def parseDec (ds : Bytes) : Option Nat :=
  if ds.isEmpty || ! ds.all isDigit then none else some (decValue ds)

def hexDigitVal (b : UInt8) : Option Nat :=
  let n := b.toNat
  if 48 ≤ n && n ≤ 57 then some (n - 48)
  else if 65 ≤ n && n ≤ 70 then some (n - 55)
  else if 97 ≤ n && n ≤ 102 then some (n - 87)
  else none

/-- `1*HEXDIG` -/
def parseHex : Bytes → Option Nat
  | [] => none
  | ds => ds.foldl (fun acc d => match acc, hexDigitVal d with
                      | some a, some v => some (a * 16 + v)
                      | _, _ => none) (some 0)

def lower (b : UInt8) : UInt8 := if 65 ≤ b.toNat && b.toNat ≤ 90 then b + 32 else b

/-- case-insensitive comparison with a lower-case literal -/
def ciEq (s lit : Bytes) : Bool := s.map lower = lit

/-- "content-length" -/
def nContentLength : Bytes := [99, 111, 110, 116, 101, 110, 116, 45, 108, 101, 110, 103, 116, 104]
/-- "transfer-encoding" -/
def nTransferEncoding : Bytes := [116, 114, 97, 110, 115, 102, 101, 114, 45, 101, 110, 99, 111, 100, 105, 110, 103]
/-- "connection" -/
def nConnection : Bytes := [99, 111, 110, 110, 101, 99, 116, 105, 111, 110]
/-- "date" -/
def nDate : Bytes := [100, 97, 116, 101]
/-- "chunked" -/
def vChunked : Bytes := [99, 104, 117, 110, 107, 101, 100]
/-- "close" -/
def vClose : Bytes := [99, 108, 111, 115, 101]

def splitComma : Bytes → List Bytes
  | [] => [[]]
  | b :: rest =>
    match splitComma rest with
    | [] => [[b]]            -- unreachable
    | t :: ts => if b = 44 then [] :: t :: ts else (b :: t) :: ts

def trimOWS (s : Bytes) : Bytes := ((s.dropWhile isOWS).reverse.dropWhile isOWS).reverse

/-- the comma separated list `value` has the token `lit` (lower-case literal) -/
def hasToken (value lit : Bytes) : Bool := (splitComma value).any fun t => ciEq (trimOWS t) lit

/-- the reply announces that the connection will be closed -/
def announcesClose (fields : List Field) : Bool :=
  fields.any fun f => ciEq f.name nConnection && hasToken f.value vClose

/-- "HTTP/1.0" | "HTTP/1.1" | "ICY" -/
def okVersion (v : Bytes) : Bool :=
  v = [72, 84, 84, 80, 47, 49, 46, 48] || v = [72, 84, 84, 80, 47, 49, 46, 49] || v = [73, 67, 89]

/-- `version SP 3DIGIT SP reason-phrase` with a non-empty reason phrase -/
def parseStatusLine (l : Bytes) : Option (Bytes × Nat × Bytes) :=
  let v := l.takeWhile (fun b => b ≠ 32)
  match l.drop v.length with
  | _ :: d1 :: d2 :: d3 :: sp :: reason =>
    if okVersion v && isDigit d1 && isDigit d2 && isDigit d3 && sp = 32 && ! reason.isEmpty && d1 ≠ 48 then
      some (v, decValue [d1, d2, d3], reason)
    else none
  | _ => none

/-- chunks up to and including the last-chunk line; returns the decoded body and the rest -/
def parseChunks : Nat → Bytes → Option (Bytes × Bytes)
  | 0, _ => none
  | fuel + 1, bs =>
    match takeLine bs with
    | none => none
    | some (l, rest) =>
      match parseHex l with
      | none => none
      | some 0 => some ([], rest)
      | some n =>
        if rest.length < n + 2 then none
        else if (rest.drop n).take 2 ≠ [13, 10] then none
        else match parseChunks fuel (rest.drop (n + 2)) with
          | some (b, r) => some (rest.take n ++ b, r)
          | none => none

/-- the four header names the server manages itself -/
def managedName (n : Bytes) : Bool :=
  ciEq n nConnection || ciEq n nTransferEncoding || ciEq n nContentLength || ciEq n nDate

def clsOf (fields : List Field) : List Field := fields.filter fun f => ciEq f.name nContentLength
def tesOf (fields : List Field) : List Field := fields.filter fun f => ciEq f.name nTransferEncoding
def connsOf (fields : List Field) : List Field := fields.filter fun f => ciEq f.name nConnection

/-- the framing rules of RFC 7230 §3.3.3 applied to a parsed head and the bytes that follow it;
    every byte must be accounted for -/
def frameReply (req : Req) (ver : Bytes) (code : Nat) (reason : Bytes) (fields : List Field) (bodyBytes : Bytes) :
    Option Parsed :=
  let cls := clsOf fields
  let tes := tesOf fields
  let conns := connsOf fields
  -- at most one of each framing header, never both, well-formed values
  if cls.length > 1 || tes.length > 1 || conns.length > 1 then none
  else if ! cls.isEmpty && ! tes.isEmpty then none
  else if ! (cls.all fun f => (parseDec f.value).isSome) then none
  else if ! (tes.all fun f => ciEq f.value vChunked) then none
  else if ! tes.isEmpty && ! req.http11 then none                 -- chunked only to HTTP/1.1 clients
  else
    let noBodyHdrs := code < 200 || code = 204
    let noBody := noBodyHdrs || req.head || code = 304
    if noBodyHdrs && (! cls.isEmpty || ! tes.isEmpty) then none    -- RFC 7230 §3.3.1, §3.3.2
    else if noBody then
      if bodyBytes.isEmpty then some ⟨ver, code, reason, fields, .none, [], []⟩ else none
    else if ! tes.isEmpty then
      match parseChunks (bodyBytes.length + 1) bodyBytes with
      | none => none
      | some (body, rest2) =>
        match parseFields (rest2.length + 1) rest2 with
        | some (trailers, []) => some ⟨ver, code, reason, fields, .chunked, body, trailers⟩
        | _ => none
    else match cls with
      | f :: _ =>
        (match parseDec f.value with
         | some n => if bodyBytes.length = n then some ⟨ver, code, reason, fields, .length n, bodyBytes, []⟩ else none
         | none => none)
      | [] =>
        if announcesClose fields then some ⟨ver, code, reason, fields, .close, bodyBytes, []⟩ else none

/-- parse exactly one response -/
def parseReply (req : Req) (bs : Bytes) : Option Parsed :=
  match takeLine bs with
  | none => none
  | some (sl, rest) =>
    match parseStatusLine sl with
    | none => none
    | some (ver, code, reason) =>
      match parseFields (rest.length + 1) rest with
      | none => none
      | some (fields, bodyBytes) => frameReply req ver code reason fields bodyBytes

/-- `bytes` is one well-formed, self-consistently framed response to `req` -/
def WellFramed (req : Req) (bytes : Bytes) : Prop := (parseReply req bytes).isSome = true

instance (req : Req) (bytes : Bytes) : Decidable (WellFramed req bytes) := by
  unfold WellFramed; infer_instance

end Mhd.Http
