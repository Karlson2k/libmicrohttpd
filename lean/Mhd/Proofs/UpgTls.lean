/-
  C20, TLS forwarding (`process_urh`): the model of `Mhd.Model.UpgTls` seen as two bounded FIFOs (`Dir`,
  UpgTlsDir).  Each stage of `process_urh` is restated as "guard, then a function of the clamped result of
  the I/O call" (by `rfl`), and characterised once: it leaves one side of the record alone (`InSide` /
  `OutSide`) and acts on the direction of the other side as `Dir.recvStage` / `Dir.sendStage`.
-/
import Mhd.Proofs.UpgTlsDir
namespace Mhd.UpgTls

/-- client → application -/
def inDir (s : St) : Dir := ⟨s.toApp, s.dropIn, s.inBuf, s.remoteIn, s.clientSent, s.inSize, s.cap⟩
/-- application → client -/
def outDir (s : St) : Dir := ⟨s.toClient, s.dropOut, s.outBuf, s.pairIn, s.appSent, s.outSize, s.cap⟩

/-- `t` differs from `s` at most in the client → application direction, the readiness bits and the record of
    `process_urh` itself -/
def InSide (s t : St) : Prop :=
  t = { s with io := t.io, fault := t.fault, pair := t.pair, remote := t.remote, tlsReadReady := t.tlsReadReady,
               toApp := t.toApp, dropIn := t.dropIn, inBuf := t.inBuf, remoteIn := t.remoteIn, inSize := t.inSize }

/-- … at most in the application → client direction, the readiness bits, `data_already_pending` -/
def OutSide (s t : St) : Prop :=
  t = { s with io := t.io, fault := t.fault, pending := t.pending, pair := t.pair, remote := t.remote,
               toClient := t.toClient, dropOut := t.dropOut, outBuf := t.outBuf, pairIn := t.pairIn, outSize := t.outSize }

/-- the life-cycle fields the finish test and the release go by, which no stage of `process_urh` writes -/
def Misc (s t : St) : Prop := t.released = s.released ∧ t.loc = s.loc ∧ t.cleanReady = s.cleanReady

theorem Misc.trans {a b c : St} (x : Misc a b) (y : Misc b c) : Misc a c :=
  ⟨y.1.trans x.1, y.2.1.trans x.2.1, y.2.2.trans x.2.2⟩

theorem InSide.outDir {s t : St} (h : InSide s t) : outDir t = outDir s := by rw [h]; rfl
theorem InSide.misc {s t : St} (h : InSide s t) : Misc s t := by rw [h]; exact ⟨rfl, rfl, rfl⟩
theorem InSide.wc {s t : St} (h : InSide s t) : t.wasClosed = s.wasClosed := by rw [h]
theorem OutSide.inDir {s t : St} (h : OutSide s t) : inDir t = inDir s := by rw [h]; rfl
theorem OutSide.misc {s t : St} (h : OutSide s t) : Misc s t := by rw [h]; exact ⟨rfl, rfl, rfl⟩
theorem OutSide.wc {s t : St} (h : OutSide s t) : t.wasClosed = s.wasClosed := by rw [h]

theorem InSide.trans {a b c : St} (x : InSide a b) (y : InSide b c) : InSide a c := by rw [y, x]; rfl
theorem OutSide.trans {a b c : St} (x : OutSide a b) (y : OutSide b c) : OutSide a c := by rw [y, x]; rfl

def logIo (i : Io) (s : St) : St := { s with io := s.io ++ [i] }

def tlsRecvDone (pend : Bool) (s : St) : IoRes → St
  | .ok k =>
    if s.cap < s.inBuf.length + k then { s with fault := some "in_buffer overrun" } else
    { s with inBuf := s.inBuf ++ s.remoteIn.take k, remoteIn := s.remoteIn.drop k, tlsReadReady := pend }
  | .intr => { s with tlsReadReady := false }
  | .again =>
    let s := { s with tlsReadReady := false, remote := { s.remote with rd := false } }
    if s.remote.err then { s with inSize := 0 } else s
  | _ => { s with tlsReadReady := false, remote := { s.remote with rd := false }, inSize := 0 }

theorem stageTlsRecv_eq (e : Env) (s : St) : stageTlsRecv e s =
    if ((s.remote.err || s.remote.rd) || s.tlsReadReady) && decide (s.inBuf.length < s.inSize) then
      tlsRecvDone e.tlsPending (logIo .tlsRecv s)
        (recvRes e.tlsRecv (min (s.inSize - s.inBuf.length) s.ssizeMax) s.remoteIn.length)
    else s := rfl

theorem tlsRecvDone_spec (p : Bool) (s : St) (r : IoRes) :
    InSide s (tlsRecvDone p s r) ∧ inDir (tlsRecvDone p s r) = (inDir s).recvd s.remote.err r ∧
    ((∀ k, r = .ok k → s.inBuf.length + k ≤ s.cap) → (tlsRecvDone p s r).fault = s.fault) := by
  cases r with
  | ok k =>
    by_cases hc : s.cap < s.inBuf.length + k
    · rw [show tlsRecvDone p s (.ok k) = _ from if_pos hc, show (inDir s).recvd s.remote.err (.ok k) = _ from if_pos hc]
      exact ⟨rfl, rfl, fun h => absurd (h k rfl) (by omega)⟩
    · rw [show tlsRecvDone p s (.ok k) = _ from if_neg hc, show (inDir s).recvd s.remote.err (.ok k) = _ from if_neg hc]
      exact ⟨rfl, rfl, fun _ => rfl⟩
  | again => cases hb : s.remote.err <;> simp only [tlsRecvDone, Dir.recvd, hb] <;> exact ⟨rfl, rfl, fun _ => rfl⟩
  | _ => exact ⟨rfl, rfl, fun _ => rfl⟩

theorem tlsRecv_spec (e : Env) (s : St) :
    InSide s (stageTlsRecv e s) ∧
    inDir (stageTlsRecv e s) = (inDir s).recvStage ⟨(s.remote.err || s.remote.rd) || s.tlsReadReady, s.remote.err, s.ssizeMax⟩ e.tlsRecv ∧
    (s.inSize ≤ s.cap → (stageTlsRecv e s).fault = s.fault) := by
  rw [stageTlsRecv_eq]
  show _ ∧ _ = (if ((s.remote.err || s.remote.rd) || s.tlsReadReady) && decide (s.inBuf.length < s.inSize) then _ else _) ∧ _
  split
  · rename_i hc
    have hlt : s.inBuf.length < s.inSize := of_decide_eq_true (Bool.and_eq_true_iff.mp hc).2
    obtain ⟨a, b, c⟩ := tlsRecvDone_spec e.tlsPending (logIo .tlsRecv s)
      (recvRes e.tlsRecv (min (s.inSize - s.inBuf.length) s.ssizeMax) s.remoteIn.length)
    exact ⟨.trans (b := logIo .tlsRecv s) rfl a, b, fun h => c fun k hr =>
      Nat.le_trans (recvRes_fits (d := inDir s) hlt hr) h⟩
  · exact ⟨rfl, rfl, fun _ => rfl⟩

/-- `in_buffer_size = 0` means no further `gnutls_record_recv` -/
theorem tlsRecv_skip (e : Env) (s : St) (h : s.inSize = 0) : stageTlsRecv e s = s := by
  unfold stageTlsRecv; simp [h]

def pairRecvDone (wasClosed : Bool) (room : Nat) (s : St) : IoRes → St
  | .ok k =>
    if s.cap < s.outBuf.length + k then { s with fault := some "out_buffer overrun" } else
    { s with outBuf := s.outBuf ++ s.pairIn.take k, pairIn := s.pairIn.drop k,
             pair := if room > k then { s.pair with rd := false } else s.pair }
  | .intr => s
  | .again =>
    let s := { s with pair := { s.pair with rd := false } }
    if wasClosed || s.pair.err then { s with outSize := 0 } else s
  | _ => { s with pair := { s.pair with rd := false }, outSize := 0 }

theorem stagePairRecv_eq (wc : Bool) (e : Env) (s : St) : stagePairRecv wc e s =
    if ((s.pair.err || s.pair.rd) || wc) && decide (s.outBuf.length < s.outSize) then
      pairRecvDone wc (min (s.outSize - s.outBuf.length) s.sendMax) (logIo .pairRecv s)
        (recvRes e.pairRecv (min (s.outSize - s.outBuf.length) s.sendMax) s.pairIn.length)
    else s := rfl

theorem pairRecvDone_spec (wc : Bool) (room : Nat) (s : St) (r : IoRes) :
    OutSide s (pairRecvDone wc room s r) ∧ outDir (pairRecvDone wc room s r) = (outDir s).recvd (wc || s.pair.err) r ∧
    ((∀ k, r = .ok k → s.outBuf.length + k ≤ s.cap) → (pairRecvDone wc room s r).fault = s.fault) := by
  cases r with
  | ok k =>
    by_cases hc : s.cap < s.outBuf.length + k
    · rw [show pairRecvDone wc room s (.ok k) = _ from if_pos hc, show (outDir s).recvd (wc || s.pair.err) (.ok k) = _ from if_pos hc]
      exact ⟨rfl, rfl, fun h => absurd (h k rfl) (by omega)⟩
    · rw [show pairRecvDone wc room s (.ok k) = _ from if_neg hc, show (outDir s).recvd (wc || s.pair.err) (.ok k) = _ from if_neg hc]
      exact ⟨rfl, rfl, fun _ => rfl⟩
  | again => cases hb : (wc || s.pair.err) <;> simp only [pairRecvDone, Dir.recvd, hb] <;> exact ⟨rfl, rfl, fun _ => rfl⟩
  | _ => exact ⟨rfl, rfl, fun _ => rfl⟩

theorem pairRecv_spec (wc : Bool) (e : Env) (s : St) :
    OutSide s (stagePairRecv wc e s) ∧
    outDir (stagePairRecv wc e s) = (outDir s).recvStage ⟨(s.pair.err || s.pair.rd) || wc, wc || s.pair.err, s.sendMax⟩ e.pairRecv ∧
    (s.outSize ≤ s.cap → (stagePairRecv wc e s).fault = s.fault) := by
  rw [stagePairRecv_eq]
  show _ ∧ _ = (if ((s.pair.err || s.pair.rd) || wc) && decide (s.outBuf.length < s.outSize) then _ else _) ∧ _
  split
  · rename_i hc
    have hlt : s.outBuf.length < s.outSize := of_decide_eq_true (Bool.and_eq_true_iff.mp hc).2
    obtain ⟨a, b, c⟩ := pairRecvDone_spec wc (min (s.outSize - s.outBuf.length) s.sendMax) (logIo .pairRecv s)
      (recvRes e.pairRecv (min (s.outSize - s.outBuf.length) s.sendMax) s.pairIn.length)
    exact ⟨.trans (b := logIo .pairRecv s) rfl a, b, fun h => c fun k hr =>
      Nat.le_trans (recvRes_fits (d := outDir s) hlt hr) h⟩
  · exact ⟨rfl, rfl, fun _ => rfl⟩

def tlsSendDone (s : St) : IoRes → St
  | .ok k => { s with toClient := s.toClient ++ s.outBuf.take k, outBuf := s.outBuf.drop k }
  | .intr => s
  | .again => { s with remote := { s.remote with wr := false } }
  | _ => { s with remote := { s.remote with wr := false },
                  dropOut := s.dropOut ++ s.outBuf, outBuf := [], outSize := 0,
                  pair := { s.pair with rd := false } }

def tlsSendTail (s : St) : St :=
  if s.outBuf.isEmpty && s.remote.err then
    { s with remote := { s.remote with wr := false }, outSize := 0, pair := { s.pair with rd := false } }
  else s

theorem stageTlsSend_eq (e : Env) (s : St) : stageTlsSend e s =
    if s.remote.wr && decide (s.outBuf.length > 0) then
      tlsSendTail (tlsSendDone (logIo .tlsSend s) (sendRes e.tlsSend (min s.outBuf.length s.ssizeMax)))
    else s := rfl

theorem tlsSend_spec (e : Env) (s : St) :
    OutSide s (stageTlsSend e s) ∧
    outDir (stageTlsSend e s) = (outDir s).sendStage ⟨s.remote.wr, s.remote.err, s.ssizeMax⟩ e.tlsSend ∧
    (stageTlsSend e s).fault = s.fault := by
  rw [stageTlsSend_eq]
  show _ ∧ _ = (if s.remote.wr && decide (s.outBuf.length > 0) then _ else _) ∧ _
  split
  · have a : ∀ (s : St) r, OutSide s (tlsSendDone s r) ∧ outDir (tlsSendDone s r) = (outDir s).sentd r ∧
        (tlsSendDone s r).fault = s.fault ∧ (tlsSendDone s r).remote.err = s.remote.err := by
      intro s r; cases r <;> exact ⟨rfl, rfl, rfl, rfl⟩
    have b : ∀ s : St, OutSide s (tlsSendTail s) ∧ outDir (tlsSendTail s) = (outDir s).tail s.remote.err ∧
        (tlsSendTail s).fault = s.fault := by
      intro s; unfold tlsSendTail Dir.tail
      show _ ∧ _ = (if s.outBuf.isEmpty && s.remote.err then _ else _) ∧ _
      split <;> exact ⟨rfl, rfl, rfl⟩
    obtain ⟨a1, a2, a3, a4⟩ := a (logIo .tlsSend s) (sendRes e.tlsSend (min s.outBuf.length s.ssizeMax))
    obtain ⟨b1, b2, b3⟩ := b (tlsSendDone (logIo .tlsSend s) (sendRes e.tlsSend (min s.outBuf.length s.ssizeMax)))
    exact ⟨.trans (b := logIo .tlsSend s) rfl (a1.trans b1), by rw [b2, a2, a4]; rfl, b3.trans a3⟩
  · exact ⟨rfl, rfl, rfl⟩

def pairSendDone (avail : Nat) (s : St) : IoRes → St
  | .ok k =>
    let s' := { s with toApp := s.toApp ++ s.inBuf.take k, inBuf := s.inBuf.drop k }
    if ! (s.inBuf.drop k).isEmpty && decide (avail > k) then { s' with pair := { s'.pair with wr := false } } else s'
  | .intr => s
  | .again => { s with pair := { s.pair with wr := false } }
  | _ => { s with pair := { s.pair with wr := false },
                  dropIn := s.dropIn ++ s.inBuf, inBuf := [], inSize := 0,
                  remote := { s.remote with rd := false }, tlsReadReady := false }

def pairSendTail (s : St) : St :=
  if s.inBuf.isEmpty && s.pair.err then
    { s with pair := { s.pair with wr := false }, inSize := 0, remote := { s.remote with rd := false }, tlsReadReady := false }
  else s

theorem stagePairSend_eq (e : Env) (s : St) : stagePairSend e s =
    if s.pair.wr && decide (s.inBuf.length > 0) then
      pairSendTail (pairSendDone (min s.inBuf.length s.sendMax) (logIo .pairSend s)
        (sendRes e.pairSend (min s.inBuf.length s.sendMax)))
    else s := rfl

theorem pairSend_spec (e : Env) (s : St) :
    InSide s (stagePairSend e s) ∧
    inDir (stagePairSend e s) = (inDir s).sendStage ⟨s.pair.wr, s.pair.err, s.sendMax⟩ e.pairSend ∧
    (stagePairSend e s).fault = s.fault := by
  rw [stagePairSend_eq]
  show _ ∧ _ = (if s.pair.wr && decide (s.inBuf.length > 0) then _ else _) ∧ _
  split
  · have a : ∀ n (s : St) r, InSide s (pairSendDone n s r) ∧ inDir (pairSendDone n s r) = (inDir s).sentd r ∧
        (pairSendDone n s r).fault = s.fault ∧ (pairSendDone n s r).pair.err = s.pair.err := by
      intro n s r
      cases r with
      | ok k => simp only [pairSendDone]; split <;> exact ⟨rfl, rfl, rfl, rfl⟩
      | _ => exact ⟨rfl, rfl, rfl, rfl⟩
    have b : ∀ s : St, InSide s (pairSendTail s) ∧ inDir (pairSendTail s) = (inDir s).tail s.pair.err ∧
        (pairSendTail s).fault = s.fault := by
      intro s; unfold pairSendTail Dir.tail
      show _ ∧ _ = (if s.inBuf.isEmpty && s.pair.err then _ else _) ∧ _
      split <;> exact ⟨rfl, rfl, rfl⟩
    obtain ⟨a1, a2, a3, a4⟩ := a (min s.inBuf.length s.sendMax) (logIo .pairSend s) (sendRes e.pairSend (min s.inBuf.length s.sendMax))
    obtain ⟨b1, b2, b3⟩ := b (pairSendDone (min s.inBuf.length s.sendMax) (logIo .pairSend s)
      (sendRes e.pairSend (min s.inBuf.length s.sendMax)))
    exact ⟨.trans (b := logIo .pairSend s) rfl (a1.trans b1), by rw [b2, a2, a4]; rfl, b3.trans a3⟩
  · exact ⟨rfl, rfl, rfl⟩

theorem pre_spec (sh : Bool) (s : St) :
    inDir (stagePre sh s) = (inDir s).discardIf (sh || s.wasClosed) ∧ outDir (stagePre sh s) = outDir s ∧
    Misc s (stagePre sh s) ∧ (stagePre sh s).wasClosed = (sh || s.wasClosed) ∧ (stagePre sh s).fault = s.fault := by
  cases sh
  · simp only [stagePre, Dir.discardIf, Bool.false_or, Bool.false_eq_true, ↓reduceIte]
    split <;> exact ⟨rfl, rfl, ⟨rfl, rfl, rfl⟩, rfl, rfl⟩
  · exact ⟨rfl, rfl, ⟨rfl, rfl, rfl⟩, rfl, rfl⟩

def postPending (s : St) : St :=
  if s.tlsReadReady && decide (s.inBuf.length < s.inSize) && ! s.tpc then { s with pending := true } else s

def postDiscard (shutdown : Bool) (s : St) : St :=
  if shutdown && (s.outSize != 0 || ! s.outBuf.isEmpty) then
    { s with dropOut := s.dropOut ++ s.outBuf, outBuf := [], remote := { s.remote with wr := false },
             outSize := 0, pair := { s.pair with rd := false } }
  else s

def postRerun (wasClosed : Bool) (s : St) : St :=
  if ! wasClosed && s.wasClosed then { s with pending := true } else s

theorem stagePost_eq (sh wc : Bool) (s : St) : stagePost sh wc s = postRerun wc (postDiscard sh (postPending s)) := rfl

theorem post_spec (sh wc : Bool) (s : St) :
    OutSide s (stagePost sh wc s) ∧ outDir (stagePost sh wc s) = (outDir s).flush sh ∧ (stagePost sh wc s).fault = s.fault := by
  rw [stagePost_eq]
  have a : OutSide s (postPending s) ∧ outDir (postPending s) = outDir s ∧ (postPending s).fault = s.fault := by
    unfold postPending; split <;> exact ⟨rfl, rfl, rfl⟩
  have b : ∀ s : St, OutSide s (postDiscard sh s) ∧ outDir (postDiscard sh s) = (outDir s).flush sh ∧
      (postDiscard sh s).fault = s.fault := by
    intro s; unfold postDiscard
    show _ ∧ _ = (if sh && (s.outSize != 0 || ! s.outBuf.isEmpty) then _ else _) ∧ _
    split <;> exact ⟨rfl, rfl, rfl⟩
  have c : ∀ s : St, OutSide s (postRerun wc s) ∧ outDir (postRerun wc s) = outDir s ∧ (postRerun wc s).fault = s.fault := by
    intro s; unfold postRerun; split <;> exact ⟨rfl, rfl, rfl⟩
  obtain ⟨b1, b2, b3⟩ := b (postPending s)
  obtain ⟨c1, c2, c3⟩ := c (postDiscard sh (postPending s))
  exact ⟨(a.1.trans b1).trans c1, by rw [c2, b2, a.2.1], c3.trans (b3.trans a.2.2)⟩

/-- **`process_urh` is two pipelines.**  Client → application: the `was_closed` block, a receive from the TLS
    socket, a send to the socketpair.  Application → client: a receive from the socketpair (forced, and final
    on EAGAIN, once the connection counts as closed), a send to the TLS socket, the shutdown block.  The knobs
    are whatever the readiness bits are at the time; nothing below depends on them. -/
theorem processUrh_spec (sh : Bool) (e : Env) (s : St) : ∃ ri si ro so : Knobs,
    inDir (processUrh sh e s)
      = (((inDir s).discardIf (sh || s.wasClosed)).recvStage ri e.tlsRecv).sendStage si e.pairSend ∧
    outDir (processUrh sh e s) = (((outDir s).recvStage ro e.pairRecv).sendStage so e.tlsSend).flush sh ∧
    ((sh || s.wasClosed) = true → ro.ready = true ∧ ro.halt = true) ∧
    Misc s (processUrh sh e s) ∧ (processUrh sh e s).wasClosed = (sh || s.wasClosed) ∧
    (s.inSize ≤ s.cap → s.outSize ≤ s.cap → (processUrh sh e s).fault = s.fault) := by
  unfold processUrh
  simp only []
  obtain ⟨p1, p2, p3, p4, p5⟩ := pre_spec sh s
  generalize stagePre sh s = s1 at *
  obtain ⟨a1, a2, a3⟩ := tlsRecv_spec e s1
  generalize stageTlsRecv e s1 = s2 at *
  obtain ⟨b1, b2, b3⟩ := pairRecv_spec s1.wasClosed e s2
  generalize stagePairRecv s1.wasClosed e s2 = s3 at *
  obtain ⟨c1, c2, c3⟩ := tlsSend_spec e s3
  generalize stageTlsSend e s3 = s4 at *
  obtain ⟨d1, d2, d3⟩ := pairSend_spec e s4
  generalize stagePairSend e s4 = s5 at *
  obtain ⟨e1, e2, e3⟩ := post_spec sh s1.wasClosed s5
  have hin := e1.inDir.trans d2
  rw [c1.inDir, b1.inDir, a2, p1] at hin
  have hout := e2
  rw [d1.outDir, c2, b2, a1.outDir, p2] at hout
  refine ⟨_, _, _, _, hin, hout, fun h => ?_,
    ((((p3.trans a1.misc).trans b1.misc).trans c1.misc).trans d1.misc).trans e1.misc, ?_, fun hi ho => ?_⟩
  · rw [p4, h]; exact ⟨Bool.or_true _, rfl⟩
  · rw [e1.wc, d1.wc, c1.wc, b1.wc, a1.wc, p4]
  · have h1 : (inDir s1).size ≤ (inDir s1).cap := by
      rw [p1]; exact Dir.discardIf_size_le hi _
    have h2 : (outDir s2).size ≤ (outDir s2).cap := by rw [a1.outDir, p2]; exact ho
    rw [e3, d3, c3, b3 h2, a3 h1, p5]

structure Inv (s : St) : Prop where
  i : DirI (inDir s)
  o : DirI (outDir s)
  nf : s.fault = none
  rel : s.released = (if s.loc = .suspended then 0 else 1)
  clean : s.cleanReady = true → finished s = true ∧ s.pairShut = true

theorem inv_init (cap a b : Nat) (tpc : Bool) : Inv (St.init cap a b tpc) := by
  refine ⟨⟨rfl, Or.inl rfl, Nat.zero_le _, Nat.le_refl _⟩, ⟨rfl, Or.inl rfl, Nat.zero_le _, Nat.le_refl _⟩, rfl, rfl, nofun⟩

theorem finished_congr {s t : St} (a : t.inSize = s.inSize) (b : t.outSize = s.outSize) (c : t.inBuf = s.inBuf)
    (d : t.outBuf = s.outBuf) : finished t = finished s := by
  unfold finished; rw [a, b, c, d]

theorem visit_cases (sh lv : Bool) (rdy : Celi × Celi) (e : Env) (s : St) :
    visit sh lv rdy e s = s ∨ (s.loc = .suspended ∧ s.cleanReady = false) := by
  by_cases hg : s.loc ≠ .suspended ∨ s.cleanReady = true
  · exact .inl (if_pos hg)
  · refine .inr ⟨Classical.byContradiction fun hx => hg (.inl hx), ?_⟩
    cases hx : s.cleanReady with
    | false => rfl
    | true => exact absurd (.inr hx) hg

/-- **A visit that runs** is the two pipelines of `process_urh` on the two directions (the merged readiness only
    chooses the knobs) followed by the finish test: `clean_ready` is set exactly when both directions have come to
    rest, and then the socketpair is shut down and the connection marked for resuming.  Nothing else of the life
    cycle is written. -/
theorem visit_spec (sh lv : Bool) (rdy : Celi × Celi) (e : Env) (s : St) {t : St} (ht : visit sh lv rdy e s = t)
    (hl : s.loc = .suspended) (hc : s.cleanReady = false) : ∃ ri si ro so : Knobs,
    inDir t = (((inDir s).discardIf (sh || s.wasClosed)).recvStage ri e.tlsRecv).sendStage si e.pairSend ∧
    outDir t = (((outDir s).recvStage ro e.pairRecv).sendStage so e.tlsSend).flush sh ∧
    ((sh || s.wasClosed) = true → ro.ready = true ∧ ro.halt = true) ∧
    t.wasClosed = (sh || s.wasClosed) ∧ t.loc = .suspended ∧ t.released = s.released ∧
    (s.inSize ≤ s.cap → s.outSize ≤ s.cap → t.fault = s.fault) ∧
    t.cleanReady = finished t ∧ (finished t = true → t.pairShut = true ∧ t.resuming = true) := by
  subst ht
  unfold visit
  rw [if_neg (by simp [hl, hc])]
  obtain ⟨ri, si, ro, so, hin, hout, hk, ⟨m1, m2, m3⟩, hw, hf⟩ := processUrh_spec sh e (mergeReady lv rdy s)
  refine ⟨ri, si, ro, so, ?_⟩
  generalize processUrh sh e (mergeReady lv rdy s) = t at *
  have hcr : t.cleanReady = false := m3.trans hc
  unfold afterProcess
  split
  · rename_i hfin
    exact ⟨hin, hout, hk, hw, m2.trans hl, m1, hf, (Bool.and_eq_true_iff.mp hfin).1.symm, fun _ => ⟨rfl, rfl⟩⟩
  · rename_i hfin
    have h0 : finished t = false := by
      cases hx : finished t with
      | false => rfl
      | true => rw [hx, hcr] at hfin; exact absurd rfl hfin
    exact ⟨hin, hout, hk, hw, m2.trans hl, m1, hf, hcr.trans h0.symm, fun h => by rw [h0] at h; cases h⟩

theorem inv_visit (sh lv : Bool) (rdy : Celi × Celi) (e : Env) (s : St) (h : Inv s) : Inv (visit sh lv rdy e s) := by
  rcases visit_cases sh lv rdy e s with hs | ⟨hl, hc⟩
  · rw [hs]; exact h
  · obtain ⟨ri, si, ro, so, hin, hout, -, -, l, r, hf, hcl, hfin⟩ := visit_spec sh lv rdy e s rfl hl hc
    refine ⟨hin ▸ ((h.i.discardIf _).recvStage ri _).sendStage si _, hout ▸ ((h.o.recvStage ro _).sendStage so _).flush sh,
      (hf h.i.size h.o.size).trans h.nf, ?_, fun hx => ⟨hcl ▸ hx, (hfin (hcl ▸ hx)).1⟩⟩
    rw [r, l, h.rel, hl]

theorem inv_step (s : St) (op : Op) (h : Inv s) : Inv (step s op) := by
  cases op with
  | clientSend bs => exact ⟨h.i.feed bs, h.o, h.nf, h.rel, h.clean⟩
  | appSend bs =>
    simp only [step]
    split
    · exact h
    · exact ⟨h.i, h.o.feed bs, h.nf, h.rel, h.clean⟩
  | visit lv rdy e => exact inv_visit false lv rdy e s h
  | stopVisit lv rdy e => exact inv_visit true lv rdy e s h
  | appClose =>
    simp only [step, appClose]
    split
    · exact h
    · exact ⟨h.i, h.o, h.nf, h.rel, h.clean⟩
  | resumeScan =>
    simp only [step, resumeScan]
    split
    · rename_i hc
      split
      · refine ⟨h.i, h.o, h.nf, ?_, h.clean⟩
        have := h.rel; rw [hc.1, if_pos rfl] at this
        show s.released + 1 = _
        rw [this]; rfl
      · exact h
    · exact h
  | cleanup =>
    simp only [step, cleanup]
    split
    · rename_i hc
      refine ⟨h.i, h.o, h.nf, ?_, h.clean⟩
      have := h.rel; rw [hc] at this
      exact this
    · exact h

theorem inv_run (s : St) (ops : List Op) (h : Inv s) : Inv (run s ops) :=
  List.foldlRecOn ops _ h fun s hs op _ => inv_step s op hs

end Mhd.UpgTls
