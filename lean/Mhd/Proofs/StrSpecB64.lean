/-
  C17 reference specification of `MHD_base64_to_bin_n`: the RFC 4648 section 4
  decoder with mandatory, canonical padding; independent of the model like
  those of `StrSpec`.
-/
import Mhd.Model.Str

namespace Mhd.Str

/-- RFC 4648 table 1 -/
def b64val (c : UInt8) : Option Nat :=
  if 0x41 ≤ c ∧ c ≤ 0x5a then some (c.toNat - 0x41)
  else if 0x61 ≤ c ∧ c ≤ 0x7a then some (c.toNat - 0x61 + 26)
  else if 0x30 ≤ c ∧ c ≤ 0x39 then some (c.toNat - 0x30 + 52)
  else if c = 0x2b then some 62
  else if c = 0x2f then some 63
  else none

def B1 (v1 v2 : Nat) : UInt8 := UInt8.ofNat (v1 * 4 + v2 / 16)
def B2 (v2 v3 : Nat) : UInt8 := UInt8.ofNat (v2 % 16 * 16 + v3 / 4)
def B3 (v3 v4 : Nat) : UInt8 := UInt8.ofNat (v3 % 4 * 64 + v4)

/-- a full group: four alphabet characters, three bytes -/
def b64Full (a b c d : UInt8) : Option Bytes :=
  match b64val a, b64val b, b64val c, b64val d with
  | some v1, some v2, some v3, some v4 => some [B1 v1 v2, B2 v2 v3, B3 v3 v4]
  | _, _, _, _ => none

/-- the final group: may end in "=" or "=="; the unused low bits of the last
    alphabet character must be zero (canonical encoding) -/
def b64Final (a b c d : UInt8) : Option Bytes :=
  match b64val a, b64val b with
  | some v1, some v2 =>
    match b64val c with
    | none => if c = 0x3d ∧ d = 0x3d ∧ v2 % 16 = 0 then some [B1 v1 v2] else none
    | some v3 =>
      match b64val d with
      | none => if d = 0x3d ∧ v3 % 4 = 0 then some [B1 v1 v2, B2 v2 v3] else none
      | some v4 => some [B1 v1 v2, B2 v2 v3, B3 v3 v4]
  | _, _ => none

def b64Spec : Bytes → Option Bytes
  | [] => some []
  | a :: b :: c :: d :: rest =>
    if rest = [] then b64Final a b c d
    else
      match b64Full a b c d with
      | some x => (b64Spec rest).map (x ++ ·)
      | none => none
  | _ => none

theorem b64Spec_nil : b64Spec [] = some [] := by rw [b64Spec.eq_def]

theorem b64Spec_last (a b c d : UInt8) : b64Spec [a, b, c, d] = b64Final a b c d := by
  rw [b64Spec.eq_def]; simp

theorem b64Spec_full (a b c d : UInt8) (rest : Bytes) (h : rest ≠ []) :
    b64Spec (a :: b :: c :: d :: rest) =
      match b64Full a b c d with
      | some x => (b64Spec rest).map (x ++ ·)
      | none => none := by
  rw [b64Spec.eq_def]; simp [h]

theorem b64Spec_short (s : Bytes) (h : 0 < s.length ∧ s.length < 4) : b64Spec s = none := by
  rw [b64Spec.eq_def]
  match s, h with
  | [_], _ => rfl
  | [_, _], _ => rfl
  | [_, _, _], _ => rfl

theorem b64Full_length {a b c d : UInt8} {x : Bytes} (h : b64Full a b c d = some x) : x.length = 3 := by
  unfold b64Full at h
  split at h
  · injection h with h; subst h; rfl
  · simp at h

theorem b64Final_length {a b c d : UInt8} {x : Bytes} (h : b64Final a b c d = some x) : 1 ≤ x.length ∧ x.length ≤ 3 := by
  unfold b64Final at h
  split at h
  · split at h
    · split at h
      · injection h with h; subst h; simp
      · simp at h
    · split at h
      · split at h
        · injection h with h; subst h; simp
        · simp at h
      · injection h with h; subst h; simp
  · simp at h

theorem b64Spec_length (s d : Bytes) (h : b64Spec s = some d) :
    ∃ g, s.length = 4 * g ∧ d.length ≤ 3 * g ∧ (s ≠ [] → 3 * g ≤ d.length + 2) := by
  induction s using b64Spec.induct generalizing d with
  | case1 => rw [b64Spec_nil] at h; injection h with h; subst h; exact ⟨0, rfl, Nat.le_refl _, fun h => absurd rfl h⟩
  | case2 a b c e =>
    rw [b64Spec_last] at h
    have := b64Final_length h
    exact ⟨1, rfl, this.2, fun _ => by omega⟩
  | case3 a b c e rest hr x hf ih =>
    rw [b64Spec_full _ _ _ _ _ hr, hf] at h
    simp only [Option.map_eq_some_iff] at h
    obtain ⟨d', hd', rfl⟩ := h
    obtain ⟨g, h1, h2, h3⟩ := ih d' hd'
    have hx := b64Full_length hf
    have h3 := h3 hr
    refine ⟨g + 1, by simp only [List.length_cons, h1]; omega, by rw [List.length_append, hx]; omega, fun _ => by
      rw [List.length_append, hx]; omega⟩
  | case4 a b c e rest hr hf =>
    rw [b64Spec_full _ _ _ _ _ hr, hf] at h; contradiction
  | case5 s h1 h2 =>
    rw [b64Spec.eq_def] at h
    split at h
    · exact absurd rfl h1
    · exact absurd rfl (h2 _ _ _ _ _)
    · contradiction

end Mhd.Str
