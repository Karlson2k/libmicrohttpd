/-
  C14: base64 round trip, split at the first colon, exactness of parse_bauth_params.
-/
import Mhd.Proofs.AuthScan
import Mhd.Model.AuthInfo
namespace Mhd.Auth
open Mhd.Gen.Auth

/-- each character of the alphabet stands in the decoding table at its own value … -/
theorem b64map_alphabet : (b64Alphabet.zipIdx.all fun (c, v) => b64map[c.toNat]? == some v) = true := by
  decide +kernel

/-- … and the table holds nothing else below 64, and 65 only at '=' -/
theorem b64map_inv : (b64map.zipIdx.all fun (v, n) =>
    if v < 64 then b64Alphabet[v]? == some (UInt8.ofNat n) else v != 65 || n == 61) = true := by
  decide +kernel

theorem b64Char_eq (v : Nat) (h : v < 64) : b64Alphabet[v]? = some (b64Char v) := by
  have hl : v < b64Alphabet.length := h
  simp [b64Char, List.getD, hl]

theorem b64Val_char (v : Nat) (h : v < 64) : b64Val (b64Char v) = .val v := by
  have := List.all_eq_true.mp b64map_alphabet (b64Char v, v)
    (List.mk_mem_zipIdx_iff_getElem?.mpr (b64Char_eq v h))
  simp only [beq_iff_eq] at this
  simp [b64Val, this, h]

theorem b64Val_pad : b64Val 61 = .pad := by decide

theorem ofNat_eq_of (a : UInt8) (k : Nat) (h : k = a.toNat) : UInt8.ofNat k = a := by
  rw [h, UInt8.ofNat_toNat]

theorem digits_lt (a b m n : Nat) (ha : a < n) (hb : b < m) : a * m + b < n * m :=
  calc a * m + b < a * m + m := Nat.add_lt_add_left hb _
    _ = (a + 1) * m := (Nat.succ_mul a m).symm
    _ ≤ n * m := Nat.mul_le_mul_right m ha

/-- three bytes cut into four sextets, and the sextets put together again the way the decoder does it -/
theorem sextets_join (x y z : Nat) (hx : x < 256) (hy : y < 256) (hz : z < 256) :
    (x / 4 < 64 ∧ x % 4 * 16 + y / 16 < 64 ∧ y % 16 * 4 + z / 64 < 64 ∧ z % 64 < 64) ∧
    (x / 4 * 4 + (x % 4 * 16 + y / 16) / 16) % 256 = x ∧
    ((x % 4 * 16 + y / 16) * 16 + (y % 16 * 4 + z / 64) / 4) % 256 = y ∧
    ((y % 16 * 4 + z / 64) * 64 + z % 64) % 256 = z := by
  have hy16 : y / 16 < 16 := Nat.div_lt_of_lt_mul hy
  have hz64 : z / 64 < 4 := Nat.div_lt_of_lt_mul hz
  refine ⟨⟨Nat.div_lt_of_lt_mul hx, digits_lt _ _ 16 4 (Nat.mod_lt _ (by decide)) hy16,
    digits_lt _ _ 4 16 (Nat.mod_lt _ (by decide)) hz64, Nat.mod_lt _ (by decide)⟩, ?_, ?_, ?_⟩
  · rw [Nat.add_comm (x % 4 * 16), Nat.add_mul_div_right _ _ (by decide), Nat.div_eq_of_lt hy16, Nat.zero_add,
      Nat.div_add_mod', Nat.mod_eq_of_lt hx]
  · rw [Nat.add_comm (y % 16 * 4), Nat.add_mul_div_right _ _ (by decide), Nat.div_eq_of_lt hz64, Nat.zero_add,
      Nat.add_mul, Nat.mul_assoc, Nat.add_assoc, Nat.div_add_mod', Nat.mul_add_mod' _ 256, Nat.mod_eq_of_lt hy]
  · rw [Nat.add_mul, Nat.mul_assoc, Nat.add_assoc, Nat.div_add_mod', Nat.mul_add_mod' _ 256, Nat.mod_eq_of_lt hz]

theorem b64Enc_ne_nil (bs : Bytes) (h : bs ≠ []) : b64Enc bs ≠ [] := by
  match bs, h with
  | [_], _ => simp [b64Enc]
  | [_, _], _ => simp [b64Enc]
  | _ :: _ :: _ :: _, _ => simp [b64Enc]

theorem b64Blocks_enc : ∀ (n : Nat) (bs : Bytes), bs.length ≤ n → bs ≠ [] → b64Blocks (b64Enc bs) = some bs := by
  intro n
  induction n with
  | zero => intro bs h hne; cases bs <;> simp_all
  | succ n ih =>
    intro bs h hne
    match bs, h, hne with
    | [a], _, _ =>
      obtain ⟨⟨l1, l2, _, _⟩, h1, _, _⟩ := sextets_join a.toNat 0 0 a.toNat_lt (by decide) (by decide)
      simp only [Nat.zero_div, Nat.add_zero] at l2 h1
      have hz : a.toNat % 4 * 16 * 16 % 256 = 0 := by rw [Nat.mul_assoc]; exact Nat.mul_mod_left _ _
      simp only [b64Enc, b64Blocks, b64Last, b64Val_char _ l1, b64Val_char _ l2, b64Val_pad, hz,
        ofNat_eq_of a _ h1, ne_eq, not_true, if_false]
    | [a, b], _, _ =>
      obtain ⟨⟨l1, l2, l3, _⟩, h1, h2, _⟩ := sextets_join a.toNat b.toNat 0 a.toNat_lt b.toNat_lt (by decide)
      simp only [Nat.zero_div, Nat.add_zero] at l3 h2
      have hz : b.toNat % 16 * 4 * 64 % 256 = 0 := by rw [Nat.mul_assoc]; exact Nat.mul_mod_left _ _
      simp only [b64Enc, b64Blocks, b64Last, b64Val_char _ l1, b64Val_char _ l2, b64Val_char _ l3, b64Val_pad, hz,
        ofNat_eq_of a _ h1, ofNat_eq_of b _ h2, ne_eq, not_true, if_false]
    | a :: b :: c :: r, h, _ =>
      obtain ⟨⟨l1, l2, l3, l4⟩, h1, h2, h3⟩ := sextets_join a.toNat b.toNat c.toNat a.toNat_lt b.toNat_lt c.toNat_lt
      rw [b64Enc]
      cases r with
      | nil =>
        simp only [b64Enc, b64Blocks, b64Last, b64Val_char _ l1, b64Val_char _ l2, b64Val_char _ l3,
          b64Val_char _ l4, ofNat_eq_of a _ h1, ofNat_eq_of b _ h2, ofNat_eq_of c _ h3]
      | cons d r =>
        have hr := ih (d :: r) (by simp at h ⊢; omega) (by simp)
        rw [b64Blocks]
        · simp only [b64Val_char _ l1, b64Val_char _ l2, b64Val_char _ l3, b64Val_char _ l4, hr,
            ofNat_eq_of a _ h1, ofNat_eq_of b _ h2, ofNat_eq_of c _ h3, Option.map_some]
        · exact b64Enc_ne_nil _ (by simp)

theorem b64Enc_length : ∀ (n : Nat) (bs : Bytes), bs.length ≤ n → (b64Enc bs).length % 4 = 0 := by
  intro n
  induction n with
  | zero => intro bs h; cases bs <;> simp_all [b64Enc]
  | succ n ih =>
    intro bs h
    match bs, h with
    | [], _ => simp [b64Enc]
    | [a], _ => simp [b64Enc]
    | [a, b], _ => simp [b64Enc]
    | a :: b :: c :: r, h =>
      have := ih r (by simp at h ⊢; omega)
      simp only [b64Enc, List.length_cons]
      omega

theorem b64Dec_enc (bs : Bytes) (hne : bs ≠ []) : b64Dec (b64Enc bs) = some bs := by
  have h4 := b64Enc_length bs.length bs (Nat.le_refl _)
  have hp := List.length_pos_iff.mpr (b64Enc_ne_nil bs hne)
  unfold b64Dec
  rw [if_neg (by omega), if_neg (by omega)]
  exact b64Blocks_enc bs.length bs (Nat.le_refl _) hne

theorem splitColon_append (u pw : Bytes) (hu : ∀ c ∈ u, c ≠ 58) : splitColon (u ++ 58 :: pw) = (u, some pw) := by
  induction u with
  | nil => simp [splitColon]
  | cons c r ih =>
    have hc : c ≠ 58 := hu c (by simp)
    simp [splitColon, hc, ih (fun x hx => hu x (by simp [hx]))]

theorem splitColon_none (u : Bytes) (hu : ∀ c ∈ u, c ≠ 58) : splitColon u = (u, none) := by
  induction u with
  | nil => simp [splitColon]
  | cons c r ih =>
    have hc : c ≠ 58 := hu c (by simp)
    simp [splitColon, hc, ih (fun x hx => hu x (by simp [hx]))]

/-- bytes a token68 may consist of as far as `parse_bauth_params` is concerned -/
def tok68Byte (c : UInt8) : Bool := c ≠ 32 && c ≠ 9 && c ≠ 0 && c ≠ 44 && c ≠ 59

theorem b64Char_tok68 (v : Nat) : tok68Byte (b64Char v) = true := by
  have hall : (61 :: b64Alphabet).all tok68Byte = true := by decide +kernel
  apply List.all_eq_true.mp hall
  unfold b64Char List.getD
  cases h : b64Alphabet[v]? with
  | none => simp
  | some c => simp [List.mem_of_getElem? h]

theorem b64Enc_tok68 : ∀ (n : Nat) (bs : Bytes), bs.length ≤ n → (b64Enc bs).all tok68Byte = true := by
  intro n
  induction n with
  | zero => intro bs h; cases bs <;> simp_all [b64Enc]
  | succ n ih =>
    intro bs h
    match bs, h with
    | [], _ => simp [b64Enc]
    | [a], _ => simp [b64Enc, b64Char_tok68]; decide
    | [a, b], _ => simp [b64Enc, b64Char_tok68]; decide
    | a :: b :: c :: r, h =>
      have := ih r (by simp at h ⊢; omega)
      simp [b64Enc, b64Char_tok68, this]

theorem scanTok68_nil : scanTok68 [] = some ([], []) := by rw [scanTok68.eq_def]
theorem scanTok68_cons (c : UInt8) (r : Bytes) :
    scanTok68 (c :: r) = if c = 32 ∨ c = 9 then some ([], c :: r) else if c = 0 then none
      else if c = 44 ∨ c = 59 then none else (scanTok68 r).map fun (t, rest) => (c :: t, rest) := by
  rw [scanTok68.eq_def]

theorem scanTok68_ok (tok rest : Bytes) (ht : tok.all tok68Byte = true)
    (hr : rest = [] ∨ ∃ c r, rest = c :: r ∧ isWs c = true) : scanTok68 (tok ++ rest) = some (tok, rest) := by
  induction tok with
  | nil =>
    rcases hr with h | ⟨c, r, h, hc⟩
    · subst h; simp [scanTok68_nil]
    · subst h; rw [isWs_iff] at hc; simp [scanTok68_cons, hc]
  | cons c r ih =>
    simp only [List.all_cons, Bool.and_eq_true] at ht
    have hc := ht.1
    simp only [tok68Byte, Bool.and_eq_true, ne_eq, decide_eq_true_eq] at hc
    obtain ⟨⟨⟨⟨h32, h9⟩, h0⟩, h44⟩, h59⟩ := hc
    simp [scanTok68_cons, h32, h9, h0, h44, h59, ih ht.2]

theorem scanTok68_sound (s tok rest : Bytes) (h : scanTok68 s = some (tok, rest)) :
    s = tok ++ rest ∧ tok.all tok68Byte = true := by
  induction s generalizing tok rest with
  | nil => simp [scanTok68_nil] at h; obtain ⟨rfl, rfl⟩ := h; simp
  | cons c r ih =>
    rw [scanTok68_cons] at h
    split at h
    · rename_i hc
      simp at h; obtain ⟨rfl, rfl⟩ := h
      exact ⟨rfl, rfl⟩
    · rename_i hws
      split at h
      · simp at h
      · rename_i h0
        split at h
        · simp at h
        · rename_i hcs
          simp only [Option.map_eq_some_iff] at h
          obtain ⟨⟨t', rest'⟩, hrec, heq⟩ := h
          simp at heq; obtain ⟨rfl, rfl⟩ := heq
          obtain ⟨h1, h2⟩ := ih t' rest' hrec
          refine ⟨by rw [h1]; rfl, ?_⟩
          simp only [List.all_cons, h2, Bool.and_true, tok68Byte, Bool.and_eq_true, ne_eq, decide_eq_true_eq]
          exact ⟨⟨⟨⟨fun h => hws (Or.inl h), fun h => hws (Or.inr h)⟩, h0⟩, fun h => hcs (Or.inl h)⟩, fun h => hcs (Or.inr h)⟩

end Mhd.Auth
