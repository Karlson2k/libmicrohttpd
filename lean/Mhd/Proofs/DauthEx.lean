/-
  C12: a concrete valid credential (non-vacuity of the validity theorems): user `us\er`, realm `r"lm`,
  request `GET /a%20b?k=v+w&e=` seen by the handler as path "/a b" with arguments k="v w", e; qop=auth,
  nc=0000000A, a registered MD5-sized nonce of age 1 s.  The response is the RFC value, kept symbolic.
-/
import Mhd.Proofs.DauthHex
import Mhd.Proofs.DauthValid
namespace Mhd.Dauth
open Mhd.Auth Mhd.Gen.Auth Mhd.Gen.Dauth

/-- lengths as sent of the canonical rendering (nothing escaped) -/
def canonLv (c : Cred) : LenView := fun k => (c.val k).map List.length

theorem lenSem_canon (c : Cred) (h : c.ext = c.val kUsernameExt) : LenSem c (canonLv c) := by
  refine ⟨fun k => ?_, fun k => ?_, ?_⟩
  · simp [canonLv]
  · simp only [canonLv]
    cases c.val k with
    | none => simp
    | some v => simp [List.length_eq_zero_iff]
  · simp [canonLv, h]

namespace Ex
def nonce : Bytes := ([48, 48, 48, 48, 48, 48, 48, 48, 48, 48, 48, 48, 48, 48, 48, 48, 48, 48, 48, 48, 48, 48, 48, 48, 48, 48, 48, 48, 48, 48, 48, 48, 48, 48, 48, 48, 48, 48, 48, 48, 49, 51, 56, 56] : Bytes)
def cfg : Cfg := ⟨bindNone, [], 90, 1000, true⟩
def tbl : Mhd.Nonce.Table := [{ nonce := nonce ++ List.replicate 33 0, nc := 0, nmask := 0 }]
def req : Req := { method := ([71, 69, 84] : Bytes), mthd := 1, url := ([47, 97, 32, 98] : Bytes), args := [(([107] : Bytes), some (([118, 32, 119] : Bytes))), (([101] : Bytes), none)], hdrs := [], addr := [] }
def call : Call := ⟨([114, 34, 108, 109] : Bytes), ([117, 115, 92, 101, 114] : Bytes), .password (([112, 119] : Bytes)), 0, 0, mqopAuth, malgoMd5⟩
def uri : Bytes := ([47, 97, 37, 50, 48, 98, 63, 107, 61, 118, 43, 119, 38, 101, 61] : Bytes)
def mid : Bytes := ([48, 48, 48, 48, 48, 48, 48, 65] : Bytes) ++ 58 :: (([99, 110] : Bytes) ++ 58 :: (([97, 117, 116, 104] : Bytes) ++ [58]))
def h1 : Bytes := binToHex (userdigest .md5 call.username call.realm (([112, 119] : Bytes)))
def respBin : Bytes := rfcResponse .md5 h1 nonce mid uri req.method
def cred : Cred :=
  { algo3 := algoMd5, qop := qopAuth, userhash := false, ext := none,
    val := fun k =>
      if k = kUsername then some call.username else if k = kRealm then some call.realm
      else if k = kNonce then some nonce else if k = kUri then some uri
      else if k = kNc then some (([48, 48, 48, 48, 48, 48, 48, 65] : Bytes)) else if k = kCnonce then some (([99, 110] : Bytes))
      else if k = kQop then some (([97, 117, 116, 104] : Bytes)) else if k = kResponse then some (binToHex respBin) else none }

theorem respBin_len : respBin.length = 16 := md5_len _

theorem valid : RFCValid cfg tbl 6000 req call 90 1000 cred .md5 10 nonce 5000 where
  algo := by decide
  qop := by decide
  user := Or.inl ⟨rfl, rfl, rfl⟩
  realm := rfl
  nonceVal := ⟨rfl, by decide, by decide, by decide⟩
  fresh := by decide +kernel
  uri := ⟨uri, rfl, by decide, by decide⟩
  response := ⟨uri, mid, h1, binToHex respBin, respBin, rfl,
    Or.inr ⟨rfl, ([48, 48, 48, 48, 48, 48, 48, 65] : Bytes), ([99, 110] : Bytes), ([97, 117, 116, 104] : Bytes), rfl, rfl, rfl, by decide, by decide, by decide, Or.inr (by decide), rfl⟩,
    rfl, rfl,
    hexToBin_binToHex _ (by intro h; have := respBin_len; rw [h] at this; cases this),
    by rw [binToHex_length, respBin_len]; decide, respBin_len, rfl⟩
  bind := fun h => absurd rfl h

theorem limits : WithinLimits .md5 call cred (canonLv cred) where
  userhash := fun h => by cases h
  realm := fun _ l hl => by simp [canonLv, cred, kRealm, kUsername] at hl; subst hl; decide
  nc := fun _ l hl => by simp [canonLv, cred, kNc, kUsername, kRealm, kNonce, kUri] at hl; subst hl; decide
  cnonce := fun _ l hl => by simp [canonLv, cred, kNc, kUsername, kRealm, kNonce, kUri, kCnonce] at hl; subst hl; decide
  uri := fun l hl => by simp [canonLv, cred, kUsername, kRealm, kNonce, kUri] at hl; subst hl; decide
  nonce := fun l hl => by simp [canonLv, cred, kUsername, kRealm, kNonce] at hl; subst hl; decide
  response := fun l hl => by
    simp [canonLv, cred, kNc, kUsername, kRealm, kNonce, kUri, kCnonce, kQop, kResponse] at hl
    subst hl; rw [binToHex_length, respBin_len]; decide
  ext := fun e he => by cases he

theorem accepted : (expectedClass cfg tbl 6000 req call 90 1000 cred (canonLv cred)).2 = .ok :=
  ok_of_valid cfg tbl 6000 req call 90 1000 cred (canonLv cred) (lenSem_canon cred rfl) .md5 10 nonce 5000 limits valid
end Ex

end Mhd.Dauth
