/-
  The safety invariant of the connection automaton (once the rest of the stream cannot be trusted, `init` is
  never entered again and the handler is shown no further request): its statement `Keeps` and the lemmas by
  which a transition is shown to keep it.  That every step does is part of `step_facts` (`FramingIdle`).
-/
import Mhd.Model.FramingRef
namespace Mhd.Framing
open Mhd.Gen.Framing

set_option linter.unusedSectionVars false
variable [P : HeadParser]

/-- the rest of the stream cannot be trusted / the reply announces close -/
def Tainted (s : St) : Prop := s.discard = true ∨ s.stopErr = true ∨ s.keepalive = .mustClose

/-- `mhd_assert ((! c->stop_with_error) || (c->discard_request))` -/
def FlagsWF (s : St) : Prop := s.stopErr = true → s.discard = true

def extend (s : St) (b : Bytes) : St := { s with buf := s.buf ++ b }

/-- everything that can happen to a connection: one `case` of the idle loop with any
    application behaviour, or more bytes from the client -/
inductive Trans (lvl : Int) : St → St → Prop
  | step (app : App) {s s' : St} : idleStep lvl app s = some s' → Trans lvl s s'
  | recv (s : St) (b : Bytes) : Trans lvl s (extend s b)

inductive Reach (lvl : Int) : St → St → Prop
  | refl (s : St) : Reach lvl s s
  | tail {s t u : St} : Reach lvl s t → Trans lvl t u → Reach lvl s u

def NoReparse (s : St) : Prop := FlagsWF s ∧ Tainted s ∧ s.state ≠ .init

theorem errorReply_props (s : St) (st : Nat) (wf : FlagsWF s) :
    FlagsWF (errorReply s st) ∧ Tainted (errorReply s st) ∧ (errorReply s st).state ≠ .init := by
  unfold errorReply
  by_cases h : s.stopErr = true
  · simp only [h, if_true]
    refine ⟨fun _ => wf h, Or.inl (wf h), by simp⟩
  · simp only [h]
    refine ⟨fun _ => rfl, Or.inl rfl, by simp⟩

theorem errorReply_buf (s : St) (st : Nat) : (errorReply s st).buf = [] := by
  unfold errorReply; split <;> rfl

def isFirst : Ev → Bool
  | .first _ _ => true
  | _ => false

def countFirst (out : List Ev) : Nat := (out.filter isFirst).length

def PastFirst (s : St) : Prop :=
  s.state ≠ .init ∧ s.state ≠ .headersReceived ∧ s.state ≠ .headersProcessed

theorem countFirst_emitUpload (d : Bytes) (out : List Ev) : countFirst (emitUpload d out) = countFirst out := by
  unfold emitUpload
  split <;> simp [countFirst, isFirst]

theorem countFirst_cons (e : Ev) (out : List Ev) (h : isFirst e = false) : countFirst (e :: out) = countFirst out := by
  simp [countFirst, h]

theorem errorReply_past (s : St) (st : Nat) :
    PastFirst (errorReply s st) ∧ countFirst (errorReply s st).out = countFirst s.out := by
  unfold errorReply
  split
  · exact ⟨⟨nofun, nofun, nofun⟩, countFirst_cons _ _ rfl⟩
  · exact ⟨⟨nofun, nofun, nofun⟩, countFirst_cons _ _ rfl⟩

/-- what every transition hands on: the flags stay well-formed; a tainted connection outside `init`
    stays so, and past the first handler call it emits no further `first` event -/
def Keeps (s s' : St) : Prop :=
  (FlagsWF s → FlagsWF s') ∧
  (NoReparse s → NoReparse s' ∧ (PastFirst s → PastFirst s' ∧ countFirst s'.out = countFirst s.out))

theorem Keeps.trans {s t u : St} (a : Keeps s t) (b : Keeps t u) : Keeps s u :=
  ⟨fun wf => b.1 (a.1 wf), fun j =>
    ⟨(b.2 (a.2 j).1).1, fun p =>
      ⟨((b.2 (a.2 j).1).2 ((a.2 j).2 p).1).1, (((b.2 (a.2 j).1).2 ((a.2 j).2 p).1).2).trans ((a.2 j).2 p).2⟩⟩⟩

theorem Keeps.of_flags {s s' : St} (hd : s.discard = true → s'.discard = true) (he : s'.stopErr = s.stopErr)
    (hk : s.keepalive = .mustClose → s'.keepalive = .mustClose) (hs : s'.state ≠ .init)
    (hp : PastFirst s → PastFirst s' ∧ countFirst s'.out = countFirst s.out) : Keeps s s' := by
  refine ⟨fun wf e => hd (wf (he ▸ e)), fun j => ⟨⟨fun e => hd (j.1 (he ▸ e)), ?_, hs⟩, hp⟩⟩
  rcases j.2.1 with t | t | t
  · exact Or.inl (hd t)
  · exact Or.inr (Or.inl (he.trans t))
  · exact Or.inr (Or.inr (hk t))

theorem errorReply_keeps (s : St) (st : Nat) : Keeps s (errorReply s st) :=
  ⟨fun wf => (errorReply_props s st wf).1, fun j => ⟨errorReply_props s st j.1, fun _ => errorReply_past s st⟩⟩

theorem refuseWith_keeps (s : St) (x : Option Nat) : Keeps s (refuseWith s x) := by
  cases x with
  | some st => exact errorReply_keeps s st
  | none => exact Keeps.of_flags id rfl id nofun fun _ => ⟨⟨nofun, nofun, nofun⟩, countFirst_cons _ _ rfl⟩

theorem ite_ne {α : Type} {c : Prop} [Decidable c] {a b x : α} (ha : a ≠ x) (hb : b ≠ x) : (if c then a else b) ≠ x := by
  split
  · exact ha
  · exact hb

theorem NoReparse.noReuse {s : St} (j : NoReparse s) :
    (s.keepalive == KA.use && !s.readClosed && !s.discard) = false := by
  rcases j.2.1 with t | t | t
  · simp [t]
  · simp [j.1 t]
  · simp [t]

theorem Reach.trans {lvl : Int} {s t u : St} (h1 : Reach lvl s t) (h2 : Reach lvl t u) : Reach lvl s u := by
  induction h2 with
  | refl => exact h1
  | tail _ ht ih => exact Reach.tail ih ht

theorem reach_idleFuel (lvl : Int) (app : App) (n : Nat) (s : St) : Reach lvl s (idleFuel lvl app n s) := by
  induction n generalizing s with
  | zero => exact Reach.refl s
  | succ n ih =>
    unfold idleFuel
    split
    · exact Reach.refl s
    · rename_i s' h
      exact Reach.trans (Reach.tail (Reach.refl s) (Trans.step app h)) (ih s')

theorem reach_feed (lvl : Int) (app : App) (s : St) (b : Bytes) : Reach lvl s (feed lvl app s b) := by
  unfold feed
  split
  · exact Reach.refl s
  · exact Reach.trans (Reach.tail (Reach.refl s) (Trans.recv s b)) (reach_idleFuel lvl app _ _)

theorem reach_foldl_feed (lvl : Int) (app : App) (segs : List Bytes) (s : St) :
    Reach lvl s (segs.foldl (feed lvl app) s) :=
  List.foldlRecOn segs _ (Reach.refl s) fun t ht b _ => Reach.trans ht (reach_feed lvl app t b)

theorem flagsWF_init : FlagsWF {} := by intro h; cases h
end Mhd.Framing
