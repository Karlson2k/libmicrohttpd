/-
  Termination of the loop of `post_process_multipart`: a potential `phi` that every iteration
  lowers (consumed bytes / rank-lowering state change / input copied / state_changed cleared).
-/
import Mhd.Proofs.PPMultiInv
namespace Mhd.PP

/-- how many state changes without consuming a byte can still follow -/
def rankM : St → Nat
  | .performCleanup => 3
  | .nestedPerformCleanup => 3
  | .nestedPerformMarking => 3
  | .processEntryHeaders => 2
  | .nestedProcessEntryHeaders => 2
  | .performCheckMultipart => 1
  | _ => 0

theorem rankM_le (s : St) : rankM s ≤ 3 := by cases s <;> decide

/-- potential of the loop of `post_process_multipart`: strictly decreases with every iteration -/
def phi (d : Bytes) (pp : PP) (l : ML) : Nat :=
  16 * ((d.length - l.poff) + pp.buf.length) + 2 * rankM pp.state + l.stateChanged.toNat +
    (decide (l.poff < d.length ∧ pp.buf.length < pp.bufferSize)).toNat

/-- the potential as a number: `a` = bytes not yet consumed, then rank, `state_changed`, "more input can be copied" -/
theorem phi_lt_of {a a' r r' : Nat} {s s' c c' : Bool} (hr : r' ≤ 3)
    (h : a' < a ∨ (a' = a ∧ c' = false ∧ ((s' = true ∧ r' < r) ∨ (s' = false ∧ r' ≤ r ∧ (s = true ∨ c = true))))) :
    16 * a' + 2 * r' + s'.toNat + c'.toNat < 16 * a + 2 * r + s.toNat + c.toNat := by
  have h1 : s'.toNat ≤ 1 := Bool.toNat_le s'
  have h2 : c'.toNat ≤ 1 := Bool.toNat_le c'
  rcases h with h | ⟨rfl, rfl, ⟨rfl, h⟩ | ⟨rfl, h, rfl | rfl⟩⟩
  · omega
  · simp only [Bool.toNat_true, Bool.toNat_false]; omega
  · simp only [Bool.toNat_true, Bool.toNat_false]; omega
  · simp only [Bool.toNat_true, Bool.toNat_false]; omega

theorem phi_init_lt (d : Bytes) (pp : PP) : phi d pp {} < 16 * (d.length + pp.buf.length) + 16 := by
  have h1 := rankM_le pp.state
  have h3 := Bool.toNat_le (decide ((({} : ML).poff) < d.length ∧ pp.buf.length < pp.bufferSize))
  show 16 * (d.length - 0 + pp.buf.length) + 2 * rankM pp.state + 1 + _ < _
  omega

/-- `hcan`: the iteration started with `state_changed` set or copied something -/
theorem phi_iter (d : Bytes) (pp pp' : PP) (l l' : ML) (mx : Nat) (hmx : l.poff + mx ≤ d.length)
    (hfull : l.poff + mx = d.length ∨ pp.buf.length + mx = pp.bufferSize)
    (hpo : l'.poff = l.poff + mx) (hbs : pp'.bufferSize = pp.bufferSize)
    (hcan : l.stateChanged = true ∨ (l.poff < d.length ∧ pp.buf.length < pp.bufferSize))
    (hprog : pp'.buf.length < pp.buf.length + mx ∨ (pp'.buf.length = pp.buf.length + mx ∧
      ((l'.stateChanged = true ∧ rankM pp'.state < rankM pp.state) ∨
       (l'.stateChanged = false ∧ rankM pp'.state ≤ rankM pp.state)))) : phi d pp' l' < phi d pp l := by
  unfold phi
  rw [hpo]
  apply phi_lt_of (rankM_le _)
  rcases hprog with hlt | ⟨heq, hsc⟩
  · left; omega
  · right
    refine ⟨by omega, ?_, ?_⟩
    · rw [decide_eq_false_iff_not, heq, hbs]; omega
    · rcases hsc with h | ⟨a, b⟩
      · exact Or.inl h
      · exact Or.inr ⟨a, b, hcan.imp_right decide_eq_true⟩

end Mhd.PP
