/-
  C17 reference specifications, hexadecimal ↔ binary (`MHD_bin_to_hex`,
  `MHD_hex_to_bin`); independent of the model like those of `StrSpec`.
-/
import Mhd.Proofs.StrSpec

namespace Mhd.Str

def hexDigitLower (n : Nat) : UInt8 := if n < 10 then UInt8.ofNat (0x30 + n) else UInt8.ofNat (0x61 + n - 10)

/-- two lower-case hexadecimal digits per byte, high nibble first -/
def hexSpec : Bytes → Bytes
  | [] => []
  | b :: t => hexDigitLower (b.toNat / 16) :: hexDigitLower (b.toNat % 16) :: hexSpec t

/-- an even number of hexadecimal digits, two per byte -/
def hexPairs : Bytes → Option Bytes
  | [] => some []
  | [_] => none
  | a :: b :: rest =>
    match xval a, xval b with
    | some h, some l => (hexPairs rest).map (UInt8.ofNat (h * 16 + l) :: ·)
    | _, _ => none

/-- `MHD_hex_to_bin` reference: an odd-length input has an implied leading zero digit -/
def hexToBinSpec (s : Bytes) : Option Bytes :=
  if s.length % 2 = 0 then hexPairs s
  else match s with
    | a :: rest =>
      match xval a with
      | some l => (hexPairs rest).map (UInt8.ofNat l :: ·)
      | none => none
    | [] => none

theorem xval_hexDigitLower : ∀ n : Fin 16, xval (hexDigitLower n.val) = some n.val := by
  decide +kernel

theorem hexSpec_length (b : Bytes) : (hexSpec b).length = 2 * b.length := by
  induction b with
  | nil => rfl
  | cons x t ih => simp [hexSpec, ih]; omega

theorem hexPairs_hexSpec (b : Bytes) : hexPairs (hexSpec b) = some b := by
  induction b with
  | nil => rfl
  | cons x t ih =>
    have h1 : xval (hexDigitLower (x.toNat / 16)) = some (x.toNat / 16) :=
      xval_hexDigitLower ⟨x.toNat / 16, by have := x.toNat_lt; omega⟩
    have h2 : xval (hexDigitLower (x.toNat % 16)) = some (x.toNat % 16) :=
      xval_hexDigitLower ⟨x.toNat % 16, by omega⟩
    simp only [hexSpec, hexPairs, h1, h2, ih, Option.map_some, Nat.div_add_mod' x.toNat 16, UInt8.ofNat_toNat]

theorem hexToBinSpec_even {s : Bytes} (h : s.length % 2 = 0) : hexToBinSpec s = hexPairs s := by
  unfold hexToBinSpec; rw [if_pos h]

theorem hexToBin_hexSpec (b : Bytes) : hexToBinSpec (hexSpec b) = some b := by
  rw [hexToBinSpec_even (by rw [hexSpec_length]; omega), hexPairs_hexSpec]

theorem hexToBinSpec_odd (a : UInt8) {rest : Bytes} (hev : rest.length % 2 = 0) :
    hexToBinSpec (a :: rest) = match xval a with
      | some l => (hexToBinSpec rest).map (UInt8.ofNat l :: ·)
      | none => none := by
  rw [hexToBinSpec_even hev]
  unfold hexToBinSpec; rw [if_neg (by rw [List.length_cons]; omega)]

theorem length_pair_even {a b : UInt8} {rest : Bytes} (hev : rest.length % 2 = 0) : (a :: b :: rest).length % 2 = 0 := by
  rw [List.length_cons, List.length_cons, Nat.add_assoc, Nat.add_mod_right]; exact hev

theorem hexToBinSpec_pair_bad {a b : UInt8} {rest : Bytes} (hev : rest.length % 2 = 0)
    (hx : xval a = none ∨ xval b = none) : hexToBinSpec (a :: b :: rest) = none := by
  rw [hexToBinSpec_even (length_pair_even hev), hexPairs]
  rcases hx with hx | hx
  · rw [hx]
  · rw [hx]; cases xval a <;> rfl

theorem hexToBinSpec_pair_ok {a b : UInt8} {rest : Bytes} {h l : Nat} (hev : rest.length % 2 = 0)
    (ha : xval a = some h) (hb : xval b = some l) :
    hexToBinSpec (a :: b :: rest) = (hexToBinSpec rest).map (UInt8.ofNat (h * 16 + l) :: ·) := by
  rw [hexToBinSpec_even (length_pair_even hev), hexToBinSpec_even hev, hexPairs, ha, hb]

end Mhd.Str
