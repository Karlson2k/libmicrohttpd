/-
  Facts about lists, and one about nested `if`s, that Lean core states only in another direction or not at all.
  No model is imported.
-/
namespace List
variable {α : Type}

theorem takeWhile_all {p : α → Bool} {l : List α} (h : ∀ x ∈ l, p x = true) : l.takeWhile p = l := by
  simpa using List.takeWhile_append_of_pos (l₂ := []) h

theorem takeWhile_mem (p : α → Bool) (l : List α) : ∀ x ∈ l.takeWhile p, p x = true :=
  List.all_eq_true.mp List.all_takeWhile

theorem length_takeWhile_le (p : α → Bool) (l : List α) : (l.takeWhile p).length ≤ l.length :=
  (List.takeWhile_sublist p).length_le

theorem length_dropWhile_le (p : α → Bool) (l : List α) : (l.dropWhile p).length ≤ l.length :=
  (List.dropWhile_sublist p).length_le

/-- converse of core's `List.drop_eq_getElem_cons` -/
theorem of_drop_eq_cons {l : List α} {i : Nat} {x : α} {t : List α} (h : l.drop i = x :: t) :
    l[i]? = some x ∧ l.drop (i + 1) = t ∧ i < l.length := by
  have hlt : i < l.length := Nat.lt_of_not_le fun hn => by rw [List.drop_eq_nil_of_le hn] at h; cases h
  rw [List.drop_eq_getElem_cons hlt] at h
  injection h with h1 h2
  exact ⟨by rw [List.getElem?_eq_getElem hlt, h1], h2, hlt⟩

theorem set_eq_self {l : List α} {i : Nat} {a : α} (h : l[i]? = some a) : l.set i a = l := by
  obtain ⟨hi, rfl⟩ := List.getElem?_eq_some_iff.mp h
  exact List.set_getElem_self hi

theorem getD_map_range (f : Nat → α) {n i : Nat} (d : α) (h : i < n) : ((List.range n).map f).getD i d = f i := by
  rw [List.getD_eq_getElem?_getD, List.getElem?_map, List.getElem?_range h]; rfl

theorem Nodup.reverse {l : List α} (h : l.Nodup) : l.reverse.Nodup := List.pairwise_reverse.mpr (h.imp Ne.symm)

/-- a witness found by evaluating a filter: an element of the list with the property and the given image -/
theorem exists_of_mem_map_filter {β : Type} (f : α → β) (q : α → Prop) [DecidablePred q] (l : List α) (b : β)
    (h : b ∈ (l.filter fun a => decide (q a)).map f) : ∃ a ∈ l, f a = b ∧ q a := by
  obtain ⟨a, ha, hb⟩ := List.mem_map.mp h
  obtain ⟨hl, hq⟩ := List.mem_filter.mp ha
  exact ⟨a, hl, hb, of_decide_eq_true hq⟩

theorem pairwise_getElem? {R : α → α → Prop} (hs : ∀ a b, R a b → R b a) {l : List α}
    (h : l.Pairwise R) {i j : Nat} {a b : α} (hi : l[i]? = some a) (hj : l[j]? = some b)
    (hij : i ≠ j) : R a b := by
  rw [List.pairwise_iff_getElem] at h
  obtain ⟨hi', rfl⟩ := List.getElem?_eq_some_iff.mp hi
  obtain ⟨hj', rfl⟩ := List.getElem?_eq_some_iff.mp hj
  rcases Nat.lt_or_gt_of_ne hij with hlt | hgt
  · exact h i j hi' hj' hlt
  · exact hs _ _ (h j i hj' hi' hgt)

theorem pairwise_append_single {R : α → α → Prop} {l : List α} {x : α}
    (h : l.Pairwise R) (hx : ∀ c ∈ l, R c x) : (l ++ [x]).Pairwise R := by
  rw [List.pairwise_append]
  exact ⟨h, List.pairwise_singleton _ _, fun a ha b hb => by
    rw [List.mem_singleton] at hb; subst hb; exact hx a ha⟩

theorem sum_map_set (f : α → Nat) : ∀ (l : List α) (i : Nat) (w w' : α), l[i]? = some w →
    ((l.set i w').map f).sum + f w = (l.map f).sum + f w'
  | [], i, _, _, h => by simp at h
  | x :: xs, 0, w, w', h => by
    simp only [List.getElem?_cons_zero, Option.some.injEq] at h
    subst h
    simp only [List.set_cons_zero, List.map_cons, List.sum_cons]
    omega
  | x :: xs, i + 1, w, w', h => by
    simp only [List.getElem?_cons_succ] at h
    have := sum_map_set f xs i w w' h
    simp only [List.set_cons_succ, List.map_cons, List.sum_cons]
    omega

theorem sum_range_split (c m n : Nat) :
    ((List.range n).map (fun i => c + if i < m then 1 else 0)).sum = n * c + min m n := by
  induction n with
  | zero => simp
  | succ n ih =>
    rw [List.range_succ, List.map_append, List.sum_append_nat, ih, Nat.succ_mul]
    show n * c + min m n + (c + (if n < m then 1 else 0) + 0) = _
    by_cases h : n < m
    · rw [if_pos h, Nat.min_eq_right (Nat.le_of_lt h), Nat.min_eq_right h]; omega
    · have hle := Nat.le_of_not_lt h
      rw [if_neg h, Nat.min_eq_left hle, Nat.min_eq_left (Nat.le_succ_of_le hle)]; omega

theorem sum_range_le (f g : Nat → Nat) (n : Nat) (h : ∀ i, i < n → f i ≤ g i) :
    ((List.range n).map f).sum ≤ ((List.range n).map g).sum := by
  induction n with
  | zero => exact Nat.le_refl _
  | succ n ih =>
    rw [List.range_succ, List.map_append, List.map_append, List.sum_append_nat, List.sum_append_nat]
    exact Nat.add_le_add (ih (fun i hi => h i (Nat.lt_succ_of_lt hi)))
      (Nat.add_le_add_right (h n (Nat.lt_succ_self n)) 0)

end List

theorem ite_or {α : Sort _} {p q : Prop} [Decidable p] [Decidable q] (a b : α) :
    (if p then a else if q then a else b) = if p ∨ q then a else b := by
  by_cases hp : p <;> by_cases hq : q <;> simp [hp, hq]
