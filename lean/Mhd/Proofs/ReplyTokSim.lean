/-
  The reply side's copy of `MHD_str_remove_tokens_caseless_` (`Mhd.ReplyStr.removeTokensCaseless`) does, step
  for step, what the model of C17 (`Mhd.Str.removeTokensCaseless`) does: whenever the latter returns, the former
  returns the same string and flag.  So what `Mhd.Proofs.StrRt*` prove of the one holds of the other.
  The simulation of each function follows its text, through the rules of `Sim`.
-/
import Mhd.Proofs.ReplyTokRef
namespace Mhd.Tok
open Mhd.Str
open Mhd.ReplyStr (eqCaselessBinN moveDown sepWrite copyTok passMatch passStep passFinish removePass nextTokWords
  removeTokensLoop InPlace RemoveRes)

/-- whenever the C17 computation `x` returns `a`, the reply computation `y` returns a `b` with `R a b`.  An order, not
    an equation: every `x` that faults satisfies it, so `iter` at fuel 0 does, where the reply side's recursions return
    their state. -/
def Sim {α β : Type} (R : α → β → Prop) (x : M α) (y : Option β) : Prop := ∀ a, x = .ok a → ∃ b, y = some b ∧ R a b

namespace Sim
variable {α β γ δ : Type} {R : α → β → Prop} {S : γ → δ → Prop}

theorem error {e : Fault} {y : Option β} : Sim R (.error e) y := fun _ h => nomatch h

theorem pure {a : α} {b : β} (h : R a b) : Sim R (Pure.pure a) (some b) := fun _ e => by
  injection e with e; exact ⟨b, rfl, e ▸ h⟩

theorem bind_left {x : M α} {y : Option β} {f : α → M γ} {z : Option δ} (hx : Sim R x y)
    (hf : ∀ a b, y = some b → R a b → Sim S (f a) z) : Sim S (x >>= f) z := by
  intro c h
  cases x with
  | error e => cases h
  | ok a =>
    obtain ⟨b, hb, hab⟩ := hx a rfl
    exact hf a b hb hab c h

theorem bind {x : M α} {y : Option β} {f : α → M γ} {g : β → Option δ} (hx : Sim R x y)
    (hf : ∀ a b, R a b → Sim S (f a) (g b)) : Sim S (x >>= f) (y >>= g) :=
  bind_left hx fun a b e r => e ▸ hf a b r

theorem ite {c c' : Prop} [Decidable c] [Decidable c'] {x x' : M α} {y y' : Option β} (hc : c ↔ c')
    (h1 : c → Sim R x y) (h2 : ¬ c → Sim R x' y') : Sim R (if c then x else x') (if c' then y else y') := by
  by_cases h : c
  · rw [if_pos h, if_pos (hc.1 h)]; exact h1 h
  · rw [if_neg h, if_neg (fun h' => h (hc.2 h'))]; exact h2 h

theorem mono {R' : α → β → Prop} {x : M α} {y : Option β} (h : Sim R x y) (hr : ∀ a b, R a b → R' a b) : Sim R' x y :=
  fun a e => let ⟨b, hb, hab⟩ := h a e; ⟨b, hb, hr a b hab⟩

theorem rd (s : Bytes) (i : Nat) : Sim Eq (rd s i) (Mhd.ReplyStr.rd s i) := by
  unfold Mhd.Str.rd Mhd.ReplyStr.rd
  cases s[i]? with
  | none => exact error
  | some c => exact pure rfl

theorem wr (s : Bytes) (i : Nat) (c : UInt8) : Sim (fun a b => a = b ∧ a = s.set i c) (wr s i c) (Mhd.ReplyStr.wr s i c) :=
  ite .rfl (fun _ => pure ⟨rfl, rfl⟩) fun _ => error

theorem ite_bind {c c' : Prop} [Decidable c] [Decidable c'] {x x' : M α} {f : α → M γ} {y y' : Option δ} (hc : c ↔ c')
    (h1 : c → Sim S (x >>= f) y) (h2 : ¬ c → Sim S (x' >>= f) y') :
    Sim S ((if c then x else x') >>= f) (if c' then y else y') := by
  by_cases h : c
  · rw [if_pos h, if_pos (hc.1 h)]; exact h1 h
  · rw [if_neg h, if_neg (fun h' => h (hc.2 h'))]; exact h2 h

theorem iter {σ ρ : Type} {step : σ → M (σ ⊕ ρ)} {n : Nat} {s : σ} {y : Option β} {R : ρ → β → Prop}
    (h : Sim R (step s >>= fun x => match x with | .inl s' => Mhd.Str.iter step n s' | .inr r => Pure.pure r) y) :
    Sim R (Mhd.Str.iter step (n + 1) s) y := by
  rw [Mhd.Str.iter]
  cases hs : step s with
  | error e => exact error
  | ok x => rw [hs] at h; cases x <;> exact h
end Sim

/-- the `", "` in front of a kept element: the write position stays or moves on by two -/
theorem rtSep_sim (pr pw : Nat) (buf : Bytes) :
    Sim (fun a b => b = (a.2, a.1) ∧ a.1 = if pw = 0 then pw else pw + 2) (rtSep pr pw buf) (sepWrite buf pr pw) := by
  unfold rtSep sepWrite
  refine .ite (by simp) (fun h0 => .ite (by simp) (fun _ => .bind (.wr _ _ _) fun _ _ e1 => e1.1 ▸ .bind (.wr _ _ _)
    fun _ _ e2 => e2.1 ▸ .pure ⟨rfl, (if_neg h0).symm⟩) fun _ => .pure ⟨rfl, (if_neg h0).symm⟩)
    fun h0 => .pure ⟨rfl, (if_pos (Decidable.not_not.1 h0)).symm⟩

/-- a loop test computed first and branched on afterwards (C17) is the nested `if` of the reply side -/
theorem test_split {γ : Type} (c : Prop) [Decidable c] (r : Option UInt8) (p : UInt8 → Bool) (X Y : Option γ) :
    (if c then r >>= fun d => if p d = true then X else Y else Y) =
      ((if c then r >>= fun d => some (p d) else some false) >>= fun ag => if ag = true then X else Y) := by
  by_cases h : c
  · rw [if_pos h, if_pos h]; cases r <;> rfl
  · rw [if_neg h, if_neg h]; rfl

/-- `do { if (pr != pw) str[pw] = str[pr]; pr++; pw++; } while (pr < len && ',' != str[pr])`: both positions
    move on by the same number of bytes -/
theorem copyTok_sim (len : Nat) : ∀ (n pr pw : Nat) (buf : Bytes),
    Sim (fun a b => b = (a.2.2, a.1, a.2.1) ∧ ∃ d, a.1 = pr + d ∧ a.2.1 = pw + d)
      (iter (rtCopyElemStep len) n (pr, pw, buf)) (copyTok len n buf pr pw)
  | 0, _, _, _ => .error
  | n + 1, pr, pw, buf => by
    refine .iter ?_
    rw [copyTok]
    unfold rtCopyElemStep
    simp only [bind_assoc]
    refine .bind (R := Eq) (.ite (by simp) (fun _ => .bind (.rd _ _) fun _ _ e => e ▸ (Sim.wr _ _ _).mono fun _ _ h => h.1) fun _ => .pure rfl) ?_
    rintro b1 _ rfl
    rw [test_split]
    refine .bind (R := Eq) (.ite .rfl (fun _ => .bind (.rd _ _) fun _ _ e => e ▸ .pure rfl) fun _ => .pure rfl) ?_
    rintro ag _ rfl
    cases ag
    · exact .pure ⟨rfl, 1, rfl, rfl⟩
    · exact (copyTok_sim len n _ _ _).mono fun a b ⟨h, d, h1, h2⟩ => ⟨h, d + 1, by omega, by omega⟩

theorem copyBytes_succ (src : Bytes) (r : Nat) (dst : Bytes) (w n : Nat) :
    copyBytes src r dst w (n + 1) = (do
      let c ← Mhd.Str.rd src r
      let o ← Mhd.Str.wr dst w c
      copyBytes src (r + 1) o (w + 1) n) := by
  unfold copyBytes
  rw [List.range_succ_eq_map, List.foldlM_cons]
  simp only [List.foldlM_map, Nat.add_zero, Nat.succ_eq_add_one, bind_assoc, Nat.add_assoc, Nat.add_comm 1]

/-- behind kept elements there is room for a `", "` in front of the read position -/
def Gap (pr pw : Nat) : Prop := pw = 0 ∨ pw + 2 ≤ pr

theorem Gap.le {pr pw : Nat} (hg : Gap pr pw) : (if pw = 0 then pw else pw + 2) ≤ pr := by
  by_cases h0 : pw = 0
  · rw [if_pos h0, h0]; exact Nat.zero_le _
  · rw [if_neg h0]; exact hg.resolve_left h0

theorem drop_of_get {s : Bytes} {i : Nat} {c : UInt8} (h : s[i]? = some c) : s.drop i = c :: s.drop (i + 1) := by
  obtain ⟨hlt, hc⟩ := List.getElem?_eq_some_iff.1 h
  rw [List.drop_eq_getElem_cons hlt, hc]

/-- `MHD_str_equal_caseless_bin_n_ (str + oa, tkn, len)`, the token being the `len` bytes `T` at `ob` -/
theorem eqBin_sim (a : Bytes) (oa : Nat) (b : Bytes) (ob : Nat) (T jt : Bytes) (hT : b.drop ob = T ++ jt) :
    ∀ (n i : Nat), Sim Eq (iter (equalCaselessBinStep a oa b ob T.length) n i)
      (eqCaselessBinN (a.drop (oa + i)) (T.drop i) (T.length - i))
  | 0, _ => .error
  | n + 1, i => by
    refine .iter ?_
    unfold equalCaselessBinStep
    by_cases hi : i < T.length
    · rw [if_pos hi, bind_assoc]
      refine .bind_left (.rd _ _) fun c1 _ h1 e1 => ?_
      rw [bind_assoc]
      refine .bind_left (.rd _ _) fun c2 _ h2 e2 => ?_
      subst e1 e2
      have hb : (b.drop ob)[i]? = some c2 := List.getElem?_drop.trans h2
      rw [hT, List.getElem?_append_left hi] at hb
      rw [drop_of_get h1, drop_of_get hb, show T.length - i = (T.length - (i + 1)) + 1 by omega, eqCaselessBinN, ceq_eq]
      by_cases hc : charsEqualCaseless c1 c2 = true
      · rw [if_pos hc, if_pos hc]
        exact eqBin_sim a oa b ob T jt hT n (i + 1)
      · rw [if_neg hc, if_neg hc]
        exact .pure rfl
    · rw [if_neg hi, show T.length - i = 0 by omega]
      cases a.drop (oa + i) <;> cases T.drop i <;> exact .pure rfl

/-- `memmove` downwards: the bytes still to be read lie at or behind the write position, so reading them from
    the buffer as it is being written (`moveDown`) or from the buffer as it was (`copyBytes`) is the same -/
theorem moveDown_sim (src : Bytes) : ∀ (n r w : Nat) (dst : Bytes), w ≤ r → (∀ j, r ≤ j → dst[j]? = src[j]?) →
    Sim Eq (copyBytes src r dst w n) (moveDown n dst w r)
  | 0, _, _, _, _, _ => .pure rfl
  | n + 1, r, w, dst, hle, hag => by
    rw [copyBytes_succ, moveDown, show Mhd.ReplyStr.rd dst r = Mhd.ReplyStr.rd src r from hag r (Nat.le_refl _)]
    refine .bind (.rd _ _) fun c _ e => e ▸ .bind (.wr _ _ _) ?_
    rintro _ _ ⟨rfl, rfl⟩
    refine moveDown_sim src n (r + 1) (w + 1) _ (Nat.succ_le_succ hle) fun j hj => ?_
    rw [List.getElem?_set_ne (by omega)]
    exact hag j (by omega)

theorem passMatch_sim (tokens : Bytes) (tkn len : Nat) (T jt : Bytes) (hT : tokens.drop tkn = T ++ jt) (st : RtIn) :
    Sim Eq (rtMatchPart tokens tkn T.length len st) (passMatch T len st.buf st.pr) := by
  unfold rtMatchPart passMatch
  refine .bind (R := Eq) (.ite (by simp) (fun _ => .pure rfl) fun _ => .bind (.rd _ _) fun _ _ e => e ▸ .pure rfl) ?_
  rintro ae _ rfl
  refine .ite .rfl (fun _ => ?_) fun _ => .pure rfl
  have := eqBin_sim st.buf st.pr tokens tkn T jt hT (T.length + 1) 0
  rwa [Nat.add_zero, List.drop_zero, Nat.sub_zero] at this

/-- first half of a round: the element is the token and is stepped over, or it is copied behind what is kept -/
theorem passStep_sim (tokens : Bytes) (tkn len : Nat) (T jt : Bytes) (hT : tokens.drop tkn = T ++ jt) (st : RtIn)
    (hg : Gap st.pr st.pw) :
    Sim (fun st1 b => b = (st1.buf, st1.pr, st1.pw, st1.removed) ∧ Gap st1.pr st1.pw)
      (do let isMatch ← rtMatchPart tokens tkn T.length len st
          (if isMatch then pure { st with removed := true, pr := st.pr + T.length + 2 } else rtKeepPart len st : M RtIn))
      (passStep T len st.buf st.pr st.pw st.removed) := by
  unfold passStep
  refine .bind (passMatch_sim tokens tkn len T jt hT st) ?_
  rintro m _ rfl
  refine .ite .rfl (fun _ => .pure ⟨rfl, hg.imp id fun h => by show st.pw + 2 ≤ st.pr + T.length + 2; omega⟩) fun _ => ?_
  unfold rtKeepPart
  refine .bind (rtSep_sim _ _ _) ?_
  rintro ⟨pw1, b1⟩ _ ⟨rfl, q2⟩
  refine .bind (copyTok_sim len _ _ _ _) ?_
  rintro ⟨pr2, pw2, b2⟩ _ ⟨rfl, d, q4, q5⟩
  refine .pure ⟨rfl, .inr ?_⟩
  have hle : pw1 ≤ st.pr := (show pw1 = _ from q2) ▸ hg.le
  show pw2 + 2 ≤ pr2 + 2
  rw [show pr2 = _ from q4, show pw2 = _ from q5]
  omega

/-- second half of a round, when what is left is shorter than the token: it is moved down behind what is kept
    ("copy the rest of the string") and the pass ends -/
theorem passFinish_sim (len tknLen : Nat) (st1 : RtIn) (hg : Gap st1.pr st1.pw) (hl : len < st1.pr + tknLen) :
    Sim (fun x b => x = .inr (b.2, b.1, st1.removed)) (rtTailPart len tknLen st1) (passFinish len st1.buf st1.pr st1.pw) := by
  unfold rtTailPart passFinish
  rw [if_pos hl]
  refine .ite .rfl (fun _ => .bind (rtSep_sim _ _ _) ?_) fun _ => .pure rfl
  rintro ⟨pw1, b1⟩ _ ⟨rfl, q2⟩
  have hle : pw1 ≤ st1.pr := (show pw1 = _ from q2) ▸ hg.le
  refine .bind (R := Eq) (.ite (by simp) (fun _ => moveDown_sim b1 _ _ _ b1 hle fun _ _ => rfl) fun _ => .pure rfl) ?_
  rintro b2 _ rfl
  exact .pure rfl

theorem removePass_sim (tokens : Bytes) (tkn len : Nat) (T jt : Bytes) (hT : tokens.drop tkn = T ++ jt) :
    ∀ (n : Nat) (st : RtIn), Gap st.pr st.pw →
      Sim (fun a b => b = (a.2.1, a.1, a.2.2)) (iter (rtInnerStep tokens tkn T.length len) n st)
        (removePass T len n st.buf st.pr st.pw st.removed)
  | 0, _, _ => .error
  | n + 1, st, hg => by
    refine .iter ?_
    rw [rtInnerStep_eq, ← bind_assoc, bind_assoc, removePass]
    refine .bind_left (passStep_sim tokens tkn len T jt hT st hg) ?_
    rintro st1 _ hq ⟨rfl, hg1⟩
    rw [hq]
    dsimp only
    by_cases hl : len < st1.pr + T.length
    · rw [if_pos hl]
      refine .bind_left (passFinish_sim len T.length st1 hg1 hl) ?_
      rintro _ ⟨b2, l2⟩ hf rfl
      rw [hf]
      exact .pure rfl
    · rw [if_neg hl, rtTailPart, if_neg hl]
      exact removePass_sim tokens tkn len T jt hT n st1 hg1

/-- cutting the next token out of `tokens`: the element at the head, without the blanks behind its last word -/
theorem nextTokWords_go (rest : Bytes) (hrest : headElem rest = []) :
    ∀ (fuel : Nat) (P : Bytes) (z : UInt8) (V tk : Bytes), isWs z = false → (∀ y ∈ V, notComma y = true) →
      V.length < fuel → nextTokWords fuel P tk (z :: (V ++ rest)) = (trimR (P ++ z :: V), rest)
  | 0, _, _, _, _, _, _, hf => absurd hf (Nat.not_lt_zero _)
  | fuel + 1, P, z, V, tk, hz, hV, hf => by
    have hstop := headElem_nil_stops hrest
    have hhead : headElem (V ++ rest) = V := takeWhile_append_all notComma V rest hV hstop
    obtain ⟨hs1, hs2, hs3, _, _⟩ := elem_split (V ++ rest)
    have hre : restElems (V ++ rest) = rest := (restElems_append_word V rest hV).trans (dropWhile_stop hstop)
    rw [hhead] at hs1 hs2 hs3
    rw [hre] at hs3
    rw [nextTokWords]
    rw [show (fun x => !Mhd.ReplyStr.isWsComma x) = isWordB from notWsComma_eq_isWordB,
      show Mhd.ReplyStr.isWs = isWs from rfl, drop_takeWhile_length, drop_takeWhile_length, hs1, hs2, hs3]
    have hsplit := split_word_ws V
    have ha := List.takeWhile_mem notWsB V
    have hb := List.takeWhile_mem isWs (V.dropWhile notWsB)
    have hV2 := dropWhile_stops isWs (V.dropWhile notWsB)
    generalize V.takeWhile notWsB = a at hsplit ha
    generalize (V.dropWhile notWsB).takeWhile isWs = b at hsplit hb
    generalize (V.dropWhile notWsB).dropWhile isWs = V2 at hsplit hV2
    rcases hV2 with rfl | ⟨z2, V2', rfl, hz2⟩
    · -- the element ends here
      have hres : trimR (P ++ z :: V) = P ++ z :: a := by
        rw [hsplit, List.append_nil]; exact trimR_word_ws P z a b hz ha hb
      rw [List.nil_append, hres]
      rcases headElem_nil_stops hrest with rfl | ⟨c, r', rfl, hc⟩
      · rfl
      · have : c = 0x2c := by simpa [notComma] using hc
        subst this; rfl
    · have hz2c : z2 ≠ 0x2c := by
        have := hV z2 (by rw [hsplit]; simp)
        simpa [notComma] using this
      rw [List.cons_append]
      dsimp only
      rw [if_neg (by simpa using hz2c)]
      have := nextTokWords_go rest hrest fuel (P ++ z :: a ++ b) z2 V2' (P ++ z :: a) hz2
        (fun y hy => hV y (by rw [hsplit]; simp [hy]))
        (by have := congrArg List.length hsplit; simp only [List.length_append, List.length_cons] at this; omega)
      rw [this, hsplit]
      simp [List.append_assoc]

theorem nextTokWords_eq (x : UInt8) (R' : Bytes) (hx : isWsComma x = false) :
    nextTokWords ((x :: R').length + 1) [] [] (x :: R') = (trimR (headElem (x :: R')), restElems (x :: R')) := by
  obtain ⟨hxw, hxc⟩ := isWsComma_eq_false hx
  have := nextTokWords_go (restElems R') (takeWhile_stop (restElems_stops notComma (by decide) R'))
    ((x :: R').length + 1) [] x (headElem R') [] hxw (headElem_notComma R')
    (Nat.lt_succ_of_le (Nat.le_succ_of_le (List.length_takeWhile_le notComma R')))
  rwa [← headElem_append_restElems R', List.nil_append, ← headElem_cons x R' hxc, ← restElems_cons x R' hxc] at this

theorem removeTokensLoop_sim (tokens : Bytes) : ∀ (n : Nat) (st : RtSt), st.pt ≤ tokens.length →
    Sim (fun r b => b = ⟨r.2.2, r.2.1, r.1⟩) (iter (rtOuterStep tokens) n st)
      (removeTokensLoop n ⟨st.buf, st.len, st.removed⟩ (tokens.drop st.pt))
  | 0, _, _ => .error
  | n + 1, st, hpt => by
    refine .iter ?_
    rw [rtOuterStep_eq, removeTokensLoop]
    dsimp only
    by_cases hgo : st.pt < tokens.length ∧ st.len ≠ 0
    · have hne : ((tokens.drop st.pt).isEmpty || st.len == 0) = false := by
        simp [hgo.2, List.drop_eq_nil_iff, Nat.not_le.2 hgo.1]
      obtain ⟨hs1, hs2, hs3⟩ := skipN_exact tokens isWsComma st.pt _ hpt rfl
      rw [if_pos hgo, hs1, bind_ok', hne, if_neg Bool.false_ne_true, show Mhd.ReplyStr.isWsComma = isWsComma from rfl]
      generalize st.pt + ((tokens.drop st.pt).takeWhile isWsComma).length = pt1 at hs2 hs3
      cases ht1 : (tokens.drop st.pt).dropWhile isWsComma with
      | nil =>
        rw [ht1] at hs2
        rw [if_pos (List.drop_eq_nil_iff.1 hs2)]
        exact .pure rfl
      | cons x R' =>
        rw [ht1] at hs2
        rw [if_neg (Nat.not_le.2 (lt_of_drop hs2))]
        dsimp only
        have hx : isWsComma x = false := by
          rcases dropWhile_stops isWsComma (tokens.drop st.pt) with h0 | ⟨z, b', h0, hz⟩
          · rw [ht1] at h0; cases h0
          · rw [ht1] at h0; injection h0 with h0 _; exact h0 ▸ hz
        obtain ⟨pt', jt, hit, hTd, _, hrest, hpt'⟩ := rtTokenEnd_spec tokens pt1 x R' hs2 hx
        rw [hit, bind_ok', nextTokWords_eq x R' hx]
        dsimp only
        rw [← hrest]
        have hT : tokens.drop pt1 = trimR (headElem (x :: R')) ++ jt := hs2.trans hTd
        generalize trimR (headElem (x :: R')) = T at hT
        unfold rtRoundPart
        refine .ite_bind (by simp) (fun _ => ?_) fun _ => .ite_bind .rfl (fun _ => ?_) fun _ =>
          removeTokensLoop_sim tokens n _ hpt'
        · rw [bind_assoc]
          refine .bind_left (eqBin_sim st.buf 0 tokens pt1 T _ hT _ 0) ?_
          rintro m _ hm rfl
          rw [Nat.add_zero, List.drop_zero, List.drop_zero, Nat.sub_zero] at hm
          rw [hm]
          cases m <;> exact removeTokensLoop_sim tokens n _ hpt'
        · rw [bind_assoc]
          refine .bind_left (removePass_sim tokens pt1 st.len T _ hT _ ⟨0, 0, st.buf, st.removed⟩ (.inl rfl)) ?_
          rintro ⟨l2, b2, r2⟩ _ hp rfl
          rw [hp]
          exact removeTokensLoop_sim tokens n _ hpt'
    · have hne : ((tokens.drop st.pt).isEmpty || st.len == 0) = true := by
        by_cases h0 : st.len = 0
        · simp [h0]
        · have : ¬ st.pt < tokens.length := fun h' => hgo ⟨h', h0⟩
          simp [List.drop_eq_nil_iff, Nat.le_of_not_lt this]
      rw [if_neg hgo, hne, if_pos rfl]
      exact .pure rfl

theorem removeTokens_sim (str toks : Bytes) (b : Bool) (n : Nat) (buf : Bytes)
    (h : Mhd.Str.removeTokensCaseless str toks = .ok (b, n, buf)) :
    Mhd.ReplyStr.removeTokensCaseless str toks = some ⟨buf.take n, b⟩ := by
  obtain ⟨_, hb, rfl⟩ := removeTokensLoop_sim toks _ ⟨0, str.length, str, false⟩ (Nat.zero_le _) _ h
  rw [List.drop_zero] at hb
  rw [Mhd.ReplyStr.removeTokensCaseless, hb]
end Mhd.Tok
