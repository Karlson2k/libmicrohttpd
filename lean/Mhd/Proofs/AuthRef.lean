/-
  C14: the grammar-level reference reader (`Mhd.Model.AuthRef`) returns a parse tree of its
  input — a well-formed `GElem` list whose rendering is the input (`elems_tree` for the element list,
  `C14.reference_returns_parse_tree` for the whole input).  With `parseDigest_renderG` this gives:
  whatever the reference reader accepts, parse_dauth_params accepts, with the same value for every
  parameter.
-/
import Mhd.Model.AuthRef
import Mhd.Proofs.AuthGram
namespace Mhd.Auth.Ref
open Mhd.Auth Mhd.Gen.Auth

theorem spanP_eq (p : UInt8 → Bool) (s : Bytes) : (spanP p s).1 ++ (spanP p s).2 = s := by
  induction s with
  | nil => simp [spanP]
  | cons c r ih =>
    simp only [spanP]
    by_cases h : p c = true
    · simp [h, ih]
    · simp [h]

theorem spanP_all (p : UInt8 → Bool) (s : Bytes) : (spanP p s).1.all p = true := by
  induction s with
  | nil => simp [spanP]
  | cons c r ih =>
    simp only [spanP]
    by_cases h : p c = true
    · simp [h, ih]
    · simp [h]

theorem ws_allWs (s : Bytes) : allWs (spanP isWs s).1 = true := spanP_all isWs s

theorem ne_of_class (p : UInt8 → Bool) (c k : UInt8) (h : p c = true) (hk : p k = false) : c ≠ k :=
  fun e => by rw [e, hk] at h; cases h

theorem tchar_props (c : UInt8) (h : tchar c = true) :
    tokByte c = true ∧ c ≠ 34 ∧ nameByte c = true ∧ isWs c = false := by
  have h0 := ne_of_class tchar c 0 h (by decide)
  have h9 := ne_of_class tchar c 9 h (by decide)
  have h32 := ne_of_class tchar c 32 h (by decide)
  have h34 := ne_of_class tchar c 34 h (by decide)
  have h44 := ne_of_class tchar c 44 h (by decide)
  have h59 := ne_of_class tchar c 59 h (by decide)
  have h61 := ne_of_class tchar c 61 h (by decide)
  simp [tokByte, nameByte, isDelim, isWs, h0, h9, h32, h34, h44, h59, h61]

theorem qdtext_props (c : UInt8) (h : qdtext c = true) : c ≠ 0 ∧ c ≠ 34 ∧ c ≠ 92 :=
  ⟨ne_of_class qdtext c 0 h (by decide), ne_of_class qdtext c 34 h (by decide), ne_of_class qdtext c 92 h (by decide)⟩

theorem qpchar_props (c : UInt8) (h : qpchar c = true) : c ≠ 0 := ne_of_class qpchar c 0 h (by decide)

theorem qstring_spec (s : Bytes) (x : Bytes × List Bool × Bytes) (h : qstring s = some x) :
    s = escRender x.2.1 x.1 ++ 34 :: x.2.2 ∧ (∀ c ∈ x.1, c ≠ 0) := by
  fun_induction qstring s generalizing x with
  | case1 => cases h
  | case2 r => cases h; simp [escRender]
  | case3 => cases h
  | case4 c2 r2 hq _ ih =>
    simp only [Option.map_eq_some_iff] at h
    obtain ⟨y, hy, rfl⟩ := h
    obtain ⟨h1, h2⟩ := ih y hy
    refine ⟨by simp only [escRender]; rw [h1]; simp, fun z hz => ?_⟩
    rcases List.mem_cons.mp hz with hz | hz
    · rw [hz]; exact qpchar_props c2 hq
    · exact h2 z hz
  | case5 => cases h
  | case6 c r h34 h92 hq ih =>
    simp only [Option.map_eq_some_iff] at h
    obtain ⟨y, hy, rfl⟩ := h
    obtain ⟨h1, h2⟩ := ih y hy
    refine ⟨by simp only [escRender, h34, h92]; rw [h1]; simp, fun z hz => ?_⟩
    rcases List.mem_cons.mp hz with hz | hz
    · rw [hz]; exact (qdtext_props c hq).1
    · exact h2 z hz
  | case7 => cases h

/-- well-formedness of what `param` delivers -/
def valOK : Form → Bytes → Prop
  | .token, v => v ≠ [] ∧ v.all tchar = true
  | .quoted _, v => ∀ c ∈ v, c ≠ 0

def P.ok (p : P) : Prop :=
  p.name ≠ [] ∧ p.name.all tchar = true ∧ allWs p.ws1 = true ∧ allWs p.ws2 = true ∧ allWs p.ws3 = true ∧ valOK p.f p.v

def P.render (p : P) : Bytes := p.name ++ p.ws1 ++ 61 :: (p.ws2 ++ renderValue p.v p.f ++ p.ws3)

theorem pvalue_spec (s : Bytes) (f : Form) (v r6 : Bytes) (h : pvalue s = some (f, v, r6)) :
    s = renderValue v f ++ r6 ∧ valOK f v := by
  cases s with
  | nil => simp [pvalue] at h
  | cons q r5 =>
    simp only [pvalue] at h
    by_cases hq : q = 34
    · simp only [hq, if_true, Option.map_eq_some_iff, Prod.mk.injEq] at h
      obtain ⟨x, hx, hf, hv, hr⟩ := h
      obtain ⟨h1, h2⟩ := qstring_spec r5 x hx
      subst hf; subst hv; subst hr; subst hq
      exact ⟨by simp [renderValue]; exact h1, h2⟩
    · simp only [hq, if_false] at h
      by_cases he : (spanP tchar (q :: r5)).1 = []
      · simp [he] at h
      · simp only [he, if_false, Option.some.injEq, Prod.mk.injEq] at h
        obtain ⟨hf, hv, hr⟩ := h
        subst hf; subst hv; subst hr
        exact ⟨by simp [renderValue, spanP_eq], he, spanP_all _ _⟩

theorem param_spec (s : Bytes) (p : P) (r7 : Bytes) (h : param s = some (p, r7)) :
    s = p.render ++ r7 ∧ p.ok := by
  unfold param at h
  by_cases hn : (spanP tchar s).1 = []
  · simp [hn] at h
  simp only [hn, if_false] at h
  cases h2 : (spanP isWs (spanP tchar s).2).2 with
  | nil => simp [h2] at h
  | cons e r3 =>
    simp only [h2] at h
    by_cases he : e = 61
    · subst he
      simp only [ne_eq, not_true_eq_false, if_false] at h
      cases hv : pvalue (spanP isWs r3).2 with
      | none => simp [hv] at h
      | some x =>
        obtain ⟨f, v, r6⟩ := x
        simp only [hv, Option.some.injEq, Prod.mk.injEq] at h
        obtain ⟨hp, hr⟩ := h
        obtain ⟨hs4, hvok⟩ := pvalue_spec _ f v r6 hv
        subst hp; subst hr
        refine ⟨?_, hn, spanP_all _ _, ws_allWs _, ws_allWs _, ws_allWs _, hvok⟩
        have e1 := spanP_eq tchar s
        have e2 := spanP_eq isWs (spanP tchar s).2
        have e3 := spanP_eq isWs r3
        have e4 := spanP_eq isWs r6
        rw [h2] at e2
        simp only [P.render]
        calc s = (spanP tchar s).1 ++ (spanP tchar s).2 := e1.symm
          _ = (spanP tchar s).1 ++ ((spanP isWs (spanP tchar s).2).1 ++ 61 :: r3) := by rw [e2]
          _ = (spanP tchar s).1 ++ ((spanP isWs (spanP tchar s).2).1 ++ 61 :: ((spanP isWs r3).1 ++ (spanP isWs r3).2)) := by rw [e3]
          _ = (spanP tchar s).1 ++ ((spanP isWs (spanP tchar s).2).1 ++ 61 :: ((spanP isWs r3).1 ++ (renderValue v f ++ ((spanP isWs r6).1 ++ (spanP isWs r6).2)))) := by rw [hs4, e4]
          _ = _ := by simp [List.append_assoc]
    · simp [he] at h

theorem slotOf_spec (l : Bytes) : ∀ (names : List Bytes) (i k : Nat), slotOf l names i = some k →
    i ≤ k ∧ names[k - i]? = some l := by
  intro names
  induction names with
  | nil => intro i k h; simp [slotOf] at h
  | cons nm t ih =>
    intro i k h
    simp only [slotOf] at h
    by_cases hnm : nm = l
    · simp only [hnm, if_true, Option.some.injEq] at h
      subst h; simp [hnm]
    · simp only [hnm, if_false] at h
      obtain ⟨h1, h2⟩ := ih (i + 1) k h
      refine ⟨by omega, ?_⟩
      have : k - i = (k - (i + 1)) + 1 := by omega
      rw [this]; simpa using h2

theorem slotOf_none (l : Bytes) : ∀ (names : List Bytes) (i : Nat), slotOf l names i = none → ∀ nm ∈ names, nm ≠ l := by
  intro names
  induction names with
  | nil => intro i _ nm hnm; simp at hnm
  | cons a t ih =>
    intro i h nm hnm
    simp only [slotOf] at h
    by_cases ha : a = l
    · simp [ha] at h
    · simp only [ha, if_false] at h
      rcases List.mem_cons.mp hnm with h1 | h1
      · rw [h1]; exact ha
      · exact ih (i + 1) h nm h1

theorem caseRender_back (name : Bytes) : caseRender (name.map isUpperB) (name.map toLowerB) = name := by
  induction name with
  | nil => rfl
  | cons c r ih =>
    simp only [List.map_cons, caseRender, ih]
    congr 1
    by_cases hu : isUpperB c = true
    · have h := hu
      simp only [isUpperB, decide_eq_true_eq] at h
      simp only [hu, if_true]
      apply UInt8.toNat_inj.mp
      have h1 := toLowerB_toNat c
      have h2 := toUpperB_toNat (toLowerB c)
      simp only [h.1, h.2, and_self, if_true] at h1
      rw [h2, h1]
      split <;> omega
    · have h := hu
      simp only [isUpperB, decide_eq_true_eq] at h
      simp only [hu, Bool.false_eq_true, if_false]
      apply UInt8.toNat_inj.mp
      have h1 := toLowerB_toNat c
      simp only [h, if_false] at h1
      exact h1

theorem mk_spec (p : P) (ws4 : Bytes) (hp : p.ok) (hw4 : allWs ws4 = true) :
    (mk p ws4).wf = true ∧ (mk p ws4).render = p.render ∧ (mk p ws4).ws4 = ws4 := by
  obtain ⟨hne, hall, hw1, hw2, hw3, hv⟩ := hp
  unfold mk
  cases hs : slotOf (p.name.map toLowerB) paramNames 0 with
  | some k =>
    obtain ⟨_, hk⟩ := slotOf_spec _ _ _ _ hs
    simp only [Nat.sub_zero] at hk
    have hlt : k < paramNames.length := by
      rcases Nat.lt_or_ge k paramNames.length with hge | hge
      · exact hge
      · rw [List.getElem?_eq_none hge] at hk
        simp at hk
    simp only []
    have hname : nameOf k = p.name.map toLowerB := by simp [nameOf, List.getD, hk]
    refine ⟨?_, ?_, rfl⟩
    · cases hf : p.f with
      | token =>
        rw [hf] at hv
        simp only [valOK] at hv
        obtain ⟨c, r, hcr⟩ := List.exists_cons_of_ne_nil hv.1
        have hc := tchar_props c (List.all_eq_true.mp hv.2 c (by simp [hcr]))
        have hallt : p.v.all tokByte = true :=
          List.all_eq_true.mpr fun x hx => (tchar_props x (List.all_eq_true.mp hv.2 x hx)).1
        simp only [GElem.wf, Elem.wf, Bool.and_eq_true, decide_eq_true_eq, hallt, hw1, hw2, hw3, hw4, hlt, and_self, true_and]
        simp [hcr, hc.2.1]
      | quoted m =>
        rw [hf] at hv
        simp only [valOK] at hv
        have hall0 : p.v.all (· ≠ 0) = true := List.all_eq_true.mpr fun x hx => by simpa using hv x hx
        simp only [GElem.wf, Elem.wf, Bool.and_eq_true, decide_eq_true_eq, hall0, hw1, hw2, hw3, hw4, hlt, and_self]
    · simp only [GElem.render, renderElem, hname, caseRender_back, P.render]
  | none =>
    have hnot := slotOf_none _ _ _ hs
    simp only []
    refine ⟨?_, by simp [GElem.render, P.render], rfl⟩
    simp only [GElem.wf, Bool.and_eq_true, Bool.not_eq_true', List.isEmpty_eq_false_iff]
    refine ⟨⟨⟨⟨⟨⟨⟨hne, ?_⟩, ?_⟩, hw1⟩, hw2⟩, hw3⟩, hw4⟩, ?_⟩
    · exact List.all_eq_true.mpr fun x hx => (tchar_props x (List.all_eq_true.mp hall x hx)).2.2.1
    · apply List.all_eq_true.mpr
      intro kn hkn
      have := hnot kn hkn
      rw [paramNames_lower kn hkn]
      simp only [bne_iff_ne, ne_eq]
      exact fun h => this h.symm
    · cases hf : p.f with
      | token =>
        rw [hf] at hv
        simp only [valOK] at hv
        simp only [Bool.and_eq_true, Bool.not_eq_true', List.isEmpty_eq_false_iff]
        refine ⟨hv.1, List.all_eq_true.mpr fun x hx => ?_⟩
        have := tchar_props x (List.all_eq_true.mp hv.2 x hx)
        simp [this.1, this.2.1]
      | quoted m =>
        rw [hf] at hv
        simp only [valOK] at hv ⊢
        exact List.all_eq_true.mpr fun x hx => by simpa using hv x hx

theorem renderGList_cons_ne (g : GElem) (l : List GElem) (h : l ≠ []) :
    renderGList (g :: l) = g.render ++ 44 :: (g.ws4 ++ renderGList l) := by
  cases l with
  | nil => exact absurd rfl h
  | cons a b => rfl

theorem elems_tree : ∀ (fuel : Nat) (s : Bytes) (gs : List GElem), elems fuel s = some gs →
    gs ≠ [] ∧ renderGList gs = s ∧ gs.all GElem.wf = true := by
  intro fuel
  induction fuel with
  | zero => intro s gs h; simp [elems] at h
  | succ fuel ih =>
    intro s gs h
    cases s with
    | nil =>
      simp only [elems, Option.some.injEq] at h
      subst h
      exact ⟨by simp, by simp [renderGList, GElem.render], by simp [GElem.wf, allWs]⟩
    | cons c r =>
      simp only [elems] at h
      by_cases hc : c = 44
      · simp only [hc, if_true, Option.map_eq_some_iff] at h
        obtain ⟨gs', hgs', hgs⟩ := h
        obtain ⟨hne, hr, hwf⟩ := ih _ gs' hgs'
        subst hgs; subst hc
        refine ⟨by simp, ?_, by simp [GElem.wf, ws_allWs, hwf]⟩
        rw [renderGList_cons_ne _ _ hne, hr]
        simp [GElem.render, GElem.ws4, spanP_eq]
      · simp only [hc, if_false] at h
        cases hp : param (c :: r) with
        | none => simp [hp] at h
        | some x =>
          obtain ⟨p, r7⟩ := x
          obtain ⟨hs, hok⟩ := param_spec _ p r7 hp
          simp only [hp] at h
          cases r7 with
          | nil =>
            simp only [Option.some.injEq] at h
            subst h
            obtain ⟨hwf, hrend, _⟩ := mk_spec p [] hok (by simp [allWs])
            exact ⟨by simp, by simp [renderGList, hrend, hs], by simp [hwf]⟩
          | cons d r8 =>
            simp only at h
            by_cases hd : d = 44
            · simp only [hd, ne_eq, not_true_eq_false, if_false, Option.map_eq_some_iff] at h
              obtain ⟨gs', hgs', hgs⟩ := h
              obtain ⟨hne, hr, hwf'⟩ := ih _ gs' hgs'
              obtain ⟨hwf, hrend, hws4⟩ := mk_spec p (spanP isWs r8).1 hok (ws_allWs _)
              subst hgs; subst hd
              refine ⟨by simp, ?_, by simp [hwf, hwf']⟩
              rw [renderGList_cons_ne _ _ hne, hr, hrend, hws4, hs, spanP_eq]
            · simp [hd] at h

end Mhd.Auth.Ref
