/-
  The daemon-wide flag `data_already_pending` is an accumulation over the connections handled in a
  round: `call_handlers` raises it for a connection that ends in a PROCESS wait state and nothing
  inside the traversal clears it.  Hence after the traversal of the select loop the flag is set
  whenever a visited connection has work pending, whatever the order of the connections.
-/
import Mhd.Proofs.TmoHandlers
namespace Mhd.Tmo
open Mhd.Gen.Tmo

theorem notePending_spec {v : Variant} (hacc : v.pendAccum = true) (d : Daemon) (i : Id) :
    (notePending v d i).c = d.c ∧
    (procWait (d.c i) = true → (notePending v d i).dataPending = true) ∧
    (d.dataPending = true → (notePending v d i).dataPending = true) := by
  unfold notePending
  simp only [hacc, if_true]
  by_cases h1 : d.dataPending = false ∧ procWait (d.c i) = true
  · rw [if_pos h1]; exact ⟨rfl, fun _ => rfl, fun _ => rfl⟩
  · rw [if_neg h1]
    refine ⟨rfl, fun hp => ?_, fun h => h⟩
    cases hd : d.dataPending with
    | true => rfl
    | false => exact absurd ⟨hd, hp⟩ h1

theorem callHandlersSel_pending {v : Variant} (hacc : v.pendAccum = true) (d : Daemon) (i : Id) (r : Bool) :
    (d.dataPending = true → (callHandlersSel v d i r).1.dataPending = true) ∧
    (procWait ((callHandlersSel v d i r).1.c i) = true → (callHandlersSel v d i r).1.dataPending = true) := by
  unfold callHandlersSel
  dsimp only
  have s := notePending_spec hacc (callHandlersSel0 v d i r).1 i
  -- nothing but the end of `call_handlers` touches the flag
  have e := ((touch_handler v i d).callHandlersSel0 r (Touch.refl i d)).dataPending
  refine ⟨fun h => s.2.2 (by rw [e]; exact h), fun h => ?_⟩
  rw [s.1] at h
  exact s.2.1 h

theorem travSel_keeps {v : Variant} (hacc : v.pendAccum = true) (rs l : List Id) (d : Daemon)
    (h : d.dataPending = true) : (travSel v rs l d).1.dataPending = true :=
  (trav_travSel v rs).rule (G := fun r => r.1.dataPending = true) (Q := fun _ _ => True) (fun ha hf => hf ha)
    (fun d j _ h _ => ⟨(callHandlersSel_pending hacc d j _).1 h, trivial⟩) l d h trivial

/-- **The flag is an OR over the traversal.**  For a select loop that visits every connection
    (`savePrev`) and a `call_handlers` that only raises the flag: after the traversal the flag is set
    if any connection of the traversed list has work pending — in whatever position of the list that
    connection is. -/
theorem travSel_pending {v : Variant} (hacc : v.pendAccum = true) (hsp : v.savePrev = true) (rs : List Id) :
    ∀ (l : List Id) (d : Daemon), l.Nodup →
      ∀ i, i ∈ l → procWait ((travSel v rs l d).1.c i) = true → (travSel v rs l d).1.dataPending = true
  | [], d, _ => fun i hi => absurd hi List.not_mem_nil
  | j :: rest, d, hnd => by
    unfold travSel
    dsimp only
    have hstay : ¬ (v.savePrev = false ∧ j ∉ (callHandlersSel v d j (rs.contains j)).1.conns) := by
      intro x; rw [hsp] at x; cases x.1
    simp only [hstay, if_false]
    unfold seq2
    dsimp only
    have hnd' := List.nodup_cons.1 hnd
    intro i hi hp
    rcases List.mem_cons.1 hi with e | e
    · subst e
      -- the rest of the traversal does not touch the record of `i`
      rw [((trav_travSel v rs).others (fun d k => others_callHandlersSel v d k _) rest _).c i hnd'.1] at hp
      exact travSel_keeps hacc rs rest _ ((callHandlersSel_pending hacc d i (rs.contains i)).2 hp)
    · exact travSel_pending hacc hsp rs rest _ hnd'.2 i e hp

end Mhd.Tmo
