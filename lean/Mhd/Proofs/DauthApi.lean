/-
  C12 proofs: what `parse_dauth_params` guarantees for *every* input it accepts (`Parsed`); on a rendered credential
  its result has the meaning and the lengths of the rendering (`parsed_rendered`, composition with C14's
  parse ∘ render theorem); the public entry points.
-/
import Mhd.Proofs.DauthValid
import Mhd.Proofs.AuthSem
import Mhd.Proofs.AuthHdr
import Mhd.Proofs.AuthSafe
namespace Mhd.Dauth
open Mhd.Auth Mhd.Gen.Auth Mhd.Gen.Dauth

/-- the semantic credential of a parameter list (C14's `view`: last occurrence wins; independent of rendering) -/
def Cred.ofView (v : Nat → Option Bytes) : Cred :=
  { algo3 := algoSem (v kAlgorithm), qop := qopSem (v kQop), userhash := userhashSem (v kUserhash),
    val := v, ext := v kUsernameExt }

/-- `username*` is written as RFC 7616 requires: an ext-value token (or a quoted-string without quoted-pairs) -/
def ExtPlain (es : List Elem) : Prop := ∀ x, rawView es none kUsernameExt = some x → x.2 = false

/-- the length of every parameter as sent in the rendering `es` (last occurrence; without the DQUOTEs) -/
def rawLenView (es : List Elem) : LenView := fun k => (rawView es none k).map fun x => x.1.length

/-- a slot holds the slice and flag of a well-formed value of the lenient grammar (`parseDigest_derives`), and a
    quoted-string body unquotes -/
theorem parseDigest_props (s : Bytes) (t : Option UInt8) (d : DAuth) (h : parseDigest s t = .ok d) :
    WQ d ∧ QopParsed d := by
  obtain ⟨_, ls, ⟨_, _, hwf⟩, _, hview⟩ := parseDigest_derives s t d h
  refine ⟨fun k p hp hq => ?_, ?_⟩
  · have := hview k
    rw [hp] at this
    exact Lenient.lview_all (fun y => y.2 = true → (unquoteLoop y.1).isSome)
      (fun val hv => by
        cases val with
        | tok v => simp [Lenient.LVal.rawq]
        | quoted raw => exact fun _ => QBody_unquotes raw hv)
      k ls none (fun x hx => (hwf x hx).1) nofun _ this.symm hq
  · exact (parseDigest_fields h).2.1

theorem qopOf_range (p : Option Param) :
    qopOf p = qopInvalid ∨ qopOf p = qopNone ∨ qopOf p = qopAuth ∨ qopOf p = qopAuthInt := by
  cases p with
  | none => right; left; rfl
  | some p =>
    have : ∀ x ∈ qopTokenChain, x.2 = qopAuth ∨ x.2 = qopAuthInt := by decide
    rw [qopOf_some]
    exact chainFind_mem _ _ _ (P := fun r => r = qopInvalid ∨ r = qopNone ∨ r = qopAuth ∨ r = qopAuthInt) (Or.inl rfl)
      fun x hx _ => Or.inr (Or.inr (this x hx))

theorem QopParsed.range {d : DAuth} (h : QopParsed d) : QopRange (semOf d) := by
  unfold QopRange semOf
  rw [show d.qop = _ from h]
  exact qopOf_range _

theorem algoOf_range (p : Option Param) : AlgoRange (algoOf p) := by
  cases p with
  | none => right; left; rfl
  | some p =>
    have : ∀ x ∈ algoTokenChain, AlgoRange x.2 := by decide
    rw [algoOf_some]; exact chainFind_mem _ _ _ (Or.inl rfl) fun x hx _ => this x hx

theorem parsed_rendered (lead : Bytes) (es : List Elem) (t : UInt8) (ht : t ≠ 59) (hwf : WF lead es = true)
    (hext : ExtPlain es) :
    ∃ d, parseDigest (render lead es) (some t) = .ok d ∧ WQ d ∧ QopParsed d ∧ QopRange (semOf d) ∧
      semOf d = Cred.ofView (view es) ∧ lenView d = rawLenView es := by
  obtain ⟨d, hp, hraw, ha, hq, hu⟩ := parseDigest_render_raw lead es t ht hwf
  have hsem := fun k => slot_sem (d.slots k) (view es k) (hraw k ▸ agree_view es k)
  obtain ⟨hwq, hqp⟩ := parseDigest_props _ _ d hp
  refine ⟨d, hp, hwq, hqp, hqp.range, ?_, ?_⟩
  · -- `username*` is sent without quoted-pairs: as sent it is its meaning
    have h5 : (d.slots kUsernameExt).map (fun p => p.raw) = (d.slots kUsernameExt).map paramUnq := by
      cases hs : d.slots kUsernameExt with
      | none => rfl
      | some p =>
        have hx : p.quoted = false := hext (p.raw, p.quoted) (by rw [← hraw kUsernameExt, hs]; rfl)
        simp only [Option.map_some, paramUnq, hx, Bool.false_eq_true, if_false]
    unfold semOf Cred.ofView
    rw [h5, (hsem kUsernameExt).1, ha, (hsem kAlgorithm).2.1, hq, (hsem kQop).2.2.1, hu, (hsem kUserhash).2.2.2,
      funext fun k => (hsem k).1]
  · funext k
    simp only [lenView, rawLenView, ← hraw k, Option.map_map]
    rfl

/-- the request carries `Authorization: Digest <rendering of es>` (field name and scheme in any letter case, SP or HT
    after the scheme) and no earlier field is a Digest Authorization field -/
def CarriesDigest (r : Req) (lead : Bytes) (es : List Elem) : Prop :=
  ∃ pre post nm sch sp, r.hdrs = pre ++ ⟨headerKind, nm, sch ++ sp :: render lead es⟩ :: post ∧
    (∀ x ∈ pre, hdrMatch digestBase x = none) ∧ nm.map toLowerB = authHeader.map toLowerB ∧
    sch.map toLowerB = digestBase.map toLowerB ∧ (sp = 32 ∨ sp = 9)

theorem findAuth_carries (r : Req) (lead : Bytes) (es : List Elem) (h : CarriesDigest r lead es) :
    ∃ i off, findAuthHeader true digestBase r.hdrs = some (i, off, render lead es) := by
  obtain ⟨pre, post, nm, sch, sp, hh, hpre, hnm, hs, hsp⟩ := h
  have hlen : sch.length = digestBase.length := by simpa using congrArg List.length hs
  have hm : hdrMatch digestBase ⟨headerKind, nm, sch ++ sp :: render lead es⟩ = some (digestBase.length + 1, render lead es) := by
    rw [hdrMatch_exact]
    have hc : ((⟨headerKind, nm, sch ++ sp :: render lead es⟩ : Hdr).kind = headerKind ∧
        (⟨headerKind, nm, sch ++ sp :: render lead es⟩ : Hdr).name.map toLowerB = authHeader.map toLowerB ∧
        digestBase.length ≤ (⟨headerKind, nm, sch ++ sp :: render lead es⟩ : Hdr).value.length ∧
        ((⟨headerKind, nm, sch ++ sp :: render lead es⟩ : Hdr).value.take digestBase.length).map toLowerB = digestBase.map toLowerB) := by
      refine ⟨rfl, hnm, by simp; omega, ?_⟩
      simp only [← hlen, List.take_left', hs]
    rw [if_pos hc]
    simp only [← hlen, List.drop_left', hsp, if_true]
  refine ⟨0 + pre.length, digestBase.length + 1, ?_⟩
  rw [hh]
  simp only [findAuthHeader, Bool.not_true, Bool.false_eq_true, if_false]
  exact findHdrLoop_first digestBase pre _ post 0 _ _ hpre hm

/-- the effective `nonce_timeout` / `max_nc` (zero = the daemon's default) -/
def effTimeout (cfg : Cfg) (call : Call) : Nat := if call.nonceTimeout = 0 then cfg.defTimeout else call.nonceTimeout
def effMaxNc (cfg : Cfg) (call : Call) : Nat := if call.maxNc = 0 then cfg.defMaxNc else call.maxNc

/-- the application respects the API: `MHD_digest_auth_check3` with a password, or
    `MHD_digest_auth_check_digest3` with exactly one base algorithm and a digest of that algorithm's size -/
def CallOk (call : Call) : Prop :=
  match call.secret with
  | .password _ => True
  | .userdigest dg =>
    bit call.malgo3 baseMd5 + bit call.malgo3 baseSha256 + bit call.malgo3 baseSha512 = 1 ∧ hashSizeOf call.malgo3 = dg.length

theorem digestCheck_eq (cfg : Cfg) (tbl : Mhd.Nonce.Table) (now : Nat) (r : Req) (call : Call) (hc : CallOk call) :
    digestCheck cfg tbl now r call =
      match getParams r with
      | .error e => (tbl, e)
      | .ok p => checkInner cfg tbl now r call (effTimeout cfg call) (effMaxNc cfg call) p := by
  unfold digestCheck CallOk at *
  cases hs : call.secret with
  | password pw => rfl
  | userdigest dg =>
    rw [hs] at hc
    simp only [hc.1, hc.2, ne_eq, not_true_eq_false, if_false]
    rfl

/-- what `parse_dauth_params` guarantees of every result, whatever bytes the client sent -/
structure Parsed (d : DAuth) : Prop where
  wq : WQ d
  qop : QopParsed d
  algoRange : AlgoRange d.algo3

/-- the scanner is given a terminating byte and so reads nothing behind the value: the fault branch of `getParams`
    is never taken -/
theorem getParams_cases (r : Req) : getParams r = .ok none ∨ ∃ d, getParams r = .ok (some d) ∧ Parsed d := by
  unfold getParams
  cases findAuthHeader true digestBase r.hdrs with
  | none => exact .inl rfl
  | some x =>
    obtain ⟨_, _, av⟩ := x
    simp only []
    cases hp : parseDigest av (some 0) with
    | fault f => exact absurd hp (parseDigest_some_noFault av 0 f)
    | reject => exact .inl rfl
    | ok d =>
      obtain ⟨h1, h2⟩ := parseDigest_props _ _ _ hp
      refine .inr ⟨d, rfl, h1, h2, ?_⟩
      exact (parseDigest_fields hp).1 ▸ algoOf_range _

end Mhd.Dauth
