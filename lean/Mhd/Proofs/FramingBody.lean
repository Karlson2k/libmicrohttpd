/-
  The body loop.  `consume` is the data branch of `bodyStep` in both body modes (`bodyStep_offered`); what is
  offered to the handler (`offered_iff`) and how deliveries compose with one another (`consume_consume`) and with
  bytes arriving behind the buffer (`consume_extend`, `offered_extend`).  No fact here needs a law of the head
  parser.
-/
import Mhd.Model.FramingTake
import Mhd.Proofs.FramingChunk
import Mhd.Proofs.FramingConn
namespace Mhd.Framing
open Mhd.Gen.Framing

/-- `mhd_assert (current_chunk_offset <= current_chunk_size)` -/
def ChunkWF (s : St) : Prop := s.off ≤ s.cur

/-- bytes arrive: appended to the read buffer unless the connection is finished -/
def recv (s : St) (b : Bytes) : St :=
  if s.state = .closed ∨ s.state = .outOfDomain then s else extend s b

theorem emitUpload_emitUpload (x y : Bytes) (out : List Ev) :
    emitUpload y (emitUpload x out) = emitUpload (x ++ y) out := by
  unfold emitUpload
  cases out with
  | nil => simp
  | cons e t => cases e <;> simp

theorem chunkWF_extend (s : St) (b : Bytes) (wf : ChunkWF s) : ChunkWF (extend s b) := wf

theorem recv_of_state (s : St) (b : Bytes) (h1 : s.state ≠ .closed) (h2 : s.state ≠ .outOfDomain) :
    recv s b = extend s b := by
  unfold recv; simp [h1, h2]

theorem recv_nil (s : St) : recv s [] = s := by
  unfold recv extend; split
  · rfl
  · simp

theorem recv_recv (s : St) (a b : Bytes) : recv (recv s a) b = recv s (a ++ b) := by
  unfold recv
  by_cases h : s.state = .closed ∨ s.state = .outOfDomain
  · simp [h]
  · simp only [h, if_false, extend, List.append_assoc]

theorem chunkWF_recv (s : St) (b : Bytes) (wf : ChunkWF s) : ChunkWF (recv s b) := by
  unfold recv; split
  · exact wf
  · exact wf

theorem errorReply_extend (s : St) (b : Bytes) (st : Nat) : errorReply (extend s b) st = errorReply s st := by
  unfold errorReply extend; simp

theorem refuseWith_extend (s : St) (b : Bytes) (x : Option Nat) : refuseWith (extend s b) x = refuseWith s x := by
  cases x with
  | some st => exact errorReply_extend s b st
  | none => rfl

theorem bodyStep_term (lvl : Int) (u : St) (n : Nat) (hc : u.chunked = true)
    (ha : chunkAct lvl u.cur u.off u.buf = .term n) :
    bodyStep lvl u = some { u with buf := u.buf.drop n, cur := 0, off := 0 } := by
  unfold bodyStep; simp only [hc, ha, if_true]

theorem bodyStep_data (lvl : Int) (u : St) (n : Nat) (hc : u.chunked = true)
    (ha : chunkAct lvl u.cur u.off u.buf = .data n) :
    bodyStep lvl u = some { u with buf := u.buf.drop n, off := u.off + n, out := emitUpload (u.buf.take n) u.out } := by
  unfold bodyStep; simp only [hc, ha, if_true]

theorem bodyStep_line (lvl : Int) (u : St) (len size : Nat) (hc : u.chunked = true)
    (ha : chunkAct lvl u.cur u.off u.buf = .line len size) :
    bodyStep lvl u =
      if size = 0 then
        some { u with buf := u.buf.drop len, cur := 0, off := 0, remaining := 0, state := .bodyReceived }
      else some { u with buf := u.buf.drop len, cur := size, off := 0 } := by
  unfold bodyStep; simp only [hc, ha, if_true]

theorem bodyStep_err (lvl : Int) (u : St) (st : Nat) (hc : u.chunked = true)
    (ha : chunkAct lvl u.cur u.off u.buf = .err st) : bodyStep lvl u = some (errorReply u st) := by
  unfold bodyStep; simp only [hc, ha, if_true]

theorem bodyStep_identity (lvl : Int) (u : St) (hc : u.chunked = false) (hb : u.buf ≠ []) :
    bodyStep lvl u =
      some (if u.remaining - min u.remaining u.buf.length = 0
            then { u with buf := u.buf.drop (min u.remaining u.buf.length),
                          remaining := u.remaining - min u.remaining u.buf.length,
                          out := emitUpload (u.buf.take (min u.remaining u.buf.length)) u.out, state := .bodyReceived }
            else { u with buf := u.buf.drop (min u.remaining u.buf.length),
                          remaining := u.remaining - min u.remaining u.buf.length,
                          out := emitUpload (u.buf.take (min u.remaining u.buf.length)) u.out }) := by
  unfold bodyStep
  cases hbb : u.buf with
  | nil => exact absurd hbb hb
  | cons c t => simp only [hc, Bool.false_eq_true, if_false]

theorem body_idleStep [HeadParser] (lvl : Int) (app : App) (u t : St) (e1 : u.state = .bodyReceiving) (e2 : u.remaining ≠ 0)
    (ht : bodyStep lvl u = some t) : idleStep lvl app u = some t := by
  unfold idleStep; rw [e1]; simp only [e2, if_false]; exact ht

theorem consume_chunked (s : St) (k : Nat) (hc : s.chunked = true) :
    consume s k = { s with buf := s.buf.drop k, off := s.off + k, out := emitUpload (s.buf.take k) s.out } := by
  unfold consume; rw [if_pos hc]

theorem consume_last (s : St) (k : Nat) (hc : s.chunked = false) (hz : s.remaining - k = 0) :
    consume s k = { s with buf := s.buf.drop k, remaining := s.remaining - k,
                           out := emitUpload (s.buf.take k) s.out, state := .bodyReceived } := by
  unfold consume; simp only [hc, Bool.false_eq_true, if_false, if_pos hz]

theorem consume_more (s : St) (k : Nat) (hc : s.chunked = false) (hz : s.remaining - k ≠ 0) :
    consume s k = { s with buf := s.buf.drop k, remaining := s.remaining - k,
                           out := emitUpload (s.buf.take k) s.out } := by
  unfold consume; simp only [hc, Bool.false_eq_true, if_false, if_neg hz]

theorem consume_extend (s : St) (b : Bytes) (k : Nat) (hk : k ≤ s.buf.length) :
    consume (extend s b) k = extend (consume s k) b := by
  have hd : (s.buf ++ b).drop k = s.buf.drop k ++ b := List.drop_append_of_le_length hk
  have ht : (s.buf ++ b).take k = s.buf.take k := List.take_append_of_le_length hk
  cases hc : s.chunked
  · by_cases hz : s.remaining - k = 0
    · rw [consume_last s k hc hz, consume_last (extend s b) k hc hz]; simp only [extend, hd, ht]
    · rw [consume_more s k hc hz, consume_more (extend s b) k hc hz]; simp only [extend, hd, ht]
  · rw [consume_chunked s k hc, consume_chunked (extend s b) k hc]; simp only [extend, hd, ht]

theorem consume_consume (s : St) (k j : Nat) (hk : s.chunked = false → k < s.remaining) :
    consume (consume s k) j = consume s (k + j) := by
  have hd : (s.buf.drop k).drop j = s.buf.drop (k + j) := List.drop_drop
  have ht : s.buf.take k ++ (s.buf.drop k).take j = s.buf.take (k + j) := List.take_add.symm
  cases hc : s.chunked
  · have hk' : s.remaining - k ≠ 0 := by have := hk hc; omega
    have e := consume_more s k hc hk'
    have c1 : (consume s k).chunked = false := by rw [e]; exact hc
    have r1 : (consume s k).remaining = s.remaining - k := by rw [e]
    by_cases hz : s.remaining - (k + j) = 0
    · rw [consume_last s (k + j) hc hz, consume_last _ j c1 (by rw [r1]; omega), e]
      simp only [emitUpload_emitUpload, hd, ht, Nat.sub_sub]
    · rw [consume_more s (k + j) hc hz, consume_more _ j c1 (by rw [r1]; omega), e]
      simp only [emitUpload_emitUpload, hd, ht, Nat.sub_sub]
  · have e := consume_chunked s k hc
    have c1 : (consume s k).chunked = true := by rw [e]; exact hc
    rw [consume_chunked s (k + j) hc, consume_chunked _ j c1, e]
    simp only [emitUpload_emitUpload, hd, ht, Nat.add_assoc]

/-- the rest of the current chunk or of the identity body: what a delivery may not pass -/
def window (s : St) : Nat := if s.chunked then s.cur - s.off else s.remaining

theorem window_identity {s : St} (hc : s.chunked = false) : window s = s.remaining := by
  unfold window; rw [hc]; rfl

theorem window_chunked {s : St} (hc : s.chunked = true) : window s = s.cur - s.off := by
  unfold window; rw [hc]; rfl

/-- inside a chunk (`chunkAct` hands out data) exactly when some of it is left -/
theorem chunk_open_iff {c o : Nat} (wf : o ≤ c) : c - o ≠ 0 ↔ ¬ (o = c ∧ c ≠ 0) ∧ c ≠ 0 := by omega

theorem offered_iff (lvl : Int) (s : St) (n : Nat) (wf : ChunkWF s) :
    offered lvl s = some n ↔ s.state = .bodyReceiving ∧ s.remaining ≠ 0 ∧ s.buf ≠ [] ∧ window s ≠ 0 ∧
      n = min (window s) s.buf.length := by
  unfold offered window
  by_cases hg : s.state = .bodyReceiving ∧ s.remaining ≠ 0
  · rw [if_pos hg]
    cases hc : s.chunked
    · simp only [Bool.false_eq_true, if_false]
      cases s.buf with
      | nil => exact ⟨nofun, fun h => absurd rfl h.2.2.1⟩
      | cons c t =>
        exact ⟨fun h => ⟨hg.1, hg.2, nofun, hg.2, (Option.some.inj h).symm⟩, fun h => congrArg some h.2.2.2.2.symm⟩
    · simp only [if_true]
      constructor
      · intro h
        cases ha : chunkAct lvl s.cur s.off s.buf with
        | data m =>
          rw [ha] at h; cases h
          obtain ⟨h1, h2, h3, h4⟩ := chunkAct_data _ _ _ _ _ ha
          exact ⟨hg.1, hg.2, h3, (chunk_open_iff wf).2 ⟨h1, h2⟩, h4⟩
        | needMore => rw [ha] at h; cases h
        | term m => rw [ha] at h; cases h
        | line a b => rw [ha] at h; cases h
        | err st => rw [ha] at h; cases h
      · intro ⟨_, _, hb, hw, hn⟩
        rw [chunkAct_data_of lvl _ _ _ ((chunk_open_iff wf).1 hw).1 ((chunk_open_iff wf).1 hw).2 hb, hn]
  · rw [if_neg hg]; exact ⟨nofun, fun h => absurd ⟨h.1, h.2.1⟩ hg⟩

/-! the offer `min w l` out of a window `w` and a buffer of `l` bytes, once `m` more bytes stand behind it -/

theorem window_same {w l : Nat} (m : Nat) (h : w ≤ l ∨ m = 0) : min w (l + m) = min w l := by omega

theorem window_more {w l : Nat} (m : Nat) (h : l < w) : min w (l + m) = l + min (w - l) m := by
  rw [← Nat.add_min_add_left, Nat.add_sub_cancel' (Nat.le_of_lt h)]

theorem consume_wf (s : St) (k : Nat) (wf : ChunkWF s) (hk : k ≤ window s) : ChunkWF (consume s k) := by
  cases hc : s.chunked
  · unfold consume; rw [hc, if_neg Bool.false_ne_true]; dsimp only; split <;> exact wf
  · rw [consume_chunked s k hc]
    exact Nat.add_le_of_le_sub' wf (window_chunked hc ▸ hk)

theorem consume_open (s : St) (k : Nat) (hk : k < window s) (hrem : s.remaining ≠ 0) :
    (consume s k).state = s.state ∧ (consume s k).remaining ≠ 0 ∧ (consume s k).buf = s.buf.drop k ∧
      window (consume s k) = window s - k := by
  cases hc : s.chunked
  · rw [window_identity hc] at hk ⊢
    have hz : s.remaining - k ≠ 0 := Nat.sub_ne_zero_of_lt hk
    rw [consume_more s k hc hz]
    exact ⟨rfl, hz, rfl, window_identity hc⟩
  · rw [window_chunked hc, consume_chunked s k hc]
    refine ⟨rfl, hrem, rfl, ?_⟩
    unfold window; rw [if_pos hc]; exact Nat.sub_add_eq _ _ _

theorem bodyStep_offered (lvl : Int) (s : St) (n : Nat) (wf : ChunkWF s) (h : offered lvl s = some n) :
    bodyStep lvl s = some (consume s n) := by
  obtain ⟨_, _, hb, hw, hn⟩ := (offered_iff lvl s n wf).1 h
  cases hc : s.chunked
  · rw [window_identity hc] at hn
    rw [bodyStep_identity lvl s hc hb, ← hn]; unfold consume; rw [hc, if_neg Bool.false_ne_true]
  · rw [window_chunked hc] at hn hw
    have ho := (chunk_open_iff wf).1 hw
    rw [bodyStep_data lvl s n hc (hn ▸ chunkAct_data_of lvl _ _ _ ho.1 ho.2 hb), consume_chunked s n hc]

theorem consume_full [HeadParser] (lvl : Int) (app : App) (s : St) (n : Nat) (wf : ChunkWF s) (h : offered lvl s = some n) :
    idleStep lvl app s = some (consume s n) := by
  obtain ⟨hs, hrem, _⟩ := (offered_iff lvl s n wf).1 h
  exact body_idleStep lvl app s _ hs hrem (bodyStep_offered lvl s n wf h)

theorem offered_extend (lvl : Int) (s : St) (b : Bytes) (n : Nat) (wf : ChunkWF s) (h : offered lvl s = some n) :
    ∃ m, offered lvl (extend s b) = some (n + m) ∧
      (m = 0 ∨ (n = s.buf.length ∧ n < window s ∧ offered lvl (extend (consume s n) b) = some m)) := by
  obtain ⟨hs, hrem, hb, hw, hn⟩ := (offered_iff lvl s n wf).1 h
  have hL : offered lvl (extend s b) = some (min (window s) (s.buf.length + b.length)) :=
    (offered_iff lvl (extend s b) _ wf).2
      ⟨hs, hrem, List.append_ne_nil_of_left_ne_nil hb _, hw, congrArg (min (window s)) List.length_append.symm⟩
  rw [hL, hn]
  by_cases hle : window s ≤ s.buf.length ∨ b = []
  · exact ⟨0, congrArg some (window_same _ (hle.imp_right fun (e : b = []) => e ▸ rfl)), Or.inl rfl⟩
  · have hgt : s.buf.length < window s := Nat.lt_of_not_le fun e => hle (Or.inl e)
    have hbne : b ≠ [] := fun e => hle (Or.inr e)
    rw [Nat.min_eq_right (Nat.le_of_lt hgt)]
    obtain ⟨cs, cr, cb, cw⟩ := consume_open s s.buf.length hgt hrem
    have cb' : (consume s s.buf.length).buf = [] := cb.trans (List.drop_eq_nil_iff.2 (Nat.le_refl _))
    refine ⟨min (window s - s.buf.length) b.length, congrArg some (window_more _ hgt), Or.inr ⟨rfl, hgt, ?_⟩⟩
    refine (offered_iff lvl (extend (consume s s.buf.length) b) _ (consume_wf s _ wf (Nat.le_of_lt hgt))).2
      ⟨cs.trans hs, cr, List.append_ne_nil_of_right_ne_nil _ hbne, ?_, ?_⟩
    · show window (consume s s.buf.length) ≠ 0; rw [cw]; exact Nat.sub_ne_zero_of_lt hgt
    · show _ = min (window (consume s s.buf.length)) ((consume s s.buf.length).buf ++ b).length
      rw [cw, cb']; rfl


theorem consume_buf (s : St) (n : Nat) : (consume s n).buf = s.buf.drop n := by
  unfold consume; split
  · rfl
  · dsimp only; split <;> rfl

theorem consume_live (s : St) (n : Nat) (hs : s.state = .bodyReceiving) :
    (consume s n).state ≠ .closed ∧ (consume s n).state ≠ .outOfDomain := by
  unfold consume; split
  · rw [hs]; exact ⟨nofun, nofun⟩
  · dsimp only; split
    · exact ⟨nofun, nofun⟩
    · rw [hs]; exact ⟨nofun, nofun⟩

theorem consume_keeps [HeadParser] (s : St) (n : Nat) (hs : s.state = .bodyReceiving) : Keeps s (consume s n) := by
  have ps : PastFirst s := by unfold PastFirst; rw [hs]; exact ⟨nofun, nofun, nofun⟩
  unfold consume
  split
  · exact Keeps.of_flags id rfl id (hs ▸ nofun) fun _ => ⟨ps, countFirst_emitUpload _ _⟩
  · dsimp only; split
    · exact Keeps.of_flags id rfl id nofun fun _ => ⟨⟨nofun, nofun, nofun⟩, countFirst_emitUpload _ _⟩
    · exact Keeps.of_flags id rfl id (hs ▸ nofun) fun _ => ⟨ps, countFirst_emitUpload _ _⟩
end Mhd.Framing
