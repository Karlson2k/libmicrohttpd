/-
  C05 — the connection notifications bracket everything: the shape of every log the protocol automaton accepts.
-/
import Mhd.Model.Protocol
namespace Mhd.Protocol

def isNotify : LEv → Bool
  | .connStart => true
  | .connClose => true
  | _ => false

def isFree : LEv → Bool
  | .freeCb _ => true
  | _ => false

/-- between the start and the close notification -/
def inside : PSt → Bool
  | .idle => true
  | .req _ => true
  | _ => false

theorem inside_ite {c : Prop} [Decidable c] {x y : PSt} (hx : inside x = true ∨ x = .bad)
    (hy : inside y = true ∨ y = .bad) : inside (if c then x else y) = true ∨ (if c then x else y) = .bad := by
  split <;> assumption

theorem step_inside (p : PSt) (e : LEv) (hp : inside p = true) (he : isNotify e = false) :
    inside (step p e) = true ∨ step p e = .bad := by
  have hh : ∀ r site off len taken ci co ret,
      inside (handlerStep r site off len taken ci co ret) = true ∨ handlerStep r site off len taken ci co ret = .bad := by
    intros
    unfold handlerStep
    iterate 6 refine inside_ite (.inr rfl) ?_
    exact .inl rfl
  cases p
  case idle =>
    cases e
    case connStart | connClose => cases he
    case handler => exact hh ..
    case uriLog | queued | invalidate | freeCb => exact .inl rfl
    all_goals exact .inr rfl
  case req r =>
    cases e
    case connStart | connClose => cases he
    case handler => exact hh ..
    case freeCb => exact .inl rfl
    case uriLog | invalidate => exact .inr rfl
    case queued => exact inside_ite (.inr rfl) (.inl rfl)
    all_goals exact inside_ite (.inl rfl) (.inr rfl)
  all_goals cases hp

theorem step_inside_start (p : PSt) (hp : inside p = true) : step p .connStart = .bad := by
  cases p <;> simp [inside] at hp <;> rfl

theorem step_inside_close (p : PSt) (hp : inside p = true) : step p .connClose = .closed ∨ step p .connClose = .bad := by
  cases p <;> simp [inside] at hp
  · left; rfl
  · right; rfl

theorem step_closed (e : LEv) : step .closed e = if isFree e = true then .closed else .bad := by
  cases e <;> rfl

theorem run_closed (log : List LEv) :
    (run .closed log = .closed ∧ ∀ e ∈ log, isFree e = true) ∨ run .closed log = .bad := by
  induction log with
  | nil => exact .inl ⟨rfl, fun _ he => nomatch he⟩
  | cons a t ih =>
    have hrun : run .closed (a :: t) = run (step .closed a) t := rfl
    rw [hrun, step_closed]
    by_cases ha : isFree a = true
    · rw [if_pos ha]; exact ih.imp_left fun h => ⟨h.1, List.forall_mem_cons.mpr ⟨ha, h.2⟩⟩
    · rw [if_neg ha]; exact .inr (run_bad t)

theorem run_inside : ∀ (log : List LEv) (p : PSt), inside p = true →
    (inside (run p log) = true ∧ ∀ e ∈ log, isNotify e = false) ∨
    (run p log = .closed ∧ ∃ mid tail, log = mid ++ .connClose :: tail ∧ (∀ e ∈ mid, isNotify e = false) ∧
        ∀ e ∈ tail, isFree e = true) ∨
    run p log = .bad := by
  intro log
  induction log with
  | nil => exact fun p hp => .inl ⟨hp, fun _ he => nomatch he⟩
  | cons a t ih =>
    intro p hp
    have hrun : run p (a :: t) = run (step p a) t := rfl
    rw [hrun]
    cases hn : isNotify a
    · rcases step_inside p a hp hn with h | h
      · rcases ih (step p a) h with ⟨h1, h2⟩ | ⟨h1, mid, tail, h2, h3, h4⟩ | h1
        · exact .inl ⟨h1, List.forall_mem_cons.mpr ⟨hn, h2⟩⟩
        · exact .inr (.inl ⟨h1, a :: mid, tail, by rw [h2]; rfl, List.forall_mem_cons.mpr ⟨hn, h3⟩, h4⟩)
        · exact .inr (.inr h1)
      · rw [h]; exact .inr (.inr (run_bad t))
    · cases a
      case connStart => rw [step_inside_start p hp]; exact .inr (.inr (run_bad t))
      case connClose =>
        rcases step_inside_close p hp with h | h <;> rw [h]
        · rcases run_closed t with ⟨hc, hf⟩ | hb
          · exact .inr (.inl ⟨hc, [], t, rfl, (fun _ he => nomatch he), hf⟩)
          · exact .inr (.inr hb)
        · exact .inr (.inr (run_bad t))
      all_goals cases hn

theorem run_fresh (log : List LEv) :
    log = [] ∨ (∃ t, log = .connStart :: t ∧ run .fresh log = run .idle t) ∨ run .fresh log = .bad := by
  cases log with
  | nil => exact .inl rfl
  | cons a t =>
    cases a with
    | connStart => exact .inr (.inl ⟨t, rfl, rfl⟩)
    | _ => exact .inr (.inr (run_bad t))

theorem accepts_bracket (log : List LEv) (h : accepts log) :
    log = [] ∨ ∃ rest, log = .connStart :: rest ∧
      ((∀ e ∈ rest, isNotify e = false) ∨
       ∃ mid tail, rest = mid ++ .connClose :: tail ∧ (∀ e ∈ mid, isNotify e = false) ∧ ∀ e ∈ tail, isFree e = true) := by
  unfold accepts at h
  rcases run_fresh log with rfl | ⟨t, rfl, e⟩ | e
  · exact .inl rfl
  · refine .inr ⟨t, rfl, ?_⟩
    rw [e] at h
    rcases run_inside t .idle rfl with ⟨_, h2⟩ | ⟨_, h2⟩ | h1
    · exact .inl h2
    · exact .inr h2
    · exact absurd h1 h
  · exact absurd e h

theorem complete_bracket (log : List LEv) (h : complete log) :
    ∃ mid tail, log = .connStart :: (mid ++ .connClose :: tail) ∧ (∀ e ∈ mid, isNotify e = false) ∧
      ∀ e ∈ tail, isFree e = true := by
  unfold complete at h
  rcases run_fresh log with rfl | ⟨t, rfl, e⟩ | e
  · cases h
  · rw [e] at h
    rcases run_inside t .idle rfl with ⟨h1, _⟩ | ⟨_, mid, tail, h2, h3, h4⟩ | h1
    · rw [h] at h1; cases h1
    · exact ⟨mid, tail, by rw [h2], h3, h4⟩
    · rw [h] at h1; cases h1
  · rw [h] at e; cases e

end Mhd.Protocol
