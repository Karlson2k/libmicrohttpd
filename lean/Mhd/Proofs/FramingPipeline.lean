/-
  A pipelined stream of valid generated requests is split into exactly those requests, at every level and for
  every segmentation.
-/
import Mhd.Proofs.FramingDecode
import Mhd.Proofs.FramingTake
namespace Mhd.Framing
open Mhd.Gen.Framing Framer

set_option linter.unusedSectionVars false
variable [P : HeadParser] [L : LawfulHeadParser]

/-- body of a generated request -/
inductive BodySpec
  | none
  | identity (data : Bytes)
  | chunked (cs : List Chunk) (last : Chunk) (trailer : Bytes)

def BodySpec.bytes : BodySpec → Bytes
  | .none => []
  | .identity d => d
  | .chunked cs last tr => encodeChunked cs last ++ tr

def BodySpec.data : BodySpec → Bytes
  | .none => []
  | .identity d => d
  | .chunked cs _ _ => cs.flatMap Chunk.data

structure Msg where
  headBytes : Bytes
  head : Head
  body : BodySpec

def Msg.bytes (m : Msg) : Bytes := m.headBytes ++ m.body.bytes

def Msg.seen (m : Msg) : Seen := ⟨m.head.method, m.head.target, m.body.data⟩

/-- a generated request that is valid at level `lvl`: the head parser accepts its head bytes exactly
    (delivering `m.head`: any method, target, field list), `decideBody` announces the body that was
    rendered (none; identity of that length; any admissible chunking followed by a trailer section the
    parser accepts exactly), and the request side keeps the connection alive (no `close` token;
    HTTP/1.1 or `keep-alive`) -/
structure MsgOK (lvl : Int) (m : Msg) : Prop where
  headOK : P.head m.headBytes = .ok m.head []
  framing :
    match m.body with
    | .none => decideBody lvl m.head.http11 m.head.fields = .none ∨ decideBody lvl m.head.http11 m.head.fields = .len 0
    | .identity d => d ≠ [] ∧ decideBody lvl m.head.http11 m.head.fields = .len d.length
    | .chunked cs last tr => decideBody lvl m.head.http11 m.head.fields = .chunked false ∧
        (∀ c ∈ cs, ChunkOK lvl c) ∧ LastOK lvl last ∧ ∃ fs, P.trailers tr = .ok fs []
  noClose : lookupToken m.head.fields hdrConnection tokClose = false
  keep : m.head.http11 = true ∨ lookupToken m.head.fields hdrConnection tokKeepAlive = true

/-- the state right after `connection_reset (c, true)` -/
def fresh (i : Nat) (o : List Ev) (buf : Bytes) : St := { state := .init, buf := buf, nreq := i, out := o }

/-- events of one completely handled request, latest first -/
def msgEvents (m : Msg) (st : Nat) : List Ev :=
  [.reqDone, .reply st false, .final] ++ (if m.body.data = [] then [] else [.upload m.body.data]) ++
    [.first m.head.method m.head.target]

theorem emitUpload_first (d m t : Bytes) (o : List Ev) : emitUpload d (.first m t :: o) = .upload d :: .first m t :: o := rfl

/-- `remaining_upload_size` as the framing decision sets it for a generated body -/
def BodySpec.rem : BodySpec → Nat
  | .none => 0
  | .identity d => d.length
  | .chunked _ _ _ => sizeUnknown

def BodySpec.isChunked : BodySpec → Bool
  | .chunked _ _ _ => true
  | _ => false

/-- the upload event of a whole body -/
def BodySpec.upload (b : BodySpec) : List Ev := if b.data = [] then [] else [.upload b.data]

/-- the connection inside request `i`, whose head and framing decision are in place -/
def inReq (i : Nat) (m : Msg) (st : CState) (rem : Nat) (o : List Ev) (buf : Bytes) : St :=
  { state := st, buf := buf, nreq := i, out := o, head := m.head, chunked := m.body.isChunked, remaining := rem }

section
variable (lvl : Int) (app : App) (i st : Nat) (o : List Ev) (m : Msg) (rest : Bytes)

theorem steps_decided (hm : MsgOK lvl m) :
    Steps lvl app (fresh i o (m.bytes ++ rest)) (inReq i m .headersProcessed m.body.rem o (m.body.bytes ++ rest)) := by
  have hp : P.head (m.headBytes ++ (m.body.bytes ++ rest)) = .ok m.head (m.body.bytes ++ rest) :=
    L.head_append m.headBytes _ m.head [] hm.headOK
  have e1 : idleStep lvl app (fresh i o (m.bytes ++ rest)) =
      some { fresh i o (m.body.bytes ++ rest) with state := .headersReceived, head := m.head } := by
    unfold idleStep; simp only [fresh, Msg.bytes, List.append_assoc, hp]
  refine Steps.head e1 (Steps.one ?_)
  have hfr := hm.framing
  unfold idleStep inReq
  cases hb : m.body with
  | none => rw [hb] at hfr; rcases hfr with h | h <;> simp only [fresh, h] <;> rfl
  | identity d => rw [hb] at hfr; simp only [fresh, hfr.2]; rfl
  | chunked cs last tr => rw [hb] at hfr; simp only [fresh, hfr.1]; rfl

/-- the first handler call: with the beginning of a non-empty body in the buffer no "100 Continue" is due -/
theorem step_first (rem : Nat) (buf : Bytes) (happ : app i = .cont st false) (hbuf : rem ≠ 0 → buf ≠ []) :
    idleStep lvl app (inReq i m .headersProcessed rem o buf) =
      some (inReq i m (if rem = 0 then .fullReqReceived else .bodyReceiving) rem (.first m.head.method m.head.target :: o) buf) := by
  unfold idleStep
  by_cases hr : rem = 0
  · simp only [inReq, happ, hr, if_true]
  · simp only [inReq, happ, hr, if_false, List.isEmpty_eq_false_iff.2 (hbuf hr), Bool.and_false, Bool.false_eq_true]

/-- `e` is the `first` event: an upload behind it is not coalesced with anything older -/
theorem steps_body (hm : MsgOK lvl m) (e : Ev) (he : e = .first m.head.method m.head.target) :
    Steps lvl app (inReq i m (if m.body.rem = 0 then .fullReqReceived else .bodyReceiving) m.body.rem (e :: o) (m.body.bytes ++ rest))
      (inReq i m .fullReqReceived 0 (m.body.upload ++ e :: o) rest) := by
  have hfr := hm.framing
  unfold inReq
  -- the `if`s are decided before `rem` and `upload` are unfolded: `simp` does not rewrite inside their
  -- `Decidable` instances, after which `if_neg` does not apply
  cases hb : m.body with
  | none => exact Steps.refl _
  | identity d =>
    rw [hb] at hfr
    have hne : d ++ rest ≠ [] := List.append_ne_nil_of_left_ne_nil hfr.1 _
    have hdl : d.length ≠ 0 := fun e => hfr.1 (List.length_eq_zero_iff.1 e)
    rw [if_neg (show (BodySpec.identity d).rem ≠ 0 from hdl), show (BodySpec.identity d).upload = [.upload d] from if_neg hfr.1]
    simp only [BodySpec.rem, BodySpec.bytes, BodySpec.isChunked]
    refine Steps.head (t := { state := .bodyReceived, buf := rest, nreq := i, out := .upload d :: e :: o, head := m.head }) ?_
      (Steps.one ?_)
    · refine body_idleStep lvl app _ _ rfl hdl ?_
      rw [bodyStep_identity lvl _ rfl hne]
      have hmin : min d.length (d ++ rest).length = d.length := by rw [List.length_append]; omega
      simp only [hmin, Nat.sub_self, if_true, List.drop_left, List.take_left, he, emitUpload_first]
    · unfold idleStep; rfl
  | chunked cs last tr =>
    rw [hb] at hfr
    obtain ⟨-, hcs, hlast, fs, htr⟩ := hfr
    have hup : uploadAll cs (e :: o) = (BodySpec.chunked cs last tr).upload ++ e :: o := by
      unfold BodySpec.upload BodySpec.data
      cases cs with
      | nil => rfl
      | cons c t =>
        have hd : (c :: t).flatMap Chunk.data ≠ [] :=
          List.append_ne_nil_of_left_ne_nil (hcs c List.mem_cons_self).nonEmpty _
        rw [uploadAll_eq _ _ (List.cons_ne_nil _ _), he, emitUpload_first, if_neg hd]; rfl
    rw [← hup, if_neg (show (BodySpec.chunked cs last tr).rem ≠ 0 from (by decide : sizeUnknown ≠ 0))]
    simp only [BodySpec.rem, BodySpec.bytes, BodySpec.isChunked, List.append_assoc]
    refine Steps.trans (steps_chunked_body lvl app cs hcs last hlast (tr ++ rest) _ rfl rfl (by decide : sizeUnknown ≠ 0) rfl rfl rfl)
      (Steps.head (t := { state := .footersReceiving, buf := tr ++ rest, nreq := i, out := uploadAll cs (e :: o), head := m.head, chunked := true }) ?_
        (Steps.head (t := { state := .footersReceived, buf := rest, nreq := i, out := uploadAll cs (e :: o), head := m.head, chunked := true }) ?_ (Steps.one ?_)))
    · unfold idleStep; rfl
    · unfold idleStep; simp only [L.trailers_append tr rest fs [] htr, List.nil_append]
    · unfold idleStep; rfl

theorem steps_reply (happ : app i = .cont st false) (hnc : lookupToken m.head.fields hdrConnection tokClose = false)
    (hk : m.head.http11 = true ∨ lookupToken m.head.fields hdrConnection tokKeepAlive = true) :
    Steps lvl app (inReq i m .fullReqReceived 0 o rest) (fresh (i + 1) (.reqDone :: .reply st false :: .final :: o) rest) := by
  let s1 : St := { inReq i m .startReply 0 (.final :: o) rest with resp := some (st, false) }
  have hka : keepalivePossible s1 false = .use := by
    unfold keepalivePossible
    simp only [s1, inReq, hnc]
    cases hk with
    | inl hk => simp [hk]
    | inr hk => simp [hk]
  refine Steps.head (t := s1) ?_ (Steps.head (t := { s1 with keepalive := .use, state := .fullReplySent, out := .reply st false :: .final :: o }) ?_ (Steps.one ?_))
  · unfold idleStep; simp only [s1, inReq, happ]
  · unfold idleStep; simp only [s1, inReq] at hka ⊢; simp only [hka]; rfl
  · unfold idleStep; simp only [s1, inReq, connReset, fresh]; rfl

end

theorem steps_request (lvl : Int) (app : App) (i st : Nat) (o : List Ev) (m : Msg) (rest : Bytes)
    (hm : MsgOK lvl m) (happ : app i = .cont st false) :
    Steps lvl app (fresh i o (m.bytes ++ rest)) (fresh (i + 1) (msgEvents m st ++ o) rest) := by
  have hbuf : m.body.rem ≠ 0 → m.body.bytes ++ rest ≠ [] := by
    have hfr := hm.framing
    intro hr
    refine List.append_ne_nil_of_left_ne_nil ?_ _
    cases hb : m.body with
    | none => rw [hb] at hr; exact absurd rfl hr
    | identity d => rw [hb] at hfr; exact hfr.1
    | chunked cs last tr =>
      rw [hb] at hfr
      exact List.append_ne_nil_of_left_ne_nil (List.append_ne_nil_of_right_ne_nil _ (Chunk.line_ne lvl last hfr.2.2.1.toLineOK)) _
  have hev : msgEvents m st ++ o =
      .reqDone :: .reply st false :: .final :: (m.body.upload ++ .first m.head.method m.head.target :: o) := by
    simp [msgEvents, BodySpec.upload]
  rw [hev]
  exact (steps_decided lvl app i o m rest hm).trans (Steps.head (step_first lvl app i st o m _ _ happ hbuf)
    ((steps_body lvl app i _ m rest hm _ rfl).trans (steps_reply lvl app i st _ m rest happ hm.noClose hm.keep)))

def statusOf (app : App) (i : Nat) : Nat :=
  match app i with
  | .cont st _ => st
  | .early st _ => st
  | .abort => 0

/-- all events of a pipeline of completely handled requests, latest first -/
def pipelineEvents (app : App) : Nat → List Msg → List Ev
  | _, [] => []
  | i, m :: t => pipelineEvents app (i + 1) t ++ msgEvents m (statusOf app i)

theorem steps_pipeline (lvl : Int) (app : App) (ms : List Msg) (i : Nat) (o : List Ev) (rest : Bytes)
    (hok : ∀ m ∈ ms, MsgOK lvl m) (happ : ∀ j, i ≤ j → j < i + ms.length → ∃ st, app j = .cont st false) :
    Steps lvl app (fresh i o (ms.flatMap Msg.bytes ++ rest))
      (fresh (i + ms.length) (pipelineEvents app i ms ++ o) rest) := by
  induction ms generalizing i o with
  | nil => simp only [List.flatMap_nil, List.nil_append, List.length_nil, Nat.add_zero, pipelineEvents]; exact Steps.refl _
  | cons m t ih =>
    obtain ⟨st, hst⟩ := happ i (Nat.le_refl i) (by simp only [List.length_cons]; omega)
    have h1 := steps_request lvl app i st o m (t.flatMap Msg.bytes ++ rest) (hok m List.mem_cons_self) hst
    have h2 := ih (i + 1) (msgEvents m st ++ o) (fun m' hm' => hok m' (List.mem_cons_of_mem _ hm'))
      (fun j h1 h2 => happ j (by omega) (by simp only [List.length_cons]; omega))
    have hs : statusOf app i = st := by simp [statusOf, hst]
    have e1 : (m :: t).flatMap Msg.bytes ++ rest = m.bytes ++ (t.flatMap Msg.bytes ++ rest) := by
      simp [List.flatMap_cons, List.append_assoc]
    have e2 : i + (m :: t).length = i + 1 + t.length := by simp only [List.length_cons]; omega
    have e3 : pipelineEvents app i (m :: t) ++ o = pipelineEvents app (i + 1) t ++ (msgEvents m st ++ o) := by
      simp [pipelineEvents, hs, List.append_assoc]
    rw [e1, e2, e3]
    exact Steps.trans h1 h2

theorem framesOfAux_msg (m : Msg) (st : Nat) (tail : List Ev) :
    framesOfAux ((msgEvents m st).reverse ++ tail) none = m.seen :: framesOfAux tail none := by
  by_cases hd : m.body.data = []
  · simp [msgEvents, hd, framesOfAux, Msg.seen]
  · simp [msgEvents, hd, framesOfAux, Msg.seen]

theorem framesOfAux_pipeline (app : App) (ms : List Msg) (i : Nat) :
    framesOfAux (pipelineEvents app i ms).reverse none = ms.map Msg.seen := by
  induction ms generalizing i with
  | nil => rfl
  | cons m t ih =>
    simp only [pipelineEvents, List.reverse_append, List.map_cons]
    rw [framesOfAux_msg, ih]

theorem pipeline_frames (lvl : Int) (app : App) (ms : List Msg) (segs : List Bytes)
    (hok : ∀ m ∈ ms, MsgOK lvl m) (happ : ∀ j, j < ms.length → ∃ st, app j = .cont st false)
    (hsegs : segs.flatten = ms.flatMap Msg.bytes) :
    framesOf (runSegs lvl app segs) = ms.map Msg.seen ∧
    runSegs lvl app segs = fresh ms.length (pipelineEvents app 0 ms) [] := by
  have hst := steps_pipeline lvl app ms 0 [] [] hok (fun j _ h => happ j (by omega))
  simp only [List.append_nil, Nat.zero_add] at hst
  have hidle := idle_of_steps lvl app _ _ hst (by simp [ChunkWF, fresh])
  have hq : idleStep lvl app (fresh ms.length (pipelineEvents app 0 ms) []) = none := by
    unfold idleStep; simp only [fresh, L.head_nil]
  have hrun : runSegs lvl app segs = fresh ms.length (pipelineEvents app 0 ms) [] := by
    rw [runSegs_flatten, hsegs]
    unfold runSegs
    simp only [List.foldl_cons, List.foldl_nil]
    rw [feed_eq]
    have : recv ({} : St) (ms.flatMap Msg.bytes) = fresh 0 [] (ms.flatMap Msg.bytes) := by
      unfold recv extend fresh; simp
    rw [this, hidle.1, idle_of_none lvl app _ hq]
  refine ⟨?_, hrun⟩
  rw [hrun]
  unfold framesOf
  exact framesOfAux_pipeline app ms 0
end Mhd.Framing
