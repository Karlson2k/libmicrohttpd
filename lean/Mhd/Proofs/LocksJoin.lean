/-
  C18 — proofs about the join loop of thread-per-connection mode (`Mhd.StopJoin`).
  Whatever other threads do while the mutex is released around a join is a run of thread exit
  paths; `Exits` says what such a run can change, and the loop is proved against `Exits` alone.
-/
import Mhd.Model.LocksJoin

namespace Mhd.StopJoin
open Mhd.Gen.Locks

/-- well-formed state of the join loop; a joined connection is in the cleanup list because its thread
    has ended.  Nothing is asked of the `connections` list itself, not even `Nodup`: an exit path takes
    every occurrence of its connection out of it. -/
structure WF (s : JS) : Prop where
  cleanNd : s.cleanup.Nodup
  disj : ∀ c ∈ s.conn, c ∉ s.cleanup
  connUnj : ∀ c ∈ s.conn, c ∉ s.joined
  joinedNd : s.joined.Nodup
  joinedClean : ∀ c ∈ s.joined, c ∈ s.cleanup

/-- what any number of thread exit paths do: connections leave the `connections` list (in place) for
    the cleanup list, nothing else happens -/
structure Exits (s s' : JS) : Prop where
  joined : s'.joined = s.joined
  sub : s'.conn.Sublist s.conn
  union : ∀ x, (x ∈ s'.conn ∨ x ∈ s'.cleanup) ↔ (x ∈ s.conn ∨ x ∈ s.cleanup)
  wf : WF s → WF s'

theorem Exits.refl (s : JS) : Exits s s := ⟨rfl, List.Sublist.refl _, fun _ => Iff.rfl, id⟩

theorem Exits.trans {s0 s1 s2 : JS} (h1 : Exits s0 s1) (h2 : Exits s1 s2) : Exits s0 s2 :=
  ⟨h2.joined.trans h1.joined, h2.sub.trans h1.sub, fun x => (h2.union x).trans (h1.union x), h2.wf ∘ h1.wf⟩

theorem exitThread_eq {s : JS} {c : Nat} (hc : c ∈ s.conn) :
    exitThread s c = { s with conn := s.conn.filter (· != c), cleanup := s.cleanup ++ [c] } := by
  unfold exitThread; rw [if_pos hc]

theorem exitThread_exits (s : JS) (c : Nat) : Exits s (exitThread s c) := by
  by_cases hc : c ∈ s.conn
  · rw [exitThread_eq hc]
    refine ⟨rfl, List.filter_sublist, fun x => ?_, fun h => ⟨?_, ?_, ?_, h.joinedNd, ?_⟩⟩
    · by_cases hx : x = c <;> simp [List.mem_filter, hx, hc]
    · refine List.nodup_append.mpr ⟨h.cleanNd, by simp, ?_⟩
      intro a ha b hb e
      rw [List.mem_singleton.mp hb] at e
      exact h.disj c hc (e ▸ ha)
    · intro x hx
      simp only [List.mem_filter, bne_iff_ne, ne_eq] at hx
      simp only [List.mem_append, List.mem_singleton, not_or]
      exact ⟨h.disj x hx.1, hx.2⟩
    · exact fun x hx => h.connUnj x (List.mem_filter.mp hx).1
    · exact fun x hx => List.mem_append.mpr (Or.inl (h.joinedClean x hx))
  · have e : exitThread s c = s := by unfold exitThread; rw [if_neg hc]
    rw [e]; exact Exits.refl s

theorem foldl_exits (evs : List Nat) : ∀ s : JS, Exits s (evs.foldl exitThread s) := by
  induction evs with
  | nil => exact Exits.refl
  | cons e es ih => exact fun s => (exitThread_exits s e).trans (ih _)

theorem not_mem_exitThread (s : JS) (c : Nat) : c ∉ (exitThread s c).conn := by
  by_cases hc : c ∈ s.conn
  · rw [exitThread_eq hc]; simp [List.mem_filter]
  · unfold exitThread; rw [if_neg hc]; exact hc

theorem window_exits (s : JS) (p : Nat) (evs : List Nat) :
    Exits s (window s p evs) ∧ p ∉ (window s p evs).conn :=
  ⟨(foldl_exits evs s).trans (exitThread_exits _ p), not_mem_exitThread _ p⟩

theorem Exits.length_lt {s s' : JS} (h : Exits s s') {p : Nat} (hp : p ∈ s.conn) (hp' : p ∉ s'.conn) :
    s'.conn.length < s.conn.length :=
  Nat.lt_of_not_le fun hle => hp' (h.sub.eq_of_length_le hle ▸ hp)

/-- **the discipline of the unchanged code joins everybody**, whatever the other threads do meanwhile -/
theorem joinLoop_reread : ∀ (fuel : Nat) (s : JS) (sched : List (List Nat)),
    s.conn.length < fuel → WF s →
    ∃ s', joinLoop .rereadHead fuel s s.conn.head? sched = some s' ∧ s'.conn = [] ∧ WF s' ∧
      (∀ x, x ∈ s'.cleanup ↔ (x ∈ s.conn ∨ x ∈ s.cleanup)) := by
  intro fuel
  induction fuel with
  | zero => intro s _ h; omega
  | succ n ih =>
    intro s sched hlen hwf
    cases hc : s.conn with
    | nil =>
      exact ⟨s, by simp [joinLoop], hc, hwf, fun x => by simp⟩
    | cons p rest =>
      have hp : p ∈ s.conn := by rw [hc]; exact List.mem_cons_self
      have hpj : p ∉ s.joined := hwf.connUnj p hp
      simp only [List.head?_cons, joinLoop, if_neg hpj]
      obtain ⟨hx, hpn⟩ := window_exits s p (sched.headD [])
      generalize window s p (sched.headD []) = w at hx hpn
      have hw := hx.wf hwf
      -- `p` has left the `connections` list, so it is in the cleanup list
      have hpc : p ∈ w.cleanup := ((hx.union p).mpr (Or.inl hp)).resolve_left hpn
      have hwf2 : WF { w with joined := p :: w.joined } :=
        ⟨hw.cleanNd, hw.disj,
         fun c hcm => List.not_mem_cons_of_ne_of_not_mem (fun e => hpn (e ▸ hcm))
           (hx.joined ▸ hwf.connUnj c (hx.sub.subset hcm)),
         List.nodup_cons.mpr ⟨hx.joined ▸ hpj, hw.joinedNd⟩,
         fun c hcm => (List.mem_cons.mp hcm).elim (fun e => e ▸ hpc) (hw.joinedClean c)⟩
      have hlen2 : w.conn.length < n := by have := hx.length_lt hp hpn; omega
      obtain ⟨s', hrun, hemp, hwf', hcl⟩ := ih { w with joined := p :: w.joined } sched.tail hlen2 hwf2
      exact ⟨s', hrun, hemp, hwf', fun x => by rw [hcl x, ← hc]; exact hx.union x⟩

/-- a connection is joined exactly once: in the loop (flag set) or by MHD_cleanup_connections() -/
theorem joined_once {s : JS} (h : WF s) (x : Nat) (hx : x ∈ s.cleanup) :
    (s.joined ++ joinedInCleanup s).count x = 1 := by
  -- the two lists are duplicate-free and disjoint, and `x` is in one of them
  have hnd : (s.joined ++ joinedInCleanup s).Nodup :=
    List.nodup_append.mpr ⟨h.joinedNd, h.cleanNd.filter _, fun a ha b hb e => by
      subst e; simp [joinedInCleanup, List.mem_filter, ha] at hb⟩
  have hm : x ∈ s.joined ++ joinedInCleanup s := by
    by_cases hj : x ∈ s.joined <;> simp [joinedInCleanup, List.mem_filter, hj, hx]
  exact Nat.le_antisymm (List.nodup_iff_count.mp hnd x) (List.count_pos_iff.mpr hm)

/-- the statement of `C18.tpc_join_every_thread` for the discipline `rereadHead` -/
theorem closeAll_reread (conns : List Nat) (sched : List (List Nat)) :
    ∃ s, closeAllTpc .rereadHead conns sched = .ok s ∧ s.conn = [] ∧
      (∀ x, x ∈ s.cleanup ↔ x ∈ conns) ∧
      (∀ x ∈ conns, (s.joined ++ joinedInCleanup s).count x = 1) ∧
      (∀ x ∈ s.joined ++ joinedInCleanup s, x ∈ conns) := by
  have hwf : WF ⟨conns, [], []⟩ :=
    ⟨List.nodup_nil, fun _ _ h => by simp at h, fun _ _ h => by simp at h, List.nodup_nil, fun _ h => by simp at h⟩
  obtain ⟨s, hrun, hemp, hwf', hcl⟩ :=
    joinLoop_reread (2 * conns.length + 2) ⟨conns, [], []⟩ sched (by simp only []; omega) hwf
  have hcl' : ∀ x, x ∈ s.cleanup ↔ x ∈ conns := by intro x; rw [hcl x]; simp
  refine ⟨s, ?_, hemp, hcl', ?_, ?_⟩
  · unfold closeAllTpc
    simp only [] at hrun
    rw [hrun]
    simp [hemp]
  · intro x hx
    exact joined_once hwf' x ((hcl' x).mpr hx)
  · -- joined in the loop or by MHD_cleanup_connections: in the cleanup list either way
    intro x hx
    refine (hcl' x).mp ((List.mem_append.mp hx).elim (hwf'.joinedClean x) fun h => ?_)
    exact (List.mem_filter.mp h).1

/-- the one exception the rule admits (`pinnedNodeLoop`) is a walk over the suspended list, so for the
    join loop over `connections` it leaves `rereadHead` -/
theorem cursor_of_rule (loops : List Loop) (h : cursorRuleOk loops = true)
    (hex : (cursorOf loops "close_all_connections" Field.conn_list).isSome = true) :
    joinLoopCursor loops = CursorKind.rereadHead := by
  unfold joinLoopCursor cursorOf at *
  cases hf : loops.find? (fun x => x.1 == "close_all_connections" && x.2.2.2.1 == Field.conn_list) with
  | none => rw [hf] at hex; simp at hex
  | some x =>
    simp only [Option.map_some, Option.getD_some]
    have hm := List.mem_of_find?_eq_some hf
    have hp := List.find?_some hf
    unfold cursorRuleOk at h
    have hx := List.all_eq_true.mp h x hm
    simp only [Bool.and_eq_true, beq_iff_eq] at hp
    simp only [Bool.or_eq_true, Bool.and_eq_true, beq_iff_eq] at hx
    rcases hx with hx | ⟨_, hx⟩
    · exact hx
    · unfold pinnedNodeLoop at hx
      simp only [Bool.and_eq_true, beq_iff_eq] at hx
      rw [hp.2] at hx
      exact absurd hx.2 (by decide)

end Mhd.StopJoin
