/-
  C14: which indices parse_dauth_params reads (fault characterisation).
-/
import Mhd.Proofs.AuthTurn
namespace Mhd.Auth
open Mhd.Gen.Auth

/-- a fault other than a read of `str[str_len]` in a situation where no byte is there -/
def Res.isFault {α : Type} (term : Option UInt8) : Res α → Bool
  | .fault s => term.isSome || s == .fuel
  | _ => false

@[simp] theorem Res.isFault_ok {α : Type} (tm : Option UInt8) (a : α) : (Res.ok a).isFault tm = false := rfl
@[simp] theorem Res.isFault_reject {α : Type} (tm : Option UInt8) : (Res.reject : Res α).isFault tm = false := rfl
@[simp] theorem Res.isFault_fault {α : Type} (tm : Option UInt8) (s : Site) :
    (Res.fault s : Res α).isFault tm = (tm.isSome || s == .fuel) := rfl
@[simp] theorem Res.isFault_map {α β : Type} (tm : Option UInt8) (f : α → β) (r : Res α) :
    (r.map f).isFault tm = r.isFault tm := by
  cases r <;> rfl
theorem Res.isFault_bind {α β : Type} (tm : Option UInt8) (f : α → Res β) (r : Res α) (h1 : r.isFault tm = false)
    (h2 : ∀ a, r = .ok a → (f a).isFault tm = false) : (r.bind f).isFault tm = false := by
  cases r with
  | ok a => exact h2 a rfl
  | reject => rfl
  | fault s => exact h1

theorem scanQ_noFault (t : Option UInt8) (s : Bytes) : (scanQ t s).isFault t = false := by
  fun_induction scanQ t s <;> simp_all

theorem scanTok_noFault (t : Option UInt8) (s : Bytes) : (scanTok t s).isFault t = false := by
  fun_induction scanTok t s <;> simp_all

theorem skipU_noFault (tm : Option UInt8) (b : Bool) (s : Bytes) : (skipU b s).isFault tm = false := by
  fun_induction skipU b s <;> simp_all

theorem valueAt_noFault (t : Option UInt8) (s : Bytes) : (valueAt t s).isFault t = false := by
  unfold valueAt
  cases s with
  | nil => simp [scanTok_noFault]
  | cons c r => simp only; split <;> simp [scanTok_noFault, scanQ_noFault]

theorem knownValue_noFault (t : Option UInt8) (s : Bytes) : (knownValue t s).isFault t = false := by
  unfold knownValue
  split
  · rfl
  · split
    · rfl
    · apply Res.isFault_bind _ _ _ (valueAt_noFault _ _)
      intro a _
      split <;> rfl

theorem turn_noFault (t : Option UInt8) (inp : Bytes) : (turn t inp).isFault t = false := by
  unfold turn
  split
  · rfl
  · split
    · rw [Res.isFault_map]; exact knownValue_noFault _ _
    · rw [Res.isFault_map]; exact skipU_noFault _ _ _

/-- the two `str[str_len]` reads find the byte behind the string when there is one; the fuel is no matter
    (`runLoop`) -/
theorem parseDigest_isFault (s : Bytes) (t : Option UInt8) : (parseDigest s t).isFault t = false := by
  rw [parseDigest_eq_runLoop, Res.isFault_map]
  generalize Slots.empty = st
  revert st
  refine runLoop_induct t (P := fun inp => ∀ st, (runLoop t s.length st inp).isFault t = false) ?_ ?_ _
  · intro st; rw [runLoop_nil]; rfl
  · intro c r ih st
    rw [runLoop_turn _ _ _ _ (List.cons_ne_nil c r)]
    exact Res.isFault_bind _ _ _ (turn_noFault _ _) fun x hx => ih x hx _

/-- with any byte stored behind the string, `parse_dauth_params` stays inside `str[0 .. str_len]` -/
theorem parseDigest_some_noFault (s : Bytes) (t : UInt8) (e : Site) : parseDigest s (some t) ≠ .fault e := by
  intro h
  have := parseDigest_isFault s (some t)
  rw [h] at this
  simp at this

end Mhd.Auth
