/-
  C14: MHD_base64_to_bin_n accepts only the canonical encoding of its result.
-/
import Mhd.Proofs.AuthBasic
namespace Mhd.Auth
open Mhd.Gen.Auth

theorem b64map_at (c : UInt8) (v : Nat) (h : b64map[c.toNat]? = some v) :
    if v < 64 then b64Char v = c else v = 65 → c = 61 := by
  have := List.all_eq_true.mp b64map_inv (v, c.toNat) (List.mk_mem_zipIdx_iff_getElem?.mpr h)
  simp only [UInt8.ofNat_toNat] at this
  split
  · rename_i hv
    simp only [hv, if_true, beq_iff_eq, b64Char_eq v hv] at this
    exact Option.some.inj this
  · intro h65
    subst h65
    have h61 : c.toNat = 61 := by simpa using this
    exact UInt8.toNat_inj.mp h61

theorem b64Val_val (c : UInt8) (v : Nat) (h : b64Val c = .val v) : v < 64 ∧ b64Char v = c := by
  unfold b64Val at h
  split at h
  · rename_i w hw
    have := b64map_at c w hw
    split at h
    · rename_i hlt
      cases h
      exact ⟨hlt, by simpa only [hlt, if_true] using this⟩
    · split at h <;> cases h
  · cases h

theorem b64Val_pad_eq (c : UInt8) (h : b64Val c = .pad) : c = 61 := by
  unfold b64Val at h
  split at h
  · rename_i w hw
    have := b64map_at c w hw
    split at h
    · cases h
    · rename_i hlt
      rw [if_neg hlt] at this
      split at h
      · exact this ‹_›
      · cases h
  · cases h

/-- four sextets put together to three bytes and cut again the way the encoder does it -/
theorem sextets_cut (v1 v2 v3 v4 : Nat) (h1 : v1 < 64) (h2 : v2 < 64) (h3 : v3 < 64) (h4 : v4 < 64) :
    (v1 * 4 + v2 / 16) % 256 / 4 = v1 ∧
    (v1 * 4 + v2 / 16) % 256 % 4 * 16 + (v2 * 16 + v3 / 4) % 256 / 16 = v2 ∧
    (v2 * 16 + v3 / 4) % 256 % 16 * 4 + (v3 * 64 + v4) % 256 / 64 = v3 ∧
    (v3 * 64 + v4) % 256 % 64 = v4 := by
  have h2' : v2 / 16 < 4 := Nat.div_lt_of_lt_mul h2
  have h3' : v3 / 4 < 16 := Nat.div_lt_of_lt_mul h3
  refine ⟨?_, ?_, ?_, ?_⟩
  · rw [Nat.mod_eq_of_lt (digits_lt _ _ 4 64 h1 h2'), Nat.add_comm, Nat.add_mul_div_right _ _ (by decide),
      Nat.div_eq_of_lt h2', Nat.zero_add]
  · rw [Nat.mod_mod_of_dvd _ (by decide), Nat.mul_add_mod', Nat.mod_eq_of_lt h2',
      Nat.mod_mul_right_div_self _ 16 16, Nat.add_comm (v2 * 16), Nat.add_mul_div_right _ _ (by decide),
      Nat.div_eq_of_lt h3', Nat.zero_add, Nat.div_add_mod']
  · rw [Nat.mod_mod_of_dvd _ (by decide), Nat.mul_add_mod', Nat.mod_eq_of_lt h3',
      Nat.mod_mul_right_div_self _ 64 4, Nat.add_comm (v3 * 64), Nat.add_mul_div_right _ _ (by decide),
      Nat.div_eq_of_lt h4, Nat.zero_add, Nat.div_add_mod']
  · rw [Nat.mod_mod_of_dvd _ (by decide), Nat.mul_add_mod', Nat.mod_eq_of_lt h4]

theorem b64Last_canonical (a b c d : UInt8) (out : Bytes) (h : b64Last a b c d = some out) :
    [a, b, c, d] = b64Enc out := by
  unfold b64Last at h
  cases ha : b64Val a <;> cases hb : b64Val b <;> simp only [ha, hb, reduceCtorEq] at h
  rename_i v1 v2
  obtain ⟨h1, rfl⟩ := b64Val_val a v1 ha
  obtain ⟨h2, rfl⟩ := b64Val_val b v2 hb
  cases hc : b64Val c with
  | val v3 =>
    obtain ⟨h3, rfl⟩ := b64Val_val c v3 hc
    simp only [hc] at h
    cases hd : b64Val d with
    | val v4 =>
      obtain ⟨h4, rfl⟩ := b64Val_val d v4 hd
      obtain ⟨e1, e2, e3, e4⟩ := sextets_cut v1 v2 v3 v4 h1 h2 h3 h4
      simp only [hd, Option.some.injEq] at h
      subst h
      simp only [b64Enc, UInt8.toNat_ofNat', Nat.mod_mod, e1, e2, e3, e4]
    | pad =>
      obtain rfl := b64Val_pad_eq d hd
      simp only [hd] at h
      split at h
      · cases h
      · rename_i hz
        obtain ⟨e1, e2, e3, _⟩ := sextets_cut v1 v2 v3 0 h1 h2 h3 (by decide)
        simp only [Option.some.injEq] at h
        subst h
        have hz' : v3 * 64 % 256 = 0 := by simpa using hz
        simp only [Nat.add_zero, hz', Nat.zero_div] at e3
        simp only [b64Enc, UInt8.toNat_ofNat', Nat.mod_mod, e1, e2, e3]
    | bad => simp only [hd, reduceCtorEq] at h
  | pad =>
    obtain rfl := b64Val_pad_eq c hc
    simp only [hc] at h
    cases hd : b64Val d with
    | pad =>
      obtain rfl := b64Val_pad_eq d hd
      simp only [hd] at h
      split at h
      · cases h
      · rename_i hz
        obtain ⟨e1, e2, _, _⟩ := sextets_cut v1 v2 0 0 h1 h2 (by decide) (by decide)
        simp only [Option.some.injEq] at h
        subst h
        have hz' : v2 * 16 % 256 = 0 := by simpa using hz
        simp only [Nat.zero_div, Nat.add_zero, hz'] at e2
        simp only [b64Enc, UInt8.toNat_ofNat', Nat.mod_mod, e1, e2]
    | val v4 => simp only [hd, reduceCtorEq] at h
    | bad => simp only [hd, reduceCtorEq] at h
  | bad => simp only [hc, reduceCtorEq] at h

theorem b64Blocks_canonical : ∀ (n : Nat) (s out : Bytes), s.length ≤ n → b64Blocks s = some out → s = b64Enc out := by
  intro n
  induction n with
  | zero =>
    intro s out h hb
    cases s with
    | nil => simp [b64Blocks] at hb
    | cons c r => simp at h
  | succ n ih =>
    intro s out h hb
    match s, h, hb with
    | [], _, hb => simp [b64Blocks] at hb
    | [_], _, hb => simp [b64Blocks] at hb
    | [_, _], _, hb => simp [b64Blocks] at hb
    | [_, _, _], _, hb => simp [b64Blocks] at hb
    | [a, b, c, d], _, hb =>
      simp only [b64Blocks] at hb
      exact b64Last_canonical a b c d out hb
    | a :: b :: c :: d :: e :: rest, h, hb =>
      rw [b64Blocks] at hb
      · cases ha : b64Val a <;> simp only [ha] at hb <;> try (cases hb; done)
        cases hb' : b64Val b <;> simp only [hb'] at hb <;> try (cases hb; done)
        cases hc : b64Val c <;> simp only [hc] at hb <;> try (cases hb; done)
        cases hd : b64Val d <;> simp only [hd] at hb <;> try (cases hb; done)
        rename_i v1 v2 v3 v4
        obtain ⟨h1, rfl⟩ := b64Val_val a v1 ha
        obtain ⟨h2, rfl⟩ := b64Val_val b v2 hb'
        obtain ⟨h3, rfl⟩ := b64Val_val c v3 hc
        obtain ⟨h4, rfl⟩ := b64Val_val d v4 hd
        obtain ⟨e1, e2, e3, e4⟩ := sextets_cut v1 v2 v3 v4 h1 h2 h3 h4
        simp only [Option.map_eq_some_iff] at hb
        obtain ⟨t, ht, rfl⟩ := hb
        have hrec := ih (e :: rest) t (by simp at h ⊢; omega) ht
        simp only [b64Enc, UInt8.toNat_ofNat', Nat.mod_mod, e1, e2, e3, e4, ← hrec]
      · simp

/-- only the canonical RFC 4648 encoding of the result is accepted: a character outside the alphabet,
    misplaced or missing padding, a length that is not a multiple of four and non-zero trailing bits
    are all rejected -/
theorem b64Dec_canonical (s out : Bytes) (h : b64Dec s = some out) : s = b64Enc out := by
  unfold b64Dec at h
  split at h
  · simp at h
  · split at h
    · simp at h
    · exact b64Blocks_canonical s.length s out (Nat.le_refl _) h

end Mhd.Auth
