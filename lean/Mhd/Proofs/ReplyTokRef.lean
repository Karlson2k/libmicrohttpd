/-
  The reply side's copy of `MHD_str_remove_token_caseless_` (`Mhd.ReplyStr.removeTokenCaseless`, on lists)
  against the reference of C17 (`Mhd.Str.removeTokenOut`, `hasTokenSpec`): the same closed forms of the loops
  as in `Mhd.Proofs.StrRm*`, here without buffers, and the same step from a round to the reference.
-/
import Mhd.Proofs.StrRtNorm
import Mhd.Proofs.ReplyStr
namespace Mhd.Tok
open Mhd.Str
open Mhd.ReplyStr (charsEqCaseless matchTok copyWord copyTokenRest sepBefore copyOneToken removeTokenLoop atEndOrComma
  RemoveRes AllQ)

theorem ceq_eq : charsEqCaseless = charsEqualCaseless := by
  funext a b
  simp only [charsEqCaseless, charsEqualCaseless, Mhd.ReplyStr.isUpper, Mhd.Str.isUpper, UInt8.le_iff_toNat_le,
    UInt8.toNat_ofNat, Nat.reducePow, Nat.reduceMod]
  rfl

/-- `out ++ d` handed to `f` if it fits into `bs` bytes -/
def fit {α : Type} (bs : Nat) (out d : Bytes) (f : Bytes → α) : Option α :=
  if out.length + d.length ≤ bs then some (f (out ++ d)) else none

theorem fit_nil {α : Type} (bs : Nat) (out : Bytes) (f : Bytes → α) (h : out.length ≤ bs) : fit bs out [] f = some (f out) := by
  rw [fit, List.length_nil, Nat.add_zero, if_pos h, List.append_nil]

theorem fit_append {α : Type} (bs : Nat) (out d1 d2 : Bytes) (k : Bytes → α) :
    fit bs out (d1 ++ d2) k = if out.length + d1.length ≤ bs then fit bs (out ++ d1) d2 k else none := by
  unfold fit
  rw [List.length_append, List.length_append, List.append_assoc, Nat.add_assoc]
  by_cases h1 : out.length + d1.length ≤ bs
  · rw [if_pos h1]
  · rw [if_neg h1, if_neg (fun h2 => h1 (Nat.le_trans (by omega) h2))]

theorem matchTok_eq : ∀ s tok : Bytes, matchTok s tok = (matchLen s tok, s.drop (matchLen s tok))
  | [], tok => by cases tok <;> rfl
  | c :: s, [] => rfl
  | c :: s, t :: ts => by
    rw [matchTok, matchLen_cons, ceq_eq]
    by_cases h : charsEqualCaseless c t = true
    · rw [if_pos h, if_pos h, matchTok_eq s ts]; rfl
    · rw [if_neg h, if_neg h]; rfl

theorem sepTest (c : UInt8) : (c == 44 || c == 32 || c == 9) = !isWordB c := by
  unfold isWordB notComma notWsB Mhd.Str.isWs bne
  cases (c == 44) <;> cases (c == 32) <;> cases (c == 9) <;> rfl

theorem copyWord_eq (bs : Nat) : ∀ s out : Bytes, out.length ≤ bs →
    copyWord bs s out = fit bs out (s.takeWhile isWordB) (fun o => (s.dropWhile isWordB, o))
  | [], out, h => (fit_nil bs out _ h).symm
  | c :: s, out, h => by
    rw [copyWord, sepTest]
    by_cases hw : isWordB c = true
    · rw [hw, if_neg (by decide), List.takeWhile_cons_of_pos hw, List.dropWhile_cons_of_pos hw]
      by_cases hf : bs ≤ out.length
      · rw [if_pos hf, fit, if_neg (by rw [List.length_cons]; omega)]
      · rw [if_neg hf, copyWord_eq bs s (out ++ [c]) (by rw [List.length_append]; exact Nat.lt_of_not_le hf)]
        simp only [fit, List.length_append, List.length_cons, List.length_nil, List.append_assoc, List.cons_append,
          List.nil_append, Nat.add_comm 1, Nat.add_assoc]
    · rw [Bool.not_eq_true] at hw
      rw [hw, if_pos (by decide), List.takeWhile_cons_of_neg (by simp [hw]), List.dropWhile_cons_of_neg (by simp [hw])]
      exact (fit_nil bs out _ h).symm

theorem copyTokenRest_eq (bs : Nat) : ∀ (fuel : Nat) (s out : Bytes), s.length < fuel → out.length ≤ bs →
    copyTokenRest bs fuel s out = fit bs out (restOutput (headElem s)) (fun o => (restElems s, o))
  | 0, s, out, hf, _ => absurd hf (Nat.not_lt_zero _)
  | fuel + 1, [], out, _, h => by rw [copyTokenRest]; exact (fit_nil bs out _ h).symm
  | fuel + 1, c :: t, out, hf, h => by
    rw [copyTokenRest]
    dsimp only
    by_cases hc : (c == 44) = true
    · rw [if_pos hc, beq_iff_eq.1 hc, headElem_comma, restOutput_nil, restElems_comma]; exact (fit_nil bs out _ h).symm
    have hc' : c ≠ 0x2c := fun e => hc (beq_iff_eq.2 e)
    rw [if_neg hc, copyWord_eq bs _ out h]
    have hEne : headElem (c :: t) ≠ [] := by rw [headElem_cons c t hc']; exact List.cons_ne_nil _ _
    obtain ⟨hs1, _, hs3, hs4, hs5⟩ := elem_split (c :: t)
    have hshort : (((c :: t).dropWhile isWordB).dropWhile isWs).length < (c :: t).length := by
      have := rest_shorter (headElem (c :: t)) hEne
      rw [hs3, List.length_append]
      conv => rhs; rw [headElem_append_restElems (c :: t), List.length_append]
      omega
    rw [restOutput_rec (headElem (c :: t)), ← hs1, ← hs4, ← hs5, fit_append, fit]
    by_cases h1 : out.length + ((c :: t).takeWhile isWordB).length ≤ bs
    · rw [if_pos h1, if_pos h1]
      dsimp only
      rw [← List.length_append] at h1
      rw [show Mhd.ReplyStr.isWs = isWs from rfl]
      generalize ((c :: t).dropWhile isWordB).dropWhile isWs = s2 at hshort
      generalize out ++ (c :: t).takeWhile isWordB = out1 at h1
      cases s2 with
      | nil => exact (fit_nil bs out1 _ h1).symm
      | cons c2 tl =>
        dsimp only
        by_cases hc2 : (c2 == 44) = true
        · rw [if_pos hc2, beq_iff_eq.1 hc2, headElem_comma, restOutput_nil, restElems_comma]
          exact (fit_nil bs out1 _ h1).symm
        · have hc2' : c2 ≠ 0x2c := fun e => hc2 (beq_iff_eq.2 e)
          have hne : headElem (c2 :: tl) ≠ [] := by rw [headElem_cons c2 tl hc2']; exact List.cons_ne_nil _ _
          rw [if_neg hc2, if_neg hne, fit_append]
          by_cases hfull : bs ≤ out1.length
          · rw [if_pos hfull, if_neg (by rw [List.length_singleton]; omega)]
          · rw [if_neg hfull, if_pos (by rw [List.length_singleton]; omega)]
            exact copyTokenRest_eq bs fuel _ _ (by omega) (by rw [List.length_append, List.length_singleton]; omega)
    · rw [if_neg h1, if_neg h1]

theorem sepBefore_eq (bs k : Nat) (out : Bytes) :
    sepBefore bs k out = if out.length + (if out = [] then [] else sepCS).length + k ≤ bs
      then some (out ++ (if out = [] then [] else sepCS)) else none := by
  unfold sepBefore
  cases out with
  | nil => by_cases h : k ≤ bs <;> simp [h]
  | cons a t =>
    rw [List.isEmpty_cons, if_neg Bool.false_ne_true, if_neg (List.cons_ne_nil a t)]
    by_cases h : (a :: t).length + sepCS.length + k ≤ bs
    · rw [if_pos h, if_neg (by simp only [sepCS, List.length_cons, List.length_nil] at h ⊢; omega)]
    · rw [if_neg h, if_pos (by simp only [sepCS, List.length_cons, List.length_nil] at h ⊢; omega)]

theorem copyOneToken_eq (bs : Nat) (s1 out : Bytes) (k : Nat) (hk : k ≤ s1.length) :
    copyOneToken bs s1 (s1.drop k) out =
      fit bs out ((if out = [] then [] else sepCS) ++ s1.take k ++ restOutput (headElem (s1.drop k)))
        (fun o => (restElems (s1.drop k), o)) := by
  unfold copyOneToken
  dsimp only
  have hcs : s1.length - (s1.drop k).length = k := by rw [List.length_drop]; omega
  rw [hcs, sepBefore_eq, fit_append, List.length_append, List.length_take, Nat.min_eq_left hk, ← Nat.add_assoc]
  by_cases hfit : out.length + (if out = [] then [] else sepCS).length + k ≤ bs
  · rw [if_pos hfit, if_pos hfit]
    dsimp only
    rw [List.append_assoc]
    exact copyTokenRest_eq bs _ _ _ (Nat.lt_succ_self _)
      (by rw [List.length_append, List.length_append, List.length_take, Nat.min_eq_left hk, ← Nat.add_assoc]; exact hfit)
  · rw [if_neg hfit, if_neg hfit]

theorem emitCS_out (out N : Bytes) (K : List Bytes) :
    emitCS (decide (out = [])) (N :: K) = ((if out = [] then [] else sepCS) ++ N) ++ emitCS false K := by
  by_cases h : out = [] <;> simp [emitCS, h]

theorem atEndOrComma_eq (s : Bytes) : atEndOrComma s = (headElem s).isEmpty := by
  cases s with
  | nil => rfl
  | cons c t => rw [atEndOrComma, headElem_isEmpty_cons]

theorem removeTokenLoop_eq (bs : Nat) (tok : Bytes) (hne : tok ≠ []) (htk : ∀ x ∈ tok, x ≠ 0x20 ∧ x ≠ 0x09 ∧ x ≠ 0x2c) :
    ∀ (fuel : Nat) (s out : Bytes) (rem : Bool), s.length < fuel → out.length ≤ bs →
      removeTokenLoop bs tok fuel s out rem =
        fit bs out (emitCS (decide (out = [])) (keptOf tok (tokListOf s)))
          (fun o => ⟨o, rem || (tokListOf s).any (fun e => ceqBytes e tok)⟩)
  | 0, s, out, rem, hf, _ => absurd hf (Nat.not_lt_zero _)
  | fuel + 1, s, out, rem, hf, h => by
    rw [removeTokenLoop]
    dsimp only
    rw [show Mhd.ReplyStr.isWsComma = isWsComma from rfl, show Mhd.ReplyStr.isWs = isWs from rfl, tokListOf_skip s]
    have hsuf := List.length_dropWhile_le isWsComma s
    have hstop := dropWhile_stops isWsComma s
    generalize s.dropWhile isWsComma = r1 at hsuf hstop
    rcases hstop with rfl | ⟨x, b, rfl, hx⟩
    · rw [List.isEmpty_nil, if_pos rfl, tokListOf_nil]
      show _ = fit bs out [] _
      rw [fit_nil bs out _ h, List.any_nil, Bool.or_false]
    rw [List.isEmpty_cons, if_neg Bool.false_ne_true, matchTok_eq, atEndOrComma_eq]
    dsimp only
    have hT := (tokListOf_elem x b hx).1
    have hrl := rest_lt_of_elem x b hx 0
    rw [List.drop_zero] at hrl
    have hcond : ((matchLen (x :: b) tok == tok.length && tok.length != 0) &&
        (headElem (((x :: b).drop (matchLen (x :: b) tok)).dropWhile isWs)).isEmpty) = decide (FullMatch (x :: b) tok) := by
      unfold FullMatch
      by_cases hm : matchLen (x :: b) tok = tok.length
      · by_cases hE : headElem (((x :: b).drop tok.length).dropWhile isWs) = [] <;> simp [hm, hne, hE]
      · simp [hm]
    rw [hcond, hT, keptOf_cons, List.any_cons, ← elemIs_eq (x :: b) tok htk]
    by_cases hm : FullMatch (x :: b) tok
    · have hel := (fullMatch_iff tok hne htk _).mp hm
      rw [decide_eq_true hm, if_pos rfl, hm.1, fullMatch_rest tok htk _ hm, hel, if_pos rfl,
        removeTokenLoop_eq bs tok hne htk fuel _ out true (by omega) h]
      simp
    · have hel : elemIs (x :: b) tok = false := Bool.eq_false_iff.mpr (fun h => hm ((fullMatch_iff tok hne htk _).mpr h))
      obtain ⟨hk1, hk2, hNne⟩ := kept_elem tok htk x b hx
      rw [decide_eq_false hm, if_neg Bool.false_ne_true, hel, if_neg Bool.false_ne_true,
        copyOneToken_eq bs _ out _ (matchLen_le _ _), hk2, List.append_assoc, hk1, emitCS_out]
      have hD : (if out = [] then [] else sepCS) ++ normElem (trimR (headElem (x :: b))) ≠ [] := by simp [hNne]
      generalize (if out = [] then [] else sepCS) ++ normElem (trimR (headElem (x :: b))) = D at hD
      rw [fit_append bs out D, fit]
      by_cases hfit : out.length + D.length ≤ bs
      · rw [if_pos hfit, if_pos hfit]
        dsimp only
        rw [removeTokenLoop_eq bs tok hne htk fuel _ _ rem (by omega) (by rw [List.length_append]; exact hfit),
          decide_eq_false (by simp [hD]), Bool.false_or]
      · rw [if_neg hfit, if_neg hfit]

theorem removeTokenCaseless_eq (str tok : Bytes) (bs : Nat) (htok : tokenLegal tok = true) :
    Mhd.ReplyStr.removeTokenCaseless str tok bs =
      fit bs [] (removeTokenOut str tok) (fun o => ⟨o, hasTokenSpec str tok⟩) := by
  obtain ⟨hne, htk⟩ := (tokenLegal_iff tok).mp htok
  rw [Mhd.ReplyStr.removeTokenCaseless, removeTokenLoop_eq bs tok hne htk _ _ _ _ (Nat.lt_succ_self _) (Nat.zero_le _),
    removeTokenOut_eq, joinWith_eq_emit, keptOut_eq_keptOf, hasTokenSpec_eq_any _ _ hne]
  rfl

/-- "no new bytes" for `remove_token`: the output consists of bytes of the input, commas and spaces -/
theorem _root_.Mhd.ReplyStr.removeTokenCaseless_allQ {Q : UInt8 → Prop} (str tok : Bytes) (bs : Nat) (res : RemoveRes) (h44 : Q 44) (h32 : Q 32)
    (htok : tokenLegal tok = true) (hs : AllQ Q str) (h : Mhd.ReplyStr.removeTokenCaseless str tok bs = some res) :
    AllQ Q res.out := by
  rw [removeTokenCaseless_eq str tok bs htok, fit] at h
  by_cases hf : ([] : Bytes).length + (removeTokenOut str tok).length ≤ bs
  · rw [if_pos hf] at h
    injection h with h
    rw [← h]
    intro x hx
    rcases joinWith_mem _ _ x hx with h1 | ⟨k, hk, hxk⟩
    · simp only [List.mem_cons, List.not_mem_nil, or_false] at h1
      rcases h1 with rfl | rfl
      · exact h44
      · exact h32
    · rcases kept_bytes tok str k hk x hxk with rfl | h3
      · exact h32
      · exact hs x h3.1
  · rw [if_neg hf] at h; cases h
end Mhd.Tok
