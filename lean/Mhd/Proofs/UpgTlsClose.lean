/-
  C20, TLS forwarding: what the close theorems need besides `visit_spec`, and "nothing is discarded while both sides
  are open".
-/
import Mhd.Proofs.UpgTls
namespace Mhd.UpgTls

theorem finished_iff (s : St) : finished s = true ↔ (inDir s).idle ∧ (outDir s).idle := by
  unfold finished Dir.idle inDir outDir
  simp only [Bool.and_eq_true, beq_iff_eq, List.isEmpty_iff]
  exact ⟨fun ⟨⟨⟨a, b⟩, c⟩, d⟩ => ⟨⟨a, c⟩, b, d⟩, fun ⟨⟨a, c⟩, b, d⟩ => ⟨⟨⟨a, b⟩, c⟩, d⟩⟩

theorem resumeScan_releases {t : St} (hl : t.loc = .suspended) (hr : t.resuming = true) (hw : t.wasClosed = true)
    (hc : t.cleanReady = true) : (resumeScan t).loc = .cleanup ∧ (resumeScan t).released = t.released + 1 := by
  unfold resumeScan
  rw [if_pos ⟨hl, hr⟩, if_pos ⟨hw, hc⟩]
  exact ⟨rfl, rfl⟩

def Op.noInDrop : Op → Prop
  | .visit _ _ e => e.pairSend ≠ .fatal ∧ e.pairSend ≠ .eof
  | .appClose => False
  | .stopVisit _ _ _ => False
  | _ => True

def Op.noOutDrop : Op → Prop
  | .visit _ _ e => e.tlsSend ≠ .fatal ∧ e.tlsSend ≠ .eof
  | .stopVisit _ _ _ => False
  | _ => True

/-- a visit outside the shutdown discards client bytes only after the application's close or a hard error of the
    send to the application, and application bytes only after a hard error of the send to the client -/
theorem visit_drops (lv : Bool) (rdy : Celi × Celi) (e : Env) (s : St) :
    (s.wasClosed = false → e.pairSend ≠ .fatal → e.pairSend ≠ .eof →
      (visit false lv rdy e s).dropIn = s.dropIn ∧ (visit false lv rdy e s).wasClosed = false) ∧
    (e.tlsSend ≠ .fatal → e.tlsSend ≠ .eof → (visit false lv rdy e s).dropOut = s.dropOut) := by
  rcases visit_cases false lv rdy e s with hs | ⟨hl, hc⟩
  · rw [hs]; exact ⟨fun hw _ _ => ⟨rfl, hw⟩, fun _ _ => rfl⟩
  · obtain ⟨ri, si, ro, so, hin, hout, -, hw, -⟩ := visit_spec false lv rdy e s rfl hl hc
    refine ⟨fun hwc h1 h2 => ⟨?_, hw.trans hwc⟩, fun h1 h2 => ?_⟩
    · rw [hwc] at hin
      exact (congrArg Dir.drop hin).trans ((Dir.sendStage_drop _ _ h1 h2).trans (Dir.recvStage_drop ..))
    · exact (congrArg Dir.drop hout).trans ((Dir.sendStage_drop _ _ h1 h2).trans (Dir.recvStage_drop ..))

theorem step_drops (s : St) (op : Op) :
    (op.noInDrop → s.wasClosed = false → (step s op).dropIn = s.dropIn ∧ (step s op).wasClosed = false) ∧
    (op.noOutDrop → (step s op).dropOut = s.dropOut) := by
  cases op with
  | clientSend bs => exact ⟨fun _ a => ⟨rfl, a⟩, fun _ => rfl⟩
  | appSend bs => simp only [step]; split <;> exact ⟨fun _ a => ⟨rfl, a⟩, fun _ => rfl⟩
  | visit lv rdy e =>
    have := visit_drops lv rdy e s
    exact ⟨fun h a => this.1 a h.1 h.2, fun h => this.2 h.1 h.2⟩
  | appClose => exact ⟨nofun, fun _ => by simp only [step, appClose]; split <;> rfl⟩
  | resumeScan =>
    simp only [step, resumeScan]
    split
    · split <;> exact ⟨fun _ a => ⟨rfl, a⟩, fun _ => rfl⟩
    · exact ⟨fun _ a => ⟨rfl, a⟩, fun _ => rfl⟩
  | cleanup => simp only [step, cleanup]; split <;> exact ⟨fun _ a => ⟨rfl, a⟩, fun _ => rfl⟩
  | stopVisit lv rdy e => exact ⟨nofun, nofun⟩

theorem run_keepsIn (ops : List Op) (s : St) (a : s.wasClosed = false) (hl : ∀ op ∈ ops, op.noInDrop) :
    (run s ops).dropIn = s.dropIn ∧ (run s ops).wasClosed = false :=
  List.foldlRecOn (motive := fun t => t.dropIn = s.dropIn ∧ t.wasClosed = false) ops step ⟨rfl, a⟩ fun t ht op hm =>
    have ⟨h1, h2⟩ := (step_drops t op).1 (hl op hm) ht.2
    ⟨h1.trans ht.1, h2⟩

theorem run_keepsOut (ops : List Op) (s : St) (hl : ∀ op ∈ ops, op.noOutDrop) : (run s ops).dropOut = s.dropOut :=
  List.foldlRecOn (motive := fun t => t.dropOut = s.dropOut) ops step rfl fun t ht op hm =>
    ((step_drops t op).2 (hl op hm)).trans ht

end Mhd.UpgTls
