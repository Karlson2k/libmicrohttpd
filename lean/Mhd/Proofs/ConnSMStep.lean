/-
  C05 — every connection event preserves the refinement relation; lifted to event sequences.
-/
import Mhd.Proofs.ConnSMIdle
namespace Mhd.ConnSM
open Mhd.Gen.ConnState Mhd.Protocol

theorem recvNoSpace_post {σ} (cfg : Cfg) (env : IdleEnv) (hok : EnvOk cfg env) {c : Conn σ} {p : PSt} (h : Live c p) :
    Post p (recvNoSpace cfg env c) := by
  unfold recvNoSpace
  split
  · exact closeError_post h.open
  next hst => exact transmitError_post cfg env h hok (by rw [hst]; decide)
  next hst => exact transmitError_post cfg env h hok (by rw [hst]; decide)
  next hst =>
    split
    · unfold chunkSizeLineNoSpace
      split
      next hext =>
        have h1 := transmitError_post cfg env h hok (by rw [hst]; decide)
        generalize transmitError cfg env c = r at h1 ⊢
        obtain ⟨c1, l1⟩ := r
        dsimp only
        rw [if_pos (hok.1.resolve_right (by rw [hext]; decide))]
        exact h1
      · exact transmitError_post cfg env h hok (by rw [hst]; decide)
    · exact transmitError_post cfg env h hok (by rw [hst]; decide)
  next hst => exact transmitError_post cfg env h hok (by rw [hst]; decide)
  · exact h

theorem epollUpdate_post {σ} (cfg : Cfg) (env : IdleEnv) (hok : EnvOk cfg env) {c : Conn σ} {p : PSt} (h : Live c p) :
    Post p (epollUpdate cfg env c) := by
  unfold epollUpdate
  split
  · exact h
  split
  · exact h
  · exact h.congr
  next hadd =>
    rw [if_pos (hok.2.2.1.resolve_right (fun x => x hadd))]
    exact Post.append (cleanupConnection_post (closeConn_post _ h.open h.stopDiscard) (closeConn_state _ _)).pair

theorem handleIdle_post {σ} (cfg : Cfg) (app : App σ) (env : IdleEnv) (hok : EnvOk cfg env) {c : Conn σ} {p : PSt}
    (h : Live c p) : Post p (handleIdle cfg app env c) := by
  unfold handleIdle handleIdleWith
  have h1 := (idleLoop_run cfg app env (idleFuel c) { c with touched := false }).post hok h.congr
  generalize idleLoop cfg app env (idleFuel c) { c with touched := false } = r at h1 ⊢
  obtain ⟨c1, l1, f1⟩ := r
  cases f1
  case dead | keep => exact h1
  case again | stop =>
    simp only
    split
    · exact Post.append (closeConn_post _ (Live.open h1) (Live.stopDiscard h1)).pair
    have hu : Post p ((updateEventLoopInfo cfg env c1).1, l1 ++ (updateEventLoopInfo cfg env c1).2) := by
      refine Post.append (Post.pair ?_)
      unfold updateEventLoopInfo
      split
      · exact h1
      split
      · exact recvNoSpace_post cfg env hok h1
      · exact h1
    split
    next hcl => exact Post.append (cleanupConnection_post hu hcl).pair
    split
    · exact Post.append (epollUpdate_post cfg env hok hu).pair
    · exact hu

theorem handleRead_post {σ} {c : Conn σ} {p : PSt} (e : Ev) (h : Live c p) : Post p (handleRead c e) := by
  rcases handleRead_cases c e with e | ⟨b, e⟩ | ⟨c', code, e, e1, e2, e3, e4, hsd⟩ <;> rw [e]
  · exact h
  · exact h.congr
  · exact closeConn_post code (h.open.congr e1 e2 e3 e4) (hsd h.stopDiscard)

theorem handleWrite_post {σ} {c : Conn σ} {p : PSt} (r : WriteRes) (h : Live c p) : Post p (handleWrite c r) := by
  rcases handleWrite_cases c r with e | e | e | ⟨m, hm, hst, e⟩ <;> rw [e]
  · exact h
  · exact closeError_post h.open
  · exact h.congr
  · have : ∀ m ∈ writeMoves, Forward m.1 m.2 ∧ 6 ≤ m.1.toNat := by decide
    exact h.restate hst m.2 (this m hm).1 (.inr (.inr (this m hm).2))

/-- the event does not exercise a path that is known to be defective in an unrepaired tree -/
def EvOk (cfg : Cfg) : Ev → Prop
  | .idle env => EnvOk cfg env
  | .appQueue _ env => EnvOk cfg env
  | _ => True

theorem envOk_of_fixed (cfg : Cfg) (h9 : cfg.f9Fixed = true) (ha : cfg.allocBypassFixed = true)
    (he : cfg.epollBypassFixed = true) (h14 : cfg.f14Fixed = true ∧ cfg.f14ClearsAware = true) (env : IdleEnv) :
    EnvOk cfg env :=
  ⟨Or.inl h9, Or.inl ha, Or.inl he, Or.inl h14⟩

theorem evOk_of_fixed (cfg : Cfg) (h9 : cfg.f9Fixed = true) (ha : cfg.allocBypassFixed = true)
    (he : cfg.epollBypassFixed = true) (h14 : cfg.f14Fixed = true ∧ cfg.f14ClearsAware = true) (e : Ev) : EvOk cfg e := by
  cases e <;> simp [EvOk] <;> exact envOk_of_fixed cfg h9 ha he h14 _

theorem Rel.guard {σ} {c : Conn σ} {p : PSt} (h : Rel c p) {q : Prop} [Decidable q] {o : Out σ}
    (ho : Rel o.1 (Protocol.run p o.2)) :
    Rel (if q then (c, []) else o).1 (Protocol.run p (if q then (c, []) else o).2) := by
  split
  · exact h
  · exact ho

theorem step_rel {σ} (cfg : Cfg) (app : App σ) (c : Conn σ) (p : PSt) (e : Ev) (h : Rel c p) (hok : EvOk cfg e) :
    Rel (step cfg app c e).1 (Protocol.run p (step cfg app c e).2) := by
  unfold step
  refine h.guard ?_
  by_cases hl : c.started = true ∧ c.cleaned = false
  · have hL : Live c p := ⟨h, hl⟩
    have hg : ((!c.started) = true ∨ c.cleaned = true) = False := by rw [hl.1, hl.2]; decide
    cases e <;> simp only [if_pos hl.1, hg, if_false]
    case start | startFailed => exact h
    case recv | recvEof | recvErr => exact h.guard (handleRead_post _ hL).1
    case idle env => exact h.guard (handleIdle_post cfg app env hok hL).1
    case write r => exact h.guard (handleWrite_post r hL).1
    case forceClose => exact h.guard (closeConn_post _ hL.open hL.stopDiscard).1
    case resume => exact h.guard hL.congr.1
    case upgradeDone =>
      by_cases hi : c.inCleanup = true ∨ c.state ≠ .upgrade ∨ ¬ c.suspended = true
      · rw [if_pos hi]; exact h
      · rw [if_neg hi]
        have hst : c.state = .upgrade := Decidable.not_not.mp (not_or.mp (not_or.mp hi).2).1
        have hr := hL.inv.resp_none (by rw [hst]; decide)
        show Rel _ (Protocol.run p (notify c _).2)
        rw [run_notify _ hL.open, notify_fst]
        exact ⟨hl.1, hl.2, rfl, .upgraded hst hr hL.stopDiscard (fun _ => rfl)⟩
    case shutdownClose =>
      by_cases hi : c.inCleanup = true ∨ c.suspended = true
      · rw [if_pos hi]; exact h
      · rw [if_neg hi]
        show Rel _ (Protocol.run p (closeConn c _).2)
        rw [closeConn_run _ hL.open, closeConn_fst]
        exact ⟨hl.1, hl.2, rfl, .closed rfl rfl rfl hL.stopDiscard⟩
    case appQueue r env =>
      by_cases hi : c.inCleanup = true ∨ ¬ c.clientAware = true
      · rw [if_pos hi]; exact h
      · rw [if_neg hi]
        have hq := queueResponse_post env r hL (Decidable.not_not.mp (not_or.mp hi).2)
        split
        · exact (Post.append (handleIdle_post cfg app env hok hq).pair).1
        · exact hq.1
    case cleanup =>
      by_cases hi : c.inCleanup = true
      · rw [if_pos hi]
        obtain ⟨-, ha, hr⟩ := hL.inv.2.2.2.2.2.1 hi
        cases hL.idle_of_unaware ha
        have hlog : (dropResp c).2 = [] := by unfold dropResp; rw [hr]
        show Rel _ (Protocol.run .idle ([.connClose] ++ (dropResp c).2))
        rw [hlog, dropResp_fst]
        exact ⟨hl.1, rfl⟩
      · rw [if_neg hi]; exact h
  · -- before the start notification or after the connection has been freed only the admission events act
    have hg : (!c.started) = true ∨ c.cleaned = true := by
      by_cases hs : c.started = true
      · refine .inr ?_
        cases hc : c.cleaned
        · exact absurd ⟨hs, hc⟩ hl
        · rfl
      · exact .inl (by simpa using hs)
    have hfresh : c.started = false → p = .fresh := fun hs => by
      cases p
      case fresh => rfl
      case bad => exact h.elim
      all_goals exact absurd (h.1.symm.trans hs) (by decide)
    cases e
    case start =>
      by_cases hs : c.started = true
      · simp only [if_pos hs]; exact h
      · simp only [if_neg hs]
        cases hfresh (by simpa using hs)
        exact ⟨rfl, h.2.1, h.2.2.1, h.2.2.2⟩
    case startFailed =>
      by_cases hs : c.started = true
      · simp only [if_pos hs]; exact h
      · simp only [if_neg hs]
        cases hfresh (by simpa using hs)
        exact ⟨rfl, rfl⟩
    all_goals
      simp only [if_pos hg]
      exact h

theorem run_rel {σ} (cfg : Cfg) (app : App σ) :
    ∀ (evs : List Ev) (c : Conn σ) (p : PSt), Rel c p → (∀ e ∈ evs, EvOk cfg e) →
      Rel (run cfg app c evs).1 (Protocol.run p (run cfg app c evs).2) := by
  intro evs
  induction evs with
  | nil => intro c p h _; exact h
  | cons e es ih =>
    intro c p h hok
    simp only [run]
    rw [Protocol.run_append]
    exact ih _ _ (step_rel cfg app c p e h (hok e (by simp))) (fun e' he' => hok e' (by simp [he']))

theorem init_rel {σ} (s : σ) : Rel (Conn.init s) .fresh :=
  ⟨rfl, rfl, rfl, .init rfl rfl rfl rfl rfl rfl rfl⟩

end Mhd.ConnSM
