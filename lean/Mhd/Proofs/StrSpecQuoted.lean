/-
  C17 reference specification of the comparisons with a quoted string
  (`MHD_str_equal_quoted_bin_n`, `MHD_str_equal_caseless_quoted_bin_n`):
  unquote, then compare element-wise; independent of the model like those of
  `StrSpec`.
-/
import Mhd.Proofs.StrSpec

namespace Mhd.Str

/-- element-wise comparison with `eq`, lengths must agree -/
def listEq (eq : UInt8 → UInt8 → Bool) : Bytes → Bytes → Bool
  | [], [] => true
  | a :: s, b :: t => eq a b && listEq eq s t
  | _, _ => false

/-- reference: the unquoted form of `q` exists and equals `u` under `eq` -/
def quotedEq (eq : UInt8 → UInt8 → Bool) (q u : Bytes) : Bool :=
  match unquoteSpec q with
  | some u' => listEq eq u' u
  | none => false

theorem listEq_beq (a b : Bytes) : listEq (· == ·) a b = decide (a = b) := by
  induction a generalizing b with
  | nil => cases b <;> simp [listEq]
  | cons x s ih => cases b with
    | nil => simp [listEq]
    | cons y t => simp [listEq, ih]; by_cases hxy : x = y <;> simp [hxy]

theorem listEq_length {eq} {a b : Bytes} (h : listEq eq a b = true) : a.length = b.length := by
  induction a generalizing b with
  | nil => cases b <;> simp_all [listEq]
  | cons x s ih => cases b with
    | nil => simp [listEq] at h
    | cons y t => simp [listEq] at h; simp [ih h.2]

theorem quotedEq_cons {eq} {q rest : Bytes} {x : UInt8} (h : unquoteSpec q = (unquoteSpec rest).map (x :: ·))
    (b : UInt8) (t : Bytes) : quotedEq eq q (b :: t) = (eq x b && quotedEq eq rest t) := by
  unfold quotedEq
  rw [h]
  cases unquoteSpec rest <;> simp [listEq]

theorem quotedEq_cons_nil (eq) (c : UInt8) (t : Bytes) : quotedEq eq (c :: t) [] = false := by
  unfold quotedEq
  cases h : unquoteSpec (c :: t) with
  | none => rfl
  | some d =>
    have := (unquoteSpec_length_le _ _ h).2
    cases d with
    | nil => exact absurd this (Nat.not_succ_le_zero _)
    | cons => rfl

theorem quotedEq_none {eq} {q : Bytes} (h : unquoteSpec q = none) (u : Bytes) : quotedEq eq q u = false := by
  unfold quotedEq; rw [h]

theorem quotedEq_nil (eq) (u : Bytes) : quotedEq eq [] u = decide (u.length = 0) := by
  cases u <;> simp [quotedEq, unquoteSpec_nil, listEq]

/-- an unquoted string is at least half as long as its quoted form -/
theorem quotedEq_short {eq} {q u : Bytes} (h : u.length < q.length / 2) : quotedEq eq q u = false := by
  unfold quotedEq
  cases hq : unquoteSpec q with
  | none => rfl
  | some u' =>
    cases h2 : listEq eq u' u with
    | false => exact h2
    | true => have := listEq_length h2; have := (unquoteSpec_length_le q u' hq).2; omega

/-- `MHD_str_equal_quoted_bin_n` / `…_caseless_quoted_bin_n` written as a recursion on lists (as the
    Authorization and Digest models have it), for any character comparison: a `loop` with the six
    equations of that recursion, behind the length test, is the reference comparison -/
theorem eqQuoted_gen (eq : UInt8 → UInt8 → Bool) (loop : Bytes → Bytes → Bool)
    (hnn : loop [] [] = true) (hnc : ∀ u us, loop [] (u :: us) = false) (hcn : ∀ q qs, loop (q :: qs) [] = false)
    (hend : ∀ u us, loop [0x5c] (u :: us) = false)
    (hesc : ∀ q2 qs u us, loop (0x5c :: q2 :: qs) (u :: us) = (eq q2 u && loop qs us))
    (hpl : ∀ q qs u us, q ≠ 0x5c → loop (q :: qs) (u :: us) = (eq q u && loop qs us)) (q u : Bytes) :
    (if u.length < q.length / 2 then false else loop q u) = quotedEq eq q u := by
  by_cases h : u.length < q.length / 2
  · rw [if_pos h, quotedEq_short h]
  · rw [if_neg h]
    clear h
    induction q using unquoteSpec.induct generalizing u with
    | case1 => cases u with
      | nil => rw [hnn, quotedEq_nil]; rfl
      | cons => rw [hnc, quotedEq_nil]; rfl
    | case2 x rest ih => cases u with
      | nil => rw [hcn, quotedEq_cons_nil]
      | cons b t => rw [hesc, ih, quotedEq_cons (unquoteSpec_bs x rest)]
    | case3 => cases u with
      | nil => rw [hcn, quotedEq_cons_nil]
      | cons b t => rw [hend, quotedEq_none unquoteSpec_bs_end]
    | case4 c t hc ih => cases u with
      | nil => rw [hcn, quotedEq_cons_nil]
      | cons b s => rw [hpl _ _ _ _ hc, ih, quotedEq_cons (unquoteSpec_cons_ne c t hc)]

end Mhd.Str
