/-
  C14: the byte behind the string only matters when it is a semicolon.
-/
import Mhd.Proofs.AuthScan
namespace Mhd.Auth
open Mhd.Gen.Auth

theorem scanQ_term (t t' : UInt8) (s : Bytes) : scanQ (some t) s = scanQ (some t') s := by
  fun_induction scanQ (some t) s with
  | case1 => rw [scanQ_nil]
  | case2 r => rw [scanQ_quote]
  | case3 => contradiction
  | case4 => rw [scanQ_bs_end_some]
  | case5 r => rw [scanQ_esc0]
  | case6 c r h0 _ ih => rw [scanQ_esc _ _ _ h0, ih]
  | case7 r => rw [scanQ_zero]
  | case8 c r h34 h92 h0 ih => rw [scanQ_plain _ _ _ h34 h92 h0, ih]

theorem scanTok_term (t : UInt8) (ht : t ≠ 59) (s : Bytes) : scanTok (some t) s = scanTok (some 0) s := by
  induction s with
  | nil => simp [scanTok_nil_some, ht]
  | cons c r ih => rw [scanTok_cons, scanTok_cons, ih]

theorem valueAt_term (t : UInt8) (ht : t ≠ 59) (s : Bytes) : valueAt (some t) s = valueAt (some 0) s := by
  unfold valueAt
  rw [scanTok_term t ht]
  cases s with
  | nil => rfl
  | cons c r => simp only [scanQ_term t 0 r]

theorem knownValue_term (t : UInt8) (ht : t ≠ 59) (s : Bytes) : knownValue (some t) s = knownValue (some 0) s := by
  unfold knownValue
  simp only [valueAt_term t ht]

theorem paramLoop_term (t : UInt8) (ht : t ≠ 59) (n fuel : Nat) :
    ∀ (st : Slots) (inp : Bytes), paramLoop (some t) n fuel st inp = paramLoop (some 0) n fuel st inp := by
  induction fuel with
  | zero => intro st inp; simp [paramLoop.eq_1]
  | succ f ih =>
    intro st inp
    cases inp with
    | nil => simp [paramLoop.eq_2]
    | cons c r =>
      rw [paramLoop.eq_3, paramLoop.eq_3]
      simp only [knownValue_term t ht, ih]

end Mhd.Auth
