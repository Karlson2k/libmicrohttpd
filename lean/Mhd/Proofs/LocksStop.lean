/-
  C18 — the shutdown state machine `Mhd.Stop`: the invariant `GoodW` of one worker under the
  steps of `MHD_stop_daemon` and of the worker's own thread, the potential `wphi` that every
  protocol step lowers, progress until the worker is joined; then the same for all workers.
  `Mhd.StopTpc`: the thread-per-connection variant with suspended connections.
-/
import Mhd.Model.LocksStop
import Mhd.Proofs.Lists

namespace Mhd.Stop

def GoodC (c : Conn) : Prop :=
  (c.st = .active ∧ c.notified = 0) ∨ (c.st ≠ .active ∧ c.notified = 1)

theorem goodC_close {c : Conn} (h : GoodC c) : GoodC c.close := by
  unfold Conn.close
  by_cases ha : c.st = .active
  · rw [if_pos ha]
    rcases h with ⟨_, hn⟩ | ⟨hna, _⟩
    · right; simp [hn]
    · exact absurd ha hna
  · rw [if_neg ha]; exact h

theorem close_not_active (c : Conn) : c.close.st ≠ .active := by
  unfold Conn.close
  by_cases ha : c.st = .active
  · rw [if_pos ha]; simp
  · rw [if_neg ha]; exact ha

theorem goodC_closeSel : ∀ (cs : List Conn) (m : List Bool),
    (∀ c ∈ cs, GoodC c) → ∀ c ∈ closeSel cs m, GoodC c
  | [], _, _ => by intro c hc; simp [closeSel] at hc
  | c :: cs, [], h => by simpa [closeSel] using h
  | c :: cs, b :: bs, h => by
    intro x hx
    simp only [closeSel, List.mem_cons] at hx
    rcases hx with rfl | hx
    · cases b
      · simpa using h c (by simp)
      · simpa using goodC_close (h c (by simp))
    · exact goodC_closeSel cs bs (fun y hy => h y (List.mem_cons_of_mem _ hy)) x hx

theorem goodC_closeFirst : ∀ (cs : List Conn), (∀ c ∈ cs, GoodC c) → ∀ c ∈ closeFirst cs, GoodC c
  | [], _ => by intro c hc; simp [closeFirst] at hc
  | c :: cs, h => by
    intro x hx
    unfold closeFirst at hx
    by_cases ha : c.st = .active
    · rw [if_pos ha] at hx
      rcases List.mem_cons.mp hx with rfl | hx
      · exact goodC_close (h c (by simp))
      · exact h x (List.mem_cons_of_mem _ hx)
    · rw [if_neg ha] at hx
      rcases List.mem_cons.mp hx with rfl | hx
      · exact h _ (by simp)
      · exact goodC_closeFirst cs (fun y hy => h y (List.mem_cons_of_mem _ hy)) x hx

theorem goodC_freeAll (cs : List Conn) (h : ∀ c ∈ cs, GoodC c) : ∀ c ∈ freeAll cs, GoodC c := by
  intro x hx
  simp only [freeAll, List.mem_map] at hx
  obtain ⟨c, hc, rfl⟩ := hx
  have hg := h c hc
  by_cases hcl : c.st = .cleanup
  · rw [if_pos hcl]
    rcases hg with ⟨ha, _⟩ | ⟨_, hn⟩
    · rw [hcl] at ha; cases ha
    · right; exact ⟨by simp, hn⟩
  · rw [if_neg hcl]; exact hg

theorem nActive_freeAll (cs : List Conn) : nActive (freeAll cs) = nActive cs := by
  induction cs with
  | nil => rfl
  | cons c cs ih =>
    simp only [nActive, freeAll, List.map_cons, List.countP_cons] at ih ⊢
    rw [ih]
    by_cases hcl : c.st = .cleanup
    · simp [hcl]
    · simp [hcl]

theorem nActive_close_le (c : Conn) :
    (if c.close.st = CSt.active then 1 else 0) ≤ (if c.st = CSt.active then 1 else 0) := by
  have := close_not_active c
  simp [this]

theorem nActive_closeSel_le : ∀ (cs : List Conn) (m : List Bool), nActive (closeSel cs m) ≤ nActive cs
  | [], _ => by simp [closeSel, nActive]
  | c :: cs, [] => by simp [closeSel]
  | c :: cs, b :: bs => by
    have ih := nActive_closeSel_le cs bs
    simp only [nActive, closeSel, List.countP_cons] at ih ⊢
    cases b
    · simp only [Bool.false_eq_true, if_false]; omega
    · have := close_not_active c
      simp only [if_true, decide_eq_true_eq, this, if_false]
      omega

theorem nActive_closeFirst : ∀ (cs : List Conn), nActive cs ≠ 0 → nActive (closeFirst cs) + 1 = nActive cs
  | [], h => by simp [nActive] at h
  | c :: cs, h => by
    unfold closeFirst
    by_cases ha : c.st = .active
    · rw [if_pos ha]
      have := close_not_active c
      simp [nActive, ha, this]
    · rw [if_neg ha]
      have h' : nActive cs ≠ 0 := by
        simpa [nActive, List.countP_cons, ha] using h
      have ih := nActive_closeFirst cs h'
      simp only [nActive, List.countP_cons, ha, decide_false, Bool.false_eq_true, if_false, Nat.add_zero] at ih ⊢
      exact ih

theorem freeAll_all_freed (cs : List Conn) (h0 : nActive cs = 0) :
    ∀ c ∈ freeAll cs, c.st = .freed := by
  intro x hx
  simp only [freeAll, List.mem_map] at hx
  obtain ⟨c, hc, rfl⟩ := hx
  have hna : c.st ≠ .active := by
    intro ha
    have : 0 < nActive cs := by
      unfold nActive
      exact List.countP_pos_iff.mpr ⟨c, hc, by simp [ha]⟩
    omega
  by_cases hcl : c.st = .cleanup
  · rw [if_pos hcl]
  · rw [if_neg hcl]
    cases hst : c.st with
    | active => exact absurd hst hna
    | cleanup => exact absurd hst hcl
    | freed => rfl

structure GoodW (w : Worker) : Prop where
  conns : ∀ c ∈ w.conns, GoodC c
  flg_sd : w.stage ≠ .running → w.shutdown = true
  sig_itc : w.stage = .signalled → w.pc = .polling → w.itc = true
  fin_noact : w.pc = .finalCleanup → nActive w.conns = 0
  ex_freed : w.pc = .exited → ∀ c ∈ w.conns, c.st = .freed
  joined_ex : w.stage = .joined → w.pc = .exited

theorem goodW_of_init {w : Worker} (h : InitW w) : GoodW w := by
  obtain ⟨hs, _, hpc, hc⟩ := h
  refine ⟨hc, fun hne => absurd hs hne, ?_, ?_, ?_, ?_⟩
  · intro h; rw [hs] at h; cases h
  · intro h; rcases hpc with p | p | p <;> rw [p] at h <;> cases h
  · intro h; rcases hpc with p | p | p <;> rw [p] at h <;> cases h
  · intro h; rw [hs] at h; cases h

theorem pcPot_le (w : Worker) : pcPot w ≤ nActive w.conns + 5 := by
  unfold pcPot
  cases w.pc <;> simp only <;> omega

/-- A step keeps the invariant, and a step of the protocol costs at least one unit of `wphi`: the summand
    is the one `countProtocol` adds for the step. -/
theorem wstep_spec {w w' : Worker} {a : Act} (g : GoodW w) (h : wstep w a = some w') :
    GoodW w' ∧ (if a = .stop ∨ w.stage ≠ .running then 1 else 0) + wphi w' ≤ wphi w := by
  cases a with
  | stop =>
    simp only [wstep] at h
    simp only [true_or, if_true]
    cases hst : w.stage <;> rw [hst] at h
    · cases h
      refine ⟨⟨g.conns, by simp, by simp, g.fin_noact, g.ex_freed, by simp⟩, ?_⟩
      have : pcPot { w with stage := .flagged, shutdown := true } = pcPot w := rfl
      have := pcPot_le w
      simp only [wphi, hst, stagePot, if_true, reduceCtorEq, if_false]
      omega
    · cases h
      refine ⟨⟨g.conns, fun _ => g.flg_sd (by rw [hst]; simp), by simp, g.fin_noact, g.ex_freed, by simp⟩, ?_⟩
      have : pcPot { w with stage := .signalled, itc := true } = pcPot w := rfl
      simp only [wphi, hst, stagePot, reduceCtorEq, if_false]
      omega
    · by_cases hex : w.pc = .exited
      · simp only [hex, if_true, Option.some.injEq] at h
        subst h
        exact ⟨⟨g.conns, fun _ => g.flg_sd (by rw [hst]; simp), fun hp => by simp at hp,
               fun hp => by simp at hp, fun _ => g.ex_freed hex, fun _ => rfl⟩,
               by simp [wphi, hst, stagePot, pcPot, hex]⟩
      · simp [hex] at h
    · cases h
  | run net sel =>
    -- the thread of a joined worker has exited and does not move
    have hj : w.pc ≠ .exited → w.stage ≠ .joined := fun hne hs => hne (g.joined_ex hs)
    -- the stage stays, no connection becomes active, and once the flag is set `pcPot` falls
    have key : GoodW w' ∧ w'.stage = w.stage ∧ nActive w'.conns ≤ nActive w.conns ∧
        (w.shutdown = true → pcPot w' < pcPot w) := by
      simp only [wstep] at h
      cases hpc : w.pc <;> rw [hpc] at h
      · -- at the loop test a signalled worker has its flag set and goes on to `closing`, not to `polling`
        cases h
        refine ⟨⟨g.conns, g.flg_sd, ?_, ?_, ?_, fun hs => absurd hs (hj (by simp [hpc]))⟩,
                rfl, Nat.le_refl _, fun hsd => by simp [pcPot, hpc, hsd]⟩
        · intro hs hp
          have hsd : w.shutdown = true := g.flg_sd (by rw [hs]; simp)
          simp [hsd] at hp
        · intro hp
          cases hsd : w.shutdown <;> simp [hsd] at hp
        · intro hp
          cases hsd : w.shutdown <;> simp [hsd] at hp
      · by_cases hen : (w.itc || net) = true
        · simp only [hen, if_true, Option.some.injEq] at h
          subst h
          exact ⟨⟨g.conns, g.flg_sd, by simp, by simp, by simp, fun hs => absurd hs (hj (by simp [hpc]))⟩,
                 rfl, Nat.le_refl _, fun _ => by simp [pcPot, hpc]⟩
        · simp [hen] at h
      · cases h
        have := nActive_closeSel_le w.conns sel
        refine ⟨⟨goodC_freeAll _ (goodC_closeSel _ _ g.conns), g.flg_sd, by simp, by simp, by simp,
               fun hs => absurd hs (hj (by simp [hpc]))⟩,
               rfl, by simpa only [nActive_freeAll] using this, fun _ => ?_⟩
        simp only [pcPot, hpc, nActive_freeAll]
        omega
      · by_cases h0 : nActive w.conns = 0
        · simp only [h0, if_true, Option.some.injEq] at h
          subst h
          exact ⟨⟨g.conns, g.flg_sd, by simp, fun _ => h0, by simp, fun hs => absurd hs (hj (by simp [hpc]))⟩,
                 rfl, Nat.le_refl _, fun _ => by simp [pcPot, hpc]⟩
        · simp only [h0, if_false, Option.some.injEq] at h
          subst h
          have := nActive_closeFirst w.conns h0
          refine ⟨⟨goodC_closeFirst _ g.conns, g.flg_sd, fun _ hp => by simp at hp,
                 fun hp => by simp at hp, fun hp => by simp at hp,
                 fun hs => absurd hs (hj (by simp [hpc]))⟩, rfl, by simp only; omega, fun _ => ?_⟩
          simp only [pcPot, hpc]
          omega
      · cases h
        exact ⟨⟨goodC_freeAll _ g.conns, g.flg_sd, by simp, by simp,
               fun _ => freeAll_all_freed _ (g.fin_noact hpc), fun _ => rfl⟩,
               rfl, by simp only [nActive_freeAll, Nat.le_refl], fun _ => by simp [pcPot, hpc]⟩
      · cases h
    obtain ⟨g', hst, hn, hpc⟩ := key
    refine ⟨g', ?_⟩
    by_cases hr : w.stage = .running
    · -- the thread of a worker still running: only the active connections count
      simp only [wphi, hst, hr, if_true, reduceCtorEq, ne_eq, not_true_eq_false, or_self, if_false]
      omega
    · have := hpc (g.flg_sd hr)
      simp only [wphi, hst, hr, if_false, reduceCtorEq, ne_eq, not_false_eq_true, or_true, if_true]
      omega

/-- progress for one worker: until it is joined, a protocol step is enabled that does not
    depend on the network (`net = false`): no lost wake-up, no wait for a thread that cannot move -/
theorem worker_progress {w : Worker} (g : GoodW w) (hj : w.stage ≠ .joined) :
    (∃ w', wstep w .stop = some w') ∨
    (w.stage = .signalled ∧ ∃ w', wstep w (.run false []) = some w') := by
  cases hst : w.stage
  · left; simp only [wstep, hst]; exact ⟨_, rfl⟩
  · left; simp only [wstep, hst]; exact ⟨_, rfl⟩
  · by_cases hex : w.pc = .exited
    · left; simp only [wstep, hst, hex, if_true]; exact ⟨_, rfl⟩
    · right
      refine ⟨rfl, ?_⟩
      cases hpc : w.pc
      · simp only [wstep, hpc]; exact ⟨_, rfl⟩
      · have hi := g.sig_itc hst hpc
        simp only [wstep, hpc, hi, Bool.true_or, if_true]; exact ⟨_, rfl⟩
      · simp only [wstep, hpc]; exact ⟨_, rfl⟩
      · by_cases h0 : nActive w.conns = 0
        · simp only [wstep, hpc, h0, if_true]; exact ⟨_, rfl⟩
        · simp only [wstep, hpc, h0, if_false]; exact ⟨_, rfl⟩
      · simp only [wstep, hpc]; exact ⟨_, rfl⟩
      · exact absurd hpc hex
  · exact absurd hst hj

theorem joined_final {w : Worker} (g : GoodW w) (hj : w.stage = .joined) :
    w.pc = .exited ∧ ∀ c ∈ w.conns, c.st = .freed ∧ c.notified = 1 := by
  have hex := g.joined_ex hj
  refine ⟨hex, fun c hc => ?_⟩
  have hf := g.ex_freed hex c hc
  refine ⟨hf, ?_⟩
  rcases g.conns c hc with ⟨ha, _⟩ | ⟨_, hn⟩
  · rw [hf] at ha; cases ha
  · exact hn

theorem notified_le_one {w : Worker} (g : GoodW w) : ∀ c ∈ w.conns, c.notified ≤ 1 := by
  intro c hc
  rcases g.conns c hc with ⟨_, hn⟩ | ⟨_, hn⟩ <;> omega

def Good (ws : List Worker) : Prop := ∀ w ∈ ws, GoodW w

theorem step_cases {ws ws' : List Worker} {i : Nat} {a : Act} (h : step ws i a = some ws') :
    ∃ w w', ws[i]? = some w ∧ wstep w a = some w' ∧ ws' = ws.set i w' := by
  unfold step at h
  cases hw : ws[i]? with
  | none => simp [hw] at h
  | some w =>
    simp only [hw] at h
    cases hs : wstep w a with
    | none => simp [hs] at h
    | some w' =>
      simp only [hs, Option.some.injEq] at h
      exact ⟨w, w', rfl, hs, h.symm⟩

theorem step_spec {ws ws' : List Worker} {i : Nat} {a : Act} (g : Good ws) (h : step ws i a = some ws') :
    Good ws' ∧ (if isProtocolStep ws i a then 1 else 0) + phi ws' ≤ phi ws := by
  obtain ⟨w, w', hw, hs, rfl⟩ := step_cases h
  have gw := g w (List.mem_of_getElem? hw)
  refine ⟨fun x hx => ?_, ?_⟩
  · rcases List.mem_or_eq_of_mem_set hx with hx | rfl
    · exact g x hx
    · exact (wstep_spec gw hs).1
  · have := List.sum_map_set wphi ws i w w' hw
    have := (wstep_spec gw hs).2
    unfold phi
    cases a <;> simp only [isProtocolStep, hw, bne_iff_ne, ne_eq, reduceCtorEq, false_or, true_or, if_true] at this ⊢ <;> omega

theorem run_spec : ∀ (sched : List (Nat × Act)) {ws ws' : List Worker}, Good ws → run ws sched = some ws' →
    Good ws' ∧ countProtocol ws sched + phi ws' ≤ phi ws
  | [], ws, ws', g, h => by simp [run] at h; subst h; simp [countProtocol, g]
  | (i, a) :: rest, ws, ws', g, h => by
    simp only [run] at h
    cases hs : step ws i a with
    | none => simp [hs] at h
    | some ws1 =>
      simp only [hs] at h
      obtain ⟨g1, h1⟩ := step_spec g hs
      obtain ⟨g', h'⟩ := run_spec rest g1 h
      refine ⟨g', ?_⟩
      simp only [countProtocol, hs]
      omega

end Mhd.Stop

namespace Mhd.StopTpc

theorem one_fixed (c : TC) (early : Bool) (h : InitC c) :
    let r := phase3 true (daemonResume (phase1 true (c, early)), early)
    r.place = .cleanup ∧ r.notified = 1 ∧ r.exited = true := by
  obtain ⟨hp, hn, _⟩ := h
  cases early <;> rcases hp with hp | hp <;>
    simp [phase1, phase3, threadExit, daemonResume, hp, hn]

theorem stop_unfixed_spins : stopTpc false [(⟨.susp, 0, false⟩, true)] = none := by decide

end Mhd.StopTpc
