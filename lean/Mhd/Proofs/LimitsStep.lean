/-
  C09 — what every function of the admission / disposal logic does to
  the four ledgers at once (`Tr`), from `MHD_ip_limit_del` up to the script
  operations.
-/
import Mhd.Proofs.LimitsInv

namespace Mhd.Limits

/-- connections with index `c` that are not yet started: `new_connections` + prepared ones -/
def NN (c : Nat) (s : St) (pi : List Conn) : Nat := nu c s.newL + nu c pi
/-- started connections with index `c`: the three counted lists + detached ones being disposed -/
def LL (c : Nat) (s : St) (pc : List Conn) : Nat := nu c s.active + nu c s.susp + nu c s.cleanup + nu c pc

/-- balance of one function application for connection index `c`:
    `b` connections are born, every connection that disappears has its socket closed exactly once,
    every start notification creates a started connection, every close notification removes one and is
    accompanied by the socket close -/
structure Bal (c : Nat) (b Nb Lb Na La : Nat) (evs : List Ev) : Prop where
  F : fdc c evs + Na + La = Nb + Lb + b
  S : stc c evs + Lb = La + clc c evs
  C : clc c evs ≤ fdc c evs

theorem Bal.trans {c b1 b2 N0 L0 N1 L1 N2 L2 : Nat} {e1 e2 : List Ev}
    (h1 : Bal c b1 N0 L0 N1 L1 e1) (h2 : Bal c b2 N1 L1 N2 L2 e2) : Bal c (b1 + b2) N0 L0 N2 L2 (e1 ++ e2) := by
  obtain ⟨f1, s1, c1⟩ := h1
  obtain ⟨f2, s2, c2⟩ := h2
  refine ⟨?_, ?_, ?_⟩
  · rw [fdc_append]; clear s1 c1 s2 c2; omega
  · rw [stc_append, clc_append]; clear f1 c1 f2 c2; omega
  · rw [clc_append, fdc_append]; exact Nat.add_le_add c1 c2

theorem Bal.zero_add {c N0 L0 N1 L1 : Nat} {e : List Ev} (h : Bal c (0 + 0) N0 L0 N1 L1 e) : Bal c 0 N0 L0 N1 L1 e := h

theorem Bal.still {c N L N' L' : Nat} {e : List Ev} (he : Quiet e) (hN : N' = N) (hL : L' = L) : Bal c 0 N L N' L' e := by
  obtain ⟨h1, h2, h3⟩ := he c
  subst hN hL
  exact ⟨by rw [h1, Nat.zero_add, Nat.add_zero], by rw [h2, h3, Nat.zero_add, Nat.add_zero],
    by rw [h3]; exact Nat.zero_le _⟩

/-- One function application seen by the four ledgers.  `pc`, `pi` (before) and `pc'`, `pi'` (after) are the
    connections in no list: counted like the members of `connections` (`pc`) or per address only (`pi`).
    `b`: the indices of the connections that come into being. -/
structure Tr (b : List Nat) (s : St) (pc pi : List Conn) (s' : St) (pc' pi' : List Conn) (e : List Ev) : Prop where
  inv : InvG s pc pi → InvG s' pc' pi'
  rinv : RInvG s pc pi → RInvG s' pc' pi'
  fb : ∀ r, FB r s.resps s'.resps e
  bal : ∀ c, Bal c (b.count c) (NN c s pi) (LL c s pc) (NN c s' pi') (LL c s' pc') e
  next : s'.nextId = s.nextId

theorem Tr.trans {b1 b2 : List Nat} {s0 s1 s2 : St} {pc0 pi0 pc1 pi1 pc2 pi2 : List Conn} {e1 e2 : List Ev}
    (h1 : Tr b1 s0 pc0 pi0 s1 pc1 pi1 e1) (h2 : Tr b2 s1 pc1 pi1 s2 pc2 pi2 e2) :
    Tr (b1 ++ b2) s0 pc0 pi0 s2 pc2 pi2 (e1 ++ e2) :=
  ⟨h2.inv ∘ h1.inv, h2.rinv ∘ h1.rinv, fun r => (h1.fb r).trans (h2.fb r),
   fun c => by rw [List.count_append]; exact (h1.bal c).trans (h2.bal c), h2.next.trans h1.next⟩

/-- The equalities between the fields are auto-params: they hold by `rfl` once both states are known from
    the goal. -/
theorem Tr.move {s s' : St} {pc pi pc' pi' : List Conn} {e : List Ev} (he : Inert e)
    (hN : ∀ q, Keyed q → s'.newL.countP q + pi'.countP q = s.newL.countP q + pi.countP q)
    (hL : ∀ q, Keyed q → cntL q s' + pc'.countP q = cntL q s + pc.countP q)
    (hcfg : s'.cfg = s.cfg := by rfl) (hn : s'.connections = s.connections := by rfl)
    (hip : s'.ipCount = s.ipCount := by rfl) (hr : s'.resps = s.resps := by rfl) (hf : s'.fault = s.fault := by rfl)
    (hnext : s'.nextId = s.nextId := by rfl) : Tr [] s pc pi s' pc' pi' e :=
  ⟨fun h => h.move hcfg hn hip (fun p => hN _ (mu_stable p).keyed) (fun p => hL _ (mu_stable p).keyed) (hf ▸ h.cf),
   fun h => h.move hr (fun r => hN _ (hold_keyed r)) (fun r => hL _ (hold_keyed r)) (hf ▸ h.rf),
   fun r => hr ▸ FB.same rfl (he.2 r),
   fun c => Bal.still he.1 (hN _ (nu_stable c).keyed) (hL _ (nu_stable c).keyed), hnext⟩

theorem Tr.refl (s : St) (pc pi : List Conn) : Tr [] s pc pi s pc pi [] :=
  Tr.move inert_nil (fun _ _ => rfl) (fun _ _ => rfl)

theorem Tr.ctl (s : St) (pc pi : List Conn) (a : Option Site) (rs sh : Bool) :
    Tr [] s pc pi { s with armed := a, resuming := rs, shutdown := sh } pc pi [] :=
  Tr.move inert_nil (fun _ _ => rfl) (fun _ _ => rfl)

theorem Tr.emit (s : St) (pc pi : List Conn) {e : List Ev} (he : Inert e) : Tr [] s pc pi s pc pi e :=
  Tr.move he (fun _ _ => rfl) (fun _ _ => rfl)

theorem Tr.raise (s : St) (pc pi : List Conn) {f : Fault} {e : List Ev} (he : Inert e)
    (h1 : CountFaultFree (some f)) (h2 : RFree (some f)) : Tr [] s pc pi { s with fault := some f } pc pi e :=
  ⟨fun h => ⟨h.conns, h.le, h.ip, h.ipLe, h1⟩, fun h => ⟨h.rt, h.fresh, h2⟩, fun r => FB.same rfl (he.2 r),
   fun _ => Bal.still he.1 rfl rfl, rfl⟩

theorem Tr.stillborn (c0 : Nat) (s : St) (pc pi : List Conn) : Tr [c0] s pc pi s pc pi [.fdClose c0] := by
  refine ⟨id, id, fun r => FB.same rfl (by simp), fun c => ⟨?_, by simp, by simp⟩, rfl⟩
  rw [fdc_cons, fdc_nil, List.count_singleton]; simp only [Ev.fdClose.injEq, beq_iff_eq]; omega

theorem ite_zero_congr {p : Prop} [Decidable p] {x y : Nat} (h : x = y) :
    (if p then 0 else x) = if p then 0 else y := by rw [h]

/-- MHD_ip_limit_add succeeds -/
theorem ipAdd_ok_tr (s : St) (a : Nat) (pc pi : List Conn) (cn : Conn) (hok : (ipAdd s a).2.1 = true)
    (ha : cn.addr = a) (hr : cn.resp = none) :
    Tr [cn.id] s pc pi (ipAdd s a).1 pc (cn :: pi) (ipAdd s a).2.2 := by
  have hip := ipAdd_ipOk s a
  have he := ipAdd_inert s a
  obtain ⟨f, x, hs⟩ := ipAdd_frame s a
  rw [hs] at hip ⊢
  refine ⟨fun h => ?_, fun h => ⟨h.rt, fun r => ?_, h.rf⟩, fun r => FB.same rfl (he.2 r), fun c => ?_, rfl⟩
  · have hk := hip _ h.ipOk
    refine ⟨h.conns, h.le, fun y => (hk y).1.trans (ite_zero_congr ?_), fun y => (hk y).2, h.cf⟩
    simp only [hok, true_and, mu_isA_cons, ha, tot]; omega
  · have := h.fresh r
    rw [hold_cons, hold1_none hr]; exact this
  · obtain ⟨h1, h2, h3⟩ := he.1 c
    show Bal c _ (NN c s pi) (LL c s pc) (nu c s.newL + nu c (cn :: pi)) (LL c s pc) _
    exact ⟨by unfold NN; rw [nu_cons, h1, List.count_singleton]; simp only [beq_iff_eq]; omega, by rw [h2, h3]; omega,
      by rw [h3]; exact Nat.zero_le _⟩

/-- … fails (limit reached, or the allocation of the key) -/
theorem ipAdd_no_tr (s : St) (a : Nat) (pc pi : List Conn) (hok : (ipAdd s a).2.1 = false) :
    Tr [] s pc pi (ipAdd s a).1 pc pi (ipAdd s a).2.2 := by
  have hip := ipAdd_ipOk s a
  have he := ipAdd_inert s a
  obtain ⟨f, x, hs⟩ := ipAdd_frame s a
  rw [hs] at hip ⊢
  refine ⟨fun h => ?_, fun h => ⟨h.rt, h.fresh, h.rf⟩, fun r => FB.same rfl (he.2 r), fun _ => Bal.still he.1 rfl rfl, rfl⟩
  have hk := hip _ h.ipOk
  refine ⟨h.conns, h.le, fun y => (hk y).1.trans (ite_zero_congr ?_), fun y => (hk y).2, h.cf⟩
  simp only [hok, Bool.false_eq_true, false_and, if_false, tot]; omega

theorem rfree_ipDel {s : St} (h : RFree s.fault) (a : Nat) : RFree (ipDel s a).fault := by
  rcases ipDel_fault s a with hf | hf <;> rw [hf]
  · exact h
  · simp [RFree]

/-- a connection counted per address only is given up: MHD_ip_limit_del, and `e` reports the closed socket
    (with a start notification only if the close notification follows) -/
theorem drop_tr (s : St) (x : Conn) (pc pi : List Conn) (e : List Ev)
    (he : (∀ r, frc r e = 0) ∧ ∀ c, fdc c e = (if x.id = c then 1 else 0) ∧ stc c e = clc c e ∧ clc c e ≤ fdc c e) :
    Tr [] s pc (x :: pi) (ipDel s x.addr) pc pi e := by
  obtain ⟨e1, he⟩ := he
  refine ⟨fun h => ?_, fun h => ?_, fun r => ?_, fun c => ?_, ipDel_nextId s _⟩
  · have hd := h.ipDel_pi
    rw [ipDel_eq]
    exact ⟨h.conns, h.le, fun a => (hd.1 a).1, fun a => (hd.1 a).2, hd.2 ▸ h.cf⟩
  · rw [ipDel_eq]
    refine ⟨h.rt, fun r => ?_, rfree_ipDel h.rf _⟩
    have := h.fresh r
    rw [hold_cons] at this
    show hold r s.newL + hold r pi = 0
    omega
  · rw [ipDel_resps]; exact FB.same rfl (e1 r)
  · obtain ⟨e2, e3, e4⟩ := he c
    unfold NN LL
    rw [ipDel_newL, ipDel_active, ipDel_susp, ipDel_cleanup, nu_cons, List.count_nil]
    exact ⟨by omega, by omega, e4⟩

theorem insert_tr (s : St) (cn : Conn) (pc pi : List Conn) (hlt : s.connections < s.cfg.limit) :
    Tr [] s pc (cn :: pi) { s with connections := s.connections + 1, active := cn :: s.active } pc pi
      [.connStart cn.id] := by
  refine ⟨fun h => ⟨?_, Nat.succ_le_of_lt hlt, fun a => (h.ip a).trans (ite_zero_congr ?_), h.ipLe, h.cf⟩,
          fun h => ?_, fun r => FB.same rfl (by simp), fun c => ?_, rfl⟩
  · show s.connections + 1 = mu allA (cn :: s.active) + mu allA s.susp + mu allA s.cleanup + mu allA pc
    rw [mu_all_cons, h.conns]; omega
  · simp only [tot, mu_cons]; omega
  · -- a connection not yet started holds no response
    have hf : ∀ r, hold1 r cn = 0 ∧ hold r s.newL + hold r pi = 0 := fun r => by
      have := h.fresh r
      rw [hold_cons] at this; omega
    exact ⟨fun r => (h.rt r).congr (by simp only [hold_cons, (hf r).1, Nat.add_zero]), fun r => (hf r).2, h.rf⟩
  · unfold NN LL
    refine ⟨?_, ?_, by simp⟩ <;> simp only [nu_cons, fdc_cons, stc_cons, clc_cons, fdc_nil, stc_nil, clc_nil,
      List.count_nil, Ev.connStart.injEq, reduceCtorEq, if_false] <;> omega

theorem lateFail_cases (s : St) :
    lateFail s = (s, false, []) ∨ ∃ site, lateFail s = ({ s with armed := none }, true, [.failed site]) := by
  unfold lateFail
  by_cases ht : s.cfg.tpc = true
  · rw [if_pos ht]
    by_cases h : s.armed = some .thread
    · rw [if_pos h]; exact .inr ⟨_, rfl⟩
    · rw [if_neg h]; exact .inl rfl
  · rw [if_neg ht]
    by_cases hep : s.cfg.epoll = true
    · rw [if_pos hep]
      by_cases h : s.armed = some .epollCtl
      · rw [if_pos h]; exact .inr ⟨_, rfl⟩
      · rw [if_neg h]; exact .inl rfl
    · rw [if_neg hep]; exact .inl rfl

/-- new_connection_process_: the prepared connection is started, or dropped at one of the three exits -/
theorem process_tr (s : St) (cn : Conn) (pc pi : List Conn) :
    Tr [] s pc (cn :: pi) (process s cn).1 pc pi (process s cn).2.2 := by
  unfold process
  by_cases hp : s.armed = some .pool
  · rw [if_pos hp]
    exact (Tr.ctl s pc (cn :: pi) none _ _).trans (drop_tr _ cn pc pi _ (by simp))
  · rw [if_neg hp]
    by_cases hl : s.connections ≥ s.cfg.limit
    · rw [if_pos hl]
      exact drop_tr s cn pc pi _ (by simp)
    · rw [if_neg hl]
      rcases lateFail_cases { s with connections := s.connections + 1, active := cn :: s.active } with he | ⟨site, he⟩
      · simp only [he]
        exact insert_tr s cn pc pi (Nat.lt_of_not_le hl)
      · simp only [he]
        exact (Tr.ctl s pc (cn :: pi) none _ _).trans (drop_tr _ cn pc pi _ (by simp))

theorem processList_tr (l : List Conn) : ∀ (s : St) (pc pi : List Conn),
    Tr [] s pc (l ++ pi) (processList s l).1 pc pi (processList s l).2 := by
  induction l with
  | nil => exact fun s pc pi => Tr.refl s pc pi
  | cons cn rest ih =>
    intro s pc pi
    unfold processList
    have h1 := process_tr s cn pc (rest ++ pi)
    generalize process s cn = r at h1 ⊢
    obtain ⟨s1, ok, e1⟩ := r
    exact h1.trans (ih s1 pc pi)

/-- new_connections_list_process_ -/
theorem processNew_tr (s : St) (pc : List Conn) :
    Tr [] s pc [] (processNew s).1 pc [] (processNew s).2 := by
  refine Tr.trans (Tr.move inert_nil (fun q _ => ?_) (fun q _ => ?_))
    (processList_tr s.newL.reverse { s with newL := [] } pc [])
  · simp only [List.countP_append, List.countP_reverse, List.countP_nil]; omega
  · rfl

theorem cleanupOne_eq (s : St) (x : Conn) (q : RespTab × List Ev)
    (hq : q = releaseOpt { tab := s.resps, fault := none } x.resp) :
    cleanupOne s x =
      ({ ipDel s x.addr with
          resps := q.1.tab
          connections := s.connections - 1
          fault :=
            if s.connections = 0 then
              mergeFault (mergeFault (ipDel s x.addr).fault q.1.fault) (some .connUnderflow)
            else mergeFault (ipDel s x.addr).fault q.1.fault },
       [.connClose x.id] ++ q.2 ++ [.fdClose x.id]) := by
  subst hq
  unfold cleanupOne
  simp only [ipDel_resps, ipDel_connections]
  by_cases h0 : s.connections = 0
  · simp only [h0, if_true]
  · simp only [h0, if_false]

/-- one iteration of MHD_cleanup_connections -/
theorem cleanupOne_tr (s : St) (x : Conn) (pc pi : List Conn) :
    Tr [] s (x :: pc) pi (cleanupOne s x).1 pc pi (cleanupOne s x).2 := by
  have hts := releaseOpt_ts { tab := s.resps, fault := none } x.resp
  have hrt := releaseOpt_rt { tab := s.resps, fault := none } x
  generalize hq : releaseOpt { tab := s.resps, fault := none } x.resp = q at hts hrt
  rw [cleanupOne_eq s x q hq.symm]
  refine ⟨fun h => ?_, fun h => ?_, fun r => ?_, fun c => ?_, ipDel_nextId s _⟩
  · have hc := h.conns
    rw [mu_all_cons] at hc
    have hd := h.ipDel_pc
    rw [if_neg (by omega), ipDel_eq]
    exact ⟨by rw [hc]; rfl, Nat.le_trans (Nat.sub_le _ _) h.le, fun a => (hd.1 a).1, fun a => (hd.1 a).2,
      mergeFault_ind (hd.2 ▸ h.cf) (hts.cf cf_none)⟩
  · have hr := hrt (fun r => hold r s.active + hold r s.susp + hold r s.cleanup + hold r pc)
      (fun r => (h.rt r).congr (by simp only [hold_cons]; omega))
    have hf : RFree (mergeFault (ipDel s x.addr).fault q.1.fault) :=
      mergeFault_ind (rfree_ipDel h.rf _) (hr.2 ▸ rfree_none)
    rw [ipDel_eq]
    refine ⟨hr.1, h.fresh, ?_⟩
    split
    · exact mergeFault_ind hf (by simp [RFree])
    · exact hf
  · rw [ipDel_eq]
    exact ((FB.same rfl (by simp) : FB r s.resps s.resps [.connClose x.id]).trans (hts.fb r)).trans
      (FB.same rfl (by simp))
  · obtain ⟨h1, h2, h3⟩ := hts.quiet c
    rw [ipDel_eq]
    unfold NN LL
    refine ⟨?_, ?_, ?_⟩ <;>
      simp only [nu_cons, fdc_append, stc_append, clc_append, fdc_cons, stc_cons, clc_cons, fdc_nil, stc_nil, clc_nil,
        h1, h2, h3, List.count_nil, Ev.connClose.injEq, Ev.fdClose.injEq, reduceCtorEq, if_false] <;> omega

theorem cleanupList_tr (l : List Conn) : ∀ (s : St) (pc pi : List Conn),
    Tr [] s (l ++ pc) pi (cleanupList s l).1 pc pi (cleanupList s l).2 := by
  induction l with
  | nil => exact fun s pc pi => Tr.refl s pc pi
  | cons x rest ih =>
    intro s pc pi
    unfold cleanupList
    have h1 := cleanupOne_tr s x (rest ++ pc) pi
    generalize cleanupOne s x = r at h1 ⊢
    obtain ⟨s1, e1⟩ := r
    exact h1.trans (ih s1 pc pi)

/-- MHD_cleanup_connections -/
theorem cleanupAll_tr (s : St) (pi : List Conn) :
    Tr [] s [] pi (cleanupAll s).1 [] pi (cleanupAll s).2 := by
  refine Tr.trans (Tr.move inert_nil (fun q _ => ?_) (fun q _ => ?_))
    (cleanupList_tr s.cleanup.reverse { s with cleanup := [] } [] pi)
  · rfl
  · simp only [cntL, List.countP_append, List.countP_reverse, List.countP_nil]; omega

/-- new_connection_close_ on what is left in `new_connections` at shutdown -/
theorem closeNewList_tr (l : List Conn) : ∀ (s : St) (pc pi : List Conn),
    Tr [] s pc (l ++ pi) (closeNewList s l).1 pc pi (closeNewList s l).2 := by
  induction l with
  | nil => exact fun s pc pi => Tr.refl s pc pi
  | cons x rest ih =>
    intro s pc pi
    unfold closeNewList
    have h1 := drop_tr s x pc (rest ++ pi) [.fdClose x.id] (by simp)
    have h2 := ih (ipDel s x.addr) pc pi
    generalize closeNewList (ipDel s x.addr) rest = r at h2 ⊢
    exact h1.trans h2

/-- resume_suspended_connections -/
theorem resumePass_tr (s : St) (pc pi : List Conn) : Tr [] s pc pi (resumePass s).1 pc pi (resumePass s).2 := by
  unfold resumePass
  by_cases hr : (!s.resuming) = true
  · rw [if_pos hr]; exact Tr.refl s pc pi
  · rw [if_neg hr]
    refine Tr.move inert_nil (fun q _ => ?_) (fun q hq => ?_)
    · rfl
    · have hm : ∀ l : List Conn, (l.map clearResuming).countP q = l.countP q :=
        countP_map_of (fun x => hq x _ rfl rfl rfl)
      have h1 := List.countP_eq_countP_filter_add s.susp q canResume
      have h2 := List.countP_eq_countP_filter_add (s.susp.filter canResume) q (fun c => c.urh)
      simp only [cntL, List.countP_append, hm]; omega

theorem forceResume_tr (flag : Bool) (s : St) (pc pi : List Conn) :
    Tr [] s pc pi (forceResume flag s).1 pc pi (forceResume flag s).2 := by
  unfold forceResume
  split
  · exact (Tr.ctl s pc pi _ true _).trans (resumePass_tr _ pc pi)
  · exact Tr.refl s pc pi

theorem markUpgraded_tr (s : St) (pc pi : List Conn) : Tr [] s pc pi (markUpgraded s) pc pi [] := by
  unfold markUpgraded
  split
  · refine Tr.move inert_nil (fun q _ => ?_) (fun q hq => ?_)
    · rfl
    · simp only [cntL, countP_map_of (f := markAppClosed) (fun x => hq x _ rfl rfl rfl)]
  · exact Tr.refl s pc pi

theorem Tr.handled (s : St) (pc pi : List Conn) {R' : RespTab} {k cl su : List Conn} {e : List Ev}
    (h : Hd { tab := s.resps, fault := none } s.active.reverse R' (k ++ cl ++ su) e) :
    Tr [] s pc pi
      { s with resps := R'.tab, fault := mergeFault s.fault R'.fault, active := k, cleanup := cl ++ s.cleanup,
               susp := su ++ s.susp } pc pi e := by
  have hc : ∀ q, Stable q → k.countP q + cl.countP q + su.countP q = s.active.countP q := fun q hq => by
    have := h.census q hq
    simp only [List.countP_append, List.countP_reverse] at this; exact this
  refine ⟨fun h0 => ?_, fun h0 => ?_, h.ts.fb, fun c => Bal.still h.ts.quiet rfl ?_, rfl⟩
  · refine h0.move rfl rfl rfl (fun _ => rfl) (fun p => ?_) (mergeFault_ind h0.cf (h.ts.cf cf_none))
    have := hc _ (mu_stable p)
    simp only [mu_append]; unfold mu; omega
  · have hr := h.rt (fun r => hold r s.susp + hold r s.cleanup + hold r pc)
      (fun r => (h0.rt r).congr (by simp only [hold_reverse]; omega))
    exact ⟨fun r => (hr.1 r).congr (by simp only [hold_append]; omega), h0.fresh, mergeFault_ind h0.rf (hr.2 rfree_none)⟩
  · have := hc _ (nu_stable c)
    unfold LL; simp only [nu_append]; unfold nu; omega

theorem handlePass_tr (s : St) (pc pi : List Conn) : Tr [] s pc pi (handlePass s).1 pc pi (handlePass s).2 :=
  Tr.handled s pc pi
    (handleList_hd s.cfg _ _ s.active.reverse
      { R := { tab := s.resps, fault := none }, kept := [], clean := [], susp := [], evs := [] }
      ((Hd.refl _ _).regroup (fun q => by simp)))

/-- close_connection on every member of `connections`: all move to the cleanup list -/
theorem closeActive_tr (s : St) (pc pi : List Conn) :
    Tr [] s pc pi (closeActive s).1 pc pi (closeActive s).2 :=
  Tr.handled s pc pi (k := []) (su := [])
    ((closeList_hd _ _ s.active.reverse { R := { tab := s.resps, fault := none }, moved := [], evs := [] }
      ((Hd.refl _ _).regroup (fun q => by simp))).regroup (fun q => by simp))

theorem round_tr (s : St) : Tr [] s [] [] (round s).1 [] [] (round s).2 := by
  have h1 : Tr [] s [] [] (if s.cfg.allowSuspend then resumePass s else (s, [])).1 [] []
      (if s.cfg.allowSuspend then resumePass s else (s, [])).2 := by
    split
    · exact resumePass_tr s [] []
    · exact Tr.refl s [] []
  unfold round
  -- the projections of the pairs are reduced first: `exact` would compare `(a, b).1` with `f x` by unfolding `f`
  simp only []
  exact ((h1.trans (processNew_tr _ [])).trans (handlePass_tr _ [] [])).trans (cleanupAll_tr _ [])

theorem stopTail_tr (s : St) : Tr [] s [] [] (stopTail s).1 [] [] (stopTail s).2 := by
  unfold stopTail
  simp only []
  exact (((markUpgraded_tr s [] []).trans (forceResume_tr s.cfg.allowUpgrade _ [] [])).trans
    (closeActive_tr _ [] [])).trans (cleanupAll_tr _ [])

/-- MHD_stop_daemon -/
theorem stop_tr (s : St) : Tr [] s [] [] (stop s).1 [] [] (stop s).2 := by
  have h1 : Tr [] s [] [] (closeNewList { s with shutdown := true, newL := [] } s.newL.reverse).1 [] []
      ([] ++ (closeNewList { s with shutdown := true, newL := [] } s.newL.reverse).2) := by
    refine (Tr.move inert_nil (fun q _ => ?_) (fun q _ => ?_)).trans
      (closeNewList_tr s.newL.reverse { s with shutdown := true, newL := [] } [] [])
    · simp only [List.countP_append, List.countP_reverse, List.countP_nil]; omega
    · rfl
  unfold stop
  simp only []
  generalize closeNewList { s with shutdown := true, newL := [] } s.newL.reverse = r1 at h1 ⊢
  have h2 := h1.trans (forceResume_tr r1.1.cfg.allowSuspend r1.1 [] [])
  generalize forceResume r1.1.cfg.allowSuspend r1.1 = r2 at h2 ⊢
  by_cases hpan : stopPanics r2.1 = true
  · rw [if_pos hpan]
    exact h2.trans (Tr.raise r2.1 [] [] inert_one (by simp [CountFaultFree]) (by simp [RFree]))
  · rw [if_neg hpan]; simp only []
    exact h2.trans (stopTail_tr r2.1)

/-- new_connection_prepare_: refused and closed, or prepared and counted per address -/
theorem prepare_tr (s : St) (c0 a : Nat) (v : Bool) :
    Tr [c0] s [] [] (prepare s c0 a v).1 [] (prepare s c0 a v).2.1.toList
      (prepare s c0 a v).2.2 := by
  unfold prepare
  by_cases hl : s.connections = s.cfg.limit
  · rw [if_pos hl]; exact Tr.stillborn c0 s [] []
  · rw [if_neg hl]
    have hno := ipAdd_no_tr s a [] []
    have hok := ipAdd_ok_tr s a [] [] { id := c0, addr := a }
    generalize ipAdd s a = r at hno hok ⊢
    obtain ⟨s1, ok, e1⟩ := r
    cases ok with
    | false => exact ((hno rfl).trans (Tr.stillborn c0 s1 [] []))
    | true =>
      have h1 := hok rfl rfl rfl
      simp only []
      by_cases hv : (!v) = true
      · rw [if_pos hv]; exact h1.trans (drop_tr s1 _ [] [] _ (by simp))
      · rw [if_neg hv]
        by_cases hc : s1.armed = some .conn
        · rw [if_pos hc]
          exact h1.trans ((Tr.ctl s1 [] _ none _ _).trans (drop_tr _ _ [] [] _ (by simp)))
        · rw [if_neg hc]
          by_cases ha : s1.armed = some .addr
          · rw [if_pos ha]
            exact h1.trans ((Tr.ctl s1 [] _ none _ _).trans (drop_tr _ _ [] [] _ (by simp)))
          · rw [if_neg ha]
            exact h1.trans (Tr.emit s1 [] _ inert_one)

/-- internal_add_connection: prepared, then queued in `new_connections` or processed at once -/
theorem admitConn_tr (s : St) (c0 a : Nat) (v ext : Bool) :
    Tr [c0] s [] [] (admitConn s c0 a v ext).1 [] [] (admitConn s c0 a v ext).2 := by
  unfold admitConn
  simp only []
  have hp := prepare_tr s c0 a v
  generalize prepare s c0 a v = p at hp ⊢
  obtain ⟨s1, oc, e1⟩ := p
  cases oc with
  | none => exact hp.trans (Tr.emit s1 [] [] inert_one)
  | some cn =>
    simp only []
    by_cases hq : (ext && s1.cfg.threadSafe) = true
    · rw [if_pos hq]
      refine hp.trans (Tr.move inert_one (fun q _ => ?_) (fun q _ => ?_))
      · simp only [Option.toList, List.countP_cons, List.countP_nil]; omega
      · rfl
    · rw [if_neg hq]
      exact (hp.trans (process_tr s1 cn [] [])).trans (Tr.emit _ [] [] inert_one)

/-- MHD_add_connection / MHD_accept_connection for the connection with the next index -/
theorem arrive_tr (s : St) (a : Nat) (v ext : Bool) :
    Tr [s.nextId] { s with nextId := s.nextId + 1 } [] [] (arrive s a v ext).1 [] []
      (arrive s a v ext).2 := by
  unfold arrive
  simp only []
  by_cases hcl : (ext && !s.cfg.threadSafe && decide (s.cfg.limit ≤ s.connections)) = true
  · rw [if_pos hcl]
    exact ((cleanupAll_tr _ []).trans (admitConn_tr _ s.nextId a v ext))
  · rw [if_neg hcl]
    exact ((Tr.refl _ [] []).trans (admitConn_tr _ s.nextId a v ext))

/-- A script operation updates a field of connection `id` other than index, address and response: `hf` holds
    by `rfl`, and as an auto-param it is checked once `f` is known from the goal. -/
theorem mapAll_tr (s : St) (id : Nat) (f : Conn → Conn)
    (hf : ∀ x, (f x).id = x.id ∧ (f x).addr = x.addr ∧ (f x).resp = x.resp := by exact fun _ => ⟨rfl, rfl, rfl⟩) :
    Tr [] s [] [] (mapAll s (updConn id f)) [] [] [] := by
  refine Tr.move inert_nil (fun q hq => ?_) (fun q hq => ?_) <;>
    simp only [mapAll, cntL, countP_updConn (fun x => hq x _ (hf x).1 (hf x).2.1 (hf x).2.2)]

theorem suspUpd_tr (s : St) (id : Nat) (f : Conn → Conn)
    (hf : ∀ x, (f x).id = x.id ∧ (f x).addr = x.addr ∧ (f x).resp = x.resp := by exact fun _ => ⟨rfl, rfl, rfl⟩) :
    Tr [] s [] [] { s with susp := updConn id f s.susp, resuming := true } [] [] [] := by
  refine Tr.move inert_nil (fun q hq => ?_) (fun q hq => ?_)
  · rfl
  · simp only [cntL, countP_updConn (fun x => hq x _ (hf x).1 (hf x).2.1 (hf x).2.2)]

/-- MHD_create_response_*: a new object with the application's reference -/
theorem respCreate_tr (s : St) (r : Nat) (big hasCb upg : Bool) (hn : s.resps r = none) :
    Tr [] s [] []
      { s with resps := setFn s.resps r
                 (some { rc := 1, app := true, freed := false, big := big, hasCb := hasCb, upg := upg }) } [] [] [] := by
  refine ⟨fun h => ⟨h.conns, h.le, h.ip, h.ipLe, h.cf⟩, fun h => ⟨fun r' => ?_, h.fresh, h.rf⟩, fun r' => ?_,
    fun _ => Bal.still quiet_nil rfl rfl, rfl⟩
  · have := h.rt r'
    by_cases e : r = r'
    · subst e
      unfold RT1 at this
      rw [hn] at this
      have h0 : hold r s.active + hold r s.susp + hold r s.cleanup + hold r [] = 0 := this
      rw [RT1.setFn_self, h0]
      exact ⟨rfl, by simp⟩
    · exact (RT1.setFn_ne e _ _ _).mpr this
  · refine FB.same ?_ rfl
    by_cases e : r = r'
    · subst e; rw [phi_setFn_self]; unfold phi; rw [hn]; rfl
    · exact phi_setFn_ne e _ _

/-- the application's MHD_destroy_response: its own reference is struck from the entry (`R`), then released -/
theorem respDrop_tr (s : St) (r : Nat) (x : Resp) (hx : s.resps r = some x) (happ : x.app = true)
    (R : RespTab) (hR : R = { tab := setFn s.resps r (some { x with app := false }), fault := none }) :
    Tr [] s [] [] { s with resps := (release R r).1.tab, fault := (release R r).1.fault } [] [] (release R r).2 := by
  have hts := release_ts R r
  have hrt := release_rt R r
  generalize release R r = q at hts hrt ⊢
  subst hR
  refine ⟨fun h => ⟨h.conns, h.le, h.ip, h.ipLe, hts.cf cf_none⟩, fun h => ?_, fun r' => ?_,
    fun _ => Bal.still hts.quiet rfl rfl, rfl⟩
  · -- the application's reference counts as one more holder of `r`
    have := hrt (fun r' => hold r' s.active + hold r' s.susp + hold r' s.cleanup + hold r' [])
      (fun r' => show RT1 r' (setFn s.resps r (some { x with app := false })) _ from by
      have h0 := h.rt r'
      by_cases e : r = r'
      · subst e
        unfold RT1 at h0
        rw [hx] at h0
        obtain ⟨h1, h2⟩ : x.rc = appN x + _ ∧ (x.freed = true ↔ x.rc = 0) := h0
        rw [if_pos rfl, RT1.setFn_self]
        simp only [appN, happ, if_true] at h1
        simp only [appN, Bool.false_eq_true, if_false]
        exact ⟨by omega, h2⟩
      · rw [if_neg e, RT1.setFn_ne e]; exact h0)
    exact ⟨this.1, h.fresh, this.2 ▸ rfree_none⟩
  · have h1 : FB r' (setFn s.resps r (some { x with app := false })) q.1.tab q.2 := hts.fb r'
    unfold FB at h1 ⊢
    rw [← h1]
    congr 1
    by_cases e : r = r'
    · subst e; rw [phi_setFn_self]; unfold phi; rw [hx]
    · exact (phi_setFn_ne e _ _).symm

theorem setQueued_addr (r : Nat) (c : Conn) : (setQueued r c).addr = c.addr := rfl

theorem countP_queueFirst {q : Conn → Bool} (hq : Stable q) (id r : Nat) (l : List Conn) :
    (queueFirst id r l).countP q = l.countP q := by
  induction l with
  | nil => rfl
  | cons x l ih =>
    unfold queueFirst
    split
    · simp only [List.countP_cons, hq x (setQueued r x) rfl (setQueued_addr r x)]
    · simp only [List.countP_cons, ih]

theorem hold_queueFirst (r' id r : Nat) (l : List Conn) (h : l.any (extQueueable id) = true) :
    hold r' (queueFirst id r l) = hold r' l + if r = r' then 1 else 0 := by
  induction l with
  | nil => cases h
  | cons x l ih =>
    unfold queueFirst
    by_cases hx : extQueueable id x = true
    · have hn : x.resp = none := by
        cases hr : x.resp with
        | none => rfl
        | some y => simp [extQueueable, hr] at hx
      rw [if_pos hx, hold_cons, hold_cons, hold1_none hn, hold1_some r r' rfl]; rfl
    · rw [if_neg hx, hold_cons, hold_cons, ih (by simpa [hx] using h)]; omega

/-- MHD_queue_response from outside the handler: the first suspended connection `c0` that can take a
    response holds `r` afterwards -/
theorem extQueue_tr (s : St) (c0 r : Nat) (hl : s.susp.any (extQueueable c0) = true) :
    Tr [] s [] [] (extQueue s c0 r).1 [] [] (extQueue s c0 r).2 := by
  unfold extQueue
  split
  · exact Tr.emit s [] [] inert_one
  · split
    · exact Tr.emit s [] [] inert_one
    · rename_i R1 ha
      have hi : Inert [Ev.queued c0 r true] := inert_one
      refine ⟨fun h => ?_, fun h => ?_, fun r' => FB.same (acquire_phi ha r') (hi.2 r'), fun c => Bal.still hi.1 rfl ?_, rfl⟩
      · exact h.move rfl rfl rfl (fun _ => rfl)
          (fun p => congrArg (fun n => mu p s.active + n + mu p s.cleanup + mu p [])
            (countP_queueFirst (mu_stable p) c0 r s.susp)) h.cf
      · have := acquire_rt ha _ h.rt
        refine ⟨fun r' => (this.1 r').congr ?_, h.fresh, h.rf⟩
        show hold r' s.active + hold r' (queueFirst c0 r s.susp) + hold r' s.cleanup + hold r' [] = _
        rw [hold_queueFirst r' c0 r s.susp hl]; omega
      · exact congrArg (fun n => nu c s.active + n + nu c s.cleanup + nu c [])
          (countP_queueFirst (nu_stable c) c0 r s.susp)

end Mhd.Limits
