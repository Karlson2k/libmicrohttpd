/-
  The strict head splitter is stable under more input (what was parsed stays parsed, the rest is extended) and
  consumes at least its terminators.
-/
import Mhd.Model.Framing
namespace Mhd.Framing
open Mhd.Gen.Framing

theorem takeLine_spec (b l r : Bytes) (h : takeLine b = some (l, r)) : b = l ++ CR :: LF :: r := by
  induction b generalizing l with
  | nil => simp [takeLine] at h
  | cons c rest ih =>
    cases rest with
    | nil => simp [takeLine] at h
    | cons d rest' =>
      unfold takeLine at h
      by_cases hc : (c == CR && d == LF) = true
      · simp only [hc, if_true, Option.some.injEq, Prod.mk.injEq] at h
        obtain ⟨h1, h2⟩ := h
        simp only [Bool.and_eq_true, beq_iff_eq] at hc
        subst h1; subst h2; simp [hc.1, hc.2]
      · simp only [hc, Bool.false_eq_true, if_false] at h
        cases ht : takeLine (d :: rest') with
        | none => simp [ht] at h
        | some p =>
          obtain ⟨l', r'⟩ := p
          simp only [ht, Option.some.injEq, Prod.mk.injEq] at h
          obtain ⟨h1, h2⟩ := h
          subst h1; subst h2
          rw [ih l' ht]; rfl

theorem takeLine_append (b l r e : Bytes) (h : takeLine b = some (l, r)) :
    takeLine (b ++ e) = some (l, r ++ e) := by
  induction b generalizing l with
  | nil => simp [takeLine] at h
  | cons c rest ih =>
    cases rest with
    | nil => simp [takeLine] at h
    | cons d rest' =>
      unfold takeLine at h
      simp only [List.cons_append]
      unfold takeLine
      by_cases hc : (c == CR && d == LF) = true
      · simp only [hc, if_true, Option.some.injEq, Prod.mk.injEq] at h ⊢
        exact ⟨h.1, by rw [h.2]⟩
      · simp only [hc, Bool.false_eq_true, if_false] at h ⊢
        cases ht : takeLine (d :: rest') with
        | none => simp [ht] at h
        | some p =>
          obtain ⟨l', r'⟩ := p
          simp only [ht, Option.some.injEq, Prod.mk.injEq] at h
          obtain ⟨h1, h2⟩ := h
          subst h2
          have := ih l' ht
          simp only [List.cons_append] at this
          rw [this]
          simp only [Option.some.injEq, Prod.mk.injEq]
          exact ⟨h1, trivial⟩

theorem takeLine_length (b l r : Bytes) (h : takeLine b = some (l, r)) : r.length + l.length + 2 = b.length := by
  rw [takeLine_spec b l r h]; simp; omega

theorem takeFields_ne_refuse (n : Nat) (b : Bytes) (x : Option Nat) : takeFields n b ≠ .refuse x := by
  induction n generalizing b x with
  | zero => simp [takeFields]
  | succ n ih =>
    unfold takeFields
    cases hl : takeLine b with
    | none => simp
    | some q =>
      obtain ⟨l, rest⟩ := q
      cases l with
      | nil => simp
      | cons c l' =>
        simp only
        cases hp : parseField (c :: l') with
        | none => simp
        | some f =>
          simp only
          cases ht : takeFields n rest with
          | incomplete => simp
          | bad => simp
          | refuse y => exact absurd ht (ih rest y)
          | ok fs r => simp

/-- the verdict on `b ++ e` of an incremental scanner whose verdict on `b` is final -/
def FieldsRes.extend (e : Bytes) : FieldsRes → FieldsRes
  | .ok fs r => .ok fs (r ++ e)
  | x => x

def HeadRes.extend (e : Bytes) : HeadRes → HeadRes
  | .ok h r => .ok h (r ++ e)
  | x => x

/-- the laws of an incremental scanner from one extension equation per parser -/
theorem LawfulHeadParser.of_extend [P : HeadParser] (hnil : P.head [] = .incomplete)
    (hext : ∀ b e, P.head b ≠ .incomplete → P.head (b ++ e) = (P.head b).extend e)
    (hlen : ∀ b h r, P.head b = .ok h r → r.length < b.length)
    (text : ∀ b e, P.trailers b ≠ .incomplete → P.trailers (b ++ e) = (P.trailers b).extend e)
    (tlen : ∀ b fs r, P.trailers b = .ok fs r → r.length < b.length) : LawfulHeadParser where
  head_nil := hnil
  head_append b e h r hp := by rw [hext b e (by rw [hp]; nofun), hp]; rfl
  head_bad_append b e hp := by rw [hext b e (by rw [hp]; nofun), hp]; rfl
  head_refuse_append b e x hp := by rw [hext b e (by rw [hp]; nofun), hp]; rfl
  head_length := hlen
  trailers_append b e fs r hp := by rw [text b e (by rw [hp]; nofun), hp]; rfl
  trailers_bad_append b e hp := by rw [text b e (by rw [hp]; nofun), hp]; rfl
  trailers_refuse_append b e x hp := by rw [text b e (by rw [hp]; nofun), hp]; rfl
  trailers_length := tlen

theorem takeFields_extend (n m : Nat) (b e : Bytes) (h : takeFields n b ≠ .incomplete) (hnm : n ≤ m) :
    takeFields m (b ++ e) = (takeFields n b).extend e := by
  induction n generalizing m b with
  | zero => exact absurd rfl h
  | succ n ih =>
    cases m with
    | zero => omega
    | succ m =>
      unfold takeFields at h ⊢
      cases hl : takeLine b with
      | none => rw [hl] at h; exact absurd rfl h
      | some p =>
        obtain ⟨l, rest⟩ := p
        rw [takeLine_append b l rest e hl]
        simp only [hl] at h ⊢
        cases l with
        | nil => rfl
        | cons c l' =>
          simp only at h ⊢
          cases hp : parseField (c :: l') with
          | none => rfl
          | some f =>
            simp only [hp] at h ⊢
            have hr : takeFields n rest ≠ .incomplete := fun ht => by rw [ht] at h; exact h rfl
            rw [ih m rest hr (by omega)]
            cases takeFields n rest <;> rfl

theorem takeFields_length (n : Nat) (b : Bytes) (fs : List Field) (r : Bytes)
    (h : takeFields n b = .ok fs r) : r.length + 2 ≤ b.length := by
  induction n generalizing b fs with
  | zero => simp [takeFields] at h
  | succ n ih =>
    unfold takeFields at h
    cases hl : takeLine b with
    | none => simp [hl] at h
    | some p =>
      obtain ⟨l, rest⟩ := p
      have hlen := takeLine_length b l rest hl
      simp only [hl] at h
      cases l with
      | nil => simp only at h; cases h; omega
      | cons c l' =>
        simp only at h
        cases hp : parseField (c :: l') with
        | none => simp [hp] at h
        | some f =>
          simp only [hp] at h
          cases ht : takeFields n rest with
          | incomplete => simp [ht] at h
          | bad => simp [ht] at h
          | refuse x => exact absurd ht (takeFields_ne_refuse _ _ x)
          | ok fs' r' =>
            simp only [ht] at h
            cases h
            have := ih rest fs' ht
            omega

theorem parseHead_extend (b e : Bytes) (h : parseHead b ≠ .incomplete) :
    parseHead (b ++ e) = (parseHead b).extend e := by
  unfold parseHead at h ⊢
  cases hl : takeLine b with
  | none => rw [hl] at h; exact absurd rfl h
  | some p =>
    obtain ⟨l, rest⟩ := p
    rw [takeLine_append b l rest e hl]
    simp only [hl] at h ⊢
    cases hr : parseRequestLine l with
    | none => rfl
    | some q =>
      obtain ⟨m, t, v⟩ := q
      simp only [hr] at h ⊢
      have hf : takeFields (rest.length + 1) rest ≠ .incomplete := fun ht => by rw [ht] at h; exact h rfl
      rw [takeFields_extend _ ((rest ++ e).length + 1) rest e hf (by simp)]
      cases takeFields (rest.length + 1) rest with
      | ok fs r => show (if _ then _ else _) = HeadRes.extend e (if _ then _ else _); split <;> rfl
      | _ => rfl

theorem parseHead_length (b : Bytes) (h : Head) (r : Bytes) (hp : parseHead b = .ok h r) :
    r.length + 4 ≤ b.length := by
  unfold parseHead at hp
  cases hl : takeLine b with
  | none => simp [hl] at hp
  | some p =>
    obtain ⟨l, rest⟩ := p
    have h1 := takeLine_length b l rest hl
    simp only [hl] at hp
    cases hr : parseRequestLine l with
    | none => simp [hr] at hp
    | some q =>
      obtain ⟨m, t, v⟩ := q
      simp only [hr] at hp
      cases ht : takeFields (rest.length + 1) rest with
      | incomplete => simp [ht] at hp
      | bad => simp [ht] at hp
      | refuse x => exact absurd ht (takeFields_ne_refuse _ _ x)
      | ok fs r' =>
        simp only [ht] at hp
        have h2 := takeFields_length _ rest fs r' ht
        split at hp
        · cases hp; omega
        · cases hp

theorem parseHead_ne_refuse (b : Bytes) (x : Option Nat) : parseHead b ≠ .refuse x := by
  unfold parseHead
  cases hl : takeLine b with
  | none => simp
  | some q =>
    obtain ⟨l, rest⟩ := q
    simp only
    cases hr : parseRequestLine l with
    | none => simp
    | some q2 =>
      obtain ⟨m, t, v⟩ := q2
      simp only
      cases ht : takeFields (rest.length + 1) rest with
      | incomplete => simp
      | bad => simp
      | refuse y => exact absurd ht (takeFields_ne_refuse _ _ y)
      | ok fs r => simp only; split <;> simp

theorem strictLawful : @LawfulHeadParser strictParser :=
  @LawfulHeadParser.of_extend strictParser rfl parseHead_extend
    (fun b h r hp => by have := parseHead_length b h r hp; omega)
    (fun b e h => takeFields_extend _ _ b e h (by simp))
    (fun b fs r h => by have := takeFields_length _ b fs r h; omega)

end Mhd.Framing
