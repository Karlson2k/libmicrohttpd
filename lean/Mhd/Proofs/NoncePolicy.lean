/-
  Time-stamp round trip (calculate_nonce prints, get_nonce_timestamp reads),
  the stale / wrong classification of a nonce that is not in its slot, the
  registration policy of is_slot_available, and the cases of the vetting
  sequence `present` (for `Mhd.Props.C13`).
-/
import Mhd.Proofs.NonceInv
import Mhd.Proofs.Numeral
namespace Mhd.Nonce
open Mhd.Gen.Nonce

theorem hexVal_hexChar : ∀ d, d < 16 → hexVal (hexChar d) = some d := by decide

theorem trim_lt (v : Nat) : trim v < 16 ^ (11 + 1) := Nat.mod_lt _ (by decide)

/-- the hex time stamp is the 12-digit numeral of the trimmed time -/
theorem hexTs_eq (ts : Nat) : hexTs ts = Mhd.Num.digitsB 16 hexChar 11 (trim ts) :=
  (Mhd.Num.digitsB_eq_map 16 hexChar 11 (trim ts) (trim_lt ts)).symm

theorem strxGo_run (rest : Bytes) : ∀ (ds : Bytes) (i r : Nat), (∀ c ∈ ds, ∃ d, d < 16 ∧ hexVal c = some d) →
    ds.foldl (fun a c => a * 16 + (hexVal c).getD 0) r ≤ W64 - 1 →
    strxGo (ds ++ rest) i r = strxGo rest (i + ds.length) (ds.foldl (fun a c => a * 16 + (hexVal c).getD 0) r) := by
  intro ds
  induction ds with
  | nil => intro i r _ _; rfl
  | cons c t ih =>
    intro i r hd hv
    obtain ⟨d, hd16, hc⟩ := hd c List.mem_cons_self
    rw [List.foldl_cons, hc, Option.getD_some] at hv ⊢
    have hge := Mhd.Num.foldl_ge 16 (by decide) (fun c => (hexVal c).getD 0) t (r * 16 + d)
    have hno : ¬ (r > (W64 - 1) / 16 ∨ (r = (W64 - 1) / 16 ∧ d > (W64 - 1) % 16)) := by
      have : r * 16 + d ≤ W64 - 1 := Nat.le_trans hge hv
      omega
    rw [List.cons_append, strxGo, hc]
    dsimp only
    rw [if_neg hno, ih (i + 1) _ (fun x hx => hd x (List.mem_cons_of_mem _ hx)) hv, List.length_cons, Nat.add_assoc,
      Nat.add_comm 1]

theorem hexTs_length (t : Nat) : (hexTs t).length = 12 := by rw [hexTs_eq, Mhd.Num.digitsB_length]

/-- `MHD_strx_to_uint64_n_` reads back what `MHD_bin_to_hex` printed -/
theorem strx_hexTs (ts : Nat) (rest : Bytes) :
    strxToUint64N (hexTs ts ++ rest) tsChars = (tsChars, some (trim ts)) := by
  have hl : (hexTs ts).length = tsChars := hexTs_length ts
  have hval := Mhd.Num.digitsB_val (f := fun c => (hexVal c).getD 0) (ch := hexChar) (by decide)
    (fun d hd => by rw [hexVal_hexChar d hd]; rfl) 11 (trim ts) (trim_lt ts) 0
  rw [Nat.zero_mul, Nat.zero_add, ← hexTs_eq] at hval
  have hrun := strxGo_run [] (hexTs ts) 0 0
    (by rw [hexTs_eq]; exact Mhd.Num.digitsB_all (by decide) (fun d hd => ⟨d, hd, hexVal_hexChar d hd⟩) 11 _ (trim_lt ts))
    (by rw [hval]; exact Nat.le_trans (Nat.le_of_lt (trim_lt ts)) (by decide))
  rw [List.append_nil, hval, hl, Nat.zero_add] at hrun
  rw [strxToUint64N, List.take_left' hl, hrun]
  rfl

theorem getNonceTimestamp_mkNonce (hh rest : Bytes) (ts : Nat)
    (hl : (mkNonce hh ts).length = stdLenMd5 ∨ (mkNonce hh ts).length = stdLenSha) :
    getNonceTimestamp (mkNonce hh ts ++ rest) (mkNonce hh ts).length = .ts (trim ts) := by
  have hlen : (mkNonce hh ts).length = hh.length + 12 := by simp [mkNonce, hexTs_length]
  unfold getNonceTimestamp
  have hne : (mkNonce hh ts).length ≠ 0 := by omega
  rw [if_neg hne]
  simp only []
  rw [if_neg (by intro h; rcases hl with h1 | h1 <;> omega), if_neg (by simp)]
  have hd : (mkNonce hh ts ++ rest).drop ((mkNonce hh ts).length - tsChars) = hexTs ts ++ rest := by
    have : (mkNonce hh ts).length - tsChars = hh.length := by
      rw [hlen]; simp [tsChars, timestampBinSize]
    rw [this, mkNonce, List.append_assoc, List.drop_left]
  rw [hd, strx_hexTs]
  simp


theorem strlen_holds : ∀ (m rest : Bytes), NoNul m → strlen (m ++ 0 :: rest) = some m.length := by
  intro m
  induction m with
  | nil => intro rest _; simp [strlen]
  | cons a as ih =>
    intro rest hn
    have ha : a ≠ 0 := hn a (by simp)
    simp only [List.cons_append, strlen, if_neg ha, List.length_cons]
    rw [ih rest (fun b hb => hn b (by simp [hb]))]
    rfl

theorem holds_getElem_len (nn : Slot) (m : Bytes) (h : Holds nn m) : nn.nonce[m.length]? = some 0 := by
  obtain ⟨rest, hr⟩ := h
  rw [hr]; simp

theorem holds_getElem_zero (nn : Slot) (m : Bytes) (h : Holds nn m) (hn : NoNul m) (hne : m ≠ []) :
    ∃ b, nn.nonce[0]? = some b ∧ b ≠ 0 := by
  obtain ⟨rest, hr⟩ := h
  cases m with
  | nil => exact (hne rfl).elim
  | cons a as => exact ⟨a, by rw [hr]; simp, hn a (by simp)⟩

/-- the slot holds the issued nonce `mkNonce hm tm`; a different nonce of the same
    length is presented: the answer depends only on the two time stamps -/
theorem classify_same_length (nn : Slot) (hm : Bytes) (tm : Nat) (n : Bytes) (t : Nat)
    (hh : Holds nn (mkNonce hm tm)) (hnn : NoNul (mkNonce hm tm))
    (hstd : (mkNonce hm tm).length = stdLenMd5 ∨ (mkNonce hm tm).length = stdLenSha)
    (hlen : n.length = (mkNonce hm tm).length) (hne : n ≠ mkNonce hm tm) :
    slotMatches nn n = some false ∧
    classifyMismatch nn n.length t =
      (if reuseTimeout * 1000 ≥ trim (sub64 t (trim tm)) then .stale
       else if trim (W64 - 1) / 2 ≥ trim (sub64 t (trim tm)) then .stale else .wrong) := by
  have hz := holds_getElem_len nn _ hh
  have hmne : mkNonce hm tm ≠ [] := by
    intro h; rw [h] at hstd; simp [stdLenMd5, stdLenSha] at hstd
  obtain ⟨b0, hb0, hb0n⟩ := holds_getElem_zero nn _ hh hnn hmne
  obtain ⟨rest, hr⟩ := hh
  constructor
  · unfold slotMatches
    rw [hlen, hz]
    simp only [Option.some.injEq, decide_eq_false_iff_not, and_true]
    rw [hr, List.take_left]
    exact fun h => hne h.symm
  · unfold classifyMismatch
    rw [hlen, hz, hb0]
    simp only []
    rw [if_neg hb0n, if_neg (by simp), hr, getNonceTimestamp_mkNonce hm _ tm hstd]

theorem classify_empty (nn : Slot) (n : Bytes) (t : Nat) (h0 : nn.nonce[0]? = some 0)
    (hl : nn.nonce.length = nonceBufSize) (hn : n.length ≤ maxNonceLen) :
    classifyMismatch nn n.length t = .wrong := by
  unfold classifyMismatch
  have : ∃ z, nn.nonce[n.length]? = some z :=
    ⟨nn.nonce[n.length]'(by simp only [nonceBufSize, maxNonceLen] at *; omega),
     List.getElem?_eq_getElem _⟩
  obtain ⟨z, hz⟩ := this
  rw [h0, hz]
  simp

theorem avail_empty (nn : Slot) (ts : Nat) (n : Bytes) (h0 : nn.nonce[0]? = some 0) :
    isSlotAvailable nn ts n = some true := by
  unfold isSlotAvailable; rw [h0]; simp

theorem check_mismatch (tbl : Table) (n : Bytes) (t c : Nat) (nn : Slot)
    (hl : n.length ≤ maxNonceLen) (hc : c < ncGuard) (hs : tbl[slotIdx tbl.length n]? = some nn)
    (hm : slotMatches nn n = some false) :
    checkNonceNc tbl n t c = (tbl, classifyMismatch nn n.length t) := by
  have hne : tbl.length ≠ 0 := Nat.ne_zero_of_lt (List.getElem?_eq_some_iff.mp hs).1
  unfold checkNonceNc
  rw [if_neg (by omega), if_neg hne, if_neg (by omega)]
  simp only [hs, hm]

theorem holds_take_ne (nn : Slot) (m n : Bytes) (hh : Holds nn m) (hn : NoNul n) (hp : ¬ n <+: m) :
    nn.nonce.take n.length ≠ n := by
  obtain ⟨rest, hr⟩ := hh
  rw [hr]
  intro h
  rcases Nat.lt_or_ge m.length n.length with hgt | hle
  · have h0 : n[m.length]? = some 0 := by
      rw [← h, List.getElem?_take, if_pos hgt]; simp
    rw [List.getElem?_eq_getElem hgt] at h0
    exact hn _ (List.getElem_mem hgt) (Option.some.inj h0)
  · rw [List.take_append_of_le_length hle] at h
    have e := List.take_append_drop n.length m
    rw [h] at e
    exact hp ⟨m.drop n.length, e⟩

/-- `is_slot_available` on a slot that holds a registered nonce: its three questions in order -/
theorem SlotRel.avail_some {nn : Slot} {m : Bytes} {us : List Nat} (hs : SlotRel nn (some m) us) (ts : Nat) {n : Bytes}
    (hn : n.length ≤ maxNonceLen) :
    isSlotAvailable nn ts n =
      if nn.nonce.take n.length = n then some false
      else if us ≠ [] then some true
      else match getNonceTimestamp nn.nonce 0 with
        | .fault => none
        | .invalid => some true
        | .ts t => some (decide (reuseTimeout * 1000 < trim (sub64 ts t))) := by
  obtain ⟨hlast, _, hl, _, _, hh, _⟩ := id hs
  obtain ⟨k1, k2, k3⟩ := hh m rfl
  obtain ⟨b0, hb0, hb0n⟩ := holds_getElem_zero nn m k1 k2 k3
  unfold isSlotAvailable
  rw [hb0]
  simp only []
  rw [if_neg hb0n, if_neg (by simp only [nonceBufSize, maxNonceLen] at *; omega), hlast]
  simp only [ne_eq, hs.nc_eq_zero, not_true_eq_false, if_false]
  rfl

theorem SlotRel.avail {nn : Slot} {la : Option Bytes} {us : List Nat} (hs : SlotRel nn la us) (ts : Nat) {n : Bytes}
    (hn : NoNul n) (hlen : n.length ≤ maxNonceLen) :
    (la = none → isSlotAvailable nn ts n = some true) ∧
    (la = some n → isSlotAvailable nn ts n = some false) ∧
    (∀ m, la = some m → ¬ n <+: m → us ≠ [] → isSlotAvailable nn ts n = some true) ∧
    (∀ hm tm, la = some (mkNonce hm tm) →
       ((mkNonce hm tm).length = stdLenMd5 ∨ (mkNonce hm tm).length = stdLenSha) → ¬ n <+: mkNonce hm tm → us = [] →
       isSlotAvailable nn ts n = some (decide (reuseTimeout * 1000 < trim (sub64 ts (trim tm))))) := by
  refine ⟨fun hla => avail_empty nn ts n (hs.2.2.2.2.1 hla), ?_, ?_, ?_⟩
  · rintro rfl
    obtain ⟨rest, hr⟩ := (hs.2.2.2.2.2.1 n rfl).1
    rw [hs.avail_some ts hlen, if_pos (by rw [hr]; simp)]
  · rintro m rfl hp hus
    rw [hs.avail_some ts hlen, if_neg (holds_take_ne nn m n (hs.2.2.2.2.2.1 m rfl).1 hn hp), if_pos hus]
  · rintro hm tm rfl hstd hp rfl
    obtain ⟨k1, k2, _⟩ := hs.2.2.2.2.2.1 _ rfl
    rw [hs.avail_some ts hlen, if_neg (holds_take_ne nn _ n k1 hn hp), if_neg (by simp)]
    obtain ⟨rest, hr⟩ := k1
    have h1 := getNonceTimestamp_mkNonce hm (0 :: rest) tm hstd
    -- `strlen` finds the length at which `getNonceTimestamp_mkNonce` reads
    have hts : getNonceTimestamp nn.nonce 0 = .ts (trim tm) := by
      unfold getNonceTimestamp at h1 ⊢
      rw [hr, if_pos rfl, strlen_holds _ _ k2]
      rwa [if_neg (by rcases hstd with h | h <;> rw [h] <;> simp [stdLenMd5, stdLenSha])] at h1
    rw [hts]

theorem add_result (tbl : Table) (ts : Nat) (n : Bytes) (nn : Slot) (b : Bool)
    (hs : tbl[slotIdx tbl.length n]? = some nn) (hl : n.length + 1 ≤ nn.nonce.length)
    (ha : isSlotAvailable nn ts n = some b) :
    (step tbl (.add ts n)).2 = (if b then .added else .refused) := by
  have hne : tbl.length ≠ 0 := Nat.ne_zero_of_lt (List.getElem?_eq_some_iff.mp hs).1
  show Out.ofAdd (addNonce tbl ts n).2 = _
  unfold addNonce
  rw [if_neg hne]
  simp only [hs, ha]
  cases b with
  | false => rfl
  | true => simp only []; rw [if_neg (by omega)]; rfl

/-- the vetting sequence refuses (`MHD_DAUTH_NONCE_WRONG`, table untouched) every nonce whose
    length is not `NONCE_STD_LEN` of the *client's* algorithm — whatever `get_nonce_timestamp`
    would say about it -/
theorem present_length_tie (tbl : Table) (now tmo mx sl : Nat) (n : Bytes) (c : Nat)
    (hc : c ≠ 0) (hmx : c ≤ (if mx = 0 then defMaxNc else mx)) (hl : sl ≠ n.length) :
    present tbl now tmo mx sl n c = (tbl, .wrong) := by
  unfold present
  simp only []
  rw [if_neg hc, if_neg (by omega), if_pos hl]

theorem present_expired (tbl : Table) (now tmo mx : Nat) (n : Bytes) (c t : Nat)
    (hc : c ≠ 0) (hmx : ¬ ((if mx = 0 then defMaxNc else mx) ≠ 0 ∧ (if mx = 0 then defMaxNc else mx) < c))
    (ht : getNonceTimestamp n n.length = .ts t)
    (hexp : trim (sub64 now t) > ((if tmo = 0 then defTimeout else tmo) * 1000) % 2 ^ timeoutBits) :
    present tbl now tmo mx n.length n c = (tbl, .stale) := by
  unfold present
  simp only []
  rw [if_neg hc, if_neg hmx, if_neg (by simp), ht]
  simp only []
  rw [if_pos hexp]

theorem present_live (tbl : Table) (now tmo mx : Nat) (n : Bytes) (c t : Nat)
    (hc : c ≠ 0) (hmx : c ≤ (if mx = 0 then defMaxNc else mx))
    (ht : getNonceTimestamp n n.length = .ts t)
    (hexp : trim (sub64 now t) ≤ ((if tmo = 0 then defTimeout else tmo) * 1000) % 2 ^ timeoutBits) :
    present tbl now tmo mx n.length n c = ((checkNonceNc tbl n t c).1, Out.ofNc (checkNonceNc tbl n t c).2) := by
  unfold present
  simp only []
  rw [if_neg hc, if_neg (by omega), if_neg (by simp), ht]
  simp only []
  rw [if_neg (by omega)]

end Mhd.Nonce
