/-
  C05 — one pass of the state switch of MHD_connection_handle_idle, and its `while` loop, preserve the refinement
  relation.
-/
import Mhd.Proofs.ConnSMHandler
namespace Mhd.ConnSM
open Mhd.Gen.ConnState Mhd.Protocol

theorem uriLog_live {σ} {c c2 : Conn σ} {p : PSt} (h : Live c p) (hst : c.state.toNat ≤ 1) (x : Option Nat)
    (e1 : c2.started = c.started := by rfl) (e2 : c2.cleaned = c.cleaned := by rfl)
    (e3 : c2.inCleanup = c.inCleanup := by rfl) (e4 : c2.state = .reqLineReceived := by rfl)
    (e5 : c2.clientAware = true := by rfl) (e6 : c2.ctx = x := by rfl) (e7 : c2.upOff = c.upOff := by rfl)
    (e8 : c2.response = c.response := by rfl) (e9 : c2.stopWithError = c.stopWithError := by rfl) :
    Live c2 (Protocol.run p [.uriLog x]) := by
  have ha : c.clientAware = false := h.inv.2.2.2.2.2.2.2.1 hst
  obtain ⟨-, hup⟩ := h.inv.2.2.2.2.1 ha (by omega)
  cases h.idle_of_unaware ha
  have hs := e1.trans h.2.1
  have hc := e2.trans h.2.2
  have hr : c2.response = none := e8.trans (h.resp_none (by omega))
  refine ⟨⟨hs, hc, e5, ?_, e6.symm, (e7.trans hup).symm, ?_, rfl, ?_, fun _ => .inl ?_, ?_⟩, hs, hc⟩
  · exact .aware _ e4 (by decide) e5 (e9.trans (h.swe_false (by omega))) (e3.trans (h.notCleanup (by omega)))
      (fun x => by rw [hr] at x; cases x)
  · unfold respOrUpg; rw [hr, e4]; rfl
  · rw [e4]; exact Nat.le_refl 0
  · rw [e4]; decide
  · rw [e4]; rfl

theorem Live.own_response {σ} {c : Conn σ} {p : PSt} {r : Resp} (h : Live c p) (hr : c.response = some r)
    (hne : r ≠ errResp) : c.clientAware = true ∧ c.stopWithError = false := by
  obtain ⟨-, -, -, -, -, -, -, -, b9, b10⟩ := h.inv
  have key : ¬ (c.response = none ∨ c.response = some errResp) := by
    rw [hr]; exact fun x => x.elim nofun (fun e => hne (Option.some.inj e))
  constructor
  · cases hh : c.clientAware
    · exact absurd (b10 hh) key
    · rfl
  · cases hh : c.stopWithError
    · rfl
    · exact absurd (b9 hh) key

theorem Inv.upgraded {σ} {c : Conn σ} (hst : c.state = .upgrade) (hr : c.response = none)
    (hsd : c.stopWithError = true → c.discard = true) (h6 : c.inCleanup = true → c.clientAware = false) : Inv c := by
  unfold Inv
  rw [hst, hr]
  exact ⟨nofun, fun _ => by decide, hsd, nofun, fun _ x => absurd x (by decide), fun x => ⟨by decide, h6 x, rfl⟩,
    fun _ x => absurd x (by decide), fun x => absurd x (by decide), fun _ => .inl rfl, fun _ => .inl rfl⟩

/-- MHD_response_execute_upgrade_: the upgrade handler is called for the accepted response, which is released -/
theorem upgrade_live {σ} {c c2 : Conn σ} {p : PSt} {r : Resp} (h : Live c p) (hst : c.state = .headersSent)
    (hr : c.response = some r) (hup : r.upgrade = true)
    (e1 : c2.started = c.started := by rfl) (e2 : c2.cleaned = c.cleaned := by rfl)
    (e3 : c2.inCleanup = c.inCleanup := by rfl) (e4 : c2.state = .upgrade := by rfl)
    (e5 : c2.clientAware = c.clientAware := by rfl) (e6 : c2.ctx = c.ctx := by rfl) (e7 : c2.upOff = c.upOff := by rfl)
    (e8 : c2.response = none := by rfl) (e9 : c2.stopWithError = c.stopWithError := by rfl)
    (e10 : c2.discard = c.discard := by rfl) : Live c2 (Protocol.run p [.upgrade]) := by
  obtain ⟨ha, -⟩ := h.own_response hr (fun e => by rw [e] at hup; cases hup)
  obtain ⟨q, rfl⟩ := h.req_of_aware ha
  have hic := h.notCleanup (by rw [hst]; decide)
  have hsd := h.stopDiscard
  obtain ⟨⟨a1, a2, a3, -, d1, d2, d3, d4, -, -, d7⟩, -⟩ := h
  have hrep : q.replied = true := by rw [d3]; unfold respOrUpg; rw [hr]; rfl
  have hupg : q.upgraded = false := by rw [d7, hst]; rfl
  show Live c2 (if (q.replied && !q.upgraded) = true then .req { q with upgraded := true } else .bad)
  rw [if_pos (by rw [hrep, hupg]; rfl)]
  have hs := e1.trans a1
  have hc := e2.trans a2
  refine ⟨⟨hs, hc, e5.trans a3, ?_, e6 ▸ d1, e7 ▸ d2, ?_, d4, ?_, fun _ => .inr hrep, ?_⟩, hs, hc⟩
  · exact .upgraded e4 e8 (e9 ▸ e10 ▸ hsd) (fun x => absurd ((e3.trans hic).symm.trans x) (by decide))
  · unfold respOrUpg; rw [e8, e4]; exact hrep
  · rw [e4]; exact Site.rank_le_two _
  · rw [e4]; rfl

theorem interim_live {σ} {c c2 : Conn σ} {p : PSt} (h : Live c p) (hst : c.state = .fullReplySent)
    (hint : interimPending c = true)
    (e1 : c2.started = c.started := by rfl) (e2 : c2.cleaned = c.cleaned := by rfl)
    (e3 : c2.inCleanup = c.inCleanup := by rfl) (e4 : c2.state = .headersProcessed := by rfl)
    (e5 : c2.clientAware = c.clientAware := by rfl) (e6 : c2.ctx = c.ctx := by rfl) (e7 : c2.upOff = c.upOff := by rfl)
    (e8 : c2.response = none := by rfl) (e9 : c2.stopWithError = c.stopWithError := by rfl) :
    Live c2 (Protocol.run p [.interimSent]) := by
  unfold interimPending at hint
  cases hr : c.response
  case none => rw [hr] at hint; cases hint
  case some r =>
  rw [hr] at hint
  obtain ⟨ha, hswe⟩ := h.own_response hr (fun e => by rw [e] at hint; cases hint)
  obtain ⟨q, rfl⟩ := h.req_of_aware ha
  have hic := h.notCleanup (by rw [hst]; decide)
  obtain ⟨⟨a1, a2, a3, -, d1, d2, d3, d4, -, -, d7⟩, -⟩ := h
  have hrep : q.replied = true := by rw [d3]; unfold respOrUpg; rw [hr]; rfl
  have hupg : q.upgraded = false := by rw [d7, hst]; rfl
  show Live c2 (if (q.replied && !q.upgraded) = true then .req { q with replied := false, site := .first } else .bad)
  rw [if_pos (by rw [hrep, hupg]; rfl)]
  have hs := e1.trans a1
  have hc := e2.trans a2
  have haw := e5.trans a3
  refine ⟨⟨hs, hc, haw, ?_, e6 ▸ d1, e7 ▸ d2, ?_, d4, ?_, fun _ => .inl ?_, ?_⟩, hs, hc⟩
  · exact .aware _ e4 (by decide) haw (e9.trans hswe) (e3.trans hic) (fun x => by rw [e8] at x; cases x)
  · unfold respOrUpg; rw [e8, e4]; rfl
  · rw [e4]; exact Nat.le_refl 0
  · rw [e4]; decide
  · rw [e4]; exact hupg

section
variable {σ : Type} {cfg : Cfg} {app : App σ} {env : IdleEnv} {c c0 : Conn σ} {l0 : List LEv}

theorem Mid.live {p : PSt} (m : Mid cfg app env c c0 l0) (hok : EnvOk cfg env) (h : Live c p) :
    Live c0 (Protocol.run p l0) := by
  cases m with
  | start => exact h
  | uri hlow => exact uriLog_live h hlow _
  | final hst => exact (callConnectionHandler_post cfg app env .final h (.inr ⟨rfl, hst⟩)).1
  | body hst => exact (processBody_run cfg app env _ _ c).post hok h hst

theorem IdleStep.post {p : PSt} {r} (st : IdleStep cfg app env c r) (hok : EnvOk cfg env) (h : Live c p) :
    Post p (r.1, r.2.1) := by
  have mv : ∀ m ∈ idleMoves, Forward m.1 m.2.1 ∧ (m.2.1.toNat ≤ 5 ∨ 6 ≤ m.1.toNat) := by decide
  have em : ∀ m ∈ errMoves, Forward m.1 m.2 ∧ (m.2.toNat ≤ 5 ∨ 6 ≤ m.1.toNat) ∧ m.2.toNat ≤ 10 := by decide
  have fm : ∀ m ∈ firstMoves, Forward .headersProcessed m.1 := by decide
  cases st with
  | go m => exact m.live hok h
  | stay m => exact (m.live hok h).congr
  | kept => exact h.congr
  | move m hs hm => exact (m.live hok h).restate hs _ (mv _ hm).1 (.inr (mv _ hm).2)
  | err m hm =>
    exact Post.append (transmitError_post cfg env ((m.live hok h).restate rfl _ (em _ hm).1 (.inr (em _ hm).2.1)) hok
      (em _ hm).2.2).pair
  | close => exact (closeError_post h.open.congr).pair
  | headers hst => exact h.restate hst .headersReceived (by decide)
  | parsed hst => exact h.restate hst .headersProcessed (by decide)
  | firstOut hst => exact (callConnectionHandler_post cfg app env .first h (.inl ⟨rfl, hst⟩)).1
  | first hst hs1 hm =>
    -- where the first handler call leaves the state alone the handler has been seen
    have ⟨h1, hseen⟩ := callConnectionHandler_post cfg app env .first h (.inl ⟨rfl, hst⟩)
    exact h1.restate hs1 _ (fm _ hm) (.inl (hseen (h.resp_none (by rw [hst]; decide)) (hs1.trans hst.symm)))
  | firstDiscard hst hs1 hr =>
    have h1 := (callConnectionHandler_post cfg app env .first h (.inl ⟨rfl, hst⟩)).1
    rw [Live.resp_none h1 (by rw [hs1]; decide)] at hr; cases hr
  | upgrade hst hr hup => exact Post.append (l1 := [.upgrade]) (Post.dropResp (upgrade_live h hst hr hup)).pair
  | interim hst hint => exact Post.append (l1 := [.interimSent]) (Post.dropResp (interim_live h hst hint)).pair
  | reset hst hd => exact (connectionReset_post _ h hst hd).pair
  | cleanup hst => exact (cleanupConnection_post h hst).pair

theorem IdleRun.post {p : PSt} {r} (run : IdleRun cfg app env c r) (hok : EnvOk cfg env) (h : Live c p) :
    Post p (r.1, r.2.1) := by
  induction run generalizing p with
  | fuel => exact h.congr
  | susp => exact h
  | last st => exact st.post hok h
  | more st _ ih => exact Post.append (ih (st.post hok h))

end

end Mhd.ConnSM
