/-
  Exactness at the level of a whole event-loop round (all states, both loops, every variant):
  a connection is closed for timeout in a round only if — in the state before the round — it was not
  suspended, had a timeout and `connection_check_timedout` holds for its stamp; connections that are
  read, resumed or started in the round are not closed by it.
-/
import Mhd.Proofs.TmoHandlers
namespace Mhd.Tmo
open Mhd.Gen.Tmo

/-- every record changes admissibly and the clock stands still -/
def Steps (d d' : Daemon) : Prop := d'.now = d.now ∧ d'.back = d.back ∧ ∀ j, Step1 d.now (d.c j) (d'.c j)

theorem Steps.refl (d : Daemon) : Steps d d := ⟨rfl, rfl, fun _ => Step1.refl _ _⟩

theorem Steps.trans {a b c : Daemon} (h1 : Steps a b) (h2 : Steps b c) : Steps a c := by
  refine ⟨by rw [h2.1, h1.1], by rw [h2.2.1, h1.2.1], fun j => ?_⟩
  have := h2.2.2 j; rw [h1.1] at this
  exact Step1.trans (h1.2.2 j) this

theorem steps_of_touch {i : Id} {d d' : Daemon} (t : Touch i d d') : Steps d d' := by
  refine ⟨t.now, t.back, fun j => ?_⟩
  by_cases e : j = i
  · subst e; exact t.step
  · rw [t.c j e]; exact Step1.refl _ _

/-- the decisive fact: what is closed by the timeout check inside a round was expired before it -/
theorem expired_before {now : Nat} {c0 c : Conn} (h : Step1 now c0 c) (hc : c.closed = false)
    (ht : checkTimedOut now c = true) :
    c0.suspended = false ∧ c0.tmo ≠ 0 ∧ checkTimedOut now c0 = true := by
  have hs : c.suspended = false := by
    cases hh : c.suspended with
    | false => rfl
    | true => rw [checkTimedOut_suspended now c hh] at ht; cases ht
  have h0 : c.tmo ≠ 0 := fun e => by rw [checkTimedOut_noTimeout now c e] at ht; cases ht
  rcases h.2 with x | x | ⟨xt, xl⟩
  · exact absurd x h0
  · rw [hc] at x; cases x
  · rcases xl with x1 | ⟨x1, x2⟩
    · -- stamped in this round: idle time 0, cannot be timed out
      rw [checkTimedOut_fresh now c x1] at ht; cases ht
    · have hs0 : c0.suspended = false := by
        cases hh : c0.suspended with
        | false => rfl
        | true => have := x2 hh; rw [hs] at this; cases this
      refine ⟨hs0, by rw [← xt]; exact h0, ?_⟩
      unfold checkTimedOut at ht ⊢
      simp only [hs, hs0, xt, x1] at ht ⊢
      exact ht


theorem foldl_steps {f : Daemon → Id → Daemon} (hf : ∀ d i, Steps d (f d i)) (l : List Id) (d : Daemon) :
    Steps d (l.foldl f d) :=
  (trav_foldl f).rule (G := fun r => Steps d r.1) (Q := fun _ _ => True) (fun ha hf => hf ha)
    (fun d' j _ h _ => ⟨h.trans (hf d' j), trivial⟩) l d (Steps.refl d) trivial

theorem steps_flags (d d' : Daemon) (hn : d'.now = d.now) (hb : d'.back = d.back) (hc : d'.c = d.c) : Steps d d' :=
  ⟨hn, hb, fun j => by rw [hc]; exact Step1.refl _ _⟩

theorem steps_notePending (v : Variant) (d : Daemon) (i : Id) : Steps d (notePending v d i) := by
  rw [notePending_eq]; exact steps_flags _ _ rfl rfl rfl

theorem steps_resumeSuspended (v : Variant) (d : Daemon) : Steps d (resumeSuspended v d) := by
  unfold resumeSuspended
  dsimp only
  exact Steps.trans (steps_flags d { d with resuming := false } rfl rfl rfl) (foldl_steps (fun d i => steps_of_touch (touch_resumeOne v d i)) _ _)

theorem steps_roundStart (v : Variant) (d : Daemon) : Steps d (roundStart v d) := by
  refine Steps.trans (b := if d.cfg.allowSuspend then resumeSuspended v d else d) ?_ (steps_flags _ _ rfl rfl rfl)
  split
  · exact steps_resumeSuspended v d
  · exact Steps.refl d

theorem steps_epollWait (d : Daemon) : Steps d (epollWait d) := by
  unfold epollWait
  exact Steps.trans (steps_flags d { d with kq := [] } rfl rfl rfl) (foldl_steps (fun d i => steps_of_touch (touch_epollEvent d i)) _ _)

/-- every close-for-timeout among the events concerns a connection that was expired, not suspended
    and had a timeout in the state `d0` -/
def EvOk (d0 : Daemon) (evs : List Event) : Prop :=
  ∀ i a, Event.tmoClose i a ∈ evs →
    (d0.c i).suspended = false ∧ (d0.c i).tmo ≠ 0 ∧ checkTimedOut d0.now (d0.c i) = true

def Sound (d0 : Daemon) (r : Daemon × List Event) : Prop := Steps d0 r.1 ∧ EvOk d0 r.2

theorem evOk_nil (d0 : Daemon) : EvOk d0 [] := fun _ _ h => absurd h List.not_mem_nil

theorem evOk_append {d0 : Daemon} {a b : List Event} (ha : EvOk d0 a) (hb : EvOk d0 b) : EvOk d0 (a ++ b) := by
  intro i x h
  rcases List.mem_append.1 h with y | y
  · exact ha i x y
  · exact hb i x y

theorem evOk_of_no_close {d0 : Daemon} {evs : List Event} (h : ∀ i a, Event.tmoClose i a ∉ evs) : EvOk d0 evs :=
  fun i a hm => absurd hm (h i a)

theorem sound_seq2 {d0 : Daemon} {a : Daemon × List Event} {f : Daemon → Daemon × List Event}
    (ha : Sound d0 a) (hf : Sound d0 (a.1, []) → Sound d0 (f a.1)) : Sound d0 (seq2 a f) := by
  have := hf ⟨ha.1, evOk_nil d0⟩
  exact ⟨this.1, evOk_append ha.2 this.2⟩

/-- the close for timeout is where `expired_before` is used -/
theorem sound_idle (d0 : Daemon) (i : Id) : Idle (Sound d0) (Sound d0) (Sound d0) i where
  idle h := h
  set x h1 h2 h3 h4 h := ⟨h.1.trans (steps_of_touch (touch_set i _ x h1 h2 h3 h4)), evOk_nil d0⟩
  cleanup hc h := ⟨h.1.trans (steps_of_touch (touch_cleanupConnection _ i hc)), evOk_nil d0⟩
  arm _ h := ⟨h.1.trans (steps_of_touch (touch_epollUpdate _ i)), evOk_nil d0⟩
  timeout {d} hc ht h := by
    refine ⟨h.1.trans (steps_of_touch (touch_set i d _ rfl rfl rfl (fun _ => rfl))), fun j a hm => ?_⟩
    simp only [List.mem_singleton, Event.tmoClose.injEq] at hm
    obtain ⟨e, _⟩ := hm
    subst e
    rw [h.1.1] at ht
    exact expired_before (h.1.2.2 j) hc ht

theorem sound_handler (v : Variant) (d0 : Daemon) (i : Id) : Handler v (Sound d0) (Sound d0) (Sound d0) i where
  toIdle := sound_idle d0 i
  seq := sound_seq2
  live _ h := h
  event _ ne h := ⟨h.1, fun j a hm => absurd (List.mem_singleton.1 hm).symm (ne j a)⟩
  stamp h := ⟨h.1.trans (steps_of_touch (touch_updateLastActivity v _ i)), evOk_nil d0⟩
  suspend _ h := ⟨h.1.trans (steps_of_touch (touch_internalSuspend _ i)), evOk_nil d0⟩

theorem sound_handleIdleP {d0 d : Daemon} (hs : Steps d0 d) (i : Id) : Sound d0 (handleIdleP d i) :=
  (sound_idle d0 i).handleIdleP ⟨hs, evOk_nil d0⟩

theorem sound_note (v : Variant) {d0 : Daemon} {r : Daemon × List Event} (h : Sound d0 r) (i : Id) :
    Sound d0 (notePending v r.1 i, r.2) :=
  ⟨Steps.trans h.1 (steps_notePending v r.1 i), h.2⟩

theorem sound_callHandlersSel (v : Variant) {d0 d : Daemon} (hs : Steps d0 d) (i : Id) (r : Bool) :
    Sound d0 (callHandlersSel v d i r) :=
  sound_note v ((sound_handler v d0 i).callHandlersSel0 r ⟨hs, evOk_nil d0⟩) i

theorem Trav.sound {T H stop} (hT : Trav T H stop) {d0 : Daemon} (hH : ∀ d j, Steps d0 d → Sound d0 (H d j))
    (l : List Id) (d : Daemon) (hs : Steps d0 d) : Sound d0 (T l d) :=
  hT.rule (G := Sound d0) (Q := fun _ _ => True) sound_seq2 (fun d j _ h _ => ⟨hH d j h.1, trivial⟩) l d
    ⟨hs, evOk_nil d0⟩ trivial

theorem sound_processNew (v : Variant) {d0 d : Daemon} (hs : Steps d0 d) : Sound d0 (processNew v d) := by
  unfold processNew
  split
  · dsimp only
    refine ⟨?_, ?_⟩
    · exact Steps.trans hs (Steps.trans (steps_flags d { d with newL := [], haveNew := false } rfl rfl rfl)
        (foldl_steps (fun d i => steps_of_touch (touch_processOneNew v d i)) _ _))
    · intro i a hm; simp at hm
  · exact ⟨hs, evOk_nil d0⟩

theorem sound_cleanupAll {d0 d : Daemon} (hs : Steps d0 d) : Sound d0 (cleanupAll d) := by
  unfold cleanupAll
  dsimp only
  refine ⟨?_, ?_⟩
  · exact Steps.trans hs (Steps.trans (foldl_steps (fun d i => steps_of_touch (touch_freeOne d i)) _ _)
      (steps_flags _ { (d.cleanup.reverse.foldl freeOne d) with cleanup := [] } rfl rfl rfl))
  · intro i a hm; simp at hm

theorem sound_callHandlersE (v : Variant) {d0 d : Daemon} (hs : Steps d0 d) (i : Id) : Sound d0 (callHandlersE v d i) := by
  have h0 := (sound_handler v d0 i).callHandlersE0 ⟨hs, evOk_nil d0⟩ fun _ => ⟨hs, evOk_nil d0⟩
  have h : Sound d0 (callHandlersE1 v d i) := by
    rcases callHandlersE1_cases v d i with e | e <;> rw [e]
    · exact h0
    · exact sound_note v h0 i
  rcases callHandlersE_cases v d i with e | e <;> rw [e]
  · exact h
  · exact ⟨Steps.trans h.1 (steps_flags _ _ rfl rfl rfl), h.2⟩

theorem sound_roundLaws (v : Variant) (d0 : Daemon) : Round v (Sound d0) where
  seq := sound_seq2
  start h := ⟨h.1.trans (steps_roundStart v _), h.2⟩
  wait h := ⟨h.1.trans (steps_epollWait _), h.2⟩
  new h := sound_processNew v h.1
  manual h := trav_scanManual.sound (fun _ j hs => sound_handleIdleP hs j) _ _ h.1
  normal h := trav_scanNormal.sound (fun _ j hs => sound_handleIdleP hs j) _ _ h.1
  eready h := (trav_procEready v).sound (fun _ j hs => sound_callHandlersE v hs j) _ _ h.1
  select rs h := (trav_travSel v rs).sound (fun _ j hs => sound_callHandlersSel v hs j _) _ _ h.1
  clean h := sound_cleanupAll h.1

/-- **Round soundness.**  Whatever the state (reachable or not), loop and variant: no record changes in a
    round but admissibly, the clock stands still, and a connection closed for timeout was, before the round,
    not suspended, had a timeout, and the close decision holds for the stamp it had then. -/
theorem sound_round (v : Variant) (d : Daemon) : Sound d (round v d) :=
  (sound_roundLaws v d).round ⟨Steps.refl d, evOk_nil d⟩

end Mhd.Tmo
