/-
  Safety of the composed model `Mhd.ConnRead` (buffer layer + request-head parsers on one
  arena): the invariant `Safe` — buffer-layer invariant, the window/buffer link, the buffer of the
  phase being the arena prefix up to the end of the received data, the precondition of the parser
  of the current phase — holds in every state of every run; every operation issued to the buffer
  layer is accepted; no parser access faults.
-/
import Mhd.Proofs.ConnMemSpec
import Mhd.Proofs.ReqStable
import Mhd.Proofs.ReqTarget
import Mhd.Model.ConnReadCfg
import Mhd.Proofs.ReqLine
import Mhd.Proofs.FramingChunk
namespace Mhd.ConnRead
open Mhd.ConnMem Mhd.Req Mhd.Gen
open Mhd.Pool (writeAt take_writeAt)

/-- the parser's buffer is written back: it is the arena prefix up to the end of the received data -/
structure View (i N : Nat) (c : CM) (rb : Nat) (b : Bytes) : Prop extends Link i N c rb b.size where
  pre : c.p.mem.take b.size = b.toList

theorem _root_.Mhd.ConnMem.Link.writeBack {i N : Nat} {c : CM} {rb : Nat} {b : Bytes} (h : Link i N c rb b.size) :
    View i N (writeBack c b) rb b := by
  have hl : 0 + b.toList.length ≤ c.p.mem.length := by simpa using h.size_le
  refine ⟨h.setMem _ (Mhd.Pool.writeAt_length ..), ?_⟩
  show (writeAt c.p.mem 0 b.toList).take b.size = b.toList
  simpa using take_writeAt c.p.mem 0 b.toList hl

/-- the request strings lie below `read_buffer` (what the trailer parser needs) -/
def RqOk (rb : Nat) (rq : Rq) : Prop := rq.version + Discipline.httpVerLen + 1 ≤ rb

/-- the buffer of a phase (arena prefix up to the end of the received data) and its `read_buffer` -/
def Phase.view? : Phase → Option (Bytes × Nat)
  | .reqLine s => some (s.buf, s.rb)
  | .headers s _ => some (s.buf, s.rb)
  | .headersDone h _ => some (h.buf, h.rb)
  | .cont100 b => some (b.buf, b.rb)
  | .body b => some (b.buf, b.rb)
  | .footers s _ => some (s.buf, s.rb)
  | .reqDone buf rb _ => some (buf, rb)
  | _ => none

/-- the buffer of the phase is the arena prefix; a phase without a buffer (the connection has left the
    receiving states) keeps the buffer-layer invariant and the arena -/
def Held (i N : Nat) (c : CM) : Option (Bytes × Nat) → Prop
  | some (b, r) => View i N c r b
  | none => CMInv c ∧ c.p.size = N

/-- the precondition of the parser that runs next; `fault` and `refused` do not occur -/
def Ready (lvl : Int) : Phase → Prop
  | .reqLine s => RLInvX (RLFlags.ofLevel lvl) s
  | .headers s _ => HSP.Inv s ∧ HSP.Inv2 s
  | .headersDone h rq => RqOk h.rb rq
  | .cont100 b => RqOk b.rb b.rq
  | .body b => RqOk b.rb b.rq
  | .footers s _ => HSP.Inv s
  | .reqDone _ _ _ => True
  | .error _ => True
  | .fault _ => False
  | .refused _ => False

/-- invariant of the composed run: one arena (the phase's buffer is its prefix, the buffer-layer invariant
    holds), no fault, no refused operation, parser precondition of the current phase -/
def Safe (i N : Nat) (x : CR) : Prop := Held i N x.cm x.phase.view? ∧ Ready x.lvl x.phase

theorem Safe.view {i N : Nat} {x : CR} (h : Safe i N x) {b : Bytes} {r : Nat} (hv : x.phase.view? = some (b, r)) :
    View i N x.cm r b := by
  have := h.1; rwa [hv] at this

theorem _root_.Mhd.ConnMem.Link.closed {i N : Nat} {c : CM} {r s : Nat} (h : Link i N c r s) : CMInv c ∧ c.p.size = N :=
  ⟨h.recv.inv, congrArg Prod.fst h.dims⟩

theorem safe_closed {i N : Nat} {x : CR} (h : Safe i N x) : CMInv x.cm ∧ x.cm.p.size = N := by
  have h1 := h.1
  cases hv : x.phase.view? with
  | some v => rw [hv] at h1; exact Link.closed (View.toLink h1)
  | none => rw [hv] at h1; exact h1

theorem safe_cminv {i N : Nat} {x : CR} (h : Safe i N x) : CMInv x.cm := (safe_closed h).1

theorem safe_size {i N : Nat} {x : CR} (h : Safe i N x) : x.cm.p.size = N := (safe_closed h).2

theorem errorOut_safe {i N : Nat} (x : CR) (k : ErrKind) {r s : Nat} (h : Link i N x.cm r s) :
    Safe i N (errorOut x k) ∧ (errorOut x k).reading = false := by
  obtain ⟨c', he, hi⟩ := h.errRelease
  cases k with
  | closed => exact ⟨⟨h.closed, trivial⟩, rfl⟩
  | reply code => simp only [errorOut, he]; exact ⟨⟨hi, trivial⟩, rfl⟩
  | noSpace => simp only [errorOut, he]; exact ⟨⟨hi, trivial⟩, rfl⟩

theorem View.grow {i N : Nat} {c : CM} {r : Nat} {b : Bytes} (h : View i N c r b) (req : Bool) :
    View i N (step c (.grow req)).1 r b :=
  have g := h.toLink.grow req
  ⟨g.1, g.2.1 ▸ h.pre⟩

theorem allocN_spec (i N : Nat) (n : Nat) : ∀ {c : CM} {r size : Nat}, Link i N c r size → Link i N (allocN n c).1 r size := by
  induction n with
  | zero => intro c r size h; exact h
  | succ n ih =>
    intro c r size h
    have hl := h.alloc Mhd.Gen.ConnMem.reqHeaderSize
    simp only [allocN]
    split
    · rename_i heq; rw [heq] at hl; exact ih hl
    · rename_i heq; rw [heq] at hl; exact hl

theorem afterLine_safe (i N : Nat) (x : CR) (r : ReqLine) (hl : Link i N x.cm r.rb r.buf.size) (hp : RLPost r) :
    Safe i N (afterLine x r) := by
  unfold afterLine
  cases lineWspCheck (RLFlags.ofLevel x.lvl) x.cm.poolSize r with
  | some e => exact (errorOut_safe x _ hl).1
  | none =>
    dsimp only
    have hv := hp.hv
    have hlen : r.tgt + r.tgtLen < r.buf.size := by have := hp.htl; have := hp.hrb; omega
    obtain ⟨T, hT, hsz, _, _, _, hel, hrb, _, hver⟩ :=
      TGT.processRequestTarget_no_fault (Discipline.unesc_strict x.lvl) r hlen hp.hnul hp.hq
    rw [hT]
    dsimp only
    have a := allocN_spec i N T.elems.length hl
    generalize hst : allocN T.elems.length x.cm = res at a
    obtain ⟨c1, b⟩ := res
    cases b with
    | false =>
      exact (errorOut_safe { x with cm := c1 } (.reply Mhd.Gen.ConnMem.httpHeaderFieldsTooLarge) a).1
    | true =>
      have hk3 : ∀ el ∈ T.elems, el.kind ≠ Http.kindHeader := by
        intro el hm; rw [(hel el hm).2]; decide
      refine ⟨?_, ?_, ?_⟩
      · show View i N (writeBack c1 T.buf) T.rb T.buf
        exact Link.writeBack (by rw [hrb, hsz]; exact a)
      · have h1 : T.rb ≤ T.buf.size := by rw [hrb, hsz]; exact hp.hrb
        have h2 : T.version + Discipline.httpVerLen + 1 ≤ T.rb := by rw [hrb, hver]; exact hv
        exact HSP.Inv.start rfl rfl rfl rfl h1 h2 hk3
      · refine HSP.Inv2.start rfl rfl hk3 fun el hm sl hsl _ => ?_
        have hin := (hel el hm).1
        have htl := hp.htl
        show sl.off + sl.len ≤ T.version + Discipline.httpVerLen
        rw [hver]
        simp only [HSP.Elem.slices, List.mem_cons, Option.mem_toList] at hsl
        rcases hsl with rfl | hv'
        · have := hin.2.1; omega
        · have := (hin.2.2.1 sl (by simpa using hv')).2; omega

theorem idleReqLine_safe (i N : Nat) (x : CR) (s : RL) (hl : Link i N x.cm s.rb s.buf.size)
    (hi : RLInvX (RLFlags.ofLevel x.lvl) s) :
    Safe i N (idleReqLine x s) := by
  unfold idleReqLine
  cases hr : (rlScanner (RLFlags.ofLevel x.lvl)).run s with
  | fault f => exact absurd hr (Scanner.run_no_fault (rlLaws _) s hi.inv f)
  | more s1 =>
    obtain ⟨hi1, hsz, hrb⟩ := rl_run_more _ hi hr
    have hp1 := hi1.inv.hp
    obtain ⟨c1, hc, hl1⟩ := hl.consumeTo s1.rb hrb (by omega)
    simp only [hc]
    have hl1' : View i N (writeBack c1 s1.buf) s1.rb s1.buf := Link.writeBack (hsz ▸ hl1)
    split
    · exact (errorOut_safe { x with cm := writeBack c1 s1.buf, phase := .reqLine s1 } (.reply Http.codeBadRequest)
        hl1'.toLink).1
    · exact ⟨hl1', hi1⟩
  | done d =>
    cases d with
    | err e => exact (errorOut_safe x _ hl).1
    | ok r =>
      obtain ⟨hp, hsz, hm⟩ := rl_run_done _ hi hr
      have := hp.hm; have := hp.htl; have := hp.hv; have := hp.hrb
      obtain ⟨c1, hc, hl1⟩ := hl.consumeTo r.rb (by omega) (by omega)
      simp only [hc]
      exact afterLine_safe i N { x with cm := writeBack c1 r.buf } r (Link.writeBack (hsz ▸ hl1)).toLink hp

theorem inv_rbSize {s : HS} (h : HSP.Inv s) (n : Nat) : HSP.Inv { s with rbSize := n } :=
  ⟨h.hp, h.hrb, h.hws, h.hname, h.hvs, h.hver, h.helems⟩

theorem inv2_rbSize {s : HS} (h : HSP.Inv2 s) (n : Nat) : HSP.Inv2 { s with rbSize := n } :=
  ⟨h.hn0, h.hv0, h.hvs2, h.hLver, h.hmax⟩

/-- the end-of-section block moves `read_buffer` back by `shifted` bytes and removes as many from the buffer -/
theorem _root_.Mhd.Req.HSP.hsStep_done_shape (F : FLFlags) (fs : Nat) (s : HS) (hi : HSP.Inv s) (hd : Headers)
    (hdd : hsStep F fs s = .done (.ok hd)) :
    hd.buf.size + hd.shifted = s.buf.size ∧ s.rb ≤ hd.rb + hd.shifted ∧ hd.rb + hd.shifted ≤ s.buf.size ∧
      hd.rb ≤ hd.buf.size := by
  obtain ⟨n, _, h2, m⟩ := (HSP.hsStep_walk F fs s #[] hi).fin _ hdd hd rfl
  have e1 : hd.rb + hd.shifted = s.rb + n := m.rb
  have e2 : hd.buf.size + hd.shifted = s.buf.size := m.size
  omega

/-- what the lines loop carries: the header parser's invariant, and for the header section (not the
    footers) the second layer (where the strings end) -/
def LinesInv (ft : Option Rq) (s : HS) : Prop := HSP.Inv s ∧ (ft = none → HSP.Inv2 s)

theorem hdrBody_safe (i N : Nat) (lvl : Int) (fs : Nat) (ft : Option Rq) (k : CM → HS → CR) (m : Nat)
    (hk : ∀ (c : CM) (s : HS), Link i N c s.rb s.buf.size → LinesInv ft s →
      (hsScanner (FLFlags.ofLevel lvl) fs).measure s < m → Safe i N (k c s))
    (c : CM) (s0 : HS) (hl0 : Link i N c s0.rb s0.buf.size) (hi0' : LinesInv ft s0)
    (hm0 : (hsScanner (FLFlags.ofLevel lvl) fs).measure s0 < m + 1) :
    Safe i N (hdrBody lvl fs ft k c s0) := by
  have hi0 := hi0'.1
  have L := HSP.hsLaws (FLFlags.ofLevel lvl) fs
  have ok := HSP.hsStep_ok (FLFlags.ofLevel lvl) fs s0 hi0
  unfold hdrBody
  cases hst : hsStep (FLFlags.ofLevel lvl) fs s0 with
  | needMore =>
    cases ft with
    | none => exact ⟨hl0.writeBack, hi0, hi0'.2 rfl⟩
    | some n => exact ⟨hl0.writeBack, hi0⟩
  | fault f => exact absurd hst (L.no_fault s0 f hi0)
  | done d =>
    cases d with
    | err k =>
      exact (errorOut_safe { cm := c, lvl := lvl, phase := linesPhase ft s0 fs } (.reply Http.codeBadRequest) hl0).1
    | ok h =>
      obtain ⟨g1, g2, g3, g4⟩ := HSP.hsStep_done_shape _ fs s0 hi0 h hst
      obtain ⟨c1, hc, hl1⟩ := hl0.consumeTo (h.rb + h.shifted) g2 g3
      simp only [hc]
      cases ft with
      | none =>
        obtain ⟨c2, hc2, hl2⟩ := hl1.shiftBack h.shifted (Nat.le_add_left _ _)
        simp only [hc2]
        have hb := ((HSP.hsStep_inv2 _ fs s0 hi0 (hi0'.2 rfl)).2 h hst).1.1
        refine ⟨Link.writeBack ?_, hb⟩
        rwa [Nat.add_sub_cancel, show s0.buf.size - h.shifted = h.buf.size by omega] at hl2
      | some n => exact ⟨hl1.writeBack, trivial⟩
  | advance s1 =>
    obtain ⟨hi1, hsz, _⟩ := ok.adv s1 hst
    have hi1' : LinesInv ft s1 := ⟨hi1, fun hf => (HSP.hsStep_inv2 _ fs s0 hi0 (hi0'.2 hf)).1 s1 hst⟩
    have hmono := (HSP.hsStep_mono _ fs s0 hi0 s1 hst).rb
    have hp1 := hi1.hp
    obtain ⟨c1, hc, hl1⟩ := hl0.consumeTo s1.rb hmono (by omega)
    have hl1' : Link i N c1 s1.rb s1.buf.size := hsz ▸ hl1
    have hdec := L.decr s0 s1 hi0 hst
    simp only [hc]
    split
    · have hl2 := hl1'.alloc Mhd.Gen.ConnMem.reqHeaderSize
      split
      · rename_i heq; rw [heq] at hl2; exact hk _ s1 hl2 hi1' (by omega)
      · rename_i heq; rw [heq] at hl2
        exact (errorOut_safe { cm := _, lvl := lvl, phase := linesPhase ft s1 fs } .noSpace hl2).1
    · exact hk c1 s1 hl1' hi1' (by omega)

theorem hdrLoop_safe (i N : Nat) (lvl : Int) (fs : Nat) (ft : Option Rq) : ∀ (n : Nat) (c : CM) (s : HS),
    Link i N c s.rb s.buf.size → LinesInv ft s → (hsScanner (FLFlags.ofLevel lvl) fs).measure s < n →
    Safe i N (hdrLoop lvl fs ft n c s) := by
  intro n
  induction n with
  | zero => intro c s _ _ hm; exact absurd hm (Nat.not_lt_zero _)
  | succ n ih =>
    intro c s hl hi hm
    exact hdrBody_safe i N lvl fs ft (hdrLoop lvl fs ft n) n ih c { s with rbSize := c.rbSize } hl
      ⟨inv_rbSize hi.1 _, fun hf => inv2_rbSize (hi.2 hf) _⟩ hm

/-- the result of the body loop stays inside the window `w` -/
def Within (w : List UInt8) : BLRes → Prop
  | .ok s => s.head ≤ w.length
  | .overrun _ => False
  | _ => True

/-- the body loop never claims more bytes than the window holds: every decision of the chunk decoder
    consumes at most the available bytes (C03: `chunkAct_term`, `chunkAct_line`, `chunkAct_data`) -/
theorem bodyLoop_within (lvl : Int) (take : Nat → Nat → Option Nat) (chunked : Bool) (w : List UInt8) :
    ∀ (f : Nat) (s : BL), s.head ≤ w.length → Within w (bodyLoop lvl take chunked w f s) := by
  intro f
  induction f with
  | zero => intro s hs; exact hs
  | succ f ih =>
    intro s hs
    have hbl : (w.drop s.head).length = w.length - s.head := List.length_drop
    unfold bodyLoop
    dsimp only
    by_cases he : (w.drop s.head).isEmpty = true
    · rw [if_pos he]; exact hs
    rw [if_neg he]
    cases chunked with
    | true =>
      rw [if_pos rfl]
      cases hact : Mhd.Framing.chunkAct lvl s.cur s.off (w.drop s.head) with
      | needMore => exact hs
      | err st => trivial
      | term n =>
        have hb := (Mhd.Framing.chunkAct_term lvl s.cur s.off _ n hact).2
        dsimp only
        rw [if_pos hb]
        exact ih _ (by show s.head + n ≤ w.length; omega)
      | line len size =>
        have hb := (Mhd.Framing.chunkAct_line lvl s.cur s.off _ len size hact).2
        dsimp only
        rw [if_pos hb]
        have hh : s.head + len ≤ w.length := by omega
        by_cases hz : size = 0
        · rw [if_pos hz]; exact hh
        · rw [if_neg hz]; exact ih _ hh
      | data n =>
        have hb : n ≤ (w.drop s.head).length := by
          rw [(Mhd.Framing.chunkAct_data lvl s.cur s.off _ n hact).2.2.2]; exact Nat.min_le_right _ _
        dsimp only
        rw [if_pos hb]
        cases take s.calls n with
        | none => trivial
        | some tk =>
          dsimp only
          have hh : s.head + min n tk ≤ w.length := by have := Nat.min_le_left n tk; omega
          by_cases ht : min n tk < n
          · rw [if_pos ht]; exact hh
          · rw [if_neg ht]; exact ih _ hh
    | false =>
      rw [if_neg Bool.false_ne_true]
      cases take s.calls (min s.remaining (w.drop s.head).length) with
      | none => trivial
      | some tk =>
        show s.head + min (min s.remaining (w.drop s.head).length) tk ≤ w.length
        have := Nat.min_le_left (min s.remaining (w.drop s.head).length) tk
        have := Nat.min_le_right s.remaining (w.drop s.head).length
        omega

theorem bodyLoop_ok (lvl : Int) (take : Nat → Nat → Option Nat) (chunked : Bool) (w : List UInt8) :
    ∀ (f : Nat) (s : BL), s.head ≤ w.length →
      (∀ n, bodyLoop lvl take chunked w f s ≠ .overrun n) ∧
      (∀ s', bodyLoop lvl take chunked w f s = .ok s' → s'.head ≤ w.length) := by
  intro f s hs
  have := bodyLoop_within lvl take chunked w f s hs
  generalize bodyLoop lvl take chunked w f s = res at this
  exact ⟨fun n h => by rw [h] at this; exact this, fun s' h => by rw [h] at this; exact this⟩
/-- the memmove of `process_request_body`: `k` of the `off` bytes in the window leave its front -/
theorem drop_window_size (buf : Bytes) (rb k : Nat) (hk : rb + k ≤ buf.size) :
    (buf.extract 0 rb ++ buf.extract (rb + k) buf.size).size = buf.size - k := by
  simp only [Array.size_append, Array.size_extract]; omega

theorem processBody_safe (i N : Nat) (cfg : Cfg) (x : CR) (b : Body) (hl : Link i N x.cm b.rb b.buf.size)
    (hq : RqOk b.rb b.rq) : Safe i N (processBody cfg x b) := by
  unfold processBody
  have hsz := hl.sz
  have hwl : ((b.buf.extract b.rb b.buf.size).toList).length = x.cm.rbOff := by
    simp only [Array.length_toList, Array.size_extract]; omega
  dsimp only
  split
  · rename_i n heq; exact absurd heq ((bodyLoop_ok _ _ _ _ _ _ (Nat.zero_le _)).1 n)
  · exact (errorOut_safe x _ hl).1
  · exact ⟨hl.closed, trivial⟩
  · rename_i s heq
    have hh := (bodyLoop_ok _ _ _ _ _ _ (Nat.zero_le _)).2 s heq
    rw [hwl] at hh
    obtain ⟨c1, hc, hl1⟩ := hl.bodyDrop s.head hh
    simp only [hc]
    exact ⟨Link.writeBack ((drop_window_size b.buf b.rb s.head (by omega)).symm ▸ hl1), hq⟩

theorem idleBody_safe (i N : Nat) (cfg : Cfg) (x : CR) (b : Body) (hl : View i N x.cm b.rb b.buf)
    (hq : RqOk b.rb b.rq) (hp : x.phase = .body b) : Safe i N (idleBody cfg x b) := by
  unfold idleBody
  have h1 : Safe i N (if x.cm.rbOff ≠ 0 then processBody cfg x b else x) := by
    split
    · exact processBody_safe i N cfg x b hl.toLink hq
    · unfold Safe; rw [hp]; exact ⟨hl, hq⟩
  generalize (if x.cm.rbOff ≠ 0 then processBody cfg x b else x) = x1 at h1
  dsimp only
  split
  · rename_i b1 hp1
    have h1s := h1
    unfold Safe at h1s
    rw [hp1] at h1s
    split
    · split
      · refine ⟨h1s.1, ?_⟩
        have hv : b1.rq.version + Discipline.httpVerLen + 1 ≤ b1.rb := h1s.2
        have hsz := h1s.1.sz
        exact HSP.Inv.start rfl rfl rfl rfl (by show b1.rb ≤ b1.buf.size; omega) hv nofun
      · exact ⟨h1s.1, trivial⟩
    · exact h1
  · exact h1

theorem startBody_safe (i N : Nat) (cfg : Cfg) (x : CR) (h : Headers) (rq : Rq) (ch : Bool) (n : Nat)
    (hl : View i N x.cm h.rb h.buf) (hq : RqOk h.rb rq) :
    Safe i N (startBody cfg x h rq ch n) := by
  unfold startBody
  split
  · exact ⟨hl, trivial⟩
  · dsimp only
    split <;> exact ⟨hl, hq⟩

theorem afterHeaders_safe (i N : Nat) (cfg : Cfg) (x : CR) (h : Headers) (rq : Rq) (hl : View i N x.cm h.rb h.buf)
    (hq : RqOk h.rb rq) (hp : x.phase = .headersDone h rq) :
    Safe i N (afterHeaders cfg x h rq) := by
  unfold afterHeaders
  have hx : Safe i N x := by unfold Safe; rw [hp]; exact ⟨hl, hq⟩
  have hc : Safe i N { x with phase := .error .closed } := ⟨hl.closed, trivial⟩
  split
  · exact hx
  · exact (errorOut_safe x _ hl.toLink).1
  · split
    · exact hc
    · exact hc
    · split <;> exact startBody_safe i N cfg x h rq _ _ hl hq

theorem finishRequest_safe (i N : Nat) (x : CR) (buf : Bytes) (rb : Nat) (hl : Link i N x.cm rb buf.size) :
    Safe i N (finishRequest x buf rb).1 := by
  unfold finishRequest
  obtain ⟨c1, c2, h1, h2, hl2⟩ := hl.recycle
  simp only [h1, h2]
  refine ⟨Link.writeBack ?_, RLInvX.init _ _ _ (Nat.zero_le _)⟩
  rwa [show (buf.extract rb buf.size).size = buf.size - rb by simp only [Array.size_extract]; omega]

theorem stLine_safe (i N : Nat) (x : CR) (h : Safe i N x) : Safe i N (stLine x) := by
  unfold stLine
  have h' := h; unfold Safe at h'
  cases hp : x.phase with
  | reqLine s => rw [hp] at h'; exact idleReqLine_safe i N x s h'.1.toLink h'.2
  | cont100 b => rw [hp] at h'; exact h'
  | _ => exact h

theorem stHeaders_safe (i N : Nat) (x : CR) (h : Safe i N x) : Safe i N (stHeaders x) := by
  unfold stHeaders
  have h' := h; unfold Safe at h'
  cases hp : x.phase with
  | headers hs fs =>
    rw [hp] at h'
    exact hdrLoop_safe i N x.lvl fs none _ x.cm hs h'.1.toLink ⟨h'.2.1, fun _ => h'.2.2⟩ (Nat.lt_succ_self _)
  | _ => exact h

theorem stAfter_safe (i N : Nat) (cfg : Cfg) (x : CR) (h : Safe i N x) : Safe i N (stAfter cfg x) := by
  unfold stAfter
  have h' := h; unfold Safe at h'
  cases hp : x.phase with
  | headersDone hd rq => rw [hp] at h'; exact afterHeaders_safe i N cfg x hd rq h'.1 h'.2 hp
  | _ => exact h

theorem stBody_safe (i N : Nat) (cfg : Cfg) (x : CR) (h : Safe i N x) : Safe i N (stBody cfg x) := by
  unfold stBody
  have h' := h; unfold Safe at h'
  cases hp : x.phase with
  | body b => rw [hp] at h'; exact idleBody_safe i N cfg x b h'.1 h'.2 hp
  | _ => exact h

theorem stFooters_safe (i N : Nat) (x : CR) (h : Safe i N x) : Safe i N (stFooters x) := by
  unfold stFooters
  have h' := h; unfold Safe at h'
  cases hp : x.phase with
  | footers s n =>
    rw [hp] at h'
    exact hdrLoop_safe i N x.lvl 0 (some n) _ x.cm s h'.1.toLink ⟨h'.2, nofun⟩ (Nat.lt_succ_self _)
  | _ => exact h

theorem stDone_safe (i N : Nat) (cfg : Cfg) (x : CR) (h : Safe i N x) : Safe i N (stDone cfg x).1 := by
  unfold stDone
  have h' := h; unfold Safe at h'
  cases hp : x.phase with
  | reqDone buf rb rq =>
    rw [hp] at h'
    dsimp only
    split
    · exact finishRequest_safe i N x buf rb (View.toLink h'.1)
    · exact ⟨(View.toLink h'.1).closed, trivial⟩
  | _ => exact h

theorem idlePass_safe (i N : Nat) (cfg : Cfg) (x : CR) (h : Safe i N x) :
    Safe i N (idlePass cfg x).1 :=
  stDone_safe i N cfg _ (stFooters_safe i N _ (stBody_safe i N cfg _ (stAfter_safe i N cfg _ (stHeaders_safe i N _ (stLine_safe i N x h)))))

theorem idleStates_safe (i N : Nat) (cfg : Cfg) : ∀ (n : Nat) (x : CR), Safe i N x →
    Safe i N (idleStates cfg n x) := by
  intro n
  induction n with
  | zero => intro x h; exact h
  | succ n ih =>
    intro x h
    have hp := idlePass_safe i N cfg x h
    simp only [idleStates]
    split
    · rename_i heq; rw [heq] at hp; exact ih _ hp
    · rename_i heq; rw [heq] at hp; exact hp

theorem reading_view {x : CR} (hr : x.reading = true) : ∃ b r, x.phase.view? = some (b, r) := by
  unfold CR.reading at hr
  cases hp : x.phase <;> rw [hp] at hr <;> first | exact ⟨_, _, rfl⟩ | cases hr

theorem wantsRead_reading {x : CR} (h : x.wantsRead = true) : x.reading = true := by
  unfold CR.wantsRead at h
  unfold CR.reading
  cases hp : x.phase <;> rw [hp] at h <;> first | rfl | cases h

theorem safe_setCm {i N : Nat} {x : CR} (h : Safe i N x) (hr : x.reading = true) (c' : CM)
    (hc : ∀ r b, View i N x.cm r b → View i N c' r b) : Safe i N { x with cm := c' } := by
  obtain ⟨b, r, hv⟩ := reading_view hr
  refine ⟨?_, h.2⟩
  show Held i N c' x.phase.view?
  rw [hv]; exact hc r b (h.view hv)

theorem noSpaceOut_safe (i N : Nat) (x : CR) (h : Safe i N x) (hr : x.reading = true) :
    Safe i N (noSpaceOut x) ∧ (noSpaceOut x).wantsRead = false := by
  obtain ⟨b, r, hv⟩ := reading_view hr
  have er := errorOut_safe x .noSpace (h.view hv).toLink
  have ern : (errorOut x .noSpace).wantsRead = false := by
    cases hh : (errorOut x .noSpace).wantsRead with
    | false => rfl
    | true => have := wantsRead_reading hh; rw [er.2] at this; cases this
  unfold noSpaceOut
  cases hp : x.phase with
  | body b =>
    dsimp only
    split
    · refine ⟨?_, rfl⟩
      have h' := h; unfold Safe at h' ⊢; rw [hp] at h'; exact h'
    · exact ⟨er.1, ern⟩
  | _ => exact ⟨er.1, ern⟩

/-- `check_and_grow_read_buffer_space`: safe, and afterwards a connection that will read has room in its
    window (rests on the guard of fix F32, see `growSizeG_add`) -/
theorem checkGrow_safe (i N : Nat) (x : CR) (h : Safe i N x) :
    Safe i N (checkGrow x) ∧
    ((checkGrow x).wantsRead = true → (checkGrow x).cm.rbOff < (checkGrow x).cm.rbSize) := by
  by_cases hw : x.wantsRead = true
  · have hr := wantsRead_reading hw
    obtain ⟨b, r, hv⟩ := reading_view hr
    have hl := h.view hv
    have hle := hl.recv.off_le
    unfold checkGrow
    rw [if_neg (by rw [hw]; simp)]
    dsimp only
    by_cases hd : (x.cm.rbOff == x.cm.rbSize || (decide (x.cm.rbOff + x.cm.inc > x.cm.rbSize) && growRefine x)) = true
    · rw [if_neg (by rw [hd]; simp)]
      obtain ⟨_, _, g2, g3, g6, g7⟩ := hl.toLink.grow (x.cm.rbOff == x.cm.rbSize)
      have hs' : Safe i N { x with cm := (step x.cm (.grow (x.cm.rbOff == x.cm.rbSize))).1 } :=
        safe_setCm h hr _ fun _ _ hl' => hl'.grow _
      generalize step x.cm (.grow (x.cm.rbOff == x.cm.rbSize)) = res at g2 g3 g6 g7 hs'
      obtain ⟨c', rr⟩ := res
      dsimp only at g2 g3 g6 g7 hs'
      rcases g6 with e | ⟨e, ec⟩
      · subst e
        dsimp only
        refine ⟨hs', fun _ => ?_⟩
        by_cases hf : x.cm.rbOff = x.cm.rbSize
        · exact g7 rfl hf
        · show c'.rbOff < c'.rbSize; omega
      · subst e; subst ec
        dsimp only
        by_cases hq : (x.cm.rbOff == x.cm.rbSize) = true
        · rw [if_neg (by rw [hq]; simp)]
          have := noSpaceOut_safe i N { x with cm := x.cm } hs' hr
          exact ⟨this.1, fun hh => by rw [this.2] at hh; cases hh⟩
        · rw [if_pos (by simpa using hq)]
          refine ⟨hs', fun _ => ?_⟩
          simp only [beq_iff_eq] at hq
          show x.cm.rbOff < x.cm.rbSize; omega
    · have hd' : (x.cm.rbOff == x.cm.rbSize || (decide (x.cm.rbOff + x.cm.inc > x.cm.rbSize) && growRefine x)) = false := by
        simpa using hd
      rw [if_pos (by rw [hd']; rfl)]
      refine ⟨h, fun _ => ?_⟩
      simp only [Bool.or_eq_false_iff, beq_eq_false_iff_ne] at hd'
      have := hd'.1; omega
  · have hw' : x.wantsRead = false := by simpa using hw
    unfold checkGrow
    rw [if_pos (by rw [hw']; rfl)]
    exact ⟨h, fun hh => by rw [hw'] at hh; cases hh⟩

theorem updateEv_safe (i N : Nat) (x : CR) (h : Safe i N x) :
    Safe i N (updateEv x) ∧
    ((updateEv x).wantsRead = true → (updateEv x).cm.rbOff < (updateEv x).cm.rbSize) := by
  unfold updateEv
  cases hp : x.phase with
  | body b =>
    dsimp only
    apply checkGrow_safe
    have h' := h; unfold Safe at h' ⊢; rw [hp] at h'; exact h'
  | _ => exact checkGrow_safe i N x h

theorem idle_safe (i N : Nat) (cfg : Cfg) (x : CR) (h : Safe i N x) :
    Safe i N (idle cfg x) ∧
    ((idle cfg x).wantsRead = true → (idle cfg x).cm.rbOff < (idle cfg x).cm.rbSize) :=
  updateEv_safe i N _ (idleStates_safe i N cfg (x.cm.rbOff + 2) x h)

/-- `MHD_connection_handle_read`: the received bytes are appended to the buffer of the phase and stored in the
    arena right behind it -/
theorem recvBytes_safe (i N : Nat) (x : CR) (e : List UInt8) (h : Safe i N x) (hr : x.reading = true)
    (hk : e.length ≤ x.space) : Safe i N (recvBytes x e) := by
  obtain ⟨b, r, hv⟩ := reading_view hr
  have hl := h.view hv
  obtain ⟨c', he, hl', hp'⟩ := hl.toLink.recv' e.length hk
  have hrb : x.cm.rb.getD 0 = r := by rw [hl.recv.rb]; rfl
  unfold recvBytes
  rw [he]
  dsimp only
  unfold Safe at h ⊢
  have key : ∀ r0 b0, View i N x.cm r0 b0 →
      View i N (setMem c' (writeAt c'.p.mem (x.cm.rb.getD 0 + x.cm.rbOff) e)) r0 (b0 ++ e.toArray) := by
    intro r0 b0 hl0
    have e0 : r0 = r := by have := hl0.recv.rb; rw [hl.recv.rb] at this; exact (Option.some.inj this).symm
    subst e0
    have hsz := hl0.sz
    have hes : (b0 ++ e.toArray).size = b.size + e.length := by simp [hsz, hl.sz]
    have hlen : r0 + x.cm.rbOff + e.length ≤ c'.p.mem.length := by have := hl'.size_le; have := hl.sz; omega
    refine ⟨(hes ▸ hl').setMem _ (Mhd.Pool.writeAt_length ..), ?_⟩
    show (writeAt c'.p.mem (x.cm.rb.getD 0 + x.cm.rbOff) e).take (b0 ++ e.toArray).size = _
    rw [hrb, hes, hl.sz, take_writeAt _ _ _ hlen, hp', ← hsz, hl0.pre]
    simp
  cases hp : x.phase with
  | reqLine s => rw [hp] at h; exact ⟨key _ _ h.1, h.2.ext _⟩
  | headers s fs => rw [hp] at h; exact ⟨key _ _ h.1, h.2.1.ext _, h.2.2.ext _⟩
  | body b => rw [hp] at h; exact ⟨key _ _ h.1, h.2⟩
  | cont100 b => rw [hp] at h; exact ⟨key _ _ h.1, h.2⟩
  | footers s n => rw [hp] at h; exact ⟨key _ _ h.1, h.2.ext _⟩
  | _ => simp only [CR.reading, hp] at hr; cases hr

theorem feedFuel_induction (cfg : Cfg) (P : CR → Prop) (hidle : ∀ x, P x → P (idle cfg x))
    (hrecv : ∀ x (e : List UInt8), x.reading = true → e.length ≤ x.space → P x → P (idle cfg (recvBytes x e))) :
    ∀ (n : Nat) (x : CR) (bs : List UInt8), P x → P (feedFuel cfg n x bs) := by
  intro n
  induction n with
  | zero => intro x bs h; exact h
  | succ n ih =>
    intro x bs h
    unfold feedFuel
    split
    · exact h
    · rename_i hc
      have hr : x.reading = true := by cases hx : x.reading <;> simp_all
      split
      · exact ih _ _ (hrecv x _ hr (by rw [List.length_take]; omega) h)
      · exact ih _ _ (hidle x h)

theorem run_induction (cfg : Cfg) (P : CR → Prop) (hidle : ∀ x, P x → P (idle cfg x))
    (hrecv : ∀ x (e : List UInt8), x.reading = true → e.length ≤ x.space → P x → P (idle cfg (recvBytes x e)))
    (chunks : List (List UInt8)) : ∀ (x : CR), P x → P (run cfg x chunks) := by
  induction chunks with
  | nil => intro x h; exact h
  | cons c cs ih =>
    intro x h
    refine ih (feed cfg x c) ?_
    unfold feed
    split
    · split
      · exact hidle x h
      · exact h
    · exact feedFuel_induction cfg P hidle hrecv _ x c h

theorem init_safe (allocSize poolSize inc : Nat) (lvl : Int) (ha : allocSize % Mhd.Pool.A = 0)
    (hs : allocSize < 2 ^ 62) (hp : poolSize ≤ allocSize) : Safe inc allocSize (init allocSize poolSize inc lvl) :=
  ⟨⟨init_link allocSize poolSize inc ha hs hp, List.take_zero⟩, RLInvX.init _ _ _ (Nat.le_refl _)⟩

theorem run_safe (i N : Nat) (cfg : Cfg) (chunks : List (List UInt8)) (x : CR) (h : Safe i N x) : Safe i N (run cfg x chunks) :=
  run_induction cfg (Safe i N) (fun x h => (idle_safe i N cfg x h).1)
    (fun x e hr hk h => (idle_safe i N cfg _ (recvBytes_safe i N x e h hr hk)).1) chunks x h

theorem run_live (i N : Nat) (cfg : Cfg) (chunks : List (List UInt8)) (x : CR) (h : Safe i N x)
    (hx : x.wantsRead = true → x.cm.rbOff < x.cm.rbSize) :
    (run cfg x chunks).wantsRead = true → (run cfg x chunks).cm.rbOff < (run cfg x chunks).cm.rbSize :=
  (run_induction cfg (fun x => Safe i N x ∧ (x.wantsRead = true → x.cm.rbOff < x.cm.rbSize))
    (fun x h => idle_safe i N cfg x h.1) (fun x e hr hk h => idle_safe i N cfg _ (recvBytes_safe i N x e h.1 hr hk))
    chunks x ⟨h, hx⟩).2

theorem run_init_safe (cfg : Cfg) (allocSize poolSize inc : Nat) (lvl : Int) (ha : allocSize % Mhd.Pool.A = 0)
    (hs : allocSize < 2 ^ 62) (hp : poolSize ≤ allocSize) (chunks : List (List UInt8)) :
    Safe inc allocSize (run cfg (init allocSize poolSize inc lvl) chunks) :=
  run_safe inc allocSize cfg chunks _ (init_safe allocSize poolSize inc lvl ha hs hp)

theorem run_init_live (cfg : Cfg) (allocSize poolSize inc : Nat) (lvl : Int) (ha : allocSize % Mhd.Pool.A = 0)
    (hs : allocSize < 2 ^ 62) (hp : poolSize ≤ allocSize) (hp2 : 2 ≤ poolSize) (chunks : List (List UInt8)) :
    (run cfg (init allocSize poolSize inc lvl) chunks).wantsRead = true →
      (run cfg (init allocSize poolSize inc lvl) chunks).cm.rbOff < (run cfg (init allocSize poolSize inc lvl) chunks).cm.rbSize :=
  run_live inc allocSize cfg chunks _ (init_safe allocSize poolSize inc lvl ha hs hp) fun _ => by
    show (Mhd.ConnMem.init allocSize poolSize inc).rbOff < (Mhd.ConnMem.init allocSize poolSize inc).rbSize
    rw [init_eq allocSize poolSize inc ha hs hp]
    show 0 < poolSize / 2; omega

theorem safe_not_faulty {i N : Nat} {x : CR} (h : Safe i N x) :
    (∀ f, x.phase ≠ .fault f) ∧ (∀ n, x.phase ≠ .refused n) := by
  unfold Safe at h
  constructor
  · intro f hp; rw [hp] at h; exact h.2
  · intro n hp; rw [hp] at h; exact h.2

theorem safe_view {i N : Nat} {x : CR} (h : Safe i N x) (buf : Bytes) (r : Nat) (hv : x.phase.view? = some (buf, r)) :
    x.cm.rb = some r ∧ x.cm.rbBase = 0 ∧ buf.size = r + x.cm.rbOff ∧ x.cm.rbOff ≤ x.cm.rbSize ∧
      r + x.cm.rbSize ≤ x.cm.p.pos ∧ x.cm.p.pos ≤ x.cm.p.size :=
  have hl := h.view hv
  ⟨hl.recv.rb, hl.recv.base, hl.sz, hl.recv.off_le, hl.recv.inside.1, hl.recv.inside.2⟩

theorem step_bodyDrop_p (c : CM) (k : Nat) : (ConnMem.step c (.bodyDrop k)).1.p = c.p := by
  simp only [ConnMem.step]
  split <;> rfl

/-- one arena: the buffer a phase carries is the prefix of the arena (`cm.p.mem`) up to the end of the received
    data, and the arena keeps the size of the pool.  Received bytes are written at
    `read_buffer + read_buffer_offset`, the parsers' buffers are written back, and no pool operation changes the
    size of the arena or the length of its byte list (the dimensions are part of `Mhd.ConnMem.Inv`). -/
theorem safe_one_arena {i N : Nat} {x : CR} (h : Safe i N x) (b : Bytes) (r : Nat) (hv : x.phase.view? = some (b, r)) :
    x.cm.p.mem.length = x.cm.p.size ∧ x.cm.p.mem.take b.size = b.toList :=
  ⟨(h.view hv).mem, (h.view hv).pre⟩

theorem fieldsOf_filter (buf : Bytes) (elems : List Elem) :
    fieldsOf buf elems = fieldsOf buf (elems.filter (fun e => e.kind == Http.kindHeader)) := by
  unfold fieldsOf
  induction elems with
  | nil => rfl
  | cons e es ih =>
    by_cases hk : (e.kind == Http.kindHeader) = true
    · simp only [List.filter_cons, hk, if_true, List.filterMap_cons]
      rw [ih]
    · simp only [List.filter_cons, hk, if_false, List.filterMap_cons, Bool.false_eq_true]
      exact ih

/-- the contents of the read window as the body decoder is given them -/
def Body.window (b : Body) : List UInt8 := (b.buf.extract b.rb b.buf.size).toList

/-- the window handed to the chunk decoder is exactly the received bytes `[read_buffer, read_buffer + read_buffer_offset)` -/
theorem body_window {i N : Nat} {x : CR} (h : Safe i N x) (b : Body) (hp : x.phase = .body b) :
    b.window.length = x.cm.rbOff ∧ b.buf.size = b.rb + x.cm.rbOff ∧
    ∀ k, k < x.cm.rbOff → b.window[k]? = b.buf[b.rb + k]? := by
  unfold Safe at h
  rw [hp] at h
  have hsz := h.1.sz
  refine ⟨by simp only [Body.window, Array.length_toList, Array.size_extract]; omega, hsz, ?_⟩
  intro k hk
  simp only [Body.window, Array.getElem?_toList, Array.getElem?_extract]
  rw [if_pos (by omega)]

end Mhd.ConnRead
