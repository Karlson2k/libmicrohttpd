import Mhd.Model.ReplyBounds
import Mhd.Proofs.ReplyNum
namespace Mhd.ReplyBounds
open Mhd.Reply Mhd.ReplyStr Mhd.Resp

theorem runActs_append (bufSize : Nat) : ∀ (a b : List Act) (w : WB),
    runActs bufSize (a ++ b) w =
      if (runActs bufSize a w).2 then runActs bufSize b (runActs bufSize a w).1 else ((runActs bufSize a w).1, false) := by
  intro a
  induction a with
  | nil => intro b w; simp [runActs]
  | cons x a ih =>
    intro b w
    cases x with
    | check n =>
      simp only [List.cons_append, runActs]
      split
      · simp
      · exact ih b w
    | write bs => simp only [List.cons_append, runActs]; exact ih b _

/-- the actions never write at an index `≥ bufSize` (whether the builder completes or refuses) -/
def InB (acts : List Act) : Prop :=
  ∀ (bufSize : Nat) (w : WB), w.hw ≤ bufSize → (runActs bufSize acts w).1.hw ≤ bufSize

theorem inB_nil : InB [] := fun _ _ h => h

theorem inB_append {a b : List Act} (ha : InB a) (hb : InB b) : InB (a ++ b) := by
  intro bufSize w hw
  rw [runActs_append]
  split
  · exact hb bufSize _ (ha bufSize w hw)
  · exact ha bufSize w hw

theorem inB_flatMap {α} (f : α → List Act) (l : List α) (h : ∀ x ∈ l, InB (f x)) : InB (l.flatMap f) := by
  induction l with
  | nil => exact inB_nil
  | cons x l ih =>
    rw [List.flatMap_cons]
    exact inB_append (h x (List.mem_cons_self ..)) (ih (fun y hy => h y (List.mem_cons_of_mem _ hy)))

theorem inB_seg (s : Seg) (h : s.piece.length ≤ s.need) : InB (segActs s) := by
  intro bufSize w hw
  simp only [segActs, runActs]
  split
  · exact hw
  · simp only; omega

/-- a user header line: the first check covers `name: value CRLF`, the check in front of the token covers the
    token and the rest of the line -/
theorem inB_userField (name pre value : Bytes) : InB (userFieldActs true name pre value) := by
  intro bufSize w hw
  unfold userFieldActs
  by_cases hp : pre.isEmpty = true
  · simp only [hp, if_true, List.append_nil, List.cons_append, List.nil_append, runActs]
    split
    · exact hw
    · simp only [List.length_append, colonSp, crlf, List.length_cons, List.length_nil]; omega
  · simp only [hp, if_false, if_true, List.cons_append, List.nil_append, runActs, Bool.false_eq_true]
    split
    · exact hw
    · split
      · simp only [List.length_append, colonSp, List.length_cons, List.length_nil] at *; omega
      · simp only [List.length_append, colonSp, crlf, List.length_cons, List.length_nil] at *; omega

/-- one round of the `for` loop of `add_user_headers`, in the fine model and in C04's -/
theorem userLoop_cons (recheck insanity : Bool) (h : Hdr) (rest : List Hdr) (st : UH) :
    (∃ st', userActsLoop recheck insanity (h :: rest) st = userActsLoop recheck insanity rest st' ∧
        userFieldsLoop insanity (h :: rest) st = userFieldsLoop insanity rest st') ∨
    (∃ st' pre, userActsLoop recheck insanity (h :: rest) st =
          userFieldActs recheck h.name pre h.value ++ userActsLoop recheck insanity rest st' ∧
        userFieldsLoop insanity (h :: rest) st = ⟨h.name, pre ++ h.value⟩ :: userFieldsLoop insanity rest st') := by
  rw [userActsLoop, userFieldsLoop]
  by_cases h1 : (h.kind != .header) = true
  · rw [if_pos h1, if_pos h1]; exact .inl ⟨_, rfl, rfl⟩
  rw [if_neg h1, if_neg h1]
  by_cases h2 : (st.filterTE && nameIs h.name sTransferEncoding) = true
  · rw [if_pos h2, if_pos h2]; exact .inl ⟨_, rfl, rfl⟩
  rw [if_neg h2, if_neg h2]
  by_cases h3 : (st.filterCL && nameIs h.name sContentLength) = true
  · rw [if_pos h3, if_pos h3]; exact .inl ⟨_, rfl, rfl⟩
  rw [if_neg h3, if_neg h3]
  exact .inr ⟨_, _, rfl, rfl⟩

theorem inB_userLoop (insanity : Bool) : ∀ (hs : List Hdr) (st : UH), InB (userActsLoop true insanity hs st) := by
  intro hs
  induction hs with
  | nil => intro st; exact inB_nil
  | cons h rest ih =>
    intro st
    rcases userLoop_cons true insanity h rest st with ⟨st', e, _⟩ | ⟨st', pre, e, _⟩
    · rw [e]; exact ih _
    · rw [e]; exact inB_append (inB_userField _ _ _) (ih _)

theorem codeDigits_len (rcode : Nat) (h1 : 100 ≤ rcode) (h2 : rcode ≤ 999) : (codeDigits rcode).length = 3 := by
  obtain ⟨d1, d2, d3, hcd, _⟩ := Mhd.ReplyNum.codeDigits_spec rcode h1 h2
  unfold codeDigits; rw [hcd]; rfl

theorem inB_preSegs (c : Conn) (r : Resp) (rcode : Nat) (icy : Bool) (date : Option Bytes) (ka : KA)
    (h1 : 100 ≤ rcode) (h2 : rcode ≤ 999) (hd : ∀ d, date = some d → d.length ≤ 30) :
    InB ((preSegs c r rcode icy date ka).flatMap segActs) := by
  apply inB_flatMap
  intro s hs
  apply inB_seg
  unfold preSegs at hs
  simp only [List.mem_append, List.mem_cons, List.mem_map, List.not_mem_nil, or_false] at hs
  rcases hs with ((rfl | rfl | rfl | rfl) | hs) | ⟨f, _, rfl⟩
  · exact Nat.le_refl _
  · simp [codeDigits_len rcode h1 h2]
  · exact Nat.le_refl _
  · exact Nat.le_refl 2
  · unfold dateSegs at hs
    split at hs
    · simp only [List.mem_cons, List.not_mem_nil, or_false] at hs
      subst hs
      simp only
      unfold dateFields
      split
      · cases date with
        | none => simp
        | some d =>
          have := hd d rfl
          have hl : Mhd.Gen.Reply.hdrDate.length = 4 := by decide
          simp [fieldLine, sDate, colonSp, crlf]; omega
      · contradiction
    · simp at hs
  · exact Nat.le_refl _

theorem covered_ite {c : Prop} [Decidable c] {a b : List Seg} (ha : ∀ s ∈ a, s.piece.length ≤ s.need)
    (hb : ∀ s ∈ b, s.piece.length ≤ s.need) : ∀ s ∈ (if c then a else b), s.piece.length ≤ s.need := by
  split <;> assumption

theorem inB_postSegs (r : Resp) (props : Props) : InB ((postSegs r props).flatMap segActs) := by
  have nil : ∀ s ∈ ([] : List Seg), s.piece.length ≤ s.need := nofun
  -- along the `if`s of `bodyHdrSegs`; a string segment demands its own length
  have body : ∀ s ∈ bodyHdrSegs r props, s.piece.length ≤ s.need :=
    covered_ite (covered_ite (covered_ite (List.forall_mem_singleton.mpr (Nat.le_refl _)) nil)
      (covered_ite (covered_ite (List.forall_mem_cons.mpr ⟨Nat.le_refl _, List.forall_mem_cons.mpr
        ⟨Nat.le_refl _, List.forall_mem_singleton.mpr (Nat.le_refl 2)⟩⟩) nil) nil)) nil
  apply inB_flatMap
  intro s hs
  apply inB_seg
  rcases List.mem_append.mp hs with hs | hs
  · exact body s hs
  · rw [List.mem_singleton.mp hs]; exact Nat.le_refl 2

/-- **`header_build_in_bounds`** (builder whose token check covers the line): for every connection state, response,
    status code 100…999, Date string (29 bytes from `get_date_str`; anything up to 30 is covered by the 38 bytes
    demanded), keep-alive decision and buffer size — every byte the builder stores lies below `bufSize`, also on
    the runs that end in a refusal. -/
theorem headActs_inB (c : Conn) (r : Resp) (rcode : Nat) (icy : Bool) (date : Option Bytes) (ka : KA) (props : Props)
    (h1 : 100 ≤ rcode) (h2 : rcode ≤ 999) (hd : ∀ d, date = some d → d.length ≤ 30) :
    InB (headActs true c r rcode icy date ka props) :=
  inB_append (inB_append (inB_preSegs c r rcode icy date ka h1 h2 hd) (inB_userLoop _ _ _)) (inB_postSegs r props)

/-- the result without the high-water mark -/
def runB (bufSize : Nat) : List Act → Bytes → Option Bytes
  | [], buf => some buf
  | .check n :: rest, buf => if bufSize < buf.length + n then none else runB bufSize rest buf
  | .write bs :: rest, buf => runB bufSize rest (buf ++ bs)

theorem runActs_runB (bufSize : Nat) : ∀ (acts : List Act) (w : WB),
    (if (runActs bufSize acts w).2 then some (runActs bufSize acts w).1.buf else none) = runB bufSize acts w.buf := by
  intro acts
  induction acts with
  | nil => intro w; rfl
  | cons a rest ih =>
    intro w
    cases a with
    | check n =>
      simp only [runActs, runB]
      split
      · rfl
      · exact ih w
    | write bs => simp only [runActs, runB]; exact ih _

theorem runB_append (bufSize : Nat) : ∀ (a b : List Act) (buf : Bytes),
    runB bufSize (a ++ b) buf = (runB bufSize a buf).bind (runB bufSize b) := by
  intro a
  induction a with
  | nil => intro b buf; rfl
  | cons x a ih =>
    intro b buf
    cases x with
    | check n =>
      simp only [List.cons_append, runB]
      split
      · rfl
      · exact ih b buf
    | write bs => simp only [List.cons_append, runB]; exact ih b _

theorem runSegs_append (bufSize : Nat) : ∀ (a b : List Seg) (buf : Bytes),
    runSegs bufSize (a ++ b) buf = (runSegs bufSize a buf).bind (runSegs bufSize b) := by
  intro a
  induction a with
  | nil => intro b buf; rfl
  | cons x a ih =>
    intro b buf
    simp only [List.cons_append, runSegs]
    cases h : appendChk bufSize buf x with
    | none => rfl
    | some b1 => exact ih b b1

theorem runB_segs (bufSize : Nat) : ∀ (segs : List Seg) (buf : Bytes),
    runB bufSize (segs.flatMap segActs) buf = runSegs bufSize segs buf := by
  intro segs
  induction segs with
  | nil => intro buf; rfl
  | cons s rest ih =>
    intro buf
    simp only [List.flatMap_cons, segActs, List.cons_append, List.nil_append, runB, runSegs, appendChk]
    split
    · rfl
    · exact ih _

theorem runB_userField (bufSize : Nat) (name pre value : Bytes) (tail : List Act) (buf : Bytes) :
    runB bufSize (userFieldActs true name pre value ++ tail) buf =
      (appendChk bufSize buf (fieldSeg ⟨name, pre ++ value⟩)).bind (runB bufSize tail) := by
  unfold userFieldActs appendChk fieldSeg segStr fieldLine
  by_cases hp : pre.isEmpty = true
  · have : pre = [] := List.isEmpty_iff.mp hp
    subst this
    simp only [List.isEmpty_nil, if_true, List.append_nil, List.cons_append, List.nil_append, runB,
      List.length_append, colonSp, crlf, List.length_cons, List.length_nil, List.append_assoc]
    split
    · rename_i h; rw [if_pos (by omega)]; rfl
    · rename_i h; rw [if_neg (by omega)]; rfl
  · simp only [hp, if_false, if_true, List.cons_append, List.nil_append, runB, Bool.false_eq_true,
      List.length_append, colonSp, crlf, List.length_cons, List.length_nil, List.append_assoc]
    split
    · rename_i h; rw [if_pos (by omega)]; rfl
    · split
      · rename_i h1 h2; rw [if_pos (by omega)]; rfl
      · rename_i h1 h2; rw [if_neg (by omega)]; simp [Option.bind]

theorem runB_userLoop (bufSize : Nat) (insanity : Bool) (tail : List Act) : ∀ (hs : List Hdr) (st : UH) (buf : Bytes),
    runB bufSize (userActsLoop true insanity hs st ++ tail) buf =
      (runSegs bufSize ((userFieldsLoop insanity hs st).map fieldSeg) buf).bind (runB bufSize tail) := by
  intro hs
  induction hs with
  | nil => intro st buf; rfl
  | cons h rest ih =>
    intro st buf
    rcases userLoop_cons true insanity h rest st with ⟨st', e1, e2⟩ | ⟨st', pre, e1, e2⟩
    · rw [e1, e2]; exact ih _ _
    · rw [e1, e2, List.append_assoc, runB_userField, List.map_cons, runSegs]
      cases appendChk bufSize buf (fieldSeg ⟨h.name, pre ++ h.value⟩) with
      | none => rfl
      | some b1 => exact ih _ _

/-! Footers of a chunked reply (`build_connection_chunked_response_footer`): C04's model checks the whole line before it writes. -/

theorem footerLoop_in_bounds (bufSize : Nat) : ∀ (hs : List Hdr) (buf b : Bytes), buf.length ≤ bufSize →
    buildFooterLoop bufSize hs buf = some b → b.length ≤ bufSize := by
  intro hs
  induction hs with
  | nil => intro buf b hb h; simp [buildFooterLoop] at h; subst h; exact hb
  | cons h rest ih =>
    intro buf b hb hr
    unfold buildFooterLoop at hr
    split at hr
    · split at hr
      · simp at hr
      · apply ih _ b _ hr
        simp only [List.length_append, colonSp, crlf, List.length_cons, List.length_nil] at *; omega
    · exact ih _ b hb hr

end Mhd.ReplyBounds
