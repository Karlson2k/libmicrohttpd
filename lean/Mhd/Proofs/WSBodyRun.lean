/-
  From `HeaderCompleted` to the end of a frame, for any kind of frame: the payload buffers
  as lists, and the run over the frame body given what `decode_header_complete`, the payload
  case and `decode_payload_complete` do (`body_run`).
-/
import Mhd.Proofs.WSHeaderRun
import Mhd.Proofs.Lists
namespace Mhd.WS

/-- what the application gets for a payload: `NULL` for an empty one, else the NUL-terminated copy
    (also the shape of `data_payload` while a message is assembled) -/
def plOf (payload : List UInt8) : Option (List UInt8) := if payload = [] then none else some (payload ++ [0])

theorem plOf_ne {d : List UInt8} (h : d ≠ []) : plOf d = some (d ++ [0]) := if_neg h

theorem replicate_snoc (n : Nat) : List.replicate n (0 : UInt8) ++ [0] = List.replicate (n + 1) 0 := by
  rw [List.replicate_succ']

/-- the buffer after `decode_header_complete` made room for `n` more bytes behind `acc`
    (`malloc` / `realloc` of `|acc| + n + 1` bytes; nothing is allocated for no bytes) -/
def grownBuf (acc : List UInt8) (n : Nat) : Option (List UInt8) :=
  if acc.length + n = 0 then none else some (acc ++ List.replicate (n + 1) 0)

theorem grownBuf_zero (acc : List UInt8) : grownBuf acc 0 = plOf acc := by
  unfold grownBuf plOf
  by_cases h : acc = []
  · subst h; rfl
  · rw [if_neg h, Nat.add_zero, if_neg (fun hh => h (List.length_eq_zero_iff.mp hh))]; rfl

theorem grownBuf_pos (acc : List UInt8) {n : Nat} (h : n ≠ 0) :
    grownBuf acc n = some (acc ++ List.replicate (n + 1) 0) :=
  if_neg (by omega)

theorem alloc_fresh (w : WS) (n : Nat) (hal : n + 1 ≤ w.allocLimit) :
    alloc w (n + 1) = some (List.replicate (n + 1) 0) := if_pos hal

theorem realloc_grown (w : WS) (acc : List UInt8) (n : Nat) (hal : acc.length + n + 1 ≤ w.allocLimit) :
    realloc w (plOf acc) (acc.length + n + 1) = some (acc ++ List.replicate (n + 1) 0) := by
  unfold realloc plOf
  rw [if_pos hal]
  by_cases ha : acc = []
  · subst ha; simp
  · rw [if_neg ha]
    simp only [Option.getD_some, List.length_append, List.length_cons, List.length_nil]
    rw [List.take_of_length_le (by simp), List.append_assoc]
    have : acc.length + n + 1 - (acc.length + (0 + 1)) = n := by omega
    rw [this]
    rfl

theorem termAt_grown (acc : List UInt8) (n : Nat) :
    termAt (acc ++ List.replicate (n + 1) (0 : UInt8)) (acc.length + n) = some (acc ++ List.replicate (n + 1) 0) := by
  unfold termAt
  rw [if_pos (by simp), List.set_eq_self]
  rw [List.getElem?_append_right (Nat.le_add_right ..)]
  simp

/-- `decode_header_complete` in its closed forms (`headerComplete_of_cont/_of_data/_of_ctrl`) when
    the allocator hands out room for `n` more bytes behind `acc`: the continuation gets `grownBuf` -/
theorem withBuf_grown {a : Option (List UInt8)} {acc : List UInt8} {n N : Nat} (hN : N = acc.length + n)
    (ha : N ≠ 0 → a = some (acc ++ List.replicate (n + 1) 0)) (oom : R) (k : Option (List UInt8) → R) {kn : R}
    (hkn : N = 0 → kn = k none) :
    withBuf a N oom (fun nb' => k (some nb')) kn = k (grownBuf acc n) := by
  unfold withBuf grownBuf
  by_cases h0 : N = 0
  · rw [if_neg (fun h => h h0), if_pos (hN ▸ h0), hkn h0]
  · rw [if_pos h0, if_neg (hN ▸ h0), ha h0, hN]
    simp only [termAt_grown]

theorem writeAt_acc (acc p : List UInt8) :
    writeAt (acc ++ List.replicate (p.length + 1) (0 : UInt8)) acc.length p = some (acc ++ p ++ [0]) := by
  unfold writeAt
  rw [if_pos (by simp)]
  congr 1
  rw [List.take_left, List.drop_length_add_append]
  congr 1
  rw [List.drop_replicate]
  simp

theorem headerComplete_inv {w S : WS} (hi : Inv w) (hv : w.validity ≠ 0) (hs : w.step = 16)
    (hhc : headerComplete false w = .cont S 0) : Inv S := by
  have hok := iter_ok hi hv [0] (Nat.le_refl 1)
  rw [iter_hc _ _ _ hs, hcTrip, hhc] at hok
  exact hok.1

/-- what a frame completion (the result of `decode_payload_complete`) means to the application
    and the state it leaves: nothing is handed out when it gives OK back to the loop, one frame
    when it returns a positive status -/
inductive Completes : R → List Ev → WS → Prop
  | quiet (w : WS) (k : Nat) : Completes (.cont w k) [] w
  | frame (w : WS) (st : Int) (k : Nat) (pl : Option (List UInt8)) (plen : Nat) :
      0 < st → Completes (.ret w st k pl plen) [(st, pl, plen)] w

theorem Completes.of_cont {r : R} {w : WS} {k : Nat} (h : r = .cont w k) : Completes r [] w := h ▸ .quiet w k

theorem Completes.of_ret {r : R} {w : WS} {st : Int} {k : Nat} {pl : Option (List UInt8)} {plen : Nat}
    (h : r = .ret w st k pl plen) (hpos : 0 < st) : Completes r [(st, pl, plen)] w := h ▸ .frame w st k pl plen hpos

/-- **the body of a frame.**  `decode_header_complete` takes the decoder from `w` to the payload
    state `S`; the payload case takes all of `body` in one trip and leaves `W` (`= S` when there
    is no payload), where the payload is complete.  Then the run over `body` from `w` is what
    `decode_payload_complete` makes of `W`: with bytes it is called at the end of the payload trip,
    without it is called after the loop. -/
theorem body_run {w S W : WS} {body : List UInt8} (hs16 : w.step = 16)
    (hhc : headerComplete false w = .cont S 0) (hS : S.step = 17 ∨ S.step = 18)
    (hfull : W.payloadSize = W.payloadIndex) (hnil : body = [] → W = S)
    (hsp : body ≠ [] → stepPayload false S body = payloadFinish false body.length W)
    {E : List Ev} {ws' : WS} (hc : Completes (payloadComplete false W) E ws') (hst : ws'.step = 0) :
    Run w body E (.more ws') := by
  have q16 : sil w ≠ 0 := by unfold sil; rw [if_pos hs16]; decide
  have h16 : trip w body = .cont S 0 := by
    rw [trip_silent q16]; unfold silent hcTrip; rw [if_pos hs16, hhc]
  have gS : body ≠ [] ∨ sil S ≠ 0 := by
    by_cases hb : body = []
    · refine .inr ?_
      unfold sil; rw [if_neg (by omega), if_pos ⟨hS, hnil hb ▸ hfull⟩]; decide
    · exact .inl hb
  have h17 : trip S body = match payloadComplete false W with
      | .cont w' _ => .cont w' body.length
      | .ret w' st _ pl plen => .ret w' st body.length pl plen
      | .fault s => .fault s := by
    have : trip S body = payloadFinish false body.length W := by
      by_cases hb : body = []
      · rw [hb, hnil hb]; show silent S = _; unfold silent; rw [if_neg (by omega)]; rfl
      · rw [trip_ne hb, iter_payload _ _ hb hS, hsp hb]
    rw [this]
    unfold payloadFinish
    rw [if_pos hfull]
    cases payloadComplete false W <;> rfl
  have hdone : Run ws' (body.drop body.length) [] (.more ws') := by
    rw [List.drop_length]; exact .idle hst
  refine .cont _ _ S 0 _ _ (.inr q16) h16 ?_
  generalize payloadComplete false W = r' at hc h17
  cases hc with
  | quiet _ k => exact .cont _ _ _ _ _ _ gS h17 hdone
  | frame _ st k pl plen hpos =>
    have := Run.emit _ _ _ st _ pl plen [] _ gS h17 (by omega) hdone
    rwa [evOf_ne (by omega), List.append_nil] at this

theorem frame_run {ws w S W : WS} {b0 : UInt8} {p : List UInt8} {masked : Bool} {k : Key}
    (hreads : Reads ws (b0 :: hdrTail masked p.length k) w) (hs16 : w.step = 16)
    (hhc : headerComplete false w = .cont S 0) (hS : S.step = 17 ∨ S.step = 18)
    (hfull : W.payloadSize = W.payloadIndex) (hnil : p = [] → W = S)
    (hsp : copyPayload p (keyOf masked k) 0 ≠ [] →
      stepPayload false S (copyPayload p (keyOf masked k) 0) =
        payloadFinish false (copyPayload p (keyOf masked k) 0).length W)
    {E : List Ev} {ws' : WS} (hc : Completes (payloadComplete false W) E ws') (hst : ws'.step = 0) :
    Run ws (wireOf masked b0 p k) E (.more ws') := by
  rw [wireOf_eq]
  refine hreads.run (body_run hs16 hhc hS hfull (fun h => hnil ?_) hsp hc hst)
  exact List.length_eq_zero_iff.mp (by rw [← copyPayload_length p (keyOf masked k) 0, h]; rfl)

end Mhd.WS
