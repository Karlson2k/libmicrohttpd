/-
  The header-section scanner (`Mhd.Model.ReqField`: `get_req_header`, `get_req_headers` incl. the
  shift-back block).  One iteration of `get_req_header` is followed once (`hsStep_walk`, with
  `Scanner.Walk`): what an advancing and a finishing iteration do is recorded as `Adv` / `Stop`, and
  everything else that is said about one step (`hsStep_ok` and `hsLaws` here, monotonicity and
  `Inv2` in `ReqStable`, the buffer positions in `ConnRead`) is a case analysis over these.
  The shift-back block is fault-free *because* the tail element it uses is a field line
  (`lastEnd_le`); for a tail of any kind (finding F1) that lemma is false.
-/
import Mhd.Model.ReqField
import Mhd.Proofs.ReqLine
namespace Mhd.Req
namespace HSP
open Mhd.Gen
open Scanner (Walk)

def ext (e : Bytes) : Step HS HDone → Step HS HDone
  | .advance s => .advance (hsExtend s e)
  | .done r => .done (hsExtendR r e)
  | .needMore => .needMore
  | .fault f => .fault f

@[simp] theorem ext_advance (e : Bytes) (s : HS) : ext e (.advance s) = .advance (hsExtend s e) := rfl
@[simp] theorem ext_done (e : Bytes) (r : HDone) : ext e (.done r) = .done (hsExtendR r e) := rfl

/-- representation invariant of the header-section parser: positions inside the received data; every
    field-line element, and the version string, ends with its terminating NUL before `read_buffer` -/
structure Inv (s : HS) : Prop where
  hp : s.rb + s.p ≤ s.buf.size
  hrb : 1 ≤ s.rb
  hws : s.wsStart ≤ s.p
  hname : s.nameLen ≤ s.p
  hvs : s.valueStart ≤ s.p
  hver : s.version + Discipline.httpVerLen + 1 ≤ s.rb
  helems : ∀ el ∈ s.elems, el.kind = Http.kindHeader → ∀ v, el.value = some v → v.off + v.len + 1 ≤ s.rb

theorem Inv.ext {s : HS} (h : Inv s) (e : Bytes) : Inv (hsExtend s e) := by
  refine ⟨?_, h.hrb, h.hws, h.hname, h.hvs, h.hver, h.helems⟩
  show s.rb + s.p ≤ (s.buf ++ e).size
  rw [Array.size_append]; have := h.hp; omega

structure StepOK (s : HS) (r : Step HS HDone) : Prop where
  nofault : ∀ f, r ≠ .fault f
  adv : ∀ s', r = .advance s' → Inv s' ∧ s'.buf.size = s.buf.size ∧ s.rb + s.p < s'.rb + s'.p

theorem StepOK.needMore (s : HS) : StepOK s .needMore :=
  ⟨fun _ h => (by cases h), fun _ h => (by cases h)⟩
/-- the two strings of an element -/
def Elem.slices (el : Elem) : List Slice := el.key :: el.value.toList

/-- second layer of the invariant: where the strings handed out so far end -/
structure Inv2 (s : HS) : Prop where
  hn0 : s.nameEndFound = false → s.nameLen = 0
  hv0 : s.nameEndFound = false → s.startsWithWs = false → s.valueStart = 0
  hvs2 : s.valueStart ≠ 0 → s.nameLen ≤ s.valueStart
  hLver : s.version + Discipline.httpVerLen ≤ lastElemEnd s
  hmax : ∀ el ∈ s.elems, ∀ sl ∈ Elem.slices el, sl.region = 0 → sl.off + sl.len ≤ lastElemEnd s

/-- the conjuncts of `Inv2` that speak of the current line -/
structure LineOK (s : HS) : Prop where
  hn0 : s.nameEndFound = false → s.nameLen = 0
  hv0 : s.nameEndFound = false → s.startsWithWs = false → s.valueStart = 0
  hvs2 : s.valueStart ≠ 0 → s.nameLen ≤ s.valueStart

/-- a step that stays on the line: one byte further, writes only at or above `read_buffer`, the
    element list as it was -/
structure SameLine (s s1 : HS) : Prop where
  room : s.rb + s.p < s.buf.size
  buf : WritesIn s.rb s.buf.size s.buf s1.buf
  rb : s1.rb = s.rb
  p : s1.p = s.p + 1
  ws : s1.wsStart ≤ s.p + 1
  name : s1.nameLen ≤ s.p + 1
  vs : s1.valueStart ≤ s.p + 1
  ver : s1.version = s.version
  elems : s1.elems = s.elems
  line : Inv2 s → LineOK s1

/-- what a finished line of `lineLen` bytes adds to the element list: nothing, or one field line
    whose value `[vstart, vstart + vlen)` (relative to `read_buffer`) lies with its NUL inside the line -/
def Grown (s : HS) (lineLen : Nat) (els : List Elem) : Prop :=
  els = s.elems ∨ ∃ vstart vlen, vstart + vlen < lineLen ∧ (Inv2 s → s.nameLen ≤ vstart) ∧
    els = s.elems ++ [⟨Http.kindHeader, ⟨0, s.rb, s.nameLen⟩, some ⟨0, s.rb + vstart, vlen⟩⟩]

/-- a step that finishes a line of `lineLen` bytes -/
structure NextLine (s s1 : HS) (lineLen : Nat) : Prop where
  len : s.p < lineLen
  room : s.rb + lineLen ≤ s.buf.size
  buf : WritesIn s.rb s.buf.size s.buf s1.buf
  rb : s1.rb = s.rb + lineLen
  p : s1.p = 0
  ws : s1.wsStart = 0
  name : s1.nameLen = 0
  vs : s1.valueStart = 0
  ver : s1.version = s.version
  elems : Grown s lineLen s1.elems

/-- what the end-of-section block does: the finished header set `hd` is the state `s` with the
    window moved back by `hd.shifted` bytes, not below the end of the last string handed out -/
structure Moved (s : HS) (hd : Headers) : Prop where
  keep : lastElemEnd s + 1 + hd.shifted ≤ s.rb
  rb : hd.rb + hd.shifted = s.rb
  size : hd.buf.size + hd.shifted = s.buf.size
  low : ∀ i, i < hd.rb → hd.buf[i]? = s.buf[i]?
  high : ∀ j, hd.buf[hd.rb + j]? = s.buf[s.rb + j]?
  elems : hd.elems = s.elems
  hsize : hd.headerSize = s.rb - s.method

/-- what an advancing iteration of `get_req_header` does: it stays on the line or finishes it -/
inductive Adv (s s1 : HS) : Prop
  | same (h : SameLine s s1)
  | next {n : Nat} (h : NextLine s s1 n)

/-- what a finishing iteration owes unless it refuses the line: an empty line of `n` bytes, then the
    end-of-section block -/
def Stop (s : HS) (d : HDone) : Prop :=
  ∀ hd, d = .ok hd → ∃ n, 1 ≤ n ∧ s.rb + n ≤ s.buf.size ∧ Moved (s.consume n) hd

abbrev HWalk (F : FLFlags) (fs : Nat) (e : Bytes) (s : HS) := Walk (hsScanner F fs) e (Adv s) (Stop s)

section
variable {F : FLFlags} {fs : Nat} {s : HS} {e : Bytes}

theorem _root_.Mhd.Req.Scanner.Walk.herr (k : HErrKind) : HWalk F fs e s (HS.err k) (HS.err k) :=
  Walk.done (sc := hsScanner F fs) (d := .err k) nofun

/-- `onFieldWsp` on the state `s` in which bytes of the current line have been overwritten (`b`) -/
theorem onFieldWsp_walk (F : FLFlags) (h : Inv s) (hb : s.rb + s.p < s.buf.size) (b : Bytes) (n : Nat)
    (hw : WritesIn s.rb s.buf.size s.buf b) :
    HWalk F fs e s (onFieldWsp F { s with buf := b, crSp := n }) (onFieldWsp F { s with buf := b ++ e, crSp := n }) := by
  have hws := Nat.le_succ_of_le h.hws; have hn := Nat.le_succ_of_le h.hname; have hv := Nat.le_succ_of_le h.hvs
  have hw' : (if (s.wsStart == 0) = true then s.p else s.wsStart) ≤ s.p + 1 := by split <;> omega
  have keep : ∀ ws, ws ≤ s.p + 1 →
      Adv s { ({ s with buf := b, crSp := n } : HS) with wsStart := ws, p := s.p + 1 } := fun ws hws' =>
    .same ⟨hb, hw, rfl, rfl, hws', hn, hv, rfl, rfl, fun h2 => ⟨h2.hn0, h2.hv0, h2.hvs2⟩⟩
  unfold onFieldWsp
  exact .ite
    (fun _ => .ite (fun _ => .herr _) fun _ => .advance (.same
      ⟨hb, hw, rfl, rfl, hws, hn, hv, rfl, rfl, fun h2 => ⟨h2.hn0, fun _ c => (nomatch c), h2.hvs2⟩⟩))
    fun _ => .ite (fun _ => .ite (fun _ => .advance (keep _ hw')) fun _ => .herr _) fun _ => .advance (keep _ hw')

/-- the end of the name: it is terminated in place, at the colon or at the whitespace before it -/
theorem nameEnd_walk (F : FLFlags) (h : Inv s) (hb : s.rb + s.p < s.buf.size) (n w : Nat)
    (hn : n ≤ s.p) (hw : w ≤ s.p) (hc : (!s.nameEndFound && !s.startsWithWs) = true) :
    HWalk F fs e s
      (if (n == 0 && !F.allowEmptyName) = true then HS.err .emptyName
       else wr s.buf (s.rb + n) 0 72 .fault fun buf =>
         .advance { s with nameLen := n, wsStart := w, buf := buf, nameEndFound := true, p := s.p + 1 })
      (if (n == 0 && !F.allowEmptyName) = true then HS.err .emptyName
       else wr (s.buf ++ e) (s.rb + n) 0 72 .fault fun buf =>
         .advance { s with nameLen := n, wsStart := w, buf := buf, nameEndFound := true, p := s.p + 1 }) := by
  simp only [Bool.and_eq_true, Bool.not_eq_true'] at hc
  exact .ite (fun _ => .herr _) fun _ => .wr (by omega) (.advance (.same
    ⟨hb, (WritesIn.refl ..).set _ _ (Nat.le_add_right ..) (by omega), rfl, rfl, Nat.le_succ_of_le hw,
     Nat.le_succ_of_le hn, Nat.le_succ_of_le h.hvs, rfl, rfl,
     fun h2 => ⟨fun c => (nomatch c), fun c => (nomatch c), fun hv => absurd (h2.hv0 hc.1 hc.2) hv⟩⟩))

theorem onFieldChar_walk (F : FLFlags) (chr : UInt8) (h : Inv s) (hb : s.rb + s.p < s.buf.size) :
    HWalk F fs e s (onFieldChar F s chr) (onFieldChar F (hsExtend s e) chr) := by
  have hws := Nat.le_succ_of_le h.hws; have hn := Nat.le_succ_of_le h.hname; have hv := Nat.le_succ_of_le h.hvs
  have hvv : (if (s.valueStart == 0) = true then s.p else s.valueStart) ≤ s.p + 1 := by split <;> omega
  -- the name goes on
  have name : ∀ ws, ws ≤ s.p + 1 → Adv s { s with wsStart := ws, p := s.p + 1 } := fun ws hws' =>
    .same ⟨hb, WritesIn.refl .., rfl, rfl, hws', hn, hv, rfl, rfl, fun h2 => ⟨h2.hn0, h2.hv0, h2.hvs2⟩⟩
  unfold onFieldChar
  refine .ite (fun hc => .ite (fun _ => ?_) fun _ => .ite
      (fun _ => .ite (fun _ => .herr _) fun _ => .advance (name 0 (Nat.zero_le _))) fun _ => .advance (name _ hws))
    fun hc => .advance (.same ⟨hb, WritesIn.refl .., rfl, rfl, Nat.zero_le _, hn, hvv, rfl, rfl, fun h2 => ⟨h2.hn0, ?_, ?_⟩⟩)
  · -- ':'
    show HWalk F fs e s
      (match (if (s.wsStart == 0) = true then some { s with nameLen := s.p }
              else if (!F.allowWspBeforeColon) = true then none else some { s with nameLen := s.wsStart, wsStart := 0 }) with
        | none => _ | some s1 => _)
      (match (if (s.wsStart == 0) = true then some { hsExtend s e with nameLen := s.p }
              else if (!F.allowWspBeforeColon) = true then none
              else some { hsExtend s e with nameLen := s.wsStart, wsStart := 0 }) with
        | none => _ | some s1 => _)
    by_cases hw0 : (s.wsStart == 0) = true
    · rw [if_pos hw0, if_pos hw0]
      exact nameEnd_walk F h hb s.p s.wsStart (Nat.le_refl _) h.hws hc
    · rw [if_neg hw0, if_neg hw0]
      by_cases hbc : (!F.allowWspBeforeColon) = true
      · rw [if_pos hbc, if_pos hbc]; exact .herr _
      · rw [if_neg hbc, if_neg hbc]
        exact nameEnd_walk F h hb s.wsStart 0 h.hws (Nat.zero_le _) hc
  · -- inside the value
    intro h1 h3
    exact absurd (by simp only [Bool.and_eq_true, Bool.not_eq_true']; exact ⟨h1, h3⟩) hc
  · intro _
    show s.nameLen ≤ (if (s.valueStart == 0) = true then s.p else s.valueStart)
    split
    · exact h.hname
    next hz => exact h2.hvs2 (by simpa using hz)

theorem old_elems {s : HS} (h : Inv s) (lineLen : Nat) :
    ∀ el ∈ s.elems, el.kind = Http.kindHeader → ∀ v, el.value = some v → v.off + v.len + 1 ≤ s.rb + lineLen :=
  fun el hm hk v hv => Nat.le_trans (h.helems el hm hk v hv) (Nat.le_add_right _ _)

theorem new_elems {s : HS} (h : Inv s) (lineLen : Nat) (k : Nat) (key : Slice) (off len : Nat)
    (hb : off + len + 1 ≤ s.rb + lineLen) :
    ∀ el ∈ s.elems ++ [⟨k, key, some ⟨0, off, len⟩⟩], el.kind = Http.kindHeader →
      ∀ v, el.value = some v → v.off + v.len + 1 ≤ s.rb + lineLen := by
  intro el hm hk v hv
  rcases List.mem_append.mp hm with hm | hm
  · exact old_elems h lineLen el hm hk v hv
  · rw [List.mem_singleton.mp hm] at hv
    cases hv
    exact hb

theorem onLineEnd_walk (F : FLFlags) (lineLen : Nat) (h : Inv s) (hpl : s.p < lineLen)
    (hl : s.rb + lineLen ≤ s.buf.size) : HWalk F fs e s (onLineEnd F s lineLen) (onLineEnd F (hsExtend s e) lineLen) := by
  have hws := h.hws; have hvs := h.hvs
  have skip : ∀ n, Adv s ({ s with skippedBroken := n }.consume lineLen).resetLine := fun n =>
    .next ⟨hpl, hl, WritesIn.refl .., rfl, rfl, rfl, rfl, rfl, rfl, .inl rfl⟩
  -- a field line: the value is terminated at `z` and the element appended
  have field : ∀ (site z vstart vlen : Nat), z ≤ s.p → vstart + vlen ≤ s.p → (Inv2 s → s.nameLen ≤ vstart) →
      HWalk F fs e s
        (wr s.buf (s.rb + z) 0 site .fault fun buf => .advance ({ ({ s with buf := buf }.consume lineLen).resetLine with
          elems := s.elems ++ [⟨Http.kindHeader, ⟨0, s.rb, s.nameLen⟩, some ⟨0, s.rb + vstart, vlen⟩⟩] }))
        (wr (s.buf ++ e) (s.rb + z) 0 site .fault fun buf => .advance ({ ({ s with buf := buf }.consume lineLen).resetLine with
          elems := s.elems ++ [⟨Http.kindHeader, ⟨0, s.rb, s.nameLen⟩, some ⟨0, s.rb + vstart, vlen⟩⟩] })) :=
    fun site z vstart vlen hz hv hn => .wr (by omega) (.advance (.next
      ⟨hpl, hl, (WritesIn.refl ..).set _ _ (Nat.le_add_right ..) (by omega), rfl, rfl, rfl, rfl, rfl, rfl,
       .inr ⟨vstart, vlen, by omega, hn, rfl⟩⟩))
  unfold onLineEnd
  exact .ite (fun _ => .advance (skip _)) fun _ => .ite
      (fun _ => .ite (fun _ => .herr _) fun _ => .advance (skip _))
      fun _ => .ite (fun _ => field _ s.p s.p 0 (Nat.le_refl _) (Nat.le_refl _) fun _ => h.hname)
        fun hvz => .ite (fun _ => field _ s.wsStart s.valueStart (s.wsStart - s.valueStart) hws (by omega)
            fun h2 => h2.hvs2 (by simpa using hvz))
          fun _ => field _ s.p s.valueStart (s.p - s.valueStart) (Nat.le_refl _) (by omega)
            fun h2 => h2.hvs2 (by simpa using hvz)

theorem extract_stop_ge (buf : Bytes) (a b : Nat) (h : buf.size ≤ b) : buf.extract a b = buf.extract a buf.size := by
  apply Array.ext_getElem?
  intro i
  simp only [Array.getElem?_extract]
  have : min b buf.size = buf.size := by omega
  rw [this, Nat.min_self]

theorem shift_ext (buf e : Bytes) (k rb : Nat) (hk : k ≤ rb) (hr : rb ≤ buf.size) :
    (buf ++ e).extract 0 k ++ (buf ++ e).extract rb (buf ++ e).size
      = (buf.extract 0 k ++ buf.extract rb buf.size) ++ e := by
  rw [Array.extract_append, Array.extract_append, Array.size_append]
  have h1 : k - buf.size = 0 := by omega
  have h2 : rb - buf.size = 0 := by omega
  have h3 : buf.size + e.size - buf.size = e.size := by omega
  rw [h1, h2, h3, Nat.zero_sub, extract_stop_ge buf rb _ (by omega)]
  simp [Array.append_assoc]

/-- reading behind the shifted window: the unconsumed bytes follow at the new `read_buffer` -/
theorem shift_get (buf : Bytes) (k rb j : Nat) (hk : k ≤ buf.size) :
    (buf.extract 0 k ++ buf.extract rb buf.size)[k + j]? = buf[rb + j]? := by
  rw [Array.getElem?_append_right (by simp only [Array.size_extract]; omega)]
  simp only [Array.size_extract, Array.getElem?_extract]
  rw [show min k buf.size - 0 = k by omega, Nat.add_sub_cancel_left, Nat.min_self]
  split
  · rfl
  · rw [Array.getElem?_eq_none (by omega)]

theorem lastEnd_le (s : HS)
    (hver : s.version + Discipline.httpVerLen + 1 ≤ s.rb)
    (helems : ∀ el ∈ s.elems, el.kind = Http.kindHeader → ∀ v, el.value = some v → v.off + v.len + 1 ≤ s.rb) :
    lastElemEnd s + 1 ≤ s.rb := by
  unfold lastElemEnd
  split
  next el hl =>
    have hm := List.mem_of_getLast? hl
    split
    next hk =>
      simp only [beq_iff_eq] at hk
      split
      next v hv => exact helems el hm hk v hv
      next => exact hver
    next => exact hver
  next => exact hver

theorem lastElemEnd_consume (s : HS) (n : Nat) : lastElemEnd (s.consume n) = lastElemEnd s := rfl

theorem finishHeaders_eq (s : HS) (fs : Nat) (b2 : UInt8) (h2 : 2 ≤ s.rb) (hb : s.buf[s.rb - 2]? = some b2)
    (hle : lastElemEnd s + 1 ≤ s.rb) :
    finishHeaders s fs =
      if Discipline.bufIncSize > s.rbSize then
        .done (.ok { buf := s.buf.extract 0 (s.rb - (s.rb - (lastElemEnd s + 1))) ++ s.buf.extract s.rb s.buf.size,
                     rb := s.rb - (s.rb - (lastElemEnd s + 1)), rbSize := s.rbSize + (s.rb - (lastElemEnd s + 1)),
                     elems := s.elems, headerSize := s.rb - s.method,
                     fieldLinesSize := if b2 == cCR then s.rb - fs - 1 - 1 else s.rb - fs - 1,
                     shifted := s.rb - (lastElemEnd s + 1), crSp := s.crSp, skippedBroken := s.skippedBroken })
      else
        .done (.ok { buf := s.buf, rb := s.rb, rbSize := s.rbSize, elems := s.elems, headerSize := s.rb - s.method,
                     fieldLinesSize := if b2 == cCR then s.rb - fs - 1 - 1 else s.rb - fs - 1,
                     shifted := 0, crSp := s.crSp, skippedBroken := s.skippedBroken }) := by
  unfold finishHeaders
  rw [if_neg (by omega), hb]
  dsimp only
  split
  · have : ¬ (lastElemEnd s + 1 > s.rb) := by omega
    rw [if_neg this]
  · rfl


theorem finishHeaders_moved (s : HS) (fs : Nat) (e : Bytes) (h2 : 2 ≤ s.rb) (hsz : s.rb ≤ s.buf.size)
    (hle : lastElemEnd s + 1 ≤ s.rb) :
    ∃ hd, finishHeaders s fs = .done (.ok hd) ∧ Moved s hd ∧
      finishHeaders (hsExtend s e) fs = .done (hsExtendR (.ok hd) e) := by
  have hi : s.rb - 2 < s.buf.size := by omega
  have hb := Array.getElem?_eq_getElem hi
  have eL : lastElemEnd (hsExtend s e) = lastElemEnd s := rfl
  have e1 : (hsExtend s e).rbSize = s.rbSize := rfl
  have e2 : (hsExtend s e).rb = s.rb := rfl
  rw [finishHeaders_eq s fs _ h2 hb hle, finishHeaders_eq (hsExtend s e) fs _ h2 ((Array.getElem?_append_left hi).trans hb) hle,
    e1, eL, e2]
  -- `k` bytes are given back, `m` is the new `read_buffer`
  generalize hk : s.rb - (lastElemEnd s + 1) = k
  have hk' : lastElemEnd s + 1 + k = s.rb := by omega
  generalize hm : s.rb - k = m
  have hm' : m + k = s.rb := by omega
  have hms : m ≤ s.buf.size := by omega
  by_cases hs : Discipline.bufIncSize > s.rbSize
  · rw [if_pos hs, if_pos hs]
    refine ⟨_, rfl, ⟨Nat.le_of_eq hk', hm', ?_, fun i hlt => ?_, fun j => shift_get s.buf m s.rb j hms, rfl, rfl⟩, ?_⟩
    · show (s.buf.extract 0 m ++ s.buf.extract s.rb s.buf.size).size + k = _
      rw [Array.size_append, Array.size_extract, Array.size_extract]; omega
    · show (s.buf.extract 0 m ++ s.buf.extract s.rb s.buf.size)[i]? = _
      have hlt' : i < m := hlt
      rw [Array.getElem?_append_left (by rw [Array.size_extract]; omega), Array.getElem?_extract,
        if_pos (by omega), Nat.zero_add]
    · show Step.done (HDone.ok { buf := (s.buf ++ e).extract 0 m ++ (s.buf ++ e).extract s.rb (s.buf ++ e).size, .. }) = _
      rw [shift_ext s.buf e m s.rb (by omega) hsz]
      rfl
  · rw [if_neg hs, if_neg hs]
    exact ⟨_, rfl, ⟨Nat.le_trans (Nat.le_of_eq (Nat.add_zero _)) hle, rfl, rfl, fun _ _ => rfl, fun _ => rfl, rfl, rfl⟩, rfl⟩

theorem handleFieldEol_walk (F : FLFlags) (chr : UInt8) (h : Inv s)
    (hle : s.rb + (s.p + (if chr == cCR then 2 else 1)) ≤ s.buf.size)
    (hlt : s.p ≠ 0 → s.rb + (s.p + (if chr == cCR then 2 else 1)) < s.buf.size) :
    HWalk F fs e s (handleFieldEol F s chr fs) (handleFieldEol F (hsExtend s e) chr fs) := by
  unfold handleFieldEol
  dsimp only [hsExtend]
  generalize hL : s.p + (if (chr == cCR) = true then 2 else 1) = lineLen at hle hlt
  have hpl : s.p < lineLen := by rw [← hL]; split <;> omega
  have hrb := h.hrb
  refine .ite (fun _ => ?_) fun hp0 => ?_
  · -- the empty line
    obtain ⟨hd, e1, m, e2⟩ := finishHeaders_moved (s.consume lineLen) fs e (by show 2 ≤ s.rb + lineLen; omega) hle
      (by have := lastEnd_le s h.hver h.helems; show lastElemEnd s + 1 ≤ s.rb + lineLen; omega)
    rw [e1]
    exact ⟨nofun, nofun, fun _ hd' _ hh => by cases hd'; cases hh; exact ⟨lineLen, Nat.zero_lt_of_lt hpl, hle, m⟩, fun _ => e2⟩
  have hl := hlt (by simpa using hp0)
  rw [Array.getElem?_append_left hl, Array.getElem?_eq_getElem hl]
  have hi : s.rb + s.p < s.buf.size := by omega
  -- a folded line: the line end is overwritten with spaces and taken as whitespace
  have fold : ∀ (buf : Bytes), WritesIn s.rb s.buf.size s.buf buf →
      HWalk F fs e s (onFieldWsp F { s with buf := buf }) (onFieldWsp F { s with buf := buf ++ e }) :=
    fun buf hw => onFieldWsp_walk F h hi buf s.crSp hw
  have w1 : WritesIn s.rb s.buf.size s.buf (s.buf.setIfInBounds (s.rb + s.p) cSP) :=
    (WritesIn.refl ..).set _ _ (Nat.le_add_right ..) hi
  exact .ite (fun _ => .ite (fun _ => .herr _) fun _ => .wr hi (.ite
      (fun hcr => .wr (by rw [Array.size_setIfInBounds, ← hL, if_pos hcr] at *; omega)
        (fold _ (w1.set _ _ (Nat.le_add_right_of_le (Nat.le_add_right ..)) (by rw [← hL, if_pos hcr] at hl; omega))))
      fun _ => fold _ w1))
    fun _ => onLineEnd_walk F lineLen h hpl (Nat.le_of_lt hl)

end

theorem hsStep_walk (F : FLFlags) (fs : Nat) (s : HS) (e : Bytes) (h : Inv s) :
    HWalk F fs e s (hsStep F fs s) (hsStep F fs (hsExtend s e)) := by
  unfold hsStep
  rw [show (hsExtend s e).p = s.p from rfl, show (hsExtend s e).rb = s.rb from rfl,
    show (hsExtend s e).buf = s.buf ++ e from rfl, show (hsExtend s e).crSp = s.crSp from rfl]
  refine .rdMore fun chr hc => ?_
  have hb := get_some_lt hc
  -- the byte replaced by a space and taken as whitespace
  have sp : ∀ (site n : Nat), HWalk F fs e s
      (wr s.buf (s.rb + s.p) cSP site .fault fun buf => onFieldWsp F { s with buf := buf, crSp := n })
      (wr (s.buf ++ e) (s.rb + s.p) cSP site .fault fun buf => onFieldWsp F { hsExtend s e with buf := buf, crSp := n }) :=
    fun site n => .wr hb (onFieldWsp_walk F h hb _ n ((WritesIn.refl ..).set _ _ (Nat.le_add_right ..) hb))
  have hsz := h.hp
  refine .ite (fun hcr => ?_) fun hcr => .ite
    (fun _ => .ite (fun _ => ?_) fun _ => .herr _)
    fun _ => .ite (fun _ => onFieldWsp_walk F h hb s.buf s.crSp (WritesIn.refl ..))
      fun _ => .ite (fun _ => .ite (fun _ => .herr _) fun _ => sp _ s.crSp) fun _ => onFieldChar_walk F chr h hb
  · -- CR
    refine .iteMore (fun hnm => ?_) fun hnm => ?_
    · simp only [HS.fill, hsExtend, Array.size_append, Bool.or_eq_true, Bool.and_eq_true, bne_iff_ne, ne_eq,
        decide_eq_true_eq, beq_iff_eq, not_or, not_and, Bool.not_eq_true, Nat.not_le, Nat.not_lt] at hnm ⊢
      exact ⟨fun hp => by have := of_decide_eq_false (hnm.1 hp); omega, fun hp => by have := of_decide_eq_false (hnm.2 hp); omega⟩
    · simp only [HS.fill, Bool.or_eq_true, Bool.and_eq_true, bne_iff_ne, ne_eq, beq_iff_eq, not_or, not_and,
        Bool.not_eq_true] at hnm
      have hle : s.rb + (s.p + (if (chr == cCR) = true then 2 else 1)) ≤ s.buf.size := by
        rw [if_pos hcr]; by_cases hp : s.p = 0
        · have := of_decide_eq_false (hnm.2 hp); omega
        · have := of_decide_eq_false (hnm.1 hp); omega
      have hi : s.rb + s.p + 1 < s.buf.size := by rw [if_pos hcr] at hle; omega
      exact .rdIn hi fun nxt _ => .ite
        (fun _ => handleFieldEol_walk F chr h hle
          (fun hp => by rw [if_pos hcr]; have := of_decide_eq_false (hnm.1 hp); omega))
        fun _ => .ite (fun _ => sp _ _) fun _ => .ite (fun _ => .herr _) fun _ => onFieldChar_walk F chr h hb
  · -- bare LF
    refine .iteMore (fun hnm => ?_) fun hnm => ?_
    · simp only [HS.fill, hsExtend, Array.size_append, Bool.and_eq_true, bne_iff_ne, ne_eq, decide_eq_true_eq, not_and,
        Bool.not_eq_true, Nat.not_le] at hnm ⊢
      exact fun hp => by have := of_decide_eq_false (hnm hp); omega
    · simp only [HS.fill, Bool.and_eq_true, bne_iff_ne, ne_eq, not_and, Bool.not_eq_true] at hnm
      exact handleFieldEol_walk F chr h (by rw [if_neg hcr]; omega)
        (fun hp => by rw [if_neg hcr]; have := of_decide_eq_false (hnm hp); omega)

theorem SameLine.inv {s s1 : HS} (k : SameLine s s1) (h : Inv s) : Inv s1 :=
  ⟨by rw [k.rb, k.p, k.buf.size]; exact k.room, k.rb ▸ h.hrb, k.p ▸ k.ws, k.p ▸ k.name, k.p ▸ k.vs,
   by rw [k.ver, k.rb]; exact h.hver, by rw [k.elems, k.rb]; exact h.helems⟩

theorem NextLine.inv {s s1 : HS} {n : Nat} (k : NextLine s s1 n) (h : Inv s) : Inv s1 := by
  refine ⟨by rw [k.rb, k.p, k.buf.size]; exact k.room, by rw [k.rb]; exact Nat.le_add_right_of_le h.hrb,
    by rw [k.ws]; exact Nat.zero_le _, by rw [k.name]; exact Nat.zero_le _, by rw [k.vs]; exact Nat.zero_le _,
    by rw [k.ver, k.rb]; exact Nat.le_add_right_of_le h.hver, ?_⟩
  rw [k.rb]
  rcases k.elems with hE | ⟨vstart, vlen, hin, _, hE⟩ <;> rw [hE]
  · exact old_elems h n
  · exact new_elems h n _ _ _ _ (by omega)

theorem Adv.ok {s s1 : HS} (a : Adv s s1) (h : Inv s) : Inv s1 ∧ s1.buf.size = s.buf.size ∧ s.rb + s.p < s1.rb + s1.p := by
  cases a with
  | same k => exact ⟨k.inv h, k.buf.size, by rw [k.rb, k.p]; exact Nat.lt_succ_self _⟩
  | next k => exact ⟨k.inv h, k.buf.size, by rw [k.rb, k.p]; have := k.len; omega⟩

theorem hsStep_ok (F : FLFlags) (fs : Nat) (s : HS) (h : Inv s) : StepOK s (hsStep F fs s) :=
  ⟨(hsStep_walk F fs s #[] h).nofault, fun s' hs => ((hsStep_walk F fs s #[] h).adv s' hs).ok h⟩

theorem hsLaws (F : FLFlags) (fs : Nat) : Scanner.Laws (hsScanner F fs) Inv :=
  .of_walk (fun s => s.buf.size) (fun s => s.rb + s.p) (fun _ => rfl) (fun _ h => h.hp)
    (fun s e h => (hsStep_walk F fs s e h).mono (fun _ a => a.ok h) fun _ _ => trivial)
    (fun _ e h => h.ext e) (fun s => by show { s with buf := s.buf ++ #[] } = s; simp)
    (fun s a b => by show ({ s with buf := s.buf ++ a ++ b } : HS) = { s with buf := s.buf ++ (a ++ b) }; rw [Array.append_assoc])
    fun r a b => by
      cases r with
      | err x => rfl
      | ok l => show HDone.ok { l with buf := l.buf ++ a ++ b } = HDone.ok { l with buf := l.buf ++ (a ++ b) }; rw [Array.append_assoc]

end HSP
end Mhd.Req
