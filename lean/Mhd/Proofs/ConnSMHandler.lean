/-
  C05 — the access-handler call sites, and with them process_request_body, preserve the refinement relation.
-/
import Mhd.Proofs.ConnSM
namespace Mhd.ConnSM
open Mhd.Gen.ConnState Mhd.Protocol

theorem Inv.aware {σ} {c : Conn σ} (s : CState) (hst : c.state = s) (hs : 2 ≤ s.toNat ∧ s.toNat ≤ 12)
    (ha : c.clientAware = true) (hsw : c.stopWithError = false) (hic : c.inCleanup = false)
    (hr : c.response.isSome = true → 11 ≤ s.toNat) : Inv c := by
  unfold Inv
  rw [hst, ha, hsw, hic]
  exact ⟨fun x => ⟨hr x, by omega⟩, nofun, nofun, fun x => by rw [x] at hs; exact absurd hs.2 (by decide), nofun, nofun,
    fun _ _ => rfl, fun x => by omega, nofun, nofun⟩

theorem queueResponse_post {σ} (env : IdleEnv) {c : Conn σ} {p : PSt} (r : Resp) (h : Live c p)
    (ha : c.clientAware = true) : Post p ((queueResponse env c r).1, (queueResponse env c r).2.1) := by
  rcases queueResponse_cases env c r with e | ⟨hr, ⟨hst, e⟩ | ⟨hst, e⟩⟩ <;> rw [e]
  · exact h
  · have hle : c.state.toNat ≤ 5 := by rw [hst]; decide
    exact h.queued hr (by omega) (.aware .startReply rfl (by decide) ha (h.swe_false (by omega))
      (h.notCleanup (by omega)) (fun _ => by decide)) .startReply rfl (by decide) rfl
  · have hle : c.state.toNat ≤ 11 := by rw [hst]; decide
    exact h.queued hr (by omega) (.aware .fullReqReceived hst (by decide) ha (h.swe_false (by omega))
      (h.notCleanup (by omega)) (fun _ => by decide)) .fullReqReceived hst (by decide) rfl

/-- the request the automaton has open when the handler has been called from `site` and left context `ctx` -/
def called (site : Site) (ctx : Option Nat) (off : Nat) (ret : Bool) : ReqSt :=
  { handlerSeen := true, site := site, ctx := ctx, nextOff := off, replied := false, failed := !ret }

theorem handlerStep_ok (r : ReqSt) (site : Site) (off len taken : Nat) (ci co : Option Nat) (ret : Bool)
    (h1 : r.replied = false) (h2 : r.failed = false) (h3 : ci = r.ctx) (h4 : r.handlerSeen = false → site = .first)
    (h5 : r.site.rank ≤ site.rank) (h6 : site = .upload → len ≠ 0 ∧ off = r.nextOff ∧ taken ≤ len)
    (h7 : site ≠ .upload → len = 0 ∧ taken = 0) :
    handlerStep r site off len taken ci co ret = .req (called site co (r.nextOff + taken) ret) := by
  unfold handlerStep
  rw [if_neg (by rw [h1, h2]; decide), if_neg (by rw [h3]; exact fun x => x rfl),
    if_neg (fun x => x.2 (h4 (by simpa using x.1))), if_neg (by omega),
    if_neg (fun x => by have := h6 x.1; omega), if_neg (fun x => by have := h7 x.1; omega)]
  rfl

/-- After a call that failed only `Open` holds of the result, which is what `closeError_post` needs; the relation
    holds again only if the handler succeeded. -/
theorem callApp_post {σ} (cfg : Cfg) (app : App σ) (env : IdleEnv) {c : Conn σ} {p : PSt} (site : Site) (offered : Nat)
    (h : Live c p) (hst : 2 ≤ c.state.toNat ∧ c.state.toNat ≤ 12) (hr : c.response = none)
    (hsite : site.rank = stateSite c.state) (hoff : (site = .upload → offered ≠ 0) ∧ (site ≠ .upload → offered = 0))
    {c1 : Conn σ} {l : List LEv} {ret : Bool} {taken : Nat}
    (heq : callApp cfg app env c site offered = (c1, l, ret, taken)) :
    Open c1 (Protocol.run p l) ∧
    (ret = true → Live c1 (Protocol.run p l) ∧ ∃ q, Protocol.run p l = .req q ∧ q.handlerSeen = true) := by
  obtain ⟨-, -, -, -, b5, -, b7, -⟩ := h.inv
  have hswe := h.swe_false hst.2
  have hic := h.notCleanup (by omega)
  have h23 : decide (c.state.toNat = 23) = false := decide_eq_false (by omega)
  have hrou : respOrUpg c = false := by unfold respOrUpg; rw [hr, h23]; rfl
  generalize hd : (app.handle c.app { site := site, offered := offered, ctxIn := c.ctx }).2 = d
  have htk : min d.take offered ≤ offered := Nat.min_le_right _ _
  have hstep : ∀ ret, Protocol.step p (.handler site c.upOff offered (min d.take offered) c.ctx d.ctxOut ret) =
      .req (called site d.ctxOut (c.upOff + min d.take offered) ret) := by
    intro ret
    have h7 : site ≠ .upload → offered = 0 ∧ min d.take offered = 0 := fun x => ⟨hoff.2 x, Nat.le_zero.mp (hoff.2 x ▸ htk)⟩
    cases p
    case idle =>
      have hlow : c.state.toNat ≤ 5 := by
        apply Nat.le_of_not_lt; intro x
        exact absurd ((b7 x hst.2).symm.trans h.1.2.2.1) (by decide)
      obtain ⟨hctx, hup⟩ := b5 h.1.2.2.1 hlow
      have hfirst : site = .first :=
        Site.first_of_rank (by rw [hsite]; unfold stateSite; rw [if_pos (by omega)])
      rw [hup, Nat.zero_add]
      exact (handlerStep_ok _ site 0 offered _ c.ctx d.ctxOut ret rfl rfl hctx (fun _ => hfirst)
        (by rw [hfirst]; exact Nat.le_refl _) (fun x => by rw [hfirst] at x; cases x) h7).trans (by rw [Nat.zero_add])
    case req q =>
      obtain ⟨-, -, -, -, d1, d2, d3, d4, d5, d6, -⟩ := h.1
      refine (handlerStep_ok q site c.upOff offered _ c.ctx d.ctxOut ret (d3.trans hrou) d4 d1.symm (fun x => ?_)
        (hsite ▸ d5) (fun x => ⟨hoff.1 x, d2.symm, htk⟩) h7).trans (by rw [d2])
      have hlow : c.state.toNat ≤ 5 := (d6 x).resolve_right (by rw [d3, hrou]; decide)
      exact Site.first_of_rank (by rw [hsite]; unfold stateSite; rw [if_pos (by omega)])
    all_goals exact h.open.elim
  have ho : ∀ ret, Open (afterHandler app c site offered)
      (.req (called site d.ctxOut (c.upOff + min d.take offered) ret)) :=
    fun _ => ⟨h.2.1, h.2.2, rfl, by rw [← hd]; rfl⟩
  have hl : Live (afterHandler app c site offered)
      (.req (called site d.ctxOut (c.upOff + min d.take offered) true)) := by
    refine ⟨⟨h.2.1, h.2.2, rfl, ?_, by rw [← hd]; rfl, by rw [← hd]; rfl, ?_, rfl, Nat.le_of_eq hsite, nofun, ?_⟩, h.2⟩
    · exact .aware c.state rfl hst rfl hswe hic (fun x => by rw [show (afterHandler app c site offered).response = none from hr] at x; cases x)
    · exact hrou.symm
    · exact h23.symm
  rw [callApp_eq] at heq
  dsimp only at heq
  rw [hd] at heq
  cases hact : d.act <;> simp only [hact] at heq
  case cont =>
    cases heq
    show Open _ (Protocol.step p _) ∧ (_ → Live _ (Protocol.step p _) ∧ ∃ q, Protocol.step p _ = _ ∧ _)
    rw [hstep]
    exact ⟨ho true, fun _ => ⟨hl, _, rfl, rfl⟩⟩
  case fail =>
    cases heq
    show Open _ (Protocol.step p _) ∧ _
    rw [hstep]
    exact ⟨ho false, nofun⟩
  case suspend =>
    cases heq
    show Open _ (Protocol.step p _) ∧ (_ → Live _ (Protocol.step p _) ∧ ∃ q, Protocol.step p _ = _ ∧ _)
    rw [hstep]
    unfold suspendConn
    split
    · exact ⟨(ho true).congr, fun _ => ⟨hl.congr, _, rfl, rfl⟩⟩
    · exact ⟨(ho true).congr, fun _ => ⟨hl.congr, _, rfl, rfl⟩⟩
  case reply r rr =>
    cases heq
    show Open _ (Protocol.run (Protocol.step p _) _) ∧
      (_ → Live _ (Protocol.run (Protocol.step p _) _) ∧ ∃ q, Protocol.run (Protocol.step p _) _ = _ ∧ _)
    rw [hstep]
    have hq := queueResponse_post env r hl rfl
    rcases queueResponse_cases env (afterHandler app c site offered) r with e | ⟨-, ⟨-, e⟩ | ⟨-, e⟩⟩ <;> rw [e] at hq ⊢
    · refine ⟨ho rr, fun hrr => ?_⟩
      cases (show rr = true from hrr)
      exact ⟨hl, _, rfl, rfl⟩
    · exact ⟨hq.open, fun _ => ⟨hq, _, rfl, rfl⟩⟩
    · exact ⟨hq.open, fun _ => ⟨hq, _, rfl, rfl⟩⟩

theorem callConnectionHandler_post {σ} (cfg : Cfg) (app : App σ) (env : IdleEnv) {c : Conn σ} {p : PSt} (site : Site)
    (h : Live c p)
    (hsite : (site = .first ∧ c.state = .headersProcessed) ∨ (site = .final ∧ c.state = .fullReqReceived)) :
    Post p (callConnectionHandler cfg app env c site) ∧
    (c.response = none → (callConnectionHandler cfg app env c site).1.state = c.state →
      ∃ q, Protocol.run p (callConnectionHandler cfg app env c site).2 = .req q ∧ q.handlerSeen = true) := by
  unfold callConnectionHandler
  cases hr : c.response
  case some r => exact ⟨h, nofun⟩
  case none =>
    rw [if_neg (by decide)]
    rcases hca : callApp cfg app env c site 0 with ⟨c1, l, ret, tk⟩
    have hcl : c.state ≠ .closed := by rcases hsite with ⟨-, e⟩ | ⟨-, e⟩ <;> rw [e] <;> decide
    obtain ⟨ho, hl⟩ := callApp_post cfg app env site 0 h
      (by rcases hsite with ⟨-, e⟩ | ⟨-, e⟩ <;> rw [e] <;> decide) hr
      (by rcases hsite with ⟨rfl, e⟩ | ⟨rfl, e⟩ <;> rw [e] <;> rfl)
      ⟨fun x => by rcases hsite with ⟨e, -⟩ | ⟨e, -⟩ <;> (rw [e] at x; cases x), fun _ => rfl⟩ hca
    cases ret
    · exact ⟨Post.append (closeError_post ho), fun _ x => absurd ((closeError_state c1).symm.trans x).symm hcl⟩
    · exact ⟨(hl rfl).1, fun _ _ => (hl rfl).2⟩

theorem BodyRun.post {σ} {cfg : Cfg} {app : App σ} {env : IdleEnv} {c : Conn σ} {o : Out σ} (r : BodyRun cfg app env c o)
    (hok : EnvOk cfg env) {p : PSt} (h : Live c p)
    (hst : c.state = .bodyReceiving) : Post p o := by
  induction r generalizing p with
  | @upload c k c1 l taken o hoff _ hca ha _ _ ih =>
    obtain ⟨-, hl⟩ := callApp_post cfg app env .upload (bodyOffer c k) h (by rw [hst]; decide)
      (h.resp_none (by rw [hst]; decide)) (by rw [hst]; rfl) ⟨fun _ => hoff, fun x => absurd rfl x⟩ hca
    refine Post.append (ih ?_ (ha.body hst).1)
    unfold afterUpload
    split <;> exact (hl rfl).1.congr
  | chunkEnd _ _ ih | chunkHdr _ _ _ ih => exact ih h.congr hst
  | stop | last => exact h.congr
  | @err c b => exact transmitError_post cfg env h.congr hok (by show c.state.toNat ≤ 10; rw [hst]; decide)
  | @fail c k c1 l taken hoff hca =>
    obtain ⟨ho, -⟩ := callApp_post cfg app env .upload (bodyOffer c k) h (by rw [hst]; decide)
      (h.resp_none (by rw [hst]; decide)) (by rw [hst]; rfl) ⟨fun _ => hoff, fun x => absurd rfl x⟩ hca
    exact Post.append (closeError_post ho)

end Mhd.ConnSM
