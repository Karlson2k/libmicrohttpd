/-
  C07 — progress: transient faults never close the connection, every productive round strictly
  decreases a measure, hence transient-only fault scripts deliver the complete reply within a
  bounded number of productive rounds.
-/
import Mhd.Proofs.SendFaults
namespace Mhd.Send
open Mhd.Gen.Send

theorem sysSend_pos (req : Bytes) (s : SockRes) (ht : s.isTransient = true) (hne : req ≠ []) (n : Nat)
    (h : (sysSend req s).ret = .ok n) : 1 ≤ n := sysSend_legal_pos req s (transient_legal ht) hne n h

/-- reply descriptions for which transient-only fault scripts can always make progress -/
structure WFp (r : Resp) : Prop where
  wf : WF r
  buf_pos : 1 ≤ r.bufSize
  wb_ok : r.chunked = true → minChunkBuf ≤ r.wbSize
  chunk_kind : r.chunked = true → r.kind ≠ .iovec
  sf_known : r.sendfile = true → r.sizeKnown = true

/-- no hard error, no application error, no allocation failure in this round -/
def Round.transient (x : Round) : Prop :=
  x.s1.isTransient = true ∧ x.s2.isTransient = true ∧ x.appW ≠ .err ∧ x.appI ≠ .err ∧
  x.allocW = true ∧ x.allocI = true

/-- a productive round: the socket is write-ready and takes data, the content reader is ready -/
def Round.good (x : Round) : Prop :=
  x.wr = true ∧ x.s1.isData = true ∧ x.s2.isData = true ∧ x.appW = .ready ∧ x.appI = .ready ∧
  x.allocW = true ∧ x.allocI = true

theorem Round.good.transient {x : Round} (h : x.good) : x.transient :=
  ⟨data_transient h.2.1, data_transient h.2.2.1, by rw [h.2.2.2.1]; decide, by rw [h.2.2.2.2.1]; decide,
   h.2.2.2.2.2.1, h.2.2.2.2.2.2⟩

theorem Round.transient.legal {x : Round} (h : x.transient) : x.Legal := transient_legal h.2.1

/-- rank of NORMAL_BODY_READY: 2 = only the final check is left, 5 = sendfile may still fall
    back, 4 = the content reader has to be asked first, 0 = data is at hand -/
def rankR (r : Resp) (c : Conn) : Nat :=
  if c.tot = 0 ∨ c.rp = c.tot then 2
  else if r.kind = .iovec ∨ r.kind = .buffer then 0
  else if c.sf = true then 5
  else if c.ds ≤ c.rp ∧ c.rp < c.dz + c.ds then 0
  else 4

/-- how many byte-less steps the state may still need before the next byte has to flow -/
def rank (r : Resp) (c : Conn) : Nat :=
  match c.st with
  | .headersSent => 7
  | .normalBodyUnready => if c.sf = true then 6 else 3
  | .normalBodyReady => rankR r c
  | .chunkedBodyUnready => 2
  | .chunkedBodySent => 1
  | .fullReplySent => 1
  | _ => 0

theorem rankR_ask {r : Resp} {c : Conn} (h : Ask r c) : rankR r c = 4 := by
  unfold rankR
  rw [if_neg h.left, if_neg h.kind, if_neg h.sf, if_neg h.win]

theorem Keep.not_ask {r : Resp} {c : Conn} (h : Keep r c) : ¬ Ask r c := fun a => by
  rcases h with h0 | hi | ⟨_, hb | hwin | hsf⟩
  · exact a.left h0
  · exact a.kind (Or.inl hi.1)
  · exact a.kind (Or.inr hb)
  · exact a.win hwin
  · exact a.sf hsf

theorem ite_le {p : Prop} [Decidable p] {a b n : Nat} (ha : a ≤ n) (hb : b ≤ n) : (if p then a else b) ≤ n := by
  split <;> assumption

theorem rankR_le (r : Resp) (c : Conn) : rankR r c ≤ 5 :=
  ite_le (by decide) (ite_le (by decide) (ite_le (by decide) (ite_le (by decide) (by decide))))

theorem rankR_nosf {r : Resp} {c : Conn} (h : ¬ c.sf = true) (ha : ¬ Ask r c) : rankR r c ≤ 2 := by
  unfold rankR
  by_cases h0 : c.tot = 0 ∨ c.rp = c.tot
  · rw [if_pos h0]; exact Nat.le_refl _
  rw [if_neg h0]
  by_cases hk : r.kind = .iovec ∨ r.kind = .buffer
  · rw [if_pos hk]; exact Nat.zero_le _
  rw [if_neg hk, if_neg h]
  by_cases hwin : c.ds ≤ c.rp ∧ c.rp < c.dz + c.ds
  · rw [if_pos hwin]; exact Nat.zero_le _
  · exact absurd ⟨h0, hk, h, hwin⟩ ha

theorem rank_le (r : Resp) (c : Conn) : rank r c ≤ 7 := by
  unfold rank
  split
  case h_2 => split <;> decide
  case h_3 => exact Nat.le_trans (rankR_le r c) (by decide)
  all_goals decide

theorem rank_le_six {r : Resp} {c : Conn} (h : c.st ≠ .headersSent) : rank r c ≤ 6 := by
  unfold rank
  split
  · exact absurd ‹_› h
  · exact ite_le (by decide) (by decide)
  · exact Nat.le_trans (rankR_le r c) (by decide)
  all_goals decide

/-- progress measure: a byte still to deliver weighs 8, more than any rank (`rank_le`) -/
def mu (r : Resp) (c : Conn) : Nat := 8 * ((stream r).length - c.out.length) + rank r c

theorem mu_bytes {r : Resp} {c c' : Conn} (h' : Inv r c') (hb : c.out.length + 1 ≤ c'.out.length) :
    mu r c' < mu r c := by
  have hl := h'.pfx.length_le
  have := rank_le r c'
  unfold mu
  omega

/-- what a step did, as far as the measure is concerned -/
structure Eff (r : Resp) (c c' : Conn) : Prop where
  open_ : c'.st ≠ .closed
  mono : c.out.length + 1 ≤ c'.out.length ∨ (c'.out = c.out ∧ rank r c' ≤ rank r c)

def Strict (r : Resp) (c c' : Conn) : Prop :=
  c.out.length + 1 ≤ c'.out.length ∨ (c'.out = c.out ∧ rank r c' < rank r c)

theorem Eff.refl (r : Resp) (c : Conn) (h : c.st ≠ .closed) : Eff r c c := ⟨h, Or.inr ⟨rfl, Nat.le_refl _⟩⟩

/-- a byte more on the wire, or `k` units of rank less.  `Eff.mono` is `Drop r 0` and `Strict` is `Drop r 1`
    by unfolding (`+ 0`, `<` on `Nat`); no lemma says so, the facts below pass from one to the other with
    `j`, `k` given. -/
def Drop (r : Resp) (k : Nat) (c c' : Conn) : Prop :=
  c.out.length + 1 ≤ c'.out.length ∨ (c'.out = c.out ∧ rank r c' + k ≤ rank r c)

theorem Drop.trans {r : Resp} {a b c : Conn} {j k : Nat} (h1 : Drop r j a b) (h2 : Drop r k b c) : Drop r (j + k) a c := by
  rcases h1 with hb1 | ⟨ho1, hr1⟩ <;> rcases h2 with hb2 | ⟨ho2, hr2⟩
  · left; omega
  · left; rw [ho2]; exact hb1
  · left; rw [ho1] at hb2; exact hb2
  · right; exact ⟨by rw [ho2, ho1], by omega⟩

theorem Drop.measure {r : Resp} {c c' : Conn} {k : Nat} (hk : k ≤ 1) (h' : Inv r c') (e : Drop r k c c') :
    mu r c' + k ≤ mu r c := by
  rcases e with hb | ⟨ho, hr⟩
  · have := mu_bytes h' hb; omega
  · unfold mu; rw [ho]; omega

theorem Eff.mu_le {r : Resp} {c c' : Conn} (h' : Inv r c') (e : Eff r c c') : mu r c' ≤ mu r c :=
  Drop.measure (k := 0) (by decide) h' e.mono

theorem Strict.mu_lt {r : Resp} {c c' : Conn} (h' : Inv r c') (e : Strict r c c') : mu r c' < mu r c :=
  Drop.measure (k := 1) (by decide) h' e

theorem Eff.trans {r : Resp} {a b c : Conn} (h1 : Eff r a b) (h2 : Eff r b c) : Eff r a c :=
  ⟨h2.open_, Drop.trans (j := 0) (k := 0) h1.mono h2.mono⟩

theorem Strict.trans_left {r : Resp} {a b c : Conn} (h1 : Strict r a b) (h2 : Eff r b c) : Strict r a c :=
  Drop.trans (j := 1) (k := 0) h1 h2.mono

theorem Strict.trans_right {r : Resp} {a b c : Conn} (h1 : Eff r a b) (h2 : Strict r b c) : Strict r a c :=
  Drop.trans (j := 0) (k := 1) h1.mono h2

theorem eff_of_rank {r : Resp} {c c' : Conn} (ho : c'.out = c.out) (hs : c'.st ≠ .closed) (hr : rank r c' < rank r c) :
    Eff r c c' ∧ Strict r c c' :=
  ⟨⟨hs, Or.inr ⟨ho, Nat.le_of_lt hr⟩⟩, Or.inr ⟨ho, hr⟩⟩

theorem rank_R {r : Resp} {c : Conn} (h : c.st = .normalBodyReady) : rank r c = rankR r c := by
  unfold rank; rw [h]

/-- `c` may differ from the connection `c0` before the call in the sender's own trackers, as long
    as its rank is not higher. -/
theorem account_eff {r : Resp} {c0 c : Conn} {o : SendOut} {k : Nat → Conn} {req : Bytes} {s : SockRes}
    (hne : c.st ≠ .closed) (hout : c.out = c0.out) (hrank : rank r c ≤ rank r c0)
    (hspec : SendSpec o req) (ht : Trans o req s) (hreq : req ≠ [])
    (hk : ∀ n, (k n).st ≠ .closed ∧ (k n).out = c.out ++ o.wire) :
    Eff r c0 (account c o k) ∧ (s.isData = true → c0.out.length + 1 ≤ (account c o k).out.length) := by
  refine account_cases (P := fun c' => Eff r c0 c' ∧ (s.isData = true → c0.out.length + 1 ≤ c'.out.length))
    (fun hr => ?_) (fun e he hr => absurd (ht.onlyAgain e hr) he) (fun n hr => ?_)
  · rw [hspec.again hr, List.append_nil]
    exact ⟨⟨hne, Or.inr ⟨hout, hrank⟩⟩, fun hd => by obtain ⟨n, hn⟩ := ht.data hd; rw [hr] at hn; cases hn⟩
  · have hgrow : c0.out.length + 1 ≤ (k n).out.length := by
      have := ht.pos hreq n hr
      rw [(hk n).2, List.length_append, hspec.wire_length hr, hout]; omega
    exact ⟨⟨(hk n).1, Or.inl hgrow⟩, fun _ => hgrow⟩

theorem wb_part_ne {r : Resp} {c : Conn} (h : Inv r c) (hs : isWbState c.st) : slice c.wb c.so (c.ao - c.so) ≠ [] :=
  List.ne_nil_of_length_pos (by rw [(wbPending_some h hs).2]; have := (h.wbuf hs).1; omega)

theorem wbAccount_eff {r : Resp} {c : Conn} (h : Inv r c) (hs : isWbState c.st) (s : SockRes) (next : St)
    (ht : s.isTransient = true) (hnext : next ≠ .closed) :
    Eff r c (wbAccount c (sendData false (slice c.wb c.so (c.ao - c.so)) s) next) ∧
    (s.isData = true →
      c.out.length + 1 ≤ (wbAccount c (sendData false (slice c.wb c.so (c.ao - c.so)) s) next).out.length) := by
  rw [wbAccount_eq]
  refine account_eff hs.ne_closed rfl (Nat.le_refl _) (sendData_spec _ s) (sendData_trans _ s ht) (wb_part_ne h hs)
    (fun n => ⟨?_, checkWriteDone_out _ _⟩)
  rcases checkWriteDone_st { c with out := c.out ++ _, so := c.so + n } next with e | e <;> rw [e]
  · exact hs.ne_closed
  · exact hnext

theorem hwHeaders_eff {r : Resp} {c : Conn} (h : Inv r c) (hs : c.st = .headersSending) (s1 s2 : SockRes)
    (h1 : s1.isTransient = true) (h2 : s2.isTransient = true) :
    Eff r c (hwHeaders r c s1 s2) ∧
    (s1.isData = true → c.out.length + 1 ≤ (hwHeaders r c s1 s2).out.length) := by
  have hwb : isWbState c.st := Or.inl hs
  have hpne := wb_part_ne h hwb
  rw [hwHeaders_eq (wbPending_some h hwb).1]
  refine account_eff hwb.ne_closed rfl (Nat.le_refl _)
    (sendHdrAndBody_spec _ _ _ _ s1 s2 (transient_legal h2)) (sendHdrAndBody_trans _ _ _ _ s1 s2 h1 h2 hpne)
    (fun x => hpne (List.append_eq_nil_iff.mp x).1) (fun ret => ?_)
  rw [checkWriteDone_out]
  constructor
  · have : ∀ c2 : Conn, c2.st = c.st → (checkWriteDone c2 .headersSent).st ≠ .closed := fun c2 h2s => by
      rcases checkWriteDone_st c2 .headersSent with e | e <;> rw [e]
      · rw [h2s]; exact hwb.ne_closed
      · exact nofun
    split <;> exact this _ rfl
  · split <;> rfl

theorem finish_eff (c : Conn) (h : c.st = .normalBodyReady) : (finish c).st ≠ .closed ∧ (finish c).out = c.out := by
  unfold finish
  split
  · exact ⟨nofun, rfl⟩
  · exact ⟨by rw [h]; exact nofun, rfl⟩

/-- a data answer puts a byte on the wire — or (sendfile offset overflow) falls back to the
    standard sender, which lowers the rank. -/
theorem bodySend_eff {r : Resp} {c : Conn} (hw : WFp r) (h : Inv r c) (hs : c.st = .normalBodyReady)
    (hlt : c.rp < c.tot) (hready : BodyReady r c) (s : SockRes) (ht : s.isTransient = true) :
    Eff r c (bodySend r c s) ∧ (s.isData = true → Strict r c (bodySend r c s)) := by
  have hnb : isNb c.st := Or.inr hs
  have hcore := h.core hnb.ne_closed
  have hsb := (h.stBody hnb).1
  have hrple := hcore.rpLe hsb
  have h0 : ¬ (c.tot = 0 ∨ c.rp = c.tot) := by omega
  have hbytes : ∀ (c1 : Conn) (o : SendOut) (req : Bytes), c1.st = c.st → c1.out = c.out → rankR r c1 ≤ rankR r c →
      SendSpec o req → Trans o req s → req ≠ [] →
      Eff r c (bodyAccount c1 o) ∧ (s.isData = true → Strict r c (bodyAccount c1 o)) := by
    intro c1 o req h1s h1o h1r hspec htr hreq
    have hs1 : c1.st = .normalBodyReady := by rw [h1s]; exact hs
    unfold bodyAccount
    obtain ⟨e, g⟩ := account_eff (r := r) (c0 := c) (by rw [hs1]; exact nofun) h1o
      (by rw [rank_R hs1, rank_R hs]; exact h1r) hspec htr hreq
      (fun n => finish_eff { c1 with out := c1.out ++ o.wire, rp := c1.rp + n } hs1)
    exact ⟨e, fun hd => Or.inl (g hd)⟩
  unfold bodySend
  by_cases hsf : c.sf = true
  · rw [if_pos hsf]
    have hsfr := hcore.sfOk hsf
    have hkk : ¬ (r.kind = .iovec ∨ r.kind = .buffer) := by rw [hw.wf.sf_kind hsfr]; exact nofun
    have htot := hcore.tot_known (hw.sf_known hsfr)
    by_cases hov : off64Max < c.rp + r.fdOff
    · -- nothing is sent; the standard sender takes over, it has to ask the reader first
      rw [sendSendfile_overflow _ _ _ _ _ _ hov]
      have h4 : rankR r { c with sf := false } = 4 :=
        rankR_ask ⟨h0, hkk, Bool.false_ne_true, by rw [hcore.sfWin hsf]; show ¬ (c.ds ≤ c.rp ∧ c.rp < 0 + c.ds); omega⟩
      have h5 : rankR r c = 5 := by unfold rankR; rw [if_neg h0, if_neg hkk, if_pos hsf]
      have e : bodyAccount { c with sf := false } (.fail .again) = { c with sf := false, out := c.out ++ [] } := rfl
      have := eff_of_rank (r := r) (c := c) (c' := { c with sf := false, out := c.out ++ [] })
        (List.append_nil _) (by show c.st ≠ _; rw [hs]; exact nofun)
        (by rw [rank_R hs, h5, rank_R (c := { c with sf := false, out := c.out ++ [] }) hs]
            exact Nat.lt_of_le_of_lt (Nat.le_of_eq h4) (by decide))
      rw [e]
      exact ⟨this.1, fun _ => this.2⟩
    · obtain ⟨hx, X, hX, hspec, htr⟩ :=
        sendSendfile_trans r.thrPerConn r.body r.fdOff c.rp c.tot s hov ht (by omega) hlt
      generalize sendSendfile r.thrPerConn r.body r.fdOff c.rp c.tot s = x at hx hspec htr ⊢
      simp only [hx]
      exact hbytes _ _ X rfl rfl (by rw [← hsf]; exact Nat.le_refl _) hspec htr hX
  rw [if_neg hsf]
  by_cases hk : r.kind = .iovec
  · rw [if_pos hk]
    have hio := hcore.iovOk hk hsb
    rw [if_pos (hready.iov hlt hsf hk)] at hio
    have htot := hcore.tot_known (hw.wf.known (Or.inr hk))
    have hne : c.irest ≠ [] := fun hnil => by
      rw [hnil] at hio
      have := congrArg List.length hio
      rw [List.length_drop] at this; simp at this; omega
    obtain ⟨X, -, hX, hout, hnf, -, -⟩ := sendIovec_sent c.isent c.irest s
    generalize sendIovec false c.isent c.irest s = x at hout hnf ⊢
    simp only [hnf, Bool.false_eq_true, if_false, hout]
    exact hbytes _ _ X rfl rfl (Nat.le_refl _) (sysSend_spec X s) (sysSend_trans X s ht) (hX hne hcore.iovNe)
  · rw [if_neg hk]
    obtain ⟨hw1, hw2, hw3⟩ := hready.win hcore hlt hsf hk
    rw [if_neg (by omega), Nat.add_sub_cancel' hw1]
    refine hbytes c _ _ rfl rfl (Nat.le_refl _) (sendData_spec _ s) (sendData_trans _ s ht) ?_
    exact List.ne_nil_of_length_pos (by rw [slice_length _ _ _ (by omega)]; omega)

/-- Effect of `try_ready_normal_body` when nothing fails: nothing is sent; MHD_NO only comes from
    asking the reader, which then has reported the end of the content, or was not ready. -/
theorem Ready.eff {r : Resp} {c c' : Conn} {app : AppAns} {ok : Bool} (hw : WFp r) (h : Inv r c) (hst : isNb c.st)
    (happ : app ≠ .err) (hr : Ready r c app true (c', ok)) :
    (ok = true → rankR r c' ≤ rankR r c ∧ ¬ Ask r c') ∧
    (ok = false → Ask r c ∧ (c'.st = .done ∨ (c'.st = .normalBodyUnready ∧ c'.sf = false ∧ app ≠ .ready))) := by
  have hcore := h.core hst.ne_closed
  cases hr with
  | keep hk => exact ⟨fun _ => ⟨Nat.le_refl _, hk.not_ask⟩, nofun⟩
  | iov _ hk => exact ⟨fun _ => ⟨Nat.le_refl _, fun a => a.kind (Or.inl hk)⟩, nofun⟩
  | nomem ha => cases ha
  | readerErr _ hcrc => exact absurd hcrc (crcCall_not_err happ)
  | eos ha _ => exact ⟨nofun, fun _ => ⟨ha, Or.inl rfl⟩⟩
  | wait ha hcrc =>
    refine ⟨nofun, fun _ => ⟨ha, Or.inr ⟨rfl, by simpa using ha.sf, fun hready => ?_⟩⟩⟩
    -- a ready reader would have produced data or the end of the stream
    subst hready
    refine crcCall_ready_ne_wait ?_ hcrc
    have := rp_le_tot hw.wf hcore (h.stBody hst).1
    have := hw.buf_pos
    have := ha.left
    omega
  | data n ha _ =>
    have hwin : c.rp ≤ c.rp ∧ c.rp < n + 1 + c.rp := ⟨Nat.le_refl _, Nat.lt_add_of_pos_left (Nat.succ_pos n)⟩
    have e : rankR r { c with ds := c.rp, dz := n + 1 } = 0 := by
      unfold rankR
      rw [if_neg ha.left, if_neg ha.kind, if_neg ha.sf, if_pos hwin]
    exact ⟨fun _ => ⟨by rw [e]; exact Nat.zero_le _, fun a => a.win hwin⟩, nofun⟩

theorem hwNormalBody_eff {r : Resp} {c : Conn} (hw : WFp r) (h : Inv r c) (hs : c.st = .normalBodyReady)
    (s : SockRes) (hs1 : s.isTransient = true) (app : AppAns) (happ : app ≠ .err) :
    Eff r c (hwNormalBody r c s app true) ∧
    (s.isData = true → Strict r c (hwNormalBody r c s app true)) := by
  have hst : isNb c.st := Or.inr hs
  have hrank := rank_R (r := r) hs
  rw [hwNormalBody_eq]
  by_cases hlt : c.rp < c.tot
  · rw [if_pos hlt]
    have hr := tryReady_ready r c app true
    generalize tryReadyNormalBody r c app true = p at hr ⊢
    obtain ⟨c', ok⟩ := p
    obtain ⟨hinv', hready⟩ := hr.inv hw.wf h hst
    obtain ⟨e2, e5, e3, hy⟩ := hr.same
    obtain ⟨hyes, hno⟩ := hr.eff hw h hst happ
    cases ok with
    | false =>
      -- the reader was asked (rank 4): the reply is complete (rank 0), or it has to be asked again (rank 3)
      obtain ⟨ha, hcase⟩ := hno rfl
      have hopen : c'.st ≠ .closed := by
        rcases hcase with x | x
        · rw [x]; exact nofun
        · rw [x.1]; exact nofun
      have hdrop : rank r c' < rank r c := by
        rw [hrank, rankR_ask ha]
        rcases hcase with x | ⟨x, y, -⟩ <;> unfold rank <;> rw [x]
        · exact (by decide : 0 < 4)
        · rw [if_neg (by rw [y]; exact Bool.false_ne_true)]; exact (by decide : 3 < 4)
      exact ⟨(eff_of_rank e2 hopen hdrop).1, fun _ => (eff_of_rank e2 hopen hdrop).2⟩
    | true =>
      obtain ⟨e1, e4, -⟩ := hy rfl
      have hs' : c'.st = .normalBodyReady := by rw [e1]; exact hs
      obtain ⟨e, g⟩ := bodySend_eff hw hinv' hs' (by rw [e3, e4]; exact hlt) (hready rfl) s hs1
      have e0 : Eff r c c' := ⟨by rw [hs']; exact nofun, Or.inr ⟨e2, by rw [rank_R hs', hrank]; exact (hyes rfl).1⟩⟩
      exact ⟨e0.trans e, fun hd => Strict.trans_right e0 (g hd)⟩
  · -- nothing left but the final check
    rw [if_neg hlt]
    have heq : c.rp = c.tot := by
      have := rp_le_tot hw.wf (h.core hst.ne_closed) (h.stBody hst).1; omega
    have := eff_of_rank (r := r) (c := c) (c' := finish c) (finish_eff c hs).2 (finish_eff c hs).1
      (by unfold finish; rw [if_pos heq, hrank]; unfold rankR; rw [if_pos (Or.inr heq)]; exact (by decide : 1 < 2))
    exact ⟨this.1, fun _ => this.2⟩

theorem handleWrite_eff {r : Resp} {c : Conn} (hw : WFp r) (h : Inv r c) (hne : c.st ≠ .closed)
    (s1 s2 : SockRes) (h1 : s1.isTransient = true) (h2 : s2.isTransient = true) (app : AppAns) (happ : app ≠ .err) :
    Eff r c (handleWrite r c s1 s2 app true) ∧
    (s1.isData = true → writeActive c.st → Strict r c (handleWrite r c s1 s2 app true)) := by
  by_cases ha : ¬ writeActive c.st
  · rw [handleWrite_idle ha]
    exact ⟨Eff.refl r c hne, fun _ x => absurd x ha⟩
  rcases Classical.not_not.mp ha with hs | hs | hs | hs
  · unfold handleWrite; rw [hs]
    obtain ⟨e, g⟩ := hwHeaders_eff h hs s1 s2 h1 h2
    exact ⟨e, fun hd _ => Or.inl (g hd)⟩
  · unfold handleWrite; rw [hs]
    obtain ⟨e, g⟩ := hwNormalBody_eff hw h hs s1 h1 app happ
    exact ⟨e, fun hd _ => g hd⟩
  · have hwb : isWbState c.st := Or.inr (Or.inl hs)
    unfold handleWrite; rw [hs]; simp only [(wbPending_some h hwb).1]
    obtain ⟨e, g⟩ := wbAccount_eff h hwb s1 (if c.tot = c.rp then .chunkedBodySent else .chunkedBodyUnready) h1
      (by split <;> exact nofun)
    exact ⟨e, fun hd _ => Or.inl (g hd)⟩
  · have hwb : isWbState c.st := Or.inr (Or.inr hs)
    unfold handleWrite; rw [hs]; simp only [(wbPending_some h hwb).1]
    obtain ⟨e, g⟩ := wbAccount_eff h hwb s1 .fullReplySent h1 nofun
    exact ⟨e, fun hd _ => Or.inl (g hd)⟩

/-- effect of `try_ready_chunked_body` when nothing fails: never closes; MHD_NO only when the
    content reader is not ready -/
theorem Chunked.eff {r : Resp} {c c' : Conn} {app : AppAns} {res : Option Bool} (hw : WFp r) (h : Inv r c)
    (hs : c.st = .chunkedBodyUnready) (happ : app ≠ .err) (hr : Chunked r c app (c', res)) :
    c'.out = c.out ∧ (res = none → c'.st = .chunkedBodyUnready ∧ app ≠ .ready) := by
  have hcore := h.core (by rw [hs]; exact nofun)
  have hfl := h.stChunk (Or.inl hs)
  cases hr with
  | small hb => exact absurd (hw.wb_ok hfl.2) (Nat.not_le.mpr hb)
  | noReader hl hwin hk =>
    -- a buffer response always covers the position, an iovec response is never chunked
    rcases hk with hk | hk
    · have hwin2 := hcore.win_buffer hk
      have ht := hcore.tot_known (hw.wf.known (Or.inl hk))
      have hsz := hw.wf.size
      unfold chunkLeft at hl
      rw [if_neg (by omega)] at hl
      exact absurd ⟨by omega, by omega⟩ hwin
    · exact absurd hk (hw.chunk_kind hfl.2)
  | readerErr hcrc => exact absurd hcrc (crcCall_not_err happ)
  | eos => exact ⟨rfl, nofun⟩
  | wait hb hl hcrc =>
    exact ⟨rfl, fun _ => ⟨rfl, fun hready => crcCall_ready_ne_wait (chunkFill_pos hb hl) (hready ▸ hcrc)⟩⟩
  | frame n => exact ⟨(framed_same r c n).2.1, nofun⟩

theorem idleStep_eff {r : Resp} {c : Conn} (hw : WFp r) (h : Inv r c) (hne : c.st ≠ .closed)
    (app : AppAns) (happ : app ≠ .err) :
    Eff r c (idleStep r c app true) ∧ (app = .ready → idleActive c.st → Strict r c (idleStep r c app true)) := by
  have drop : ∀ c2 : Conn, c2.out = c.out → c2.st ≠ .closed → rank r c2 < rank r c →
      Eff r c c2 ∧ (app = .ready → idleActive c.st → Strict r c c2) := fun c2 ho hs2 hr =>
    ⟨(eff_of_rank ho hs2 hr).1, fun _ _ => (eff_of_rank ho hs2 hr).2⟩
  by_cases hi : ¬ idleActive c.st
  · rw [idleStep_idle hi]
    exact ⟨Eff.refl r c hne, fun _ x => absurd x hi⟩
  rcases Classical.not_not.mp hi with hs | hs | hs | hs | hs
  · have hr7 : rank r c = 7 := by unfold rank; rw [hs]
    rw [idleStep_headersSent hs]
    exact drop _ rfl (by cases r.sendBody <;> cases r.chunked <;> exact nofun)
      (by rw [hr7]; exact Nat.lt_succ_of_le (rank_le_six (by cases r.sendBody <;> cases r.chunked <;> exact nofun)))
  · have hst : isNb c.st := Or.inl hs
    have hru : rank r c = if c.sf = true then 6 else 3 := by unfold rank; rw [hs]
    rw [idleStep_nbUnready hs]
    by_cases h0 : c.tot = 0
    · rw [if_pos h0, (h.stBody hst).2]
      exact drop _ rfl nofun (by rw [hru]; show 1 < _; split <;> decide)
    · rw [if_neg h0]
      have hr := tryReady_ready r c app true
      generalize tryReadyNormalBody r c app true = p at hr ⊢
      obtain ⟨c', ok⟩ := p
      obtain ⟨e2, e5, -, -⟩ := hr.same
      obtain ⟨hyes, hno⟩ := hr.eff hw h hst happ
      cases ok with
      | true =>
        refine drop _ e2 nofun ?_
        show rankR r c' < _
        rw [hru]
        by_cases hsf : c.sf = true
        · rw [if_pos hsf]; exact Nat.lt_succ_of_le (rankR_le r c')
        · rw [if_neg hsf]; exact Nat.lt_succ_of_le (rankR_nosf (by rw [e5]; exact hsf) (hyes rfl).2)
      | false =>
        obtain ⟨ha, hcase⟩ := hno rfl
        rw [if_neg ha.sf] at hru
        rcases hcase with hd | ⟨hu, hsf', hnr⟩
        · exact drop _ e2 (by rw [hd]; exact nofun) (by rw [hru]; unfold rank; rw [hd]; exact (by decide : 0 < 3))
        · exact ⟨⟨by rw [hu]; exact nofun, Or.inr ⟨e2, by rw [hru]; unfold rank; rw [hu, hsf']; exact Nat.le_refl _⟩⟩,
            fun ha' _ => absurd ha' hnr⟩
  · have hr2 : rank r c = 2 := by unfold rank; rw [hs]
    rw [idleStep_cbUnready hs]
    by_cases h0 : c.tot = 0 ∨ c.rp = c.tot
    · rw [if_pos h0]; exact drop _ rfl nofun (by rw [hr2]; exact (by decide : 1 < 2))
    · rw [if_neg h0]
      have hr := tryChunk_chunked r c app
      generalize tryReadyChunkedBody r c app = p at hr ⊢
      obtain ⟨c', res⟩ := p
      obtain ⟨hout', hnone⟩ := hr.eff hw h hs happ
      cases res with
      | none =>
        obtain ⟨hu, hnr⟩ := hnone rfl
        exact ⟨⟨by show c'.st ≠ _; rw [hu]; exact nofun,
            Or.inr ⟨hout', by rw [hr2]; show rank r c' ≤ 2; unfold rank; rw [hu]; exact Nat.le_refl _⟩⟩,
          fun ha _ => absurd ha hnr⟩
      | some fin =>
        refine drop _ hout' ?_ ?_
        · show (if fin = true then St.chunkedBodySent else St.chunkedBodyReady) ≠ _; split <;> exact nofun
        · rw [hr2]; cases fin
          · exact (by decide : 0 < 2)
          · exact (by decide : 1 < 2)
  · have hr1 : rank r c = 1 := by unfold rank; rw [hs]
    rw [idleStep_cbSent hs, if_pos rfl]
    exact drop _ rfl nofun (by rw [hr1]; exact (by decide : 0 < 1))
  · have hr1 : rank r c = 1 := by unfold rank; rw [hs]
    rw [idleStep_fullReplySent hs]
    exact drop _ rfl nofun (by rw [hr1]; exact (by decide : 0 < 1))

theorem rank_idleClosed (r : Resp) (c : Conn) : rank r (idleClosed c) = rank r c := by
  unfold idleClosed; split <;> rfl

theorem Eff.idleClosed {r : Resp} {c c' : Conn} (e : Eff r c c') : Eff r c (idleClosed c') :=
  ⟨by rw [idleClosed_st]; exact e.open_, by rw [idleClosed_out, rank_idleClosed]; exact e.mono⟩

theorem Strict.idleClosed {r : Resp} {c c' : Conn} (e : Strict r c c') : Strict r c (idleClosed c') := by
  unfold Strict; rw [idleClosed_out, rank_idleClosed]; exact e

theorem handleIdle_eff {r : Resp} {c : Conn} (hw : WFp r) (h : Inv r c) (hne : c.st ≠ .closed)
    (app : AppAns) (happ : app ≠ .err) :
    Eff r c (handleIdle r c app true) ∧ (app = .ready → idleActive c.st → Strict r c (handleIdle r c app true)) := by
  unfold handleIdle
  obtain ⟨e1, g1⟩ := idleStep_eff hw h hne app happ
  have i1 := idleStep_inv hw.wf h app true
  obtain ⟨e2, _⟩ := idleStep_eff hw i1 e1.open_ app happ
  have i2 := idleStep_inv hw.wf i1 app true
  obtain ⟨e3, _⟩ := idleStep_eff hw i2 e2.open_ app happ
  have i3 := idleStep_inv hw.wf i2 app true
  obtain ⟨e4, _⟩ := idleStep_eff hw i3 e3.open_ app happ
  exact ⟨((e1.trans e2).trans (e3.trans e4)).idleClosed,
         fun ha hi => ((g1 ha hi).trans_left (e2.trans (e3.trans e4))).idleClosed⟩

theorem nonfinal_cases {s : St} (h1 : s ≠ .closed) (h2 : s ≠ .done) : writeActive s ∨ idleActive s := by
  unfold writeActive idleActive
  cases s <;> simp at *

theorem round_eff {r : Resp} {c : Conn} (hw : WFp r) (h : Inv r c) (hne : c.st ≠ .closed) (x : Round)
    (hx : x.transient) :
    Eff r c (round r c x) ∧ (x.good → c.st ≠ .done → Strict r c (round r c x)) := by
  obtain ⟨t1, t2, ta, tb, tc, td⟩ := hx
  unfold round
  rw [tc, td]
  by_cases hwr : x.wr = true
  · rw [if_pos hwr]
    obtain ⟨ew, gw⟩ := handleWrite_eff hw h hne x.s1 x.s2 t1 t2 x.appW ta
    have iw := handleWrite_inv hw.wf h x.s1 x.s2 (transient_legal t2) x.appW true
    obtain ⟨ei, gi⟩ := handleIdle_eff hw iw ew.open_ x.appI tb
    refine ⟨ew.trans ei, fun hg hnd => ?_⟩
    obtain ⟨_, g1, _, _, g4, _, _⟩ := hg
    rcases nonfinal_cases hne hnd with hwa | hia
    · exact (gw g1 hwa).trans_left ei
    · -- handle_write does nothing in these states
      have hid : handleWrite r c x.s1 x.s2 x.appW true = c :=
        handleWrite_idle (by rcases hia with e | e | e | e | e <;> rw [e] <;> exact nofun) _ _ _ _
      rw [hid] at ei gi ⊢
      exact gi g4 hia
  · rw [if_neg hwr]
    obtain ⟨ei, _⟩ := handleIdle_eff hw h hne x.appI tb
    exact ⟨ei, fun hg _ => absurd hg.1 hwr⟩

instance : DecidablePred Round.good := fun x => by unfold Round.good; exact inferInstance

instance : DecidablePred Round.transient := fun x => by unfold Round.transient; exact inferInstance

def countGood (xs : List Round) : Nat := xs.countP (fun x => decide x.good)

/-- Transient-only scripts: the connection is never closed, and the measure pays for every
    productive round until the reply is complete. -/
theorem run_progress {r : Resp} (hw : WFp r) : ∀ (xs : List Round) (c : Conn), Inv r c → c.st ≠ .closed →
    (∀ x ∈ xs, x.transient) →
    (run r c xs).st ≠ .closed ∧ ((run r c xs).st = .done ∨ mu r (run r c xs) + countGood xs ≤ mu r c)
  | [], c, _, hne, _ => ⟨hne, Or.inr (by simp [run, countGood])⟩
  | x :: xs, c, h, hne, hx => by
    have hxt := hx x (List.mem_cons_self)
    obtain ⟨e, g⟩ := round_eff hw h hne x hxt
    have h1 := round_inv hw.wf h x hxt.legal
    have ih := run_progress hw xs (round r c x) h1 e.open_ (fun y hy => hx y (List.mem_cons_of_mem _ hy))
    rw [run_cons]
    refine ⟨ih.1, ?_⟩
    rcases ih.2 with hd | hm
    · exact Or.inl hd
    · by_cases hdone : c.st = .done
      · left
        rcases run_final (r := r) (x :: xs) c (Or.inr hdone) with e' | e' <;> rw [← run_cons, e']
        · exact hdone
        · rw [idleClosed_st]; exact hdone
      · right
        have hle := e.mu_le h1
        unfold countGood at hm ⊢
        rw [List.countP_cons]
        by_cases hg : x.good
        · have hlt := (g hg hdone).mu_lt h1
          simp only [hg, decide_true, if_true]
          omega
        · simp only [hg, decide_false, Bool.false_eq_true, if_false]
          omega

theorem mu_start (r : Resp) : mu r (startReply r true) = 8 * (stream r).length := by
  simp [mu, startReply, initConn, rank]

end Mhd.Send
