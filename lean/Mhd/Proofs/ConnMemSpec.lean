/-
  The interface between the buffer layer and the composed reader `Mhd.ConnRead`: `Link` is what the reader
  knows of the buffer layer while a parser runs on the arena prefix `[0, size)` — the read window starts at
  `read_buffer`, the received data ends at `size`, `pool_increment`, and the dimensions of the arena.  Each
  operation the reader issues has one lemma: it is accepted (never `badOp`) and `Link` holds again, with the
  arithmetic of the operation on (`read_buffer`, end of the received data).  No operation changes the
  dimensions (they are part of `Inv`), so "one arena of constant size" travels with `Link`.
-/
import Mhd.Proofs.ConnMem
import Mhd.Model.ConnRead

namespace Mhd.ConnMem
open Mhd.Pool

/-- the buffer layer while a request is received: invariant, receiving phase, the read
    buffer is the block at the arena base -/
structure Recv (c : CM) (r : Nat) : Prop where
  inv : CMInv c
  snd : c.sending = false
  rb : c.rb = some r
  base : c.rbBase = 0

theorem Recv.view {c : CM} {r : Nat} (h : Recv c r) : RecvInv (dims c.p) c := Inv.recv ⟨h.inv, rfl⟩ h.snd

theorem Recv.window {c : CM} {r : Nat} (h : Recv c r) : c.rbBase ≤ r ∧ c.rbOff ≤ c.rbSize ∧ Top c.p r c.rbSize :=
  h.view.window h.rb

theorem Recv.off_le {c : CM} {r : Nat} (h : Recv c r) : c.rbOff ≤ c.rbSize := h.window.2.1

theorem Recv.inside {c : CM} {r : Nat} (h : Recv c r) : r + c.rbSize ≤ c.p.pos ∧ c.p.pos ≤ c.p.size :=
  ⟨h.window.2.2.le, Nat.le_trans h.inv.1.1 h.inv.1.2.1⟩

open Mhd.ConnRead (op consumeTo setMem)

/-- the read window starts at `rb`, the received data ends at `size` (= where the parser's buffer ends),
    `pool_increment` is `i`, the arena and its byte list have `N` bytes -/
structure Link (i N : Nat) (c : CM) (rb size : Nat) : Prop where
  recv : Recv c rb
  sz : size = rb + c.rbOff
  inc : c.inc = i
  dims : dims c.p = (N, N)

section
variable {i N : Nat} {c : CM} {r s : Nat}

theorem Link.inv (h : Link i N c r s) : Inv (N, N) c := ⟨h.recv.inv, h.dims⟩

theorem Link.mem (h : Link i N c r s) : c.p.mem.length = c.p.size :=
  (congrArg Prod.snd h.dims).trans (congrArg Prod.fst h.dims).symm

theorem Link.size_le (h : Link i N c r s) : s ≤ c.p.mem.length := by
  have := h.sz; have := h.recv.off_le; have := h.recv.inside; have := h.mem; omega

theorem Link.setMem (h : Link i N c r s) (m : List UInt8) (hm : m.length = c.p.mem.length) :
    Link i N (setMem c m) r s :=
  have i := h.inv.swap (p' := { c.p with mem := m }) ⟨h.recv.inv.1, (congrArg (Prod.mk c.p.size) hm).trans h.dims⟩ rfl
  ⟨⟨i.inv, h.recv.snd, h.recv.rb, h.recv.base⟩, h.sz, h.inc, i.dims⟩

theorem Link.after {c' : CM} {r' s' : Nat} {o : Op} {res : Res} (h : Link i N c r s) (e : step c o = (c', res))
    (hs : c'.sending = false) (hb : c'.rb = some r') (hbase : c'.rbBase = 0) (hsz : s' = r' + c'.rbOff)
    (hinc : c'.inc = c.inc) : Link i N c' r' s' :=
  have i : Inv (N, N) (c', res).1 := e ▸ step_inv c o h.inv
  ⟨⟨i.inv, hs, hb, hbase⟩, hsz, hinc.trans h.inc, i.dims⟩

theorem op_of_ok {c c' : CM} {o : Op} (e : step c o = (c', .ok)) : op c o = some c' := by
  simp only [op, e]

theorem Link.consume (h : Link i N c r s) (k : Nat) (hk : k ≤ c.rbOff) :
    ∃ c', op c (.consume k) = some c' ∧ Link i N c' (r + k) s := by
  have e : step c (.consume k) =
      ({ c with rb := some (r + k), rbSize := c.rbSize - k, rbOff := c.rbOff - k }, .ok) := by
    simp only [step, h.recv.rb, h.recv.snd, Bool.not_false, true_and, hk, if_true]
  exact ⟨_, op_of_ok e, h.after e h.recv.snd rfl h.recv.base
    (by show s = r + k + (c.rbOff - k); have := h.sz; omega) rfl⟩

theorem Link.consumeTo (h : Link i N c r s) (r' : Nat) (h1 : r ≤ r') (h2 : r' ≤ s) :
    ∃ c', Mhd.ConnRead.consumeTo c r' = some c' ∧ Link i N c' r' s := by
  obtain ⟨c', he, hl⟩ := h.consume (r' - r) (by have := h.sz; omega)
  exact ⟨c', by simp only [Mhd.ConnRead.consumeTo, h.recv.rb, he], Nat.add_sub_cancel' h1 ▸ hl⟩

theorem Link.recv' (h : Link i N c r s) (k : Nat) (hk : k ≤ c.rbSize - c.rbOff) :
    ∃ c', op c (.recv k) = some c' ∧ Link i N c' r (s + k) ∧ c'.p = c.p := by
  have e : step c (.recv k) = ({ c with rbOff := c.rbOff + k }, .ok) := by
    simp only [step, h.recv.rb, h.recv.snd, Bool.not_false, Option.isSome_some, true_and, hk, if_true]
  exact ⟨_, op_of_ok e, h.after e h.recv.snd h.recv.rb h.recv.base
    (by show s + k = r + (c.rbOff + k); have := h.sz; omega) rfl, rfl⟩

theorem Link.shiftBack (h : Link i N c r s) (k : Nat) (hk : k ≤ r) :
    ∃ c', op c (.shiftBack k) = some c' ∧ Link i N c' (r - k) (s - k) := by
  have hb : c.rbBase + k ≤ r := by rw [h.recv.base]; omega
  have e : step c (.shiftBack k) = ({ c with rb := some (r - k), rbSize := c.rbSize + k }, .ok) := by
    simp only [step, h.recv.rb, h.recv.snd, Bool.not_false, true_and, hb, if_true]
  exact ⟨_, op_of_ok e, h.after e h.recv.snd rfl h.recv.base
    (by show s - k = r - k + c.rbOff; have := h.sz; omega) rfl⟩

theorem Link.bodyDrop (h : Link i N c r s) (k : Nat) (hk : k ≤ c.rbOff) :
    ∃ c', op c (.bodyDrop k) = some c' ∧ Link i N c' r (s - k) := by
  have e : step c (.bodyDrop k) = ({ c with rbOff := c.rbOff - k }, .ok) := by
    simp only [step, h.recv.rb, h.recv.snd, Bool.not_false, Option.isSome_some, true_and, hk, if_true]
  exact ⟨_, op_of_ok e, h.after e h.recv.snd h.recv.rb h.recv.base
    (by show s - k = r + (c.rbOff - k); have := h.sz; omega) rfl⟩

/-- `transmit_error_response_len` gives the read buffer back: the receiving phase ends, the arena stays -/
theorem Link.errRelease (h : Link i N c r s) :
    ∃ c', op c .errRelease = some c' ∧ CMInv c' ∧ c'.p.size = N := by
  have e : (step c .errRelease).2 = .ok := by
    simp only [step, h.recv.snd, Bool.false_eq_true, ↓reduceIte]; split <;> rfl
  have i := step_errRelease c h.inv
  exact ⟨_, op_of_ok (Prod.ext rfl e), i.inv, congrArg Prod.fst i.dims⟩

/-- `MHD_connection_alloc_memory_` while receiving: only the pool and the size of the window change; what the
    window loses is part of its free tail -/
theorem allocMem_recv (h : Recv c r) (n : Nat) :
    ∃ p' k, (allocMem c n).1 = { c with p := p', rb := some r, rbSize := c.rbSize - k } ∧ k ≤ c.rbSize - c.rbOff := by
  have f := h.view
  have fr := h.window
  have hc : ∀ p', { c with p := p' } = { c with p := p', rb := some r, rbSize := c.rbSize - 0 } := by
    intro p'; rw [← h.rb]; rfl
  unfold allocMem
  rcases tryAlloc_cases c.p n f.arena with ⟨need, he⟩ | ⟨p', off, he, _⟩
  · rw [he]
    cases need with
    | none => exact ⟨c.p, 0, hc c.p, Nat.zero_le _⟩
    | some need =>
      rw [show isResizableInplace c.p c.wb c.wbSize = false by rw [f.nowb.1]; rfl]
      simp only [Bool.false_eq_true, ↓reduceIte]
      split
      · split
        · rename_i hroom
          obtain ⟨p1, he1, _⟩ := fr.2.2.resize_fit f.arena (n := c.rbSize - need)
            (by have := fr.2.2.le; have := f.arena.geo.1; omega)
          rw [h.rb, he1]
          exact ⟨_, need, rfl, hroom⟩
        · exact ⟨c.p, 0, hc c.p, Nat.zero_le _⟩
      · exact ⟨c.p, 0, hc c.p, Nat.zero_le _⟩
  · rw [he]
    exact ⟨p', 0, hc p', Nat.zero_le _⟩

theorem Link.alloc (h : Link i N c r s) (n : Nat) : Link i N (step c (.alloc n)).1 r s := by
  obtain ⟨p', k, e, _⟩ := allocMem_recv h.recv n
  have e' : step c (.alloc n) = ({ c with p := p', rb := some r, rbSize := c.rbSize - k }, .ptr (allocMem c n).2) := by
    simp only [step]; rw [← e]
  rw [e']
  exact h.after e' h.recv.snd rfl h.recv.base h.sz rfl

theorem grow_recv (h : Recv c r) (req : Bool) :
    step c (.grow req) = (c, .bool false) ∨
    ∃ newSize p', growSize c req = some newSize ∧
      step c (.grow req) = ({ c with p := p', rb := some r, rbSize := newSize }, .bool true) ∧ p'.mem = c.p.mem := by
  have fr := h.window
  simp only [step, h.snd, Bool.false_eq_true, ↓reduceIte, grow]
  cases hgs : growSize c req with
  | none => exact .inl rfl
  | some newSize =>
    simp only [h.rb, Option.isSome_some, true_and, ↓reduceIte]
    by_cases hres : isResizableInplace c.p (some r) c.rbSize = true
    · simp only [hres, Bool.not_true, Bool.false_eq_true, ↓reduceIte]
      rcases fr.2.2.resize h.view.arena newSize with he | ⟨p', he, _, _, hm⟩
      · rw [he]; exact .inl rfl
      · rw [he]
        exact .inr ⟨_, _, rfl, rfl, hm (Nat.le_of_lt (growSize_bounds c req newSize h.inv.1 hgs).1)⟩
    · simp only [hres, Bool.not_false, ↓reduceIte, true_or]

theorem Link.grow (h : Link i N c r s) (req : Bool) :
    Link i N (step c (.grow req)).1 r s ∧ (step c (.grow req)).1.p.mem = c.p.mem ∧
      (step c (.grow req)).1.rbOff = c.rbOff ∧ c.rbSize ≤ (step c (.grow req)).1.rbSize ∧
      ((step c (.grow req)).2 = .bool true ∨ ((step c (.grow req)).2 = .bool false ∧ (step c (.grow req)).1 = c)) ∧
      ((step c (.grow req)).2 = .bool true → c.rbOff = c.rbSize →
        (step c (.grow req)).1.rbOff < (step c (.grow req)).1.rbSize) := by
  rcases grow_recv h.recv req with e | ⟨newSize, p', hgs, e, hm⟩
  · rw [e]
    exact ⟨h, rfl, rfl, Nat.le_refl _, .inr ⟨rfl, rfl⟩, fun hh => (by cases hh)⟩
  · have hb := (growSize_bounds c req newSize h.recv.inv.1 hgs).1
    rw [e]
    exact ⟨h.after e h.recv.snd rfl h.recv.base h.sz rfl, hm, rfl, Nat.le_of_lt hb, .inl rfl, fun _ hfull => hfull ▸ hb⟩

/-- the reply is sent and the connection recycled: `connection_shrink_read_buffer`, then
    `connection_reset (c, true)`: the read-ahead is kept, the window starts at the arena base again -/
theorem Link.recycle (h : Link i N c r s) :
    ∃ c1 c2, op c .shrinkRead = some c1 ∧ op c1 .resetConn = some c2 ∧ Link i N c2 0 (s - r) := by
  have f := h.recv.view
  have e1 : step c .shrinkRead = ({ shrinkRead c with sending := true }, .ok) := by
    simp only [step, h.recv.snd, Bool.false_eq_true, if_false]
  have i1 := step_shrinkRead c h.inv
  rw [e1] at i1
  have hoff : (shrinkRead c).rbOff = c.rbOff ∧ (shrinkRead c).wbSend = c.wbSend ∧ (shrinkRead c).wbApp = c.wbApp ∧
      (shrinkRead c).inc = c.inc := by
    unfold shrinkRead
    split
    · exact ⟨rfl, rfl, rfl, rfl⟩
    · split
      · exact ⟨rfl, rfl, rfl, rfl⟩
      · split <;> exact ⟨rfl, rfl, rfl, rfl⟩
  have e2 : step { shrinkRead c with sending := true } .resetConn =
      ({ resetConn { shrinkRead c with sending := true } with sending := false }, .ok) := by
    have hc : ({ shrinkRead c with sending := true } : CM).sending = true ∧
        ({ shrinkRead c with sending := true } : CM).wbSend = ({ shrinkRead c with sending := true } : CM).wbApp :=
      ⟨rfl, by show (shrinkRead c).wbSend = (shrinkRead c).wbApp; rw [hoff.2.1, hoff.2.2.1, f.nowb.2.2.2, f.nowb.2.2.1]⟩
    show (if _ then _ else _) = _
    rw [if_pos hc]
  have i2 := step_resetConn _ i1
  rw [e2] at i2
  exact ⟨_, _, op_of_ok e1, op_of_ok e2, ⟨i2.inv, rfl, rfl, rfl⟩,
    by show s - r = 0 + (shrinkRead c).rbOff; rw [hoff.1]; have := h.sz; omega,
    hoff.2.2.2.trans h.inc, i2.dims⟩

end

theorem init_link (allocSize poolSize inc : Nat) (ha : allocSize % A = 0) (hs : allocSize < 2 ^ 62)
    (hp : poolSize ≤ allocSize) : Link inc allocSize (init allocSize poolSize inc) 0 0 := by
  have hi := init_arena allocSize poolSize inc ha hs hp
  rw [init_eq allocSize poolSize inc ha hs hp] at hi ⊢
  exact ⟨⟨hi.inv, rfl, rfl, rfl⟩, rfl, rfl, hi.dims⟩

end Mhd.ConnMem
