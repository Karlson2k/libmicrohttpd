/-
  C05 — refinement relation between the connection model (`Mhd.ConnSM`) and the call-protocol
  automaton (`Mhd.Protocol`): the invariant `Inv`, the relation `Rel` / `Live`, and its preservation by the
  closing functions, `cleanupConnection`, `connectionReset` and `transmitError`.
-/
import Mhd.Proofs.ConnSMOps
namespace Mhd.ConnSM
open Mhd.Gen.ConnState Mhd.Protocol

@[simp] theorem Site.rank_first : Site.first.rank = 0 := rfl
@[simp] theorem Site.rank_upload : Site.upload.rank = 1 := rfl
@[simp] theorem Site.rank_final : Site.final.rank = 2 := rfl
theorem Site.rank_le_two (s : Site) : s.rank ≤ 2 := by cases s <;> decide
theorem Site.first_of_rank {s : Site} (h : s.rank = 0) : s = .first := by cases s <;> first | rfl | cases h

/-- call-site rank the connection state belongs to -/
def stateSite (s : CState) : Nat := if s.toNat ≤ 6 then 0 else if s.toNat ≤ 10 then 1 else 2

/-- invariant of the connection record (holds between any two calls of the functions below) -/
def Inv {σ} (c : Conn σ) : Prop :=
  (c.response.isSome = true → 11 ≤ c.state.toNat ∧ c.state.toNat ≤ 21) ∧
  (c.stopWithError = true → 13 ≤ c.state.toNat) ∧
  (c.stopWithError = true → c.discard = true) ∧
  (c.state = .closed → c.clientAware = false ∧ c.response = none) ∧
  (c.clientAware = false → c.state.toNat ≤ 5 → c.ctx = none ∧ c.upOff = 0) ∧
  (c.inCleanup = true → 22 ≤ c.state.toNat ∧ c.clientAware = false ∧ c.response = none) ∧
  (6 ≤ c.state.toNat → c.state.toNat ≤ 12 → c.clientAware = true) ∧
  (c.state.toNat ≤ 1 → c.clientAware = false) ∧
  (c.stopWithError = true → c.response = none ∨ c.response = some errResp) ∧
  (c.clientAware = false → c.response = none ∨ c.response = some errResp)

/-- a response is queued, or the connection has been handed over by an upgrade response -/
def respOrUpg {σ} (c : Conn σ) : Bool := c.response.isSome || decide (c.state.toNat = 23)

/-- the refinement relation between the connection and the protocol automaton -/
def Rel {σ} (c : Conn σ) : PSt → Prop
  | .fresh => c.started = false ∧ c.cleaned = false ∧ c.clientAware = false ∧ Inv c
  | .closed => c.started = true ∧ c.cleaned = true
  | .bad => False
  | .idle => c.started = true ∧ c.cleaned = false ∧ c.clientAware = false ∧ Inv c
  | .req r => c.started = true ∧ c.cleaned = false ∧ c.clientAware = true ∧ Inv c ∧
      r.ctx = c.ctx ∧ r.nextOff = c.upOff ∧ r.replied = respOrUpg c ∧ r.failed = false ∧
      r.site.rank ≤ stateSite c.state ∧ (r.handlerSeen = false → c.state.toNat ≤ 5 ∨ r.replied = true) ∧
      r.upgraded = decide (c.state.toNat = 23)

@[simp] theorem step_fresh_start : Protocol.step .fresh .connStart = .idle := rfl
@[simp] theorem step_idle_close : Protocol.step .idle .connClose = .closed := rfl
@[simp] theorem step_idle_uri (x : Option Nat) : Protocol.step .idle (.uriLog x) =
    .req { handlerSeen := false, site := .first, ctx := x, nextOff := 0, replied := false, failed := false } := rfl
@[simp] theorem step_idle_handler (site : Site) (off len taken : Nat) (ci co : Option Nat) (ret : Bool) :
    Protocol.step .idle (.handler site off len taken ci co ret) =
    handlerStep { handlerSeen := false, site := .first, ctx := none, nextOff := 0, replied := false, failed := false }
      site off len taken ci co ret := rfl
@[simp] theorem step_req_handler (q : ReqSt) (site : Site) (off len taken : Nat) (ci co : Option Nat) (ret : Bool) :
    Protocol.step (.req q) (.handler site off len taken ci co ret) = handlerStep q site off len taken ci co ret := rfl
@[simp] theorem step_req_queued (q : ReqSt) :
    Protocol.step (.req q) .queued = if q.replied then .bad else .req { q with replied := true } := rfl
@[simp] theorem step_idle_queued : Protocol.step .idle .queued = .idle := rfl
@[simp] theorem step_req_completed (q : ReqSt) (code : Nat) (x : Option Nat) :
    Protocol.step (.req q) (.completed code x) = if x = q.ctx then .idle else .bad := rfl
@[simp] theorem step_idle_invalidate : Protocol.step .idle .invalidate = .idle := rfl
@[simp] theorem step_idle_freeCb (n : Nat) : Protocol.step .idle (.freeCb n) = .idle := rfl
@[simp] theorem step_req_freeCb (q : ReqSt) (n : Nat) : Protocol.step (.req q) (.freeCb n) = .req q := rfl
@[simp] theorem step_req_interimSent (q : ReqSt) :
    Protocol.step (.req q) .interimSent =
      if q.replied && !q.upgraded then .req { q with replied := false, site := .first } else .bad := rfl
@[simp] theorem step_req_upgrade (q : ReqSt) :
    Protocol.step (.req q) .upgrade = if q.replied && !q.upgraded then .req { q with upgraded := true } else .bad := rfl
@[simp] theorem step_closed_freeCb (n : Nat) : Protocol.step .closed (.freeCb n) = .closed := rfl

/-- weak precondition of the closing functions -/
def Open {σ} (c : Conn σ) : PSt → Prop
  | .idle => c.started = true ∧ c.cleaned = false ∧ c.clientAware = false
  | .req r => c.started = true ∧ c.cleaned = false ∧ c.clientAware = true ∧ r.ctx = c.ctx
  | _ => False

@[simp] theorem run_nil (p : PSt) : Protocol.run p [] = p := rfl
@[simp] theorem run_cons (p : PSt) (e : LEv) (l : List LEv) :
    Protocol.run p (e :: l) = Protocol.run (Protocol.step p e) l := rfl

/-- the relation for a connection between its start notification and the moment it is freed -/
def Live {σ} (c : Conn σ) (p : PSt) : Prop := Rel c p ∧ c.started = true ∧ c.cleaned = false

/-- what an operation on a live connection guarantees about its result -/
def Post {σ} (p : PSt) (o : Out σ) : Prop := Live o.1 (Protocol.run p o.2)

theorem Post.append {σ} {p : PSt} {c2 : Conn σ} {l1 l2 : List LEv} (h : Post (Protocol.run p l1) (c2, l2)) :
    Post p (c2, l1 ++ l2) := by
  unfold Post; rw [Protocol.run_append]; exact h

theorem Post.pair {σ} {p : PSt} {o : Out σ} (h : Post p o) : Post p (o.1, o.2) := h

theorem Rel.inv {σ} {c : Conn σ} {p : PSt} (h : Rel c p) (hc : c.cleaned = false) : Inv c := by
  cases p
  case fresh | idle => exact h.2.2.2
  case req q => exact h.2.2.2.1
  case closed => exact absurd (h.2.symm.trans hc) (by decide)
  case bad => exact h.elim

theorem Live.inv {σ} {c : Conn σ} {p : PSt} (h : Live c p) : Inv c := h.1.inv h.2.2

theorem Live.open {σ} {c : Conn σ} {p : PSt} (h : Live c p) : Open c p := by
  obtain ⟨h, hs, hc⟩ := h
  cases p
  case idle => exact ⟨hs, hc, h.2.2.1⟩
  case req q => exact ⟨hs, hc, h.2.2.1, h.2.2.2.2.1⟩
  case fresh => exact absurd (h.1.symm.trans hs) (by decide)
  case closed => exact absurd (h.2.symm.trans hc) (by decide)
  case bad => exact h

theorem Open.inside {σ} {c : Conn σ} {p : PSt} (h : Open c p) : p = .idle ∨ ∃ q, p = .req q := by
  cases p
  case idle => exact .inl rfl
  case req q => exact .inr ⟨q, rfl⟩
  all_goals exact h.elim

theorem Live.inside {σ} {c : Conn σ} {p : PSt} (h : Live c p) : p = .idle ∨ ∃ q, p = .req q := h.open.inside

theorem Live.stopDiscard {σ} {c : Conn σ} {p : PSt} (h : Live c p) : c.stopWithError = true → c.discard = true :=
  h.inv.2.2.1

theorem Inv.resp_none {σ} {c : Conn σ} (h : Inv c) (hst : ¬ (11 ≤ c.state.toNat ∧ c.state.toNat ≤ 21)) :
    c.response = none := by
  cases hh : c.response
  · rfl
  · exact absurd (h.1 (by rw [hh]; rfl)) hst

theorem Live.resp_none {σ} {c : Conn σ} {p : PSt} (h : Live c p) (hst : c.state.toNat ≤ 10) : c.response = none :=
  h.inv.resp_none (by omega)

theorem Live.swe_false {σ} {c : Conn σ} {p : PSt} (h : Live c p) (hst : c.state.toNat ≤ 12) :
    c.stopWithError = false := by
  cases hh : c.stopWithError
  · rfl
  · have := h.inv.2.1 hh; omega

theorem Live.notCleanup {σ} {c : Conn σ} {p : PSt} (h : Live c p) (hst : c.state.toNat ≤ 21) : c.inCleanup = false := by
  cases hh : c.inCleanup
  · rfl
  · have := (h.inv.2.2.2.2.2.1 hh).1; omega

theorem Open.congr {σ} {c c2 : Conn σ} {p : PSt} (h : Open c p) (e1 : c2.started = c.started := by rfl)
    (e2 : c2.cleaned = c.cleaned := by rfl) (e3 : c2.clientAware = c.clientAware := by rfl)
    (e4 : c2.ctx = c.ctx := by rfl) : Open c2 p := by
  cases p <;> simp only [Open, e1, e2, e3, e4] at h ⊢ <;> exact h

theorem Live.congr {σ} {c c2 : Conn σ} {p : PSt} (h : Live c p)
    (e1 : c2.started = c.started := by rfl) (e2 : c2.cleaned = c.cleaned := by rfl)
    (e3 : c2.inCleanup = c.inCleanup := by rfl) (e4 : c2.state = c.state := by rfl)
    (e5 : c2.clientAware = c.clientAware := by rfl) (e6 : c2.ctx = c.ctx := by rfl)
    (e7 : c2.upOff = c.upOff := by rfl) (e8 : c2.response = c.response := by rfl)
    (e9 : c2.stopWithError = c.stopWithError := by rfl) (e10 : c2.discard = c.discard := by rfl) : Live c2 p := by
  unfold Live at h ⊢
  rw [e1, e2]
  refine ⟨?_, h.2⟩
  cases p <;> simp only [Rel, Inv, respOrUpg, e1, e2, e3, e4, e5, e6, e7, e8, e9, e10] at h ⊢ <;> exact h.1

/-- A change of state that the relation tolerates when nothing else it speaks of changes: forward, or anywhere
    among the reply states HEADERS_SENDING … FULL_REPLY_SENT; never into or out of CLOSED and UPGRADE. -/
def Forward (s s' : CState) : Prop := s.toNat ≤ 21 ∧ s'.toNat ≤ 21 ∧ (s.toNat ≤ s'.toNat ∨ 13 ≤ s'.toNat)

instance (s s' : CState) : Decidable (Forward s s') := by unfold Forward; infer_instance

theorem Forward.site {s s' : CState} (h : Forward s s') : stateSite s ≤ stateSite s' := by
  obtain ⟨-, -, h⟩ := h
  unfold stateSite
  (repeat' split) <;> omega

/-- `hx`: a change of state across the first handler call (out of HEADERS_PROCESSED and what precedes it) needs the
    handler to have been called. -/
theorem Live.restate {σ} {c c2 : Conn σ} {p : PSt} {s : CState} (h : Live c p) (hs : c.state = s) (s' : CState)
    (hf : Forward s s')
    (hx : (∃ r, p = .req r ∧ r.handlerSeen = true) ∨ s'.toNat ≤ 5 ∨ 6 ≤ s.toNat := by exact .inr (by decide))
    (hs' : c2.state = s' := by rfl) (e1 : c2.started = c.started := by rfl) (e2 : c2.cleaned = c.cleaned := by rfl)
    (e3 : c2.inCleanup = c.inCleanup := by rfl) (e5 : c2.clientAware = c.clientAware := by rfl)
    (e6 : c2.ctx = c.ctx := by rfl) (e7 : c2.upOff = c.upOff := by rfl) (e8 : c2.response = c.response := by rfl)
    (e9 : c2.stopWithError = c.stopWithError := by rfl) (e10 : c2.discard = c.discard := by rfl) : Live c2 p := by
  have hsite := hf.site
  obtain ⟨f0, f1, f2⟩ := hf
  have hinv := h.inv
  have hin := h.inside
  obtain ⟨h, hst, hcl⟩ := h
  have hi2 : Inv c2 := by
    unfold Inv at hinv ⊢
    rw [e3, e5, e6, e7, e8, e9, e10, hs']
    rw [hs] at hinv
    obtain ⟨b1, b2, b3, b4, b5, b6, b7, b8, b9, b10⟩ := hinv
    refine ⟨fun x => ?_, fun x => ?_, b3, fun x => ?_, fun x y => b5 x (by omega), fun x => ?_, fun x y => ?_,
      fun x => b8 (by omega), b9, b10⟩
    · have := b1 x; omega
    · have := b2 x; omega
    · rw [x] at f1; exact absurd f1 (by decide)
    · have := (b6 x).1; omega
    · rcases hx with ⟨r, rfl, -⟩ | hx | hx
      · exact h.2.2.1
      · omega
      · exact b7 hx (by omega)
  refine ⟨?_, e1 ▸ hst, e2 ▸ hcl⟩
  rcases hin with rfl | ⟨q, rfl⟩
  · exact ⟨e1 ▸ h.1, e2 ▸ h.2.1, e5 ▸ h.2.2.1, hi2⟩
  · obtain ⟨a1, a2, a3, -, d1, d2, d3, d4, d5, d6, d7⟩ := h
    have h23 : ∀ n : Nat, n ≤ 21 → decide (n = 23) = false := fun n hn => decide_eq_false (by omega)
    have hrou : respOrUpg c2 = respOrUpg c := by
      unfold respOrUpg; rw [e8, hs', hs, h23 _ f1, h23 _ f0]
    rw [hs] at d5 d6 d7
    refine ⟨e1 ▸ a1, e2 ▸ a2, e5 ▸ a3, hi2, e6 ▸ d1, e7 ▸ d2, hrou ▸ d3, d4, hs' ▸ Nat.le_trans d5 hsite,
      fun x => ?_, ?_⟩
    · rw [hs']
      rcases hx with ⟨r, hr, hseen⟩ | hx | hx
      · cases hr; rw [hseen] at x; cases x
      · exact .inl hx
      · exact (d6 x).imp_left (fun _ => by omega)
    · rw [hs', h23 _ f1]; rw [h23 _ f0] at d7; exact d7

theorem Open.live {σ} {c : Conn σ} {p : PSt} (h : Open c p) : c.started = true ∧ c.cleaned = false := by
  rcases h.inside with rfl | ⟨q, rfl⟩ <;> exact ⟨h.1, h.2.1⟩

theorem Open.freeCb {σ} {c : Conn σ} {p : PSt} (h : Open c p) (n : Nat) : Protocol.step p (.freeCb n) = p := by
  rcases h.inside with rfl | ⟨q, rfl⟩ <;> rfl

theorem Inv.closed {σ} {c : Conn σ} (hst : c.state = .closed) (ha : c.clientAware = false) (hr : c.response = none)
    (hsd : c.stopWithError = true → c.discard = true) : Inv c := by
  unfold Inv
  rw [hst, ha, hr]
  exact ⟨nofun, fun _ => by decide, hsd, fun _ => ⟨rfl, rfl⟩, fun _ x => absurd x (by decide),
    fun _ => ⟨by decide, rfl, rfl⟩, fun _ x => absurd x (by decide), fun x => absurd x (by decide),
    fun _ => .inl rfl, fun _ => .inl rfl⟩

theorem Inv.init {σ} {c : Conn σ} (hst : c.state = .init) (ha : c.clientAware = false) (hr : c.response = none)
    (hswe : c.stopWithError = false) (hic : c.inCleanup = false) (hctx : c.ctx = none) (hup : c.upOff = 0) : Inv c := by
  unfold Inv
  rw [hst, ha, hr, hswe, hic]
  exact ⟨nofun, nofun, nofun, nofun, fun _ _ => ⟨hctx, hup⟩, nofun, fun x => absurd x (by decide), fun _ => rfl,
    fun _ => .inl rfl, fun _ => .inl rfl⟩

theorem run_dropResp {σ} (c : Conn σ) {p : PSt} (hp : ∀ n, Protocol.step p (.freeCb n) = p) :
    Protocol.run p (dropResp c).2 = p := by
  unfold dropResp
  split
  · rfl
  · split
    · exact hp _
    · rfl

theorem Post.dropResp {σ} {c : Conn σ} {p : PSt} (h : Live { c with response := none } p) : Post p (dropResp c) := by
  unfold Post
  rw [dropResp_fst, run_dropResp _ h.open.freeCb]
  exact h

theorem run_notify {σ} {c : Conn σ} {p : PSt} (code : Nat) (h : Open c p) : Protocol.run p (notify c code).2 = .idle := by
  unfold notify
  rcases h.inside with rfl | ⟨q, rfl⟩
  · rw [if_neg (by rw [h.2.2]; decide)]; rfl
  · rw [if_pos h.2.2.1]
    show (if c.ctx = q.ctx then PSt.idle else .bad) = .idle
    rw [if_pos h.2.2.2.symm]

theorem closeConn_run {σ} {c : Conn σ} {p : PSt} (code : Nat) (h : Open c p) :
    Protocol.run p (closeConn c code).2 = .idle := by
  show Protocol.run p ((notify c code).2 ++ (dropResp (notify c code).1).2) = .idle
  rw [Protocol.run_append, run_notify code h]
  exact run_dropResp _ (fun _ => rfl)

theorem closeConn_post {σ} {c : Conn σ} {p : PSt} (code : Nat) (h : Open c p)
    (hsd : c.stopWithError = true → c.discard = true) : Post p (closeConn c code) := by
  unfold Post
  rw [closeConn_run code h, closeConn_fst]
  exact ⟨⟨h.live.1, h.live.2, rfl, .closed rfl rfl rfl hsd⟩, h.live⟩

theorem closeError_post {σ} {c : Conn σ} {p : PSt} (h : Open c p) : Post p (closeError c) :=
  closeConn_post _ h.congr (fun _ => rfl)

theorem closeConn_eq {σ} {c c' : Conn σ} {l : List LEv} {p : PSt} {code : Nat}
    (heq : closeConn c code = (c', l)) (h : Open c p)
    (hsd : c.stopWithError = true → c.discard = true) :
    Protocol.run p l = .idle ∧ Rel c' .idle ∧ c'.state = .closed ∧ c'.inCleanup = c.inCleanup := by
  have h1 := closeConn_run code h
  have h2 := closeConn_post code h hsd
  have h3 := closeConn_fst c code
  unfold Post at h2
  rw [h1] at h2
  rw [heq] at h1 h2 h3
  exact ⟨h1, h2.1, by rw [show c' = _ from h3], by rw [show c' = _ from h3]⟩

theorem Live.idle_of_unaware {σ} {c : Conn σ} {p : PSt} (h : Live c p) (ha : c.clientAware = false) : p = .idle := by
  rcases h.inside with rfl | ⟨q, rfl⟩
  · rfl
  · exact absurd (h.1.2.2.1.symm.trans ha) (by decide)

theorem Live.req_of_aware {σ} {c : Conn σ} {p : PSt} (h : Live c p) (ha : c.clientAware = true) : ∃ q, p = .req q := by
  rcases h.inside with rfl | h'
  · exact absurd (h.1.2.2.1.symm.trans ha) (by decide)
  · exact h'

theorem cleanupConnection_post {σ} {c : Conn σ} {p : PSt} (h : Live c p) (hst : c.state = .closed) :
    Post p (cleanupConnection c) := by
  obtain ⟨ha, hr⟩ := h.inv.2.2.2.1 hst
  have hrun : Protocol.run p (cleanupConnection c).2 = p := by
    unfold cleanupConnection
    split
    · rfl
    · exact run_dropResp _ h.open.freeCb
  unfold Post
  rw [hrun, cleanupConnection_fst]
  split
  · exact h
  · cases h.idle_of_unaware ha
    exact ⟨⟨h.2.1, h.2.2, ha, .closed hst ha rfl h.stopDiscard⟩, h.2⟩

/-- A response is queued for a connection that holds none: the automaton records it as the one response of the
    request it has open (or ignores MHD's own reply to a request that was never presented). -/
theorem Live.queued {σ} {c c2 : Conn σ} {p : PSt} {r : Resp} (h : Live c p) (hr : c.response = none)
    (hst : c.state.toNat ≤ 21) (hi2 : Inv c2) (s' : CState) (e4 : c2.state = s') (hs' : 11 ≤ s'.toNat ∧ s'.toNat ≤ 21)
    (e8 : c2.response = some r) (e1 : c2.started = c.started := by rfl) (e2 : c2.cleaned = c.cleaned := by rfl)
    (e5 : c2.clientAware = c.clientAware := by rfl) (e6 : c2.ctx = c.ctx := by rfl)
    (e7 : c2.upOff = c.upOff := by rfl) : Live c2 (Protocol.run p [.queued]) := by
  have hin := h.inside
  obtain ⟨h, hs, hc⟩ := h
  refine ⟨?_, e1 ▸ hs, e2 ▸ hc⟩
  rcases hin with rfl | ⟨q, rfl⟩
  · exact ⟨e1 ▸ h.1, e2 ▸ h.2.1, e5 ▸ h.2.2.1, hi2⟩
  · obtain ⟨a1, a2, a3, -, d1, d2, d3, d4, -, -, d7⟩ := h
    have h23 : decide (c.state.toNat = 23) = false := decide_eq_false (by omega)
    have hrep : q.replied = false := by rw [d3]; unfold respOrUpg; rw [hr, h23]; rfl
    show Rel c2 (if q.replied = true then .bad else .req { q with replied := true })
    rw [if_neg (by rw [hrep]; decide)]
    refine ⟨e1 ▸ a1, e2 ▸ a2, e5 ▸ a3, hi2, e6 ▸ d1, e7 ▸ d2, ?_, d4, ?_, fun _ => .inr rfl, ?_⟩
    · unfold respOrUpg; rw [e8]; rfl
    · have : stateSite s' = 2 := by unfold stateSite; rw [if_neg (by omega), if_neg (by omega)]
      rw [e4, this]; exact Site.rank_le_two _
    · rw [e4]; exact d7.trans (h23.trans (decide_eq_false (by omega)).symm)

/-- the environment does not exercise a path that is known to be defective in an unrepaired tree -/
def EnvOk (cfg : Cfg) (env : IdleEnv) : Prop :=
  (cfg.f9Fixed = true ∨ env.chunkExt = false) ∧
  (cfg.allocBypassFixed = true ∨ env.errAllocFail = false) ∧
  (cfg.epollBypassFixed = true ∨ env.epollAdd ≠ some false) ∧
  ((cfg.f14Fixed = true ∧ cfg.f14ClearsAware = true) ∨ env.errHdrFail1 = false)

theorem connectionReset_post {σ} {c : Conn σ} {p : PSt} (reuse : Bool) (h : Live c p) (hst : c.state = .fullReplySent)
    (hre : reuse = true → c.discard = false) : Post p (connectionReset c reuse) := by
  unfold Post
  rw [connectionReset_fst]
  cases reuse
  · show Live _ (Protocol.run p (closeConn c _).2)
    rw [closeConn_run _ h.open]
    exact ⟨⟨h.2.1, h.2.2, rfl, .closed rfl rfl rfl h.stopDiscard⟩, h.2⟩
  · show Live _ (Protocol.run p ((notify c _).2 ++ (dropResp (notify c _).1).2))
    rw [Protocol.run_append, run_notify _ h.open, run_dropResp _ (fun _ => rfl)]
    have hswe : c.stopWithError = false := by
      cases hh : c.stopWithError
      · rfl
      · exact absurd ((h.stopDiscard hh).symm.trans (hre rfl)) (by decide)
    have hic := h.notCleanup (by rw [hst]; decide)
    exact ⟨⟨h.2.1, h.2.2, rfl, .init rfl rfl rfl hswe hic rfl rfl⟩, h.2⟩

theorem Inv.errReply {σ} {c : Conn σ} (hst : c.state = .headersSending) (hr : c.response = some errResp)
    (hsw : c.stopWithError = true) (hd : c.discard = true) (hic : c.inCleanup = false) : Inv c := by
  unfold Inv
  rw [hst, hr, hsw, hd, hic]
  exact ⟨fun _ => by decide, fun _ => by decide, fun _ => rfl, nofun, fun _ x => absurd x (by decide), nofun,
    fun _ x => absurd x (by decide), fun x => absurd x (by decide), fun _ => .inr rfl, fun _ => .inr rfl⟩

theorem transmitError_post {σ} (cfg : Cfg) (env : IdleEnv) {c : Conn σ} {p : PSt} (h : Live c p)
    (hok : EnvOk cfg env) (hst : c.state.toNat ≤ 10) : Post p (transmitError cfg env c) := by
  have hswe := h.swe_false (by omega)
  have hresp := h.resp_none hst
  have hic := h.notCleanup (by omega)
  have hlt : lt .startReply c.state = false := decide_eq_false (by show ¬ 12 < c.state.toNat; omega)
  simp only [transmitError, hswe, hlt, dropResp, hresp, Bool.false_eq_true, if_false, List.nil_append]
  have hclose : ∀ c0 : Conn σ, c0.started = c.started → c0.cleaned = c.cleaned → c0.clientAware = c.clientAware →
      c0.ctx = c.ctx → Post p ((closeError c0).1, (closeError c0).2) :=
    fun c0 e1 e2 e3 e4 => (closeError_post (h.open.congr e1 e2 e3 e4)).pair
  by_cases ha : env.errAllocFail = true
  · rw [if_pos ha, if_pos (hok.2.1.resolve_right (by rw [ha]; decide))]
    exact hclose _ rfl rfl rfl rfl
  rw [if_neg ha]
  by_cases hsd : env.shutdown = true
  · rw [if_pos hsd]; exact hclose _ rfl rfl rfl rfl
  rw [if_neg hsd]
  have hq : ∀ c2 : Conn σ, c2.started = c.started → c2.cleaned = c.cleaned → c2.inCleanup = c.inCleanup →
      c2.clientAware = c.clientAware → c2.ctx = c.ctx → c2.upOff = c.upOff → c2.state = .headersSending →
      c2.response = some errResp → c2.stopWithError = true → c2.discard = true → Post p (c2, [.queued]) :=
    fun c2 e1 e2 e3 e5 e6 e7 e4 e8 e9 e10 => h.queued hresp (by omega) (.errReply e4 e8 e9 e10 (e3.trans hic))
      .headersSending e4 (by decide) e8 e1 e2 e5 e6 e7
  by_cases h1 : env.errHdrFail1 = true
  · obtain ⟨f1, f2⟩ := hok.2.2.2.resolve_right (by rw [h1]; decide)
    rw [if_pos h1]
    simp only [releaseEverything_fixed f1 f2]
    -- the "No memory. Release everything." branch: completion callback if the request had been presented, then its
    -- strings are invalidated
    have hrun : ∀ c2 : Conn σ, c2.started = c.started → c2.cleaned = c.cleaned → c2.clientAware = c.clientAware →
        c2.ctx = c.ctx → Protocol.run p ([.queued] ++ ((notify c2 terminatedWithError).2 ++ [.invalidate])) = .idle := by
      intro c2 e1 e2 e3 e4
      have ho : Open c2 (Protocol.run p [.queued]) :=
        (hq { c2 with state := .headersSending, response := some errResp, stopWithError := true, discard := true,
                      inCleanup := c.inCleanup, upOff := c.upOff } e1 e2 rfl e3 e4 rfl rfl rfl rfl rfl).open.congr
      rw [Protocol.run_append, Protocol.run_append, run_notify _ ho]; rfl
    by_cases h2 : env.errHdrFail2 = true
    · rw [if_pos h2]
      refine Post.append (l1 := [.queued] ++ _) ?_
      rw [hrun]
      · refine Post.pair (closeError_post (p := .idle) ?_)
        exact ⟨h.2.1, h.2.2, rfl⟩
      all_goals rfl
    · rw [if_neg h2]
      unfold Post
      rw [hrun]
      · exact ⟨⟨h.2.1, h.2.2, rfl, .errReply rfl rfl rfl rfl hic⟩, h.2⟩
      all_goals rfl
  · rw [if_neg h1]; exact hq _ rfl rfl rfl rfl rfl rfl rfl rfl rfl rfl

end Mhd.ConnSM
