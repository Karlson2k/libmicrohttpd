/-
  C17 proofs: number parsing — `MHD_str_to_uint64_`, `MHD_str_to_uint64_n_`,
  `MHD_strx_to_uint32_`, `…32_n_`, `MHD_strx_to_uint64_`, `…64_n_`.

  Each equals "take the maximal run of digits; fail (0) iff the run is empty or
  its value exceeds the type's maximum; otherwise (length of the run, value)".
  The accumulation never wraps.  (The two decimal parsers: the step and the loop rule
  `dec_loop` here, the statements in `Mhd.Props.C17`.)
-/
import Mhd.Proofs.StrBase
import Mhd.Proofs.Numeral

namespace Mhd.Str

/-- value of a digit string in base `b`, digit values given by `f` -/
def valB (b : Nat) (f : UInt8 → Nat) (ds : Bytes) : Nat := ds.foldl (fun a d => a * b + f d) 0

def decDigitVal (d : UInt8) : Nat := d.toNat - 0x30
def hexDigitVal (d : UInt8) : Nat := (xval d).getD 0

def decVal : Bytes → Nat := valB 10 decDigitVal
def hexVal : Bytes → Nat := valB 16 hexDigitVal

def isXDigit (c : UInt8) : Bool := (xval c).isSome

def digitRun (s : Bytes) : Bytes := s.takeWhile isDigit
def xdigitRun (s : Bytes) : Bytes := s.takeWhile isXDigit

/-- result of every parsing function: `(characters consumed, value)`, `(0, 0)` on failure -/
def parseResult (run : Bytes) (v max : Nat) : Nat × Nat :=
  if run = [] ∨ v > max then (0, 0) else (run.length, v)

def parseDec (s : Bytes) : Nat × Nat := parseResult (digitRun s) (decVal (digitRun s)) u64Max
def parseHex (max : Nat) (s : Bytes) : Nat × Nat := parseResult (xdigitRun s) (hexVal (xdigitRun s)) max

theorem parseResult_fst_eq_zero_iff (run : Bytes) (v max : Nat) :
    (parseResult run v max).1 = 0 ↔ run = [] ∨ v > max := by
  unfold parseResult
  split
  · exact iff_of_true rfl ‹_›
  · exact ⟨fun h0 => .inl (List.length_eq_zero_iff.mp h0), fun h => absurd h ‹_›⟩

theorem valB_snoc (b f) (ds : Bytes) (d : UInt8) : valB b f (ds ++ [d]) = valB b f ds * b + f d := by
  simp [valB, List.foldl_append]

theorem valB_append_ge (b f) (hb : 1 ≤ b) (ds es : Bytes) : valB b f ds ≤ valB b f (ds ++ es) := by
  rw [valB, valB, List.foldl_append]
  exact Mhd.Num.foldl_ge b hb f es _

theorem parse_digitsB {b : Nat} {ch : Nat → UInt8} {f : UInt8 → Nat} {p : UInt8 → Bool} (hb : 0 < b)
    (hf : ∀ d < b, f (ch d) = d) (hp : ∀ d < b, p (ch d) = true) (k v max : Nat) (hv : v < b ^ (k + 1)) (hmax : v ≤ max) :
    parseResult ((Mhd.Num.digitsB b ch k v).takeWhile p) (valB b f ((Mhd.Num.digitsB b ch k v).takeWhile p)) max = (k + 1, v) := by
  have hval : valB b f (Mhd.Num.digitsB b ch k v) = v := by rw [valB, Mhd.Num.digitsB_val hb hf k v hv, Nat.zero_mul, Nat.zero_add]
  rw [List.takeWhile_all (Mhd.Num.digitsB_all hb hp k v hv), hval, parseResult, if_neg, Mhd.Num.digitsB_length]
  rintro (h | h)
  · exact absurd (congrArg List.length h) (by rw [Mhd.Num.digitsB_length]; exact Nat.succ_ne_zero k)
  · exact absurd h (Nat.not_lt.mpr hmax)

/-- generic invariant of all parsing loops: the first `i` characters are digits
    (so the run is them plus the run of the rest) and `res` is their value -/
def ParseInv (p : UInt8 → Bool) (b : Nat) (f : UInt8 → Nat) (max : Nat) (s : Bytes) (st : NumSt) : Prop :=
  st.i ≤ s.length ∧ s.takeWhile p = s.take st.i ++ (s.drop st.i).takeWhile p ∧
  st.res = valB b f (s.take st.i) ∧ st.res ≤ max

theorem parseInv_init (p b f max) (s : Bytes) : ParseInv p b f max s ⟨0, 0⟩ :=
  ⟨Nat.zero_le _, rfl, rfl, Nat.zero_le _⟩

theorem ParseInv.run_succ {p b f max s} {st : NumSt} (hi : ParseInv p b f max s st) (hlt : st.i < s.length)
    (hp : p s[st.i] = true) :
    s.takeWhile p = s.take (st.i + 1) ++ (s.drop (st.i + 1)).takeWhile p ∧
    valB b f (s.take (st.i + 1)) = st.res * b + f s[st.i] := by
  obtain ⟨_, hrun, hres, _⟩ := hi
  rw [List.take_succ_eq_append_getElem hlt, valB_snoc, ← hres, hrun, List.drop_eq_getElem_cons hlt,
    List.takeWhile_cons_of_pos hp, List.append_assoc]
  exact ⟨rfl, rfl⟩

theorem parse_overflow {p b f max s} (hb : 1 ≤ b) {st : NumSt} (hi : ParseInv p b f max s st)
    (hlt : st.i < s.length) (hp : p s[st.i] = true) (hov : st.res * b + f s[st.i] > max) :
    parseResult (s.takeWhile p) (valB b f (s.takeWhile p)) max = (0, 0) := by
  obtain ⟨hrun, hval⟩ := hi.run_succ hlt hp
  have hge := valB_append_ge b f hb (s.take (st.i + 1)) ((s.drop (st.i + 1)).takeWhile p)
  rw [← hrun, hval] at hge
  rw [parseResult, if_pos (.inr (Nat.lt_of_lt_of_le hov hge))]

theorem parse_advance {p b f max s} {st : NumSt} (hi : ParseInv p b f max s st)
    (hlt : st.i < s.length) (hp : p s[st.i] = true) (hov : st.res * b + f s[st.i] ≤ max) :
    ParseInv p b f max s ⟨st.i + 1, st.res * b + f s[st.i]⟩ :=
  have h := hi.run_succ hlt hp
  ⟨hlt, h.1, h.2.symm, hov⟩

theorem parse_stop {p b f max s} {st : NumSt} (hi : ParseInv p b f max s st)
    (hstop : (s.drop st.i).takeWhile p = []) :
    parseResult (s.takeWhile p) (valB b f (s.takeWhile p)) max = if st.i = 0 then (0, 0) else (st.i, st.res) := by
  obtain ⟨hle, hrun, hres, hmax⟩ := hi
  rw [hstop, List.append_nil] at hrun
  rw [hrun, ← hres, parseResult]
  by_cases h0 : st.i = 0
  · rw [if_pos h0, h0, List.take_zero, if_pos (.inl rfl)]
  · rw [if_neg h0, if_neg, List.length_take_of_le hle]
    exact fun h => h.elim (fun h => h0 (by rw [← List.length_take_of_le hle, h]; rfl)) (Nat.not_lt.mpr hmax)

theorem run_stops {p : UInt8 → Bool} {s : Bytes} {i : Nat} (h : ∀ hlt : i < s.length, p s[i] = false) :
    (s.drop i).takeWhile p = [] := by
  by_cases hlt : i < s.length
  · rw [List.drop_eq_getElem_cons hlt, List.takeWhile_cons_of_neg (by rw [h hlt]; exact Bool.false_ne_true)]
  · rw [List.drop_eq_nil_of_le (Nat.le_of_not_lt hlt)]; rfl

theorem isDigit_val (c : UInt8) (h : isDigit c = true) : decDigitVal c ≤ 9 := by
  simp only [isDigit, Bool.and_eq_true, decide_eq_true_eq, UInt8.le_iff_toNat_le] at h
  have h1 : c.toNat ≤ 0x39 := h.2
  rw [decDigitVal]; omega

theorem dec_guard (res digit : Nat) (hd : digit ≤ 9) :
    (res > u64Max / 10 ∨ (res = u64Max / 10 ∧ digit > u64Max % 10)) ↔ res * 10 + digit > u64Max := by
  simp only [u64Max, Mhd.Gen.Str.uint64Max]; omega

/-- the `do … while` loop is entered and re-entered only at a digit -/
def DecLoopInv (s : Bytes) (st : NumSt) : Prop :=
  ParseInv isDigit 10 decDigitVal u64Max s st ∧ ∃ h : st.i < s.length, isDigit s[st.i] = true

theorem strToUint64N_step (s : Bytes) (st : NumSt) (hi : DecLoopInv s st) :
    StepOk (strToUint64NStep s st) (fun s' => DecLoopInv s s' ∧ s'.i = st.i + 1) (· = parseDec s) := by
  obtain ⟨hi, hlt, hp⟩ := hi
  have hd := isDigit_val _ hp
  unfold strToUint64NStep
  simp only [rd_lt hlt, bind_ok', show s[st.i].toNat - 0x30 = decDigitVal s[st.i] from rfl, dec_guard st.res _ hd]
  by_cases hov : st.res * 10 + decDigitVal s[st.i] > u64Max
  · simp only [hov, if_true, pure_eq_ok]
    exact .inr ⟨_, rfl, (parse_overflow (by decide) hi hlt hp hov).symm⟩
  · have hadv := parse_advance hi hlt hp (Nat.le_of_not_lt hov)
    have hfin : (∀ h1 : st.i + 1 < s.length, isDigit s[st.i + 1] = false) →
        ((st.i + 1, st.res * 10 + decDigitVal s[st.i]) : Nat × Nat) = parseDec s := fun h =>
      ((parse_stop hadv (run_stops h)).trans (if_neg (Nat.succ_ne_zero _))).symm
    simp only [hov, if_false, Nat.mod_eq_of_lt (Nat.lt_succ_of_le (Nat.le_of_not_lt hov))]
    by_cases h1 : st.i + 1 < s.length
    · simp only [h1, if_true, rd_lt h1, bind_ok']
      cases hp1 : isDigit s[st.i + 1]
      · exact .inr ⟨_, rfl, hfin fun _ => hp1⟩
      · exact .inl ⟨_, rfl, ⟨hadv, h1, hp1⟩, rfl⟩
    · simp only [h1, if_false, pure_eq_ok]
      exact .inr ⟨_, rfl, hfin fun h => absurd h h1⟩

theorem parseDec_first_nondigit (s : Bytes) (h : ∀ h0 : 0 < s.length, isDigit s[0] = false) : parseDec s = (0, 0) := by
  have : digitRun s = [] := run_stops (i := 0) h
  rw [parseDec, this]; rfl

/-- both decimal parsers, given how one round of the loop behaves: a digit `s[0]` enters the loop -/
theorem dec_loop (s : Bytes) (step : NumSt → M (NumSt ⊕ (Nat × Nat))) (Inv : NumSt → Prop)
    (hstep : ∀ st, DecLoopInv s st ∧ Inv st →
      StepOk (step st) (fun s' => (DecLoopInv s s' ∧ Inv s') ∧ st.i < s'.i) (· = parseDec s))
    (h0 : 0 < s.length) (hinit : Inv ⟨0, 0⟩) :
    (do let c ← rd s 0
        if !isDigit c then return (0, 0)
        iter step (s.length + 1) ⟨0, 0⟩) = .ok (parseDec s) := by
  simp only [rd_lt h0, bind_ok']
  cases hd : isDigit s[0]
  · simp only [Bool.not_false, if_true, pure_eq_ok, parseDec_first_nondigit s fun _ => hd]
  · obtain ⟨r, hr, hp⟩ := iter_scan step (fun st => DecLoopInv s st ∧ Inv st) (·.i) s.length (fun r => r = parseDec s)
      (fun _ hi => hi.1.1.1) hstep (s.length + 1) (Nat.lt_succ_self _) ⟨0, 0⟩ ⟨⟨parseInv_init .., h0, hd⟩, hinit⟩
    simp only [Bool.not_true, Bool.false_eq_true, if_false, hr, hp]

theorem strToUint64Step_eq (s : Bytes) (st : NumSt) (h1 : st.i + 1 < s.length) :
    strToUint64Step s st = strToUint64NStep s st := by
  unfold strToUint64Step strToUint64NStep
  simp only [h1, if_true]

theorem hex_guard (max res d : Nat) (hd : d < 16) :
    (res > max / 16 ∨ (res = max / 16 ∧ d > max % 16)) ↔ res * 16 + d > max := by omega

theorem strxToUintN_step (max : Nat) (s : Bytes) (st : NumSt) (hi : ParseInv isXDigit 16 hexDigitVal max s st) :
    StepOk (strxToUintNStep max s st)
      (fun s' => ParseInv isXDigit 16 hexDigitVal max s s' ∧ s'.i = st.i + 1 ∧ ∃ x, s[st.i]? = some x ∧ isXDigit x = true)
      (· = parseHex max s) := by
  have hstop : (∀ hlt : st.i < s.length, isXDigit s[st.i] = false) → ((st.i, st.res) : Nat × Nat) = parseHex max s := fun h => by
    refine ((parse_stop hi (run_stops h)).trans ?_).symm
    by_cases h0 : st.i = 0
    · rw [if_pos h0, ← h0, hi.2.2.1, h0]; rfl
    · rw [if_neg h0]
  unfold strxToUintNStep
  by_cases hlt : st.i < s.length
  · simp only [hlt, if_true, rd_lt hlt, bind_ok']
    rcases toxdigit_cases s[st.i] with ⟨v, hx, hv, ht⟩ | ⟨hx, ht⟩
    · have hp : isXDigit s[st.i] = true := by rw [isXDigit, hx]; rfl
      have hdv : hexDigitVal s[st.i] = v := by rw [hexDigitVal, hx]; rfl
      simp only [ht, ge_iff_le, Int.natCast_nonneg, if_true, Int.toNat_natCast, hex_guard max st.res v hv]
      by_cases hov : st.res * 16 + v > max
      · simp only [hov, if_true, pure_eq_ok]
        exact .inr ⟨_, rfl, (parse_overflow (by decide) hi hlt hp (hdv ▸ hov)).symm⟩
      · simp only [hov, if_false, pure_eq_ok, Nat.mod_eq_of_lt (Nat.lt_succ_of_le (Nat.le_of_not_lt hov))]
        exact .inl ⟨_, rfl, hdv ▸ parse_advance hi hlt hp (hdv ▸ Nat.le_of_not_lt hov), rfl, _, List.getElem?_eq_getElem hlt, hp⟩
    · simp only [ht, ge_iff_le, Int.reduceNeg, Int.reduceLE, if_false, pure_eq_ok]
      exact .inr ⟨_, rfl, hstop fun _ => by rw [isXDigit, hx]; rfl⟩
  · simp only [hlt, if_false, pure_eq_ok]
    exact .inr ⟨_, rfl, hstop fun h => absurd h hlt⟩

/-- `MHD_strx_to_uint32_n_` / `MHD_strx_to_uint64_n_` = the reference hexadecimal parser -/
theorem strxToUintN_spec (max : Nat) (s : Bytes) : strxToUintN max s = .ok (parseHex max s) := by
  obtain ⟨r, hr, hp⟩ := iter_scan _ (ParseInv isXDigit 16 hexDigitVal max s) (·.i) s.length (fun r => r = parseHex max s)
    (fun _ hi => hi.1) (fun st hi => (strxToUintN_step max s st hi).imp
      (fun ⟨s', hs, hi', hii, _⟩ => ⟨s', hs, hi', hii ▸ Nat.lt_succ_self _⟩) id)
    (s.length + 1) (Nat.lt_succ_self _) ⟨0, 0⟩ (parseInv_init ..)
  rw [strxToUintN, hr, hp]

/-- inside the buffer the two loops differ only in how the overflow test is written -/
theorem strxToUintStep_eq (max : Nat) (s : Bytes) (st : NumSt) (hlt : st.i < s.length) :
    strxToUintStep max s st = strxToUintNStep max s st := by
  unfold strxToUintStep strxToUintNStep
  simp only [hlt, if_true]
  congr 1; funext c
  by_cases hd : toxdigitvalue c ≥ 0
  · simp only [hd, if_true]
    generalize max / 16 = q, max % 16 = m, (toxdigitvalue c).toNat = d
    by_cases hg : st.res > q ∨ (st.res = q ∧ d > m)
    · rw [if_pos hg, if_neg (by omega)]
    · rw [if_neg hg, if_pos (by omega)]
  · simp only [hd, if_false]

/-- `MHD_strx_to_uint32_` / `MHD_strx_to_uint64_` on a buffer containing a NUL -/
theorem strxToUint_spec (max : Nat) (s : Bytes) (hz : 0 ∈ s) : strxToUint max s = .ok (parseHex max s) := by
  obtain ⟨c, tail, rfl, -⟩ := exists_cstr s hz
  have hlen : c.length < (c ++ 0 :: tail).length := by rw [List.length_append, List.length_cons]; omega
  -- a round that goes on has seen a hexadecimal digit, so not the NUL
  obtain ⟨r, hr, hp⟩ := iter_scan (strxToUintStep max (c ++ 0 :: tail))
    (fun st => ParseInv isXDigit 16 hexDigitVal max (c ++ 0 :: tail) st ∧ st.i ≤ c.length)
    (·.i) c.length (fun r => r = parseHex max (c ++ 0 :: tail)) (fun _ hi => hi.2)
    (fun st ⟨hi, hic⟩ => by
      have hlt := Nat.lt_of_le_of_lt hic hlen
      rw [strxToUintStep_eq max _ st hlt]
      rcases strxToUintN_step max _ st hi with ⟨s', hs, hi', hii, x, hx, hxd⟩ | hr
      · refine .inl ⟨s', hs, ⟨hi', hii ▸ Nat.lt_of_le_of_ne hic ?_⟩, hii ▸ Nat.lt_succ_self _⟩
        rintro h
        rw [h, List.getElem?_append_right (Nat.le_refl _), Nat.sub_self] at hx
        obtain rfl : 0 = x := Option.some.inj hx
        exact absurd hxd (by decide)
      · exact .inr hr)
    ((c ++ 0 :: tail).length + 1) (Nat.lt_succ_of_lt hlen) ⟨0, 0⟩ ⟨parseInv_init .., Nat.zero_le _⟩
  rw [strxToUint, hr, hp]

end Mhd.Str
