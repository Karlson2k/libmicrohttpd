/-
  C17 proofs: the outer loop of `MHD_str_remove_token_caseless_` under its two invariants.
  `RmBnd`: it never reads beyond `str_len` / `token_len`, never writes beyond `*buf_size`,
  terminates, and reports a size within the buffer — for every input and **any** token, also
  an illegal one.  `OutInv`: for every permitted token it is the reference editor
  (`removeTokenOut`, `hasTokenSpec`), for every input and every buffer size.
-/
import Mhd.Proofs.StrRmFun

namespace Mhd.Str

def OuterPost (str : Bytes) (L : Nat) : RmRes → Prop
  | .fail => True
  | .done st => RmBnd str L st

theorem rmOuter_step (str token : Bytes) (L : Nat) (st : RmSt) (hb : RmBnd str L st) :
    (∃ s', rmOuterStep str token st = .ok (.inl s') ∧ RmBnd str L s' ∧
        (str.drop s'.s1).length < (str.drop st.s1).length) ∨
    (∃ r, rmOuterStep str token st = .ok (.inr r) ∧ OuterPost str L r) := by
  have hstep := rmOuterStep_cases str token L st hb _ rfl
  have hsuf := List.length_dropWhile_le isWsComma (str.drop st.s1)
  have hstop := dropWhile_stops isWsComma (str.drop st.s1)
  generalize (str.drop st.s1).dropWhile isWsComma = r1 at hstep hsuf hstop
  by_cases hnil : r1 = []
  · rw [if_pos hnil] at hstep
    obtain ⟨s1', hs, hstep⟩ := hstep
    exact Or.inr ⟨_, hstep, hs, hb.2⟩
  · rw [if_neg hnil] at hstep
    by_cases hm : FullMatch r1 token
    · rw [if_pos hm] at hstep
      obtain ⟨s1', hs, hd, hres⟩ := hstep
      refine Or.inl ⟨_, hres, ⟨hs, hb.2⟩, ?_⟩
      rw [hd]
      exact Nat.lt_of_lt_of_le (fullMatch_rest_lt r1 token hm) hsuf
    · rw [if_neg hm] at hstep
      obtain ⟨res, hadv, hres⟩ := hstep
      rw [hres]
      cases res with
      | none => exact Or.inr ⟨.fail, rfl, trivial⟩
      | some st2 =>
        obtain ⟨x, b, rfl, hx⟩ : ∃ x b, r1 = x :: b ∧ isWsComma x = false := hstop.resolve_left hnil
        refine Or.inl ⟨st2, rfl, hadv.1, ?_⟩
        rw [hadv.2.1]
        exact Nat.lt_of_lt_of_le (rest_lt_of_elem x b hx _) hsuf

theorem removeTokenOut_eq (str tok : Bytes) : removeTokenOut str tok = joinWith [0x2c, 0x20] (keptOut tok str) := rfl

theorem ceq_word (x y : UInt8) (h : charsEqualCaseless x y = true) (hy : y ≠ 0x20 ∧ y ≠ 0x09 ∧ y ≠ 0x2c) :
    isWordB x = true := by
  rw [isWordB_iff]
  refine ⟨?_, ?_, ?_⟩ <;> (intro hx; subst hx)
  · exact hy.2.2 (ceq_comma y h)
  · exact hy.1 (ceq_nonalpha _ y (by decide) h)
  · exact hy.2.1 (ceq_nonalpha _ y (by decide) h)

theorem matchLen_prefix_word (t : Bytes) (ht : ∀ x ∈ t, x ≠ 0x20 ∧ x ≠ 0x09 ∧ x ≠ 0x2c) (r : Bytes) :
    ∀ x ∈ r.take (matchLen r t), isWordB x = true := by
  induction t generalizing r with
  | nil => rw [matchLen_nil_right]; intro x hx; cases hx
  | cons y t' ih =>
    cases r with
    | nil => intro x hx; cases hx
    | cons x0 r' =>
      rw [matchLen_cons]
      by_cases he : charsEqualCaseless x0 y = true
      · rw [if_pos he, List.take_succ_cons]
        intro x hx
        rcases List.mem_cons.mp hx with h | h
        · rw [h]; exact ceq_word x0 y he (ht y List.mem_cons_self)
        · exact ih (fun z hz => ht z (List.mem_cons_of_mem _ hz)) r' x h
      · rw [if_neg he]; intro x hx; cases hx

theorem fullMatch_iff (t : Bytes) (hne : t ≠ []) (ht : ∀ x ∈ t, x ≠ 0x20 ∧ x ≠ 0x09 ∧ x ≠ 0x2c) (r : Bytes) :
    FullMatch r t ↔ elemIs r t = true := by
  have key : ∀ (t : Bytes), (∀ x ∈ t, x ≠ 0x20 ∧ x ≠ 0x09 ∧ x ≠ 0x2c) → ∀ r : Bytes,
      elemIs r t = true ↔ (matchLen r t = t.length ∧ headElem ((r.drop t.length).dropWhile isWs) = []) := by
    intro t
    induction t with
    | nil =>
      intro _ r
      rw [elemIs_nil, matchLen_nil_right]
      simp only [List.length_nil, List.drop_zero, true_and]
      exact all_ws_headElem_iff r
    | cons y t' ih =>
      intro ht r
      have hy := ht y List.mem_cons_self
      cases r with
      | nil => simp [elemIs, matchLen]
      | cons x r' =>
        rw [elemIs_cons, matchLen_cons]
        by_cases he : charsEqualCaseless x y = true
        · have hxc : (x != 0x2c) = true := by simp [((isWordB_iff x).mp (ceq_word x y he hy)).1]
          rw [hxc, he, Bool.true_and, Bool.true_and, if_pos rfl, List.length_cons, List.drop_succ_cons,
            ih (fun z hz => ht z (List.mem_cons_of_mem _ hz)) r']
          constructor
          · intro ⟨a, b⟩; exact ⟨congrArg (· + 1) a, b⟩
          · intro ⟨a, b⟩; exact ⟨Nat.succ.inj a, b⟩
        · rw [if_neg he]
          simp only [Bool.not_eq_true] at he
          simp [he]
  unfold FullMatch
  rw [key t ht r]
  exact ⟨fun ⟨a, _, c⟩ => ⟨a, c⟩, fun ⟨a, c⟩ => ⟨a, hne, c⟩⟩

theorem fullMatch_rest (t : Bytes) (ht : ∀ x ∈ t, x ≠ 0x20 ∧ x ≠ 0x09 ∧ x ≠ 0x2c) (r : Bytes) (hm : FullMatch r t) :
    (r.drop t.length).dropWhile isWs = restElems r := by
  have hpw := matchLen_prefix_word t ht r
  rw [hm.1] at hpw
  conv => rhs; rw [← List.take_append_drop t.length r]
  rw [restElems_append_word _ _ (fun y hy => isWordB_notComma (hpw y hy)), ← restElems_dropWhile_ws]
  exact (dropWhile_stop (headElem_nil_stops hm.2.2)).symm

/-- loop invariant of the outer loop: what has been written, followed by what the
    reference still owes for the rest of the input, is the reference output; the flag
    is the reference flag of the part already seen -/
def OutInv (str tok : Bytes) (L : Nat) (st : RmSt) : Prop :=
  RmBnd str L st ∧
  removeTokenOut str tok = st.out.take st.w ++ emitCS (decide (st.w = 0)) (keptOf tok (tokListOf (str.drop st.s1))) ∧
  hasTokenSpec str tok = (st.removed || (tokListOf (str.drop st.s1)).any (fun e => ceqBytes e tok))

def OutPost (str tok : Bytes) (L : Nat) : RmRes → Prop
  | .fail => ¬ (removeTokenOut str tok).length ≤ L
  | .done st => st.out.length = L ∧ st.w ≤ L ∧ removeTokenOut str tok = st.out.take st.w ∧
      st.removed = hasTokenSpec str tok

theorem normElem_ne_nil (x : UInt8) (t : Bytes) (hx : isWs x = false) : normElem (x :: t) ≠ [] := by
  unfold normElem
  rw [← restOutput_eq_norm _ (stopsAt_cons t hx)]
  unfold restOutput
  rw [List.takeWhile_cons_of_pos ((notWsB_true_iff x).mpr hx)]
  exact fun h => by cases h

/-- what the editor writes for an element that is not the token — the part the comparison went over, then the
    rest word by word — is the element normalised, and the scan stops where the element ends -/
theorem kept_elem (tok : Bytes) (htk : ∀ x ∈ tok, x ≠ 0x20 ∧ x ≠ 0x09 ∧ x ≠ 0x2c) (x : UInt8) (b : Bytes)
    (hx : isWsComma x = false) :
    (x :: b).take (matchLen (x :: b) tok) ++ restOutput (headElem ((x :: b).drop (matchLen (x :: b) tok))) =
      normElem (trimR (headElem (x :: b))) ∧
    restElems ((x :: b).drop (matchLen (x :: b) tok)) = restElems (x :: b) ∧
    normElem (trimR (headElem (x :: b))) ≠ [] := by
  obtain ⟨hxws, hxc⟩ := isWsComma_eq_false hx
  have hpw := matchLen_prefix_word tok htk (x :: b)
  generalize matchLen (x :: b) tok = k at hpw
  have hpc : ∀ y ∈ (x :: b).take k, notComma y = true := fun y hy => isWordB_notComma (hpw y hy)
  have hsplit := List.take_append_drop k (x :: b)
  have hst : StopsAt isWs (headElem (x :: b)) := by rw [headElem_cons x b hxc]; exact stopsAt_cons _ hxws
  refine ⟨?_, ?_, ?_⟩
  · rw [← trimWs_of_head_not_ws _ hst, normElem_trimWs]
    unfold normElem
    cases k with
    | zero => exact restOutput_eq_norm _ hst
    | succ k' =>
      conv => rhs; rw [← hsplit, headElem_append_word _ _ hpc]
      exact (norm_prefix _ _ (fun y hy => isWordB_notWs (hpw y hy)) (List.cons_ne_nil _ _)).symm
  · conv => rhs; rw [← hsplit]
    exact (restElems_append_word _ _ hpc).symm
  · rw [← trimWs_of_head_not_ws _ hst, normElem_trimWs, headElem_cons x b hxc]
    exact normElem_ne_nil x _ hxws

theorem rmOuter_exact_step (str tok : Bytes) (L : Nat) (hne : tok ≠ [])
    (htk' : ∀ x ∈ tok, x ≠ 0x20 ∧ x ≠ 0x09 ∧ x ≠ 0x2c) (st : RmSt) (hi : OutInv str tok L st) :
    (∃ s', rmOuterStep str tok st = .ok (.inl s') ∧ OutInv str tok L s' ∧
        (str.drop s'.s1).length < (str.drop st.s1).length) ∨
    (∃ r, rmOuterStep str tok st = .ok (.inr r) ∧ OutPost str tok L r) := by
  obtain ⟨hb, hg1, hg2⟩ := hi
  have hstep := rmOuterStep_cases str tok L st hb _ rfl
  have hsuf := List.length_dropWhile_le isWsComma (str.drop st.s1)
  have hstop := dropWhile_stops isWsComma (str.drop st.s1)
  rw [tokListOf_skip] at hg1 hg2
  generalize (str.drop st.s1).dropWhile isWsComma = r1 at hstep hsuf hstop hg1 hg2
  by_cases hnil : r1 = []
  · rw [if_pos hnil] at hstep
    obtain ⟨s1', _, hstep⟩ := hstep
    rw [hnil, tokListOf_nil] at hg1 hg2
    exact Or.inr ⟨_, hstep, hb.2.2, hb.2.1, by simpa [keptOf, emitCS] using hg1, by simpa using hg2.symm⟩
  · rw [if_neg hnil] at hstep
    obtain ⟨x, b, rfl, hx⟩ : ∃ x b, r1 = x :: b ∧ isWsComma x = false := hstop.resolve_left hnil
    obtain ⟨hxws, hxc⟩ := isWsComma_eq_false hx
    obtain ⟨hT, hTne⟩ := tokListOf_elem x b hx
    have helem := elemIs_eq (x :: b) tok htk'
    rw [hT, keptOf_cons] at hg1
    rw [hT, List.any_cons, ← helem] at hg2
    rw [← helem] at hg1
    by_cases hm : FullMatch (x :: b) tok
    · rw [if_pos hm] at hstep
      obtain ⟨s1', hs, hd, hres⟩ := hstep
      rw [fullMatch_rest tok htk' _ hm] at hd
      have hel := (fullMatch_iff tok hne htk' _).mp hm
      rw [hel, if_pos rfl] at hg1
      rw [hel] at hg2
      refine Or.inl ⟨_, hres, ⟨⟨hs, hb.2⟩, by rw [hd]; exact hg1, by rw [hd, hg2]; simp⟩, ?_⟩
      rw [hd]
      exact Nat.lt_of_lt_of_le (rest_lt_of_elem x b hx 0) hsuf
    · have hel : elemIs (x :: b) tok = false :=
        Bool.eq_false_iff.mpr (fun h => hm ((fullMatch_iff tok hne htk' _).mpr h))
      rw [hel, if_neg Bool.false_ne_true] at hg1
      rw [hel] at hg2
      rw [if_neg hm] at hstep
      obtain ⟨res, hadv, hres⟩ := hstep
      rw [hres]
      obtain ⟨hN, hrest, hNne⟩ := kept_elem tok htk' x b hx
      rw [hrest, List.append_assoc, hN] at hadv
      rw [emitCS] at hg1
      simp only [decide_eq_true_eq] at hg1
      cases res with
      | none =>
        refine Or.inr ⟨.fail, rfl, ?_⟩
        have hlt : L < st.w + _ := hadv
        show ¬ (removeTokenOut str tok).length ≤ L
        rw [hg1, List.length_append, List.length_take_of_le (hb.2.2.symm ▸ hb.2.1), List.length_append]
        exact Nat.not_le.mpr (Nat.lt_of_lt_of_le hlt (Nat.add_le_add_left (Nat.le_add_right _ _) _))
      | some st2 =>
        obtain ⟨hb2, hd2, hw2, ht2, hr2⟩ := hadv
        have hw2pos : st2.w ≠ 0 := by
          rw [hw2, List.length_append]
          exact Nat.ne_of_gt (Nat.lt_of_lt_of_le (List.length_pos_iff.mpr hNne)
            (Nat.le_trans (Nat.le_add_left _ _) (Nat.le_add_left _ _)))
        refine Or.inl ⟨st2, rfl, ⟨hb2, ?_, by rw [hd2, hg2, hr2]; simp⟩, ?_⟩
        · rw [hd2, hg1, ht2, decide_eq_false hw2pos]
          simp only [List.append_assoc]
        · rw [hd2]
          exact Nat.lt_of_lt_of_le (rest_lt_of_elem x b hx 0) hsuf

/-- the precondition `MHD_str_remove_token_caseless_` documents for its token (the `mhd_assert`s
    on entry), without the "no NUL" part, which the function does not need: non-empty, no
    space, tab or comma -/
def tokenLegal (tok : Bytes) : Bool := !tok.isEmpty && tok.all (fun x => x != 0x20 && x != 0x09 && x != 0x2c)

theorem tokenLegal_iff (tok : Bytes) :
    tokenLegal tok = true ↔ (tok ≠ [] ∧ ∀ x ∈ tok, x ≠ 0x20 ∧ x ≠ 0x09 ∧ x ≠ 0x2c) := by
  unfold tokenLegal
  cases tok with
  | nil => simp
  | cons a t => simp [and_assoc]

theorem tokenLegal_of_TokenOk (tok : Bytes) (h : TokenOk tok) : tokenLegal tok = true :=
  (tokenLegal_iff tok).mpr ⟨h.1, fun x hx => (h.2 x hx).2⟩

/-- the `SSIZE_MAX <= (str_len / 2) * 3 + 3` refusal does not wrap for any object size -/
theorem rm_refuse_nowrap (n : Nat) (h : n ≤ Mhd.Gen.Str.ssizeMax) : (n / 2 * 3 + 3) % 2 ^ 64 = n / 2 * 3 + 3 := by
  apply Nat.mod_eq_of_lt
  simp only [Mhd.Gen.Str.ssizeMax] at h
  omega

end Mhd.Str
