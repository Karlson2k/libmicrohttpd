/-
  `decode_payload_complete` on a data frame without FIN: nothing is handed out when the
  application wants whole messages, the complete characters are handed out when it wants
  fragments.  Then what such a frame, and a ping / pong frame in between, does to a message under
  assembly.
-/
import Mhd.Proofs.WSRoundCtrl
namespace Mhd.WS

theorem pc_assemble {ws W : WS} {b0 : UInt8} {t' u' : Nat} {d : List UInt8} (he : DataEnd ws W b0 t' u' d)
    (hfin : finBit b0 = false) (hw : ws.wantFragments = false) :
    payloadComplete false W = .cont { W with step := 0, hdrSize := 0, payloadIndex := 0 } 0 := by
  unfold payloadComplete
  simp only [he.hdr0, hfin, he.cfg.want, hw, Bool.false_eq_true, if_false]

/-- how many bytes of the assembled data `d` go out with a non-final fragment: all but the
    bytes of an unfinished character (text only) -/
def cutLen (t' u' : Nat) (d : List UInt8) : Nat := d.length - (if t' = 1 then givenUtf8 u' else 0)

/-- the allocation handed out for the first `k` bytes of `d` -/
def cutPl (d : List UInt8) (k : Nat) : Option (List UInt8) := if k = 0 then none else some ((d ++ [0]).set k 0)

theorem cutPl_full (d : List UInt8) : cutPl d d.length = plOf d := by
  unfold cutPl plOf
  by_cases hnb : d = []
  · rw [hnb]; rfl
  · rw [if_neg (fun hh => hnb (List.length_eq_zero_iff.mp hh)), if_neg hnb, List.set_eq_self]
    rw [List.getElem?_append_right (Nat.le_refl _)]
    simp

/-- a frame without FIN when the application wants fragments: the complete characters of the
    assembled bytes `d` are handed out at once (FIRST / NEXT fragment status); the bytes of an
    unfinished character (text only) stay in a buffer of their own for the next fragment -/
theorem pc_frag {ws W : WS} {b0 : UInt8} {t' u' : Nat} {d : List UInt8} (he : DataEnd ws W b0 t' u' d)
    (hfin : finBit b0 = false) (hw : ws.wantFragments = true) (hu10 : u' ≤ 10)
    (hg : t' = 1 → givenUtf8 u' ≤ d.length) (hd63 : d.length < 2 ^ 63) (hal4 : 4 ≤ ws.allocLimit) :
    ∃ W', payloadComplete false W =
        .ret W' (fragMark t' (if opcodeOf b0 = 0 then 0x20 else 0x10)) 0 (cutPl d (cutLen t' u' d)) (cutLen t' u' d) ∧
      W'.step = 0 ∧ (Inv W' → Bnd W' t' (d.drop (cutLen t' u' d)) u' ws.validity) ∧ Cfg ws W' := by
  have hcfg := he.cfg
  unfold payloadComplete
  simp only [he.hdr0, hfin, hcfg.want, hw, Bool.false_eq_true, if_false, if_true, he.dtype, he.u8, he.size]
  by_cases hc : t' = 1 ∧ u' ≠ 0
  · obtain ⟨rfl, hune⟩ := hc
    obtain ⟨hg1, hg3⟩ := givenUtf8_bounds u' hune hu10
    have hg := hg rfl
    have hk : cutLen 1 u' d = d.length - givenUtf8 u' := by unfold cutLen; rw [if_pos rfl]
    rw [if_pos ⟨rfl, hune⟩, hk]
    generalize givenUtf8 u' = g at hg1 hg3 hg
    have hnl : (d.length + Mhd.WS.W - g) % Mhd.WS.W = d.length - g := by
      rw [Nat.sub_add_comm hg, Nat.add_mod_right]
      exact Nat.mod_eq_of_lt (Nat.lt_of_le_of_lt (Nat.sub_le ..) (Nat.lt_trans hd63 (by rw [W_eq]; decide)))
    rw [hnl]
    by_cases hne : d.length - g = 0
    · rw [if_neg (fun h => h hne), hne]
      exact ⟨_, rfl, rfl, fun hi => ⟨hi, rfl, he.val, rfl, fun _ => ⟨he.buf, rfl⟩, rfl⟩, hcfg⟩
    · have hdne : d ≠ [] := fun h => hne (by rw [h]; exact Nat.zero_sub _)
      have hdrop : (d.drop (d.length - g)).length = g := by rw [List.length_drop, Nat.sub_sub_self hg]
      have hsl : ((d ++ [0]).drop (d.length - g)).take g = d.drop (d.length - g) := by
        rw [List.drop_append_of_le_length (Nat.sub_le ..), List.take_append_of_le_length (Nat.le_of_eq hdrop.symm),
          List.take_of_length_le (Nat.le_of_eq hdrop)]
      have hwr := writeAt_acc [] (d.drop (d.length - g))
      simp only [List.nil_append, List.length_nil, hdrop] at hwr
      rw [if_pos hne, alloc_fresh W g (hcfg.2.2 ▸ Nat.le_trans (Nat.succ_le_succ hg3) hal4), he.buf, plOf_ne hdne]
      simp only [he.pos, List.length_append, List.length_cons, List.length_nil]
      have hterm : termAt (d ++ [0]) (d.length - g) = some ((d ++ [0]).set (d.length - g) 0) :=
        if_pos (by rw [List.length_append]; exact Nat.lt_succ_of_le (Nat.sub_le ..))
      have hcut : cutPl d (d.length - g) = some ((d ++ [0]).set (d.length - g) 0) := if_neg hne
      rw [if_neg (by omega), hsl, hwr, hterm, hcut]
      refine ⟨_, rfl, rfl, fun hi => ⟨hi, rfl, he.val, rfl, fun _ => ⟨?_, hdrop.symm⟩, rfl⟩, hcfg⟩
      exact (plOf_ne fun h => by rw [h, List.length_nil] at hdrop; omega).symm
  · have hk : cutLen t' u' d = d.length := by
      unfold cutLen
      by_cases h1 : t' = 1
      · have : u' = 0 := Classical.byContradiction fun h => hc ⟨h1, h⟩
        rw [if_pos h1, this]; rfl
      · rw [if_neg h1]; rfl
    rw [if_neg hc, hk, cutPl_full, List.drop_length, he.buf]
    exact ⟨_, rfl, rfl, fun hi => ⟨hi, rfl, he.val, rfl, fun _ => ⟨rfl, rfl⟩, rfl⟩, hcfg⟩

/-- **a data frame without FIN, assembling mode**: nothing is handed out, the payload is
    appended to the message under assembly, the validator state moves on -/
theorem data_frame_assemble {ws : WS} {t : Nat} {acc : List UInt8} {u : Nat} {masked : Bool} {mx al : Nat}
    (hb : Bnd ws t acc u 1) (hc : Recv ws masked false mx al) (b0 : UInt8) (hr : rsvBits b0 = 0)
    (hfin : finBit b0 = false) (t' : Nat) (hop : DataOp t acc b0 t') (p : List UInt8) (k : Key)
    (hfit : Fits mx al (acc.length + p.length)) (u' : Nat) (hu : U8 t' p u u') :
    ∃ ws', Run ws (wireOf masked b0 p k) [] (.more ws') ∧ Bnd ws' t' (acc ++ p) u' 1 ∧ Cfg ws ws' := by
  obtain ⟨W, he, hrun⟩ := data_frame_complete hb hc b0 hr t' hop p k hfit u' hu
  have hR := hrun (.of_cont (pc_assemble he hfin hc.want)) rfl
  exact ⟨_, hR, ⟨(hR.more_quiet hb.inv (by rw [hb.val]; decide) rfl).1, rfl, he.val.trans hb.val, he.dtype,
    fun _ => ⟨he.buf, he.size⟩, he.u8⟩, he.cfg⟩

theorem data_frame_fragment {ws : WS} {t : Nat} {acc : List UInt8} {u : Nat} {masked : Bool} {mx al : Nat}
    (hb : Bnd ws t acc u 1) (hc : Recv ws masked true mx al) (b0 : UInt8) (hr : rsvBits b0 = 0)
    (hfin : finBit b0 = false) (t' : Nat) (hop : DataOp t acc b0 t') (p : List UInt8) (k : Key)
    (hfit : Fits mx al (acc.length + p.length)) (hal4 : 4 ≤ al) (u' : Nat) (hu : U8 t' p u u') :
    ∃ ws', Run ws (wireOf masked b0 p k)
        [(fragMark t' (if opcodeOf b0 = 0 then 0x20 else 0x10), cutPl (acc ++ p) (cutLen t' u' (acc ++ p)),
          cutLen t' u' (acc ++ p))] (.more ws') ∧
      Bnd ws' t' ((acc ++ p).drop (cutLen t' u' (acc ++ p))) u' 1 ∧ Cfg ws ws' := by
  obtain ⟨W, he, hrun⟩ := data_frame_complete hb hc b0 hr t' hop p k hfit u' hu
  have hlt := hb.inv.allocLt
  have hal := hfit.2
  have hal' := hc.alloc
  obtain ⟨W', hpc, hst, hbnd, hcfg⟩ := pc_frag he hfin hc.want (hu.le hb.u8_le)
    (fun _ => List.length_append ▸ Nat.le_trans hu.given (Nat.add_le_add_right hb.carry _))
    (by rw [List.length_append]; omega) (hal' ▸ hal4)
  have hR := hrun (.of_ret hpc (fragMark_pos _ _ hop.ne_zero)) hst
  exact ⟨_, hR, hb.val ▸ hbnd (hR.more_quiet hb.inv (by rw [hb.val]; decide) rfl).1, hcfg⟩

theorem ctrl_frame {ws : WS} {t : Nat} {acc : List UInt8} {u : Nat} {masked want : Bool} {mx al : Nat}
    (hb : Bnd ws t acc u 1) (hc : Recv ws masked want mx al) (op : Nat) (hop : op = 9 ∨ op = 10) (p : List UInt8)
    (k : Key) (hn : p.length ≤ 125) (hfit : Fits mx al p.length) :
    ∃ ws', Run ws (wireOf masked (UInt8.ofNat (0x80 + op)) p k) [(Int.ofNat op, plOf p, p.length)] (.more ws') ∧
      Bnd ws' t acc u 1 ∧ Cfg ws ws' := by
  have hne : op ≠ 8 := by omega
  have hv : ws.validity ≠ 0 := by rw [hb.val]; decide
  obtain ⟨ws', hR, hsd, hval, hst⟩ := ctrl_frame_run hb.inv hb.step hv op (.inr hop) p hn (fun h => absurd h hne)
    (hc.max.symm ▸ hfit.1) (hc.alloc.symm ▸ hfit.2) (fun h => absurd h hne) masked hc.mask k
  exact ⟨ws', hR, ⟨(hR.more_quiet hb.inv hv rfl).1, hst, hval.trans ((if_neg hne).trans hb.val),
    hsd.1.trans hb.dtype,
    fun h => ⟨hsd.2.1.trans (hb.buf h).1, hsd.2.2.1.trans (hb.buf h).2⟩, hsd.2.2.2.1.trans hb.u8⟩, hsd.cfg⟩

end Mhd.WS
