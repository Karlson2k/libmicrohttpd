/-
  The cookie parser (`Mhd.Model.ReqCookie`).  One round of `parseCookiesString` is cut into stages
  (`closeQ` … `body`), equal to the model by `rfl`.  Fault freedom for all inputs is proved by
  postconditions in the `Except Fault` monad (`Ok`) that follow the code construct by construct; the
  round trip says that the canonical rendering `n1=v1; n2=v2; …` parses at every flag record to the
  strict result with exactly the cookies, in order.  At the end, what `lookupElem`
  (`MHD_lookup_connection_value_n`, by which `parseCookieHeader` finds the `Cookie` field) answers.
-/
import Mhd.Model.ReqCookie
import Mhd.Proofs.ReqBuf
namespace Mhd.Req
open Mhd.Gen
namespace CK

/-- closing quote of a quoted value -/
def closeQ (str : Bytes) (n : Nat) (quoted : Bool) (i : Nat) : Except Fault (Ctl Nat) :=
  if quoted then
    if n == i then pure (.ret .malformed) else do
      let c ← ckRd str i 98
      if c != 34 then pure (.ret .malformed) else pure (.go (i + 1))
  else pure (.go i)

/-- "Skip any whitespaces" after the value -/
def trail (F : CKFlags) (str : Bytes) (n : Nat) (i : Nat) (ns : Bool) : Except Fault (Ctl (Nat × Bool)) :=
  if n > i then do
    let b ← ckRd str i 99
    if isSpHt b then do
      let j ← ckSkipTrail str n (str.size + 1) (i + 1)
      if n > j then
        if !F.allowWspEmpty then pure (.ret .malformed) else pure (.go (j, true))
      else pure (.go (j, ns))
    else pure (.go (i, ns))
  else pure (.go (i, ns))

/-- the end-of-cookie check: end of string or ';' -/
def valEnd (str : Bytes) (n valueStart valueLen i : Nat) (ns : Bool) :
    Except Fault (Ctl (Nat × Nat × Nat × Bool)) :=
  if n == i then pure (.go (i, valueStart, valueLen, ns)) else do
    let c ← ckRd str i 100
    if c == 59 then pure (.go (i, valueStart, valueLen, ns)) else pure (.ret .malformed)

def value (F : CKFlags) (str : Bytes) (n : Nat) (i : Nat) (ns : Bool) :
    Except Fault (Ctl (Nat × Nat × Nat × Bool)) :=
  if n == i then pure (.go (i, 0, 0, ns)) else do
    let q ← ckRd str i 97
    let quoted := q == 34
    let i := if quoted then i + 1 else i
    let valueStart := i
    match ← ckValueEnd F str n quoted (str.size + 1) i ns with
    | .ret r => pure (.ret r)
    | .go (i, ns) =>
    let valueLen := i - valueStart
    match ← closeQ str n quoted i with
    | .ret r => pure (.ret r)
    | .go i =>
    match ← trail F str n i ns with
    | .ret r => pure (.ret r)
    | .go (i, ns) => valEnd str n valueStart valueLen i ns

/-- zero-terminate the value and build the element (`str` already has the name terminated) -/
def store (str : Bytes) (key : Slice) (valueStart valueLen : Nat) : Except Fault (Bytes × Elem) :=
  if valueLen != 0 then
    if valueStart + valueLen < str.size then
      pure (str.setIfInBounds (valueStart + valueLen) 0,
            ⟨Http.kindCookie, key, some ⟨1, valueStart, valueLen⟩⟩)
    else throw (Fault.write 102 (valueStart + valueLen))
  else pure (str, ⟨Http.kindCookie, key, some ⟨2, 0, 0⟩⟩)

/-- what follows a stored cookie: the separator and the next round -/
def next (F : CKFlags) (n : Nat) (rec : Bytes → Nat → Bool → List Elem → Except Fault CKOut)
    (str : Bytes) (i : Nat) (ns : Bool) (acc : List Elem) : Except Fault CKOut :=
  if n > i then do
    let i := i + 1
    if n == i then
      if !F.allowWspEmpty then pure ⟨.malformed, str, acc⟩
      else rec str i true acc
    else do
      let c ← ckRd str i 103
      if c != cSP then
        if c == cHT && F.tabAsSp then rec str (i + 1) true acc
        else if !F.allowNoSpace then pure ⟨.malformed, str, acc⟩
        else rec str i true acc
      else
        let i := i + 1
        if n == i then
          if !F.allowWspEmpty then pure ⟨.malformed, str, acc⟩
          else rec str i true acc
        else rec str i ns acc
  else rec str i ns acc

/-- one round of the main loop with the recursive call abstracted -/
def body (F : CKFlags) (n : Nat) (rec : Bytes → Nat → Bool → List Elem → Except Fault CKOut)
    (str : Bytes) (i : Nat) (ns : Bool) (acc : List Elem) : Except Fault CKOut :=
  if !(i < n) then pure ⟨if ns then .okLax else .ok, str, acc⟩ else do
  match ← ckSkipEmpty F str n (str.size + 1) i ns with
  | .ret r => pure ⟨r, str, acc⟩
  | .go (i, ns) =>
  let nameStart := i
  let i ← ckNameEnd str n (str.size + 1) i
  let nameLen := i - nameStart
  match ← ckSkipWsp F str n (str.size + 1) i ns with
  | .ret r => pure ⟨r, str, acc⟩
  | .go (i, ns) =>
  if n == i then pure ⟨.malformed, str, acc⟩ else do
  let e ← ckRd str i 96
  if e != 61 || nameLen == 0 then pure ⟨.malformed, str, acc⟩ else
  match ← ckSkipWsp F str n (str.size + 1) (i + 1) ns with
  | .ret r => pure ⟨r, str, acc⟩
  | .go (i, ns) =>
  match ← value F str n i ns with
  | .ret r => pure ⟨r, str, acc⟩
  | .go (i, valueStart, valueLen, ns) =>
  if !(nameStart + nameLen < str.size) then throw (Fault.write 101 (nameStart + nameLen)) else do
  let (str, el) ← store (str.setIfInBounds (nameStart + nameLen) 0) ⟨1, nameStart, nameLen⟩ valueStart valueLen
  next F n rec str i ns (acc ++ [el])

theorem parseCookiesString_zero (F : CKFlags) (n : Nat) (str : Bytes) (i : Nat) (ns : Bool) (acc : List Elem) :
    parseCookiesString F n 0 str i ns acc = .error (.read 95 i) := rfl

theorem parseCookiesString_succ (F : CKFlags) (n fuel : Nat) (str : Bytes) (i : Nat) (ns : Bool) (acc : List Elem) :
    parseCookiesString F n (fuel + 1) str i ns acc = body F n (parseCookiesString F n fuel) str i ns acc := by
  rw [parseCookiesString.eq_2]; rfl

/-- `x` does not fault, and its result satisfies `P` -/
def Ok {α : Type} (P : α → Prop) (x : Except Fault α) : Prop := ∃ a, x = .ok a ∧ P a

theorem Ok.pure {α : Type} {P : α → Prop} {a : α} (h : P a) : Ok P (pure a) := ⟨a, rfl, h⟩

theorem Ok.bind {α β : Type} {P : α → Prop} {Q : β → Prop} {x : Except Fault α} {f : α → Except Fault β}
    (h : Ok P x) (hf : ∀ a, P a → Ok Q (f a)) : Ok Q (x >>= f) := by
  obtain ⟨a, rfl, ha⟩ := h; exact hf a ha

theorem Ok.ite {α : Type} {P : α → Prop} {c : Prop} [Decidable c] {x y : Except Fault α}
    (hx : c → Ok P x) (hy : ¬ c → Ok P y) : Ok P (if c then x else y) := by
  split
  · exact hx ‹_›
  · exact hy ‹_›

theorem Ok.mono {α : Type} {P Q : α → Prop} {x : Except Fault α} (h : Ok P x) (hpq : ∀ a, P a → Q a) : Ok Q x := by
  obtain ⟨a, e, ha⟩ := h; exact ⟨a, e, hpq a ha⟩

/-- `P` holds of the value with which the function goes on; nothing is said of an early return -/
def _root_.Mhd.Req.Ctl.All {α : Type} (P : α → Prop) : Ctl α → Prop
  | .ret _ => True
  | .go a => P a

theorem _root_.Mhd.Req.Ctl.All.mono {α : Type} {P Q : α → Prop} (hpq : ∀ a, P a → Q a) : ∀ c : Ctl α, c.All P → c.All Q
  | .ret _, _ => trivial
  | .go a, h => hpq a h

theorem Ok.bindCtl {α β : Type} {P : α → Prop} {Q : β → Prop} {x : Except Fault (Ctl α)}
    {f : Ctl α → Except Fault β} (h : Ok (Ctl.All P) x) (hret : ∀ r, Ok Q (f (.ret r)))
    (hgo : ∀ a, P a → Ok Q (f (.go a))) : Ok Q (x >>= f) :=
  h.bind fun c hc => match c, hc with
    | .ret r, _ => hret r
    | .go a, ha => hgo a ha

theorem ckRd_ok {str : Bytes} {i : Nat} (h : i < str.size) (site : Nat) : Ok (fun _ => True) (ckRd str i site) :=
  ⟨str[i], by simp [ckRd, h], trivial⟩

/-! Each proof is the skeleton of its function: `.bind` for a read or a call, `.ite` for an `if`
(then-branch first), `.pure` where a result is returned. -/

theorem ckSkipEmpty_ok (F : CKFlags) (str : Bytes) (n : Nat) (hn : n < str.size) (fuel i : Nat) (ns : Bool)
    (hi : i < n) (hf : n - i ≤ fuel) : Ok (Ctl.All fun r => i ≤ r.1 ∧ r.1 < n) (ckSkipEmpty F str n fuel i ns) := by
  induction fuel generalizing i ns with
  | zero => omega
  | succ f ih =>
    rw [ckSkipEmpty]
    refine (ckRd_ok (by omega) 90).bind fun b _ => .ite (fun _ => .ite (fun _ => .pure trivial) fun _ =>
      .ite (fun _ => .pure trivial) fun h => ?_) fun _ => .pure ⟨Nat.le_refl _, hi⟩
    have : i + 1 ≠ n := by simpa using h
    exact (ih (i + 1) true (by omega) (by omega)).mono (Ctl.All.mono fun r hr => ⟨Nat.le_of_succ_le hr.1, hr.2⟩)

theorem ckNameEnd_ok (str : Bytes) (n : Nat) (hn : n < str.size) (fuel i : Nat) (hi : i < n) (hf : n - i ≤ fuel) :
    Ok (fun k => i ≤ k ∧ k ≤ n) (ckNameEnd str n fuel i) := by
  induction fuel generalizing i with
  | zero => omega
  | succ f ih =>
    rw [ckNameEnd]
    exact (ckRd_ok (by omega) 91).bind fun l _ => .ite (fun _ => .pure ⟨Nat.le_refl _, Nat.le_of_lt hi⟩) fun _ =>
      .ite (fun h => (ih (i + 1) h (by omega)).mono fun k hk => ⟨Nat.le_of_succ_le hk.1, hk.2⟩)
        fun _ => .pure ⟨Nat.le_succ _, hi⟩

theorem ckSkipWsp_ok (F : CKFlags) (str : Bytes) (n : Nat) (hn : n < str.size) (fuel i : Nat) (ns : Bool)
    (hi : i ≤ n) (hf : n - i < fuel) : Ok (Ctl.All fun r => i ≤ r.1 ∧ r.1 ≤ n) (ckSkipWsp F str n fuel i ns) := by
  induction fuel generalizing i ns with
  | zero => omega
  | succ f ih =>
    have here : Ok (Ctl.All fun r => i ≤ r.1 ∧ r.1 ≤ n) (Pure.pure (Ctl.go (i, ns))) := .pure ⟨Nat.le_refl _, hi⟩
    rw [ckSkipWsp]
    exact .ite (fun h => (ckRd_ok (by omega) 92).bind fun b _ => .ite (fun _ => .ite (fun _ => .pure trivial) fun _ =>
      (ih (i + 1) true h (by omega)).mono (Ctl.All.mono fun r hr => ⟨Nat.le_of_succ_le hr.1, hr.2⟩)) fun _ => here)
      fun _ => here

theorem ckValueEnd_ok (F : CKFlags) (str : Bytes) (n : Nat) (hn : n < str.size) (quoted : Bool) (fuel i : Nat)
    (ns : Bool) (hi : i ≤ n) (hf : n - i < fuel) :
    Ok (Ctl.All fun r => i ≤ r.1 ∧ r.1 ≤ n) (ckValueEnd F str n quoted fuel i ns) := by
  induction fuel generalizing i ns with
  | zero => omega
  | succ f ih =>
    have here : Ok (Ctl.All fun r => i ≤ r.1 ∧ r.1 ≤ n) (Pure.pure (Ctl.go (i, ns))) := .pure ⟨Nat.le_refl _, hi⟩
    rw [ckValueEnd]
    refine .ite (fun h => ?_) fun _ => here
    have next : ∀ ns', Ok (Ctl.All fun r => i ≤ r.1 ∧ r.1 ≤ n) (ckValueEnd F str n quoted f (i + 1) ns') :=
      fun ns' => (ih (i + 1) ns' h (by omega)).mono (Ctl.All.mono fun r hr => ⟨Nat.le_of_succ_le hr.1, hr.2⟩)
    exact (ckRd_ok (by omega) 93).bind fun l _ => .ite (fun _ => here) fun _ => .ite (fun _ => .ite (fun _ => here)
      fun _ => .ite (fun _ => .pure trivial) fun _ => next true) fun _ => next ns

theorem ckSkipTrail_ok (str : Bytes) (n : Nat) (hn : n < str.size) (fuel i : Nat) (hi : i ≤ n) (hf : n - i < fuel) :
    Ok (fun k => i ≤ k ∧ k ≤ n) (ckSkipTrail str n fuel i) := by
  induction fuel generalizing i with
  | zero => omega
  | succ f ih =>
    rw [ckSkipTrail]
    exact .ite (fun h => (ckRd_ok (by omega) 94).bind fun b _ => .ite
      (fun _ => (ih (i + 1) h (by omega)).mono fun k hk => ⟨Nat.le_of_succ_le hk.1, hk.2⟩)
      fun _ => .pure ⟨Nat.le_refl _, hi⟩) fun _ => .pure ⟨Nat.le_refl _, hi⟩

theorem closeQ_ok (str : Bytes) (n : Nat) (hn : n < str.size) (quoted : Bool) (i : Nat) (hi : i ≤ n) :
    Ok (Ctl.All fun j => i ≤ j ∧ j ≤ n) (closeQ str n quoted i) := by
  unfold closeQ
  refine .ite (fun _ => .ite (fun _ => .pure trivial) fun h => ?_) fun _ => .pure ⟨Nat.le_refl _, hi⟩
  have : n ≠ i := by simpa using h
  exact (ckRd_ok (by omega) 98).bind fun c _ => .ite (fun _ => .pure trivial) fun _ => .pure ⟨Nat.le_succ _, by omega⟩

theorem trail_ok (F : CKFlags) (str : Bytes) (n : Nat) (hn : n < str.size) (i : Nat) (ns : Bool) (hi : i ≤ n) :
    Ok (Ctl.All fun r => i ≤ r.1 ∧ r.1 ≤ n) (trail F str n i ns) := by
  have here : Ok (Ctl.All fun r => i ≤ r.1 ∧ r.1 ≤ n) (Pure.pure (Ctl.go (i, ns))) := .pure ⟨Nat.le_refl _, hi⟩
  unfold trail
  refine .ite (fun h => (ckRd_ok (by omega) 99).bind fun b _ => .ite (fun _ => ?_) fun _ => here) fun _ => here
  refine (ckSkipTrail_ok str n hn (str.size + 1) (i + 1) h (by omega)).bind fun j hj => ?_
  exact .ite (fun _ => .ite (fun _ => .pure trivial) fun _ => .pure ⟨Nat.le_of_succ_le hj.1, hj.2⟩)
    fun _ => .pure ⟨Nat.le_of_succ_le hj.1, hj.2⟩

theorem valEnd_ok (str : Bytes) (n : Nat) (hn : n < str.size) (vs vl i : Nat) (ns : Bool) (hi : i ≤ n) :
    Ok (Ctl.All fun r => r.1 = i ∧ r.2.1 = vs ∧ r.2.2.1 = vl) (valEnd str n vs vl i ns) := by
  unfold valEnd
  refine .ite (fun _ => .pure ⟨rfl, rfl, rfl⟩) fun h => ?_
  have : n ≠ i := by simpa using h
  exact (ckRd_ok (by omega) 100).bind fun c _ => .ite (fun _ => .pure ⟨rfl, rfl, rfl⟩) fun _ => .pure trivial

theorem value_ok (F : CKFlags) (str : Bytes) (n : Nat) (hn : n < str.size) (i : Nat) (ns : Bool) (hi : i ≤ n) :
    Ok (Ctl.All fun r => i ≤ r.1 ∧ r.1 ≤ n ∧ r.2.1 + r.2.2.1 ≤ n) (value F str n i ns) := by
  unfold value
  refine .ite (fun _ => .pure ⟨Nat.le_refl _, hi, Nat.zero_le _⟩) fun h => ?_
  have hne : n ≠ i := by simpa using h
  refine (ckRd_ok (by omega) 97).bind fun q _ => ?_
  dsimp only
  have hi1 : i ≤ (if (q == 34) = true then i + 1 else i) ∧ (if (q == 34) = true then i + 1 else i) ≤ n := by
    split <;> omega
  generalize (if (q == 34) = true then i + 1 else i) = i1 at hi1
  refine (ckValueEnd_ok F str n hn _ (str.size + 1) i1 ns hi1.2 (by omega)).bindCtl (fun _ => .pure trivial)
    fun (i2, ns2) h2 => ?_
  have h2 : i1 ≤ i2 ∧ i2 ≤ n := h2
  refine (closeQ_ok str n hn _ i2 h2.2).bindCtl (fun _ => .pure trivial) fun i3 h3 => ?_
  have h3 : i2 ≤ i3 ∧ i3 ≤ n := h3
  refine (trail_ok F str n hn i3 ns2 h3.2).bindCtl (fun _ => .pure trivial) fun (i4, ns4) h4 => ?_
  have h4 : i3 ≤ i4 ∧ i4 ≤ n := h4
  refine (valEnd_ok str n hn i1 (i2 - i1) i4 ns4 h4.2).mono (Ctl.All.mono fun r hr => ?_)
  rw [hr.1, hr.2.1, hr.2.2]
  omega

theorem store_ok (str : Bytes) (key : Slice) (vs vl : Nat) (h : vs + vl < str.size) :
    Ok (fun r => r.1.size = str.size) (store str key vs vl) := by
  unfold store
  rw [if_pos h]
  exact .ite (fun _ => .pure (Array.size_setIfInBounds ..)) fun _ => .pure rfl

theorem next_ok (F : CKFlags) (n : Nat) (rec : Bytes → Nat → Bool → List Elem → Except Fault CKOut)
    (str : Bytes) (hn : n < str.size) (i0 i : Nat) (ns : Bool) (acc : List Elem) (hi0 : i0 < i) (hi : i ≤ n)
    (hrec : ∀ i' ns' acc', i0 < i' → i' ≤ n → Ok (fun out => out.str.size = str.size) (rec str i' ns' acc')) :
    Ok (fun out => out.str.size = str.size) (next F n rec str i ns acc) := by
  have mal : Ok (fun out : CKOut => out.str.size = str.size) (Pure.pure ⟨.malformed, str, acc⟩) := .pure rfl
  unfold next
  refine .ite (fun h1 => ?_) fun _ => hrec _ _ _ hi0 hi
  dsimp only
  refine .ite (fun _ => .ite (fun _ => mal) fun _ => hrec _ _ _ (by omega) h1) fun h2 => ?_
  have : n ≠ i + 1 := by simpa using h2
  refine (ckRd_ok (by omega) 103).bind fun c _ => .ite
    (fun _ => .ite (fun _ => hrec _ _ _ (by omega) (by omega)) fun _ =>
      .ite (fun _ => mal) fun _ => hrec _ _ _ (by omega) h1)
    fun _ => .ite (fun _ => .ite (fun _ => mal) fun _ => hrec _ _ _ (by omega) (by omega))
      fun _ => hrec _ _ _ (by omega) (by omega)

theorem body_ok (F : CKFlags) (n : Nat) (rec : Bytes → Nat → Bool → List Elem → Except Fault CKOut)
    (str : Bytes) (hn : n < str.size) (i : Nat) (ns : Bool) (acc : List Elem)
    (hrec : ∀ (s : Bytes) i' ns' acc', s.size = str.size → i < i' → i' ≤ n →
      Ok (fun out => out.str.size = str.size) (rec s i' ns' acc')) :
    Ok (fun out => out.str.size = str.size) (body F n rec str i ns acc) := by
  unfold body
  refine .ite (fun _ => .pure rfl) fun h0 => ?_
  have hi : i < n := by simpa using h0
  refine (ckSkipEmpty_ok F str n hn (str.size + 1) i ns hi (by omega)).bindCtl (fun _ => .pure rfl)
    fun (i1, ns1) h1 => ?_
  have h1 : i ≤ i1 ∧ i1 < n := h1
  dsimp only
  refine (ckNameEnd_ok str n hn (str.size + 1) i1 h1.2 (by omega)).bind fun i2 h2 => ?_
  refine (ckSkipWsp_ok F str n hn (str.size + 1) i2 ns1 h2.2 (by omega)).bindCtl (fun _ => .pure rfl)
    fun (i3, ns3) h3 => ?_
  have h3 : i2 ≤ i3 ∧ i3 ≤ n := h3
  refine .ite (fun _ => .pure rfl) fun hne => ?_
  have hne : n ≠ i3 := by simpa using hne
  refine (ckRd_ok (by omega) 96).bind fun e _ => .ite (fun _ => .pure rfl) fun _ => ?_
  refine (ckSkipWsp_ok F str n hn (str.size + 1) (i3 + 1) ns3 (by omega) (by omega)).bindCtl (fun _ => .pure rfl)
    fun (i4, ns4) h4 => ?_
  have h4 : i3 + 1 ≤ i4 ∧ i4 ≤ n := h4
  refine (value_ok F str n hn i4 ns4 h4.2).bindCtl (fun _ => .pure rfl) fun (i5, vs, vl, ns5) h5 => ?_
  have h5 : i4 ≤ i5 ∧ i5 ≤ n ∧ vs + vl ≤ n := h5
  refine .ite (fun h => absurd h (by simp; omega)) fun _ => ?_
  refine (store_ok (str.setIfInBounds (i1 + (i2 - i1)) 0) ⟨1, i1, i2 - i1⟩ vs vl
    (by rw [Array.size_setIfInBounds]; omega)).bind fun (s, el) hs => ?_
  have hs : s.size = str.size := hs.trans (Array.size_setIfInBounds ..)
  rw [← hs]
  exact next_ok F n rec s (by omega) i i5 ns5 _ (by omega) h5.2.1
    (fun i' ns' acc' ha hb => by rw [hs]; exact hrec s i' ns' acc' hs ha hb)

/-- **Fault freedom of `parse_cookies_string`.**  Nothing is assumed about the bytes, not even
    that `str[n]` is NUL; the buffer size is unchanged, and the loop terminates within fuel
    `≥ n - i + 1`. -/
theorem parseCookiesString_no_fault (F : CKFlags) (n fuel : Nat) (str : Bytes) (i : Nat) (ns : Bool) (acc : List Elem)
    (hn : n < str.size) (hf : n - i + 1 ≤ fuel) :
    ∃ out, parseCookiesString F n fuel str i ns acc = .ok out ∧ out.str.size = str.size := by
  induction fuel generalizing str i ns acc with
  | zero => omega
  | succ f ih =>
    rw [parseCookiesString_succ]
    exact body_ok F n _ str hn i ns acc (fun s i' ns' acc' hsz ha hb => by
      rw [← hsz]; exact ih s i' ns' acc' (by omega) (by omega))

/-- **Fault freedom of `parse_cookie_header`.**  For all inputs the model either returns `.ok`, or it
    reports the read fault 104 — and the latter only when the looked-up `Cookie` element has a
    non-empty value slice that does not lie inside `buf` (the `memcpy` source would be outside
    the read buffer; the field-line parser never produces such an element). -/
theorem parseCookieHeader_no_fault (F : CKFlags) (buf : Bytes) (elems : List Elem) :
    (∃ c, parseCookieHeader F buf elems = .ok c) ∨
    (∃ e v, lookupElem buf elems Http.kindHeader Http.hdrCookieBytes = some e ∧ e.value = some v ∧
        v.len ≠ 0 ∧ ¬ (v.off + v.len ≤ buf.size) ∧
        parseCookieHeader F buf elems = .error (Fault.read 104 v.off)) := by
  unfold parseCookieHeader
  cases hl : lookupElem buf elems Http.kindHeader Http.hdrCookieBytes with
  | none => exact .inl ⟨_, rfl⟩
  | some e =>
    simp only []
    cases hv : e.value with
    | none => exact .inl ⟨_, rfl⟩
    | some v =>
      simp only []
      split
      · exact .inl ⟨_, rfl⟩
      · rename_i hz
        have hz : v.len ≠ 0 := by simpa using hz
        cases hr : rdRange buf v.off v.len with
        | none => exact .inr ⟨e, v, rfl, hv, hz, rdRange_none hr, rfl⟩
        | some bs =>
          left
          simp only []
          have hb := (rdRange_some hr).2
          have hi0 : (bs.takeWhile isSpHt).length ≤ bs.length := (List.takeWhile_sublist _).length_le
          obtain ⟨out, ho, _⟩ := parseCookiesString_no_fault F v.len (v.len + 2) (bs ++ [0]).toArray
            (bs.takeWhile isSpHt).length false [] (by simp; omega) (by omega)
          rw [bind_eq ho rfl]
          split
          · split <;> exact ⟨_, rfl⟩
          · exact ⟨_, rfl⟩

theorem parseCookieHeader_ok_of_inBounds (F : CKFlags) (buf : Bytes) (elems : List Elem)
    (h : ∀ e ∈ elems, ∀ v, e.value = some v → v.off + v.len ≤ buf.size) :
    ∃ c, parseCookieHeader F buf elems = .ok c := by
  rcases parseCookieHeader_no_fault F buf elems with hc | ⟨e, v, hl, hv, _, hout, _⟩
  · exact hc
  · exact absurd (h e (List.mem_of_find?_eq_some hl) v hv) hout

section examples
def strictF : CKFlags := ⟨false, false, false, false, false, false⟩
def laxF : CKFlags := ⟨true, true, true, true, true, true⟩

-- "a=b" (n = 3, NUL at 3): the hypotheses of `parseCookiesString_no_fault` are satisfiable
example : ∃ out, parseCookiesString strictF 3 5 #[97, 61, 98, 0] 0 false [] = .ok out ∧ out.str.size = 4 :=
  parseCookiesString_no_fault strictF 3 5 #[97, 61, 98, 0] 0 false [] (by decide) (by decide)
example : parseCookiesString strictF 3 5 #[97, 61, 98, 0] 0 false [] =
    .ok ⟨.ok, #[97, 0, 98, 0], [⟨Http.kindCookie, ⟨1, 0, 1⟩, some ⟨1, 2, 1⟩⟩]⟩ := by rfl
-- no assumption on the bytes: garbage without NUL, every byte a separator
example : ∃ out, parseCookiesString laxF 3 5 #[59, 59, 59, 59] 0 false [] = .ok out ∧ out.str.size = 4 :=
  parseCookiesString_no_fault laxF 3 5 #[59, 59, 59, 59] 0 false [] (by decide) (by decide)
-- the fault alternative of `parseCookieHeader_no_fault` does occur for an out-of-buffer slice (sample)
example : parseCookieHeader strictF #[67, 111, 111, 107, 105, 101] [⟨Http.kindHeader, ⟨0, 0, 6⟩, some ⟨0, 6, 3⟩⟩] =
    .error (Fault.read 104 6) := by rfl
-- … and the in-bounds hypothesis of `parseCookieHeader_ok_of_inBounds` is satisfiable: "Cookiea=b"
example : ∃ c, parseCookieHeader strictF #[67, 111, 111, 107, 105, 101, 97, 61, 98]
    [⟨Http.kindHeader, ⟨0, 0, 6⟩, some ⟨0, 6, 3⟩⟩] = .ok c :=
  parseCookieHeader_ok_of_inBounds _ _ _ (by decide)
example : (parseCookieHeader strictF #[67, 111, 111, 107, 105, 101, 97, 61, 98]
    [⟨Http.kindHeader, ⟨0, 0, 6⟩, some ⟨0, 6, 3⟩⟩]) =
    .ok ⟨.ok, #[97, 0, 98, 0], [⟨Http.kindHeader, ⟨0, 0, 6⟩, some ⟨0, 6, 3⟩⟩,
                                ⟨Http.kindCookie, ⟨1, 0, 1⟩, some ⟨1, 2, 1⟩⟩]⟩ := by rfl
end examples

open RLP (BufIs)

theorem ckRd_some {str : Bytes} {i : Nat} {b : UInt8} (h : str[i]? = some b) (site : Nat) :
    ckRd str i site = .ok b := by simp [ckRd, h]

/-- a byte allowed in a cookie name: none of `= SP HT " , ; NUL` -/
def isTok (b : UInt8) : Bool := !(b == 61 || b == cSP || b == cHT || b == 34 || b == 44 || b == 59 || b == 0)
/-- a byte allowed in a cookie value: none of `; " , \ NUL SP HT` -/
def isVal (b : UInt8) : Bool := !(b == 59 || b == 34 || b == 44 || b == 92 || b == 0) && !isSpHt b

theorem isTok_nameStop {b : UInt8} (h : isTok b = true) :
    (b == 61 || b == cSP || b == cHT || b == 34 || b == 44 || b == 59 || b == 0) = false := by
  rw [isTok, Bool.not_eq_true'] at h; exact h

theorem isTok_notSep {b : UInt8} (h : isTok b = true) : (isSpHt b || b == 59) = false := by
  have := isTok_nameStop h
  simp only [Bool.or_eq_false_iff] at this
  simp only [isSpHt, this, Bool.or_self]

theorem isVal_stop {b : UInt8} (h : isVal b = true) :
    (b == 59 || b == 34 || b == 44 || b == 92 || b == 0) = false := by
  simp only [isVal, Bool.and_eq_true, Bool.not_eq_true'] at h; exact h.1

theorem isVal_notWsp {b : UInt8} (h : isVal b = true) : isSpHt b = false := by
  simp only [isVal, Bool.and_eq_true, Bool.not_eq_true'] at h; exact h.2

theorem isVal_notQuote {b : UInt8} (h : isVal b = true) : (b == 34) = false := by
  have := isVal_stop h
  simp only [Bool.or_eq_false_iff] at this
  exact this.1.1.1.2

theorem ckSkipEmpty_tok (F : CKFlags) {str : Bytes} (n f : Nat) {i : Nat} (ns : Bool) {b : UInt8}
    (hb : str[i]? = some b) (ht : isTok b = true) :
    ckSkipEmpty F str n (f + 1) i ns = .ok (.go (i, ns)) := by
  rw [ckSkipEmpty]
  exact bind_eq (ckRd_some hb 90) (if_neg (by rw [isTok_notSep ht]; exact Bool.false_ne_true))

theorem ckNameEnd_tok {str : Bytes} (n : Nat) (nm : List UInt8) (fuel a : Nat) (hb : BufIs str a (nm ++ [61]))
    (ht : ∀ b ∈ nm, isTok b = true) (hn : a + nm.length < n) (hf : nm.length < fuel) :
    ckNameEnd str n fuel a = .ok (a + nm.length) := by
  induction nm generalizing fuel a with
  | nil =>
    obtain ⟨f, rfl⟩ := Nat.exists_eq_succ_of_ne_zero (Nat.ne_of_gt hf)
    rw [ckNameEnd]
    exact bind_eq (ckRd_some hb.head 91) (if_pos rfl)
  | cons x xs ih =>
    rw [List.length_cons] at hn hf
    obtain ⟨f, rfl⟩ := Nat.exists_eq_succ_of_ne_zero (Nat.ne_of_gt (Nat.zero_lt_of_lt hf))
    rw [ckNameEnd]
    refine bind_eq (ckRd_some hb.head 91) ((if_neg (by rw [isTok_nameStop (ht x List.mem_cons_self)]; exact Bool.false_ne_true)).trans
      ((if_pos (by omega)).trans ?_))
    rw [ih f (a + 1) hb.tail (fun b hb => ht b (List.mem_cons_of_mem _ hb)) (by omega) (by omega), List.length_cons,
      Nat.add_assoc, Nat.add_comm 1]

theorem ckSkipWsp_stay (F : CKFlags) {str : Bytes} (n f : Nat) {i : Nat} (ns : Bool)
    (h : n > i → ∃ b, str[i]? = some b ∧ isSpHt b = false) :
    ckSkipWsp F str n (f + 1) i ns = .ok (.go (i, ns)) := by
  rw [ckSkipWsp]
  by_cases hni : n > i
  · obtain ⟨b, hb, hw⟩ := h hni
    exact (if_pos hni).trans (bind_eq (ckRd_some hb 92) (if_neg (by rw [hw]; exact Bool.false_ne_true)))
  · exact if_neg hni

theorem ckValueEnd_val (F : CKFlags) {str : Bytes} (n : Nat) (quoted : Bool) (v : List UInt8) (fuel i : Nat)
    (ns : Bool) (hb : BufIs str i v) (hv : ∀ b ∈ v, isVal b = true) (hn : i + v.length ≤ n)
    (hstop : n > i + v.length → ∃ d, str[i + v.length]? = some d ∧ (d == 59 || d == 34) = true)
    (hf : v.length < fuel) : ckValueEnd F str n quoted fuel i ns = .ok (.go (i + v.length, ns)) := by
  induction v generalizing fuel i with
  | nil =>
    obtain ⟨f, rfl⟩ := Nat.exists_eq_succ_of_ne_zero (Nat.ne_of_gt hf)
    rw [ckValueEnd]
    by_cases hni : n > i
    · obtain ⟨d, hd, hs⟩ := hstop hni
      refine (if_pos hni).trans (bind_eq (ckRd_some hd 93) (if_pos ?_))
      rw [Bool.or_eq_true] at hs
      rcases hs with hs | hs <;> simp only [hs, Bool.true_or, Bool.or_true]
    · exact if_neg hni
  | cons x xs ih =>
    rw [List.length_cons] at hn hf hstop
    obtain ⟨f, rfl⟩ := Nat.exists_eq_succ_of_ne_zero (Nat.ne_of_gt (Nat.zero_lt_of_lt hf))
    have hx := hv x List.mem_cons_self
    rw [ckValueEnd]
    refine (if_pos (by omega)).trans (bind_eq (ckRd_some hb.head 93)
      ((if_neg (by rw [isVal_stop hx]; exact Bool.false_ne_true)).trans
        ((if_neg (by rw [isVal_notWsp hx]; exact Bool.false_ne_true)).trans ?_)))
    rw [ih f (i + 1) hb.tail (fun b hb => hv b (List.mem_cons_of_mem _ hb)) (by omega)
      (by rw [Nat.add_assoc, Nat.add_comm 1]; exact hstop) (by omega), List.length_cons, Nat.add_assoc, Nat.add_comm 1]

theorem trail_stay (F : CKFlags) {str : Bytes} (n : Nat) {i : Nat} (ns : Bool)
    (h : n > i → ∃ b, str[i]? = some b ∧ isSpHt b = false) :
    trail F str n i ns = .ok (.go (i, ns)) := by
  unfold trail
  by_cases hni : n > i
  · obtain ⟨b, hb, hw⟩ := h hni
    exact (if_pos hni).trans (bind_eq (ckRd_some hb 99) (if_neg (by rw [hw]; exact Bool.false_ne_true)))
  · exact if_neg hni

theorem valEnd_go {str : Bytes} (n vs vl : Nat) {i : Nat} (ns : Bool) (h : n = i ∨ str[i]? = some 59) :
    valEnd str n vs vl i ns = .ok (.go (i, vs, vl, ns)) := by
  unfold valEnd
  by_cases hni : n = i
  · exact if_pos (beq_iff_eq.mpr hni)
  · exact (if_neg (by simpa using hni)).trans (bind_eq (ckRd_some (h.resolve_left hni) 100) (if_pos rfl))

theorem closeQ_true {str : Bytes} {n i : Nat} (hne : n ≠ i) (h : str[i]? = some 34) :
    closeQ str n true i = .ok (.go (i + 1)) := by
  unfold closeQ
  exact (if_pos rfl).trans ((if_neg (by simpa using hne)).trans (bind_eq (ckRd_some h 98) (if_neg (by decide))))

/-- a cookie to be rendered: name, value, and whether the value is put in double quotes -/
structure CookieSpec where
  name : List UInt8
  value : List UInt8
  quoted : Bool

def CookieSpec.Valid (c : CookieSpec) : Prop :=
  c.name ≠ [] ∧ (∀ b ∈ c.name, isTok b = true) ∧ ∀ b ∈ c.value, isVal b = true

def renderVal (c : CookieSpec) : List UInt8 := if c.quoted then 34 :: (c.value ++ [34]) else c.value
def render1 (c : CookieSpec) : List UInt8 := c.name ++ 61 :: renderVal c
/-- `n1=v1; n2=v2; …` -/
def render : List CookieSpec → List UInt8
  | [] => []
  | [c] => render1 c
  | c :: c' :: cs => render1 c ++ 59 :: 32 :: render (c' :: cs)

/-- index of the first value byte when the value rendering starts at `i` -/
def valOff (c : CookieSpec) (i : Nat) : Nat := if c.quoted then i + 1 else i

theorem value_spec (F : CKFlags) {str : Bytes} (n : Nat) (hn : n < str.size) (c : CookieSpec) (i : Nat) (ns : Bool)
    (hb : BufIs str i (renderVal c)) (hv : ∀ b ∈ c.value, isVal b = true)
    (he : i + (renderVal c).length = n ∨
      (i + (renderVal c).length < n ∧ str[i + (renderVal c).length]? = some 59)) :
    ∃ vs, value F str n i ns = .ok (.go (i + (renderVal c).length, vs, c.value.length, ns)) ∧
      (c.value ≠ [] → vs = valOff c i) := by
  have hend : (n = i + (renderVal c).length ∨ str[i + (renderVal c).length]? = some 59) ∧
      (n > i + (renderVal c).length → ∃ d, str[i + (renderVal c).length]? = some d ∧ isSpHt d = false ∧
        (d == 59 || d == 34) = true) := by
    rcases he with he | he
    · exact ⟨.inl he.symm, fun h => absurd he (Nat.ne_of_lt h)⟩
    · exact ⟨.inr he.2, fun _ => ⟨59, he.2, rfl, rfl⟩⟩
  obtain ⟨nm, v, q⟩ := c
  unfold value
  cases q with
  | false =>
    simp only [renderVal, valOff, Bool.false_eq_true, ↓reduceIte] at hb he hend ⊢
    by_cases h : n = i
    · have hv0 : v.length = 0 := by omega
      rw [hv0]
      exact ⟨0, if_pos (beq_iff_eq.mpr h), fun hne => absurd (List.eq_nil_of_length_eq_zero hv0) hne⟩
    · obtain ⟨q0, hq0, hq34⟩ : ∃ q0, str[i]? = some q0 ∧ (q0 == 34) = false := by
        cases v with
        | nil => exact ⟨59, he.resolve_left (fun he => h he.symm) |>.2, rfl⟩
        | cons x xs => exact ⟨x, hb.head, isVal_notQuote (hv x List.mem_cons_self)⟩
      refine ⟨i, (if_neg (by simpa using h)).trans (bind_eq (ckRd_some hq0 97) ?_), fun _ => rfl⟩
      simp only [hq34, Bool.false_eq_true, ↓reduceIte]
      refine bind_eq (ckValueEnd_val F n false v (str.size + 1) i ns hb hv (by omega)
          (fun h' => (hend.2 h').imp fun d hd => ⟨hd.1, hd.2.2⟩) (by omega))
        (bind_eq (rfl : closeQ str n false (i + v.length) = .ok (.go (i + v.length)))
          (bind_eq (trail_stay F n ns fun h' => (hend.2 h').imp fun d hd => ⟨hd.1, hd.2.1⟩) ?_))
      refine (valEnd_go n i _ ns hend.1).trans ?_
      rw [Nat.add_sub_cancel_left]
  | true =>
    simp only [renderVal, valOff, ↓reduceIte, List.length_cons, List.length_append, List.length_nil] at hb he hend ⊢
    have hcl : str[i + 1 + v.length]? = some 34 := hb.tail.right.head
    have hlt := get_some_lt hcl
    have e : i + 1 + v.length + 1 = i + (v.length + (0 + 1) + 1) := by omega
    refine ⟨i + 1, (if_neg (by simp only [beq_iff_eq]; omega)).trans (bind_eq (ckRd_some hb.head 97) ?_), fun _ => rfl⟩
    simp only [beq_self_eq_true, ↓reduceIte]
    refine bind_eq (ckValueEnd_val F n true v (str.size + 1) (i + 1) ns hb.tail.left hv (by omega)
        (fun _ => ⟨34, hcl, rfl⟩) (by omega))
      (bind_eq (closeQ_true (by omega) hcl) (bind_eq (trail_stay F n ns
        (by rw [e]; exact fun h' => (hend.2 h').imp fun d hd => ⟨hd.1, hd.2.1⟩)) ?_))
    refine (valEnd_go n (i + 1) _ ns (by rw [e]; exact hend.1)).trans ?_
    rw [Nat.add_sub_cancel_left, e]

theorem render1_length (c : CookieSpec) : (render1 c).length = c.name.length + 1 + (renderVal c).length := by
  simp only [render1, List.length_append, List.length_cons]; omega

theorem render1_parts {str : Bytes} {c : CookieSpec} {a : Nat} (hb : BufIs str a (render1 c)) :
    BufIs str a (c.name ++ [61]) ∧ BufIs str (a + c.name.length + 1) (renderVal c) := by
  rw [render1, ← List.singleton_append, ← List.append_assoc] at hb
  exact ⟨hb.left, hb.right.cast (by rw [List.length_append]; rfl)⟩

theorem valOff_bounds (c : CookieSpec) (i : Nat) :
    i ≤ valOff c i ∧ valOff c i + c.value.length ≤ i + (renderVal c).length := by
  unfold valOff renderVal
  cases c.quoted <;> simp <;> omega

theorem renderVal_head_notWsp (c : CookieSpec) (hv : ∀ b ∈ c.value, isVal b = true) (x : UInt8) (xs : List UInt8)
    (h : renderVal c = x :: xs) : isSpHt x = false := by
  unfold renderVal at h
  cases hq : c.quoted
  · rw [hq, if_neg Bool.false_ne_true] at h
    exact isVal_notWsp (hv x (by rw [h]; exact List.mem_cons_self))
  · rw [hq, if_pos rfl] at h
    cases h; rfl

theorem renderVal_value (str : Bytes) (c : CookieSpec) (i : Nat) (hb : BufIs str i (renderVal c)) :
    BufIs str (valOff c i) c.value := by
  unfold renderVal at hb; unfold valOff
  cases hq : c.quoted
  · rw [hq, if_neg Bool.false_ne_true] at hb; rw [if_neg Bool.false_ne_true]; exact hb
  · rw [hq, if_pos rfl] at hb; rw [if_pos rfl]; exact hb.tail.left

/-- the element produced for cookie `c` whose rendering starts at index `a` -/
def elemOf (c : CookieSpec) (a : Nat) : Elem :=
  ⟨Http.kindCookie, ⟨1, a, c.name.length⟩,
    some (if c.value = [] then ⟨2, 0, 0⟩ else ⟨1, valOff c (a + c.name.length + 1), c.value.length⟩)⟩

/-- the buffer after cookie `c` (at index `a`) has been stored: name and value zero-terminated -/
def strAfter (str : Bytes) (c : CookieSpec) (a : Nat) : Bytes :=
  if c.value = [] then str.setIfInBounds (a + c.name.length) 0
  else (str.setIfInBounds (a + c.name.length) 0).setIfInBounds
    (valOff c (a + c.name.length + 1) + c.value.length) 0

theorem round_spec (F : CKFlags) (n : Nat) (rec : Bytes → Nat → Bool → List Elem → Except Fault CKOut)
    (str : Bytes) (hn : n < str.size) (c : CookieSpec) (hc : c.Valid) (a a' : Nat) (acc : List Elem)
    (hb : BufIs str a (render1 c))
    (he : (a + (render1 c).length = n ∧ a' = n) ∨
      (a + (render1 c).length + 2 < n ∧ str[a + (render1 c).length]? = some 59 ∧
        str[a + (render1 c).length + 1]? = some 32 ∧ a' = a + (render1 c).length + 2)) :
    body F n rec str a false acc = rec (strAfter str c a) a' false (acc ++ [elemOf c a]) := by
  obtain ⟨hne, htok, hval⟩ := hc
  have hlen := render1_length c
  obtain ⟨hbn, hbv⟩ := render1_parts hb
  have heq : str[a + c.name.length]? = some 61 := hbn.right.head
  obtain ⟨x, xs, hx⟩ := List.exists_cons_of_ne_nil hne
  have hx0 : str[a]? = some x := by have := hbn.left; rw [hx] at this; exact this.head
  have hnl : 0 < c.name.length := by rw [hx]; exact Nat.zero_lt_succ _
  have hvb := valOff_bounds c (a + c.name.length + 1)
  have he' : a + c.name.length + 1 + (renderVal c).length = n ∨
      (a + c.name.length + 1 + (renderVal c).length < n ∧
        str[a + c.name.length + 1 + (renderVal c).length]? = some 59) := by
    rcases he with he | he
    · left; omega
    · right; exact ⟨by omega, by rw [← he.2.1]; congr 1; omega⟩
  have hw2 : n > a + c.name.length + 1 → ∃ b, str[a + c.name.length + 1]? = some b ∧ isSpHt b = false := by
    intro h
    cases hr : renderVal c with
    | nil =>
      rw [hr] at he'
      exact ⟨59, (he'.resolve_left (by simp only [List.length_nil]; omega)).2, rfl⟩
    | cons y ys =>
      rw [hr] at hbv
      exact ⟨y, hbv.head, renderVal_head_notWsp c hval y ys hr⟩
  obtain ⟨vs, hvs, hvo⟩ := value_spec F n hn c (a + c.name.length + 1) false hbv hval he'
  have hnext : ∀ (s : Bytes) (acc' : List Elem),
      s[a + (render1 c).length + 1]? = str[a + (render1 c).length + 1]? →
      next F n rec s (a + c.name.length + 1 + (renderVal c).length) false acc' = rec s a' false acc' := by
    intro s acc' hs
    unfold next
    rcases he with he | he
    · rw [if_neg (by omega), he.2]
      congr 1; omega
    · rw [show a + c.name.length + 1 + (renderVal c).length = a + (render1 c).length by omega, he.2.2.2]
      exact (if_pos (by omega)).trans ((if_neg (by simp only [beq_iff_eq]; omega)).trans
        (bind_eq (ckRd_some (hs.trans he.2.2.1) 103) ((if_neg (by decide)).trans
          (if_neg (by simp only [beq_iff_eq]; omega)))))
  have han : a + c.name.length + 1 + (renderVal c).length ≤ n := by omega
  clear he he' hb hbv
  unfold body
  refine (if_neg (by simp; omega)).trans
    (bind_eq (ckSkipEmpty_tok F n str.size false hx0 (htok x (by rw [hx]; exact List.mem_cons_self)))
      (bind_eq (ckNameEnd_tok n c.name (str.size + 1) a hbn htok (by omega) (by omega))
        (bind_eq (ckSkipWsp_stay F n str.size false (fun _ => ⟨61, heq, rfl⟩))
          ((if_neg (by simp only [beq_iff_eq]; omega)).trans (bind_eq (ckRd_some heq 96) ?_)))))
  rw [Nat.add_sub_cancel_left]
  refine (if_neg (by simp only [bne_self_eq_false, Bool.false_or, beq_iff_eq]; omega)).trans
    (bind_eq (ckSkipWsp_stay F n str.size false hw2) (bind_eq hvs
      ((if_neg (by simp; omega)).trans ?_)))
  unfold store strAfter elemOf
  by_cases hv0 : c.value = []
  · rw [if_pos hv0, if_pos hv0, List.length_eq_zero_iff.mpr hv0]
    exact hnext _ _ (Array.getElem?_setIfInBounds_ne (by omega))
  · have hvl : c.value.length ≠ 0 := fun h => hv0 (List.eq_nil_of_length_eq_zero h)
    rw [if_neg hv0, if_neg hv0, hvo hv0, if_pos (by simpa using hvl), if_pos (by rw [Array.size_setIfInBounds]; omega)]
    exact hnext _ _ (by rw [Array.getElem?_setIfInBounds_ne (by omega), Array.getElem?_setIfInBounds_ne (by omega)])

theorem set0_keep {s : Bytes} {j : Nat} (p : Nat) (h : s[j]? = some 0) : (s.setIfInBounds p 0)[j]? = some 0 := by
  by_cases hp : p = j
  · subst hp; exact Array.getElem?_setIfInBounds_self_of_lt (get_some_lt h)
  · rw [Array.getElem?_setIfInBounds_ne hp]; exact h

theorem strAfter_size (str : Bytes) (c : CookieSpec) (a : Nat) : (strAfter str c a).size = str.size := by
  unfold strAfter; split <;> simp only [Array.size_setIfInBounds]

theorem strAfter_keep0 (str : Bytes) (c : CookieSpec) (a : Nat) {j : Nat} (h : str[j]? = some 0) :
    (strAfter str c a)[j]? = some 0 := by
  unfold strAfter; split
  · exact set0_keep _ h
  · exact set0_keep _ (set0_keep _ h)

theorem strAfter_outside (str : Bytes) (c : CookieSpec) (a : Nat) {j : Nat}
    (h : j < a + c.name.length ∨ a + (render1 c).length < j) : (strAfter str c a)[j]? = str[j]? := by
  have hvb := valOff_bounds c (a + c.name.length + 1)
  have hlen := render1_length c
  unfold strAfter; split
  · rw [Array.getElem?_setIfInBounds_ne (by omega)]
  · rw [Array.getElem?_setIfInBounds_ne (by omega), Array.getElem?_setIfInBounds_ne (by omega)]

/-- the strings of cookie `c`, rendered at index `a`, are in `s`, each followed by a NUL -/
def StoredAt (s : Bytes) (c : CookieSpec) (a : Nat) : Prop :=
  BufIs s a c.name ∧ s[a + c.name.length]? = some 0 ∧
    (c.value ≠ [] → BufIs s (valOff c (a + c.name.length + 1)) c.value ∧
      s[valOff c (a + c.name.length + 1) + c.value.length]? = some 0)

theorem strAfter_stored (str : Bytes) (c : CookieSpec) (a : Nat) (hb : BufIs str a (render1 c))
    (hsz : a + (render1 c).length < str.size) : StoredAt (strAfter str c a) c a := by
  have hvb := valOff_bounds c (a + c.name.length + 1)
  have hlen := render1_length c
  have hbn : BufIs str a c.name := (render1_parts hb).1.left
  have hbv := renderVal_value str c _ (render1_parts hb).2
  have at0 : ∀ {s : Bytes} {p : Nat}, p < s.size → (s.setIfInBounds p 0)[p]? = some 0 :=
    Array.getElem?_setIfInBounds_self_of_lt
  unfold strAfter; split
  · next h0 => exact ⟨hbn.set _ _ (.inr (Nat.le_refl _)), at0 (by omega), fun h => absurd h0 h⟩
  · exact ⟨(hbn.set _ _ (.inr (Nat.le_refl _))).set _ _ (.inr (by omega)), set0_keep _ (at0 (by omega)),
      fun _ => ⟨(hbv.set _ _ (.inl (by omega))).set _ _ (.inr (Nat.le_refl _)),
        at0 (by rw [Array.size_setIfInBounds]; omega)⟩⟩

/-- the strings end at or before the end of the rendering -/
theorem StoredAt.congr {s s' : Bytes} {c : CookieSpec} {a : Nat} (h : StoredAt s' c a)
    (hs : ∀ j, j ≤ a + (render1 c).length → s[j]? = s'[j]?) : StoredAt s c a := by
  have hvb := valOff_bounds c (a + c.name.length + 1)
  have hlen := render1_length c
  refine ⟨fun i hi => (hs _ (by omega)).trans (h.1 i hi), (hs _ (by omega)).trans h.2.1, fun hv => ?_⟩
  exact ⟨fun i hi => (hs _ (by omega)).trans ((h.2.2 hv).1 i hi), (hs _ (by omega)).trans (h.2.2 hv).2⟩

theorem render1_pos (c : CookieSpec) : 0 < (render1 c).length := by rw [render1_length]; omega

theorem render_cons_pos (c : CookieSpec) (cs : List CookieSpec) : 0 < (render (c :: cs)).length := by
  have := render1_pos c
  cases cs with
  | nil => exact this
  | cons c' cs' => rw [render, List.length_append]; omega

/-- element `el` presents cookie `c` to the application when its strings are read from `s`
    (region 1 = the pool copy): kind, name, value, each string NUL-terminated in `s`;
    an empty value is the static empty string -/
def CookieIs (s : Bytes) (el : Elem) (c : CookieSpec) : Prop :=
  el.kind = Http.kindCookie ∧ el.key.region = 1 ∧ sliceBytes s el.key = c.name ∧
  s[el.key.off + el.key.len]? = some 0 ∧
  (if c.value = [] then el.value = some ⟨2, 0, 0⟩
   else ∃ sl, el.value = some sl ∧ sl.region = 1 ∧ sliceBytes s sl = c.value ∧ s[sl.off + sl.len]? = some 0)

/-- the element list presents exactly the cookies `cs`, one element per cookie, in order -/
def CookiesAre (s : Bytes) : List Elem → List CookieSpec → Prop
  | [], [] => True
  | el :: els, c :: cs => CookieIs s el c ∧ CookiesAre s els cs
  | _, _ => False

theorem CookiesAre.length_eq {s : Bytes} : ∀ {els : List Elem} {cs : List CookieSpec},
    CookiesAre s els cs → els.length = cs.length
  | [], [], _ => rfl
  | _ :: _, _ :: _, h => by simp [CookiesAre.length_eq h.2]
  | [], _ :: _, h => h.elim
  | _ :: _, [], h => h.elim

theorem CookiesAre.get {s : Bytes} : ∀ {els : List Elem} {cs : List CookieSpec}, CookiesAre s els cs →
    ∀ (k : Nat) (h1 : k < els.length) (h2 : k < cs.length), CookieIs s els[k] cs[k]
  | [], [], _, k, h1, _ => by simp at h1
  | _ :: _, _ :: _, h, 0, _, _ => h.1
  | _ :: _, _ :: _, h, k + 1, h1, h2 => by
    simpa using CookiesAre.get h.2 k (by simpa using h1) (by simpa using h2)
  | [], _ :: _, h, _, _, _ => h.elim
  | _ :: _, [], h, _, _, _ => h.elim

theorem StoredAt.cookieIs {s : Bytes} {c : CookieSpec} {a : Nat} (h : StoredAt s c a) : CookieIs s (elemOf c a) c := by
  refine ⟨rfl, rfl, sliceBytes_eq s a c.name h.1, h.2.1, ?_⟩
  unfold elemOf
  by_cases hv0 : c.value = []
  · rw [if_pos hv0, if_pos hv0]
  · rw [if_neg hv0, if_neg hv0]
    exact ⟨_, rfl, rfl, sliceBytes_eq s _ c.value (h.2.2 hv0).1, (h.2.2 hv0).2⟩

theorem loop_spec (F : CKFlags) (n : Nat) (cs : List CookieSpec) (str : Bytes) (a : Nat) (acc : List Elem) (fuel : Nat)
    (hval : ∀ c ∈ cs, c.Valid) (hb : BufIs str a (render cs)) (han : a + (render cs).length = n) (hn : n < str.size)
    (h0 : str[n]? = some 0) (hf : cs.length + 1 ≤ fuel) :
    ∃ s els, parseCookiesString F n fuel str a false acc = .ok ⟨.ok, s, acc ++ els⟩ ∧
      s.size = str.size ∧ (∀ j, j < a → s[j]? = str[j]?) ∧ s[n]? = some 0 ∧ CookiesAre s els cs := by
  induction cs generalizing str a acc fuel with
  | nil =>
    obtain ⟨f, rfl⟩ := Nat.exists_eq_succ_of_ne_zero (Nat.ne_of_gt hf)
    refine ⟨str, [], ?_, rfl, fun _ _ => rfl, h0, trivial⟩
    rw [parseCookiesString_succ, List.append_nil]
    unfold body
    exact if_pos (by simp only [Bool.not_eq_true', decide_eq_false_iff_not]; rw [← han]; exact Nat.lt_irrefl _)
  | cons c cs ih =>
    rw [List.length_cons] at hf
    obtain ⟨f, rfl⟩ := Nat.exists_eq_succ_of_ne_zero (Nat.ne_of_gt (Nat.zero_lt_of_lt hf))
    have hc : c.Valid := hval c List.mem_cons_self
    have hpos := render1_pos c
    obtain ⟨a', hb1, hbr, hanr, hle, hround⟩ : ∃ a', BufIs str a (render1 c) ∧ BufIs str a' (render cs) ∧
        a' + (render cs).length = n ∧ (a + (render1 c).length < a' ∨ (a + (render1 c).length = n ∧ a' = n)) ∧
        body F n (parseCookiesString F n f) str a false acc =
          parseCookiesString F n f (strAfter str c a) a' false (acc ++ [elemOf c a]) := by
      cases cs with
      | nil =>
        exact ⟨n, hb, fun _ hi => absurd hi (Nat.not_lt_zero _), rfl, .inr ⟨han, rfl⟩,
          round_spec F n _ str hn c hc a n acc hb (.inl ⟨han, rfl⟩)⟩
      | cons c' cs' =>
        rw [render] at hb han
        rw [List.length_append, List.length_cons, List.length_cons] at han
        have hpos' := render_cons_pos c' cs'
        exact ⟨a + (render1 c).length + 2, hb.left, hb.right.tail.tail, by omega, .inl (by omega),
          round_spec F n _ str hn c hc a _ acc hb.left (.inr ⟨by omega, hb.right.head, hb.right.tail.head, rfl⟩)⟩
    have hsz1 := strAfter_size str c a
    obtain ⟨s, els, hs, hsz, hag, hs0, hall⟩ := ih (strAfter str c a) a' (acc ++ [elemOf c a]) f
      (fun c' h => hval c' (List.mem_cons_of_mem _ h))
      (fun i hi => (strAfter_outside str c a (.inr (by omega))).trans (hbr i hi)) hanr (by omega)
      (strAfter_keep0 str c a h0) (by omega)
    refine ⟨s, elemOf c a :: els, ?_, by omega, fun j hj => ?_, hs0, ?_, hall⟩
    · rw [parseCookiesString_succ, hround, hs, List.append_assoc]; rfl
    · rw [hag j (by omega)]; exact strAfter_outside str c a (.inl (by omega))
    · refine ((strAfter_stored str c a hb1 (by omega)).congr fun j hj => ?_).cookieIs
      by_cases hja : j < a'
      · exact hag j hja
      · rw [show j = n by omega, hs0, strAfter_keep0 str c a h0]

theorem render_head (c : CookieSpec) (cs : List CookieSpec) (hc : c.Valid) :
    ∃ x t, render (c :: cs) = x :: t ∧ isTok x = true := by
  obtain ⟨x, xs, hx⟩ := List.exists_cons_of_ne_nil hc.1
  have hxt := hc.2.1 x (by rw [hx]; exact List.mem_cons_self)
  cases cs with
  | nil => exact ⟨x, _, by rw [render, render1, hx]; rfl, hxt⟩
  | cons c' cs' => exact ⟨x, _, by rw [render, render1, hx]; rfl, hxt⟩

theorem length_le_render : ∀ (cs : List CookieSpec), cs.length ≤ (render cs).length
  | [] => Nat.le_refl _
  | [c] => render1_pos c
  | c :: c' :: cs => by
    have := length_le_render (c' :: cs)
    simp only [render, List.length_append, List.length_cons] at this ⊢
    omega

/-- **Canonical round trip of `parse_cookies_string`.**  The rendering `n1=v1; n2=v2; …` (each value
    optionally in double quotes, chosen per cookie) parses at every flag record `F` (in particular
    the strictest) to the strict result `.ok` with exactly one element per cookie, in order, whose
    name and value read back NUL-terminated from the returned buffer; an empty value is the static
    empty string. -/
theorem cookies_roundtrip (F : CKFlags) (cs : List CookieSpec) (hval : ∀ c ∈ cs, c.Valid)
    (fuel : Nat) (hf : (render cs).length + 1 ≤ fuel) :
    ∃ out, parseCookiesString F (render cs).length fuel (render cs ++ [0]).toArray 0 false [] = .ok out ∧
      out.res = .ok ∧ out.str.size = (render cs).length + 1 ∧
      CookiesAre out.str out.elems cs := by
  have hb : BufIs (render cs ++ [0]).toArray 0 (render cs) := by
    intro i hi
    simp [List.getElem?_append_left hi]
  have h0 : (render cs ++ [0]).toArray[(render cs).length]? = some 0 := by simp
  obtain ⟨s, els, hs, hsz, _, _, hall⟩ := loop_spec F (render cs).length cs (render cs ++ [0]).toArray 0 [] fuel hval
    hb (by simp) (by simp) h0 (by have := length_le_render cs; omega)
  exact ⟨_, hs, rfl, by simpa using hsz, hall⟩

/-- the same through `parse_cookie_header` -/
theorem cookieHeader_roundtrip (F : CKFlags) (buf : Bytes) (elems : List Elem) (e : Elem) (v : Slice)
    (cs : List CookieSpec) (hval : ∀ c ∈ cs, c.Valid)
    (hl : lookupElem buf elems Http.kindHeader Http.hdrCookieBytes = some e) (hv : e.value = some v)
    (hr : rdRange buf v.off v.len = some (render cs)) :
    ∃ cpy els, parseCookieHeader F buf elems = .ok ⟨.ok, cpy, elems ++ els⟩ ∧
      CookiesAre cpy els cs := by
  have hlen := (rdRange_some hr).2
  unfold parseCookieHeader
  rw [hl]; simp only [hv]
  split
  · rename_i hz
    have hz : v.len = 0 := by simpa using hz
    have : cs = [] := by
      cases cs with
      | nil => rfl
      | cons c cs => have := render_cons_pos c cs; omega
    subst this
    exact ⟨#[], [], by simp; rfl, trivial⟩
  · rw [hr]
    simp only []
    have hi0 : ((render cs).takeWhile isSpHt).length = 0 := by
      cases cs with
      | nil => rfl
      | cons c cs' =>
        obtain ⟨x, t, ht, hxt⟩ := render_head c cs' (hval c List.mem_cons_self)
        rw [ht, List.takeWhile_cons_of_neg (by
          rw [(Bool.or_eq_false_iff.mp (isTok_notSep hxt)).1]; exact Bool.false_ne_true)]
        rfl
    rw [hi0, ← hlen]
    obtain ⟨out, ho, hres, _, hall⟩ := cookies_roundtrip F cs hval ((render cs).length + 2) (by omega)
    rw [bind_eq ho rfl]
    obtain ⟨r, s, els⟩ := out
    simp only at hres hall
    subst hres
    exact ⟨s, els, rfl, hall⟩

section examples
/-- `a=b; c=""; de="fg"; h=` -/
def sampleCookies : List CookieSpec :=
  [⟨[97], [98], false⟩, ⟨[99], [], true⟩, ⟨[100, 101], [102, 103], true⟩, ⟨[104], [], false⟩]

example : render sampleCookies =
    [97, 61, 98, 59, 32, 99, 61, 34, 34, 59, 32, 100, 101, 61, 34, 102, 103, 34, 59, 32, 104, 61] := by decide
-- the hypothesis of `cookies_roundtrip` is satisfiable
theorem sampleCookies_valid : ∀ c ∈ sampleCookies, c.Valid := by
  intro c hc
  simp only [sampleCookies, List.mem_cons, List.not_mem_nil, or_false] at hc
  rcases hc with rfl | rfl | rfl | rfl <;> refine ⟨by simp, by decide, by decide⟩
example : ∃ out, parseCookiesString strictF 22 23 (render sampleCookies ++ [0]).toArray 0 false [] = .ok out ∧
    out.res = .ok ∧ out.str.size = 23 ∧ CookiesAre out.str out.elems sampleCookies :=
  cookies_roundtrip strictF sampleCookies sampleCookies_valid 23 (by decide)
example : parseCookiesString strictF 22 23 (render sampleCookies ++ [0]).toArray 0 false [] =
    .ok ⟨.ok, #[97, 0, 98, 0, 32, 99, 0, 34, 34, 59, 32, 100, 101, 0, 34, 102, 103, 0, 59, 32, 104, 0, 0],
      [⟨Http.kindCookie, ⟨1, 0, 1⟩, some ⟨1, 2, 1⟩⟩, ⟨Http.kindCookie, ⟨1, 5, 1⟩, some ⟨2, 0, 0⟩⟩,
       ⟨Http.kindCookie, ⟨1, 11, 2⟩, some ⟨1, 15, 2⟩⟩, ⟨Http.kindCookie, ⟨1, 20, 1⟩, some ⟨2, 0, 0⟩⟩]⟩ := by rfl
-- the hypotheses of `cookieHeader_roundtrip` are satisfiable: buffer "Cookie" ++ rendering
example : ∃ cpy els, parseCookieHeader strictF ([67, 111, 111, 107, 105, 101] ++ render sampleCookies).toArray
      [⟨Http.kindHeader, ⟨0, 0, 6⟩, some ⟨0, 6, 22⟩⟩] =
      .ok ⟨.ok, cpy, [⟨Http.kindHeader, ⟨0, 0, 6⟩, some ⟨0, 6, 22⟩⟩] ++ els⟩ ∧ CookiesAre cpy els sampleCookies :=
  cookieHeader_roundtrip strictF _ _ ⟨Http.kindHeader, ⟨0, 0, 6⟩, some ⟨0, 6, 22⟩⟩ ⟨0, 6, 22⟩ sampleCookies
    sampleCookies_valid (by rfl) rfl (by rfl)
end examples
end CK

/-- the name test of `MHD_lookup_connection_value_n`: one of the requested kinds, the same
    length, equal ignoring ASCII case -/
def NameMatches (buf : Bytes) (kind : Nat) (key : List UInt8) (e : Elem) : Prop :=
  e.kind &&& kind ≠ 0 ∧ e.key.len = key.length ∧ (sliceBytes buf e.key).map toLowerAscii = key.map toLowerAscii

theorem lookupPred_iff (buf : Bytes) (kind : Nat) (key : List UInt8) (e : Elem) :
    ((e.kind &&& kind != 0) && e.key.len == key.length &&
      ((sliceBytes buf e.key).map toLowerAscii == key.map toLowerAscii)) = true ↔ NameMatches buf kind key e := by
  unfold NameMatches
  simp only [Bool.and_eq_true, bne_iff_ne, ne_eq, beq_iff_eq, and_assoc]

theorem lookupElem_some (buf : Bytes) (elems : List Elem) (kind : Nat) (key : List UInt8) (e : Elem) :
    lookupElem buf elems kind key = some e ↔
      NameMatches buf kind key e ∧ ∃ pre post, elems = pre ++ e :: post ∧ ∀ x ∈ pre, ¬ NameMatches buf kind key x := by
  unfold lookupElem
  simp only [List.find?_eq_some_iff_append, Bool.not_eq_true', ← Bool.not_eq_true, lookupPred_iff]

theorem lookupElem_none (buf : Bytes) (elems : List Elem) (kind : Nat) (key : List UInt8) :
    lookupElem buf elems kind key = none ↔ ∀ x ∈ elems, ¬ NameMatches buf kind key x := by
  unfold lookupElem
  simp only [List.find?_eq_none, lookupPred_iff]

end Mhd.Req
