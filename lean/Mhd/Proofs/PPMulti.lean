/-
  The multipart machine for ARBITRARY input and arbitrary splits, from one pass through the `skip_rn`
  pre-machine and the main switch (`Out`) to the complete life of a post processor (`multipart_all_inputs`):
  no out-of-object access, nothing delivered that was not received.
-/
import Mhd.Proofs.PPMultiTerm
namespace Mhd.PP

abbrev MpState (s : St) : Prop := s ≠ .processKey ∧ s ≠ .processValue ∧ s ≠ .callback

abbrev NeedsNested (s : St) : Prop :=
  s = .nestedProcessValueToBoundary ∨ s = .nestedPerformCleanup ∨ s = .nestedProcessEntryHeaders ∨
  s = .nestedPerformMarking

abbrev DashOk (s : St) : Prop := s = .error ∨ s = .done ∨ s = .nextBoundary

/-- control part of the invariant of the multipart machine -/
structure Ctl (pp : PP) : Prop where
  fault : pp.fault = none
  url : pp.isUrl = false
  st : MpState pp.state
  dst : DashOk pp.dashState
  nest : NeedsNested pp.state → pp.nested.isSome = true

theorem DashOk.plain {s : St} (h : DashOk s) : MpState s ∧ ¬ NeedsNested s := by
  rcases h with rfl | rfl | rfl <;> decide

theorem Ctl.to {pp : PP} (hC : Ctl pp) (q : PP) (s : St) (hs : MpState s ∧ ¬ NeedsNested s) (hq : q.state = s)
    (hf : q.fault = pp.fault) (hu : q.isUrl = pp.isUrl) (hd : q.dashState = pp.dashState) : Ctl q :=
  ⟨hf ▸ hC.fault, hu ▸ hC.url, hq ▸ hs.1, hd ▸ hC.dst, fun h => absurd (hq ▸ h) hs.2⟩

/-- what one pass through the main `switch` (before `AGAIN:`) does to the window, `ioff`, the event log
    and the control state; `prog`: bytes consumed, or a state change that lowers the rank, or nothing
    changed (then `state_changed` is untouched and the rank does not grow) -/
structure Out (pp : PP) (l : ML) (r : PP × ML × Flow) : Prop where
  ctl : Ctl r.1
  size : r.1.bufferSize = pp.bufferSize
  poff : r.2.1.poff = l.poff
  lo : l.ioff ≤ r.2.1.ioff
  hi : r.2.1.ioff ≤ l.ioff + pp.buf.length
  buf : r.1.buf = pp.buf ∨ ∃ nl, l.ioff + nl < r.2.1.ioff ∧ r.2.2 = .again ∧ r.1.buf = pp.buf.set nl 0
  evs : ∀ e ∈ r.1.evs, e ∈ pp.evs ∨ ∃ nl, e.data = pp.buf.take nl
  prog : r.2.2 = .again → l.ioff < r.2.1.ioff ∨ (r.2.1.stateChanged = true ∧ rankM r.1.state < rankM pp.state) ∨
    (r.2.1.stateChanged = l.stateChanged ∧ rankM r.1.state ≤ rankM pp.state)

theorem Out.still {pp : PP} {l : ML} (q : PP) (sc : Bool) (fl : Flow) (hc : Ctl q) (hsz : q.bufferSize = pp.bufferSize)
    (hb : q.buf = pp.buf) (he : q.evs = pp.evs)
    (hp : fl = .again → (sc = true ∧ rankM q.state < rankM pp.state) ∨
      (sc = l.stateChanged ∧ rankM q.state ≤ rankM pp.state)) :
    Out pp l (q, { l with stateChanged := sc }, fl) :=
  ⟨hc, hsz, rfl, Nat.le_refl _, Nat.le_add_right _ _, Or.inl hb, fun _ h => Or.inl (he ▸ h), fun h => Or.inr (hp h)⟩

theorem Ctl.error {pp : PP} (hC : Ctl pp) : Ctl { pp with state := .error } :=
  hC.to _ .error (by decide) rfl rfl rfl rfl

/-- `find_boundary`, whatever flow the caller makes of its result -/
theorem out_findBoundary {pp : PP} {l : ML} (hC : Ctl pp) (b : Bytes) (next nd : St) (fl : Flow)
    (hnext : MpState next) (hnn : NeedsNested next → pp.nested.isSome = true) (hnd : DashOk nd) :
    Out pp l ((findBoundary pp b l.ioff next nd).1, { l with ioff := (findBoundary pp b l.ioff next nd).2.1 }, fl) := by
  rcases findBoundary_cases pp b l.ioff next nd with ⟨k, h0, hk, h⟩ | ⟨k, hk, h⟩ | h <;> rw [h]
  · exact ⟨⟨hC.fault, hC.url, hnext, hnd, hnn⟩, rfl, rfl, Nat.le_add_right _ _, Nat.add_le_add_left hk _, Or.inl rfl,
      fun e he => Or.inl he, fun _ => Or.inl (Nat.lt_add_of_pos_right h0)⟩
  · exact ⟨hC, rfl, rfl, Nat.le_add_right _ _, Nat.add_le_add_left hk _, Or.inl rfl, fun e he => Or.inl he,
      fun _ => Or.inr (Or.inr ⟨rfl, Nat.le_refl _⟩)⟩
  · exact ⟨hC.error, rfl, rfl, Nat.le_refl _, Nat.le_add_right _ _, Or.inl rfl, fun e he => Or.inl he,
      fun _ => Or.inr (Or.inr ⟨rfl, Nat.zero_le _⟩)⟩

theorem flowFound_eq (r : PP × Nat × Bool) (l : ML) : ∃ fl, flowFound r l = (r.1, { l with ioff := r.2.1 }, fl) := by
  unfold flowFound
  split
  · exact ⟨_, rfl⟩
  · split <;> exact ⟨_, rfl⟩

theorem out_flowFound {pp : PP} {l : ML} (hC : Ctl pp) (b : Bytes) (next nd : St)
    (hnext : MpState next) (hnn : NeedsNested next → pp.nested.isSome = true) (hnd : DashOk nd) :
    Out pp l (flowFound (findBoundary pp b l.ioff next nd) l) := by
  obtain ⟨fl, h⟩ := flowFound_eq (findBoundary pp b l.ioff next nd) l
  rw [h]
  exact out_findBoundary hC b next nd fl hnext hnn hnd

theorem flowHeaders_false (q : PP) (i : Nat) (l : ML) :
    ∃ fl, fl ≠ .again ∧ flowHeaders (q, i, false) l = (q, { l with ioff := i }, fl) := by
  unfold flowHeaders
  simp only [Bool.false_eq_true, if_false]
  split
  · exact ⟨.ret, nofun, rfl⟩
  · exact ⟨.gotoEnd, nofun, rfl⟩

/-- `process_multipart_headers` entered with `q`, which differs from `pp` in fields the invariant does
    not look at -/
theorem out_flowHeaders {pp : PP} {l : ML} (q : PP) (next : St) (hq : Ctl q)
    (hsz : q.bufferSize = pp.bufferSize) (hb : q.buf = pp.buf) (he : q.evs = pp.evs)
    (hnext : MpState next) (hnn : NeedsNested next → q.nested.isSome = true) (hr : rankM next < rankM pp.state) :
    Out pp l (flowHeaders (processMultipartHeaders q l.ioff next) l) := by
  have base : ∀ (q' : PP) fl, fl ≠ .again → Ctl q' → q'.bufferSize = q.bufferSize → q'.buf = q.buf → q'.evs = q.evs →
      Out pp l (q', { l with ioff := l.ioff }, fl) := fun q' fl hfl h1 h2 h3 h4 =>
    ⟨h1, h2.trans hsz, rfl, Nat.le_refl _, Nat.le_add_right _ _, Or.inl (h3.trans hb),
      fun e h => Or.inl (he ▸ h4 ▸ h), fun h => absurd h hfl⟩
  rcases pmh_cases q l.ioff next with h | h | h | ⟨nl, rn, m, hnl, h⟩ <;> rw [h]
  · obtain ⟨fl, hfl, e⟩ := flowHeaders_false { q with state := .error } l.ioff l
    rw [e]; exact base _ fl hfl hq.error rfl rfl rfl
  · obtain ⟨fl, hfl, e⟩ := flowHeaders_false q l.ioff l
    rw [e]; exact base _ fl hfl hq rfl rfl rfl
  · exact ⟨⟨hq.fault, hq.url, hnext, hq.dst, hnn⟩, hsz, rfl, Nat.le_refl _, Nat.le_add_right _ _, Or.inl hb,
      fun e h => Or.inl (he ▸ h), fun _ => Or.inr (Or.inl ⟨rfl, hr⟩)⟩
  · rw [hb] at hnl
    exact ⟨⟨hq.fault, hq.url, hq.st, hq.dst, hq.nest⟩, hsz, rfl, Nat.le_trans (Nat.le_add_right _ nl) (Nat.le_succ _),
      Nat.add_le_add_left hnl _, Or.inr ⟨nl, Nat.lt_succ_self _, rfl, by rw [← hb]; rfl⟩,
      fun e h => Or.inl (he ▸ h), fun _ => Or.inl (Nat.lt_succ_of_le (Nat.le_add_right _ _))⟩

theorem out_flowValue {pp : PP} {l : ML} (hC : Ctl pp) (b : Bytes) (next nd : St)
    (hnext : MpState next) (hnn : NeedsNested next → pp.nested.isSome = true) (hnd : DashOk nd) :
    Out pp l (flowValue (processValueToBoundary pp l.ioff b next nd) l) := by
  have hb := scanBoundary_bound pp.buf b pp.bufferSize 0 (Nat.zero_le _)
  have hev : ∀ (q : PP) (nl : Nat), q.evs = pp.evs → (valEv q nl).data = pp.buf.take nl →
      ∀ e ∈ (partPP q nl).evs, e ∈ pp.evs ∨ ∃ nl, e.data = pp.buf.take nl := by
    intro q nl h1 h2 e he
    rcases List.mem_append.mp he with he | he
    · exact Or.inl (h1 ▸ he)
    · split at he
      · exact Or.inr ⟨nl, (List.mem_singleton.mp he) ▸ h2⟩
      · cases he
  rw [pvtb_eq]
  cases hs : scanBoundary pp.buf b pp.bufferSize 0 with
  | oom =>
    exact ⟨hC.error, rfl, rfl, Nat.le_refl _, Nat.le_add_right _ _, Or.inl rfl, fun e he => Or.inl he, nofun⟩
  | partialAt nl =>
    rw [hs] at hb
    exact ⟨⟨hC.fault, hC.url, hC.st, hC.dst, hC.nest⟩, rfl, rfl, Nat.le_add_right l.ioff nl, Nat.add_le_add_left hb.1 _,
      Or.inl rfl, hev pp nl rfl rfl, fun _ => Or.inr (Or.inr ⟨rfl, Nat.le_refl _⟩)⟩
  | found nl =>
    rw [hs] at hb
    have ha : l.ioff ≤ l.ioff + b.length + 4 + nl ∧ l.ioff + b.length + 4 + nl ≤ l.ioff + pp.buf.length ∧
        l.ioff + nl < l.ioff + b.length + 4 + nl ∧ l.ioff < l.ioff + b.length + 4 + nl := by omega
    exact ⟨⟨hC.fault, hC.url, hnext, hnd, hnn⟩, rfl, rfl, ha.1, ha.2.1, Or.inr ⟨nl, ha.2.2.1, rfl, rfl⟩,
      hev _ nl rfl (List.take_set_of_le (Nat.le_refl _)), fun _ => Or.inl ha.2.2.2⟩

theorem out_performCheckMultipart {pp : PP} {l : ML} (hC : Ctl pp) (hs : pp.state = .performCheckMultipart) :
    Out pp l (performCheckMultipart pp l) := by
  have hr : ∀ s, rankM s < 1 → rankM s < rankM pp.state := fun s h => by rw [hs]; exact h
  have hval : Out pp l ({ pp with state := .processValueToBoundary, valueOffset := 0 }, { l with stateChanged := true },
      .again) :=
    Out.still _ true .again (hC.to _ .processValueToBoundary (by decide) rfl rfl rfl rfl) rfl rfl rfl
      (fun _ => Or.inl ⟨rfl, hr .processValueToBoundary (by decide)⟩)
  unfold performCheckMultipart
  split
  · split
    · split
      · exact Out.still _ l.stateChanged .ret hC.error rfl rfl rfl nofun
      · exact Out.still _ true .again ⟨hC.fault, hC.url, (by decide : MpState .nestedInit), hC.dst, fun _ => rfl⟩
          rfl rfl rfl (fun _ => Or.inl ⟨rfl, hr .nestedInit (by decide)⟩)
    · exact hval
  · exact hval

theorem mainSwitch_out (pp : PP) (l : ML) (hC : Ctl pp) : Out pp l (mainSwitch pp l) := by
  have hr : ∀ k s, pp.state = k → rankM s < rankM k → rankM s < rankM pp.state := fun k s h h' => h ▸ h'
  have nn : ∀ s, ¬ NeedsNested s → NeedsNested s → pp.nested.isSome = true := fun s h h' => absurd h' h
  have hnest : ∀ k, pp.state = k → NeedsNested k → pp.nested.isSome = true := fun k h h' => hC.nest (h ▸ h')
  unfold mainSwitch
  cases hs : pp.state with
  | error => exact Out.still pp l.stateChanged .ret hC rfl rfl rfl nofun
  | done => exact Out.still _ l.stateChanged .ret hC.error rfl rfl rfl nofun
  | init =>
    exact out_findBoundary hC pp.boundary .processEntryHeaders .done .again (by decide) (nn _ (by decide)) (by decide)
  | nextBoundary =>
    exact out_flowFound hC pp.boundary .performCleanup .done (by decide) (nn _ (by decide)) (by decide)
  | processKey => exact absurd hs hC.st.1
  | processValue => exact absurd hs hC.st.2.1
  | callback => exact absurd hs hC.st.2.2
  | processEntryHeaders =>
    exact out_flowHeaders _ .performCheckMultipart
      ⟨hC.fault, hC.url, (by decide : MpState .processEntryHeaders), hC.dst, nn .processEntryHeaders (by decide)⟩
      rfl rfl rfl (by decide) (nn _ (by decide)) (hr _ _ hs (by decide))
  | performCheckMultipart => exact out_performCheckMultipart hC hs
  | processValueToBoundary =>
    exact out_flowValue hC pp.boundary .performCleanup .done (by decide) (nn _ (by decide)) (by decide)
  | performCleanup =>
    exact Out.still _ true .again
      ⟨hC.fault, hC.url, (by decide : MpState .processEntryHeaders), hC.dst, nofun⟩ rfl rfl rfl
      (fun _ => Or.inl ⟨rfl, hr _ .processEntryHeaders hs (by decide)⟩)
  | nestedInit =>
    cases hn : pp.nested with
    | none =>
      exact Out.still _ l.stateChanged .ret ⟨hC.fault, hC.url, (by decide : MpState .error), hC.dst, nofun⟩
        rfl rfl rfl nofun
    | some nb =>
      exact out_flowFound hC nb .nestedPerformMarking .nextBoundary (by decide) (fun _ => hn ▸ rfl) (by decide)
  | nestedPerformMarking =>
    exact Out.still _ true .again
      ⟨hC.fault, hC.url, (by decide : MpState .nestedProcessEntryHeaders), hC.dst, fun _ => hnest _ hs (by decide)⟩
      rfl rfl rfl (fun _ => Or.inl ⟨rfl, hr _ .nestedProcessEntryHeaders hs (by decide)⟩)
  | nestedProcessEntryHeaders =>
    exact out_flowHeaders _ .nestedProcessValueToBoundary
      ⟨hC.fault, hC.url, (by decide : MpState .nestedProcessEntryHeaders), hC.dst, fun _ => hnest _ hs (by decide)⟩
      rfl rfl rfl (by decide) (fun _ => hnest _ hs (by decide)) (hr _ _ hs (by decide))
  | nestedProcessValueToBoundary =>
    have hn := hnest _ hs (by decide)
    cases hnb : pp.nested with
    | none => rw [hnb] at hn; cases hn
    | some nb =>
      exact out_flowValue hC nb .nestedPerformCleanup .nextBoundary (by decide) (fun _ => hn) (by decide)
  | nestedPerformCleanup =>
    exact Out.still _ true .again
      ⟨hC.fault, hC.url, (by decide : MpState .nestedProcessEntryHeaders), hC.dst, fun _ => hnest _ hs (by decide)⟩
      rfl rfl rfl (fun _ => Or.inl ⟨rfl, hr _ .nestedProcessEntryHeaders hs (by decide)⟩)

theorem mpAct_out (pp : PP) (l : ML) (hC : Ctl pp) (hne : pp.buf ≠ []) : ∃ r, Out pp l r ∧ mpAct pp l = mpFin r := by
  unfold mpAct
  rcases rnMachine_cases pp l hne with h | ⟨k, rn, s, h0, hk, hs, h⟩ | ⟨rn, h⟩ | ⟨rn, h⟩ <;> rw [h]
  · exact ⟨_, mainSwitch_out pp l hC, rfl⟩
  · refine ⟨_, ⟨?_, rfl, rfl, Nat.le_add_right _ _, Nat.add_le_add_left hk _, Or.inl rfl, fun e he => Or.inl he,
      fun _ => Or.inl (Nat.lt_add_of_pos_right h0)⟩, rfl⟩
    rcases hs with rfl | rfl
    · exact ⟨hC.fault, hC.url, hC.st, hC.dst, hC.nest⟩
    · exact ⟨hC.fault, hC.url, hC.dst.plain.1, hC.dst, fun hn => absurd hn hC.dst.plain.2⟩
  · exact ⟨({ pp with skipRn := rn, state := .error }, l, .ret), Out.still _ l.stateChanged .ret
      ⟨hC.fault, hC.url, (by decide : MpState .error), hC.dst, nofun⟩ rfl rfl rfl nofun, rfl⟩
  · exact ⟨({ pp with skipRn := rn, state := .error }, l, .ret), Out.still _ l.stateChanged .ret
      ⟨hC.fault, hC.url, (by decide : MpState .error), hC.dst, nofun⟩ rfl rfl rfl nofun, rfl⟩

/-- invariant of the multipart machine for arbitrary input; `T` = everything received so far,
    `ioff` = bytes at the front of the window that are consumed but not yet moved away (a byte among
    them may have been overwritten by NUL: the window agrees with the input from `ioff` on) -/
structure MPend (pp : PP) (T : Bytes) (ioff : Nat) : Prop where
  ctl : Ctl pp
  size : pp.buf.length ≤ pp.bufferSize
  pos : 0 < pp.bufferSize
  win : ∃ pre X, T = pre ++ X ∧ X.length = pp.buf.length ∧ X.drop ioff = pp.buf.drop ioff
  evs : ∀ e ∈ pp.evs, e.data <:+: T
  io : ioff ≤ pp.buf.length

/-- an `Out` step followed by `AGAIN:` keeps the invariant (`ioff` is of interest only at `END:`; `return
    MHD_NO` leaves the window as it is) -/
theorem MPend.mpFin {pp : PP} {l : ML} {T : Bytes} (h : MPend pp T 0) (hl : l.ioff = 0) {r : PP × ML × Flow}
    (o : Out pp l r) :
    MPend (mpFin r).1 T (match (mpFin r).2.2 with | .ret => 0 | _ => (mpFin r).2.1.ioff) ∧
    (mpFin r).2.1.poff = l.poff ∧ (mpFin r).1.bufferSize = pp.bufferSize ∧
    ((mpFin r).2.2 = .again → (mpFin r).2.1.ioff = 0 ∧
      ((mpFin r).1.buf.length < pp.buf.length ∨ ((mpFin r).1.buf.length = pp.buf.length ∧
        (((mpFin r).2.1.stateChanged = true ∧ rankM (mpFin r).1.state < rankM pp.state) ∨
         ((mpFin r).2.1.stateChanged = l.stateChanged ∧ rankM (mpFin r).1.state ≤ rankM pp.state))))) := by
  obtain ⟨q, l', fl⟩ := r
  obtain ⟨oc, osz, opo, olo, ohi, obuf, oev, oprog⟩ := o
  simp only [hl, Nat.zero_add] at olo ohi obuf oprog
  simp only at oc osz opo oev
  obtain ⟨pre, X, hT, hXl, hX⟩ := h.win
  have hX : X = pp.buf := hX
  subst hX
  have hlen : q.buf.length = pp.buf.length := by
    rcases obuf with e | ⟨nl, _, _, e⟩ <;> rw [e]
    exact List.length_set
  have hdrop : pp.buf.drop l'.ioff = q.buf.drop l'.ioff := by
    rcases obuf with e | ⟨nl, hnl, _, e⟩ <;> rw [e]
    exact (List.drop_set_of_lt hnl).symm
  have hio : l'.ioff ≤ q.buf.length := hlen ▸ ohi
  have hevs : ∀ e ∈ q.evs, e.data <:+: T := by
    intro e he
    rcases oev e he with h1 | ⟨nl, h1⟩
    · exact h.evs e h1
    · exact ⟨pre, pp.buf.drop nl, by rw [h1, hT, List.append_assoc, List.take_append_drop]⟩
  have hM : ∀ io, io ≤ q.buf.length → pp.buf.drop io = q.buf.drop io → MPend q T io := fun io h1 h2 =>
    ⟨oc, hlen ▸ osz ▸ h.size, osz ▸ h.pos, ⟨pre, pp.buf, hT, hlen.symm, h2⟩, hevs, h1⟩
  cases fl with
  | gotoEnd => exact ⟨hM _ hio hdrop, opo, osz, nofun⟩
  | ret =>
    have hb : q.buf = pp.buf := obuf.resolve_right (fun ⟨_, _, h, _⟩ => by cases h)
    exact ⟨hM 0 (Nat.zero_le _) (hb ▸ rfl), opo, osz, nofun⟩
  | again =>
    rw [mpFin_again q l' oc.fault hio]
    have hdl : (q.buf.drop l'.ioff).length = pp.buf.length - l'.ioff := by rw [List.length_drop, hlen]
    refine ⟨⟨⟨oc.fault, oc.url, oc.st, oc.dst, oc.nest⟩, ?_, osz ▸ h.pos, ⟨pre ++ pp.buf.take l'.ioff, pp.buf.drop l'.ioff,
      by rw [hT, List.append_assoc, List.take_append_drop], by rw [hdrop], by rw [hdrop]⟩, hevs, Nat.zero_le _⟩,
      opo, osz, fun _ => ⟨rfl, ?_⟩⟩
    · show (q.buf.drop l'.ioff).length ≤ q.bufferSize
      rw [hdl, osz]
      exact Nat.le_trans (Nat.sub_le _ _) h.size
    · show (q.buf.drop l'.ioff).length < _ ∨ (q.buf.drop l'.ioff).length = _ ∧
        (((l'.stateChanged || decide (0 < l'.ioff)) = true ∧ _) ∨ ((l'.stateChanged || decide (0 < l'.ioff)) = _ ∧ _))
      rw [hdl]
      by_cases h0 : 0 < l'.ioff
      · exact Or.inl (Nat.sub_lt (Nat.lt_of_lt_of_le h0 (hlen ▸ hio)) h0)
      · have hz : l'.ioff = 0 := Nat.eq_zero_of_not_pos h0
        rcases oprog rfl with h1 | h1 | h1
        · exact absurd h1 h0
        · exact Or.inr ⟨hz ▸ rfl, Or.inl ⟨by rw [h1.1]; rfl, h1.2⟩⟩
        · exact Or.inr ⟨hz ▸ rfl, Or.inr ⟨by rw [h1.1, hz]; simp, h1.2⟩⟩

theorem MPend.error {pp : PP} {T : Bytes} (h : MPend pp T 0) : MPend { pp with state := .error } T 0 :=
  ⟨h.ctl.error, h.size, h.pos, h.win, h.evs, Nat.zero_le _⟩

theorem mpIter_spec (d : Bytes) (pp : PP) (l : ML) (T : Bytes) (h : MPend pp T 0) (hl : l.ioff = 0)
    (hp : l.poff ≤ d.length) (hne : l.poff < d.length ∨ (0 < pp.buf.length ∧ l.stateChanged = true)) :
    (mpIter d pp l).2.1.poff ≤ d.length ∧ l.poff ≤ (mpIter d pp l).2.1.poff ∧
    MPend (mpIter d pp l).1 (T ++ slice d l.poff (mpIter d pp l).2.1.poff)
      (match (mpIter d pp l).2.2 with | .ret => 0 | _ => (mpIter d pp l).2.1.ioff) ∧
    ((mpIter d pp l).2.2 = .again → (mpIter d pp l).2.1.ioff = 0) ∧
    (mpIter d pp l).1.bufferSize = pp.bufferSize ∧
    ((mpIter d pp l).2.2 = .again → phi d (mpIter d pp l).1 (mpIter d pp l).2.1 < phi d pp l) := by
  have hsz := h.size
  have hpos := h.pos
  obtain ⟨mx, hpm, hfit, hfull, hpos1, hsl, e⟩ := mpIter_fill d pp l hsz hpos hp hne
  rw [e]
  obtain ⟨pre, X, hT, _, hX⟩ := h.win
  have hX : X = pp.buf := hX
  subst hX
  have h1 : MPend { pp with buf := pp.buf ++ slice d l.poff (l.poff + mx) } (T ++ slice d l.poff (l.poff + mx)) 0 :=
    ⟨⟨h.ctl.fault, h.ctl.url, h.ctl.st, h.ctl.dst, h.ctl.nest⟩,
      by show (pp.buf ++ _).length ≤ pp.bufferSize; rw [List.length_append, hsl]; exact hfit, hpos,
      ⟨pre, _, by rw [hT, List.append_assoc], rfl, rfl⟩, fun e he => (h.evs e he).trans (List.prefix_append T _).isInfix, Nat.zero_le _⟩
  by_cases herr : mx = 0 ∧ l.stateChanged = false ∧ l.poff + mx < d.length
  · rw [if_pos herr]
    exact ⟨hpm, Nat.le_add_right _ _, h1.error, nofun, rfl, nofun⟩
  · rw [if_neg herr]
    have hne1 : ({ pp with buf := pp.buf ++ slice d l.poff (l.poff + mx) } : PP).buf ≠ [] :=
      List.ne_nil_of_length_pos (by show 0 < (pp.buf ++ _).length; rw [List.length_append, hsl]; exact hpos1)
    obtain ⟨r, o, e⟩ := mpAct_out _ { l with poff := l.poff + mx, stateChanged := false } h1.ctl hne1
    obtain ⟨f1, f2, f3, f4⟩ := h1.mpFin (l := { l with poff := l.poff + mx, stateChanged := false }) hl o
    rw [e]
    refine ⟨by rw [f2]; exact hpm, by rw [f2]; exact Nat.le_add_right _ _, by rw [f2]; exact f1,
      fun ha => (f4 ha).1, f3, fun ha => ?_⟩
    have hprog := (f4 ha).2
    rw [show (pp.buf ++ slice d l.poff (l.poff + mx)).length = pp.buf.length + mx by rw [List.length_append, hsl]]
      at hprog
    refine phi_iter d pp _ l _ mx hpm hfull f2 f3 ?_ hprog
    cases hsc' : l.stateChanged with
    | true => exact Or.inl rfl
    | false =>
      have hlt : l.poff < d.length := hne.resolve_right (fun h => by rw [hsc'] at h; cases h.2)
      exact Or.inr ⟨hlt, Nat.lt_of_lt_of_le (Nat.lt_add_of_pos_right (Nat.pos_of_ne_zero
        (fun h0 => herr ⟨h0, hsc', h0 ▸ hlt⟩))) hfit⟩

theorem mpLoop_spec (d : Bytes) : ∀ (fuel : Nat) (pp : PP) (l : ML) (T : Bytes), MPend pp T 0 → l.ioff = 0 →
    l.poff ≤ d.length → phi d pp l < fuel →
    (l.poff ≤ (mpLoop fuel d pp l).2.1.poff ∧ (mpLoop fuel d pp l).2.1.poff ≤ d.length ∧
      MPend (mpLoop fuel d pp l).1 (T ++ slice d l.poff (mpLoop fuel d pp l).2.1.poff)
        (match (mpLoop fuel d pp l).2.2 with | .ret => 0 | _ => (mpLoop fuel d pp l).2.1.ioff)) := by
  intro fuel
  induction fuel with
  | zero => intro pp l T _ _ _ h; omega
  | succ n ih =>
    intro pp l T h hl hp hphi
    rw [mpLoop]
    by_cases hc : l.poff < d.length ∨ (pp.buf.length > 0 ∧ l.stateChanged = true)
    · rw [if_pos hc]
      obtain ⟨i1, i2, i3, i4, i5, i6⟩ := mpIter_spec d pp l T h hl hp hc
      generalize mpIter d pp l = r at i1 i2 i3 i4 i5 i6
      obtain ⟨pp1, l1, fl⟩ := r
      cases fl with
      | again =>
        have hz : l1.ioff = 0 := i4 rfl
        have i3 : MPend pp1 _ 0 := hz ▸ i3
        obtain ⟨j1, j2, j3⟩ := ih pp1 l1 _ i3 hz i1 (Nat.lt_of_lt_of_le (i6 rfl) (Nat.le_of_lt_succ hphi))
        refine ⟨Nat.le_trans i2 j1, j2, ?_⟩
        rw [List.append_assoc, ← slice_split d l.poff l1.poff _ i2 j1] at j3
        exact j3
      | gotoEnd | ret => exact ⟨i2, i1, i3⟩
    · rw [if_neg hc]
      refine ⟨Nat.le_refl _, hp, ?_⟩
      have : slice d l.poff l.poff = [] := by simp [slice]
      rw [this, List.append_nil]
      exact hl ▸ h

/-- the window after the `memmove` at `END:` -/
theorem MPend.drop {pp : PP} {T : Bytes} {io : Nat} (h : MPend pp T io) :
    MPend (if io ≠ 0 then { pp with buf := pp.buf.drop io } else pp) T 0 := by
  obtain ⟨pre, X, hT, hXl, hX⟩ := h.win
  by_cases h0 : io ≠ 0
  · rw [if_pos h0]
    exact ⟨⟨h.ctl.fault, h.ctl.url, h.ctl.st, h.ctl.dst, h.ctl.nest⟩,
      Nat.le_trans (List.length_drop ▸ Nat.sub_le _ _) h.size, h.pos,
      ⟨pre ++ X.take io, X.drop io, by rw [hT, List.append_assoc, List.take_append_drop], by rw [hX], hX⟩, h.evs,
      Nat.zero_le _⟩
  · rw [if_neg h0]
    exact ⟨h.ctl, h.size, h.pos, ⟨pre, X, hT, hXl, Decidable.not_not.mp h0 ▸ hX⟩, h.evs, Nat.zero_le _⟩

/-- one multipart call: `d.take p` is the part of the chunk that was copied; the call returns `MHD_YES`
    only if the whole chunk was copied -/
theorem postProcessMultipart_spec (pp : PP) (d T : Bytes) (h : MPend pp T 0) :
    ∃ p, p ≤ d.length ∧ MPend (postProcessMultipart pp d).1 (T ++ d.take p) 0 ∧
      ((postProcessMultipart pp d).2 = true → p = d.length) := by
  unfold postProcessMultipart
  have key := mpLoop_spec d (16 * (d.length + pp.buf.length) + 16) pp {} T h rfl (Nat.zero_le _) (phi_init_lt d pp)
  generalize mpLoop (16 * (d.length + pp.buf.length) + 16) d pp {} = r at key
  obtain ⟨pp1, l1, fl⟩ := r
  obtain ⟨_, j2, j3⟩ := key
  have hsl : slice d 0 l1.poff = d.take l1.poff := by simp [slice]
  rw [show ({} : ML).poff = 0 from rfl, hsl] at j3
  refine ⟨l1.poff, j2, ?_⟩
  cases fl with
  | ret => exact ⟨j3, nofun⟩
  | again | gotoEnd =>
    dsimp only
    rw [if_neg (Nat.not_lt.mpr j3.io)]
    by_cases hp : l1.poff < d.length
    · rw [if_pos hp]; exact ⟨j3.drop.error, nofun⟩
    · rw [if_neg hp]; exact ⟨j3.drop, fun _ => Nat.le_antisymm j2 (Nat.not_lt.mp hp)⟩

/-- invariant between two `MHD_post_process` calls in multipart mode.  `input` = all bytes handed
    to the post processor so far, `T` = the part of it that was accepted (calls that return `MHD_NO`
    drop the rest of their chunk), `allYes` = every call so far returned `MHD_YES`. -/
def MGood (pp : PP) (input : Bytes) (allYes : Bool) : Prop :=
  ∃ T, List.Sublist T input ∧ (allYes = true → T = input) ∧ MPend pp T 0

theorem feed_mgood (pp : PP) (d input : Bytes) (ay : Bool) (h : MGood pp input ay) :
    MGood (feed pp d).1 (input ++ d) (ay && (feed pp d).2) := by
  obtain ⟨T, hsub, hall, hP⟩ := h
  have hfs : pp.fault.isSome = false := by rw [hP.ctl.fault]; rfl
  by_cases hd : d.length = 0
  · have hfeed : feed pp d = (pp, true) := by simp only [feed, hfs, hd, Bool.false_eq_true, if_false, if_true]
    rw [hfeed, List.length_eq_zero_iff.mp hd, List.append_nil, Bool.and_true]
    exact ⟨T, hsub, hall, hP⟩
  · have hfeed : feed pp d = postProcessMultipart pp d := by
      simp only [feed, hfs, hd, hP.ctl.url, Bool.false_eq_true, if_false]
    rw [hfeed]
    obtain ⟨p, hp, hP', hyes⟩ := postProcessMultipart_spec pp d T hP
    refine ⟨T ++ d.take p, List.Sublist.append hsub (List.take_sublist p d), fun hh => ?_, hP'⟩
    obtain ⟨h1, h2⟩ := Bool.and_eq_true_iff.mp hh
    rw [hall h1, hyes h2, List.take_length]

/-- fold of `feed` that also records whether every call returned `MHD_YES` -/
def feedAllYes (pp : PP) : List Bytes → PP × Bool
  | [] => (pp, true)
  | c :: cs => let r := feedAllYes (feed pp c).1 cs; (r.1, (feed pp c).2 && r.2)

theorem feedAllYes_fst (pp : PP) (chunks : List Bytes) : (feedAllYes pp chunks).1 = feedAll pp chunks := by
  induction chunks generalizing pp with
  | nil => rfl
  | cons c cs ih => simp [feedAllYes, feedAll, ih]

theorem feedAll_mgood : ∀ (chunks : List Bytes) (pp : PP) (input : Bytes) (ay : Bool), MGood pp input ay →
    MGood (feedAllYes pp chunks).1 (input ++ chunks.flatten) (ay && (feedAllYes pp chunks).2) := by
  intro chunks
  induction chunks with
  | nil => intro pp input ay h; simpa [feedAllYes] using h
  | cons c cs ih =>
    intro pp input ay h
    have h1 := feed_mgood pp c input ay h
    have h2 := ih _ _ _ h1
    simp only [feedAllYes, List.flatten_cons]
    rw [← List.append_assoc, Bool.and_assoc] at *
    exact h2

theorem create_multipart (n : Nat) (ctype : Bytes) (pp0 : PP) (hc : create n ctype = some pp0)
    (hu : pp0.isUrl = false) :
    ∃ b : Bytes, b.length < n ∧ pp0 = { isUrl := false, bufferSize := n + 4, boundary := b } := by
  unfold create at hc
  simp only at hc
  split at hc
  · cases hc; cases hu
  · split at hc
    · cases hc
    · split at hc
      · cases hc
      · rename_i r _
        split at hc
        · cases hc
        · rename_i hlen
          cases hc
          refine ⟨_, ?_, rfl⟩
          generalize List.drop sBoundaryEq.length r = b at hlen ⊢
          split
          · simp only [List.length_take, List.length_drop]; omega
          · omega

theorem create_multipart_mpend (n : Nat) (ctype : Bytes) (pp0 : PP) (hc : create n ctype = some pp0)
    (hu : pp0.isUrl = false) : MPend pp0 [] 0 := by
  obtain ⟨b, _, rfl⟩ := create_multipart n ctype pp0 hc hu
  exact ⟨⟨rfl, rfl, (by decide : MpState .init), Or.inl rfl, nofun⟩, Nat.zero_le _, Nat.succ_pos _,
    ⟨[], [], rfl, rfl, rfl⟩, nofun, Nat.le_refl _⟩

/-- Multipart, **all inputs and all splits**: no access leaves an object, the loop of the model ends
    within its fuel, every delivered value byte is a byte of the input, and if every call returned
    `MHD_YES` every delivered piece is a contiguous piece of the input. -/
theorem multipart_all_inputs (n : Nat) (ctype : Bytes) (pp0 : PP) (chunks : List Bytes)
    (hc : create n ctype = some pp0) (hu : pp0.isUrl = false) :
    (destroy (feedAll pp0 chunks)).1.fault = none ∧
      (∀ e ∈ (destroy (feedAll pp0 chunks)).1.evs, ∀ b ∈ e.data, b ∈ chunks.flatten) ∧
      ((feedAllYes pp0 chunks).2 = true →
        ∀ e ∈ (destroy (feedAll pp0 chunks)).1.evs, e.data <:+: chunks.flatten) := by
  have h0 : MGood pp0 [] true := ⟨[], List.Sublist.refl _, fun _ => rfl, create_multipart_mpend n ctype pp0 hc hu⟩
  have h1 := feedAll_mgood chunks pp0 [] true h0
  rw [feedAllYes_fst] at h1
  simp only [List.nil_append, Bool.true_and] at h1
  obtain ⟨T, hsub, hall, hP⟩ := h1
  have hfs : (feedAll pp0 chunks).fault.isSome = false := by rw [hP.ctl.fault]; rfl
  have hst : (feedAll pp0 chunks).state ≠ .processValue := hP.ctl.st.2.1
  have hd : (destroy (feedAll pp0 chunks)).1 = feedAll pp0 chunks := by
    simp [destroy, hfs, hst]
  rw [hd]
  refine ⟨hP.ctl.fault, ?_, ?_⟩
  · intro e he b hb
    exact hsub.subset ((hP.evs e he).subset hb)
  · intro hyes e he
    rw [← hall hyes]
    exact hP.evs e he

end Mhd.PP
