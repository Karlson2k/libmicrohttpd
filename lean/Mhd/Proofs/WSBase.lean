/-
  C19, basic facts about the model `Mhd.Model.WSDecode`: the encoders and the close frame the
  decoder generates on an error touch nothing of the stream but the rng script (`SameButRng`); the
  UTF-8 validator is incremental (`checkUtf8_append`) and reports offsets inside the bytes checked;
  payload copy (length, concatenation, involution); lengths under buffer writes (`writeAt`, `termAt`)
  and allocation; the big-endian length field (`beVal`, `beBytes`).
-/
import Mhd.Model.WSDecode

namespace Mhd.WS

def SameButRng (a b : WS) : Prop := ∃ r, b = { a with rng := r }

theorem SameButRng.refl (a : WS) : SameButRng a a := ⟨a.rng, rfl⟩

theorem maskFor_ws (ws : WS) : SameButRng ws (maskFor ws).1 := by
  unfold maskFor genMask
  split
  · exact ⟨_, rfl⟩
  · exact SameButRng.refl _

theorem maskFor_server {ws : WS} (h : ws.isClient = false) : maskFor ws = (ws, [0, 0, 0, 0]) := by
  unfold maskFor; rw [h]; rfl

theorem encodeFrame_ws_eq (ws : WS) (b0 : UInt8) (n : Nat) (body : List UInt8 → List UInt8) :
    (encodeFrame ws b0 n body).ws = (maskFor ws).1 := by
  unfold encodeFrame
  dsimp only
  split
  · rfl
  · split <;> rfl

theorem encodeFrame_ws (ws : WS) (b0 : UInt8) (n : Nat) (body : List UInt8 → List UInt8) :
    SameButRng ws (encodeFrame ws b0 n body).ws := by
  rw [encodeFrame_ws_eq]; exact maskFor_ws ws

theorem encodeFrame_congr (a b : WS) (b0 : UInt8) (n : Nat) (body : List UInt8 → List UInt8)
    (hf : a.flags = b.flags) (hm : (maskFor a).2 = (maskFor b).2) (hl : a.allocLimit = b.allocLimit) :
    (encodeFrame a b0 n body).frame = (encodeFrame b b0 n body).frame ∧
    (encodeFrame a b0 n body).len = (encodeFrame b b0 n body).len := by
  have hc : a.isClient = b.isClient := by unfold WS.isClient; rw [hf]
  have hm1 : (maskFor a).1.allocLimit = (maskFor b).1.allocLimit := by
    obtain ⟨_, ha⟩ := maskFor_ws a
    obtain ⟨_, hb⟩ := maskFor_ws b
    rw [ha, hb]; exact hl
  have ho : overheadSize a n = overheadSize b n := by unfold overheadSize; rw [hc]
  unfold encodeFrame alloc
  dsimp only
  rw [hm1, ho, hm, hc]
  split
  · exact ⟨rfl, rfl⟩
  · split <;> exact ⟨rfl, rfl⟩

/-- `MHD_websocket_encode_close (ws, code, NULL, 0, …)` as the decoder calls it -/
theorem encodeClose_nil (ws : WS) (c : Nat) :
    encodeClose ws c [] =
      if c ≠ 0 ∧ c < 1000 then { ws := ws, st := -4, frame := none, len := 0 }
      else encodeFrame ws 0x88 (if c ≠ 0 then 2 else 0)
        (fun mask => if c ≠ 0 then copyPayload (beBytes 2 c) mask 0 else []) := by
  simp [encodeClose]

theorem SameButRng.ite {ws : WS} {p : Prop} [Decidable p] {a b : EncRes} (ha : SameButRng ws a.ws)
    (hb : SameButRng ws b.ws) : SameButRng ws (if p then a else b).ws := by
  split <;> assumption

theorem encodeClose_ws (ws : WS) (c : Nat) (r : List UInt8) : SameButRng ws (encodeClose ws c r).ws := by
  unfold encodeClose
  exact .ite (.refl _) (.ite (.refl _) (.ite (.refl _) (encodeFrame_ws _ _ _ _)))

theorem genClose_ws (ws : WS) (c : Nat) : SameButRng ws (genClose ws c).1 := by
  unfold genClose
  split
  · exact encodeClose_ws _ _ _
  · exact SameButRng.refl _

theorem genClose_validity (ws : WS) (c : Nat) : (genClose ws c).1.validity = ws.validity := by
  obtain ⟨r, hr⟩ := genClose_ws ws c
  rw [hr]

theorem genClose_congr (a b : WS) (c : Nat) (hf : a.flags = b.flags)
    (hr : a.genCloseFlag = true → a.isClient = true → a.rng = b.rng) (hl : a.allocLimit = b.allocLimit) :
    (genClose a c).2 = (genClose b c).2 := by
  have hg : a.genCloseFlag = b.genCloseFlag := by unfold WS.genCloseFlag; rw [hf]
  have hc : a.isClient = b.isClient := by unfold WS.isClient; rw [hf]
  unfold genClose
  rw [← hg]
  split
  · rename_i hga
    have hm : (maskFor a).2 = (maskFor b).2 := by
      cases hca : a.isClient with
      | true => unfold maskFor genMask; rw [← hc, hca, hr hga hca]; rfl
      | false => rw [maskFor_server hca, maskFor_server (hc ▸ hca)]
    rw [encodeClose_nil, encodeClose_nil]
    split
    · rfl
    · obtain ⟨h1, h2⟩ := encodeFrame_congr a b 0x88 (if c ≠ 0 then 2 else 0)
        (fun mask => if c ≠ 0 then copyPayload (beBytes 2 c) mask 0 else []) hf hm hl
      dsimp only
      rw [h1, h2]
  · rfl

theorem ite_some_or {p : Prop} [Decidable p] {a b : Nat} {o : Option Nat} (h : (if p then some a else o) = some b) :
    a = b ∨ o = some b := by
  split at h
  · exact .inl (Option.some.inj h)
  · exact .inr h

theorem utf8Next_some {s : Nat} {c : UInt8} {s' : Nat} (h : utf8Next s c = some s') :
    s' ≤ 10 ∧ givenUtf8 s' ≤ givenUtf8 s + 1 := by
  revert h
  unfold utf8Next
  dsimp only
  split
  · intro h
    iterate 8 (obtain rfl | h := ite_some_or h; · decide)
    cases h
  iterate 10
    intro h
    obtain rfl | h := ite_some_or h
    · decide
    · cases h
  · intro h; cases h

theorem checkUtf8_le (bs : List UInt8) (s i s' : Nat) (hs : s ≤ 10) (h : checkUtf8 bs s i = .ok s') : s' ≤ 10 := by
  induction bs generalizing s i with
  | nil => simp only [checkUtf8] at h; injection h with h; omega
  | cons c cs ih =>
    simp only [checkUtf8] at h
    split at h
    · exact absurd h (by simp)
    · rename_i s1 hs1
      exact ih s1 (i + 1) (utf8Next_some hs1).1 h

theorem checkUtf8_append (a b : List UInt8) (s i : Nat) :
    checkUtf8 (a ++ b) s i =
      match checkUtf8 a s i with
      | .invalid o => .invalid o
      | .ok s' => checkUtf8 b s' (i + a.length) := by
  induction a generalizing s i with
  | nil => simp [checkUtf8]
  | cons c cs ih =>
    simp only [List.cons_append, checkUtf8]
    split
    · rfl
    · rename_i s1 _
      rw [ih s1 (i + 1)]
      simp only [List.length_cons]
      have : i + 1 + cs.length = i + (cs.length + 1) := by omega
      rw [this]

theorem checkUtf8_invalid_lt (bs : List UInt8) (s i o : Nat) (h : checkUtf8 bs s i = .invalid o) :
    i ≤ o ∧ o < i + bs.length := by
  induction bs generalizing s i with
  | nil => simp [checkUtf8] at h
  | cons c cs ih =>
    simp only [checkUtf8] at h
    split at h
    · injection h with h; simp only [List.length_cons]; omega
    · rename_i s1 _
      have := ih s1 (i + 1) h
      simp only [List.length_cons]; omega

theorem checkUtf8_shift' (bs : List UInt8) (s i k : Nat) :
    checkUtf8 bs s (i + k) = match checkUtf8 bs s i with
      | .invalid o => .invalid (o + k)
      | .ok s' => .ok s' := by
  induction bs generalizing s i with
  | nil => simp [checkUtf8]
  | cons c cs ih =>
    simp only [checkUtf8]
    split
    · rfl
    · rename_i s1 _
      have : i + k + 1 = (i + 1) + k := by omega
      rw [this, ih s1 (i + 1)]

theorem checkUtf8_shift (bs : List UInt8) (s i : Nat) :
    checkUtf8 bs s i = match checkUtf8 bs s 0 with
      | .invalid o => .invalid (o + i)
      | .ok s' => .ok s' := by
  have := checkUtf8_shift' bs s 0 i
  simpa using this

theorem checkUtf8_append_ok (a b : List UInt8) (s s' : Nat) (h : checkUtf8 (a ++ b) s 0 = .ok s') :
    ∃ s1, checkUtf8 a s 0 = .ok s1 ∧ checkUtf8 b s1 0 = .ok s' := by
  rw [checkUtf8_append] at h
  cases ha : checkUtf8 a s 0 with
  | invalid o => rw [ha] at h; cases h
  | ok s1 =>
    rw [ha] at h
    simp only [] at h
    refine ⟨s1, rfl, ?_⟩
    rw [checkUtf8_shift] at h
    cases hb : checkUtf8 b s1 0 with
    | invalid o => rw [hb] at h; cases h
    | ok s2 => rw [hb] at h; exact h

theorem checkUtf8_ok_append (a b : List UInt8) (s s1 s' : Nat) (ha : checkUtf8 a s 0 = .ok s1)
    (hb : checkUtf8 b s1 0 = .ok s') : checkUtf8 (a ++ b) s 0 = .ok s' := by
  rw [checkUtf8_append, ha]
  simp only []
  rw [checkUtf8_shift, hb]

theorem checkUtf8_given (bs : List UInt8) (s i s' : Nat) (h : checkUtf8 bs s i = .ok s') :
    givenUtf8 s' ≤ givenUtf8 s + bs.length := by
  induction bs generalizing s i with
  | nil => simp only [checkUtf8] at h; injection h with h; subst h; simp
  | cons c cs ih =>
    simp only [checkUtf8] at h
    split at h
    · exact absurd h (by simp)
    · rename_i s1 hs1
      have h1 := ih s1 (i + 1) h
      have h2 := (utf8Next_some hs1).2
      simp only [List.length_cons]; omega

theorem xorMask_length (mask : List UInt8) (off : Nat) (src : List UInt8) :
    (xorMask mask off src).length = src.length := by
  simp [xorMask]

theorem copyPayload_length (src mask : List UInt8) (off : Nat) :
    (copyPayload src mask off).length = src.length := by
  unfold copyPayload
  split
  · rfl
  · exact xorMask_length _ _ _

theorem xorMask_append (m : List UInt8) (off : Nat) (a b : List UInt8) :
    xorMask m off (a ++ b) = xorMask m off a ++ xorMask m (off + a.length) b := by
  unfold xorMask
  rw [List.mapIdx_append]
  congr 1
  congr 1
  funext i x
  have : i + a.length + off = i + (off + a.length) := by omega
  rw [this]

theorem xorMask_mod (m : List UInt8) (off : Nat) (a : List UInt8) : xorMask m (off % 4) a = xorMask m off a := by
  unfold xorMask
  congr 1
  funext i x
  have : (i + off % 4) % 4 = (i + off) % 4 := by omega
  rw [this]

theorem copyPayload_append (m : List UInt8) (off : Nat) (a b : List UInt8) :
    copyPayload (a ++ b) m (off % 4) = copyPayload a m (off % 4) ++ copyPayload b m ((off + a.length) % 4) := by
  unfold copyPayload
  split
  · rfl
  · rw [xorMask_mod, xorMask_mod, xorMask_mod, xorMask_append]

theorem copyPayload_zero (src : List UInt8) (off : Nat) : copyPayload src [0, 0, 0, 0] off = src := by
  unfold copyPayload; simp

theorem copyPayload_involutive (src key : List UInt8) (off : Nat) :
    copyPayload (copyPayload src key off) key off = src := by
  unfold copyPayload
  split
  · rfl
  · unfold xorMask
    apply List.ext_getElem
    · simp
    · intro i h1 h2
      simp only [List.getElem_mapIdx]
      rw [UInt8.xor_assoc, UInt8.xor_self, UInt8.xor_zero]

theorem writeAt_length (buf : List UInt8) (off : Nat) (bs b' : List UInt8) (h : writeAt buf off bs = some b') :
    b'.length = buf.length := by
  unfold writeAt at h
  split at h
  · injection h with h; subst h
    simp only [List.length_append, List.length_take, List.length_drop]; omega
  · exact absurd h (by simp)

def written (buf : List UInt8) (off : Nat) (bs : List UInt8) : List UInt8 :=
  buf.take off ++ bs ++ buf.drop (off + bs.length)

theorem writeAt_eq (buf : List UInt8) (off : Nat) (bs : List UInt8) (h : off + bs.length ≤ buf.length) :
    writeAt buf off bs = some (written buf off bs) := if_pos h

theorem writeAt_read (buf : List UInt8) (off : Nat) (bs buf' : List UInt8) (h : writeAt buf off bs = some buf') :
    (buf'.drop off).take bs.length = bs := by
  unfold writeAt at h
  split at h
  · rename_i hle
    injection h with h
    subst h
    have h1 : (buf.take off).length = off := by simp only [List.length_take]; omega
    rw [List.append_assoc, List.drop_append_of_le_length (by omega), List.drop_of_length_le (by omega)]
    simp
  · exact absurd h (by simp)

theorem writeAt_read_drop (buf : List UInt8) (off : Nat) (bs buf' : List UInt8) (d : Nat)
    (h : writeAt buf off bs = some buf') :
    (buf'.drop (off + d)).take (bs.length - d) = bs.drop d := by
  have := writeAt_read buf off bs buf' h
  calc (buf'.drop (off + d)).take (bs.length - d)
      = ((buf'.drop off).take bs.length).drop d := by rw [List.drop_take, List.drop_drop]
    _ = bs.drop d := by rw [this]

theorem termAt_length (buf : List UInt8) (n : Nat) (b' : List UInt8) (h : termAt buf n = some b') :
    b'.length = buf.length := by
  unfold termAt at h
  split at h
  · injection h with h; subst h; simp
  · exact absurd h (by simp)

theorem termAt_some (buf : List UInt8) (n : Nat) (h : n < buf.length) : ∃ b', termAt buf n = some b' := by
  unfold termAt
  rw [if_pos h]
  exact ⟨_, rfl⟩

theorem alloc_length (ws : WS) (n : Nat) (b : List UInt8) (h : alloc ws n = some b) :
    b.length = n ∧ n ≤ ws.allocLimit := by
  unfold alloc at h
  split at h
  · injection h with h; subst h; simp; assumption
  · exact absurd h (by simp)

theorem realloc_length (ws : WS) (old : Option (List UInt8)) (n : Nat) (b : List UInt8)
    (h : realloc ws old n = some b) : b.length = n ∧ n ≤ ws.allocLimit := by
  unfold realloc at h
  split at h
  · injection h with h; subst h
    refine ⟨?_, by assumption⟩
    simp only [List.length_append, List.length_take, List.length_replicate]; omega
  · exact absurd h (by simp)

theorem beVal_lt (bs : List UInt8) : beVal bs < 256 ^ bs.length := by
  unfold beVal
  suffices ∀ (a : Nat) (bs : List UInt8), bs.foldl (fun a b => a * 256 + b.toNat) a < (a + 1) * 256 ^ bs.length by
    simpa using this 0 bs
  intro a bs
  induction bs generalizing a with
  | nil => simp
  | cons c cs ih =>
    simp only [List.foldl_cons, List.length_cons]
    have := ih (a * 256 + c.toNat)
    have hc : c.toNat < 256 := c.toNat_lt
    calc _ < (a * 256 + c.toNat + 1) * 256 ^ cs.length := this
      _ ≤ ((a + 1) * 256) * 256 ^ cs.length := Nat.mul_le_mul_right _ (by omega)
      _ = (a + 1) * 256 ^ (cs.length + 1) := by rw [Nat.pow_succ]; ac_rfl

theorem beVal_cons (b : UInt8) (bs : List UInt8) : beVal (b :: bs) = b.toNat * 256 ^ bs.length + beVal bs := by
  unfold beVal
  simp only [List.foldl_cons, Nat.zero_mul, Nat.zero_add]
  suffices ∀ (a : Nat) (bs : List UInt8),
      bs.foldl (fun a b => a * 256 + b.toNat) a = a * 256 ^ bs.length + bs.foldl (fun a b => a * 256 + b.toNat) 0 by
    exact this _ _
  intro a bs
  induction bs generalizing a with
  | nil => simp
  | cons c cs ih =>
    simp only [List.foldl_cons, List.length_cons, Nat.zero_mul, Nat.zero_add]
    rw [ih (a * 256 + c.toNat), ih c.toNat, Nat.pow_succ]
    rw [Nat.add_mul, Nat.add_assoc]
    congr 1
    rw [Nat.mul_assoc, Nat.mul_comm 256]

theorem beBytes_length (k n : Nat) : (beBytes k n).length = k := by
  induction k with
  | zero => rfl
  | succ k ih => simp [beBytes, ih]

theorem beVal_beBytes (k n : Nat) : beVal (beBytes k n) = n % 256 ^ k := by
  induction k with
  | zero => simp [beBytes, beVal, Nat.mod_one]
  | succ k ih =>
    rw [beBytes, beVal_cons, ih, beBytes_length, UInt8.toNat_ofNat']
    rw [Nat.mod_mod_of_dvd _ (by exact ⟨1, by omega⟩ : (256:Nat) ∣ 256), Nat.pow_succ]
    rw [Nat.mod_mul, Nat.mul_comm]
    exact Nat.add_comm _ _

theorem beBytes_snoc (k n : Nat) (hn : n < 256 ^ (k + 1)) :
    ∃ ls l, beBytes (k + 1) n = ls ++ [l] ∧ ls.length = k ∧ beVal (ls ++ [l]) = n := by
  have hne : beBytes (k + 1) n ≠ [] := List.cons_ne_nil _ _
  have he := List.dropLast_concat_getLast hne
  refine ⟨_, _, he.symm, ?_, ?_⟩
  · rw [List.length_dropLast, beBytes_length]; rfl
  · rw [he, beVal_beBytes, Nat.mod_eq_of_lt hn]

end Mhd.WS
