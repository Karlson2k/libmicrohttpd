import Mhd.Proofs.ReplyHead
import Mhd.Proofs.ReplyNum
namespace Mhd.Reply
open Mhd.ReplyStr Mhd.Resp
open Mhd.Http (FieldOK NameOK NoCRLF normField ChunkOK chunkBytes)
open Mhd.Gen.Reply (sizeUnknown maxChunk)

def footerFields (hs : List Hdr) : List Field :=
  (hs.filter fun h => h.kind == .footer).map fun h => ⟨h.name, h.value⟩

theorem buildFooterLoop_eq (bs : Nat) : ∀ (hs : List Hdr) (buf out : Bytes), buildFooterLoop bs hs buf = some out →
    out = buf ++ ((footerFields hs).map fieldLine).flatten
  | [], buf, out, h => by simp [buildFooterLoop] at h; simp [h, footerFields]
  | x :: rest, buf, out, h => by
    simp only [buildFooterLoop] at h
    by_cases hk : (x.kind == Kind.footer) = true
    · simp only [hk, if_true] at h
      split at h
      · simp at h
      · have := buildFooterLoop_eq bs rest _ out h
        simp [this, footerFields, hk, fieldLine, List.append_assoc]
    · simp only [hk, Bool.false_eq_true, if_false] at h
      have := buildFooterLoop_eq bs rest _ out h
      simp [this, footerFields, hk]

theorem buildFooter_eq (r : Resp) (bs : Nat) (out : Bytes) (h : buildFooter r bs = some out) :
    out = 48 :: 13 :: 10 :: (Mhd.Http.renderFields ((footerFields r.hdrs).map toHttp) ++ [13, 10]) := by
  unfold buildFooter at h
  split at h
  · simp at h
  · split at h
    · simp at h
    · rename_i buf hb
      split at h
      · simp at h
      · simp at h
        have := buildFooterLoop_eq bs r.hdrs _ buf hb
        rw [← h, this, render_http]
        simp [crlf]

theorem footer_fieldOK (r : Resp) (hinv : Inv r) : ∀ f ∈ (footerFields r.hdrs).map toHttp, FieldOK f := by
  intro f hf
  simp only [footerFields, List.map_map, List.mem_map, List.mem_filter] at hf
  obtain ⟨h, ⟨hm, _⟩, rfl⟩ := hf
  have := hinv.clean h hm
  exact ⟨this.1, this.2.2⟩

theorem maxChunk_lt : maxChunk < 16 ^ 6 := by decide

theorem chunkFrame_ok (p : Bytes) (h0 : p ≠ []) (hl : p.length ≤ maxChunk) :
    ∃ hex, chunkFrame p = some (chunkBytes hex p) ∧ ChunkOK (hex, p) := by
  have hpos : 0 < p.length := by
    cases p with
    | nil => exact absurd rfl h0
    | cons _ _ => simp
  have hlt : p.length < 16 ^ 6 := by have := maxChunk_lt; omega
  have hmod : p.length % 2 ^ 32 = p.length := by
    apply Nat.mod_eq_of_lt
    have : (16:Nat) ^ 6 < 2 ^ 32 := by decide
    omega
  obtain ⟨hs, h1, h2, h3, h4⟩ := Mhd.ReplyNum.strx_spec p.length hpos hlt
  refine ⟨hs, ?_, ⟨h4, h3, h0⟩⟩
  unfold chunkFrame
  rw [hmod, h1]
  simp [chunkBytes, crlf, List.append_assoc]

def framesOf (cs : List (Bytes × Bytes)) : Bytes := (cs.map fun (c : Bytes × Bytes) => chunkBytes c.1 c.2).flatten

theorem framesOf_cons (c : Bytes × Bytes) (t : List (Bytes × Bytes)) : framesOf (c :: t) = chunkBytes c.1 c.2 ++ framesOf t := by
  simp [framesOf]

def chunkLimit (wb : Nat) : Nat := if maxChunk < wb - 10 then maxChunk else wb - 10

theorem stf_eq (wb left : Nat) : chunkSizeToFill wb left = if left < chunkLimit wb then left else chunkLimit wb := by
  unfold chunkSizeToFill chunkLimit; rfl

def sumLen (ps : List Bytes) : Nat := (ps.map List.length).sum

theorem sumLen_cons (p : Bytes) (ps : List Bytes) : sumLen (p :: ps) = p.length + sumLen ps := by
  simp [sumLen]

theorem chunkLimit_le (wb : Nat) : chunkLimit wb ≤ maxChunk :=
  ite_cases (· ≤ maxChunk) (fun _ => Nat.le_refl _) fun h => Nat.le_of_not_lt h

/-- the content contract of a callback at position `pos` with `n` bytes still to come: they make up the announced
    total, or stay below "unknown" when none was announced -/
def Room (total pos n : Nat) : Prop :=
  (total ≠ sizeUnknown → pos + n = total) ∧ (total = sizeUnknown → pos + n < sizeUnknown)

theorem Room.step {total pos a n : Nat} (h : Room total pos (a + n)) (ha : 0 < a) :
    (pos == total) = false ∧ a ≤ total - pos ∧ Room total (pos + a) n := by
  obtain ⟨hk, hu⟩ := h
  have hle : pos + (a + n) ≤ total := by
    by_cases ht : total = sizeUnknown
    · exact ht ▸ Nat.le_of_lt (hu ht)
    · exact Nat.le_of_eq (hk ht)
  exact ⟨by rw [beq_eq_false_iff_ne]; omega, by omega, fun ht => by rw [← hk ht, Nat.add_assoc],
    fun ht => by rw [Nat.add_assoc]; exact hu ht⟩

theorem le_chunkSizeToFill {wb total pos a : Nat} (hfit : a ≤ total - pos) (hl : a ≤ chunkLimit wb) :
    a ≤ chunkSizeToFill wb (if total == sizeUnknown then sizeUnknown else total - pos) := by
  have : a ≤ (if (total == sizeUnknown) = true then sizeUnknown else total - pos) :=
    ite_cases (fun x => a ≤ x) (fun h => by rw [beq_iff_eq] at h; omega) fun _ => hfit
  rw [stf_eq]
  exact ite_cases (fun x => a ≤ x) (fun _ => this) fun _ => hl

theorem chunkedCallback_spec (wb total : Nat) : ∀ (pieces : List Bytes) (pos : Nat) (acc : Bytes),
    (∀ p ∈ pieces, p ≠ [] ∧ p.length ≤ chunkLimit wb) →
    (total ≠ sizeUnknown → pos + sumLen pieces = total) → (total = sizeUnknown → pos + sumLen pieces < sizeUnknown) →
    ∃ cs, chunkedCallbackBody wb total .eos pieces pos acc = (acc ++ framesOf cs, true) ∧ cs.map (·.2) = pieces ∧
      ∀ c ∈ cs, ChunkOK c
  | [], pos, acc, _, _, _ => by
    refine ⟨[], ?_, rfl, by intro c hc; cases hc⟩
    simp [chunkedCallbackBody, framesOf]
  | p :: ps, pos, acc, hp, hk, hu => by
    obtain ⟨hp0, hpl⟩ := hp p List.mem_cons_self
    rw [sumLen_cons] at hk hu
    obtain ⟨hne, hfit, hk', hu'⟩ := Room.step ⟨hk, hu⟩ (List.length_pos_iff.2 hp0)
    obtain ⟨hex, hf, hok⟩ := chunkFrame_ok p hp0 (Nat.le_trans hpl (chunkLimit_le wb))
    obtain ⟨cs, h1, h2, h3⟩ := chunkedCallback_spec wb total ps (pos + p.length) (acc ++ chunkBytes hex p)
      (fun q hq => hp q (List.mem_cons_of_mem _ hq)) hk' hu'
    refine ⟨(hex, p) :: cs, ?_, by rw [List.map_cons, h2], ?_⟩
    · rw [chunkedCallbackBody, hne, if_neg Bool.false_ne_true]
      dsimp only
      rw [List.take_of_length_le (le_chunkSizeToFill hfit hpl), hf]
      dsimp only
      rw [h1, framesOf_cons, List.append_assoc]
    · intro c hc
      rcases List.mem_cons.1 hc with rfl | hc'
      · exact hok
      · exact h3 c hc'

theorem bufferChunk_len (wb total pos : Nat) (hwb : 128 ≤ wb) (hlt : pos < total) :
    let n := if total - pos > chunkSizeToFill wb (total - pos) then chunkSizeToFill wb (total - pos) else total - pos
    1 ≤ n ∧ n ≤ maxChunk ∧ n ≤ total - pos := by
  have hcl1 : 1 ≤ chunkLimit wb :=
    ite_cases (1 ≤ ·) (fun _ => by decide) fun _ => Nat.le_sub_of_add_le (Nat.le_trans (by decide) hwb)
  have hcl2 := chunkLimit_le wb
  have hA : 1 ≤ total - pos := Nat.sub_pos_of_lt hlt
  let P : Nat → Prop := fun x => 1 ≤ x ∧ x ≤ maxChunk ∧ x ≤ total - pos
  have hstf : P (chunkSizeToFill wb (total - pos)) := by
    rw [stf_eq]
    exact ite_cases P (fun h => ⟨hA, Nat.le_trans (Nat.le_of_lt h) hcl2, Nat.le_refl _⟩)
      fun h => ⟨hcl1, hcl2, Nat.le_of_not_lt h⟩
  exact ite_cases P (fun _ => hstf) fun h => ⟨hA, Nat.le_trans (Nat.le_of_not_lt h) hstf.2.1, Nat.le_refl _⟩

theorem chunkedBuffer_spec (wb total : Nat) (data : Bytes) (hd : data.length = total) (hwb : 128 ≤ wb) :
    ∀ (fuel pos : Nat) (acc : Bytes), pos ≤ total → total - pos < fuel →
    ∃ cs, chunkedBufferBody wb total data fuel pos acc = some (acc ++ framesOf cs) ∧
      (cs.map (·.2)).flatten = data.drop pos ∧ ∀ c ∈ cs, ChunkOK c
  | 0, pos, acc, _, hf => absurd hf (Nat.not_lt_zero _)
  | fuel + 1, pos, acc, hp, hf => by
    by_cases he : pos = total
    · refine ⟨[], ?_, ?_, by intro c hc; cases hc⟩
      · simp [chunkedBufferBody, he, framesOf]
      · rw [he, ← hd]; simp
    · have hlt : pos < total := Nat.lt_of_le_of_ne hp he
      obtain ⟨n, hn⟩ : ∃ n, n = if data.length - pos > chunkSizeToFill wb (total - pos)
          then chunkSizeToFill wb (total - pos) else data.length - pos := ⟨_, rfl⟩
      obtain ⟨n1, n2, n3⟩ : 1 ≤ n ∧ n ≤ maxChunk ∧ n ≤ total - pos := by
        rw [hn, hd]; exact bufferChunk_len wb total pos hwb hlt
      have h4 : pos + n ≤ total := Nat.add_le_of_le_sub' hp n3
      have h5 : total - (pos + n) < fuel := by clear hn; omega
      have hsl : ((data.drop pos).take n).length = n := by
        rw [List.length_take, List.length_drop, hd]; exact Nat.min_eq_left n3
      have hsl0 : (data.drop pos).take n ≠ [] := fun hh => by
        rw [hh] at hsl; exact absurd hsl.symm (Nat.ne_of_gt n1)
      obtain ⟨hex, hfr, hok⟩ := chunkFrame_ok ((data.drop pos).take n) hsl0 (by rw [hsl]; exact n2)
      obtain ⟨cs, h1, h2, h3⟩ := chunkedBuffer_spec wb total data hd hwb fuel (pos + n)
        (acc ++ chunkBytes hex ((data.drop pos).take n)) h4 h5
      refine ⟨(hex, (data.drop pos).take n) :: cs, ?_, ?_, ?_⟩
      · rw [chunkedBufferBody, beq_eq_false_iff_ne.2 he, if_neg Bool.false_ne_true]
        dsimp only
        rw [← hn, beq_eq_false_iff_ne.2 (Nat.ne_of_gt n1), if_neg Bool.false_ne_true, hfr]
        dsimp only
        rw [h1, framesOf_cons, List.append_assoc]
      · rw [List.map_cons, List.flatten_cons, h2, ← List.drop_drop]
        exact List.take_append_drop n (data.drop pos)
      · intro c hc
        rcases List.mem_cons.1 hc with rfl | hc'
        · exact hok
        · exact h3 c hc'

theorem normalCallback_spec (total : Nat) : ∀ (pieces : List Bytes) (pos : Nat) (acc : Bytes),
    (∀ p ∈ pieces, p ≠ []) →
    (total ≠ sizeUnknown → pos + sumLen pieces = total) → (total = sizeUnknown → pos + sumLen pieces < sizeUnknown) →
    (normalCallbackBody total pieces pos acc).bytes = acc ++ pieces.flatten ∧
    (total ≠ sizeUnknown → (normalCallbackBody total pieces pos acc).complete = true)
  | [], pos, acc, _, hk, _ => by
    refine ⟨by simp [normalCallbackBody], ?_⟩
    intro ht
    have := hk ht
    simp [normalCallbackBody, sumLen] at this ⊢
    exact this
  | p :: ps, pos, acc, hp, hk, hu => by
    rw [sumLen_cons] at hk hu
    obtain ⟨hne, hfit, hk', hu'⟩ := Room.step ⟨hk, hu⟩ (List.length_pos_iff.2 (hp p List.mem_cons_self))
    obtain ⟨i1, i2⟩ := normalCallback_spec total ps (pos + p.length) (acc ++ p)
      (fun q hq => hp q (List.mem_cons_of_mem _ hq)) hk' hu'
    rw [normalCallbackBody, hne, if_neg Bool.false_ne_true]
    dsimp only
    rw [List.take_of_length_le hfit]
    exact ⟨by rw [i1, List.flatten_cons, List.append_assoc], i2⟩
end Mhd.Reply
