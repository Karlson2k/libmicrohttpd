/-
  C12 proofs, §3: the result does not depend on the lengths as sent, for lengths that agree with the meaning and
  respect the size limits (`expectedClass_congr`).
-/
import Mhd.Proofs.DauthValid
namespace Mhd.Dauth
open Mhd.Auth Mhd.Gen.Auth Mhd.Gen.Dauth

/-- the size limits, for whichever algorithm the credential names -/
def RawOk (call : Call) (c : Cred) (lv : LenView) : Prop := ∀ a, baseAlgo c.algo3 = some a → WithinLimits a call c lv

theorem lv_cases {c : Cred} {lv lv' : LenView} (h : LenSem c lv) (h' : LenSem c lv') (k : Nat) :
    (lv k = none ∧ lv' k = none) ∨ (∃ l l', lv k = some l ∧ lv' k = some l' ∧ (l = 0 ↔ l' = 0)) := by
  cases hv : c.val k with
  | none => exact Or.inl ⟨(h.none_iff k).mpr hv, (h'.none_iff k).mpr hv⟩
  | some v =>
    obtain ⟨l, hl, hz⟩ := lv_of_val h hv
    obtain ⟨l', hl', hz'⟩ := lv_of_val h' hv
    exact Or.inr ⟨l, l', hl, hl', by rw [hz, hz']⟩

theorem lenCheck_congr {α : Type} {o o' : Option Nat} {B : Nat} {e0 e1 e2 : Res} {y y' : Except Res α}
    (h : (o = none ∧ o' = none) ∨ (∃ l l', o = some l ∧ o' = some l' ∧ (l = 0 ↔ l' = 0)))
    (hb : ∀ l, o = some l → l ≤ B) (hb' : ∀ l, o' = some l → l ≤ B) (hy : y = y') :
    lenCheck e0 e1 e2 B y o = lenCheck e0 e1 e2 B y' o' := by
  rcases h with ⟨rfl, rfl⟩ | ⟨l, l', rfl, rfl, z⟩
  · rfl
  · simp only [lenCheck]
    by_cases h0 : l = 0
    · rw [if_pos h0, if_pos (z.mp h0)]
    · rw [if_neg h0, if_neg (mt z.mpr h0), if_neg (Nat.not_lt.mpr (hb l rfl)), if_neg (Nat.not_lt.mpr (hb' l' rfl)), hy]

theorem presenceV_congr (a : Algo) (call : Call) (c : Cred) (lv lv' : LenView) (h : LenSem c lv) (h' : LenSem c lv')
    (hl : WithinLimits a call c lv) (hl' : WithinLimits a call c lv') :
    presenceV a call lv c.qop c.userhash = presenceV a call lv' c.qop c.userhash := by
  have e1 : presUsername a.size lv c.userhash = presUsername a.size lv' c.userhash := by
    unfold presUsername
    have hext : lv kUsernameExt = lv' kUsernameExt := by rw [h.ext, h'.ext]
    rw [← hext]
    rcases lv_cases h h' kUsername with ⟨e, e'⟩ | ⟨l, l', e, e', _⟩
    · rw [e, e']
    · rw [e, e']
      cases lv kUsernameExt with
      | some _ => rfl
      | none =>
        simp only
        cases huh : c.userhash
        · simp
        · have b := hl.userhash huh l e
          have b' := hl'.userhash huh l' e'
          have n1 : ¬ a.size * 2 > l := by omega
          have n2 : ¬ a.size * 4 < l := by omega
          have n1' : ¬ a.size * 2 > l' := by omega
          have n2' : ¬ a.size * 4 < l' := by omega
          simp [n1, n2, n1', n2']
  have e2 : presRealm call lv c.userhash = presRealm call lv' c.userhash := by
    unfold presRealm
    rcases lv_cases h h' kRealm with ⟨e, e'⟩ | ⟨l, l', e, e', _⟩
    · rw [e, e']
    · rw [e, e']
      simp only
      by_cases hc : isPassword call.secret = true ∨ c.userhash = true
      · have b := hl.realm hc l e
        have b' := hl'.realm hc l' e'
        have n : ¬ maxParam < l := by omega
        have n' : ¬ maxParam < l' := by omega
        simp [n, n']
      · simp [hc]
  have e3 : presNcCnonce lv c.qop = presNcCnonce lv' c.qop := by
    unfold presNcCnonce
    by_cases hq : c.qop ≠ qopNone
    · rw [if_pos hq, if_pos hq]
      exact lenCheck_congr (lv_cases h h' kNc) (hl.nc hq) (hl'.nc hq)
        (lenCheck_congr (lv_cases h h' kCnonce) (hl.cnonce hq) (hl'.cnonce hq) rfl)
    · rw [if_neg hq, if_neg hq]
  have e4 : presUri lv = presUri lv' :=
    lenCheck_congr (lv_cases h h' kUri) (fun l e => Nat.le_of_succ_le (hl.uri l e))
      (fun l e => Nat.le_of_succ_le (hl'.uri l e)) rfl
  have e5 : presNonce a lv = presNonce a lv' :=
    lenCheck_congr (lv_cases h h' kNonce) hl.nonce hl'.nonce rfl
  have e6 : presResponse a.size lv = presResponse a.size lv' :=
    lenCheck_congr (lv_cases h h' kResponse) hl.response hl'.response rfl
  unfold presenceV
  rw [e1, e2, e3, e4, e5, e6]

theorem specUri_congr (cfg : Cfg) (r : Req) (c : Cred) (lv lv' : LenView) (a : Algo) (call : Call)
    (hl : WithinLimits a call c lv) (hl' : WithinLimits a call c lv') (hp : lv kUri ≠ none) (hp' : lv' kUri ≠ none) :
    specUri cfg r c lv = specUri cfg r c lv' := by
  unfold specUri
  cases e : lv kUri with
  | none => exact absurd e hp
  | some l =>
    cases e' : lv' kUri with
    | none => exact absurd e' hp'
    | some l' =>
      simp only [Option.getD_some, (noBuffer_false_iff _).mpr (hl.uri l e), (noBuffer_false_iff _).mpr (hl'.uri l' e')]

/-- rendering independence (C12 §3) at the level of meanings -/
theorem expectedClass_congr (cfg : Cfg) (tbl : Mhd.Nonce.Table) (now : Nat) (r : Req) (call : Call) (timeout maxNc : Nat)
    (c : Cred) (lv lv' : LenView) (h : LenSem c lv) (h' : LenSem c lv') (hl : RawOk call c lv) (hl' : RawOk call c lv') :
    expectedClass cfg tbl now r call timeout maxNc c lv = expectedClass cfg tbl now r call timeout maxNc c lv' := by
  have hpre : specPre now timeout maxNc call c lv = specPre now timeout maxNc call c lv' :=
    bind_sem (x := stageAlgoN call c.algo3) fun a hA => by
      have hb := ((stageAlgoN_iff _ _ _).mp hA).2.2.2
      rw [presenceV_congr a call c lv lv' h h' (hl a hb) (hl' a hb)]
  unfold expectedClass
  rw [← hpre]
  cases hS : specPre now timeout maxNc call c lv with
  | error e => rfl
  | ok x =>
    obtain ⟨a, nci, n, t⟩ := x
    have hS' := hS
    rw [specPre_ok_iff] at hS'
    obtain ⟨hA, _, hP, _⟩ := hS'
    have hb := ((stageAlgoN_iff _ _ _).mp hA).2.2.2
    have hP' : presenceV a call lv' c.qop c.userhash = .ok () := by
      rw [← presenceV_congr a call c lv lv' h h' (hl a hb) (hl' a hb)]; exact hP
    have hu := ((presUri_ok lv).mp ((presenceV_ok ..).mp hP).2.2.2.1).there
    have hu' := ((presUri_ok lv').mp ((presenceV_ok ..).mp hP').2.2.2.1).there
    have : specPost cfg r call c lv a t = specPost cfg r call c lv' a t := by
      unfold specPost
      rw [specUri_congr cfg r c lv lv' a call (hl a hb) (hl' a hb) hu hu']
    simp only [this]

end Mhd.Dauth
