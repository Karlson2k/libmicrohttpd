import Mhd.Model.NoSpaceConn
import Mhd.Proofs.NoSpace

namespace Mhd.ArenaBound
open Mhd.ConnRead Mhd.ConnMem Mhd.Req Mhd.Gen Mhd.Gen.ConnMem

abbrev NS (x : CR) : Prop := isNoSpace x.phase = true

theorem errorOut_ns (x : CR) (k : ErrKind) (h : NS (errorOut x k)) : k = .noSpace := by
  unfold NS errorOut at h
  cases k with
  | noSpace => rfl
  | closed => cases h
  | reply c =>
    simp only at h
    split at h <;> cases h

theorem errOfReply_ne (o : Option Nat) : errOfReply o ≠ .noSpace := by
  cases o <;> nofun

theorem afterLine_ns (x : CR) (r : ReqLine) : ¬ NS (afterLine x r) := by
  intro h
  unfold afterLine at h
  split at h
  · exact errOfReply_ne _ (errorOut_ns _ _ h)
  · split at h
    · cases h
    · split at h
      · cases errorOut_ns _ _ h
      · cases h

theorem idleReqLine_ns (x : CR) (s : RL) : ¬ NS (idleReqLine x s) := by
  intro h
  unfold idleReqLine at h
  split at h
  · cases h
  · split at h
    · cases h
    · split at h
      · cases errorOut_ns _ _ h
      · cases h
  · exact errOfReply_ne _ (errorOut_ns _ _ h)
  · split at h
    · cases h
    · exact afterLine_ns _ _ h

theorem stLine_ns (x : CR) (h : NS (stLine x)) : NS x := by
  unfold stLine at h
  split at h
  · exact absurd h (idleReqLine_ns _ _)
  · cases h
  · exact h

theorem startBody_ns (cfg : Cfg) (x : CR) (hd : Headers) (rq : Rq) (ch : Bool) (n : Nat) :
    ¬ NS (startBody cfg x hd rq ch n) := by
  intro h
  unfold startBody at h
  split at h
  · cases h
  · simp only at h
    split at h <;> cases h

theorem stAfter_ns (cfg : Cfg) (x : CR) (h : NS (stAfter cfg x)) : NS x := by
  unfold stAfter at h
  split at h
  · rename_i hd rq hp
    unfold afterHeaders at h
    split at h
    · exact h
    · cases errorOut_ns _ _ h
    · exfalso
      split at h
      · cases h
      · cases h
      · split at h <;> exact startBody_ns _ _ _ _ _ _ h
  · exact h

theorem processBody_ns (cfg : Cfg) (x : CR) (b : Body) : ¬ NS (processBody cfg x b) := by
  intro h
  unfold processBody at h
  simp only at h
  split at h
  · cases h
  · cases errorOut_ns _ _ h
  · cases h
  · split at h <;> cases h

theorem idleBody_ns (cfg : Cfg) (x : CR) (b : Body) (h : NS (idleBody cfg x b)) : NS x := by
  unfold idleBody at h
  simp only at h
  split at h
  · split at h
    · split at h <;> cases h
    · rename_i b1 hp hr
      unfold NS at h; rw [hp] at h; cases h
  · by_cases h0 : x.cm.rbOff ≠ 0
    · rw [if_pos h0] at h; exact absurd h (processBody_ns _ _ _)
    · rw [if_neg h0] at h; exact h

theorem stBody_ns (cfg : Cfg) (x : CR) (h : NS (stBody cfg x)) : NS x := by
  unfold stBody at h
  split at h
  · exact idleBody_ns cfg x _ h
  · exact h

theorem finishRequest_ns (x : CR) (buf : Bytes) (rb : Nat) : ¬ NS (finishRequest x buf rb).1 := by
  intro h
  unfold finishRequest at h
  split at h
  · cases h
  · split at h <;> cases h

theorem stDone_ns (cfg : Cfg) (x : CR) (h : NS (stDone cfg x).1) : NS x := by
  unfold stDone at h
  split at h
  · split at h
    · exact absurd h (finishRequest_ns _ _ _)
    · cases h
  · exact h

theorem hdrLoop_ns (lvl : Int) (fs : Nat) (a : Aux) : ∀ (n : Nat) (c : CM) (s : HS),
    NS (hdrLoop lvl fs none n c s) → (hdrFail lvl fs a n c s).isSome = true := by
  intro n
  induction n with
  | zero => intro c s h; cases h
  | succ n ih =>
    intro c s h
    unfold hdrLoop hdrBody at h
    unfold hdrFail
    simp only at h ⊢
    split at h
    · cases h
    · cases h
    · cases errorOut_ns _ _ h
    · split at h
      · cases h
      · split at h <;> cases h
    · rename_i s1 hst
      simp only [hst]
      split at h
      · cases h
      · rename_i c1 hc
        simp only [hc]
        split at h
        · rename_i hlen
          simp only [hlen, if_true]
          rcases hal : step c1 (.alloc reqHeaderSize) with ⟨c2, r⟩
          rw [hal] at h
          cases r with
          | ptr o =>
            cases o with
            | some p => simp only at h ⊢; exact ih _ _ h
            | none => rfl
          | _ => rfl
        · rename_i hlen
          simp only [hlen, if_false]
          exact ih _ _ h

theorem or_isSome_left {α} (a b : Option α) (h : a.isSome = true) : (a.or b).isSome = true := by
  rw [Option.isSome_or, h, Bool.true_or]

theorem or_isSome_right {α} (a b : Option α) (h : b.isSome = true) : (a.or b).isSome = true := by
  rw [Option.isSome_or, h, Bool.or_true]

theorem passLog_complete (cfg : Cfg) (x : CR) (a : Aux) (hx : ¬ NS x) (h : NS (idlePass cfg x).1) :
    (passLog cfg x a).1.isSome = true := by
  unfold idlePass at h
  have h5 := stDone_ns _ _ h
  have h1 : ¬ NS (stLine x) := fun hh => hx (stLine_ns _ hh)
  unfold passLog
  simp only
  by_cases h2 : NS (stHeaders (stLine x))
  · apply or_isSome_left
    unfold stHeaders at h2
    split at h2
    · rename_i hs fs hp
      rw [hp]
      simp only
      exact hdrLoop_ns _ _ _ _ _ _ h2
    · exact absurd h2 h1
  · apply or_isSome_right
    have h3 : ¬ NS (stAfter cfg (stHeaders (stLine x))) := fun hh => h2 (stAfter_ns _ _ hh)
    have h4 : ¬ NS (stBody cfg (stAfter cfg (stHeaders (stLine x)))) := fun hh => h3 (stBody_ns _ _ hh)
    generalize stBody cfg (stAfter cfg (stHeaders (stLine x))) = x4 at h4 h5 ⊢
    have h5' : isNoSpace (stFooters x4).phase = true := h5
    unfold stFooters at h5
    split at h5
    · rename_i s n hp
      rw [hp]
      simp only [h5']
      rfl
    · exact absurd h5 h4

theorem idleStatesLog_complete (cfg : Cfg) : ∀ (n : Nat) (x : CR) (a : Aux), ¬ NS x →
    NS (idleStates cfg n x) → (idleStatesLog cfg n x a).1.isSome = true := by
  intro n
  induction n with
  | zero => intro x a hx h; exact absurd h hx
  | succ n ih =>
    intro x a hx h
    unfold idleStatesLog
    unfold idleStates at h
    have hn := passLog_complete cfg x a hx
    split
    · rfl
    · rename_i hp hi
      rw [hi] at h hn; rw [hp] at hn
      exact ih _ _ (fun hh => nomatch hn hh) h
    · rename_i hp hi
      rw [hi] at h hn; rw [hp] at hn
      exact nomatch hn h

theorem updateEv_eq (x : CR) : updateEv x = checkGrow (evState x) := by
  obtain ⟨cm, lvl, ph⟩ := x
  cases ph <;> rfl

theorem evState_ns (x : CR) (h : NS (evState x)) : NS x := by
  unfold evState at h
  split at h
  · cases h
  · exact h

theorem noSpaceOut_ns (y : CR) (a : Aux) (h : NS (noSpaceOut y)) :
    (match y.phase with
     | .body b => if hasUnprocessed b y.cm.rbOff then none else some (refusalGrow y a)
     | _ => some (refusalGrow y a)).isSome = true := by
  unfold noSpaceOut at h
  split at h
  · rename_i b hp
    rw [hp]
    by_cases hu : hasUnprocessed b y.cm.rbOff = true
    · rw [if_pos hu] at h; cases h
    · exact congrArg Option.isSome (if_neg hu)
  · rename_i hp
    split
    · rename_i b hb; exact absurd hb (hp b)
    · rfl

theorem growLog_complete (x : CR) (a : Aux) (hx : ¬ NS x) (h : NS (checkGrow x)) : (growLog x a).isSome = true := by
  unfold checkGrow at h
  unfold growLog
  by_cases hw : x.wantsRead = true
  · simp only [hw, Bool.not_true, Bool.false_eq_true, if_false] at h ⊢
    by_cases hreq : (x.cm.rbOff == x.cm.rbSize) = true
    · simp only [hreq, Bool.true_or, Bool.not_true, Bool.false_eq_true, if_false] at h ⊢
      rcases hg : step x.cm (.grow true) with ⟨c, r⟩
      rw [hg] at h
      cases r with
      | badOp => cases h
      | bool b =>
        cases b with
        | true => simp only at h; exact absurd h hx
        | false => exact noSpaceOut_ns { x with cm := c } a h
      | _ => exact noSpaceOut_ns { x with cm := c } a h
    · simp only [hreq, Bool.false_or] at h
      exfalso
      split at h
      · exact hx h
      · split at h
        · cases h
        · exact hx h
        · simp only [Bool.not_false, if_true] at h; exact hx h
  · simp only [hw, Bool.not_false, if_true] at h
    exact absurd h hx

theorem idleLog_complete (cfg : Cfg) (x : CR) (a : Aux) (hx : ¬ NS x) (h : NS (idle cfg x)) :
    (idleLog cfg x a).1.isSome = true := by
  unfold idle at h
  rw [updateEv_eq] at h
  by_cases hy : NS (idleStates cfg (x.cm.rbOff + 2) x)
  · exact or_isSome_left _ _ (idleStatesLog_complete cfg (x.cm.rbOff + 2) x a hx hy)
  · exact or_isSome_right _ _ (growLog_complete _ _ (fun hh => hy (evState_ns _ hh)) h)

theorem idleT_x (cfg : Cfg) (t : TR) : (idleT cfg t).x = idle cfg t.x := by
  unfold idleT
  rcases idleLog cfg t.x t.aux with ⟨r, a1⟩
  rfl

/-- induction over the traced run; it also shows the **erasure**: forgetting the trace gives exactly
    `Mhd.ConnRead.run` (the traced run takes its decisions from the `x` component alone) -/
theorem runT_induction (cfg : Cfg) (P : TR → Prop) (hidle : ∀ t, P t → P (idleT cfg t))
    (hrecv : ∀ t (e : List UInt8), P t → P (idleT cfg { t with x := recvBytes t.x e }))
    (chunks : List (List UInt8)) :
    ∀ (t : TR), P t → (runT cfg t chunks).x = run cfg t.x chunks ∧ P (runT cfg t chunks) := by
  have fuel : ∀ (n : Nat) (t : TR) (bs : List UInt8), P t →
      (feedFuelT cfg n t bs).x = feedFuel cfg n t.x bs ∧ P (feedFuelT cfg n t bs) := by
    intro n
    induction n with
    | zero => intro t bs h; exact ⟨rfl, h⟩
    | succ n ih =>
      intro t bs h
      unfold feedFuelT feedFuel
      split
      · exact ⟨rfl, h⟩
      · split
        · have := ih _ (bs.drop (min bs.length t.x.space)) (hrecv t (bs.take (min bs.length t.x.space)) h)
          rwa [idleT_x] at this
        · have := ih _ bs (hidle t h); rwa [idleT_x] at this
  induction chunks with
  | nil => intro t h; exact ⟨rfl, h⟩
  | cons c cs ih =>
    intro t h
    have hf : (feedT cfg t c).x = feed cfg t.x c ∧ P (feedT cfg t c) := by
      unfold feedT feed
      split
      · split
        · exact ⟨idleT_x cfg t, hidle t h⟩
        · exact ⟨rfl, h⟩
      · exact fuel _ t c h
    have := ih (feedT cfg t c) hf.2
    rwa [hf.1] at this

theorem runT_x (cfg : Cfg) (chunks : List (List UInt8)) (t : TR) : (runT cfg t chunks).x = run cfg t.x chunks :=
  (runT_induction cfg (fun _ => True) (fun _ _ => trivial) (fun _ _ _ => trivial) chunks t trivial).1

def Good (t : TR) : Prop := NS t.x → t.log.isSome = true

theorem idleT_good (cfg : Cfg) (t : TR) (hg : Good t) : Good (idleT cfg t) := by
  intro h
  rw [idleT_x] at h
  by_cases hx : NS t.x
  · exact or_isSome_left _ _ (hg hx)
  · exact or_isSome_right _ _ (idleLog_complete cfg t.x t.aux hx h)

theorem recvBytes_ns (x : CR) (e : List UInt8) (h : NS (recvBytes x e)) : NS x := by
  unfold recvBytes at h
  split at h
  · cases h
  · simp only [NS] at h ⊢
    cases hp : x.phase <;> rw [hp] at h <;> simp [Phase.extend, isNoSpace] at h ⊢
    exact h

theorem runT_good (cfg : Cfg) (chunks : List (List UInt8)) (t : TR) (hg : Good t) : Good (runT cfg t chunks) :=
  (runT_induction cfg Good (idleT_good cfg) (fun _ _ hg => idleT_good cfg _ fun hh => hg (recvBytes_ns _ _ hh)) chunks t hg).2

theorem initT_good (allocSize poolSize inc : Nat) (lvl : Int) : Good (initT allocSize poolSize inc lvl) := by
  intro h; simp [NS, initT, Mhd.ConnRead.init, isNoSpace] at h

/-- "refused with 413/414/431 or a close" (501 — the method is what is too long — only for a
    non-standard method token, see `C08.no_space_501_only_for_nonstandard_method`) -/
def Refusal.Allowed : Refusal → Prop
  | .close => True
  | .status c => c = httpContentTooLarge ∨ c = httpUriTooLong ∨ c = httpHeaderFieldsTooLarge ∨ c = httpNotImplemented

theorem refusalGrow_allowed (x : CR) (a : Aux) : (refusalGrow x a).Allowed := by
  unfold refusalGrow
  simp only
  split
  · split
    · right; left; rfl
    · trivial
  · exact Mhd.NoSpace.status_in_set _
  · split
    · split
      · left; rfl
      · exact Mhd.NoSpace.status_in_set _
    · exact Mhd.NoSpace.status_in_set _
  · right; right; left; rfl
  · trivial

theorem refusalAdd_allowed (buf : Bytes) (c : CM) (fs : Nat) (before : List Elem) (e : Elem) (a : Aux) :
    (refusalAdd buf c fs before e a).Allowed := Mhd.NoSpace.status_in_set _

def OptAllowed (o : Option Refusal) : Prop := ∀ r, o = some r → r.Allowed

theorem optAllowed_or {a b : Option Refusal} (ha : OptAllowed a) (hb : OptAllowed b) : OptAllowed (a.or b) := by
  cases a with
  | none => simpa using hb
  | some r => simpa using ha

theorem optAllowed_none : OptAllowed none := fun _ h => nomatch h

theorem optAllowed_some {r : Refusal} (h : r.Allowed) : OptAllowed (some r) := fun _ e => Option.some.inj e ▸ h

theorem hdrFail_allowed (lvl : Int) (fs : Nat) (a : Aux) : ∀ (n : Nat) (c : CM) (s : HS), OptAllowed (hdrFail lvl fs a n c s) := by
  intro n
  induction n with
  | zero => intro c s; exact optAllowed_none
  | succ n ih =>
    intro c s
    unfold hdrFail
    simp only
    split
    · split
      · exact optAllowed_none
      · split
        · split
          · exact ih _ _
          · exact optAllowed_some (refusalAdd_allowed _ _ _ _ _ _)
        · exact ih _ _
    · exact optAllowed_none

theorem passLog_allowed (cfg : Cfg) (x : CR) (a : Aux) : OptAllowed (passLog cfg x a).1 := by
  unfold passLog
  simp only
  apply optAllowed_or
  · split
    · exact hdrFail_allowed _ _ _ _ _ _
    · exact optAllowed_none
  · split
    · split
      · exact optAllowed_some (.inr (.inr (.inl rfl)))
      · exact optAllowed_none
    · exact optAllowed_none

theorem idleStatesLog_allowed (cfg : Cfg) : ∀ (n : Nat) (x : CR) (a : Aux), OptAllowed (idleStatesLog cfg n x a).1 := by
  intro n
  induction n with
  | zero => intro x a; exact optAllowed_none
  | succ n ih =>
    intro x a
    unfold idleStatesLog
    have hp := passLog_allowed cfg x a
    split
    · rename_i hq; rw [hq] at hp; exact hp
    · exact ih _ _
    · exact optAllowed_none

theorem growLog_allowed (x : CR) (a : Aux) : OptAllowed (growLog x a) := by
  unfold growLog
  split
  · exact optAllowed_none
  · split
    · exact optAllowed_none
    · split
      · exact optAllowed_none
      · exact optAllowed_none
      · simp only
        split
        · split
          · exact optAllowed_none
          · exact optAllowed_some (refusalGrow_allowed _ _)
        · exact optAllowed_some (refusalGrow_allowed _ _)

theorem idleLog_allowed (cfg : Cfg) (x : CR) (a : Aux) : OptAllowed (idleLog cfg x a).1 :=
  optAllowed_or (idleStatesLog_allowed cfg (x.cm.rbOff + 2) x a) (growLog_allowed _ _)

theorem idleT_allowed (cfg : Cfg) (t : TR) (h : OptAllowed t.log) : OptAllowed (idleT cfg t).log :=
  optAllowed_or h (idleLog_allowed cfg t.x t.aux)

theorem runT_allowed (cfg : Cfg) (chunks : List (List UInt8)) (t : TR) (h : OptAllowed t.log) :
    OptAllowed (runT cfg t chunks).log :=
  (runT_induction cfg (fun t => OptAllowed t.log) (idleT_allowed cfg) (fun _ _ h => idleT_allowed cfg _ h) chunks t h).2

end Mhd.ArenaBound
