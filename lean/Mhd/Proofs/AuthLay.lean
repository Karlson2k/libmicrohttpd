/-
  C14: the information API's single block (sizes, offsets) and the user-name type.
-/
import Mhd.Proofs.AuthInfo
namespace Mhd.Auth
open Mhd.Gen.Auth

theorem unquote_length_le (q : Bytes) : (unquote q).length ≤ q.length := by
  unfold unquote
  cases h : unquoteLoop q with
  | none => simp
  | some v => simpa using (unquoteLoop_lengths q v h).1

theorem paramUnq_length_le (p : Param) : (paramUnq p).length ≤ p.raw.length := by
  unfold paramUnq
  split
  · exact unquote_length_le _
  · exact Nat.le_refl _

theorem pctStrict_length (next : Option UInt8) (enc out : Bytes) (h : pctStrict next enc = .ok out) :
    out.length ≤ enc.length := by
  fun_induction pctStrict next enc generalizing out with
  | case1 => cases h; simp
  | case2 => cases h
  | case3 => cases h
  | case4 => cases h; simp
  | case5 => cases h
  | case6 c1 c2 r' hh l _ _ t ht ih =>
    cases h
    have := ih t ht
    simp only [List.length_cons]; omega
  | case7 c1 c2 r' hh l _ _ hno => exact absurd h (hno out)
  | case8 => cases h
  | case9 c r _ t ht ih =>
    cases h
    have := ih t ht
    simp only [List.length_cons]; omega
  | case10 c r _ hno => exact absurd h (hno out)

theorem skipLang_length (l r : Bytes) (h : skipLang l = some r) : r.length + 1 ≤ l.length := by
  induction l with
  | nil => simp [skipLang] at h
  | cons c t ih =>
    simp only [skipLang] at h
    by_cases h39 : c = 39
    · simp only [h39, if_true, Option.some.injEq] at h
      subst h; simp
    · simp only [h39, if_false] at h
      split at h
      · simp at h
      · have := ih h
        simp; omega

theorem extUname_length (ext : Bytes) (next : Option UInt8) (name : Bytes) (h : extUname ext next = .ok name) :
    name.length + (extPrefix.length + 1) ≤ ext.length := by
  unfold extUname at h
  split at h
  · simp at h
  · rename_i hlen
    split at h
    · simp at h
    · cases hs : skipLang (ext.drop extPrefix.length) with
      | none => simp [hs] at h
      | some enc =>
        have hl := skipLang_length _ _ hs
        simp only [List.length_drop] at hl
        simp only [hs] at h
        cases hp : pctStrict next enc with
        | ok out =>
          have := pctStrict_length next enc out hp
          simp only [hp] at h
          split at h
          · simp at h
          · simp only [ExtRes.ok.injEq] at h
            subst h; omega
        | broken =>
          simp only [hp] at h
          split at h
          · simp at h
          · simp only [ExtRes.ok.injEq] at h
            subst h; simp; omega
        | overread => simp [hp] at h

/-- regions of the buffer the returned pointers refer to, in buffer order: (offset, extent in bytes —
    strings with their terminating NUL) -/
def Lay.regions (L : Lay) : List (Nat × Nat) :=
  [L.user.map (fun x => (x.1, x.2 + 1)), L.uhh.map (fun x => (x.1, x.2 + 1)), L.uhb,
   L.opaq.map (fun x => (x.1, x.2 + 1)), L.realm.map (fun x => (x.1, x.2 + 1))].filterMap id

/-- the regions follow one another from `pos` on without overlap and end at or before `size` -/
def chain : Nat → List (Nat × Nat) → Nat → Prop
  | pos, [], size => pos ≤ size
  | pos, (o, e) :: t, size => pos ≤ o ∧ chain (o + e) t size

theorem unameTypes_distinct : unStandard ≠ unUserhash ∧ unStandard ≠ unExtended ∧ unUserhash ≠ unExtended ∧
    unMissing ≠ unStandard ∧ unMissing ≠ unUserhash ∧ unMissing ≠ unExtended ∧
    unInvalid ≠ unStandard ∧ unInvalid ≠ unUserhash ∧ unInvalid ≠ unExtended ∧ unMissing ≠ unInvalid := by decide

theorem unamesSize_standard (d : DAuth) : unamesSize d unStandard = rawLen (d.slots kUsername) + 1 := by
  simp [unamesSize, show unStandard ≠ unUserhash by decide]

theorem unamesSize_userhash (d : DAuth) :
    unamesSize d unUserhash = rawLen (d.slots kUsername) + 1 + (rawLen (d.slots kUsername) + 1) / 2 := by
  simp [unamesSize]

theorem unamesSize_extended (d : DAuth) :
    unamesSize d unExtended = rawLen (d.slots kUsernameExt) - (extPrefix.length + 1) + 1 := by
  simp [unamesSize, show unExtended ≠ unStandard by decide, show unExtended ≠ unUserhash by decide]

/-- every string `get_rq_uname` returns fits, with what is written behind it, the size computed by
    `get_rq_unames_size`; a binary userhash is half as long as the hexadecimal one -/
theorem rqUname_sizes (s : Bytes) (term : Option UInt8) (d : DAuth) (ut : Nat) (u : UnameInfo)
    (h : rqUname s term d ut = .ok u) :
    (∀ n, u.username = some n → n.length + 1 ≤ unamesSize d ut) ∧
    (∀ x, u.userhashHex = some x → x.length + 1 + (x.length + 1) / 2 ≤ unamesSize d ut ∧
      ∀ b, u.userhashBin = some b → b.length * 2 = x.length) := by
  by_cases h1 : ut = unStandard
  · rw [h1, rqUname_standard] at h
    rw [h1, unamesSize_standard]
    cases hp : d.slots kUsername with
    | none => simp only [hp] at h; cases h; exact ⟨nofun, nofun⟩
    | some p =>
      simp only [hp] at h; cases h
      have := paramUnq_length_le p
      simp only [rawLen, Option.some.injEq, reduceCtorEq, false_implies, implies_true, and_true]
      intro n hn; subst hn; omega
  by_cases h2 : ut = unUserhash
  · rw [h2, rqUname_userhash] at h
    rw [h2, unamesSize_userhash]
    cases hp : d.slots kUsername with
    | none => simp only [hp] at h; cases h; exact ⟨nofun, nofun⟩
    | some p =>
      simp only [hp] at h
      have hfit : (paramUnq p).length + 1 + ((paramUnq p).length + 1) / 2 ≤
          rawLen (some p) + 1 + (rawLen (some p) + 1) / 2 := by
        have := paramUnq_length_le p
        simp only [rawLen]; omega
      cases hr : hexToBin (paramUnq p) with
      | none =>
        simp only [hr] at h
        split at h <;> cases h <;> exact ⟨nofun, fun x hx => by cases hx; exact ⟨hfit, nofun⟩⟩
      | some b' =>
        simp only [hr] at h
        split at h
        · cases h; exact ⟨nofun, fun x hx => by cases hx; exact ⟨hfit, nofun⟩⟩
        · -- a binary userhash is reported only when `MHD_hex_to_bin` converted the whole string
          rename_i hn
          cases h
          simp only [ne_eq, Decidable.not_not] at hn
          refine ⟨nofun, fun x hx => ?_⟩
          cases hx
          refine ⟨hfit, fun b hb => ?_⟩
          split at hb
          · cases hb
          · cases hb; exact hn
  by_cases h3 : ut = unExtended
  · rw [h3, rqUname_extended] at h
    rw [h3, unamesSize_extended]
    cases hp : d.slots kUsernameExt with
    | none => simp only [hp] at h; cases h; exact ⟨nofun, nofun⟩
    | some p =>
      simp only [hp] at h
      split at h
      · rename_i name hx
        cases h
        have := extUname_length _ _ _ hx
        simp only [rawLen, Option.some.injEq, reduceCtorEq, false_implies, implies_true, and_true]
        intro n hn; subst hn; omega
      · cases h; exact ⟨nofun, nofun⟩
      · cases h
  · rw [rqUname_other _ _ _ _ h1 h2 h3] at h
    cases h; exact ⟨nofun, nofun⟩

theorem unameLay_chain (ut : Nat) (u : UnameInfo) :
    chain 0 ([(unameLay ut u).1.map (fun x => (x.1, x.2 + 1)), (unameLay ut u).2.1.map (fun x => (x.1, x.2 + 1)),
        (unameLay ut u).2.2.1].filterMap id) (unameLay ut u).2.2.2.2 := by
  unfold unameLay
  split
  · split <;> simp [chain]
  · split
    · split
      · split <;> simp [chain]
      · simp [chain]
    · simp [chain]

theorem unameLay_fits (s : Bytes) (term : Option UInt8) (d : DAuth) (ut : Nat) (u : UnameInfo)
    (h : rqUname s term d ut = .ok u) :
    (unameLay ut u).2.2.2.2 ≤ unamesSize d ut ∧ (unameLay ut u).2.2.2.1 ≤ unamesSize d ut := by
  obtain ⟨hname, hhex⟩ := rqUname_sizes s term d ut u h
  unfold unameLay
  split
  · split
    · rename_i n hn; exact ⟨hname n hn, hname n hn⟩
    · exact ⟨Nat.zero_le _, Nat.zero_le _⟩
  · split
    · split
      · rename_i x hx
        obtain ⟨h1, h2⟩ := hhex x hx
        split
        · rename_i b hb
          have := h2 b hb
          simp only
          omega
        · simp only; omega
      · exact ⟨Nat.zero_le _, Nat.zero_le _⟩
    · exact ⟨Nat.zero_le _, Nat.zero_le _⟩

theorem chain_mono_start (a m : Nat) (l : List (Nat × Nat)) (size : Nat) (h : a ≤ m) (hc : chain m l size) : chain a l size := by
  cases l with
  | nil => simp only [chain] at hc ⊢; omega
  | cons x t => obtain ⟨o, e⟩ := x; simp only [chain] at hc ⊢; exact ⟨by omega, hc.2⟩

theorem chain_append (a m : Nat) (l1 l2 : List (Nat × Nat)) (size : Nat) (h1 : chain a l1 m) (h2 : chain m l2 size) :
    chain a (l1 ++ l2) size := by
  induction l1 generalizing a with
  | nil => simp only [chain] at h1; exact chain_mono_start a m l2 size h1 h2
  | cons x t ih => obtain ⟨o, e⟩ := x; simp only [chain, List.cons_append] at h1 ⊢; exact ⟨h1.1, ih _ h1.2⟩

theorem tail_fits (o r : Option Param) (pos szU : Nat) (hpos : pos ≤ szU) :
    chain pos ([(o.map fun p => (pos, (paramUnq p).length)).map (fun x => (x.1, x.2 + 1)),
        (r.map fun p => (pos + (match o with | some p => (paramUnq p).length + 1 | none => 0),
          (paramUnq p).length)).map (fun x => (x.1, x.2 + 1))].filterMap id)
      (szU + (match o with | some p => p.raw.length + 1 | none => 0) +
        (match r with | some p => p.raw.length + 1 | none => 0)) ∧
    pos + (match o with | some p => (paramUnq p).length + 1 | none => 0) +
        (match r with | some p => (paramUnq p).length + 1 | none => 0) ≤
      szU + (match o with | some p => p.raw.length + 1 | none => 0) +
        (match r with | some p => p.raw.length + 1 | none => 0) := by
  cases o with
  | none =>
    cases r with
    | none => simp [chain]; omega
    | some r => have := paramUnq_length_le r; simp [chain]; omega
  | some o =>
    have h1 := paramUnq_length_le o
    cases r with
    | none => simp [chain]; omega
    | some r => have := paramUnq_length_le r; simp [chain]; omega

theorem filterMap_five {α : Type} (a b c d e : Option α) :
    [a, b, c, d, e].filterMap id = [a, b, c].filterMap id ++ [d, e].filterMap id := by
  rw [← List.filterMap_append]; rfl

/-- the block both API functions build: the user-name part `ul` in a buffer of `szU` bytes, then the copies of
    the opaque and realm parameters `o`, `r` (absent for `MHD_digest_auth_get_username3`) -/
def asm (o r : Option Param) (szU : Nat) (ul : Option (Nat × Nat) × Option (Nat × Nat) × Option (Nat × Nat) × Nat × Nat) : Lay :=
  let osz := match o with | some p => p.raw.length + 1 | none => 0
  let rsz := match r with | some p => p.raw.length + 1 | none => 0
  let oused := match o with | some p => (paramUnq p).length + 1 | none => 0
  { size := szU + osz + rsz,
    user := ul.1, uhh := ul.2.1, uhb := ul.2.2.1,
    opaq := o.map fun p => (ul.2.2.2.2, (paramUnq p).length),
    realm := r.map fun p => (ul.2.2.2.2 + oused, (paramUnq p).length),
    touched := ul.2.2.2.1,
    used := ul.2.2.2.2 + oused + (match r with | some p => (paramUnq p).length + 1 | none => 0) }

theorem asm_fits (o r : Option Param) (szU : Nat) (ul : Option (Nat × Nat) × Option (Nat × Nat) × Option (Nat × Nat) × Nat × Nat)
    (hused : ul.2.2.2.2 ≤ szU) (htouched : ul.2.2.2.1 ≤ szU)
    (hch : chain 0 ([ul.1.map (fun x => (x.1, x.2 + 1)), ul.2.1.map (fun x => (x.1, x.2 + 1)), ul.2.2.1].filterMap id) ul.2.2.2.2) :
    chain 0 (asm o r szU ul).regions (asm o r szU ul).size ∧ (asm o r szU ul).touched ≤ (asm o r szU ul).size ∧
      (asm o r szU ul).used ≤ (asm o r szU ul).size := by
  obtain ⟨t1, t2⟩ := tail_fits o r _ _ hused
  refine ⟨?_, by simp only [asm]; omega, t2⟩
  have := chain_append 0 _ _ _ _ hch t1
  rw [← filterMap_five] at this
  exact this

/-- `MHD_digest_auth_get_username3`: every returned pointer refers to a region inside the one allocated
    block, the regions (strings with their NUL) do not overlap, and nothing is written outside -/
theorem usernameLay_fits (s : Bytes) (term : Option UInt8) (d : DAuth) (L : Lay) (h : usernameLay s term d = .ok L) :
    chain 0 L.regions L.size ∧ L.touched ≤ L.size ∧ L.used ≤ L.size := by
  unfold usernameLay at h
  simp only at h
  split at h
  · simp at h
  · cases hr : rqUname s term d (unameType d) with
    | ok u =>
      simp only [hr] at h
      split at h
      · simp at h
      · simp only [IRes.ok.injEq] at h
        obtain ⟨b, c⟩ := unameLay_fits s term d _ u hr
        have hL : L = asm none none (unamesSize d (unameType d)) (unameLay (unameType d) u) := h.symm
        rw [hL]; exact asm_fits _ _ _ _ b c (unameLay_chain _ u)
    | null => simp [hr] at h
    | overread => simp [hr] at h

end Mhd.Auth
