/-
  C17 proofs: `MHD_base64_to_bin_n` = RFC 4648 section 4 decoder with mandatory,
  canonical padding.
-/
import Mhd.Proofs.StrBase
import Mhd.Proofs.StrSpecB64

namespace Mhd.Str

theorem base64Map_eq : Mhd.Gen.Str.base64Map =
    (List.range 256).map (fun n => match b64val (UInt8.ofNat n) with
      | some v => (v : Int)
      | none => if n = 0x3d then -2 else -1) := by
  decide +kernel

theorem b64Value_eq (c : UInt8) :
    b64Value c = match b64val c with
      | some v => (v : Int)
      | none => if c.toNat = 0x3d then -2 else -1 := by
  rw [b64Value, base64Map_eq, List.getD_map_range _ _ c.toNat_lt, UInt8.ofNat_toNat]

theorem base64Map_lt : ∀ x ∈ Mhd.Gen.Str.base64Map, x < 64 := by decide +kernel

theorem b64val_lt {c : UInt8} {v : Nat} (h : b64val c = some v) : v < 64 := by
  have hv : b64Value c = (v : Int) := by rw [b64Value_eq, h]
  have := getD_lt (d := -1) base64Map_lt (by decide) c.toNat
  rw [← b64Value, hv] at this
  omega

theorem b64Value_neg_iff (c : UInt8) : b64Value c < 0 ↔ b64val c = none := by
  rw [b64Value_eq]
  cases b64val c with
  | none => simp only [iff_true]; split <;> decide
  | some v => simp only [reduceCtorEq, iff_false]; exact Int.not_lt.mpr (Int.natCast_nonneg v)

theorem b64Value_eq_pad (c : UInt8) : b64Value c = -2 ↔ c = 0x3d := by
  rw [b64Value_eq]
  constructor
  · intro h
    cases hc : b64val c with
    | none =>
      rw [hc] at h
      by_cases h3 : c.toNat = 0x3d
      · exact UInt8.toNat_inj.mp h3
      · rw [if_neg h3] at h; exact absurd h (by decide)
    | some v => rw [hc] at h; have : (v : Int) = -2 := h; omega
  · rintro rfl; rfl

theorem u8_b64Value {c : UInt8} {v : Nat} (h : b64val c = some v) : u8 (b64Value c) = UInt8.ofNat v := by
  rw [b64Value_eq, h]; rfl

theorem b64_byte1 {x y : Nat} (hy : y < 64) : (UInt8.ofNat x <<< 2) ||| (UInt8.ofNat y >>> 4) = B1 x y := by
  rw [show UInt8.ofNat y >>> 4 = _ from u8_shr y 4 (by omega) (by decide)]
  exact u8_shl_or x (y / 2 ^ 4) 2 (by decide) (by omega)

theorem b64_byte2 {x y : Nat} (hy : y < 64) : (UInt8.ofNat x <<< 4) ||| (UInt8.ofNat y >>> 2) = B2 x y := by
  rw [show UInt8.ofNat y >>> 2 = _ from u8_shr y 2 (by omega) (by decide),
    show UInt8.ofNat x <<< 4 ||| _ = _ from u8_shl_or x (y / 2 ^ 2) 4 (by decide) (by omega),
    B2, ← UInt8.ofNat_mod_size, ← UInt8.ofNat_mod_size (x := x % 16 * 16 + y / 4)]
  congr 1; omega

theorem b64_byte3 {x y : Nat} (hy : y < 64) : (UInt8.ofNat x <<< 6) ||| UInt8.ofNat y = B3 x y := by
  rw [show UInt8.ofNat x <<< 6 ||| _ = _ from u8_shl_or x y 6 (by decide) hy,
    B3, ← UInt8.ofNat_mod_size, ← UInt8.ofNat_mod_size (x := x % 4 * 64 + y)]
  congr 1; omega

/-- the canonical-padding tests `(uint8_t) (v << k) != 0` -/
theorem b64_low_bits {x : Nat} (k : Nat) (hk : k < 8) :
    (UInt8.ofNat x <<< UInt8.ofNat k) = 0 ↔ x % 2 ^ (8 - k) = 0 := by
  have h : UInt8.ofNat x <<< UInt8.ofNat k ||| 0 = UInt8.ofNat (x * 2 ^ k + 0) := u8_shl_or x 0 k hk (Nat.two_pow_pos k)
  rw [UInt8.or_zero, Nat.add_zero] at h
  have h8 : 2 ^ 8 = 2 ^ (8 - k) * 2 ^ k := by rw [← Nat.pow_add, Nat.sub_add_cancel (Nat.le_of_lt hk)]
  rw [h, ← UInt8.toNat_inj, UInt8.toNat_ofNat', h8, Nat.mul_mod_mul_right]
  exact ⟨fun e => (Nat.mul_eq_zero.mp e).resolve_right (Nat.ne_of_gt (Nat.two_pow_pos k)), fun e => by rw [e, Nat.zero_mul]; rfl⟩

theorem b64Full_cases (a b c d : UInt8) :
    ((b64Value a < 0 ∨ b64Value b < 0 ∨ b64Value c < 0 ∨ b64Value d < 0) ∧ b64Full a b c d = none) ∨
    (¬ (b64Value a < 0 ∨ b64Value b < 0 ∨ b64Value c < 0 ∨ b64Value d < 0) ∧
      b64Full a b c d = some [(u8 (b64Value a) <<< 2) ||| (u8 (b64Value b) >>> 4),
        (u8 (b64Value b) <<< 4) ||| (u8 (b64Value c) >>> 2), (u8 (b64Value c) <<< 6) ||| u8 (b64Value d)]) := by
  simp only [b64Value_neg_iff, b64Full]
  cases h1 : b64val a with
  | none => exact .inl ⟨.inl rfl, rfl⟩
  | some v1 =>
    cases h2 : b64val b with
    | none => exact .inl ⟨.inr (.inl rfl), rfl⟩
    | some v2 =>
      cases h3 : b64val c with
      | none => exact .inl ⟨.inr (.inr (.inl rfl)), rfl⟩
      | some v3 =>
        cases h4 : b64val d with
        | none => exact .inl ⟨.inr (.inr (.inr rfl)), rfl⟩
        | some v4 =>
          refine .inr ⟨by simp, ?_⟩
          rw [u8_b64Value h1, u8_b64Value h2, u8_b64Value h3, u8_b64Value h4, b64_byte1 (b64val_lt h2),
            b64_byte2 (b64val_lt h3), b64_byte3 (b64val_lt h4)]

/-- `g` groups have been decoded into `3 * g` bytes -/
def B64Inv (s out : Bytes) (i j : Nat) (o : Bytes) : Prop :=
  DecInv b64Spec s out i j o ∧ i + 4 ≤ s.length ∧ ∃ g, i = 4 * g ∧ j = 3 * g

theorem b64Loop_step (s out : Bytes) (G : Nat) (hG : s.length = 4 * G) (hsz : 3 * G ≤ out.length + 2)
    (st : B64St) (hi : B64Inv s out st.i st.j st.out) :
    StepOk (b64LoopStep s st) (fun s' => B64Inv s out s'.i s'.j s'.out ∧ st.i < s'.i)
      (fun x => (x.1 = true ∧ B64Inv s out x.2.i x.2.j x.2.out ∧ s.length ≤ x.2.i + 4) ∨
        (x.1 = false ∧ x.2.out.length = out.length ∧ b64Spec s = none)) := by
  obtain ⟨i, j, o⟩ := st
  dsimp only at hi
  obtain ⟨hi, hi4, g, hig, hjg⟩ := hi
  have hlen := hi.2.1
  unfold b64LoopStep
  dsimp only
  by_cases hlt : i < s.length - 4
  · have h4 : i + 4 < s.length := by omega
    have h3 : i + 3 < s.length := Nat.lt_of_succ_lt h4
    have h2 : i + 2 < s.length := Nat.lt_of_succ_lt h3
    have h1 : i + 1 < s.length := Nat.lt_of_succ_lt h2
    have h0 : i < s.length := Nat.lt_of_succ_lt h1
    have hd : s.drop i = s[i] :: s[i + 1] :: s[i + 2] :: s[i + 3] :: s.drop (i + 4) := by
      rw [List.drop_eq_getElem_cons h0, List.drop_eq_getElem_cons h1, List.drop_eq_getElem_cons h2,
        List.drop_eq_getElem_cons h3]
    have hsp := b64Spec_full s[i] s[i + 1] s[i + 2] s[i + 3] _
      (List.ne_nil_of_length_pos (l := s.drop (i + 4)) (by rw [List.length_drop]; omega))
    rw [if_pos hlt, rd_lt h0, bind_ok', rd_lt h1, bind_ok', rd_lt h2, bind_ok', rd_lt h3, bind_ok']
    rcases b64Full_cases s[i] s[i + 1] s[i + 2] s[i + 3] with ⟨hneg, hf⟩ | ⟨hneg, hf⟩
    · rw [if_pos hneg]
      rw [hf] at hsp
      exact .inr ⟨_, rfl, .inr ⟨rfl, hlen, hi.spec_none (hd ▸ hsp)⟩⟩
    · -- another group follows this one, so all three bytes fit
      have hw : j + 2 < o.length := by omega
      have hnext : i + 4 + 4 ≤ s.length := by omega
      rw [hf] at hsp
      rw [if_neg hneg, wr_ok _ (Nat.lt_of_succ_lt (Nat.lt_of_succ_lt hw)), bind_ok',
        wr_ok _ ((List.length_set ..).symm ▸ Nat.lt_of_succ_lt hw), bind_ok',
        wr_ok _ ((List.length_set ..).symm ▸ (List.length_set ..).symm ▸ hw), bind_ok']
      exact .inl ⟨_, rfl, ⟨hi.emit (pre := [_, _, _, _]) hd hsp (by simp) hw (take_set_three o j _ _ _ hw), hnext,
        g + 1, congrArg (· + 4) hig, congrArg (· + 3) hjg⟩, Nat.lt_add_of_pos_right (Nat.succ_pos 3)⟩
  · have hend : s.length ≤ i + 4 := by omega
    rw [if_neg hlt]
    exact .inr ⟨_, rfl, .inl ⟨rfl, ⟨hi, hi4, g, hig, hjg⟩, hend⟩⟩

theorem b64_low4 {x : Nat} : UInt8.ofNat x <<< 4 = 0 ↔ x % 16 = 0 := b64_low_bits 4 (by decide)
theorem b64_low6 {x : Nat} : UInt8.ofNat x <<< 6 = 0 ↔ x % 4 = 0 := b64_low_bits 6 (by decide)

/-- what the last block does with the reference's final group `fin`, writing at `j` into `o`: it
    appends the group if there is one and it fits, and returns 0 otherwise -/
def LastPost (o : Bytes) (j : Nat) (fin : Option Bytes) (x : Nat × Bytes) : Prop :=
  match fin with
  | none => x.2.length = o.length ∧ x.1 = 0
  | some y => StagePost o j y x

theorem LastPost.fail {o o' : Bytes} {j : Nat} (hl : o'.length = o.length) : LastPost o j none (0, o') := ⟨hl, rfl⟩

theorem b64Last_wrote {s : Bytes} {i j : Nat} {o : Bytes} {a b c d : UInt8}
    (h0 : rd s i = .ok a) (h1 : rd s (i + 1) = .ok b) (h2 : rd s (i + 2) = .ok c) (h3 : rd s (i + 3) = .ok d)
    (hj : j < o.length) : ∃ x, b64Last s ⟨i, j, o⟩ = .ok x ∧ LastPost o j (b64Final a b c d) x := by
  unfold b64Last
  simp only [h0, h1, h2, h3, bind_ok', pure_eq_ok, b64Value_neg_iff, ne_eq, b64Value_eq_pad, b64Final]
  cases hv1 : b64val a with
  | none => exact ⟨_, rfl, .fail rfl⟩
  | some v1 =>
    cases hv2 : b64val b with
    | none => exact ⟨(0, o), by simp, .fail rfl⟩
    | some v2 =>
      have hl1 : (o.set j (B1 v1 v2)).length = o.length := List.length_set ..
      have hw1 : (o.set j (B1 v1 v2)).take (j + 1) = o.take j ++ [B1 v1 v2] := take_set_succ o j _ hj
      simp only [reduceCtorEq, or_self, if_false, wr_ok _ hj, bind_ok', u8_b64Value hv1, u8_b64Value hv2,
        b64_byte1 (b64val_lt hv2), hl1, b64_low4]
      cases hv3 : b64val c with
      | none =>
        simp only [if_true]
        by_cases hp : c = 0x3d ∧ d = 0x3d
        · by_cases hz : v2 % 16 = 0
          · simp only [hp.1, hp.2, hz, not_true_eq_false, or_self, if_false, and_self, if_true]
            exact ⟨_, rfl, StagePost.done hl1 hj hw1⟩
          · simp only [hp.1, hp.2, hz, not_true_eq_false, or_self, not_false_eq_true, if_false, if_true, and_false]
            exact ⟨_, rfl, .fail hl1⟩
        · have hp' : ¬ c = 0x3d ∨ ¬ d = 0x3d := Decidable.not_and_iff_not_or_not.mp hp
          have hn : ¬ (c = 0x3d ∧ d = 0x3d ∧ v2 % 16 = 0) := fun h => hp ⟨h.1, h.2.1⟩
          simp only [hp', hn, if_true, if_false]
          exact ⟨_, rfl, .fail hl1⟩
      | some v3 =>
        simp only [reduceCtorEq, if_false, u8_b64Value hv3, b64_byte2 (b64val_lt hv3), b64_low6]
        by_cases hfull : j + 1 ≥ o.length
        · -- no room for a second byte, and the reference has at least two or none
          simp only [hfull, if_true]
          refine ⟨_, rfl, ?_⟩
          cases b64val d with
          | none =>
            dsimp only
            split
            · exact StagePost.nofit hl1 (by simp only [List.length_cons, List.length_nil]; omega)
            · exact .fail hl1
          | some v4 => exact StagePost.nofit hl1 (by simp only [List.length_cons, List.length_nil]; omega)
        · have hj1 : j + 1 < o.length := Nat.lt_of_not_le hfull
          have hl2 : ((o.set j (B1 v1 v2)).set (j + 1) (B2 v2 v3)).length = o.length := by rw [List.length_set, hl1]
          have hw2 : ((o.set j (B1 v1 v2)).set (j + 1) (B2 v2 v3)).take (j + 2) = o.take j ++ [B1 v1 v2, B2 v2 v3] :=
            take_set_two o j _ _ hj1
          simp only [hfull, if_false, wr_ok _ (hl1.symm ▸ hj1), bind_ok', hl2]
          cases hv4 : b64val d with
          | none =>
            simp only [if_true]
            by_cases hp : d = 0x3d
            · by_cases hz : v3 % 4 = 0
              · simp only [hp, hz, not_true_eq_false, if_false, and_self, if_true]
                exact ⟨_, rfl, StagePost.done hl2 hj1 hw2⟩
              · simp only [hp, hz, not_true_eq_false, not_false_eq_true, if_false, if_true, and_false]
                exact ⟨_, rfl, .fail hl2⟩
            · simp only [hp, not_false_eq_true, if_true, false_and, if_false]
              exact ⟨_, rfl, .fail hl2⟩
          | some v4 =>
            simp only [reduceCtorEq, if_false, u8_b64Value hv4, b64_byte3 (b64val_lt hv4)]
            by_cases hfull2 : j + 1 + 1 ≥ o.length
            · simp only [hfull2, if_true]
              exact ⟨_, rfl, StagePost.nofit hl2 (by simp only [List.length_cons, List.length_nil]; omega)⟩
            · have hj2 : j + 2 < o.length := Nat.lt_of_not_le hfull2
              simp only [hfull2, if_false, wr_ok _ (hl2.symm ▸ hj2), bind_ok']
              exact ⟨_, rfl, StagePost.done (by rw [List.length_set, hl2]) hj2 (take_set_three o j _ _ _ hj2)⟩

theorem DecInv.wrote_last {spec s out r w o} (hi : DecInv spec s out r w o) {x : Nat × Bytes}
    (h : LastPost o w (spec (s.drop r)) x) : Wrote (.ok x) out ((spec s).filter (fitsIn out.length)) := by
  obtain ⟨n, o'⟩ := x
  cases hd : spec (s.drop r) with
  | none =>
    rw [hd] at h
    obtain ⟨hl, rfl⟩ := h
    exact (hi.wrote_none hd (hl.trans hi.2.1)).filter_fits
  | some y =>
    rw [hd] at h
    obtain ⟨hl, hm⟩ := h
    have hl' : o'.length = out.length := hl.trans hi.2.1
    by_cases hfit : w + y.length ≤ o.length
    · obtain ⟨rfl, ht⟩ : n = w + y.length ∧ o'.take n = o.take w ++ y := by simpa only [hfit, if_true] using hm
      have hs : spec s = some (o'.take (w + y.length)) := by rw [hi.2.2.2, hd, ht]; rfl
      exact hs ▸ (Wrote.front hl' (hi.2.1 ▸ hfit)).filter_fits
    · obtain rfl : n = 0 := by simpa only [hfit, if_false] using hm
      refine hi.wrote_nofit (fun d hd' => ?_) hl'
      obtain rfl : y = d := Option.some.inj (hd.symm.trans hd')
      rw [← hi.2.1]; exact Nat.lt_of_not_le hfit

end Mhd.Str
