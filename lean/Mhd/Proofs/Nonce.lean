/-
  Window lemmas for the nonce-nc map (for `Mhd.Props.C13`):
  the 64-bit mask + highest count of `check_nonce_nc` refine a *set* of used
  counts.  Core `BitVec.getLsbD_*` lemmas and `omega` only.
-/
import Mhd.Model.Nonce
namespace Mhd.Nonce
open Mhd.Gen.Nonce

theorem bit_one_shift (k i : Nat) : ((1#64) <<< k).getLsbD i = (decide (i < 64) && decide (i = k)) := by
  rw [BitVec.getLsbD_shiftLeft]
  by_cases h1 : i < 64 <;> by_cases h2 : i = k <;> by_cases h3 : i < k <;> simp [h1, h2, h3, BitVec.getLsbD_one] <;> omega

theorem and_bit_eq_zero (m : BitVec 64) (k : Nat) (hk : k < 64) :
    (((1#64) <<< k) &&& m) = 0#64 ↔ m.getLsbD k = false := by
  constructor
  · intro h
    have := congrArg (fun x => x.getLsbD k) h
    simp [hk] at this
    exact this
  · intro h
    apply BitVec.eq_of_getLsbD_eq
    intro i hi
    simp only [BitVec.getLsbD_and, bit_one_shift, BitVec.getLsbD_zero]
    by_cases h2 : i = k
    · subst h2; simp [h]
    · simp [h2]

theorem W32_eq : W32 = 4294967296 := by rfl

/-- abstraction relation between the (nc, nmask) pair and the set of counts used so far -/
def WInv (w : Win) (used : Nat → Prop) : Prop :=
  used 0 ∧ used w.nc ∧ (∀ n, used n → n ≤ w.nc) ∧
  ∀ i, i < 64 → (w.nmask.getLsbD i = true ↔ (i < w.nc ∧ used (w.nc - 1 - i)))

/-- "`n` lies `i + 1` below `N`" without subtraction, the form in which the bit clause of `WInv`
    is used: `omega` then only sees sums -/
theorem behind_iff (N i : Nat) (P : Nat → Prop) : (i < N ∧ P (N - 1 - i)) ↔ ∃ n, N = n + i + 1 ∧ P n := by
  constructor
  · rintro ⟨a, b⟩
    exact ⟨N - 1 - i, by omega, b⟩
  · rintro ⟨n, rfl, b⟩
    rw [show n + i + 1 - 1 - i = n by omega]
    exact ⟨by omega, b⟩

theorem WInv.bit_iff {w : Win} {used : Nat → Prop} (hi : WInv w used) (i : Nat) (h : i < 64) :
    w.nmask.getLsbD i = true ↔ ∃ n, w.nc = n + i + 1 ∧ used n := by
  rw [hi.2.2.2 i h, behind_iff]

theorem WInv.bit_behind {w : Win} {used : Nat → Prop} (hi : WInv w used) {c k : Nat} (hk : w.nc = c + k + 1)
    (h : k < 64) : w.nmask.getLsbD k = true ↔ used c := by
  rw [hi.bit_iff k h]
  constructor
  · rintro ⟨n, hn, hu⟩
    rw [show c = n by omega]
    exact hu
  · exact fun hu => ⟨c, hk, hu⟩

theorem WInv.of_bits (nc : Nat) (m : BitVec 64) (used : Nat → Prop) (h0 : used 0) (hnc : used nc)
    (hmax : ∀ n, used n → n ≤ nc) (hbits : ∀ i, i < 64 → (m.getLsbD i = true ↔ ∃ n, nc = n + i + 1 ∧ used n)) :
    WInv ⟨nc, m⟩ used :=
  ⟨h0, hnc, hmax, fun i hi => by rw [behind_iff]; exact hbits i hi⟩

/-- the three outcomes of `windowStep`, syntactically; the presented count is written as a
    distance from the highest one -/
theorem windowStep_fwd (w : Win) (j : Nat) (hc : w.nc + j + 1 < W32) :
    windowStep w (w.nc + j + 1) =
      ({ nc := w.nc + j + 1,
         nmask := if j + 1 < 64 then (w.nmask <<< (j + 1)) ||| ((1#64) <<< j)
                  else if j + 1 = 64 then (1#64) <<< 63 else 0#64 }, true) := by
  have h : w.nc + j + 1 > w.nc := by omega
  have hj : (w.nc + j + 1 + W32 - w.nc) % W32 = j + 1 := by
    rw [show w.nc + j + 1 + W32 - w.nc = j + 1 + W32 by omega, Nat.add_mod_right, Nat.mod_eq_of_lt (by omega)]
  simp only [windowStep, if_pos h, Nat.mod_eq_of_lt hc, hj, Nat.add_sub_cancel]

theorem windowStep_back (w : Win) (c k : Nat) (hk : w.nc = c + k + 1) :
    windowStep w c =
      if k < 64 ∧ w.nmask.getLsbD k = false then ({ w with nmask := w.nmask ||| ((1#64) <<< k) }, true)
      else (w, false) := by
  have h1 : ¬ c > w.nc := by omega
  have h : c < w.nc := by omega
  have e : w.nc - c - 1 = k := by omega
  simp only [windowStep, if_neg h1, if_pos h, e]
  by_cases h2 : k < 64
  · have h3 : c + 64 ≥ w.nc := by omega
    simp only [h2, h3, true_and, and_bit_eq_zero _ _ h2]
  · have h3 : ¬ c + 64 ≥ w.nc := by omega
    simp only [h2, h3, false_and, if_false]

theorem windowStep_eq (w : Win) : windowStep w w.nc = (w, false) := by
  simp only [windowStep, Nat.lt_irrefl, if_false]

theorem fwdMask_bit (m : BitVec 64) (j i : Nat) (hi : i < 64) :
    (if j + 1 < 64 then (m <<< (j + 1)) ||| ((1#64) <<< j)
      else if j + 1 = 64 then (1#64) <<< 63 else 0#64).getLsbD i = true ↔
    i = j ∨ ∃ k, i = j + 1 + k ∧ m.getLsbD k = true := by
  by_cases h : j + 1 < 64
  · rw [if_pos h, BitVec.getLsbD_or, bit_one_shift, BitVec.getLsbD_shiftLeft, Bool.or_eq_true]
    simp only [Bool.and_eq_true, decide_eq_true_eq, Bool.not_eq_true', decide_eq_false_iff_not]
    constructor
    · rintro (⟨⟨_, a⟩, b⟩ | ⟨_, b⟩)
      · exact Or.inr ⟨i - (j + 1), by omega, b⟩
      · exact Or.inl b
    · rintro (a | ⟨k, rfl, b⟩)
      · exact Or.inr ⟨hi, a⟩
      · rw [Nat.add_sub_cancel_left]
        exact Or.inl ⟨⟨hi, by omega⟩, b⟩
  · rw [if_neg h]
    have hk : ¬ ∃ k, i = j + 1 + k ∧ m.getLsbD k = true := by
      rintro ⟨k, a, _⟩
      omega
    simp only [hk, or_false]
    by_cases h2 : j + 1 = 64
    · rw [if_pos h2, bit_one_shift]
      simp only [Bool.and_eq_true, decide_eq_true_eq, hi, true_and]
      omega
    · rw [if_neg h2]
      simp only [BitVec.getLsbD_zero, Bool.false_eq_true, false_iff]
      omega

theorem window_ok_iff (w : Win) (used : Nat → Prop) (c : Nat) (hi : WInv w used)
    (hc : c < W32) (hw : w.nc < W32) :
    (windowStep w c).2 = true ↔ (¬ used c ∧ w.nc ≤ c + 64) := by
  rcases Nat.lt_trichotomy c w.nc with h | h | h
  · obtain ⟨k, hk⟩ := Nat.exists_eq_add_of_lt h
    rw [windowStep_back w c k hk]
    by_cases hcond : k < 64 ∧ w.nmask.getLsbD k = false
    · rw [if_pos hcond]
      refine ⟨fun _ => ⟨fun hu => ?_, by omega⟩, fun _ => rfl⟩
      have := (hi.bit_behind hk hcond.1).mpr hu
      rw [hcond.2] at this
      cases this
    · rw [if_neg hcond]
      refine ⟨fun hf => (by cases hf), fun ⟨hu, hle⟩ => (hcond ⟨by omega, ?_⟩).elim⟩
      exact Bool.eq_false_iff.mpr fun hb => hu ((hi.bit_behind hk (by omega)).mp hb)
  · subst h
    rw [windowStep_eq]
    exact ⟨fun hf => (by cases hf), fun hh => absurd hi.2.1 hh.1⟩
  · obtain ⟨j, rfl⟩ := Nat.exists_eq_add_of_lt h
    rw [windowStep_fwd w j hc]
    refine ⟨fun _ => ⟨fun hu => ?_, by omega⟩, fun _ => rfl⟩
    have := hi.2.2.1 _ hu
    omega

theorem WInv.congr (w : Win) (u u' : Nat → Prop) (h : ∀ n, u n ↔ u' n) (hi : WInv w u) : WInv w u' := by
  obtain ⟨h0, hnc, hmax, hbits⟩ := hi
  refine ⟨(h 0).mp h0, (h _).mp hnc, fun n hn => hmax n ((h n).mpr hn), fun i hi => ?_⟩
  rw [hbits i hi, h]

theorem windowStep_refused (w : Win) (c : Nat) (h : (windowStep w c).2 = false) : (windowStep w c).1 = w := by
  unfold windowStep at *
  split at h
  · cases h
  · split at h
    · split at h
      · cases h
      · rename_i h1 h2 h3; simp only [if_neg h1, if_pos h2, if_neg h3]
    · rename_i h1 h2; simp only [if_neg h1, if_neg h2]

theorem windowStep_nc_lt (w : Win) (c : Nat) (hw : w.nc < W32) : (windowStep w c).1.nc < W32 := by
  unfold windowStep
  split
  · exact Nat.mod_lt _ (by rw [W32_eq]; omega)
  · split
    · split <;> exact hw
    · exact hw

theorem window_refines (w : Win) (used : Nat → Prop) (c : Nat) (hi : WInv w used)
    (hc : c < W32) (hw : w.nc < W32) :
    WInv (windowStep w c).1 (fun n => used n ∨ ((windowStep w c).2 = true ∧ n = c)) := by
  cases hok : (windowStep w c).2
  · rw [windowStep_refused w c hok]
    exact WInv.congr w used _ (fun n => by simp) hi
  · rcases Nat.lt_trichotomy c w.nc with h | h | h
    · obtain ⟨k, hk⟩ := Nat.exists_eq_add_of_lt h
      rw [windowStep_back w c k hk] at hok ⊢
      by_cases hcond : k < 64 ∧ w.nmask.getLsbD k = false
      · rw [if_pos hcond]
        refine WInv.of_bits _ _ _ (Or.inl hi.1) (Or.inl hi.2.1) ?_ ?_
        · rintro n (hn | ⟨_, rfl⟩)
          · exact hi.2.2.1 n hn
          · omega
        · intro i h64
          rw [BitVec.getLsbD_or, bit_one_shift, Bool.or_eq_true, hi.bit_iff i h64]
          simp only [Bool.and_eq_true, decide_eq_true_eq]
          constructor
          · rintro (⟨n, hn, hu⟩ | ⟨_, rfl⟩)
            · exact ⟨n, hn, Or.inl hu⟩
            · exact ⟨c, hk, Or.inr ⟨trivial, rfl⟩⟩
          · rintro ⟨n, hn, hu | ⟨_, rfl⟩⟩
            · exact Or.inl ⟨n, hn, hu⟩
            · exact Or.inr ⟨h64, by omega⟩
      · rw [if_neg hcond] at hok
        cases hok
    · subst h
      rw [windowStep_eq] at hok
      cases hok
    · obtain ⟨j, rfl⟩ := Nat.exists_eq_add_of_lt h
      rw [windowStep_fwd w j hc]
      refine WInv.of_bits _ _ _ (Or.inl hi.1) (Or.inr ⟨rfl, rfl⟩) ?_ ?_
      · rintro n (hn | ⟨_, rfl⟩)
        · have := hi.2.2.1 n hn
          omega
        · exact Nat.le_refl _
      · intro i h64
        rw [fwdMask_bit _ _ _ h64]
        constructor
        · rintro (rfl | ⟨k, rfl, hb⟩)
          · exact ⟨w.nc, rfl, Or.inl hi.2.1⟩
          · obtain ⟨n, hn, hu⟩ := (hi.bit_iff k (by omega)).mp hb
            exact ⟨n, by omega, Or.inl hu⟩
        · rintro ⟨n, hn, hu | ⟨_, rfl⟩⟩
          · rcases Nat.lt_or_eq_of_le (hi.2.2.1 n hu) with hlt | rfl
            · obtain ⟨k, hk⟩ := Nat.exists_eq_add_of_lt hlt
              exact Or.inr ⟨k, by omega, (hi.bit_iff k (by omega)).mpr ⟨n, hk, hu⟩⟩
            · exact Or.inl (by omega)
          · omega

end Mhd.Nonce
