import Mhd.Proofs.DauthSpec
import Mhd.Proofs.AuthSem
namespace Mhd.Dauth
open Mhd.Auth Mhd.Gen.Auth Mhd.Gen.Dauth

/-- `MHD_str_equal_quoted_bin_n` as the model has it is the reference comparison of the string codecs -/
theorem dauth_eqQuotedCs (q u : Bytes) : eqQuotedCs q u = Mhd.Str.quotedEq (· == ·) q u :=
  Mhd.Str.eqQuoted_gen (· == ·) eqQuotedLoopCs (by rw [eqQuotedLoopCs.eq_def]) (fun _ _ => by rw [eqQuotedLoopCs.eq_def])
    (fun _ _ => by rw [eqQuotedLoopCs.eq_def]) (fun _ _ => by rw [eqQuotedLoopCs.eq_def]; simp)
    (fun _ _ _ _ => by rw [eqQuotedLoopCs.eq_def]; simp) (fun _ _ _ _ hq => by rw [eqQuotedLoopCs.eq_def]; simp [hq]) q u

theorem eqQuotedCs_unquote (q v tok : Bytes) (h : unquoteLoop q = some v) :
    eqQuotedCs q tok = decide (v = tok) := by
  rw [dauth_eqQuotedCs, Mhd.Str.quotedEq, ← auth_unquoteLoop, h]
  exact Mhd.Str.listEq_beq v tok

/-- `WQ` for one parameter -/
def PQ (p : Param) : Prop := p.quoted = true → (unquoteLoop p.raw).isSome

theorem paramUnq_quoted (p : Param) (v : Bytes) (hq : p.quoted = true) (h : unquoteLoop p.raw = some v) :
    paramUnq p = v := by simp [paramUnq, hq, unquote, h]

theorem isParamEq_sem (p : Param) (s : Bytes) (h : PQ p) : isParamEq p s = decide (paramUnq p = s) := by
  unfold isParamEq
  cases hq : p.quoted
  · simp [paramUnq, hq]
  · obtain ⟨v, hv⟩ := Option.isSome_iff_exists.mp (h hq)
    simp [eqQuotedCs_unquote _ _ _ hv, paramUnq_quoted p v hq hv]

theorem isParamEqCl_sem (p : Param) (s : Bytes) (h : PQ p) : isParamEqCl p s = eqClS s (paramUnq p) := by
  unfold isParamEqCl
  cases hq : p.quoted
  · simp [paramUnq, hq]
  · obtain ⟨v, hv⟩ := Option.isSome_iff_exists.mp (h hq)
    simp [eqQuotedCl_unquote _ _ _ hv, paramUnq_quoted p v hq hv]

theorem getUnq_small (p : Param) (h : p.raw.length ≤ maxParam) : getUnq p = .ok (paramUnq p) := by
  unfold getUnq paramUnq noBuffer
  cases hq : p.quoted <;> simp
  omega

theorem tmp1_ok (a : Algo) : ¬ tmp1Size < 2 * a.size := by cases a <;> decide
theorem tmp1_ok' (a : Algo) : ¬ tmp1Size < a.stdLen + 1 := by cases a <;> decide
theorem size_le_max (a : Algo) : a.size ≤ maxDigest := by cases a <;> decide

def Small (d : DAuth) (k : Nat) : Prop := ∀ p, d.slots k = some p → p.raw.length ≤ maxParam

theorem wq_pq {d : DAuth} (h : WQ d) {k : Nat} {p : Param} (hp : d.slots k = some p) : PQ p := fun hq => h k p hp hq

theorem bind_sem {ε α β : Type} {x : Except ε α} {f g : α → Except ε β} (h : ∀ a, x = .ok a → f a = g a) :
    (x >>= f) = (x >>= g) := by
  cases x with
  | error e => rfl
  | ok a => exact h a rfl

/-- `m` is `paramUnq` for the values, `Param.raw` for `username*` -/
theorem need_sem {β : Type} (o : Option Param) (m : Param → Bytes) {f : Param → Except Res β} {g : Bytes → Except Res β}
    (h : ∀ p, o = some p → f p = g (m p)) : (need o >>= f) = (needV (o.map m) >>= g) := by
  cases o with
  | none => rfl
  | some p => exact h p rfl

theorem needUnq_sem {β : Type} (d : DAuth) (k : Nat) (hs : Small d k) (g : Bytes → Except Res β) :
    (need (d.slots k) >>= fun p => getUnq p >>= g) = (needV ((semOf d).val k) >>= g) :=
  need_sem (d.slots k) paramUnq fun p hp => by rw [getUnq_small p (hs p hp)]; rfl

theorem needUnq_eq (d : DAuth) (k : Nat) (hs : Small d k) :
    (need (d.slots k)).bind getUnq = needV ((semOf d).val k) := by
  rw [show (semOf d).val k = (d.slots k).map paramUnq from rfl]
  cases hp : d.slots k with
  | none => rfl
  | some p => exact getUnq_small p (hs p hp)

theorem stageRealm_sem (call : Call) (d : DAuth) (h : WQ d) : stageRealm call d = specRealm call (semOf d) :=
  need_sem (d.slots kRealm) paramUnq fun p hp => by
    rw [isParamEq_sem p _ (wq_pq h hp)]; simp only [decide_eq_true_eq]

theorem stageUsername_sem (a : Algo) (call : Call) (d : DAuth) (h : WQ d) :
    stageUsername a call d = specUsername a call (semOf d) := by
  unfold stageUsername specUsername
  rw [show (semOf d).userhash = d.userhash from rfl]
  cases d.userhash with
  | false =>
    simp only [Bool.not_false, if_true]
    rw [show (semOf d).val kUsername = (d.slots kUsername).map paramUnq from rfl]
    cases hu : d.slots kUsername with
    | some u => simp only [Option.map_some, isParamEq_sem u _ (wq_pq h hu), decide_eq_true_eq]
    | none => exact need_sem (d.slots kUsernameExt) (·.raw) fun e _ => rfl
  | true =>
    simp only [Bool.not_true, Bool.false_eq_true, if_false]
    exact need_sem (d.slots kUsername) paramUnq fun u hu => by
      rw [if_neg (tmp1_ok a), isParamEqCl_sem u _ (wq_pq h hu)]

theorem stageNc_sem (maxNc : Nat) (d : DAuth) (hs : d.qop ≠ qopNone → Small d kNc) :
    stageNc maxNc d = specNc maxNc (semOf d) := by
  unfold stageNc specNc
  rw [show (semOf d).qop = d.qop from rfl]
  by_cases hq : d.qop ≠ qopNone
  · rw [if_pos hq, if_pos hq]; exact needUnq_sem d kNc (hs hq) _
  · rw [if_neg hq, if_neg hq]

theorem stageNonce_sem (a : Algo) (now timeout : Nat) (d : DAuth) (hs : Small d kNonce) :
    stageNonce a now timeout d = specNonce a now timeout (semOf d) :=
  needUnq_sem d kNonce hs _

theorem stageUri_sem (cfg : Cfg) (r : Req) (d : DAuth) : stageUri cfg r d = specUri cfg r (semOf d) (lenView d) :=
  need_sem (d.slots kUri) paramUnq fun p hp => by
    simp only [lenView, hp, Option.map_some, Option.getD_some, paramUnq]; rfl

theorem qopPart_sem (d : DAuth) (h : d.qop ≠ qopNone → Small d kNc ∧ Small d kCnonce ∧ Small d kQop) :
    qopPart d = specQopPart (semOf d) := by
  unfold qopPart specQopPart
  rw [show (semOf d).qop = d.qop from rfl]
  by_cases hq : d.qop ≠ qopNone
  · rw [if_pos hq, if_pos hq, needUnq_eq d _ (h hq).1, needUnq_eq d _ (h hq).2.1, needUnq_eq d _ (h hq).2.2]
  · rw [if_neg hq, if_neg hq]

theorem hash1_ok (a : Algo) (n : Nat) (h : ¬ a.size * 2 < n) : ¬ maxDigest < (n + 1) / 2 := by
  have := size_le_max a; omega

theorem stageResponse_sem (a : Algo) (r : Req) (call : Call) (d : DAuth) (uri : Bytes)
    (h0 : Small d kResponse) (hn : Small d kNonce) (h123 : d.qop ≠ qopNone → Small d kNc ∧ Small d kCnonce ∧ Small d kQop) :
    stageResponse a r call d uri = specResponse a r call (semOf d) uri :=
  bind_sem (x := ha1Hex a call) fun h1 _ => (needUnq_sem d kResponse h0 _).trans <| bind_sem fun resp _ => by
    by_cases hl : a.size * 2 < resp.length
    · rw [if_pos hl, if_pos hl]
    · rw [if_neg hl, if_neg hl, if_neg (hash1_ok a _ hl)]
      cases hexToBin resp with
      | none => rfl
      | some bin =>
        by_cases hbl : bin.length ≠ a.size
        · simp only [if_pos hbl]
        · simp only [if_neg hbl]
          refine (needUnq_sem d kNonce hn _).trans ?_
          simp only [qopPart_sem d h123, if_neg (tmp1_ok a), rfcResponse]
          rfl

theorem stageBind_sem (cfg : Cfg) (a : Algo) (r : Req) (call : Call) (d : DAuth) (t : Nat) (h : WQ d) :
    stageBind cfg a r call d t = specBind cfg a r call (semOf d) t := by
  unfold stageBind specBind
  by_cases hb : cfg.bindType ≠ bindNone
  · rw [if_pos hb, if_pos hb, if_neg (tmp1_ok' a)]
    cases calcNonce cfg r call.realm a t with
    | none => rfl
    | some nn =>
      exact need_sem (d.slots kNonce) paramUnq fun p hp => by
        rw [isParamEq_sem p _ (wq_pq h hp)]; simp only [decide_eq_true_eq]
  · rw [if_neg hb, if_neg hb]

end Mhd.Dauth
