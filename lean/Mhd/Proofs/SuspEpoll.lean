/-
  C11 — the epoll ready list (`eready`) through suspend / resume.  resume_suspended_connections queues a resumed
  connection in the eready list and marks it read- and write-ready ("we might have missed the edge poll event during
  suspension").  That is enough: in the very MHD_epoll call that moves the connection back — whatever epoll_wait
  reports, in particular when it reports nothing — the connection gets a turn, starting from the record it was frozen
  with (`epoll_resume_round`).
-/
import Mhd.Proofs.SuspResume
namespace Mhd.Susp

/-- queued in the eready list and marked read- and write-ready: the state resume_suspended_connections leaves a
    resumed connection in (epoll mode, `resumeReady` guard) -/
def ReadyQ (d : Daemon) (c : Nat) : Prop :=
  c ∈ d.eready ∧ c ∈ d.active ∧ (d.conn c).inEready = true ∧ (d.conn c).readReady = true ∧
  (d.conn c).writeReady = true ∧ (d.conn c).suspended = false

theorem sync_other (d : Daemon) {a c : Nat} (h : c ≠ a) :
    (c ∈ (sync d a).eready ↔ c ∈ d.eready) ∧ (c ∈ (sync d a).active ↔ c ∈ d.active) := by
  have mv : (c ∈ (syncMove d a).eready ↔ c ∈ d.eready) ∧ (c ∈ (syncMove d a).active ↔ c ∈ d.active) := by
    unfold syncMove
    cases (d.conn a).suspended && d.active.contains a
    · exact ⟨.rfl, .rfl⟩
    · exact ⟨List.mem_erase_of_ne h, List.mem_erase_of_ne h⟩
  rw [sync_eq, (syncEready_lists _ _ a).1]
  refine ⟨Iff.trans ?_ mv.1, mv.2⟩
  unfold syncEready
  cases (d.conn a).inEready && !(syncMove d a).eready.contains a && (syncMove d a).active.contains a
  · cases !(d.conn a).inEready && (syncMove d a).eready.contains a
    · exact .rfl
    · exact List.mem_erase_of_ne h
  · exact ⟨fun hm => (List.mem_cons.1 hm).resolve_left h, List.mem_cons_of_mem _⟩

theorem sync_ready {d : Daemon} {c : Nat} (h : ReadyQ d c) : sync d c = d := by
  obtain ⟨h1, _, h3, _, _, h6⟩ := h
  have m : syncMove d c = d := by unfold syncMove; rw [h6]; rfl
  rw [sync_eq, m]
  unfold syncEready
  rw [h3, List.contains_iff_mem.2 h1]; rfl

theorem epollMark_ready (k : Conn) (i o : Bool) (h1 : k.inEready = true) (h2 : k.readReady = true)
    (h3 : k.writeReady = true) : epollMark k i o = k := by
  cases k
  simp only at h1 h2 h3
  subst h1 h2 h3
  cases i <;> cases o <;> rfl

/-- a step that leaves the queued connection `c` alone -/
def Leaves (c : Nat) (d : Daemon) (evs : List Ev) (d' : Daemon) : Prop :=
  ReadyQ d c → ReadyQ d' c ∧ d'.conn c = d.conn c ∧ proj c evs = []

theorem Leaves_rel (c : Nat) : DRel (Leaves c) where
  refl := fun _ h => ⟨h, rfl, rfl⟩
  trans := by
    intro d e1 d1 e2 d2 h1 h2 h
    have a := h1 h
    have b := h2 a.1
    exact ⟨b.1, b.2.1.trans a.2.1, by rw [proj_append, a.2.2, b.2.2]; rfl⟩

theorem Leaves_setSync (c a : Nat) (h : c ≠ a) (d : Daemon) (k : Conn) (r p : Bool) (evs : List CEv) :
    Leaves c d (tag a evs) (sync { d with conn := setConn d.conn a k, resuming := r, pending := p } a) := by
  intro hq
  have so := sync_other { d with conn := setConn d.conn a k, resuming := r, pending := p } h
  have hc : (sync { d with conn := setConn d.conn a k, resuming := r, pending := p } a).conn c = d.conn c :=
    (congrFun (sync_conn _ a) c).trans (setConn_ne _ _ h)
  refine ⟨⟨so.1.2 hq.1, so.2.2 hq.2.1, ?_⟩, hc, proj_tag_ne (Ne.symm h) _⟩
  rw [hc]; exact hq.2.2

theorem Leaves_turnWith (c a : Nat) (h : c ≠ a) (f : Conn → Conn × List CEv) (d : Daemon) :
    Leaves c d (turnWith f d a).2 (turnWith f d a).1 :=
  Leaves_setSync c a h d _ _ _ _

theorem Leaves_ereadyPost (c a : Nat) (h : c ≠ a) (d : Daemon) : Leaves c d [] (ereadyPost d a) := by
  unfold ereadyPost
  exact iteInduction (motive := Leaves c d []) (fun _ => Leaves_setSync c a h d _ d.resuming d.pending [])
    (fun _ => (Leaves_rel c).refl d)

theorem Leaves_epollEvents (c : Nat) : ∀ (l : List (Nat × Bool × Bool)) (d : Daemon), Leaves c d [] (epollEvents l d) :=
  epollEvents_sat (Leaves_rel c) fun d a i o _ => by
    by_cases hac : c = a
    · -- an event for `c` itself changes nothing: it is marked and queued already
      subst hac
      intro hq
      have hd : ({ d with conn := setConn d.conn c (epollMark (d.conn c) i o) } : Daemon) = d := by
        rw [epollMark_ready _ i o hq.2.2.1 hq.2.2.2.1 hq.2.2.2.2.1, setConn_self]
      rw [hd, sync_ready hq]
      exact ⟨hq, rfl, rfl⟩
    · exact Leaves_setSync c a hac d _ d.resuming d.pending []

theorem Leaves_processNew (c : Nat) (l : List Nat) (d : Daemon) (hc : c ∉ l) : Leaves c d (processNew l d).2 (processNew l d).1 := by
  intro hq
  have r := processNew_frame c l d hc
  have s := processNew_lists l d
  refine ⟨⟨s.2.1 ▸ hq.1, s.2.2.2 c hq.2.1, ?_⟩, r.1, r.2⟩
  rw [r.1]; exact hq.2.2

/-- in `evs`, connection `c` gets the turn `f`, starting from the record `k`; nothing is logged for it before -/
def TurnOf (c : Nat) (k : Conn) (f : Conn → Conn × List CEv) (evs : List Ev) : Prop :=
  ∃ pre post, evs = pre ++ tag c (f (clearDres k)).2 ++ post ∧ proj c pre = []

theorem TurnOf.after {c : Nat} {k : Conn} {f : Conn → Conn × List CEv} {e evs : List Ev} (he : proj c e = [])
    (h : TurnOf c k f evs) : TurnOf c k f (e ++ evs) := by
  obtain ⟨pre, post, h1, h2⟩ := h
  refine ⟨e ++ pre, post, ?_, by rw [proj_append, he, h2]; rfl⟩
  rw [h1]; simp only [List.append_assoc]

theorem travEready_visits (g : Guards) (c : Nat) : ∀ (l : List Nat) (d : Daemon), c ∈ l → ReadyQ d c →
    TurnOf c (d.conn c) (fun k => callHandlers g d.isEpoll k true true) (travEready g l d).2 := by
  intro l
  induction l with
  | nil => exact fun d h => nomatch h
  | cons a rest ih =>
    intro d hc hq
    simp only [travEready]
    by_cases hac : c = a
    · subst hac
      refine ⟨[], (travEready g rest (ereadyPost (turn g d c (d.conn c).readReady (d.conn c).writeReady).1 c)).2, ?_, rfl⟩
      rw [hq.2.2.2.1, hq.2.2.2.2.1]
      rfl
    · have h1 := Leaves_turnWith c a hac (fun k => callHandlers g d.isEpoll k (d.conn a).readReady (d.conn a).writeReady) d hq
      have h2 := Leaves_ereadyPost c a hac (turn g d a (d.conn a).readReady (d.conn a).writeReady).1 h1.1
      have hm : (ereadyPost (turn g d a (d.conn a).readReady (d.conn a).writeReady).1 a).isEpoll = d.isEpoll :=
        isEpoll_of_mode ((ereadyPost_mode _ a).trans (turnWith_mode _ d a))
      have := ih _ ((List.mem_cons.1 hc).resolve_left hac) h2.1
      rw [hm, h2.2.1.trans h1.2.1] at this
      exact this.after h1.2.2

/-- what is left of MHD_epoll after resume_suspended_connections -/
def epollTail (g : Guards) (evs : List (Nat × Bool × Bool)) (d : Daemon) : Daemon × List Ev :=
  bindD (fun d => travEready g d.eready.reverse d)
    (bindD (timeoutScan g) (bindD newPhase (pureD (fun d => epollEvents evs { d with pending := false }) d)))

theorem roundEpoll_tail (g : Guards) (d : Daemon) (ids : List Nat) (evs : List (Nat × Bool × Bool)) :
    roundEpoll g d ids evs =
      ((epollTail g evs (bindD (resumeSuspended g) (timers d ids)).1).1,
       (bindD (resumeSuspended g) (timers d ids)).2 ++ (epollTail g evs (bindD (resumeSuspended g) (timers d ids)).1).2) := by
  simp only [roundEpoll, epollTail, bindD, pureD, List.append_assoc, List.nil_append, List.append_nil]

/-- the timeout scan gives the turn to `c`, or to somebody else and then `c` is reached from the eready list -/
theorem scanTrav_turn (g : Guards) (d : Daemon) (hm : d.isEpoll = true) (c : Nat) (hq : ReadyQ d c) :
    ∃ f, TurnOf c (d.conn c) f
        ((timeoutScan g d).2 ++ (travEready g (timeoutScan g d).1.eready.reverse (timeoutScan g d).1).2) ∧
      (f = handleIdle g true ∨ f = fun k => callHandlers g true k true true) := by
  unfold timeoutScan
  cases d.normalTO.getLast? with
  | none =>
    exact ⟨_, (travEready_visits g c d.eready.reverse d (List.mem_reverse.2 hq.1) hq).after rfl, .inr (by rw [hm])⟩
  | some a =>
    by_cases hac : c = a
    · subst hac
      exact ⟨handleIdle g d.isEpoll, ⟨[], _, rfl, rfl⟩, .inl (by rw [hm])⟩
    · have h3 := Leaves_turnWith c a hac (handleIdle g d.isEpoll) d hq
      have hm3 : (idleTurn g d a).1.isEpoll = true := (isEpoll_of_mode (turnWith_mode _ d a)).trans hm
      have := travEready_visits g c (idleTurn g d a).1.eready.reverse (idleTurn g d a).1 (List.mem_reverse.2 h3.1.1) h3.1
      rw [show (idleTurn g d a).1.conn c = d.conn c from h3.2.1] at this
      exact ⟨_, this.after h3.2.2, .inr (by rw [hm3])⟩

theorem epollTail_turn (g : Guards) (evs : List (Nat × Bool × Bool)) (d : Daemon) (hw : WF d) (hm : d.isEpoll = true)
    (c : Nat) (hq : ReadyQ d c) :
    ∃ f, TurnOf c (d.conn c) f (epollTail g evs d).2 ∧
      (f = handleIdle g true ∨ f = fun k => callHandlers g true k true true) := by
  have e1 := Leaves_epollEvents c evs { d with pending := false } hq
  have w1 : WF (epollEvents evs { d with pending := false }) := (WK_epollPhase evs d hw).1
  have a2 := Leaves_processNew c _ { epollEvents evs { d with pending := false } with pending := false }
    (fun hmem => (w1.new_fresh c hmem).1 e1.1.2.1) e1.1
  have hm2 : (newPhase (epollEvents evs { d with pending := false })).1.isEpoll = true :=
    (isEpoll_of_mode ((newPhase_mode _).trans (epollEvents_mode evs _))).trans hm
  obtain ⟨f, ht, hf⟩ := scanTrav_turn g _ hm2 c a2.1
  rw [show (newPhase (epollEvents evs { d with pending := false })).1.conn c = d.conn c from a2.2.1.trans e1.2.1] at ht
  have := ht.after a2.2.2
  rw [← List.append_assoc] at this
  exact ⟨f, this, hf⟩

/-- no lost wake-up (see `Mhd.C11.epoll_no_lost_wakeup`), for any consistent state of an epoll daemon -/
theorem epoll_resume_round (g : Guards) (hrr : g.resumeReady = true) (d : Daemon) (hw : WF d)
    (hm : d.isEpoll = true) (c : Nat) (ids : List Nat) (evs : List (Nat × Bool × Bool))
    (hs : c ∈ (timers d ids).1.susp) (hr : ((timers d ids).1.conn c).resuming = true) :
    ∃ pre post f,
      (roundEpoll g d ids evs).2
        = pre ++ tag c (f (clearDres (resumedConn g true ((timers d ids).1.conn c)))).2 ++ post ∧
      (c, CEv.resumed) ∈ pre ∧
      (f = handleIdle g true ∨ f = fun k => callHandlers g true k true true) := by
  have wt : WF (timers d ids).1 := (WK_timerScan ids d hw).1
  have mt : (timers d ids).1.isEpoll = true := (isEpoll_of_mode (timerScan_mode ids d)).trans hm
  have rm := resume_moves_back g (timers d ids).1 wt c hs hr
  have wr : WF (resumeSuspended g (timers d ids).1).1 := (WK_resumeSuspended g (timers d ids).1 wt).1
  have mr : (resumeSuspended g (timers d ids).1).1.isEpoll = true := (isEpoll_of_mode (resumeSuspended_mode g _)).trans mt
  rw [mt] at rm
  have hq : ReadyQ (resumeSuspended g (timers d ids).1).1 c := by
    refine ⟨rm.2.2.2.2 rfl, rm.2.1, ?_⟩
    rw [rm.2.2.2.1]
    exact ⟨rfl, congrArg (_ || ·) hrr |>.trans (Bool.or_true _), congrArg (_ || ·) hrr |>.trans (Bool.or_true _), rfl⟩
  obtain ⟨f, ⟨pre, post, he, _⟩, hf⟩ := epollTail_turn g evs _ wr mr c hq
  rw [rm.2.2.2.1] at he
  refine ⟨(bindD (resumeSuspended g) (timers d ids)).2 ++ pre, post, f, ?_, ?_, hf⟩
  · rw [roundEpoll_tail]
    show (bindD (resumeSuspended g) (timers d ids)).2 ++ (epollTail g evs (resumeSuspended g (timers d ids).1).1).2 = _
    rw [he, List.append_assoc, List.append_assoc, List.append_assoc]
  · exact List.mem_append_left _ (List.mem_append_right _ rm.1)

theorem readyq_hint (d : Daemon) (hm : d.isEpoll = true) (c : Nat) (hq : c ∈ d.eready) : d.hintZero = true := by
  have : d.eready.isEmpty = false := by
    cases h : d.eready with
    | nil => rw [h] at hq; exact absurd hq List.not_mem_nil
    | cons _ _ => rfl
  simp [Daemon.hintZero, hm, this]

end Mhd.Susp
