/-
  The header-line parser on the reference encoding: `try_get_value` (`tryGetValueGo`) and
  `MHD_str_equal_caseless_n_` on the lines `encPartHeaders` writes, giving the `hdr` clause of `PartOk`
  from purely syntactic conditions (`PartPlain`), and `multipart_roundtrip_syntactic`.

  A header line is a fixed text followed by strings of the part.  What the parser does on it is decided by
  the fixed text alone: the lemmas below reduce each walk to closed facts about that text, which are
  evaluated.
-/
import Mhd.Proofs.PPMxRt
import Mhd.Proofs.PPTok
namespace Mhd.PP

theorem toList_loop (bs : ByteArray) (i : Nat) (r : List UInt8) :
    ByteArray.toList.loop bs i r = r.reverse ++ bs.data.toList.drop i := by
  induction i, r using ByteArray.toList.loop.induct bs with
  | case1 i r h ih =>
    rw [ByteArray.toList.loop, if_pos h, ih]
    have : bs.get! i = bs.data.toList[i]'(by simpa using h) := by
      simp [ByteArray.get!, getElem!_pos, h]
    rw [this, List.reverse_cons, List.append_assoc, List.singleton_append, List.getElem_cons_drop]
  | case2 i r h =>
    rw [ByteArray.toList.loop, if_neg h, List.drop_of_length_le (by simpa using h), List.append_nil]

/-- The bytes of a string literal, in a form the kernel evaluates without running the loop of
    `ByteArray.toList` (well-founded recursion): rewrite with this before a `decide`.  `no_index`
    lets `simp` match a literal, which is `String.ofList` of its characters only up to unfolding. -/
theorem ofStr_ofList (l : List Char) :
    ofStr (no_index (String.ofList l)) = l.flatMap String.utf8EncodeChar := by
  simp [ofStr, String.toUTF8, ByteArray.toList, toList_loop, List.utf8Encode]

theorem eqCaselessN_app : ∀ (k : Nat) (a b r : Bytes), k ≤ b.length →
    eqCaselessN a (b ++ r) k = eqCaselessN a b k
  | 0, a, b, r, _ => by simp [eqCaselessN]
  | k + 1, a, [], r, h => by simp at h
  | k + 1, [], c2 :: t2, r, _ => by simp [eqCaselessN]
  | k + 1, c1 :: t1, c2 :: t2, r, h => by
    simp only [List.cons_append, eqCaselessN]
    rw [eqCaselessN_app k t1 t2 r (by simpa using h)]

theorem eqCaselessN_mono : ∀ (j k : Nat) (a s : Bytes), j ≤ k → eqCaselessN a s k = true → eqCaselessN a s j = true
  | 0, _, _, _, _, _ => by simp [eqCaselessN]
  | j + 1, 0, _, _, h, _ => by omega
  | j + 1, k + 1, a, [], _, h => by simpa [eqCaselessN] using h
  | j + 1, k + 1, [], c :: t, _, h => by simp [eqCaselessN] at h
  | j + 1, k + 1, c1 :: t1, c2 :: t2, hjk, h => by
    simp only [eqCaselessN] at h ⊢
    by_cases hc : eqCI c1 c2 = true
    · simp only [hc, if_true] at h ⊢
      exact eqCaselessN_mono j k t1 t2 (by omega) h
    · simp [hc] at h

/-- Whether the line `lit ++ v` starts with the header name `a` is decided by the fixed text `lit`: they
    differ within their common length, or they match and `lit` is just as long as the name. -/
theorem eqCaselessN_text (a lit v : Bytes) (r : Bool)
    (h : eqCaselessN a lit (min a.length lit.length) = r ∧ (r = true → lit.length = a.length)) :
    eqCaselessN a (lit ++ v) a.length = r := by
  obtain ⟨h1, h2⟩ := h
  cases r with
  | true => rw [eqCaselessN_app _ _ _ _ (by rw [h2 rfl]; exact Nat.le_refl _), ← h1, h2 rfl, Nat.min_self]
  | false =>
    cases hh : eqCaselessN a (lit ++ v) a.length with
    | false => rfl
    | true =>
      have := eqCaselessN_mono _ _ a (lit ++ v) (Nat.min_le_left _ lit.length) hh
      rw [eqCaselessN_app _ a lit v (Nat.min_le_right _ _), h1] at this
      cases this

theorem tgv_inq (key : Bytes) : ∀ (s T : Bytes) (prev : Option UInt8), (∀ c ∈ s, c ≠ cQuote) →
    tryGetValueGo key true prev (s ++ cQuote :: T) = tryGetValueGo key false (some cQuote) T
  | [], T, prev, _ => by simp [tryGetValueGo]
  | c :: s, T, prev, h => by
    have hc : c ≠ cQuote := h c (by simp)
    simp only [List.cons_append, tryGetValueGo]
    have : (c != cQuote) = true := by simpa using hc
    rw [this]
    exact tgv_inq key s T _ (fun x hx => h x (by simp [hx]))

theorem tgv_quoted (key s T : Bytes) (prev : Option UInt8) (hs : ∀ c ∈ s, c ≠ cQuote) :
    tryGetValueGo key false prev (cQuote :: (s ++ cQuote :: T)) = tryGetValueGo key false (some cQuote) T := by
  simp only [tryGetValueGo, if_true, List.contains_append, List.contains_cons, beq_self_eq_true, Bool.true_or,
    Bool.or_true]
  exact tgv_inq key s T _ hs

theorem isPrefixOf_append_false {key s : Bytes} (X : Bytes) (h1 : ¬ key <+: s) (h2 : ¬ s <+: key) :
    key.isPrefixOf (s ++ X) = false := by
  cases h : key.isPrefixOf (s ++ X) with
  | false => rfl
  | true =>
    rcases List.prefix_or_prefix_of_prefix (List.isPrefixOf_iff_prefix.mp h) (List.prefix_append s X) with h | h
    · exact absurd h h1
    · exact absurd h h2

theorem tgv_step (key t : Bytes) (c : UInt8) (prev : Option UInt8) (hq : c ≠ cQuote)
    (hk : key.isPrefixOf (c :: t) = false) :
    tryGetValueGo key false prev (c :: t) = tryGetValueGo key false (some c) t := by
  simp only [tryGetValueGo, hq, if_false, hk, Bool.false_eq_true, false_and]

theorem tgv_skip (key X : Bytes) (l : UInt8) : ∀ (txt : Bytes) (prev : Option UInt8),
    (txt.getLast? = some l ∧ ∀ i < txt.length, txt[i]? ≠ some cQuote ∧
      ¬ key <+: txt.drop i ∧ ¬ txt.drop i <+: key) →
    tryGetValueGo key false prev (txt ++ X) = tryGetValueGo key false (some l) X
  | [], prev, h => by simp at h
  | [c], prev, h => by
    obtain ⟨hq, h1, h2⟩ := h.2 0 (Nat.zero_lt_one)
    have : c = l := by simpa using h.1
    subst this
    exact tgv_step key X c prev (by simpa using hq) (isPrefixOf_append_false X h1 h2)
  | c :: d :: t, prev, h => by
    obtain ⟨hq, h1, h2⟩ := h.2 0 (by simp)
    rw [List.cons_append,
      tgv_step key _ c prev (by simpa using hq) (by simpa using isPrefixOf_append_false X h1 h2)]
    exact tgv_skip key X l (d :: t) (some c)
      ⟨by simpa using h.1, fun i hi => by simpa using h.2 (i + 1) (by simpa using hi)⟩

theorem tgv_hit (key s T : Bytes) (prev : Option UInt8) (hk : key ≠ [] ∧ key.head? ≠ some cQuote)
    (hp : prev = none ∨ prev = some cSp) (hs : ∀ c ∈ s, c ≠ cQuote) :
    tryGetValueGo key false prev (key ++ cEq :: cQuote :: (s ++ cQuote :: T)) = some s := by
  obtain ⟨k, ks, rfl⟩ := List.exists_cons_of_ne_nil hk.1
  have hk' : k ≠ cQuote := by simpa using hk.2
  have h1 : (k :: ks).isPrefixOf (k :: (ks ++ cEq :: cQuote :: (s ++ cQuote :: T))) = true :=
    List.isPrefixOf_iff_prefix.mpr (List.prefix_append (k :: ks) _)
  have h2 : (s ++ cQuote :: T).takeWhile (fun c => !decide (c = cQuote)) = s := by
    rw [List.takeWhile_append_of_pos (fun c hc => by simpa using hs c hc), List.takeWhile_cons_of_neg (by simp),
      List.append_nil]
  simp [tryGetValueGo, hk', h1, hp, h2]

def Plain (s : Bytes) : Prop := ∀ c ∈ s, c ≠ 0 ∧ c ≠ cQuote ∧ c ≠ cCR ∧ c ≠ cLF
def NoCtl (s : Bytes) : Prop := ∀ c ∈ s, c ≠ 0 ∧ c ≠ cCR ∧ c ≠ cLF

theorem NoCtl.append {a b : Bytes} (ha : NoCtl a) (hb : NoCtl b) : NoCtl (a ++ b) :=
  fun c hc => (List.mem_append.mp hc).elim (ha c) (hb c)

theorem Plain.noCtl {s : Bytes} (h : Plain s) : NoCtl s := fun c hc => ⟨(h c hc).1, (h c hc).2.2⟩

theorem Plain.noQuote {s : Bytes} (h : Plain s) : ∀ c ∈ s, c ≠ cQuote := fun c hc => (h c hc).2.1

theorem disp_text : ofStr "Content-Disposition: form-data; name=\"" =
    ofStr "Content-Disposition: " ++ (ofStr "form-data; " ++ (sName ++ [cEq, cQuote])) := by
  simp only [sName, ofStr_ofList]; decide +kernel

theorem file_text : ofStr "; filename=\"" = ofStr "; " ++ (sFilename ++ [cEq, cQuote]) := by
  simp only [sFilename, ofStr_ofList]; decide +kernel

theorem lit_ok : ∀ l ∈ [ofStr "Content-Disposition: form-data; name=\"", ofStr "; filename=\"", ofStr "Content-Type: ",
    ofStr "Content-Transfer-Encoding: ", [cQuote]], NoCtl l ∧ l ≠ [] := by
  simp only [NoCtl, ofStr_ofList]; decide +kernel

theorem dispLine_ok (p : Part) (hn : Plain p.name) (hf : ∀ f, p.filename = some f → Plain f) :
    NoCtl (dispLine p) ∧ dispLine p ≠ [] := by
  have hq := (lit_ok [cQuote] (by simp)).1
  have h1 := lit_ok (ofStr "Content-Disposition: form-data; name=\"") (by simp)
  refine ⟨((h1.1.append hn.noCtl).append hq).append ?_, by simp [dispLine, h1.2]⟩
  cases hfn : p.filename with
  | none => nofun
  | some f => exact ((lit_ok (ofStr "; filename=\"") (by simp)).1.append (hf f hfn).noCtl).append hq

/-- the disposition line read from the start: `name` finds the name, `filename` passes over the quoted
    name and finds the file name if there is one -/
theorem hdrM_disp (p : Part) (hn : Plain p.name) (hf : ∀ f, p.filename = some f → Plain f) :
    hdrM none4 (dispLine p) = ⟨some p.name, p.filename, none, none⟩ := by
  rw [hdrM, cstr_of_no_zero _ (fun c hc => ((dispLine_ok p hn hf).1 c hc).1)]
  unfold dispLine
  rw [disp_text, file_text]
  simp only [List.append_assoc, List.cons_append, List.nil_append]
  rw [eqCaselessN_text _ _ _ true (by simp only [hdrDisposition, ofStr_ofList]; decide +kernel), if_pos rfl,
    List.drop_left' (by simp only [hdrDisposition, ofStr_ofList]; decide +kernel)]
  simp only [tryGetValue, none4]
  rw [tgv_skip sName _ cSp _ none (by simp only [sName, ofStr_ofList]; decide +kernel),
    tgv_hit sName _ _ _ (by decide +kernel) (Or.inr rfl) hn.noQuote,
    tgv_skip sFilename _ cSp _ none (by simp only [sFilename, ofStr_ofList]; decide +kernel),
    List.append_cons sName cEq,
    tgv_skip sFilename _ cEq _ _ (by simp only [sFilename, sName, ofStr_ofList]; decide +kernel),
    tgv_quoted _ _ _ _ hn.noQuote]
  cases hfn : p.filename with
  | none => simp only [tryGetValueGo]
  | some f =>
    simp only
    rw [tgv_skip sFilename _ cSp _ _ (by simp only [sFilename, ofStr_ofList]; decide +kernel),
      tgv_hit sFilename _ _ _ (by decide +kernel) (Or.inr rfl) (hf f hfn).noQuote]

theorem tryMatchHeader_text (a lit v : Bytes) (r : Bool) (sfx : Option Bytes)
    (h : eqCaselessN a lit (min a.length lit.length) = r ∧ (r = true → lit.length = a.length)) :
    tryMatchHeader a (lit ++ v) sfx = sfx.or (if r then some v else none) := by
  cases sfx with
  | some s => rfl
  | none =>
    simp only [tryMatchHeader, tryMatchGo, eqCaselessN_text a lit v r h]
    cases r with
    | false => rfl
    | true => rw [if_pos rfl, List.drop_left' (h.2 rfl)]; rfl

theorem hdrM_other (m : Meta) (lit v : Bytes) (ty en : Bool) (hz : NoCtl (lit ++ v))
    (h : (eqCaselessN hdrDisposition lit (min hdrDisposition.length lit.length) = false ∧
        (false = true → lit.length = hdrDisposition.length)) ∧
      (eqCaselessN hdrType lit (min hdrType.length lit.length) = ty ∧ (ty = true → lit.length = hdrType.length)) ∧
      (eqCaselessN hdrEncoding lit (min hdrEncoding.length lit.length) = en ∧
        (en = true → lit.length = hdrEncoding.length))) :
    hdrM m (lit ++ v) = { m with ctype := m.ctype.or (if ty then some v else none),
                                 enc := m.enc.or (if en then some v else none) } := by
  rw [hdrM, cstr_of_no_zero _ (fun c hc => (hz c hc).1), eqCaselessN_text _ _ _ _ h.1, if_neg Bool.false_ne_true,
    tryMatchHeader_text _ _ _ _ _ h.2.1, tryMatchHeader_text _ _ _ _ _ h.2.2]

theorem hdrM_ct (k f : Option Bytes) (t : Bytes) (ht : NoCtl t) :
    hdrM ⟨k, f, none, none⟩ (ofStr "Content-Type: " ++ t) = ⟨k, f, some t, none⟩ :=
  hdrM_other _ _ t true false ((lit_ok _ (by simp)).1.append ht)
    (by simp only [hdrDisposition, hdrType, hdrEncoding, ofStr_ofList]; decide +kernel)

theorem hdrM_cte (k f ct : Option Bytes) (e : Bytes) (he : NoCtl e) :
    hdrM ⟨k, f, ct, none⟩ (ofStr "Content-Transfer-Encoding: " ++ e) = ⟨k, f, ct, some e⟩ := by
  rw [hdrM_other _ _ e false true ((lit_ok _ (by simp)).1.append he)
    (by simp only [hdrDisposition, hdrType, hdrEncoding, ofStr_ofList]; decide +kernel)]
  cases ct <;> rfl

/-- purely syntactic side conditions on one part of the reference encoding: the name and the file name
    contain no NUL, `"`, CR, LF; content type and transfer encoding no NUL, CR, LF; the content type is
    not `multipart/mixed`; every header line is shorter than the buffer -/
structure PartPlain (size : Nat) (p : Part) : Prop where
  name : Plain p.name
  file : ∀ f, p.filename = some f → Plain f
  ctype : ∀ t, p.ctype = some t → NoCtl t ∧ eqCaselessN t sMixed sMixed.length = false
  enc : ∀ e, p.enc = some e → NoCtl e
  fit : ∀ ln ∈ hdrLines p, ln.length < size

theorem hdr_of_plain {size : Nat} {p : Part} (h : PartPlain size p) :
    (hdrLines p).foldl hdrM none4 = metaP p := by
  rw [hdrLines, List.foldl_cons, hdrM_disp p h.name h.file, List.foldl_append, metaP]
  cases hct : p.ctype with
  | none =>
    cases he : p.enc with
    | none => rfl
    | some e => exact hdrM_cte _ _ _ e (h.enc e he)
  | some t =>
    rw [List.foldl_cons, List.foldl_nil, hdrM_ct _ _ t (h.ctype t hct).1]
    cases he : p.enc with
    | none => rfl
    | some e => exact hdrM_cte _ _ _ e (h.enc e he)

theorem partOk_of_plain {size : Nat} {p : Part} (h : PartPlain size p) : PartOk size p := by
  refine ⟨fun ln hln => ?_, hdr_of_plain h, fun ct hct => (h.ctype ct hct).2⟩
  have hok : NoCtl ln ∧ ln ≠ [] := by
    have hlit := fun l hl (v : Bytes) (hv : NoCtl v) =>
      (⟨(lit_ok l hl).1.append hv, by simp [(lit_ok l hl).2]⟩ : NoCtl (l ++ v) ∧ l ++ v ≠ [])
    simp only [hdrLines, List.mem_cons, List.mem_append] at hln
    rcases hln with rfl | hln | hln
    · exact dispLine_ok p h.name h.file
    · cases hct : p.ctype with
      | none => rw [hct] at hln; cases hln
      | some t => rw [hct, List.mem_singleton] at hln; exact hln ▸ hlit _ (by simp) t (h.ctype t hct).1
    · cases hen : p.enc with
      | none => rw [hen] at hln; cases hln
      | some e => rw [hen, List.mem_singleton] at hln; exact hln ▸ hlit _ (by simp) e (h.enc e hen)
  exact ⟨hok.2, fun c hc => (hok.1 c hc).2, h.fit ln hln⟩

/-- **Round trip, reference encoding, purely syntactic side conditions, every split.** -/
theorem multipart_roundtrip_syntactic (n : Nat) (ctype : Bytes) (pp0 : PP) (parts : List Part) (chunks : List Bytes)
    (hc : create n ctype = some pp0) (hu : pp0.isUrl = false) (hB : 1 ≤ pp0.boundary.length)
    (hfresh : boundaryFresh pp0.boundary parts = true) (hp : ∀ p ∈ parts, PartPlain (n + 4) p)
    (hch : chunks.flatten = encodeMultipart pp0.boundary parts) :
    ∃ pp, run n ctype chunks = some (pp, true) ∧ pp.fault = none ∧ Delivers pp.evs (parts.map fieldOf) ∧
      ∀ pre ch post, chunks = pre ++ ch :: post → (feed (feedAll pp0 pre) ch).2 = true :=
  multipart_roundtrip n ctype pp0 parts chunks hc hu hB hfresh (fun p hp' => partOk_of_plain (hp p hp')) hch

end Mhd.PP
