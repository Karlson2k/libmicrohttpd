/-
  `post_process_urlencoded` on well-formed input, from the code after the loop (`tail_spec`) to a whole list
  of calls (`feedAll_good`) and what the invariant says once the input is used up (`good_end_nl`).  The
  reference encoder `encodeUrl` produces such input (`tokOf_spec`, `encodeUrl_eq`).
-/
import Mhd.Proofs.PPUrlInv
namespace Mhd.PP

/-- invariant between two calls of `MHD_post_process`: `F` is the input still to come -/
def UGoodRt (F : Bytes) (N : Nat) (all : List FieldT) (nl : Bytes) (pp : PP) : Prop :=
  UGood pp ∧ pp.bufferSize = N ∧ LInv [] F N all nl pp {}

variable {d F : Bytes} {N : Nat} {all : List FieldT} {nl : Bytes} {pp : PP} {l : UL}

theorem good_start (h : LInv [] (d ++ F) N all nl pp {}) : LInv d F N all nl pp {} := by
  cases h with
  | init done rem hst hall hR hev hbp hvo hxb hmu => exact LInv.init done rem hst hall hR hev hbp hvo hxb hmu
  | key done f rest kd kr hst hall hk hkd hR hev hkey hvo hxb =>
    exact LInv.key done f rest kd kr hst hall hk hkd hR hev ⟨hkey.content, hkey.inbuf, hkey.must⟩ hvo hxb
  | val done f rest wrest hst hall hR hval hkey =>
    exact LInv.val done f rest wrest hst hall hR hval (keySt_rechunk hkey rfl rfl rfl)
  | cb done f rest sv ev hst hall hR hsv hev' hval hkey => cases hsv
  | done pre hst hnle hev hxb => exact LInv.done pre hst hnle hev hxb

theorem LInv.state_ne_error (h : LInv d F N all nl pp l) : pp.state ≠ .error := by
  cases h with
  | init _ _ hst => rw [hst]; decide
  | key _ _ _ _ _ hst => rw [hst]; decide
  | val _ _ _ _ hst => rw [hst]; decide
  | cb _ _ _ _ _ hst => rw [hst]; decide
  | done _ hst => rw [hst]; decide

theorem tail_spec (hd : 0 < d.length) (hok : ∀ f ∈ all, f.Ok N) (hI : UInv pp) (hsz : pp.bufferSize = N) (hL : ULoc pp l)
    (hInv : LInv d F N all nl pp l) (hend : l.poff = d.length) (hncb : pp.state ≠ .callback) :
    (urlTail d pp l).2 = true ∧ (urlTail d pp l).1.bufferSize = N ∧ LInv [] F N all nl (urlTail d pp l).1 {} := by
  have hne := hInv.state_ne_error
  have hdrop : ∀ R, d.drop l.poff ++ F = R → ([] : Bytes).drop 0 ++ F = R := fun R h => by
    rw [hend, List.drop_length] at h; exact h
  -- outside `PP_ProcessKey`/`PP_ProcessValue` nothing is saved
  have idle : l.startKey = none → pp.state ≠ .processValue → urlTail d pp l = (pp, true) := fun hsk hnv => by
    have hv : urlTailValue d pp l = pp := urlTailValue_skip fun h => hnv h.2
    rw [urlTail_of hne (urlTailKey_none hsk) hI.fault (by rw [hv]; exact hne), hv]
  cases hInv with
  | init done rem hst hall hR hev hbp hvo hxb hmu =>
    rw [idle ((uloc_init hst).mp hL).1 (by rw [hst]; decide)]
    exact ⟨rfl, hsz, LInv.init done rem hst hall (hdrop _ hR) hev hbp hvo hxb hmu⟩
  | done pre hst hnle hev hxb =>
    rw [idle ((uloc_done hst).mp hL).1 (by rw [hst]; decide)]
    exact ⟨rfl, hsz, LInv.done pre hst (by rw [hnle, hend, List.drop_length]; rfl) hev hxb⟩
  | cb done f rest sv ev hst hall hR hsv hev' hval hkey => exact absurd hst hncb
  | key done f rest kd kr hst hall hk hkd hR hev hkey hvo hxb =>
    -- the key piece of this chunk is saved in the key buffer
    obtain ⟨hek, _, _, _, hptr⟩ := (uloc_key hst).mp hL
    rcases hptr with ⟨_, h0⟩ | ⟨sk, hs, hlt⟩
    · rw [h0] at hend; rw [← hend] at hd; cases hd
    · have hpo : l.endKey.getD l.poff = l.poff := by rw [hek]; rfl
      obtain ⟨B, a1, a2, a3, a4⟩ := keyRaw_append hkey hs hpo (Nat.le_of_lt hlt) (Nat.le_of_eq hend)
      have hfit : pp.bufferPos + (l.endKey.getD l.poff - sk) < pp.bufferSize := by
        rw [hpo, a4, hsz]
        exact Nat.lt_of_le_of_lt (by rw [hk, List.length_append]; exact Nat.le_add_right _ _) (hok f (by rw [hall]; simp)).2.2.2
      have e1 : urlTailKey d pp l = (_, true) := (urlTailKey_some hs (by rw [hpo]; exact Nat.le_of_lt hlt) hfit).trans (by rw [hpo, a1])
      have hv := urlTailValue_skip (d := d) (l := l)
        (pp := { pp with buf := B, bufferPos := pp.bufferPos + (l.poff - sk), mustUnescapeKey := true })
        fun h => by rw [show pp.state = _ from hst] at h; cases h.2
      rw [urlTail_of hne e1 hI.fault (by rw [hv]; exact hne), hv]
      exact ⟨rfl, hsz, LInv.key done f rest kd kr hst hall hk hkd (hdrop _ hR) hev
        ⟨by rw [pendKey, List.append_nil]; exact a2, a3, fun _ => rfl⟩ hvo hxb⟩
  | val done f rest wrest hst hall hR hval hkey =>
    have hf : f.Ok N := hok f (by rw [hall]; simp)
    obtain ⟨hev', hsv, hkp⟩ := (uloc_value hst).mp hL
    -- first the key piece of this chunk, if any, is saved: only the key buffer changes
    have hkeypart : ∃ pp1, urlTailKey d pp l = (pp1, true) ∧ KeySt [] pp1 {} f ∧ pp1.fault = none ∧
        pp1.state = .processValue ∧ pp1.bufferSize = N ∧ ∀ W, ValSt done f pp W → ValSt done f pp1 W := by
      rcases hkp with ⟨k1, _⟩ | ⟨a, b, k1, k2, k3, k4, _⟩
      · exact ⟨pp, urlTailKey_none k1, keySt_rechunk hkey k1 rfl rfl, hI.fault, hst, hsz, fun _ h => h⟩
      · obtain ⟨B, h1, hfit, hk'⟩ := keySt_append hkey k1 k2 k3 (Nat.le_trans k4 (Nat.le_of_eq hend)) hf hsz
        have hb : l.endKey.getD l.poff = b := by rw [k2]; rfl
        exact ⟨_, (urlTailKey_some k1 (by rw [hb]; exact Nat.le_of_lt k3) (by rw [hb]; exact hfit)).trans (by rw [hb, h1]),
          hk' [] {} rfl, hI.fault, hst, hsz, fun _ h => h⟩
    obtain ⟨pp1, e1, hk1, f1, f2, f3, hv1⟩ := hkeypart
    have hne1 : pp1.state ≠ .error := by rw [f2]; decide
    cases hsv' : l.startValue with
    | none =>
      have hv : urlTailValue d pp1 l = pp1 := urlTailValue_skip fun h => by rw [hsv'] at h; cases h.1
      simp only [scanned, hsv'] at hval
      rw [urlTail_of hne e1 f1 (by rw [hv]; exact hne1), hv]
      exact ⟨rfl, f3, LInv.val done f rest wrest f2 hall (hdrop _ hR) (hv1 _ hval) hk1⟩
    | some sv =>
      -- the key is unescaped if that is still due, and the scanned part of the value is processed
      have hsvp : sv ≤ l.poff := by
        rcases hsv with h | ⟨s, h, hle⟩ <;> rw [hsv'] at h <;> cases h
        exact hle
      obtain ⟨B', hB, hB'⟩ := keySt_unescape hk1 rfl hf f3
      simp only [scanned, hsv', hev', Option.getD_none] at hval
      obtain ⟨p, vo, es, hpv, hval3⟩ := value_process (pp := { pp1 with buf := B', mustUnescapeKey := false })
        (tailEscape l.lastEscape l.poff) wrest false (hv1 _ hval) hB' hf.2.2.1 hsvp (Nat.le_of_eq hend) (fun h => by cases h)
      have e2 := urlTailValue_some (d := d) hsv' f2 hB f1
      rw [hev', Option.getD_none, hpv] at e2
      rw [urlTail_of hne e1 f1 (by rw [e2]; exact hne1), e2]
      exact ⟨rfl, f3, LInv.val done f rest wrest f2 hall (hdrop _ hR) hval3 (Or.inr ⟨rfl, rfl, rfl, hB', rfl⟩)⟩

theorem feed_good (hok : ∀ f ∈ all, f.Ok N) (hnl : IsNl nl) (hG : UGoodRt (d ++ F) N all nl pp) :
    (feed pp d).2 = true ∧ UGoodRt F N all nl (feed pp d).1 := by
  obtain ⟨⟨hI, hL⟩, hsz, hInv⟩ := hG
  by_cases hd : d.length = 0
  · rw [feed_empty hI.fault hd]
    cases List.length_eq_zero_iff.mp hd
    exact ⟨rfl, ⟨hI, hL⟩, hsz, hInv⟩
  · obtain ⟨r1, r2, r3, _, r5, r6, r7⟩ := urlLoop_inv d (fun pp l => pp.bufferSize = N ∧ LInv d F N all nl pp l)
      (fun pp l hI hL hp hc h => ⟨(step_any hI hL hp hc).2.2.2.2.trans h.1, step_linv hok hnl hI h.1 hL hp hc h.2⟩)
      (3 * d.length + 4) pp {} hI hL (Nat.zero_le _) (muA_start d pp) ⟨hsz, good_start hInv⟩
    rw [feed_url hI.fault hI.url hd r1.fault]
    have hne := r7.state_ne_error
    obtain ⟨t1, t2, t3⟩ := tail_spec (Nat.pos_of_ne_zero hd) hok r1 r6 r2 r7
      (Nat.le_antisymm r3 (Nat.not_lt.mp fun h => r5 ⟨Or.inl h, hne⟩)) (fun h => r5 ⟨Or.inr h, hne⟩)
    exact ⟨t1, tail_any r1 r2 r3 r5, t2, t3⟩

theorem feedAll_good (hok : ∀ f ∈ all, f.Ok N) (hnl : IsNl nl) (chunks : List Bytes) (F : Bytes) (pp : PP)
    (h : UGoodRt (chunks.flatten ++ F) N all nl pp) :
    UGoodRt F N all nl (feedAll pp chunks) ∧
      ∀ pre c post, chunks = pre ++ c :: post → (feed (feedAll pp pre) c).2 = true :=
  feedAll_fut (fun pp F => UGoodRt F N all nl pp) (fun _ _ _ => feed_good hok hnl) chunks pp F h

theorem create_url (n : Nat) : create n Mhd.Gen.PP.encUrl = some { isUrl := true, bufferSize := n + Mhd.Gen.PP.bufferSlack } := by
  have : eqCaselessN Mhd.Gen.PP.encUrl Mhd.Gen.PP.encUrl Mhd.Gen.PP.encUrl.length = true := by decide
  simp [create, this]

theorem good_init (n : Nat) (all : List FieldT) (nl : Bytes) :
    UGoodRt (encF all ++ nl) (n + Mhd.Gen.PP.bufferSlack) all nl { isUrl := true, bufferSize := n + Mhd.Gen.PP.bufferSlack } :=
  ⟨create_url_ugood n Mhd.Gen.PP.encUrl _ (create_url n) rfl, rfl, LInv.init [] all rfl rfl rfl rfl rfl rfl rfl rfl⟩

/-- what follows an unfinished key contains '=': it cannot consist of newlines only -/
theorem key_not_nl {kr X nl : Bytes} (hnl : IsNl nl) (h : nl = kr ++ cEq :: X) : False :=
  absurd (hnl cEq (h ▸ List.mem_append_right _ List.mem_cons_self)) (by decide)

theorem encF_eq_nil {fs : List FieldT} (h : encF fs = []) : fs = [] := by
  cases fs with
  | nil => rfl
  | cons f fs => simp [encF] at h

theorem good_end_nl (hne : nl ≠ [])
    (hG : UGoodRt [] N all nl pp) :
    pp.state = .done ∧ pp.xbuf = [] ∧ pp.fault = none ∧ Delivers pp.evs (all.map fld) := by
  obtain ⟨⟨hI, _⟩, _, hInv⟩ := hG
  cases hInv with
  | init done rem hst hall hR hev hbp hvo hxb hmu =>
    exact absurd (List.append_eq_nil_iff.mp hR.symm).2 hne
  | key done f rest kd kr hst hall hk hkd hR hev hkey hvo hxb =>
    exact (key_not_nl (fun _ h => by cases h) hR).elim
  | val done f rest wrest hst hall hR hval hkey =>
    have h2 := (List.append_eq_nil_iff.mp hR.symm).2
    cases rest with
    | nil => exact absurd h2 hne
    | cons g r => cases h2
  | cb done f rest sv ev hst hall hR hsv hev' hval hkey => cases hsv
  | done pre hst hnle hev hxb => exact ⟨hst, hxb, hI.fault, hev⟩

theorem destroy_idle (pp : PP) (hst : pp.state = .done ∨ pp.state = .init) (hx : pp.xbuf = []) (hf : pp.fault = none) :
    destroy pp = (pp, true) := by
  have hfs : pp.fault.isSome = false := by rw [hf]; rfl
  rcases hst with h | h <;> simp [destroy, hfs, h, hx]

theorem isNl_lf : IsNl [cLF] := fun _ hc => Or.inr (List.mem_singleton.mp hc)

/-- the token the reference encoder `encByte` emits for a byte -/
def tokOf (c : UInt8) : Tok :=
  if isUnreserved c then .lit c
  else if c = cSp then .lit cPlus
  else .esc (hexDigitU (c.toNat / 16)) (hexDigitU (c.toNat % 16))

theorem hexDigitU_table : ∀ n, n < 16 → isHex (hexDigitU n) = true ∧ hexVal (hexDigitU n) = some n := by
  decide +kernel

theorem unreserved_lit {c : UInt8} (h : isUnreserved c = true) : litOk c = true ∧ c ≠ cPlus := by
  have ne : ∀ v : UInt8, isUnreserved v = false → c ≠ v := fun v hv hc => by rw [hc, hv] at h; cases h
  exact ⟨litOk_iff.mpr ⟨ne _ (by decide), ne _ (by decide), ne _ (by decide), ne _ (by decide), ne _ (by decide),
    ne _ (by decide)⟩, ne _ (by decide)⟩

theorem tokOf_spec (c : UInt8) : (tokOf c).ok = true ∧ (tokOf c).dec = c ∧ (tokOf c).raw = encByte c := by
  unfold tokOf encByte
  by_cases hu : isUnreserved c = true
  · obtain ⟨h1, h2⟩ := unreserved_lit hu
    rw [if_pos hu, if_pos hu]
    exact ⟨h1, if_neg h2, rfl⟩
  · rw [if_neg hu, if_neg hu]
    by_cases hs : c = cSp
    · rw [if_pos hs, if_pos hs]
      exact ⟨by decide, hs.symm, rfl⟩
    · rw [if_neg hs, if_neg hs]
      have hlt : c.toNat / 16 < 16 := Nat.div_lt_of_lt_mul (UInt8.toNat_lt c)
      obtain ⟨a1, a2⟩ := hexDigitU_table _ hlt
      obtain ⟨b1, b2⟩ := hexDigitU_table _ (Nat.mod_lt c.toNat (by decide : 0 < 16))
      refine ⟨by rw [Tok.ok, a1, b1]; rfl, ?_, rfl⟩
      rw [Tok.dec, a2, b2, Option.getD_some, Option.getD_some, Nat.div_add_mod', UInt8.ofNat_toNat]

def tokField (kv : Bytes × Bytes) : FieldT := ⟨kv.1.map tokOf, kv.2.map tokOf⟩

theorem rawOf_map_tokOf (s : Bytes) : rawOf (s.map tokOf) = encStr s := by
  induction s with
  | nil => rfl
  | cons c s ih => simp [encStr, (tokOf_spec c).2.2] at ih ⊢; rw [← ih]

theorem decOf_map_tokOf (s : Bytes) : decOf (s.map tokOf) = s := by
  induction s with
  | nil => rfl
  | cons c s ih => simp [(tokOf_spec c).2.1, ih]

theorem allOk_map_tokOf (s : Bytes) : AllOk (s.map tokOf) := by
  intro t ht
  simp at ht
  obtain ⟨c, _, rfl⟩ := ht
  exact (tokOf_spec c).1

theorem encodeUrl_eq (fields : List (Bytes × Bytes)) : encodeUrl fields = encF (fields.map tokField) := by
  induction fields with
  | nil => rfl
  | cons kv rest ih =>
    cases rest with
    | nil => simp [encodeUrl, encF, tokField, rawOf_map_tokOf]
    | cons kv2 rest2 =>
      simp only [encodeUrl, List.map_cons, encF] at ih ⊢
      simp [tokField, rawOf_map_tokOf, ih]

end Mhd.PP
