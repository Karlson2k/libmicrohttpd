/-
  The body decision (`decideBody`) against the RFC 9112 §6.3 rule stated over the list of values of the
  Transfer-Encoding / Content-Length fields.
-/
import Mhd.Model.FramingRef
import Mhd.Proofs.Lists
import Mhd.Proofs.FramingNum
namespace Mhd.Framing
open Mhd.Gen.Framing Framer

theorem countName_eq_length (fs : List Field) (k : Bytes) :
    countName fs k = (fieldValues fs k).length := by
  induction fs with
  | nil => rfl
  | cons f t ih =>
    simp only [fieldValues] at ih
    cases h : eqCI f.name k <;> simp [countName, fieldValues, h, ih] <;> omega

theorem lookup_eq_head (fs : List Field) (k : Bytes) :
    lookup fs k = (fieldValues fs k).head? := by
  induction fs with
  | nil => rfl
  | cons f t ih =>
    simp only [fieldValues] at ih
    cases h : eqCI f.name k <;> simp [lookup, fieldValues, h, ih]

theorem decValue_eq (ds : Bytes) : decValue ds = decFrom 0 ds := rfl

theorem all_of_takeWhile_length {p : UInt8 → Bool} (l : Bytes) (h : (l.takeWhile p).length = l.length) :
    ∀ x ∈ l, p x = true := by
  induction l with
  | nil => intro x hx; cases hx
  | cons c t ih =>
    cases hc : p c
    · simp [hc] at h
    · simp only [List.takeWhile_cons, hc, if_true, List.length_cons] at h
      intro x hx
      cases hx with
      | head => exact hc
      | tail _ hx' => exact ih (by omega) x hx'

/-- RFC 9110 §8.6: a Content-Length value is a non-empty string of digits; this
    implementation additionally needs it to be representable (`< MHD_SIZE_UNKNOWN`). -/
def ValidDec (v : Bytes) : Prop := v ≠ [] ∧ (∀ c ∈ v, isDigit c = true) ∧ decValue v < sizeUnknown

theorem validDec_iff (v : Bytes) :
    (v.isEmpty || ! v.all isDigit || decide (decValue v ≥ sizeUnknown)) = false ↔ ValidDec v := by
  unfold ValidDec
  constructor
  · intro h
    simp only [Bool.or_eq_false_iff, Bool.not_eq_false', decide_eq_false_iff_not] at h
    obtain ⟨⟨h1, h2⟩, h3⟩ := h
    refine ⟨?_, ?_, by omega⟩
    · intro e; subst e; simp at h1
    · rw [List.all_eq_true] at h2; exact h2
  · intro ⟨hne, hd, hlt⟩
    have a1 : v.isEmpty = false := List.isEmpty_eq_false_iff.2 hne
    have a2 : v.all isDigit = true := by rw [List.all_eq_true]; exact hd
    have a3 : ¬ (decValue v ≥ sizeUnknown) := by omega
    simp [a1, a2, a3]

theorem strToU64_digits (v : Bytes) (hne : v ≠ []) (hd : ∀ c ∈ v, isDigit c = true) :
    strToU64 v = if decValue v ≤ uint64Max then (v.length, decValue v) else (0, 0) := by
  cases v with
  | nil => exact absurd rfl hne
  | cons c t =>
    have hc := hd c List.mem_cons_self
    simp only [strToU64, hc, if_true]
    rw [strToU64Aux_spec _ _ _ (by simp [uint64Max]), List.takeWhile_all hd, decValue_eq]
    simp

theorem decideLen_valid (v : Bytes) (h : ValidDec v) : decideLen v = .len (decValue v) := by
  obtain ⟨hne, hd, hlt⟩ := h
  have hle : decValue v ≤ uint64Max := by simp only [sizeUnknown, uint64Max] at *; omega
  have hlen : v.length ≠ 0 := fun e => hne (List.length_eq_zero_iff.1 e)
  unfold decideLen
  simp only [strToU64_digits v hne hd, hle, if_true]
  have h1 : ¬ ((v.length = 0 ∧ v ≠ [] ∧ firstIsDigit v = true) ∨ decValue v = sizeUnknown) := by
    intro h; cases h with
    | inl h => exact hlen h.1
    | inr h => omega
  have h2 : ¬ (v.length ≠ v.length ∨ v.length = 0) := by
    intro h; cases h with
    | inl h => exact h rfl
    | inr h => exact hlen h
  simp only [h1, h2, if_false]

theorem decideLen_invalid (v : Bytes) (h : ¬ ValidDec v) :
    decideLen v = .reject httpBadRequest ∨ decideLen v = .reject httpContentTooLarge := by
  unfold decideLen
  by_cases c1 : ((strToU64 v).1 = 0 ∧ v ≠ [] ∧ firstIsDigit v = true) ∨ (strToU64 v).2 = sizeUnknown
  · right; simp only [c1, if_true]
  · by_cases c2 : v.length ≠ (strToU64 v).1 ∨ (strToU64 v).1 = 0
    · left; simp only [c1, c2, if_true, if_false]
    · exfalso; apply h
      have hlen : v.length = (strToU64 v).1 := by
        by_cases e : v.length = (strToU64 v).1
        · exact e
        · exact absurd (Or.inl e) c2
      have hnz : (strToU64 v).1 ≠ 0 := fun e => c2 (Or.inr e)
      cases v with
      | nil => simp [strToU64] at hnz
      | cons c t =>
        cases hc : isDigit c
        · simp [strToU64, hc] at hnz
        · simp only [strToU64, hc, if_true] at hlen hnz c1
          rw [strToU64Aux_spec _ _ _ (by simp [uint64Max])] at hlen hnz c1
          by_cases hf : decFrom 0 (List.takeWhile isDigit (c :: t)) ≤ uint64Max
          · simp only [hf, if_true, Nat.zero_add] at hlen hnz c1
            have hall := all_of_takeWhile_length (c :: t) hlen.symm
            have htw := List.takeWhile_all hall
            rw [htw] at hf c1
            refine ⟨by simp, hall, ?_⟩
            have hne : decFrom 0 (c :: t) ≠ sizeUnknown := fun e => c1 (Or.inr e)
            rw [decValue_eq]
            simp only [sizeUnknown, uint64Max] at *
            omega
          · simp [hf] at hnz

/-- the Host rule does not fire -/
def HostOK (lvl : Int) (http11 : Bool) (fs : List Field) : Prop :=
  ¬ (hostAboveLvl < lvl ∧ http11 = true ∧ (lookup fs hdrHost).isNone = true)

theorem decideBody_none (lvl : Int) (http11 : Bool) (fs : List Field) (hh : HostOK lvl http11 fs)
    (hte : fieldValues fs hdrTransferEncoding = []) (hcl : fieldValues fs hdrContentLength = []) :
    decideBody lvl http11 fs = .none := by
  unfold decideBody; rw [if_neg hh]; simp [countName_eq_length, lookup_eq_head, hte, hcl]

theorem decideBody_len (lvl : Int) (http11 : Bool) (fs : List Field) (hh : HostOK lvl http11 fs) (v : Bytes)
    (hte : fieldValues fs hdrTransferEncoding = []) (hcl : fieldValues fs hdrContentLength = [v])
    (hv : ValidDec v) : decideBody lvl http11 fs = .len (decValue v) := by
  unfold decideBody; rw [if_neg hh]; simp [countName_eq_length, lookup_eq_head, hte, hcl, decideLen_valid v hv]

theorem decideBody_chunked (lvl : Int) (http11 : Bool) (fs : List Field) (hh : HostOK lvl http11 fs) (te : Bytes)
    (hte : fieldValues fs hdrTransferEncoding = [te]) (hc : eqCI te tokChunked = true)
    (hcl : fieldValues fs hdrContentLength = []) : decideBody lvl http11 fs = .chunked (! http11) := by
  unfold decideBody; rw [if_neg hh]; simp [countName_eq_length, lookup_eq_head, hte, hcl, hc]

theorem decideBody_host_rule (lvl : Int) (http11 : Bool) (fs : List Field) (hh : ¬ HostOK lvl http11 fs) :
    decideBody lvl http11 fs = .reject httpBadRequest := by
  unfold decideBody; rw [if_pos (Classical.not_not.mp hh)]

theorem decideBody_reject_of_hostOK (lvl : Int) (http11 : Bool) (fs : List Field)
    (h : HostOK lvl http11 fs → decideBody lvl http11 fs = .reject httpBadRequest) :
    decideBody lvl http11 fs = .reject httpBadRequest :=
  (Classical.em (HostOK lvl http11 fs)).elim h (decideBody_host_rule lvl http11 fs)

theorem decideBody_multi_cl (lvl : Int) (http11 : Bool) (fs : List Field)
    (h : 2 ≤ (fieldValues fs hdrContentLength).length) : decideBody lvl http11 fs = .reject httpBadRequest := by
  refine decideBody_reject_of_hostOK lvl http11 fs fun hh => ?_
  unfold decideBody; rw [if_neg hh, if_pos (Or.inr (by rw [countName_eq_length]; exact h))]

theorem decideBody_multi_te (lvl : Int) (http11 : Bool) (fs : List Field)
    (h : 2 ≤ (fieldValues fs hdrTransferEncoding).length) : decideBody lvl http11 fs = .reject httpBadRequest := by
  refine decideBody_reject_of_hostOK lvl http11 fs fun hh => ?_
  unfold decideBody; rw [if_neg hh, if_pos (Or.inl (by rw [countName_eq_length]; exact h))]

theorem decideBody_te_not_chunked (lvl : Int) (http11 : Bool) (fs : List Field) (te : Bytes) (rest : List Bytes)
    (hte : fieldValues fs hdrTransferEncoding = te :: rest) (hc : eqCI te tokChunked = false) :
    decideBody lvl http11 fs = .reject httpBadRequest := by
  refine decideBody_reject_of_hostOK lvl http11 fs fun hh => ?_
  unfold decideBody; rw [if_neg hh]
  by_cases hm : 1 < countName fs hdrTransferEncoding ∨ 1 < countName fs hdrContentLength
  · rw [if_pos hm]
  · rw [if_neg hm, lookup_eq_head, hte]; simp only [List.head?_cons, hc, Bool.not_false, if_true]

theorem decideBody_te_cl (lvl : Int) (http11 : Bool) (fs : List Field)
    (hte : fieldValues fs hdrTransferEncoding ≠ []) (hcl : fieldValues fs hdrContentLength ≠ [])
    (hl : teClRejectFromLvl ≤ lvl) : decideBody lvl http11 fs = .reject httpBadRequest := by
  refine decideBody_reject_of_hostOK lvl http11 fs fun hh => ?_
  unfold decideBody; rw [if_neg hh]
  by_cases hm : 1 < countName fs hdrTransferEncoding ∨ 1 < countName fs hdrContentLength
  · rw [if_pos hm]
  · obtain ⟨te, r, h1⟩ := List.exists_cons_of_ne_nil hte
    obtain ⟨v, r2, h2⟩ := List.exists_cons_of_ne_nil hcl
    rw [if_neg hm, lookup_eq_head, lookup_eq_head, h1, h2]
    cases hc : eqCI te tokChunked <;> simp [hc, hl]

theorem decideBody_te_cl_lenient (lvl : Int) (http11 : Bool) (fs : List Field) (hh : HostOK lvl http11 fs) (te v : Bytes)
    (hte : fieldValues fs hdrTransferEncoding = [te]) (hc : eqCI te tokChunked = true)
    (hcl : fieldValues fs hdrContentLength = [v]) (hl : ¬ teClRejectFromLvl ≤ lvl) :
    decideBody lvl http11 fs = .chunked true := by
  unfold decideBody; rw [if_neg hh]; simp [countName_eq_length, lookup_eq_head, hte, hcl, hc, hl]

theorem decideBody_bad_cl (lvl : Int) (http11 : Bool) (fs : List Field) (v : Bytes)
    (hte : fieldValues fs hdrTransferEncoding = []) (hcl : fieldValues fs hdrContentLength = [v])
    (hv : ¬ ValidDec v) :
    decideBody lvl http11 fs = .reject httpBadRequest ∨ decideBody lvl http11 fs = .reject httpContentTooLarge := by
  by_cases hh : HostOK lvl http11 fs
  · have hm : ¬ (1 < countName fs hdrTransferEncoding ∨ 1 < countName fs hdrContentLength) := by
      rw [countName_eq_length, countName_eq_length, hte, hcl]; exact fun h => h.elim (by simp) (by simp)
    have : decideBody lvl http11 fs = decideLen v := by
      unfold decideBody; rw [if_neg hh, if_neg hm, lookup_eq_head, lookup_eq_head, hte, hcl]; rfl
    rw [this]; exact decideLen_invalid v hv
  · exact Or.inl (decideBody_host_rule lvl http11 fs hh)

/-- Transfer-Encoding: chunked and Content-Length, each exactly once -/
def TeClPair (fs : List Field) : Prop :=
  ∃ te v, fieldValues fs hdrTransferEncoding = [te] ∧ eqCI te tokChunked = true ∧
    fieldValues fs hdrContentLength = [v]

end Mhd.Framing
