/- Lemmas about the specification parser (Mhd.Proofs.ReplyGrammar): a rendered head parses back, chunked
   bodies parse back, the framing rules case by case, and what the tokenizer of a comma-separated value sees.
   Nothing here refers to the model. -/
import Mhd.Proofs.ReplyGrammar
namespace Mhd.Http
def NoCRLF (l : Bytes) : Prop := ∀ b ∈ l, b ≠ 13 ∧ b ≠ 10

theorem takeLine_append (l rest : Bytes) (h : NoCRLF l) :
    takeLine (l ++ 13 :: 10 :: rest) = some (l, rest) := by
  induction l with
  | nil => simp [takeLine]
  | cons b l ih =>
    have hb := h b (by simp)
    have ih' := ih (fun x hx => h x (by simp [hx]))
    simp [takeLine, hb.1, hb.2, ih']

def NameOK (n : Bytes) : Prop := n ≠ [] ∧ ∀ b ∈ n, b ≠ 58 ∧ b ≠ 32 ∧ b ≠ 9 ∧ b ≠ 13 ∧ b ≠ 10

theorem takeWhile_append_stop (p : UInt8 → Bool) (n : Bytes) (x : UInt8) (v : Bytes)
    (hn : ∀ b ∈ n, p b = true) (hx : p x = false) : (n ++ x :: v).takeWhile p = n := by
  rw [List.takeWhile_append_of_pos hn, List.takeWhile_cons_of_neg (by simp [hx]), List.append_nil]

theorem dropWhile_append_stop (p : UInt8 → Bool) (n : Bytes) (x : UInt8) (v : Bytes)
    (hn : ∀ b ∈ n, p b = true) (hx : p x = false) : (n ++ x :: v).dropWhile p = x :: v := by
  rw [List.dropWhile_append_of_pos hn, List.dropWhile_cons_of_neg (by simp [hx])]

theorem parseField_line (name value : Bytes) (h : NameOK name) :
    parseField (name ++ 58 :: 32 :: value) = some ⟨name, value.dropWhile isOWS⟩ := by
  unfold parseField
  have h1 : (name ++ 58 :: 32 :: value).takeWhile (fun b => decide (b ≠ 58)) = name :=
    takeWhile_append_stop _ name 58 _ (fun b hb => by simp [(h.2 b hb).1]) (by simp)
  simp only [h1, List.drop_left']
  have hne : name.isEmpty = false := by
    cases name with
    | nil => exact absurd rfl h.1
    | cons _ _ => rfl
  have hws : name.any isOWS = false := by
    rw [List.any_eq_false]
    intro b hb
    have := h.2 b hb
    simp [isOWS, this.2.1, this.2.2.1]
  simp [hne, hws, List.dropWhile, isOWS]

def ValueOK (v : Bytes) : Prop := NoCRLF v

def fieldLine (f : Field) : Bytes := f.name ++ 58 :: 32 :: (f.value ++ [13, 10])
def renderFields (fs : List Field) : Bytes := (fs.map fieldLine).flatten
def FieldOK (f : Field) : Prop := NameOK f.name ∧ NoCRLF f.value
def normField (f : Field) : Field := ⟨f.name, f.value.dropWhile isOWS⟩

theorem fieldLine_noCRLF (f : Field) (h : FieldOK f) : NoCRLF (f.name ++ 58 :: 32 :: f.value) := by
  intro b hb
  simp only [List.mem_append, List.mem_cons] at hb
  rcases hb with hb | hb | hb | hb
  · exact ⟨(h.1.2 b hb).2.2.2.1, (h.1.2 b hb).2.2.2.2⟩
  · subst hb; decide
  · subst hb; decide
  · exact h.2 b hb

theorem parseFields_render (fs : List Field) (rest : Bytes) (fuel : Nat)
    (h : ∀ f ∈ fs, FieldOK f) (hf : fs.length < fuel) :
    parseFields fuel (renderFields fs ++ 13 :: 10 :: rest) = some (fs.map normField, rest) := by
  induction fs generalizing fuel with
  | nil =>
    cases fuel with
    | zero => simp at hf
    | succ n => simp [renderFields, parseFields, takeLine]
  | cons f fs ih =>
    cases fuel with
    | zero => simp at hf
    | succ n =>
      have hfo := h f (by simp)
      have hl : takeLine (renderFields (f :: fs) ++ 13 :: 10 :: rest)
          = some (f.name ++ 58 :: 32 :: f.value, renderFields fs ++ 13 :: 10 :: rest) := by
        have := takeLine_append (f.name ++ 58 :: 32 :: f.value) (renderFields fs ++ 13 :: 10 :: rest)
          (fieldLine_noCRLF f hfo)
        simpa [renderFields, fieldLine, List.append_assoc] using this
      have hne : (f.name ++ 58 :: 32 :: f.value).isEmpty = false := by
        cases hn : f.name <;> simp
      have ih' := ih n (fun g hg => h g (by simp [hg])) (by simp at hf; omega)
      simp only [parseFields, hl, hne, parseField_line f.name f.value hfo.1, ih']
      simp [normField]

/-- one chunk on the wire: hex size line, data, CRLF -/
def chunkBytes (hex data : Bytes) : Bytes := hex ++ 13 :: 10 :: (data ++ [13, 10])

/-- a chunk whose size line `hex` reads as the (non-zero) data length -/
structure ChunkOK (c : Bytes × Bytes) : Prop where
  hexNoCRLF : NoCRLF c.1
  hexVal : parseHex c.1 = some c.2.length
  nonEmpty : c.2 ≠ []

theorem parseChunks_frames : ∀ (cs : List (Bytes × Bytes)) (rest : Bytes) (fuel : Nat),
    (∀ c ∈ cs, ChunkOK c) → cs.length < fuel →
    parseChunks fuel ((cs.map fun c => chunkBytes c.1 c.2).flatten ++ 48 :: 13 :: 10 :: rest)
      = some ((cs.map (·.2)).flatten, rest)
  | [], rest, fuel + 1, h, hf => by
    have hl : takeLine (48 :: 13 :: 10 :: rest) = some ([48], rest) :=
      takeLine_append [48] rest (by intro b hb; rw [List.mem_singleton.1 hb]; decide)
    show parseChunks (fuel + 1) (48 :: 13 :: 10 :: rest) = some ([], rest)
    rw [parseChunks, hl]; rfl
  | (hex, data) :: cs, rest, fuel + 1, h, hf => by
    have hc := h (hex, data) List.mem_cons_self
    have ih := parseChunks_frames cs rest fuel (fun c hc => h c (List.mem_cons_of_mem _ hc)) (Nat.lt_of_succ_lt_succ hf)
    generalize htail : (cs.map fun c => chunkBytes c.1 c.2).flatten ++ 48 :: 13 :: 10 :: rest = tail at ih
    have hin : (((hex, data) :: cs).map fun c => chunkBytes c.1 c.2).flatten ++ 48 :: 13 :: 10 :: rest
        = hex ++ 13 :: 10 :: (data ++ 13 :: 10 :: tail) := by
      rw [← htail]; simp [chunkBytes, List.append_assoc]
    obtain ⟨k, hk⟩ : ∃ k, data.length = k + 1 :=
      ⟨data.length - 1, (Nat.succ_pred_eq_of_pos (List.length_pos_iff.2 hc.nonEmpty)).symm⟩
    have hv : parseHex hex = some (k + 1) := hk ▸ hc.hexVal
    -- the data and its CRLF are skipped by length
    have h1 : ¬ (data ++ 13 :: 10 :: tail).length < k + 1 + 2 := by
      rw [List.length_append, hk]; simp
    have h2 : ((data ++ 13 :: 10 :: tail).drop (k + 1)).take 2 = [13, 10] := by
      rw [← hk, List.drop_left]; rfl
    have h3 : (data ++ 13 :: 10 :: tail).drop (k + 1 + 2) = tail := by
      rw [← hk, ← List.drop_drop, List.drop_left]; rfl
    have h4 : (data ++ 13 :: 10 :: tail).take (k + 1) = data := by
      rw [← hk, List.take_left]
    rw [hin, parseChunks, takeLine_append hex _ hc.hexNoCRLF]
    dsimp only
    rw [hv]
    show (if (data ++ 13 :: 10 :: tail).length < k + 1 + 2 then none else _) = _
    rw [if_neg h1, if_neg (not_not_intro h2), h3, ih, h4]
    rfl

theorem okVersion_cases (v : Bytes) (h : okVersion v = true) :
    v = [72, 84, 84, 80, 47, 49, 46, 48] ∨ v = [72, 84, 84, 80, 47, 49, 46, 49] ∨ v = [73, 67, 89] := by
  unfold okVersion at h
  simp at h
  rcases h with (h | h) | h
  · exact Or.inl h
  · exact Or.inr (Or.inl h)
  · exact Or.inr (Or.inr h)

theorem parseStatusLine_render (v : Bytes) (d1 d2 d3 : UInt8) (reason : Bytes) (hv : okVersion v = true)
    (h1 : isDigit d1 = true) (h2 : isDigit d2 = true) (h3 : isDigit d3 = true) (h0 : d1 ≠ 48) (hr : reason ≠ []) :
    parseStatusLine (v ++ 32 :: d1 :: d2 :: d3 :: 32 :: reason) = some (v, decValue [d1, d2, d3], reason) := by
  have hre : reason.isEmpty = false := by cases reason <;> simp_all
  have htw : (v ++ 32 :: d1 :: d2 :: d3 :: 32 :: reason).takeWhile (fun b => decide (b ≠ 32)) = v := by
    apply takeWhile_append_stop
    · intro b hb
      rcases okVersion_cases v hv with h | h | h <;> (subst h; revert b; decide)
    · decide
  unfold parseStatusLine
  simp only [htw, List.drop_left']
  simp [hv, h1, h2, h3, h0, hre]

theorem noCRLF_version (v : Bytes) (hv : okVersion v = true) : NoCRLF v := by
  intro b hb
  rcases okVersion_cases v hv with h | h | h <;> (subst h; revert b; decide)

theorem isDigit_noCRLF (d : UInt8) (h : isDigit d = true) : d ≠ 13 ∧ d ≠ 10 := by
  unfold isDigit at h
  simp at h
  constructor <;> (intro hh; subst hh; simp at h)

theorem renderFields_cons (f : Field) (t : List Field) : renderFields (f :: t) = fieldLine f ++ renderFields t := by
  simp [renderFields]

theorem renderFields_length_ge : ∀ (fs : List Field), fs.length ≤ (renderFields fs).length
  | [] => by simp [renderFields]
  | f :: t => by
    rw [renderFields_cons]
    have := renderFields_length_ge t
    simp [fieldLine]; omega

/-- a rendered head parses back: the status line, then every field (with leading whitespace of the
    value dropped), then the framing rules are applied to what follows -/
theorem parseReply_render (req : Req) (v : Bytes) (d1 d2 d3 : UInt8) (reason : Bytes) (fs : List Field) (body : Bytes)
    (hv : okVersion v = true) (h1 : isDigit d1 = true) (h2 : isDigit d2 = true) (h3 : isDigit d3 = true)
    (h0 : d1 ≠ 48) (hr : reason ≠ []) (hrn : NoCRLF reason) (hf : ∀ f ∈ fs, FieldOK f) :
    parseReply req (v ++ 32 :: d1 :: d2 :: d3 :: 32 :: reason ++ 13 :: 10 :: (renderFields fs ++ 13 :: 10 :: body))
      = frameReply req v (decValue [d1, d2, d3]) reason (fs.map normField) body := by
  have hsl : NoCRLF (v ++ 32 :: d1 :: d2 :: d3 :: 32 :: reason) := by
    intro b hb
    simp only [List.mem_append, List.mem_cons] at hb
    rcases hb with hb | hb | hb | hb | hb | hb | hb
    · exact noCRLF_version v hv b hb
    · subst hb; decide
    · subst hb; exact isDigit_noCRLF _ h1
    · subst hb; exact isDigit_noCRLF _ h2
    · subst hb; exact isDigit_noCRLF _ h3
    · subst hb; decide
    · exact hrn b hb
  have hl := takeLine_append (v ++ 32 :: d1 :: d2 :: d3 :: 32 :: reason) (renderFields fs ++ 13 :: 10 :: body) hsl
  have hpf := parseFields_render fs body ((renderFields fs ++ 13 :: 10 :: body).length + 1) hf (by
    have := renderFields_length_ge fs
    simp; omega)
  unfold parseReply
  simp only [List.append_assoc] at hl ⊢
  rw [hl]
  simp only [List.cons_append] at *
  have := parseStatusLine_render v d1 d2 d3 reason hv h1 h2 h3 h0 hr
  simp only [this, hpf]

/-- the head is consistent about the body: at most one of each framing field and never both kinds, well-formed
    values, chunked only towards HTTP/1.1, no framing field where no body may be announced -/
structure HeadOK (req : Req) (code : Nat) (fields : List Field) : Prop where
  cl1 : (clsOf fields).length ≤ 1
  te1 : (tesOf fields).length ≤ 1
  co1 : (connsOf fields).length ≤ 1
  notBoth : clsOf fields = [] ∨ tesOf fields = []
  clv : ∀ f ∈ clsOf fields, (parseDec f.value).isSome = true
  tev : ∀ f ∈ tesOf fields, ciEq f.value vChunked = true
  h11 : tesOf fields ≠ [] → req.http11 = true
  nbh : (code < 200 ∨ code = 204) → clsOf fields = [] ∧ tesOf fields = []

theorem HeadOK.checks {req : Req} {code : Nat} {fields : List Field} (h : HeadOK req code fields) :
    (decide ((clsOf fields).length > 1) || decide ((tesOf fields).length > 1) || decide ((connsOf fields).length > 1)) = false ∧
    ((!(clsOf fields).isEmpty) && !(tesOf fields).isEmpty) = false ∧
    (clsOf fields).all (fun f => (parseDec f.value).isSome) = true ∧
    (tesOf fields).all (fun f => ciEq f.value vChunked) = true ∧
    ((!(tesOf fields).isEmpty) && !req.http11) = false ∧
    ((decide (code < 200) || decide (code = 204)) && (!(clsOf fields).isEmpty || !(tesOf fields).isEmpty)) = false := by
  refine ⟨?_, ?_, List.all_eq_true.2 h.clv, List.all_eq_true.2 h.tev, ?_, ?_⟩
  · have h1 := h.cl1; have h2 := h.te1; have h3 := h.co1
    simp only [gt_iff_lt, Bool.or_eq_false_iff, decide_eq_false_iff_not, Nat.not_lt]
    exact ⟨⟨h1, h2⟩, h3⟩
  · rcases h.notBoth with e | e <;> rw [e] <;> simp
  · cases ht : tesOf fields with
    | nil => rfl
    | cons a t => rw [h.h11 (by rw [ht]; nofun)]; simp
  · by_cases hh : code < 200 ∨ code = 204
    · obtain ⟨e1, e2⟩ := h.nbh hh
      rw [e1, e2]; simp
    · have : (decide (code < 200) || decide (code = 204)) = false := by simpa using hh
      rw [this]; rfl

theorem noBody_decide (req : Req) (code : Nat) :
    (decide (code < 200) || decide (code = 204) || req.head || decide (code = 304)) =
      decide ((code < 200 ∨ code = 204) ∨ req.head = true ∨ code = 304) := by
  simp [Bool.decide_or, Bool.or_assoc]

theorem frameReply_noBody (req : Req) (ver : Bytes) (code : Nat) (reason : Bytes) (fields : List Field)
    (h : HeadOK req code fields) (hnb : (code < 200 ∨ code = 204) ∨ req.head = true ∨ code = 304) :
    frameReply req ver code reason fields [] = some ⟨ver, code, reason, fields, .none, [], []⟩ := by
  obtain ⟨c1, c2, c3, c4, c5, c6⟩ := h.checks
  unfold frameReply
  simp only [c1, c2, c3, c4, c5, c6, Bool.false_eq_true, if_false, Bool.not_true, noBody_decide, decide_eq_true hnb,
    if_true, List.isEmpty_nil]

theorem chunks_length_ge : ∀ (cs : List (Bytes × Bytes)),
    cs.length ≤ ((cs.map fun (c : Bytes × Bytes) => chunkBytes c.1 c.2).flatten).length
  | [] => Nat.le_refl _
  | c :: t => by
    have := chunks_length_ge t
    simp only [List.map_cons, List.flatten_cons, List.length_append, List.length_cons]
    have : 1 ≤ (chunkBytes c.1 c.2).length := by simp [chunkBytes]; omega
    omega

theorem frameReply_chunked (req : Req) (ver : Bytes) (code : Nat) (reason : Bytes) (fields : List Field)
    (cs : List (Bytes × Bytes)) (trailers : List Field)
    (h : HeadOK req code fields) (hte : tesOf fields ≠ [])
    (hnb : ¬ ((code < 200 ∨ code = 204) ∨ req.head = true ∨ code = 304))
    (hcs : ∀ c ∈ cs, ChunkOK c) (htr : ∀ f ∈ trailers, FieldOK f) :
    frameReply req ver code reason fields
        ((cs.map fun (c : Bytes × Bytes) => chunkBytes c.1 c.2).flatten ++ 48 :: 13 :: 10 :: (renderFields trailers ++ [13, 10]))
      = some ⟨ver, code, reason, fields, .chunked, (cs.map (·.2)).flatten, trailers.map normField⟩ := by
  obtain ⟨c1, c2, c3, c4, c5, c6⟩ := h.checks
  have hpc := parseChunks_frames cs (renderFields trailers ++ [13, 10])
    (((cs.map fun (c : Bytes × Bytes) => chunkBytes c.1 c.2).flatten ++ 48 :: 13 :: 10 :: (renderFields trailers ++ [13, 10])).length + 1)
    hcs (by
      have := chunks_length_ge cs
      simp only [List.length_append]; omega)
  have hpt := parseFields_render trailers [] ((renderFields trailers ++ [13, 10]).length + 1) htr (by
    have := renderFields_length_ge trailers
    simp; omega)
  unfold frameReply
  simp only [c1, c2, c3, c4, c5, c6, Bool.false_eq_true, if_false, Bool.not_true]
  simp only [noBody_decide, decide_eq_false hnb, List.isEmpty_eq_false_iff.2 hte, Bool.not_false, Bool.false_eq_true,
    if_false, if_true, hpc, hpt]

theorem frameReply_length (req : Req) (ver : Bytes) (code : Nat) (reason : Bytes) (fields : List Field)
    (f : Field) (n : Nat) (body : Bytes)
    (h : HeadOK req code fields) (hcl : clsOf fields = [f]) (hte : tesOf fields = [])
    (hv : parseDec f.value = some n) (hb : body.length = n)
    (hnb : ¬ ((code < 200 ∨ code = 204) ∨ req.head = true ∨ code = 304)) :
    frameReply req ver code reason fields body = some ⟨ver, code, reason, fields, .length n, body, []⟩ := by
  obtain ⟨c1, c2, c3, c4, c5, c6⟩ := h.checks
  unfold frameReply
  simp only [c1, c2, c3, c4, c5, c6, Bool.false_eq_true, if_false, Bool.not_true]
  simp only [noBody_decide, decide_eq_false hnb, hte, List.isEmpty_nil, hcl, hv, hb, Bool.not_true, Bool.false_eq_true,
    if_false, if_true]

theorem frameReply_close (req : Req) (ver : Bytes) (code : Nat) (reason : Bytes) (fields : List Field) (body : Bytes)
    (h : HeadOK req code fields) (hcl : clsOf fields = []) (hte : tesOf fields = [])
    (hac : announcesClose fields = true)
    (hnb : ¬ ((code < 200 ∨ code = 204) ∨ req.head = true ∨ code = 304)) :
    frameReply req ver code reason fields body = some ⟨ver, code, reason, fields, .close, body, []⟩ := by
  obtain ⟨c1, c2, c3, c4, c5, c6⟩ := h.checks
  unfold frameReply
  simp only [c1, c2, c3, c4, c5, c6, Bool.false_eq_true, if_false, Bool.not_true]
  simp only [noBody_decide, decide_eq_false hnb, hte, List.isEmpty_nil, hcl, hac, Bool.not_true, Bool.false_eq_true,
    if_false, if_true]

theorem splitComma_ne_nil : ∀ (s : Bytes), splitComma s ≠ []
  | [] => by simp [splitComma]
  | b :: rest => by
    have := splitComma_ne_nil rest
    cases h : splitComma rest with
    | nil => exact absurd h this
    | cons t ts =>
      by_cases hb : b = 44 <;> simp [splitComma, h, hb]

theorem splitComma_prefix : ∀ (pre t : Bytes), (∀ b ∈ pre, b ≠ 44) →
    splitComma (pre ++ 44 :: t) = pre :: splitComma t
  | [], t, _ => by
    simp only [List.nil_append, splitComma]
    cases h : splitComma t with
    | nil => exact absurd h (splitComma_ne_nil t)
    | cons x xs => simp
  | b :: pre, t, hp => by
    have ih := splitComma_prefix pre t (fun x hx => hp x (by simp [hx]))
    have hb := hp b (by simp)
    simp only [List.cons_append, splitComma, ih, hb, if_false]

theorem splitComma_elem (e : Bytes) (he : ∀ b ∈ e, b ≠ 44) : splitComma e = [e] := by
  induction e with
  | nil => rfl
  | cons b t ih =>
    have := ih (fun x hx => he x (by simp [hx]))
    simp [splitComma, this, he b (by simp)]

theorem splitComma_ws_cons (x : UInt8) (s : Bytes) (hx : isOWS x = true) :
    (splitComma (x :: s)).map trimOWS = (splitComma s).map trimOWS := by
  have hx44 : x ≠ 44 := by intro h; subst h; simp [isOWS] at hx
  simp only [splitComma]
  cases hs : splitComma s with
  | nil => exact absurd hs (splitComma_ne_nil s)
  | cons t ts =>
    simp only [hx44, if_false, List.map_cons, List.cons.injEq, and_true]
    simp [trimOWS, List.dropWhile, hx]

theorem hasToken_ws_cons (x : UInt8) (s lit : Bytes) (hx : isOWS x = true) : hasToken (x :: s) lit = hasToken s lit := by
  unfold hasToken
  have e : ∀ l : List Bytes, l.any (fun t => ciEq (trimOWS t) lit) = (l.map trimOWS).any (fun t => ciEq t lit) := by
    intro l; rw [List.any_map]; rfl
  rw [e, e, splitComma_ws_cons x s hx]

theorem hasToken_dropOWS (s lit : Bytes) : hasToken (s.dropWhile isOWS) lit = hasToken s lit := by
  induction s with
  | nil => rfl
  | cons x t ih =>
    simp only [List.dropWhile]
    by_cases hx : isOWS x = true
    · simp only [hx]; rw [ih, hasToken_ws_cons x t lit hx]
    · simp [hx]

theorem hasToken_prefix_elem (pre t lit : Bytes) (hp : ∀ b ∈ pre, b ≠ 44) :
    hasToken (pre ++ 44 :: t) lit = (ciEq (trimOWS pre) lit || hasToken t lit) := by
  unfold hasToken
  rw [splitComma_prefix pre t hp]
  simp

theorem hasToken_close_prefix (t : Bytes) : hasToken (vClose ++ 44 :: t) vClose = true := by
  rw [hasToken_prefix_elem _ _ _ (by decide), show ciEq (trimOWS vClose) vClose = true by decide, Bool.true_or]
end Mhd.Http
