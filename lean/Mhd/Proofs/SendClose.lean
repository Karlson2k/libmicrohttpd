/-
  C07 — the close path's bookkeeping: whatever the socket, the content reader and the
  allocator answer, the connection gives back what it holds for a reply exactly once
  (completion notification, response reference, memory pool, clean-up list).  At the end: several
  replies on one connection (`session`).
-/
import Mhd.Proofs.SendFaults
namespace Mhd.Send
open Mhd.Gen.Send

/-- What a step of the reply path may do with the bookkeeping `b` it found: leave it alone
    (and stay in a non-final state), or end the reply through exactly one of
    CONNECTION_CLOSE_ERROR, MHD_connection_close_ (COMPLETED_OK), connection_reset. -/
def BookT (r : Resp) (b : Bk) (c' : Conn) : Prop :=
  (¬ Final c'.st ∧ c'.bk = b) ∨
  (c'.st = .closed ∧ ∃ t, (t = Term.withError ∨ t = readerTerm r) ∧ c'.bk = b.close t) ∨
  (c'.st = .done ∧ c'.bk = b.close .completedOk) ∨
  (c'.st = .done ∧ c'.bk = b.reset r.reuse r.stopErr)

theorem BookT.trans {r : Resp} {b : Bk} {x c' : Conn} (h1 : BookT r b x)
    (h2 : ¬ Final x.st → BookT r x.bk c') (h3 : Final x.st → c' = x) : BookT r b c' := by
  rcases h1 with ⟨hn, hb⟩ | hf
  · have := h2 hn; rw [hb] at this; exact this
  · have hfin : Final x.st := by
      rcases hf with ⟨h, _⟩ | ⟨h, _⟩ | ⟨h, _⟩ <;> simp [Final, h]
    rw [h3 hfin]; exact Or.inr hf

theorem closed_withError {r : Resp} {b : Bk} {c' : Conn} (hs : c'.st = .closed) (hb : c'.bk = b.close .withError) :
    BookT r b c' :=
  Or.inr (Or.inl ⟨hs, .withError, Or.inl rfl, hb⟩)

theorem checkWriteDone_book {r : Resp} {c : Conn} {b : Bk} {next : St} (hc : ¬ Final c.st) (hb : c.bk = b)
    (hn : ¬ Final next) : BookT r b (checkWriteDone c next) := by
  subst hb
  unfold checkWriteDone
  split
  · exact Or.inl ⟨hc, rfl⟩
  · exact Or.inl ⟨hn, rfl⟩

theorem account_book {r : Resp} {c : Conn} {o : SendOut} {k : Nat → Conn} (hc : ¬ Final c.st)
    (hk : ∀ n, BookT r c.bk (k n)) : BookT r c.bk (account c o k) :=
  account_cases (fun _ => Or.inl ⟨hc, rfl⟩) (fun _ _ _ => closed_withError rfl rfl) (fun n _ => hk n)

theorem wbSend_book {r : Resp} (c : Conn) (s : SockRes) (next : St) (hc : ¬ Final c.st) (hn : ¬ Final next) :
    BookT r c.bk (match wbPending c with
      | none => setFault c
      | some b => wbAccount c (sendData false b s) next) := by
  cases wbPending c with
  | none => exact closed_withError rfl rfl
  | some b =>
    simp only [wbAccount_eq]
    exact account_book hc (fun n => checkWriteDone_book hc rfl hn)

theorem hwHeaders_book {r : Resp} (c : Conn) (s1 s2 : SockRes) (hc : ¬ Final c.st) :
    BookT r c.bk (hwHeaders r c s1 s2) := by
  cases hp : wbPending c with
  | none => rw [hwHeaders_none hp]; exact closed_withError rfl rfl
  | some part =>
    rw [hwHeaders_eq hp]
    refine account_book hc (fun ret => ?_)
    split
    · exact checkWriteDone_book hc rfl nofun
    · exact checkWriteDone_book hc rfl nofun

theorem Ready.book {r : Resp} {c c' : Conn} {app : AppAns} {alloc ok : Bool} (hr : Ready r c app alloc (c', ok))
    (hc : ¬ Final c.st) : BookT r c.bk c' := by
  cases hr with
  | keep | iov | data => exact Or.inl ⟨hc, rfl⟩
  | nomem => exact closed_withError rfl rfl
  | readerErr => exact Or.inr (Or.inl ⟨rfl, readerTerm r, Or.inr rfl, rfl⟩)
  | eos => exact Or.inr (Or.inr (Or.inl ⟨rfl, rfl⟩))
  | wait => exact Or.inl ⟨nofun, rfl⟩

theorem finish_book {r : Resp} {c : Conn} (hc : ¬ Final c.st) : BookT r c.bk (finish c) := by
  unfold finish
  split
  · exact Or.inl ⟨nofun, rfl⟩
  · exact Or.inl ⟨hc, rfl⟩

theorem bodyAccount_book {r : Resp} {c : Conn} {b : Bk} {o : SendOut} (hc : ¬ Final c.st) (hb : c.bk = b) :
    BookT r b (bodyAccount c o) := by
  subst hb
  exact account_book hc (fun n => finish_book (c := { c with out := _, rp := _ }) hc)

theorem bodySend_book {r : Resp} (c : Conn) (s : SockRes) (hc : ¬ Final c.st) : BookT r c.bk (bodySend r c s) := by
  unfold bodySend
  simp only []
  by_cases hsf : c.sf = true
  · rw [if_pos hsf]; exact bodyAccount_book hc rfl
  rw [if_neg hsf]
  by_cases hk : r.kind = .iovec
  · rw [if_pos hk]
    cases (sendIovec false c.isent c.irest s).fault
    · rw [if_neg Bool.false_ne_true]; exact bodyAccount_book hc rfl
    · exact closed_withError rfl rfl
  rw [if_neg hk]
  by_cases hf : c.rp < c.ds ∨ c.dz < c.rp - c.ds ∨ r.body.length < c.ds + c.dz
  · rw [if_pos hf]; exact closed_withError rfl rfl
  · rw [if_neg hf]; exact bodyAccount_book hc rfl

theorem hwNormalBody_book {r : Resp} (c : Conn) (s : SockRes) (app : AppAns) (alloc : Bool) (hc : ¬ Final c.st) :
    BookT r c.bk (hwNormalBody r c s app alloc) := by
  rw [hwNormalBody_eq]
  split
  · have hr := tryReady_ready r c app alloc
    generalize tryReadyNormalBody r c app alloc = p at hr ⊢
    obtain ⟨c', ok⟩ := p
    have hb := hr.book hc
    cases ok with
    | false => exact hb
    | true =>
      have hc' : ¬ Final c'.st := by rw [(hr.same.2.2.2 rfl).1]; exact hc
      rw [← (hr.same.2.2.2 rfl).2.2]
      exact bodySend_book c' s hc'
  · exact finish_book hc

theorem handleWrite_book {r : Resp} (c : Conn) (s1 s2 : SockRes) (app : AppAns) (alloc : Bool) (hc : ¬ Final c.st) :
    BookT r c.bk (handleWrite r c s1 s2 app alloc) := by
  unfold handleWrite
  split
  · exact hwHeaders_book c s1 s2 hc
  · exact hwNormalBody_book c s1 app alloc hc
  · exact wbSend_book c s1 _ hc (by split <;> exact nofun)
  · exact wbSend_book c s1 _ hc nofun
  · exact Or.inl ⟨hc, rfl⟩

theorem Chunked.book {r : Resp} {c c' : Conn} {app : AppAns} {res : Option Bool} (hr : Chunked r c app (c', res)) :
    BookT r c.bk (afterChunkTry c' res) := by
  cases hr with
  | small | noReader | readerErr => exact closed_withError rfl rfl
  | eos => exact Or.inl ⟨nofun, rfl⟩
  | frame n => exact Or.inl ⟨nofun, (framed_same r c n).2.2⟩
  | wait => exact Or.inl ⟨nofun, rfl⟩

theorem idleStep_book {r : Resp} (c : Conn) (app : AppAns) (alloc : Bool) (hc : ¬ Final c.st) :
    BookT r c.bk (idleStep r c app alloc) := by
  by_cases hi : ¬ idleActive c.st
  · rw [idleStep_idle hi]; exact Or.inl ⟨hc, rfl⟩
  rcases Classical.not_not.mp hi with hs | hs | hs | hs | hs
  · rw [idleStep_headersSent hs]
    exact Or.inl ⟨by cases r.sendBody <;> cases r.chunked <;> exact nofun, rfl⟩
  · rw [idleStep_nbUnready hs]
    split
    · exact Or.inl ⟨by show ¬ Final (if _ then _ else _); split <;> exact nofun, rfl⟩
    · have hr := tryReady_ready r c app alloc
      generalize tryReadyNormalBody r c app alloc = p at hr ⊢
      obtain ⟨c', ok⟩ := p
      cases ok with
      | false => exact hr.book hc
      | true => exact Or.inl ⟨nofun, (hr.same.2.2.2 rfl).2.2⟩
  · rw [idleStep_cbUnready hs]
    split
    · exact Or.inl ⟨nofun, rfl⟩
    · exact (tryChunk_chunked r c app).book
  · rw [idleStep_cbSent hs]
    split
    · exact Or.inl ⟨nofun, rfl⟩
    · exact closed_withError rfl rfl
  · rw [idleStep_fullReplySent hs]
    exact Or.inr (Or.inr (Or.inr ⟨rfl, rfl⟩))

/-- the bookkeeping at the end of a round (after `MHD_connection_handle_idle`) -/
def BookR (r : Resp) (b : Bk) (c' : Conn) : Prop :=
  (¬ Final c'.st ∧ c'.bk = b) ∨
  (c'.st = .closed ∧ ∃ t, (t = Term.withError ∨ t = readerTerm r) ∧ c'.bk = (b.close t).fin) ∨
  (c'.st = .done ∧ c'.bk = (b.close .completedOk).fin) ∨
  (c'.st = .done ∧ c'.bk = (b.reset r.reuse r.stopErr).fin)

theorem Bk.init_fin (a : Bool) : (Bk.init a).fin = Bk.init a := rfl

theorem BookT.closed {r : Resp} {b : Bk} {c' : Conn} (h : BookT r b c') (hb : b.cstClosed = false) :
    BookR r b (idleClosed c') := by
  unfold BookR
  rw [idleClosed_st, idleClosed_bk]
  rcases h with ⟨h1, h2⟩ | ⟨h1, h2⟩ | ⟨h1, h2⟩ | ⟨h1, h2⟩
  · left; refine ⟨h1, ?_⟩; rw [h2]; unfold Bk.fin; rw [hb]; rfl
  · obtain ⟨t, ht, h2⟩ := h2
    right; left; exact ⟨h1, t, ht, by rw [h2]⟩
  · right; right; left; exact ⟨h1, by rw [h2]⟩
  · right; right; right; exact ⟨h1, by rw [h2]⟩

/-- a round is `MHD_connection_handle_write` (if the socket is ready), four transitions of the idle
    loop and its CLOSED case; once one of them has ended the reply the later ones do nothing -/
theorem round_book {r : Resp} (c : Conn) (x : Round) (hc : ¬ Final c.st) (hb : c.bk.cstClosed = false) :
    BookR r c.bk (round r c x) := by
  have step : ∀ y : Conn, BookT r c.bk y → BookT r c.bk (idleStep r y x.appI x.allocI) := fun y hy =>
    hy.trans (fun hn => idleStep_book y _ _ hn) (fun hf => idleStep_final _ _ hf)
  have hw : BookT r c.bk (if x.wr then handleWrite r c x.s1 x.s2 x.appW x.allocW else c) := by
    split
    · exact handleWrite_book c x.s1 x.s2 x.appW x.allocW hc
    · exact Or.inl ⟨hc, rfl⟩
  exact (step _ (step _ (step _ (step _ hw)))).closed hb

/-- The bookkeeping of a connection as a function of how its reply ended (`B.fin` = after the
    CLOSED case of the idle loop has run, which every round ends with). -/
structure Book (r : Resp) (c : Conn) : Prop where
  live : ¬ Final c.st → c.bk = Bk.init r.aware
  closed : c.st = .closed → ∃ t, (t = Term.withError ∨ t = readerTerm r) ∧
    (c.bk = (Bk.init r.aware).close t ∨ c.bk = ((Bk.init r.aware).close t).fin)
  done : c.st = .done →
    c.bk = ((Bk.init r.aware).close .completedOk).fin ∨ c.bk = ((Bk.init r.aware).reset r.reuse r.stopErr).fin

theorem start_book (r : Resp) (a : Bool) : Book r (startReply r a) := by
  cases a
  · exact ⟨fun h => absurd (Or.inl rfl) h, fun _ => ⟨_, Or.inl rfl, Or.inl rfl⟩, fun h => (by cases h)⟩
  · exact ⟨fun _ => rfl, fun h => (by cases h), fun h => (by cases h)⟩

theorem round_book_inv {r : Resp} {c : Conn} (h : Book r c) (x : Round) : Book r (round r c x) := by
  by_cases hf : Final c.st
  · rw [round_final x hf]
    refine ⟨fun hn => ?_, fun hc => ?_, fun hd => ?_⟩
    · rw [idleClosed_st] at hn; exact absurd hf hn
    · rw [idleClosed_st] at hc; rw [idleClosed_bk]
      obtain ⟨t, ht, e⟩ := h.closed hc
      refine ⟨t, ht, ?_⟩
      rcases e with e | e <;> rw [e]
      · exact Or.inr rfl
      · exact Or.inr (Bk.fin_idem _)
    · rw [idleClosed_st] at hd; rw [idleClosed_bk]
      rcases h.done hd with e | e <;> rw [e]
      · exact Or.inl (Bk.fin_idem _)
      · exact Or.inr (Bk.fin_idem _)
  · have hb := h.live hf
    have := round_book (r := r) c x hf (by rw [hb]; rfl)
    rw [hb] at this
    rcases this with ⟨h1, h2⟩ | ⟨h1, h2⟩ | ⟨h1, h2⟩ | ⟨h1, h2⟩
    · exact ⟨fun _ => h2, fun hc => absurd (Or.inl hc) h1, fun hd => absurd (Or.inr hd) h1⟩
    · obtain ⟨t, ht, h2⟩ := h2
      exact ⟨fun hn => absurd (Or.inl h1) hn, fun _ => ⟨t, ht, Or.inr h2⟩, fun hd => (by rw [h1] at hd; cases hd)⟩
    · exact ⟨fun hn => absurd (Or.inr h1) hn, fun hc => (by rw [h1] at hc; cases hc), fun _ => Or.inl h2⟩
    · exact ⟨fun hn => absurd (Or.inr h1) hn, fun hc => (by rw [h1] at hc; cases hc), fun _ => Or.inr h2⟩

theorem round_bk_fin (r : Resp) (c : Conn) (x : Round) : (round r c x).bk.fin = (round r c x).bk := by
  unfold round handleIdle
  rw [idleClosed_bk, Bk.fin_idem]

theorem round_closed_bk {r : Resp} {c : Conn} (h : Book r c) (x : Round) (hcl : (round r c x).st = .closed) :
    ∃ t, (t = Term.withError ∨ t = readerTerm r) ∧ (round r c x).bk = ((Bk.init r.aware).close t).fin := by
  obtain ⟨t, ht, e⟩ := (round_book_inv h x).closed hcl
  refine ⟨t, ht, e.elim (fun e => ?_) id⟩
  rw [← round_bk_fin, e]

theorem run_book_inv {r : Resp} : ∀ (xs : List Round) (c : Conn), Book r c → Book r (run r c xs) :=
  fun xs _ h => List.foldlRecOn xs _ h fun _ hc x _ => round_book_inv hc x

/-- the code a close reports: WITH_ERROR, or COMPLETED_OK for a reader that ended the body by END_OF_STREAM -/
theorem term_cases {r : Resp} {t : Term} (ht : t = Term.withError ∨ t = readerTerm r) :
    t = Term.withError ∨ (r.failEos = true ∧ t = Term.completedOk) := by
  rcases ht with ht | ht
  · exact Or.inl ht
  · unfold readerTerm at ht
    cases hf : r.failEos
    · left; rw [ht, hf]; rfl
    · right; exact ⟨rfl, by rw [ht, hf]; rfl⟩

theorem Book.closed_counts {r : Resp} {c : Conn} (h : Book r c) (hc : c.st = .closed) :
    ∃ t, (t = Term.withError ∨ (r.failEos = true ∧ t = Term.completedOk)) ∧
    c.bk.notes = (if r.aware then [t] else []) ∧ c.bk.aware = false ∧
    c.bk.respHeld = false ∧ c.bk.respDrops = 1 ∧ c.bk.poolLive = false ∧ c.bk.poolDestroys = 1 ∧
    c.bk.poolResets = 0 ∧ c.bk.cstClosed = true ∧ c.bk.cleanups = (if c.bk.inCleanup then 1 else 0) := by
  obtain ⟨t, ht, e⟩ := h.closed hc
  refine ⟨t, term_cases ht, ?_⟩
  rcases e with e | e <;> rw [e] <;> cases r.aware <;> cases t <;> decide

theorem Book.done_counts {r : Resp} {c : Conn} (h : Book r c) (hd : c.st = .done) :
    c.bk.notes.length = (if r.aware then 1 else 0) ∧
    (∀ t ∈ c.bk.notes, t = Term.completedOk ∨ (t = Term.withError ∧ r.stopErr = true ∧ r.reuse = false)) ∧
    c.bk.aware = false ∧ c.bk.respHeld = false ∧ c.bk.respDrops = 1 ∧
    c.bk.poolDestroys + c.bk.poolResets = 1 ∧ c.bk.poolLive = decide (c.bk.poolResets = 1) ∧
    c.bk.cstClosed = decide (c.bk.poolDestroys = 1) ∧
    c.bk.cleanups = (if c.bk.inCleanup then 1 else 0) ∧ (c.bk.inCleanup = true → c.bk.cstClosed = true) := by
  rcases h.done hd with e | e <;> rw [e] <;> cases r.aware <;> cases r.reuse <;> cases r.stopErr <;> decide

theorem Book.live_counts {r : Resp} {c : Conn} (h : Book r c) (hn : ¬ Final c.st) :
    c.bk.notes = [] ∧ c.bk.aware = r.aware ∧ c.bk.respHeld = true ∧ c.bk.respDrops = 0 ∧ c.bk.poolLive = true ∧
    c.bk.poolDestroys = 0 ∧ c.bk.poolResets = 0 ∧ c.bk.cstClosed = false ∧ c.bk.cleanups = 0 ∧ c.bk.inCleanup = false := by
  rw [h.live hn]; exact ⟨rfl, rfl, rfl, rfl, rfl, rfl, rfl, rfl, rfl, rfl⟩

theorem settled_of_fin {c : Conn} (h : c.bk.fin = c.bk) : idleClosed c = c := by
  rw [idleClosed_eq, h]

/-- A connection serves the requests one after the other: reply `k+1` is started (by
    `connection_reset` with `reuse`) only when reply `k` is complete and the connection is kept;
    every reply has its own fault script.  Result: all bytes the socket took, in order. -/
def session : List (Resp × Bool × List Round) → Bytes
  | [] => []
  | (r, a, xs) :: rest =>
    let c := run r (startReply r a) xs
    c.out ++ (if c.st = .done ∧ r.reuse = true then session rest else [])

end Mhd.Send
