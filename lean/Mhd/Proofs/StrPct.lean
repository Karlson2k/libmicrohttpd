/-
  C17 proofs: percent-decoding.  The loop invariants and steps, from which each model
  function equals its reference specification, never faults, and keeps the buffer size.
-/
import Mhd.Proofs.StrBase

namespace Mhd.Str

/-- both copying decoders write one byte per round, into a buffer that is checked (second loop)
    or at least as long as the input (first loop) -/
theorem room_of_not_full {s out o : Bytes} {r w : Nat} (hlen : o.length = out.length) (hlt : r < s.length)
    (hwr : w ≤ r) (h : ¬ (decide (out.length < s.length) = true ∧ w ≥ o.length)) : w < o.length := by
  simp only [decide_eq_true_eq, not_and, Nat.not_le] at h
  omega

abbrev PctInv := ShrInv pctStrict

theorem pctStrict_step (s out : Bytes) (st : RW) (hi : PctInv s out st.r st.w st.out) :
    StepOk (pctStrictStep s (decide (out.length < s.length)) st) (fun s' => PctInv s out s'.r s'.w s'.out ∧ st.r < s'.r)
      (fun x => Wrote (.ok x) out ((pctStrict s).filter (fitsIn out.length))) := by
  obtain ⟨r, w, o⟩ := st
  dsimp only at hi
  have hlen := hi.1.2.1
  unfold pctStrictStep
  dsimp only
  by_cases hlt : r < s.length
  · have hd := List.drop_eq_getElem_cons hlt
    rw [if_pos hlt, rd_lt hlt, bind_ok']
    by_cases hchk : (decide (out.length < s.length) = true ∧ w ≥ o.length)
    · -- the buffer is full, and whatever follows decodes to at least one byte
      rw [if_pos hchk]
      refine .inr ⟨_, rfl, hi.1.wrote_nofit (fun d hd' => ?_) hlen⟩
      have := pctStrict_cons_pos _ _ _ (hd ▸ hd')
      omega
    · have hw := room_of_not_full hlen hlt hi.2 hchk
      rw [if_neg hchk]
      by_cases hpc : s[r] = 0x25
      · rw [if_pos hpc]
        rw [hpc] at hd
        by_cases h3 : 3 > s.length - r
        · rw [if_pos h3]
          exact .inr ⟨_, rfl, (hi.1.wrote_none (hd ▸ pctStrict_pct_short _ (by rw [List.length_drop]; omega)) hlen).filter_fits⟩
        · have h1 : r + 1 < s.length := by omega
          have h2 : r + 2 < s.length := by omega
          rw [List.drop_eq_getElem_cons h1, List.drop_eq_getElem_cons h2] at hd
          rw [if_neg h3, rd_lt h1, bind_ok', rd_lt h2, bind_ok']
          rcases twoDigits s[r + 1] s[r + 2] with ⟨hneg, hx⟩ | ⟨hneg, h, l, hxh, hxl, hb⟩
          · rw [if_pos hneg]
            exact .inr ⟨_, rfl, (hi.1.wrote_none (hd ▸ pctStrict_pct_bad _ _ _ hx) hlen).filter_fits⟩
          · rw [if_neg hneg, wr_ok _ hw, bind_ok', hb]
            exact .inl ⟨_, rfl, hi.round (pre := [_, _, _]) (Nat.le_add_left 1 2) hd hw (pctStrict_pct_ok _ hxh hxl),
              Nat.lt_add_of_pos_right (by decide)⟩
      · rw [if_neg hpc, wr_ok _ hw, bind_ok']
        exact .inl ⟨_, rfl, hi.round (pre := [_]) (Nat.le_refl 1) hd hw (pctStrict_cons_ne _ _ hpc), Nat.lt_succ_self r⟩
  · rw [if_neg hlt]
    exact .inr ⟨_, rfl, (hi.1.wrote_done (Nat.le_of_not_lt hlt) pctStrict_nil).filter_fits⟩

/-- invariant of both lenient decoders: the output so far, at most one byte per input byte, and
    `broken` is what has been seen of the reference flag -/
def PctLInv (s out : Bytes) (r w : Nat) (o : Bytes) (br : Bool) : Prop :=
  DecInv (fun s => some (pctLenient s).1) s out r w o ∧ w ≤ r ∧
  (pctLenient s).2 = (br || (pctLenient (s.drop r)).2)

theorem PctLInv.round {s out : Bytes} {r w : Nat} {o : Bytes} {br : Bool} (hi : PctLInv s out r w o br)
    {pre rest : Bytes} {b : UInt8} {fl br' : Bool} (hk : 1 ≤ pre.length) (hd : s.drop r = pre ++ rest) (hw : w < o.length)
    (hs : pctLenient (pre ++ rest) = (b :: (pctLenient rest).1, fl))
    (hb : (br || fl) = (br' || (pctLenient rest).2)) :
    PctLInv s out (r + pre.length) (w + 1) (o.set w b) br' :=
  ⟨hi.1.emit1 hd (by rw [hs]; rfl) hw, Nat.add_le_add hi.2.1 hk,
    by rw [hi.2.2, hd, hs, drop_at s r pre rest hd]; exact hb⟩

theorem PctLInv.keep {s out : Bytes} {r w : Nat} {o : Bytes} {br : Bool} (hi : PctLInv s out r w o br)
    {rest : Bytes} (hd : s.drop r = 0x25 :: rest) (hw : w < o.length)
    (hs : pctLenient (0x25 :: rest) = (0x25 :: (pctLenient rest).1, true)) :
    PctLInv s out (r + 1) (w + 1) (o.set w 0x25) true :=
  hi.round (pre := [_]) (Nat.le_refl 1) hd hw hs (by rw [Bool.or_true, Bool.true_or])

theorem PctLInv.done {s out : Bytes} {r w : Nat} {o : Bytes} {br : Bool} (hi : PctLInv s out r w o br)
    (h : s.length ≤ r) : (pctLenient s).1 = o.take w ∧ (pctLenient s).2 = br := by
  obtain ⟨hi, _, hf⟩ := hi
  have hout := Option.some.inj hi.2.2.2
  rw [List.drop_eq_nil_of_le h, pctLenient_nil] at hout hf
  exact ⟨hout.trans (List.append_nil _), hf.trans (Bool.or_false _)⟩

/-- normal return of the lenient decoder: all of the reference output and the
    reference flag if it fits, 0 otherwise (flag unspecified) -/
def PctLPost (s out : Bytes) (r : Nat × Bytes × Bool) : Prop :=
  r.2.1.length = out.length ∧
  if (pctLenient s).1.length ≤ out.length then
    r.1 = (pctLenient s).1.length ∧ r.2.1.take r.1 = (pctLenient s).1 ∧ r.2.2 = (pctLenient s).2
  else r.1 = 0

theorem pctLenient_step (s out : Bytes) (st : RWB) (hi : PctLInv s out st.r st.w st.out st.broken) :
    StepOk (pctLenientStep s (decide (out.length < s.length)) st)
      (fun s' => PctLInv s out s'.r s'.w s'.out s'.broken ∧ st.r < s'.r) (PctLPost s out) := by
  obtain ⟨r, w, o, br⟩ := st
  dsimp only at hi
  have hlen := hi.1.2.1
  have htake : (o.take w).length = w := List.length_take_of_le (hlen ▸ hi.1.2.2.1)
  unfold pctLenientStep
  dsimp only
  by_cases hlt : r < s.length
  · have hd := List.drop_eq_getElem_cons hlt
    rw [if_pos hlt, rd_lt hlt, bind_ok']
    by_cases hchk : (decide (out.length < s.length) = true ∧ w ≥ o.length)
    · -- the buffer is full, and whatever follows decodes to at least one byte
      rw [if_pos hchk]
      refine .inr ⟨_, rfl, hlen, ?_⟩
      have hpos : 0 < (pctLenient (s.drop r)).1.length := by
        rw [hd]; exact pctLenient_cons_pos _ _
      rw [if_neg]
      rw [Option.some.inj hi.1.2.2.2, List.length_append, htake]; omega
    · have hw := room_of_not_full hlen hlt hi.2.1 hchk
      rw [if_neg hchk]
      by_cases hpc : s[r] = 0x25
      · rw [if_pos hpc]
        rw [hpc] at hd
        by_cases h3 : 3 > s.length - r
        · rw [if_pos h3, wr_ok _ hw, bind_ok', hpc]
          exact .inl ⟨_, rfl, hi.keep hd hw (pctLenient_pct_short _ (by rw [List.length_drop]; omega)), Nat.lt_succ_self r⟩
        · have h1 : r + 1 < s.length := by omega
          have h2 : r + 2 < s.length := by omega
          have hd1 : s.drop (r + 1) = s[r + 1] :: s[r + 2] :: s.drop (r + 3) := by
            rw [List.drop_eq_getElem_cons h1, List.drop_eq_getElem_cons h2]
          rw [if_neg h3, rd_lt h1, bind_ok', rd_lt h2, bind_ok']
          rcases twoDigits s[r + 1] s[r + 2] with ⟨hneg, hx⟩ | ⟨hneg, h, l, hxh, hxl, hb⟩
          · rw [if_pos hneg, wr_ok _ hw, bind_ok', hpc]
            exact .inl ⟨_, rfl, hi.keep hd hw (hd1 ▸ pctLenient_pct_bad _ _ _ hx), Nat.lt_succ_self r⟩
          · rw [if_neg hneg, wr_ok _ hw, bind_ok', hb]
            rw [hd1] at hd
            exact .inl ⟨_, rfl, hi.round (pre := [_, _, _]) (Nat.le_add_left 1 2) hd hw (pctLenient_pct_ok _ _ _ _ _ hxh hxl) rfl,
              Nat.lt_add_of_pos_right (by decide)⟩
      · rw [if_neg hpc, wr_ok _ hw, bind_ok']
        exact .inl ⟨_, rfl, hi.round (pre := [_]) (Nat.le_refl 1) hd hw (pctLenient_cons_ne _ _ hpc) rfl, Nat.lt_succ_self r⟩
  · rw [if_neg hlt]
    obtain ⟨hout, hf⟩ := hi.done (Nat.le_of_not_lt hlt)
    refine .inr ⟨_, rfl, hlen, ?_⟩
    rw [hout, htake, if_pos hi.1.2.2.1]
    exact ⟨rfl, rfl, hf.symm⟩

/-- in-place variants on a z-terminated buffer `c ++ 0 :: tail`:
  the decoder writes behind its read position, so from `r` on the buffer is still the original
  one; reading there gives the characters of `c` and then the terminator. -/
def IPInv (c tail : Bytes) (r w : Nat) (buf : Bytes) : Prop :=
  PctInv c (c ++ 0 :: tail) r w buf ∧ buf.drop r = (c ++ 0 :: tail).drop r

def IPPost (c tail : Bytes) (r : Nat × Bytes) : Prop :=
  r.2.length = c.length + 1 + tail.length ∧
  match pctStrict c with
  | some d => r.1 = d.length ∧ r.2.take r.1 = d ∧ r.2[r.1]? = some 0
  | none => r.1 = 0 ∧ r.2[0]? = some 0

theorem ipFail_post (c tail buf : Bytes) (hlen : buf.length = c.length + 1 + tail.length) (hn : pctStrict c = none) :
    ∃ r, ipFail buf = (.ok (.inr r) : M (IP ⊕ (Nat × Bytes))) ∧ IPPost c tail r := by
  have h0 : 0 < buf.length := by omega
  refine ⟨(0, buf.set 0 0), by simp [ipFail, wr_ok _ h0], by simp [hlen], ?_⟩
  simp [hn, h0]

theorem IPInv.next {c tail r w buf} (hi : IPInv c tail r w buf) {k : Nat} {b : UInt8} (hk : 1 ≤ k)
    (h : PctInv c (c ++ 0 :: tail) (r + k) (w + 1) (buf.set w b)) : IPInv c tail (r + k) (w + 1) (buf.set w b) :=
  ⟨h, drop_set_of_drop_eq hi.2 _ (Nat.lt_of_le_of_lt hi.1.2 (Nat.lt_add_of_pos_right hk))⟩

theorem pctInPlaceStrict_step (c tail : Bytes) (hz : ∀ x ∈ c, x ≠ 0) (st : IP) (hi : IPInv c tail st.r st.w st.buf) :
    StepOk (pctInPlaceStrictStep st) (fun s' => IPInv c tail s'.r s'.w s'.buf ∧ st.r < s'.r) (IPPost c tail) := by
  obtain ⟨r, w, buf⟩ := st
  dsimp only at hi
  have hrc := hi.1.1.1
  have hwr := hi.1.2
  have hlen : buf.length = c.length + 1 + tail.length := by
    rw [hi.1.1.2.1, List.length_append, List.length_cons]; omega
  have hw : w < buf.length := by omega
  have hrd := rd_of_drop_eq hi.2
  have hrd0 : rd buf r = rd (c ++ 0 :: tail) r := hrd 0
  have hfail : pctStrict (c.drop r) = none →
      ∃ x, ipFail buf = (.ok (.inr x) : M (IP ⊕ (Nat × Bytes))) ∧ IPPost c tail x :=
    fun hn => ipFail_post c tail buf hlen (hi.1.1.spec_none hn)
  unfold pctInPlaceStrictStep
  dsimp only
  rcases rd_z_cases c tail hz r hrc with ⟨h0, hr0, hx0⟩ | ⟨h0, hr0⟩
  · have hd := List.drop_eq_getElem_cons h0
    rw [hrd0, hr0, bind_ok', if_pos hx0]
    by_cases hpc : c[r] = 0x25
    · rw [if_pos hpc]
      rw [hpc] at hd
      have hshort : c.length < r + 3 → pctStrict (c.drop r) = none := fun h =>
        hd ▸ pctStrict_pct_short _ (by rw [List.length_drop]; omega)
      rcases rd_z_cases c tail hz (r + 1) h0 with ⟨h1, hr1, hx1⟩ | ⟨h1, hr1⟩
      · rw [hrd 1, hr1, bind_ok', if_neg hx1]
        rcases rd_z_cases c tail hz (r + 2) h1 with ⟨h2, hr2, hx2⟩ | ⟨h2, hr2⟩
        · rw [List.drop_eq_getElem_cons h1, List.drop_eq_getElem_cons h2] at hd
          rw [hrd 2, hr2, bind_ok', if_neg hx2]
          rcases twoDigits c[r + 1] c[r + 2] with ⟨hneg, hx⟩ | ⟨hneg, h, l, hxh, hxl, hb⟩
          · rw [if_pos hneg]
            exact .inr (hfail (hd ▸ pctStrict_pct_bad _ _ _ hx))
          · rw [if_neg hneg, wr_ok _ hw, bind_ok', hb]
            exact .inl ⟨_, rfl, hi.next (Nat.le_add_left 1 2)
              (hi.1.round (pre := [_, _, _]) (Nat.le_add_left 1 2) hd hw (pctStrict_pct_ok _ hxh hxl)),
              Nat.lt_add_of_pos_right (by decide)⟩
        · rw [hrd 2, hr2, bind_ok', if_pos rfl]
          exact .inr (hfail (hshort (by omega)))
      · rw [hrd 1, hr1, bind_ok', if_pos rfl]
        exact .inr (hfail (hshort (by omega)))
    · rw [if_neg hpc, wr_ok _ hw, bind_ok']
      exact .inl ⟨_, rfl, hi.next (Nat.le_refl 1) (hi.1.round (pre := [_]) (Nat.le_refl 1) hd hw (pctStrict_cons_ne _ _ hpc)),
        Nat.lt_succ_self r⟩
  · rw [hrd0, hr0, bind_ok', if_neg (fun h => h rfl), wr_ok _ hw, bind_ok']
    refine .inr ⟨_, rfl, by rw [List.length_set, hlen], ?_⟩
    rw [hi.1.1.spec_done h0 pctStrict_nil]
    exact ⟨(List.length_take_of_le (Nat.le_of_lt hw)).symm, List.take_set_of_le (Nat.le_refl _), List.getElem?_set_self hw⟩

def IPLInv (c tail : Bytes) (r w : Nat) (buf : Bytes) (br : Bool) : Prop :=
  PctLInv c (c ++ 0 :: tail) r w buf br ∧ buf.drop r = (c ++ 0 :: tail).drop r

def IPLPost (c tail : Bytes) (r : Nat × Bytes × Bool) : Prop :=
  r.2.1.length = c.length + 1 + tail.length ∧
  r.1 = (pctLenient c).1.length ∧ r.2.1.take r.1 = (pctLenient c).1 ∧ r.2.1[r.1]? = some 0 ∧
  r.2.2 = (pctLenient c).2

theorem IPLInv.room {c tail r w buf br} (hi : IPLInv c tail r w buf br) : w < buf.length := by
  obtain ⟨⟨⟨h1, h2, _⟩, h3, _⟩, _⟩ := hi
  rw [h2, List.length_append, List.length_cons]; omega

theorem IPLInv.next {c tail r w buf br} (hi : IPLInv c tail r w buf br) {k : Nat} {b : UInt8} {br' : Bool} (hk : 1 ≤ k)
    (h : PctLInv c (c ++ 0 :: tail) (r + k) (w + 1) (buf.set w b) br') :
    IPLInv c tail (r + k) (w + 1) (buf.set w b) br' :=
  ⟨h, drop_set_of_drop_eq hi.2 _ (Nat.lt_of_le_of_lt hi.1.2.1 (Nat.lt_add_of_pos_right hk))⟩

theorem IPLInv.done {c tail r w buf br} (hi : IPLInv c tail r w buf br) (h0 : c.length ≤ r) :
    IPLPost c tail (w, buf.set w 0, br) := by
  have hw := hi.room
  obtain ⟨hout, hf⟩ := hi.1.done h0
  refine ⟨?_, ?_, ?_, List.getElem?_set_self hw, hf.symm⟩
  · rw [List.length_set, hi.1.1.2.1, List.length_append, List.length_cons]; omega
  · rw [hout, List.length_take_of_le (Nat.le_of_lt hw)]
  · rw [hout]; exact List.take_set_of_le (Nat.le_refl _)

theorem pctInPlaceLenient_step (c tail : Bytes) (hz : ∀ x ∈ c, x ≠ 0) (st : IPB)
    (hi : IPLInv c tail st.r st.w st.buf st.broken) :
    StepOk (pctInPlaceLenientStep st) (fun s' => IPLInv c tail s'.r s'.w s'.buf s'.broken ∧ st.r < s'.r)
      (IPLPost c tail) := by
  obtain ⟨r, w, buf, br⟩ := st
  dsimp only at hi
  have hw := hi.room
  have hrd := rd_of_drop_eq hi.2
  have hrd0 : rd buf r = rd (c ++ 0 :: tail) r := hrd 0
  unfold pctInPlaceLenientStep
  dsimp only
  rcases rd_z_cases c tail hz r hi.1.1.1 with ⟨h0, hr0, hx0⟩ | ⟨h0, hr0⟩
  · have hd := List.drop_eq_getElem_cons h0
    rw [hrd0, hr0, bind_ok', if_pos hx0]
    by_cases hpc : c[r] = 0x25
    · rw [hpc] at hd
      have hkeep := fun hs => hi.next (Nat.le_refl 1) (hi.1.keep hd hw hs)
      have hshort : c.length < r + 3 → _ := fun h =>
        hkeep (pctLenient_pct_short _ (by rw [List.length_drop]; omega))
      rw [if_pos hpc, hpc]
      rcases rd_z_cases c tail hz (r + 1) h0 with ⟨h1, hr1, hx1⟩ | ⟨h1, hr1⟩
      · rw [hrd 1, hr1, bind_ok', if_neg hx1]
        rcases rd_z_cases c tail hz (r + 2) h1 with ⟨h2, hr2, hx2⟩ | ⟨h2, hr2⟩
        · have hd1 : c.drop (r + 1) = c[r + 1] :: c[r + 2] :: c.drop (r + 3) := by
            rw [List.drop_eq_getElem_cons h1, List.drop_eq_getElem_cons h2]
          rw [hrd 2, hr2, bind_ok', if_neg hx2]
          rcases twoDigits c[r + 1] c[r + 2] with ⟨hneg, hx⟩ | ⟨hneg, h, l, hxh, hxl, hb⟩
          · rw [if_pos hneg, wr_ok _ hw, bind_ok']
            exact .inl ⟨_, rfl, hkeep (hd1 ▸ pctLenient_pct_bad _ _ _ hx), Nat.lt_succ_self r⟩
          · rw [if_neg hneg, wr_ok _ hw, bind_ok', hb]
            rw [hd1] at hd
            exact .inl ⟨_, rfl, hi.next (Nat.le_add_left 1 2)
              (hi.1.round (pre := [_, _, _]) (Nat.le_add_left 1 2) hd hw (pctLenient_pct_ok _ _ _ _ _ hxh hxl) rfl),
              Nat.lt_add_of_pos_right (by decide)⟩
        · -- "%x" at the end: both characters are copied, then the terminator
          have hk := hshort (by omega)
          have hd1 : c.drop (r + 1) = [c[r + 1]] := by
            rw [List.drop_eq_getElem_cons h1, List.drop_eq_nil_of_le h2]
          obtain ⟨fl, hs1⟩ := pctLenient_last c[r + 1]
          have hw1 := hk.room
          have hk2 := hk.next (Nat.le_refl 1)
            (hk.1.round (pre := [_]) (rest := []) (br' := true) (Nat.le_refl 1) hd1 hw1 hs1 rfl)
          have hw2 := hk2.room
          rw [hrd 2, hr2, bind_ok', if_pos rfl, wr_ok _ hw, bind_ok', wr_ok _ hw1, bind_ok', wr_ok _ hw2, bind_ok']
          exact .inr ⟨_, rfl, hk2.done h2⟩
      · -- "%" at the end: it is copied, then the terminator
        have hk := hshort (by omega)
        have hw1 := hk.room
        rw [hrd 1, hr1, bind_ok', if_pos rfl, wr_ok _ hw, bind_ok', wr_ok _ hw1, bind_ok']
        exact .inr ⟨_, rfl, hk.done h1⟩
    · rw [if_neg hpc, wr_ok _ hw, bind_ok']
      exact .inl ⟨_, rfl, hi.next (Nat.le_refl 1) (hi.1.round (pre := [_]) (Nat.le_refl 1) hd hw (pctLenient_cons_ne _ _ hpc) rfl),
        Nat.lt_succ_self r⟩
  · rw [hrd0, hr0, bind_ok', if_neg (fun h => h rfl), wr_ok _ hw, bind_ok']
    exact .inr ⟨_, rfl, hi.done h0⟩

end Mhd.Str
