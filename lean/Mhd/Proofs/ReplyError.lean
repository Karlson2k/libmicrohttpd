import Mhd.Proofs.ReplyClose
namespace Mhd.Reply
open Mhd.ReplyStr Mhd.Resp
open Mhd.Gen.Reply (sizeUnknown)

/-- what the daemon itself puts into the extra header of an error reply ("Location" + the repaired request
    target): a non-empty name without TAB / SP / CR / LF / colon that is none of the four managed names, a
    non-empty value without CR / LF -/
structure ErrHdrOK (n v : Bytes) : Prop where
  nameNe : n ≠ []
  valNe : v ≠ []
  nameClean : (n.contains 9 || n.contains 32 || n.contains 13 || n.contains 10) = false
  noColon : ∀ b ∈ n, b ≠ 58
  valClean : (v.contains 13 || v.contains 10) = false
  notConn : strEqCaseless n sConnection = false
  notTE : strEqCaseless n sTransferEncoding = false
  notDate : strEqCaseless n sDate = false
  notCL : strEqCaseless n sContentLength = false

/-- the unchecked entry is exactly what `MHD_add_response_header` would have accepted -/
theorem errorResponse_eq_add (len : Nat) (n v : Bytes) (h : ErrHdrOK n v) :
    errorResponse len (some (n, v)) = (applyCall (Resp.create len) (.add n v)).2 := by
  have hn : n.isEmpty = false := by cases n with | nil => exact absurd rfl h.nameNe | cons _ _ => rfl
  have hv : v.isEmpty = false := by cases v with | nil => exact absurd rfl h.valNe | cons _ _ => rfl
  simp only [applyCall, addHeader, h.notConn, h.notTE, h.notDate, h.notCL, Bool.false_eq_true, if_false,
    addEntry, hn, hv, h.nameClean, h.valClean]
  rfl

theorem errorResponse_reachable (len : Nat) (hdr : Option (Bytes × Bytes))
    (hh : ∀ n v, hdr = some (n, v) → ErrHdrOK n v) :
    ∃ cs : List Call, (∀ c ∈ cs, c.Legal) ∧ errorResponse len hdr = runCalls (Resp.create len) cs := by
  cases hdr with
  | none =>
    refine ⟨[], ?_, rfl⟩
    intro c hc; cases hc
  | some p =>
    obtain ⟨n, v⟩ := p
    have h := hh n v rfl
    refine ⟨[.add n v], ?_, ?_⟩
    · intro c hc
      simp only [List.mem_singleton] at hc
      subst hc
      exact ⟨h.noColon, fun hcl => by rw [h.notCL] at hcl; cases hcl⟩
    · rw [errorResponse_eq_add len n v h]; rfl

theorem errorResponse_props (len : Nat) (hdr : Option (Bytes × Bytes)) :
    (errorResponse len hdr).totalSize = len ∧ (errorResponse len hdr).upgrade = false := by
  cases hdr with
  | none => exact ⟨rfl, rfl⟩
  | some p => obtain ⟨n, v⟩ := p; exact ⟨rfl, rfl⟩

theorem setup_mustClose (c : Conn) (r : Resp) (code : Nat) (hk : c.keepalive = .mustClose) (hu : r.upgrade = false) :
    (setupReplyProperties c r code).1 = .mustClose := by
  rcases setup_ka_cases c r code with h | h
  · exact h
  · rw [h]; unfold keepalivePossible
    rw [if_neg (by simp [hu]), if_pos (by simp [hk])]

theorem transmitError_cases (c : Conn) (swe late shut : Bool) (code0 : Nat) (msg : Bytes) (hdr : Option (Bytes × Bytes))
    (date : Option Bytes) (wb1 wb2 : Nat) (out : ReplyOut)
    (h : transmitErrorResponse c swe late shut code0 msg hdr date wb1 wb2 = .reply out) :
    ∃ q wb, (wb = wb1 ∨ wb = wb2) ∧ shut = false ∧
      queueResponse { c with discardRequest := true } .fullReqReceived false false false code0
        (errorResponse msg.length hdr) = some q ∧
      out = sendReply { c with discardRequest := true, keepalive := .mustClose } (errorResponse msg.length hdr) q
              (.buffer msg) date wb (startPosAfterQueue q (errorResponse msg.length hdr) 0) ∧
      (buildHeaderResponse { c with discardRequest := true, keepalive := .mustClose } (errorResponse msg.length hdr)
        q.code q.icy date wb).2.2.isNone = false := by
  unfold transmitErrorResponse at h
  by_cases h1 : swe = true
  · rw [if_pos h1] at h; cases h
  rw [if_neg h1] at h
  by_cases h2 : late = true
  · rw [if_pos h2] at h; cases h
  rw [if_neg h2] at h
  dsimp only at h
  cases hs : shut with
  | true =>
    -- `MHD_queue_response` refuses everything while the daemon shuts down
    rw [hs] at h
    have : ∀ cc st cd rr, queueResponse cc st false true false cd rr = none := by
      intro cc st cd rr; unfold queueResponse
      dsimp only
      rw [if_neg Bool.false_ne_true]
      exact ite_cases (· = none) (fun _ => rfl) fun _ => if_pos rfl
    rw [this] at h; cases h
  | false =>
    rw [hs] at h
    cases hq : queueResponse { c with discardRequest := true } .fullReqReceived false false false code0
        (errorResponse msg.length hdr) with
    | none => rw [hq] at h; cases h
    | some q =>
      rw [hq] at h
      dsimp only at h
      generalize hwb : (if (buildHeaderResponse { c with discardRequest := true, keepalive := .mustClose }
        (errorResponse msg.length hdr) q.code q.icy date wb1).2.2.isSome = true then wb1 else wb2) = wb at h
      have hw : wb = wb1 ∨ wb = wb2 := by rw [← hwb]; exact ite_cases (fun x => x = wb1 ∨ x = wb2) (fun _ => .inl rfl) fun _ => .inr rfl
      by_cases hn : (buildHeaderResponse { c with discardRequest := true, keepalive := .mustClose }
        (errorResponse msg.length hdr) q.code q.icy date wb).2.2.isNone = true
      · rw [if_pos hn] at h; cases h
      · rw [if_neg hn] at h
        injection h with h
        exact ⟨q, wb, hw, rfl, rfl, h.symm, Bool.eq_false_iff.2 hn⟩

theorem errorResponse_notChunked (c : Conn) (len : Nat) (hdr : Option (Bytes × Bytes)) (code : Nat)
    (hlen : len ≠ sizeUnknown) (hh : ∀ n v, hdr = some (n, v) → ErrHdrOK n v) :
    (setupReplyProperties c (errorResponse len hdr) code).2.chunked = false := by
  cases hx : (setupReplyProperties c (errorResponse len hdr) code).2.chunked with
  | false => rfl
  | true =>
    exfalso
    rcases ((setup_props c (errorResponse len hdr) code).2.2.1 hx).2.2 with h | h
    · rw [(errorResponse_props len hdr).1] at h; exact hlen h
    · cases hdr with
      | none => cases h
      | some p => obtain ⟨n, v⟩ := p; cases h

/-- an error reply whose header block fitted is always sent completely (static buffer, never chunked) -/
theorem errorReply_complete (c : Conn) (st : CState) (code0 : Nat) (msg : Bytes) (hdr : Option (Bytes × Bytes)) (q : Queued)
    (date : Option Bytes) (wb : Nat) (hlen : msg.length ≠ sizeUnknown) (hh : ∀ n v, hdr = some (n, v) → ErrHdrOK n v)
    (hq : queueResponse c st false false false code0 (errorResponse msg.length hdr) = some q)
    (hfit : (buildHeaderResponse c (errorResponse msg.length hdr) q.code q.icy date wb).2.2.isNone = false) :
    (sendReply c (errorResponse msg.length hdr) q (.buffer msg) date wb
      (startPosAfterQueue q (errorResponse msg.length hdr) 0)).complete = true := by
  cases hb : (buildHeaderResponse c (errorResponse msg.length hdr) q.code q.icy date wb).2.2 with
  | none => rw [hb] at hfit; cases hfit
  | some hd =>
    rw [sendReply_queued c _ st false code0 q _ date wb hd hq hb]
    dsimp only
    refine ite_cases (fun b : BodyOut => b.complete = true) (fun _ => rfl) fun _ => ?_
    rw [errorResponse_notChunked c msg.length hdr q.code hlen hh, if_neg Bool.false_ne_true,
      normalBody_buffer _ msg (errorResponse_props msg.length hdr).1.symm]
end Mhd.Reply
