/-
  C12 proofs: what a failing clause answers with (`ErrAll`, one `…_err` lemma per clause of `expectedClass` and per
  stage of the model): a refusal, never the class `ok`; what `digest_auth_check_all_inner` can answer for parameters
  of any kind, parsed or not (`checkInner_class`); hence no write beyond `hash1_bin[MAX_DIGEST]` or `tmp1[128]`, and
  no `MHD_PANIC` for an algorithm constant of `get_rq_dauth_algo`.
-/
import Mhd.Proofs.DauthSem
namespace Mhd.Dauth
open Mhd.Auth Mhd.Gen.Auth Mhd.Gen.Dauth

/-- every error of the computation `x` satisfies `P` -/
def ErrAll {α : Type} (P : Res → Prop) (x : Except Res α) : Prop := ∀ e, x = .error e → P e

theorem ErrAll.ok {α : Type} {P : Res → Prop} (a : α) : ErrAll P (Except.ok a) := by intro e h; cases h

theorem ErrAll.err {α : Type} {P : Res → Prop} {r : Res} (h : P r) : ErrAll P (Except.error r : Except Res α) := by
  intro e he; cases he; exact h

theorem ErrAll.bind {α β : Type} {P : Res → Prop} {x : Except Res α} {f : α → Except Res β}
    (hx : ErrAll P x) (hf : ∀ a, ErrAll P (f a)) : ErrAll P (x >>= f) := by
  intro e h
  cases x with
  | error e' => cases h; exact hx e rfl
  | ok a => exact hf a e h

theorem ErrAll.mono {α : Type} {P Q : Res → Prop} {x : Except Res α} (h : ErrAll P x) (hPQ : ∀ e, P e → Q e) :
    ErrAll Q x := fun e he => hPQ e (h e he)

/-- an answer that refuses the client: not acceptance, not `MHD_PANIC`, not a write beyond `hash1_bin[]` or `tmp1[]` -/
abbrev Refusal (e : Res) : Prop := e ≠ .ok ∧ e ≠ .panic ∧ e ≠ .fault .hash1Overflow ∧ e ≠ .fault .tmp1Overflow

abbrev NoOkErr {α : Type} (x : Except Res α) : Prop := ErrAll (· ≠ .ok) x

/-- `ErrAll Refusal f` for a decision tree `f`: each leaf is `.ok _` or `.error r` with `r` a constant -/
macro "refusal_leaves" : tactic =>
  `(tactic| (repeat' split) <;> first | exact ErrAll.ok _ | exact ErrAll.err (by decide))

/-- the values `get_rq_dauth_algo` can produce -/
abbrev AlgoRange (x : Nat) : Prop :=
  x = algoInvalid ∨ x = algoMd5 ∨ x = algoSha256 ∨ x = algoSha512 ∨ x = algoMd5Sess ∨ x = algoSha256Sess ∨ x = algoSha512Sess

/-- the algorithm stage fails with `MHD_DAUTH_WRONG_ALGO`; `MHD_PANIC` ("Wrong 'malgo3' value") needs a constant that
    passes the three tests and has no base algorithm, and `get_rq_dauth_algo` produces none such (fix F25 moved the
    test for the invalid constant in front) -/
theorem stageAlgoN_err (call : Call) (x : Nat) :
    ErrAll (fun e => e = .wrongAlgo ∨ e = .panic ∧ ¬ AlgoRange x) (stageAlgoN call x) := by
  unfold stageAlgoN
  by_cases h1 : x = algoInvalid
  · rw [if_pos h1]; exact .err (.inl rfl)
  by_cases h2 : x ≠ (x &&& call.malgo3)
  · rw [if_neg h1, if_pos h2]; exact .err (.inl rfl)
  by_cases h3 : (x &&& algoSession) ≠ 0
  · rw [if_neg h1, if_neg h2, if_pos h3]; exact .err (.inl rfl)
  rw [if_neg h1, if_neg h2, if_neg h3]
  cases hb : baseAlgo x with
  | some a => exact .ok a
  | none =>
    refine .err (.inr ⟨rfl, fun hx => ?_⟩)
    rcases hx with hx | hx | hx | hx | hx | hx | hx <;> subst hx
    · exact h1 rfl
    · exact absurd hb (by decide)
    · exact absurd hb (by decide)
    · exact absurd hb (by decide)
    · exact h3 (by decide)
    · exact h3 (by decide)
    · exact h3 (by decide)

theorem stageAlgoN_nook (call : Call) (x : Nat) : NoOkErr (stageAlgoN call x) :=
  (stageAlgoN_err call x).mono (by rintro _ (rfl | ⟨rfl, _⟩) <;> decide)
theorem stageQopN_err (call : Call) (x : Nat) : ErrAll Refusal (stageQopN call x) := by unfold stageQopN; refusal_leaves
theorem presUsername_err (ds : Nat) (lv : LenView) (uh : Bool) : ErrAll Refusal (presUsername ds lv uh) := by
  unfold presUsername; refusal_leaves
theorem presRealm_err (call : Call) (lv : LenView) (uh : Bool) : ErrAll Refusal (presRealm call lv uh) := by
  unfold presRealm; refusal_leaves

theorem lenCheck_err {α : Type} {P : Res → Prop} (o : Option Nat) (B : Nat) {e0 e1 e2 : Res} {y : Except Res α}
    (h0 : P e0) (h1 : P e1) (h2 : P e2) (hy : ErrAll P y) : ErrAll P (lenCheck e0 e1 e2 B y o) := by
  cases o with
  | none => exact .err h0
  | some l =>
    show ErrAll P (if l = 0 then _ else _)
    by_cases a : l = 0
    · rw [if_pos a]; exact .err h1
    · rw [if_neg a]
      by_cases b : B < l
      · rw [if_pos b]; exact .err h2
      · rw [if_neg b]; exact hy

theorem presNcCnonce_err (lv : LenView) (q : Nat) : ErrAll Refusal (presNcCnonce lv q) := by
  unfold presNcCnonce
  by_cases hq : q ≠ qopNone
  · rw [if_pos hq]
    exact lenCheck_err _ _ (by decide) (by decide) (by decide)
      (lenCheck_err _ _ (by decide) (by decide) (by decide) (.ok _))
  · rw [if_neg hq]; exact .ok _
theorem presUri_err (lv : LenView) : ErrAll Refusal (presUri lv) :=
  lenCheck_err _ _ (by decide) (by decide) (by decide) (.ok _)
theorem presNonce_err (a : Algo) (lv : LenView) : ErrAll Refusal (presNonce a lv) :=
  lenCheck_err _ _ (by decide) (by decide) (by decide) (.ok _)
theorem presResponse_err (ds : Nat) (lv : LenView) : ErrAll Refusal (presResponse ds lv) :=
  lenCheck_err _ _ (by decide) (by decide) (by decide) (.ok _)
theorem needV_err (o : Option Bytes) : ErrAll Refusal (needV o) := by unfold needV; refusal_leaves
theorem ha1Hex_err (a : Algo) (call : Call) : ErrAll Refusal (ha1Hex a call) := by unfold ha1Hex; refusal_leaves

theorem presenceV_err (a : Algo) (call : Call) (lv : LenView) (q : Nat) (uh : Bool) : ErrAll Refusal (presenceV a call lv q uh) := by
  unfold presenceV
  exact (presUsername_err _ _ _).bind fun _ => (presRealm_err _ _ _).bind fun _ => (presNcCnonce_err _ _).bind fun _ =>
    (presUri_err _).bind fun _ => (presNonce_err _ _).bind fun _ => presResponse_err _ _

theorem specRealm_err (call : Call) (c : Cred) : ErrAll Refusal (specRealm call c) := by
  unfold specRealm
  exact (needV_err _).bind fun v => by refusal_leaves

theorem specUsername_err (a : Algo) (call : Call) (c : Cred) : ErrAll Refusal (specUsername a call c) := by
  unfold specUsername
  split
  · split
    · refusal_leaves
    · exact (needV_err _).bind fun e => by refusal_leaves
  · exact (needV_err _).bind fun u => by refusal_leaves

theorem specNc_err (m : Nat) (c : Cred) : ErrAll Refusal (specNc m c) := by
  unfold specNc
  split
  · exact (needV_err _).bind fun u => by refusal_leaves
  · exact .ok _

theorem specNonce_err (a : Algo) (now t : Nat) (c : Cred) : ErrAll Refusal (specNonce a now t c) := by
  unfold specNonce
  exact (needV_err _).bind fun u => by refusal_leaves

theorem specPre_nook (now timeout maxNc : Nat) (call : Call) (c : Cred) (lv : LenView) :
    NoOkErr (specPre now timeout maxNc call c lv) := by
  unfold specPre
  refine (stageAlgoN_nook _ _).bind fun a => ErrAll.mono (P := Refusal) ?_ fun _ h => h.1
  exact (stageQopN_err _ _).bind fun _ => (presenceV_err _ _ _ _ _).bind fun _ =>
    (specRealm_err _ _).bind fun _ => (specUsername_err _ _ _).bind fun _ => (specNc_err _ _).bind fun _ =>
    (specNonce_err _ _ _ _).bind fun _ => .ok _

theorem specUri_err (cfg : Cfg) (r : Req) (c : Cred) (lv : LenView) : ErrAll Refusal (specUri cfg r c lv) := by
  unfold specUri
  exact (needV_err _).bind fun u => by refusal_leaves

theorem specQopPart_err (c : Cred) : ErrAll Refusal (specQopPart c) := by
  unfold specQopPart
  split
  · exact (needV_err _).bind fun _ => (needV_err _).bind fun _ => (needV_err _).bind fun _ => .ok _
  · exact .ok _

theorem specResponse_err (a : Algo) (r : Req) (call : Call) (c : Cred) (uri : Bytes) :
    ErrAll Refusal (specResponse a r call c uri) := by
  unfold specResponse
  refine (ha1Hex_err _ _).bind fun h1 => (needV_err _).bind fun resp => ?_
  split
  · exact .err (by decide)
  · split
    · exact .err (by decide)
    · split
      · exact .err (by decide)
      · exact (needV_err _).bind fun _ => (specQopPart_err _).bind fun _ => by refusal_leaves

theorem specBind_err (cfg : Cfg) (a : Algo) (r : Req) (call : Call) (c : Cred) (t : Nat) :
    ErrAll Refusal (specBind cfg a r call c t) := by
  unfold specBind
  split
  · split
    · exact .err (by decide)
    · exact (needV_err _).bind fun _ => by refusal_leaves
  · exact .ok _

/-- a write beyond one of the two fixed-size stack buffers of `digest_auth_check_all_inner` -/
def Overflow (e : Res) : Prop := e = .fault .hash1Overflow ∨ e = .fault .tmp1Overflow

theorem Refusal.safe {e : Res} (h : Refusal e) : ¬ Overflow e := fun o => o.elim h.2.2.1 h.2.2.2

theorem need_err (o : Option Param) : ErrAll Refusal (need o) := by unfold need; refusal_leaves
theorem getUnq_err (p : Param) : ErrAll Refusal (getUnq p) := by unfold getUnq; refusal_leaves

theorem stageRealm_err (call : Call) (d : DAuth) : ErrAll Refusal (stageRealm call d) := by
  unfold stageRealm
  exact (need_err _).bind fun p => by refusal_leaves

theorem stageUsername_err (a : Algo) (call : Call) (d : DAuth) : ErrAll Refusal (stageUsername a call d) := by
  unfold stageUsername
  split
  · split
    · refusal_leaves
    · exact (need_err _).bind fun e => by refusal_leaves
  · refine (need_err _).bind fun u => ?_
    simp only [tmp1_ok a, if_false]
    refusal_leaves

theorem stageNc_err (m : Nat) (d : DAuth) : ErrAll Refusal (stageNc m d) := by
  unfold stageNc
  split
  · exact (need_err _).bind fun p => (getUnq_err p).bind fun txt => by refusal_leaves
  · exact .ok _

theorem stageNonce_err (a : Algo) (now t : Nat) (d : DAuth) : ErrAll Refusal (stageNonce a now t d) := by
  unfold stageNonce
  exact (need_err _).bind fun p => (getUnq_err p).bind fun n => by refusal_leaves

/-- the stages before `check_nonce_nc` refuse, whatever the algorithm stage fails with -/
theorem stagePre_err {P : Res → Prop} (now timeout maxNc : Nat) (call : Call) (d : DAuth)
    (hA : ErrAll P (stageAlgoN call d.algo3)) (href : ∀ e, Refusal e → P e) :
    ErrAll P (stagePre now timeout maxNc call d) := by
  unfold stagePre stageAlgo stageQop stagePresence
  refine hA.bind fun a => ErrAll.mono ?_ href
  exact (stageQopN_err _ _).bind fun _ => (presenceV_err _ _ _ _ _).bind fun _ =>
    (stageRealm_err _ _).bind fun _ => (stageUsername_err _ _ _).bind fun _ => (stageNc_err _ _).bind fun _ =>
    (stageNonce_err _ _ _ _).bind fun _ => .ok _

theorem stageUri_err (cfg : Cfg) (r : Req) (d : DAuth) : ErrAll Refusal (stageUri cfg r d) := by
  unfold stageUri
  refine (need_err _).bind fun p => ?_
  split
  · exact .err (by decide)
  · simp only
    generalize (if p.quoted = true then unquote p.raw else p.raw) = uri
    refusal_leaves

theorem qopPart_err (d : DAuth) : ErrAll Refusal (qopPart d) := by
  unfold qopPart
  split
  · exact ((need_err _).bind getUnq_err).bind fun _ => ((need_err _).bind getUnq_err).bind fun _ =>
      ((need_err _).bind getUnq_err).bind fun _ => .ok _
  · exact .ok _

/-- the decoded `response` always fits `hash1_bin[MAX_DIGEST]` (this is what fix F24 established) and the
    hexadecimal texts always fit `tmp1[]` -/
theorem stageResponse_err (a : Algo) (r : Req) (call : Call) (d : DAuth) (uri : Bytes) :
    ErrAll Refusal (stageResponse a r call d uri) := by
  unfold stageResponse
  refine (ha1Hex_err _ _).bind fun h1 => (need_err _).bind fun rp => (getUnq_err rp).bind fun resp => ?_
  by_cases hl : a.size * 2 < resp.length
  · simp only [hl, if_true]; exact .err (by decide)
  · simp only [hl, if_false, hash1_ok a _ hl]
    split
    · exact .err (by decide)
    · split
      · exact .err (by decide)
      · refine (need_err _).bind fun np => (getUnq_err np).bind fun _ => (qopPart_err d).bind fun _ => ?_
        simp only [tmp1_ok a, if_false]
        refusal_leaves

theorem stageBind_err (cfg : Cfg) (a : Algo) (r : Req) (call : Call) (d : DAuth) (t : Nat) :
    ErrAll Refusal (stageBind cfg a r call d t) := by
  unfold stageBind
  split
  · simp only [tmp1_ok' a, if_false]
    split
    · exact .err (by decide)
    · exact (need_err _).bind fun _ => by refusal_leaves
  · exact .ok _

theorem stagePost_err (cfg : Cfg) (r : Req) (call : Call) (d : DAuth) (a : Algo) (t : Nat) :
    ErrAll Refusal (do
      let uri ← stageUri cfg r d
      stageResponse a r call d uri
      stageBind cfg a r call d t : Except Res Unit) :=
  (stageUri_err _ _ _).bind fun uri => (stageResponse_err _ _ _ _ _).bind fun _ => stageBind_err _ _ _ _ _ _

theorem ofNc_refusal (o : Mhd.Nonce.NcRes) (h : o = .ok → False) : Refusal (ofNc o) := by
  cases o
  · exact (h rfl).elim
  all_goals decide

/-- the answer for parameters of any kind: acceptance, a refusal, or what the algorithm stage fails with -/
theorem checkInner_class (cfg : Cfg) (tbl : Mhd.Nonce.Table) (now : Nat) (r : Req) (call : Call) (timeout maxNc : Nat)
    (p : Option DAuth) {P : Res → Prop} (hok : P .ok) (href : ∀ e, Refusal e → P e)
    (hA : ∀ d, p = some d → ErrAll P (stageAlgoN call d.algo3)) :
    P (checkInner cfg tbl now r call timeout maxNc p).2 := by
  cases p with
  | none => exact href .wrongHeader (by decide)
  | some d =>
    unfold checkInner
    simp only
    cases hS : stagePre now timeout maxNc call d with
    | error e => exact stagePre_err now timeout maxNc call d (hA d rfl) href e hS
    | ok x =>
      obtain ⟨a, nci, n, t⟩ := x
      simp only
      split
      · unfold stagePost
        split
        · exact hok
        · rename_i e he; exact href e (stagePost_err cfg r call d a t e he)
      · rename_i hne; exact href _ (ofNc_refusal _ hne)

theorem checkInner_no_overflow (cfg : Cfg) (tbl : Mhd.Nonce.Table) (now : Nat) (r : Req) (call : Call) (timeout maxNc : Nat)
    (p : Option DAuth) : ¬ Overflow (checkInner cfg tbl now r call timeout maxNc p).2 :=
  checkInner_class cfg tbl now r call timeout maxNc p (P := fun e => ¬ Overflow e) (by simp [Overflow])
    (fun _ h => h.safe) fun d _ => (stageAlgoN_err call d.algo3).mono (by rintro _ (rfl | ⟨rfl, _⟩) <;> simp [Overflow])

theorem checkInner_no_panic (cfg : Cfg) (tbl : Mhd.Nonce.Table) (now : Nat) (r : Req) (call : Call) (timeout maxNc : Nat)
    (p : Option DAuth) (hx : ∀ d, p = some d → AlgoRange d.algo3) :
    (checkInner cfg tbl now r call timeout maxNc p).2 ≠ .panic :=
  checkInner_class cfg tbl now r call timeout maxNc p (P := (· ≠ .panic)) (by decide)
    (fun _ h => h.2.1) fun d hd => (stageAlgoN_err call d.algo3).mono (by
      rintro _ (rfl | ⟨_, h⟩)
      · decide
      · exact (h (hx d hd)).elim)

end Mhd.Dauth
