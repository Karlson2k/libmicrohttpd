import Mhd.Proofs.DauthSem0
namespace Mhd.Dauth
open Mhd.Auth Mhd.Gen.Auth Mhd.Gen.Dauth

/-- a qop constant other than the default comes from an entry of the chain whose token compares equal with the
    parameter, and either comparison ties the lengths -/
theorem qop_small (d : DAuth) (hq : QopParsed d) (hne : d.qop ≠ qopInvalid) : Small d kQop := by
  intro p hp
  unfold QopParsed at hq
  rw [hp, qopOf_some] at hq
  have hlen : ∀ y ∈ qopTokenChain, y.1.length ≤ 8 := by decide
  have hmax : maxParam = 65535 := rfl
  refine chainFind_mem (cmp p) qopTokenChain qopNoMatch (P := fun r => r = d.qop → p.raw.length ≤ maxParam)
    (fun h => absurd h.symm hne) (fun x hx hx2 _ => ?_) hq.symm
  have := hlen x hx
  unfold cmp at hx2
  split at hx2
  · simp only [eqQuotedCl] at hx2
    split at hx2
    · simp at hx2
    · omega
  · simp only [eqClS, Bool.and_eq_true, beq_iff_eq] at hx2
    omega

theorem bind_ok {ε α β : Type} (x : Except ε α) (f : α → Except ε β) (b : β) :
    (x >>= f) = .ok b ↔ ∃ a, x = .ok a ∧ f a = .ok b := by
  cases x <;> simp [bind, Except.bind]

theorem needV_ok (o : Option Bytes) (v : Bytes) : needV o = .ok v ↔ o = some v := by
  cases o <;> simp [needV]

theorem guard_ok {ε α : Type} (p : Prop) [Decidable p] (e : ε) (y : Except ε α) (b : α) :
    (if p then .error e else y) = .ok b ↔ ¬ p ∧ y = .ok b := by
  by_cases h : p <;> simp [h]

theorem accept_ok {ε : Type} (p : Prop) [Decidable p] (e : ε) :
    (if p then .ok () else .error e : Except ε Unit) = .ok () ↔ p := by
  by_cases h : p <;> simp [h]

/-- the presence check of one parameter, as `presUri`, `presNonce`, `presResponse` and (twice) `presNcCnonce`
    make it: sent, not empty, at most `B` long -/
def lenCheck {α : Type} (e0 e1 e2 : Res) (B : Nat) (y : Except Res α) : Option Nat → Except Res α
  | none => .error e0
  | some l => if l = 0 then .error e1 else if B < l then .error e2 else y

/-- what a presence check establishes about the length as sent `o` of one parameter: `there` and `pos` are the left
    sides of `LenSem.none_iff` and `LenSem.zero_iff`, `le` has the form of a field of `WithinLimits` -/
structure Sent (o : Option Nat) (B : Nat) : Prop where
  there : o ≠ none
  pos : o ≠ some 0
  le : ∀ l, o = some l → l ≤ B

theorem lenCheck_ok {α : Type} (o : Option Nat) (B : Nat) (e0 e1 e2 : Res) (y : Except Res α) (b : α) :
    lenCheck e0 e1 e2 B y o = .ok b ↔ Sent o B ∧ y = .ok b := by
  cases o with
  | none => exact ⟨fun h => (by cases h), fun h => absurd rfl h.1.there⟩
  | some l =>
    simp only [lenCheck, guard_ok, Nat.not_lt]
    exact ⟨fun ⟨a, b, c⟩ => ⟨⟨nofun, fun h => a (Option.some.inj h), fun _ h => Option.some.inj h ▸ b⟩, c⟩,
      fun ⟨s, c⟩ => ⟨fun h => s.pos (h ▸ rfl), s.le l rfl, c⟩⟩

theorem presUri_ok (lv : LenView) : presUri lv = .ok () ↔ Sent (lv kUri) maxParam :=
  (lenCheck_ok (lv kUri) maxParam _ _ _ (.ok ()) ()).trans (and_iff_left rfl)

theorem presNonce_ok (a : Algo) (lv : LenView) : presNonce a lv = .ok () ↔ Sent (lv kNonce) (a.stdLen * 2) :=
  (lenCheck_ok (lv kNonce) (a.stdLen * 2) _ _ _ (.ok ()) ()).trans (and_iff_left rfl)

theorem presResponse_ok (ds : Nat) (lv : LenView) : presResponse ds lv = .ok () ↔ Sent (lv kResponse) (ds * 4) :=
  (lenCheck_ok (lv kResponse) (ds * 4) _ _ _ (.ok ()) ()).trans (and_iff_left rfl)

theorem presNcCnonce_ok (lv : LenView) (qop : Nat) :
    presNcCnonce lv qop = .ok () ↔ (qop ≠ qopNone → Sent (lv kNc) ncMaxRaw ∧ Sent (lv kCnonce) maxParam) := by
  unfold presNcCnonce
  by_cases hq : qop ≠ qopNone
  · rw [if_pos hq]
    refine (lenCheck_ok (lv kNc) ncMaxRaw _ _ _ _ ()).trans ?_
    refine (and_congr_right fun _ => (lenCheck_ok (lv kCnonce) maxParam _ _ _ (.ok ()) ()).trans (and_iff_left rfl)).trans ?_
    exact ⟨fun h _ => h, fun h => h hq⟩
  · rw [if_neg hq]
    exact ⟨fun _ h => absurd h hq, fun _ => rfl⟩

/-- the second conjunct is `WithinLimits.realm` -/
theorem presRealm_ok (call : Call) (lv : LenView) (uh : Bool) :
    presRealm call lv uh = .ok () ↔
      lv kRealm ≠ none ∧ ((isPassword call.secret = true ∨ uh = true) → ∀ l, lv kRealm = some l → l ≤ maxParam) := by
  unfold presRealm
  cases lv kRealm with
  | none => exact ⟨fun h => (by cases h), fun h => absurd rfl h.1⟩
  | some l =>
    simp only [guard_ok, and_true, ne_eq, reduceCtorEq, not_false_eq_true, true_and, not_and, Nat.not_lt,
      Option.some.injEq, forall_eq']

/-- the second conjunct is `WithinLimits.userhash` -/
theorem presUsername_ok (ds : Nat) (lv : LenView) (uh : Bool) :
    presUsername ds lv uh = .ok () ↔
      ((lv kUsername = none ∧ (∃ el, lv kUsernameExt = some el ∧ extMinLen ≤ el) ∧ uh = false) ∨
       (lv kUsername ≠ none ∧ lv kUsernameExt = none)) ∧
      (uh = true → ∀ l, lv kUsername = some l → ds * 2 ≤ l ∧ l ≤ ds * 4) := by
  unfold presUsername
  cases lv kUsername with
  | none =>
    cases lv kUsernameExt with
    | none => simp
    | some el => cases uh <;> simp
  | some ul =>
    cases lv kUsernameExt with
    | some el => simp
    | none => cases uh <;> simp [guard_ok, Nat.not_lt]

theorem presenceV_ok (a : Algo) (call : Call) (lv : LenView) (qop : Nat) (uh : Bool) :
    presenceV a call lv qop uh = .ok () ↔
      presUsername a.size lv uh = .ok () ∧ presRealm call lv uh = .ok () ∧ presNcCnonce lv qop = .ok () ∧
      presUri lv = .ok () ∧ presNonce a lv = .ok () ∧ presResponse a.size lv = .ok () := by
  unfold presenceV
  simp only [bind_ok]
  constructor
  · rintro ⟨_, h1, _, h2, _, h3, _, h4, _, h5, h6⟩
    exact ⟨h1, h2, h3, h4, h5, h6⟩
  · rintro ⟨h1, h2, h3, h4, h5, h6⟩
    exact ⟨(), h1, (), h2, (), h3, (), h4, (), h5, h6⟩

theorem presence_small (a : Algo) (call : Call) (d : DAuth) (hqp : QopParsed d) (hqi : d.qop ≠ qopInvalid)
    (h : presenceV a call (lenView d) d.qop d.userhash = .ok ()) :
    Small d kNonce ∧ Small d kResponse ∧ (d.qop ≠ qopNone → Small d kNc ∧ Small d kCnonce ∧ Small d kQop) := by
  obtain ⟨_, _, h3, _, h5, h6⟩ := (presenceV_ok ..).mp h
  have small : ∀ {k B}, Sent (lenView d k) B → B ≤ maxParam → Small d k := fun s hm p hp =>
    Nat.le_trans (s.le _ (by simp [lenView, hp])) hm
  refine ⟨small ((presNonce_ok ..).mp h5) (by cases a <;> decide), small ((presResponse_ok ..).mp h6) (by cases a <;> decide),
    fun hq => ?_⟩
  obtain ⟨s1, s2⟩ := (presNcCnonce_ok ..).mp h3 hq
  exact ⟨small s1 (by decide), small s2 (Nat.le_refl _), qop_small d hqp hqi⟩

theorem stageQopN_iff (call : Call) (q : Nat) :
    stageQopN call q = .ok () ↔ q ≠ qopInvalid ∧ q = (q &&& call.mqop) ∧ (q &&& qopAuthInt) = 0 := by
  unfold stageQopN
  by_cases h1 : q = qopInvalid
  · simp [h1]
  · by_cases h2 : q ≠ (q &&& call.mqop)
    · simp [h1, h2]
    · by_cases h3 : (q &&& qopAuthInt) ≠ 0
      · simp [h1, h2, h3]
      · simp only [ne_eq, Decidable.not_not] at h2 h3
        simp [h1, ← h2, h3]

theorem stagePre_sem (now timeout maxNc : Nat) (call : Call) (d : DAuth) (hwq : WQ d) (hqp : QopParsed d) :
    stagePre now timeout maxNc call d = specPre now timeout maxNc call (semOf d) (lenView d) :=
  bind_sem (x := stageAlgoN call d.algo3) fun a _ => bind_sem (x := stageQopN call d.qop) fun _ hQ =>
    bind_sem (x := presenceV a call (lenView d) d.qop d.userhash) fun _ hP => by
      obtain ⟨hn, _, hq3⟩ := presence_small a call d hqp ((stageQopN_iff ..).mp hQ).1 hP
      rw [stageRealm_sem call d hwq, stageUsername_sem a call d hwq, stageNc_sem maxNc d (fun h => (hq3 h).1),
        stageNonce_sem a now timeout d hn]

theorem specPre_ok_iff (now timeout maxNc : Nat) (call : Call) (c : Cred) (lv : LenView) (a : Algo) (nci : Nat) (n : Bytes) (t : Nat) :
    specPre now timeout maxNc call c lv = .ok (a, nci, n, t) ↔
    stageAlgoN call c.algo3 = .ok a ∧ stageQopN call c.qop = .ok () ∧ presenceV a call lv c.qop c.userhash = .ok () ∧
    specRealm call c = .ok () ∧ specUsername a call c = .ok () ∧ specNc maxNc c = .ok nci ∧
    specNonce a now timeout c = .ok (n, t) := by
  unfold specPre
  simp only [bind_ok]
  constructor
  · rintro ⟨a', h1, _, h2, _, h3, _, h4, _, h5, nci', h6, nt, h7, h8⟩
    simp only [Except.ok.injEq, Prod.mk.injEq] at h8
    obtain ⟨rfl, rfl, rfl, rfl⟩ := h8
    exact ⟨h1, h2, h3, h4, h5, h6, h7⟩
  · rintro ⟨h1, h2, h3, h4, h5, h6, h7⟩
    exact ⟨a, h1, (), h2, (), h3, (), h4, (), h5, nci, h6, (n, t), h7, rfl⟩

theorem stagePost_sem (cfg : Cfg) (r : Req) (call : Call) (d : DAuth) (a : Algo) (t : Nat) (hwq : WQ d)
    (h0 : Small d kResponse) (hn : Small d kNonce) (h123 : d.qop ≠ qopNone → Small d kNc ∧ Small d kCnonce ∧ Small d kQop) :
    stagePost cfg r call d a t = specPost cfg r call (semOf d) (lenView d) a t := by
  unfold stagePost specPost
  rw [stageUri_sem, bind_sem fun uri _ => by
    rw [stageResponse_sem a r call d uri h0 hn h123, stageBind_sem cfg a r call d t hwq]]
  rfl

/-- C12 §1: the model's answer for parsed parameters `d` is the expected class of their meaning -/
theorem checkInner_sem (cfg : Cfg) (tbl : Mhd.Nonce.Table) (now : Nat) (r : Req) (call : Call) (timeout maxNc : Nat)
    (d : DAuth) (hwq : WQ d) (hqp : QopParsed d) :
    checkInner cfg tbl now r call timeout maxNc (some d) =
      expectedClass cfg tbl now r call timeout maxNc (semOf d) (lenView d) := by
  unfold checkInner expectedClass
  simp only
  rw [stagePre_sem now timeout maxNc call d hwq hqp]
  cases hS : specPre now timeout maxNc call (semOf d) (lenView d) with
  | error e => rfl
  | ok x =>
    obtain ⟨a, nci, n, t⟩ := x
    obtain ⟨_, hQ, hP, _⟩ := (specPre_ok_iff ..).mp hS
    obtain ⟨hn, h0, h123⟩ := presence_small a call d hqp ((stageQopN_iff ..).mp hQ).1 hP
    simp only [stagePost_sem cfg r call d a t hwq h0 hn h123]
    rfl

end Mhd.Dauth
