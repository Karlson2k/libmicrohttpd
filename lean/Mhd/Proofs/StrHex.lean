/-
  C17 proofs: the loop invariants and steps of `MHD_bin_to_hex` and `MHD_hex_to_bin`.
-/
import Mhd.Proofs.StrBase
import Mhd.Proofs.StrSpecHex

namespace Mhd.Str

theorem hexLower_digit : ∀ n : Fin 16, hexLower (UInt8.ofNat n.val) = hexDigitLower n.val := by decide

theorem hexLower_spec (b : UInt8) :
    hexLower (b >>> 4) = hexDigitLower (b.toNat / 16) ∧ hexLower (b &&& 0x0f) = hexDigitLower (b.toNat % 16) := by
  have hhi : b >>> 4 = UInt8.ofNat (b.toNat / 16) := by
    have := u8_shr b.toNat 4 b.toNat_lt (by decide)
    rwa [UInt8.ofNat_toNat] at this
  have hlo : b &&& 0x0f = UInt8.ofNat (b.toNat % 16) := by
    rw [← UInt8.toNat_inj, UInt8.toNat_and, UInt8.toNat_ofNat', UInt8.toNat_ofNat, Nat.and_two_pow_sub_one_eq_mod _ 4]
    omega
  rw [hhi, hlo]
  exact ⟨hexLower_digit ⟨b.toNat / 16, by have := b.toNat_lt; omega⟩, hexLower_digit ⟨b.toNat % 16, by omega⟩⟩

theorem hexSpec_cons (b : UInt8) (t : Bytes) :
    hexSpec (b :: t) = [hexLower (b >>> 4), hexLower (b &&& 0x0f)] ++ hexSpec t := by
  rw [hexSpec, (hexLower_spec b).1, (hexLower_spec b).2]; rfl

/-- the write position is always twice the read position -/
def B2HInv (bin out : Bytes) (st : RW) : Prop :=
  DecInv (fun s => some (hexSpec s)) bin out st.r (st.r * 2) st.out

theorem binToHex_step (bin out : Bytes) (hsz : 2 * bin.length ≤ out.length) (st : RW) (hi : B2HInv bin out st) :
    StepOk (binToHexStep bin st) (fun s' => B2HInv bin out s' ∧ st.r < s'.r)
      (fun x => Wrote (.ok x) out (some (hexSpec bin))) := by
  obtain ⟨r, w, o⟩ := st
  dsimp only [B2HInv] at hi
  have hlen := hi.2.1
  unfold binToHexStep
  dsimp only
  by_cases hlt : r < bin.length
  · have hw1 : r * 2 + 1 < o.length := by omega
    have hw : r * 2 < o.length := Nat.lt_of_succ_lt hw1
    rw [if_pos hlt, rd_lt hlt, bind_ok', wr_ok _ hw, bind_ok', wr_ok _ ((List.length_set ..).symm ▸ hw1), bind_ok']
    refine .inl ⟨_, rfl, ?_, Nat.lt_succ_self r⟩
    dsimp only [B2HInv]
    rw [Nat.succ_mul]
    exact hi.emitT (pre := [_]) (List.drop_eq_getElem_cons hlt) (hexSpec_cons _ _) (by simp) hw1 (take_set_two o (r * 2) _ _ hw1)
  · rw [if_neg hlt]
    exact .inr ⟨_, rfl, hi.wrote_done (Nat.le_of_not_lt hlt) rfl⟩

/-- an even number of digits is left, and every output byte stands for two digits (the first
    possibly for one) -/
def H2BInv (hex out : Bytes) (r w : Nat) (o : Bytes) : Prop :=
  DecInv hexToBinSpec hex out r w o ∧ (∃ m, hex.length = r + 2 * m) ∧ w * 2 ≤ r + 1

theorem hexToBin_step (hex out : Bytes) (hsz : hex.length ≤ 2 * out.length)
    (st : RW) (hi : H2BInv hex out st.r st.w st.out) :
    StepOk (hexToBinStep hex st) (fun s' => H2BInv hex out s'.r s'.w s'.out ∧ st.r < s'.r)
      (fun x => Wrote (.ok x) out (hexToBinSpec hex)) := by
  obtain ⟨r, w, o⟩ := st
  dsimp only at hi
  obtain ⟨hi, ⟨m, hm⟩, hwr⟩ := hi
  have hlen := hi.2.1
  unfold hexToBinStep
  dsimp only
  by_cases hlt : r < hex.length
  · have h1 : r + 1 < hex.length := by omega
    have hw : w < o.length := by omega
    have hd : hex.drop r = hex[r] :: hex[r + 1] :: hex.drop (r + 2) := by
      rw [List.drop_eq_getElem_cons hlt, List.drop_eq_getElem_cons h1]
    have hm' : hex.length = r + 2 + 2 * (m - 1) := by omega
    have hev : (hex.drop (r + 2)).length % 2 = 0 := by
      rw [List.length_drop, hm', Nat.add_sub_cancel_left, Nat.mul_mod_right]
    rw [if_pos hlt, rd_lt hlt, bind_ok', rd_lt h1, bind_ok']
    rcases twoDigits hex[r] hex[r + 1] with ⟨hneg, hx⟩ | ⟨hneg, h, l, hxh, hxl, hb⟩
    · rw [if_pos hneg]
      exact .inr ⟨_, rfl, hi.wrote_none (hd ▸ hexToBinSpec_pair_bad hev hx) hlen⟩
    · rw [if_neg hneg, wr_ok _ hw, bind_ok', hb]
      have hwr' : (w + 1) * 2 ≤ r + 2 + 1 := by omega
      exact .inl ⟨_, rfl, ⟨hi.emit1 (pre := [_, _]) hd (hexToBinSpec_pair_ok hev hxh hxl) hw, ⟨m - 1, hm'⟩, hwr'⟩,
        Nat.lt_add_of_pos_right (Nat.succ_pos 1)⟩
  · rw [if_neg hlt]
    exact .inr ⟨_, rfl, hi.wrote_done (Nat.le_of_not_lt hlt) rfl⟩

end Mhd.Str
