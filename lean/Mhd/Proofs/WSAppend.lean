import Mhd.Proofs.WSMerge
namespace Mhd.WS

theorem Run.more_quiet {ws ws1 : WS} {a : List UInt8} {E : List Ev} {out : Out} (hr : Run ws a E out)
    (h : Inv ws) (hv : ws.validity ≠ 0) (ho : out = .more ws1) : Inv ws1 ∧ sil ws1 = 0 ∧ ws1.validity ≠ 0 := by
  induction hr with
  | done ws hq => cases ho; exact ⟨h, hq, hv⟩
  | cont ws rest ws' k E out hg hi _ ih =>
    have hok := trip_ok h hv rest hg
    rw [hi] at hok
    exact ih hok.1 hok.2.1 ho
  | emit ws rest ws' st k pl plen E out hg hi h0 _ ih =>
    have hok := trip_ok h hv rest hg
    rw [hi] at hok
    have hv' := (hok.2.2.2 h0).2.1
    exact ih (hok.1 hv') hv' ho
  | err => cases ho

theorem Run.nil_quiet {ws : WS} {E : List Ev} {out : Out} (hr : Run ws [] E out) (hq : sil ws = 0) :
    E = [] ∧ out = .more ws :=
  hr.det (.done ws hq)

theorem rsim_ret_left {ws' : WS} {st : Int} {k : Nat} {pl : Option (List UInt8)} {plen : Nat} {r : R}
    (h : RSim (.ret ws' st k pl plen) r) : st < 0 ∧ ∃ w k', r = .ret w st k' pl plen := by
  cases r with
  | ret w st' k' pl' plen' =>
    obtain ⟨h1, h2, h3, h4⟩ := h
    subst h2 h3 h4
    exact ⟨h1, w, k', rfl⟩
  | cont => exact absurd h id
  | fault => exact absurd h id

theorem rsim_ret_right {ws' : WS} {st : Int} {k : Nat} {pl : Option (List UInt8)} {plen : Nat} {r : R}
    (h : RSim r (.ret ws' st k pl plen)) : st < 0 ∧ ∃ w k', r = .ret w st k' pl plen :=
  rsim_ret_left h.symm

theorem rsim_cont_right (r : R) (n : Nat) (w : WS) (k : Nat) : ¬ RSim r (shiftR n (.cont w k)) := by
  cases r <;> exact id

/-- **Split independence, flat form**: running over `a ++ b` is running over `a` and, if the
    session is still alive, over `b` from the state reached. -/
theorem Run.append {ws : WS} {a : List UInt8} {E1 : List Ev} {out1 : Out} (hr : Run ws a E1 out1)
    (h : Inv ws) (hv : ws.validity ≠ 0) (b : List UInt8) (hb : b ≠ []) :
    (out1 = .stop → Run ws (a ++ b) E1 .stop) ∧
    (∀ ws1, out1 = .more ws1 → ∀ E2 out, Run ws1 b E2 out → Run ws (a ++ b) (E1 ++ E2) out) := by
  induction hr with
  | done ws hq => exact ⟨fun c => Out.noConfusion c, fun ws1 hm E2 out hr2 => by cases hm; exact hr2⟩
  | cont ws rest ws' k E out hg hi hrun ih =>
    have hok := trip_ok h hv rest hg
    rw [hi] at hok
    obtain ⟨hi', hv', hk, _⟩ := hok
    have hg2 : rest ++ b ≠ [] ∨ sil ws ≠ 0 := .inl (List.append_ne_nil_of_right_ne_nil rest hb)
    rcases trip_append h hv rest b hg hb with hsim | ⟨w1, hc1, hq1, hsim⟩
    · -- the trip does not depend on what follows
      rw [hi] at hsim
      have hst : trip ws (rest ++ b) = .cont ws' k := by
        rcases hsim with he | hs
        · exact he.symm
        · exact absurd hs id
      have hd : (rest ++ b).drop k = rest.drop k ++ b := List.drop_append_of_le_length hk
      obtain ⟨i1, i2⟩ := ih hi' hv'
      exact ⟨fun hs => Run.cont ws _ ws' k E .stop hg2 hst (by rw [hd]; exact i1 hs),
        fun ws1 hmore E2 out2 hr2 => Run.cont ws _ ws' k _ out2 hg2 hst (by rw [hd]; exact i2 ws1 hmore E2 out2 hr2)⟩
    · -- a payload copy cut short: the first trip of the run over `b` continues it
      rw [hi] at hc1
      cases hc1
      rw [List.drop_length] at hrun
      obtain ⟨hE1, ho1⟩ := hrun.nil_quiet hq1
      subst hE1 ho1
      refine ⟨fun hs => Out.noConfusion hs, fun ws1 hmore E2 out2 hr2 => ?_⟩
      cases hmore
      rw [List.nil_append]
      cases hr2 with
      | done _ _ => exact absurd rfl hb
      | cont _ _ w2 k2 _ _ _ hi2 hr2' =>
        rw [hi2] at hsim
        rcases hsim with he | hs
        · exact Run.cont ws _ w2 (rest.length + k2) E2 out2 hg2 he (by rw [List.drop_length_add_append]; exact hr2')
        · exact absurd hs (rsim_cont_right _ _ _ _)
      | emit _ _ w2 st k2 pl plen E2' _ _ hi2 h0 hr2' =>
        rw [hi2] at hsim
        rcases hsim with he | hs
        · exact Run.emit ws _ w2 st (rest.length + k2) pl plen E2' out2 hg2 he h0
            (by rw [List.drop_length_add_append]; exact hr2')
        · have := (rsim_ret_right (show RSim _ (.ret w2 st (rest.length + k2) pl plen) from hs)).1; omega
      | err _ _ w2 st k2 pl plen _ hi2 hneg =>
        rw [hi2] at hsim
        rcases hsim with he | hs
        · exact Run.err ws _ w2 st (rest.length + k2) pl plen hg2 he hneg
        · obtain ⟨_, w, k', hx⟩ := rsim_ret_right (show RSim _ (.ret w2 st (rest.length + k2) pl plen) from hs)
          exact Run.err ws _ w st k' pl plen hg2 hx hneg
  | emit ws rest ws' st k pl plen E out hg hi h0 hrun ih =>
    have hok := trip_ok h hv rest hg
    rw [hi] at hok
    obtain ⟨hinv', hk, _, hq⟩ := hok
    have hv' := (hq h0).2.1
    have hg2 : rest ++ b ≠ [] ∨ sil ws ≠ 0 := .inl (List.append_ne_nil_of_right_ne_nil rest hb)
    have hst : trip ws (rest ++ b) = .ret ws' st k pl plen := by
      rcases trip_append h hv rest b hg hb with hsim | ⟨w1, hc1, _⟩
      · rw [hi] at hsim
        rcases hsim with he | hs
        · exact he.symm
        · have := (rsim_ret_left hs).1; omega
      · rw [hi] at hc1; cases hc1
    have hd : (rest ++ b).drop k = rest.drop k ++ b := List.drop_append_of_le_length hk
    obtain ⟨i1, i2⟩ := ih (hinv' hv') hv'
    refine ⟨fun hs => Run.emit ws _ ws' st k pl plen E .stop hg2 hst h0 (by rw [hd]; exact i1 hs),
      fun ws1 hmore E2 out2 hr2 => ?_⟩
    rw [List.append_assoc]
    exact Run.emit ws _ ws' st k pl plen (E ++ E2) out2 hg2 hst h0 (by rw [hd]; exact i2 ws1 hmore E2 out2 hr2)
  | err ws rest ws' st k pl plen hg hi hneg =>
    have hg2 : rest ++ b ≠ [] ∨ sil ws ≠ 0 := .inl (List.append_ne_nil_of_right_ne_nil rest hb)
    refine ⟨fun _ => ?_, fun ws1 hmore => Out.noConfusion hmore⟩
    rcases trip_append h hv rest b hg hb with hsim | ⟨w1, hc1, _⟩
    · rw [hi] at hsim
      rcases hsim with he | hs
      · exact Run.err ws _ ws' st k pl plen hg2 he.symm hneg
      · obtain ⟨_, w, k', hx⟩ := rsim_ret_left hs
        exact Run.err ws _ w st k' pl plen hg2 hx hneg
    · rw [hi] at hc1; cases hc1

theorem run_glue {ws ws1 : WS} (hi : Inv ws) (hv : ws.validity ≠ 0) {a b : List UInt8} {E1 E2 : List Ev} {out : Out}
    (h1 : Run ws a E1 (.more ws1)) (h2 : Run ws1 b E2 out) : Run ws (a ++ b) (E1 ++ E2) out := by
  by_cases hb : b = []
  · subst hb
    obtain ⟨_, hq1, _⟩ := h1.more_quiet hi hv rfl
    obtain ⟨e1, e2⟩ := h2.nil_quiet hq1
    subst e1 e2
    simpa using h1
  · exact (h1.append hi hv b hb).2 ws1 rfl _ _ h2

end Mhd.WS
