/-
  C19, for part (iii) of the property (RFC 6455 violations): what `errRet` returns, `Rejected`,
  how a rejecting loop trip rejects the whole decode call, and the cases that are not a first or
  second header byte: a continuation frame over the maximum, text and close reasons that end
  inside a UTF-8 sequence.
-/
import Mhd.Proofs.WSSafe
namespace Mhd.WS

theorem errRet_spec (ws : WS) (code : Nat) (st : Int) (adv : Nat) :
    ∃ ws' pl plen, errRet ws code st adv = .ret ws' st adv pl plen ∧ ws'.validity = 0 ∧
      (ws.genCloseFlag = false → pl = none ∧ plen = 0) ∧
      (ws.genCloseFlag = true → pl = (encodeClose { ws with validity := 0 } code []).frame) := by
  refine ⟨_, _, _, rfl, ?_, ?_, ?_⟩
  · rw [genClose_validity]
  · intro hf
    unfold genClose
    have : ({ ws with validity := 0 } : WS).genCloseFlag = false := hf
    simp [this]
  · intro hf
    unfold genClose
    have : ({ ws with validity := 0 } : WS).genCloseFlag = true := hf
    simp [this]

theorem decode_of_iter_ret {ws ws' : WS} {b : UInt8} {rest : List UInt8} {st : Int} {k : Nat}
    {pl : Option (List UInt8)} {plen : Nat} (hv : ws.validity ≠ 0)
    (hi : iter false ws (b :: rest) = .ret ws' st k pl plen) :
    decode false ws (b :: rest) = .ret ws' st k pl plen := by
  unfold decode
  rw [if_neg hv]
  have : 3 * (b :: rest).length + 4 = (3 * (b :: rest).length + 3) + 1 := by omega
  rw [this]
  unfold loop
  rw [if_neg (by simp), hi]
  simp

/-- "the prescribed error status, and the stream is invalid from now on" -/
def Rejected (r : R) (st : Int) : Prop :=
  ∃ ws' adv pl plen, r = .ret ws' st adv pl plen ∧ ws'.validity = 0

theorem rejected_errRet (ws : WS) (code : Nat) (st : Int) (adv : Nat) : Rejected (errRet ws code st adv) st := by
  obtain ⟨ws', pl, plen, he, hv, _⟩ := errRet_spec ws code st adv
  exact ⟨ws', adv, pl, plen, he, hv⟩

theorem rejected_of_trip {ws w : WS} {b : UInt8} {rest : List UInt8} {c : Nat} {st : Int} {adv : Nat}
    (hv : ws.validity ≠ 0) (hi : iter false ws (b :: rest) = errRet w c st adv) :
    Rejected (decode false ws (b :: rest)) st := by
  rw [decode_of_iter_ret hv hi]; exact rejected_errRet _ _ _ _

theorem decode_nil (ws : WS) (hv : ws.validity ≠ 0) : decode false ws [] = tail false ws 0 := by
  unfold decode
  rw [if_neg hv]
  show loop false (3 * 0 + 3 + 1) ws [] 0 = _
  unfold loop
  simp

theorem err_cont_max (ws : WS) (h0 : UInt8) (buf : List UInt8) (hv : ws.validity ≠ 0) (hs : ws.step = 16)
    (hh : ws.hdr[0]? = some h0) (hop : opcodeOf h0 = 0)
    (hmax : ws.maxPayload ≠ 0 ∧ ws.maxPayload < (ws.payloadSize + ws.dataSize) % W) :
    decode false ws buf = errRet { ws with step := 99 } 1009 (-5) 0 := by
  have hc : headerComplete false ws = errRet { ws with step := 99 } 1009 (-5) 0 := by
    rw [headerComplete_of_cont false hh hop, if_pos hmax]
  cases buf with
  | nil =>
    rw [decode_nil _ hv]
    unfold tail
    rw [if_pos hs, hc]
    rfl
  | cons b rest =>
    apply decode_of_iter_ret hv
    rw [iter_hc _ _ _ hs]
    unfold hcTrip
    rw [hc]
    rfl

theorem rejected_of_iter {ws : WS} {rest : List UInt8} {st : Int} (hne : rest ≠ []) (hv : ws.validity ≠ 0)
    (hi : Rejected (iter false ws rest) st) : Rejected (decode false ws rest) st := by
  obtain ⟨ws', adv, pl, plen, he, hv'⟩ := hi
  cases rest with
  | nil => exact absurd rfl hne
  | cons b r => exact ⟨ws', adv, pl, plen, decode_of_iter_ret hv he, hv'⟩

theorem payloadComplete_truncated (ws : WS) (h0 : UInt8) (hh : ws.hdr[0]? = some h0) (hfin : finBit h0 = true)
    (hs : ws.step = 17 ∨ ws.step = 18) (hc : Checked ws h0) (hu : regOf ws ≠ 0) :
    payloadComplete false ws = errRet ws 1007 (-6) 0 := by
  unfold Checked at hc
  unfold regOf at hu
  unfold payloadComplete
  rcases hs with h17 | h18
  · rw [if_pos h17] at hc hu
    simp only [hh, hfin, if_true, h17, hc, hu, ne_eq, not_false_eq_true, and_self, Bool.false_eq_true]
  · have h17 : ¬ ws.step = 17 := by omega
    rw [if_neg h17] at hc hu
    simp only [hh, hfin, if_true, h17, if_false, hc, hu, ne_eq, not_false_eq_true, and_self, Bool.false_eq_true]

theorem payloadFinish_rejected (ws : WS) (take : Nat) (code : Nat) (st : Int) (he : ws.payloadSize = ws.payloadIndex)
    (hc : payloadComplete false ws = errRet ws code st 0) : Rejected (payloadFinish false take ws) st := by
  unfold payloadFinish
  rw [if_pos he, hc]
  obtain ⟨ws', pl, plen, hr, hv, _⟩ := errRet_spec ws code st 0
  rw [hr]
  exact ⟨ws', take, pl, plen, rfl, hv⟩

/-- RFC 6455 8.1 on the closed form of the payload case: an invalid byte in validated text
    (a text message, the reason of a close frame) among the bytes taken -/
theorem payTrip_invalid {ws : WS} (h0 : UInt8) (hh : ws.hdr[0]? = some h0) (hc : Checked ws h0) (bytes : List UInt8)
    (o : Nat) (hbad : checkUtf8 (bytes.drop (skipOf ws)) (regOf ws) 0 = .invalid o) :
    Rejected (payTrip ws bytes) (-6) := by
  have hsk : skipOf ws < bytes.length := Nat.lt_of_not_le fun c => by
    rw [List.drop_of_length_le c] at hbad; cases hbad
  unfold payTrip plTrip
  rw [if_neg (fun c => by rw [c] at hsk; exact Nat.not_lt_zero _ hsk), getD_hdr0 hh, if_pos ⟨hc, hsk⟩, hbad]
  exact rejected_errRet _ _ _ _

/-- … and validated text that ends, with the payload, inside a character -/
theorem payTrip_truncated {ws : WS} (h0 : UInt8) (hh : ws.hdr[0]? = some h0) (hfin : finBit h0 = true)
    (hs : ws.step = 17 ∨ ws.step = 18) (hc : Checked ws h0) (bytes : List UInt8)
    (hfull : ws.payloadSize = ws.payloadIndex + bytes.length) (s : Nat)
    (hck : checkUtf8 (bytes.drop (skipOf ws)) (regOf ws) 0 = .ok s) (hs0 : s ≠ 0) :
    Rejected (payTrip ws bytes) (-6) := by
  unfold payTrip
  by_cases hb : bytes = []
  · subst hb
    rw [List.drop_nil] at hck
    cases Utf8Res.ok.inj hck
    rw [if_pos rfl]
    exact payloadFinish_rejected ws 0 1007 (-6) hfull (payloadComplete_truncated ws h0 hh hfin hs hc hs0)
  · rw [if_neg hb, getD_hdr0 hh]
    generalize written ((plBufO ws).getD []) (plBase ws + ws.payloadIndex) bytes = buf'
    -- whether or not the bytes taken reach into the text, the validator is left in `s`
    have he : plTrip ws h0 buf' bytes =
        payloadFinish false bytes.length (setReg (payloadAdvance ws buf' bytes.length) s) := by
      unfold plTrip
      by_cases hsk : skipOf ws < bytes.length
      · rw [if_pos ⟨hc, hsk⟩, hck]
      · rw [List.drop_of_length_le (Nat.le_of_not_lt hsk)] at hck
        cases Utf8Res.ok.inj hck
        rw [if_neg (fun c => hsk c.2), setReg_regOf]
    obtain ⟨f1, f2, f3, _, f5, f6, f7, _⟩ := setReg_adv ws h0 buf' bytes.length s
    rw [he]
    exact payloadFinish_rejected _ _ 1007 (-6) (by rw [f1, f2]; exact hfull)
      (payloadComplete_truncated _ h0 (f7 ▸ hh) hfin (f6.symm ▸ hs) (f3.mpr hc) (f5.symm ▸ hs0))

end Mhd.WS
