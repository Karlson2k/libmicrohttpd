/-
  C14: caseless comparison; the parameter name an input starts with (`nameAt`), which `findName` looks up in its table
  independently of letter case (`findName_eq`; the regenerated table `paramNames` comes in at the end).
-/
import Mhd.Model.AuthGrammar
namespace Mhd.Auth

theorem toLowerB_toNat (c : UInt8) :
    (toLowerB c).toNat = if 65 ≤ c.toNat ∧ c.toNat ≤ 90 then c.toNat + 32 else c.toNat := by
  unfold toLowerB
  split
  · rename_i h
    have : c.toNat + 32 < 256 := by omega
    simp [Nat.mod_eq_of_lt this]
  · rfl

theorem toUpperB_toNat (c : UInt8) :
    (toUpperB c).toNat = if 97 ≤ c.toNat ∧ c.toNat ≤ 122 then c.toNat - 32 else c.toNat := by
  unfold toUpperB
  split
  · rename_i h
    have : c.toNat - 32 < 256 := by omega
    simp [Nat.mod_eq_of_lt this]
  · rfl

theorem eqCl_iff (a b : UInt8) : eqCl a b = true ↔ toLowerB a = toLowerB b := by
  have ha := UInt8.toNat_lt a
  have hb := UInt8.toNat_lt b
  rw [← UInt8.toNat_inj, toLowerB_toNat, toLowerB_toNat]
  unfold eqCl isUpper
  simp only [Bool.or_eq_true, beq_iff_eq, ← @UInt8.toNat_inj a b]
  by_cases h1 : 65 ≤ a.toNat ∧ a.toNat ≤ 90 <;> by_cases h2 : 65 ≤ b.toNat ∧ b.toNat ≤ 90 <;>
    simp [h1, h2] <;> omega

theorem eqCl_eq (a b : UInt8) : eqCl a b = decide (toLowerB a = toLowerB b) := by
  rw [Bool.eq_iff_iff]; simp [eqCl_iff]

theorem toLowerB_toUpperB (c : UInt8) : toLowerB (toUpperB c) = toLowerB c := by
  have hc := UInt8.toNat_lt c
  rw [← UInt8.toNat_inj, toLowerB_toNat, toLowerB_toNat, toUpperB_toNat]
  repeat' split
  all_goals omega

theorem eqCl_comm (a b : UInt8) : eqCl a b = eqCl b a := by
  rw [eqCl_eq, eqCl_eq]; exact decide_eq_decide.mpr eq_comm

theorem eqCl_refl (a : UInt8) : eqCl a a = true := by rw [eqCl_eq]; simp

theorem eqClN_iff (a b : Bytes) : eqClN a b = true ↔ a.map toLowerB = b.map toLowerB := by
  induction a generalizing b with
  | nil => cases b <;> simp [eqClN]
  | cons x xs ih =>
    cases b with
    | nil => simp [eqClN]
    | cons y ys => simp [eqClN, eqCl_iff, ih]

theorem eqClN_comm (a b : Bytes) : eqClN a b = eqClN b a := by
  induction a generalizing b with
  | nil => cases b <;> simp [eqClN]
  | cons x xs ih => cases b with
    | nil => simp [eqClN]
    | cons y ys => simp [eqClN, eqCl_comm x y, ih ys]

theorem eqClN_length (a b : Bytes) (h : eqClN a b = true) : a.length = b.length := by
  induction a generalizing b with
  | nil => cases b <;> simp_all [eqClN]
  | cons x xs ih => cases b with
    | nil => simp [eqClN] at h
    | cons y ys => simp only [eqClN, Bool.and_eq_true] at h; simp [ih ys h.2]

theorem eqClS_eq (tok s : Bytes) : eqClS tok s = eqClN tok s := by
  unfold eqClS
  cases h : eqClN tok s
  · simp
  · simp [eqClN_length _ _ h]

theorem prefixCl_iff (inp nm : Bytes) :
    prefixCl inp nm = true ↔ nm.length ≤ inp.length ∧ (inp.take nm.length).map toLowerB = nm.map toLowerB := by
  induction nm generalizing inp with
  | nil => cases inp <;> simp [prefixCl]
  | cons y ys ih =>
    cases inp with
    | nil => simp [prefixCl]
    | cons x xs =>
      simp only [prefixCl, Bool.and_eq_true, eqCl_iff, ih, List.length_cons, List.take_succ_cons, List.map_cons,
        List.cons.injEq, Nat.add_le_add_iff_right]
      constructor
      · rintro ⟨h1, h2, h3⟩; exact ⟨h2, h1, h3⟩
      · rintro ⟨h2, h1, h3⟩; exact ⟨h1, h2, h3⟩

theorem caseRender_length (m : List Bool) (nm : Bytes) : (caseRender m nm).length = nm.length := by
  induction nm generalizing m with
  | nil => cases m <;> simp [caseRender]
  | cons c r ih => cases m <;> simp [caseRender, ih]

theorem caseRender_lower (m : List Bool) (nm : Bytes) : (caseRender m nm).map toLowerB = nm.map toLowerB := by
  induction nm generalizing m with
  | nil => cases m <;> simp [caseRender]
  | cons c r ih =>
    cases m with
    | nil => simp [caseRender, ih]
    | cons b bs =>
      simp only [caseRender, List.map_cons, ih]
      cases b <;> simp [toLowerB_toUpperB]


theorem isDelim_lower (c : UInt8) : isDelim (toLowerB c) = isDelim c := by
  have hc := UInt8.toNat_lt c
  unfold isDelim
  have h : ∀ k : Nat, k < 65 → (toLowerB c = UInt8.ofNat k ↔ c = UInt8.ofNat k) := by
    intro k hk
    rw [← UInt8.toNat_inj, ← UInt8.toNat_inj, toLowerB_toNat]
    have : (UInt8.ofNat k).toNat = k := by simp; omega
    rw [this]
    split <;> omega
  have h61 := h 61 (by omega); have h32 := h 32 (by omega); have h9 := h 9 (by omega)
  have h44 := h 44 (by omega); have h59 := h 59 (by omega)
  simp only [show (UInt8.ofNat 61) = (61 : UInt8) from rfl, show (UInt8.ofNat 32) = (32 : UInt8) from rfl,
    show (UInt8.ofNat 9) = (9 : UInt8) from rfl, show (UInt8.ofNat 44) = (44 : UInt8) from rfl,
    show (UInt8.ofNat 59) = (59 : UInt8) from rfl] at h61 h32 h9 h44 h59
  simp only [h61, h32, h9, h44, h59]

/-- what ends a parameter name in the input: the end of the string or a delimiter -/
def Delimited (rest : Bytes) : Prop := rest = [] ∨ ∃ d r, rest = d :: r ∧ isDelim d = true

def notDelim (c : UInt8) : Bool := !isDelim c

/-- The parameter name the input starts with: its text up to the first '=' SP HT ',' ';' or the end.  The loop
    over `tk_names[]` (gen_auth.c:477–489) scans no name; it tests each entry as a prefix that one of these bytes or
    the end of the string follows, which compares the entry with this text (`nameMatches_eq`). -/
def nameAt (inp : Bytes) : Bytes := inp.takeWhile notDelim

theorem nameAt_cons (x : UInt8) (xs : Bytes) : nameAt (x :: xs) = if isDelim x then [] else x :: nameAt xs := by
  cases hx : isDelim x <;> simp [nameAt, notDelim, hx]

theorem nameAt_append (u rest : Bytes) (hr : Delimited rest) : nameAt (u ++ rest) = nameAt u := by
  induction u with
  | nil =>
    rcases hr with rfl | ⟨d, r, rfl, hd⟩
    · rfl
    · simp [nameAt, notDelim, hd]
  | cons c u ih => rw [List.cons_append, nameAt_cons, nameAt_cons, ih]

theorem nameAt_self (nm : Bytes) (h : ∀ c ∈ nm, isDelim c = false) : nameAt nm = nm := by
  simpa [nameAt] using List.takeWhile_append_of_pos (p := notDelim) (l₁ := nm) (l₂ := [])
    fun c hc => by simp [notDelim, h c hc]

theorem drop_nameAt (inp : Bytes) : nameAt inp ++ inp.drop (nameAt inp).length = inp := by
  have h := List.takeWhile_append_dropWhile (p := notDelim) (l := inp)
  have : inp.drop (nameAt inp).length = inp.dropWhile notDelim := by
    conv => lhs; arg 2; rw [← h]
    exact List.drop_left
  rw [this]; exact h

theorem nameMatches_eq (kn : Bytes) (hkn : ∀ c ∈ kn, isDelim c = false) (inp : Bytes) :
    nameMatches kn inp = decide ((nameAt inp).map toLowerB = kn.map toLowerB) := by
  induction inp generalizing kn with
  | nil => cases kn <;> simp [nameMatches, prefixCl, nameAt]
  | cons x xs ih =>
    rw [nameAt_cons]
    cases kn with
    | nil => cases hx : isDelim x <;> simp [nameMatches, prefixCl, hx]
    | cons y ys =>
      have hstep : nameMatches (y :: ys) (x :: xs) = (eqCl x y && nameMatches ys xs) := by
        simp [nameMatches, prefixCl, Bool.and_assoc]
      rw [hstep, ih ys fun c hc => hkn c (by simp [hc])]
      cases hx : isDelim x
      · simp [eqCl_eq]
      · -- a delimiter is no letter of a name
        have : eqCl x y = false := by
          rw [eqCl_eq, decide_eq_false_iff_not]
          intro h
          have hy := hkn y (by simp)
          rw [← isDelim_lower, ← h, isDelim_lower, hx] at hy
          contradiction
        simp [this]

theorem findName_eq (names : List Bytes) (hkn : ∀ kn ∈ names, ∀ c ∈ kn, isDelim c = false) (k : Nat) (inp : Bytes) :
    findName names k inp =
      (names.findIdx? fun kn => decide ((nameAt inp).map toLowerB = kn.map toLowerB)).map fun i =>
        (k + i, (nameAt inp).length) := by
  induction names generalizing k with
  | nil => rfl
  | cons kn t ih =>
    rw [findName, nameMatches_eq kn (hkn kn (by simp)), List.findIdx?_cons]
    by_cases h : (nameAt inp).map toLowerB = kn.map toLowerB
    · have hl : kn.length = (nameAt inp).length := by simpa using (congrArg List.length h).symm
      simp [h, hl]
    · simp only [h, decide_false, Bool.false_eq_true, if_false, ih (fun x hx => hkn x (by simp [hx])), Option.map_map]
      congr 1; funext i; simp only [Function.comp_apply, Prod.mk.injEq, and_true]; omega

theorem paramNames_length : Mhd.Gen.Auth.paramNames.length = 12 := by decide

theorem nameOf_eq (q : Nat) (hq : q < Mhd.Gen.Auth.paramNames.length) : nameOf q = Mhd.Gen.Auth.paramNames[q] := by
  simp only [nameOf, List.getD, List.getElem?_eq_getElem hq, Option.getD_some]

theorem nameOf_mem (q : Nat) (hq : q < 12) : nameOf q ∈ Mhd.Gen.Auth.paramNames := by
  rw [nameOf_eq q hq]
  exact List.getElem_mem hq

theorem paramNames_noDelim : ∀ kn ∈ Mhd.Gen.Auth.paramNames, ∀ c ∈ kn, isDelim c = false := by decide

theorem paramNames_lower : ∀ kn ∈ Mhd.Gen.Auth.paramNames, kn.map toLowerB = kn := by decide

theorem caseRender_nameOf (m : List Bool) (k : Nat) (hk : k < 12) :
    (caseRender m (nameOf k)).map toLowerB = nameOf k := by
  rw [caseRender_lower, paramNames_lower _ (nameOf_mem k hk)]

theorem paramNames_nonempty : ∀ nm ∈ Mhd.Gen.Auth.paramNames, nm ≠ [] := by decide

theorem noDelim_of_lower (nm kn : Bytes) (h : nm.map toLowerB = kn) (hkn : ∀ c ∈ kn, isDelim c = false) :
    ∀ c ∈ nm, isDelim c = false := fun c hc => by
  rw [← isDelim_lower]; exact hkn _ (h ▸ List.mem_map_of_mem hc)

/-- every name stands once in the table -/
theorem paramNames_index : ∀ p, p < 12 →
    Mhd.Gen.Auth.paramNames.findIdx? (fun kn => decide (nameOf p = kn.map toLowerB)) = some p := by decide

theorem findName_named (k : Nat) (hk : k < 12) (name : Bytes) (hn : name.map toLowerB = nameOf k) (rest : Bytes)
    (hr : Delimited rest) : findName Mhd.Gen.Auth.paramNames 0 (name ++ rest) = some (k, name.length) := by
  have hnd := noDelim_of_lower _ _ hn (paramNames_noDelim _ (nameOf_mem k hk))
  rw [findName_eq _ paramNames_noDelim, nameAt_append _ _ hr, nameAt_self _ hnd, hn, paramNames_index k hk, Option.map_some,
    Nat.zero_add]

theorem name_head (k : Nat) (hk : k < 12) (name : Bytes) (hn : name.map toLowerB = nameOf k) :
    ∃ c r, name = c :: r ∧ isDelim c = false := by
  cases name with
  | nil => exact absurd hn.symm (paramNames_nonempty _ (nameOf_mem k hk))
  | cons c r => exact ⟨c, r, rfl, noDelim_of_lower _ _ hn (paramNames_noDelim _ (nameOf_mem k hk)) c (by simp)⟩

theorem findName_known (inp : Bytes) (p len : Nat) (h : findName Mhd.Gen.Auth.paramNames 0 inp = some (p, len)) :
    p < 12 ∧ (nameAt inp).map toLowerB = nameOf p ∧ len = (nameAt inp).length := by
  rw [findName_eq _ paramNames_noDelim, Option.map_eq_some_iff] at h
  obtain ⟨i, hi, h⟩ := h
  obtain ⟨hlt, hp, _⟩ := List.findIdx?_eq_some_iff_getElem.mp hi
  rw [paramNames_lower _ (List.getElem_mem hlt), ← nameOf_eq i hlt] at hp
  simp only [Nat.zero_add, Prod.mk.injEq] at h
  exact ⟨h.1 ▸ hlt, h.1 ▸ of_decide_eq_true hp, h.2.symm⟩

theorem findName_other (u rest : Bytes) (hr : Delimited rest) :
    findName Mhd.Gen.Auth.paramNames 0 (u ++ rest) = none ↔
      ∀ kn ∈ Mhd.Gen.Auth.paramNames, (nameAt u).map toLowerB ≠ kn := by
  rw [findName_eq _ paramNames_noDelim, nameAt_append _ _ hr, Option.map_eq_none_iff, List.findIdx?_eq_none_iff]
  exact forall_congr' fun kn => forall_congr' fun hkn => by rw [paramNames_lower kn hkn]; simp

end Mhd.Auth
