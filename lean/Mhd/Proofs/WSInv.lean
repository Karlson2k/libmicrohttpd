/-
  C19: the representation invariant `Inv` of the decoder state, the header part of the state
  machine and decode_header_complete in closed form (an if-tree over the state with the byte
  stored), and for each of them "no fault, invariant kept, progress made" (`R.OK`, `R.HC`).
-/
import Mhd.Proofs.WSBase
import Mhd.Proofs.Lists
namespace Mhd.WS

def OkOp (b : UInt8) : Prop :=
  (opcodeOf b = 0 ∨ opcodeOf b = 1 ∨ opcodeOf b = 2 ∨ opcodeOf b = 8 ∨ opcodeOf b = 9 ∨ opcodeOf b = 10) ∧
  (8 ≤ opcodeOf b → finBit b = true)

/-- representation invariant of the decoder state (code after F7/F7c) -/
structure Inv (ws : WS) : Prop where
  allocLt : ws.allocLimit < 2 ^ 63
  hdrLen : ws.hdr.length = 32
  stepOk : ws.step ≤ 18 ∨ ws.step = 99
  hsU : ws.hdrSize ≤ 16
  hsS : ws.step ≤ 15 → ws.hdrSize ≤ ws.step
  hsL : 12 ≤ ws.step → ws.step ≤ 15 → ws.step ≤ ws.hdrSize + 10
  hs1 : 1 ≤ ws.step → ws.step ≤ 15 → 1 ≤ ws.hdrSize
  h0 : 1 ≤ ws.step → ws.step ≤ 18 → ∃ b, ws.hdr[0]? = some b ∧ OkOp b
  h0c : ws.step = 18 → ∀ b, ws.hdr[0]? = some b → 8 ≤ opcodeOf b
  h0n : 1 ≤ ws.step → ws.step ≤ 16 → ∀ b, ws.hdr[0]? = some b → (opcodeOf b = 1 ∨ opcodeOf b = 2) → ws.dataType = 0
  psz : ws.payloadSize < 2 ^ 63
  idx : ws.payloadIndex ≤ ws.payloadSize
  idx0 : ws.step ≤ 16 → ws.payloadIndex = 0
  dsz : ws.dataSize < 2 ^ 63
  dbuf : match ws.dataBuf with
         | none => ws.dataSize = 0
         | some b => b.length = ws.dataSize + 1
  dst : ws.step = 17 → ws.dataStart + ws.payloadSize = ws.dataSize
  cbuf : ws.step = 18 → match ws.ctrlBuf with
         | none => ws.payloadSize = 0
         | some b => b.length = ws.payloadSize + 1
  u8a : ws.dataType ≠ 1 → ws.dataUtf8 = 0
  u8b : ws.dataUtf8 ≤ 10
  carry : ws.dataType = 1 →
    givenUtf8 ws.dataUtf8 ≤ (if ws.step = 17 then ws.dataStart + ws.payloadIndex else ws.dataSize)

def R.Good (P : WS → Prop) : R → Prop
  | .cont ws _ => P ws
  | .ret ws _ _ _ _ => P ws
  | .fault _ => False

theorem Inv.rng {ws : WS} (h : Inv ws) (r : List UInt8) : Inv { ws with rng := r } := by
  cases h; constructor <;> assumption

theorem Inv.same {a b : WS} (h : Inv a) (s : SameButRng a b) : Inv b := by
  obtain ⟨r, rfl⟩ := s; exact h.rng r

theorem Inv.validity {ws : WS} (h : Inv ws) (v : Nat) : Inv { ws with validity := v } := by
  cases h; constructor <;> assumption

theorem errRet_good {ws : WS} (h : Inv ws) (code : Nat) (st : Int) (adv : Nat) :
    (errRet ws code st adv).Good Inv := by
  unfold errRet
  exact (h.validity 0).same (genClose_ws _ _)

/-- a payload handed to the application: `NULL` with length 0, or an allocation that
    contains the payload and its terminator byte -/
def PlOK (pl : Option (List UInt8)) (plen : Nat) : Prop :=
  match pl with
  | none => plen = 0
  | some b => plen < b.length

theorem encodeFrame_plok (ws : WS) (b0 : UInt8) (n : Nat) (body : List UInt8 → List UInt8) :
    PlOK (encodeFrame ws b0 n body).frame (encodeFrame ws b0 n body).len := by
  unfold encodeFrame
  dsimp only
  split
  · rfl
  · split
    · rename_i hlen
      show _ < (_ ++ [0]).length
      simp only [List.length_append, List.length_cons, List.length_nil]
      omega
    · rfl

theorem genClose_plok (ws : WS) (c : Nat) : PlOK (genClose ws c).2.1 (genClose ws c).2.2 := by
  unfold genClose
  split
  · rw [encodeClose_nil]
    split
    · rfl
    · exact encodeFrame_plok _ _ _ _
  · rfl

/-- number of loop trips that can follow without consuming input -/
def sil (ws : WS) : Nat :=
  if ws.step = 16 then 2
  else if (ws.step = 17 ∨ ws.step = 18) ∧ ws.payloadSize = ws.payloadIndex then 1 else 0

theorem sil_le (ws : WS) : sil ws ≤ 2 := by unfold sil; split <;> (try split) <;> omega

theorem sil_of_step0 {ws : WS} (h : ws.step = 0) : sil ws = 0 := by
  unfold sil; rw [if_neg (by omega), if_neg (by omega)]

/-- a loop trip on `n` remaining bytes is fine: no fault, invariant kept, progress made,
    never more consumed than offered -/
def R.OK (ws : WS) (n : Nat) : R → Prop
  | .cont ws' k => Inv ws' ∧ ws'.validity ≠ 0 ∧ k ≤ n ∧ 3 * (n - k) + sil ws' < 3 * n + sil ws
  | .ret ws' st k pl plen => (ws'.validity ≠ 0 → Inv ws') ∧ k ≤ n ∧ PlOK pl plen ∧
      (0 ≤ st → sil ws' = 0 ∧ ws'.validity ≠ 0 ∧ (sil ws = 0 → 1 ≤ k))
  | .fault _ => False

theorem OK_cont1 {ws ws' : WS} {n : Nat} (h : Inv ws') (hv : ws'.validity ≠ 0) (hn : 1 ≤ n) :
    R.OK ws n (.cont ws' 1) := by
  refine ⟨h, hv, hn, ?_⟩
  have := sil_le ws'; omega

theorem OK_err {ws : WS} (ws' : WS) {n : Nat} (code : Nat) (st : Int) (adv : Nat) (ha : adv ≤ n)
    (hst : st < 0 := by omega) : R.OK ws n (errRet ws' code st adv) := by
  unfold errRet
  refine ⟨fun hv => absurd ?_ hv, ha, genClose_plok _ _, fun h => by omega⟩
  rw [genClose_validity]

/-- the state after `frame_header[frame_header_size++] = b` -/
def pushed (ws : WS) (b : UInt8) : WS := { ws with hdr := ws.hdr.set ws.hdrSize b, hdrSize := ws.hdrSize + 1 }

theorem pushHdr_eq (ws : WS) (b : UInt8) :
    pushHdr ws b = if ws.hdrSize < ws.hdr.length then some (pushed ws b) else none := rfl

theorem Inv.push_lt {ws : WS} (h : Inv ws) : ws.hdrSize < ws.hdr.length := by
  have := h.hsU; have := h.hdrLen; omega

theorem pushHdr_some {ws : WS} (h : Inv ws) (b : UInt8) : pushHdr ws b = some (pushed ws b) := by
  rw [pushHdr_eq, if_pos h.push_lt]

theorem start_push_inv {ws : WS} (h : Inv ws) (hs : ws.step = 0) (b : UInt8) (hb : OkOp b)
    (hn : (opcodeOf b = 1 ∨ opcodeOf b = 2) → ws.dataType = 0) :
    Inv { ws with hdr := ws.hdr.set ws.hdrSize b, hdrSize := ws.hdrSize + 1, step := 1 } := by
  have hz : ws.hdrSize = 0 := by have := h.hsS (by omega); omega
  have hl := h.hdrLen
  have hget : (ws.hdr.set ws.hdrSize b)[0]? = some b := by
    rw [hz]; exact List.getElem?_set_self (by omega)
  have hi0 := h.idx0 (by omega)
  have hc := h.carry
  simp only [hs] at hc
  exact { h with
    hdrLen := by simp only [List.length_set]; exact hl
    stepOk := by simp
    hsU := by simp only []; omega
    hsS := by intro _; simp only []; omega
    hsL := by intro h1 h2; simp only [] at h1 h2; omega
    hs1 := by intro _ _; simp only []; omega
    h0 := fun _ _ => ⟨b, hget, hb⟩
    h0c := by intro h1; simp only [] at h1; omega
    h0n := by intro _ _ b' hb'; rw [hget] at hb'; injection hb' with hb'; subst hb'; exact hn
    idx0 := fun _ => hi0
    dst := by intro h1; simp only [] at h1; omega
    cbuf := by intro h1; simp only [] at h1; omega
    carry := by intro hd; have := hc hd; simpa using this }

theorem push_inv {ws : WS} (h : Inv ws) (h1 : 1 ≤ ws.step) (h15 : ws.step ≤ 15) (b : UInt8) (s' psz : Nat)
    (mk : List UInt8) (hsa : ws.hdrSize + 1 ≤ s') (hsb : s' ≤ 16)
    (hL : 12 ≤ s' → s' ≤ 15 → s' ≤ ws.hdrSize + 11) (hp : psz < 2 ^ 63) :
    Inv { ws with hdr := ws.hdr.set ws.hdrSize b, hdrSize := ws.hdrSize + 1, step := s', payloadSize := psz,
                  maskKey := mk } := by
  have hl := h.hdrLen
  have hi0 := h.idx0 (by omega)
  have hss := h.hsS h15
  have hs1 := h.hs1 h1 h15
  have hg : (ws.hdr.set ws.hdrSize b)[0]? = ws.hdr[0]? := List.getElem?_set_ne (by omega)
  have hc := h.carry
  have h17 : ¬ ws.step = 17 := by omega
  simp only [h17, if_false] at hc
  exact { h with
    hdrLen := by simp only [List.length_set]; exact hl
    stepOk := by simp only []; omega
    hsU := by simp only []; omega
    hsS := by intro _; simp only []; omega
    hsL := by intro h1 h2; simp only [] at h1 h2 ⊢; omega
    hs1 := by intro _ _; simp only []; omega
    h0 := by intro _ _; simp only [hg]; exact h.h0 h1 (by omega)
    h0c := by intro h1; simp only [] at h1; omega
    h0n := by intro _ _; simp only [hg]; exact h.h0n h1 (by omega)
    psz := hp
    idx := by simp only [hi0]; omega
    idx0 := fun _ => hi0
    dst := by intro h1; simp only [] at h1; omega
    cbuf := by intro h1; simp only [] at h1; omega
    carry := by
      intro hd; have := hc hd
      have h17' : ¬ s' = 17 := by omega
      simp only [h17', if_false]; exact this }

theorem OK_store {ws : WS} (h : Inv ws) (hv : ws.validity ≠ 0) (h1 : 1 ≤ ws.step) (h15 : ws.step ≤ 15)
    (b : UInt8) (s' : Nat) (mk : List UInt8) (hsa : ws.hdrSize + 1 ≤ s') (hsb : s' ≤ 16)
    (hL : 12 ≤ s' → s' ≤ 15 → s' ≤ ws.hdrSize + 11) {n : Nat} (hn : 1 ≤ n) :
    R.OK ws n (.cont { pushed ws b with step := s', maskKey := mk } 1) :=
  OK_cont1 (push_inv h h1 h15 b s' ws.payloadSize mk hsa hsb hL h.psz) hv hn

/-- the first byte of a frame is refused: a reserved bit, a continuation frame without a message
    under assembly, a new message inside one, a data frame after a close frame, a control frame
    without FIN, an unknown opcode (RFC 6455 5.2, 5.4, 5.5) -/
def StartBad (ws : WS) (b : UInt8) : Prop :=
  rsvBits b ≠ 0 ∨
  (opcodeOf b = 0 ∧ (ws.dataType = 0 ∨ ws.validity = 2)) ∨
  ((opcodeOf b = 1 ∨ opcodeOf b = 2) ∧ (ws.dataType ≠ 0 ∨ ws.validity = 2)) ∨
  ((opcodeOf b = 8 ∨ opcodeOf b = 9 ∨ opcodeOf b = 10) ∧ finBit b = false) ∨
  (opcodeOf b ≠ 0 ∧ opcodeOf b ≠ 1 ∧ opcodeOf b ≠ 2 ∧ opcodeOf b ≠ 8 ∧ opcodeOf b ≠ 9 ∧ opcodeOf b ≠ 10)

instance (ws : WS) (b : UInt8) : Decidable (StartBad ws b) := by unfold StartBad; exact inferInstance

theorem not_startBad_of {ws : WS} {b : UInt8} (hr : rsvBits b = 0)
    (hop : (opcodeOf b = 0 ∧ ws.dataType ≠ 0 ∧ ws.validity ≠ 2) ∨
           ((opcodeOf b = 1 ∨ opcodeOf b = 2) ∧ ws.dataType = 0 ∧ ws.validity ≠ 2) ∨
           ((opcodeOf b = 8 ∨ opcodeOf b = 9 ∨ opcodeOf b = 10) ∧ finBit b = true)) : ¬ StartBad ws b := by
  unfold StartBad
  generalize opcodeOf b = o at hop ⊢
  rcases hop with ⟨rfl, hd, h2⟩ | ⟨rfl | rfl, hd, h2⟩ | ⟨rfl | rfl | rfl, hf⟩ <;> simp [*]

/-- `case MHD_WebSocket_DecodeStep_Start` once the byte is accepted -/
def startGood (ws : WS) (b : UInt8) : R :=
  match pushHdr ws b with
  | none => .fault "frame_header"
  | some ws' => .cont { ws' with step := 1 } 1

theorem stepStart_eq (ws : WS) (b : UInt8) :
    stepStart ws b =
      if ws.validity ≠ 0 ∧ StartBad ws b then errRet ws 1002 (-1) 0
      else startGood (if ws.validity ≠ 0 ∧ opcodeOf b = 8 then { ws with validity := 2 } else ws) b := by
  have hop : opcodeOf b = 0 ∨ opcodeOf b = 1 ∨ opcodeOf b = 2 ∨ opcodeOf b = 8 ∨ opcodeOf b = 9 ∨ opcodeOf b = 10 ∨
      (opcodeOf b ≠ 0 ∧ opcodeOf b ≠ 1 ∧ opcodeOf b ≠ 2 ∧ opcodeOf b ≠ 8 ∧ opcodeOf b ≠ 9 ∧ opcodeOf b ≠ 10) := by
    omega
  unfold stepStart StartBad
  by_cases hv : ws.validity ≠ 0
  · by_cases hr : rsvBits b ≠ 0
    · simp only [hv, hr, ne_eq, not_false_eq_true, true_or, and_self, if_true]
    · rcases hop with h | h | h | h | h | h | h
      all_goals simp [hv, hr, h, ite_or]
      all_goals rfl
  · simp only [hv, false_and, if_false]
    rfl

theorem not_startBad {ws : WS} {b : UInt8} (h : ¬ StartBad ws b) :
    OkOp b ∧ ((opcodeOf b = 1 ∨ opcodeOf b = 2) → ws.dataType = 0) := by
  unfold StartBad at h
  unfold OkOp
  cases hf : finBit b <;> simp only [hf, and_true, Bool.false_eq_true, implies_true] at h ⊢ <;> omega

theorem startGood_ok {ws ws0 : WS} (h : Inv ws) (hv : ws.validity ≠ 0) (hs : ws.step = 0) {b : UInt8} (hb : OkOp b)
    (hd : (opcodeOf b = 1 ∨ opcodeOf b = 2) → ws.dataType = 0) {n : Nat} (hn : 1 ≤ n) :
    R.OK ws0 n (startGood ws b) := by
  unfold startGood
  rw [pushHdr_some h]
  exact OK_cont1 (start_push_inv h hs b hb hd) hv hn

theorem stepStart_ok {ws : WS} (h : Inv ws) (hv : ws.validity ≠ 0) (hs : ws.step = 0) (b : UInt8) {n : Nat}
    (hn : 1 ≤ n) : R.OK ws n (stepStart ws b) := by
  rw [stepStart_eq]
  refine iteInduction (fun _ => OK_err _ _ _ _ (by omega)) (fun hb => ?_)
  obtain ⟨hok, hd⟩ := not_startBad (fun hb' => hb ⟨hv, hb'⟩)
  exact iteInduction (motive := fun w => R.OK ws n (startGood w b)) (fun _ => startGood_ok (h.validity 2) (by simp) hs hok hd hn)
    (fun _ => startGood_ok h hv hs hok hd hn)

theorem afterLength_inv {ws : WS} (h : Inv ws) (h1 : 1 ≤ ws.step) (h11 : ws.step ≤ 11) (b : UInt8)
    (size : Nat) (hsz : size < 2 ^ 63) (masked : Bool) : Inv (afterLength (pushed ws b) size masked) := by
  have hss := h.hsS (by omega)
  have hs1 := h.hs1 h1 (by omega)
  unfold afterLength
  split
  · exact push_inv h h1 (by omega) b 12 size ws.maskKey (by omega) (by omega) (by omega) hsz
  · exact push_inv h h1 (by omega) b 16 size [0, 0, 0, 0] (by omega) (by omega) (by omega) hsz

theorem afterLength_validity (ws : WS) (size : Nat) (masked : Bool) :
    (afterLength ws size masked).validity = ws.validity := by
  unfold afterLength; split <;> rfl

/-- the common tail of `stepLen1`, `stepLen2of2` and `stepLen8of8` once the payload length is known -/
def sizeKnown (ws1 : WS) (size : Nat) (masked : Bool) : R :=
  if ws1.maxPayload ≠ 0 ∧ ws1.maxPayload < size then errRet ws1 1009 (-5) 1
  else .cont (afterLength ws1 size masked) 1

theorem sizeKnown_over {ws1 : WS} {size : Nat} {masked : Bool} (h : ws1.maxPayload ≠ 0 ∧ ws1.maxPayload < size) :
    sizeKnown ws1 size masked = errRet ws1 1009 (-5) 1 :=
  if_pos h

theorem sizeKnown_ok {ws : WS} (h : Inv ws) (hv : ws.validity ≠ 0) (h1 : 1 ≤ ws.step) (h11 : ws.step ≤ 11)
    (b : UInt8) (size : Nat) (hsz : size < 2 ^ 63) (masked : Bool) {n : Nat} (hn : 1 ≤ n) :
    R.OK ws n (sizeKnown (pushed ws b) size masked) :=
  iteInduction (fun _ => OK_err _ _ _ _ hn)
    (fun _ => OK_cont1 (afterLength_inv h h1 h11 b size hsz masked) (by rw [afterLength_validity]; exact hv) hn)

/-- the second header byte is refused: MASK bit wrong for the role, a control frame with a 16/64-bit
    length, a close frame with one payload byte (RFC 6455 5.1, 5.5, 5.5.1) -/
def Len1Bad (ws : WS) (h0 b : UInt8) : Prop :=
  finBit b = ws.isClient ∨ (126 ≤ len7 b ∧ ctlBit h0 = true) ∨ (len7 b = 1 ∧ opcodeOf h0 = 8)

instance (ws : WS) (h0 b : UInt8) : Decidable (Len1Bad ws h0 b) := by unfold Len1Bad; exact inferInstance

theorem not_len1Bad_of {ws : WS} {h0 b : UInt8} (hm : finBit b = !ws.isClient)
    (hc : ¬ (126 ≤ len7 b ∧ ctlBit h0 = true)) (h1 : ¬ (len7 b = 1 ∧ opcodeOf h0 = 8)) : ¬ Len1Bad ws h0 b := by
  unfold Len1Bad
  rw [hm]
  cases ws.isClient <;> simp [hc, h1]

theorem stepLen1_eq {ws : WS} {h0 : UInt8} (hh : ws.hdr[0]? = some h0) (b : UInt8) :
    stepLen1 ws b =
      if ws.validity ≠ 0 ∧ Len1Bad ws h0 b then errRet ws 1002 (-1) 0
      else if ws.hdrSize < ws.hdr.length then
        if len7 b = 126 then .cont { pushed ws b with step := 2 } 1
        else if len7 b = 127 then .cont { pushed ws b with step := 4 } 1
        else sizeKnown (pushed ws b) (len7 b) (finBit b)
      else .fault "frame_header" := by
  have hbad : (ws.validity ≠ 0 ∧ ((finBit b = true ∧ ws.isClient = true) ∨ (¬ finBit b = true ∧ ¬ ws.isClient = true) ∨
      (126 ≤ len7 b ∧ ctlBit h0 = true) ∨ (len7 b = 1 ∧ opcodeOf h0 = 8))) ↔ (ws.validity ≠ 0 ∧ Len1Bad ws h0 b) := by
    unfold Len1Bad
    cases finBit b <;> cases ws.isClient <;> simp
  unfold stepLen1 sizeKnown
  simp only [hh, decide_eq_true_eq, hbad, pushHdr_eq]
  congr 1
  by_cases hl : ws.hdrSize < ws.hdr.length
  · rw [if_pos hl, if_pos hl]
  · rw [if_neg hl, if_neg hl]

theorem stepLen1_ok {ws : WS} (h : Inv ws) (hv : ws.validity ≠ 0) (hs : ws.step = 1) (b : UInt8) {n : Nat}
    (hn : 1 ≤ n) : R.OK ws n (stepLen1 ws b) := by
  obtain ⟨h0, hh0, _⟩ := h.h0 (by omega) (by omega)
  have hss := h.hsS (by omega)
  have hl7 : len7 b < 128 := by unfold len7; omega
  rw [stepLen1_eq hh0, if_pos h.push_lt]
  refine iteInduction (fun _ => OK_err _ _ _ _ (by omega)) (fun _ => iteInduction (fun _ => ?_) (fun _ => iteInduction (fun _ => ?_) (fun _ => ?_)))
  · exact OK_store h hv (by omega) (by omega) b 2 ws.maskKey (by omega) (by omega) (by omega) hn
  · exact OK_store h hv (by omega) (by omega) b 4 ws.maskKey (by omega) (by omega) (by omega) hn
  · exact sizeKnown_ok h hv (by omega) (by omega) b _ (by omega) _ hn

theorem stepStore_eq (ws : WS) (b : UInt8) :
    stepStore ws b =
      if ws.hdrSize < ws.hdr.length then .cont { pushed ws b with step := ws.step + 1 } 1
      else .fault "frame_header" := by
  unfold stepStore
  rw [pushHdr_eq]
  by_cases hl : ws.hdrSize < ws.hdr.length
  · rw [if_pos hl, if_pos hl]; rfl
  · rw [if_neg hl, if_neg hl]

theorem stepStore_ok {ws : WS} (h : Inv ws) (hv : ws.validity ≠ 0)
    (hs : ws.step = 2 ∨ (4 ≤ ws.step ∧ ws.step ≤ 10) ∨ (12 ≤ ws.step ∧ ws.step ≤ 14)) (b : UInt8) {n : Nat}
    (hn : 1 ≤ n) : R.OK ws n (stepStore ws b) := by
  have hss := h.hsS (by omega)
  have hsl := h.hsL
  rw [stepStore_eq, if_pos h.push_lt]
  exact OK_store h hv (by omega) (by omega) b (ws.step + 1) ws.maskKey (by omega) (by omega) (by omega) hn

/-- the extended payload length field (`k` = 2 or 8 bytes at `frame_header[2]`) once `b` is stored -/
def lenField (ws : WS) (b : UInt8) (k : Nat) : Nat := beVal (((pushed ws b).hdr.drop 2).take k)

theorem lenField_lt {ws : WS} (h : Inv ws) (b : UInt8) (k : Nat) (hk : 2 + k ≤ 32) : lenField ws b k < 256 ^ k := by
  have hl : (((pushed ws b).hdr.drop 2).take k).length = k := by
    show ((ws.hdr.set ws.hdrSize b).drop 2 |>.take k).length = k
    rw [List.length_take, List.length_drop, List.length_set, h.hdrLen]; omega
  have := beVal_lt (((pushed ws b).hdr.drop 2).take k)
  rwa [hl] at this

/-- `frame_header[1]`, which holds the MASK bit, once `b` is stored -/
def hdr1 (ws : WS) (b : UInt8) : UInt8 := (pushed ws b).hdr.getD 1 0

theorem pushed_hdr_length (ws : WS) (b : UInt8) : (pushed ws b).hdr.length = ws.hdr.length := List.length_set

theorem hdrBytes_pushed (ws : WS) (b : UInt8) (off k : Nat) :
    hdrBytes (pushed ws b) off k =
      if off + k ≤ ws.hdr.length then some (((pushed ws b).hdr.drop off).take k) else none := by
  unfold hdrBytes; rw [pushed_hdr_length]

theorem pushed_get1 {ws : WS} (b : UInt8) (h : 2 ≤ ws.hdr.length) : (pushed ws b).hdr[1]? = some (hdr1 ws b) := by
  unfold hdr1
  rw [List.getD_eq_getElem?_getD, List.getElem?_eq_getElem (by rw [pushed_hdr_length]; omega)]
  rfl

theorem stepLen2of2_eq (ws : WS) (b : UInt8) :
    stepLen2of2 ws b =
      if ws.hdrSize < ws.hdr.length ∧ 2 + 2 ≤ ws.hdr.length then
        if lenField ws b 2 ≤ 125 then errRet (pushed ws b) 1002 (-1) 1
        else sizeKnown (pushed ws b) (lenField ws b 2) (finBit (hdr1 ws b))
      else .fault "frame_header" := by
  unfold stepLen2of2
  rw [pushHdr_eq]
  by_cases hl : ws.hdrSize < ws.hdr.length
  · rw [if_pos hl]
    by_cases h4 : 2 + 2 ≤ ws.hdr.length
    · simp only [hdrBytes_pushed, if_pos h4, pushed_get1 b (show 2 ≤ ws.hdr.length by omega), if_pos (And.intro hl h4)]
      rfl
    · simp only [hdrBytes_pushed, if_neg h4, if_neg (fun c : _ ∧ _ => h4 c.2)]
  · rw [if_neg hl, if_neg (fun c => hl c.1)]

theorem stepLen8of8_eq (ws : WS) (b : UInt8) :
    stepLen8of8 ws b =
      if ws.hdrSize < ws.hdr.length ∧ 2 + 8 ≤ ws.hdr.length then
        if 0x7fffffffffffffff < lenField ws b 8 then errRet { pushed ws b with step := 99 } 1002 (-1) 1
        else if lenField ws b 8 ≤ 65535 then errRet (pushed ws b) 1002 (-1) 1
        else sizeKnown (pushed ws b) (lenField ws b 8) (finBit (hdr1 ws b))
      else .fault "frame_header" := by
  unfold stepLen8of8
  rw [pushHdr_eq]
  by_cases hl : ws.hdrSize < ws.hdr.length
  · rw [if_pos hl]
    by_cases h4 : 2 + 8 ≤ ws.hdr.length
    · simp only [hdrBytes_pushed, if_pos h4, pushed_get1 b (show 2 ≤ ws.hdr.length by omega), if_pos (And.intro hl h4)]
      rfl
    · simp only [hdrBytes_pushed, if_neg h4, if_neg (fun c : _ ∧ _ => h4 c.2)]
  · rw [if_neg hl, if_neg (fun c => hl c.1)]

theorem Inv.push_ext {ws : WS} (h : Inv ws) (k : Nat) (hk : k ≤ 8) : ws.hdrSize < ws.hdr.length ∧ 2 + k ≤ ws.hdr.length := by
  have := h.hsU; have := h.hdrLen; omega

theorem stepLen2of2_ok {ws : WS} (h : Inv ws) (hv : ws.validity ≠ 0) (hs : ws.step = 3) (b : UInt8) {n : Nat}
    (hn : 1 ≤ n) : R.OK ws n (stepLen2of2 ws b) := by
  have hlt := lenField_lt h b 2 (by omega)
  rw [stepLen2of2_eq, if_pos (h.push_ext 2 (by omega))]
  exact iteInduction (fun _ => OK_err _ _ _ _ hn) (fun _ => sizeKnown_ok h hv (by omega) (by omega) b _ (by omega) _ hn)

theorem stepLen8of8_ok {ws : WS} (h : Inv ws) (hv : ws.validity ≠ 0) (hs : ws.step = 11) (b : UInt8) {n : Nat}
    (hn : 1 ≤ n) : R.OK ws n (stepLen8of8 ws b) := by
  rw [stepLen8of8_eq, if_pos (h.push_ext 8 (by omega))]
  exact iteInduction (fun _ => OK_err _ _ _ _ hn) (fun _ => iteInduction (fun _ => OK_err _ _ _ _ hn)
    (fun _ => sizeKnown_ok h hv (by omega) (by omega) b _ (by omega) _ hn))

theorem stepMask4_ok {ws : WS} (h : Inv ws) (hv : ws.validity ≠ 0) (hs : ws.step = 15) (b : UInt8) {n : Nat}
    (hn : 1 ≤ n) : R.OK ws n (stepMask4 ws b) := by
  have hss := h.hsS (by omega)
  have hsl := h.hsL (by omega) (by omega)
  unfold stepMask4
  rw [pushHdr_some h]
  dsimp only
  rw [if_neg (show ¬ (pushed ws b).hdrSize < 4 by show ¬ ws.hdrSize + 1 < 4; omega), hdrBytes_pushed,
    if_pos (show (pushed ws b).hdrSize - 4 + 4 ≤ ws.hdr.length by rw [h.hdrLen]; show ws.hdrSize + 1 - 4 + 4 ≤ 32; omega)]
  exact OK_store h hv (by omega) (by omega) b 16 _ (by omega) (by omega) (by omega) hn

/-- outcome of `decode_header_complete` / `decode_payload_complete` from a good state -/
def R.HC (P : WS → Prop) : R → Prop
  | .cont ws' _ => Inv ws' ∧ ws'.validity ≠ 0 ∧ P ws'
  | .ret ws' st k pl plen => (ws'.validity ≠ 0 → Inv ws') ∧ k = 0 ∧ PlOK pl plen ∧
      (0 ≤ st → ws'.step = 0 ∧ ws'.validity ≠ 0)
  | .fault _ => False

theorem HC_err (P : WS → Prop) (ws' : WS) (code : Nat) (st : Int) (hst : st < 0 := by omega) :
    R.HC P (errRet ws' code st 0) := by
  unfold errRet
  refine ⟨fun hv => absurd ?_ hv, rfl, genClose_plok _ _, fun h => by omega⟩
  rw [genClose_validity]

theorem HC_oom (P : WS → Prop) {ws : WS} (h : Inv ws) : R.HC P (.ret ws (-3) 0 none 0) :=
  ⟨fun _ => h, rfl, rfl, fun h => by omega⟩

theorem W_eq : W = 18446744073709551616 := by unfold W; rfl

/-- the allocator returned `a` for the `n + 1` bytes of a payload of `n ≠ 0` bytes: out of memory,
    or terminate the buffer and go on with it; an empty payload gets no buffer -/
def withBuf (a : Option (List UInt8)) (n : Nat) (oom : R) (ks : List UInt8 → R) (kn : R) : R :=
  if n ≠ 0 then
    match a with
    | none => oom
    | some nb =>
      match termAt nb n with
      | none => .fault "new_buf[new_size_total]"
      | some nb' => ks nb'
  else kn

theorem withBuf_of {Q : R → Prop} {a : Option (List UInt8)} {n : Nat} {oom : R} {ks : List UInt8 → R} {kn : R}
    (ha : ∀ nb, a = some nb → nb.length = n + 1) (ho : Q oom)
    (hs : ∀ nb nb', a = some nb → nb'.length = n + 1 → Q (ks nb')) (hn : n = 0 → Q kn) :
    Q (withBuf a n oom ks kn) := by
  unfold withBuf
  refine iteInduction (fun _ => ?_) (fun h0 => hn (by omega))
  cases a with
  | none => exact ho
  | some nb =>
    have hl := ha nb rfl
    obtain ⟨nb', hnb'⟩ := termAt_some nb n (by omega)
    simp only [hnb']
    exact hs nb nb' rfl (by rw [termAt_length _ _ _ hnb']; exact hl)

theorem headerComplete_of_cont (lg : Bool) {ws : WS} {h0 : UInt8} (hh : ws.hdr[0]? = some h0) (hop : opcodeOf h0 = 0) :
    headerComplete lg ws =
      if ws.maxPayload ≠ 0 ∧ ws.maxPayload < (ws.payloadSize + ws.dataSize) % W then
        errRet { ws with step := 99 } 1009 (-5) 0
      else withBuf (realloc ws ws.dataBuf (((ws.payloadSize + ws.dataSize) % W + 1) % W)) ((ws.payloadSize + ws.dataSize) % W)
        (.ret ws (-3) 0 none 0)
        (fun nb' => .cont { ws with dataBuf := some nb', dataStart := ws.dataSize,
                                    dataSize := (ws.payloadSize + ws.dataSize) % W, step := 17 } 0)
        (.cont { ws with dataBuf := none, dataStart := 0, dataSize := (ws.payloadSize + ws.dataSize) % W, step := 17 } 0) := by
  unfold headerComplete
  simp only [hh, hop]
  rfl

theorem headerComplete_of_data (lg : Bool) {ws : WS} {h0 : UInt8} (hh : ws.hdr[0]? = some h0)
    (hop : opcodeOf h0 = 1 ∨ opcodeOf h0 = 2) :
    headerComplete lg ws =
      withBuf (alloc ws ((ws.payloadSize + 1) % W)) ws.payloadSize (.ret ws (-3) 0 none 0)
        (fun nb' => .cont { ws with dataBuf := some nb', dataStart := 0, dataSize := ws.payloadSize,
                                    dataType := opcodeOf h0, step := 17 } 0)
        (.cont { ws with dataBuf := none, dataStart := 0, dataSize := ws.payloadSize, dataType := opcodeOf h0,
                         step := 17 } 0) := by
  unfold headerComplete
  rcases hop with hop | hop <;> simp only [hh, hop] <;> rfl

theorem headerComplete_of_ctrl (lg : Bool) {ws : WS} {h0 : UInt8} (hh : ws.hdr[0]? = some h0)
    (hop : opcodeOf h0 = 8 ∨ opcodeOf h0 = 9 ∨ opcodeOf h0 = 10) :
    headerComplete lg ws =
      withBuf (alloc ws ((ws.payloadSize + 1) % W)) ws.payloadSize (.ret ws (-3) 0 none 0)
        (fun nb' => .cont { ws with ctrlBuf := some nb', ctrlUtf8 := if lg then ws.ctrlUtf8 else 0, step := 18 } 0)
        (.cont { ws with ctrlBuf := none, ctrlUtf8 := if lg then ws.ctrlUtf8 else 0, step := 18 } 0) := by
  unfold headerComplete
  rcases hop with hop | hop | hop <;> simp only [hh, hop] <;> rfl

theorem Inv.toData {ws : WS} (h : Inv ws) (hs : ws.step = 16) (buf : Option (List UInt8))
    (dstart dsize dtype : Nat)
    (hb : match buf with
          | none => dsize = 0
          | some b => b.length = dsize + 1)
    (hd : dstart + ws.payloadSize = dsize) (hds : dsize < 2 ^ 63)
    (hu : dtype ≠ 1 → ws.dataUtf8 = 0) (hc : dtype = 1 → givenUtf8 ws.dataUtf8 ≤ dstart) :
    Inv { ws with dataBuf := buf, dataStart := dstart, dataSize := dsize, dataType := dtype, step := 17 } := by
  have hi0 := h.idx0 (by omega)
  exact { h with
    stepOk := by simp
    hsS := by intro h1; simp only [] at h1; omega
    hsL := by intro h1 h2; simp only [] at h1 h2; omega
    hs1 := by intro h1 h2; simp only [] at h1 h2; omega
    h0 := fun _ _ => h.h0 (by omega) (by omega)
    h0c := by intro h1; simp only [] at h1; omega
    h0n := by intro h1 h2; simp only [] at h1 h2; omega
    idx := by simp only [hi0]; omega
    idx0 := by intro h1; simp only [] at h1; omega
    dsz := hds
    dbuf := hb
    dst := fun _ => hd
    cbuf := by intro h1; simp only [] at h1; omega
    u8a := hu
    carry := by intro hd; have := hc hd; simp only [if_true, hi0]; omega }

theorem Inv.toCtrl {ws : WS} (h : Inv ws) (hs : ws.step = 16) (buf : Option (List UInt8)) (cu : Nat)
    (hb : match buf with
          | none => ws.payloadSize = 0
          | some b => b.length = ws.payloadSize + 1)
    (hop : ∀ b, ws.hdr[0]? = some b → 8 ≤ opcodeOf b) :
    Inv { ws with ctrlBuf := buf, ctrlUtf8 := cu, step := 18 } := by
  have hi0 := h.idx0 (by omega)
  have hc := h.carry
  have h17 : ¬ ws.step = 17 := by omega
  simp only [h17, if_false] at hc
  exact { h with
    stepOk := by simp
    hsS := by intro h1; simp only [] at h1; omega
    hsL := by intro h1 h2; simp only [] at h1 h2; omega
    hs1 := by intro h1 h2; simp only [] at h1 h2; omega
    h0 := fun _ _ => h.h0 (by omega) (by omega)
    h0c := fun _ => hop
    h0n := by intro h1 h2; simp only [] at h1 h2; omega
    idx := by simp only [hi0]; omega
    idx0 := by intro h1; simp only [] at h1; omega
    dst := by intro h1; simp only [] at h1; omega
    cbuf := fun _ => hb
    carry := by intro hd; have := hc hd; simpa using this }

theorem Inv.toStart {ws : WS} (h : Inv ws) (dbuf : Option (List UInt8)) (cbuf : Option (List UInt8))
    (dstart dsize dtype : Nat)
    (hb : match dbuf with
          | none => dsize = 0
          | some b => b.length = dsize + 1)
    (hds : dsize < 2 ^ 63)
    (hu : dtype ≠ 1 → ws.dataUtf8 = 0) (hc : dtype = 1 → givenUtf8 ws.dataUtf8 ≤ dsize) :
    Inv { ws with dataBuf := dbuf, ctrlBuf := cbuf, dataStart := dstart, dataSize := dsize, dataType := dtype,
                  step := 0, payloadIndex := 0, hdrSize := 0 } := by
  exact { h with
    stepOk := by simp
    hsU := by simp
    hsS := by intro _; simp
    hsL := by intro h1 h2; simp only [] at h1 h2; omega
    hs1 := by intro h1 h2; simp only [] at h1 h2; omega
    h0 := by intro h1 h2; simp only [] at h1 h2; omega
    h0c := by intro h1; simp only [] at h1; omega
    h0n := by intro h1 h2; simp only [] at h1 h2; omega
    idx := by simp
    idx0 := fun _ => rfl
    dsz := hds
    dbuf := hb
    dst := by intro h1; simp only [] at h1; omega
    cbuf := by intro h1; simp only [] at h1; omega
    u8a := hu
    carry := by intro hd; have := hc hd; simpa using this }

theorem headerComplete_ok {ws : WS} (h : Inv ws) (hv : ws.validity ≠ 0) (hs : ws.step = 16) :
    R.HC (fun ws' => ws'.step = 17 ∨ ws'.step = 18) (headerComplete false ws) := by
  obtain ⟨h0, hh0, hok⟩ := h.h0 (by omega) (by omega)
  have hn := h.h0n (by omega) (by omega) h0 hh0
  have hpsz := h.psz
  have hdsz := h.dsz
  have hal := h.allocLt
  have hc := h.carry
  rw [if_neg (show ¬ ws.step = 17 by omega)] at hc
  have ht1 : (ws.payloadSize + 1) % W = ws.payloadSize + 1 := Nat.mod_eq_of_lt (by rw [W_eq]; omega)
  have hcl : opcodeOf h0 = 0 ∨ (opcodeOf h0 = 1 ∨ opcodeOf h0 = 2) ∨
      (opcodeOf h0 = 8 ∨ opcodeOf h0 = 9 ∨ opcodeOf h0 = 10) := by
    have := hok.1; omega
  rcases hcl with hop | hop | hop
  · have ht : (ws.payloadSize + ws.dataSize) % W = ws.payloadSize + ws.dataSize :=
      Nat.mod_eq_of_lt (by rw [W_eq]; omega)
    have ht2 : (ws.payloadSize + ws.dataSize + 1) % W = ws.payloadSize + ws.dataSize + 1 :=
      Nat.mod_eq_of_lt (by rw [W_eq]; omega)
    rw [headerComplete_of_cont false hh0 hop, ht, ht2]
    refine iteInduction (fun _ => HC_err _ _ _ _) (fun _ => withBuf_of (fun nb hnb => (realloc_length _ _ _ _ hnb).1)
      (HC_oom _ h) (fun nb nb' hnb hl => ?_) (fun hz => ?_))
    · have hlim := (realloc_length _ _ _ _ hnb).2
      exact ⟨h.toData hs (some nb') ws.dataSize (ws.payloadSize + ws.dataSize) ws.dataType hl (by omega) (by omega)
        h.u8a hc, hv, .inl rfl⟩
    · exact ⟨h.toData hs none 0 (ws.payloadSize + ws.dataSize) ws.dataType hz (by omega) (by omega) h.u8a
        (fun hd => by have := hc hd; omega), hv, .inl rfl⟩
  · -- no message under assembly, so the validator is at a character boundary
    have hu0 : ws.dataUtf8 = 0 := h.u8a (by rw [hn hop]; omega)
    have hg : opcodeOf h0 = 1 → givenUtf8 ws.dataUtf8 ≤ 0 := fun _ => by rw [hu0]; decide
    rw [headerComplete_of_data false hh0 hop, ht1]
    refine withBuf_of (fun nb hnb => (alloc_length _ _ _ hnb).1) (HC_oom _ h) (fun _ nb' _ hl => ?_) (fun hz => ?_)
    · exact ⟨h.toData hs (some nb') 0 ws.payloadSize (opcodeOf h0) hl (by omega) hpsz (fun _ => hu0) hg, hv, .inl rfl⟩
    · exact ⟨h.toData hs none 0 ws.payloadSize (opcodeOf h0) hz (by omega) hpsz (fun _ => hu0) hg, hv, .inl rfl⟩
  · have h8 : ∀ b, ws.hdr[0]? = some b → 8 ≤ opcodeOf b := by
      intro b hb; rw [hh0] at hb; cases hb; omega
    rw [headerComplete_of_ctrl false hh0 hop, ht1]
    refine withBuf_of (fun nb hnb => (alloc_length _ _ _ hnb).1) (HC_oom _ h) (fun _ nb' _ hl => ?_) (fun hz => ?_)
    · exact ⟨h.toCtrl hs (some nb') _ hl h8, hv, .inr rfl⟩
    · exact ⟨h.toCtrl hs none _ hz h8, hv, .inr rfl⟩

end Mhd.WS
