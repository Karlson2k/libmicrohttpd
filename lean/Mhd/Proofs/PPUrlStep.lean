/-
  What the pieces of `post_process_urlencoded` do, case by case, as equations: one loop iteration per state
  and class of input byte, completing and unescaping the key, `case PP_Callback`, the code after the loop.
-/
import Mhd.Proofs.PPValue
namespace Mhd.PP

theorem byte_cases (c : UInt8) :
    c = cEq ∨ c = cAmp ∨ (c = cLF ∨ c = cCR) ∨ (c ≠ cEq ∧ c ≠ cAmp ∧ c ≠ cLF ∧ c ≠ cCR) := by
  by_cases h1 : c = cEq
  · exact Or.inl h1
  by_cases h2 : c = cAmp
  · exact Or.inr (Or.inl h2)
  by_cases h3 : c = cLF ∨ c = cCR
  · exact Or.inr (Or.inr (Or.inl h3))
  · exact Or.inr (Or.inr (Or.inr ⟨h1, h2, fun h => h3 (Or.inl h), fun h => h3 (Or.inr h)⟩))

theorem nl_ne {c : UInt8} (h : c = cLF ∨ c = cCR) : c ≠ cEq ∧ c ≠ cAmp := by
  rcases h with rfl | rfl <;> exact ⟨by decide, by decide⟩

theorem not_nl {c : UInt8} (h : c ≠ cEq ∧ c ≠ cAmp ∧ c ≠ cLF ∧ c ≠ cCR) : ¬ (c = cLF ∨ c = cCR) :=
  fun h' => h'.elim h.2.2.1 h.2.2.2

variable {d : Bytes} {pp : PP} {l : UL} {c : UInt8}

theorem urlIter_init (h : pp.state = .init) (hc : d[l.poff]? = some c) : urlIter d pp l = urlInit c pp l := by
  simp only [urlIter, h, hc]

theorem urlIter_key (h : pp.state = .processKey) (hc : d[l.poff]? = some c) : urlIter d pp l = urlKey c pp l := by
  simp only [urlIter, h, hc]

theorem urlIter_value (h : pp.state = .processValue) (hc : d[l.poff]? = some c) :
    urlIter d pp l = urlValue c pp l := by
  simp only [urlIter, h, hc]

theorem urlIter_done (h : pp.state = .done) (hc : d[l.poff]? = some c) : urlIter d pp l = urlDone c pp l := by
  simp only [urlIter, h, hc]

theorem urlIter_cb (h : pp.state = .callback) : urlIter d pp l = urlCallback d pp l := by
  simp only [urlIter, h]

theorem urlInit_eq : urlInit cEq pp l = ({ pp with state := .error }, l) := rfl

theorem urlInit_amp : urlInit cAmp pp l = (pp, { l with poff := l.poff + 1 }) := rfl

theorem urlInit_nl (h : c = cLF ∨ c = cCR) :
    urlInit c pp l = ({ pp with state := .done }, { l with poff := l.poff + 1 }) := by
  unfold urlInit
  rw [if_neg (nl_ne h).1, if_neg (nl_ne h).2, if_pos h]

theorem urlInit_byte (h : c ≠ cEq ∧ c ≠ cAmp ∧ c ≠ cLF ∧ c ≠ cCR) :
    urlInit c pp l = ({ pp with state := .processKey, mustIkvi := true },
      { l with startKey := some l.poff, poff := l.poff + 1 }) := by
  unfold urlInit
  rw [if_neg h.1, if_neg h.2.1, if_neg (not_nl h)]

theorem urlKey_eq :
    urlKey cEq pp l = ({ pp with state := .processValue },
      { l with endKey := if l.poff ≠ 0 then some l.poff else l.endKey, poff := l.poff + 1 }) := rfl

theorem urlKey_amp :
    urlKey cAmp pp l = ({ pp with state := .callback },
      { l with endKey := if l.poff ≠ 0 then some l.poff else l.endKey, poff := l.poff + 1 }) := rfl

theorem urlKey_nl (h : c = cLF ∨ c = cCR) :
    urlKey c pp l = ({ pp with state := .callback },
      { l with endKey := if l.poff ≠ 0 then some l.poff else l.endKey }) := by
  unfold urlKey
  rw [if_neg (nl_ne h).1, if_neg (nl_ne h).2, if_pos h]

theorem urlKey_byte (h : c ≠ cEq ∧ c ≠ cAmp ∧ c ≠ cLF ∧ c ≠ cCR) :
    urlKey c pp l = (pp, { l with startKey := if l.poff = 0 then some 0 else l.startKey, poff := l.poff + 1 }) := by
  unfold urlKey
  rw [if_neg h.1, if_neg h.2.1, if_neg (not_nl h)]

/-- the first statement of `case PP_ProcessValue:` sets `start_value` if it is still NULL -/
theorem urlValue_start (l : UL) :
    (if l.startValue.isNone = true then { l with startValue := some l.poff } else l)
      = { l with startValue := some (l.startValue.getD l.poff) } := by
  cases l with
  | mk a b c sv e g => cases sv <;> rfl

theorem urlValue_eq :
    urlValue cEq pp l = ({ pp with state := .error }, { l with startValue := some (l.startValue.getD l.poff) }) := by
  unfold urlValue
  rw [urlValue_start, if_pos rfl]

/-- the test `pp->must_ikvi || (start_value != end_value) || (0 != pp->xbuf_pos)` at the '&' or newline that ends
    a value: something is still to be delivered, or no call was made yet for this field -/
def ValuePending (pp : PP) (l : UL) : Prop :=
  pp.mustIkvi = true ∨ some (l.startValue.getD l.poff) ≠ some l.poff ∨ pp.xbuf.length ≠ 0

theorem urlValue_amp_cb (h : ValuePending pp l) :
    urlValue cAmp pp l = ({ pp with state := .callback },
      { l with startValue := some (l.startValue.getD l.poff), endValue := some l.poff, poff := l.poff + 1 }) := by
  unfold urlValue
  rw [urlValue_start, if_neg (by decide), if_pos rfl]
  exact if_pos h

theorem urlValue_amp_done (h : ¬ ValuePending pp l) :
    urlValue cAmp pp l = ({ pp with bufferPos := 0, valueOffset := 0, state := .init },
      { l with startValue := none, endValue := none, poff := l.poff + 1 }) := by
  unfold urlValue
  rw [urlValue_start, if_neg (by decide), if_pos rfl]
  exact if_neg h

theorem urlValue_nl_cb (hc : c = cLF ∨ c = cCR) (h : ValuePending pp l) :
    urlValue c pp l = ({ pp with state := .callback },
      { l with startValue := some (l.startValue.getD l.poff), endValue := some l.poff }) := by
  unfold urlValue
  rw [urlValue_start, if_neg (nl_ne hc).1, if_neg (nl_ne hc).2, if_pos hc]
  exact if_pos h

theorem urlValue_nl_done (hc : c = cLF ∨ c = cCR) (h : ¬ ValuePending pp l) :
    urlValue c pp l = ({ pp with state := .done },
      { l with startValue := some (l.startValue.getD l.poff), endValue := some l.poff, poff := l.poff + 1 }) := by
  unfold urlValue
  rw [urlValue_start, if_neg (nl_ne hc).1, if_neg (nl_ne hc).2, if_pos hc]
  exact if_neg h

theorem urlValue_byte (h : c ≠ cEq ∧ c ≠ cAmp ∧ c ≠ cLF ∧ c ≠ cCR) (pp : PP) (l : UL) :
    ∃ le, urlValue c pp l =
      (pp, { l with startValue := some (l.startValue.getD l.poff), lastEscape := le, poff := l.poff + 1 }) := by
  unfold urlValue
  rw [urlValue_start, if_neg h.1, if_neg h.2.1, if_neg (not_nl h)]
  by_cases h1 : c = cPct
  · exact ⟨_, if_pos h1⟩
  · rw [if_neg h1]
    by_cases h2 : isDigit c = true
    · exact ⟨l.lastEscape, if_pos h2⟩
    · exact ⟨_, if_neg h2⟩

theorem urlDone_nl (h : c = cLF ∨ c = cCR) :
    urlDone c pp l = (pp, { l with poff := l.poff + 1 }) := if_pos h

theorem urlDone_other (h : ¬ (c = cLF ∨ c = cCR)) :
    urlDone c pp l = ({ pp with state := .error }, l) := if_neg h

theorem writeZ_inside (b : Bytes) (off : Nat) (bs : Bytes) (h : off ≤ b.length) :
    writeZ b off bs = b.take off ++ bs ++ b.drop (off + bs.length) := by
  unfold writeZ
  rw [Nat.sub_eq_zero_of_le h, List.replicate_zero, List.append_nil]

theorem writeZ_take (b : Bytes) (off : Nat) (bs : Bytes) (h : off ≤ b.length) :
    (writeZ b off bs).take (off + bs.length) = b.take off ++ bs := by
  rw [writeZ_inside b off bs h]
  exact List.take_left' (by rw [List.length_append, List.length_take, Nat.min_eq_left h])

theorem writeZ_length (b : Bytes) (off : Nat) (bs : Bytes) (h : off ≤ b.length) :
    off + bs.length ≤ (writeZ b off bs).length := by
  rw [writeZ_inside b off bs h, List.length_append, List.length_append, List.length_take, Nat.min_eq_left h]
  exact Nat.le_add_right _ _

theorem cstr_append_zero (a b : Bytes) : cstr (a ++ 0 :: b) = cstr a := by
  induction a with
  | nil => simp [cstr]
  | cons x t ih =>
    unfold cstr at ih ⊢
    rw [List.cons_append, List.takeWhile_cons, List.takeWhile_cons, ih]

/-- `kbuf[buffer_pos] = 0` and unescaping in place change only the key buffer -/
theorem unescapeKey_spec (pp : PP) (hsz : pp.bufferPos ≤ pp.bufferSize) :
    ∃ B, unescapeKey pp = { pp with buf := B, mustUnescapeKey := false } ∧
      ∀ ks, AllOk ks → pp.buf.take pp.bufferPos = rawOf ks → pp.bufferPos ≤ pp.buf.length →
        cstr B = cstr (decOf ks) := by
  refine ⟨_, by rw [unescapeKey, if_neg (Nat.not_lt.mpr hsz)], fun ks hok hc hin => ?_⟩
  have ha : writeZ pp.buf pp.bufferPos [0] = rawOf ks ++ 0 :: pp.buf.drop (pp.bufferPos + 1) := by
    rw [writeZ_inside _ _ _ hin, hc, List.append_assoc]; rfl
  have hu : unescape (writeZ pp.buf pp.bufferPos [0]) = decOf ks := by
    rw [unescape, ha, cstr_append_zero, cstr_of_no_zero _ fun c hc => (raw_byte hok hc).1, pctDecode_plusSp_raw ks hok]
  rw [hu, writeZ_inside _ 0 _ (Nat.zero_le _), List.take_zero, List.nil_append, List.append_assoc]
  exact cstr_append_zero _ _

/-- the statement `if (pp->must_unescape_key) { … }` -/
theorem unescapeIfMust_spec (pp : PP) (hsz : pp.mustUnescapeKey = true → pp.bufferPos ≤ pp.bufferSize) :
    ∃ B, (if pp.mustUnescapeKey = true then unescapeKey pp else pp) = { pp with buf := B, mustUnescapeKey := false } ∧
      (pp.mustUnescapeKey = false → B = pp.buf) ∧
      (pp.mustUnescapeKey = true → ∀ ks, AllOk ks → pp.buf.take pp.bufferPos = rawOf ks →
        pp.bufferPos ≤ pp.buf.length → cstr B = cstr (decOf ks)) := by
  cases hm : pp.mustUnescapeKey with
  | true =>
    obtain ⟨B, h1, h2⟩ := unescapeKey_spec pp (hsz hm)
    exact ⟨B, by rw [if_pos rfl, h1], Bool.noConfusion, fun _ => h2⟩
  | false => exact ⟨pp.buf, by rw [if_neg Bool.false_ne_true, ← hm], fun _ => rfl, Bool.noConfusion⟩

/-- `memcpy (&kbuf[pp->buffer_pos], src, n)` of a piece of `post_data` behind the key bytes already there -/
theorem appendKey_spec (d : Bytes) (pp : PP) (s n : Nat) (hs : s + n ≤ d.length) :
    ∃ B, appendKey d pp s n = { pp with buf := B, bufferPos := pp.bufferPos + n, mustUnescapeKey := true } ∧
      (pp.bufferPos ≤ pp.buf.length →
        B.take (pp.bufferPos + n) = pp.buf.take pp.bufferPos ++ slice d s (s + n) ∧ pp.bufferPos + n ≤ B.length) := by
  refine ⟨_, by rw [appendKey, if_neg (Nat.not_lt.mpr hs)], fun hin => ?_⟩
  have hl : (slice d s (s + n)).length = n := by rw [slice_length d s (s + n) hs, Nat.add_sub_cancel_left]
  have h1 := writeZ_take pp.buf pp.bufferPos (slice d s (s + n)) hin
  have h2 := writeZ_length pp.buf pp.bufferPos (slice d s (s + n)) hin
  rw [hl] at h1 h2
  exact ⟨h1, h2⟩

theorem ul_eta_keys (l : UL) (h1 : l.startKey = none) (h2 : l.endKey = none) :
    l = { l with startKey := none, endKey := none } := by
  obtain ⟨_, sk, ek, _, _, _⟩ := l
  cases h1; cases h2; rfl

theorem urlCallbackKey_none (hf : pp.fault = none) (h1 : l.startKey = none) (h2 : l.endKey = none) :
    urlCallbackKey d pp l =
      (if pp.mustUnescapeKey = true then unescapeKey pp else pp, { l with startKey := none, endKey := none }) := by
  simp only [urlCallbackKey, h1, h2, ptrLen, ne_eq, not_true_eq_false, false_and, if_false, hf, Option.isSome_none,
    Bool.false_eq_true]
  rw [← ul_eta_keys l h1 h2]

/-- "key too long": `PP_Error` -/
theorem urlCallbackKey_long {a b : Nat} (h1 : l.startKey = some a) (h2 : l.endKey = some b) (hab : a < b)
    (hfit : pp.bufferPos + (b - a) ≥ pp.bufferSize) : urlCallbackKey d pp l = ({ pp with state := .error }, l) := by
  have hk0 : b - a ≠ 0 := Nat.sub_ne_zero_of_lt hab
  simp only [urlCallbackKey, h1, h2, ptrLen, Nat.le_of_lt hab, if_true, ne_eq, hk0, not_false_eq_true, true_and, hfit]

theorem urlCallbackKey_some {a b : Nat} (hf : pp.fault = none) (h1 : l.startKey = some a) (h2 : l.endKey = some b)
    (hab : a < b) (hb : b ≤ d.length) (hfit : pp.bufferPos + (b - a) < pp.bufferSize) :
    urlCallbackKey d pp l =
      (if (appendKey d pp a (b - a)).mustUnescapeKey = true then unescapeKey (appendKey d pp a (b - a))
        else appendKey d pp a (b - a), { l with startKey := none, endKey := none }) := by
  have hk0 : b - a ≠ 0 := Nat.sub_ne_zero_of_lt hab
  obtain ⟨B, hB, _⟩ := appendKey_spec d pp a (b - a) (by rw [Nat.add_sub_cancel' (Nat.le_of_lt hab)]; exact hb)
  have hfs : (appendKey d pp a (b - a)).fault.isSome = false := by rw [hB]; show pp.fault.isSome = false; rw [hf]; rfl
  simp only [urlCallbackKey, h1, h2, ptrLen, Nat.le_of_lt hab, if_true, ne_eq, hk0, not_false_eq_true, true_and,
    Nat.not_le.mpr hfit, if_false, Option.getD_some, hfs, Bool.false_eq_true]

theorem urlCallback_of {pp2 : PP} {l1 : UL} {x : Bytes} {v : Nat} {m : Bool} {e : List Event}
    (hk : urlCallbackKey d pp l = (pp2, l1)) (hne : pp2.state ≠ .error)
    (hv : processValue d pp2 l1.startValue l1.endValue none true =
      { pp2 with xbuf := x, valueOffset := v, mustIkvi := m, evs := e }) :
    urlCallback d pp l = ({ pp2 with xbuf := x, mustIkvi := m, evs := e, valueOffset := 0, bufferPos := 0, state := .init },
      { l1 with startValue := none, endValue := none }) := by
  simp only [urlCallback, hk, hne, if_false, hv]

theorem urlCallback_err {pp2 : PP} {l1 : UL} (hk : urlCallbackKey d pp l = (pp2, l1)) (h : pp2.state = .error) :
    urlCallback d pp l = (pp2, l1) := by
  simp only [urlCallback, hk, h, if_true]

theorem urlTailKey_none (h : l.startKey = none) : urlTailKey d pp l = (pp, true) := by
  simp only [urlTailKey, h]

theorem urlTailKey_long {sk : Nat} (h : l.startKey = some sk) (hle : sk ≤ l.endKey.getD l.poff)
    (hfit : pp.bufferPos + (l.endKey.getD l.poff - sk) ≥ pp.bufferSize) :
    urlTailKey d pp l = ({ pp with state := .error }, false) := by
  simp only [urlTailKey, h, Nat.not_lt.mpr hle, if_false, hfit, if_true]

theorem urlTailKey_some {sk : Nat} (h : l.startKey = some sk) (hle : sk ≤ l.endKey.getD l.poff)
    (hfit : pp.bufferPos + (l.endKey.getD l.poff - sk) < pp.bufferSize) :
    urlTailKey d pp l = (appendKey d pp sk (l.endKey.getD l.poff - sk), true) := by
  simp only [urlTailKey, h, Nat.not_lt.mpr hle, if_false, Nat.not_le.mpr hfit]

theorem urlTailValue_skip (h : ¬ (l.startValue.isSome = true ∧ pp.state = .processValue)) :
    urlTailValue d pp l = pp := by
  rw [urlTailValue, if_neg h]

theorem urlTailValue_some {sv : Nat} {pp1 : PP} (hs : l.startValue = some sv) (hst : pp.state = .processValue)
    (hk : (if pp.mustUnescapeKey = true then unescapeKey pp else pp) = pp1) (hf : pp1.fault = none) :
    urlTailValue d pp l =
      { processValue d pp1 (some sv) (some (l.endValue.getD l.poff))
          (tailEscape l.lastEscape (l.endValue.getD l.poff)) false with mustIkvi := false } := by
  simp only [urlTailValue, hs, hst, Option.isSome_some, and_self, if_true, hk, hf, Option.isSome_none, Bool.false_eq_true,
    if_false]

theorem urlTail_of {pp1 : PP} (hne : pp.state ≠ .error) (hk : urlTailKey d pp l = (pp1, true)) (hf : pp1.fault = none)
    (hv : (urlTailValue d pp1 l).state ≠ .error) : urlTail d pp l = (urlTailValue d pp1 l, true) := by
  simp only [urlTail, hne, if_false, hk, hf, Option.isSome_none, Bool.false_eq_true, Bool.true_eq_false, or_self, hv]

theorem urlTail_keyfail {pp1 : PP} (hne : pp.state ≠ .error) (hk : urlTailKey d pp l = (pp1, false)) :
    urlTail d pp l = (pp1, false) := by
  simp only [urlTail, hne, if_false, hk, true_or, if_true]

theorem urlTail_fst {pp1 : PP} (hne : pp.state ≠ .error) (hk : urlTailKey d pp l = (pp1, true)) (hf : pp1.fault = none) :
    (urlTail d pp l).1 = urlTailValue d pp1 l := by
  by_cases hv : (urlTailValue d pp1 l).state = .error
  · simp only [urlTail, hne, if_false, hk, hf, Option.isSome_none, Bool.false_eq_true, Bool.true_eq_false, or_self, hv,
      if_true]
  · rw [urlTail_of hne hk hf hv]

theorem feed_empty (hf : pp.fault = none) (hd : d.length = 0) : feed pp d = (pp, true) := by
  simp only [feed, hf, Option.isSome_none, Bool.false_eq_true, if_false, hd, if_true]

theorem feed_nonempty (hf : pp.fault = none) (hu : pp.isUrl = true) (hd : d.length ≠ 0) :
    feed pp d = postProcessUrlencoded pp d := by
  simp only [feed, hf, Option.isSome_none, Bool.false_eq_true, if_false, hd, hu, if_true]

theorem feed_url (hf : pp.fault = none) (hu : pp.isUrl = true) (hd : d.length ≠ 0)
    (hl : (urlLoop (3 * d.length + 4) d pp {}).1.fault = none) :
    feed pp d = urlTail d (urlLoop (3 * d.length + 4) d pp {}).1 (urlLoop (3 * d.length + 4) d pp {}).2 := by
  simp only [feed_nonempty hf hu hd, postProcessUrlencoded, hl, Option.isSome_none, Bool.false_eq_true, if_false]

end Mhd.PP
