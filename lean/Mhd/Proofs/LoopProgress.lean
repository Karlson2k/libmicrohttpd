/-
  C06 — proofs: progress of one connection under a fair schedule, whatever the other connections do
  (`ProgLaws`, `progress_round`, `FairFor`; over a whole history: `C06.progress`); `IdlePost.round` (what handle_idle guarantees holds
  after a round) and the laws `LawOpen` and `LawTable` that are read through it; a small lawful instance of the
  abstract step (`Demo`, for non-vacuity).
-/
import Mhd.Proofs.LoopHist
namespace Mhd.Loop
open Mhd.Gen.Loop
variable {W : Type}

/-- Laws about the reply side of the abstract step, for a measure `rank`:
    `awaiting l` = a complete (or definitively malformed) request waits for its reply,
    `replies l` = number of replies completely sent on this connection so far. -/
structure ProgLaws (ops : Ops W) (awaiting : Local W → Bool) (replies rank : Local W → Nat) : Prop where
  write_mono : ∀ id k l, replies l ≤ replies (ops.write id k l)
  idle_mono : ∀ id k wh l, replies l ≤ replies (ops.idle id k wh l).1
  /-- the request does not vanish and the measure does not grow while the reply is not complete -/
  write_keep : ∀ id k l, awaiting l = true → replies (ops.write id k l) = replies l →
      awaiting (ops.write id k l) = true ∧ rank (ops.write id k l) ≤ rank l
  idle_keep : ∀ id k l, awaiting l = true → (ops.idle id k .active l).2 = .active →
      replies (ops.idle id k .active l).1 = replies l →
      awaiting (ops.idle id k .active l).1 = true ∧ rank (ops.idle id k .active l).1 ≤ rank l ∧
      ((ops.idle id k .active l).1.eli = .process ∨ (ops.idle id k .active l).1.eli = .write)
  /-- a write on a connection that waits for writability sends something -/
  write_strict : ∀ id k l, awaiting l = true → l.eli = .write → replies (ops.write id k l) = replies l →
      rank (ops.write id k l) < rank l
  /-- an idle call on a connection in the PROCESS state makes progress (the application's
      "not ready yet" answers are counted in `rank`) -/
  idle_strict : ∀ id k l, awaiting l = true → l.eli = .process → (ops.idle id k .active l).2 = .active →
      replies (ops.idle id k .active l).1 = replies l → rank (ops.idle id k .active l).1 < rank l

section
variable {ops : Ops W} {needs awaiting : Local W → Bool} {replies rank : Local W → Nat}

/-- state of the tracked connection inside call_handlers -/
def PQ (awaiting : Local W → Bool) (replies rank : Local W → Nat) (r0 m : Nat) (s : CS W) : Prop :=
  s.wh ≠ .active ∨ r0 < replies s.c.loc ∨ (awaiting s.c.loc = true ∧ replies s.c.loc = r0 ∧ rank s.c.loc < m)

/-- `PQ` after handle_idle: a connection that still awaits its reply then waits in a PROCESS or WRITE state -/
def PQS (awaiting : Local W → Bool) (replies rank : Local W → Nat) (r0 m : Nat) (s : CS W) : Prop :=
  s.wh ≠ .active ∨ r0 < replies s.c.loc ∨
    (awaiting s.c.loc = true ∧ replies s.c.loc = r0 ∧ rank s.c.loc < m ∧ (s.c.loc.eli = .process ∨ s.c.loc.eli = .write))

theorem PQS.toPQ {r0 m : Nat} {s : CS W} (h : PQS awaiting replies rank r0 m s) : PQ awaiting replies rank r0 m s := by
  rcases h with h | h | ⟨a, b, c, _⟩
  · exact Or.inl h
  · exact Or.inr (Or.inl h)
  · exact Or.inr (Or.inr ⟨a, b, c⟩)

theorem pq_write (PL : ProgLaws ops awaiting replies rank) {r0 m : Nat} {s : CS W}
    (h : PQ awaiting replies rank r0 m s) : PQ awaiting replies rank r0 m (doWrite ops s) := by
  rcases h with h | h | ⟨a, b, c⟩
  · exact Or.inl h
  · exact Or.inr (Or.inl (Nat.lt_of_lt_of_le h (PL.write_mono _ _ _)))
  · rcases Nat.lt_or_eq_of_le (PL.write_mono s.c.id s.c.k s.c.loc) with hlt | he
    · exact Or.inr (Or.inl (b ▸ hlt))
    · have := PL.write_keep _ _ _ a he.symm
      exact Or.inr (Or.inr ⟨this.1, he.symm.trans b, Nat.lt_of_le_of_lt this.2 c⟩)

theorem pq_idle (L : Laws ops needs) (PL : ProgLaws ops awaiting replies rank) {r0 m : Nat} {s : CS W}
    (h : PQ awaiting replies rank r0 m s) : PQS awaiting replies rank r0 m (doIdle ops false s) := by
  by_cases hw : s.wh = .active
  · rcases h with h | h | ⟨a, b, c⟩
    · exact absurd hw h
    · right; left
      rw [doIdle_loc]
      exact Nat.lt_of_lt_of_le h (PL.idle_mono _ _ _ _)
    · by_cases hw' : (doIdle ops false s).wh = .active
      · rw [doIdle_wh, hw] at hw'
        unfold PQS
        rw [doIdle_loc, hw]
        rcases Nat.lt_or_eq_of_le (PL.idle_mono s.c.id s.c.k .active s.c.loc) with hlt | he
        · exact Or.inr (Or.inl (b ▸ hlt))
        · have := PL.idle_keep _ _ _ a hw' he.symm
          exact Or.inr (Or.inr ⟨this.1, he.symm.trans b, Nat.lt_of_le_of_lt this.2.1 c, this.2.2⟩)
      · exact Or.inl hw'
  · left
    rw [doIdle_wh]
    exact L.idle_where _ _ _ _ hw

theorem chLocal_progress (L : Laws ops needs) (PL : ProgLaws ops awaiting replies rank) (c : Conn W) (rr wr : Bool)
    (ha : awaiting c.loc = true) (hs : c.loc.eli = .process ∨ c.loc.eli = .write)
    (hfair : c.loc.eli = .write → wr = true) :
    PQS awaiting replies rank (replies c.loc) (rank c.loc)
      ⟨(chLocal ops false c .active rr wr false).c, (chLocal ops false c .active rr wr false).wh, []⟩ := by
  have hnr : c.loc.eli.hasRead = false := by
    rcases hs with h | h <;> rw [h] <;> decide
  obtain ⟨t, e, ht⟩ := chLocal_ind (Q := PQS awaiting replies rank (replies c.loc) (rank c.loc)) ops false c .active rr wr false
    (fun _ t ht => pq_idle L PL (pq_write PL ht.toPQ)) (fun h => by rw [hnr] at h; cases h) (fun h => nomatch h)
    (fun _ _ hw => by
      have he : c.loc.eli = .write := (isWrite_cases _).mp (Bool.and_eq_true_iff.mp hw).1
      refine pq_idle L PL ?_
      rcases Nat.lt_or_eq_of_le (PL.write_mono c.id c.k c.loc) with hlt | heq
      · exact Or.inr (Or.inl hlt)
      · exact Or.inr (Or.inr ⟨(PL.write_keep _ _ _ ha heq.symm).1, heq.symm, PL.write_strict _ _ _ ha he heq.symm⟩))
    (fun _ _ hw => by
      have he : c.loc.eli = .process := by
        rcases hs with h | h
        · exact h
        · rw [h, hfair h] at hw; cases hw
      by_cases hw' : (doIdle ops false ⟨c, .active, []⟩).wh = .active
      · have hw'' : (ops.idle c.id c.k .active c.loc).2 = .active := hw'
        unfold PQS
        rw [doIdle_loc]
        rcases Nat.lt_or_eq_of_le (PL.idle_mono c.id c.k .active c.loc) with hlt | heq
        · exact Or.inr (Or.inl hlt)
        · have k1 := PL.idle_keep _ _ _ ha hw'' heq.symm
          exact Or.inr (Or.inr ⟨k1.1, heq.symm, PL.idle_strict _ _ _ ha he hw'' heq.symm, k1.2.2⟩)
      · exact Or.inl hw')
  rw [e]
  exact ht

theorem uniq_of_nodup : ∀ {V : List (Conn W)} {y c : Conn W}, (ids V).Nodup → y ∈ V → c ∈ V → y.id = c.id → y = c := by
  intro V
  induction V with
  | nil => intro y c _ hy; simp at hy
  | cons x rest ih =>
    intro y c hnd hy hc he
    simp only [ids_cons, List.nodup_cons] at hnd
    rcases List.mem_cons.mp hy with h1 | h1 <;> rcases List.mem_cons.mp hc with h2 | h2
    · rw [h1, h2]
    · exfalso; apply hnd.1; rw [← h1, he]; exact mem_ids h2
    · exfalso; apply hnd.1; rw [← h2, ← he]; exact mem_ids h1
    · exact ih hnd.2 h1 h2 he

/-- the active list after a round of either loop, in closed form -/
theorem round_conns (ops : Ops W) {d : Daemon W} (h : InvSP needs d) (rdy : Ready) (poll : Bool) :
    ∃ N V, (∀ c ∈ d.conns, c ∈ V) ∧ (ids (N ++ V)).Nodup ∧ (ids N = ids d.newc ∨ N = []) ∧
      (∀ x ∈ N, ∃ y ∈ d.newc, x.loc.st = y.loc.st) ∧
      (if poll then pollAllWith ops true d rdy else runFromSelectWith ops true d rdy).conns =
        N ++ V.filterMap (fun y => keepIf .active (visitRes ops false rdy y)) := by
  obtain ⟨R, N, P, V, d4, PS, _, hc, hP, _, hV, T, e⟩ := round_trav ops h rdy poll
  refine ⟨P, V, hV, hc ▸ (nodup3 PS.nodup).1, ?_, ?_, ?_⟩
  · rcases hP with rfl | rfl
    · exact Or.inr rfl
    · exact PS.newIds
  · rcases hP with rfl | rfl
    · exact fun x hx => nomatch hx
    · exact PS.newFrom
  · have := T.conns
    rw [PS.epoll, List.append_nil] at this
    rw [e]
    exact this

/-- A connection that awaits its reply (PROCESS or WRITE state), is reported writable when it waits for writability
    and has no socket error: after the round — whatever the other connections did — it has left the active list, or
    its reply is complete, or its measure decreased. -/
theorem progress_round (L : Laws ops needs) (PL : ProgLaws ops awaiting replies rank) {d : Daemon W} (h : InvSP needs d)
    (rdy : Ready) (poll : Bool) {c : Conn W} (hc : c ∈ d.conns) (ha : awaiting c.loc = true)
    (hs : c.loc.eli = .process ∨ c.loc.eli = .write) (hfair : c.loc.eli = .write → rdyW rdy c.id = true)
    (hne : rdyE rdy c.id = false) :
    ∀ c' ∈ (if poll then pollAllWith ops true d rdy else runFromSelectWith ops true d rdy).conns, c'.id = c.id →
      replies c'.loc ≤ replies c.loc →
      awaiting c'.loc = true ∧ replies c'.loc = replies c.loc ∧ rank c'.loc < rank c.loc ∧
        (c'.loc.eli = .process ∨ c'.loc.eli = .write) := by
  obtain ⟨N, V, hV, hnd, hN, _, hconns⟩ := round_conns ops h rdy poll
  intro c' hc' hid hle
  rw [hconns] at hc'
  have hcV := hV c hc
  rcases List.mem_append.mp hc' with hin | hin
  · exfalso
    have h1 : c.id ∈ ids N := hid ▸ mem_ids hin
    have h2 : c.id ∈ ids V := mem_ids hcV
    rw [ids_append] at hnd
    exact (List.nodup_append.mp hnd).2.2 _ h1 _ h2 rfl
  · obtain ⟨y, hy, hw, rfl⟩ := mem_fm.mp hin
    have hyc : y = c := by
      have hndV : (ids V).Nodup := by rw [ids_append] at hnd; exact (List.nodup_append.mp hnd).2.1
      exact uniq_of_nodup hndV hy hcV ((visitRes_static _ _ _ _).id.symm.trans hid)
    subst hyc
    have P := chLocal_progress L PL y (rdyR rdy y.id) (rdyW rdy y.id) ha hs hfair
    have hv : visitRes ops false rdy y = chLocal ops false y .active (rdyR rdy y.id) (rdyW rdy y.id) false := by
      unfold visitRes; rw [hne]
    rw [hv] at hw hle ⊢
    rcases P with P | P | P
    · exact absurd hw P
    · exfalso; exact Nat.lt_irrefl _ (Nat.lt_of_lt_of_le P hle)
    · exact P

/-- every connection a round of either loop leaves active — those added during the round apart — went through
    handle_idle last and stayed active -/
theorem IdlePost.round {Q : Local W → Prop} (hQ : IdlePost ops Q) {d : Daemon W} (h : InvSP needs d) (rdy : Ready)
    (poll : Bool) :
    ∀ c ∈ (if poll then pollAllWith ops true d rdy else runFromSelectWith ops true d rdy).conns,
      (c.id ∈ ids d.newc ∧ ∃ y ∈ d.newc, c.loc.st = y.loc.st) ∨ Q c.loc := by
  obtain ⟨N, V, _, _, hN, hNf, hconns⟩ := round_conns ops h rdy poll
  intro c hc
  rcases List.mem_append.mp (hconns ▸ hc) with hin | hin
  · refine Or.inl ⟨?_, hNf c hin⟩
    rcases hN with e | e
    · exact e ▸ mem_ids hin
    · exact nomatch e ▸ hin
  · obtain ⟨y, _, hw, rfl⟩ := mem_fm.mp hin
    exact Or.inr (hQ.chLocal _ _ _ _ _ _ hw)

/-- after handle_idle a connection that stays in the active list is not in the CLOSED state
    (true of the code once a connection closed while its wait state is computed is moved to the
    cleanup list at once — F22; connection timeouts are C10's subject) -/
structure LawOpen (ops : Ops W) : Prop where
  idle_open : ∀ id k wh l, (ops.idle id k wh l).2 = .active → (ops.idle id k wh l).1.st ≠ stClosed

/-- the wait class MHD_connection_update_event_loop_info gives a state (the table of Mhd.Gen.Loop) -/
def TableOK (l : Local W) : Prop :=
  (l.st ∈ writeStates → l.eli = .write) ∧ (l.st ∈ processStates → l.eli = .process) ∧ (l.st ∈ readStates → l.eli = .read)

/-- handle_idle ends with MHD_connection_update_event_loop_info: a connection that stays active waits for what
    its state calls for — in particular one with a reply to send waits for writability, not for the client -/
structure LawTable (ops : Ops W) : Prop where
  idle_table : ∀ id k wh l, (ops.idle id k wh l).2 = .active → TableOK (ops.idle id k wh l).1

/-- what can happen to a daemon from outside -/
inductive Step (W : Type) where
  | add (c : Conn W)        -- MHD_add_connection
  | resume (id : CId)       -- MHD_resume_connection
  | round (rdy : Ready)     -- one event-loop round with this readiness

def roundOf (ops : Ops W) (poll : Bool) (d : Daemon W) (rdy : Ready) : Daemon W :=
  if poll then pollAllWith ops true d rdy else runFromSelectWith ops true d rdy

def stepOf (ops : Ops W) (poll : Bool) (d : Daemon W) : Step W → Daemon W
  | .add c => addConn d c
  | .resume id => resumeReq d id
  | .round rdy => roundOf ops poll d rdy

def runSteps (ops : Ops W) (poll : Bool) (d : Daemon W) (H : List (Step W)) : Daemon W := H.foldl (stepOf ops poll) d

def nRounds : List (Step W) → Nat
  | [] => 0
  | .round _ :: H => nRounds H + 1
  | _ :: H => nRounds H

/-- The history is legal and fair for connection `p`: added connections are fresh and do not reuse
    the id; in every round in which `p` is active, `p` is reported writable if it waits for
    writability (the client reads what it is sent) and no socket error is reported for it.
    Nothing is assumed about the other connections or their readiness. -/
def FairFor (ops : Ops W) (needs : Local W → Bool) (poll : Bool) (p : CId) : Daemon W → List (Step W) → Prop
  | _, [] => True
  | d, .add c :: H => c.id ≠ p ∧ FreshConn needs d c ∧ FairFor ops needs poll p (addConn d c) H
  | d, .resume id :: H => FairFor ops needs poll p (resumeReq d id) H
  | d, .round rdy :: H =>
      (∀ c ∈ d.conns, c.id = p → (c.loc.eli = .write → rdyW rdy p = true) ∧ rdyE rdy p = false) ∧
      FairFor ops needs poll p (roundOf ops poll d rdy) H

end

/-! a small lawful instance of the abstract step, used for the non-vacuity examples:
    `w = (work units left before the reply is complete, replies sent)`; every idle call of a
    connection in the PROCESS state does one unit -/
namespace Demo

abbrev Wk := Nat × Nat

def ops : Ops Wk where
  read := fun _ _ f l => if f then { l with st := stClosed } else l
  write := fun _ _ l => l
  close := fun _ _ l => l
  idle := fun _ _ wh l =>
    if l.st = stClosed then (l, .cleanup)
    else if l.w.1 = 0 then ({ l with eli := .read }, wh)
    else if l.w.1 = 1 then ({ l with eli := .read, w := (0, l.w.2 + 1) }, wh)
    else ({ l with eli := .process, w := (l.w.1 - 1, l.w.2) }, wh)

def needs (l : Local Wk) : Bool := decide (0 < l.w.1)
def awaiting (l : Local Wk) : Bool := decide (0 < l.w.1) && decide (l.eli = .process)
def replies (l : Local Wk) : Nat := l.w.2
def rank (l : Local Wk) : Nat := l.w.1

theorem idle_cases (id : CId) (k : Nat) (wh : Wh) (l : Local Wk) :
    (l.st = stClosed ∧ ops.idle id k wh l = (l, .cleanup)) ∨
    (l.st ≠ stClosed ∧ l.w.1 = 0 ∧ ops.idle id k wh l = ({ l with eli := .read }, wh)) ∨
    (l.st ≠ stClosed ∧ l.w.1 = 1 ∧ ops.idle id k wh l = ({ l with eli := .read, w := (0, l.w.2 + 1) }, wh)) ∨
    (l.st ≠ stClosed ∧ 1 < l.w.1 ∧ ops.idle id k wh l = ({ l with eli := .process, w := (l.w.1 - 1, l.w.2) }, wh)) := by
  unfold ops
  simp only []
  by_cases h1 : l.st = stClosed
  · exact Or.inl ⟨h1, if_pos h1⟩
  by_cases h2 : l.w.1 = 0
  · exact Or.inr (Or.inl ⟨h1, h2, by rw [if_neg h1, if_pos h2]⟩)
  by_cases h3 : l.w.1 = 1
  · exact Or.inr (Or.inr (Or.inl ⟨h1, h3, by rw [if_neg h1, if_neg h2, if_pos h3]⟩))
  · exact Or.inr (Or.inr (Or.inr ⟨h1, by omega, by rw [if_neg h1, if_neg h2, if_neg h3]⟩))

theorem laws : Laws ops needs where
  idle_sync := by
    intro id k wh l h hn
    rcases idle_cases id k wh l with ⟨_, e⟩ | ⟨_, h0, e⟩ | ⟨_, _, e⟩ | ⟨_, _, e⟩ <;> rw [e] at h hn ⊢
    · cases h
    · simp [needs, h0] at hn
    · simp [needs] at hn
    · show Eli.process.hasProcess = true
      decide
  idle_closed := by intro id k l h; simp [ops, h]
  read_force := by intro id k l; simp [ops]
  idle_where := by
    intro id k wh l h
    rcases idle_cases id k wh l with ⟨_, e⟩ | ⟨_, _, e⟩ | ⟨_, _, e⟩ | ⟨_, _, e⟩ <;> rw [e]
    · exact nofun
    all_goals exact h

theorem progLaws : ProgLaws ops awaiting replies rank where
  write_mono := by intro id k l; exact Nat.le_refl _
  idle_mono := by
    intro id k wh l
    rcases idle_cases id k wh l with ⟨_, e⟩ | ⟨_, _, e⟩ | ⟨_, _, e⟩ | ⟨_, _, e⟩ <;> rw [e]
    · exact Nat.le_refl _
    · exact Nat.le_refl _
    · exact Nat.le_succ _
    · exact Nat.le_refl _
  write_keep := by intro id k l h _; exact ⟨h, Nat.le_refl _⟩
  write_strict := by
    intro id k l h he _
    simp [awaiting, he] at h
  idle_keep := by
    intro id k l ha hw hr
    simp only [awaiting, Bool.and_eq_true, decide_eq_true_eq] at ha
    rcases idle_cases id k .active l with ⟨_, e⟩ | ⟨_, h0, e⟩ | ⟨_, _, e⟩ | ⟨_, h2, e⟩ <;> rw [e] at hw hr ⊢
    · cases hw
    · omega
    · exact absurd hr (Nat.succ_ne_self _)
    · exact ⟨by simp [awaiting]; omega, Nat.sub_le _ _, Or.inl rfl⟩
  idle_strict := by
    intro id k l ha he hw hr
    simp only [awaiting, Bool.and_eq_true, decide_eq_true_eq] at ha
    rcases idle_cases id k .active l with ⟨_, e⟩ | ⟨_, h0, e⟩ | ⟨_, _, e⟩ | ⟨_, h2, e⟩ <;> rw [e] at hw hr ⊢
    · cases hw
    · omega
    · exact absurd hr (Nat.succ_ne_self _)
    · exact Nat.sub_lt (by omega) Nat.one_pos

def mkLoc (work : Nat) (e : Eli) : Local Wk :=
  { st := 17, eli := e, rdReady := false, wrReady := false, bufSpace := true, w := (work, 0) }

/-- connection 0 needs two more idle calls for its reply; connection 1 waits for a request -/
def d0 : Daemon Wk :=
  { conns := [{ id := 1, loc := { mkLoc 0 .read with st := stInit } }, { id := 0, loc := mkLoc 2 .process }], dap := true }

theorem d0_inv : InvSP needs d0 := by
  refine ⟨rfl, by decide, ?_, ?_, ?_, ?_, fun _ => rfl, rfl, rfl⟩
  · intro c hc
    simp only [d0, List.mem_cons, List.not_mem_nil, or_false] at hc
    rcases hc with (rfl | rfl) | h | h <;> first | rfl | (simp at h)
  · intro c hc
    simp only [d0, List.mem_cons, List.not_mem_nil, or_false] at hc
    rcases hc with rfl | rfl <;> intro h <;> revert h <;> decide
  · intro c _ _; rfl
  · intro c hc; simp [d0] at hc

end Demo
end Mhd.Loop
