/-
  The header phase of the decoder on explicit header bytes: while a frame header is read only
  six registers change, so every state of the phase is the state at the frame boundary with
  those six replaced (`hdrPhase`), and each header case of the `switch` is an equation between
  two such states.
-/
import Mhd.Proofs.WSSplit
namespace Mhd.WS

/-- `frame_header` after the bytes `p` were stored from index 0 on -/
def hp (t p : List UInt8) : List UInt8 := p ++ t.drop p.length

theorem hp_nil (t : List UInt8) : hp t [] = t := by simp [hp]

theorem hp_length (t p : List UInt8) (h : p.length ≤ t.length) : (hp t p).length = t.length := by
  simp only [hp, List.length_append, List.length_drop]; omega

theorem hp_set (t p : List UInt8) (b : UInt8) (h : p.length < t.length) :
    (hp t p).set p.length b = hp t (p ++ [b]) := by
  unfold hp
  rw [List.set_append_right _ _ (Nat.le_refl _), List.drop_eq_getElem_cons h]
  simp only [Nat.sub_self, List.length_append, List.length_cons, List.length_nil, List.append_assoc]
  rfl

theorem hp_get (t p : List UInt8) (i : Nat) (h : i < p.length) : (hp t p)[i]? = p[i]? := by
  unfold hp; rw [List.getElem?_append_left h]

theorem hp_drop_take (t p : List UInt8) (off k : Nat) (h : off + k ≤ p.length) :
    ((hp t p).drop off).take k = (p.drop off).take k := by
  unfold hp
  rw [List.drop_append_of_le_length (by omega), List.take_append_of_le_length (by simp only [List.length_drop]; omega)]

/-- the decoder state while a frame header is read: only these six fields of `ws` change -/
def hdrPhase (ws : WS) (p : List UInt8) (step psz : Nat) (key : List UInt8) (v : Nat) : WS :=
  { ws with hdr := hp ws.hdr p, hdrSize := p.length, step := step, payloadSize := psz, maskKey := key, validity := v }

/-- … once the payload size `n` is known: the key is awaited (`masked`) or the header complete -/
def lenPhase (ws : WS) (p : List UInt8) (n : Nat) (key : List UInt8) (v : Nat) (masked : Bool) : WS :=
  if masked then hdrPhase ws p 12 n key v else hdrPhase ws p 16 n [0, 0, 0, 0] v

theorem phase_base {ws : WS} (h : Inv ws) (hs : ws.step = 0) :
    ws = hdrPhase ws [] 0 ws.payloadSize ws.maskKey ws.validity := by
  have hz : ws.hdrSize = 0 := Nat.le_zero.mp (hs ▸ h.hsS (by omega))
  unfold hdrPhase
  rw [hp_nil, ← hs, List.length_nil, ← hz]

theorem phase_hdr0 (ws : WS) (b0 : UInt8) (p : List UInt8) (s psz : Nat) (key : List UInt8) (v : Nat) :
    (hdrPhase ws (b0 :: p) s psz key v).hdr[0]? = some b0 :=
  hp_get _ _ 0 (Nat.succ_pos _)

theorem phase_hdr1 (ws : WS) (b0 b1 : UInt8) (p : List UInt8) (s psz : Nat) (key : List UInt8) (v : Nat) :
    (hdrPhase ws (b0 :: b1 :: p) s psz key v).hdr[1]? = some b1 :=
  hp_get _ _ 1 (Nat.succ_lt_succ (Nat.succ_pos _))

theorem phase_hdrBytes (ws : WS) (p : List UInt8) (s psz : Nat) (key : List UInt8) (v : Nat) (off k : Nat)
    (hl : ws.hdr.length = 32) (hp32 : p.length ≤ 32) (hk : off + k ≤ p.length) :
    hdrBytes (hdrPhase ws p s psz key v) off k = some ((p.drop off).take k) := by
  unfold hdrBytes
  show (if off + k ≤ (hp ws.hdr p).length then some (((hp ws.hdr p).drop off).take k) else none) = _
  rw [hp_length _ _ (by omega), if_pos (by omega), hp_drop_take _ _ _ _ hk]

theorem phase_room (ws : WS) (p : List UInt8) (s psz : Nat) (key : List UInt8) (v : Nat)
    (hl : ws.hdr.length = 32) (hp32 : p.length < 32) :
    (hdrPhase ws p s psz key v).hdrSize < (hdrPhase ws p s psz key v).hdr.length :=
  (hp_length ws.hdr p (hl ▸ Nat.le_of_lt hp32)).trans hl ▸ hp32

theorem pushed_phase (ws : WS) (p : List UInt8) (s psz : Nat) (key : List UInt8) (v : Nat) (b : UInt8)
    (hl : ws.hdr.length = 32) (hp32 : p.length < 32) :
    pushed (hdrPhase ws p s psz key v) b = hdrPhase ws (p ++ [b]) s psz key v := by
  unfold pushed hdrPhase
  simp only [hp_set _ _ _ (hl ▸ hp32), List.length_append, List.length_cons, List.length_nil]

theorem pushHdr_phase (ws : WS) (p : List UInt8) (s psz : Nat) (key : List UInt8) (v : Nat) (b : UInt8)
    (hl : ws.hdr.length = 32) (hp32 : p.length < 32) :
    pushHdr (hdrPhase ws p s psz key v) b = some (hdrPhase ws (p ++ [b]) s psz key v) := by
  rw [pushHdr_eq, if_pos (phase_room ws p s psz key v hl hp32), pushed_phase ws p s psz key v b hl hp32]

/-- `Start` on a first byte that is not `StartBad`; a close frame leaves validity 2, "only control
    frames" -/
theorem stepStart_phase (ws : WS) (psz : Nat) (key : List UInt8) (v : Nat) (b0 : UInt8)
    (hl : ws.hdr.length = 32) (hv : v ≠ 0) (hb : ¬ StartBad (hdrPhase ws [] 0 psz key v) b0) :
    stepStart (hdrPhase ws [] 0 psz key v) b0 =
      .cont (hdrPhase ws [b0] 1 psz key (if opcodeOf b0 = 8 then 2 else v)) 1 := by
  have hw : (if (hdrPhase ws [] 0 psz key v).validity ≠ 0 ∧ opcodeOf b0 = 8 then
      { hdrPhase ws [] 0 psz key v with validity := 2 } else hdrPhase ws [] 0 psz key v) =
      hdrPhase ws [] 0 psz key (if opcodeOf b0 = 8 then 2 else v) := by
    by_cases h8 : opcodeOf b0 = 8
    · rw [if_pos ⟨hv, h8⟩, if_pos h8]; rfl
    · rw [if_neg (fun c => h8 c.2), if_neg h8]
  rw [stepStart_eq, if_neg (fun c => hb c.2), hw]
  unfold startGood
  rw [pushHdr_phase ws [] 0 psz key _ b0 hl (by simp)]
  rfl

/-- `Length1ofX` on a second byte that is not `Len1Bad` -/
theorem stepLen1_phase (ws : WS) (psz : Nat) (key : List UInt8) (v : Nat) (b0 b1 : UInt8)
    (hl : ws.hdr.length = 32) (hb : ¬ Len1Bad ws b0 b1) :
    stepLen1 (hdrPhase ws [b0] 1 psz key v) b1 =
      if len7 b1 = 126 then .cont (hdrPhase ws [b0, b1] 2 psz key v) 1
      else if len7 b1 = 127 then .cont (hdrPhase ws [b0, b1] 4 psz key v) 1
      else if ws.maxPayload ≠ 0 ∧ ws.maxPayload < len7 b1 then errRet (hdrPhase ws [b0, b1] 1 psz key v) 1009 (-5) 1
      else .cont (lenPhase ws [b0, b1] (len7 b1) key v (finBit b1)) 1 := by
  rw [stepLen1_eq (phase_hdr0 ..), if_neg (fun c => hb c.2), if_pos (phase_room ws [b0] 1 psz key v hl (by simp))]
  unfold sizeKnown
  rw [pushed_phase ws [b0] 1 psz key v b1 hl (by simp)]
  rfl

theorem stepStore_phase (ws : WS) (p : List UInt8) (s psz : Nat) (key : List UInt8) (v : Nat) (b : UInt8)
    (hl : ws.hdr.length = 32) (hp32 : p.length < 32) :
    stepStore (hdrPhase ws p s psz key v) b = .cont (hdrPhase ws (p ++ [b]) (s + 1) psz key v) 1 := by
  unfold stepStore
  rw [pushHdr_phase ws p s psz key v b hl hp32]
  rfl

/-- `Length2of2`: the 16-bit length `ls ++ [l]` is complete -/
theorem stepLen2of2_phase (ws : WS) (psz : Nat) (key : List UInt8) (v : Nat) (b0 b1 : UInt8) (ls : List UInt8)
    (hls : ls.length = 1) (l : UInt8) (hl : ws.hdr.length = 32) :
    stepLen2of2 (hdrPhase ws (b0 :: b1 :: ls) 3 psz key v) l =
      if beVal (ls ++ [l]) ≤ 125 then errRet (hdrPhase ws (b0 :: b1 :: (ls ++ [l])) 3 psz key v) 1002 (-1) 1
      else if ws.maxPayload ≠ 0 ∧ ws.maxPayload < beVal (ls ++ [l]) then
        errRet (hdrPhase ws (b0 :: b1 :: (ls ++ [l])) 3 psz key v) 1009 (-5) 1
      else .cont (lenPhase ws (b0 :: b1 :: (ls ++ [l])) (beVal (ls ++ [l])) key v (finBit b1)) 1 := by
  have htk : ((b0 :: b1 :: (ls ++ [l])).drop 2).take 2 = ls ++ [l] :=
    List.take_of_length_le (by simp [hls])
  unfold stepLen2of2
  rw [pushHdr_phase ws _ 3 psz key v l hl (by simp [hls])]
  simp only [List.cons_append, phase_hdr1,
    phase_hdrBytes ws (b0 :: b1 :: (ls ++ [l])) 3 psz key v 2 2 hl (by simp [hls]) (by simp [hls]), htk]
  rfl

/-- `Length8of8`: the 64-bit length `ls ++ [l]` is complete -/
theorem stepLen8of8_phase (ws : WS) (psz : Nat) (key : List UInt8) (v : Nat) (b0 b1 : UInt8) (ls : List UInt8)
    (hls : ls.length = 7) (l : UInt8) (hl : ws.hdr.length = 32) :
    stepLen8of8 (hdrPhase ws (b0 :: b1 :: ls) 11 psz key v) l =
      if 0x7fffffffffffffff < beVal (ls ++ [l]) then
        errRet { hdrPhase ws (b0 :: b1 :: (ls ++ [l])) 11 psz key v with step := 99 } 1002 (-1) 1
      else if beVal (ls ++ [l]) ≤ 65535 then errRet (hdrPhase ws (b0 :: b1 :: (ls ++ [l])) 11 psz key v) 1002 (-1) 1
      else if ws.maxPayload ≠ 0 ∧ ws.maxPayload < beVal (ls ++ [l]) then
        errRet (hdrPhase ws (b0 :: b1 :: (ls ++ [l])) 11 psz key v) 1009 (-5) 1
      else .cont (lenPhase ws (b0 :: b1 :: (ls ++ [l])) (beVal (ls ++ [l])) key v (finBit b1)) 1 := by
  have htk : ((b0 :: b1 :: (ls ++ [l])).drop 2).take 8 = ls ++ [l] :=
    List.take_of_length_le (by simp [hls])
  unfold stepLen8of8
  rw [pushHdr_phase ws _ 11 psz key v l hl (by simp [hls])]
  simp only [List.cons_append, phase_hdr1,
    phase_hdrBytes ws (b0 :: b1 :: (ls ++ [l])) 11 psz key v 2 8 hl (by simp [hls]) (by simp [hls]), htk]
  rfl

/-- `Mask4Of4`: the key is the last four header bytes -/
theorem stepMask4_phase (ws : WS) (p : List UInt8) (psz : Nat) (key : List UInt8) (v : Nat) (m1 m2 m3 m4 : UInt8)
    (hl : ws.hdr.length = 32) (hp32 : p.length + 3 < 32) :
    stepMask4 (hdrPhase ws (p ++ [m1, m2, m3]) 15 psz key v) m4 =
      .cont (hdrPhase ws (p ++ [m1, m2, m3, m4]) 16 psz [m1, m2, m3, m4] v) 1 := by
  have hsz : (hdrPhase ws (p ++ [m1, m2, m3, m4]) 15 psz key v).hdrSize = p.length + 4 := List.length_append
  have hb : hdrBytes (hdrPhase ws (p ++ [m1, m2, m3, m4]) 15 psz key v)
      ((hdrPhase ws (p ++ [m1, m2, m3, m4]) 15 psz key v).hdrSize - 4) 4 = some [m1, m2, m3, m4] := by
    rw [hsz, Nat.add_sub_cancel, phase_hdrBytes ws _ 15 psz key v p.length 4 hl (by simp; omega) (by simp),
      List.drop_left]
    rfl
  unfold stepMask4
  rw [pushHdr_phase ws _ 15 psz key v m4 hl (by simp; omega), List.append_assoc]
  simp only [List.cons_append, List.nil_append, hb]
  rw [if_neg (by rw [hsz]; omega)]
  rfl

end Mhd.WS
