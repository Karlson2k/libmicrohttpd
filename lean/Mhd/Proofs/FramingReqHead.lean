/-
  The composition of C02's request-line scanner and header-section scanner (`reqParser`) meets the hypotheses of
  `LawfulHeadParser.of_extend`, at every level and for every read-buffer size: from C02's scanner laws (`rlLaws`, `HSP.hsLaws`: a finished run
  is not changed by bytes arriving behind it), `rl_run_done` (shape of every accepted request line) and
  `HSP.run_stable` (every string handed out lies below `read_buffer`).
-/
import Mhd.Model.FramingReqHead
import Mhd.Proofs.FramingHead
import Mhd.Proofs.ReqStable
import Mhd.Proofs.ReqLine
namespace Mhd.Framing
open Mhd.Gen
open Mhd.Req (Scanner)

theorem sl0_append (buf e : Req.Bytes) (sl : Req.Slice) (h : sl.region = 0 → sl.off + sl.len ≤ buf.size) :
    sl0 (buf ++ e) sl = sl0 buf sl := by
  unfold sl0
  by_cases hr : sl.region = 0
  · have hb := h hr
    simp only [hr, if_true, Array.toList_append]
    have h1 : sl.off ≤ buf.toList.length := by simp only [Array.length_toList]; omega
    rw [List.drop_append_of_le_length h1]
    rw [List.take_append_of_le_length (by simp only [List.length_drop, Array.length_toList]; omega)]
  · simp only [hr, if_false]

theorem fieldOf_append (buf e : Req.Bytes) (el : Req.Elem)
    (h : ∀ sl ∈ Req.HSP.Elem.slices el, sl.region = 0 → sl.off + sl.len ≤ buf.size) :
    fieldOf (buf ++ e) el = fieldOf buf el := by
  unfold fieldOf
  have hk := sl0_append buf e el.key (h el.key (by simp [Req.HSP.Elem.slices]))
  cases hv : el.value with
  | none => simp only [hk]
  | some v =>
    have := sl0_append buf e v (h v (by simp [Req.HSP.Elem.slices, hv]))
    simp only [hk, this]

theorem fieldsOf_append (buf e : Req.Bytes) (els : List Req.Elem)
    (h : ∀ el ∈ els, ∀ sl ∈ Req.HSP.Elem.slices el, sl.region = 0 → sl.off + sl.len ≤ buf.size) :
    fieldsOf (buf ++ e) els = fieldsOf buf els := by
  unfold fieldsOf
  induction els with
  | nil => rfl
  | cons a t ih =>
    simp only [List.filterMap_cons]
    rw [fieldOf_append buf e a (h a List.mem_cons_self), ih (fun el hm => h el (List.mem_cons_of_mem _ hm))]

theorem toList_drop_append (buf e : Req.Bytes) (n : Nat) (h : n ≤ buf.size) :
    (buf ++ e).toList.drop n = buf.toList.drop n ++ e.toList := by
  rw [Array.toList_append, List.drop_append_of_le_length (by simp only [Array.length_toList]; exact h)]

theorem rl_done_ext (F : Req.RLFlags) (b e : Req.Bytes) (d : Req.RLDone)
    (h : (Req.rlScanner F).run (Req.RL.init b 0) = .done d) :
    (Req.rlScanner F).run (Req.RL.init (b ++ e) 0) = .done (Req.rlExtendR d e) := by
  have := Scanner.feed_run (Req.rlLaws F) (Req.RL.init b 0) (Req.RLInv.init b 0 (Nat.zero_le _)) e
  rw [h] at this
  exact this.symm

theorem rl_no_fault (F : Req.RLFlags) (b : Req.Bytes) (f : Req.Fault) :
    (Req.rlScanner F).run (Req.RL.init b 0) ≠ .fault f :=
  Scanner.run_no_fault (Req.rlLaws F) _ (Req.RLInv.init b 0 (Nat.zero_le _)) f

theorem hs_done_ext (F : Req.FLFlags) (fs : Nat) (s : Req.HS) (hi : Req.HSP.Inv s) (e : Req.Bytes) (d : Req.HDone)
    (h : (Req.hsScanner F fs).run s = .done d) :
    (Req.hsScanner F fs).run (Req.hsExtend s e) = .done (Req.hsExtendR d e) := by
  have := Scanner.feed_run (Req.HSP.hsLaws F fs) s hi e
  rw [h] at this
  exact this.symm

theorem hs_no_fault (F : Req.FLFlags) (fs : Nat) (s : Req.HS) (hi : Req.HSP.Inv s) (f : Req.Fault) :
    (Req.hsScanner F fs).run s ≠ .fault f :=
  Scanner.run_no_fault (Req.HSP.hsLaws F fs) s hi f

/-- the state in which `get_req_headers` starts after the request line `r` -/
def hsAfter (r : Req.ReqLine) (rbSize : Nat) : Req.HS :=
  { buf := r.buf, rb := r.rb, rbSize := rbSize, method := r.method, version := r.version, crSp := r.crSp }

theorem hsStart_inv (buf : Req.Bytes) (rb rbSize method version crSp : Nat) (h1 : rb ≤ buf.size)
    (h2 : version + Discipline.httpVerLen + 1 ≤ rb) :
    Req.HSP.Inv { buf := buf, rb := rb, rbSize := rbSize, method := method, version := version, crSp := crSp } ∧
    Req.HSP.Inv2 { buf := buf, rb := rb, rbSize := rbSize, method := method, version := version, crSp := crSp } :=
  ⟨Req.HSP.Inv.start rfl rfl rfl rfl h1 h2 (fun _ h => nomatch h),
   Req.HSP.Inv2.start rfl rfl (fun _ h => nomatch h) (fun _ h => nomatch h)⟩

theorem headers_views (F : Req.FLFlags) (fs : Nat) (s : Req.HS) (hi : Req.HSP.Inv s) (h2 : Req.HSP.Inv2 s) (h : Req.Headers)
    (hr : (Req.hsScanner F fs).run s = .done (.ok h)) (hg : h.rb ≤ h.buf.size) (e : Req.Bytes) :
    fieldsOf (h.buf ++ e) h.elems = fieldsOf h.buf h.elems ∧ s.version + Discipline.httpVerLen + 1 ≤ h.rb := by
  have st := Req.HSP.run_stable F fs s hi h2 h hr
  refine ⟨fieldsOf_append h.buf e h.elems ?_, st.1.1⟩
  intro el hm sl hsl hr0
  have := st.1.2 el hm sl hsl hr0
  omega

theorem guard_ext (inLen : Nat) (h : Req.Headers) (ea : Req.Bytes) (hg : headersGuard inLen h = true) :
    headersGuard (inLen + ea.size) { h with buf := h.buf ++ ea } = true ∧ h.rb ≤ h.buf.size := by
  unfold headersGuard at hg ⊢
  simp only [Bool.and_eq_true, decide_eq_true_eq] at hg ⊢
  refine ⟨⟨?_, ?_⟩, hg.1⟩
  · show h.rb ≤ (h.buf ++ ea).size; rw [Array.size_append]; omega
  · show (h.buf ++ ea).size - h.rb < _; rw [Array.size_append]; omega

theorem toArray_cons_append (c : UInt8) (t e : Bytes) : (c :: (t ++ e)).toArray = (c :: t).toArray ++ e.toArray := by
  simp

theorem httpVerLen_eq : Discipline.httpVerLen = 8 := rfl

theorem reqTrailers_start (rbSize : Nat) (c : UInt8) (t : Bytes) :
    let s0 : Req.HS := { buf := Array.replicate 9 0 ++ (c :: t).toArray, rb := 9, rbSize := rbSize, method := 0, version := 0 }
    Req.HSP.Inv s0 ∧ Req.HSP.Inv2 s0 := by
  intro s0
  exact hsStart_inv _ 9 rbSize 0 0 0 (by simp [Array.size_append]) (by rw [httpVerLen_eq]; omega)

theorem reqTrailers_extend (lvl : Int) (rbSize : Nat) (b e : Bytes) (h : reqTrailers lvl rbSize b ≠ .incomplete) :
    reqTrailers lvl rbSize (b ++ e) = (reqTrailers lvl rbSize b).extend e := by
  cases b with
  | nil => exact absurd rfl h
  | cons c t =>
    obtain ⟨inv, inv2⟩ := reqTrailers_start rbSize c t
    simp only [reqTrailers] at h
    simp only [reqTrailers, List.cons_append]
    rw [toArray_cons_append, ← Array.append_assoc]
    cases hrun : (Req.hsScanner (Req.FLFlags.ofLevel lvl) 9).run
        { buf := Array.replicate 9 0 ++ (c :: t).toArray, rb := 9, rbSize := rbSize, method := 0, version := 0 } with
    | more s => rw [hrun] at h; exact absurd rfl h
    | fault f => exact absurd hrun (hs_no_fault _ 9 _ inv f)
    | done d =>
      rw [hrun] at h
      have hx := hs_done_ext _ 9 _ inv e.toArray d hrun
      simp only [Req.hsExtend] at hx
      rw [hx]
      cases d with
      | err k => rfl
      | ok hd =>
        simp only at h ⊢
        by_cases hg : headersGuard (c :: t).length hd = true
        · obtain ⟨g', hrb⟩ := guard_ext _ hd e.toArray hg
          have hv := headers_views _ 9 _ inv inv2 hd hrun hrb e.toArray
          simp only [Req.hsExtendR]
          have hlen : (c :: (t ++ e)).length = (c :: t).length + e.toArray.size := by simp; omega
          rw [hlen, if_pos g', if_pos hg, hv.1, toList_drop_append _ _ _ hrb]; rfl
        · rw [if_neg hg] at h; exact absurd rfl h

theorem reqTrailers_length (lvl : Int) (rbSize : Nat) (b : Bytes) (fs : List Field) (r : Bytes)
    (h : reqTrailers lvl rbSize b = .ok fs r) : r.length < b.length := by
  cases b with
  | nil => simp [reqTrailers] at h
  | cons c t =>
    simp only [reqTrailers] at h
    split at h
    · cases h
    · cases h
    · cases h
    · rename_i hd _
      split at h
      · rename_i hg
        simp only [FieldsRes.ok.injEq] at h
        unfold headersGuard at hg
        simp only [Bool.and_eq_true, decide_eq_true_eq] at hg
        rw [← h.2]
        simp only [List.length_drop, Array.length_toList]
        exact hg.2
      · cases h

theorem reqHead_start (F : Req.RLFlags) (b : Req.Bytes) (r : Req.ReqLine) (rbSize : Nat)
    (hr : (Req.rlScanner F).run (Req.RL.init b 0) = .done (.ok r)) :
    Req.RLPost r ∧ Req.HSP.Inv (hsAfter r rbSize) ∧ Req.HSP.Inv2 (hsAfter r rbSize) := by
  have post := Req.rl_run_done F (Req.RLInvX.init F b 0 (Nat.zero_le _)) hr
  have := hsStart_inv r.buf r.rb rbSize r.method r.version r.crSp post.1.hrb post.1.hv
  exact ⟨post.1, this⟩

theorem reqHead_extend (lvl : Int) (rbSize : Nat) (b e : Bytes) (h : reqHead lvl rbSize b ≠ .incomplete) :
    reqHead lvl rbSize (b ++ e) = (reqHead lvl rbSize b).extend e := by
  cases b with
  | nil => exact absurd rfl h
  | cons c t =>
    simp only [reqHead] at h
    simp only [reqHead, List.cons_append]
    rw [toArray_cons_append]
    cases hrl : (Req.rlScanner (Req.RLFlags.ofLevel lvl)).run (Req.RL.init (c :: t).toArray 0) with
    | more s => rw [hrl] at h; exact absurd rfl h
    | fault f => exact absurd hrl (rl_no_fault _ _ f)
    | done d =>
      rw [hrl] at h
      rw [rl_done_ext _ _ e.toArray d hrl]
      cases d with
      | err k => rfl
      | ok r =>
        obtain ⟨post, inv, inv2⟩ := reqHead_start _ _ r rbSize hrl
        simp only at h ⊢
        simp only [Req.rlExtendR]
        cases hrun : (Req.hsScanner (Req.FLFlags.ofLevel lvl) r.rb).run
            { buf := r.buf, rb := r.rb, rbSize := rbSize, method := r.method, version := r.version, crSp := r.crSp } with
        | more s => rw [hrun] at h; exact absurd rfl h
        | fault f => exact absurd hrun (hs_no_fault _ r.rb _ inv f)
        | done d2 =>
          rw [hrun] at h
          have hx := hs_done_ext _ r.rb _ inv e.toArray d2 hrun
          simp only [Req.hsExtend, hsAfter] at hx
          rw [hx]
          cases d2 with
          | err k => rfl
          | ok hh =>
            simp only at h ⊢
            by_cases hg : (headersGuard (c :: t).length hh && lineGuard r) = true
            · rw [if_pos hg]
              simp only [Bool.and_eq_true] at hg
              obtain ⟨g', hrb⟩ := guard_ext _ hh e.toArray hg.1
              have hv := headers_views _ r.rb _ inv inv2 hh hrun hrb e.toArray
              have hl : r.method + r.methodLen ≤ r.tgt := by
                have := hg.2; unfold lineGuard at this; simpa using this
              have hver : r.version + 8 + 1 ≤ hh.rb := by have := hv.2; rw [httpVerLen_eq] at this; exact this
              have htl := post.htl
              simp only [Req.hsExtendR]
              have hlen : (c :: (t ++ e)).length = (c :: t).length + e.toArray.size := by simp; omega
              have hlg : lineGuard { r with buf := r.buf ++ e.toArray } = lineGuard r := rfl
              rw [hlen, g', hlg, hg.2, Bool.and_self, if_pos rfl, hv.1, toList_drop_append _ _ _ hrb]
              rw [sl0_append hh.buf e.toArray ⟨0, r.method, r.methodLen⟩ (fun _ => by show r.method + r.methodLen ≤ _; omega),
                  sl0_append hh.buf e.toArray ⟨0, r.tgt, r.tgtLen⟩ (fun _ => by show r.tgt + r.tgtLen ≤ _; omega)]
              rfl
            · rw [if_neg hg] at h; exact absurd rfl h

theorem reqHead_length (lvl : Int) (rbSize : Nat) (b : Bytes) (hd : Head) (rest : Bytes)
    (h : reqHead lvl rbSize b = .ok hd rest) : rest.length < b.length := by
  cases b with
  | nil => simp [reqHead] at h
  | cons c t =>
    simp only [reqHead] at h
    split at h
    · cases h
    · cases h
    · cases h
    · split at h
      · cases h
      · cases h
      · cases h
      · split at h
        · rename_i hg
          simp only [HeadRes.ok.injEq] at h
          simp only [Bool.and_eq_true] at hg
          have hg1 := hg.1
          unfold headersGuard at hg1
          simp only [Bool.and_eq_true, decide_eq_true_eq] at hg1
          rw [← h.2]
          simp only [List.length_drop, Array.length_toList]
          exact hg1.2
        · cases h

end Mhd.Framing
