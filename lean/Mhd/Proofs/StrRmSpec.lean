/-
  C17 reference for the token *editors* (`MHD_str_remove_token_caseless_`,
  `MHD_str_remove_tokens_caseless_`), stated against the tokenizer
  `tokensOf : Bytes → List Bytes` of `Mhd.Proofs.StrTokSpec` (split on ',', trim
  SP/HT), plus the pure list lemmas the proofs about the model need.
-/
import Mhd.Proofs.StrTokSpec

namespace Mhd.Str

def notWsB (c : UInt8) : Bool := !isWs c

/-- the words of an element: maximal runs of characters other than SP/HT -/
def wordsAux : Bytes → Bytes → List Bytes
  | acc, [] => if acc = [] then [] else [acc.reverse]
  | acc, x :: t =>
    if isWs x then (if acc = [] then wordsAux [] t else acc.reverse :: wordsAux [] t)
    else wordsAux (x :: acc) t

def wordsOf (e : Bytes) : List Bytes := wordsAux [] e

/-- the separator of a normalised list: ", " -/
abbrev sepCS : Bytes := [0x2c, 0x20]

/-- `sep.intercalate` -/
def joinWith (sep : Bytes) : List Bytes → Bytes
  | [] => []
  | [e] => e
  | e :: e' :: es => e ++ sep ++ joinWith sep (e' :: es)

/-- an element with every run of spaces/tabs replaced by one space (and none at the ends) -/
def normElem (e : Bytes) : Bytes := joinWith [0x20] (wordsOf e)

/-- the elements that survive the removal of `tok`: non-empty and not caselessly equal to it -/
def keptElems (s tok : Bytes) : List Bytes :=
  (tokensOf s).filter (fun e => !e.isEmpty && !ceqBytes e tok)

/-- reference output of `MHD_str_remove_token_caseless_` -/
def removeTokenOut (s tok : Bytes) : Bytes := joinWith [0x2c, 0x20] ((keptElems s tok).map normElem)

theorem joinWith_eq_intercalate (sep : Bytes) (l : List Bytes) : joinWith sep l = sep.intercalate l := by
  induction l with
  | nil => simp [joinWith, List.intercalate]
  | cons e t ih =>
    cases t with
    | nil => simp [joinWith, List.intercalate]
    | cons e' es =>
      rw [joinWith, ih]
      simp [List.intercalate, List.intersperse]

theorem joinWith_cons (sep : Bytes) (k : Bytes) (ks : List Bytes) :
    joinWith sep (k :: ks) = k ++ (if ks = [] then [] else sep ++ joinWith sep ks) := by
  cases ks with
  | nil => simp [joinWith]
  | cons e es => simp [joinWith]

theorem joinWith_append (sep : Bytes) (A B : List Bytes) (hB : B ≠ []) :
    joinWith sep (A ++ B) = joinWith sep A ++ (if A = [] then [] else sep) ++ joinWith sep B := by
  induction A with
  | nil => rfl
  | cons a t ih =>
    rw [List.cons_append, joinWith_cons, joinWith_cons, ih]
    by_cases ht : t = [] <;> simp [ht, hB, joinWith]

theorem joinWith_length_mem (sep : Bytes) (l : List Bytes) : ∀ x ∈ l, x.length ≤ (joinWith sep l).length := by
  induction l with
  | nil => intro x hx; simp at hx
  | cons a t ih =>
    intro x hx
    rw [joinWith_cons]
    rcases List.mem_cons.mp hx with h | h
    · subst h; simp
    · have := ih x h
      simp only [List.ne_nil_of_mem h, if_false, List.length_append]; omega

theorem joinWith_ne_nil (sep : Bytes) (a : Bytes) (t : List Bytes) (ha : a ≠ []) : joinWith sep (a :: t) ≠ [] := by
  rw [joinWith_cons]; simp [ha]

theorem joinWith_cons_cons (sep a b : Bytes) (t : List Bytes) :
    joinWith sep (a :: b :: t) = a ++ (sep ++ joinWith sep (b :: t)) := by
  rw [joinWith]; simp [List.append_assoc]

theorem joinWith_mem (sep : Bytes) (l : List Bytes) : ∀ x ∈ joinWith sep l, x ∈ sep ∨ ∃ w ∈ l, x ∈ w := by
  induction l with
  | nil => intro x hx; simp [joinWith] at hx
  | cons a t ih =>
    intro x hx
    rw [joinWith_cons] at hx
    rcases List.mem_append.mp hx with h | h
    · exact Or.inr ⟨a, by simp, h⟩
    · by_cases ht : t = []
      · simp [ht] at h
      · simp only [ht, if_false] at h
        rcases List.mem_append.mp h with h | h
        · exact Or.inl h
        · rcases ih x h with h | ⟨w, hw, hxw⟩
          · exact Or.inl h
          · exact Or.inr ⟨w, List.mem_cons_of_mem _ hw, hxw⟩

/-- what is still to be written for the elements `ks`; `first` = nothing written yet -/
def emitCS (first : Bool) : List Bytes → Bytes
  | [] => []
  | k :: ks => (if first then [] else sepCS) ++ k ++ emitCS false ks

theorem emitCS_false (ks : List Bytes) :
    emitCS false ks = if ks = [] then [] else sepCS ++ joinWith sepCS ks := by
  induction ks with
  | nil => rfl
  | cons k t ih =>
    rw [emitCS, ih, joinWith_cons]
    cases t <;> simp

theorem joinWith_eq_emit (ks : List Bytes) : joinWith sepCS ks = emitCS true ks := by
  cases ks with
  | nil => rfl
  | cons k t => rw [emitCS, emitCS_false, joinWith_cons]; simp

theorem notWsB_false_iff (x : UInt8) : notWsB x = false ↔ isWs x = true := by simp [notWsB]
theorem notWsB_true_iff (x : UInt8) : notWsB x = true ↔ isWs x = false := by simp [notWsB]

theorem wordsAux_nil (acc : Bytes) : wordsAux acc [] = if acc = [] then [] else [acc.reverse] := by rw [wordsAux]

theorem wordsAux_cons_ws (acc : Bytes) (x : UInt8) (t : Bytes) (hx : isWs x = true) :
    wordsAux acc (x :: t) = (if acc = [] then [] else [acc.reverse]) ++ wordsOf t := by
  rw [wordsAux, if_pos hx]
  by_cases ha : acc = []
  · rw [if_pos ha, if_pos ha]; rfl
  · rw [if_neg ha, if_neg ha]; rfl

theorem wordsAux_cons_word (acc : Bytes) (x : UInt8) (t : Bytes) (hx : isWs x = false) :
    wordsAux acc (x :: t) = wordsAux (x :: acc) t := by
  rw [wordsAux, if_neg (by simp [hx])]

theorem wordsAux_word_prefix (acc p u : Bytes) (hp : ∀ x ∈ p, isWs x = false) :
    wordsAux acc (p ++ u) = wordsAux (p.reverse ++ acc) u := by
  induction p generalizing acc with
  | nil => rfl
  | cons x t ih =>
    rw [List.cons_append, wordsAux_cons_word acc x _ (hp x List.mem_cons_self),
      ih (x :: acc) (fun y hy => hp y (List.mem_cons_of_mem _ hy)), List.reverse_cons, List.append_assoc]
    rfl

theorem wordsOf_ws_prefix (w u : Bytes) (hw : ∀ x ∈ w, isWs x = true) : wordsOf (w ++ u) = wordsOf u := by
  induction w with
  | nil => rfl
  | cons x t ih =>
    show wordsAux [] (x :: (t ++ u)) = _
    rw [wordsAux_cons_ws [] x _ (hw x List.mem_cons_self)]
    exact ih (fun y hy => hw y (List.mem_cons_of_mem _ hy))

theorem wordsAux_word_end (acc v : Bytes) (hv : StopsAt notWsB v) :
    wordsAux acc v = (if acc = [] then [] else [acc.reverse]) ++ wordsOf (v.dropWhile isWs) := by
  rcases hv with rfl | ⟨z, b, rfl, hz⟩
  · rw [wordsAux_nil]; exact (List.append_nil _).symm
  · have hzw := (notWsB_false_iff z).mp hz
    rw [wordsAux_cons_ws acc z b hzw, List.dropWhile_cons_of_pos hzw]
    conv => lhs; rw [← List.takeWhile_append_dropWhile (p := isWs) (l := b), wordsOf_ws_prefix _ _ (List.takeWhile_mem isWs b)]

theorem split_word_ws (u : Bytes) :
    u = u.takeWhile notWsB ++ ((u.dropWhile notWsB).takeWhile isWs ++ (u.dropWhile notWsB).dropWhile isWs) := by
  rw [List.takeWhile_append_dropWhile, List.takeWhile_append_dropWhile]

theorem wordsAux_split (acc u : Bytes) :
    wordsAux acc u =
      (if acc.reverse ++ u.takeWhile notWsB = [] then [] else [acc.reverse ++ u.takeWhile notWsB]) ++
        wordsOf ((u.dropWhile notWsB).dropWhile isWs) := by
  conv => lhs; rw [← List.takeWhile_append_dropWhile (p := notWsB) (l := u)]
  rw [wordsAux_word_prefix acc _ _ (fun x hx => (notWsB_true_iff x).mp (List.takeWhile_mem notWsB u x hx)),
    wordsAux_word_end _ _ (dropWhile_stops notWsB u), List.reverse_append, List.reverse_reverse]
  congr 1
  by_cases h : (u.takeWhile notWsB).reverse ++ acc = []
  · rw [if_pos h, if_pos (by simpa [List.append_eq_nil_iff, and_comm] using h)]
  · rw [if_neg h, if_neg (by simpa [List.append_eq_nil_iff, and_comm] using h)]

theorem wordsOf_split (u : Bytes) :
    wordsOf u = (if u.takeWhile notWsB = [] then [] else [u.takeWhile notWsB]) ++
      wordsOf ((u.dropWhile notWsB).dropWhile isWs) := by
  show wordsAux [] u = _
  rw [wordsAux_split]; rfl

theorem wordsAux_ws_suffix (acc e w : Bytes) (hw : ∀ x ∈ w, isWs x = true) : wordsAux acc (e ++ w) = wordsAux acc e := by
  induction e generalizing acc with
  | nil =>
    have hstop : StopsAt notWsB w := by
      cases w with
      | nil => exact Or.inl rfl
      | cons z b => exact stopsAt_cons b ((notWsB_false_iff z).mpr (hw z List.mem_cons_self))
    rw [List.nil_append, wordsAux_word_end acc w hstop, dropWhile_all isWs w hw, wordsAux_nil]
    exact List.append_nil _
  | cons x t ih =>
    by_cases hx : isWs x = true
    · rw [List.cons_append, wordsAux_cons_ws acc x _ hx, wordsAux_cons_ws acc x _ hx]
      exact congrArg _ (ih [])
    · rw [List.cons_append, wordsAux_cons_word acc x _ (by simpa using hx), wordsAux_cons_word acc x _ (by simpa using hx)]
      exact ih _

theorem trimR_append (e : Bytes) : ∃ w, e = trimR e ++ w ∧ ∀ x ∈ w, isWs x = true := by
  refine ⟨(e.reverse.takeWhile isWs).reverse, ?_, ?_⟩
  · unfold trimR
    rw [← List.reverse_append, List.takeWhile_append_dropWhile, List.reverse_reverse]
  · intro x hx
    exact List.takeWhile_mem isWs _ x (List.mem_reverse.mp hx)

theorem wordsOf_trimR (e : Bytes) : wordsOf (trimR e) = wordsOf e := by
  obtain ⟨w, he, hw⟩ := trimR_append e
  conv => rhs; rw [he]
  exact (wordsAux_ws_suffix [] _ w hw).symm

theorem wordsOf_trimWs (e : Bytes) : wordsOf (trimWs e) = wordsOf e := by
  unfold trimWs
  rw [wordsOf_trimR]
  have h := List.takeWhile_append_dropWhile (p := isWs) (l := e)
  conv => rhs; rw [← h]
  exact (wordsOf_ws_prefix _ _ (List.takeWhile_mem isWs e)).symm

theorem normElem_trimWs (e : Bytes) : normElem (trimWs e) = normElem e := by
  unfold normElem; rw [wordsOf_trimWs]

/-- the first word of `E`, then — if more words follow — a space and the remaining words joined -/
def restOutput (E : Bytes) : Bytes :=
  E.takeWhile notWsB ++
    (if wordsOf ((E.dropWhile notWsB).dropWhile isWs) = [] then []
     else 0x20 :: joinWith [0x20] (wordsOf ((E.dropWhile notWsB).dropWhile isWs)))

theorem wordsOf_ne_nil_of_head (x : UInt8) (t : Bytes) (hx : isWs x = false) : wordsOf (x :: t) ≠ [] := by
  rw [wordsOf_split, List.takeWhile_cons_of_pos ((notWsB_true_iff x).mpr hx)]
  exact fun h => by cases h

theorem restOutput_eq_norm (E : Bytes) (h : StopsAt isWs E) : restOutput E = joinWith [0x20] (wordsOf E) := by
  rcases h with rfl | ⟨x, t, rfl, hx⟩
  · rfl
  · have hne : (x :: t).takeWhile notWsB ≠ [] := by
      rw [List.takeWhile_cons_of_pos ((notWsB_true_iff x).mpr hx)]; exact List.cons_ne_nil _ _
    rw [wordsOf_split (x :: t), if_neg hne, List.singleton_append, joinWith_cons]
    rfl

theorem restOutput_nil : restOutput [] = [] := by decide

theorem rest_shorter (E : Bytes) (h : E ≠ []) : ((E.dropWhile notWsB).dropWhile isWs).length < E.length := by
  cases E with
  | nil => exact absurd rfl h
  | cons x E1 =>
    by_cases hx : notWsB x = true
    · rw [List.dropWhile_cons_of_pos hx]
      exact Nat.lt_succ_of_le (Nat.le_trans (List.length_dropWhile_le _ _) (List.length_dropWhile_le _ _))
    · rw [List.dropWhile_cons_of_neg hx,
        List.dropWhile_cons_of_pos ((notWsB_false_iff x).mp (by simpa using hx))]
      exact Nat.lt_succ_of_le (List.length_dropWhile_le _ _)

/-- the loop's view: the first word, then — if the element goes on — a space and the same again -/
theorem restOutput_rec (E : Bytes) :
    restOutput E = E.takeWhile notWsB ++
      ((if (E.dropWhile notWsB).dropWhile isWs = [] then [] else [0x20]) ++
        restOutput ((E.dropWhile notWsB).dropWhile isWs)) := by
  conv => lhs; unfold restOutput
  rcases dropWhile_stops isWs (E.dropWhile notWsB) with h | ⟨z, b, h, hz⟩
  · rw [h]; rfl
  · rw [h, restOutput_eq_norm _ (stopsAt_cons b hz), if_neg (wordsOf_ne_nil_of_head z b hz),
      if_neg (List.cons_ne_nil z b)]
    rfl

theorem norm_prefix (p u : Bytes) (hp : ∀ x ∈ p, isWs x = false) (hne : p ≠ []) :
    joinWith [0x20] (wordsOf (p ++ u)) = p ++ restOutput u := by
  unfold wordsOf
  rw [wordsAux_word_prefix [] p u hp, List.append_nil, wordsAux_split]
  have : ¬ p ++ u.takeWhile notWsB = [] := by simp [hne]
  simp only [List.reverse_reverse, this, if_false]
  rw [List.singleton_append, joinWith_cons]
  unfold restOutput
  simp [List.append_assoc]

theorem trimR_idem (e : Bytes) : trimR (trimR e) = trimR e := by
  unfold trimR
  rw [List.reverse_reverse, dropWhile_stop (dropWhile_stops isWs e.reverse)]

theorem trimWs_idem (p : Bytes) : trimWs (trimWs p) = trimWs p := by
  unfold trimWs
  have hst := dropWhile_stops isWs p
  generalize p.dropWhile isWs = q at hst
  have : (trimR q).dropWhile isWs = trimR q := by
    obtain ⟨w, hq, _⟩ := trimR_append q
    cases h : trimR q with
    | nil => rfl
    | cons z b =>
      rw [h] at hq
      rcases hst with rfl | ⟨z', b', rfl, hz⟩
      · cases hq
      · injection hq with hz' _
        exact List.dropWhile_cons_of_neg (by rw [← hz', hz]; exact Bool.false_ne_true)
  rw [this, trimR_idem]

theorem restOutput_cons_word (x : UInt8) (E : Bytes) (hx : isWs x = false) : restOutput (x :: E) = x :: restOutput E := by
  have hn := (notWsB_true_iff x).2 hx
  unfold restOutput
  rw [List.takeWhile_cons_of_pos hn, List.dropWhile_cons_of_pos hn]; rfl

theorem restOutput_cons_ws (x : UInt8) (E : Bytes) (hx : isWs x = true) :
    restOutput (x :: E) = if wordsOf (E.dropWhile isWs) = [] then [] else 0x20 :: joinWith [0x20] (wordsOf (E.dropWhile isWs)) := by
  have hn : ¬ notWsB x = true := by rw [(notWsB_false_iff x).2 hx]; exact Bool.false_ne_true
  unfold restOutput
  rw [List.takeWhile_cons_of_neg hn, List.dropWhile_cons_of_neg hn, List.dropWhile_cons_of_pos hx]; rfl

theorem wordsOf_nil_iff (E : Bytes) : wordsOf (E.dropWhile isWs) = [] ↔ trimR E = [] := by
  rw [trimR_eq_nil_iff, List.all_eq_true]
  constructor
  · intro h
    rcases dropWhile_stops isWs E with h0 | ⟨z, b, h0, hz⟩
    · have := List.takeWhile_append_dropWhile (p := isWs) (l := E)
      rw [h0, List.append_nil] at this
      exact fun x hx => List.takeWhile_mem isWs E x (by rw [this]; exact hx)
    · rw [h0] at h; exact absurd h (wordsOf_ne_nil_of_head z b hz)
  · intro h; rw [dropWhile_all isWs E h]; rfl

theorem ceq_ws_false (c : UInt8) (a t : Bytes) (hc : isWs c = true) (ht : ∀ y ∈ t, isWs y = false) :
    ceqBytes (c :: a) t = false := by
  cases t with
  | nil => rfl
  | cons y t' =>
    have : charsEqualCaseless c y = false := Bool.eq_false_iff.2 fun h => by
      have := ht y List.mem_cons_self
      rw [ceq_ws_left hc h, hc] at this; cases this
    show (charsEqualCaseless c y && _) = false
    rw [this]; rfl

/-- against a token without blanks, normalising the blanks inside an element changes nothing -/
theorem ceq_restOutput (t : Bytes) (ht : ∀ y ∈ t, isWs y = false) :
    ∀ E : Bytes, ceqBytes (trimR (restOutput E)) t = ceqBytes (trimR E) t := by
  intro E
  induction E generalizing t with
  | nil => rfl
  | cons x E' ih =>
    by_cases hx : isWs x = true
    · rw [restOutput_cons_ws x E' hx, trimR_cons x E']
      by_cases hW : wordsOf (E'.dropWhile isWs) = []
      · rw [if_pos hW, if_pos ⟨(wordsOf_nil_iff E').1 hW, hx⟩]; rfl
      · have hne : trimR E' ≠ [] := fun h => hW ((wordsOf_nil_iff E').2 h)
        rw [if_neg hW, if_neg (fun h => hne h.1), ceq_ws_false x _ t hx ht]
        obtain ⟨z, b, hD, hz⟩ := (dropWhile_stops isWs E').resolve_left fun h => hW (by rw [h]; rfl)
        rw [hD, ← restOutput_eq_norm _ (stopsAt_cons b hz), restOutput_cons_word z b hz, trimR_cons,
          if_neg (fun h => by rw [trimR_cons, if_neg (fun h' => by rw [hz] at h'; exact Bool.false_ne_true h'.2)] at h; cases h.1)]
        exact ceq_ws_false 0x20 _ t (by decide) ht
    · have hx' : isWs x = false := by simpa using hx
      rw [restOutput_cons_word x E' hx', trimR_cons, trimR_cons, if_neg (fun h => hx h.2), if_neg (fun h => hx h.2)]
      cases t with
      | nil => rfl
      | cons y t' =>
        show (charsEqualCaseless x y && _) = (charsEqualCaseless x y && _)
        exact congrArg _ (ih t' (fun z hz => ht z (List.mem_cons_of_mem _ hz)))

def keptOut (tok r : Bytes) : List Bytes := (keptElems r tok).map normElem

/-- the reference output for the elements `ts` -/
def keptOf (tok : Bytes) (ts : List Bytes) : List Bytes := (ts.filter (fun e => !ceqBytes e tok)).map normElem

theorem keptOf_cons (tok T : Bytes) (ts : List Bytes) :
    keptOf tok (T :: ts) = if ceqBytes T tok then keptOf tok ts else normElem T :: keptOf tok ts := by
  unfold keptOf
  rw [List.filter_cons]
  cases ceqBytes T tok <;> rfl

theorem keptOut_eq_keptOf (tok r : Bytes) : keptOut tok r = keptOf tok (tokListOf r) := by
  unfold keptOut keptOf keptElems tokListOf
  rw [List.filter_filter]
  congr 2; funext e; exact Bool.and_comm _ _

end Mhd.Str
