/-
  C17 reference for the comma-list token functions: split on ',', trim SP/HT,
  compare caselessly — plus the list lemmas the proofs about the model need.

  The proofs follow the code element by element: the input left to scan is
  `headElem r ++ restElems r`, and everything the reference says about it goes
  through `tokListOf r`, the non-empty trimmed elements.
-/
import Mhd.Proofs.StrCmp

namespace Mhd.Str

def isComma (c : UInt8) : Bool := c == 0x2c
def notComma (c : UInt8) : Bool := c != 0x2c

/-- split at every comma (always at least one element) -/
def splitAux : Bytes → Bytes → List Bytes
  | acc, [] => [acc.reverse]
  | acc, x :: t => if x = 0x2c then acc.reverse :: splitAux [] t else splitAux (x :: acc) t

def splitComma (s : Bytes) : List Bytes := splitAux [] s

/-- remove trailing spaces and tabs -/
def trimR (e : Bytes) : Bytes := (e.reverse.dropWhile isWs).reverse

/-- remove leading and trailing spaces and tabs -/
def trimWs (e : Bytes) : Bytes := trimR (e.dropWhile isWs)

/-- the trimmed elements of the comma list -/
def tokensOf (s : Bytes) : List Bytes := (splitComma s).map trimWs

/-- reference for `MHD_str_has_token_caseless_`: some element equals the token caselessly -/
def hasTokenSpec (s tok : Bytes) : Bool := (tokensOf s).any (fun e => ceqBytes e tok)

/-- a token the API allows: non-empty, no NUL, space, tab or comma -/
def TokenOk (tok : Bytes) : Prop := tok ≠ [] ∧ ∀ x ∈ tok, x ≠ 0 ∧ x ≠ 0x20 ∧ x ≠ 0x09 ∧ x ≠ 0x2c

/-- the tokens named by a token list: its trimmed, non-empty elements -/
def tokListOf (tokens : Bytes) : List Bytes := (tokensOf tokens).filter (fun t => !t.isEmpty)

/-- `b` is empty or starts with a character not satisfying `p` -/
def StopsAt (p : UInt8 → Bool) (b : Bytes) : Prop := b = [] ∨ ∃ z b', b = z :: b' ∧ p z = false

theorem stopsAt_cons {p : UInt8 → Bool} {z : UInt8} (b : Bytes) (hz : p z = false) : StopsAt p (z :: b) :=
  Or.inr ⟨z, b, rfl, hz⟩

theorem dropWhile_stops (p : UInt8 → Bool) (l : Bytes) : StopsAt p (l.dropWhile p) := by
  induction l with
  | nil => exact Or.inl rfl
  | cons x t ih =>
    by_cases hx : p x = true
    · rw [List.dropWhile_cons_of_pos hx]; exact ih
    · rw [List.dropWhile_cons_of_neg hx]; exact stopsAt_cons t (by simpa using hx)

theorem dropWhile_all (p : UInt8 → Bool) (a : Bytes) (h : ∀ x ∈ a, p x = true) : a.dropWhile p = [] := by
  have := List.dropWhile_append_of_pos (l₂ := []) h
  simpa using this

theorem takeWhile_stop {p : UInt8 → Bool} {b : Bytes} (hb : StopsAt p b) : b.takeWhile p = [] := by
  rcases hb with rfl | ⟨z, b', rfl, hz⟩
  · rfl
  · exact List.takeWhile_cons_of_neg (by simp [hz])

theorem dropWhile_stop {p : UInt8 → Bool} {b : Bytes} (hb : StopsAt p b) : b.dropWhile p = b := by
  rcases hb with rfl | ⟨z, b', rfl, hz⟩
  · rfl
  · exact List.dropWhile_cons_of_neg (by simp [hz])

theorem takeWhile_append_stop (p : UInt8 → Bool) (a b : Bytes) (hb : StopsAt p b) :
    (a ++ b).takeWhile p = a.takeWhile p := by
  induction a with
  | nil => exact takeWhile_stop hb
  | cons x t ih =>
    by_cases hx : p x = true
    · rw [List.cons_append, List.takeWhile_cons_of_pos hx, List.takeWhile_cons_of_pos hx, ih]
    · rw [List.cons_append, List.takeWhile_cons_of_neg hx, List.takeWhile_cons_of_neg hx]

theorem dropWhile_append_stop (p : UInt8 → Bool) (a b : Bytes) (hb : StopsAt p b) :
    (a ++ b).dropWhile p = a.dropWhile p ++ b := by
  induction a with
  | nil => exact dropWhile_stop hb
  | cons x t ih =>
    by_cases hx : p x = true
    · rw [List.cons_append, List.dropWhile_cons_of_pos hx, List.dropWhile_cons_of_pos hx, ih]
    · rw [List.cons_append, List.dropWhile_cons_of_neg hx, List.dropWhile_cons_of_neg hx, List.cons_append]

theorem takeWhile_append_all (p : UInt8 → Bool) (a b : Bytes) (ha : ∀ x ∈ a, p x = true) (hb : StopsAt p b) :
    (a ++ b).takeWhile p = a := by
  rw [takeWhile_append_stop p a b hb, List.takeWhile_all ha]

theorem takeWhile_and (p q : UInt8 → Bool) (l : Bytes) :
    l.takeWhile (fun c => p c && q c) = (l.takeWhile p).takeWhile q := by
  induction l with
  | nil => rfl
  | cons x t ih =>
    by_cases hp : p x = true
    · by_cases hq : q x = true
      · simp [List.takeWhile, hp, hq, ih]
      · simp only [Bool.not_eq_true] at hq; simp [List.takeWhile, hp, hq]
    · simp only [Bool.not_eq_true] at hp; simp [List.takeWhile, hp]

theorem dropWhile_and (p q : UInt8 → Bool) (l : Bytes) :
    l.dropWhile (fun c => p c && q c) = (l.takeWhile p).dropWhile q ++ l.dropWhile p := by
  induction l with
  | nil => rfl
  | cons x t ih =>
    by_cases hp : p x = true
    · by_cases hq : q x = true
      · simp [List.takeWhile, List.dropWhile, hp, hq, ih]
      · simp only [Bool.not_eq_true] at hq
        simp [List.takeWhile, List.dropWhile, hp, hq]
    · simp only [Bool.not_eq_true] at hp; simp [List.takeWhile, List.dropWhile, hp]

theorem isWs_iff (c : UInt8) : isWs c = true ↔ c = 0x20 ∨ c = 0x09 := by
  simp [isWs]

theorem isWs_ne_comma {x : UInt8} (h : isWs x = true) : x ≠ 0x2c := by
  intro hc; subst hc; revert h; decide

theorem isWs_notComma (x : UInt8) (h : isWs x = true) : notComma x = true := by
  simp [notComma, isWs_ne_comma h]

theorem isWsComma_eq_false {x : UInt8} (h : isWsComma x = false) : isWs x = false ∧ x ≠ 0x2c := by
  simp only [isWsComma, Bool.or_eq_false_iff, beq_eq_false_iff_ne] at h
  exact ⟨by simp [isWs, h.1.1, h.1.2], h.2⟩

theorem isWsComma_cases {x : UInt8} (h : isWsComma x = true) : isWs x = true ∨ x = 0x2c := by
  simp only [isWsComma, Bool.or_eq_true, beq_iff_eq] at h
  rcases h with h | h
  · exact Or.inl ((isWs_iff x).mpr h)
  · exact Or.inr h

theorem isWs_zero : isWs 0 = false := by decide
theorem isWsComma_zero : isWsComma 0 = false := by decide

theorem ceq_nonalpha (x y : UInt8) (hx : x.toNat < 0x41) (h : charsEqualCaseless x y = true) : y = x := by
  have hu : isUpper x = false := by
    rw [isUpper, Bool.and_eq_false_imp, decide_eq_true_eq, UInt8.le_iff_toNat_le]
    intro h1; exact absurd h1 (by simp only [UInt8.toNat_ofNat, Nat.reducePow, Nat.reduceMod]; omega)
  rw [charsEqualCaseless, hu, if_neg Bool.false_ne_true, Bool.or_eq_true, beq_iff_eq, Bool.and_eq_true, beq_iff_eq,
    isUpper, Bool.and_eq_true, decide_eq_true_eq, UInt8.le_iff_toNat_le] at h
  rcases h with h | ⟨h1, h2, _⟩
  · exact h.symm
  · simp only [UInt8.toNat_ofNat, Nat.reducePow, Nat.reduceMod] at h2; omega

theorem ceq_comma (y : UInt8) (h : charsEqualCaseless 0x2c y = true) : y = 0x2c :=
  ceq_nonalpha 0x2c y (by decide) h

theorem ceq_ws_left {x y : UInt8} (hx : isWs x = true) (h : charsEqualCaseless x y = true) : y = x := by
  refine ceq_nonalpha x y ?_ h
  rcases (isWs_iff x).mp hx with rfl | rfl <;> decide

def headElem (r : Bytes) : Bytes := r.takeWhile notComma
def restElems (r : Bytes) : Bytes := r.dropWhile notComma

theorem headElem_append_restElems (r : Bytes) : r = headElem r ++ restElems r :=
  (List.takeWhile_append_dropWhile).symm

theorem headElem_cons (x : UInt8) (t : Bytes) (hx : x ≠ 0x2c) : headElem (x :: t) = x :: headElem t :=
  List.takeWhile_cons_of_pos (by simp [notComma, hx])

theorem restElems_cons (x : UInt8) (t : Bytes) (hx : x ≠ 0x2c) : restElems (x :: t) = restElems t :=
  List.dropWhile_cons_of_pos (by simp [notComma, hx])

theorem headElem_comma (t : Bytes) : headElem (0x2c :: t) = [] := rfl
theorem restElems_comma (t : Bytes) : restElems (0x2c :: t) = 0x2c :: t := rfl

theorem headElem_notComma (u : Bytes) : ∀ x ∈ headElem u, notComma x = true := List.takeWhile_mem notComma u

theorem restElems_eq (r : Bytes) : restElems r = [] ∨ ∃ r', restElems r = 0x2c :: r' := by
  rcases dropWhile_stops notComma r with h | ⟨z, b, h, hz⟩
  · exact Or.inl h
  · have : z = 0x2c := by simpa [notComma] using hz
    exact Or.inr ⟨b, by rw [← this]; exact h⟩

theorem restElems_stops (p : UInt8 → Bool) (hp : p 0x2c = false) (u : Bytes) : StopsAt p (restElems u) := by
  rcases restElems_eq u with h | ⟨r', h⟩
  · exact Or.inl h
  · exact Or.inr ⟨0x2c, r', h, hp⟩

theorem headElem_nil_stops {u : Bytes} (h : headElem u = []) : StopsAt notComma u := by
  have := dropWhile_stops notComma u
  rwa [show u.dropWhile notComma = u from by
    conv => rhs; rw [headElem_append_restElems u, h]
    rfl] at this

theorem restElems_append_word (a v : Bytes) (ha : ∀ x ∈ a, notComma x = true) : restElems (a ++ v) = restElems v :=
  List.dropWhile_append_of_pos ha

theorem restElems_dropWhile_ws (r : Bytes) : restElems (r.dropWhile isWs) = restElems r := by
  conv => rhs; rw [← List.takeWhile_append_dropWhile (p := isWs) (l := r)]
  exact (restElems_append_word _ _ (fun z hz => isWs_notComma z (List.takeWhile_mem isWs r z hz))).symm

theorem headElem_append_word (a v : Bytes) (ha : ∀ x ∈ a, notComma x = true) : headElem (a ++ v) = a ++ headElem v :=
  List.takeWhile_append_of_pos ha

theorem rest_lt_of_elem (x : UInt8) (b : Bytes) (hx : isWsComma x = false) (k : Nat) :
    (restElems ((x :: b).drop k)).length < (x :: b).length := by
  by_cases hk : k = 0
  · subst hk
    rw [List.drop_zero, restElems_cons x b (isWsComma_eq_false hx).2]
    exact Nat.lt_succ_of_le (List.length_dropWhile_le notComma b)
  · have := List.length_dropWhile_le notComma ((x :: b).drop k)
    rw [List.length_drop] at this
    exact Nat.lt_of_le_of_lt this (Nat.sub_lt (Nat.succ_pos _) (Nat.pos_of_ne_zero hk))

theorem splitAux_eq (acc r : Bytes) :
    splitAux acc r = (acc.reverse ++ headElem r) ::
      (match restElems r with
       | [] => []
       | _ :: r' => splitComma r') := by
  induction r generalizing acc with
  | nil => simp [splitAux, headElem, restElems]
  | cons x t ih =>
    by_cases hx : x = 0x2c
    · subst hx
      simp [splitAux, headElem_comma, restElems_comma, splitComma]
    · rw [splitAux, if_neg hx, ih, headElem_cons x t hx, restElems_cons x t hx]
      simp

theorem splitComma_eq (r : Bytes) :
    splitComma r = headElem r ::
      (match restElems r with
       | [] => []
       | _ :: r' => splitComma r') := by
  have := splitAux_eq [] r
  simpa [splitComma] using this

theorem trimR_append_ws (e w : Bytes) (hw : ∀ x ∈ w, isWs x = true) : trimR (e ++ w) = trimR e := by
  unfold trimR
  rw [List.reverse_append, List.dropWhile_append_of_pos (fun x hx => hw x (List.mem_reverse.mp hx))]

theorem trimR_all_ws (w : Bytes) (hw : ∀ x ∈ w, isWs x = true) : trimR w = [] := by
  have := trimR_append_ws [] w hw
  simpa [trimR] using this

theorem trimR_cons (x : UInt8) (e : Bytes) :
    trimR (x :: e) = if trimR e = [] ∧ isWs x = true then [] else x :: trimR e := by
  unfold trimR
  rw [List.reverse_cons, List.dropWhile_append]
  by_cases h1 : e.reverse.dropWhile isWs = []
  · by_cases hx : isWs x = true <;> simp [h1, hx]
  · simp [h1]

theorem trimR_eq_nil_iff (e : Bytes) : trimR e = [] ↔ e.all isWs = true := by
  unfold trimR
  rw [List.reverse_eq_nil_iff, List.all_eq_true]
  constructor
  · intro h x hx
    have := List.takeWhile_append_dropWhile (p := isWs) (l := e.reverse)
    rw [h, List.append_nil] at this
    exact List.takeWhile_mem isWs e.reverse x (by rw [this]; exact List.mem_reverse.mpr hx)
  · intro h; exact dropWhile_all isWs _ (fun x hx => h x (List.mem_reverse.mp hx))

theorem trimR_last_nonws (a : Bytes) (z : UInt8) (hz : isWs z = false) : trimR (a ++ [z]) = a ++ [z] := by
  unfold trimR
  rw [List.reverse_append]
  simp [hz]

theorem trimWs_cons_ws (x : UInt8) (e : Bytes) (hx : isWs x = true) : trimWs (x :: e) = trimWs e := by
  unfold trimWs; rw [List.dropWhile_cons_of_pos hx]

theorem trimWs_of_head_not_ws (e : Bytes) (h : StopsAt isWs e) : trimWs e = trimR e := by
  unfold trimWs; rw [dropWhile_stop h]

theorem tokensOf_eq (r : Bytes) :
    tokensOf r = trimWs (headElem r) ::
      (match restElems r with
       | [] => []
       | _ :: r' => tokensOf r') := by
  unfold tokensOf
  rw [splitComma_eq]
  cases restElems r <;> rfl

theorem tokListOf_nil : tokListOf [] = [] := by decide

theorem tokListOf_comma (r' : Bytes) : tokListOf (0x2c :: r') = tokListOf r' := by
  unfold tokListOf
  rw [tokensOf_eq, headElem_comma, restElems_comma]
  rfl

theorem tokListOf_rest (r : Bytes) :
    tokListOf r = (if (trimWs (headElem r)).isEmpty then [] else [trimWs (headElem r)]) ++ tokListOf (restElems r) := by
  show (tokensOf r).filter _ = _
  rw [tokensOf_eq r, List.filter_cons]
  rcases restElems_eq r with h | ⟨r', h⟩
  · rw [h, tokListOf_nil]; by_cases he : (trimWs (headElem r)).isEmpty = true <;> simp [he]
  · rw [h, tokListOf_comma]; by_cases he : (trimWs (headElem r)).isEmpty = true <;> simp [he, tokListOf]

theorem tokListOf_skip (r : Bytes) : tokListOf r = tokListOf (r.dropWhile isWsComma) := by
  induction r with
  | nil => rfl
  | cons x t ih =>
    by_cases hx : isWsComma x = true
    · rw [List.dropWhile_cons_of_pos hx, ← ih]
      rcases isWsComma_cases hx with hws | rfl
      · have hc := isWs_ne_comma hws
        rw [tokListOf_rest (x :: t), tokListOf_rest t, headElem_cons x t hc, restElems_cons x t hc,
          trimWs_cons_ws x _ hws]
      · exact tokListOf_comma t
    · rw [List.dropWhile_cons_of_neg hx]

theorem tokListOf_elem (x : UInt8) (t : Bytes) (hx : isWsComma x = false) :
    tokListOf (x :: t) = trimR (headElem (x :: t)) :: tokListOf (restElems (x :: t)) ∧
      trimR (headElem (x :: t)) ≠ [] := by
  obtain ⟨hws, hc⟩ := isWsComma_eq_false hx
  have hne : trimR (headElem (x :: t)) ≠ [] := by
    rw [headElem_cons x t hc, trimR_cons]; simp [hws]
  refine ⟨?_, hne⟩
  rw [tokListOf_rest, trimWs_of_head_not_ws _ (by rw [headElem_cons x t hc]; exact stopsAt_cons _ hws)]
  cases h : trimR (headElem (x :: t)) with
  | nil => exact absurd h hne
  | cons _ _ => rfl

theorem ceqBytes_nil_left (t : Bytes) : ceqBytes [] t = decide (t = []) := by
  cases t <;> simp [listEq]

theorem ceqBytes_nil_right (e : Bytes) : ceqBytes e [] = decide (e = []) := by
  cases e <;> simp [listEq]

theorem hasTokenSpec_eq_any (s tok : Bytes) (h : tok ≠ []) :
    hasTokenSpec s tok = (tokListOf s).any (fun e => ceqBytes e tok) := by
  unfold hasTokenSpec tokListOf
  rw [List.any_filter]
  congr 1; funext e
  cases e with
  | nil => simp [ceqBytes_nil_left, h]
  | cons _ _ => rfl

/-- the element at the head of `r`, right-trimmed, is `t` (caselessly) -/
def elemIs : Bytes → Bytes → Bool
  | r, [] => (headElem r).all isWs
  | [], _ :: _ => false
  | x :: r', y :: t' => x != 0x2c && charsEqualCaseless x y && elemIs r' t'

theorem elemIs_nil (r : Bytes) : elemIs r [] = (headElem r).all isWs := by rw [elemIs.eq_def]

theorem elemIs_cons (x y : UInt8) (r' t' : Bytes) :
    elemIs (x :: r') (y :: t') = (x != 0x2c && charsEqualCaseless x y && elemIs r' t') := by rw [elemIs.eq_def]

theorem all_ws_headElem_iff (r : Bytes) :
    (headElem r).all isWs = true ↔ headElem (r.dropWhile isWs) = [] := by
  induction r with
  | nil => simp [headElem]
  | cons x t ih =>
    by_cases hx : isWs x = true
    · rw [headElem_cons _ _ (isWs_ne_comma hx), List.dropWhile_cons_of_pos hx, List.all_cons, hx, Bool.true_and]
      exact ih
    · rw [List.dropWhile_cons_of_neg hx]
      by_cases hc : x = 0x2c
      · subst hc; simp [headElem_comma]
      · rw [headElem_cons _ _ hc]; simp [hx]

theorem elemIs_eq (r t : Bytes) (ht : ∀ x ∈ t, x ≠ 0x20 ∧ x ≠ 0x09 ∧ x ≠ 0x2c) :
    elemIs r t = ceqBytes (trimR (headElem r)) t := by
  induction t generalizing r with
  | nil =>
    rw [elemIs_nil, ceqBytes_nil_right, Bool.eq_iff_iff, decide_eq_true_iff, trimR_eq_nil_iff]
  | cons y t' ih =>
    have hy := ht y List.mem_cons_self
    cases r with
    | nil => rfl
    | cons x r' =>
      rw [elemIs_cons]
      by_cases hc : x = 0x2c
      · subst hc; rfl
      · rw [headElem_cons x r' hc, trimR_cons, ih r' (fun x hx => ht x (List.mem_cons_of_mem _ hx))]
        have hxc : (x != 0x2c) = true := by simp [hc]
        by_cases hnil : trimR (headElem r') = [] ∧ isWs x = true
        · -- a space or tab matches no token character
          have hne : charsEqualCaseless x y = false := Bool.eq_false_iff.mpr (fun he => by
            have := ceq_ws_left hnil.2 he
            rcases (isWs_iff x).mp hnil.2 with h | h
            · exact hy.1 (this.trans h)
            · exact hy.2.1 (this.trans h))
          rw [if_pos hnil, hne, hxc]; rfl
        · rw [if_neg hnil, hxc, Bool.true_and]; rfl

end Mhd.Str
