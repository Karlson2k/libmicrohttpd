/-
  `process_value`: what one round of its staging loop does (`pvLoop_round`); for ARBITRARY input the
  loop ends within its fuel, never leaves `post_data`, touches only `xbuf`, `value_offset`, `must_ikvi`
  and the iterator calls, and puts at most two bytes aside (`processValue_any`); for well-formed
  (token) input it delivers exactly the decoded bytes of the whole tokens it was given, in contiguous
  pieces, and keeps the beginning of an incomplete escape in `pp->xbuf` (`processValue_spec`).
-/
import Mhd.Proofs.PPTok
import Mhd.Proofs.PPSpec
namespace Mhd.PP

theorem lt_XBUF_of_le_two {x : Nat} (h : x ≤ 2) : x < XBUF := Nat.lt_of_le_of_lt h (by decide)

theorem ppXbufLen_eq : Mhd.Gen.PP.ppXbufLen = 2 := by decide

def urlMeta (k : Bytes) : Meta := { key := some k }

theorem rawOf_eq_nil {ts : List Tok} (h : rawOf ts = []) : ts = [] := by
  cases ts with
  | nil => rfl
  | cons t ts => cases t <;> simp [Tok.raw] at h

theorem carry_whole {p : Bytes} {ts : List Tok} (hc : Carry p ts) (hr : rawOf ts = p) : p = [] ∧ ts = [] := by
  rcases hc with h | ⟨t, rest, q, rfl, hq, hne⟩
  · subst h; exact ⟨rfl, rawOf_eq_nil hr⟩
  · rw [rawOf_cons, hq, List.append_assoc] at hr
    have : q ++ rawOf rest = [] := List.append_cancel_left (hr.trans (List.append_nil p).symm)
    exact absurd (List.append_eq_nil_iff.mp this).1 hne

theorem slice_eq_take_drop (d : Bytes) (s e : Nat) : slice d s e = (d.drop s).take (e - s) := rfl

theorem slice_split (d : Bytes) (s m e : Nat) (h1 : s ≤ m) (h2 : m ≤ e) :
    slice d s e = slice d s m ++ slice d m e := by
  unfold slice
  rw [← Nat.sub_add_sub_cancel h2 h1, Nat.add_comm, List.take_add, List.drop_drop, Nat.add_sub_cancel' h1]

theorem slice_length (d : Bytes) (s e : Nat) (h : e ≤ d.length) : (slice d s e).length = e - s := by
  unfold slice
  rw [List.length_take, List.length_drop]
  exact Nat.min_eq_left (Nat.sub_le_sub_right h s)

theorem slice_self (d : Bytes) (s : Nat) : slice d s s = [] := by
  unfold slice
  rw [Nat.sub_self, List.take_zero]

theorem slice_one (d : Bytes) (x : Nat) (c : UInt8) (h : d[x]? = some c) : slice d x (x + 1) = [c] := by
  obtain ⟨hx, rfl⟩ := List.getElem?_eq_some_iff.mp h
  unfold slice
  rw [Nat.add_sub_cancel_left, List.drop_eq_getElem_cons hx, List.take_succ_cons, List.take_zero]

theorem slice_snoc (d : Bytes) (s p : Nat) (c : UInt8) (hs : s ≤ p) (hc : d[p]? = some c) :
    slice d s (p + 1) = slice d s p ++ [c] := by
  rw [slice_split d s p (p + 1) hs (Nat.le_succ p), slice_one d p c hc]

theorem slice_get (l : Bytes) (a b i : Nat) : (slice l a b)[i]? = if i < b - a then l[a + i]? else none := by
  simp [slice, List.getElem?_take, List.getElem?_drop]

theorem slice_app (a b : Bytes) (s e : Nat) (h : e ≤ a.length) : slice (a ++ b) s e = slice a s e := by
  unfold slice
  by_cases hs : s ≤ a.length
  · rw [List.drop_append_of_le_length hs, List.take_append_of_le_length (by simp; omega)]
  · have : e - s = 0 := by omega
    simp [this]

theorem slice_at (w x t : Bytes) (k : Nat) (hk : k = x.length) :
    slice (w ++ x ++ t) w.length (w.length + k) = x := by
  subst hk
  simp [slice]

theorem slice_drop (v z : Bytes) (off k e : Nat) (h : off ≤ v.length) :
    slice (v.drop off ++ z) k e = slice (v ++ z) (off + k) (off + e) := by
  unfold slice
  rw [← List.drop_append_of_le_length h, List.drop_drop]
  congr 1; omega

theorem slice_drop_app (d : Bytes) (a mx : Nat) : slice d a (a + mx) ++ d.drop (a + mx) = d.drop a := by
  unfold slice
  rw [Nat.add_sub_cancel_left, ← List.drop_drop, List.take_append_drop]

theorem pvLoop_stop (fuel : Nat) (d : Bytes) (pp : PP) (v : Nat) (last : Bool) (hf : 0 < fuel)
    (hm : pp.mustIkvi = false) : pvLoop fuel d pp [] v v last = pp := by
  cases fuel with
  | zero => cases hf
  | succ n => simp [pvLoop, hm]

/-- the iterator call of one round: made if `must_ikvi` is set or something was decoded -/
def roundEvs (pp : PP) (dec : Bytes) : List Event :=
  if pp.mustIkvi = true ∨ dec.length ≠ 0 then
    [{ key := some pp.keyStr, filename := none, ctype := none, enc := none, off := pp.valueOffset, data := dec }]
  else []

/-- the state after one round that decoded `dec` and (if the loop ends here) put `newXbuf` aside -/
def roundPP (pp : PP) (newXbuf : Option Bytes) (dec : Bytes) : PP :=
  { pp with xbuf := newXbuf.getD pp.xbuf, valueOffset := pp.valueOffset + dec.length, mustIkvi := false,
            evs := pp.evs ++ roundEvs pp dec }

theorem round_eq (pp : PP) (cut : Bool) (nx : Bytes) (dec : Bytes) :
    (let pp1 := if cut then { pp with xbuf := nx } else pp
     let pp2 := if pp1.mustIkvi ∨ dec.length ≠ 0 then emitUrl { pp1 with mustIkvi := false } dec else pp1
     { pp2 with valueOffset := pp2.valueOffset + dec.length }) = roundPP pp (if cut then some nx else none) dec := by
  have key : ∀ q : PP,
      (let pp2 := if q.mustIkvi ∨ dec.length ≠ 0 then emitUrl { q with mustIkvi := false } dec else q
       { pp2 with valueOffset := pp2.valueOffset + dec.length }) = roundPP q none dec := by
    intro q
    by_cases h : q.mustIkvi = true ∨ dec.length ≠ 0
    · simp only [if_pos h, roundPP, roundEvs, emitUrl, PP.keyStr]; rfl
    · -- no call is made, and `must_ikvi` is clear already
      have hm : q.mustIkvi = false := Bool.eq_false_iff.mpr fun hq => h (Or.inl hq)
      simp only [if_neg h, roundPP, roundEvs, List.append_nil, Option.getD_none]
      rw [← hm]
  cases cut
  · exact key pp
  · exact key { pp with xbuf := nx }

theorem pieces_round (pp : PP) (dec : Bytes) :
    Pieces (urlMeta pp.keyStr) pp.valueOffset dec (roundEvs pp dec) :=
  pieces_emit (ev := ⟨some pp.keyStr, none, none, none, pp.valueOffset, dec⟩) _ rfl rfl
    fun h => Or.inr fun h0 => h (List.length_eq_zero_iff.mp h0)

/-- where a round cuts its staging buffer `X`: how many bytes it decodes, and whether the loop then ends
    with the rest (the beginning of an escape) put aside in `pp->xbuf`.  At the very end of a value
    (`fin`) everything is decoded. -/
def stageCut (fin : Prop) [Decidable fin] (X : Bytes) : Nat × Bool :=
  if fin then (X.length, false) else ((escTail X).1, (escTail X).2.1)

theorem stageCut_drop_le {fin : Prop} [Decidable fin] {X : Bytes} {k : Nat} {cut : Bool}
    (h : stageCut fin X = (k, cut)) : (X.drop k).length ≤ 2 := by
  unfold stageCut at h
  by_cases hf : fin
  · rw [if_pos hf] at h
    rw [← (Prod.mk.inj h).1, List.drop_length]; exact Nat.zero_le 2
  · rw [if_neg hf] at h
    rw [← (Prod.mk.inj h).1]; exact escTail_drop_le X

theorem stageCut_short {fin : Prop} [Decidable fin] {X : Bytes} {k : Nat} (h : stageCut fin X = (k, false))
    (hX : X.length ≠ XBUF) : X.drop k = [] := by
  unfold stageCut at h
  by_cases hf : fin
  · rw [if_pos hf] at h
    rw [← (Prod.mk.inj h).1, List.drop_length]
  · rw [if_neg hf] at h
    obtain ⟨h1, h2⟩ := Prod.mk.inj h
    rw [← h1]; exact escTail_short X hX h2

/-- the amount `delta` a round takes from the input -/
theorem stage_amount {vs ve x : Nat} (hle : vs ≤ ve) (hx : x ≤ 2) :
    ∃ δ, min (ve - vs) (XBUF - x) = δ ∧ vs + δ ≤ ve ∧ (x + δ ≠ XBUF → vs + δ = ve) ∧ (vs ≠ ve → 0 < δ) := by
  have hxX := lt_XBUF_of_le_two hx
  rcases Nat.le_total (ve - vs) (XBUF - x) with h | h
  · refine ⟨_, Nat.min_eq_left h, ?_, fun _ => ?_, fun hne => ?_⟩
    · rw [Nat.add_sub_cancel' hle]; exact Nat.le_refl _
    · exact Nat.add_sub_cancel' hle
    · exact Nat.sub_pos_of_lt (Nat.lt_of_le_of_ne hle hne)
  · refine ⟨_, Nat.min_eq_right h, ?_, fun hne => ?_, fun _ => Nat.sub_pos_of_lt hxX⟩
    · exact Nat.add_le_of_le_sub' hle h
    · exact absurd (Nat.add_sub_cancel' (Nat.le_of_lt hxX)) hne

/-- the fuel `(ve - vs) + 2` suffices: a round that takes something uses one unit, the last two are for a
    round on what was carried and for leaving the loop -/
theorem fuel_next {vs ve n δ : Nat} (hf : ve + 2 ≤ n + 1 + vs) :
    (vs = ve → 0 < n) ∧ (0 < δ → ve + 2 ≤ n + (vs + δ)) := by
  omega

theorem pvLoop_round (fuel : Nat) (d : Bytes) (pp : PP) (xb : Bytes) (vs ve : Nat) (last : Bool)
    (hc : vs ≠ ve ∨ pp.mustIkvi = true ∨ xb.length > 0)
    (hg1 : xb.length ≤ 2) (hg2 : vs ≤ ve) (hg3 : ve ≤ d.length)
    {δ : Nat} {X : Bytes} {k : Nat} {cut : Bool}
    (hδ : min (ve - vs) (XBUF - xb.length) = δ) (hX : xb ++ slice d vs (vs + δ) = X)
    (hk : stageCut (last = true ∧ vs + δ = ve) X = (k, cut)) :
    pvLoop (fuel + 1) d pp xb vs ve last =
      if cut then roundPP pp (some (X.drop k)) (if k ≠ 0 then unescape (X.take k) else [])
      else pvLoop fuel d (roundPP pp none (if k ≠ 0 then unescape (X.take k) else [])) (X.drop k) (vs + δ) ve last := by
  have hg : ¬ (xb.length > XBUF ∨ ve < vs ∨ ve > d.length) := by
    have := lt_XBUF_of_le_two hg1
    omega
  -- the model's triple `(xoff, cut, clen)`: `clen ≠ 0` exactly if something is carried into the next round
  have he : ∃ clen, (if last = true ∧ vs + δ = ve then (X.length, false, 0) else escTail X) = (k, cut, clen) ∧
      (cut = false → (if clen ≠ 0 then X.drop k else []) = X.drop k) := by
    unfold stageCut at hk
    by_cases hfin : last = true ∧ vs + δ = ve
    · rw [if_pos hfin] at hk
      obtain ⟨rfl, rfl⟩ := Prod.mk.inj hk
      exact ⟨0, by rw [if_pos hfin], fun _ => List.drop_length.symm⟩
    · rw [if_neg hfin] at hk
      obtain ⟨rfl, rfl⟩ := Prod.mk.inj hk
      exact ⟨(escTail X).2.2, by rw [if_neg hfin], escTail_keep X⟩
  obtain ⟨clen, he1, he2⟩ := he
  subst hδ hX
  rw [pvLoop]
  simp only [hc, not_true_eq_false, if_false, hg, he1]
  have := round_eq pp cut ((xb ++ slice d vs (vs + min (ve - vs) (XBUF - xb.length))).drop k)
    (if k ≠ 0 then unescape ((xb ++ slice d vs (vs + min (ve - vs) (XBUF - xb.length))).take k) else [])
  simp only at this
  rw [this]
  cases cut
  · simp only [Bool.false_eq_true, if_false, he2 rfl]
  · simp only [if_true]

theorem pvLoop_any : ∀ (fuel : Nat) (d : Bytes) (pp : PP) (xb : Bytes) (vs ve : Nat) (last : Bool),
    xb.length ≤ 2 → pp.xbuf.length ≤ 2 → vs ≤ ve → ve ≤ d.length → ve + 2 ≤ fuel + vs →
    ∃ x v m e, x.length ≤ 2 ∧
      pvLoop fuel d pp xb vs ve last = { pp with xbuf := x, valueOffset := v, mustIkvi := m, evs := e } := by
  intro fuel
  induction fuel with
  | zero => intro d pp xb vs ve last _ _ _ _ h; omega
  | succ n ih =>
    intro d pp xb vs ve last hxb hpx hle hve hfuel
    by_cases hc : vs ≠ ve ∨ pp.mustIkvi = true ∨ xb.length > 0
    · obtain ⟨δ, hδ, a1, _, a3⟩ := stage_amount hle hxb
      generalize hX : xb ++ slice d vs (vs + δ) = X
      generalize hk : stageCut (last = true ∧ vs + δ = ve) X = kc
      obtain ⟨k, cut⟩ := kc
      rw [pvLoop_round n d pp xb vs ve last hc hxb hle hve hδ hX hk]
      have hkeep := stageCut_drop_le hk
      cases cut with
      | true => exact ⟨_, _, _, _, hkeep, rfl⟩
      | false =>
        by_cases hvv : vs = ve
        · -- nothing was left to read, so the staging buffer is short and the next round ends the loop
          subst hvv
          rw [Nat.le_antisymm a1 (Nat.le_add_right vs δ)] at hX ⊢
          have hXl : X.length ≠ XBUF := by
            rw [← hX, slice_self, List.append_nil]; exact Nat.ne_of_lt (lt_XBUF_of_le_two hxb)
          rw [if_neg Bool.false_ne_true, stageCut_short hk hXl, pvLoop_stop n d _ _ last ((fuel_next (δ := 0) hfuel).1 rfl) rfl]
          exact ⟨_, _, _, _, hpx, rfl⟩
        · exact ih d _ _ (vs + δ) ve last hkeep hpx a1 hve ((fuel_next hfuel).2 (a3 hvv))
    · rw [pvLoop, if_pos hc]
      exact ⟨_, _, _, _, hpx, rfl⟩

theorem processValue_eq (d : Bytes) (pp : PP) (s e : Nat) (le : Option Nat) (last : Bool)
    (hx : pp.xbuf.length ≤ 2) (hse : s ≤ e) (hed : e ≤ d.length) :
    processValue d pp (some s) (some e) le last = pvLoop (e - s + 3) d { pp with xbuf := [] } pp.xbuf s e last ∧
      e + 2 ≤ e - s + 3 + s := by
  have hg1 : ¬ pp.xbuf.length > Mhd.Gen.PP.ppXbufLen := by rw [ppXbufLen_eq]; exact Nat.not_lt.mpr hx
  have hg2 : ¬ (e < s ∨ e > d.length) := fun h => h.elim (Nat.not_lt.mpr hse) (Nat.not_lt.mpr hed)
  refine ⟨by simp only [processValue, hg1, if_false, hg2], ?_⟩
  rw [Nat.add_right_comm, Nat.sub_add_cancel hse]
  exact Nat.add_le_add_left (by decide) e

theorem processValue_none (d : Bytes) (pp : PP) (le : Option Nat) (last : Bool) :
    processValue d pp none none le last = processValue d pp (some 0) (some 0) le last := by
  simp [processValue]

theorem processValue_any (d : Bytes) (pp : PP) (s e : Nat) (le : Option Nat) (last : Bool)
    (hx : pp.xbuf.length ≤ 2) (hse : s ≤ e) (hed : e ≤ d.length) :
    ∃ x v m ev, x.length ≤ 2 ∧ processValue d pp (some s) (some e) le last =
      { pp with xbuf := x, valueOffset := v, mustIkvi := m, evs := ev } := by
  obtain ⟨h1, h2⟩ := processValue_eq d pp s e le last hx hse hed
  rw [h1]
  exact pvLoop_any (e - s + 3) d { pp with xbuf := [] } pp.xbuf s e last hx (Nat.zero_le 2) hse hed h2

theorem stageCut_tok {fin : Prop} [Decidable fin] (t1 : List Tok) (p1 : Bytes) (hok : AllOk t1)
    {t2 : List Tok} (hc : Carry p1 t2) (hok2 : AllOk t2) (hfin : fin → p1 = []) :
    stageCut fin (rawOf t1 ++ p1) =
      ((rawOf t1).length, decide (p1 ≠ []) && ((rawOf t1 ++ p1).length != XBUF)) := by
  unfold stageCut
  by_cases h : fin
  · rw [if_pos h, hfin h]; simp
  · rw [if_neg h, escTail_tok t1 p1 hok hc hok2]

theorem dec_take_raw (t1 : List Tok) (p1 : Bytes) (hok : AllOk t1) :
    (if (rawOf t1).length ≠ 0 then unescape ((rawOf t1 ++ p1).take (rawOf t1).length) else []) = decOf t1 := by
  by_cases h : (rawOf t1).length = 0
  · rw [rawOf_eq_nil (List.length_eq_zero_iff.mp h)]; rfl
  · rw [if_pos h, List.take_left' rfl, unescape_raw t1 hok]

theorem pvLoop_spec : ∀ (fuel : Nat) (d : Bytes) (pp : PP) (xb : Bytes) (vs ve : Nat) (ts : List Tok) (W : Bytes)
    (last : Bool),
    AllOk ts → rawOf ts = xb ++ slice d vs ve ++ W → xb.length ≤ 2 → vs ≤ ve → ve ≤ d.length →
    ve + 2 ≤ fuel + vs → (last = true → W = []) →
    ∃ ts1 ts2 p es, ts = ts1 ++ ts2 ∧ Carry p ts2 ∧ rawOf ts2 = p ++ W ∧
      Pieces (urlMeta pp.keyStr) pp.valueOffset (decOf ts1) es ∧ (pp.mustIkvi = true → es ≠ []) ∧
      pvLoop fuel d pp xb vs ve last =
        { pp with xbuf := if p = [] then pp.xbuf else p, valueOffset := pp.valueOffset + (decOf ts1).length,
                  mustIkvi := false, evs := pp.evs ++ es } := by
  intro fuel
  induction fuel with
  | zero => intro d pp xb vs ve ts W last _ _ _ _ _ hf; omega
  | succ n ih =>
    intro d pp xb vs ve ts W last hok hraw hxb hle hve hfuel hlast
    by_cases hc : vs ≠ ve ∨ pp.mustIkvi = true ∨ xb.length > 0
    · obtain ⟨δ, hδ, a1, a2, a3⟩ := stage_amount hle hxb
      generalize hX : xb ++ slice d vs (vs + δ) = X
      have hXl : X.length = xb.length + δ := by
        rw [← hX, List.length_append, slice_length d vs _ (Nat.le_trans a1 hve), Nat.add_sub_cancel_left]
      -- the staging buffer holds whole tokens `t1` and the beginning `p1` of the next
      obtain ⟨t1, t2, p1, rfl, e2, e3, e4⟩ := rawOf_cut ts X (slice d (vs + δ) ve ++ W) (by
        rw [hraw, slice_split d vs _ ve (Nat.le_add_right vs δ) a1, ← hX]; simp only [List.append_assoc])
      have hok2 := hok.append_right
      have hfin : last = true ∧ vs + δ = ve → p1 = [] := fun h =>
        (carry_whole e3 (by rw [e4, h.2, slice_self, hlast h.1, List.append_nil, List.append_nil])).1
      have hround := pvLoop_round n d pp xb vs ve last hc hxb hle hve hδ hX
        (e2 ▸ stageCut_tok t1 p1 hok.append_left e3 hok2 hfin)
      rw [e2, List.drop_left' rfl, dec_take_raw t1 p1 hok.append_left, ← e2] at hround
      have hev : pp.mustIkvi = true → roundEvs pp (decOf t1) ≠ [] := fun hm => by simp [roundEvs, hm]
      by_cases hcut : p1 ≠ [] ∧ X.length ≠ XBUF
      · -- the loop ends with `p1` put aside; the buffer was not full, so all the input was taken
        have hcutb : (decide (p1 ≠ []) && (X.length != XBUF)) = true := by simp [hcut.1, hcut.2]
        rw [hcutb, if_pos rfl] at hround
        rw [a2 (hXl ▸ hcut.2), slice_self] at e4
        exact ⟨t1, t2, p1, _, rfl, e3, e4, pieces_round pp _, hev, by rw [hround, roundPP, if_neg hcut.1]; rfl⟩
      · have hcutb : (decide (p1 ≠ []) && (X.length != XBUF)) = false := by
          by_cases h1 : p1 = []
          · simp [h1]
          · simp [Classical.not_not.mp (fun h2 => hcut ⟨h1, h2⟩)]
        rw [hcutb, if_neg Bool.false_ne_true] at hround
        by_cases hvv : vs = ve
        · -- nothing was left to read: the short buffer was decoded completely and the loop stops
          subst hvv
          have hvd : vs + δ = vs := Nat.le_antisymm a1 (Nat.le_add_right vs δ)
          have hp1 : p1 = [] := Classical.not_not.mp fun h1 => hcut ⟨h1, by
            rw [← hX, hvd, slice_self, List.append_nil]; exact Nat.ne_of_lt (lt_XBUF_of_le_two hxb)⟩
          subst hp1
          rw [hvd] at hround e4
          rw [pvLoop_stop n d _ _ last ((fuel_next (δ := 0) hfuel).1 rfl) rfl] at hround
          rw [slice_self] at e4
          exact ⟨t1, t2, [], _, rfl, e3, e4, pieces_round pp _, hev, hround⟩
        · -- the next round starts with `p1` and decodes a prefix `t1'` of the remaining tokens
          obtain ⟨t1', t2', p', es', rfl, f3, f4, f5, _, f7⟩ :=
            ih d (roundPP pp none (decOf t1)) p1 (vs + δ) ve t2 W last hok2
              (by rw [e4, List.append_assoc]) (carry_len e3 hok2) a1 hve ((fuel_next hfuel).2 (a3 hvv)) hlast
          refine ⟨t1 ++ t1', t2', p', roundEvs pp (decOf t1) ++ es', (List.append_assoc _ _ _).symm, f3, f4, ?_,
            fun hm => ?_, ?_⟩
          · rw [decOf_append]
            exact Pieces.append (pieces_round pp _) f5
          · exact fun h => hev hm (List.append_eq_nil_iff.mp h).1
          · rw [hround, f7, decOf_append, List.length_append]
            simp only [roundPP, Option.getD_none, List.append_assoc, Nat.add_assoc]
    · have h1 : vs = ve := Classical.not_not.mp fun h => hc (Or.inl h)
      have h2 : pp.mustIkvi = false := Bool.eq_false_iff.mpr fun hm => hc (Or.inr (Or.inl hm))
      have h3 : xb = [] := List.eq_nil_of_length_eq_zero (Nat.eq_zero_of_not_pos fun h => hc (Or.inr (Or.inr h)))
      subst h1 h3
      rw [slice_self] at hraw
      refine ⟨[], ts, [], [], rfl, Or.inl rfl, hraw, rfl, ?_, ?_⟩
      · intro h; rw [h2] at h; cases h
      rw [pvLoop, if_pos hc, if_pos rfl, List.append_nil, ← h2]
      rfl

theorem processValue_spec (d : Bytes) (pp : PP) (s e : Nat) (le : Option Nat) (ts : List Tok) (W : Bytes) (last : Bool)
    (hok : AllOk ts) (hraw : rawOf ts = pp.xbuf ++ slice d s e ++ W) (hxb : pp.xbuf.length ≤ 2)
    (hse : s ≤ e) (hed : e ≤ d.length) (hlast : last = true → W = []) :
    ∃ ts1 ts2 p es, ts = ts1 ++ ts2 ∧ Carry p ts2 ∧ rawOf ts2 = p ++ W ∧
      Pieces (urlMeta pp.keyStr) pp.valueOffset (decOf ts1) es ∧ (pp.mustIkvi = true → es ≠ []) ∧
      processValue d pp (some s) (some e) le last =
        { pp with xbuf := p, valueOffset := pp.valueOffset + (decOf ts1).length,
                  mustIkvi := false, evs := pp.evs ++ es } := by
  obtain ⟨h1, h2⟩ := processValue_eq d pp s e le last hxb hse hed
  obtain ⟨ts1, ts2, p, es, f1, f3, f4, f5, f6, f7⟩ :=
    pvLoop_spec (e - s + 3) d { pp with xbuf := [] } pp.xbuf s e ts W last hok hraw hxb hse hed h2 hlast
  refine ⟨ts1, ts2, p, es, f1, f3, f4, f5, f6, ?_⟩
  rw [h1, f7]
  by_cases hp : p = [] <;> simp [hp]

theorem carry_then_pct {p : Bytes} {ts : List Tok} {W : Bytes} (hc : Carry p ts) (hok : AllOk ts)
    (hr : rawOf ts = p ++ cPct :: W) : p = [] := by
  rcases hc with h | ⟨t, rest, q, rfl, hq, hne⟩
  · exact h
  · rw [rawOf_cons, hq, List.append_assoc] at hr
    cases q with
    | nil => exact absurd rfl hne
    | cons x q' =>
      cases (List.cons.inj (List.append_cancel_left hr)).1
      exact Tok.pct_first hok.head hq

theorem carry_pct {ts : List Tok} {W : Bytes} (hok : AllOk ts) (hr : rawOf ts = cPct :: W) :
    Carry [cPct] ts := by
  cases ts with
  | nil => cases hr
  | cons t rest =>
    rcases Tok.raw_cases hok.head with ⟨c, rfl, hl⟩ | ⟨a, b, rfl, _⟩
    · exact absurd (List.cons.inj hr).1 (litOk_iff.mp hl).2.1
    · exact Or.inr ⟨.esc a b, rest, [a, b], rfl, rfl, List.cons_ne_nil _ _⟩
end Mhd.PP
