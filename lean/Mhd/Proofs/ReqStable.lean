/-
  Stability of the strings handed to the application (C02 clause d).

  Second layer of the header-section invariant (`Inv2`): all strings handed out so far end
  at or before `lastElemEnd` (the position the shift-back block re-uses the buffer from);
  every step only writes at or above `read_buffer` and only appends to the element list
  (`Mono`); the final block leaves every string strictly below the new `read_buffer` and
  copies nothing over them (`Moved.below`).  These facts about one step are read off its kind
  (`Adv.stable`, `Stop.stable`); `run_stable` is the run-level theorem.
-/
import Mhd.Proofs.ReqField
namespace Mhd.Req
namespace HSP
open Mhd.Gen

theorem Inv2.ext {s : HS} (h : Inv2 s) (e : Bytes) : Inv2 (hsExtend s e) :=
  ⟨h.hn0, h.hv0, h.hvs2, h.hLver, h.hmax⟩

theorem Inv2.sameLine {s : HS} (h : Inv2 s) (s' : HS) (he : s'.elems = s.elems) (hv : s'.version = s.version)
    (h1 : s'.nameEndFound = false → s'.nameLen = 0)
    (h2 : s'.nameEndFound = false → s'.startsWithWs = false → s'.valueStart = 0)
    (h3 : s'.valueStart ≠ 0 → s'.nameLen ≤ s'.valueStart) : Inv2 s' := by
  have hl : lastElemEnd s' = lastElemEnd s := by unfold lastElemEnd; rw [he, hv]
  exact ⟨h1, h2, h3, by rw [hl, hv]; exact h.hLver, by rw [hl, he]; exact h.hmax⟩

theorem lastElemEnd_of (s' : HS) (els : List Elem) (key v : Slice)
    (he : s'.elems = els ++ [⟨Http.kindHeader, key, some v⟩]) : lastElemEnd s' = v.off + v.len := by
  unfold lastElemEnd
  rw [he, List.getLast?_concat]
  simp

/-- a field line is appended: its value ends behind everything handed out before -/
theorem Inv2.append {s : HS} (hi : Inv s) (h : Inv2 s) (s' : HS) (vstart vlen : Nat)
    (he : s'.elems = s.elems ++ [⟨Http.kindHeader, ⟨0, s.rb, s.nameLen⟩, some ⟨0, s.rb + vstart, vlen⟩⟩])
    (hv : s'.version = s.version) (h1 : s'.nameLen = 0) (h2 : s'.valueStart = 0)
    (hn : s.nameLen ≤ vstart) : Inv2 s' := by
  have hL := lastElemEnd_of s' s.elems ⟨0, s.rb, s.nameLen⟩ ⟨0, s.rb + vstart, vlen⟩ he
  have hold := lastEnd_le s hi.hver hi.helems
  have hver := hi.hver
  refine ⟨fun _ => h1, fun _ _ => h2, fun hvz => absurd h2 hvz, ?_, ?_⟩
  · rw [hL, hv]; show _ ≤ s.rb + vstart + vlen; omega
  · intro el hm sl hsl hr
    rw [hL]
    show sl.off + sl.len ≤ s.rb + vstart + vlen
    rw [he, List.mem_append] at hm
    cases hm with
    | inl hm' => have := h.hmax el hm' sl hsl hr; omega
    | inr hm' =>
      simp only [List.mem_singleton] at hm'
      subst hm'
      simp only [Elem.slices, Option.toList, List.mem_cons, List.not_mem_nil, or_false] at hsl
      cases hsl with
      | inl hk => subst hk; show s.rb + s.nameLen ≤ _; omega
      | inr hk => subst hk; show s.rb + vstart + vlen ≤ _; omega

/-- what a step may change: `read_buffer` only moves forward, the buffer keeps its size and the bytes
    below `read_buffer`, the element list only grows at its end, the version pointer stays -/
structure Mono (s s' : HS) : Prop where
  rb : s.rb ≤ s'.rb
  buf : WritesIn s.rb s.buf.size s.buf s'.buf
  el : ∃ t, s'.elems = s.elems ++ t
  ver : s'.version = s.version

theorem Mono.same (s s' : HS) (h1 : s'.rb = s.rb) (h2 : WritesIn s.rb s.buf.size s.buf s'.buf) (h3 : s'.elems = s.elems)
    (h4 : s'.version = s.version) : Mono s s' :=
  ⟨by omega, h2, ⟨[], by simp [h3]⟩, h4⟩

theorem Mono.refl (s : HS) : Mono s s := Mono.same _ _ rfl (WritesIn.refl ..) rfl rfl

theorem Mono.trans {a b c : HS} (h1 : Mono a b) (h2 : Mono b c) : Mono a c := by
  refine ⟨Nat.le_trans h1.rb h2.rb, h1.buf.trans (h2.buf.mono h1.rb (Nat.le_of_eq h1.buf.size)), ?_,
    by rw [h2.ver, h1.ver]⟩
  · obtain ⟨t1, e1⟩ := h1.el
    obtain ⟨t2, e2⟩ := h2.el
    exact ⟨t1 ++ t2, by rw [e2, e1, List.append_assoc]⟩

/-- every string handed out lies, with its terminating NUL, below `read_buffer` -/
def Below (h : Headers) (version : Nat) : Prop :=
  version + Discipline.httpVerLen + 1 ≤ h.rb ∧
  ∀ el ∈ h.elems, ∀ sl ∈ Elem.slices el, sl.region = 0 → sl.off + sl.len + 1 ≤ h.rb

theorem Moved.below {s : HS} {hd : Headers} (m : Moved s hd) (hLver : s.version + Discipline.httpVerLen ≤ lastElemEnd s)
    (hmax : ∀ el ∈ s.elems, ∀ sl ∈ Elem.slices el, sl.region = 0 → sl.off + sl.len ≤ lastElemEnd s) :
    Below hd s.version := by
  have := m.keep; have := m.rb
  exact ⟨by omega, fun el hm sl hsl hr => by have := hmax el (m.elems ▸ hm) sl hsl hr; omega⟩

theorem SameLine.mono {s s1 : HS} (k : SameLine s s1) : Mono s s1 := Mono.same _ _ k.rb k.buf k.elems k.ver

theorem NextLine.mono {s s1 : HS} {n : Nat} (k : NextLine s s1 n) : Mono s s1 :=
  ⟨k.rb ▸ Nat.le_add_right .., k.buf, k.elems.elim (fun hE => ⟨[], hE.trans (List.append_nil _).symm⟩)
    fun ⟨_, _, _, _, hE⟩ => ⟨_, hE⟩, k.ver⟩

theorem SameLine.inv2 {s s1 : HS} (k : SameLine s s1) (h2 : Inv2 s) : Inv2 s1 :=
  h2.sameLine s1 k.elems k.ver (k.line h2).hn0 (k.line h2).hv0 (k.line h2).hvs2

theorem NextLine.inv2 {s s1 : HS} {n : Nat} (k : NextLine s s1 n) (h : Inv s) (h2 : Inv2 s) : Inv2 s1 := by
  rcases k.elems with hE | ⟨vstart, vlen, _, hn, hE⟩
  · exact h2.sameLine s1 hE k.ver (fun _ => k.name) (fun _ _ => k.vs) (fun hv => absurd k.vs hv)
  · exact Inv2.append h h2 s1 vstart vlen hE k.ver k.name k.vs (hn h2)

theorem Adv.stable {s s1 : HS} (a : Adv s s1) (h : Inv s) : Mono s s1 ∧ (Inv2 s → Inv2 s1) := by
  cases a with
  | same k => exact ⟨k.mono, k.inv2⟩
  | next k => exact ⟨k.mono, k.inv2 h⟩

theorem Stop.stable {s : HS} {hd : Headers} (st : Stop s (.ok hd)) (h2 : Inv2 s) :
    Below hd s.version ∧ (∀ i, i < hd.rb → hd.buf[i]? = s.buf[i]?) ∧ hd.elems = s.elems :=
  have ⟨_, _, _, m⟩ := st hd rfl
  ⟨m.below h2.hLver h2.hmax, m.low, m.elems⟩

/-- the combined statement carried along a run -/
structure Good (s : HS) : Prop where
  i1 : Inv s
  i2 : Inv2 s

theorem lastElemEnd_noField {s : HS} (h3 : ∀ el ∈ s.elems, el.kind ≠ Http.kindHeader) :
    lastElemEnd s = s.version + Discipline.httpVerLen := by
  unfold lastElemEnd
  split
  next e he => exact if_neg (by simpa using h3 e (List.mem_of_getLast? he))
  next => rfl

/-! The start of the header section: any state at the start of a line, behind a version string,
whose elements so far (the query arguments) are no field lines and end before the end of the
version string. -/

theorem Inv.start {s : HS} (hp : s.p = 0) (hw : s.wsStart = 0) (hn : s.nameLen = 0) (hv : s.valueStart = 0)
    (h1 : s.rb ≤ s.buf.size) (h2 : s.version + Discipline.httpVerLen + 1 ≤ s.rb)
    (h3 : ∀ el ∈ s.elems, el.kind ≠ Http.kindHeader) : Inv s :=
  ⟨by rw [hp]; exact h1, Nat.le_trans (Nat.le_add_left ..) h2, by rw [hw]; exact Nat.zero_le _,
   by rw [hn]; exact Nat.zero_le _, by rw [hv]; exact Nat.zero_le _, h2, fun el hm hk => absurd hk (h3 el hm)⟩

theorem Inv2.start {s : HS} (hn : s.nameLen = 0) (hv : s.valueStart = 0)
    (h3 : ∀ el ∈ s.elems, el.kind ≠ Http.kindHeader)
    (h4 : ∀ el ∈ s.elems, ∀ sl ∈ Elem.slices el, sl.region = 0 → sl.off + sl.len ≤ s.version + Discipline.httpVerLen) :
    Inv2 s :=
  ⟨fun _ => hn, fun _ _ => hv, fun h => absurd hv h, Nat.le_of_eq (lastElemEnd_noField h3).symm,
   by rw [lastElemEnd_noField h3]; exact h4⟩

theorem hsStep_inv2 (F : FLFlags) (fs : Nat) (s : HS) (hi : Inv s) (h : Inv2 s) :
    (∀ s', hsStep F fs s = .advance s' → Inv2 s') ∧
    (∀ hd, hsStep F fs s = .done (.ok hd) →
      Below hd s.version ∧ (∀ i, i < hd.rb → hd.buf[i]? = s.buf[i]?) ∧ hd.elems = s.elems) :=
  ⟨fun s' hs => (((hsStep_walk F fs s #[] hi).adv s' hs).stable hi).2 h,
   fun hd hs => Stop.stable ((hsStep_walk F fs s #[] hi).fin _ hs) h⟩

theorem hsStep_mono (F : FLFlags) (fs : Nat) (s : HS) (hi : Inv s) :
    ∀ s', hsStep F fs s = .advance s' → Mono s s' :=
  fun s' hs => (((hsStep_walk F fs s #[] hi).adv s' hs).stable hi).1

/-- **Stability of the strings handed to the application** (what the shift-back defect
    violated).  Start header parsing in any state `s0` satisfying the invariants, let the
    rest of the header section arrive in any segmentation, and let parsing finish with the
    header set `h`.  Then
    * every string of every element of the final list (name, value — including its
      terminating NUL) and the version string lie strictly below `read_buffer`
      (`Below`): bytes received later (body, pipelined requests) are written at or above
      `read_buffer`, so they cannot touch them — also after the header tail was re-used;
    * the elements that were in the list at the start (the query arguments) are still the
      first elements of the final list, and
    * every byte below the old `read_buffer` that is still below the new one — in particular
      every byte of the strings of those elements — is unchanged. -/
theorem run_stable (F : FLFlags) (fs : Nat) (s0 : HS) (hi : Inv s0) (h2 : Inv2 s0) (h : Headers)
    (hr : (hsScanner F fs).run s0 = .done (.ok h)) :
    Below h s0.version ∧ (∃ t, h.elems = s0.elems ++ t) ∧
      (∀ i, i < s0.rb → i < h.rb → h.buf[i]? = s0.buf[i]?) := by
  have L := hsLaws F fs
  have ind := (Scanner.run_induct L (fun s => Inv2 s ∧ Mono s0 s)
    (fun s s' hi' hp hs => ⟨(hsStep_inv2 F fs s hi' hp.1).1 s' hs, hp.2.trans (hsStep_mono F fs s hi' s' hs)⟩)
    s0 hi ⟨h2, Mono.refl s0⟩).2.1 (.ok h) hr
  obtain ⟨s1, hi1, ⟨h21, hm⟩, hst⟩ := ind
  have fin := (hsStep_inv2 F fs s1 hi1 h21).2 h hst
  refine ⟨by rw [← hm.ver]; exact fin.1, ?_, ?_⟩
  · obtain ⟨t, ht⟩ := hm.el
    exact ⟨t, by rw [fin.2.2, ht]⟩
  · intro i h0 hh
    rw [fin.2.1 i hh, hm.buf.out i (.inl h0)]

end HSP
end Mhd.Req
