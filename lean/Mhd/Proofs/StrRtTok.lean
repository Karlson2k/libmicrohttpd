/-
  C17 proofs: `MHD_str_remove_tokens_caseless_` — finding the next token in `tokens`.
-/
import Mhd.Proofs.StrRm

namespace Mhd.Str

theorem notWsComma_eq_isWordB : (fun c : UInt8 => !isWsComma c) = isWordB := by
  funext c
  show (!(c == 0x20 || c == 0x09 || c == 0x2c)) = (!(c == 0x2c) && !(c == 0x20 || c == 0x09))
  cases (c == 0x20) <;> cases (c == 0x09) <;> cases (c == 0x2c) <;> rfl

theorem rtTokenEndStep_spec (t : Bytes) (tkn : Nat) (st : Nat × Nat) (z : UInt8) (V' rest : Bytes)
    (hd : t.drop st.1 = z :: (V' ++ rest)) (hV : ∀ y ∈ V', notComma y = true) (hrest : headElem rest = []) :
    rtTokenEndStep t tkn st =
      if (V'.dropWhile notWsB).dropWhile isWs = [] then
        .ok (.inr (st.1 + 1 + (V'.takeWhile notWsB).length + ((V'.dropWhile notWsB).takeWhile isWs).length,
          st.1 + 1 + (V'.takeWhile notWsB).length - tkn))
      else
        .ok (.inl (st.1 + 1 + (V'.takeWhile notWsB).length + ((V'.dropWhile notWsB).takeWhile isWs).length,
          st.1 + 1 + (V'.takeWhile notWsB).length - tkn)) := by
  have hstop := headElem_nil_stops hrest
  have hhead : headElem (V' ++ rest) = V' := takeWhile_append_all notComma V' rest hV hstop
  obtain ⟨hs1, hs2, hs3, hs4, _⟩ := elem_split (V' ++ rest)
  rw [hhead] at hs1 hs2 hs4
  have hlt := lt_of_drop hd
  obtain ⟨hw1, hw2, hw3⟩ := skipN_exact t (fun c => !isWsComma c) (st.1 + 1) _ hlt (drop_succ_of_drop hd)
  rw [notWsComma_eq_isWordB, hs1] at hw2 hw3
  obtain ⟨hk1, hk2, _⟩ := skipN_exact t isWs _ _ hw3 hw2
  rw [hs2] at hk1 hk2
  have hw1' : skipN t (fun c => !isWsComma c) (st.1 + 1) = .ok (st.1 + 1 + (V'.takeWhile notWsB).length) := by
    rw [hw1, notWsComma_eq_isWordB, hs1]
  unfold rtTokenEndStep rtWordEnd
  simp only [hw1', bind_ok', hk1]
  rw [peek_notComma t _, hk2, hs4]
  simp only [bind_ok', pure_eq_ok]
  by_cases hE : (V'.dropWhile notWsB).dropWhile isWs = []
  · simp only [hE, List.isEmpty_nil, Bool.not_true, Bool.false_eq_true, if_false, if_true]
  · simp only [List.isEmpty_eq_false_iff.mpr hE, Bool.not_false, if_true, hE, if_false]

theorem trimR_word_ws (P : Bytes) (z : UInt8) (a b : Bytes) (hz : isWs z = false) (ha : ∀ y ∈ a, notWsB y = true)
    (hb : ∀ y ∈ b, isWs y = true) : trimR (P ++ z :: (a ++ b)) = P ++ z :: a := by
  rw [show P ++ z :: (a ++ b) = (P ++ z :: a) ++ b by simp, trimR_append_ws _ _ hb]
  rcases List.eq_nil_or_concat a with rfl | ⟨a', l, rfl⟩
  · exact trimR_last_nonws P z hz
  · have := trimR_last_nonws (P ++ z :: a') l ((notWsB_true_iff l).mp (ha l (by simp)))
    simpa using this

theorem rtTokenEnd_spec (t : Bytes) (tkn : Nat) (x : UInt8) (R' : Bytes) (hR : t.drop tkn = x :: R')
    (hx : isWsComma x = false) :
    ∃ ptE jt, iter (rtTokenEndStep t tkn) (t.length + 1) (tkn, 0) = .ok (ptE, (trimR (headElem (x :: R'))).length) ∧
      x :: R' = trimR (headElem (x :: R')) ++ jt ∧ (∀ y ∈ trimR (headElem (x :: R')), y ≠ 0x2c) ∧
      t.drop ptE = restElems (x :: R') ∧ ptE ≤ t.length := by
  obtain ⟨hxw, hxc⟩ := isWsComma_eq_false hx
  have hsplit := headElem_append_restElems (x :: R')
  have hE0 : headElem (x :: R') = x :: headElem R' := headElem_cons x R' hxc
  have hnc := headElem_notComma (x :: R')
  have hrest : headElem (restElems (x :: R')) = [] := takeWhile_stop (restElems_stops notComma (by decide) _)
  obtain ⟨hpos1, hpos2⟩ : t.drop (tkn + (headElem (x :: R')).length) = restElems (x :: R') ∧
      tkn + (headElem (x :: R')).length ≤ t.length := run_pos t notComma tkn _ (Nat.le_of_lt (lt_of_drop hR)) hR
  generalize headElem (x :: R') = E at hsplit hE0 hnc hpos1 hpos2 ⊢
  generalize restElems (x :: R') = rest at hsplit hrest hpos1 ⊢
  obtain ⟨⟨ptE, tl⟩, hit, (h1 : ptE = tkn + E.length), (h2 : tl = (trimR E).length)⟩ := iter_spec (rtTokenEndStep t tkn)
    (fun st => ∃ P z V', E = P ++ z :: V' ∧ st.1 = tkn + P.length ∧ isWs z = false)
    (fun st => t.length - st.1) (fun r => r.1 = tkn + E.length ∧ r.2 = (trimR E).length)
    (by
      intro st ⟨P, z, V', hdec, hpt, hz⟩
      have hV : ∀ y ∈ V', notComma y = true := fun y hy => hnc y (by rw [hdec]; simp [hy])
      have hd : t.drop st.1 = z :: (V' ++ rest) := by
        rw [hpt]; exact drop_at t tkn P _ (by rw [hR, hsplit, hdec]; simp)
      have hstep := rtTokenEndStep_spec t tkn st z V' rest hd hV hrest
      have hlen := congrArg List.length (split_word_ws V')
      have hElen := congrArg List.length hdec
      simp only [List.length_append, List.length_cons] at hlen hElen
      have ha := List.takeWhile_mem notWsB V'
      have hb := List.takeWhile_mem isWs (V'.dropWhile notWsB)
      have hV2 := dropWhile_stops isWs (V'.dropWhile notWsB)
      rw [split_word_ws V'] at hdec
      generalize V'.takeWhile notWsB = a at hstep hlen ha hdec
      generalize (V'.dropWhile notWsB).takeWhile isWs = b at hstep hlen hb hdec
      generalize (V'.dropWhile notWsB).dropWhile isWs = V2 at hstep hlen hV2 hdec
      have hlt := lt_of_drop hd
      by_cases hE : V2 = []
      · right
        rw [if_pos hE] at hstep
        subst hE
        rw [List.append_nil] at hdec
        have ⟨e1, e2⟩ : st.1 + 1 + a.length + b.length = tkn + E.length ∧
            st.1 + 1 + a.length - tkn = (P ++ z :: a).length := by
          simp only [List.length_append, List.length_cons, List.length_nil] at hlen ⊢; omega
        exact ⟨_, hstep, e1, by rw [hdec, trimR_word_ws P z a b hz ha hb]; exact e2⟩
      · left
        rw [if_neg hE] at hstep
        obtain ⟨z2, V2', rfl, hz2⟩ := hV2.resolve_left hE
        have ⟨e1, e2⟩ : st.1 + 1 + a.length + b.length = tkn + (P ++ z :: (a ++ b)).length ∧
            t.length - (st.1 + 1 + a.length + b.length) < t.length - st.1 := by
          simp only [List.length_append, List.length_cons]; omega
        exact ⟨_, hstep, ⟨P ++ z :: (a ++ b), z2, V2', by rw [hdec]; simp, e1, hz2⟩, e2⟩)
    (t.length + 1) (tkn, 0) ⟨[], x, _, hE0, rfl, hxw⟩ (Nat.lt_succ_of_le (Nat.sub_le _ _))
  obtain ⟨w, hw, _⟩ := trimR_append E
  refine ⟨ptE, w ++ rest, by rw [hit, h2], by rw [← List.append_assoc, ← hw]; exact hsplit, ?_, by rw [h1]; exact hpos1, by rw [h1]; exact hpos2⟩
  intro y hy
  have : y ∈ E := by rw [hw]; exact List.mem_append_left _ hy
  simpa [notComma] using hnc y this

end Mhd.Str
