/-
  `post_process_urlencoded` for ARBITRARY input and arbitrary splits: shape invariants of the
  struct and of the local pointers (`UInv`, `ULoc`), preserved by every loop iteration together
  with a decreasing measure (`step_any`), by the code after the loop (`tail_any`) and by whole calls;
  hence no fault ever (`url_no_fault`): no out-of-object access, no `abort ()`/`MHD_PANIC`, and the
  fuel the model gives its loops always suffices.
-/
import Mhd.Proofs.PPUrlStep
namespace Mhd.PP

/-- part of the invariant that does not depend on the locals -/
structure UInv (pp : PP) : Prop where
  fault : pp.fault = none
  url : pp.isUrl = true
  xb : pp.xbuf.length ≤ 2
  bp : pp.bufferPos < pp.bufferSize

theorem UInv.state {pp : PP} (h : UInv pp) {s : St} {m : Bool} : UInv { pp with state := s, mustIkvi := m } :=
  ⟨h.fault, h.url, h.xb, h.bp⟩

/-- shape of the local pointers of `post_process_urlencoded`, per state, for ARBITRARY input -/
def ULoc (pp : PP) (l : UL) : Prop :=
  match pp.state with
  | .init => l.startKey = none ∧ l.endKey = none ∧ l.startValue = none ∧ l.endValue = none
  | .processKey =>
    l.endKey = none ∧ l.startValue = none ∧ l.endValue = none ∧ pp.mustIkvi = true ∧
    ((l.startKey = none ∧ l.poff = 0) ∨ ∃ a, l.startKey = some a ∧ a < l.poff)
  | .processValue =>
    l.endValue = none ∧ (l.startValue = none ∨ ∃ s, l.startValue = some s ∧ s ≤ l.poff) ∧
    ((l.startKey = none ∧ l.endKey = none) ∨
      ∃ a b, l.startKey = some a ∧ l.endKey = some b ∧ a < b ∧ b ≤ l.poff ∧ pp.mustIkvi = true)
  | .callback =>
    ((l.startValue = none ∧ l.endValue = none) ∨
      ∃ s e, l.startValue = some s ∧ l.endValue = some e ∧ s ≤ e ∧ e ≤ l.poff) ∧
    ((l.startKey = none ∧ l.endKey = none) ∨
      ∃ a b, l.startKey = some a ∧ l.endKey = some b ∧ a < b ∧ b ≤ l.poff)
  | .done => l.startKey = none ∧ l.endKey = none
  | .error => True
  | _ => False

variable {d : Bytes} {pp pp' : PP} {l : UL}

theorem uloc_init (h : pp.state = .init) :
    ULoc pp l ↔ l.startKey = none ∧ l.endKey = none ∧ l.startValue = none ∧ l.endValue = none := by
  simp only [ULoc, h]

theorem uloc_key (h : pp.state = .processKey) :
    ULoc pp l ↔ l.endKey = none ∧ l.startValue = none ∧ l.endValue = none ∧ pp.mustIkvi = true ∧
      ((l.startKey = none ∧ l.poff = 0) ∨ ∃ a, l.startKey = some a ∧ a < l.poff) := by
  simp only [ULoc, h]

theorem uloc_value (h : pp.state = .processValue) :
    ULoc pp l ↔ l.endValue = none ∧ (l.startValue = none ∨ ∃ s, l.startValue = some s ∧ s ≤ l.poff) ∧
      ((l.startKey = none ∧ l.endKey = none) ∨
        ∃ a b, l.startKey = some a ∧ l.endKey = some b ∧ a < b ∧ b ≤ l.poff ∧ pp.mustIkvi = true) := by
  simp only [ULoc, h]

theorem uloc_cb (h : pp.state = .callback) :
    ULoc pp l ↔ ((l.startValue = none ∧ l.endValue = none) ∨
        ∃ s e, l.startValue = some s ∧ l.endValue = some e ∧ s ≤ e ∧ e ≤ l.poff) ∧
      ((l.startKey = none ∧ l.endKey = none) ∨
        ∃ a b, l.startKey = some a ∧ l.endKey = some b ∧ a < b ∧ b ≤ l.poff) := by
  simp only [ULoc, h]

theorem uloc_done (h : pp.state = .done) : ULoc pp l ↔ l.startKey = none ∧ l.endKey = none := by
  simp only [ULoc, h]

theorem uloc_error (h : pp.state = .error) : ULoc pp l := by
  simp only [ULoc, h]

theorem ULoc.state (h : ULoc pp l) :
    pp.state = .init ∨ pp.state = .processKey ∨ pp.state = .processValue ∨ pp.state = .callback ∨
      pp.state = .done ∨ pp.state = .error := by
  unfold ULoc at h
  cases hs : pp.state <;> simp only [hs] at h <;> simp

theorem ULoc.congr (h : ULoc pp l) (hs : pp'.state = pp.state) (hm : pp'.mustIkvi = pp.mustIkvi) : ULoc pp' l := by
  unfold ULoc at h ⊢
  rw [hs, hm]; exact h

theorem ULoc.key_range {a : Nat} (h : ULoc pp l) (hne : pp.state ≠ .error) (hs : l.startKey = some a) :
    a ≤ l.endKey.getD l.poff ∧ l.endKey.getD l.poff ≤ l.poff := by
  have key : ((l.startKey = none ∧ l.endKey = none) ∨ ∃ a b, l.startKey = some a ∧ l.endKey = some b ∧ a < b ∧ b ≤ l.poff) →
      a ≤ l.endKey.getD l.poff ∧ l.endKey.getD l.poff ≤ l.poff := by
    rintro (⟨k1, _⟩ | ⟨a', b, k1, k2, k3, k4⟩)
    · rw [k1] at hs; cases hs
    · rw [k1] at hs; cases hs
      rw [k2]; exact ⟨Nat.le_of_lt k3, k4⟩
  rcases h.state with hst | hst | hst | hst | hst | hst
  · rw [((uloc_init hst).mp h).1] at hs; cases hs
  · obtain ⟨e1, _, _, _, e5⟩ := (uloc_key hst).mp h
    rcases e5 with ⟨k1, _⟩ | ⟨a', k1, k2⟩
    · rw [k1] at hs; cases hs
    · rw [k1] at hs; cases hs
      rw [e1]; exact ⟨Nat.le_of_lt k2, Nat.le_refl _⟩
  · obtain ⟨_, _, e3⟩ := (uloc_value hst).mp h
    exact key (e3.imp id fun ⟨a', b, k1, k2, k3, k4, _⟩ => ⟨a', b, k1, k2, k3, k4⟩)
  · exact key ((uloc_cb hst).mp h).2
  · rw [((uloc_done hst).mp h).1] at hs; cases hs
  · exact absurd hst hne

/-- between two calls the local pointers are NULL and `poff = 0` -/
theorem uloc_fresh (h : ULoc pp l) (hs : pp'.state = pp.state)
    (hm : pp.state = .processKey → pp'.mustIkvi = pp.mustIkvi) (hncb : pp.state ≠ .callback) : ULoc pp' {} := by
  rcases h.state with hst | hst | hst | hst | hst | hst
  · exact (uloc_init (hs.trans hst)).mpr ⟨rfl, rfl, rfl, rfl⟩
  · exact (uloc_key (hs.trans hst)).mpr ⟨rfl, rfl, rfl, (hm hst).trans ((uloc_key hst).mp h).2.2.2.1, Or.inl ⟨rfl, rfl⟩⟩
  · exact (uloc_value (hs.trans hst)).mpr ⟨rfl, Or.inl rfl, Or.inl ⟨rfl, rfl⟩⟩
  · exact absurd hst hncb
  · exact (uloc_done (hs.trans hst)).mpr ⟨rfl, rfl⟩
  · exact uloc_error (hs.trans hst)

theorem uloc_fresh_of (pp pp' : PP) (l : UL) (h : ULoc pp l) (hs : pp'.state = pp.state) (hm : pp'.mustIkvi = pp.mustIkvi)
    (hk : l.startKey = none ∧ l.endKey = none) (hv : l.startValue = none ∧ l.endValue = none)
    (hncb : pp.state ≠ .callback) : ULoc pp' {} :=
  uloc_fresh h hs (fun _ => hm) hncb

theorem uloc_start (pp : PP) (h : ULoc pp {}) : pp.state ≠ .callback → True := fun _ => trivial

def rankA : St → Nat
  | .error => 0
  | .init => 1
  | .done => 1
  | .callback => 2
  | _ => 3

/-- termination measure of the loop of `post_process_urlencoded` for arbitrary input -/
def muA (d : Bytes) (pp : PP) (l : UL) : Nat := 3 * (d.length - l.poff) + rankA pp.state

/-- the result of one iteration keeps the invariant and decreases the measure -/
def StepOk (d : Bytes) (pp : PP) (l : UL) (r : PP × UL) : Prop :=
  UInv r.1 ∧ ULoc r.1 r.2 ∧ r.2.poff ≤ d.length ∧ muA d r.1 r.2 < muA d pp l ∧ r.1.bufferSize = pp.bufferSize

theorem rankA_le (s : St) : rankA s ≤ 3 := by cases s <;> decide

theorem StepOk.adv {r : PP × UL} (hI : UInv r.1) (hL : ULoc r.1 r.2) (hsz : r.1.bufferSize = pp.bufferSize)
    (hp : r.2.poff = l.poff + 1) (hlt : l.poff < d.length) (hr : 0 < rankA pp.state) : StepOk d pp l r := by
  refine ⟨hI, hL, hp ▸ hlt, ?_, hsz⟩
  -- one byte less weighs more than any change of state
  obtain ⟨k, hk⟩ := Nat.exists_eq_succ_of_ne_zero (Nat.ne_of_gt (Nat.sub_pos_of_lt hlt))
  simp only [muA, hp, Nat.sub_succ, hk, Nat.pred_succ, Nat.mul_succ, Nat.add_assoc]
  exact Nat.add_lt_add_left (Nat.lt_of_le_of_lt (rankA_le r.1.state) (Nat.lt_add_of_pos_right hr)) _

theorem StepOk.stay {r : PP × UL} (s : St) (hI : UInv r.1) (hL : ULoc r.1 r.2) (hsz : r.1.bufferSize = pp.bufferSize)
    (hp : r.2.poff = l.poff) (hle : l.poff ≤ d.length) (hst : r.1.state = s) (hr : rankA s < rankA pp.state) :
    StepOk d pp l r := by
  refine ⟨hI, hL, hp ▸ hle, ?_, hsz⟩
  simp only [muA, hp, hst]
  exact Nat.add_lt_add_left hr _

theorem step_any_init (c : UInt8) (hI : UInv pp) (hs : pp.state = .init) (hL : ULoc pp l) (hp : l.poff < d.length) :
    StepOk d pp l (urlInit c pp l) := by
  obtain ⟨h1, h2, h3, h4⟩ := (uloc_init hs).mp hL
  have hr : 0 < rankA pp.state := by rw [hs]; decide
  rcases byte_cases c with rfl | rfl | h | h
  · rw [urlInit_eq]
    exact .stay .error hI.state (uloc_error rfl) rfl rfl (Nat.le_of_lt hp) rfl hr
  · rw [urlInit_amp]
    exact .adv hI ((uloc_init hs).mpr ⟨h1, h2, h3, h4⟩) rfl rfl hp hr
  · rw [urlInit_nl h]
    exact .adv hI.state ((uloc_done rfl).mpr ⟨h1, h2⟩) rfl rfl hp hr
  · rw [urlInit_byte h]
    exact .adv hI.state
      ((uloc_key rfl).mpr ⟨h2, h3, h4, rfl, Or.inr ⟨l.poff, rfl, Nat.lt_succ_self _⟩⟩) rfl rfl hp hr

theorem step_any_key (c : UInt8) (hI : UInv pp) (hs : pp.state = .processKey) (hL : ULoc pp l) (hp : l.poff < d.length) :
    StepOk d pp l (urlKey c pp l) := by
  obtain ⟨h1, h2, h3, h4, h5⟩ := (uloc_key hs).mp hL
  have hr : 0 < rankA pp.state := by rw [hs]; decide
  -- `end_key` is set at the delimiter unless the key started in an earlier chunk and `poff = 0`
  have hek : ∀ k, (l.startKey = none ∧ (if l.poff ≠ 0 then some l.poff else l.endKey) = none) ∨
      ∃ a b, l.startKey = some a ∧ (if l.poff ≠ 0 then some l.poff else l.endKey) = some b ∧ a < b ∧ b ≤ l.poff + k := by
    intro k
    rcases h5 with ⟨k1, k2⟩ | ⟨a, k1, k2⟩
    · exact Or.inl ⟨k1, by rw [if_neg (fun h => h k2)]; exact h1⟩
    · exact Or.inr ⟨a, l.poff, k1, if_pos (Nat.ne_of_gt (Nat.lt_of_le_of_lt (Nat.zero_le a) k2)), k2, Nat.le_add_right _ k⟩
  rcases byte_cases c with rfl | rfl | h | h
  · rw [urlKey_eq]
    refine .adv hI.state ((uloc_value rfl).mpr ⟨h3, Or.inl h2, ?_⟩) rfl rfl hp hr
    exact (hek 1).imp id fun ⟨a, b, k1, k2, k3, k4⟩ => ⟨a, b, k1, k2, k3, k4, h4⟩
  · rw [urlKey_amp]
    exact .adv hI.state ((uloc_cb rfl).mpr ⟨Or.inl ⟨h2, h3⟩, hek 1⟩) rfl rfl hp hr
  · rw [urlKey_nl h]
    exact .stay .callback hI.state ((uloc_cb rfl).mpr ⟨Or.inl ⟨h2, h3⟩, hek 0⟩) rfl rfl (Nat.le_of_lt hp) rfl
      (by rw [hs]; decide)
  · rw [urlKey_byte h]
    refine .adv hI ((uloc_key hs).mpr ⟨h1, h2, h3, h4, Or.inr ?_⟩) rfl rfl hp hr
    rcases h5 with ⟨_, k2⟩ | ⟨a, k1, k2⟩
    · exact ⟨0, if_pos k2, Nat.succ_pos _⟩
    · exact ⟨a, by rw [if_neg (Nat.ne_of_gt (Nat.lt_of_le_of_lt (Nat.zero_le a) k2))]; exact k1, Nat.lt_succ_of_lt k2⟩

theorem step_any_value (c : UInt8) (hI : UInv pp) (hs : pp.state = .processValue) (hL : ULoc pp l)
    (hp : l.poff < d.length) : StepOk d pp l (urlValue c pp l) := by
  obtain ⟨h1, h2, h3⟩ := (uloc_value hs).mp hL
  have hr : 0 < rankA pp.state := by rw [hs]; decide
  have hsv : l.startValue.getD l.poff ≤ l.poff := by
    rcases h2 with h | ⟨s, h, hle⟩ <;> rw [h]
    · exact Nat.le_refl _
    · exact hle
  have hkey : ∀ k, (l.startKey = none ∧ l.endKey = none) ∨
      ∃ a b, l.startKey = some a ∧ l.endKey = some b ∧ a < b ∧ b ≤ l.poff + k := fun k =>
    h3.imp id fun ⟨a, b, k1, k2, k3, k4, _⟩ => ⟨a, b, k1, k2, k3, Nat.le_trans k4 (Nat.le_add_right _ k)⟩
  -- an empty value after a call was made: no key piece can be pending
  have hnokey : ¬ ValuePending pp l → l.startKey = none ∧ l.endKey = none := fun hc =>
    h3.elim id fun ⟨_, _, _, _, _, _, k5⟩ => absurd (Or.inl k5) hc
  rcases byte_cases c with rfl | rfl | h | h
  · rw [urlValue_eq]
    exact .stay .error hI.state (uloc_error rfl) rfl rfl (Nat.le_of_lt hp) rfl hr
  · by_cases hc : ValuePending pp l
    · rw [urlValue_amp_cb hc]
      exact .adv hI.state
        ((uloc_cb rfl).mpr ⟨Or.inr ⟨_, _, rfl, rfl, hsv, Nat.le_succ _⟩, hkey 1⟩) rfl rfl hp hr
    · rw [urlValue_amp_done hc]
      obtain ⟨k1, k2⟩ := hnokey hc
      exact .adv ⟨hI.fault, hI.url, hI.xb, Nat.lt_of_le_of_lt (Nat.zero_le _) hI.bp⟩
        ((uloc_init rfl).mpr ⟨k1, k2, rfl, rfl⟩) rfl rfl hp hr
  · by_cases hc : ValuePending pp l
    · rw [urlValue_nl_cb h hc]
      exact .stay .callback hI.state
        ((uloc_cb rfl).mpr ⟨Or.inr ⟨_, _, rfl, rfl, hsv, Nat.le_refl _⟩, hkey 0⟩) rfl rfl (Nat.le_of_lt hp) rfl
        (by rw [hs]; decide)
    · rw [urlValue_nl_done h hc]
      exact .adv hI.state ((uloc_done rfl).mpr (hnokey hc)) rfl rfl hp hr
  · obtain ⟨le, e⟩ := urlValue_byte h pp l
    rw [e]
    refine .adv hI ((uloc_value hs).mpr ⟨h1, Or.inr ⟨_, rfl, Nat.le_succ_of_le hsv⟩, ?_⟩) rfl rfl hp hr
    exact h3.imp id fun ⟨a, b, k1, k2, k3, k4, k5⟩ => ⟨a, b, k1, k2, k3, Nat.le_succ_of_le k4, k5⟩

theorem step_any_done (c : UInt8) (hI : UInv pp) (hs : pp.state = .done) (hL : ULoc pp l) (hp : l.poff < d.length) :
    StepOk d pp l (urlDone c pp l) := by
  have hr : 0 < rankA pp.state := by rw [hs]; decide
  obtain ⟨h1, h2⟩ := (uloc_done hs).mp hL
  by_cases h : c = cLF ∨ c = cCR
  · rw [urlDone_nl h]
    exact .adv hI ((uloc_done hs).mpr ⟨h1, h2⟩) rfl rfl hp hr
  · rw [urlDone_other h]
    exact .stay .error hI.state (uloc_error rfl) rfl rfl (Nat.le_of_lt hp) rfl hr

theorem cbKey_any (hI : UInv pp) (hp : l.poff ≤ d.length)
    (hk : (l.startKey = none ∧ l.endKey = none) ∨
      ∃ a b, l.startKey = some a ∧ l.endKey = some b ∧ a < b ∧ b ≤ l.poff) :
    urlCallbackKey d pp l = ({ pp with state := .error }, l) ∨
    ∃ B bp, bp < pp.bufferSize ∧ urlCallbackKey d pp l =
      ({ pp with buf := B, bufferPos := bp, mustUnescapeKey := false }, { l with startKey := none, endKey := none }) := by
  rcases hk with ⟨k1, k2⟩ | ⟨a, b, k1, k2, k3, k4⟩
  · obtain ⟨B, hB, _⟩ := unescapeIfMust_spec pp (fun _ => Nat.le_of_lt hI.bp)
    exact Or.inr ⟨B, pp.bufferPos, hI.bp, by rw [urlCallbackKey_none hI.fault k1 k2, hB]⟩
  · by_cases hfit : pp.bufferPos + (b - a) ≥ pp.bufferSize
    · exact Or.inl (urlCallbackKey_long k1 k2 k3 hfit)
    · have hfit' := Nat.not_le.mp hfit
      have hb := Nat.le_trans k4 hp
      obtain ⟨B, hB, _⟩ := appendKey_spec d pp a (b - a) (by rw [Nat.add_sub_cancel' (Nat.le_of_lt k3)]; exact hb)
      obtain ⟨B', hB', _⟩ := unescapeIfMust_spec
        { pp with buf := B, bufferPos := pp.bufferPos + (b - a), mustUnescapeKey := true } (fun _ => Nat.le_of_lt hfit')
      exact Or.inr ⟨B', _, hfit', by rw [urlCallbackKey_some hI.fault k1 k2 k3 hb hfit', hB, hB']⟩

theorem step_any_cb (hI : UInv pp) (hs : pp.state = .callback) (hL : ULoc pp l) (hp : l.poff ≤ d.length) :
    StepOk d pp l (urlCallback d pp l) := by
  obtain ⟨hv, hk⟩ := (uloc_cb hs).mp hL
  rcases cbKey_any hI hp hk with e | ⟨B, bp, hbp, e⟩
  · rw [urlCallback_err e rfl]
    exact .stay .error hI.state (uloc_error rfl) rfl rfl hp rfl (by rw [hs]; decide)
  · have hpv : ∃ x v m ev, x.length ≤ 2 ∧
        processValue d { pp with buf := B, bufferPos := bp, mustUnescapeKey := false } l.startValue l.endValue none true =
          { pp with buf := B, bufferPos := bp, mustUnescapeKey := false, xbuf := x, valueOffset := v, mustIkvi := m,
                    evs := ev } := by
      rcases hv with ⟨v1, v2⟩ | ⟨s, e', v1, v2, v3, v4⟩
      · rw [v1, v2, processValue_none]
        exact processValue_any d _ 0 0 none true hI.xb (Nat.le_refl 0) (Nat.zero_le _)
      · rw [v1, v2]
        exact processValue_any d _ s e' none true hI.xb v3 (Nat.le_trans v4 hp)
    obtain ⟨x, v, m, ev, hx, hpv⟩ := hpv
    rw [urlCallback_of e (by show pp.state ≠ .error; rw [hs]; decide) hpv]
    exact .stay .init ⟨hI.fault, hI.url, hx, Nat.lt_of_le_of_lt (Nat.zero_le _) hI.bp⟩
      ((uloc_init rfl).mpr ⟨rfl, rfl, rfl, rfl⟩) rfl rfl hp rfl (by rw [hs]; decide)

theorem step_any (hI : UInv pp) (hL : ULoc pp l) (hp : l.poff ≤ d.length)
    (hc : (l.poff < d.length ∨ pp.state = .callback) ∧ pp.state ≠ .error) : StepOk d pp l (urlIter d pp l) := by
  obtain ⟨hc1, hne⟩ := hc
  have hlt : pp.state ≠ .callback → l.poff < d.length := fun h => hc1.elim id fun h' => absurd h' h
  rcases hL.state with hs | hs | hs | hs | hs | hs
  · have hlt := hlt (by rw [hs]; decide)
    rw [urlIter_init hs (List.getElem?_eq_getElem hlt)]
    exact step_any_init _ hI hs hL hlt
  · have hlt := hlt (by rw [hs]; decide)
    rw [urlIter_key hs (List.getElem?_eq_getElem hlt)]
    exact step_any_key _ hI hs hL hlt
  · have hlt := hlt (by rw [hs]; decide)
    rw [urlIter_value hs (List.getElem?_eq_getElem hlt)]
    exact step_any_value _ hI hs hL hlt
  · rw [urlIter_cb hs]
    exact step_any_cb hI hs hL hp
  · have hlt := hlt (by rw [hs]; decide)
    rw [urlIter_done hs (List.getElem?_eq_getElem hlt)]
    exact step_any_done _ hI hs hL hlt
  · exact absurd hs hne

/-- the loop: the shape invariant holds at its end, where the loop condition is false; any further
    property `P` that the iterations preserve (given the shape invariant) holds there too -/
theorem urlLoop_inv (d : Bytes) (P : PP → UL → Prop)
    (hP : ∀ pp l, UInv pp → ULoc pp l → l.poff ≤ d.length →
      (l.poff < d.length ∨ pp.state = .callback) ∧ pp.state ≠ .error → P pp l →
      P (urlIter d pp l).1 (urlIter d pp l).2) :
    ∀ (fuel : Nat) (pp : PP) (l : UL), UInv pp → ULoc pp l → l.poff ≤ d.length → muA d pp l < fuel → P pp l →
    UInv (urlLoop fuel d pp l).1 ∧ ULoc (urlLoop fuel d pp l).1 (urlLoop fuel d pp l).2 ∧
    (urlLoop fuel d pp l).2.poff ≤ d.length ∧ (urlLoop fuel d pp l).1.bufferSize = pp.bufferSize ∧
    ¬ (((urlLoop fuel d pp l).2.poff < d.length ∨ (urlLoop fuel d pp l).1.state = .callback) ∧
        (urlLoop fuel d pp l).1.state ≠ .error) ∧
    P (urlLoop fuel d pp l).1 (urlLoop fuel d pp l).2 := by
  intro fuel
  induction fuel with
  | zero => intro pp l _ _ _ h; cases h
  | succ n ih =>
    intro pp l hI hL hp hmu hPl
    rw [urlLoop]
    by_cases hc : (l.poff < d.length ∨ pp.state = .callback) ∧ pp.state ≠ .error
    · rw [if_pos hc]
      obtain ⟨s1, s2, s3, s4, s5⟩ := step_any hI hL hp hc
      obtain ⟨r1, r2, r3, r4, r5, r6⟩ :=
        ih _ _ s1 s2 s3 (Nat.lt_of_lt_of_le s4 (Nat.le_of_lt_succ hmu)) (hP pp l hI hL hp hc hPl)
      exact ⟨r1, r2, r3, r4.trans s5, r5, r6⟩
    · rw [if_neg hc]
      exact ⟨hI, hL, hp, rfl, hc, hPl⟩

theorem muA_start (d : Bytes) (pp : PP) : muA d pp {} < 3 * d.length + 4 :=
  Nat.add_lt_add_left (Nat.lt_succ_of_le (rankA_le pp.state)) _

/-- invariant between two calls in urlencoded mode, for ARBITRARY input -/
def UGood (pp : PP) : Prop := UInv pp ∧ ULoc pp {}

theorem tailKey_any (hI : UInv pp) (hL : ULoc pp l) (hp : l.poff ≤ d.length) (hne : pp.state ≠ .error) :
    urlTailKey d pp l = ({ pp with state := .error }, false) ∨
    ∃ B bp mu, bp < pp.bufferSize ∧
      urlTailKey d pp l = ({ pp with buf := B, bufferPos := bp, mustUnescapeKey := mu }, true) := by
  cases hsk : l.startKey with
  | none => exact Or.inr ⟨pp.buf, pp.bufferPos, pp.mustUnescapeKey, hI.bp, urlTailKey_none hsk⟩
  | some a =>
    obtain ⟨r1, r2⟩ := hL.key_range hne hsk
    by_cases hfit : pp.bufferPos + (l.endKey.getD l.poff - a) ≥ pp.bufferSize
    · exact Or.inl (urlTailKey_long hsk r1 hfit)
    · have hfit' := Nat.not_le.mp hfit
      obtain ⟨B, hB, _⟩ := appendKey_spec d pp a (l.endKey.getD l.poff - a)
        (by rw [Nat.add_sub_cancel' r1]; exact Nat.le_trans r2 hp)
      exact Or.inr ⟨B, _, true, hfit', by rw [urlTailKey_some hsk r1 hfit', hB]⟩

theorem tailValue_any (hI : UInv pp) (hL : ULoc pp l) (hp : l.poff ≤ d.length) :
    UInv (urlTailValue d pp l) ∧ (urlTailValue d pp l).state = pp.state ∧
      (pp.state = .processKey → (urlTailValue d pp l).mustIkvi = pp.mustIkvi) := by
  by_cases hc : l.startValue.isSome = true ∧ pp.state = .processValue
  · obtain ⟨v1, v2, _⟩ := (uloc_value hc.2).mp hL
    obtain ⟨s, hs1, hs2⟩ : ∃ s, l.startValue = some s ∧ s ≤ l.poff := by
      rcases v2 with h | h
      · rw [h] at hc; cases hc.1
      · exact h
    obtain ⟨B, hB, _⟩ := unescapeIfMust_spec pp (fun _ => Nat.le_of_lt hI.bp)
    rw [urlTailValue_some hs1 hc.2 hB hI.fault, v1]
    obtain ⟨x, v, m, ev, hx, hpv⟩ := processValue_any d { pp with buf := B, mustUnescapeKey := false } s l.poff
      (tailEscape l.lastEscape l.poff) false hI.xb hs2 hp
    rw [Option.getD_none, hpv]
    exact ⟨⟨hI.fault, hI.url, hx, hI.bp⟩, rfl, fun h => by rw [hc.2] at h; cases h⟩
  · rw [urlTailValue_skip hc]
    exact ⟨hI, rfl, fun _ => rfl⟩

theorem tail_any (hI : UInv pp) (hL : ULoc pp l) (hp : l.poff ≤ d.length)
    (hend : ¬ ((l.poff < d.length ∨ pp.state = .callback) ∧ pp.state ≠ .error)) : UGood (urlTail d pp l).1 := by
  by_cases herr : pp.state = .error
  · rw [urlTail, if_pos herr]
    exact ⟨hI, uloc_error herr⟩
  · have hncb : pp.state ≠ .callback := fun h => hend ⟨Or.inr h, herr⟩
    rcases tailKey_any hI hL hp herr with e | ⟨B, bp, mu, hbp, e⟩
    · rw [urlTail_keyfail herr e]
      exact ⟨hI.state, uloc_error rfl⟩
    · rw [urlTail_fst herr e hI.fault]
      obtain ⟨w1, w2, w3⟩ := tailValue_any (d := d) (l := l) (pp := { pp with buf := B, bufferPos := bp, mustUnescapeKey := mu })
        ⟨hI.fault, hI.url, hI.xb, hbp⟩ (hL.congr rfl rfl) hp
      exact ⟨w1, uloc_fresh hL w2 w3 hncb⟩

theorem feed_any (pp : PP) (d : Bytes) (h : UGood pp) : UGood (feed pp d).1 := by
  obtain ⟨hI, hL⟩ := h
  by_cases hd : d.length = 0
  · rw [feed_empty hI.fault hd]
    exact ⟨hI, hL⟩
  · obtain ⟨r1, r2, r3, _, r5, _⟩ := urlLoop_inv d (fun _ _ => True) (fun _ _ _ _ _ _ _ => trivial)
      (3 * d.length + 4) pp {} hI hL (Nat.zero_le _) (muA_start d pp) trivial
    rw [feed_url hI.fault hI.url hd r1.fault]
    exact tail_any r1 r2 r3 r5

theorem feedAll_any (pp : PP) (chunks : List Bytes) (h : UGood pp) : UGood (feedAll pp chunks) :=
  List.foldlRecOn chunks _ h fun p hp c _ => feed_any p c hp

theorem create_url_ugood (n : Nat) (ctype : Bytes) (pp0 : PP) (hc : create n ctype = some pp0) (hu : pp0.isUrl = true) :
    UGood pp0 := by
  unfold create at hc
  simp only at hc
  by_cases h1 : eqCaselessN Mhd.Gen.PP.encUrl ctype Mhd.Gen.PP.encUrl.length = true
  · rw [if_pos h1] at hc
    cases hc
    exact ⟨⟨rfl, rfl, Nat.zero_le 2, Nat.lt_of_lt_of_le (by decide : 0 < Mhd.Gen.PP.bufferSlack) (Nat.le_add_left _ n)⟩,
      (uloc_init rfl).mpr ⟨rfl, rfl, rfl, rfl⟩⟩
  · -- every other Content-Type that is accepted selects the multipart parser
    rw [if_neg h1] at hc
    split at hc
    · cases hc
    · split at hc
      · cases hc
      · split at hc
        · cases hc
        · cases hc
          cases hu

/-- urlencoded, ARBITRARY input and splits: no access outside an object, no `abort`/`MHD_PANIC`, the
    loops of the model never run out of fuel -/
theorem url_no_fault (n : Nat) (ctype : Bytes) (pp0 : PP) (chunks : List Bytes)
    (hc : create n ctype = some pp0) (hu : pp0.isUrl = true) :
    (destroy (feedAll pp0 chunks)).1.fault = none := by
  have h := feedAll_any pp0 chunks (create_url_ugood n ctype pp0 hc hu)
  unfold destroy
  simp only [h.1.fault, Option.isSome_none, Bool.false_eq_true, if_false]
  by_cases hs : (feedAll pp0 chunks).state = .processValue
  · -- an open value is closed by feeding a newline
    rw [if_pos hs, ← feed_nonempty (d := [cLF]) h.1.fault h.1.url (Nat.succ_ne_zero 0)]
    exact (feed_any _ [cLF] h).1.fault
  · rw [if_neg hs]
    exact h.1.fault
end Mhd.PP
