/-
  C12 specification side.

  * `Cred`   — the *semantic* credential: the meaning of every parameter of the
               Authorization header (C14's `view`: the value after unquoting), the
               algorithm / qop constants of their meaning and the userhash flag.
  * `expectedClass` — the result class as a function of the semantic credential: the
               clauses of the check in the order in which the code performs them, each
               stated on meanings (`value = realm`, "hex text of H(user:realm), any letter
               case", …) instead of on the raw slices, quoting flags and buffers the C code
               works with.  The only thing it looks at besides the meaning is the length
               of each parameter *as sent* (`LenView`), for the documented size limits.
  * `RFCValid` — RFC 7616 / 2617 / 2069 validity of a semantic credential for a
               request, an application call and a nonce state; `WithinLimits` — the
               implementation limits on the lengths as sent.
-/
import Mhd.Model.Dauth

namespace Mhd.Dauth
open Mhd.Auth Mhd.Gen.Auth Mhd.Gen.Dauth

/-- the semantic credential -/
structure Cred where
  /-- meaning of `algorithm` (`algoSem`): one of the `MHD_DIGEST_AUTH_ALGO3_*` constants -/
  algo3 : Nat
  /-- meaning of `qop` (`qopSem`) -/
  qop : Nat
  /-- `userhash=true` -/
  userhash : Bool
  /-- meaning of parameter `k` (index into `tk_names[]`) -/
  val : Nat → Option Bytes
  /-- `username*` as sent (an RFC 5987 ext-value; not a quoted-string with quoted-pairs) -/
  ext : Option Bytes

/-- meaning of the parsed parameters -/
def semOf (d : DAuth) : Cred :=
  { algo3 := d.algo3, qop := d.qop, userhash := d.userhash,
    val := fun k => (d.slots k).map paramUnq,
    ext := (d.slots kUsernameExt).map fun p => p.raw }

def needV (o : Option Bytes) : Except Res Bytes :=
  match o with
  | some v => .ok v
  | none => .error (.fault .nullParam)

def specRealm (call : Call) (c : Cred) : Except Res Unit := do
  let v ← needV (c.val kRealm)
  if v = call.realm then .ok () else .error .wrongRealm

def specUsername (a : Algo) (call : Call) (c : Cred) : Except Res Unit :=
  if !c.userhash then
    match c.val kUsername with
    | some u => if u = call.username then .ok () else .error .wrongUsername
    | none => do
      let e ← needV c.ext
      if noBuffer (e.length + 1 - extMinLen) then .error .tooLarge
      else
        match extName e with
        | none => .error .wrongHeader
        | some name => if name = call.username then .ok () else .error .wrongUsername
  else do
    let u ← needV (c.val kUsername)
    -- the hexadecimal text of H(username ":" realm), letter case ignored
    if eqClS (binToHex (userhash a call.username call.realm)) u then .ok () else .error .wrongUsername

def specNc (maxNc : Nat) (c : Cred) : Except Res Nat :=
  if c.qop ≠ qopNone then do
    let txt ← needV (c.val kNc)
    if txt.length = 0 then .error (.fault .uninitNc)
    else
      match Mhd.Nonce.parseNc txt with
      | none => .error .wrongHeader
      | some nci =>
        if nci = 0 then .error .wrongHeader
        else if maxNc ≠ 0 ∧ maxNc < nci then .error .nonceStale
        else .ok nci
  else .ok 1

def specNonce (a : Algo) (now timeout : Nat) (c : Cred) : Except Res (Bytes × Nat) := do
  let n ← needV (c.val kNonce)
  if a.stdLen ≠ n.length then .error .nonceWrong
  else
    match Mhd.Nonce.getNonceTimestamp n n.length with
    | .fault => .error (.fault .nonceTable)
    | .invalid => .error .nonceWrong
    | .ts t =>
      if Mhd.Nonce.trim (Mhd.Nonce.sub64 now t) > (timeout * 1000) % 2 ^ Mhd.Gen.Nonce.timeoutBits then
        .error .nonceStale
      else .ok (n, t)

def specPre (now timeout maxNc : Nat) (call : Call) (c : Cred) (lv : LenView) :
    Except Res (Algo × Nat × Bytes × Nat) := do
  let a ← stageAlgoN call c.algo3
  stageQopN call c.qop
  presenceV a call lv c.qop c.userhash
  specRealm call c
  specUsername a call c
  let nci ← specNc maxNc c
  let nt ← specNonce a now timeout c
  .ok (a, nci, nt.1, nt.2)

def specUri (cfg : Cfg) (r : Req) (c : Cred) (lv : LenView) : Except Res Bytes := do
  let uri ← needV (c.val kUri)
  if noBuffer ((lv kUri).getD 0 + 1) then .error .error
  else if checkUriMatch cfg.strictUnescape uri r.url r.args then .ok uri else .error .wrongUri

def specQopPart (c : Cred) : Except Res Bytes :=
  if c.qop ≠ qopNone then do
    let nc ← needV (c.val kNc)
    let cn ← needV (c.val kCnonce)
    let q ← needV (c.val kQop)
    .ok (nc ++ 58 :: (cn ++ 58 :: (q ++ [58])))
  else .ok []

/-- the RFC 7616 §3.4.1 / RFC 2069 response value for the given texts -/
def rfcResponse (a : Algo) (h1 nonce mid uri method : Bytes) : Bytes :=
  a.hash (h1 ++ 58 :: (nonce ++ 58 :: (mid ++ binToHex (a.hash (method ++ 58 :: uri)))))

def specResponse (a : Algo) (r : Req) (call : Call) (c : Cred) (uri : Bytes) : Except Res Unit := do
  let h1 ← ha1Hex a call
  let resp ← needV (c.val kResponse)
  if a.size * 2 < resp.length then .error .responseWrong
  else
    match hexToBin resp with
    | none => .error .responseWrong
    | some bin =>
      if bin.length ≠ a.size then .error .responseWrong
      else do
        let nonce ← needV (c.val kNonce)
        let mid ← specQopPart c
        if bin = rfcResponse a h1 nonce mid uri r.method then .ok () else .error .responseWrong

def specBind (cfg : Cfg) (a : Algo) (r : Req) (call : Call) (c : Cred) (nonceTime : Nat) : Except Res Unit :=
  if cfg.bindType ≠ bindNone then
    match calcNonce cfg r call.realm a nonceTime with
    | none => .error (.fault .addrRead)
    | some nn => do
      let n ← needV (c.val kNonce)
      if n = nn then .ok () else .error .nonceOtherCond
  else .ok ()

def specPost (cfg : Cfg) (r : Req) (call : Call) (c : Cred) (lv : LenView) (a : Algo) (nonceTime : Nat) : Res :=
  match (do
    let uri ← specUri cfg r c lv
    specResponse a r call c uri
    specBind cfg a r call c nonceTime : Except Res Unit) with
  | .ok () => .ok
  | .error e => e

/-- the result class (and the nonce table afterwards) as a function of the semantic credential -/
def expectedClass (cfg : Cfg) (tbl : Mhd.Nonce.Table) (now : Nat) (r : Req) (call : Call) (timeout maxNc : Nat)
    (c : Cred) (lv : LenView) : Mhd.Nonce.Table × Res :=
  match specPre now timeout maxNc call c lv with
  | .error e => (tbl, e)
  | .ok (a, nci, nonce, nonceTime) =>
    let x := Mhd.Nonce.checkNonceNc tbl nonce nonceTime nci
    match x.2 with
    | .ok => (x.1, specPost cfg r call c lv a nonceTime)
    | other => (x.1, ofNc other)

/-! ### hypotheses about the parsed parameters (guaranteed by `parse_dauth_params`) -/

/-- every quoted parameter unquotes (the scanner stores a backslash only together with the byte it escapes) -/
def WQ (d : DAuth) : Prop := ∀ k p, d.slots k = some p → p.quoted = true → (unquoteLoop p.raw).isSome

/-- the `qop` constant is the one `get_rq_dauth_qop` gives for the stored `qop` parameter -/
def QopParsed (d : DAuth) : Prop := d.qop = qopOf (d.slots kQop)

/-- implementation limits on the parameters *as sent* (length of the value without the DQUOTEs) -/
structure WithinLimits (a : Algo) (call : Call) (c : Cred) (lv : LenView) : Prop where
  userhash : c.userhash = true → ∀ l, lv kUsername = some l → a.size * 2 ≤ l ∧ l ≤ a.size * 4
  realm : (isPassword call.secret = true ∨ c.userhash = true) → ∀ l, lv kRealm = some l → l ≤ maxParam
  nc : c.qop ≠ qopNone → ∀ l, lv kNc = some l → l ≤ ncMaxRaw
  cnonce : c.qop ≠ qopNone → ∀ l, lv kCnonce = some l → l ≤ maxParam
  uri : ∀ l, lv kUri = some l → l + 1 ≤ maxParam
  nonce : ∀ l, lv kNonce = some l → l ≤ a.stdLen * 2
  response : ∀ l, lv kResponse = some l → l ≤ a.size * 4
  ext : ∀ e, c.ext = some e → c.val kUsername = none → e.length + 1 - extMinLen ≤ maxParam

/-- the credential names the expected user, in one of the three notations of RFC 7616 §3.4 / §3.4.4 -/
def UserOk (a : Algo) (call : Call) (c : Cred) : Prop :=
  (c.userhash = false ∧ c.val kUsername = some call.username ∧ c.ext = none) ∨
  (c.userhash = false ∧ c.val kUsername = none ∧ ∃ e, c.ext = some e ∧ extName e = some call.username) ∨
  (c.userhash = true ∧ c.ext = none ∧
    ∃ u, c.val kUsername = some u ∧ eqClS (binToHex (userhash a call.username call.realm)) u = true)

/-- `nc`, `cnonce`, `qop` texts as required by the quality of protection; `nci` is the count presented -/
def CountOk (maxNc : Nat) (c : Cred) (nci : Nat) (mid : Bytes) : Prop :=
  (c.qop = qopNone ∧ nci = 1 ∧ mid = []) ∨
  (c.qop = qopAuth ∧ ∃ nc cn q, c.val kNc = some nc ∧ c.val kCnonce = some cn ∧ c.val kQop = some q ∧
     cn ≠ [] ∧ Mhd.Nonce.parseNc nc = some nci ∧ 0 < nci ∧ (maxNc = 0 ∨ nci ≤ maxNc) ∧
     mid = nc ++ 58 :: (cn ++ 58 :: (q ++ [58])))

/-- RFC validity of the semantic credential `c` for request `r`, the application's call, the clock and the
    nonce table.  `timeout`/`maxNc` are the effective values (zero already replaced by the daemon defaults). -/
structure RFCValid (cfg : Cfg) (tbl : Mhd.Nonce.Table) (now : Nat) (r : Req) (call : Call) (timeout maxNc : Nat)
    (c : Cred) (a : Algo) (nci : Nat) (nonce : Bytes) (t : Nat) : Prop where
  /-- a known non-session algorithm that the application allows -/
  algo : c.algo3 ≠ algoInvalid ∧ c.algo3 = (c.algo3 &&& call.malgo3) ∧ (c.algo3 &&& algoSession) = 0 ∧
         baseAlgo c.algo3 = some a
  /-- no qop (RFC 2069) or `auth`, allowed by the application -/
  qop : (c.qop = qopNone ∨ c.qop = qopAuth) ∧ c.qop = (c.qop &&& call.mqop)
  user : UserOk a call c
  realm : c.val kRealm = some call.realm
  /-- the nonce has the format of this daemon's nonces, is not older than `timeout`, … -/
  nonceVal : c.val kNonce = some nonce ∧ nonce.length = a.stdLen ∧
             Mhd.Nonce.getNonceTimestamp nonce nonce.length = .ts t ∧
             ¬ Mhd.Nonce.trim (Mhd.Nonce.sub64 now t) > (timeout * 1000) % 2 ^ Mhd.Gen.Nonce.timeoutBits
  /-- … is registered in the nonce table and the count was not used before (C13) -/
  fresh : (Mhd.Nonce.checkNonceNc tbl nonce t nci).2 = .ok
  /-- the `uri` parameter denotes the request's path and arguments -/
  uri : ∃ u, c.val kUri = some u ∧ u ≠ [] ∧ checkUriMatch cfg.strictUnescape u r.url r.args = true
  /-- the response is the hexadecimal text (any letter case) of the RFC value -/
  response : ∃ u mid h1 resp bin, c.val kUri = some u ∧ CountOk maxNc c nci mid ∧ ha1Hex a call = .ok h1 ∧
             c.val kResponse = some resp ∧ hexToBin resp = some bin ∧ resp.length ≤ a.size * 2 ∧ bin.length = a.size ∧
             bin = rfcResponse a h1 nonce mid u r.method
  /-- with a binding option: the nonce is the one this daemon makes for this client / resource / realm -/
  bind : cfg.bindType ≠ bindNone → calcNonce cfg r call.realm a t = some nonce

end Mhd.Dauth
