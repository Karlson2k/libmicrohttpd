import Mhd.Proofs.UpgKept
namespace Mhd.Upg

/-- lifecycle coherence of one connection (holds at every primitive boundary) -/
structure Life (cfg : Cfg) (x : Conn) : Prop where
  resuming_susp : x.resuming = true → x.loc = .suspended
  susp_urh : x.loc = .suspended → x.urh.isSome = true
  urh_loc : x.urh.isSome = true → x.loc = .suspended ∨ x.loc = .cleanup
  urh_ready : ∀ u, x.urh = some u → u.cleanReady = true
  resuming_closed : x.resuming = true → ∀ u, x.urh = some u → u.wasClosed = true
  upg_allowed : x.urh.isSome = true → cfg.allowUpgrade = true
  rp_allowed : ∀ rid, x.rp = some rid → (cfg.resp rid).upgrade = true → cfg.allowUpgrade = true
  aware_loc : x.clientAware = true → x.loc = .active ∨ x.loc = .suspended
  sock : x.sockOpen = true ↔ (x.loc = .new ∨ x.loc = .active ∨ x.loc = .suspended ∨ x.loc = .cleanup)
  urh_rbuf : x.urh.isSome = true → x.rbuf = []

theorem life_init (cfg : Cfg) : Life cfg {} := by
  constructor <;> simp

theorem Life.no_urh {cfg x} (h : Life cfg x) (h1 : x.loc ≠ .suspended) (h2 : x.loc ≠ .cleanup) : x.urh = none := by
  cases hu : x.urh with
  | none => rfl
  | some u => exact (h.urh_loc (by rw [hu]; rfl)).elim (absurd · h1) (absurd · h2)

theorem Life.not_resuming {cfg x} (h : Life cfg x) (h1 : x.loc ≠ .suspended) : x.resuming = false := by
  cases hr : x.resuming with
  | false => rfl
  | true => exact absurd (h.resuming_susp hr) h1

theorem Life.not_aware {cfg x} (h : Life cfg x) (h1 : x.loc ≠ .active) (h2 : x.loc ≠ .suspended) :
    x.clientAware = false := by
  cases ha : x.clientAware with
  | false => rfl
  | true => exact (h.aware_loc ha).elim (absurd · h1) (absurd · h2)

theorem Life.active_urh {cfg x} (h : Life cfg x) (ha : x.loc = .active) : x.urh = none :=
  h.no_urh (by simp [ha]) (by simp [ha])

theorem Life.active_resuming {cfg x} (h : Life cfg x) (ha : x.loc = .active) : x.resuming = false :=
  h.not_resuming (by simp [ha])

theorem Life.frame {cfg} {x y : Conn} (h : Life cfg x) (hloc : y.loc = x.loc) (hurh : y.urh = x.urh)
    (hres : y.resuming = x.resuming) (hsock : y.sockOpen = x.sockOpen)
    (haw : y.clientAware = true → x.clientAware = true ∨ x.loc = .active)
    (hrb : y.rbuf = x.rbuf ∨ x.urh = none)
    (hrp : ∀ rid, y.rp = some rid → x.rp = some rid ∨ ((cfg.resp rid).upgrade = true → cfg.allowUpgrade = true)) :
    Life cfg y := by
  constructor
  · rw [hres, hloc]; exact h.resuming_susp
  · rw [hloc, hurh]; exact h.susp_urh
  · rw [hloc, hurh]; exact h.urh_loc
  · rw [hurh]; exact h.urh_ready
  · rw [hres, hurh]; exact h.resuming_closed
  · rw [hurh]; exact h.upg_allowed
  · intro rid hr hu
    exact (hrp rid hr).elim (h.rp_allowed rid · hu) (· hu)
  · intro ha; rw [hloc]
    exact (haw ha).elim h.aware_loc .inl
  · rw [hsock, hloc]; exact h.sock
  · intro hu; rw [hurh] at hu
    rcases hrb with h1 | h1
    · rw [h1]; exact h.urh_rbuf hu
    · rw [h1] at hu; cases hu

theorem Life.of_eq {cfg} {x y : Conn} (h : Life cfg x) (hloc : y.loc = x.loc) (hurh : y.urh = x.urh)
    (hres : y.resuming = x.resuming) (hsock : y.sockOpen = x.sockOpen) (haw : y.clientAware = x.clientAware)
    (hrb : y.rbuf = x.rbuf) (hrp : y.rp = x.rp) : Life cfg y :=
  h.frame hloc hurh hres hsock (fun a => .inl (haw ▸ a)) (.inl hrb) (fun _ a => .inl (hrp ▸ a))

theorem life_emit {cfg x} (h : Life cfg x) (e : Ev) : Life cfg (x.emit e) :=
  h.of_eq rfl rfl rfl rfl rfl rfl rfl

theorem Life.coherent {cfg x} (h : Life cfg x) : ¬ x.incoherent := by
  rintro (⟨h1, h2⟩ | ⟨h1, h2⟩ | ⟨h1, h2⟩)
  · exact absurd (h.active_resuming h1) (by simp [h2])
  · have := h.susp_urh h1; simp [h2] at this
  · have := h.sock.mpr (h1.elim .inl fun h1 => .inr (.inr (.inr h1))); simp [h2] at this

theorem life_kept (cfg : Cfg) : Kept cfg Any (Life cfg) where
  act {x y} a _ h := by
    cases a with
    | emit | shutdown | ctl | built | send | clientSend | appRecv => exact h.of_eq rfl rfl rfl rfl rfl rfl rfl
    | dropRp => exact h.frame rfl rfl rfl rfl .inl (.inl rfl) nofun
    | completed => exact h.frame rfl rfl rfl rfl nofun (.inl rfl) (fun _ => .inl)
    | entered _ ha => exact h.frame rfl rfl rfl rfl (fun _ => .inr ha) (.inl rfl) (fun _ => .inl)
    | head _ ha _ | recv _ ha _ => exact h.frame rfl rfl rfl rfl .inl (.inr (h.active_urh ha)) (fun _ => .inl)
    | accept sh rid d hq =>
      obtain ⟨_, _, _, _, _, ha, _⟩ := queueCheck_eq_none.mp hq
      refine h.frame rfl rfl rfl rfl .inl (.inl rfl) (fun r hr => .inr ?_)
      cases hr; exact ha
    | toCleanup ha haw =>
      have hu := h.active_urh ha
      have hr := h.active_resuming ha
      have hs := h.sock.mpr (.inr (.inl ha))
      refine ⟨?_, ?_, ?_, ?_, ?_, ?_, h.rp_allowed, ?_, ?_, ?_⟩ <;> simp [hu, hr, hs, haw]
    | handover rid ha _ _ hrp hu =>
      have hs := h.sock.mpr (.inr (.inl ha))
      have hal := h.rp_allowed rid hrp hu
      refine ⟨?_, ?_, ?_, ?_, ?_, ?_, h.rp_allowed, ?_, ?_, ?_⟩ <;> simp [takeExtra, hal, hs, h.active_resuming ha]
    | marked u hs hu =>
      have hi : x.urh.isSome = true := by rw [hu]; rfl
      have h1 := h.urh_ready u hu
      have h2 := h.upg_allowed hi
      have h3 := h.urh_rbuf hi
      have h4 := h.sock.mpr (.inr (.inr (.inl hs)))
      refine ⟨?_, ?_, ?_, ?_, ?_, ?_, h.rp_allowed, ?_, ?_, ?_⟩ <;> simp [hs, h1, h2, h3, h4]
    | resumeClean u hs _ hu _ _ haw =>
      have h4 := h.sock.mpr (.inr (.inr (.inl hs)))
      refine ⟨?_, ?_, ?_, h.urh_ready, ?_, h.upg_allowed, h.rp_allowed, ?_, ?_, h.urh_rbuf⟩ <;> simp [h4, haw]
    | started hn =>
      have hr := h.not_resuming (by simp [hn])
      have hu := h.no_urh (by simp [hn]) (by simp [hn])
      have hs := h.sock.mpr (.inl hn)
      refine ⟨?_, ?_, ?_, ?_, ?_, ?_, h.rp_allowed, ?_, ?_, ?_⟩ <;> simp [hr, hu, hs]
    | release hc =>
      have hr := h.not_resuming (by simp [hc])
      have ha := h.not_aware (by simp [hc]) (by simp [hc])
      refine ⟨?_, ?_, ?_, ?_, ?_, ?_, h.rp_allowed, ?_, ?_, ?_⟩ <;> simp [hr, ha]
    | stopNew hn | arrive hn =>
      have hr := h.not_resuming (by simp [hn])
      have hu := h.no_urh (by simp [hn]) (by simp [hn])
      have ha := h.not_aware (by simp [hn]) (by simp [hn])
      refine ⟨?_, ?_, ?_, ?_, ?_, ?_, h.rp_allowed, ?_, ?_, ?_⟩ <;> simp [hr, hu, ha]
    | incoherent hi => exact absurd hi h.coherent

theorem life_roundConn {cfg x} (h : Life cfg x) (sh scan : Bool) (a : Option IoAct) :
    Life cfg (roundConn cfg sh scan a x).1 :=
  (life_kept cfg).round h sh scan a

theorem life_stopConn {cfg x} (h : Life cfg x) : Life cfg (stopConn cfg x) :=
  (life_kept cfg).stop h

theorem life_appSendConn {cfg x} (h : Life cfg x) (bs : Bytes) : Life cfg (appSendConn x bs) :=
  life_emit h _

end Mhd.Upg
