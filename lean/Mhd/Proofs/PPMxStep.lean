/-
  Round trip of the multipart machine, one loop iteration: `mpAct_spec` — on a window that is a prefix
  of the rest of a well-formed stream, the `skip_rn` machine, the main switch and `AGAIN:` keep the
  invariant `MInv` (top level and nested multipart/mixed), never return an error, and make progress
  unless the window is too short.  `eats_step` is the `skip_rn` machine on what `Eats` says it expects;
  delimiter lines (`bnd_act`), header lines (`hdr_act`) and values (`val_act`) are treated for an
  arbitrary boundary and arbitrary successor states; the steps of the invariant (`bnd_step`, `hdr_step`,
  `val_step`) instantiate them at the level of a `Pos`.
-/
import Mhd.Proofs.PPMxInv
namespace Mhd.PP

/-- what one pass of `mpAct` has to establish -/
def ActOk (c : Cfg) (pend : Bytes) (pp1 : PP) (l2 : ML) (r : PP × ML × Flow) : Prop :=
  r.2.2 ≠ .ret ∧ MBase c r.1 ∧ MInv c (view r.1) r.1.skipRn (r.1.buf ++ pend) ∧ r.2.1.ioff = 0 ∧ r.2.1.poff = l2.poff ∧
  ((r.2.2 = .gotoEnd ∨ r.2.1.stateChanged = false) → Stuck c.size r.1 pend) ∧ (r.2.2 = .gotoEnd → r.1.buf = pp1.buf)

theorem mpAct_main (pp : PP) (l : ML) (hrn : pp.skipRn = .inactive) : mpAct pp l = mpFin (mainSwitch pp l) := by
  simp only [mpAct, rnMachine, hrn]

theorem ActOk.go {c : Cfg} {pend : Bytes} {pp : PP} {l : ML} (q : PP) (l' : ML) (hrn : pp.skipRn = .inactive)
    (hms : mainSwitch pp l = (q, l', .again)) (hb : MBase c q) (hio : l'.ioff ≤ q.buf.length) (hpo : l'.poff = l.poff)
    (hI : MInv c (view q) q.skipRn (q.buf.drop l'.ioff ++ pend))
    (hq : l'.stateChanged = false → l'.ioff = 0 → Stuck c.size q pend) : ActOk c pend pp l (mpAct pp l) := by
  rw [mpAct_main pp l hrn, hms, mpFin_again q l' hb.fault hio]
  refine ⟨nofun, ⟨hb.size, hb.bnd, hb.xbuf, hb.fault⟩, hI, rfl, hpo, fun h => ?_, nofun⟩
  have h := h.resolve_left nofun
  simp only [Bool.or_eq_false_iff, decide_eq_false_iff_not, Nat.not_lt, Nat.le_zero_eq] at h
  have := hq h.1 h.2
  rw [h.2]
  exact this

theorem ActOk.turn {c : Cfg} {pend : Bytes} {pp : PP} {l : ML} (q : PP) (hrn : pp.skipRn = .inactive) (hio : l.ioff = 0)
    (hms : mainSwitch pp l = (q, { l with stateChanged := true }, .again)) (hb : MBase c q)
    (hI : MInv c (view q) q.skipRn (q.buf ++ pend)) : ActOk c pend pp l (mpAct pp l) := by
  refine ActOk.go q _ hrn hms hb (hio ▸ Nat.zero_le _) rfl ?_ nofun
  show MInv c _ _ (q.buf.drop l.ioff ++ pend)
  rw [hio]
  exact hI

theorem ActOk.wait {c : Cfg} {pend : Bytes} {pp : PP} {l : ML} (q : PP) (hrn : pp.skipRn = .inactive)
    (hms : mainSwitch pp l = (q, l, .gotoEnd)) (hb : MBase c q) (hio : l.ioff = 0) (hbuf : q.buf = pp.buf)
    (hI : MInv c (view q) q.skipRn (q.buf ++ pend)) (hq : Stuck c.size q pend) : ActOk c pend pp l (mpAct pp l) := by
  rw [mpAct_main pp l hrn, hms]
  exact ⟨nofun, hb, hI, hio, rfl, fun _ => hq, fun _ => hbuf⟩

theorem append_split {buf pend A rest : Bytes} (h : buf ++ pend = A ++ rest) (hl : A.length ≤ buf.length) :
    ∃ b', buf = A ++ b' ∧ rest = b' ++ pend := by
  rcases List.append_eq_append_iff.mp h with ⟨a', h1, h2⟩ | ⟨c', h1, h2⟩
  · have : a' = [] := List.length_eq_zero_iff.mp (by have := congrArg List.length h1; simp at this; omega)
    subst this
    exact ⟨[], by simpa using h1.symm, by simpa using h2.symm⟩
  · exact ⟨c', h1, h2⟩

theorem Eats.of_inactive {s ds s' : St} {rn : RN} {R X : Bytes} (h : Eats s ds rn R X s') (hrn : rn = .inactive) :
    R = X ∧ s' = s := by
  cases h with
  | inactive _ h => exact ⟨h, rfl⟩
  | optN hr | dashes hr | dash2 hr => rw [hrn] at hr; cases hr
  | crlf hr => rw [hrn] at hr; rcases hr with hr | hr <;> cases hr

/-- `skip_rn` on a non-empty window eats one or two bytes of what it expects and expects the rest -/
theorem eats_step (pp : PP) (l : ML) (pend X : Bytes) (s' : St)
    (hr : Eats pp.state pp.dashState pp.skipRn (pp.buf ++ pend) X s')
    (hrn : pp.skipRn ≠ .inactive) (hne : pp.buf ≠ []) (hio : l.ioff = 0) (hf : pp.fault = none) :
    ∃ k rn' s, mpAct pp l = ({ pp with skipRn := rn', state := s, buf := pp.buf.drop k },
        { l with ioff := 0, stateChanged := true }, .again) ∧
      Eats s pp.dashState rn' (pp.buf.drop k ++ pend) X s' := by
  obtain ⟨c0, b', hb⟩ := List.exists_cons_of_ne_nil hne
  cases hr with
  | inactive h _ => exact absurd h hrn
  | optN h hR =>
    rw [hb] at hR
    simp only [List.cons_append, List.cons.injEq] at hR
    obtain ⟨rfl, hR⟩ := hR
    refine ⟨1, .inactive, pp.state, ?_, .inactive rfl ?_⟩
    · simp [mpAct, rnMachine, h, rnOptN, hb, mpFin, again, hf, hio]
    · simp [hb, hR]
  | crlf h hR =>
    rw [hb] at hR
    simp only [List.cons_append, List.cons.injEq] at hR
    obtain ⟨rfl, hR⟩ := hR
    cases b' with
    | nil =>
      refine ⟨1, .optN, pp.state, ?_, .optN rfl ?_⟩
      · rcases h with h | h <;> simp [mpAct, rnMachine, h, rnDash, rnFull, hb, mpFin, again, hf, hio, cCR, cDash]
      · simp only [List.nil_append] at hR
        simp [hb, hR]
    | cons c1 b'' =>
      simp only [List.cons_append, List.cons.injEq] at hR
      obtain ⟨rfl, hR⟩ := hR
      have hlt : ¬ (b''.length + 1 + 1 < 2) := by omega
      refine ⟨2, .inactive, pp.state, ?_, .inactive rfl ?_⟩
      · rcases h with h | h <;> simp [mpAct, rnMachine, h, rnDash, rnFull, hb, mpFin, again, hf, hio, cCR, cDash, hlt]
      · simp [hb, hR]
  | dashes h hR =>
    rw [hb] at hR
    simp only [List.cons_append, List.cons.injEq] at hR
    obtain ⟨rfl, hR⟩ := hR
    refine ⟨1, .dash2, pp.state, ?_, .dash2 rfl ?_⟩
    · simp [mpAct, rnMachine, h, rnDash, hb, mpFin, again, hf, hio]
    · simp [hb, hR]
  | dash2 h hR =>
    rw [hb] at hR
    simp only [List.cons_append, List.cons.injEq] at hR
    obtain ⟨rfl, hR⟩ := hR
    refine ⟨1, .full, pp.dashState, ?_, .crlf (Or.inl rfl) ?_⟩
    · simp [mpAct, rnMachine, h, rnDash2, hb, mpFin, again, hf, hio]
    · simp [hb, hR]

theorem ActOk.rn {c : Cfg} {pend : Bytes} {pp : PP} {l : ML} (k : Nat) (rn' : RN) (s : St) (hb : MBase c pp)
    (hact : mpAct pp l = ({ pp with skipRn := rn', state := s, buf := pp.buf.drop k },
      { l with ioff := 0, stateChanged := true }, .again))
    (hI : MInv c (view { pp with state := s }) rn' (pp.buf.drop k ++ pend)) : ActOk c pend pp l (mpAct pp l) := by
  rw [hact]
  refine ⟨nofun, ⟨hb.size, hb.bnd, hb.xbuf, hb.fault⟩, hI, rfl, rfl, fun h => ?_, nofun⟩
  rcases h with h | h <;> cases h

/-- `PP_NextBoundary` / `PP_Nested_Init` on a stream that continues with `"--" ++ Bd`: wait for the whole
    delimiter (`hwait`), then consume it (`hgo`) -/
theorem bnd_act (c : Cfg) (pp : PP) (l : ML) (pend Bd tl : Bytes) (next nd : St) (hb : MBase c pp)
    (hrn : pp.skipRn = .inactive) (hbs : Bd.length + 4 < c.size) (hst : pp.state ≠ .error)
    (hms : mainSwitch pp l = flowFound (findBoundary pp Bd l.ioff next nd) l)
    (hX : pp.buf ++ pend = sDashDash ++ Bd ++ tl) (hio : l.ioff = 0) (hwait : MInv c (view pp) .inactive (pp.buf ++ pend))
    (hgo : MInv c (view { pp with state := next, dashState := nd }) .dash tl) :
    ActOk c pend pp l (mpAct pp l) := by
  by_cases hshort : pp.buf.length < 2 + Bd.length
  · rw [findBoundary_short pp Bd l.ioff _ _ hshort (by rw [hb.size]; omega)] at hms
    simp only [flowFound, Bool.false_eq_true, if_false, hst] at hms
    refine ActOk.wait pp hrn hms hb hio rfl (hrn ▸ hwait) ⟨by omega, fun _ hp => ?_⟩
    have := congrArg List.length hX
    simp only [hp, List.append_nil, List.length_append, sDashDash, List.length_cons, List.length_nil] at this
    omega
  · obtain ⟨a', ha, hp⟩ := append_split hX (Nat.le_of_not_lt (by rw [List.length_append]; exact hshort))
    have hms' : mainSwitch pp l = ({ pp with skipRn := .dash, state := next, dashState := nd },
        { l with ioff := (sDashDash ++ Bd).length }, .again) := by
      rw [hms, findBoundary_hit pp Bd l.ioff _ _ a' ha, hio]
      simp only [flowFound, if_true, List.length_append, sDashDash, List.length_cons, List.length_nil, Nat.zero_add]
    refine ActOk.go _ _ hrn hms' ⟨hb.size, hb.bnd, hb.xbuf, hb.fault⟩ (by rw [ha]; simp) rfl ?_
      (fun _ h => by simp [sDashDash] at h)
    show MInv c _ .dash (pp.buf.drop (sDashDash ++ Bd).length ++ pend)
    rw [ha, List.drop_left, ← hp]
    exact hgo

theorem lineEnd_noCRLF : ∀ (l : Bytes), (∀ c ∈ l, c ≠ cCR ∧ c ≠ cLF) → lineEnd l = l.length
  | [], _ => rfl
  | x :: t, h => by
    have hx := h x (by simp)
    have := lineEnd_noCRLF t (fun c hc => h c (by simp [hc]))
    simp [lineEnd, hx.1, hx.2, this]

theorem lineEnd_app : ∀ (ln more : Bytes), (∀ c ∈ ln, c ≠ cCR ∧ c ≠ cLF) → lineEnd (ln ++ cCR :: more) = ln.length
  | [], more, _ => by simp [lineEnd]
  | x :: t, more, h => by
    have hx := h x (by simp)
    have := lineEnd_app t more (fun c hc => h c (by simp [hc]))
    simp [lineEnd, hx.1, hx.2, this]

theorem drop_line (buf ln b'' : Bytes) (h : buf = ln ++ cCR :: b'') :
    ln.length + 1 ≤ (buf.set ln.length 0).length ∧ (buf.set ln.length 0).drop (ln.length + 1) = b'' := by
  subst h
  refine ⟨by simp, ?_⟩
  rw [List.drop_set_of_lt (Nat.lt_succ_self _), show ln ++ cCR :: b'' = (ln ++ [cCR]) ++ b'' by simp]
  exact List.drop_left' (by simp)

/-- `PP_ProcessEntryHeaders` / `PP_Nested_ProcessEntryHeaders` (entered with `q`: `pp` with `must_ikvi`
    set) on a stream that continues with the header lines `lines` and the empty line: the empty line ends
    the headers (`hend`); an incomplete line waits (`hwait`); a complete line is read by `hdrM` and consumed
    up to its CR (`hline`) -/
theorem hdr_act (c : Cfg) (pp q : PP) (l : ML) (pend : Bytes) (next : St) (lines : List Bytes) (body : Bytes)
    (hrn : pp.skipRn = .inactive) (hb : MBase c q)
    (hms : mainSwitch pp l = flowHeaders (processMultipartHeaders q l.ioff next) l)
    (hqb : q.buf = pp.buf) (hqr : q.skipRn = .inactive) (hst : q.state ≠ .error) (h0 : 0 < c.size)
    (hl : ∀ ln ∈ lines, LineOk c.size ln)
    (hX : pp.buf ++ pend = linesEnc lines ++ (cCR :: cLF :: body)) (hne : pp.buf ≠ []) (hio : l.ioff = 0)
    (hend : lines = [] → MMain c (view { q with state := next }) body)
    (hwait : MMain c (view q) (linesEnc lines ++ (cCR :: cLF :: body)))
    (hline : ∀ ln rest, lines = ln :: rest →
      MMain c (view { q with cname := (hdrM q.metaOf ln).key, cfile := (hdrM q.metaOf ln).filename,
                             ctype := (hdrM q.metaOf ln).ctype, cenc := (hdrM q.metaOf ln).enc })
        (linesEnc rest ++ (cCR :: cLF :: body))) :
    ActOk c pend pp l (mpAct pp l) := by
  rw [← hqb] at hX hne
  cases lines with
  | nil =>
    have hle : lineEnd q.buf = 0 := by
      obtain ⟨a, t, hb⟩ := List.exists_cons_of_ne_nil hne
      rw [hb] at hX ⊢
      simp only [linesEnc, List.nil_append, List.cons_append, List.cons.injEq] at hX
      simp [lineEnd, hX.1]
    rw [pmh_empty q l.ioff next hle hne (by rw [hb.size]; omega)] at hms
    exact ActOk.turn { q with skipRn := .full, state := next } hrn hio (by rw [hms, hio]; rfl)
      ⟨hb.size, hb.bnd, hb.xbuf, hb.fault⟩
      (.main _ _ (.crlf (Or.inl rfl) hX) (hend rfl))
  | cons ln lrest =>
    have hlo := hl ln (by simp)
    have hX' := hX
    simp only [linesEnc, List.append_assoc, List.cons_append] at hX'
    -- the line is not complete yet
    have wait : ∀ as, ln = q.buf ++ as → pend = as ++ cCR :: cLF :: (linesEnc lrest ++ cCR :: cLF :: body) →
        ActOk c pend pp l (mpAct pp l) := by
      intro as h1 h2
      have hle : lineEnd q.buf = q.buf.length := lineEnd_noCRLF _ (fun x hx => hlo.2.1 x (by rw [h1]; simp [hx]))
      have hlen : q.buf.length < c.size := by
        have := congrArg List.length h1
        have := hlo.2.2
        simp only [List.length_append] at *
        omega
      rw [pmh_wait q l.ioff next hle (hb.size ▸ Nat.ne_of_lt hlen)] at hms
      simp only [flowHeaders, Bool.false_eq_true, if_false, hst] at hms
      exact ActOk.wait q hrn hms hb hio hqb (.main _ _ (.inactive hqr hX) hwait)
        ⟨hlen, fun _ hp => by rw [hp] at h2; cases as <;> cases h2⟩
    rcases List.append_eq_append_iff.mp hX' with ⟨as, h1, h2⟩ | ⟨bs, h1, h2⟩
    · exact wait as h1 h2
    · cases bs with
      | nil => exact wait [] (by rw [h1, List.append_nil, List.append_nil]) h2.symm
      | cons b0 b'' =>
        simp only [List.cons_append, List.cons.injEq] at h2
        obtain ⟨rfl, h2⟩ := h2
        have hnl : lineEnd q.buf = ln.length := by rw [h1]; exact lineEnd_app ln b'' hlo.2.1
        have hn0 : ln.length ≠ 0 := fun h => hlo.1 (List.length_eq_zero_iff.mp h)
        have h5 : q.buf[ln.length]? = some cCR := by rw [h1]; simp
        have h6 : q.buf.take ln.length = ln := by rw [h1]; simp
        have hms' : mainSwitch pp l =
            ({ q with skipRn := .optN, cname := (hdrM q.metaOf ln).key, cfile := (hdrM q.metaOf ln).filename,
                      ctype := (hdrM q.metaOf ln).ctype, cenc := (hdrM q.metaOf ln).enc, buf := q.buf.set ln.length 0 },
             { l with ioff := ln.length + 1, stateChanged := true }, .again) := by
          rw [hms, pmh_line q l.ioff next (hnl ▸ hn0) (by rw [hnl, h1]; simp)
            (by rw [hnl, hb.size]; exact Nat.ne_of_lt hlo.2.2), hnl, hio]
          simp only [flowHeaders, if_true, h5, h6, Nat.zero_add]
        obtain ⟨d1, d2⟩ := drop_line q.buf ln b'' h1
        refine ActOk.go _ _ hrn hms' ⟨hb.size, hb.bnd, hb.xbuf, hb.fault⟩ d1 rfl ?_ nofun
        show MInv c _ .optN ((q.buf.set ln.length 0).drop (ln.length + 1) ++ pend)
        rw [d2, ← h2]
        exact .main _ _ (.optN rfl rfl) (hline ln lrest rfl)

/-- the iterator call of `process_value_to_boundary` for `buf[0 .. nl)` (none if there is nothing new to report) -/
theorem delivering_part {pp : PP} {fs : List (Meta × Bytes)} {sent : Bytes} (nl : Nat) (hnl : nl ≤ pp.buf.length)
    (h : Delivering pp.evs pp.mustIkvi pp.valueOffset fs pp.metaOf sent) :
    Delivering (partPP pp nl).evs false (partPP pp nl).valueOffset fs pp.metaOf (sent ++ pp.buf.take nl) := by
  have hl : (valEv pp nl).data.length = nl := (List.length_take).trans (Nat.min_eq_left hnl)
  have := h.more (pieces_emit (ev := valEv pp nl) (pp.mustIkvi = true ∨ nl ≠ 0) rfl rfl
      (fun hd => Or.inr fun h0 => hd (by rw [h0]; rfl)))
    (fun hi => by rw [if_pos (Or.inl hi)]; exact List.cons_ne_nil _ _)
  rw [hl] at this
  exact this

/-- `PP_ProcessValueToBoundary` / `PP_Nested_ProcessValueToBoundary` on a stream that continues with the rest
    of the value `v` and the delimiter `"\r\n--" ++ Bd`, which does not occur in `v`: once the delimiter is
    completely in the window the rest of the value is delivered and the delimiter consumed (`hfound`); before
    that a part of the value (possibly nothing) is delivered (`hpart`) -/
theorem val_act (c : Cfg) (pp : PP) (l : ML) (pend Bd tl : Bytes) (next nd : St) (fs0 : List (Meta × Bytes)) (m : Meta)
    (v : Bytes) (off : Nat) (hb : MBase c pp) (hrn : pp.skipRn = .inactive) (hB1 : 1 ≤ Bd.length)
    (hBs : Bd.length + 4 < c.size)
    (hms : mainSwitch pp l = flowValue (processValueToBoundary pp l.ioff Bd next nd) l)
    (hfr : FreshFor Bd v) (hv : Delivering pp.evs pp.mustIkvi pp.valueOffset fs0 m (v.take off)) (hm : pp.metaOf = m)
    (hle : off ≤ v.length)
    (hX : pp.buf ++ pend = v.drop off ++ sCRLFDashDash ++ (Bd ++ tl)) (hio : l.ioff = 0)
    (hfound :
      Delivers (partPP { pp with skipRn := .dash, state := next, dashState := nd, buf := pp.buf.set (v.length - off) 0 }
        (v.length - off)).evs (fs0 ++ [(m, v)]) →
      MInv c (view (partPP { pp with skipRn := .dash, state := next, dashState := nd, buf := pp.buf.set (v.length - off) 0 }
        (v.length - off))) .dash tl)
    (hpart : ∀ nl, off + nl ≤ v.length →
      Delivering (partPP pp nl).evs false (partPP pp nl).valueOffset fs0 m (v.take (off + nl)) →
      MMain c (view (partPP pp nl)) (v.drop (off + nl) ++ sCRLFDashDash ++ (Bd ++ tl))) :
    ActOk c pend pp l (mpAct pp l) := by
  subst hm
  have hsz := hb.size
  have hoff : off + (v.length - off) = v.length := Nat.add_sub_cancel' hle
  have hwl : (v.drop off).length = v.length - off := List.length_drop
  have hfrk : ∀ k, k < (v.drop off).length → slice (pp.buf ++ pend) k (k + 4 + Bd.length) ≠ sCRLFDashDash ++ Bd :=
    fun k hk => hX ▸ fresh_drop Bd v _ off k hfr hle hk
  obtain ⟨sf, sp⟩ := scanBoundary_fresh Bd (v.drop off) tl pp.buf pend c.size hB1 hX hfrk (Nat.le_of_lt hBs) 0
    (Nat.zero_le _) (Nat.zero_le _)
  rw [hwl, ← hsz] at sf sp
  have htake : ∀ nl, nl ≤ v.length - off → nl ≤ pp.buf.length → pp.buf.take nl = (v.drop off).take nl := by
    intro nl h1 h2
    have := congrArg (List.take nl) hX
    rwa [List.take_append_of_le_length h2, List.append_assoc, List.take_append_of_le_length (hwl ▸ h1)] at this
  rw [pvtb_eq, hio] at hms
  by_cases hcomp : v.length - off + 4 + Bd.length ≤ pp.buf.length
  · -- the boundary is completely inside the window
    rw [sf hcomp] at hms
    have hlenA : (v.drop off ++ sCRLFDashDash ++ Bd).length = v.length - off + 4 + Bd.length := by
      rw [List.length_append, List.length_append, hwl]; rfl
    obtain ⟨b2, hbuf, htl⟩ := append_split (A := v.drop off ++ sCRLFDashDash ++ Bd) (rest := tl)
      (by rw [hX, List.append_assoc (v.drop off ++ sCRLFDashDash)]) (hlenA ▸ hcomp)
    have hk : v.length - off ≤ pp.buf.length := Nat.le_trans (Nat.le_add_right _ _) (Nat.add_assoc _ _ _ ▸ hcomp)
    have hq : Delivering _ false _ fs0 pp.metaOf (v.take off ++ (pp.buf.set (v.length - off) 0).take (v.length - off)) :=
      delivering_part
        (pp := { pp with skipRn := .dash, state := next, dashState := nd, buf := pp.buf.set (v.length - off) 0 })
        (v.length - off) (by show _ ≤ (pp.buf.set _ 0).length; rw [List.length_set]; exact hk) hv
    have hall : v.take off ++ (pp.buf.set (v.length - off) 0).take (v.length - off) = v := by
      rw [List.take_set_of_le (Nat.le_refl _), htake _ (Nat.le_refl _) hk,
        List.take_of_length_le (Nat.le_of_eq hwl), List.take_append_drop]
    rw [hall] at hq
    have hi : Bd.length + 4 + (v.length - off) = (v.drop off ++ sCRLFDashDash ++ Bd).length := by
      rw [hlenA]; omega
    have hms' : mainSwitch pp l =
        (partPP { pp with skipRn := .dash, state := next, dashState := nd, buf := pp.buf.set (v.length - off) 0 }
          (v.length - off), { l with ioff := Bd.length + 4 + (v.length - off) }, .again) := by
      rw [hms]; simp only [Nat.zero_add]; rfl
    refine ActOk.go _ _ hrn hms' ⟨hb.size, hb.bnd, hb.xbuf, hb.fault⟩
      (by show _ ≤ (pp.buf.set _ 0).length; rw [List.length_set]; exact hi ▸ hlenA ▸ hcomp) rfl ?_
      (fun _ (h : Bd.length + 4 + _ = 0) => by omega)
    have hdrop : (pp.buf.set (v.length - off) 0).drop (Bd.length + 4 + (v.length - off)) = b2 := by
      rw [List.drop_set_of_lt (by omega), hbuf, hi, List.drop_left]
    show MInv c _ .dash ((pp.buf.set (v.length - off) 0).drop (Bd.length + 4 + (v.length - off)) ++ pend)
    rw [hdrop, ← htl]
    exact hfound hq.done
  · -- only a part of the value can be released
    obtain ⟨nl, hpt, _, hnl1, hnl2⟩ := sp hcomp
    rw [hpt] at hms
    have hq := delivering_part nl hnl2 hv
    rw [htake nl hnl1 hnl2, ← List.take_add] at hq
    have hms' : mainSwitch pp l = (partPP pp nl, { l with ioff := nl }, .again) := by
      rw [hms]; simp only [Nat.zero_add]; rfl
    refine ActOk.go _ _ hrn hms' ⟨hb.size, hb.bnd, hb.xbuf, hb.fault⟩ hnl2 rfl ?_ (fun _ (h0 : nl = 0) => ?_)
    · show MInv c _ pp.skipRn (pp.buf.drop nl ++ pend)
      have := congrArg (List.drop nl) hX
      rw [List.drop_append_of_le_length hnl2, List.append_assoc, List.drop_append_of_le_length (hwl ▸ hnl1),
        List.drop_drop, ← List.append_assoc] at this
      exact .main _ _ (.inactive hrn this) (hpart nl (hoff ▸ Nat.add_le_add_left hnl1 off) hq)
    · show Stuck c.size pp pend
      have hsb := scanBoundary_bound pp.buf Bd pp.bufferSize 0 (Nat.zero_le _)
      rw [hpt] at hsb
      have := hsb.2
      refine ⟨by omega, fun _ hp => ?_⟩
      have := congrArg List.length hX
      simp only [hp, List.append_nil, List.length_append, sCRLFDashDash, List.length_cons, List.length_nil, hwl] at this
      omega

theorem delivers_nil : Delivers [] [] := rfl

theorem CfgOk.mixed {c : Cfg} (hc : CfgOk c) {done rest : List Item} {ls : List Bytes} {name ct nb : Bytes}
    {inner : List RPart} (hsp : c.items = done ++ .mixed ls name ct nb inner :: rest) :
    1 ≤ nb.length ∧ nb.length + 4 < c.size ∧ ∀ q ∈ inner, RPartOk c.size ⟨some name, none, none, none⟩ nb q := by
  have hok := hc.items (Item.mixed ls name ct nb inner) (by rw [hsp]; simp)
  cases hok with
  | mixed _ _ _ _ _ _ _ _ _ n1 ns hin => exact ⟨n1, ns, hin⟩

theorem Pos.bd_ok {c : Cfg} (hc : CfgOk c) {ps : Pos} (hin : ps.In c) :
    1 ≤ (ps.Bd c).length ∧ (ps.Bd c).length + 4 < c.size := by
  cases ps with
  | top => exact ⟨hc.b1, hc.bs⟩
  | nest => exact ⟨(hc.mixed hin.1).1, (hc.mixed hin.1).2.1⟩

theorem Pos.part_ok {c : Cfg} (hc : CfgOk c) {ps : Pos} (hin : ps.In c) (hne : ¬ ps.AtEnd) :
    (∀ ln ∈ ps.lines, LineOk c.size ln) ∧ ps.lines.foldl hdrM ps.start = ps.md := by
  cases ps with
  | top done rest => cases rest with
    | nil => exact absurd rfl hne
    | cons it rest => exact (hc.items it (by rw [show c.items = _ from hin]; simp)).lines_ok
  | nest done ls name ct nb inner rest idone qs => cases qs with
    | nil => exact absurd rfl hne
    | cons q qs =>
      have hq := (hc.mixed hin.1).2.2 q (by rw [hin.2]; simp)
      exact ⟨hq.lines, hq.hdr⟩

/-- after the delimiter at the place `ps` (consumed up to its CRLF or its closing dashes) -/
theorem after_delim {c : Cfg} (hc : CfgOk c) (v : MView) (ps : Pos) (hin : ps.In c) (hd : Delivers v.evs ps.fs)
    (hds : v.dashState = ps.dashSt) (he : ps.Entry v) : MInv c v .dash (ps.after c) := by
  by_cases hend : ps.AtEnd
  · -- behind the closing line of the body the machine is done; behind that of a container it looks for the outer delimiter
    refine .main (ps.close c) _ (.dashes rfl (Pos.after_end hend)) ?_
    cases ps with
    | top done rest =>
      cases hend
      exact .fin (by rw [show c.items = _ from hin, List.append_nil]; exact hd) hds rfl
    | nest done ls name ct nb inner rest idone qs =>
      cases hend
      refine .bnd (.top (done ++ [.mixed ls name ct nb inner]) rest) (by simp [Pos.In, hin.1]) ?_ hds trivial rfl
      simp only [Pos.fs, flat_append, flat, hin.2, List.append_nil]
      exact hd
  · exact .main _ _ (.crlf (Or.inr rfl) (Pos.after_part hend))
      (.hdr ps ps.lines hin hend hd (Or.inl ⟨he, rfl⟩) (Pos.part_ok hc hin hend).1 rfl)

/-- `PP_ProcessValueToBoundary` and `PP_Nested_ProcessValueToBoundary` -/
theorem val_step (c : Cfg) (hc : CfgOk c) (pp : PP) (l : ML) (pend : Bytes) (hb : MBase c pp)
    (hrn : pp.skipRn = .inactive) (ps : Pos) (p : RPart) (fs0 : List (Meta × Bytes)) (off : Nat)
    (hin : ps.In c) (hfs : ps.fs = fs0 ++ [rfield p]) (hfr : FreshFor (ps.Bd c) p.value)
    (hs : pp.state = ps.valSt) (hcx : ps.Ctx (view pp))
    (hv : Delivering pp.evs pp.mustIkvi pp.valueOffset fs0 p.md (p.value.take off)) (hm : pp.metaOf = p.md)
    (hle : off ≤ p.value.length)
    (hX : pp.buf ++ pend = p.value.drop off ++ sCRLFDashDash ++ (ps.Bd c ++ ps.after c))
    (hio : l.ioff = 0) : ActOk c pend pp l (mpAct pp l) := by
  have hms : mainSwitch pp l = flowValue (processValueToBoundary pp l.ioff (ps.Bd c) ps.cleanSt ps.dashSt) l := by
    cases ps with
    | top => simp only [mainSwitch, hs, Pos.valSt, hb.bnd]; rfl
    | nest => simp only [mainSwitch, hs, Pos.valSt, show pp.nested = _ from hcx.1]; rfl
  refine val_act c pp l pend _ _ _ _ fs0 _ _ off hb hrn (Pos.bd_ok hc hin).1 (Pos.bd_ok hc hin).2 hms hfr hv hm hle hX hio
    (fun hdel => ?_) (fun nl hnl hvs => .val ps p fs0 (off + nl) hin hfs hfr hs hcx hvs hm hnl rfl)
  refine after_delim hc _ ps hin (hfs ▸ hdel) rfl ?_
  cases ps with
  | top => exact Or.inr rfl
  | nest => exact ⟨hcx.1, Or.inr ⟨rfl, hcx.2⟩⟩

/-- `PP_NextBoundary` and `PP_Nested_Init` -/
theorem bnd_step (c : Cfg) (hc : CfgOk c) (pp : PP) (l : ML) (pend : Bytes) (hb : MBase c pp)
    (hrn : pp.skipRn = .inactive) (ps : Pos) (hin : ps.In c) (hd : Delivers pp.evs ps.fs) (hs : pp.state = ps.bndSt)
    (hcx : ps.BCtx (view pp)) (hX : pp.buf ++ pend = sDashDash ++ ps.Bd c ++ ps.after c)
    (hio : l.ioff = 0) : ActOk c pend pp l (mpAct pp l) := by
  have hms : mainSwitch pp l = flowFound (findBoundary pp (ps.Bd c) l.ioff ps.bndNext ps.dashSt) l := by
    cases ps with
    | top => simp only [mainSwitch, hs, Pos.bndSt, hb.bnd]; rfl
    | nest => simp only [mainSwitch, hs, Pos.bndSt, show pp.nested = _ from hcx.1]; rfl
  refine bnd_act c pp l pend _ _ _ _ hb hrn (Pos.bd_ok hc hin).2 (by rw [hs]; cases ps <;> nofun) hms hX hio
    (.main _ _ (.inactive rfl hX) (.bnd ps hin hd hs hcx rfl)) (after_delim hc _ ps hin hd rfl ?_)
  cases ps with
  | top => exact Or.inr rfl
  | nest => exact ⟨hcx.1, Or.inl ⟨rfl, hcx.2⟩⟩

/-- `PP_Init`: the preamble is skipped up to the next `-` each time, the first delimiter consumed -/
theorem bnd0_step (c : Cfg) (hc : CfgOk c) (pp : PP) (l : ML) (pend : Bytes) (hb : MBase c pp)
    (hrn : pp.skipRn = .inactive) (pre : Bytes) (hs : pp.state = .init) (he : pp.evs = [])
    (hm : pp.metaOf = none4)
    (hX : pp.buf ++ pend = pre ++ (sDashDash ++ c.B ++ afterB c.B c.items))
    (hpre : ∀ k, k < pre.length →
      slice (pre ++ (sDashDash ++ c.B ++ afterB c.B c.items)) k (k + (2 + c.B.length)) ≠ sDashDash ++ c.B)
    (hio : l.ioff = 0) : ActOk c pend pp l (mpAct pp l) := by
  have hbs := hc.bs
  have hms : mainSwitch pp l = ((findBoundary pp c.B l.ioff .processEntryHeaders .done).1,
      { l with ioff := (findBoundary pp c.B l.ioff .processEntryHeaders .done).2.1 }, .again) := by
    simp only [mainSwitch, hs, hb.bnd]
  by_cases hshort : pp.buf.length < 2 + c.B.length
  · rw [findBoundary_short pp c.B l.ioff _ _ hshort (by rw [hb.size]; omega)] at hms
    refine ActOk.go pp l hrn hms hb (Nat.le_trans (Nat.le_of_eq hio) (Nat.zero_le _)) rfl ?_
      (fun _ _ => ⟨by omega, fun _ hp => by
        have := congrArg List.length hX
        simp only [hp, List.append_nil, List.length_append, sDashDash, List.length_cons, List.length_nil] at this
        omega⟩)
    rw [hio]
    exact .main _ _ (.inactive hrn hX) (.bnd0 pre hs he hm rfl hpre)
  by_cases hpz : pre = []
  · subst hpz
    obtain ⟨a', ha, hp⟩ := append_split (A := sDashDash ++ c.B) (by simpa using hX) (by simp [sDashDash]; omega)
    rw [findBoundary_hit pp c.B l.ioff _ _ a' ha, hio] at hms
    refine ActOk.go _ _ hrn hms ⟨hb.size, hb.bnd, hb.xbuf, hb.fault⟩ (Nat.le_of_not_lt hshort) rfl ?_
      (fun _ (h : 0 + 2 + c.B.length = 0) => by omega)
    have hdrop : pp.buf.drop (0 + 2 + c.B.length) = a' := by
      rw [ha, show 0 + 2 + c.B.length = (sDashDash ++ c.B).length by simp [sDashDash]; omega, List.drop_left]
    show MInv c _ .dash (pp.buf.drop (0 + 2 + c.B.length) ++ pend)
    rw [hdrop, ← hp]
    exact after_delim hc _ (.top [] c.items) rfl (he ▸ delivers_nil) rfl (Or.inl ⟨rfl, hm⟩)
  · -- garbage before the first delimiter: skip to the next possible `-`
    have hP : 0 < pre.length := List.length_pos_iff.mpr hpz
    have hnm : slice pp.buf 0 2 ≠ sDashDash ∨ slice pp.buf 2 (2 + c.B.length) ≠ c.B := by
      by_cases h1 : slice pp.buf 0 2 = sDashDash
      · by_cases h2 : slice pp.buf 2 (2 + c.B.length) = c.B
        · exfalso
          apply hpre 0 hP
          rw [← hX, Nat.zero_add, slice_app _ _ _ _ (by omega), slice_split pp.buf 0 2 _ (by omega) (by omega), h1, h2]
        · exact Or.inr h2
      · exact Or.inl h1
    have hRP : pre.length < pp.buf.length → pp.buf[pre.length]? = some cDash := fun h => by
      rw [← List.getElem?_append_left (l₂ := pend) h, hX]; simp [sDashDash]
    obtain ⟨s, hs1, hs2, hnd, hfb⟩ := findBoundary_skip pp c.B l.ioff .processEntryHeaders .done hshort hnm hs
    have hs3 : s ≤ pre.length :=
      Nat.le_of_not_lt fun h => hnd pre.length hP h (hRP (Nat.lt_of_lt_of_le h hs2))
    rw [hfb, hio, Nat.zero_add] at hms
    refine ActOk.go pp _ hrn hms hb hs2 rfl ?_ (fun _ (h : s = 0) => by omega)
    have hX' : pp.buf.drop s ++ pend = pre.drop s ++ (sDashDash ++ c.B ++ afterB c.B c.items) := by
      have := congrArg (List.drop s) hX
      rwa [List.drop_append_of_le_length hs2, List.drop_append_of_le_length hs3] at this
    refine .main _ _ (.inactive hrn hX') (.bnd0 (pre.drop s) hs he hm rfl ?_)
    intro k hk
    rw [slice_drop pre _ s k _ hs3]
    simp only [List.length_drop] at hk
    have := hpre (s + k) (by omega)
    rwa [show s + (k + (2 + c.B.length)) = s + k + (2 + c.B.length) by omega]

/-- `PP_PerformCleanup` / `PP_Nested_PerformMarking` / `PP_Nested_PerformCleanup` (a change of state only) and
    `PP_ProcessEntryHeaders` / `PP_Nested_ProcessEntryHeaders`; the empty line leads to `PP_PerformCheckMultipart`
    at the top level, directly into the value inside a container -/
theorem hdr_step (c : Cfg) (hc : CfgOk c) (pp : PP) (l : ML) (pend : Bytes) (hb : MBase c pp)
    (hrn : pp.skipRn = .inactive) (ps : Pos) (lines : List Bytes) (hin : ps.In c) (hne : ¬ ps.AtEnd)
    (hd : Delivers pp.evs ps.fs)
    (hs : (ps.Entry (view pp) ∧ lines = ps.lines) ∨
      (pp.state = ps.hdrSt ∧ ps.Ctx (view pp) ∧ lines.foldl hdrM pp.metaOf = ps.md))
    (hl : ∀ ln ∈ lines, LineOk c.size ln)
    (hX : pp.buf ++ pend = linesEnc lines ++ (cCR :: cLF :: ps.body c))
    (hnb : pp.buf ≠ []) (hio : l.ioff = 0) : ActOk c pend pp l (mpAct pp l) := by
  have hpo := Pos.part_ok hc hin hne
  have hsz0 : 0 < c.size := Nat.lt_of_le_of_lt (Nat.zero_le _) hc.bs
  cases ps with
  | top done rest =>
    cases rest with
    | nil => exact absurd rfl hne
    | cons it rest =>
      have read : pp.state = .processEntryHeaders → lines.foldl hdrM pp.metaOf = it.md → ActOk c pend pp l (mpAct pp l) :=
        fun hst hfo =>
        hdr_act c pp { pp with mustIkvi := true } l pend .performCheckMultipart lines _ hrn
          ⟨hb.size, hb.bnd, hb.xbuf, hb.fault⟩ (by simp only [mainSwitch, hst]) rfl hrn
          (by rw [show _ = pp.state from rfl, hst]; nofun) hsz0 hl hX hnb hio
          (fun h => by subst h; exact .chk done it rest hin hd rfl hfo rfl rfl)
          (.hdr _ lines hin hne hd (Or.inr ⟨hst, trivial, hfo⟩) hl rfl)
          (fun ln lrest h => by
            subst h
            exact .hdr _ lrest hin hne hd (Or.inr ⟨hst, trivial, hfo⟩) (fun x hx => hl x (List.mem_cons_of_mem _ hx)) rfl)
      rcases hs with ⟨⟨hs, hm⟩ | hs, hlines⟩ | ⟨hs, _, hfold⟩
      · exact read hs (by rw [hlines, show pp.metaOf = _ from hm]; exact hpo.2)
      · have hms : mainSwitch pp l =
            ({ freeUnmarked pp.clearHave with nested := none, state := .processEntryHeaders },
              { l with stateChanged := true }, .again) := by
          simp only [mainSwitch, show pp.state = _ from hs]
        exact ActOk.turn _ hrn hio hms ⟨hb.size, hb.bnd, hb.xbuf, hb.fault⟩
          (.main _ _ (.inactive hrn hX) (.hdr _ lines hin hne hd (Or.inl ⟨Or.inl ⟨rfl, rfl⟩, hlines⟩) hl rfl))
      · exact read hs hfold
  | nest done ls name ct nb inner rest idone qs =>
    cases qs with
    | nil => exact absurd rfl hne
    | cons q qs =>
      have hq : RPartOk c.size ⟨some name, none, none, none⟩ nb q := (hc.mixed hin.1).2.2 q (by rw [hin.2]; simp)
      -- the two states that only change the state
      have pre : ∀ q' : PP, mainSwitch pp l = (q', { l with stateChanged := true }, .again) → MBase c q' → q'.buf = pp.buf →
          q'.evs = pp.evs → q'.nested = some nb → q'.skipRn = pp.skipRn → q'.state = .nestedProcessEntryHeaders →
          Marks (view q') name → q'.metaOf = ⟨some name, none, none, none⟩ → lines = q.lines →
          ActOk c pend pp l (mpAct pp l) := by
        intro q' hms hb' h1 h2 h3 h0 h4 h5 h6 h7
        exact ActOk.turn q' hrn hio hms hb' (.main _ _ (.inactive (h0 ▸ hrn) (h1 ▸ hX))
          (.hdr _ lines hin hne (h2 ▸ hd :) (Or.inr ⟨h4, ⟨h3, h5⟩,
            by show lines.foldl hdrM q'.metaOf = _; rw [h6, h7]; exact hq.hdr⟩) hl rfl))
      rcases hs with ⟨⟨hn, ⟨hs, hmeta⟩ | ⟨hs, hmk⟩⟩, hlines⟩ | ⟨hs, ⟨hn, hmk⟩, hfold⟩
      · have hmeta : pp.metaOf = ⟨some name, none, none, none⟩ := hmeta
        have h1 : pp.cname = some name := congrArg Meta.key hmeta
        have h2 : pp.cfile = none := congrArg Meta.filename hmeta
        have h3 : pp.ctype = none := congrArg Meta.ctype hmeta
        have h4 : pp.cenc = none := congrArg Meta.enc hmeta
        exact pre { pp with haveName := true, haveType := false, haveFile := false, haveEnc := false,
                            state := .nestedProcessEntryHeaders }
          (by simp only [mainSwitch, show pp.state = _ from hs, h1, h2, h3, h4]; rfl) ⟨hb.size, hb.bnd, hb.xbuf, hb.fault⟩
          rfl rfl hn rfl rfl ⟨rfl, rfl, rfl, rfl, h1⟩ hmeta hlines
      · obtain ⟨m1, m2, m3, m4, m5⟩ : pp.haveName = true ∧ pp.haveType = false ∧ pp.haveFile = false ∧
            pp.haveEnc = false ∧ pp.cname = some name := hmk
        have hmeta : (freeUnmarked pp).metaOf = ⟨some name, none, none, none⟩ := by
          simp [freeUnmarked, PP.metaOf, m1, m2, m3, m4, m5]
        exact pre { freeUnmarked pp with state := .nestedProcessEntryHeaders }
          (by simp only [mainSwitch, show pp.state = _ from hs])
          ⟨hb.size, hb.bnd, hb.xbuf, hb.fault⟩ rfl rfl hn rfl rfl ⟨m1, m2, m3, m4, congrArg Meta.key hmeta⟩ hmeta hlines
      · have hst : pp.state = .nestedProcessEntryHeaders := hs
        exact hdr_act c pp { pp with valueOffset := 0, mustIkvi := true } l pend .nestedProcessValueToBoundary lines _ hrn
          ⟨hb.size, hb.bnd, hb.xbuf, hb.fault⟩ (by simp only [mainSwitch, hst]) rfl hrn
          (by rw [show _ = pp.state from rfl, hst]; nofun) hsz0 hl hX hnb hio
          (fun h => by
            subst h
            exact .val (.nest done ls name ct nb inner rest (idone ++ [q]) qs) q _ 0
              ⟨hin.1, by rw [hin.2]; simp⟩ (by simp [Pos.fs]) hq.fresh rfl ⟨hn, hmk⟩ (.start hd) hfold (Nat.zero_le _) rfl)
          (.hdr _ lines hin hne hd (Or.inr ⟨hst, ⟨hn, hmk⟩, hfold⟩) hl rfl)
          (fun ln lrest h => by
            subst h
            exact .hdr _ lrest hin hne hd (Or.inr ⟨hst, ⟨hn, hmk.1, hmk.2.1, hmk.2.2.1, hmk.2.2.2.1,
                hdrM_key_some (show pp.metaOf.key = some name from hmk.2.2.2.2)⟩, hfold⟩)
              (fun x hx => hl x (List.mem_cons_of_mem _ hx)) rfl)

theorem chk_step (c : Cfg) (hc : CfgOk c) (pp : PP) (l : ML) (pend : Bytes) (hb : MBase c pp)
    (hrn : pp.skipRn = .inactive) (done : List Item) (it : Item) (rest : List Item)
    (hsp : c.items = done ++ it :: rest) (hd : Delivers pp.evs (flat done))
    (hs : pp.state = .performCheckMultipart) (hm : pp.metaOf = it.md) (hi : pp.mustIkvi = true)
    (hX : pp.buf ++ pend = itemBody c.B it rest)
    (hio : l.ioff = 0) : ActOk c pend pp l (mpAct pp l) := by
  have hct : pp.ctype = it.md.ctype := congrArg Meta.ctype hm
  cases hc.items it (by rw [hsp]; simp) with
  | field p hp nm =>
    refine ActOk.turn { pp with state := .processValueToBoundary, valueOffset := 0 } hrn hio ?_
      ⟨hb.size, hb.bnd, hb.xbuf, hb.fault⟩ (.main _ _ (.inactive hrn hX) (.val (.top (done ++ [.field p]) rest) p (flat done) 0
        (by simp [Pos.In, hsp]) (by simp [Pos.fs, flat_append, flat]) hp.fresh rfl trivial
        (by show Delivering pp.evs pp.mustIkvi 0 _ _ _; rw [hi]; exact .start hd) hm (Nat.zero_le _) rfl))
    simp only [mainSwitch, hs, performCheckMultipart]
    cases hc2 : pp.ctype with
    | none => rfl
    | some ct => simp [nm ct (hct.symm.trans hc2)]
  | mixed ls name ct nb inner hl hh hmx hbd n1 ns hin =>
    have hct' : pp.ctype = some ct := hct
    obtain ⟨r, hr1, hr2⟩ : ∃ r, strstr sBoundaryEq ct = some r ∧ r.drop sBoundaryEq.length = nb := by
      cases hst : strstr sBoundaryEq ct with
      | none => rw [hst] at hbd; cases hbd
      | some r => rw [hst] at hbd; exact ⟨r, rfl, by simpa using hbd⟩
    refine ActOk.turn { pp with nested := some nb, ctype := none, state := .nestedInit } hrn hio
      (by simp only [mainSwitch, hs, performCheckMultipart, hct', hmx, if_true, hr1, hr2])
      ⟨hb.size, hb.bnd, hb.xbuf, hb.fault⟩
      (.main _ _ (.inactive hrn hX) (.bnd (.nest done ls name ct nb inner rest [] inner) ⟨hsp, rfl⟩ (by simp only [Pos.fs, List.map_nil, List.append_nil]; exact hd) rfl ⟨rfl, ?_⟩ rfl))
    show (⟨pp.cname, pp.cfile, none, pp.cenc⟩ : Meta) = _
    rw [show pp.cname = some name from congrArg Meta.key hm, show pp.cfile = none from congrArg Meta.filename hm,
      show pp.cenc = none from congrArg Meta.enc hm]


theorem mpAct_spec (c : Cfg) (hc : CfgOk c) (pp : PP) (l : ML) (pend : Bytes) (hb : MBase c pp)
    (hI : MInv c (view pp) pp.skipRn (pp.buf ++ pend)) (hne : pp.buf ≠ []) (hio : l.ioff = 0) :
    ActOk c pend pp l (mpAct pp l) := by
  obtain ⟨X, s', hr, hm⟩ := hI
  by_cases hrn : pp.skipRn = .inactive
  · obtain ⟨hX, rfl⟩ := hr.of_inactive hrn
    cases hm with
    | bnd0 pre hs he hm hX2 hpre => exact bnd0_step c hc pp l pend hb hrn pre hs he hm (hX.trans hX2) hpre hio
    | hdr ps lines hin hend hd hs hl hX2 =>
      exact hdr_step c hc pp l pend hb hrn ps lines hin hend hd hs hl (hX.trans hX2) hne hio
    | chk done p rest hsp hd hs hm hi hX2 =>
      exact chk_step c hc pp l pend hb hrn done p rest hsp hd hs hm hi (hX.trans hX2) hio
    | val ps p fs0 off hin hfs hfr hs hcx hv hm hle hX2 =>
      exact val_step c hc pp l pend hb hrn ps p fs0 off hin hfs hfr hs hcx hv hm hle (hX.trans hX2) hio
    | bnd ps hin hd hs hcx hX2 => exact bnd_step c hc pp l pend hb hrn ps hin hd hs hcx (hX.trans hX2) hio
    | fin hd hs hX2 => exact absurd (List.append_eq_nil_iff.mp (hX.trans hX2)).1 hne
  · obtain ⟨k, rn', s, h3, h4⟩ := eats_step pp l pend X s' hr hrn hne hio hb.fault
    exact ActOk.rn k rn' s hb h3 (.main X s' h4 hm)

end Mhd.PP
