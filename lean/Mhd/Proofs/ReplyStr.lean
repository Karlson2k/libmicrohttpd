/- "No new bytes" for the in-place editor of Mhd.Model.ReplyStr (`remove_tokens`): it only copies input bytes or
   writes ',' and ' ' (`…_allQ`, for any byte predicate `Q` that holds of ',' and ' ').  For `remove_token` the
   same follows from its exact specification (`Mhd.Proofs.ReplyTokRef`).
   In front of them `ite_cases`, `ite_rel`, `mem_ite`: reasoning along an `if` without taking the term apart;
   they are used throughout the Reply* proofs. -/
import Mhd.Model.ReplyStr
import Mhd.Proofs.Lists
namespace Mhd.ReplyStr

theorem ite_cases {α : Type} {c : Prop} [Decidable c] {a b : α} (P : α → Prop) (ha : c → P a) (hb : ¬ c → P b) :
    P (if c then a else b) := iteInduction ha hb

theorem ite_rel {α β : Type} {c : Prop} [Decidable c] (R : α → β → Prop) {a a' : α} {b b' : β}
    (h1 : R a b) (h2 : R a' b') : R (if c then a else a') (if c then b else b') := by
  by_cases h : c
  · rw [if_pos h, if_pos h]; exact h1
  · rw [if_neg h, if_neg h]; exact h2

theorem mem_ite {α : Type} {c : Prop} [Decidable c] {x : α} {a b : List α} (h : x ∈ if c then a else b) :
    c ∧ x ∈ a ∨ ¬ c ∧ x ∈ b := by
  by_cases hc : c
  · rw [if_pos hc] at h; exact .inl ⟨hc, h⟩
  · rw [if_neg hc] at h; exact .inr ⟨hc, h⟩

theorem strEqCaseless_length : ∀ (a b : Bytes), strEqCaseless a b = true → a.length = b.length
  | [], b, h => by cases b <;> simp_all [strEqCaseless]
  | _ :: _, [], h => by simp [strEqCaseless] at h
  | c1 :: r1, c2 :: r2, h => by
    simp only [strEqCaseless] at h
    split at h
    · simp [strEqCaseless_length r1 r2 h]
    · simp at h

abbrev AllQ (Q : UInt8 → Prop) (l : Bytes) : Prop := ∀ b ∈ l, Q b

theorem allQ_take {Q} (n : Nat) (l : Bytes) (h : AllQ Q l) : AllQ Q (l.take n) :=
  fun b hb => h b (List.mem_of_mem_take hb)
theorem allQ_drop {Q} (n : Nat) (l : Bytes) (h : AllQ Q l) : AllQ Q (l.drop n) :=
  fun b hb => h b (List.mem_of_mem_drop hb)
theorem allQ_append {Q} (a b : Bytes) (ha : AllQ Q a) (hb : AllQ Q b) : AllQ Q (a ++ b) := by
  intro x hx; rcases List.mem_append.1 hx with h | h
  · exact ha x h
  · exact hb x h
theorem allQ_nil {Q} : AllQ Q [] := by intro b hb; cases hb

/-! The in-place editor may fail (`none`); what is claimed is about the result when there is one. -/

def OptAll {α : Type} (P : α → Prop) : Option α → Prop
  | none => True
  | some a => P a

theorem OptAll.bind {α β : Type} {P : α → Prop} {R : β → Prop} {x : Option α} {f : α → Option β}
    (hx : OptAll P x) (hf : ∀ a, P a → OptAll R (f a)) : OptAll R (x.bind f) := by
  cases x with
  | none => trivial
  | some a => exact hf a hx

theorem rd_allQ {Q} (s : Bytes) (i : Nat) (hs : AllQ Q s) : OptAll Q (rd s i) := by
  unfold rd
  cases h : s[i]? with
  | none => trivial
  | some c => exact hs c (List.mem_of_getElem? h)

theorem wr_allQ {Q} (s : Bytes) (i : Nat) (c : UInt8) (hs : AllQ Q s) (hc : Q c) : OptAll (AllQ Q) (wr s i c) := by
  unfold wr
  refine ite_cases (OptAll (AllQ Q)) (fun _ b hb => ?_) fun _ => trivial
  rcases List.mem_or_eq_of_mem_set hb with h1 | h1
  · exact hs b h1
  · exact h1 ▸ hc

theorem moveDown_allQ {Q} : ∀ (n : Nat) (s : Bytes) (dst src : Nat), AllQ Q s → OptAll (AllQ Q) (moveDown n s dst src)
  | 0, s, dst, src, hs => hs
  | n + 1, s, dst, src, hs => by
    rw [moveDown]
    exact (rd_allQ s src hs).bind fun c hc => (wr_allQ s dst c hs hc).bind fun s1 hs1 => moveDown_allQ n s1 _ _ hs1

/-- the buffer, first component of what the in-place steps return -/
abbrev BufQ {α : Type} (Q : UInt8 → Prop) (p : Bytes × α) : Prop := AllQ Q p.1

theorem sepWrite_allQ {Q} (s : Bytes) (pr pw : Nat) (h44 : Q 44) (h32 : Q 32) (hs : AllQ Q s) :
    OptAll (BufQ Q) (sepWrite s pr pw) := by
  unfold sepWrite
  exact ite_cases (OptAll (BufQ Q)) (fun _ => ite_cases (OptAll (BufQ Q))
    (fun _ => (wr_allQ s pw 44 hs h44).bind fun s1 hs1 => (wr_allQ s1 (pw + 1) 32 hs1 h32).bind fun s2 hs2 => hs2)
    fun _ => hs) fun _ => hs

theorem copyTok_allQ {Q} (len : Nat) : ∀ (fuel : Nat) (s : Bytes) (pr pw : Nat), AllQ Q s →
    OptAll (BufQ Q) (copyTok len fuel s pr pw)
  | 0, s, pr, pw, hs => hs
  | fuel + 1, s, pr, pw, hs => by
    rw [copyTok]
    have h1 : OptAll (AllQ Q) (if (pr != pw) = true then do let c ← rd s pr; wr s pw c else some s) :=
      ite_cases (OptAll (AllQ Q)) (fun _ => (rd_allQ s pr hs).bind fun c hc => wr_allQ s pw c hs hc) fun _ => hs
    exact h1.bind fun s1 hs1 => ite_cases (OptAll (BufQ Q))
      (fun _ => (rd_allQ s1 (pr + 1) hs1).bind fun d _ => ite_cases (OptAll (BufQ Q))
        (fun _ => copyTok_allQ len fuel s1 _ _ hs1) fun _ => hs1) fun _ => hs1

theorem passStep_allQ {Q} (tkn : Bytes) (len : Nat) (s : Bytes) (pr pw : Nat) (rem : Bool)
    (h44 : Q 44) (h32 : Q 32) (hs : AllQ Q s) : OptAll (BufQ Q) (passStep tkn len s pr pw rem) := by
  unfold passStep
  have any : OptAll (fun _ : Bool => True) (passMatch tkn len s pr) := by
    cases passMatch tkn len s pr <;> trivial
  exact any.bind fun m _ => ite_cases (OptAll (BufQ Q)) (fun _ => hs) fun _ =>
    (sepWrite_allQ s pr pw h44 h32 hs).bind fun p hp => (copyTok_allQ len (len + 1) p.1 pr p.2 hp).bind fun q hq => hq

theorem passFinish_allQ {Q} (len : Nat) (s : Bytes) (pr pw : Nat) (h44 : Q 44) (h32 : Q 32)
    (hs : AllQ Q s) : OptAll (BufQ Q) (passFinish len s pr pw) := by
  unfold passFinish
  refine ite_cases (OptAll (BufQ Q)) (fun _ => ?_) fun _ => hs
  exact (sepWrite_allQ s pr pw h44 h32 hs).bind fun p hp =>
    (ite_cases (OptAll (AllQ Q)) (fun _ => moveDown_allQ _ p.1 p.2 pr hp) fun _ => hp :
      OptAll (AllQ Q) (if (pr != p.2) = true then moveDown (len - pr) p.1 p.2 pr else some p.1)).bind fun sb hsb => hsb

theorem removePass_allQ {Q} (tkn : Bytes) (len : Nat) (h44 : Q 44) (h32 : Q 32) :
    ∀ (fuel : Nat) (s : Bytes) (pr pw : Nat) (rem : Bool), AllQ Q s →
    OptAll (BufQ Q) (removePass tkn len fuel s pr pw rem)
  | 0, s, pr, pw, rem, hs => hs
  | fuel + 1, s, pr, pw, rem, hs => by
    rw [removePass]
    have hq := passStep_allQ tkn len s pr pw rem h44 h32 hs
    cases hp : passStep tkn len s pr pw rem with
    | none => trivial
    | some q =>
      obtain ⟨s1, pr1, pw1, rem1⟩ := q
      rw [hp] at hq
      dsimp only
      refine ite_cases (OptAll (BufQ Q)) (fun _ => ?_) fun _ => removePass_allQ tkn len h44 h32 fuel _ _ _ _ hq
      have hf := passFinish_allQ len s1 pr1 pw1 h44 h32 hq
      cases hpf : passFinish len s1 pr1 pw1 with
      | none => trivial
      | some q2 => rw [hpf] at hf; exact hf

theorem removeTokensLoop_allQ {Q} (h44 : Q 44) (h32 : Q 32) :
    ∀ (fuel : Nat) (st : InPlace) (t : Bytes), AllQ Q st.str →
    OptAll (fun st' : InPlace => AllQ Q st'.str) (removeTokensLoop fuel st t)
  | 0, st, t, hs => hs
  | fuel + 1, st, t, hs => by
    rw [removeTokensLoop]
    refine ite_cases (OptAll _) (fun _ => hs) fun _ => ?_
    dsimp only
    cases t.dropWhile isWsComma with
    | nil => exact hs
    | cons c t1 =>
      dsimp only
      generalize nextTokWords ((c :: t1).length + 1) [] [] (c :: t1) = nt
      obtain ⟨tkn, rest⟩ := nt
      dsimp only
      refine ite_cases (OptAll _) (fun _ => ?_) fun _ => ite_cases (OptAll _) (fun _ => ?_) fun _ =>
        removeTokensLoop_allQ h44 h32 fuel st rest hs
      · cases eqCaselessBinN st.str tkn tkn.length with
        | none => trivial
        | some b =>
          cases b with
          | true => exact removeTokensLoop_allQ h44 h32 fuel ⟨st.str, 0, true⟩ rest hs
          | false => exact removeTokensLoop_allQ h44 h32 fuel st rest hs
      · have hq := removePass_allQ tkn st.len h44 h32 (st.len + 1) st.str 0 0 st.removed hs
        cases hp : removePass tkn st.len (st.len + 1) st.str 0 0 st.removed with
        | none => trivial
        | some q =>
          rw [hp] at hq
          exact removeTokensLoop_allQ h44 h32 fuel ⟨q.1, q.2.1, q.2.2⟩ rest hq

theorem removeTokensCaseless_allQ {Q} (str toks : Bytes) (res : RemoveRes) (h44 : Q 44) (h32 : Q 32)
    (hs : AllQ Q str) (h : removeTokensCaseless str toks = some res) : AllQ Q res.out := by
  unfold removeTokensCaseless at h
  have hq := removeTokensLoop_allQ h44 h32 (toks.length + 1) ⟨str, str.length, false⟩ toks hs
  cases hst : removeTokensLoop (toks.length + 1) ⟨str, str.length, false⟩ toks with
  | none => rw [hst] at h; cases h
  | some st =>
    rw [hst] at h hq
    injection h with h
    exact h ▸ allQ_take _ _ hq
end Mhd.ReplyStr
