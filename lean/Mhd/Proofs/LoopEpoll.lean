/-
  C06 — proofs: the epoll loop.  The eready list is the daemon's memory of pending work; the invariant `EI` ties
  every connection's IN_EREADY bit to the list and says that a connection outside the list is in sync and blocked
  on the network.  `epoll_round` carries it through the stages of MHD_epoll: resume, the epoll events, new
  connections, the timeout scan, the eready traversal.
-/
import Mhd.Proofs.LoopHist
namespace Mhd.Loop
open Mhd.Gen.Loop
variable {W : Type}

/-- blocked on the network: nothing to process, and the cached readiness does not match what it waits for -/
def Blocked (l : Local W) : Prop :=
  l.eli.hasProcess = false ∧ ¬ (l.eli.hasRead = true ∧ l.rdReady = true) ∧ ¬ (l.eli.isWrite = true ∧ l.wrReady = true)

/-- nothing to do for `c` until the network reports something new: what the epoll loop needs of an active connection
    that is not in the eready list -/
def Quiet (needs : Local W → Bool) (c : Conn W) : Prop := Sync needs c ∧ Blocked c.loc

structure LawsEp (ops : Ops W) (needs : Local W → Bool) : Prop extends Laws ops needs where
  /-- "has work that can proceed without network input" does not depend on the cached readiness bits -/
  needs_ready : ∀ (l : Local W) (r w : Bool), needs { l with rdReady := r, wrReady := w } = needs l
  /-- handle_idle on an active connection without pending work that is blocked on the network leaves it
      blocked, or puts it into a PROCESS state, or removes it from the active list -/
  idle_quiet : ∀ id k (l : Local W), needs l = false → Blocked l → (ops.idle id k .active l).2 = .active →
      (ops.idle id k .active l).1.eli.hasProcess = false → Blocked (ops.idle id k .active l).1
  idle_cleanup : ∀ id k (l : Local W), (ops.idle id k .cleanup l).2 = .cleanup

/-- the invariant inside an epoll round; `T` = ids whose turn in the eready traversal is still to come -/
structure EI (needs : Local W → Bool) (d : Daemon W) (T : List CId) : Prop where
  nodup : (ids d.conns ++ ids d.susp ++ ids d.cleanup).Nodup
  bitA : ∀ c ∈ d.conns, (c.inEready = true ↔ c.id ∈ d.eready)
  bitS : ∀ c ∈ d.susp, c.inEready = false ∧ c.id ∉ d.eready
  er_nodup : d.eready.Nodup
  er_sub : ∀ id ∈ d.eready, id ∈ ids d.conns ∨ id ∈ ids d.cleanup
  quiet : ∀ c ∈ d.conns, c.inEready = false → Quiet needs c
  sync : ∀ c ∈ d.conns, c.id ∉ T → Sync needs c

/-- An eready entry of a connection that is not active is garbage: dropping such entries, and members of the
    cleanup list, keeps the invariant. -/
theorem EI.shrink {needs : Local W → Bool} {d d' : Daemon W} {T : List CId} (h : EI needs d T)
    (h1 : d'.conns = d.conns) (h2 : d'.susp = d.susp) (h3 : (ids d'.cleanup).Sublist (ids d.cleanup))
    (h4 : d'.eready.Sublist d.eready) (hk : ∀ id ∈ d.eready, id ∈ ids d.conns → id ∈ d'.eready)
    (hc : ∀ id ∈ d'.eready, id ∈ ids d.cleanup → id ∈ ids d'.cleanup) : EI needs d' T := by
  refine ⟨?_, ?_, ?_, h4.nodup h.er_nodup, ?_, h1 ▸ h.quiet, h1 ▸ h.sync⟩
  · rw [h1, h2]; exact ((List.Sublist.refl _).append h3).nodup h.nodup
  · rw [h1]
    exact fun c hm => ⟨fun hh => hk _ ((h.bitA c hm).mp hh) (mem_ids hm), fun hh => (h.bitA c hm).mpr (h4.subset hh)⟩
  · rw [h2]
    exact fun c hm => ⟨(h.bitS c hm).1, fun hh => (h.bitS c hm).2 (h4.subset hh)⟩
  · rw [h1]
    exact fun id hm => (h.er_sub id (h4.subset hm)).imp_right (hc id hm)

theorem EI.frame {needs : Local W → Bool} {d d' : Daemon W} {T : List CId} (h : EI needs d T)
    (h1 : d'.conns = d.conns) (h2 : d'.susp = d.susp) (h3 : ids d'.cleanup = ids d.cleanup) (h4 : d'.eready = d.eready) :
    EI needs d' T :=
  h.shrink h1 h2 (h3 ▸ .refl _) (h4 ▸ .refl _) (fun _ hm _ => h4 ▸ hm) (fun _ _ hm => h3 ▸ hm)

theorem EI.mono {needs : Local W → Bool} {d : Daemon W} {T T' : List CId} (h : EI needs d T)
    (hT : ∀ c ∈ d.conns, c.id ∉ T' → c.id ∉ T) : EI needs d T' :=
  ⟨h.nodup, h.bitA, h.bitS, h.er_nodup, h.er_sub, h.quiet, fun c hc hn => h.sync c hc (hT c hc hn)⟩

theorem EI.notin {needs : Local W → Bool} {d : Daemon W} {T : List CId} (h : EI needs d T) {A B : List (Conn W)} {c : Conn W}
    (hc : d.conns = A ++ c :: B) : c.id ∉ ids A :=
  nodup_mid_notin (hc ▸ (nodup3 h.nodup).1)

/-- One active connection `c` is replaced by `r.c`, or moved to another list, and eready follows its IN_EREADY
    bit: the invariant is kept if the new record is quiet unless marked, in sync unless its turn is still to
    come, and not marked when suspended. -/
theorem EI.step {needs : Local W → Bool} {d d' : Daemon W} {T T' : List CId} (h : EI needs d T)
    {A B : List (Conn W)} {c : Conn W} {r : ChRes W} (F : CHFields d d' A B c r) (hc : d.conns = A ++ c :: B)
    (hid : r.c.id = c.id)
    (hact : r.wh = .active → (r.c.inEready = false → Quiet needs r.c) ∧ (c.id ∉ T' → Sync needs r.c))
    (hsus : r.wh = .susp → r.c.inEready = false)
    (hT : ∀ x, x ≠ c.id → x ∉ T' → x ∉ T) : EI needs d' T' := by
  obtain ⟨hndc, _, hcs, _, _⟩ := nodup3 h.nodup
  have hcm : c ∈ d.conns := by rw [hc]; simp
  have hbit := h.bitA c hcm
  have hself := mem_erNew_self (id := c.id) r.c.inEready h.er_nodup hbit
  have hold : ∀ x ∈ A ++ B, x ∈ d.conns ∧ x.id ≠ c.id :=
    fun x hx => ⟨hc ▸ mem_mid hx, not_mem_of_nodup_mid (hc ▸ hndc) hx⟩
  have hsd : ∀ x ∈ d.susp, x.id ≠ c.id := fun x hx e => hcs _ (mem_ids hcm) (e ▸ mem_ids hx)
  have hE : d'.eready = erNew d.eready c.id c.inEready r.c.inEready := F.eready
  refine ⟨(F.perm hc hid).nodup_iff.mpr h.nodup, ?_, ?_, hE ▸ nodup_erNew _ h.er_nodup hbit, ?_, ?_, ?_⟩
  · intro x hx
    rw [hE]
    rcases F.mem_conns hx with ⟨rfl, _⟩ | hx
    · rw [hid]; exact hself.symm
    · rw [mem_erNew_ne _ _ (hold x hx).2]; exact h.bitA x (hold x hx).1
  · intro x hx
    rw [hE]
    rcases F.mem_susp hx with ⟨rfl, hw⟩ | hx
    · rw [hid, hself, hsus hw]; simp
    · rw [mem_erNew_ne _ _ (hsd x hx)]; exact h.bitS x hx
  · intro id hm
    rw [hE] at hm
    by_cases he : id = c.id
    · -- the connection itself: marked, so it was not suspended
      rw [he] at hm ⊢
      have hin := hself.mp hm
      rw [F.conns, F.cleanup, ← hid]
      cases hw : r.wh with
      | active => left; simp
      | susp => rw [hsus hw] at hin; cases hin
      | cleanup => right; simp
    · rw [mem_erNew_ne _ _ he] at hm
      rcases h.er_sub id hm with h1 | h1
      · left
        rw [hc, ids_append, ids_cons] at h1
        rw [F.conns]
        have h2 := mem_mid_ne h1 he
        split
        · rw [ids_append, ids_cons]; exact mem_mid h2
        · rw [ids_append]; exact h2
      · right
        rw [F.cleanup]
        split
        · exact List.mem_cons_of_mem _ h1
        · exact h1
  · intro x hx hq
    rcases F.mem_conns hx with ⟨rfl, hw⟩ | hx
    · exact (hact hw).1 hq
    · exact h.quiet x (hold x hx).1 hq
  · intro x hx hn
    rcases F.mem_conns hx with ⟨rfl, hw⟩ | hx
    · exact (hact hw).2 (hid ▸ hn)
    · exact h.sync x (hold x hx).1 (hT _ (hold x hx).2 hn)

theorem epollUpdate_inEready (c : Conn W) : (epollUpdate c).inEready = (c.inEready || c.loc.eli.hasProcess) := by
  rw [epollUpdate_eq]
  show ((c.loc.eli.hasProcess && !c.inEready) || c.inEready) = _
  cases c.inEready <;> cases c.loc.eli.hasProcess <;> rfl

theorem doIdle_inEready (ops : Ops W) (s : CS W) :
    (doIdle ops true s).c.inEready =
      match (ops.idle s.c.id s.c.k s.wh s.c.loc).2 with
      | .active => s.c.inEready || (ops.idle s.c.id s.c.k s.wh s.c.loc).1.eli.hasProcess
      | .susp => if s.wh = .active then false else s.c.inEready
      | .cleanup => s.c.inEready := by
  unfold doIdle
  cases h : (ops.idle s.c.id s.c.k s.wh s.c.loc).2 <;> simp only [h, Bool.true_and, reduceCtorEq, decide_false, decide_true,
    Bool.false_eq_true, if_false, if_true, Bool.and_false, Bool.and_true]
  · rw [epollUpdate_inEready]
  · cases hw : s.wh <;> simp [epollSuspend]

section
variable {ops : Ops W} {needs : Local W → Bool}

theorem chain_keeps_eready (L : Laws ops needs) {s0 u : CS W} (h : Chain ops true s0 u)
    (h0 : s0.wh = .active → s0.c.inEready = true) : u.wh = .active → u.c.inEready = true := by
  refine chain_bit (P := fun wh b => wh = .active → b = true) h h0 fun t _ ih hw => ?_
  rw [doIdle_wh] at hw
  have hta : t.wh = .active := Decidable.by_contra fun hn => L.idle_where _ _ _ _ hn hw
  rw [doIdle_inEready]
  simp only [hw, ih hta, Bool.true_or]

theorem chain_susp_clear (L : LawsEp ops needs) {s0 u : CS W} (h : Chain ops true s0 u) (h0 : s0.wh = .active) :
    u.wh = .susp → u.c.inEready = false := by
  refine chain_bit (P := fun wh b => wh = .susp → b = false) h (fun hw => nomatch h0.symm.trans hw) fun t _ ih hw => ?_
  rw [doIdle_wh] at hw
  rw [doIdle_inEready]
  simp only [hw]
  cases ht : t.wh with
  | active => rfl
  | susp => exact ih ht
  | cleanup =>
    rw [ht] at hw
    exact nomatch (L.idle_cleanup t.c.id t.c.k t.c.loc).symm.trans hw

theorem chain_cleanup (L : LawsEp ops needs) {s0 u : CS W} (h : Chain ops true s0 u) (h0 : s0.wh = .cleanup) :
    u.wh = .cleanup ∧ u.c.inEready = s0.c.inEready := by
  refine chain_bit (P := fun wh b => wh = .cleanup ∧ b = s0.c.inEready) h ⟨h0, rfl⟩ fun t _ ih => ?_
  have hr : (ops.idle t.c.id t.c.k t.wh t.c.loc).2 = .cleanup := by rw [ih.1]; exact L.idle_cleanup _ _ _
  refine ⟨hr, ?_⟩
  rw [doIdle_inEready]
  simp only [hr]
  exact ih.2

theorem lookup_cases (d : Daemon W) (p : CId) :
    (∃ c, d.lookup p = some (c, .active) ∧ c ∈ d.conns ∧ c.id = p) ∨
    (p ∉ ids d.conns ∧ ∃ c, d.lookup p = some (c, .susp) ∧ c ∈ d.susp ∧ c.id = p) ∨
    (p ∉ ids d.conns ∧ p ∉ ids d.susp ∧ ∃ c, d.lookup p = some (c, .cleanup) ∧ c ∈ d.cleanup ∧ c.id = p) ∨
    (p ∉ ids d.conns ∧ p ∉ ids d.susp ∧ p ∉ ids d.cleanup ∧ d.lookup p = none) := by
  unfold Daemon.lookup
  cases h1 : findConn d.conns p with
  | some c => exact Or.inl ⟨c, rfl, findConn_mem h1⟩
  | none =>
    cases h2 : findConn d.susp p with
    | some c => exact Or.inr (Or.inl ⟨findConn_none_of h1, c, rfl, findConn_mem h2⟩)
    | none =>
      cases h3 : findConn d.cleanup p with
      | some c => exact Or.inr (Or.inr (Or.inl ⟨findConn_none_of h1, findConn_none_of h2, c, rfl, findConn_mem h3⟩))
      | none => exact Or.inr (Or.inr (Or.inr ⟨findConn_none_of h1, findConn_none_of h2, findConn_none_of h3, rfl⟩))

/-- the eready drop test of /repo is the exact one (`ereadyDropExactRead` is generated from the
    source text, Mhd.Gen.Loop; `decide` fails if the source uses the mask test) -/
theorem readWait_exact : ereadyDropExactRead = true := by decide
theorem readWait_cases (e : Eli) : readWait e = true ↔ e = .read := by
  unfold readWait; rw [readWait_exact]; exact isRead_cases e

theorem callHandlers_ei (L : LawsEp ops needs) {d : Daemon W} {T T' : List CId} (h : EI needs d T) (hep : d.epoll = true)
    {A B : List (Conn W)} {c : Conn W} (hc : d.conns = A ++ c :: B) (hin : c.inEready = true) (rr wr fc : Bool)
    (hT : ∀ x, x ≠ c.id → x ∉ T' → x ∉ T) : EI needs (callHandlers ops d c.id rr wr fc) T' := by
  have F := callHandlers_fields ops hc (h.notin hc) rr wr fc
  rw [hep] at F
  obtain ⟨t, e, ht⟩ := chLocal_lastIdle ops true c .active rr wr fc
  refine h.step F hc (chLocal_static ..).id
    (fun hw => ⟨fun hf => ?_, fun _ => chLocal_sync L.toLaws true c .active rr wr fc hw⟩)
    (fun hw => by rw [e] at hw ⊢; exact chain_susp_clear L ht.chain rfl hw) hT
  rw [e] at hw hf
  have := chain_keeps_eready L.toLaws ht.chain (fun _ => hin) hw
  rw [hf] at this
  cases this

theorem ereadyAfter_active {d : Daemon W} {A B : List (Conn W)} {c : Conn W} (hc : d.conns = A ++ c :: B) (hA : c.id ∉ ids A) :
    ereadyAfter d c.id =
      if c.inEready && !c.epSusp &&
          ((readWait c.loc.eli && !c.loc.rdReady) || (c.loc.eli.isWrite && !c.loc.wrReady) || c.loc.eli.isCleanup)
      then finishCH d c .active ⟨{ c with inEready := false }, .active, [], false⟩ else d := by
  unfold ereadyAfter
  rw [lookup_active hc hA]
  simp only []
  split
  · rename_i hcond
    simp only [Bool.and_eq_true] at hcond
    rw [finishCH_eq]
    simp [erNew, hcond.1.1]
  · rfl

theorem ereadyAfter_ei {d : Daemon W} {T : List CId} (h : EI needs d T) {A B : List (Conn W)} {c : Conn W}
    (hc : d.conns = A ++ c :: B) (hs : c.id ∉ T) : EI needs (ereadyAfter d c.id) T := by
  have hA := h.notin hc
  have hcm : c ∈ d.conns := by rw [hc]; simp
  rw [ereadyAfter_active hc hA]
  split
  · rename_i hcond
    simp only [Bool.and_eq_true, Bool.or_eq_true, Bool.not_eq_eq_eq_not, Bool.not_true] at hcond
    have hsy : Sync needs c := h.sync c hcm hs
    refine h.step (finishCH_fields _ hc hA rfl) hc rfl (fun _ => ⟨fun _ => ⟨hsy, ?_⟩, fun _ => hsy⟩) (fun hw => nomatch hw)
      (fun x _ hx => hx)
    show Blocked c.loc
    rcases hcond.2 with (⟨h1, h2⟩ | ⟨h1, h2⟩) | h1
    · have e := (readWait_cases _).mp h1
      exact ⟨by rw [e]; decide, ⟨fun hh => (by rw [h2] at hh; cases hh.2), fun hh => (by rw [e] at hh; cases hh.1)⟩⟩
    · have e := (isWrite_cases _).mp h1
      exact ⟨by rw [e]; decide, ⟨fun hh => (by rw [e] at hh; cases hh.1), fun hh => (by rw [h2] at hh; cases hh.2)⟩⟩
    · have e := (isCleanup_cases _).mp h1
      exact ⟨by rw [e]; decide, ⟨fun hh => (by rw [e] at hh; cases hh.1), fun hh => (by rw [e] at hh; cases hh.1)⟩⟩
  · exact h

theorem callHandlers_inactive (L : LawsEp ops needs) {d : Daemon W} {T : List CId} (h : EI needs d T) (hep : d.epoll = true)
    {c : Conn W} (hl : d.lookup c.id = some (c, .cleanup)) (rr wr fc : Bool) :
    EI needs (callHandlers ops d c.id rr wr fc) T ∧ (callHandlers ops d c.id rr wr fc).eready = d.eready ∧
    (callHandlers ops d c.id rr wr fc).conns = d.conns := by
  rw [callHandlers_eq ops hl, hep, finishCH_eq]
  obtain ⟨t, e, ht⟩ := chLocal_lastIdle ops true c .cleanup rr wr fc
  obtain ⟨hw, hb⟩ := chain_cleanup L ht.chain rfl
  have hp : d.place t.c .cleanup t.wh = { d with cleanup := setConn d.cleanup t.c } := by rw [hw]; rfl
  rw [e]
  simp only []
  rw [hp, hb, erNew_same]
  exact ⟨h.frame rfl rfl (ids_setConn _ _) rfl, rfl, rfl⟩

theorem ereadyAfter_frame (d : Daemon W) (p : CId) : Frame d (ereadyAfter d p) := by
  unfold ereadyAfter
  split
  · exact Frame.refl d
  · split
    · have f := place_frame d { ‹Conn W› with inEready := false } ‹Wh› ‹Wh›
      exact ⟨f.fault, f.newc, f.epoll, f.resuming, f.haveNew, f.shutdown, f.allowSuspend⟩
    · exact Frame.refl d

theorem ereadyAfter_any {d : Daemon W} {T : List CId} (h : EI needs d T) (p : CId) (hs : p ∉ T) :
    EI needs (ereadyAfter d p) T ∧
    ((ereadyAfter d p).eready = d.eready ∨ (ereadyAfter d p).eready = d.eready.erase p) := by
  rcases lookup_cases d p with ⟨c, _, hcm, rfl⟩ | ⟨_, c, hl, hcm, rfl⟩ | ⟨h1, _, c, hl, hcm, rfl⟩ | ⟨_, _, _, hl⟩
  · obtain ⟨A, B, e⟩ := List.append_of_mem hcm
    refine ⟨ereadyAfter_ei h e hs, ?_⟩
    rw [ereadyAfter_active e (h.notin e)]
    split
    · rename_i hcond
      simp only [Bool.and_eq_true] at hcond
      rw [(finishCH_fields _ e (h.notin e) rfl).eready, hcond.1.1]
      exact Or.inr rfl
    · exact Or.inl rfl
  · -- suspended: not marked, nothing happens
    have : ereadyAfter d c.id = d := by
      unfold ereadyAfter
      rw [hl]
      simp [(h.bitS c hcm).1]
    rw [this]
    exact ⟨h, Or.inl rfl⟩
  · unfold ereadyAfter
    rw [hl]
    simp only []
    split
    · have hp : d.place { c with inEready := false } .cleanup .cleanup =
          { d with cleanup := setConn d.cleanup { c with inEready := false } } := rfl
      have hi := ids_setConn d.cleanup { c with inEready := false }
      rw [hp]
      exact ⟨h.shrink rfl rfl (hi ▸ .refl _) List.erase_sublist
        (fun id hm hc => (List.mem_erase_of_ne fun (e : id = c.id) => h1 (e ▸ hc)).mpr hm) (fun _ _ hm => hi ▸ hm), Or.inr rfl⟩
    · exact ⟨h, Or.inl rfl⟩
  · have : ereadyAfter d p = d := by unfold ereadyAfter; rw [hl]
    rw [this]
    exact ⟨h, Or.inl rfl⟩

theorem prevE_mid {d : Daemon W} {E1 E2 : List CId} {p : CId} (he : d.eready = E1 ++ p :: E2) (h : p ∉ E1) :
    prevE d p = E1.getLast? := by
  unfold prevE
  rw [he, prevInIds_mid h]

theorem visitE (L : LawsEp ops needs) {d : Daemon W} {E1 E2 : List CId} {p : CId}
    (h : EI needs d (E1 ++ [p])) (hep : d.epoll = true) (he : d.eready = E1 ++ p :: E2) :
    ∃ c wh, d.lookup p = some (c, wh) ∧
      let d2 := ereadyAfter (callHandlers ops d p c.loc.rdReady c.loc.wrReady c.epError) p
      EI needs d2 E1 ∧ Frame d d2 ∧ ∃ E2', d2.eready = E1 ++ E2' := by
  have hpE1 : p ∉ E1 := fun hm => (List.nodup_append.mp (he ▸ h.er_nodup)).2.2 p hm p List.mem_cons_self rfl
  have hpe : p ∈ d.eready := by rw [he]; simp
  have hT : ∀ x, x ≠ p → x ∉ E1 → x ∉ E1 ++ [p] := fun x hx hn hm =>
    (List.mem_append.mp hm).elim hn fun hm => hx (List.mem_singleton.mp hm)
  have keep : ∀ {e e' : List CId}, (e' = e ∨ e' = e.erase p) → (∃ X, e = E1 ++ X) → ∃ X, e' = E1 ++ X := by
    rintro _ _ (rfl | rfl) ⟨X, rfl⟩
    · exact ⟨X, rfl⟩
    · exact ⟨X.erase p, List.erase_append_right _ hpE1⟩
  have fin : ∀ (d1 : Daemon W), EI needs d1 E1 → Frame d d1 → (d1.eready = d.eready ∨ d1.eready = d.eready.erase p) →
      EI needs (ereadyAfter d1 p) E1 ∧ Frame d (ereadyAfter d1 p) ∧ ∃ E2', (ereadyAfter d1 p).eready = E1 ++ E2' := by
    intro d1 h1 f1 e1
    obtain ⟨h2, e2⟩ := ereadyAfter_any h1 p hpE1
    exact ⟨h2, f1.trans (ereadyAfter_frame d1 p), keep e2 (keep e1 ⟨_, he⟩)⟩
  rcases lookup_cases d p with ⟨c, hl, hcm, rfl⟩ | ⟨hc, c, _, hcm, rfl⟩ | ⟨hc, _, c, hl, _, rfl⟩ | ⟨h1, _, h3, _⟩
  · obtain ⟨A, B, e⟩ := List.append_of_mem hcm
    have hin : c.inEready = true := (h.bitA c hcm).mpr hpe
    refine ⟨c, .active, hl, fin _ (callHandlers_ei L h hep e hin _ _ _ (hT)) (callHandlers_eq ops hl _ _ _ ▸ finishCH_frame ..) ?_⟩
    have F := callHandlers_fields ops e (h.notin e) c.loc.rdReady c.loc.wrReady c.epError
    rw [F.eready, hin]
    cases (chLocal ops d.epoll c .active c.loc.rdReady c.loc.wrReady c.epError).c.inEready
    · exact Or.inr rfl
    · exact Or.inl rfl
  · exact absurd hpe (h.bitS c hcm).2
  · -- it was closed earlier in this round
    obtain ⟨h1, e1, hcs⟩ := callHandlers_inactive L h hep hl c.loc.rdReady c.loc.wrReady c.epError
    refine ⟨c, .cleanup, hl, fin _ (h1.mono fun x hx hn hm => ?_) (callHandlers_eq ops hl _ _ _ ▸ finishCH_frame ..) (Or.inl e1)⟩
    rcases List.mem_append.mp hm with hm | hm
    · exact hn hm
    · exact hc (List.mem_singleton.mp hm ▸ mem_ids (hcs ▸ hx))
  · exact (h.er_sub p hpe).elim (absurd · h1) (absurd · h3)

theorem ereadyTrav_spec (L : LawsEp ops needs) :
    ∀ (fuel : Nat) (E1 : List CId) (p : CId) (E2 : List CId) (d : Daemon W),
      d.eready = E1 ++ p :: E2 → E1.length < fuel → EI needs d (E1 ++ [p]) → d.epoll = true →
      EI needs (ereadyTrav ops true fuel (some p) d) [] ∧ Frame d (ereadyTrav ops true fuel (some p) d) := by
  intro fuel
  induction fuel with
  | zero => intro _ _ _ _ _ hf; exact absurd hf (Nat.not_lt_zero _)
  | succ f ih =>
    intro E1 p E2 d he hf h hep
    have hpE1 : p ∉ E1 := fun hm =>
      (List.nodup_append.mp (he ▸ h.er_nodup)).2.2 p hm p List.mem_cons_self rfl
    obtain ⟨c, wh, hl, h2, f2, e2⟩ := visitE L h hep he
    rw [ereadyTrav, hl]
    simp only [if_true]
    rw [prevE_mid he hpE1]
    rcases List.eq_nil_or_concat E1 with rfl | ⟨E1', q, hE⟩
    · rw [List.getLast?_nil, ereadyTrav]
      exact ⟨h2, f2⟩
    · rw [List.concat_eq_append] at hE
      subst hE
      rw [List.getLast?_concat]
      have hlen : E1'.length < f := by simpa using hf
      have hep2 := f2.epoll.trans hep
      obtain ⟨E2', e2⟩ := e2
      have := ih E1' q E2' _ (by rw [e2, List.append_assoc]; rfl) hlen h2 hep2
      exact ⟨this.1, f2.trans this.2⟩

theorem lookup_isSome {d : Daemon W} {p : CId} (h : p ∈ ids d.conns ++ ids d.susp ++ ids d.cleanup) : (d.lookup p).isSome := by
  rcases lookup_cases d p with ⟨_, hl, _⟩ | ⟨_, _, hl, _⟩ | ⟨_, _, _, hl, _⟩ | ⟨h1, h2, h3, _⟩
  · rw [hl]; rfl
  · rw [hl]; rfl
  · rw [hl]; rfl
  · simp only [List.mem_append] at h
    exact absurd h (by simp [h1, h2, h3])

theorem needs_false_of_quiet {c : Conn W} (h : Quiet needs c) : needs c.loc = false :=
  (Bool.not_eq_true _).mp fun hn => nomatch h.2.1.symm.trans (h.1 hn)

theorem idleAt_ei (L : LawsEp ops needs) {d : Daemon W} {T : List CId} (h : EI needs d T) (hep : d.epoll = true)
    {A B : List (Conn W)} {c : Conn W} (hc : d.conns = A ++ c :: B) :
    EI needs (idleAt ops d c.id) T ∧ Frame d (idleAt ops d c.id) ∧
    (∃ B', (idleAt ops d c.id).conns = A ++ B') ∧
    (ids (idleAt ops d c.id).conns ++ ids (idleAt ops d c.id).susp ++ ids (idleAt ops d c.id).cleanup).Perm
      (ids d.conns ++ ids d.susp ++ ids d.cleanup) := by
  have hA := h.notin hc
  have hcm : c ∈ d.conns := by rw [hc]; simp
  rw [idleAt_eq ops (lookup_active hc hA), hep]
  generalize hs : doIdle ops true ⟨c, .active, []⟩ = s
  have hsid : s.c.id = c.id := by rw [← hs]; exact (doIdle_static ops true _).id
  have hwh : s.wh = (ops.idle c.id c.k .active c.loc).2 := by rw [← hs]; rfl
  have hloc : s.c.loc = (ops.idle c.id c.k .active c.loc).1 := by rw [← hs, doIdle_loc]
  have hbit : s.c.inEready = match (ops.idle c.id c.k .active c.loc).2 with
      | .active => c.inEready || (ops.idle c.id c.k .active c.loc).1.eli.hasProcess
      | .susp => false
      | .cleanup => c.inEready := by
    rw [← hs, doIdle_inEready]
    cases (ops.idle c.id c.k .active c.loc).2 <;> simp
  have F : CHFields d _ A B c ⟨s.c, s.wh, s.evs, false⟩ := finishCH_fields _ hc hA hsid
  refine ⟨h.step F hc hsid (fun hw => ?_) (fun hw => ?_) (fun x _ hx => hx), F.frame, ?_, F.perm hc hsid⟩
  · have hw' : (ops.idle c.id c.k .active c.loc).2 = .active := hwh ▸ hw
    have hsync : Sync needs s.c :=
      hs ▸ IdlePost.doIdle (Q := fun l => needs l = true → l.eli.hasProcess = true) L.idle_sync true _ (hs ▸ hw)
    refine ⟨fun hf => ⟨hsync, ?_⟩, fun _ => hsync⟩
    have hf' : s.c.inEready = false := hf
    rw [hbit] at hf'
    simp only [hw', Bool.or_eq_false_iff] at hf'
    have hq := h.quiet c hcm hf'.1
    show Blocked s.c.loc
    rw [hloc]
    exact L.idle_quiet c.id c.k c.loc (needs_false_of_quiet hq) hq.2 hw' hf'.2
  · have hw' : (ops.idle c.id c.k .active c.loc).2 = .susp := hwh ▸ hw
    show s.c.inEready = false
    rw [hbit]; simp only [hw']
  · rw [F.conns]
    split
    · exact ⟨_, rfl⟩
    · exact ⟨_, rfl⟩

theorem timeoutScan_spec (L : LawsEp ops needs) (T : List CId) :
    ∀ (fuel : Nat) (A : List (Conn W)) (c : Conn W) (B : List (Conn W)) (d : Daemon W),
      d.conns = A ++ c :: B → A.length < fuel → EI needs d T → d.epoll = true →
      EI needs (timeoutScan ops fuel (some c.id) d) T ∧ Frame d (timeoutScan ops fuel (some c.id) d) := by
  intro fuel
  induction fuel with
  | zero => intro _ _ _ _ _ hf; exact absurd hf (Nat.not_lt_zero _)
  | succ f ih =>
    intro A c B d hc hf h hep
    obtain ⟨h1, f1, ⟨B', hconns⟩, hperm⟩ := idleAt_ei L h hep hc
    rw [timeoutScan, show prevIn d.conns c.id = some (tailId A) from hc ▸ prevIn_mid (h.notin hc)]
    simp only []
    have hin : c.id ∈ ids (idleAt ops d c.id).conns ++ ids (idleAt ops d c.id).susp ++ ids (idleAt ops d c.id).cleanup := by
      rw [hperm.mem_iff, hc]; simp
    cases hl : (idleAt ops d c.id).lookup c.id with
    | none => have := lookup_isSome hin; rw [hl] at this; cases this
    | some cw =>
      simp only []
      split
      · exact ⟨h1, f1⟩
      · rcases List.eq_nil_or_concat A with rfl | ⟨A', a, hA⟩
        · rw [tailId_nil, timeoutScan]; exact ⟨h1, f1⟩
        · rw [List.concat_eq_append] at hA
          subst hA
          rw [tailId_concat]
          have hlen : A'.length < f := by simpa using hf
          have hep1 := f1.epoll.trans hep
          have := ih A' a B' _ (by rw [hconns, List.append_assoc]; rfl) hlen h1 hep1
          exact ⟨this.1, f1.trans this.2⟩

end


theorem EI.retarget {needs : Local W → Bool} {d : Daemon W} {T : List CId} (h : EI needs d T) : EI needs d d.eready :=
  ⟨h.nodup, h.bitA, h.bitS, h.er_nodup, h.er_sub, h.quiet, fun c hc hn =>
    (h.quiet c hc (Bool.eq_false_iff.mpr fun hh => hn ((h.bitA c hc).mp hh))).1⟩

/-- the stage invariant: EI with respect to the current eready list, ids of `newc` still fresh -/
structure ES (needs : Local W → Bool) (d : Daemon W) : Prop where
  ei : EI needs d d.eready
  nodup4 : (ids d.conns ++ ids d.susp ++ ids d.cleanup ++ ids d.newc).Nodup
  ep : d.epoll = true

section
variable {ops : Ops W} {needs : Local W → Bool}

theorem resumeOne_es {d : Daemon W} (h : ES needs d) {c : Conn W} (hc : c ∈ d.susp) :
    ES needs (resumeOne d c) ∧ Frame d (resumeOne d c) := by
  unfold resumeOne
  cases hr : c.resuming
  · exact ⟨h, Frame.refl d⟩
  · simp only [Bool.not_true, Bool.false_eq_true, if_false]
    rw [if_pos h.ep, if_pos h.ep]
    obtain ⟨_, hsn, hcs, _, _⟩ := nodup3 h.ei.nodup
    have hbs := h.ei.bitS c hc
    have hne : ∀ x ∈ d.conns, x.id ≠ c.id := fun x hx e => hcs _ (mem_ids hx) (e ▸ mem_ids hc)
    have hperm3 : (c.id :: ids d.conns ++ ids (eraseConn d.susp c.id) ++ ids d.cleanup).Perm
        (ids d.conns ++ ids d.susp ++ ids d.cleanup) :=
      (List.perm_middle.symm.trans ((eraseConn_perm (mem_ids hc)).append_left _)).append_right _
    refine ⟨⟨⟨hperm3.nodup_iff.mpr h.ei.nodup, ?_, ?_, List.nodup_cons.mpr ⟨hbs.2, h.ei.er_nodup⟩, ?_, ?_, ?_⟩,
      ((hperm3.append_right _).nodup_iff).mpr h.nodup4, h.ep⟩, ⟨rfl, rfl, rfl, rfl, rfl, rfl, rfl⟩⟩
    · intro x hx
      rcases List.mem_cons.mp hx with e | e
      · rw [e]; simp
      · simp only [List.mem_cons, hne x e, false_or]
        exact h.ei.bitA x e
    · intro x hx
      have hxs := eraseConn_subset hx
      simp only [List.mem_cons, eraseConn_ne_of_nodup hsn hx, false_or]
      exact h.ei.bitS x hxs
    · intro id hm
      rcases List.mem_cons.mp hm with e | e
      · exact Or.inl (by rw [e]; exact List.mem_cons_self)
      · exact (h.ei.er_sub id e).imp (List.mem_cons_of_mem _) fun h1 => h1
    · intro x hx hq
      rcases List.mem_cons.mp hx with e | e
      · rw [e] at hq; cases hq
      · exact h.ei.quiet x e hq
    · intro x hx hn
      rcases List.mem_cons.mp hx with e | e
      · exact absurd (by rw [e]; exact List.mem_cons_self) hn
      · exact h.ei.sync x e fun hm => hn (List.mem_cons_of_mem _ hm)

theorem resumeSuspended_es {d : Daemon W} (h : ES needs d) :
    ES needs (resumeSuspended d) ∧ Frame { d with resuming := false } (resumeSuspended d) :=
  resumeSuspended_induction (nodup3 h.ei.nodup).2.1
    (P := fun d' => ES needs d' ∧ Frame { d with resuming := false } d')
    ⟨⟨h.ei.frame rfl rfl rfl rfl, h.nodup4, h.ep⟩, Frame.refl _⟩
    fun _ _ ⟨e, f⟩ hc => have ⟨e1, f1⟩ := resumeOne_es e hc; ⟨e1, f.trans f1⟩

theorem ite_inEready_loc (b : Bool) (x : Conn W) : (if b then { x with inEready := true } else x).loc = x.loc := by
  cases b <;> rfl
theorem ite_inEready_id (b : Bool) (x : Conn W) : (if b then { x with inEready := true } else x).id = x.id := by
  cases b <;> rfl

/-- EPOLLIN for a connection: READ_READY, and IN_EREADY if it waits for reading or has buffer space -/
def evIn (c : Conn W) : Conn W :=
  let c1 : Conn W := { c with loc := { c.loc with rdReady := true } }
  if c1.loc.eli.hasRead || c1.loc.bufSpace then { c1 with inEready := true } else c1

/-- EPOLLOUT: WRITE_READY, and IN_EREADY if it waits for writing -/
def evOut (c : Conn W) : Conn W :=
  let c3 : Conn W := { c with loc := { c.loc with wrReady := true } }
  if c3.loc.eli.isWrite then { c3 with inEready := true } else c3

theorem evConn_eq (c : Conn W) (ev : EpEv) :
    evConn c ev = if ev.err then { c with epError := true, inEready := true }
      else (if ev.out then evOut else id) ((if ev.inp then evIn else id) c) := by
  unfold evConn evIn evOut
  cases ev.err
  · cases ev.inp <;> cases ev.out <;> rfl
  · rfl

/-- what an epoll event may do to a connection, as far as the invariant is concerned -/
structure EvStep (needs : Local W → Bool) (c x : Conn W) : Prop where
  id : x.id = c.id
  eli : x.loc.eli = c.loc.eli
  mono : c.inEready = true → x.inEready = true
  needs : needs x.loc = needs c.loc
  blocked : x.inEready = false → Blocked c.loc → Blocked x.loc

theorem EvStep.refl (needs : Local W → Bool) (c : Conn W) : EvStep needs c c := ⟨rfl, rfl, fun h => h, rfl, fun _ h => h⟩

theorem EvStep.trans {a b c : Conn W} (h1 : EvStep needs a b) (h2 : EvStep needs b c) : EvStep needs a c :=
  ⟨h2.id.trans h1.id, h2.eli.trans h1.eli, fun h => h2.mono (h1.mono h), h2.needs.trans h1.needs,
    fun hf hb => h2.blocked hf (h1.blocked (Bool.eq_false_iff.mpr fun h => nomatch hf.symm.trans (h2.mono h)) hb)⟩

section
variable (hnr : ∀ (l : Local W) (r w : Bool), needs { l with rdReady := r, wrReady := w } = needs l)
include hnr

theorem evIn_step (c : Conn W) : EvStep needs c (evIn c) := by
  unfold evIn
  simp only []
  split
  · exact ⟨rfl, rfl, fun _ => rfl, hnr c.loc true c.loc.wrReady, fun hf => nomatch hf⟩
  · rename_i hm
    exact ⟨rfl, rfl, fun h => h, hnr c.loc true c.loc.wrReady, fun _ hb =>
      ⟨hb.1, fun hh => hm ((Bool.or_eq_true _ _).mpr (Or.inl hh.1)), hb.2.2⟩⟩

theorem evOut_step (c : Conn W) : EvStep needs c (evOut c) := by
  unfold evOut
  simp only []
  split
  · exact ⟨rfl, rfl, fun _ => rfl, hnr c.loc c.loc.rdReady true, fun hf => nomatch hf⟩
  · rename_i hm
    exact ⟨rfl, rfl, fun h => h, hnr c.loc c.loc.rdReady true, fun _ hb => ⟨hb.1, hb.2.1, fun hh => hm hh.1⟩⟩

theorem evConn_step (c : Conn W) (ev : EpEv) : EvStep needs c (evConn c ev) := by
  rw [evConn_eq]
  cases ev.err
  · cases ev.inp <;> cases ev.out
    · exact EvStep.refl needs c
    · exact evOut_step hnr c
    · exact evIn_step hnr c
    · exact (evIn_step hnr c).trans (evOut_step hnr _)
  · exact ⟨rfl, rfl, fun _ => rfl, rfl, fun hf => nomatch hf⟩

end

theorem applyEvent_eq {d : Daemon W} {ev : EpEv} {c : Conn W} (hf : findConn d.conns ev.id = some c) :
    applyEvent d ev = finishCH d c .active ⟨evConn c ev, .active, [], false⟩ := by
  unfold applyEvent
  rw [hf]
  rfl

theorem applyEvent_es (L : LawsEp ops needs) {d : Daemon W} (h : ES needs d) (ev : EpEv) :
    ES needs (applyEvent d ev) ∧ Frame d (applyEvent d ev) := by
  cases hf : findConn d.conns ev.id with
  | none =>
    have : applyEvent d ev = d := by unfold applyEvent; rw [hf]
    rw [this]
    exact ⟨h, Frame.refl d⟩
  | some c =>
    rw [applyEvent_eq hf]
    have hcm := (findConn_mem hf).1
    obtain ⟨A, B, e⟩ := List.append_of_mem hcm
    have S := evConn_step L.needs_ready c ev
    have F : CHFields d _ A B c ⟨evConn c ev, .active, [], false⟩ := finishCH_fields _ e (h.ei.notin e) S.id
    have hE : (finishCH d c .active ⟨evConn c ev, .active, [], false⟩).eready =
        erNew d.eready c.id c.inEready (evConn c ev).inEready := F.eready
    have hself := mem_erNew_self (id := c.id) (evConn c ev).inEready h.ei.er_nodup (h.ei.bitA c hcm)
    have hq : (evConn c ev).inEready = false → Quiet needs (evConn c ev) := fun hf' =>
      have q0 := h.ei.quiet c hcm (Bool.eq_false_iff.mpr fun hh => nomatch hf'.symm.trans (S.mono hh))
      ⟨fun hn => S.eli ▸ q0.1 (S.needs ▸ hn), S.blocked hf' q0.2⟩
    refine ⟨⟨hE ▸ h.ei.step F e S.id (fun _ => ⟨hq, fun hn => ?_⟩) (fun hw => nomatch hw)
      (fun x hx hn hm => hn ((mem_erNew_ne _ _ hx).mpr hm)), ?_, F.epoll.trans h.ep⟩, F.frame⟩
    · cases hh : (evConn c ev).inEready
      · exact (hq hh).1
      · exact absurd (hself.mpr hh) hn
    · rw [F.newc]
      exact (((F.perm e S.id).append_right _).nodup_iff).mpr h.nodup4

theorem eventsFold_es (L : LawsEp ops needs) : ∀ (evs : List EpEv) (d : Daemon W), ES needs d →
    ES needs (evs.foldl applyEvent d) ∧ Frame d (evs.foldl applyEvent d) := by
  intro evs
  induction evs with
  | nil => intro d h; exact ⟨h, Frame.refl d⟩
  | cons ev rest ih =>
    intro d h
    obtain ⟨h1, f1⟩ := applyEvent_es L h ev
    obtain ⟨h2, f2⟩ := ih _ h1
    exact ⟨h2, f1.trans f2⟩

end

/-- the invariant of an epoll daemon between rounds -/
structure InvEP (needs : Local W → Bool) (d : Daemon W) : Prop where
  ep : d.epoll = true
  ei : EI needs d []
  nodup4 : (ids d.conns ++ ids d.susp ++ ids d.cleanup ++ ids d.newc).Nodup
  fresh : ∀ c ∈ d.newc, c.loc.eli = .read ∧ needs c.loc = false ∧ c.loc.rdReady = false ∧ c.loc.wrReady = false ∧
    c.inEready = false
  newcFlag : d.haveNew = false → d.newc = []
  nocleanup : d.cleanup = []
  fault : d.fault = none

theorem newConns_es {needs : Local W → Bool} {d : Daemon W} (h : ES needs d)
    (hfresh : ∀ c ∈ d.newc, c.loc.eli = .read ∧ needs c.loc = false ∧ c.loc.rdReady = false ∧ c.loc.wrReady = false ∧
      c.inEready = false) :
    EI needs (newConnsProcess d) (newConnsProcess d).eready ∧ (newConnsProcess d).newc = [] ∧
    (newConnsProcess d).epoll = true ∧ (newConnsProcess d).fault = d.fault := by
  rw [newConnsProcess_eq]
  refine ⟨?_, rfl, h.ep, rfl⟩
  have hnew : ∀ x ∈ d.newc.map (newConnF d.epoll), ∃ y ∈ d.newc, x = newConnF d.epoll y := by
    intro x hx; obtain ⟨y, hy, rfl⟩ := List.mem_map.mp hx; exact ⟨y, hy, rfl⟩
  have hloc : ∀ y ∈ d.newc, (newConnF d.epoll y).loc = y.loc := fun y hy => newConnF_loc _ (hfresh y hy).1
  have hnid : ∀ y ∈ d.newc, y.id ∉ d.eready := by
    intro y hy hm
    have hnd := h.nodup4
    rcases h.ei.er_sub _ hm with h1 | h1
    · exact (List.nodup_append.mp hnd).2.2 _ (List.mem_append_left _ (List.mem_append_left _ h1)) _ (mem_ids hy) rfl
    · exact (List.nodup_append.mp hnd).2.2 _ (List.mem_append_right _ h1) _ (mem_ids hy) rfl
  refine ⟨?_, ?_, h.ei.bitS, h.ei.er_nodup, ?_, ?_, ?_⟩
  · show (ids (d.newc.map (newConnF d.epoll) ++ d.conns) ++ ids d.susp ++ ids d.cleanup).Nodup
    rw [ids_append, ids_map_newConnF]
    have hp : (ids d.newc ++ ids d.conns ++ ids d.susp ++ ids d.cleanup).Perm
        (ids d.conns ++ ids d.susp ++ ids d.cleanup ++ ids d.newc) := by
      rw [List.perm_iff_count]; intro y; simp only [List.count_append]; omega
    exact hp.nodup_iff.mpr h.nodup4
  · intro x hx
    show x.inEready = true ↔ x.id ∈ d.eready
    rcases List.mem_append.mp hx with h1 | h1
    · obtain ⟨y, hy, rfl⟩ := hnew x h1
      have : (newConnF d.epoll y).inEready = false := (hfresh y hy).2.2.2.2
      rw [this]
      have hid : (newConnF d.epoll y).id = y.id := rfl
      rw [hid]
      simp [hnid y hy]
    · exact h.ei.bitA x h1
  · intro id hm
    rcases h.ei.er_sub id hm with h1 | h1
    · left; show id ∈ ids (d.newc.map (newConnF d.epoll) ++ d.conns); rw [ids_append]; exact List.mem_append_right _ h1
    · exact Or.inr h1
  · intro x hx hq
    rcases List.mem_append.mp hx with h1 | h1
    · obtain ⟨y, hy, rfl⟩ := hnew x h1
      have hf := hfresh y hy
      refine ⟨fun hn => ?_, ?_⟩
      · rw [hloc y hy, hf.2.1] at hn; cases hn
      · unfold Blocked
        rw [hloc y hy, hf.1, hf.2.2.1, hf.2.2.2.1]
        decide
    · exact h.ei.quiet x h1 hq
  · intro x hx hn
    rcases List.mem_append.mp hx with h1 | h1
    · obtain ⟨y, hy, rfl⟩ := hnew x h1
      intro hnd
      rw [hloc y hy, (hfresh y hy).2.1] at hnd; cases hnd
    · exact h.ei.sync x h1 hn


theorem cleanup_ei {needs : Local W → Bool} {d : Daemon W} (h : EI needs d []) : EI needs (cleanupConns d) [] := by
  refine h.shrink rfl rfl (List.nil_sublist _) List.filter_sublist (fun id hm hc => ?_) fun id hm hk => ?_
  · refine List.mem_filter.mpr ⟨hm, ?_⟩
    rw [findConn_none fun hk => (List.nodup_append.mp h.nodup).2.2 _ (List.mem_append_left _ hc) _ hk rfl]
    rfl
  · have := findConn_isSome hk
    rw [Option.isSome_iff_ne_none] at this
    exact absurd (by simpa using (List.mem_filter.mp hm).2) this

def epollPre (d : Daemon W) (evs : List EpEv) : Daemon W :=
  let d1 := if d.allowSuspend then resumeSuspended d else d
  let d2 := { d1 with dap := false }
  let d3 := evs.foldl applyEvent d2
  if d3.haveNew then newConnsProcess d3 else d3

theorem epollRoundWith_eq (ops : Ops W) (d : Daemon W) (evs : List EpEv) :
    epollRoundWith ops true d evs =
      cleanupConns (ereadyTrav ops true
        ((timeoutScan ops ((epollPre d evs).conns.length + 1) (tailId (epollPre d evs).conns) (epollPre d evs)).eready.length + 1)
        (timeoutScan ops ((epollPre d evs).conns.length + 1) (tailId (epollPre d evs).conns) (epollPre d evs)).eready.getLast?
        (timeoutScan ops ((epollPre d evs).conns.length + 1) (tailId (epollPre d evs).conns) (epollPre d evs))) := rfl

theorem epollPre_spec {ops : Ops W} {needs : Local W → Bool} (L : LawsEp ops needs) {d : Daemon W} (h : InvEP needs d)
    (evs : List EpEv) :
    EI needs (epollPre d evs) (epollPre d evs).eready ∧ (epollPre d evs).epoll = true ∧ (epollPre d evs).fault = none ∧
    (epollPre d evs).newc = [] := by
  have h0 : ES needs d := ⟨h.ei.mono (fun _ _ _ hm => nomatch hm), h.nodup4, h.ep⟩
  unfold epollPre
  generalize hd1 : (if d.allowSuspend then resumeSuspended d else d) = d1
  have hR : ES needs d1 ∧ d1.fault = d.fault ∧ d1.newc = d.newc ∧ d1.haveNew = d.haveNew := by
    rw [← hd1]
    split
    · obtain ⟨a, f⟩ := resumeSuspended_es h0
      exact ⟨a, f.fault, f.newc, f.haveNew⟩
    · exact ⟨h0, rfl, rfl, rfl⟩
  obtain ⟨e1, f1, n1, hn1⟩ := hR
  obtain ⟨e3, f3⟩ := eventsFold_es L evs { d1 with dap := false } ⟨e1.ei.frame rfl rfl rfl rfl, e1.nodup4, e1.ep⟩
  simp only []
  generalize evs.foldl applyEvent { d1 with dap := false } = d3 at e3 f3
  have hnewc : d3.newc = d.newc := f3.newc.trans n1
  have hflt3 : d3.fault = none := f3.fault.trans (f1.trans h.fault)
  rw [newConns_if d3 fun hn => hnewc.trans (h.newcFlag (hn1 ▸ f3.haveNew ▸ hn))]
  obtain ⟨a, b, c, e⟩ := newConns_es e3 fun c hc => h.fresh c (hnewc ▸ hc)
  exact ⟨a, c, e.trans hflt3, b⟩

/-- MHD_epoll does not pass every connection through handle_idle; what a round keeps is: every active connection
    is in sync, and every active connection that has something to do — a PROCESS state, or the event it waits for
    is cached as ready — is in the eready list (which makes MHD_get_timeout64 answer 0). -/
theorem epoll_round {ops : Ops W} {needs : Local W → Bool} (L : LawsEp ops needs) {d : Daemon W} (h : InvEP needs d)
    (evs : List EpEv) : InvEP needs (epollRoundWith ops true d evs) := by
  rw [epollRoundWith_eq]
  obtain ⟨h4, ep4, flt4, nc4⟩ := epollPre_spec L h evs
  generalize epollPre d evs = d4 at h4 ep4 flt4 nc4
  have h5 : EI needs (timeoutScan ops (d4.conns.length + 1) (tailId d4.conns) d4) d4.eready ∧
      Frame d4 (timeoutScan ops (d4.conns.length + 1) (tailId d4.conns) d4) := by
    rcases List.eq_nil_or_concat d4.conns with h0 | ⟨A, c, hA⟩
    · rw [h0, tailId_nil, timeoutScan]; exact ⟨h4, Frame.refl d4⟩
    · rw [List.concat_eq_append] at hA
      rw [hA, tailId_concat]
      exact timeoutScan_spec L d4.eready _ A c [] d4 hA (by simp; omega) h4 ep4
  generalize timeoutScan ops (d4.conns.length + 1) (tailId d4.conns) d4 = d5 at h5
  obtain ⟨e5, f5⟩ := h5
  have e5' : EI needs d5 d5.eready := e5.retarget
  have h6 : EI needs (ereadyTrav ops true (d5.eready.length + 1) d5.eready.getLast? d5) [] ∧
      Frame d5 (ereadyTrav ops true (d5.eready.length + 1) d5.eready.getLast? d5) := by
    rcases List.eq_nil_or_concat d5.eready with h0 | ⟨E1, p, hE⟩
    · rw [h0, List.getLast?_nil, ereadyTrav]
      exact ⟨h0 ▸ e5', Frame.refl d5⟩
    · rw [List.concat_eq_append] at hE
      rw [show d5.eready.getLast? = some p from hE ▸ List.getLast?_concat]
      exact ereadyTrav_spec L _ E1 p [] d5 hE (by rw [hE]; simp; omega) (hE ▸ e5') (f5.epoll.trans ep4)
  generalize ereadyTrav ops true (d5.eready.length + 1) d5.eready.getLast? d5 = d6 at h6
  obtain ⟨e6, f6⟩ := h6
  have f46 := f5.trans f6
  have nc6 : d6.newc = [] := f46.newc.trans nc4
  refine ⟨f46.epoll.trans ep4, cleanup_ei e6, ?_, fun c hc => ?_, fun _ => nc6, rfl, f46.fault.trans flt4⟩
  · show (ids d6.conns ++ ids d6.susp ++ ids ([] : List (Conn W)) ++ ids d6.newc).Nodup
    rw [nc6]
    simp only [ids_nil, List.append_nil]
    exact List.Nodup.sublist (List.sublist_append_left _ _) e6.nodup
  · exact nomatch (nc6 ▸ hc : c ∈ ([] : List (Conn W)))

theorem InvEP.quiet {needs : Local W → Bool} {d : Daemon W} (h : InvEP needs d) (he : d.eready = []) :
    ∀ c ∈ d.conns, Quiet needs c := fun c hc =>
  h.ei.quiet c hc (Bool.eq_false_iff.mpr fun hh => nomatch (he ▸ (h.ei.bitA c hc).mp hh : c.id ∈ ([] : List CId)))

/-- **No lost wake-up (epoll daemon).**  If MHD_get_timeout64 answers "no timeout", no active connection
    needs processing, and none waits for an event that the daemon has already been told about. -/
theorem no_lost_wakeup_ep {needs : Local W → Bool} {d : Daemon W} (h : InvEP needs d) (q : getTimeout d = .none) :
    ∀ c ∈ d.conns, needs c.loc = false ∧ ¬ (c.loc.eli.hasRead = true ∧ c.loc.rdReady = true) ∧
      ¬ (c.loc.eli.isWrite = true ∧ c.loc.wrReady = true) := by
  obtain ⟨_, _, _, _, _, he⟩ := getTimeout_none q
  intro c hc
  have hq := h.quiet (he h.ep) c hc
  exact ⟨needs_false_of_quiet hq, hq.2.2.1, hq.2.2.2⟩

/-- a connection handed to MHD_add_connection of an epoll daemon -/
def FreshConnEp (needs : Local W → Bool) (d : Daemon W) (c : Conn W) : Prop :=
  c.id ∉ ids d.conns ∧ c.id ∉ ids d.susp ∧ c.id ∉ ids d.cleanup ∧ c.id ∉ ids d.newc ∧
  c.loc.eli = .read ∧ needs c.loc = false ∧ c.loc.rdReady = false ∧ c.loc.wrReady = false ∧ c.inEready = false

theorem addConn_invEp {needs : Local W → Bool} {d : Daemon W} (h : InvEP needs d) {c : Conn W}
    (hc : FreshConnEp needs d c) : InvEP needs (addConn d c) := by
  obtain ⟨h1, h2, h3, h4, h5⟩ := hc
  refine ⟨h.ep, h.ei.frame rfl rfl rfl rfl, addConn_nodup h.nodup4 h1 h2 h3 h4, fun x hx => ?_, (fun hn => nomatch hn),
    h.nocleanup, h.fault⟩
  rcases List.mem_cons.mp (show x ∈ c :: d.newc from hx) with e | e
  · rw [e]; exact h5
  · exact h.fresh x e

theorem resumeReq_invEp {needs : Local W → Bool} {d : Daemon W} (h : InvEP needs d) (id : CId) :
    InvEP needs (resumeReq d id) := by
  refine ⟨h.ep, ⟨?_, h.ei.bitA, ?_, h.ei.er_nodup, h.ei.er_sub, h.ei.quiet, h.ei.sync⟩, ?_, h.fresh, h.newcFlag,
    h.nocleanup, h.fault⟩
  · show (ids d.conns ++ ids (resumeReq d id).susp ++ ids d.cleanup).Nodup
    rw [resumeReq_ids]; exact h.ei.nodup
  · intro x hx
    have hx' : x ∈ d.susp.map (fun c => if c.id = id then { c with resuming := true } else c) := hx
    obtain ⟨y, hy, rfl⟩ := List.mem_map.mp hx'
    have := h.ei.bitS y hy
    split <;> exact this
  · show (ids d.conns ++ ids (resumeReq d id).susp ++ ids d.cleanup ++ ids d.newc).Nodup
    rw [resumeReq_ids]; exact h.nodup4

/-- reachable states of an epoll daemon -/
inductive ReachEp (ops : Ops W) (needs : Local W → Bool) : Daemon W → Prop where
  | init (allowSuspend : Bool) : ReachEp ops needs { epoll := true, allowSuspend := allowSuspend }
  | add {d : Daemon W} (c : Conn W) : ReachEp ops needs d → FreshConnEp needs d c → ReachEp ops needs (addConn d c)
  | resume {d : Daemon W} (id : CId) : ReachEp ops needs d → ReachEp ops needs (resumeReq d id)
  | round {d : Daemon W} (evs : List EpEv) : ReachEp ops needs d → ReachEp ops needs (epollRoundWith ops true d evs)

theorem init_invEp (needs : Local W → Bool) (a : Bool) : InvEP needs ({ epoll := true, allowSuspend := a } : Daemon W) :=
  ⟨rfl, ⟨by simp, by intro c h; simp at h, by intro c h; simp at h, by simp, by intro c h; simp at h,
    by intro c h; simp at h, by intro c h; simp at h⟩, by simp, by intro c h; simp at h, fun _ => rfl, rfl, rfl⟩

end Mhd.Loop
