/-
  `process_value_to_boundary` on a well-formed stream: where the scan for `"\r\n--" ++ boundary` stops
  (`scanCR`, `scanBoundary`) when the window is a prefix of `w ++ "\r\n--" ++ B ++ tl` and the delimiter
  does not occur earlier.
-/
import Mhd.Proofs.PPMultiInv
namespace Mhd.PP

theorem crlfdd_get (j : Nat) (h1 : 1 ≤ j) : sCRLFDashDash[j]? ≠ some cCR := by
  match j, h1 with
  | 1, _ => decide
  | 2, _ => decide
  | 3, _ => decide
  | j + 4, _ => simp [sCRLFDashDash]

/-- one candidate position `r` of the outer loop of `process_value_to_boundary`: where the boundary can be
    compared it matches exactly at `|w|`, and a mismatch leaves at least four bytes of `w` (a CR cannot
    follow within `"\r\n--"`) -/
theorem scan_candidate (B w tl buf pend : Bytes) (hB : 1 ≤ B.length)
    (hS : buf ++ pend = w ++ sCRLFDashDash ++ (B ++ tl))
    (hfresh : ∀ k, k < w.length → slice (buf ++ pend) k (k + 4 + B.length) ≠ sCRLFDashDash ++ B)
    (n0 : Nat) (hn : n0 ≤ w.length) (hn2 : n0 ≤ buf.length) :
    scanCR buf n0 ≤ w.length ∧ scanCR buf n0 ≤ buf.length ∧
    (scanCR buf n0 + B.length + 4 ≤ buf.length →
      (slice buf (scanCR buf n0 + 4) (scanCR buf n0 + 4 + B.length) = B ↔ scanCR buf n0 = w.length) ∧
      (scanCR buf n0 ≠ w.length → scanCR buf n0 + 4 ≤ w.length)) := by
  have hS4 : slice (buf ++ pend) w.length (w.length + 4) = sCRLFDashDash := by
    rw [hS]; exact slice_at w sCRLFDashDash (B ++ tl) 4 rfl
  have hSB : slice (buf ++ pend) (w.length + 4) (w.length + 4 + B.length) = B := by
    rw [hS, show w ++ sCRLFDashDash ++ (B ++ tl) = (w ++ sCRLFDashDash) ++ B ++ tl by simp]
    simpa [sCRLFDashDash] using slice_at (w ++ sCRLFDashDash) B tl B.length rfl
  have hScr : w.length < buf.length → buf[w.length]? = some cCR := fun h => by
    rw [← List.getElem?_append_left (l₂ := pend) h, hS]; simp [sCRLFDashDash]
  obtain ⟨c1, c2⟩ := scanCR_spec buf n0
  have hge := scanCR_ge buf n0
  generalize scanCR buf n0 = r at c1 c2 hge ⊢
  have hrw : r ≤ w.length ∧ r ≤ buf.length := by
    by_cases hv : w.length + 4 < buf.length
    · have := c1 w.length hn hv (hScr (by omega)) (by rw [← slice_app buf pend _ _ (by omega)]; exact hS4)
      split at c2 <;> omega
    · split at c2 <;> omega
  refine ⟨hrw.1, hrw.2, fun hchk => ?_⟩
  have hb : r + 4 < buf.length ∧ r + 4 + B.length ≤ buf.length ∧ (¬ n0 + 4 < buf.length → r ≠ n0) := by omega
  have hc : slice buf r (r + 4) = sCRLFDashDash := by
    split at c2
    · exact c2.2 hb.1
    · exact absurd c2 (hb.2.2 ‹_›)
  refine ⟨⟨fun hm => ?_, fun he => ?_⟩, fun hne => ?_⟩
  · refine Nat.le_antisymm hrw.1 (Nat.le_of_not_lt fun hh => hfresh r hh ?_)
    rw [slice_app buf pend _ _ (Nat.add_assoc r 4 _ ▸ hb.2.1),
      slice_split buf r (r + 4) _ (Nat.le_add_right _ _) (Nat.le_add_right _ _), hc, hm]
  · rw [he, ← slice_app buf pend _ _ (he ▸ hb.2.1)]; exact hSB
  · refine Nat.le_of_not_lt fun hh => ?_
    have hi : w.length - r < 4 ∧ r + (w.length - r) = w.length ∧ w.length < buf.length ∧ 1 ≤ w.length - r := by omega
    have e1 : (slice buf r (r + 4))[w.length - r]? = some cCR := by
      rw [slice_get, if_pos (by rw [Nat.add_sub_cancel_left]; exact hi.1), hi.2.1]
      exact hScr hi.2.2.1
    rw [hc] at e1
    exact crlfdd_get _ hi.2.2.2 e1

/-- the outer loop of `process_value_to_boundary` on such a window -/
theorem scanBoundary_fresh (B w tl buf pend : Bytes) (size : Nat) (hB : 1 ≤ B.length)
    (hS : buf ++ pend = w ++ sCRLFDashDash ++ (B ++ tl))
    (hfresh : ∀ k, k < w.length → slice (buf ++ pend) k (k + 4 + B.length) ≠ sCRLFDashDash ++ B)
    (hsz : B.length + 4 ≤ size) (n0 : Nat) (hn : n0 ≤ w.length)
    (hn2 : n0 ≤ buf.length) :
    (w.length + 4 + B.length ≤ buf.length → scanBoundary buf B size n0 = .found w.length) ∧
    (¬ w.length + 4 + B.length ≤ buf.length →
      ∃ nl, scanBoundary buf B size n0 = .partialAt nl ∧ n0 ≤ nl ∧ nl ≤ w.length ∧ nl ≤ buf.length) := by
  induction n0 using scanBoundary.induct (buf := buf) (boundary := B) (bufferSize := size) with
  | case1 n0 nl h hne ih =>
    obtain ⟨_, _, r3⟩ := scan_candidate B w tl buf pend hB hS hfresh n0 hn hn2
    have h4v := (r3 h).2 (fun he => hne ((r3 h).1.mpr he))
    have hge := scanCR_ge buf n0
    rw [scanBoundary, dif_pos h, if_pos hne]
    obtain ⟨i1, i2⟩ := ih h4v (by show scanCR buf n0 + 4 ≤ buf.length; omega)
    refine ⟨i1, fun hh => ?_⟩
    obtain ⟨nl', e1, e2, e3, e4⟩ := i2 hh
    exact ⟨nl', e1, Nat.le_trans (Nat.le_trans hge (Nat.le_add_right _ 4)) e2, e3, e4⟩
  | case2 n0 nl h hne =>
    obtain ⟨_, _, r3⟩ := scan_candidate B w tl buf pend hB hS hfresh n0 hn hn2
    have hrv := (r3 h).1.mp (Decidable.not_not.mp hne)
    rw [scanBoundary, dif_pos h, if_neg hne, hrv]
    refine ⟨fun _ => rfl, fun hh => absurd ?_ hh⟩
    have h' : scanCR buf n0 + B.length + 4 ≤ buf.length := h
    omega
  | case3 n0 nl h hz =>
    have h' : ¬ scanCR buf n0 + B.length + 4 ≤ buf.length := h
    have hz' : scanCR buf n0 = 0 ∧ buf.length = size := hz
    omega
  | case4 n0 nl h hz =>
    obtain ⟨r1, r2, _⟩ := scan_candidate B w tl buf pend hB hS hfresh n0 hn hn2
    have h' : ¬ scanCR buf n0 + B.length + 4 ≤ buf.length := h
    rw [scanBoundary, dif_neg h, if_neg hz]
    exact ⟨fun hh => by omega, fun _ => ⟨_, rfl, scanCR_ge buf n0, r1, r2⟩⟩

end Mhd.PP
