/-
  `idleStep` is walked once (`step_facts`).  For every case, `Facts` holds between the state before and after:
  * `keeps`  what the flag invariant needs (`Keeps`: no `init` again once tainted, no further `first`),
  * `StepOK` the chunk counters stay ordered and `measure` drops (so the fuel of `idle` suffices and `idle` is
             the normal form),
  * `Join`   bytes arriving before the step or after it lead, within two further steps, to the same state
             (local confluence; no termination argument inside).
  The last two need the laws of the head parser; the first holds for every parser.  The leaves of the walk are
  of six kinds, each with one lemma: `move` (the buffer is neither read nor written), `eat` (a scanner consumed
  a prefix and its verdict is final), `halt` (closed / out of domain), `error` / `refuse` (error reply: buffer
  dropped, connection doomed), `data` (upload bytes delivered).
-/
import Mhd.Proofs.FramingBody
namespace Mhd.Framing
open Mhd.Gen.Framing

def StepOK (s s' : St) : Prop := ChunkWF s' ∧ measure s' < measure s

/-- an error reply empties the buffer and enters a state of rank at most 4 -/
theorem errorReply_ok (s : St) (st : Nat) (wf : ChunkWF s) (hm : 4 < measure s) : StepOK s (errorReply s st) := by
  unfold errorReply
  split
  · exact ⟨wf, Nat.lt_trans (by decide : (0 : Nat) < 4) hm⟩
  · exact ⟨wf, hm⟩

theorem refuseWith_ok (s : St) (x : Option Nat) (wf : ChunkWF s) (hm : 4 < measure s) : StepOK s (refuseWith s x) := by
  cases x with
  | none => exact ⟨wf, Nat.lt_trans (by decide : (0 : Nat) < 4) hm⟩
  | some st => exact errorReply_ok s st wf hm


theorem rank_lt (st : CState) : rank st < 16 := by cases st <;> decide

theorem measure_lt_of_drop (s t : St) (n : Nat) (h0 : 0 < n) (hn : n ≤ s.buf.length) (e : t.buf = s.buf.drop n) :
    measure t < measure s := by
  have := rank_lt t.state
  unfold measure; rw [e, List.length_drop]; omega

variable [P : HeadParser]

/-- finitely many iterations of the idle loop with a fixed application -/
inductive Steps (lvl : Int) (app : App) : St → St → Prop
  | refl (s : St) : Steps lvl app s s
  | head {s t u : St} : idleStep lvl app s = some t → Steps lvl app t u → Steps lvl app s u

theorem Steps.trans {lvl : Int} {app : App} {s t u : St} (h1 : Steps lvl app s t) (h2 : Steps lvl app t u) :
    Steps lvl app s u := by
  induction h1 with
  | refl => exact h2
  | head hs _ ih => exact Steps.head hs (ih h2)

theorem Steps.one {lvl : Int} {app : App} {s t : St} (h : idleStep lvl app s = some t) : Steps lvl app s t :=
  Steps.head h (Steps.refl t)

/-- the idle loop (fixed application) brings both states to a common one -/
def Join (lvl : Int) (app : App) (x y : St) : Prop := ∃ t, Steps lvl app x t ∧ Steps lvl app y t

structure Facts (lvl : Int) (app : App) (s s' : St) : Prop where
  keeps : Keeps s s'
  rest : LawfulHeadParser → ChunkWF s → StepOK s s' ∧ ∀ b, Join lvl app (extend s b) (recv s' b)

section
variable {lvl : Int} {app : App} {s s' : St}

theorem Facts.move (k : Keeps s s') (hwf : ChunkWF s → ChunkWF s') (hr : rank s'.state < rank s.state)
    (h1 : s'.state ≠ .closed) (h2 : s'.state ≠ .outOfDomain) (hb : s'.buf = s.buf)
    (hex : ∀ b, idleStep lvl app (extend s b) = some (extend s' b)) : Facts lvl app s s' :=
  ⟨k, fun _ wf => ⟨⟨hwf wf, by unfold measure; rw [hb]; exact Nat.add_lt_add_left hr _⟩,
    fun b => ⟨_, Steps.one (hex b), by rw [recv_of_state s' b h1 h2]; exact Steps.refl _⟩⟩⟩

theorem Facts.eat (k : Keeps s s') (hwf : ChunkWF s → ChunkWF s') (hl : LawfulHeadParser → s'.buf.length < s.buf.length)
    (h1 : s'.state ≠ .closed) (h2 : s'.state ≠ .outOfDomain)
    (hex : LawfulHeadParser → ∀ b, idleStep lvl app (extend s b) = some (extend s' b)) : Facts lvl app s s' :=
  ⟨k, fun L wf => ⟨⟨hwf wf, by have := rank_lt s'.state; have := hl L; unfold measure; omega⟩,
    fun b => ⟨_, Steps.one (hex L b), by rw [recv_of_state s' b h1 h2]; exact Steps.refl _⟩⟩⟩

theorem Facts.halt (k : Keeps s s') (hwf : ChunkWF s → ChunkWF s') (ht : s'.state = .closed ∨ s'.state = .outOfDomain)
    (hb : s'.buf = []) (hm : 0 < rank s.state) (hex : LawfulHeadParser → ∀ b, idleStep lvl app (extend s b) = some s') :
    Facts lvl app s s' := by
  refine ⟨k, fun L wf => ⟨⟨hwf wf, ?_⟩, fun b => ⟨_, Steps.one (hex L b), ?_⟩⟩⟩
  · have : rank s'.state = 0 := by rcases ht with e | e <;> rw [e] <;> rfl
    unfold measure; rw [hb, this]; exact Nat.lt_of_lt_of_le hm (Nat.le_add_left _ _)
  · rw [recv, if_pos ht]; exact Steps.refl _

/-- a connection that will not be reused is closed by the next step, whatever is in the buffer -/
theorem join_noreuse (lvl : Int) (app : App) (u : St) (b : Bytes) (hs : u.state = .fullReplySent)
    (hr : (u.keepalive == KA.use && !u.readClosed && !u.discard) = false) : Join lvl app u (extend u b) :=
  ⟨connReset u false, Steps.one (by unfold idleStep; simp only [hs, hr]),
    Steps.one (by unfold idleStep; simp only [extend, hs, hr, connReset]; rfl)⟩

theorem join_errorReply (lvl : Int) (app : App) (s : St) (st : Nat) (b : Bytes) :
    Join lvl app (errorReply s st) (recv (errorReply s st) b) := by
  by_cases hse : s.stopErr = true
  · have e : (errorReply s st).state = .closed := by rw [errorReply, if_pos hse]
    rw [recv, if_pos (Or.inl e)]; exact ⟨_, Steps.refl _, Steps.refl _⟩
  · have e : (errorReply s st).state = .fullReplySent := by rw [errorReply, if_neg hse]
    rw [recv_of_state _ b (by rw [e]; exact nofun) (by rw [e]; exact nofun)]
    exact join_noreuse lvl app _ b e (by rw [errorReply, if_neg hse]; rfl)

theorem Facts.refuse {x : Option Nat} (hm : LawfulHeadParser → 4 < measure s)
    (hex : LawfulHeadParser → ∀ b, idleStep lvl app (extend s b) = some (refuseWith s x)) : Facts lvl app s (refuseWith s x) :=
  ⟨refuseWith_keeps s x, fun L wf => ⟨refuseWith_ok s x wf (hm L), fun b => by
    cases x with
    | some st =>
      obtain ⟨t, h1, h2⟩ := join_errorReply lvl app s st b
      exact ⟨t, Steps.head (hex L b) h1, h2⟩
    | none =>
      have e : (refuseWith s none).state = .closed := rfl
      exact ⟨_, Steps.one (hex L b), by rw [recv, if_pos (Or.inl e)]; exact Steps.refl _⟩⟩⟩

theorem Facts.error {st : Nat} (hm : 4 < rank s.state)
    (hex : LawfulHeadParser → ∀ b, idleStep lvl app (extend s b) = some (errorReply s st)) : Facts lvl app s (errorReply s st) :=
  Facts.refuse (x := some st) (fun _ => Nat.lt_of_lt_of_le hm (Nat.le_add_left _ _)) hex

/-- upload data is delivered: with more bytes behind the buffer the same delivery is longer, and the
    shorter one is completed by the next iteration -/
theorem Facts.data {n : Nat} (ho : LawfulHeadParser → ChunkWF s → offered lvl s = some n) (hs : s.state = .bodyReceiving) :
    Facts lvl app s (consume s n) := by
  refine ⟨consume_keeps s n hs, fun L wf => ?_⟩
  have h := ho L wf
  obtain ⟨_, _, hb, hw, hn⟩ := (offered_iff lvl s n wf).1 h
  have hnl : n ≤ s.buf.length := hn ▸ Nat.min_le_right _ _
  have h0 : 0 < n := by have := List.length_pos_iff.2 hb; omega
  have wf1 : ChunkWF (consume s n) := consume_wf s n wf (hn ▸ Nat.min_le_left _ _)
  refine ⟨⟨wf1, measure_lt_of_drop s _ n h0 hnl (consume_buf s n)⟩, fun b => ?_⟩
  obtain ⟨m, hm, hcase⟩ := offered_extend lvl s b n wf h
  have hst := consume_live s n hs
  rw [recv_of_state _ b hst.1 hst.2]
  refine ⟨_, Steps.one (consume_full lvl app _ _ (chunkWF_extend s b wf) hm), ?_⟩
  rcases hcase with hz | ⟨_, hlt, hR⟩
  · rw [hz, Nat.add_zero, consume_extend s b n hnl]; exact Steps.refl _
  · rw [← consume_consume (extend s b) n m (fun hc => window_identity (s := s) hc ▸ hlt), consume_extend s b n hnl]
    exact Steps.one (consume_full lvl app _ _ (chunkWF_extend _ b wf1) hR)

theorem bodyStep_facts (h : bodyStep lvl s = some s') (hs : s.state = .bodyReceiving) (hrem : s.remaining ≠ 0) :
    Facts lvl app s s' := by
  have ni : s.state ≠ .init := hs ▸ nofun
  have ps : PastFirst s := by unfold PastFirst; rw [hs]; exact ⟨nofun, nofun, nofun⟩
  have r4 : 4 < rank s.state := by rw [hs]; decide
  have lift : LawfulHeadParser → ∀ {b : Bytes} {t : St}, bodyStep lvl (extend s b) = some t →
      idleStep lvl app (extend s b) = some t :=
    fun L _ _ ht => body_idleStep lvl app (extend s _) _ hs hrem ht
  by_cases hc : s.chunked = true
  · have same : ∀ b, (∀ n, chunkAct lvl s.cur s.off s.buf ≠ .data n) → chunkAct lvl s.cur s.off s.buf ≠ .needMore →
        chunkAct lvl (extend s b).cur (extend s b).off (extend s b).buf = chunkAct lvl s.cur s.off s.buf :=
      fun b h1 h2 => (chunkAct_decided lvl s.cur s.off s.buf h2 h1).1 b
    cases ha : chunkAct lvl s.cur s.off s.buf with
    | needMore => unfold bodyStep at h; simp [hc, ha] at h
    | data n =>
      rw [bodyStep_data lvl s n hc ha, ← consume_chunked s n hc] at h; cases h
      obtain ⟨h1, h2, h3, h4⟩ := chunkAct_data _ _ _ _ _ ha
      exact Facts.data (fun _ wf => (offered_iff lvl s n wf).2
        ⟨hs, hrem, h3, window_chunked hc ▸ (chunk_open_iff wf).2 ⟨h1, h2⟩, window_chunked hc ▸ h4⟩) hs
    | term n =>
      rw [bodyStep_term lvl s n hc ha] at h; cases h
      have hb := chunkAct_term _ _ _ _ _ ha
      refine Facts.eat (Keeps.of_flags id rfl id ni fun _ => ⟨ps, rfl⟩) (fun _ => Nat.le_refl 0)
        (fun _ => by show (s.buf.drop n).length < _; rw [List.length_drop]; omega) (hs ▸ nofun) (hs ▸ nofun) fun L b => lift L ?_
      rw [bodyStep_term lvl (extend s b) n hc ((same b (by rw [ha]; exact nofun) (by rw [ha]; exact nofun)).trans ha)]
      simp only [extend, List.drop_append_of_le_length hb.2]
    | line len size =>
      rw [bodyStep_line lvl s len size hc ha] at h
      have hb := chunkAct_line _ _ _ _ _ _ ha
      have ha' := fun b => (same b (by rw [ha]; exact nofun) (by rw [ha]; exact nofun)).trans ha
      have hl : (s.buf.drop len).length < s.buf.length := by rw [List.length_drop]; omega
      by_cases hz : size = 0
      · rw [if_pos hz] at h; cases h
        refine Facts.eat (Keeps.of_flags id rfl id nofun fun _ => ⟨⟨nofun, nofun, nofun⟩, rfl⟩) (fun _ => Nat.le_refl 0)
          (fun _ => hl) nofun nofun fun L b => lift L ?_
        rw [bodyStep_line lvl (extend s b) len size hc (ha' b), if_pos hz]
        simp only [extend, List.drop_append_of_le_length hb.2]
      · rw [if_neg hz] at h; cases h
        refine Facts.eat (Keeps.of_flags id rfl id ni fun _ => ⟨ps, rfl⟩) (fun _ => Nat.zero_le _)
          (fun _ => hl) (hs ▸ nofun) (hs ▸ nofun) fun L b => lift L ?_
        rw [bodyStep_line lvl (extend s b) len size hc (ha' b), if_neg hz]
        simp only [extend, List.drop_append_of_le_length hb.2]
    | err st =>
      rw [bodyStep_err lvl s st hc ha] at h; cases h
      refine Facts.error r4 fun L b => lift L ?_
      rw [bodyStep_err lvl (extend s b) st hc ((same b (by rw [ha]; exact nofun) (by rw [ha]; exact nofun)).trans ha), errorReply_extend]
  · have hc' : s.chunked = false := by simpa using hc
    have hbn : s.buf ≠ [] := by
      intro e; unfold bodyStep at h; simp [hc', e] at h
    have ho : LawfulHeadParser → ∀ wf : ChunkWF s, offered lvl s = some (min s.remaining s.buf.length) := fun _ wf =>
      (offered_iff lvl s _ wf).2 ⟨hs, hrem, hbn, by rw [window_identity hc']; exact hrem, by rw [window_identity hc']⟩
    have e : bodyStep lvl s = some (consume s (min s.remaining s.buf.length)) := by
      rw [bodyStep_identity lvl s hc' hbn]; unfold consume; rw [hc', if_neg Bool.false_ne_true]
    rw [e] at h; cases h; exact Facts.data ho hs

theorem step_facts (h : idleStep lvl app s = some s') : Facts lvl app s s' := by
  unfold idleStep at h
  split at h
  · rename_i hs
    have r0 : 0 < rank s.state := by rw [hs]; decide
    -- `init` is not `NoReparse`
    have early : ∀ t : St, t.discard = s.discard → t.stopErr = s.stopErr → Keeps s t :=
      fun t hd he => ⟨fun wf e => hd ▸ wf (he ▸ e), fun j => absurd hs j.2.2⟩
    cases hp : P.head s.buf with
    | incomplete => simp [hp] at h
    | bad =>
      simp only [hp] at h; cases h
      refine Facts.halt (early _ rfl rfl) id (Or.inr rfl) rfl r0 fun L b => ?_
      unfold idleStep; simp only [extend, hs, L.head_bad_append _ b hp]
    | refuse x =>
      simp only [hp] at h; cases h
      refine Facts.refuse (fun L => ?_) fun L b => ?_
      · cases hb : s.buf with
        | nil => rw [hb, L.head_nil] at hp; cases hp
        | cons c t => simp only [measure, hb, List.length_cons, hs, rank]; omega
      · have := L.head_refuse_append _ b x hp
        unfold idleStep; simp only [extend, hs, this]
        exact congrArg some (refuseWith_extend s b x)
    | ok hd rest =>
      simp only [hp] at h; cases h
      refine Facts.eat (early _ rfl rfl) id (fun L => L.head_length _ _ _ hp) nofun nofun fun L b => ?_
      unfold idleStep; simp only [extend, hs, L.head_append _ b _ _ hp]
  · rename_i hs
    have r4 : 4 < rank s.state := by rw [hs]; decide
    have nf : PastFirst s → False := fun p => p.2.1 hs
    cases hd : decideBody lvl s.head.http11 s.head.fields with
    | reject st =>
      simp only [hd] at h; cases h
      refine Facts.error r4 fun L b => ?_
      unfold idleStep; simp only [extend, hs, hd]; exact congrArg some (errorReply_extend s b st)
    | none =>
      simp only [hd] at h; cases h
      refine Facts.move (Keeps.of_flags id rfl id nofun fun p => (nf p).elim) id (by rw [hs]; exact Nat.lt_of_sub_eq_succ rfl) nofun nofun rfl fun b => ?_
      unfold idleStep; simp only [extend, hs, hd]
    | len n =>
      simp only [hd] at h; cases h
      refine Facts.move (Keeps.of_flags id rfl id nofun fun p => (nf p).elim) id (by rw [hs]; exact Nat.lt_of_sub_eq_succ rfl) nofun nofun rfl fun b => ?_
      unfold idleStep; simp only [extend, hs, hd]
    | chunked mc =>
      simp only [hd] at h; cases h
      refine Facts.move (Keeps.of_flags id rfl (fun t => by cases mc <;> simp [t]) nofun fun p => (nf p).elim) id
        (by rw [hs]; exact Nat.lt_of_sub_eq_succ rfl) nofun nofun rfl fun b => ?_
      unfold idleStep; simp only [extend, hs, hd]
  · rename_i hs
    have nf : PastFirst s → False := fun p => p.2.2 hs
    cases ha : app s.nreq with
    | abort =>
      simp only [ha] at h; cases h
      refine Facts.halt (Keeps.of_flags id rfl id nofun fun p => (nf p).elim) id (Or.inl rfl) rfl (by rw [hs]; decide) fun _ b => ?_
      unfold idleStep; simp only [extend, hs, ha]
    | early st ch =>
      simp only [ha] at h; cases h
      refine Facts.move (Keeps.of_flags (fun _ => rfl) rfl id nofun fun p => (nf p).elim) id (by rw [hs]; exact Nat.lt_of_sub_eq_succ rfl) nofun nofun rfl
        fun b => ?_
      unfold idleStep; simp only [extend, hs, ha]
    | cont st ch =>
      simp only [ha] at h; cases h
      have hN : ∀ (st : CState) (bf : Bytes) (o : List Ev),
          need100Continue { s with state := st, buf := bf, out := o } = need100Continue s := fun _ _ _ => rfl
      have k : ∀ st : CState, st ≠ .init → Keeps s { s with out := .first s.head.method s.head.target :: s.out, state := st } :=
        fun st hst => Keeps.of_flags id rfl id hst fun p => (nf p).elim
      have live : ∀ c1 c2 : Prop, ∀ [Decidable c1] [Decidable c2], ∀ x : CState, x = .closed ∨ x = .outOfDomain ∨ x = .init →
          (if c1 then CState.fullReqReceived else if c2 then .continueSending else .bodyReceiving) ≠ x := by
        intro c1 c2 _ _ x hx; rcases hx with e | e | e <;> rw [e] <;> exact ite_ne nofun (ite_ne nofun nofun)
      refine ⟨k _ (live _ _ _ (Or.inr (Or.inr rfl))), fun _ wf => ⟨⟨wf, ?_⟩, fun b => ?_⟩⟩
      · simp only [measure, hs]; repeat' split
        all_goals simp [rank]
      -- whether "100 Continue" is due depends on the buffer being empty at the first call
      by_cases hsame : s.remaining = 0 ∨
          (need100Continue s && (s.buf ++ b).isEmpty) = (need100Continue s && s.buf.isEmpty)
      · rw [recv_of_state _ b (live _ _ _ (Or.inl rfl)) (live _ _ _ (Or.inr (Or.inl rfl)))]
        refine ⟨_, Steps.one ?_, Steps.refl _⟩
        unfold idleStep; simp only [extend, hs, ha, hN]
        rcases hsame with hr | he
        · simp only [hr, if_true]
        · rw [he]
      · -- 100 Continue was due without `b`; with `b` in the buffer the body is read directly:
        -- both ways meet in `bodyReceiving` with `b` in the buffer
        have hr : ¬ s.remaining = 0 := fun e => hsame (Or.inl e)
        have hne : ¬ (need100Continue s && (s.buf ++ b).isEmpty) = (need100Continue s && s.buf.isEmpty) :=
          fun e => hsame (Or.inr e)
        have hn : need100Continue s = true := by
          cases hn : need100Continue s with
          | true => rfl
          | false => rw [hn] at hne; exact absurd rfl hne
        have hbe : s.buf = [] := by
          cases hb : s.buf with
          | nil => rfl
          | cons _ _ => rw [hb] at hne; exact absurd rfl hne
        have hbn : (s.buf ++ b).isEmpty = false := by
          cases hq : (s.buf ++ b).isEmpty with
          | false => rfl
          | true => rw [hq, hbe] at hne; exact absurd rfl hne
        have hdue : (need100Continue { s with out := .first s.head.method s.head.target :: s.out } && s.buf.isEmpty) = true := by
          show (need100Continue s && s.buf.isEmpty) = true
          rw [hn, hbe]; rfl
        let t : St := { s with buf := s.buf ++ b, out := .first s.head.method s.head.target :: s.out, state := .bodyReceiving }
        have e1 : idleStep lvl app (extend s b) = some t := by
          unfold idleStep
          simp only [extend, hs, ha, hN, hr, if_false, hbn, Bool.and_false, Bool.false_eq_true, t]
        have e2 : idleStep lvl app (extend { s with out := .first s.head.method s.head.target :: s.out, state := .continueSending } b) = some t := by
          unfold idleStep; simp only [extend, t]
        simp only [hr, if_false, hdue, if_true]
        rw [recv_of_state _ b (by simp) (by simp)]
        exact ⟨t, Steps.one e1, Steps.one e2⟩
  · rename_i hs
    cases h
    refine Facts.move (Keeps.of_flags id rfl id nofun fun _ => ⟨⟨nofun, nofun, nofun⟩, rfl⟩) id (by rw [hs]; exact Nat.lt_of_sub_eq_succ rfl) nofun nofun rfl
      fun b => ?_
    unfold idleStep; simp only [extend, hs]
  · rename_i hs
    split at h
    · rename_i hrem
      cases h
      refine Facts.move (Keeps.of_flags id rfl id nofun fun _ => ⟨⟨nofun, nofun, nofun⟩, rfl⟩) id (by rw [hs]; exact Nat.lt_of_sub_eq_succ rfl) nofun nofun rfl
        fun b => ?_
      unfold idleStep; simp only [extend, hs, hrem, if_true]
    · rename_i hrem; exact bodyStep_facts h hs hrem
  · rename_i hs
    cases h
    refine Facts.move (Keeps.of_flags id rfl id (ite_ne nofun nofun) fun _ =>
        ⟨⟨ite_ne nofun nofun, ite_ne nofun nofun, ite_ne nofun nofun⟩, rfl⟩) id
      (by rw [hs]; show rank (if _ then _ else _) < _; split <;> decide) (ite_ne nofun nofun) (ite_ne nofun nofun) rfl fun b => ?_
    unfold idleStep; simp only [extend, hs]
  · rename_i hs
    have r4 : 4 < rank s.state := by rw [hs]; decide
    cases hp : P.trailers s.buf with
    | incomplete => simp [hp] at h
    | bad =>
      simp only [hp] at h; cases h
      refine Facts.halt (Keeps.of_flags id rfl id nofun fun _ => ⟨⟨nofun, nofun, nofun⟩, rfl⟩) id (Or.inr rfl) rfl
        (by rw [hs]; decide) fun L b => ?_
      unfold idleStep; simp only [extend, hs, L.trailers_bad_append _ b hp]
    | refuse x =>
      simp only [hp] at h; cases h
      refine Facts.refuse (fun _ => Nat.lt_of_lt_of_le r4 (Nat.le_add_left _ _)) fun L b => ?_
      have := L.trailers_refuse_append _ b x hp
      unfold idleStep; simp only [extend, hs, this]
      exact congrArg some (refuseWith_extend s b x)
    | ok fs rest =>
      simp only [hp] at h; cases h
      refine Facts.eat (Keeps.of_flags id rfl id nofun fun _ => ⟨⟨nofun, nofun, nofun⟩, rfl⟩) id
        (fun L => L.trailers_length _ _ _ hp) nofun nofun fun L b => ?_
      unfold idleStep; simp only [extend, hs, L.trailers_append _ b _ _ hp]
  · rename_i hs
    cases h
    refine Facts.move (Keeps.of_flags id rfl id nofun fun _ => ⟨⟨nofun, nofun, nofun⟩, rfl⟩) id (by rw [hs]; exact Nat.lt_of_sub_eq_succ rfl) nofun nofun rfl
      fun b => ?_
    unfold idleStep; simp only [extend, hs]
  · rename_i hs
    cases ha : app s.nreq with
    | cont st ch =>
      simp only [ha] at h; cases h
      refine Facts.move (Keeps.of_flags id rfl id nofun fun _ => ⟨⟨nofun, nofun, nofun⟩, countFirst_cons _ _ rfl⟩) id
        (by rw [hs]; exact Nat.lt_of_sub_eq_succ rfl) nofun nofun rfl fun b => ?_
      unfold idleStep; simp only [extend, hs, ha]
    | early st ch => simp [ha] at h
    | abort => simp [ha] at h
  · rename_i hs
    cases hr : s.resp with
    | none => simp [hr] at h
    | some p =>
      obtain ⟨st, ch⟩ := p
      simp only [hr] at h; cases h
      refine Facts.move (Keeps.of_flags id rfl (fun t => by simp [keepalivePossible, t]) nofun fun _ =>
          ⟨⟨nofun, nofun, nofun⟩, countFirst_cons _ _ rfl⟩) id (by rw [hs]; exact Nat.lt_of_sub_eq_succ rfl) nofun nofun rfl fun b => ?_
      unfold idleStep; simp only [extend, hs, hr]; rfl
  · rename_i hs
    cases h
    cases hr : (s.keepalive == KA.use && !s.readClosed && !s.discard) with
    | true =>
      refine Facts.move ⟨fun _ => nofun, fun j => by rw [j.noReuse] at hr; cases hr⟩ (fun _ => Nat.le_refl 0)
        (by rw [hs]; exact Nat.lt_of_sub_eq_succ rfl) nofun nofun rfl fun b => ?_
      unfold idleStep; simp only [extend, hs, hr, connReset, if_true]
    | false =>
      rw [connReset, if_neg Bool.false_ne_true]
      refine Facts.halt (Keeps.of_flags id rfl id nofun fun _ => ⟨⟨nofun, nofun, nofun⟩, countFirst_cons _ _ rfl⟩) id (Or.inl rfl) rfl
        (by rw [hs]; decide) fun _ b => ?_
      unfold idleStep; simp only [extend, hs, hr, connReset]; rfl
  · cases h
  · cases h

end

theorem step_keeps (lvl : Int) (app : App) (s s' : St) (h : idleStep lvl app s = some s') : Keeps s s' :=
  (step_facts h).keeps

theorem trans_keeps (lvl : Int) (s s' : St) (h : Trans lvl s s') : Keeps s s' := by
  cases h with
  | step app hstep => exact step_keeps lvl app s s' hstep
  | recv b => exact ⟨id, fun j => ⟨j, fun p => ⟨p, rfl⟩⟩⟩

theorem reach_keeps (lvl : Int) (s s' : St) (h : Reach lvl s s') : Keeps s s' := by
  induction h with
  | refl => exact ⟨id, fun j => ⟨j, fun p => ⟨p, rfl⟩⟩⟩
  | tail _ ht ih => exact ih.trans (trans_keeps lvl _ _ ht)

theorem idle_of_none (lvl : Int) (app : App) (s : St) (h : idleStep lvl app s = none) : idle lvl app s = s := by
  unfold idle idleFuel; simp [h]

theorem recv_of_step (lvl : Int) (app : App) (s s' : St) (b : Bytes) (h : idleStep lvl app s = some s') :
    recv s b = extend s b := by
  refine recv_of_state s b (fun e => ?_) (fun e => ?_) <;> (unfold idleStep at h; simp [e] at h)

variable [L : LawfulHeadParser]

theorem step_ok (lvl : Int) (app : App) (s s' : St) (h : idleStep lvl app s = some s') (wf : ChunkWF s) :
    StepOK s s' :=
  ((step_facts h).rest L wf).1

theorem idleFuel_fix (lvl : Int) (app : App) (n : Nat) (s : St) (wf : ChunkWF s) (hn : measure s < n) :
    idleStep lvl app (idleFuel lvl app n s) = none ∧ ChunkWF (idleFuel lvl app n s) := by
  induction n generalizing s with
  | zero => omega
  | succ n ih =>
    unfold idleFuel
    cases hs : idleStep lvl app s with
    | none => exact ⟨hs, wf⟩
    | some s' =>
      have := step_ok lvl app s s' hs wf
      exact ih s' this.1 (by have := this.2; omega)

theorem idleFuel_stable (lvl : Int) (app : App) (n m : Nat) (s : St) (wf : ChunkWF s)
    (hn : measure s < n) (hm : measure s < m) : idleFuel lvl app n s = idleFuel lvl app m s := by
  induction n generalizing s m with
  | zero => omega
  | succ n ih =>
    cases m with
    | zero => omega
    | succ m =>
      unfold idleFuel
      cases hs : idleStep lvl app s with
      | none => rfl
      | some s' =>
        have := step_ok lvl app s s' hs wf
        exact ih m s' this.1 (by have := this.2; omega) (by have := this.2; omega)

theorem idle_fix (lvl : Int) (app : App) (s : St) (wf : ChunkWF s) :
    idleStep lvl app (idle lvl app s) = none ∧ ChunkWF (idle lvl app s) :=
  idleFuel_fix lvl app _ s wf (by omega)


theorem idle_step (lvl : Int) (app : App) (s s' : St) (wf : ChunkWF s) (h : idleStep lvl app s = some s') :
    idle lvl app s = idle lvl app s' := by
  have ok := step_ok lvl app s s' h wf
  unfold idle
  conv => lhs; unfold idleFuel
  simp only [h]
  exact idleFuel_stable lvl app _ _ s' ok.1 (by have := ok.2; omega) (by omega)

theorem idle_of_steps (lvl : Int) (app : App) (s t : St) (h : Steps lvl app s t) (wf : ChunkWF s) :
    idle lvl app s = idle lvl app t ∧ ChunkWF t := by
  induction h with
  | refl => exact ⟨rfl, wf⟩
  | head hs _ ih =>
    have ok := step_ok lvl app _ _ hs wf
    have := ih ok.1
    exact ⟨(idle_step lvl app _ _ wf hs).trans this.1, this.2⟩

theorem step_comm (lvl : Int) (app : App) (s s' : St) (b : Bytes) (wf : ChunkWF s)
    (h : idleStep lvl app s = some s') : idle lvl app (recv s b) = idle lvl app (recv s' b) := by
  obtain ⟨t, h1, h2⟩ := ((step_facts h).rest L wf).2 b
  rw [recv_of_step lvl app s s' b h]
  exact (idle_of_steps lvl app _ t h1 (chunkWF_extend s b wf)).1.trans
    (idle_of_steps lvl app _ t h2 (chunkWF_recv s' b (step_ok lvl app s s' h wf).1)).1.symm
end Mhd.Framing
