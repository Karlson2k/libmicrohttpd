/-
  The sleep hint (`MHD_get_timeout64`): in every state that satisfies `Inv` it is bounded by the
  time left to the earliest deadline (+ granularity), 0 when a deadline has passed, and
  "no timeout" only when nothing is pending and nothing can time out.
-/
import Mhd.Proofs.TmoInv
namespace Mhd.Tmo
open Mhd.Gen.Tmo

/-- what the scan of `MHD_get_timeout64` has established after looking at the connections `S` -/
def CandOk (d : Daemon) (S : Id → Prop) (acc : Option (Id × Nat)) : Prop :=
  match acc with
  | none => ∀ i, S i → (d.c i).tmo = 0
  | some (e, ed) => ed = (d.c e).la + (d.c e).tmo ∧ (d.c e).tmo ≠ 0 ∧ S e ∧
      ∀ i, S i → (d.c i).tmo ≠ 0 → ed ≤ (d.c i).la + (d.c i).tmo

theorem add64_small {a b : Nat} (ha : a < 2 ^ 62) (hb : b < 2 ^ 62) : add64 a b = a + b :=
  Nat.mod_eq_of_lt (Nat.lt_trans (Nat.add_lt_add ha hb) (by decide))

theorem earlier_iff {v : Variant} (hv : v.hintSafe = true) (ed : Nat) (c : Conn)
    (h1 : ed < 2 ^ 63) (h2 : c.la < 2 ^ 62) (h3 : c.tmo < 2 ^ 62) (h0 : c.tmo ≠ 0) :
    earlier v ed c = true ↔ c.la + c.tmo < ed := by
  simp only [earlier, hv, if_true, add64_small h2 h3, sub64, W, halfRange, decide_eq_true_eq]
  omega

theorem hintStep_ok {v : Variant} (hv : v.hintSafe = true) {d : Daemon} (hb : ∀ i, (d.c i).la < 2 ^ 62 ∧ (d.c i).tmo < 2 ^ 62)
    {S : Id → Prop} {acc : Option (Id × Nat)} (h : CandOk d S acc) (i : Id) :
    CandOk d (fun x => x = i ∨ S x) (hintStep v d acc i) := by
  unfold hintStep
  dsimp only
  obtain ⟨bl, bt⟩ := hb i
  have dl := add64_small bl bt
  by_cases h0 : (d.c i).tmo = 0
  · rw [if_pos h0]
    match acc, h with
    | none, h => exact fun j hj => hj.elim (· ▸ h0) (h j)
    | some (e, ed), ⟨a1, a2, a3, a4⟩ =>
      exact ⟨a1, a2, .inr a3, fun j hj hjt => hj.elim (fun x => absurd (x ▸ h0) hjt) (a4 j · hjt)⟩
  rw [if_neg h0]
  match acc, h with
  | none, h =>
    exact ⟨dl, h0, .inl rfl, fun j hj hjt => hj.elim (fun x => by subst x; exact Nat.le_of_eq dl) (fun x => absurd (h j x) hjt)⟩
  | some (e, ed), ⟨a1, a2, a3, a4⟩ =>
    have hlt := earlier_iff hv ed (d.c i) (by have := hb e; omega) bl bt h0
    dsimp only
    by_cases hE : earlier v ed (d.c i) = true
    · rw [if_pos hE, dl]
      exact ⟨rfl, h0, .inl rfl, fun j hj hjt => hj.elim (fun x => x ▸ Nat.le_refl _)
        (fun x => Nat.le_trans (Nat.le_of_lt (hlt.1 hE)) (a4 j x hjt))⟩
    · rw [if_neg hE]
      exact ⟨a1, a2, .inr a3, fun j hj hjt => hj.elim (fun x => x ▸ Nat.le_of_not_lt (fun y => hE (hlt.2 y))) (a4 j · hjt)⟩

theorem CandOk.congr {d : Daemon} {S S' : Id → Prop} {acc : Option (Id × Nat)} (hs : ∀ x, S x ↔ S' x)
    (h : CandOk d S acc) : CandOk d S' acc := by
  cases acc with
  | none => intro i hi; exact h i ((hs i).2 hi)
  | some p =>
    obtain ⟨e, ed⟩ := p
    obtain ⟨a1, a2, a3, a4⟩ := h
    exact ⟨a1, a2, (hs e).1 a3, fun i hi => a4 i ((hs i).2 hi)⟩

theorem foldl_hintStep_ok {v : Variant} (hv : v.hintSafe = true) {d : Daemon}
    (hb : ∀ i, (d.c i).la < 2 ^ 62 ∧ (d.c i).tmo < 2 ^ 62) :
    ∀ (l : List Id) (S : Id → Prop) (acc : Option (Id × Nat)), CandOk d S acc →
      CandOk d (fun x => x ∈ l ∨ S x) (l.foldl (hintStep v d) acc)
  | [], S, acc, h => by simpa using h
  | i :: rest, S, acc, h => by
    rw [List.foldl_cons]
    refine CandOk.congr (fun x => ?_) (foldl_hintStep_ok hv hb rest _ _ (hintStep_ok hv hb h i))
    rw [List.mem_cons, or_assoc]
    exact or_left_comm

theorem hintCand_ok {v : Variant} (hv : v.hintSafe = true) {d : Daemon} (h : Inv d) (hnow : d.now + d.back < 2 ^ 62) :
    CandOk d (fun x => x ∈ d.normal ∨ x ∈ d.manual) (hintCand v d) := by
  have hb : ∀ i, (d.c i).la < 2 ^ 62 ∧ (d.c i).tmo < 2 ^ 62 := fun i =>
    ⟨Nat.lt_of_le_of_lt (h.laLe i) hnow, h.tmo_lt i⟩
  unfold hintCand
  dsimp only
  -- the start value: the tail of the normal list stands for the whole list
  have h0 : CandOk d (fun x => x ∈ d.normal)
      (match d.normal.getLast? with
        | some i => if (d.c i).tmo ≠ 0 then some (i, add64 (d.c i).la (d.c i).tmo) else none
        | none => none) := by
    cases hl : d.normal.getLast? with
    | none =>
      have : d.normal = [] := List.getLast?_eq_none_iff.1 hl
      intro i hi; rw [this] at hi; exact absurd hi List.not_mem_nil
    | some t =>
      obtain ⟨ys, hys⟩ := List.getLast?_eq_some_iff.1 hl
      have ht : t ∈ d.normal := by rw [hys]; simp
      have htt := h.normalT t ht
      dsimp only
      by_cases h0 : (d.c t).tmo = 0
      · simp only [h0, ne_eq, not_true_eq_false, if_false]
        intro i hi; rw [h.normalT i hi, ← htt]; exact h0
      · simp only [h0, ne_eq, not_false_eq_true, if_true]
        refine ⟨add64_small (hb t).1 (hb t).2, h0, ht, ?_⟩
        intro i hi _
        rw [add64_small (hb t).1 (hb t).2, h.normalT i hi, htt]
        have hd : d.cfg.dtmo ≠ 0 := htt ▸ h0
        have hso := h.sorted hd
        rw [hys] at hso hi
        rcases List.mem_append.1 hi with x | x
        · have := (List.pairwise_append.1 hso).2.2 i x t (by simp); omega
        · simp at x; subst x; omega
  refine CandOk.congr (fun x => ?_) (foldl_hintStep_ok hv hb d.manual.reverse _ _ h0)
  rw [List.mem_reverse]
  exact or_comm

/-- **hint bound.**  In a state satisfying the invariant the hint is at most the time left to any
    connection's deadline plus the granularity, and 0 as soon as some deadline has passed. -/
theorem hint_bound {v : Variant} (hv : v.hintSafe = true) {d : Daemon} (h : Inv d) (hnow : d.now + d.back < 2 ^ 62)
    (hback : d.back ≤ jumpBackLimit) (hh : Nat) (heq : hint v d = some hh) (i : Id) (hi : i ∈ d.normal ∨ i ∈ d.manual) (hti : (d.c i).tmo ≠ 0) :
    hh ≤ ((d.c i).la + (d.c i).tmo - d.now) + granularity ∧
    ((d.c i).la + (d.c i).tmo < d.now → hh = 0) := by
  unfold hint at heq
  split at heq
  · cases heq; exact ⟨Nat.zero_le _, fun _ => rfl⟩
  · have hc := hintCand_ok hv h hnow
    cases hcand : hintCand v d with
    | none =>
      rw [hcand] at heq; simp at heq
    | some p =>
      obtain ⟨e, ed⟩ := p
      rw [hcand] at hc heq
      simp only [Option.map_some, Option.some.injEq] at heq
      obtain ⟨a1, a2, _, a4⟩ := hc
      have hle : (d.c e).la + (d.c e).tmo ≤ (d.c i).la + (d.c i).tmo := a1 ▸ a4 i hi hti
      have g := getWait_bound_jump d.now (d.c e) (Nat.le_trans (h.laLe e) (Nat.add_le_add_left hback _))
        (Nat.lt_of_le_of_lt (Nat.le_add_right ..) hnow) (Nat.lt_trans (h.tmo_lt e) (by decide))
      subst heq
      exact ⟨Nat.le_trans g.1 (Nat.add_le_add_right (Nat.sub_le_sub_right hle _) _),
        fun hx => g.2 (Nat.lt_of_le_of_lt hle hx)⟩

theorem hint_none {v : Variant} (hv : v.hintSafe = true) {d : Daemon} (h : Inv d) (hnow : d.now + d.back < 2 ^ 62)
    (heq : hint v d = none) : pending d = false ∧ ∀ i, i ∈ d.normal ∨ i ∈ d.manual → (d.c i).tmo = 0 := by
  unfold hint at heq
  split at heq
  · cases heq
  · rename_i hp
    refine ⟨by simpa using hp, ?_⟩
    have hc := hintCand_ok hv h hnow
    cases hcand : hintCand v d with
    | none => rw [hcand] at hc; exact hc
    | some p => rw [hcand] at heq; simp at heq

end Mhd.Tmo
