/-
  C06 — proofs: what a round does before the traversal (resume_suspended_connections,
  new_connections_list_process_: `PreSpec`, `pre_stage`), the invariant `InvSP` of a select / poll daemon
  between rounds, and the round post-condition of the two loops (`round_post`).
-/
import Mhd.Proofs.LoopTrav
namespace Mhd.Loop
open Mhd.Gen.Loop
variable {W : Type}

theorem resumeOne_susp_keep {d : Daemon W} {c x : Conn W} (hx : x ∈ d.susp) (hne : x.id ≠ c.id) :
    x ∈ (resumeOne d c).susp := by
  unfold resumeOne
  split
  · exact hx
  · exact eraseConn_keep hx hne

/-- Induction along the loop of resume_suspended_connections.  The step may assume that its entry is in the suspended
    list: ids are unique, so resuming one entry leaves the entries still to come there. -/
theorem resumeSuspended_induction {P : Daemon W → Prop} {d : Daemon W} (hsn : (ids d.susp).Nodup)
    (h0 : P { d with resuming := false }) (hstep : ∀ d' c, P d' → c ∈ d'.susp → P (resumeOne d' c)) :
    P (resumeSuspended d) := by
  have fold : ∀ (work : List (Conn W)) (d' : Daemon W), P d' → (ids work).Nodup → (∀ c ∈ work, c ∈ d'.susp) →
      P (work.foldl resumeOne d') := by
    intro work
    induction work with
    | nil => intro d' h _ _; exact h
    | cons c rest ih =>
      intro d' h hnd hmem
      rw [ids_cons, List.nodup_cons] at hnd
      exact ih _ (hstep d' c h (hmem c List.mem_cons_self)) hnd.2 fun x hx =>
        resumeOne_susp_keep (hmem x (List.mem_cons_of_mem _ hx)) fun e => hnd.1 (e ▸ mem_ids hx)
  unfold resumeSuspended
  refine fold _ _ h0 ?_ fun c hc => ?_
  · split
    · rw [show ids d.susp.reverse = (ids d.susp).reverse from List.map_reverse]
      exact (List.reverse_perm _).nodup_iff.mpr hsn
    · exact List.nodup_nil
  · split at hc
    · exact List.mem_reverse.mp hc
    · cases hc

/-- what resume_suspended_connections does to a select / poll daemon: the connections marked `resuming` leave the
    suspended list for the head of the active list, mark cleared; the other fields are as before -/
structure ResumeSpec (d d' : Daemon W) : Prop where
  perm : (ids d'.conns ++ ids d'.susp).Perm (ids d.conns ++ ids d.susp)
  connsFrom : ∀ x ∈ d'.conns, x ∈ d.conns ∨ ∃ y ∈ d.susp, x = { y with resuming := false }
  suspFrom : ∀ x ∈ d'.susp, x ∈ d.susp
  oldConns : ∃ R, d'.conns = R ++ d.conns
  cleanup : d'.cleanup = d.cleanup
  newc : d'.newc = d.newc
  haveNew : d'.haveNew = d.haveNew
  shutdown : d'.shutdown = d.shutdown
  epoll : d'.epoll = d.epoll
  allowSuspend : d'.allowSuspend = d.allowSuspend
  fault : d'.fault = d.fault
  dap : d'.dap = d.dap
  log : d'.log = d.log
  eready : d'.eready = d.eready

theorem ResumeSpec.refl (d : Daemon W) : ResumeSpec d d :=
  ⟨List.Perm.refl _, fun _ h => Or.inl h, fun _ h => h, ⟨[], rfl⟩, rfl, rfl, rfl, rfl, rfl, rfl, rfl, rfl, rfl, rfl⟩

theorem ResumeSpec.trans {a b c : Daemon W} (h1 : ResumeSpec a b) (h2 : ResumeSpec b c) : ResumeSpec a c := by
  refine ⟨h2.perm.trans h1.perm, ?_, fun x h => h1.suspFrom x (h2.suspFrom x h), ?_, h2.cleanup.trans h1.cleanup,
    h2.newc.trans h1.newc, h2.haveNew.trans h1.haveNew, h2.shutdown.trans h1.shutdown, h2.epoll.trans h1.epoll,
    h2.allowSuspend.trans h1.allowSuspend, h2.fault.trans h1.fault, h2.dap.trans h1.dap, h2.log.trans h1.log,
    h2.eready.trans h1.eready⟩
  · intro x hx
    rcases h2.connsFrom x hx with h | ⟨y, hy, rfl⟩
    · exact h1.connsFrom x h
    · exact Or.inr ⟨y, h1.suspFrom y hy, rfl⟩
  · obtain ⟨R1, e1⟩ := h1.oldConns
    obtain ⟨R2, e2⟩ := h2.oldConns
    exact ⟨R2 ++ R1, by rw [e2, e1, List.append_assoc]⟩

theorem resumeOne_spec {d : Daemon W} (hep : d.epoll = false) {c : Conn W} (hc : c ∈ d.susp) :
    ResumeSpec d (resumeOne d c) := by
  unfold resumeOne
  cases hr : c.resuming
  · simp only [Bool.not_false, if_true]; exact ResumeSpec.refl d
  · simp only [Bool.not_true, Bool.false_eq_true, if_false, hep]
    refine ⟨?_, ?_, fun x hx => eraseConn_subset hx, ⟨[_], rfl⟩, rfl, rfl, rfl, rfl, hep.symm, rfl, rfl, rfl, rfl, rfl⟩
    · exact List.perm_middle.symm.trans ((eraseConn_perm (mem_ids hc)).append_left _)
    · intro x hx
      rcases List.mem_cons.mp hx with h | h
      · exact Or.inr ⟨c, hc, h⟩
      · exact Or.inl h

theorem resumeSuspended_spec_old {d : Daemon W} (hep : d.epoll = false) (hsn : (ids d.susp).Nodup) :
    ResumeSpec { d with resuming := false } (resumeSuspended d) :=
  resumeSuspended_induction hsn (ResumeSpec.refl _) fun _ _ h hc => h.trans (resumeOne_spec (h.epoll.trans hep) hc)

theorem resumeSuspended_spec {d : Daemon W} (hep : d.epoll = false) (hsn : (ids d.susp).Nodup) :
    ResumeSpec d (resumeSuspended d) :=
  have h := resumeSuspended_spec_old hep hsn
  ⟨h.perm, h.connsFrom, h.suspFrom, h.oldConns, h.cleanup, h.newc, h.haveNew, h.shutdown, h.epoll,
    h.allowSuspend, h.fault, h.dap, h.log, h.eready⟩

def newConnF (ep : Bool) (c : Conn W) : Conn W := { c with loc := { c.loc with eli := .read }, inEpollSet := ep }

theorem newConnFold (l : List (Conn W)) : ∀ (d0 : Daemon W),
    l.reverse.foldl newConnOne d0 = { d0 with conns := l.map (newConnF d0.epoll) ++ d0.conns } := by
  induction l with
  | nil => intro d0; rfl
  | cons x xs ih =>
    intro d0
    rw [List.reverse_cons, List.foldl_append, ih]
    simp [newConnOne, newConnF]

theorem newConnsProcess_eq (d : Daemon W) :
    newConnsProcess d = { d with newc := [], haveNew := false, conns := d.newc.map (newConnF d.epoll) ++ d.conns } := by
  unfold newConnsProcess
  rw [newConnFold]

theorem ids_map_newConnF (ep : Bool) (l : List (Conn W)) : ids (l.map (newConnF ep)) = ids l := by
  simp [ids, newConnF, Function.comp_def]


theorem newConns_if (d : Daemon W) (hf : d.haveNew = false → d.newc = []) :
    (if d.haveNew then newConnsProcess d else d) = newConnsProcess d := by
  cases hn : d.haveNew
  · have hnc := hf hn
    rw [newConnsProcess_eq]
    obtain ⟨_, _, _, _, _, newc, _, _, _, haveNew, _, _, _⟩ := d
    subst hn hnc
    rfl
  · rfl

/-- the invariant of a select / poll daemon between rounds -/
structure InvSP (needs : Local W → Bool) (d : Daemon W) : Prop where
  noep : d.epoll = false
  nodup : (ids d.conns ++ ids d.susp ++ ids d.cleanup ++ ids d.newc).Nodup
  valid : ∀ c, c ∈ d.conns ∨ c ∈ d.susp ∨ c ∈ d.newc → c.sockValid = true
  /-- every active connection that has work which can proceed without network input says so -/
  sync : ∀ c ∈ d.conns, Sync needs c
  /-- … and then the daemon knows it -/
  flag : ∀ c ∈ d.conns, c.loc.eli.hasProcess = true → d.dap = true
  fresh : ∀ c ∈ d.newc, c.loc.eli = .read ∧ needs c.loc = false
  newcFlag : d.haveNew = false → d.newc = []
  nocleanup : d.cleanup = []
  fault : d.fault = none

theorem visitRes_static (ops : Ops W) (ep : Bool) (rdy : Ready) (y : Conn W) : SameStatic (visitRes ops ep rdy y).c y :=
  chLocal_static _ _ _ _ _ _ _
theorem visitRes_sync {ops : Ops W} {needs : Local W → Bool} (L : Laws ops needs) (ep : Bool) (rdy : Ready) (y : Conn W)
    (h : (visitRes ops ep rdy y).wh = .active) : Sync needs (visitRes ops ep rdy y).c :=
  chLocal_sync L ep y .active _ _ _ h
theorem visitRes_dapCheck {ops : Ops W} {needs : Local W → Bool} (L : Laws ops needs) (ep : Bool) (rdy : Ready) (y : Conn W)
    (h : (visitRes ops ep rdy y).wh = .active) : (visitRes ops ep rdy y).dapCheck = true :=
  chLocal_dapCheck L ep y _ _ _ h
theorem visitRes_idled (ops : Ops W) (ep : Bool) (rdy : Ready) (y : Conn W) : Ev.idle y.id ∈ (visitRes ops ep rdy y).evs :=
  chLocal_idled _ _ _ _ _ _ _

theorem mem_fm {ops : Ops W} {ep : Bool} {rdy : Ready} {wh : Wh} {V : List (Conn W)} {x : Conn W} :
    x ∈ V.filterMap (fun y => keepIf wh (visitRes ops ep rdy y)) ↔
      ∃ y ∈ V, (visitRes ops ep rdy y).wh = wh ∧ x = (visitRes ops ep rdy y).c := by
  simp only [List.mem_filterMap, keepIf]
  constructor
  · rintro ⟨y, hy, h⟩
    split at h
    · rename_i hw; cases h; exact ⟨y, hy, hw, rfl⟩
    · cases h
  · rintro ⟨y, hy, hw, rfl⟩
    exact ⟨y, hy, by rw [if_pos hw]⟩

/-- `V` = the visited part of the active list, `P` = the part not visited, whose connections are fresh -/
theorem inv_after_trav {ops : Ops W} {needs : Local W → Bool} (L : Laws ops needs) {rdy : Ready}
    {d3 d4 : Daemon W} {P V : List (Conn W)}
    (T : TravSpec ops rdy d3 d4 P V []) (hc : d3.conns = P ++ V) (hep : d3.epoll = false)
    (hnd : (ids d3.conns ++ ids d3.susp ++ ids d3.cleanup).Nodup) (hnewc : d3.newc = [])
    (hval : ∀ c, c ∈ d3.conns ∨ c ∈ d3.susp → c.sockValid = true)
    (hP : ∀ c ∈ P, Sync needs c ∧ c.loc.eli.hasProcess = false) (hf : d3.fault = none) (hdap : d3.dap = false) :
    InvSP needs (cleanupConns d4) ∧
    (cleanupConns d4).log = V.flatMap (fun y => (visitRes ops false rdy y).evs) ++ d3.log ∧
    ∀ c ∈ (cleanupConns d4).conns, c ∈ P ∨ ∃ y ∈ V, c = (visitRes ops false rdy y).c ∧ (visitRes ops false rdy y).wh = .active := by
  have hconns : d4.conns = P ++ V.filterMap (fun y => keepIf .active (visitRes ops false rdy y)) := by
    simpa [hep] using T.conns
  have hsusp : d4.susp = V.filterMap (fun y => keepIf .susp (visitRes ops false rdy y)) ++ d3.susp := hep ▸ T.susp
  have hn4 : d4.newc = [] := T.newc.trans hnewc
  have hV : ∀ y ∈ V, (visitRes ops false rdy y).c.sockValid = true := fun y hy =>
    (visitRes_static ..).sockValid.trans (hval y (Or.inl (hc ▸ List.mem_append_right _ hy)))
  have hmemc : ∀ c ∈ d4.conns, c ∈ P ∨ ∃ y ∈ V, c = (visitRes ops false rdy y).c ∧ (visitRes ops false rdy y).wh = .active := by
    intro c hcm
    rcases List.mem_append.mp (hconns ▸ hcm) with h | h
    · exact Or.inl h
    · obtain ⟨y, hy, hw, rfl⟩ := mem_fm.mp h
      exact Or.inr ⟨y, hy, rfl, hw⟩
  refine ⟨⟨T.epoll.trans hep, ?_, ?_, ?_, ?_, (fun c hcm => nomatch (hn4 ▸ hcm : c ∈ ([] : List (Conn W)))), fun _ => hn4, rfl,
    T.fault.trans hf⟩, hep ▸ T.log, hmemc⟩
  · show (ids d4.conns ++ ids d4.susp ++ ids ([] : List (Conn W)) ++ ids d4.newc).Nodup
    rw [hn4, ids_nil, List.append_nil, List.append_nil]
    exact (List.sublist_append_left _ _).nodup (T.perm.nodup_iff.mpr hnd)
  · rintro c (h | h | h)
    · rcases hmemc c h with hp | ⟨y, hy, rfl, _⟩
      · exact hval c (Or.inl (hc ▸ List.mem_append_left _ hp))
      · exact hV y hy
    · rcases List.mem_append.mp (hsusp ▸ (h : c ∈ d4.susp)) with h | h
      · obtain ⟨y, hy, _, rfl⟩ := mem_fm.mp h
        exact hV y hy
      · exact hval c (Or.inr h)
    · exact nomatch (hn4 ▸ h : c ∈ ([] : List (Conn W)))
  · intro c hcm
    rcases hmemc c hcm with hp | ⟨y, hy, rfl, hw⟩
    · exact (hP c hp).1
    · exact visitRes_sync L false rdy y hw
  · intro c hcm hpr
    show d4.dap = true
    rw [T.dap, hdap, hep]
    rcases hmemc c hcm with hp | ⟨y, hy, rfl, hw⟩
    · rw [(hP c hp).2] at hpr; cases hpr
    · simp only [Bool.false_or, List.any_eq_true]
      exact ⟨y, hy, by rw [visitRes_dapCheck L false rdy y hw, hpr]; rfl⟩

/-- everything of a round before the handler traversal, for select and poll: resume (`R` = what it puts in front of
    the active list), (reset of data_already_pending,) new connections (`N`) -/
structure PreSpec (needs : Local W → Bool) (d d3 : Daemon W) (R N : List (Conn W)) : Prop where
  conns : d3.conns = N ++ (R ++ d.conns)
  freshN : ∀ c ∈ N, Sync needs c ∧ c.loc.eli.hasProcess = false
  epoll : d3.epoll = false
  nodup : (ids d3.conns ++ ids d3.susp ++ ids d3.cleanup).Nodup
  newc : d3.newc = []
  valid : ∀ c, c ∈ d3.conns ∨ c ∈ d3.susp → c.sockValid = true
  fault : d3.fault = none
  log : d3.log = d.log
  resumed : (if d.allowSuspend then resumeSuspended d else d).conns = R ++ d.conns
  newIds : ids N = ids d.newc ∨ N = []
  newFrom : ∀ x ∈ N, ∃ y ∈ d.newc, x.loc.st = y.loc.st

theorem newConnF_loc (ep : Bool) {y : Conn W} (h : y.loc.eli = .read) : (newConnF ep y).loc = y.loc := by
  unfold newConnF
  rw [← h]

def preStage (d : Daemon W) : Daemon W :=
  let d1 := if d.allowSuspend then resumeSuspended d else d
  let d2 := { d1 with dap := false }
  if d2.haveNew then newConnsProcess d2 else d2

theorem pre_stage {needs : Local W → Bool} {d : Daemon W} (h : InvSP needs d) :
    ∃ R N, PreSpec needs d (preStage d) R N ∧ (preStage d).dap = false := by
  have h0 := h.nodup
  rw [h.nocleanup, ids_nil, List.append_nil] at h0
  have RS : ResumeSpec d (if d.allowSuspend then resumeSuspended d else d) := by
    split
    · exact resumeSuspended_spec h.noep (List.nodup_append.mp (List.nodup_append.mp h0).1).2.1
    · exact ResumeSpec.refl d
  obtain ⟨R, hR⟩ := RS.oldConns
  have hres := hR
  have hpre : preStage d = _ := (newConns_if { (if d.allowSuspend then resumeSuspended d else d) with dap := false }
    fun hn => RS.newc.trans (h.newcFlag (RS.haveNew ▸ hn))).trans (newConnsProcess_eq _)
  generalize (if d.allowSuspend then resumeSuspended d else d) = d1 at RS hR hpre
  have hep1 : d1.epoll = false := RS.epoll.trans h.noep
  have hvalid1 : ∀ c, c ∈ d1.conns ∨ c ∈ d1.susp → c.sockValid = true := by
    intro c hc
    rcases hc with hc | hc
    · rcases RS.connsFrom c hc with h1 | ⟨y, hy, rfl⟩
      · exact h.valid c (Or.inl h1)
      · exact h.valid y (Or.inr (Or.inl hy))
    · exact h.valid c (Or.inr (Or.inl (RS.suspFrom c hc)))
  have hnd1 : (ids d.newc ++ (ids d1.conns ++ ids d1.susp)).Nodup :=
    (List.perm_append_comm.trans (RS.perm.append_right _)).nodup_iff.mpr h0
  rw [hpre]
  refine ⟨R, d.newc.map (newConnF false), ⟨?_, ?_, hep1, ?_, rfl, ?_, RS.fault.trans h.fault, RS.log, hres,
    Or.inl (ids_map_newConnF _ _), fun x hx => ?_⟩, rfl⟩
  · show List.map (newConnF d1.epoll) d1.newc ++ d1.conns = _
    rw [hep1, RS.newc, hR]
  · intro c hc
    obtain ⟨y, hy, rfl⟩ := List.mem_map.mp hc
    have hf := h.fresh y hy
    rw [Sync, newConnF_loc false hf.1]
    refine ⟨fun hn => ?_, hf.1 ▸ hasProcess_read⟩
    rw [hf.2] at hn; cases hn
  · show (ids (List.map (newConnF d1.epoll) d1.newc ++ d1.conns) ++ ids d1.susp ++ ids d1.cleanup).Nodup
    rw [RS.cleanup, h.nocleanup, RS.newc, ids_append, ids_map_newConnF]
    simpa [List.append_assoc] using hnd1
  · intro c hc
    have hc' : c ∈ List.map (newConnF d1.epoll) d1.newc ++ d1.conns ∨ c ∈ d1.susp := hc
    rcases hc' with hc' | hc'
    · rcases List.mem_append.mp hc' with h1 | h1
      · obtain ⟨y, hy, rfl⟩ := List.mem_map.mp h1
        exact h.valid y (Or.inr (Or.inr (RS.newc ▸ hy)))
      · exact hvalid1 c (Or.inl h1)
    · exact hvalid1 c (Or.inr hc')
  · obtain ⟨y, hy, rfl⟩ := List.mem_map.mp hx
    exact ⟨y, hy, rfl⟩

def rsStage (d : Daemon W) : Daemon W := if d.allowSuspend then resumeSuspended d else d

def pollStage (d : Daemon W) : Daemon W :=
  { (if (rsStage d).haveNew then newConnsProcess (rsStage d) else rsStage d) with dap := false }

theorem pollAllWith_eq (ops : Ops W) (d : Daemon W) (rdy : Ready) :
    pollAllWith ops true d rdy =
      cleanupConns (pollTrav ops true ((rsStage d).conns.reverse.map (·.id)) rdy ((pollStage d).conns.length + 1) 0
        (tailId (pollStage d).conns) (pollStage d)) := rfl

theorem pollStage_eq (d : Daemon W) : pollStage d = preStage d := by
  unfold pollStage preStage rsStage
  simp only []
  generalize (if d.allowSuspend then resumeSuspended d else d) = d1
  cases hn : d1.haveNew
  · simp [hn]
  · simp only [if_true]
    rw [newConnsProcess_eq, newConnsProcess_eq]

/-- A round of either loop, with the next pointer saved before the call: the stages before the traversal, the
    traversal over `V`, the cleanup.  The select loop visits the whole active list; the poll loop visits what was
    in the array (`R ++ d.conns`), not the connections `N` added in this round. -/
theorem round_trav (ops : Ops W) {needs : Local W → Bool} {d : Daemon W} (h : InvSP needs d) (rdy : Ready) (poll : Bool) :
    ∃ R N P V d4, PreSpec needs d (preStage d) R N ∧ (preStage d).dap = false ∧ (preStage d).conns = P ++ V ∧
      (P = [] ∨ P = N) ∧ (poll = false → P = []) ∧ (∀ c ∈ d.conns, c ∈ V) ∧
      TravSpec ops rdy (preStage d) d4 P V [] ∧
      (if poll then pollAllWith ops true d rdy else runFromSelectWith ops true d rdy) = cleanupConns d4 := by
  obtain ⟨R, N, PS, hdap⟩ := pre_stage h
  cases poll
  · exact ⟨R, N, [], _, _, PS, hdap, rfl, Or.inl rfl, fun _ => rfl,
      fun c hc => by show c ∈ (preStage d).conns; rw [PS.conns]; exact List.mem_append_right _ (List.mem_append_right _ hc),
      selectTrav_closed ops rdy _ (preStage d).conns [] (preStage d) (List.append_nil _).symm PS.nodup
        (Nat.le_succ _) fun x hx => PS.valid x (Or.inl hx), rfl⟩
  · refine ⟨R, N, N, R ++ d.conns, pollTrav ops true ((R ++ d.conns).reverse.map (·.id)) rdy ((preStage d).conns.length + 1) 0
      (tailId (preStage d).conns) (preStage d), PS, hdap, PS.conns, Or.inr rfl, (fun h => nomatch h),
      fun c hc => List.mem_append_right _ hc, ?_, ?_⟩
    · have := pollTrav_closed ops rdy ((R ++ d.conns).reverse.map (·.id)) ((preStage d).conns.length + 1) (R ++ d.conns) [] N
        (preStage d) 0 (by rw [PS.conns, List.append_nil]) PS.nodup (by rw [PS.conns, List.length_append (as := N)]; omega)
        (by simp [ids, List.map_reverse])
      rwa [← PS.conns] at this
    · show pollAllWith ops true d rdy = _
      rw [pollAllWith_eq, pollStage_eq, show (rsStage d).conns = R ++ d.conns from PS.resumed]

/-- A round of the select loop (`poll = false`) or of the poll loop.  Connections added during a round of the poll
    loop are not in the poll array and are not visited; they are fresh (waiting for their first bytes). -/
theorem round_post {ops : Ops W} {needs : Local W → Bool} (L : Laws ops needs) {d : Daemon W}
    (h : InvSP needs d) (rdy : Ready) (poll : Bool) :
    InvSP needs (if poll then pollAllWith ops true d rdy else runFromSelectWith ops true d rdy) ∧
    ∃ pre, (if poll then pollAllWith ops true d rdy else runFromSelectWith ops true d rdy).log = pre ++ d.log ∧
      ∀ c ∈ (if poll then pollAllWith ops true d rdy else runFromSelectWith ops true d rdy).conns,
        (poll = true ∧ c.id ∈ ids d.newc) ∨ Ev.idle c.id ∈ pre := by
  obtain ⟨R, N, P, V, d4, PS, hdap, hc, hP, hsel, _, T, e⟩ := round_trav ops h rdy poll
  have hPN : ∀ c ∈ P, c ∈ N := fun c hc => by
    rcases hP with rfl | rfl
    · cases hc
    · exact hc
  rw [e]
  have := inv_after_trav L T hc PS.epoll PS.nodup PS.newc PS.valid (fun c hc => PS.freshN c (hPN c hc)) PS.fault hdap
  refine ⟨this.1, _, by rw [this.2.1, PS.log], fun c hc => ?_⟩
  rcases this.2.2 c hc with hp | ⟨y, hy, rfl, _⟩
  · left
    cases poll
    · rw [hsel rfl] at hp; cases hp
    · refine ⟨rfl, ?_⟩
      rcases PS.newIds with hN | hN
      · rw [← hN]; exact mem_ids (hPN c hp)
      · rw [hN] at hPN; cases hPN c hp
  · right
    rw [(visitRes_static _ _ _ _).id]
    exact List.mem_flatMap.mpr ⟨y, hy, visitRes_idled _ _ _ _⟩

end Mhd.Loop
