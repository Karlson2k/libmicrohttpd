/-
  C19: the decoder neither reads nor writes the rng script (when it does not have to generate
  masked close frames, `NoDraw`), the encoders write nothing but the rng script — so encoder
  calls between decoder calls do not change what the decoder returns (`sessionI_eq_session`).
-/
import Mhd.Proofs.WSSplit
namespace Mhd.WS

abbrev WS.setRng (ws : WS) (r : List UInt8) : WS := { ws with rng := r }

def R.setRng (r : List UInt8) : R → R
  | .cont ws k => .cont (ws.setRng r) k
  | .ret ws st k pl plen => .ret (ws.setRng r) st k pl plen
  | .fault s => .fault s

def R.flagsEq (f : Nat) : R → Prop
  | .cont ws _ => ws.flags = f
  | .ret ws _ _ _ _ => ws.flags = f
  | .fault _ => True

/-- `a` is `b` with the rng script `r`, and `b` ends with the flags `f`: the step that produced
    them neither read nor wrote the rng script and left the flags alone -/
def RngFree (r : List UInt8) (f : Nat) (a b : R) : Prop := a = b.setRng r ∧ b.flagsEq f

/-- the decoder never draws from the rng: it does not generate close frames on errors, or it is a
    server (whose frames are not masked) -/
def NoDraw (ws : WS) : Prop := ws.genCloseFlag = false ∨ ws.isClient = false

theorem NoDraw.of_flags {a b : WS} (h : a.flags = b.flags) (hg : NoDraw b) : NoDraw a := by
  unfold NoDraw WS.genCloseFlag WS.isClient at *; rw [h]; exact hg

theorem genClose_noDraw {ws : WS} (h : NoDraw ws) (c : Nat) : (genClose ws c).1 = ws := by
  unfold genClose
  split
  · rename_i hg
    have hc : ws.isClient = false := h.resolve_left (by rw [hg]; decide)
    rw [encodeClose_nil]
    refine iteInduction (motive := fun x : EncRes => x.ws = ws) (fun _ => rfl) (fun _ => ?_)
    rw [encodeFrame_ws_eq, maskFor_server hc]
  · rfl

theorem errRet_rng (r : List UInt8) (ws : WS) (hg : NoDraw ws) (c : Nat) (st : Int) (adv : Nat) :
    RngFree r ws.flags (errRet (ws.setRng r) c st adv) (errRet ws c st adv) := by
  have h0 : NoDraw { ws with validity := 0 } := hg
  have h0' : NoDraw (({ ws with validity := 0 } : WS).setRng r) := hg
  have e := genClose_congr (({ ws with validity := 0 } : WS).setRng r) { ws with validity := 0 } c rfl
    (fun hgc hcl => absurd hcl (by rw [h0'.resolve_left (by rw [hgc]; decide)]; decide)) rfl
  refine ⟨?_, ?_⟩
  · show R.ret (genClose (({ ws with validity := 0 } : WS).setRng r) c).1 st adv _ _ = _
    rw [genClose_noDraw h0', e]
    show _ = R.ret ((genClose ({ ws with validity := 0 } : WS) c).1.setRng r) st adv _ _
    rw [genClose_noDraw h0]
  · show (genClose ({ ws with validity := 0 } : WS) c).1.flags = ws.flags
    rw [genClose_noDraw h0]

theorem RngFree.ite {r : List UInt8} {f : Nat} {c : Prop} [Decidable c] {a a' b b' : R}
    (h1 : c → RngFree r f a' a) (h2 : ¬ c → RngFree r f b' b) :
    RngFree r f (if c then a' else b') (if c then a else b) := by
  split
  · exact h1 ‹_›
  · exact h2 ‹_›

theorem RngFree.of_eq {r : List UInt8} {f : Nat} {a b : WS} (F : WS → R) (h : ∀ w : WS, RngFree r w.flags (F (w.setRng r)) (F w))
    (hab : a = b.setRng r) (hf : b.flags = f) : RngFree r f (F a) (F b) := by
  subst hab hf; exact h b

theorem startGood_rng (r : List UInt8) (ws : WS) (b : UInt8) :
    RngFree r ws.flags (startGood (ws.setRng r) b) (startGood ws b) := by
  unfold startGood
  rw [pushHdr_eq, pushHdr_eq]
  by_cases hl : ws.hdrSize < ws.hdr.length
  · rw [if_pos hl, if_pos (show (ws.setRng r).hdrSize < (ws.setRng r).hdr.length from hl)]; exact ⟨rfl, rfl⟩
  · rw [if_neg hl, if_neg (show ¬ (ws.setRng r).hdrSize < (ws.setRng r).hdr.length from hl)]; exact ⟨rfl, trivial⟩

theorem stepStart_rng (r : List UInt8) (ws : WS) (hg : NoDraw ws) (b : UInt8) :
    RngFree r ws.flags (stepStart (ws.setRng r) b) (stepStart ws b) := by
  rw [stepStart_eq, stepStart_eq]
  refine .ite (fun _ => errRet_rng r ws hg _ _ _) (fun _ => ?_)
  by_cases h8 : ws.validity ≠ 0 ∧ opcodeOf b = 8
  · rw [if_pos h8, if_pos (show (ws.setRng r).validity ≠ 0 ∧ opcodeOf b = 8 from h8)]
    exact startGood_rng r { ws with validity := 2 } b
  · rw [if_neg h8, if_neg (show ¬ ((ws.setRng r).validity ≠ 0 ∧ opcodeOf b = 8) from h8)]
    exact startGood_rng r ws b

theorem afterLength_setRng (r : List UInt8) (ws : WS) (size : Nat) (masked : Bool) :
    afterLength (ws.setRng r) size masked = (afterLength ws size masked).setRng r ∧
    (afterLength ws size masked).flags = ws.flags := by
  unfold afterLength; split <;> exact ⟨rfl, rfl⟩

theorem sizeKnown_rng (r : List UInt8) (ws : WS) (hg : NoDraw ws) (size : Nat) (masked : Bool) :
    RngFree r ws.flags (sizeKnown (ws.setRng r) size masked) (sizeKnown ws size masked) := by
  obtain ⟨h1, h2⟩ := afterLength_setRng r ws size masked
  exact .ite (fun _ => errRet_rng r ws hg _ _ _) (fun _ => ⟨by rw [h1]; rfl, h2⟩)

theorem stepLen1_rng (r : List UInt8) (ws : WS) (hg : NoDraw ws) (b : UInt8) :
    RngFree r ws.flags (stepLen1 (ws.setRng r) b) (stepLen1 ws b) := by
  cases hh : ws.hdr[0]? with
  | none =>
    unfold stepLen1
    rw [hh]
    exact ⟨rfl, trivial⟩
  | some h0 =>
    rw [stepLen1_eq hh, stepLen1_eq (show (ws.setRng r).hdr[0]? = some h0 from hh)]
    exact .ite (fun _ => errRet_rng r ws hg _ _ _) (fun _ => .ite (fun _ => .ite (fun _ => ⟨rfl, rfl⟩)
      (fun _ => .ite (fun _ => ⟨rfl, rfl⟩) (fun _ => sizeKnown_rng r (pushed ws b) hg _ _))) (fun _ => ⟨rfl, trivial⟩))

theorem stepStore_rng (r : List UInt8) (ws : WS) (b : UInt8) :
    RngFree r ws.flags (stepStore (ws.setRng r) b) (stepStore ws b) := by
  rw [stepStore_eq, stepStore_eq]
  exact .ite (fun _ => ⟨rfl, rfl⟩) (fun _ => ⟨rfl, trivial⟩)

theorem stepLen2of2_rng (r : List UInt8) (ws : WS) (hg : NoDraw ws) (b : UInt8) :
    RngFree r ws.flags (stepLen2of2 (ws.setRng r) b) (stepLen2of2 ws b) := by
  rw [stepLen2of2_eq, stepLen2of2_eq]
  exact .ite (fun _ => .ite (fun _ => errRet_rng r (pushed ws b) hg _ _ _) (fun _ => sizeKnown_rng r (pushed ws b) hg _ _))
    (fun _ => ⟨rfl, trivial⟩)

theorem stepLen8of8_rng (r : List UInt8) (ws : WS) (hg : NoDraw ws) (b : UInt8) :
    RngFree r ws.flags (stepLen8of8 (ws.setRng r) b) (stepLen8of8 ws b) := by
  rw [stepLen8of8_eq, stepLen8of8_eq]
  exact .ite (fun _ => .ite (fun _ => errRet_rng r { pushed ws b with step := 99 } hg _ _ _)
    (fun _ => .ite (fun _ => errRet_rng r (pushed ws b) hg _ _ _) (fun _ => sizeKnown_rng r (pushed ws b) hg _ _)))
    (fun _ => ⟨rfl, trivial⟩)

theorem stepMask4_rng (r : List UInt8) (ws : WS) (b : UInt8) :
    RngFree r ws.flags (stepMask4 (ws.setRng r) b) (stepMask4 ws b) := by
  unfold stepMask4
  rw [pushHdr_eq, pushHdr_eq]
  by_cases hl : ws.hdrSize < ws.hdr.length
  · rw [if_pos hl, if_pos (show (ws.setRng r).hdrSize < (ws.setRng r).hdr.length from hl)]
    refine .ite (fun _ => ⟨rfl, trivial⟩) (fun _ => ?_)
    rw [show hdrBytes (pushed (ws.setRng r) b) ((pushed (ws.setRng r) b).hdrSize - 4) 4 =
      hdrBytes (pushed ws b) ((pushed ws b).hdrSize - 4) 4 from rfl]
    cases hdrBytes (pushed ws b) ((pushed ws b).hdrSize - 4) 4 with
    | none => exact ⟨rfl, trivial⟩
    | some k => exact ⟨rfl, rfl⟩
  · rw [if_neg hl, if_neg (show ¬ (ws.setRng r).hdrSize < (ws.setRng r).hdr.length from hl)]; exact ⟨rfl, trivial⟩

theorem withBuf_rng {r : List UInt8} {f : Nat} {a : Option (List UInt8)} {n : Nat} {oom' oom : R}
    {ks' ks : List UInt8 → R} {kn' kn : R} (ho : RngFree r f oom' oom) (hs : ∀ nb', RngFree r f (ks' nb') (ks nb'))
    (hn : RngFree r f kn' kn) : RngFree r f (withBuf a n oom' ks' kn') (withBuf a n oom ks kn) := by
  unfold withBuf
  refine .ite (fun _ => ?_) (fun _ => hn)
  cases a with
  | none => exact ho
  | some nb =>
    dsimp only
    cases termAt nb n with
    | none => exact ⟨rfl, trivial⟩
    | some nb' => exact hs nb'

theorem headerComplete_rng (r : List UInt8) (ws : WS) (hg : NoDraw ws) :
    RngFree r ws.flags (headerComplete false (ws.setRng r)) (headerComplete false ws) := by
  cases hh : ws.hdr[0]? with
  | none =>
    unfold headerComplete
    rw [hh]
    exact ⟨rfl, trivial⟩
  | some h0 =>
    have hh' : (ws.setRng r).hdr[0]? = some h0 := hh
    have hcl : opcodeOf h0 = 0 ∨ (opcodeOf h0 = 1 ∨ opcodeOf h0 = 2) ∨
        (opcodeOf h0 = 8 ∨ opcodeOf h0 = 9 ∨ opcodeOf h0 = 10) ∨
        (opcodeOf h0 ≠ 0 ∧ opcodeOf h0 ≠ 1 ∧ opcodeOf h0 ≠ 2 ∧ opcodeOf h0 ≠ 8 ∧ opcodeOf h0 ≠ 9 ∧ opcodeOf h0 ≠ 10) := by
      omega
    rcases hcl with hop | hop | hop | hop
    · rw [headerComplete_of_cont false hh hop, headerComplete_of_cont false hh' hop]
      exact .ite (fun _ => errRet_rng r { ws with step := 99 } hg _ _ _)
        (fun _ => withBuf_rng ⟨rfl, rfl⟩ (fun _ => ⟨rfl, rfl⟩) ⟨rfl, rfl⟩)
    · rw [headerComplete_of_data false hh hop, headerComplete_of_data false hh' hop]
      exact withBuf_rng ⟨rfl, rfl⟩ (fun _ => ⟨rfl, rfl⟩) ⟨rfl, rfl⟩
    · rw [headerComplete_of_ctrl false hh hop, headerComplete_of_ctrl false hh' hop]
      exact withBuf_rng ⟨rfl, rfl⟩ (fun _ => ⟨rfl, rfl⟩) ⟨rfl, rfl⟩
    · unfold headerComplete
      rw [hh]
      dsimp only
      split <;> first | omega | exact ⟨rfl, trivial⟩

theorem payloadComplete_rng (r : List UInt8) (ws : WS) (hg : NoDraw ws) :
    RngFree r ws.flags (payloadComplete false (ws.setRng r)) (payloadComplete false ws) := by
  unfold payloadComplete
  cases hh : ws.hdr[0]? with
  | none => exact ⟨rfl, trivial⟩
  | some h0 =>
    simp only [WS.setRng, alloc]
    refine .ite (fun _ => .ite (fun _ => .ite (fun _ => errRet_rng r ws hg _ _ _) (fun _ => ⟨rfl, rfl⟩))
      (fun _ => .ite (fun _ => errRet_rng r ws hg _ _ _) (fun _ => ⟨rfl, rfl⟩)))
      (fun _ => .ite (fun _ => .ite (fun _ => .ite (fun _ => ?_) (fun _ => ⟨rfl, rfl⟩)) (fun _ => ⟨rfl, rfl⟩))
        (fun _ => ⟨rfl, rfl⟩))
    -- the last bytes of an unfinished character move to a buffer of their own
    split
    · exact ⟨rfl, rfl⟩
    · split
      · exact ⟨rfl, trivial⟩
      · refine .ite (fun _ => ⟨rfl, trivial⟩) (fun _ => ?_)
        split
        · exact ⟨rfl, rfl⟩
        · exact ⟨rfl, trivial⟩

theorem payloadFinish_rng (r : List UInt8) (take : Nat) (ws : WS) (hg : NoDraw ws) :
    RngFree r ws.flags (payloadFinish false take (ws.setRng r)) (payloadFinish false take ws) := by
  obtain ⟨h1, h2⟩ := payloadComplete_rng r ws hg
  unfold payloadFinish
  refine .ite (fun _ => ?_) (fun _ => ⟨rfl, rfl⟩)
  rw [h1]
  revert h2
  cases payloadComplete false ws <;> exact fun h2 => ⟨rfl, h2⟩

def UCheck.setRng (r : List UInt8) : UCheck → UCheck
  | .pass w => .pass (w.setRng r)
  | .bad a => .bad a
  | .fault => .fault

def UCheck.flagsEq (f : Nat) : UCheck → Prop
  | .pass w => w.flags = f
  | _ => True

theorem utf8OfPayload_rng (r : List UInt8) (ws : WS) (buf : List UInt8) (base idx0 take : Nat) :
    utf8OfPayload false (ws.setRng r) buf base idx0 take = (utf8OfPayload false ws buf base idx0 take).setRng r ∧
    (utf8OfPayload false ws buf base idx0 take).flagsEq ws.flags := by
  unfold utf8OfPayload
  simp only [Bool.false_eq_true, if_false]
  split
  · split
    · exact ⟨rfl, trivial⟩
    · exact ⟨rfl, trivial⟩
    · exact ⟨rfl, rfl⟩
  · split
    · exact ⟨rfl, trivial⟩
    · exact ⟨rfl, trivial⟩
    · exact ⟨rfl, rfl⟩

theorem payloadAdvance_setRng (r : List UInt8) (ws : WS) (buf' : List UInt8) (take : Nat) :
    payloadAdvance (ws.setRng r) buf' take = (payloadAdvance ws buf' take).setRng r ∧
    (payloadAdvance ws buf' take).flags = ws.flags := by
  unfold payloadAdvance
  split <;> exact ⟨rfl, rfl⟩

theorem stepPayload_rng (r : List UInt8) (ws : WS) (hg : NoDraw ws) (rest : List UInt8) :
    RngFree r ws.flags (stepPayload false (ws.setRng r) rest) (stepPayload false ws rest) := by
  unfold stepPayload
  dsimp only
  generalize min ((ws.payloadSize + W - ws.payloadIndex) % W) rest.length = take
  refine .ite (fun _ => ?_) (fun _ => payloadFinish_rng r take ws hg)
  cases ws.hdr[0]? with
  | none => exact ⟨rfl, trivial⟩
  | some h0 =>
    dsimp only
    cases (if ws.step = 17 then ws.dataBuf else ws.ctrlBuf) with
    | none => exact ⟨rfl, trivial⟩
    | some buf =>
      dsimp only
      cases writeAt buf ((if ws.step = 17 then ws.dataStart else 0) + ws.payloadIndex)
          (copyPayload (rest.take take) ws.maskKey (ws.payloadIndex % 4)) with
      | none => exact ⟨rfl, trivial⟩
      | some buf' =>
        dsimp only
        obtain ⟨h1, h2⟩ := payloadAdvance_setRng r ws buf' take
        rw [h1, ← h2]
        have hg1 : NoDraw (payloadAdvance ws buf' take) := .of_flags h2 hg
        generalize payloadAdvance ws buf' take = w1 at hg1 ⊢
        refine .ite (fun _ => ?_) (fun _ => payloadFinish_rng r take w1 hg1)
        obtain ⟨hU, hF⟩ := utf8OfPayload_rng r w1 buf' (if ws.step = 17 then ws.dataStart else 0) ws.payloadIndex take
        rw [hU]
        revert hF
        cases utf8OfPayload false w1 buf' (if ws.step = 17 then ws.dataStart else 0) ws.payloadIndex take with
        | pass w2 => exact fun (hF : w2.flags = w1.flags) => hF ▸ payloadFinish_rng r take w2 (.of_flags hF hg1)
        | bad a => exact fun _ => errRet_rng r w1 hg1 _ _ _
        | fault => exact fun _ => ⟨rfl, trivial⟩

theorem iter_rng (r : List UInt8) (ws : WS) (hg : NoDraw ws) (rest : List UInt8) :
    RngFree r ws.flags (iter false (ws.setRng r) rest) (iter false ws rest) := by
  cases rest with
  | nil => exact ⟨rfl, trivial⟩
  | cons b t =>
    have h16 : RngFree r ws.flags (hcTrip (ws.setRng r)) (hcTrip ws) := by
      obtain ⟨h1, h2⟩ := headerComplete_rng r ws hg
      unfold hcTrip
      rw [h1]
      revert h2
      cases headerComplete false ws <;> exact fun h2 => ⟨rfl, h2⟩
    unfold iter
    dsimp only
    -- one goal per case of the `switch`, in the order of the model
    split
    next => exact stepStart_rng r ws hg b                -- 0
    next => exact stepLen1_rng r ws hg b                 -- 1
    iterate 11 next => exact stepStore_rng r ws b        -- 2, 4 … 10, 12 … 14
    next => exact stepLen2of2_rng r ws hg b              -- 3
    next => exact stepLen8of8_rng r ws hg b              -- 11
    next => exact stepMask4_rng r ws b                   -- 15
    next => exact h16                                    -- 16
    next => exact stepPayload_rng r ws hg (b :: t)       -- 17
    next => exact stepPayload_rng r ws hg (b :: t)       -- 18
    next => exact ⟨rfl, rfl⟩                             -- 99
    next => exact ⟨rfl, trivial⟩                         -- no case

theorem tailAfter_rng (r : List UInt8) (ws : WS) (hg : NoDraw ws) (cur : Nat) :
    RngFree r ws.flags (tailAfter false (ws.setRng r) cur) (tailAfter false ws cur) := by
  obtain ⟨h1, h2⟩ := payloadComplete_rng r ws hg
  unfold tailAfter
  refine .ite (fun _ => ?_) (fun _ => ⟨rfl, rfl⟩)
  rw [h1]
  revert h2
  cases payloadComplete false ws <;> exact fun h2 => ⟨rfl, h2⟩

theorem tail_rng (r : List UInt8) (ws : WS) (hg : NoDraw ws) (cur : Nat) :
    RngFree r ws.flags (tail false (ws.setRng r) cur) (tail false ws cur) := by
  obtain ⟨h1, h2⟩ := headerComplete_rng r ws hg
  unfold tail
  refine .ite (fun _ => ?_) (fun _ => tailAfter_rng r ws hg cur)
  rw [h1]
  revert h2
  cases headerComplete false ws with
  | cont w k => exact fun (h2 : w.flags = ws.flags) => h2 ▸ tailAfter_rng r w (.of_flags h2 hg) cur
  | ret w st k pl plen => exact fun h2 => ⟨rfl, h2⟩
  | fault s => exact fun _ => ⟨rfl, trivial⟩

theorem loop_rng (r : List UInt8) (fuel : Nat) : ∀ (ws : WS), NoDraw ws → ∀ (rest : List UInt8) (cur : Nat),
    RngFree r ws.flags (loop false fuel (ws.setRng r) rest cur) (loop false fuel ws rest cur) := by
  induction fuel with
  | zero => intro ws _ rest cur; exact ⟨rfl, trivial⟩
  | succ n ih =>
    intro ws hg rest cur
    unfold loop
    refine .ite (fun _ => tail_rng r ws hg cur) (fun _ => ?_)
    obtain ⟨h1, h2⟩ := iter_rng r ws hg rest
    rw [h1]
    revert h2
    cases iter false ws rest with
    | cont w k => exact fun (h2 : w.flags = ws.flags) => h2 ▸ ih w (.of_flags h2 hg) (rest.drop k) (cur + k)
    | ret w st k pl plen => exact fun h2 => ⟨rfl, h2⟩
    | fault s => exact fun _ => ⟨rfl, trivial⟩

theorem decode_rng (r : List UInt8) (ws : WS) (hg : NoDraw ws) (buf : List UInt8) :
    RngFree r ws.flags (decode false (ws.setRng r) buf) (decode false ws buf) := by
  unfold decode
  exact .ite (fun _ => ⟨rfl, rfl⟩) (fun _ => loop_rng r _ ws hg buf 0)

theorem feedLoop_rng (r : List UInt8) (budget : Nat) : ∀ (ws : WS), NoDraw ws → ∀ (rest : List UInt8) (acc : List Call),
    feedLoop false budget (ws.setRng r) rest acc =
      ((feedLoop false budget ws rest acc).1.setRng r, (feedLoop false budget ws rest acc).2) ∧
    (feedLoop false budget ws rest acc).1.flags = ws.flags := by
  induction budget with
  | zero => intro ws _ rest acc; exact ⟨rfl, rfl⟩
  | succ n ih =>
    intro ws hg rest acc
    unfold feedLoop
    by_cases hr : rest = []
    · rw [if_pos hr, if_pos hr]; exact ⟨rfl, rfl⟩
    · rw [if_neg hr, if_neg hr]
      obtain ⟨h1, h2⟩ := decode_rng r ws hg rest
      rw [h1]
      revert h2
      cases decode false ws rest with
      | cont w k => intro h2; exact ⟨rfl, h2⟩
      | fault s => intro _; exact ⟨rfl, rfl⟩
      | ret w st rd pl plen =>
        intro h2
        have h2' : w.flags = ws.flags := h2
        simp only [R.setRng]
        by_cases hneg : st < 0
        · rw [if_pos hneg, if_pos hneg]; exact ⟨rfl, h2'⟩
        · rw [if_neg hneg, if_neg hneg]
          obtain ⟨a, b⟩ := ih w (NoDraw.of_flags h2' hg) (rest.drop rd) (⟨st, rd, pl, plen⟩ :: acc)
          exact ⟨a, b.trans h2'⟩

theorem encodeData_ws (ws : WS) (p : List UInt8) (frag op : Nat) : SameButRng ws (encodeData ws p frag op).ws := by
  unfold encodeData
  dsimp only
  split
  · exact SameButRng.refl _
  · exact encodeFrame_ws _ _ _ _

theorem encodeBinary_ws (ws : WS) (p : List UInt8) (frag : Nat) : SameButRng ws (encodeBinary ws p frag).ws := by
  unfold encodeBinary
  exact .ite (.refl _) (.ite (.refl _) (encodeData_ws _ _ _ _))

theorem encodeText_ws (ws : WS) (p : List UInt8) (frag : Nat) (st : Option Nat) :
    SameButRng ws (encodeText ws p frag st).1.ws := by
  have ite : ∀ {c : Prop} [Decidable c] {a b : EncRes × Option Nat}, SameButRng ws a.1.ws → SameButRng ws b.1.ws →
      SameButRng ws (if c then a else b).1.ws :=
    fun ha hb => iteInduction (motive := fun x : EncRes × Option Nat => SameButRng ws x.1.ws) (fun _ => ha) (fun _ => hb)
  unfold encodeText
  dsimp only
  refine ite (.refl _) (ite (.refl _) ?_)
  split
  · exact .refl _
  · exact ite (.refl _) (encodeData_ws _ _ _ _)

theorem encodePingPong_ws (ws : WS) (p : List UInt8) (op : Nat) : SameButRng ws (encodePingPong ws p op).ws := by
  unfold encodePingPong
  exact .ite (.refl _) (encodeFrame_ws _ _ _ _)

/-- one call of an encoder of the public API -/
inductive Enc where
  | text (p : List UInt8) (frag : Nat) (utf8Step : Option Nat)     -- MHD_websocket_encode_text
  | binary (p : List UInt8) (frag : Nat)                            -- MHD_websocket_encode_binary
  | ping (p : List UInt8)                                            -- MHD_websocket_encode_ping
  | pong (p : List UInt8)                                            -- MHD_websocket_encode_pong
  | close (code : Nat) (reason : List UInt8)                         -- MHD_websocket_encode_close
  deriving Repr, DecidableEq

def Enc.run (ws : WS) : Enc → EncRes
  | .text p f s => (encodeText ws p f s).1
  | .binary p f => encodeBinary ws p f
  | .ping p => encodePingPong ws p 9
  | .pong p => encodePingPong ws p 10
  | .close c reason => encodeClose ws c reason

theorem Enc.run_ws (ws : WS) (e : Enc) : SameButRng ws (e.run ws).ws := by
  cases e
  · exact encodeText_ws _ _ _ _
  · exact encodeBinary_ws _ _ _
  · exact encodePingPong_ws _ _ _
  · exact encodePingPong_ws _ _ _
  · exact encodeClose_ws _ _ _

/-- what the application does with its stream: hand a received chunk to the decode loop, or
    encode a frame of its own -/
inductive Op where
  | feed (chunk : List UInt8)
  | enc (e : Enc)
  deriving Repr, DecidableEq

/-- what the application sees of the decoder (as `session`) when it also calls encoders on the
    same stream in between -/
def sessionI : WS → List Op → List Ev
  | _, [] => []
  | ws, .feed c :: r =>
    let f := feed false ws c
    evsOf f.2.1 ++ (if f.2.2 = .consumed then sessionI f.1 r else [])
  | ws, .enc e :: r => sessionI (e.run ws).ws r

def feedsOf : List Op → List (List UInt8)
  | [] => []
  | .feed c :: r => c :: feedsOf r
  | .enc _ :: r => feedsOf r

theorem sessionI_rng (ops : List Op) : ∀ (ws : WS) (r : List UInt8), NoDraw ws →
    sessionI (ws.setRng r) ops = session ws (feedsOf ops) := by
  induction ops with
  | nil => intro ws r _; rfl
  | cons o rest ih =>
    intro ws r hg
    cases o with
    | enc e =>
      obtain ⟨r', hr'⟩ := Enc.run_ws (ws.setRng r) e
      show sessionI (e.run (ws.setRng r)).ws rest = _
      rw [hr']
      exact ih ws r' hg
    | feed c =>
      obtain ⟨h1, h2⟩ := feedLoop_rng r (c.length + 9) ws hg c []
      show (let f := feed false (ws.setRng r) c; evsOf f.2.1 ++ (if f.2.2 = .consumed then sessionI f.1 rest else [])) =
        (let f := feed false ws c; evsOf f.2.1 ++ (if f.2.2 = .consumed then sessionG false f.1 (feedsOf rest) else []))
      have hf : feed false (ws.setRng r) c = ((feed false ws c).1.setRng r, (feed false ws c).2) := h1
      simp only [hf]
      congr 1
      split
      · exact ih _ r (NoDraw.of_flags h2 hg)
      · rfl

theorem sessionI_eq_session (ws : WS) (hg : NoDraw ws) (ops : List Op) : sessionI ws ops = session ws (feedsOf ops) :=
  sessionI_rng ops ws ws.rng hg

end Mhd.WS
