/-
  C11 — the flag discipline of a turn (`QF`: quiet between an effective suspend and the move back, and `FrS`) when
  the guards of the source are present (`Guards.Sound`).

  Callbacks run only on a connection that is not suspended: the loops of MHD_connection_handle_idle and
  process_request_body look at `suspended` before every pass.  The one place where something audible follows a
  callback in the same pass is the send after try_ready_normal_body in MHD_connection_handle_write; this is what
  `RdOK` is about.
-/
import Mhd.Proofs.SuspConn
namespace Mhd.Susp

theorem Parse.qf {k k' : Conn} {evs} (h : Parse k evs k') : QF k evs k' := by
  rcases h.evs with e | ⟨w, e⟩ <;> rw [e]
  · exact .nil h.flags
  · exact (QF_setFault k w).to h.flags

theorem QF_procBody (g : Guards) (hs : g.shortcut = true) (hb : g.bodyRetry = true) (k : Conn) (hk : k.suspended = false) :
    QF k (procBody g k).2 (procBody g k).1 := by
  refine sat_procBody QF_rel (fun k => k.suspended = false) QF_setFault Parse.qf (fun hk hd => ⟨hd.quiet hk, hd.fr hs⟩) ?_ k hk
  intro k _ h
  -- the loop goes on only if the pass did not suspend the connection
  rw [hb, Bool.true_and, Bool.and_eq_true, Bool.and_eq_true, Bool.not_eq_true'] at h
  exact h.1.2

/-- the reader never suspends and returns data at the same time, or the write path is guarded -/
def RdOK (g : Guards) (k : Conn) : Prop :=
  g.writeReader = true ∨ ∀ p ∈ k.script, p.rd = false ∨ p.rkind = .cbUnknown

theorem plan_mem_script (k : Conn) : k.plan ∈ k.script := List.mem_append_right _ List.mem_cons_self

theorem RdOK.cur {g : Guards} {k : Conn} (h : RdOK g k) (hc : k.chunkedReply = false) :
    g.writeReader = true ∨ k.plan.rd = false := by
  refine h.imp id fun h => (h k.plan (plan_mem_script k)).resolve_right fun hr => ?_
  rw [Conn.chunkedReply, hr] at hc
  exact absurd hc (by decide)

theorem RdOK_of_FrS {g : Guards} {k k' : Conn} (h : FrS k k') (hk : RdOK g k) : RdOK g k' := by
  unfold RdOK at *
  rw [h.1]; exact hk

theorem QF_readyChunked (g : Guards) (hs : g.shortcut = true) (k : Conn) (hk : k.suspended = false) :
    QF k (readyChunked g k).2.1 (readyChunked g k).1 := by
  rcases readyChunked_cases g k with ⟨_, e⟩ | ⟨k1, evs, ret, hr, ⟨_, e⟩ | ⟨_, e⟩ | ⟨n, _, e⟩⟩ <;> rw [e]
  · exact .nil rfl
  all_goals exact (hr.call.qf hs hk).to rfl

theorem QF_tryReadyNormal (g : Guards) (hs : g.shortcut = true) (k : Conn) (hk : k.suspended = false) :
    QF k (tryReadyNormal g k).2.1 (tryReadyNormal g k).1 ∧
    (k.plan.rd = false → (tryReadyNormal g k).2.2 = true → (tryReadyNormal g k).1.suspended = false) := by
  rcases tryReadyNormal_cases g k with e | ⟨k1, evs, ret, hr, ⟨_, e⟩ | ⟨_, e⟩ | ⟨n, hn, e⟩⟩ <;> rw [e]
  · exact ⟨.nil rfl, fun _ _ => hk⟩
  · exact ⟨QF_rel.trans _ _ _ _ _ (hr.call.qf hs hk) (QF_setFault _ _), fun _ h => nomatch h⟩
  · exact ⟨(hr.call.qf hs hk).to rfl, fun _ h => nomatch h⟩
  · exact ⟨(hr.call.qf hs hk).to rfl, fun hrd _ => (hr.data hrd (by rw [hn]; exact fun h => nomatch h)).trans hk⟩

theorem QF_idleStep (g : Guards) (hs : g.shortcut = true) (hb : g.bodyRetry = true) (k : Conn) (hk : k.suspended = false) :
    QF k (idleStep g k).2.1 (idleStep g k).1 := by
  refine idleStep_cases g k (P := fun r => QF k r.2.1 r.1) ?_ ?_ ?_ ?_ ?_ ?_ ?_ ?_ ?_ ?_ (.nil rfl) <;> intro _
  · rcases stRecvHead_cases k with e | ⟨r, _, e⟩ <;> rw [e] <;> exact .nil rfl
  · obtain ⟨k1, evs, hc, _, e | e⟩ := stHdrProcessed_cases g k <;> rw [e]
    · exact hc.qf hs hk
    · exact (hc.qf hs hk).to rfl
  · obtain ⟨k1, evs, hp, hr⟩ := stBodyRecv_cases g k
    have h : QF k evs k1 := by
      rcases hp with e | e
      · cases e; exact QF_rel.refl k
      · have := QF_procBody g hs hb k hk
        rw [← e] at this; exact this
    rcases hr with e | ⟨_, e⟩ <;> rw [e]
    · exact h
    · exact h.to rfl
  · exact .nil rfl
  · rcases stFootersRecv_cases k with e | ⟨r, _, e⟩ <;> rw [e] <;> exact .nil rfl
  · obtain ⟨k1, evs, hc, _, e | e⟩ := stFullReq_cases g k <;> rw [e]
    · exact hc.qf hs hk
    · exact (hc.qf hs hk).to rfl
  · exact .nil rfl
  · rcases stBodyUnready_cases g k with ⟨_, e⟩ | ⟨_, ⟨_, e⟩ | ⟨k1, evs, rdy, et, e⟩⟩ <;> rw [e]
    · exact QF_readyChunked g hs k hk
    · exact .nil rfl
    · have h := (QF_tryReadyNormal g hs k hk).1
      rw [et] at h
      cases rdy
      · exact h
      · exact h.to rfl
  · exact .nil rfl
  · rcases nextRequest_cases k with ⟨_, e⟩ | ⟨p, ps, hl, e⟩ <;> rw [e]
    · exact .one rfl hk rfl
    · refine .one ?_ hk rfl
      simp only [Conn.flags, Conn.script, hl, List.append_assoc, List.cons_append, List.nil_append]

theorem QF_handleIdle (g : Guards) (hl : g.idleLoop = true) (hs : g.shortcut = true) (hb : g.bodyRetry = true) (ep : Bool) :
    Sat QF (handleIdle g ep) := by
  apply sat_handleIdle QF_rel
  · apply sat_idleLoop QF_rel QF_setFault
    intro k hc
    rw [hl, Bool.true_and, Bool.or_eq_false_iff] at hc
    exact QF_idleStep g hs hb k hc.1
  · exact fun k => .nil (updateEli_frame g k).2
  · exact fun k => .nil (epollUpdate_frame k).2

theorem QF_handleRead (g : Guards) (hg : g.read = true) : Sat QF (handleRead g) := by
  intro k
  rcases handleRead_cases g k with ⟨_, e⟩ | ⟨hc, ⟨_, e⟩ | e⟩ <;> rw [e]
  · exact QF_rel.refl k
  all_goals rw [hg, Bool.true_and] at hc; exact .one rfl hc rfl

theorem QF_writeBodyKnown (g : Guards) (hs : g.shortcut = true) (k : Conn) (hk : k.suspended = false) :
    FrS k (writeBodyKnown g k).1 ∧ (g.writeReader = true ∨ k.plan.rd = false → QR k (writeBodyKnown g k).2 (writeBodyKnown g k).1) := by
  rcases writeBodyKnown_cases g k with ⟨_, e⟩ | ⟨_, k1, evs, rdy, et, e | ⟨hr, hns, n, s, _, _, e⟩⟩ <;> rw [e]
  · exact ⟨.of_flags rfl, fun _ => QR_nil rfl⟩
  all_goals
    have ht := QF_tryReadyNormal g hs k hk
    rw [et] at ht
  · exact ⟨ht.1.2, fun _ => ht.1.1⟩
  · refine ⟨ht.1.2.to rfl, fun hok => ?_⟩
    have hu : k1.suspended = false := by
      rcases hok with h | h
      · rw [h, Bool.true_and] at hns; exact hns
      · exact ht.2 h hr
    exact QR_rel.trans _ _ _ _ _ ht.1.1 (QR_one hu rfl hu)

theorem QF_handleWrite (g : Guards) (hw : g.write = true) (hs : g.shortcut = true) (k : Conn) :
    FrS k (handleWrite g k).1 ∧ (RdOK g k → QR k (handleWrite g k).2 (handleWrite g k).1) := by
  rcases handleWrite_cases g k with e | ⟨hc, ⟨_, e⟩ | ⟨_, _, e⟩ | ⟨_, hch, e⟩ | ⟨_, e⟩⟩ <;> rw [e]
  · exact ⟨.refl k, fun _ => QR_nil rfl⟩
  all_goals rw [hw, Bool.true_and] at hc
  · exact ⟨.of_flags rfl, fun _ => QR_one hc rfl hc⟩
  · exact ⟨.of_flags rfl, fun _ => QR_one hc rfl hc⟩
  · exact (QF_writeBodyKnown g hs k hc).imp id fun h hok => h (hok.cur hch)
  · exact ⟨.of_flags rfl, fun _ => QR_one hc rfl hc⟩

/-- all the `suspended` guards the property rests on are present -/
def Guards.Sound (g : Guards) : Prop :=
  g.idleLoop = true ∧ g.idleFirstCall = true ∧ g.idleEpoll = true ∧ g.read = true ∧ g.write = true ∧
  g.eli = true ∧ g.bodyRetry = true ∧ g.shortcut = true

instance (g : Guards) : Decidable g.Sound := by unfold Guards.Sound; infer_instance

def QRP (g : Guards) (k : Conn) (evs : List CEv) (k' : Conn) : Prop :=
  FrS k k' ∧ (RdOK g k → QR k evs k')

theorem QRP_rel (g : Guards) : TurnRel (QRP g) where
  refl := fun k => ⟨.refl k, fun _ => QR_rel.refl k⟩
  trans := fun _ _ _ _ _ h1 h2 =>
    ⟨h1.1.trans h2.1, fun hk => QR_rel.trans _ _ _ _ _ (h1.2 hk) (h2.2 (RdOK_of_FrS h1.1 hk))⟩

theorem QF.qrp {g : Guards} {k k' : Conn} {evs} (h : QF k evs k') : QRP g k evs k' := ⟨h.2, fun _ => h.1⟩

theorem QRP_handleIdle (g : Guards) (hg : g.Sound) (ep : Bool) : Sat (QRP g) (handleIdle g ep) :=
  fun k => (QF_handleIdle g hg.1 hg.2.2.2.2.2.2.2 hg.2.2.2.2.2.2.1 ep k).qrp

theorem QRP_callHandlers (g : Guards) (hg : g.Sound) (ep rr wr : Bool) :
    Sat (QRP g) (fun k => callHandlers g ep k rr wr) :=
  sat_callHandlers (QRP_rel g) (fun k => (QF_handleRead g hg.2.2.2.1 k).qrp)
    (QF_handleWrite g hg.2.2.2.2.1 hg.2.2.2.2.2.2.2) (QRP_handleIdle g hg ep) rr wr

theorem QR_callHandlers (g : Guards) (hg : g.Sound) (ep rr wr : Bool) (k : Conn) (hk : RdOK g k) :
    QR k (callHandlers g ep k rr wr).2 (callHandlers g ep k rr wr).1 :=
  (QRP_callHandlers g hg ep rr wr k).2 hk

theorem handleRead_suspended (g : Guards) (hg : g.read = true) (k : Conn) (hk : k.suspended = true) :
    handleRead g k = (k, []) := by simp [handleRead, hg, hk]

theorem handleWrite_suspended (g : Guards) (hg : g.write = true) (k : Conn) (hk : k.suspended = true) :
    handleWrite g k = (k, []) := by simp [handleWrite, hg, hk]

theorem idleLoop_suspended (g : Guards) (hg : g.idleLoop = true) (n : Nat) (k : Conn) (hk : k.suspended = true) :
    idleLoop g (n + 1) k = (k, []) := by simp [idleLoop, hg, hk]

theorem handleIdle_suspended (g : Guards) (hg : g.Sound) (ep : Bool) (k : Conn) (hk : k.suspended = true) :
    handleIdle g ep k = (k, []) := by
  obtain ⟨h1, _, h3, _, _, h6, _, _⟩ := hg
  simp [handleIdle, idleFuel, idleLoop_suspended g h1, updateEli, h3, h6, hk]

theorem callHandlers_suspended (g : Guards) (hg : g.Sound) (ep rr wr : Bool) (k : Conn) (hk : k.suspended = true) :
    callHandlers g ep k rr wr = (k, []) := by
  have hi := handleIdle_suspended g hg ep k hk
  have hst (c : Bool) {f} (hf : f k = (k, [])) : stepIf g ep c f k = (k, []) := by
    cases c
    · rfl
    · simp only [stepIf, seq2, if_true, hf, hi, List.append_nil]
  have hr (c : Bool) := hst c (handleRead_suspended g hg.2.2.2.1 k hk)
  have hw (c : Bool) := hst c (handleWrite_suspended g hg.2.2.2.2.1 k hk)
  simp only [callHandlers, hr, hw, hi, List.append_nil, ite_self]

end Mhd.Susp
