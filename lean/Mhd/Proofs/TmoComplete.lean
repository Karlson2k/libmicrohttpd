/-
  Completeness of the timeout scans: an expired connection is closed by the scan that visits it, and
  — because the default-timeout list is ordered by last activity — the epoll loop's
  "stop at the first connection that is not expired" scan does visit every expired connection.  Then the
  whole round of either loop: every live connection that is expired when the round begins is closed with
  the timeout code by that round (select loop: if its socket is not readable).  What travels through a
  traversal and through the phases of a round in front of the scans is `Keep`: the connection in question
  is as it was.
-/
import Mhd.Proofs.TmoRound
namespace Mhd.Tmo
open Mhd.Gen.Tmo

theorem seq2_events (a : Daemon × List Event) (f : Daemon → Daemon × List Event) :
    (seq2 a f).2 = a.2 ++ (f a.1).2 := rfl

/-- connection `i` stays live, and what the timeout logic reads or reports of its record is untouched -/
structure Keep (i : Id) (d d' : Daemon) : Prop where
  now : d'.now = d.now
  back : d'.back = d.back
  cfg : d'.cfg = d.cfg
  conns : i ∈ d.conns → i ∈ d'.conns
  la : (d'.c i).la = (d.c i).la
  tmo : (d'.c i).tmo = (d.c i).tmo
  suspended : (d'.c i).suspended = (d.c i).suspended
  closed : (d'.c i).closed = (d.c i).closed
  aware : (d'.c i).aware = (d.c i).aware
  replying : (d'.c i).replying = (d.c i).replying

theorem Keep.refl (i : Id) (d : Daemon) : Keep i d d := ⟨rfl, rfl, rfl, id, rfl, rfl, rfl, rfl, rfl, rfl⟩

theorem Keep.trans {i : Id} {a b c : Daemon} (h1 : Keep i a b) (h2 : Keep i b c) : Keep i a c :=
  ⟨h2.now.trans h1.now, h2.back.trans h1.back, h2.cfg.trans h1.cfg, fun x => h2.conns (h1.conns x), h2.la.trans h1.la,
   h2.tmo.trans h1.tmo, h2.suspended.trans h1.suspended, h2.closed.trans h1.closed, h2.aware.trans h1.aware,
   h2.replying.trans h1.replying⟩

theorem Keep.timedOut_eq {i : Id} {d d' : Daemon} (k : Keep i d d') :
    checkTimedOut d'.now (d'.c i) = checkTimedOut d.now (d.c i) := by
  unfold checkTimedOut
  rw [k.now, k.la, k.tmo, k.suspended]

theorem Keep.expired {i : Id} {d d' : Daemon} (k : Keep i d d') (hc : (d.c i).closed = false)
    (ht : checkTimedOut d.now (d.c i) = true) :
    (d'.c i).closed = false ∧ checkTimedOut d'.now (d'.c i) = true ∧ (d'.c i).aware = (d.c i).aware :=
  ⟨k.closed.trans hc, k.timedOut_eq.trans ht, k.aware⟩

theorem keep_of_others {S : Id → Prop} {i : Id} {d d' : Daemon} (o : OthersOf S d d') (hi : ¬ S i) : Keep i d d' := by
  have e := o.c i hi
  exact ⟨o.now, o.back, o.cfg, (o.conns i hi).2, by rw [e], by rw [e], by rw [e], by rw [e], by rw [e], by rw [e]⟩

theorem keep_set (i : Id) (d : Daemon) (x : Conn) (h1 : x.la = (d.c i).la) (h2 : x.tmo = (d.c i).tmo)
    (h3 : x.suspended = (d.c i).suspended) (h4 : x.closed = (d.c i).closed) (h5 : x.aware = (d.c i).aware)
    (h6 : x.replying = (d.c i).replying) : Keep i d (d.set i x) := by
  refine ⟨rfl, rfl, rfl, id, ?_, ?_, ?_, ?_, ?_, ?_⟩
  all_goals simpa

theorem keep_flags (i : Id) (d d' : Daemon) (h1 : d'.now = d.now) (h0 : d'.back = d.back) (h2 : d'.cfg = d.cfg)
    (h3 : d'.conns = d.conns) (h4 : d'.c = d.c) : Keep i d d' :=
  ⟨h1, h0, h2, fun h => h3 ▸ h, by rw [h4], by rw [h4], by rw [h4], by rw [h4], by rw [h4], by rw [h4]⟩

theorem foldl_keep {f : Daemon → Id → Daemon} {i : Id} (hf : ∀ d j, Keep i d (f d j)) (l : List Id) (d : Daemon) :
    Keep i d (l.foldl f d) :=
  (trav_foldl f).rule (G := fun r => Keep i d r.1) (Q := fun _ _ => True) (fun ha hf => hf ha)
    (fun d' j _ h _ => ⟨h.trans (hf d' j), trivial⟩) l d (Keep.refl i d) trivial

theorem keep_procBuf (d : Daemon) (i : Id) : Keep i d (procBuf d i) := by
  rcases procBuf_cases d i with e | e <;> rw [e]
  · exact Keep.refl i d
  · exact keep_set i d _ rfl rfl rfl rfl rfl rfl

/-- A traversal emits what the handler for `i` emits, provided it does not stop at any of the elements in front
    of `i`; handler for `i` and stop conditions are taken in an arbitrary later state `d'` in which the connection
    in question is as in `d`. -/
theorem Trav.reaches {T H stop} (hT : Trav T H stop) (hK : ∀ d j k, k ≠ j → Keep k d (H d j).1) {i : Id} {e : Event}
    {l2 : List Id} : ∀ (l1 : List Id) (d : Daemon), (l1 ++ i :: l2).Nodup →
      (∀ j, j ∈ l1 → ∀ d', Keep j d d' → ¬ stop (H d' j) j) → (∀ d', Keep i d d' → e ∈ (H d' i).2) →
      e ∈ (T (l1 ++ i :: l2) d).2
  | [], d, _, _, hev => by
    have := hev d (Keep.refl i d)
    rcases hT.cons i l2 d with ⟨_, x⟩ | ⟨_, x⟩ <;> rw [List.nil_append, x]
    · exact this
    · exact List.mem_append_left _ this
  | j :: l1, d, hnd, hgo, hev => by
    have hnd' : j ∉ l1 ++ i :: l2 ∧ (l1 ++ i :: l2).Nodup := List.nodup_cons.1 hnd
    rcases hT.cons j (l1 ++ i :: l2) d with ⟨x, _⟩ | ⟨_, x⟩
    · exact absurd x (hgo j (List.mem_cons_self ..) d (Keep.refl j d))
    · rw [List.cons_append, x]
      refine List.mem_append_right _ (hT.reaches hK l1 _ hnd'.2 (fun k hk d' kk => ?_) (fun d' kk => ?_))
      · exact hgo k (List.mem_cons_of_mem _ hk) d'
          ((hK d j k fun x => hnd'.1 (x ▸ List.mem_append_left _ hk)).trans kk)
      · exact hev d' ((hK d j i fun x => hnd'.1 (x ▸ List.mem_append_right _ (List.mem_cons_self ..))).trans kk)

theorem handleIdleP_expired {d d' : Daemon} {i : Id} (k : Keep i d d') (ht : checkTimedOut d.now (d.c i) = true) :
    ((handleIdleP d' i).1.c i).closed = true ∧
    ((d.c i).closed = false → Event.tmoClose i (d.c i).aware ∈ (handleIdleP d' i).2) := by
  have k := k.trans (keep_procBuf d' i)
  have ht' := idleCheck_closes (k.timedOut_eq.trans ht)
  unfold handleIdleP handleIdle
  by_cases hc : ((procBuf d' i).c i).closed = true
  · rw [if_pos hc]
    exact ⟨(cleanupConnection_closed _ i).trans hc, fun h => by rw [k.closed, h] at hc; cases hc⟩
  · rw [if_neg hc, ← k.aware]
    exact ⟨ht'.2, fun _ => ht'.1⟩

theorem keep_handleIdleP (d : Daemon) (j k : Id) (h : k ≠ j) : Keep k d (handleIdleP d j).1 :=
  keep_of_others (others_handleIdleP d j) h

theorem scanManual_complete (l : List Id) (d : Daemon) (i : Id) (hnd : l.Nodup) (hi : i ∈ l)
    (hc : (d.c i).closed = false) (ht : checkTimedOut d.now (d.c i) = true) :
    Event.tmoClose i (d.c i).aware ∈ (scanManual l d).2 := by
  obtain ⟨l1, l2, rfl⟩ := List.append_of_mem hi
  exact trav_scanManual.reaches keep_handleIdleP l1 d hnd (fun _ _ _ _ => id) fun _ k => (handleIdleP_expired k ht).2 hc

/-- **Completeness of the epoll scan of the default-timeout list.**  In a state satisfying the
    invariant (in particular: list sorted), an expired connection of the normal list is closed by the
    scan although the scan stops at the first connection that is not expired: the connections in front of it
    are expired too, and the scan goes on after each of them. -/
theorem scanNormal_complete {d : Daemon} (h : Inv d) (hnow : d.now < 2 ^ 62) (hback : d.back ≤ jumpBackLimit)
    (i : Id) (hi : i ∈ d.normal)
    (hc : (d.c i).closed = false) (ht : checkTimedOut d.now (d.c i) = true) :
    Event.tmoClose i (d.c i).aware ∈ (scanNormal d.normal.reverse d).2 := by
  obtain ⟨l2r, l1r, hsplit⟩ := List.append_of_mem hi
  have hrev : d.normal.reverse = l1r.reverse ++ i :: l2r.reverse := by
    rw [hsplit]; simp
  have hti := (h.expired_iff hnow hback i).1 ht
  have hd0 : d.cfg.dtmo ≠ 0 := by rw [← h.normalT i hi]; exact hti.2.1
  have hso := h.sorted hd0
  rw [hsplit] at hso
  have hall : ∀ j, j ∈ l1r.reverse → checkTimedOut d.now (d.c j) = true := by
    intro j hj
    have hj' : j ∈ l1r := List.mem_reverse.1 hj
    have hjn : j ∈ d.normal := by rw [hsplit]; exact List.mem_append_right _ (List.mem_cons_of_mem _ hj')
    refine (h.expired_iff hnow hback j).2 ⟨h.connsS j ((h.connsIff j).2 (Or.inl hjn)), ?_, ?_⟩
    · rw [h.normalT j hjn]; exact hd0
    · have := (List.pairwise_cons.1 (List.pairwise_append.1 hso).2.1).1 j hj'
      have t1 := h.normalT j hjn; have t2 := h.normalT i hi
      have := hti.2.2
      omega
  rw [hrev]
  exact trav_scanNormal.reaches keep_handleIdleP _ d (hrev ▸ h.ndNormal.reverse)
    (fun j hj _ k x => x (handleIdleP_expired k (hall j hj)).1) fun _ k => (handleIdleP_expired k ht).2 hc

/-- "quiet": neither closed nor replying, socket not in the read set; `call_handlers` gives such a connection
    the idle part only -/
theorem callHandlersSel_quiet (v : Variant) {d : Daemon} {j : Id} (hc : (d.c j).closed = false)
    (hr : (d.c j).replying = false) :
    (j ∈ d.conns → j ∈ (callHandlersSel v d j false).1.conns) ∧
    (checkTimedOut d.now (d.c j) = true → Event.tmoClose j (d.c j).aware ∈ (callHandlersSel v d j false).2) := by
  have hcall0 : callHandlersSel0 v d j false = handleIdleP d j := by
    unfold callHandlersSel0
    simp [hc, hr]
  have k := keep_procBuf d j
  have hidle : handleIdleP d j = idleCheck (procBuf d j) j := by
    unfold handleIdleP handleIdle
    simp [k.closed, hc]
  unfold callHandlersSel
  rw [hcall0]
  refine ⟨fun hj => ?_, fun ht => (handleIdleP_expired (Keep.refl j d) ht).2 hc⟩
  dsimp only
  rw [notePending_eq, hidle]
  show j ∈ (idleCheck (procBuf d j) j).1.conns
  rw [(idleCheck_conns _ j).1]; exact k.conns hj

/-- The select loop closes an expired connection `i` whose socket is not in the read set and that is not
    replying, provided the traversal gets as far as `i`: it does if `pos->prev` is saved before the handlers
    are called, and in a round in which all connections are quiet (then none leaves the list). -/
theorem travSel_reaches (v : Variant) (rs : List Id) (l : List Id) (d : Daemon) (i : Id) (hnd : l.Nodup) (hi : i ∈ l)
    (hgo : v.savePrev = true ∨
      ∀ j, j ∈ l → j ∈ d.conns ∧ (d.c j).closed = false ∧ rs.contains j = false ∧ (d.c j).replying = false)
    (hc : (d.c i).closed = false) (hr : (d.c i).replying = false) (hq : rs.contains i = false)
    (ht : checkTimedOut d.now (d.c i) = true) :
    Event.tmoClose i (d.c i).aware ∈ (travSel v rs l d).2 := by
  obtain ⟨l1, l2, rfl⟩ := List.append_of_mem hi
  refine (trav_travSel v rs).reaches (fun d j k h => keep_of_others (others_callHandlersSel v d j _) h) l1 d hnd
    (fun j hj d' k x => ?_) (fun d' k => ?_)
  · rcases hgo with hsp | hall
    · rw [hsp] at x; cases x.1
    · have q := hall j (List.mem_append_left _ hj)
      rw [q.2.2.1] at x
      exact x.2 ((callHandlersSel_quiet v (k.closed.trans q.2.1) (k.replying.trans q.2.2.2)).1 (k.conns q.1))
  · obtain ⟨hc', ht', ha⟩ := k.expired hc ht
    rw [hq, ← ha]
    exact (callHandlersSel_quiet v hc' (k.replying.trans hr)).2 ht'

theorem keep_epollEvent (i j : Id) (d : Daemon) : Keep i d (epollEvent d j) := by
  rcases epollEvent_cases d j with e | ⟨x, l, h1, h2, h3, h4, h5, h6, _, e⟩ <;> rw [e]
  · exact Keep.refl i d
  · by_cases hij : i = j
    · subst hij; exact (keep_set i d x h1 h2 h3 h4 h5 h6).trans (keep_flags i _ _ rfl rfl rfl rfl rfl)
    · exact keep_of_others (e ▸ touch_epollEvent d j).toOthersOf hij

theorem keep_roundStart (v : Variant) {d : Daemon} (h : Inv d) (i : Id) (hi : i ∈ d.conns) :
    Keep i d (roundStart v d) := by
  refine Keep.trans (b := if d.cfg.allowSuspend then resumeSuspended v d else d) ?_ (keep_flags i _ _ rfl rfl rfl rfl rfl)
  split
  · unfold resumeSuspended
    refine (keep_flags i d { d with resuming := false } rfl rfl rfl rfl rfl).trans
      (keep_of_others ((trav_foldl _).others (fun d j => (touch_resumeOne v d j).toOthersOf) _ _) fun hj => not_mem_susp_of_conns h hi ?_)
    split at hj
    · exact List.mem_reverse.1 hj
    · exact absurd hj List.not_mem_nil
  · exact Keep.refl i d

theorem keep_epollWait (i : Id) (d : Daemon) : Keep i d (epollWait d) :=
  (keep_flags i d { d with kq := [] } rfl rfl rfl rfl rfl).trans (foldl_keep (fun d j => keep_epollEvent i j d) _ _)

theorem keep_processNew (v : Variant) {d : Daemon} (h : Inv d) (i : Id) (hi : i ∈ d.conns) :
    Keep i d (processNew v d).1 := by
  unfold processNew
  split
  · exact (keep_flags i d { d with newL := [], haveNew := false } rfl rfl rfl rfl rfl).trans
      (keep_of_others ((trav_foldl _).others (fun d j => (touch_processOneNew v d j).toOthersOf) _ _) fun hj => (h.disjNew i (List.mem_reverse.1 hj)).1 hi)
  · exact Keep.refl i d

/-- **Completeness of an epoll round.**  In a state satisfying the invariant, every live connection
    that is expired when the round begins is closed for timeout by that round (with the termination
    code TIMEOUT_REACHED reported iff the application knows the request). -/
theorem roundEpoll_complete {v : Variant} (hv : Fixed v) {d : Daemon} (h : Inv d) (hnow : d.now < 2 ^ 62)
    (hback : d.back ≤ jumpBackLimit) (i : Id) (hi : i ∈ d.conns) (hc : (d.c i).closed = false) (ht : checkTimedOut d.now (d.c i) = true) :
    Event.tmoClose i (d.c i).aware ∈ (roundEpoll v d).2 := by
  let d2 := epollWait (roundStart v d)
  let d3 := (processNew v d2).1
  have h2 : Inv d2 := inv_epollWait (inv_roundStart hv.2.2.2.2 h)
  have h3 : Inv d3 := inv_processNew hv h2
  have k2 : Keep i d d2 := (keep_roundStart v h i hi).trans (keep_epollWait i _)
  have k3 : Keep i d d3 := k2.trans (keep_processNew v h2 i (k2.conns hi))
  obtain ⟨hc3, ht3, haw⟩ := k3.expired hc ht
  have hev : ∀ e, (e ∈ (scanManual d3.manual.reverse d3).2 ∨
      e ∈ (scanNormal (scanManual d3.manual.reverse d3).1.normal.reverse (scanManual d3.manual.reverse d3).1).2) →
      e ∈ (roundEpoll v d).2 := by
    intro e he
    unfold roundEpoll
    simp only [seq2_events, List.mem_append]
    exact he.elim (fun x => .inl (.inl (.inl (.inr x)))) (fun x => .inl (.inl (.inr x)))
  rw [← haw]
  by_cases hm : (d3.c i).tmo = d3.cfg.dtmo
  · -- on the normal list: scanned after the manual list, which leaves it alone
    have k4 := keep_of_others (trav_scanManual.others others_handleIdleP d3.manual.reverse d3)
      fun x => h3.manualT i (List.mem_reverse.1 x) hm
    have h4 := inv_scan trav_scanManual _ _ h3 h3.ndManual.reverse
      (fun j hj => (h3.connsIff j).2 (Or.inr (List.mem_reverse.1 hj)))
    obtain ⟨hc4, ht4, haw4⟩ := k4.expired hc3 ht3
    rw [← haw4]
    exact hev _ (.inr (scanNormal_complete h4 (by rw [k4.now, k3.now]; exact hnow) (by rw [k4.back, k3.back]; exact hback) i
      (mem_normal_of_conns h4 (k4.conns (k3.conns hi)) (by rw [k4.tmo, k4.cfg]; exact hm)) hc4 ht4))
  · exact hev _ (.inl (scanManual_complete _ d3 i h3.ndManual.reverse
      (List.mem_reverse.2 (mem_manual_of_conns h3 (k3.conns hi) hm)) hc3 ht3))

theorem roundSelect_complete {v : Variant} (hv : Fixed v) (hsp : v.savePrev = true) {d : Daemon} (h : Inv d)
    (i : Id) (hi : i ∈ d.conns) (hc : (d.c i).closed = false)
    (hq : (d.c i).unread = false ∧ (d.c i).peerClosed = false) (hr : (d.c i).replying = false)
    (ht : checkTimedOut d.now (d.c i) = true) :
    Event.tmoClose i (d.c i).aware ∈ (roundSelect v d).2 := by
  let d2 := roundStart v d
  let d3 := (processNew v d2).1
  have h2 : Inv d2 := inv_roundStart hv.2.2.2.2 h
  have h3 : Inv d3 := inv_processNew hv h2
  have k2 : Keep i d d2 := keep_roundStart v h i hi
  have k3 : Keep i d d3 := k2.trans (keep_processNew v h2 i (k2.conns hi))
  obtain ⟨hc3, ht3, haw⟩ := k3.expired hc ht
  -- the socket of `i` is not in the read set taken at the start of the round
  have hnr : (d.conns.filter fun j => !(d.c j).closed && ((d.c j).unread || (d.c j).peerClosed) && (d.c j).buf == 0).contains i = false := by
    cases hx : (d.conns.filter fun j => !(d.c j).closed && ((d.c j).unread || (d.c j).peerClosed) && (d.c j).buf == 0).contains i with
    | false => rfl
    | true =>
      have := (List.mem_filter.1 (List.contains_iff_mem.1 hx)).2
      simp [hq.1, hq.2] at this
  have := travSel_reaches v _ d3.conns.reverse d3 i h3.ndConns.reverse
    (List.mem_reverse.2 (k3.conns hi)) (.inl hsp) hc3 (k3.replying.trans hr) hnr ht3
  rw [haw] at this
  unfold roundSelect
  simp only [seq2_events, List.mem_append]
  exact .inl (.inr this)

end Mhd.Tmo
