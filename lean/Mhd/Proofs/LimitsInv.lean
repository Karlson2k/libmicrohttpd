/-
  C09 — one connection in the event loop.  Everything the handlers do
  (`closeConn` … `handleConn`, and the traversals `handleList` / `closeList`)
  is described by one relation, `Hd`: the connections keep index and address,
  the events are none that the life-cycle ledger counts, free callbacks and
  reference counts stay in balance.
-/
import Mhd.Proofs.LimitsResp

namespace Mhd.Limits

/-- what an operation on the response table guarantees whatever the table is -/
structure TS (R R' : RespTab) (e : List Ev) : Prop where
  quiet : Quiet e
  fb : ∀ r, FB r R.tab R'.tab e
  cf : CountFaultFree R.fault → CountFaultFree R'.fault

theorem TS.refl (R : RespTab) : TS R R [] := ⟨quiet_nil, fun r => FB.refl r _, id⟩

theorem TS.trans {R0 R1 R2 : RespTab} {e1 e2 : List Ev} (h1 : TS R0 R1 e1) (h2 : TS R1 R2 e2) : TS R0 R2 (e1 ++ e2) :=
  ⟨quiet_append h1.quiet h2.quiet, fun r => (h1.fb r).trans (h2.fb r), h2.cf ∘ h1.cf⟩

theorem TS.note {R R' : RespTab} {e : List Ev} {x : Ev} (h : TS R R' e) (hx : x.counted = false := by rfl) :
    TS R R' (x :: e) :=
  ⟨quiet_cons hx h.quiet, fun r => (congrArg (· + phi r R.tab) (count_uncounted hx rfl e)).trans (h.fb r), h.cf⟩

theorem release_ts (R : RespTab) (r : Nat) : TS R (release R r).1 (release R r).2 := by
  refine ⟨fun c => ?_, release_fb R r, ?_⟩ <;> rcases release_cases R r with ⟨x, hx, hnf, hrc⟩ | ⟨f, he, hf⟩
  · rw [release_live hx hnf hrc]; split <;> simp
  · rw [he]; simp
  · rw [release_live hx hnf hrc]; exact id
  · rw [he]; intro _; rcases hf with rfl | rfl | rfl <;> simp [CountFaultFree]

theorem acquire_ts {R R' : RespTab} {r : Nat} (h : acquire R r = some R') : TS R R' [] := by
  refine ⟨quiet_nil, fun r' => FB.same (acquire_phi h r') rfl, ?_⟩
  obtain ⟨x, _, _, _, rfl⟩ := acquire_some h
  exact id

/-- Handling the connections `l` on the table `R` gives the table `R'` and the connections `l'` and emits
    `e`: the same connections as far as index and address go; if `R` refines the holders among `l` (and any
    others, `h`), `R'` refines those among `l'`, and no reference-count fault has been raised. -/
structure Hd (R : RespTab) (l : List Conn) (R' : RespTab) (l' : List Conn) (e : List Ev) : Prop where
  census : ∀ q, Stable q → l'.countP q = l.countP q
  ts : TS R R' e
  rt : ∀ h : Nat → Nat, (∀ r, RT1 r R.tab (h r + hold r l)) →
        (∀ r, RT1 r R'.tab (h r + hold r l')) ∧ (RFree R.fault → RFree R'.fault)

theorem Hd.refl (R : RespTab) (l : List Conn) : Hd R l R l [] := ⟨fun _ _ => rfl, TS.refl R, fun _ h => ⟨h, id⟩⟩

theorem Hd.trans {R0 R1 R2 : RespTab} {l0 l1 l2 : List Conn} {e1 e2 : List Ev} (h1 : Hd R0 l0 R1 l1 e1)
    (h2 : Hd R1 l1 R2 l2 e2) : Hd R0 l0 R2 l2 (e1 ++ e2) :=
  ⟨fun q hq => (h2.census q hq).trans (h1.census q hq), h1.ts.trans h2.ts,
   fun h hr => ⟨(h2.rt h (h1.rt h hr).1).1, (h2.rt h (h1.rt h hr).1).2 ∘ (h1.rt h hr).2⟩⟩

theorem Hd.note {R R' : RespTab} {l l' : List Conn} {e : List Ev} {x : Ev} (h : Hd R l R' l' e)
    (hx : x.counted = false := by rfl) : Hd R l R' l' (x :: e) := ⟨h.census, h.ts.note hx, h.rt⟩

theorem Hd.regroup {R R' : RespTab} {l l' m' : List Conn} {e : List Ev} (h : Hd R l R' l' e)
    (hc : ∀ q : Conn → Bool, m'.countP q = l'.countP q) : Hd R l R' m' e :=
  ⟨fun q hq => (hc q).trans (h.census q hq), h.ts, fun g hr => by
    have := h.rt g hr
    exact ⟨fun r => (this.1 r).congr (congrArg (g r + ·) (hc _)), this.2⟩⟩

theorem Hd.frame {R R' : RespTab} {l l' : List Conn} {e : List Ev} (h : Hd R l R' l' e) (B : List Conn) :
    Hd R (l ++ B) R' (l' ++ B) e := by
  refine ⟨fun q hq => by rw [List.countP_append, List.countP_append, h.census q hq], h.ts, fun g hr => ?_⟩
  have := h.rt (fun r => g r + hold r B) (fun r => (hr r).congr (by simp only [hold_append]; omega))
  exact ⟨fun r => (this.1 r).congr (by simp only [hold_append]; omega), this.2⟩

theorem Hd.one {R R' : RespTab} {c c' : Conn} {e : List Ev} (hid : c'.id = c.id) (haddr : c'.addr = c.addr)
    (ts : TS R R' e)
    (rt : ∀ h : Nat → Nat, (∀ r, RT1 r R.tab (h r + hold1 r c)) →
          (∀ r, RT1 r R'.tab (h r + hold1 r c')) ∧ R'.fault = R.fault) : Hd R [c] R' [c'] e := by
  refine ⟨fun q hq => ?_, ts, fun g hr => ?_⟩
  · simp only [List.countP_cons, List.countP_nil, hq c c' hid haddr]
  · have := rt g (fun r => (hr r).congr (by simp only [hold_cons, hold_nil, Nat.zero_add]))
    exact ⟨fun r => (this.1 r).congr (by simp only [hold_cons, hold_nil, Nat.zero_add]), fun hf => this.2 ▸ hf⟩

/-- The three equalities are auto-params so that they are checked once `d'` is known from the goal; an
    explicit `rfl` is elaborated earlier and would identify `d'` with `c'`. -/
theorem Hd.setR {R R' : RespTab} {l : List Conn} {c' d' : Conn} {e : List Ev} (h : Hd R l R' [c'] e)
    (hid : d'.id = c'.id := by rfl) (haddr : d'.addr = c'.addr := by rfl) (hresp : d'.resp = c'.resp := by rfl) :
    Hd R l R' [d'] e :=
  ⟨fun q hq => by
    rw [← h.census q hq]; simp only [List.countP_cons, List.countP_nil, hq c' d' hid haddr],
   h.ts, fun g hr => by
    have := h.rt g hr
    exact ⟨fun r => (this.1 r).congr (by simp only [hold_cons, hold1, hresp]), this.2⟩⟩

theorem Hd.setL {R R' : RespTab} {l' : List Conn} {c d : Conn} {e : List Ev} (h : Hd R [c] R' l' e)
    (hid : c.id = d.id := by rfl) (haddr : c.addr = d.addr := by rfl) (hresp : c.resp = d.resp := by rfl) :
    Hd R [d] R' l' e :=
  ⟨fun q hq => by
    rw [h.census q hq]; simp only [List.countP_cons, List.countP_nil, hq d c hid haddr],
   h.ts, fun g hr => h.rt g (fun r => (hr r).congr (by simp only [hold_cons, hold1, hresp]))⟩

/-- the result of a handler function for connection `c` on table `R` -/
def HdQ (R : RespTab) (c : Conn) (q : RespTab × Conn × Disp × List Ev) : Prop := Hd R [c] q.1 [q.2.1] q.2.2.2

theorem releaseOpt_ts (R : RespTab) (o : Option Nat) : TS R (releaseOpt R o).1 (releaseOpt R o).2 := by
  cases o with
  | none => exact TS.refl R
  | some r => exact release_ts R r

theorem releaseOpt_rt (R : RespTab) (c : Conn) (h : Nat → Nat) (hr : ∀ r, RT1 r R.tab (h r + hold1 r c)) :
    (∀ r, RT1 r (releaseOpt R c.resp).1.tab (h r)) ∧ (releaseOpt R c.resp).1.fault = R.fault := by
  cases hc : c.resp with
  | none => exact ⟨fun r => (hr r).congr (by rw [hold1_none hc]; rfl), rfl⟩
  | some r0 => exact release_rt R r0 h (fun r => (hr r).congr (by rw [hold1_some r0 r hc]))

theorem closeConn_eq (R : RespTab) (c : Conn) :
    closeConn R c = ((releaseOpt R c.resp).1, { c with resp := none, held := false }, (releaseOpt R c.resp).2) := by
  unfold closeConn
  cases hc : c.resp with
  | none => rfl
  | some r => rfl

theorem closeConn_hd (R : RespTab) (c : Conn) : Hd R [c] (closeConn R c).1 [(closeConn R c).2.1] (closeConn R c).2.2 := by
  rw [closeConn_eq]
  refine Hd.one rfl rfl (releaseOpt_ts R c.resp) (fun h hr => ?_)
  have := releaseOpt_rt R c h hr
  exact ⟨fun r => (this.1 r).congr (by rw [hold1_none rfl]; rfl), this.2⟩

theorem finishReply_hd (R : RespTab) (c : Conn) : HdQ R c (finishReply R c) :=
  (closeConn_hd R c).setR

theorem runReply_hd (R : RespTab) (c : Conn) (r : Nat) (cl : Bool) : HdQ R c (runReply R c r cl) := by
  unfold runReply
  by_cases h1 : c.clientClosed = true
  · rw [if_pos h1]; exact closeConn_hd R c
  · rw [if_neg h1]
    by_cases h2 : isUpg R r = true
    · rw [if_pos h2]; exact ((closeConn_hd R c).setR).note
    · rw [if_neg h2]
      by_cases h3 : (isBig R r && c.nodrain) = true
      · rw [if_pos h3]; exact (Hd.refl R [c]).setR
      · rw [if_neg h3]; exact (finishReply_hd R { c with closeAfter := cl }).setL

/-- `MHD_queue_response` succeeds on a connection that has nothing queued -/
theorem acquire_hd {R R1 : RespTab} {r : Nat} (ha : acquire R r = some R1) {c : Conn} (hc : c.resp = none) (d : Conn)
    (hid : d.id = c.id := by rfl) (haddr : d.addr = c.addr := by rfl) (hd : d.resp = some r := by rfl) :
    Hd R [c] R1 [d] [] := by
  refine Hd.one hid haddr (acquire_ts ha) (fun h hr => ?_)
  have := acquire_rt ha h (fun r' => (hr r').congr (by rw [hold1_none hc]; rfl))
  exact ⟨fun r' => (this.1 r').congr (by rw [hold1_some r r' hd]), this.2⟩

theorem doReply_hd (cfg : Cfg) (R : RespTab) (c : Conn) (r : Nat) (cl : Bool) : HdQ R c (doReply cfg R c r cl) := by
  have refused : HdQ R c (R, { c with req := none }, .clean, [.queued c.id r false]) :=
    ((Hd.refl R [c]).setR).note
  unfold doReply
  by_cases h1 : c.resp.isSome = true
  · rw [if_pos h1]; exact refused
  · rw [if_neg h1]
    by_cases h2 : (isUpg R r && !cfg.allowUpgrade) = true
    · rw [if_pos h2]; exact refused
    · rw [if_neg h2]
      cases ha : acquire R r with
      | none => exact refused
      | some R1 =>
        have hc : c.resp = none := by cases h : c.resp <;> simp [h] at h1 ⊢
        exact ((acquire_hd ha hc _).trans (runReply_hd R1 { c with req := none, resp := some r } r cl)).note

/-- an operation on the table alone that leaves every holder count as it was -/
structure Neutral (R R' : RespTab) (e : List Ev) : Prop where
  ts : TS R R' e
  rt : ∀ h : Nat → Nat, (∀ r, RT1 r R.tab (h r)) → (∀ r, RT1 r R'.tab (h r)) ∧ R'.fault = R.fault

theorem Neutral.refl (R : RespTab) : Neutral R R [] := ⟨TS.refl R, fun _ h => ⟨h, rfl⟩⟩

theorem Neutral.trans {R0 R1 R2 : RespTab} {e1 e2 : List Ev} (h1 : Neutral R0 R1 e1) (h2 : Neutral R1 R2 e2) :
    Neutral R0 R2 (e1 ++ e2) :=
  ⟨h1.ts.trans h2.ts, fun h hr => ⟨(h2.rt h (h1.rt h hr).1).1, (h2.rt h (h1.rt h hr).1).2.trans (h1.rt h hr).2⟩⟩

theorem Neutral.hd {R R' : RespTab} {e : List Ev} (h : Neutral R R' e) : Hd R [] R' [] e :=
  ⟨fun _ _ => rfl, h.ts, fun g hr => ⟨(h.rt g hr).1, fun hf => (h.rt g hr).2 ▸ hf⟩⟩

/-- an interim reply takes a reference and gives it back -/
theorem interimOne_neutral (R : RespTab) (c : Conn) (r : Nat) : Neutral R (interimOne R c r).1 (interimOne R c r).2.2 := by
  have refused : Neutral R R [.queued c.id r false] := ⟨(TS.refl R).note, fun _ h => ⟨h, rfl⟩⟩
  unfold interimOne
  by_cases h1 : isUpg R r = true
  · rw [if_pos h1]; exact refused
  · rw [if_neg h1]
    cases ha : acquire R r with
    | none => exact refused
    | some R1 =>
      refine ⟨((acquire_ts ha).trans (release_ts R1 r)).note, fun h hr => ?_⟩
      have h1 := acquire_rt ha _ hr
      have h2 := release_rt R1 r _ h1.1
      exact ⟨h2.1, h2.2.trans h1.2⟩

theorem interims_neutral (c : Conn) (l : List Nat) : ∀ R : RespTab, Neutral R (interims R c l).1 (interims R c l).2.2 := by
  induction l with
  | nil => exact Neutral.refl
  | cons r rest ih =>
    intro R
    unfold interims
    have h1 := interimOne_neutral R c r
    generalize interimOne R c r = q at h1 ⊢
    obtain ⟨R1, ok, e⟩ := q
    cases ok with
    | false => exact h1
    | true => exact h1.trans (ih R1)

theorem replyPre_hd (cfg : Cfg) (R : RespTab) (c : Conn) (r : Nat) (cl : Bool) (pre : List Nat) :
    HdQ R c (replyPre cfg R c r cl pre) := by
  unfold replyPre
  have h1 := (interims_neutral c pre R).hd.frame [c]
  generalize interims R c pre = q at h1 ⊢
  obtain ⟨R1, ok, e⟩ := q
  cases ok with
  | false => exact h1.setR
  | true => exact h1.trans (doReply_hd cfg R1 c r _)

theorem handleReq_hd (cfg : Cfg) (R : RespTab) (c : Conn) : HdQ R c (handleReq cfg R c) := by
  unfold handleReq
  split
  · exact Hd.refl R [c]
  · split
    · exact ((Hd.refl R [c]).setR).note
    · exact ⟨fun _ _ => rfl, ⟨quiet_cons rfl quiet_nil, fun r => FB.same rfl (count_uncounted rfl rfl []), fun _ => by simp [CountFaultFree]⟩,
        fun _ hr => ⟨hr, fun _ => by simp [RFree]⟩⟩
  · exact replyPre_hd cfg R c _ _ _
  · exact (Hd.refl R [c]).setR
  · exact (replyPre_hd cfg R { c with inClose := true } _ _ _).setL
  · split
    · exact (runReply_hd R { c with req := none } _ true).setL
    · exact (Hd.refl R [c]).setR

theorem afterReq_hd (R : RespTab) (c : Conn) : HdQ R c (afterReq R c) := by
  unfold afterReq
  by_cases h1 : c.clientClosed = true
  · rw [if_pos h1]; exact closeConn_hd R c
  · rw [if_neg h1]
    by_cases h2 : (c.held && !c.nodrain) = true
    · rw [if_pos h2]; exact finishReply_hd R c
    · rw [if_neg h2]; exact Hd.refl R [c]

theorem handleConn_hd (cfg : Cfg) (R : RespTab) (c : Conn) : HdQ R c (handleConn cfg R c) := by
  unfold handleConn
  have h1 := handleReq_hd cfg R c
  generalize handleReq cfg R c = q at h1 ⊢
  obtain ⟨R1, c1, d, e⟩ := q
  cases d with
  | keep => exact h1.trans (afterReq_hd R1 c1)
  | clean => exact h1
  | susp => exact h1

theorem handleList_hd (cfg : Cfg) (R0 : RespTab) (L : List Conn) (l : List Conn) : ∀ acc : HAcc,
    Hd R0 L acc.R (l ++ (acc.kept ++ acc.clean ++ acc.susp)) acc.evs →
    Hd R0 L (handleList cfg acc l).R
      ((handleList cfg acc l).kept ++ (handleList cfg acc l).clean ++ (handleList cfg acc l).susp)
      (handleList cfg acc l).evs := by
  induction l with
  | nil => exact fun acc h => h
  | cons x rest ih =>
    intro acc h
    unfold handleList
    have hk := (handleConn_hd cfg acc.R x).frame (rest ++ (acc.kept ++ acc.clean ++ acc.susp))
    generalize handleConn cfg acc.R x = q at hk ⊢
    obtain ⟨R1, c1, d, e⟩ := q
    cases d <;> exact ih _ ((h.trans hk).regroup (fun q => by
      simp only [List.countP_append, List.countP_cons, List.countP_nil]; omega))

theorem closeList_hd (R0 : RespTab) (L : List Conn) (l : List Conn) : ∀ acc : CAcc,
    Hd R0 L acc.R (l ++ acc.moved) acc.evs →
    Hd R0 L (closeList acc l).R (closeList acc l).moved (closeList acc l).evs := by
  induction l with
  | nil => exact fun acc h => h
  | cons x rest ih =>
    intro acc h
    unfold closeList
    have hk := (closeConn_hd acc.R x).frame (rest ++ acc.moved)
    generalize closeConn acc.R x = q at hk ⊢
    obtain ⟨R1, c1, e⟩ := q
    exact ih _ ((h.trans hk).regroup (fun q => by
      simp only [List.countP_append, List.countP_cons, List.countP_nil]; omega))

end Mhd.Limits
