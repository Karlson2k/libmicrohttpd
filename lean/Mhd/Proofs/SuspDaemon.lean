/-
  C11 — the daemon model (Mhd.Model.SuspDaemon) over every history.  Besides the turns, a round only makes
  administrative changes to a record (`Adm`: data fields kept, nothing audible logged), so a per-connection turn
  relation `R` holds of every connection's projection of the daemon's event log (`Lift_run`) once it holds of the
  three entry points of a turn and of `Adm`.  The three connection traversals are instances of one pattern (`Turns`).
-/
import Mhd.Proofs.SuspRel
import Mhd.Proofs.Lists
namespace Mhd.Susp

def proj (c : Nat) (evs : List Ev) : List CEv := (evs.filter (fun e => e.1 == c)).map (·.2)

@[simp] theorem proj_nil (c : Nat) : proj c [] = [] := rfl
@[simp] theorem proj_append (c : Nat) (a b : List Ev) : proj c (a ++ b) = proj c a ++ proj c b := by
  simp only [proj, List.filter_append, List.map_append]
@[simp] theorem proj_cons_same (c : Nat) (e : CEv) (r : List Ev) : proj c ((c, e) :: r) = e :: proj c r := by
  simp [proj]
theorem proj_cons_ne {a c : Nat} (h : a ≠ c) (e : CEv) (r : List Ev) : proj c ((a, e) :: r) = proj c r := by
  simp [proj, h]
@[simp] theorem proj_tag_same (c : Nat) (evs : List CEv) : proj c (tag c evs) = evs := by
  induction evs with
  | nil => rfl
  | cons e r ih => exact (proj_cons_same c e _).trans (congrArg (e :: ·) ih)
theorem proj_tag_ne {a c : Nat} (h : a ≠ c) (evs : List CEv) : proj c (tag a evs) = [] := by
  induction evs with
  | nil => rfl
  | cons e r ih => exact (proj_cons_ne h e _).trans ih

@[simp] theorem setConn_same (f : Nat → Conn) (c : Nat) (k : Conn) : setConn f c k c = k := if_pos rfl
theorem setConn_ne (f : Nat → Conn) {a c : Nat} (k : Conn) (h : c ≠ a) : setConn f a k c = f c := if_neg h
theorem setConn_self (f : Nat → Conn) (c : Nat) : setConn f c (f c) = f :=
  funext fun x => by
    by_cases hx : x = c
    · rw [hx, setConn_same]
    · exact setConn_ne _ _ hx

theorem not_mem_of_contains {l : List Nat} {c : Nat} (h : l.contains c = false) : c ∉ l :=
  fun hm => by rw [List.contains_iff_mem.2 hm] at h; exact nomatch h

structure DRel (P : Daemon → List Ev → Daemon → Prop) : Prop where
  refl : ∀ d, P d [] d
  trans : ∀ d e1 d1 e2 d2, P d e1 d1 → P d1 e2 d2 → P d (e1 ++ e2) d2

def DSat (P : Daemon → List Ev → Daemon → Prop) (f : Daemon → Daemon × List Ev) : Prop :=
  ∀ d, P d (f d).2 (f d).1

theorem dsat_bindD {P} (hP : DRel P) {f : Daemon → Daemon × List Ev} (hf : DSat P f) {d0 : Daemon}
    {r : Daemon × List Ev} (hr : P d0 r.2 r.1) : P d0 (bindD f r).2 (bindD f r).1 :=
  hP.trans _ _ _ _ _ hr (hf r.1)

theorem DRel.after {P} (hP : DRel P) {d d1 d2 : Daemon} {evs} (h2 : P d1 evs d2) (h1 : P d [] d1) : P d evs d2 :=
  hP.trans _ _ _ _ _ h1 h2

/-- `sync` in two halves (`sync_eq`): the list move of internal_suspend_connection_, then the eready bookkeeping
    (`syncEready`) -/
def syncMove (d : Daemon) (c : Nat) : Daemon :=
  if (d.conn c).suspended && d.active.contains c then
    { d with active := d.active.erase c, susp := c :: d.susp,
             normalTO := d.normalTO.erase c, eready := d.eready.erase c }
  else d

def syncEready (inE : Bool) (d : Daemon) (c : Nat) : Daemon :=
  if inE && !d.eready.contains c && d.active.contains c then { d with eready := c :: d.eready }
  else if !inE && d.eready.contains c then { d with eready := d.eready.erase c }
  else d

theorem sync_eq (d : Daemon) (c : Nat) : sync d c = syncEready (d.conn c).inEready (syncMove d c) c := rfl

/-- what `sync` never touches -/
def Daemon.rest (d : Daemon) := (d.conn, d.mode, d.newConns, d.resuming, d.pending)

theorem syncMove_rest (d : Daemon) (c : Nat) : (syncMove d c).rest = d.rest := by
  unfold syncMove
  cases (d.conn c).suspended && d.active.contains c <;> rfl

theorem syncEready_rest (inE : Bool) (d : Daemon) (c : Nat) : (syncEready inE d c).rest = d.rest := by
  unfold syncEready
  cases inE && !d.eready.contains c && d.active.contains c <;> cases !inE && d.eready.contains c <;> rfl

theorem sync_rest (d : Daemon) (c : Nat) : (sync d c).rest = d.rest :=
  (syncEready_rest _ _ c).trans (syncMove_rest d c)

@[simp] theorem sync_conn (d : Daemon) (c : Nat) : (sync d c).conn = d.conn := congrArg (·.1) (sync_rest d c)
@[simp] theorem sync_mode (d : Daemon) (c : Nat) : (sync d c).mode = d.mode := congrArg (·.2.1) (sync_rest d c)
@[simp] theorem sync_resuming (d : Daemon) (c : Nat) : (sync d c).resuming = d.resuming := congrArg (·.2.2.2.1) (sync_rest d c)

theorem syncEready_lists (inE : Bool) (d : Daemon) (c : Nat) :
    (syncEready inE d c).active = d.active ∧ (syncEready inE d c).susp = d.susp := by
  unfold syncEready
  cases inE && !d.eready.contains c && d.active.contains c <;> cases !inE && d.eready.contains c <;> exact ⟨rfl, rfl⟩

theorem sync_lists (d : Daemon) (c : Nat) :
    (∀ a, a ∈ d.susp → a ∈ (sync d c).susp) ∧ (∀ a, a ∈ (sync d c).active → a ∈ d.active) := by
  rw [sync_eq, (syncEready_lists _ _ c).1, (syncEready_lists _ _ c).2]
  unfold syncMove
  cases (d.conn c).suspended && d.active.contains c
  · exact ⟨fun _ h => h, fun _ h => h⟩
  · exact ⟨fun _ h => List.mem_cons_of_mem _ h, fun _ h => List.mem_of_mem_erase h⟩

theorem sync_susp_mem (d : Daemon) (a c : Nat) (h : c ∈ d.susp) : c ∈ (sync d a).susp := (sync_lists d a).1 c h

theorem sync_susp_eq_of_unsusp (d : Daemon) (a : Nat) (h : (d.conn a).suspended = false) : (sync d a).susp = d.susp := by
  rw [sync_eq, (syncEready_lists _ _ a).2]
  unfold syncMove
  rw [h]; rfl

/-- `Turns g l d r`: `r` is the outcome of giving turns (call_handlers, with any readiness flags, then
    possibly the eready clean-up) to a prefix of `l`, in order, starting from `d` -/
inductive Turns (g : Guards) : List Nat → Daemon → Daemon × List Ev → Prop
  | stop (l : List Nat) (d : Daemon) : Turns g l d (d, [])
  | turn {c : Nat} {l : List Nat} {d d1 : Daemon} {rr wr : Bool} {r : Daemon × List Ev} :
      (d1 = (turn g d c rr wr).1 ∨ d1 = ereadyPost (turn g d c rr wr).1 c) → Turns g l d1 r →
      Turns g (c :: l) d (r.1, (turn g d c rr wr).2 ++ r.2)

theorem travAll_turns (g : Guards) (fr fw rd wr : Nat → Bool) :
    ∀ (l : List Nat) (d : Daemon), Turns g l d (travAll g fr fw rd wr l d)
  | [], d => .stop [] d
  | _ :: l, _ => .turn (.inl rfl) (travAll_turns g fr fw rd wr l _)

theorem travEready_turns (g : Guards) : ∀ (l : List Nat) (d : Daemon), Turns g l d (travEready g l d)
  | [], d => .stop [] d
  | _ :: l, _ => .turn (.inr rfl) (travEready_turns g l _)

theorem travSelect_turns (g : Guards) (fr fw rd wr : Nat → Bool) :
    ∀ (l : List Nat) (d : Daemon), Turns g l d (travSelect g fr fw rd wr l d)
  | [], d => .stop [] d
  | c :: l, d => by
    simp only [travSelect]
    cases g.selectPrevAfter && !(turn g d c (fr c && rd c) (fw c && wr c)).1.active.contains c
    · exact .turn (rr := fr c && rd c) (wr := fw c && wr c) (.inl rfl) (travSelect_turns g fr fw rd wr l _)
    · have := Turns.turn (g := g) (c := c) (d := d) (rr := fr c && rd c) (wr := fw c && wr c) (.inl rfl) (.stop l _)
      rwa [List.append_nil] at this

theorem turns_sat {P} (hP : DRel P) {g : Guards} (ht : ∀ d c rr wr, P d (turn g d c rr wr).2 (turn g d c rr wr).1)
    (hp : ∀ d c, P d [] (ereadyPost d c)) {l : List Nat} {d : Daemon} {r : Daemon × List Ev} (h : Turns g l d r) :
    P d r.2 r.1 := by
  induction h with
  | stop l d => exact hP.refl d
  | @turn c _ d _ rr wr _ hd _ ih =>
    refine hP.trans _ _ _ _ _ ?_ ih
    rcases hd with e | e <;> rw [e]
    · exact ht d c rr wr
    · have := hP.trans _ _ _ _ _ (ht d c rr wr) (hp _ c)
      rwa [List.append_nil] at this

theorem turns_susp {g : Guards} {l : List Nat} {d : Daemon} {r : Daemon × List Ev} (h : Turns g l d r) (c : Nat) :
    c ∈ d.susp → c ∈ r.1.susp :=
  turns_sat (P := fun d _ d' => c ∈ d.susp → c ∈ d'.susp) ⟨fun _ => id, fun _ _ _ _ _ h1 h2 hc => h2 (h1 hc)⟩
    (fun _ a _ _ hc => sync_susp_mem _ a c hc)
    (fun d a hc => by
      unfold ereadyPost
      exact iteInduction (motive := fun x : Daemon => c ∈ x.susp) (fun _ => sync_susp_mem _ a c hc) (fun _ => hc)) h

theorem processNew_lists : ∀ (l : List Nat) (d : Daemon),
    (processNew l d).1.susp = d.susp ∧ (processNew l d).1.eready = d.eready ∧ (processNew l d).1.resuming = d.resuming ∧
    ∀ a, a ∈ d.active → a ∈ (processNew l d).1.active := by
  intro l
  induction l with
  | nil => exact fun d => ⟨rfl, rfl, rfl, fun _ h => h⟩
  | cons c rest ih =>
    intro d
    have r := ih { d with conn := setConn d.conn c { (d.conn c) with eli := Eli.read, inSet := d.isEpoll },
                          active := c :: d.active, normalTO := c :: d.normalTO }
    exact ⟨r.1, r.2.1, r.2.2.1, fun a h => r.2.2.2 a (List.mem_cons_of_mem _ h)⟩

theorem processNew_frame (c : Nat) : ∀ (l : List Nat) (d : Daemon), c ∉ l →
    (processNew l d).1.conn c = d.conn c ∧ proj c (processNew l d).2 = [] := by
  intro l
  induction l with
  | nil => exact fun d _ => ⟨rfl, rfl⟩
  | cons a rest ih =>
    intro d hc
    have hac : a ≠ c := fun e => hc (e ▸ List.mem_cons_self)
    have r := ih { d with conn := setConn d.conn a { (d.conn a) with eli := Eli.read, inSet := d.isEpoll },
                          active := a :: d.active, normalTO := a :: d.normalTO } (fun hm => hc (List.mem_cons_of_mem _ hm))
    exact ⟨r.1.trans (setConn_ne _ _ (Ne.symm hac)), (proj_cons_ne hac _ _).trans r.2⟩

theorem newPhase_active (d : Daemon) {a : Nat} (h : a ∈ d.active) : a ∈ (newPhase d).1.active :=
  (processNew_lists _ _).2.2.2 a h

theorem timeoutScan_sat {P} (hP : DRel P) {g : Guards}
    (idle : ∀ d c, c ∈ d.normalTO → P d (idleTurn g d c).2 (idleTurn g d c).1) : DSat P (timeoutScan g) := by
  intro d
  unfold timeoutScan
  cases hc : d.normalTO.getLast? with
  | none => exact hP.refl d
  | some c => exact idle d c (List.mem_of_getLast? hc)

theorem timerScan_sat {P} (hP : DRel P)
    (tick : ∀ (d : Daemon) c t, P d [] { d with conn := setConn d.conn c { (d.conn c) with timer := t } })
    (req : ∀ d c, P d (resumeReq d c).2 (resumeReq d c).1) :
    ∀ (l : List Nat) (d : Daemon), P d (timerScan l d).2 (timerScan l d).1 := by
  intro l
  induction l with
  | nil => exact hP.refl
  | cons c rest ih =>
    intro d
    cases h : (d.conn c).timer with
    | none => simp only [timerScan, h]; exact ih d
    | some n =>
      cases n with
      | zero =>
        simp only [timerScan, h]
        exact hP.after (hP.trans _ _ _ _ _ (req _ c) (ih _)) (tick d c none)
      | succ n =>
        simp only [timerScan, h]
        exact hP.after (ih _) (tick d c (some n))

theorem resumeSuspended_sat {P} (hP : DRel P) {g : Guards} (clear : ∀ d : Daemon, P d [] { d with resuming := false })
    (move : ∀ d c, P d [(c, .resumed)] (moveBack g d c)) : DSat P (resumeSuspended g) := by
  have scan : ∀ (l : List Nat) (d : Daemon), P d (resumeScan g l d).2 (resumeScan g l d).1 := by
    intro l
    induction l with
    | nil => exact hP.refl
    | cons a rest ih =>
      intro d
      unfold resumeScan
      cases (d.conn a).resuming
      · exact ih d
      · exact hP.trans _ _ _ _ _ (move d a) (ih _)
  intro d
  unfold resumeSuspended
  by_cases h : d.resuming = true
  · rw [if_pos h]; exact hP.after (scan _ _) (clear d)
  · rw [if_neg h]; exact hP.refl d

theorem epollEvents_sat {P} (hP : DRel P)
    (mark : ∀ (d : Daemon) c i o, c ∈ d.active → P d [] (sync { d with conn := setConn d.conn c (epollMark (d.conn c) i o) } c)) :
    ∀ (l : List (Nat × Bool × Bool)) (d : Daemon), P d [] (epollEvents l d) := by
  intro l
  induction l with
  | nil => exact hP.refl
  | cons e rest ih =>
    intro d
    obtain ⟨c, i, o⟩ := e
    unfold epollEvents
    cases hc : !(d.conn c).inSet || !d.active.contains c
    · rw [Bool.or_eq_false_iff, Bool.not_eq_false', Bool.not_eq_false', List.contains_iff_mem] at hc
      exact hP.after (ih _) (mark d c i o hc.2)
    · exact ih d

/-- A round of any of the three event loops: the script timers and resume_suspended_connections (`head`, the only
    phase that may depend on the state the round starts from), the epoll_wait results, the new connections, the
    timeout scan, and a traversal — over connections that are in the active list when it starts (`act`), or over
    the eready list (`er`). -/
theorem round_sat {P} (hP : DRel P) (g : Guards) (d : Daemon) {C : List Nat → Prop}
    (head : ∀ ids, C ids → P d (bindD (resumeSuspended g) (timers d ids)).2 (bindD (resumeSuspended g) (timers d ids)).1)
    (new : DSat P newPhase) (ep : ∀ evs, DSat P (pureD fun d => epollEvents evs { d with pending := false }))
    (to : DSat P (timeoutScan g))
    (act : ∀ (d : Daemon) (l : List Nat) r, Turns g l d r → (∀ a ∈ l, a ∈ d.active) → P d r.2 r.1)
    (er : ∀ (d : Daemon) r, Turns g d.eready.reverse d r → P d r.2 r.1) :
    (∀ ids rd wr, C ids → P d (step g d (.round ids rd wr)).2 (step g d (.round ids rd wr)).1) ∧
    ∀ ids evs, C ids → P d (step g d (.eround ids evs)).2 (step g d (.eround ids evs)).1 := by
  refine ⟨fun ids rd wr hc => ?_, fun ids evs hc => ?_⟩ <;> simp only [step] <;> cases d.mode
  case refine_1.select =>
    exact dsat_bindD hP (fun d => act d _ _ (travSelect_turns g _ _ rd wr _ d) fun a ha => List.mem_reverse.1 ha)
      (dsat_bindD hP new (head ids hc))
  case refine_1.poll =>
    -- the snapshot is taken before the new connections are added
    refine dsat_bindD hP (fun d => hP.trans _ _ _ _ _ (new d) ?_) (head ids hc)
    exact act _ _ _ (travAll_turns g _ _ rd wr _ _) fun a ha => newPhase_active d (List.mem_reverse.1 ha)
  case refine_2.epoll =>
    exact dsat_bindD hP (fun d => er d _ (travEready_turns g _ d))
      (dsat_bindD hP to (dsat_bindD hP new (dsat_bindD hP (ep evs) (head ids hc))))
  all_goals exact hP.refl d

/-- a per-connection turn property, for every connection's projection of a daemon-level step -/
def Lift (R : Conn → List CEv → Conn → Prop) (d : Daemon) (evs : List Ev) (d' : Daemon) : Prop :=
  ∀ c, R (d.conn c) (proj c evs) (d'.conn c)

theorem Lift_rel {R} (hR : TurnRel R) : DRel (Lift R) where
  refl := fun _ _ => hR.refl _
  trans := by
    intro d e1 d1 e2 d2 h1 h2 c
    rw [proj_append]; exact hR.trans _ _ _ _ _ (h1 c) (h2 c)

theorem Lift_nil {R} (hR : TurnRel R) {d d' : Daemon} (h : d'.conn = d.conn) : Lift R d [] d' := by
  intro c; rw [h]; exact hR.refl _

theorem Lift_one {R} (hR : TurnRel R) {d d' : Daemon} {a : Nat} {k' : Conn} {evs : List CEv}
    (hconn : d'.conn = setConn d.conn a k') (h : R (d.conn a) evs k') : Lift R d (tag a evs) d' := by
  intro c
  rw [hconn]
  by_cases hc : c = a
  · subst hc; rw [setConn_same, proj_tag_same]; exact h
  · rw [setConn_ne _ _ hc, proj_tag_ne (Ne.symm hc)]; exact hR.refl _

abbrev AdmD := Lift Adm

theorem AdmD_setConn {d : Daemon} {a : Nat} {k' : Conn} (hd : k'.data = (d.conn a).data)
    (hs : k'.suspended = (d.conn a).suspended) : AdmD d [] { d with conn := setConn d.conn a k' } :=
  Lift_one Adm_rel (evs := []) rfl (.silent hd hs)

theorem AdmD_resumeReq (d : Daemon) (a : Nat) : AdmD d (resumeReq d a).2 (resumeReq d a).1 :=
  Lift_one Adm_rel (evs := [.resumeReq]) rfl (.note rfl rfl (fun s => by cases s <;> rfl) rfl rfl)

theorem AdmD_moveBack (g : Guards) (d : Daemon) (a : Nat) : AdmD d [(a, .resumed)] (moveBack g d a) := by
  refine Lift_one Adm_rel (evs := [.resumed]) rfl ⟨.of_data ?_, rfl, rfl, ?_⟩
  · cases d.isEpoll <;> rfl
  · show some false = some _
    cases d.isEpoll <;> rfl

theorem AdmD_resumeSuspended (g : Guards) : DSat AdmD (resumeSuspended g) :=
  resumeSuspended_sat (Lift_rel Adm_rel) (fun _ => Lift_nil Adm_rel rfl) (AdmD_moveBack g)

theorem AdmD_timerScan : ∀ (l : List Nat) (d : Daemon), AdmD d (timerScan l d).2 (timerScan l d).1 :=
  timerScan_sat (Lift_rel Adm_rel) (fun _ _ _ => AdmD_setConn rfl rfl) AdmD_resumeReq

theorem AdmD_newPhase : DSat AdmD newPhase := by
  have scan : ∀ (l : List Nat) (d : Daemon), AdmD d (processNew l d).2 (processNew l d).1 := by
    intro l
    induction l with
    | nil => exact fun d => Lift_nil Adm_rel rfl
    | cons a rest ih =>
      intro d
      refine (Lift_rel Adm_rel).trans _ [(a, .connStart)] _ _ _ ?_ (ih _)
      exact Lift_one Adm_rel (evs := [.connStart]) rfl (.note rfl rfl (fun s => by cases s <;> rfl) rfl rfl)
  exact fun d => (Lift_rel Adm_rel).after (scan _ _) (Lift_nil Adm_rel rfl)

theorem AdmD_epollEvents : ∀ (l : List (Nat × Bool × Bool)) (d : Daemon), AdmD d [] (epollEvents l d) :=
  epollEvents_sat (Lift_rel Adm_rel) fun _ c i o _ =>
    Lift_one Adm_rel (evs := []) (sync_conn _ c) (.silent (epollMark_frame _ i o).1 (flags_suspended (epollMark_frame _ i o).2))

theorem AdmD_epollPhase (evs : List (Nat × Bool × Bool)) :
    DSat AdmD (pureD (fun d => epollEvents evs { d with pending := false })) :=
  fun _ => (Lift_rel Adm_rel).after (AdmD_epollEvents evs _) (Lift_nil Adm_rel rfl)

theorem AdmD_ereadyPost (d : Daemon) (a : Nat) : AdmD d [] (ereadyPost d a) := by
  unfold ereadyPost
  exact iteInduction (motive := AdmD d []) (fun _ => Lift_one Adm_rel (evs := []) (sync_conn _ a) (.silent rfl rfl))
    (fun _ => (Lift_rel Adm_rel).refl d)

def clearDres (k : Conn) : Conn := { k with dres := false }

theorem turnWith_conn (f : Conn → Conn × List CEv) (d : Daemon) (a : Nat) :
    (turnWith f d a).1.conn = setConn d.conn a (f (clearDres (d.conn a))).1 := sync_conn _ a
theorem turnWith_evs (f : Conn → Conn × List CEv) (d : Daemon) (a : Nat) :
    (turnWith f d a).2 = tag a (f (clearDres (d.conn a))).2 := rfl

section lift
variable {R : Conn → List CEv → Conn → Prop} (hR : TurnRel R) (hF : ∀ k evs k', Adm k evs k' → R k evs k') (g : Guards)
  (hr : Sat R (handleRead g)) (hw : Sat R (handleWrite g)) (hi : ∀ ep, Sat R (handleIdle g ep))
include hR hF

omit hR in
theorem Lift_of_adm {d d' : Daemon} {evs} (h : AdmD d evs d') : Lift R d evs d' := fun c => hF _ _ _ (h c)

theorem Lift_turnWith (f : Conn → Conn × List CEv) (hf : Sat R f) (a : Nat) : DSat (Lift R) (fun d => turnWith f d a) := by
  intro d
  refine Lift_one hR (turnWith_conn f d a) ?_
  have := hR.trans _ _ _ _ _ (hF (d.conn a) _ (clearDres (d.conn a)) (.silent rfl rfl)) (hf (clearDres (d.conn a)))
  rw [List.nil_append] at this
  exact this

include hr hw hi

theorem Lift_turn (d : Daemon) (c : Nat) (rr wr : Bool) : Lift R d (turn g d c rr wr).2 (turn g d c rr wr).1 :=
  Lift_turnWith hR hF _ (sat_callHandlers hR hr hw (hi d.isEpoll) rr wr) c d

theorem Lift_turns {l : List Nat} {d : Daemon} {r : Daemon × List Ev} (h : Turns g l d r) : Lift R d r.2 r.1 :=
  turns_sat (Lift_rel hR) (Lift_turn hR hF g hr hw hi) (fun d c => Lift_of_adm hF (AdmD_ereadyPost d c)) h

theorem Lift_step (hsend : ∀ (k : Conn) (syms : List Sym), R k [] { k with inbox := k.inbox ++ syms, sent := k.sent ++ syms })
    (op : Op) : DSat (Lift R) (fun d => step g d op) := by
  have adm {d d' : Daemon} {evs} (h : AdmD d evs d') : Lift R d evs d' := Lift_of_adm hF h
  have hd := Lift_rel hR
  intro d
  have rounds := round_sat hd g d (C := fun _ => True)
    (fun ids _ => dsat_bindD hd (fun d => adm (AdmD_resumeSuspended g d)) (adm (AdmD_timerScan ids d)))
    (fun d => adm (AdmD_newPhase d)) (fun evs d => adm (AdmD_epollPhase evs d))
    (timeoutScan_sat hd fun d c _ => Lift_turnWith hR hF _ (hi d.isEpoll) c d)
    (fun _ _ _ h _ => Lift_turns hR hF g hr hw hi h) (fun _ _ h => Lift_turns hR hF g hr hw hi h)
  cases op with
  | arrive c =>
    show Lift R d (step g d (.arrive c)).2 (step g d (.arrive c)).1
    simp only [step]
    cases d.newConns.contains c || d.active.contains c || d.susp.contains c
    · exact Lift_nil hR rfl
    · exact hd.refl d
  | send a syms => exact Lift_one hR (evs := []) rfl (hsend _ _)
  | resume a => exact adm ((Lift_rel Adm_rel).after (AdmD_resumeReq _ a) (AdmD_setConn rfl rfl))
  | round ids rd wr => exact rounds.1 ids rd wr trivial
  | eround ids evs => exact rounds.2 ids evs trivial

theorem Lift_run (hsend : ∀ (k : Conn) (syms : List Sym), R k [] { k with inbox := k.inbox ++ syms, sent := k.sent ++ syms }) :
    ∀ (ops : List Op) (d : Daemon), Lift R d (run g d ops).2 (run g d ops).1
  | [], d => (Lift_rel hR).refl d
  | op :: ops, d => (Lift_rel hR).trans _ _ _ _ _ (Lift_step hR hF g hr hw hi hsend op d) (Lift_run hsend ops _)

end lift

/-- quietness of a turn under the reader assumption, which stays with the connection -/
def QS (g : Guards) (k : Conn) (evs : List CEv) (k' : Conn) : Prop :=
  k'.script = k.script ∧ (RdOK g k → QR k evs k')

theorem QS_rel (g : Guards) : TurnRel (QS g) where
  refl := fun k => ⟨rfl, fun _ => QR_rel.refl k⟩
  trans := fun _ _ _ _ _ h1 h2 =>
    ⟨h2.1.trans h1.1, fun hk => QR_rel.trans _ _ _ _ _ (h1.2 hk) (h2.2 (by unfold RdOK at *; rw [h1.1]; exact hk))⟩

theorem QRP.qs {g : Guards} {k k' : Conn} {evs} (h : QRP g k evs k') : QS g k evs k' := ⟨h.1.1, h.2⟩

theorem run_quiet (g : Guards) (hg : g.Sound) (ops : List Op) (d : Daemon) (c : Nat) (h : RdOK g (d.conn c)) :
    QR (d.conn c) (proj c (run g d ops).2) ((run g d ops).1.conn c) :=
  (Lift_run (QS_rel g) (fun _ _ _ h => ⟨h.keeps.script, fun _ => h.quiet⟩) g
    (fun k => (QF_handleRead g hg.2.2.2.1 k).qrp.qs) (fun k => QRP.qs (QF_handleWrite g hg.2.2.2.2.1 hg.2.2.2.2.2.2.2 k))
    (fun ep k => (QRP_handleIdle g hg ep k).qs) (fun _ _ => ⟨rfl, fun _ => QR_nil rfl⟩) ops d c).2 h

/-- consistency of the daemon's lists with the per-connection flags -/
structure WF (d : Daemon) : Prop where
  susp_iff : ∀ c, (d.conn c).suspended = true ↔ c ∈ d.susp
  act_nosusp : ∀ c, c ∈ d.active → c ∉ d.susp
  nd_active : d.active.Nodup
  nd_susp : d.susp.Nodup
  er_sub : ∀ c, c ∈ d.eready → c ∈ d.active
  to_sub : ∀ c, c ∈ d.normalTO → c ∈ d.active
  new_fresh : ∀ c, c ∈ d.newConns → c ∉ d.active ∧ c ∉ d.susp
  nd_new : d.newConns.Nodup
  nd_eready : d.eready.Nodup
  nd_to : d.normalTO.Nodup
  /-- no resume request is lost: a suspended connection with `resuming` set ⇒ `daemon->resuming` -/
  no_lost : ∀ c, (d.conn c).suspended = true → (d.conn c).resuming = true → d.resuming = true

def WFD (d : Daemon) (_ : List Ev) (d' : Daemon) : Prop := WF d → WF d'

theorem WFD_rel : DRel WFD where
  refl := fun _ h => h
  trans := fun _ _ _ _ _ h1 h2 h => h2 (h1 h)

theorem WF_init (m : Mode) (plans : Nat → Plan) (later : Nat → List Plan := fun _ => []) : WF (Daemon.init m plans later) := by
  constructor <;> simp [Daemon.init]

def Daemon.lists (d : Daemon) := (d.newConns, d.active, d.susp, d.eready, d.normalTO)

theorem WF.congr {d d' : Daemon} (h : WF d) (hl : d'.lists = d.lists) (hs : ∀ a, (d'.conn a).suspended = (d.conn a).suspended)
    (hm : d.resuming = true → d'.resuming = true)
    (hr : ∀ a, (d'.conn a).resuming = true → (d.conn a).resuming = true ∨ d'.resuming = true) : WF d' := by
  simp only [Daemon.lists, Prod.mk.injEq] at hl
  obtain ⟨l1, l2, l3, l4, l5⟩ := hl
  refine ⟨fun c => ?_, ?_, ?_, ?_, ?_, ?_, ?_, ?_, ?_, ?_, fun c h1 h2 => ?_⟩
  · rw [hs, l3]; exact h.susp_iff c
  · rw [l2, l3]; exact h.act_nosusp
  · rw [l2]; exact h.nd_active
  · rw [l3]; exact h.nd_susp
  · rw [l2, l4]; exact h.er_sub
  · rw [l2, l5]; exact h.to_sub
  · rw [l1, l2, l3]; exact h.new_fresh
  · rw [l1]; exact h.nd_new
  · rw [l4]; exact h.nd_eready
  · rw [l5]; exact h.nd_to
  · exact (hr c h2).elim (fun h3 => hm (h.no_lost c (hs c ▸ h1) h3)) id

theorem WF.replace {d : Daemon} (h : WF d) (c : Nat) (k : Conn)
    (hs : k.suspended = (d.conn c).suspended) (hr : k.resuming = true → (d.conn c).resuming = true ∨ d.resuming = true) :
    WF { d with conn := setConn d.conn c k } := by
  refine h.congr rfl (fun a => ?_) id (fun a => ?_)
  · show (setConn d.conn c k a).suspended = _
    by_cases ha : a = c
    · subst ha; rw [setConn_same]; exact hs
    · rw [setConn_ne _ _ ha]
  · show (setConn d.conn c k a).resuming = true → _ ∨ d.resuming = true
    by_cases ha : a = c
    · subst ha; rw [setConn_same]; exact hr
    · rw [setConn_ne _ _ ha]; exact .inl

def Known (d : Daemon) (a : Nat) : Prop := a ∈ d.active ∨ a ∈ d.susp

def WK (d : Daemon) (_ : List Ev) (d' : Daemon) : Prop := WF d → WF d' ∧ ∀ a, Known d a → Known d' a

theorem WK_rel : DRel WK where
  refl := fun _ h => ⟨h, fun _ ha => ha⟩
  trans := by
    intro d e1 d1 e2 d2 h1 h2 h
    have a := h1 h
    have b := h2 a.1
    exact ⟨b.1, fun x hx => b.2 x (a.2 x hx)⟩

theorem WK_of_eq {d d' : Daemon} {evs} (h : WF d → WF d' ∧ d'.active = d.active ∧ d'.susp = d.susp) : WK d evs d' := by
  intro hw
  have := h hw
  refine ⟨this.1, fun a ha => ?_⟩
  unfold Known; rw [this.2.1, this.2.2]; exact ha

theorem WF_syncEready {d : Daemon} (h : WF d) (inE : Bool) (c : Nat) : WF (syncEready inE d c) := by
  unfold syncEready
  cases h1 : inE && !d.eready.contains c && d.active.contains c
  · cases !inE && d.eready.contains c
    · exact h
    · exact { h with er_sub := fun a ha => h.er_sub a (List.mem_of_mem_erase ha), nd_eready := h.nd_eready.erase c }
  · rw [Bool.and_eq_true, Bool.and_eq_true, Bool.not_eq_true', List.contains_iff_mem] at h1
    exact { h with
      er_sub := fun a ha => (List.mem_cons.1 ha).elim (fun e => e ▸ h1.2) (h.er_sub a)
      nd_eready := List.nodup_cons.2 ⟨not_mem_of_contains h1.1.2, h.nd_eready⟩ }

/-- The record of a listed connection `c` is replaced and `sync` is run for it (a turn, an epoll event, the
    eready clean-up). -/
theorem WF_setSync {d : Daemon} (h : WF d) {c : Nat} (hc : Known d c) (k' : Conn) (r' p' : Bool)
    (hs : c ∈ d.susp → k'.suspended = true) (hm : d.resuming = true → r' = true)
    (hl : k'.suspended = true → k'.resuming = true → r' = true) :
    WF (sync { d with conn := setConn d.conn c k', resuming := r', pending := p' } c) ∧
    ∀ a, Known d a → Known (sync { d with conn := setConn d.conn c k', resuming := r', pending := p' } c) a := by
  have hsusp (a : Nat) (ha : a ≠ c) : (setConn d.conn c k' a).suspended = true ↔ a ∈ d.susp := by
    rw [setConn_ne _ _ ha]; exact h.susp_iff a
  have hlost (a : Nat) : (setConn d.conn c k' a).suspended = true → (setConn d.conn c k' a).resuming = true → r' = true := by
    by_cases ha : a = c
    · subst ha; rw [setConn_same]; exact hl
    · rw [setConn_ne _ _ ha]; exact fun h1 h2 => hm (h.no_lost a h1 h2)
  have key : WF (syncMove { d with conn := setConn d.conn c k', resuming := r', pending := p' } c) ∧
      ∀ a, Known d a → Known (syncMove { d with conn := setConn d.conn c k', resuming := r', pending := p' } c) a := by
    unfold syncMove
    simp only [setConn_same]
    by_cases hmv : k'.suspended = true ∧ c ∈ d.active
    · -- it suspended itself during the turn: moved to the suspended list
      have hns : c ∉ d.susp := h.act_nosusp c hmv.2
      rw [if_pos (by rw [hmv.1, List.contains_iff_mem.2 hmv.2]; rfl)]
      refine ⟨⟨fun a => ?_, fun a ha => ?_, h.nd_active.erase c, List.nodup_cons.2 ⟨hns, h.nd_susp⟩, fun a ha => ?_,
        fun a ha => ?_, fun a ha => ?_, h.nd_new, h.nd_eready.erase c, h.nd_to.erase c, hlost⟩, fun a ha => ?_⟩
      · show (setConn d.conn c k' a).suspended = true ↔ a ∈ c :: d.susp
        by_cases ha : a = c
        · subst ha; rw [setConn_same]; exact ⟨fun _ => List.mem_cons_self, fun _ => hmv.1⟩
        · rw [hsusp a ha, List.mem_cons]; exact ⟨.inr, fun h => h.resolve_left ha⟩
      · have := (h.nd_active.mem_erase_iff).1 ha
        exact fun hm => (List.mem_cons.1 hm).elim this.1 (h.act_nosusp a this.2)
      · have := (h.nd_eready.mem_erase_iff).1 ha
        exact (h.nd_active.mem_erase_iff).2 ⟨this.1, h.er_sub a this.2⟩
      · have := (h.nd_to.mem_erase_iff).1 ha
        exact (h.nd_active.mem_erase_iff).2 ⟨this.1, h.to_sub a this.2⟩
      · have hn := h.new_fresh a ha
        exact ⟨fun hm => hn.1 (List.mem_of_mem_erase hm), fun hm => (List.mem_cons.1 hm).elim (fun e => hn.1 (e ▸ hmv.2)) hn.2⟩
      · by_cases hac : a = c
        · exact .inr (hac ▸ List.mem_cons_self)
        · exact ha.imp (List.mem_erase_of_ne hac).2 (List.mem_cons_of_mem _)
    · -- not moved: flag and list of `c` agree
      rw [if_neg (by
        rw [Bool.and_eq_true, List.contains_iff_mem]; exact hmv)]
      refine ⟨⟨fun a => ?_, h.act_nosusp, h.nd_active, h.nd_susp, h.er_sub, h.to_sub, h.new_fresh, h.nd_new, h.nd_eready,
        h.nd_to, hlost⟩, fun _ ha => ha⟩
      show (setConn d.conn c k' a).suspended = true ↔ a ∈ d.susp
      by_cases ha : a = c
      · subst ha; rw [setConn_same]
        exact ⟨fun hk => hc.resolve_left fun hca => hmv ⟨hk, hca⟩, hs⟩
      · exact hsusp a ha
  rw [sync_eq]
  refine ⟨WF_syncEready key.1 _ c, fun a ha => ?_⟩
  unfold Known
  rw [(syncEready_lists _ _ c).1, (syncEready_lists _ _ c).2]; exact key.2 a ha

theorem WK_turnWith (f : Conn → Conn × List CEv) (hf : ∀ k, FrS k (f k).1)
    (hfs : ∀ k, k.suspended = true → f k = (k, [])) (d : Daemon) {c : Nat} (hc : Known d c) :
    WK d (turnWith f d c).2 (turnWith f d c).1 := by
  intro h
  refine WF_setSync h hc (f (clearDres (d.conn c))).1 _ _ (fun hcs => ?_) (fun e => by rw [e]; rfl) (fun h1 h2 => ?_)
  · have hk : (clearDres (d.conn c)).suspended = true := (h.susp_iff c).2 hcs
    rw [hfs _ hk]; exact hk
  · show (d.resuming || (f (clearDres (d.conn c))).1.dres) = true
    rcases (hf (clearDres (d.conn c))).2.1 h1 h2 with ⟨h3, h4⟩ | h3
    · rw [h.no_lost c h3 h4]; rfl
    · rw [h3, Bool.or_true]

theorem WK_turn (g : Guards) (hg : g.Sound) (d : Daemon) (c : Nat) (rr wr : Bool) (hc : Known d c) :
    WK d (turn g d c rr wr).2 (turn g d c rr wr).1 :=
  WK_turnWith _ (fun k => (QRP_callHandlers g hg d.isEpoll rr wr k).1) (callHandlers_suspended g hg d.isEpoll rr wr) d hc

theorem WK_idleTurn (g : Guards) (hg : g.Sound) (d : Daemon) (c : Nat) (hc : Known d c) :
    WK d (idleTurn g d c).2 (idleTurn g d c).1 :=
  WK_turnWith _ (fun k => (QRP_handleIdle g hg d.isEpoll k).1) (handleIdle_suspended g hg d.isEpoll) d hc

theorem WK_setSync {d : Daemon} {c : Nat} (hc : Known d c) {k' : Conn} (hf : k'.flags = (d.conn c).flags) :
    WK d [] (sync { d with conn := setConn d.conn c k' } c) := by
  intro h
  have e : k'.suspended = (d.conn c).suspended ∧ k'.resuming = (d.conn c).resuming :=
    ⟨flags_suspended hf, congrArg (·.2.2.1) hf⟩
  exact WF_setSync h hc k' d.resuming d.pending (fun hcs => e.1.trans ((h.susp_iff c).2 hcs)) id
    (fun h1 h2 => h.no_lost c (e.1 ▸ h1) (e.2 ▸ h2))

theorem WK_epollEvents : ∀ (l : List (Nat × Bool × Bool)) (d : Daemon), WK d [] (epollEvents l d) :=
  epollEvents_sat WK_rel fun _ _ i o h => WK_setSync (.inl h) (epollMark_frame _ i o).2

theorem WK_ereadyPost (d : Daemon) (c : Nat) (hc : Known d c) : WK d [] (ereadyPost d c) := by
  unfold ereadyPost
  exact iteInduction (motive := WK d []) (fun _ => WK_setSync hc rfl) (fun _ => WK_rel.refl d)

theorem WK_resumeReq (d : Daemon) (c : Nat) : WK d (resumeReq d c).2 (resumeReq d c).1 :=
  WK_of_eq fun hw => ⟨hw.congr rfl (fun a => by
    show (setConn d.conn c _ a).suspended = _
    by_cases ha : a = c
    · subst ha; rw [setConn_same]
    · rw [setConn_ne _ _ ha]) (fun _ => rfl) (fun _ _ => .inr rfl), rfl, rfl⟩

theorem WK_setTimer (d : Daemon) (c : Nat) (t : Option Nat) :
    WK d [] { d with conn := setConn d.conn c { (d.conn c) with timer := t } } :=
  WK_of_eq fun hw => ⟨hw.replace c _ rfl .inl, rfl, rfl⟩

theorem WK_timerScan : ∀ (l : List Nat) (d : Daemon), WK d (timerScan l d).2 (timerScan l d).1 :=
  timerScan_sat WK_rel WK_setTimer WK_resumeReq

/-- record of a connection after resume_suspended_connections moved it back -/
def resumedConn (g : Guards) (ep : Bool) (k : Conn) : Conn :=
  let k1 := { k with suspended := false, resuming := false }
  if ep then
    { k1 with inEready := true, readReady := k1.readReady || g.resumeReady,
              writeReady := k1.writeReady || g.resumeReady, epSusp := false }
  else k1

theorem moveBack_eq (g : Guards) (d : Daemon) (c : Nat) :
    moveBack g d c =
      { d with conn := setConn d.conn c (resumedConn g d.isEpoll (d.conn c)), susp := d.susp.erase c, active := c :: d.active,
               normalTO := c :: d.normalTO, eready := if d.isEpoll then c :: d.eready else d.eready } := rfl

theorem resumedConn_flags (g : Guards) (ep : Bool) (k : Conn) :
    (resumedConn g ep k).suspended = false ∧ (resumedConn g ep k).resuming = false := by
  cases ep <;> exact ⟨rfl, rfl⟩

theorem moveBack_conn_ne (g : Guards) (d : Daemon) {a c : Nat} (h : a ≠ c) : (moveBack g d c).conn a = d.conn a :=
  setConn_ne _ _ h

/-- the invariant without the "no lost resume" clause (it is suspended during the scan) -/
structure WF0 (d : Daemon) : Prop where
  susp_iff : ∀ c, (d.conn c).suspended = true ↔ c ∈ d.susp
  act_nosusp : ∀ c, c ∈ d.active → c ∉ d.susp
  nd_active : d.active.Nodup
  nd_susp : d.susp.Nodup
  er_sub : ∀ c, c ∈ d.eready → c ∈ d.active
  to_sub : ∀ c, c ∈ d.normalTO → c ∈ d.active
  new_fresh : ∀ c, c ∈ d.newConns → c ∉ d.active ∧ c ∉ d.susp
  nd_new : d.newConns.Nodup
  nd_eready : d.eready.Nodup
  nd_to : d.normalTO.Nodup

theorem WF.toWF0 {d : Daemon} (h : WF d) : WF0 d :=
  ⟨h.susp_iff, h.act_nosusp, h.nd_active, h.nd_susp, h.er_sub, h.to_sub, h.new_fresh, h.nd_new, h.nd_eready, h.nd_to⟩

theorem WF0_moveBack (g : Guards) {d : Daemon} (h : WF0 d) {c : Nat} (hc : c ∈ d.susp) : WF0 (moveBack g d c) := by
  have hna : c ∉ d.active := fun hm => h.act_nosusp c hm hc
  rw [moveBack_eq]
  refine ⟨fun a => ?_, fun a ha => ?_, List.nodup_cons.2 ⟨hna, h.nd_active⟩, h.nd_susp.erase c, fun a ha => ?_, fun a ha => ?_,
    fun a ha => ?_, h.nd_new, ?_, List.nodup_cons.2 ⟨fun hm => hna (h.to_sub c hm), h.nd_to⟩⟩
  · show (setConn d.conn c _ a).suspended = true ↔ a ∈ d.susp.erase c
    by_cases ha : a = c
    · subst ha; rw [setConn_same, (resumedConn_flags g _ _).1]
      exact ⟨fun e => (nomatch e), fun hm => absurd rfl ((h.nd_susp.mem_erase_iff).1 hm).1⟩
    · rw [setConn_ne _ _ ha, List.mem_erase_of_ne ha]; exact h.susp_iff a
  · exact fun hm => (List.mem_cons.1 ha).elim (fun e => ((h.nd_susp.mem_erase_iff).1 (e ▸ hm)).1 rfl)
      (fun e => h.act_nosusp a e (List.mem_of_mem_erase hm))
  · show a ∈ c :: d.active
    have : a = c ∨ a ∈ d.eready := by
      have ha : a ∈ (if d.isEpoll then c :: d.eready else d.eready) := ha
      revert ha
      cases d.isEpoll
      · exact .inr
      · exact List.mem_cons.1
    exact this.elim (· ▸ List.mem_cons_self) (fun e => List.mem_cons_of_mem _ (h.er_sub a e))
  · exact (List.mem_cons.1 ha).elim (· ▸ List.mem_cons_self) (fun e => List.mem_cons_of_mem _ (h.to_sub a e))
  · have hn := h.new_fresh a ha
    exact ⟨fun hm => (List.mem_cons.1 hm).elim (fun e => hn.2 (e ▸ hc)) hn.1, fun hm => hn.2 (List.mem_of_mem_erase hm)⟩
  · show (if d.isEpoll then c :: d.eready else d.eready).Nodup
    cases d.isEpoll
    · exact h.nd_eready
    · exact List.nodup_cons.2 ⟨fun hm => hna (h.er_sub c hm), h.nd_eready⟩

/-- the scan keeps the lists consistent, loses nobody, and leaves in the suspended list exactly the
    connections of `l` … that had no resume request, with their `resuming` flag as it was -/
theorem resumeScan_inv (g : Guards) : ∀ (l : List Nat) (d : Daemon), WF0 d → l.Nodup → (∀ c ∈ l, c ∈ d.susp) →
    WF0 (resumeScan g l d).1 ∧ (resumeScan g l d).1.resuming = d.resuming ∧
    (∀ a, Known d a → Known (resumeScan g l d).1 a) ∧
    (∀ a, a ∈ (resumeScan g l d).1.susp →
        a ∈ d.susp ∧ (a ∈ l → (d.conn a).resuming = false) ∧
        ((resumeScan g l d).1.conn a).resuming = (d.conn a).resuming) := by
  intro l
  induction l with
  | nil => exact fun d h _ _ => ⟨h, rfl, fun _ ha => ha, fun a ha => ⟨ha, fun hm => (nomatch hm), rfl⟩⟩
  | cons c rest ih =>
    intro d h hnd hl
    have hc : c ∈ d.susp := hl c List.mem_cons_self
    have hnd' := List.nodup_cons.1 hnd
    unfold resumeScan
    cases hres : (d.conn c).resuming
    · have r := ih d h hnd'.2 (fun x hx => hl x (List.mem_cons_of_mem _ hx))
      refine ⟨r.1, r.2.1, r.2.2.1, fun a ha => ?_⟩
      have q := r.2.2.2 a ha
      exact ⟨q.1, fun hal => (List.mem_cons.1 hal).elim (fun e => e ▸ hres) q.2.1, q.2.2⟩
    · have r := ih (moveBack g d c) (WF0_moveBack g h hc) hnd'.2
        (fun x hx => (List.mem_erase_of_ne fun e : x = c => hnd'.1 (e ▸ hx)).2 (hl x (List.mem_cons_of_mem _ hx)))
      refine ⟨r.1, r.2.1, fun a ha => r.2.2.1 a ?_, fun a ha => ?_⟩
      · by_cases hac : a = c
        · exact .inl (hac ▸ List.mem_cons_self)
        · exact ha.imp (List.mem_cons_of_mem _) (List.mem_erase_of_ne hac).2
      · have q := r.2.2.2 a ha
        have hm := (h.nd_susp.mem_erase_iff).1 q.1
        rw [moveBack_conn_ne g d hm.1] at q
        exact ⟨hm.2, fun hal => (List.mem_cons.1 hal).elim (absurd · hm.1) q.2.1, q.2.2⟩

theorem WK_resumeSuspended (g : Guards) : DSat WK (resumeSuspended g) := by
  intro d hw
  unfold resumeSuspended
  by_cases hres : d.resuming = true
  · rw [if_pos hres]
    have r := resumeScan_inv g d.susp.reverse { d with resuming := false }
      ⟨hw.susp_iff, hw.act_nosusp, hw.nd_active, hw.nd_susp, hw.er_sub, hw.to_sub, hw.new_fresh, hw.nd_new, hw.nd_eready, hw.nd_to⟩
      hw.nd_susp.reverse (fun c hc => List.mem_reverse.1 hc)
    generalize resumeScan g d.susp.reverse { d with resuming := false } = res at r
    refine ⟨⟨r.1.susp_iff, r.1.act_nosusp, r.1.nd_active, r.1.nd_susp, r.1.er_sub, r.1.to_sub, r.1.new_fresh,
      r.1.nd_new, r.1.nd_eready, r.1.nd_to, fun a hs hr => ?_⟩, r.2.2.1⟩
    -- whoever is still suspended had no resume request
    have q := r.2.2.2 a ((r.1.susp_iff a).1 hs)
    rw [q.2.2, q.2.1 (List.mem_reverse.2 q.1)] at hr
    exact nomatch hr
  · rw [if_neg hres]; exact ⟨hw, fun _ ha => ha⟩

/-- `l`: the part of the new-connections list still to be inserted -/
theorem processNew_inv : ∀ (l : List Nat) (d : Daemon), WF { d with newConns := l } →
    WF (processNew l d).1 ∧ ∀ a, Known d a → Known (processNew l d).1 a := by
  intro l
  induction l with
  | nil =>
    exact fun d h => ⟨h, fun _ ha => ha⟩
  | cons c rest ih =>
    intro d h
    have hc : c ∉ d.active ∧ c ∉ d.susp := h.new_fresh c List.mem_cons_self
    have hnd := List.nodup_cons.1 h.nd_new
    have r := ih { d with conn := setConn d.conn c { (d.conn c) with eli := Eli.read, inSet := d.isEpoll },
                          active := c :: d.active, normalTO := c :: d.normalTO } ?_
    · exact ⟨r.1, fun a ha => r.2 a (ha.imp (List.mem_cons_of_mem _) id)⟩
    · have hflag (a : Nat) : (setConn d.conn c { (d.conn c) with eli := Eli.read, inSet := d.isEpoll } a).suspended = (d.conn a).suspended ∧
          (setConn d.conn c { (d.conn c) with eli := Eli.read, inSet := d.isEpoll } a).resuming = (d.conn a).resuming := by
        by_cases ha : a = c
        · subst ha; rw [setConn_same]; exact ⟨rfl, rfl⟩
        · rw [setConn_ne _ _ ha]; exact ⟨rfl, rfl⟩
      refine ⟨fun a => ?_, fun a ha => ?_, List.nodup_cons.2 ⟨hc.1, h.nd_active⟩, h.nd_susp,
        fun a ha => List.mem_cons_of_mem _ (h.er_sub a ha), fun a ha => ?_, fun a ha => ?_, hnd.2, h.nd_eready,
        List.nodup_cons.2 ⟨fun hm => hc.1 (h.to_sub c hm), h.nd_to⟩, fun a => ?_⟩
      · show (setConn d.conn c _ a).suspended = true ↔ _
        rw [(hflag a).1]; exact h.susp_iff a
      · exact (List.mem_cons.1 ha).elim (· ▸ hc.2) (h.act_nosusp a)
      · exact (List.mem_cons.1 ha).elim (· ▸ List.mem_cons_self) (fun e => List.mem_cons_of_mem _ (h.to_sub a e))
      · have := h.new_fresh a (List.mem_cons_of_mem _ ha)
        exact ⟨fun hm => (List.mem_cons.1 hm).elim (fun e => hnd.1 (e ▸ ha)) this.1, this.2⟩
      · show (setConn d.conn c _ a).suspended = true → (setConn d.conn c _ a).resuming = true → _
        rw [(hflag a).1, (hflag a).2]; exact h.no_lost a

theorem WK_newPhase : DSat WK newPhase :=
  fun d hw => processNew_inv d.newConns { d with pending := false } (hw.congr rfl (fun _ => rfl) id (fun _ => .inl))

theorem WK_turns (g : Guards) (hg : g.Sound) {l : List Nat} {d : Daemon} {r : Daemon × List Ev} (h : Turns g l d r) :
    (∀ a ∈ l, Known d a) → WK d r.2 r.1 := by
  induction h with
  | stop l d => exact fun _ => WK_rel.refl d
  | @turn c _ d _ rr wr _ hd _ ih =>
    intro hl hw
    have a := WK_turn g hg d c rr wr (hl c List.mem_cons_self) hw
    rcases hd with e | e <;> subst e
    · have b := ih (fun x hx => a.2 x (hl x (List.mem_cons_of_mem _ hx))) a.1
      exact ⟨b.1, fun x hx => b.2 x (a.2 x hx)⟩
    · have p := WK_ereadyPost (turn g d c rr wr).1 c (a.2 c (hl c List.mem_cons_self)) a.1
      have b := ih (fun x hx => p.2 x (a.2 x (hl x (List.mem_cons_of_mem _ hx)))) p.1
      exact ⟨b.1, fun x hx => b.2 x (p.2 x (a.2 x hx))⟩

theorem WK_timeoutScan (g : Guards) (hg : g.Sound) : DSat WK (timeoutScan g) :=
  timeoutScan_sat WK_rel fun d c hc hw => WK_idleTurn g hg d c (.inl (hw.to_sub c hc)) hw

theorem WK_clearPending (d : Daemon) : WK d [] { d with pending := false } :=
  WK_of_eq fun hw => ⟨hw.congr rfl (fun _ => rfl) id (fun _ => .inl), rfl, rfl⟩

theorem WK_epollPhase (evs : List (Nat × Bool × Bool)) : DSat WK (pureD (fun d => epollEvents evs { d with pending := false })) :=
  fun d => WK_rel.after (WK_epollEvents evs _) (WK_clearPending d)

theorem WK_step (g : Guards) (hg : g.Sound) (op : Op) : DSat WK (fun d => step g d op) := by
  intro d
  have rounds := round_sat WK_rel g d (C := fun _ => True) (fun ids _ => dsat_bindD WK_rel (WK_resumeSuspended g) (WK_timerScan ids d))
    WK_newPhase WK_epollPhase (WK_timeoutScan g hg) (fun _ _ _ h hl => WK_turns g hg h fun a ha => .inl (hl a ha))
    (fun _ _ h hw => WK_turns g hg h (fun a ha => .inl (hw.er_sub a (List.mem_reverse.1 ha))) hw)
  cases op with
  | arrive c =>
    show WK d (step g d (.arrive c)).2 (step g d (.arrive c)).1
    simp only [step]
    cases hcond : d.newConns.contains c || d.active.contains c || d.susp.contains c
    · have h3 := Bool.or_eq_false_iff.1 hcond
      have h12 := Bool.or_eq_false_iff.1 h3.1
      refine WK_of_eq fun hw => ⟨{ hw with new_fresh := fun a ha => ?_, nd_new := ?_ }, rfl, rfl⟩
      · refine (List.mem_append.1 ha).elim (hw.new_fresh a) fun e => ?_
        cases List.mem_singleton.1 e
        exact ⟨not_mem_of_contains h12.2, not_mem_of_contains h3.2⟩
      · exact List.nodup_append.2 ⟨hw.nd_new, List.nodup_cons.2 ⟨List.not_mem_nil, List.nodup_nil⟩,
          fun a ha b hb e => not_mem_of_contains h12.1 (List.mem_singleton.1 hb ▸ e ▸ ha)⟩
    · exact WK_rel.refl d
  | send c syms => exact WK_of_eq fun hw => ⟨hw.replace c _ rfl .inl, rfl, rfl⟩
  | resume c => exact WK_rel.after (WK_resumeReq _ c) (WK_setTimer d c none)
  | round ids rd wr => exact rounds.1 ids rd wr trivial
  | eround ids evs => exact rounds.2 ids evs trivial

theorem run_WF (g : Guards) (hg : g.Sound) : ∀ (ops : List Op) (d : Daemon), WF d → WF (run g d ops).1
  | [], _, h => h
  | op :: ops, d, h => run_WF g hg ops _ (WK_step g hg op d h).1

def SameMode (d : Daemon) (_ : List Ev) (d' : Daemon) : Prop := d'.mode = d.mode

theorem SameMode_rel : DRel SameMode := ⟨fun _ => rfl, fun _ _ _ _ _ h1 h2 => h2.trans h1⟩

theorem turnWith_mode (f : Conn → Conn × List CEv) (d : Daemon) (a : Nat) : (turnWith f d a).1.mode = d.mode :=
  sync_mode _ a

theorem ereadyPost_mode (d : Daemon) (a : Nat) : (ereadyPost d a).mode = d.mode := by
  unfold ereadyPost
  exact iteInduction (motive := fun x : Daemon => x.mode = d.mode) (fun _ => sync_mode _ a) (fun _ => rfl)

theorem turns_mode {g : Guards} {l : List Nat} {d : Daemon} {r : Daemon × List Ev} (h : Turns g l d r) : r.1.mode = d.mode :=
  turns_sat SameMode_rel (fun d c _ _ => turnWith_mode _ d c) ereadyPost_mode h

theorem timerScan_mode : ∀ (l : List Nat) (d : Daemon), (timerScan l d).1.mode = d.mode :=
  timerScan_sat SameMode_rel (fun _ _ _ => rfl) (fun _ _ => rfl)

theorem resumeSuspended_mode (g : Guards) : ∀ d : Daemon, (resumeSuspended g d).1.mode = d.mode :=
  resumeSuspended_sat SameMode_rel (fun _ => rfl) (fun _ _ => rfl)

theorem newPhase_mode (d : Daemon) : (newPhase d).1.mode = d.mode := by
  have scan : ∀ (l : List Nat) (x : Daemon), (processNew l x).1.mode = x.mode := by
    intro l
    induction l with
    | nil => exact fun _ => rfl
    | cons a r ih => exact fun x => ih _
  exact scan _ _

theorem epollEvents_mode : ∀ (l : List (Nat × Bool × Bool)) (x : Daemon), (epollEvents l x).mode = x.mode :=
  epollEvents_sat SameMode_rel fun _ c _ _ _ => sync_mode _ c

theorem step_mode (g : Guards) (d : Daemon) (op : Op) : (step g d op).1.mode = d.mode := by
  have rounds := round_sat SameMode_rel g d (C := fun _ => True)
    (fun ids _ => (resumeSuspended_mode g _).trans (timerScan_mode ids d)) newPhase_mode (fun evs _ => epollEvents_mode evs _)
    (timeoutScan_sat SameMode_rel fun d c _ => turnWith_mode _ d c) (fun _ _ _ h _ => turns_mode h) (fun _ _ h => turns_mode h)
  cases op with
  | arrive c => exact iteInduction (motive := fun x : Daemon × List Ev => x.1.mode = d.mode) (fun _ => rfl) (fun _ => rfl)
  | send c syms => rfl
  | resume c => rfl
  | round ids rd wr => exact rounds.1 ids rd wr trivial
  | eround ids evs => exact rounds.2 ids evs trivial

theorem run_mode (g : Guards) : ∀ (ops : List Op) (d : Daemon), (run g d ops).1.mode = d.mode
  | [], _ => rfl
  | op :: ops, d => (run_mode g ops _).trans (step_mode g d op)

theorem isEpoll_of_mode {d d' : Daemon} (h : d'.mode = d.mode) : d'.isEpoll = d.isEpoll := congrArg (· == Mode.epoll) h

end Mhd.Susp
