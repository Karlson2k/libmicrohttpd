/-
  C17 proofs: quoted strings — `MHD_str_unquote`, `MHD_str_quote`,
  `MHD_str_equal_quoted_bin_n`, `MHD_str_equal_caseless_quoted_bin_n`: the loop invariants and
  steps here, the statements (`quote_exact`, `unquote_exact`, `equalQuoted_iff`,
  `equalCaselessQuoted_exact`) in `Mhd.Props.C17`.
-/
import Mhd.Proofs.StrBase
import Mhd.Proofs.StrSpecQuoted

namespace Mhd.Str

theorem quoteSpec_special (c : UInt8) (t : Bytes) (hs : isQuoteSpecial c = true) :
    quoteSpec (c :: t) = [0x5c, c] ++ quoteSpec t := by
  have : c = 0x5c ∨ c = 0x22 := by simpa [isQuoteSpecial] using hs
  rw [quoteSpec, if_pos this]; rfl

theorem quoteSpec_plain (c : UInt8) (t : Bytes) (hs : ¬ isQuoteSpecial c = true) :
    quoteSpec (c :: t) = [c] ++ quoteSpec t := by
  have : ¬ (c = 0x5c ∨ c = 0x22) := by simpa [isQuoteSpecial] using hs
  rw [quoteSpec, if_neg this]; rfl

theorem unquote_step (q out : Bytes) (hsz : q.length ≤ out.length) (st : RW)
    (hi : ShrInv unquoteSpec q out st.r st.w st.out) :
    StepOk (unquoteStep q st) (fun s' => ShrInv unquoteSpec q out s'.r s'.w s'.out ∧ st.r < s'.r)
      (fun x => Wrote (.ok x) out (unquoteSpec q)) := by
  obtain ⟨r, w, o⟩ := st
  dsimp only at hi
  have hlen := hi.1.2.1
  unfold unquoteStep
  dsimp only
  by_cases hlt : q.length > r
  · have hw : w < o.length := by have := hi.2; omega
    have hd := List.drop_eq_getElem_cons hlt
    rw [if_pos hlt, rd_lt hlt, bind_ok']
    by_cases hc : q[r] = 0x5c
    · rw [if_pos hc]
      rw [hc] at hd
      by_cases hend : q.length = r + 1
      · rw [if_pos hend]
        rw [List.drop_eq_nil_of_le (Nat.le_of_eq hend)] at hd
        exact .inr ⟨_, rfl, hi.1.wrote_none (hd ▸ unquoteSpec_bs_end) hlen⟩
      · have h1 : r + 1 < q.length := by omega
        rw [List.drop_eq_getElem_cons h1] at hd
        rw [if_neg hend, pure_eq_ok, bind_ok']
        dsimp only
        rw [rd_lt h1, bind_ok', wr_ok _ hw, bind_ok']
        exact .inl ⟨_, rfl, hi.round (pre := [_, _]) (Nat.le_add_left 1 1) hd hw (unquoteSpec_bs _ _),
          Nat.lt_add_of_pos_right (Nat.succ_pos 1)⟩
    · rw [if_neg hc, pure_eq_ok, bind_ok']
      dsimp only
      rw [rd_lt hlt, bind_ok', wr_ok _ hw, bind_ok']
      exact .inl ⟨_, rfl, hi.round (pre := [_]) (Nat.le_refl 1) hd hw (unquoteSpec_cons_ne _ _ hc), Nat.lt_succ_self r⟩
  · rw [if_neg hlt]
    exact .inr ⟨_, rfl, hi.1.wrote_done (Nat.le_of_not_lt hlt) unquoteSpec_nil⟩

def QuoInv (u out : Bytes) (r w : Nat) (o : Bytes) : Prop :=
  DecInv (fun s => some (quoteSpec s)) u out r w o ∧ w ≤ 2 * r

/-- both loops return the quoted form if it fits and 0 otherwise -/
abbrev QuoPost (u out : Bytes) (x : Nat × Bytes) : Prop :=
  Wrote (.ok x) out ((some (quoteSpec u)).filter (fitsIn out.length))

theorem QuoInv.special {u out : Bytes} {r w : Nat} {o : Bytes} (hi : QuoInv u out r w o) (hlt : r < u.length)
    (hs : isQuoteSpecial u[r] = true) (hw : w + 1 < o.length) :
    QuoInv u out (r + 1) (w + 2) ((o.set w 0x5c).set (w + 1) u[r]) :=
  ⟨hi.1.emitT (pre := [_]) (List.drop_eq_getElem_cons hlt) (quoteSpec_special _ _ hs) (by simp) hw (take_set_two o w _ _ hw), by have := hi.2; omega⟩

theorem QuoInv.plain {u out : Bytes} {r w : Nat} {o : Bytes} (hi : QuoInv u out r w o) (hlt : r < u.length)
    (hs : ¬ isQuoteSpecial u[r] = true) (hw : w < o.length) :
    QuoInv u out (r + 1) (w + 1) (o.set w u[r]) :=
  ⟨hi.1.emitT (pre := [_]) (List.drop_eq_getElem_cons hlt) (quoteSpec_plain _ _ hs) (List.length_set ..) hw (take_set_succ o w _ hw), by have := hi.2; omega⟩

theorem QuoInv.done {u out : Bytes} {r w : Nat} {o : Bytes} (hi : QuoInv u out r w o) (h : u.length ≤ r) :
    QuoPost u out (w, o) :=
  (hi.1.wrote_done h rfl).filter_fits

theorem quoteFast_step (u out : Bytes) (hsz : 2 * u.length ≤ out.length) (st : RW) (hi : QuoInv u out st.r st.w st.out) :
    StepOk (quoteFastStep u st) (fun s' => QuoInv u out s'.r s'.w s'.out ∧ st.r < s'.r) (QuoPost u out) := by
  obtain ⟨r, w, o⟩ := st
  dsimp only at hi
  have hlen := hi.1.2.1
  have hwr := hi.2
  unfold quoteFastStep
  dsimp only
  by_cases hlt : u.length > r
  · have hw1 : w + 1 < o.length := by omega
    have hw : w < o.length := Nat.lt_of_succ_lt hw1
    rw [if_pos hlt, rd_lt hlt, bind_ok']
    by_cases hs : isQuoteSpecial u[r] = true
    · rw [if_pos hs, wr_ok _ hw, bind_ok', wr_ok _ ((List.length_set ..).symm ▸ hw1), bind_ok']
      exact .inl ⟨_, rfl, hi.special hlt hs hw1, Nat.lt_succ_self r⟩
    · rw [if_neg hs, wr_ok _ hw, bind_ok']
      exact .inl ⟨_, rfl, hi.plain hlt hs hw, Nat.lt_succ_self r⟩
  · rw [if_neg hlt]
    exact .inr ⟨_, rfl, hi.done (Nat.le_of_not_lt hlt)⟩

theorem quoteSlow_step (u out : Bytes) (st : RW) (hi : QuoInv u out st.r st.w st.out) :
    StepOk (quoteSlowStep u st) (fun s' => QuoInv u out s'.r s'.w s'.out ∧ st.r < s'.r) (QuoPost u out) := by
  obtain ⟨r, w, o⟩ := st
  dsimp only at hi
  have hlen := hi.1.2.1
  unfold quoteSlowStep
  dsimp only
  by_cases hlt : u.length > r
  · rw [if_pos hlt]
    by_cases hfull : o.length ≤ w
    · rw [if_pos hfull]
      refine .inr ⟨_, rfl, hi.1.wrote_nofit (fun d hd => ?_) hlen⟩
      obtain rfl := Option.some.inj hd
      have : 0 < (quoteSpec (u.drop r)).length := by
        by_cases hs : isQuoteSpecial u[r] = true
        · rw [List.drop_eq_getElem_cons hlt, quoteSpec_special _ _ hs]; exact Nat.succ_pos _
        · rw [List.drop_eq_getElem_cons hlt, quoteSpec_plain _ _ hs]; exact Nat.succ_pos _
      omega
    · have hw : w < o.length := Nat.lt_of_not_le hfull
      rw [if_neg hfull, rd_lt hlt, bind_ok']
      by_cases hs : isQuoteSpecial u[r] = true
      · rw [if_pos hs, wr_ok _ hw, bind_ok', List.length_set]
        by_cases hfull2 : o.length ≤ w + 1
        · rw [if_pos hfull2]
          refine .inr ⟨_, rfl, hi.1.wrote_nofit (fun d hd => ?_) (by rw [List.length_set, hlen])⟩
          obtain rfl := Option.some.inj hd
          have : 2 ≤ (quoteSpec (u.drop r)).length := by
            rw [List.drop_eq_getElem_cons hlt, quoteSpec_special _ _ hs, List.length_append]; exact Nat.le_add_right 2 _
          omega
        · have hw1 : w + 1 < o.length := Nat.lt_of_not_le hfull2
          rw [if_neg hfull2, wr_ok _ ((List.length_set ..).symm ▸ hw1), bind_ok']
          exact .inl ⟨_, rfl, hi.special hlt hs hw1, Nat.lt_succ_self r⟩
      · rw [if_neg hs, wr_ok _ hw, bind_ok']
        exact .inl ⟨_, rfl, hi.plain hlt hs hw, Nat.lt_succ_self r⟩
  · rw [if_neg hlt]
    exact .inr ⟨_, rfl, hi.done (Nat.le_of_not_lt hlt)⟩

def EqqInv (eq : UInt8 → UInt8 → Bool) (q u : Bytes) (st : IJ) : Prop :=
  st.i ≤ q.length ∧ st.j ≤ u.length ∧ quotedEq eq q u = quotedEq eq (q.drop st.i) (u.drop st.j)

theorem equalQuoted_step (eq : UInt8 → UInt8 → Bool) (q u : Bytes) (st : IJ) (hi : EqqInv eq q u st) :
    StepOk (equalQuotedStep eq q u st) (fun s' => EqqInv eq q u s' ∧ st.i < s'.i) (· = quotedEq eq q u) := by
  obtain ⟨i, j⟩ := st
  obtain ⟨hi1, hj1, hg⟩ := hi
  dsimp only at hi1 hj1 hg
  unfold equalQuotedStep
  dsimp only
  by_cases hlt : q.length > i ∧ u.length > j
  · obtain ⟨hqi, huj⟩ := hlt
    have hd := List.drop_eq_getElem_cons hqi
    -- comparing the character at `k` of `q`, where `k` is `i` or, behind a backslash, `i + 1`
    have hcmp : ∀ k (hk : k < q.length) (pre : Bytes), i ≤ k → q.drop i = pre ++ q.drop (k + 1) →
        unquoteSpec (pre ++ q.drop (k + 1)) = (unquoteSpec (q.drop (k + 1))).map (q[k] :: ·) →
        StepOk (if (!eq q[k] u[j]) = true then (.ok (.inr false) : M (IJ ⊕ Bool)) else .ok (.inl ⟨k + 1, j + 1⟩))
          (fun s' => EqqInv eq q u s' ∧ i < s'.i) (· = quotedEq eq q u) := by
      intro k hk pre hik hw hs
      have hq : quotedEq eq q u = (eq q[k] u[j] && quotedEq eq (q.drop (k + 1)) (u.drop (j + 1))) := by
        rw [hg, hw, List.drop_eq_getElem_cons huj, quotedEq_cons hs]
      cases he : eq q[k] u[j]
      · exact .inr ⟨false, rfl, by rw [hq, he, Bool.false_and]⟩
      · exact .inl ⟨_, rfl, ⟨hk, huj, by rw [hq, he, Bool.true_and]⟩, Nat.lt_succ_of_le hik⟩
    rw [if_pos ⟨hqi, huj⟩, rd_lt hqi, bind_ok']
    by_cases hc : q[i] = 0x5c
    · rw [if_pos hc]
      rw [hc] at hd
      by_cases hend : q.length = i + 1
      · rw [if_pos hend]
        rw [List.drop_eq_nil_of_le (Nat.le_of_eq hend)] at hd
        exact .inr ⟨false, rfl, by rw [hg, hd, quotedEq_none unquoteSpec_bs_end]⟩
      · have h1 : i + 1 < q.length := by omega
        rw [List.drop_eq_getElem_cons h1] at hd
        rw [if_neg hend, pure_eq_ok, bind_ok']
        dsimp only
        rw [rd_lt h1, bind_ok', rd_lt huj, bind_ok']
        exact hcmp (i + 1) h1 [_, _] (Nat.le_succ i) hd (unquoteSpec_bs _ _)
    · rw [if_neg hc, pure_eq_ok, bind_ok']
      dsimp only
      rw [rd_lt hqi, bind_ok', rd_lt huj, bind_ok']
      exact hcmp i hqi [_] (Nat.le_refl i) hd (unquoteSpec_cons_ne _ _ hc)
  · rw [if_neg hlt]
    refine .inr ⟨_, rfl, ?_⟩
    rw [hg]
    by_cases hqi : q.length > i
    · rw [List.drop_eq_getElem_cons hqi, List.drop_eq_nil_of_le (as := u) (by omega), quotedEq_cons_nil]
      exact decide_eq_false (by omega)
    · rw [List.drop_eq_nil_of_le (as := q) (by omega), quotedEq_nil, List.length_drop]
      exact decide_eq_decide.mpr (by omega)

theorem equalQuotedGen_spec (eq : UInt8 → UInt8 → Bool) (q u : Bytes) :
    equalQuotedGen eq q u = .ok (quotedEq eq q u) := by
  unfold equalQuotedGen
  by_cases hq : u.length < q.length / 2
  · rw [if_pos hq, quotedEq_short hq]
  · obtain ⟨r, hr, hp⟩ := iter_scan _ (EqqInv eq q u) (·.i) q.length (fun r => r = quotedEq eq q u) (fun _ hi => hi.1)
      (equalQuoted_step eq q u) (q.length + 1) (Nat.lt_succ_self _) ⟨0, 0⟩ ⟨Nat.zero_le _, Nat.zero_le _, rfl⟩
    rw [if_neg hq, hr, hp]

end Mhd.Str
