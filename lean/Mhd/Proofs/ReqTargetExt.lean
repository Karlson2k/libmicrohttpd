/-
  `process_request_target` and bytes that arrive behind the request line: a successful run on
  `buf` is reproduced on `buf ++ e` (more received bytes), with the same result record and the
  result buffer extended by `e` — although the loop fuel of the model depends on the buffer
  size.  Every construct the functions are made of (checked read, test, checked write, hex-digit
  pair, sequencing) carries a success over to the extended buffer (`Carries.rd`, `.ite`, `.wr`,
  `.hexpair`, `.bind`); the lemma of each function follows its text with these.
-/
import Mhd.Model.ReqTarget
import Mhd.Proofs.ReqBuf
namespace Mhd.Req
namespace TGT

/-- a success of `X` is reproduced by `Y`, the result mapped by `g` (`X` runs on a buffer, `Y` on the
    buffer extended by `e`, and `g` extends the result buffer) -/
def Carries {α β : Type} (g : α → β) (X : Except Fault α) (Y : Except Fault β) : Prop := ∀ v, X = .ok v → Y = .ok (g v)

/-- the result buffer extended by `e` -/
abbrev withExt {α : Type} (e : Bytes) (x : Bytes × α) : Bytes × α := (x.1 ++ e, x.2)

section
variable {α β γ δ : Type} {g : α → β} {buf e : Bytes} {i : Nat} {f : Fault}

theorem Carries.ok (g : α → β) (v : α) : Carries g (.ok v) (.ok (g v)) := fun _ h => Except.ok.inj h ▸ rfl

theorem Carries.rd {K : UInt8 → Except Fault α} {K' : UInt8 → Except Fault β}
    (hK : ∀ c, buf[i]? = some c → Carries g (K c) (K' c)) :
    Carries g (match buf[i]? with | none => .error f | some c => K c)
      (match (buf ++ e)[i]? with | none => .error f | some c => K' c) := by
  cases hb : buf[i]? with
  | none => intro _ h; cases h
  | some c => rw [get_some_ext e hb]; exact hK c hb

theorem Carries.ite {c : Prop} [Decidable c] {A B : Except Fault α} {A' B' : Except Fault β}
    (hA : c → Carries g A A') (hB : ¬c → Carries g B B') : Carries g (if c then A else B) (if c then A' else B') := by
  by_cases hc : c
  · rw [if_pos hc, if_pos hc]; exact hA hc
  · rw [if_neg hc, if_neg hc]; exact hB hc

theorem Carries.wr {A : Except Fault α} {A' : Except Fault β} (hA : i < buf.size → Carries g A A') :
    Carries g (if i < buf.size then A else .error f) (if i < (buf ++ e).size then A' else .error f) := by
  by_cases hc : i < buf.size
  · rw [if_pos hc, if_pos (by rw [Array.size_append]; omega)]; exact hA hc
  · rw [if_neg hc]; intro _ h; cases h

theorem Carries.hexpair {o1 o2 : Option UInt8} {A : UInt8 → UInt8 → Except Fault α} {A' : UInt8 → UInt8 → Except Fault β}
    {B : Except Fault α} {B' : Except Fault β} (hA : ∀ h l, Carries g (A h l) (A' h l)) (hB : Carries g B B') :
    Carries g (match o1, o2 with | some h, some l => A h l | _, _ => B)
      (match o1, o2 with | some h, some l => A' h l | _, _ => B') := by
  cases o1 with
  | none => exact hB
  | some _ => cases o2 with
    | none => exact hB
    | some _ => exact hA _ _

theorem Carries.bind {X : Except Fault α} {X' : Except Fault β} {K : α → Except Fault γ} {K' : β → Except Fault δ}
    {g' : γ → δ} (hX : Carries g X X') (hK : ∀ v, Carries g' (K v) (K' (g v))) : Carries g' (X >>= K) (X' >>= K') := by
  cases hx : X with
  | error _ => intro _ h; cases h
  | ok v => rw [hX v hx]; exact hK v

theorem Carries.okExt (b : Bytes) (n : α) : Carries (withExt e) (.ok (b, n)) (.ok (b ++ e, n)) := Carries.ok _ _

theorem Carries.stop {n : Nat} {v : UInt8} :
    Carries (withExt e) (if i < buf.size then .ok (buf.setIfInBounds i v, n) else .error f)
      (if i < (buf ++ e).size then .ok ((buf ++ e).setIfInBounds i v, n) else .error f) :=
  Carries.wr fun hw => Array.setIfInBounds_append_left hw ▸ Carries.okExt _ _

end

/-- the fuel of the run on the longer buffer is not used up before that of the other -/
theorem fuel_succ {f n : Nat} (h : f + 1 ≤ n) : ∃ m, n = m + 1 ∧ f ≤ m :=
  match n, h with
  | m + 1, h => ⟨m, rfl, Nat.le_of_succ_le_succ h⟩

theorem strchr_ext (buf e : Bytes) (c : UInt8) : ∀ (fuel fuel' a : Nat), fuel ≤ fuel' →
    Carries id (strchr buf c fuel a) (strchr (buf ++ e) c fuel' a) := by
  intro fuel
  induction fuel with
  | zero => intro _ _ _ _ h; cases h
  | succ f ih =>
    intro fuel' a hf
    obtain ⟨f', rfl, hf'⟩ := fuel_succ hf
    rw [strchr, strchr]
    exact .rd fun b _ => .ite (fun _ => .ok _ _) fun _ => .ite (fun _ => .ok _ _) fun _ => ih _ _ hf'

theorem unescapePlus_ext (e : Bytes) : ∀ (fuel fuel' : Nat) (buf : Bytes) (a : Nat), fuel ≤ fuel' →
    Carries (· ++ e) (unescapePlus buf fuel a) (unescapePlus (buf ++ e) fuel' a) := by
  intro fuel
  induction fuel with
  | zero => intro _ _ _ _ _ h; cases h
  | succ f ih =>
    intro fuel' buf a hf
    obtain ⟨f', rfl, hf'⟩ := fuel_succ hf
    rw [unescapePlus, unescapePlus]
    refine .rd fun b hb => .ite (fun _ => .ok _ _) fun _ => .ite (fun _ => ?_) fun _ => ih _ _ _ hf'
    rw [Array.setIfInBounds_append_left (get_some_lt hb)]; exact ih _ _ _ hf'

theorem pctStrict_ext (e : Bytes) (a : Nat) : ∀ (fuel fuel' : Nat) (buf : Bytes) (r w : Nat), fuel ≤ fuel' →
    Carries (withExt e) (pctStrict buf a fuel r w) (pctStrict (buf ++ e) a fuel' r w) := by
  intro fuel
  induction fuel with
  | zero => intro _ _ _ _ _ _ h; cases h
  | succ f ih =>
    intro fuel' buf r w hf
    obtain ⟨f', rfl, hf'⟩ := fuel_succ hf
    -- a checked write after which the loop goes on
    have cont : ∀ {v : UInt8} {r' : Nat} {ft : Fault}, Carries (withExt e)
        (if a + w < buf.size then pctStrict (buf.setIfInBounds (a + w) v) a f r' (w + 1) else .error ft)
        (if a + w < (buf ++ e).size then pctStrict ((buf ++ e).setIfInBounds (a + w) v) a f' r' (w + 1) else .error ft) :=
      .wr fun hw => Array.setIfInBounds_append_left hw ▸ ih _ _ _ _ hf'
    rw [pctStrict, pctStrict]
    exact .rd fun chr _ => .ite (fun _ => .stop) fun _ => .ite (fun _ =>
      .rd fun d1 _ => .ite (fun _ => .stop) fun _ =>
      .rd fun d2 _ => .ite (fun _ => .stop) fun _ => .hexpair (fun _ _ => cont) .stop) fun _ => cont

theorem pctLenient_ext (e : Bytes) (a : Nat) : ∀ (fuel fuel' : Nat) (buf : Bytes) (r w : Nat), fuel ≤ fuel' →
    Carries (withExt e) (pctLenient buf a fuel r w) (pctLenient (buf ++ e) a fuel' r w) := by
  intro fuel
  induction fuel with
  | zero => intro _ _ _ _ _ _ h; cases h
  | succ f ih =>
    intro fuel' buf r w hf
    obtain ⟨f', rfl, hf'⟩ := fuel_succ hf
    have cont : ∀ {v : UInt8} {r' : Nat} {ft : Fault}, Carries (withExt e)
        (if a + w < buf.size then pctLenient (buf.setIfInBounds (a + w) v) a f r' (w + 1) else .error ft)
        (if a + w < (buf ++ e).size then pctLenient ((buf ++ e).setIfInBounds (a + w) v) a f' r' (w + 1) else .error ft) :=
      .wr fun hw => Array.setIfInBounds_append_left hw ▸ ih _ _ _ _ hf'
    rw [pctLenient, pctLenient]
    refine .rd fun chr _ => .ite (fun _ => .stop) fun _ => .ite (fun _ =>
      .rd fun d1 _ => .ite (fun _ => .wr fun hw => ?_) fun _ =>
      .rd fun d2 _ => .ite (fun _ => .wr fun hw => ?_) fun _ => .hexpair (fun _ _ => cont) cont) fun _ => cont
    · rw [Array.setIfInBounds_append_left (by omega), Array.setIfInBounds_append_left (by rw [Array.size_setIfInBounds]; exact hw)]; exact .okExt _ _
    · rw [Array.setIfInBounds_append_left (by omega), Array.setIfInBounds_append_left (by rw [Array.size_setIfInBounds]; omega),
        Array.setIfInBounds_append_left (by rw [Array.size_setIfInBounds, Array.size_setIfInBounds]; exact hw)]; exact .okExt _ _

theorem fuel_ext (buf e : Bytes) (a : Nat) : buf.size - a + 1 ≤ (buf ++ e).size - a + 1 := by
  rw [Array.size_append]; omega

theorem unescape_ext (strict : Bool) (buf e : Bytes) (a : Nat) :
    Carries (withExt e) (unescape strict buf a) (unescape strict (buf ++ e) a) := by
  unfold unescape
  cases strict with
  | true => exact pctStrict_ext e a _ _ _ _ _ (fuel_ext buf e a)
  | false => exact pctLenient_ext e a _ _ _ _ _ (fuel_ext buf e a)

theorem plusUnescape_ext (strict : Bool) (buf e : Bytes) (a : Nat) :
    Carries (withExt e) (plusUnescape strict buf a) (plusUnescape strict (buf ++ e) a) :=
  .bind (unescapePlus_ext e _ _ _ _ (fuel_ext buf e a)) fun _ => unescape_ext strict _ e a

theorem argEntry_ext (strict : Bool) (kind : Nat) (buf e : Bytes) (args : Nat) (eq : Option Nat) :
    Carries (withExt e) (argEntry strict kind buf args eq) (argEntry strict kind (buf ++ e) args eq) := by
  unfold argEntry
  cases eq with
  | none => exact .bind (plusUnescape_ext strict buf e args) fun (_, _) => .ok _ _
  | some q =>
    refine .wr fun hq => ?_
    rw [Array.setIfInBounds_append_left hq]
    exact .bind (plusUnescape_ext strict _ e args) fun (_, _) => .bind (plusUnescape_ext strict _ e (q + 1)) fun (_, _) => .ok _ _

theorem parseArgs_ext (strict : Bool) (kind : Nat) (e : Bytes) : ∀ (fuel fuel' : Nat) (buf : Bytes) (args : Nat)
    (acc : List Elem), fuel ≤ fuel' →
    Carries (withExt e) (parseArgs strict kind fuel buf args acc) (parseArgs strict kind fuel' (buf ++ e) args acc) := by
  intro fuel
  induction fuel with
  | zero => intro _ _ _ _ _ _ h; cases h
  | succ f ih =>
    intro fuel' buf args acc hf
    obtain ⟨f', rfl, hf'⟩ := fuel_succ hf
    rw [parseArgs, parseArgs]
    refine .rd fun c0 _ => .ite (fun _ => .ok _ _) fun _ =>
      .bind (strchr_ext buf e 61 _ _ _ (fuel_ext buf e args)) fun equals =>
      .bind (strchr_ext buf e 38 _ _ _ (fuel_ext buf e args)) fun amper => ?_
    cases amper with
    | none => exact .bind (argEntry_ext strict kind buf e args equals) fun (_, _) => .ok _ _
    | some am =>
      refine .wr fun hq => ?_
      rw [Array.setIfInBounds_append_left hq]
      exact .bind (argEntry_ext strict kind _ e args _) fun (_, _) => ih _ _ _ _ hf'

/-- `process_request_target` as a sequence of its three steps -/
theorem processRequestTarget_eq (strict : Bool) (r : ReqLine) :
    processRequestTarget strict r =
      (match rdRange r.buf r.tgt r.tgtLen with
        | some l => Except.ok l
        | none => .error (Fault.read 65 r.tgt)) >>= fun raw =>
      (match r.qmark with
        | some q =>
          if q < r.buf.size then
            parseArgs strict Gen.Http.kindGetArgument (r.buf.size + 1) (r.buf.setIfInBounds q 0) (q + 1) []
          else .error (Fault.write 66 q)
        | none => .ok (r.buf, [])) >>= fun x =>
      unescape strict x.1 r.tgt >>= fun y =>
      .ok { buf := y.1, rb := r.rb, method := r.method, methodLen := r.methodLen, mthd := r.mthd, url := r.tgt,
            urlLen := y.2, version := r.version, httpVer := r.httpVer, rawTarget := raw, elems := x.2, crSp := r.crSp } := by
  unfold processRequestTarget
  cases rdRange r.buf r.tgt r.tgtLen with
  | none => rfl
  | some raw =>
    cases r.qmark with
    | none => rfl
    | some q => by_cases hq : q < r.buf.size <;> simp only [hq, ↓reduceIte] <;> rfl

/-- **`process_request_target` commutes with bytes arriving behind the request line**: if it
    succeeds on the buffer `r.buf`, then on `r.buf ++ e` (the same request line, more received
    bytes behind it) it succeeds with the same record — same URL position and length, same
    element list (same slices), same raw target — and the result buffer is the old result
    buffer followed by `e` untouched. -/
theorem processRequestTarget_buffer_extension (strict : Bool) (r : ReqLine) (e : Bytes) (T : Target)
    (h : processRequestTarget strict r = .ok T) :
    processRequestTarget strict { r with buf := r.buf ++ e } = .ok { T with buf := T.buf ++ e } := by
  revert T
  show Carries (fun T : Target => { T with buf := T.buf ++ e }) _ _
  rw [processRequestTarget_eq, processRequestTarget_eq]
  refine .bind (g := id) ?_ fun raw => .bind (g := withExt e) ?_ fun x => .bind (unescape_ext strict _ e _) fun _ => .ok _ _
  · cases hr : rdRange r.buf r.tgt r.tgtLen with
    | none => intro _ h; cases h
    | some l =>
      show Carries id _ (match rdRange (r.buf ++ e) r.tgt r.tgtLen with | some l => Except.ok l | none => _)
      rw [rdRange_ext _ _ _ _ (rdRange_some hr).1, hr]; exact .ok _ _
  · show Carries _ (match r.qmark with | some q => _ | none => _) (match r.qmark with | some q => _ | none => _)
    cases r.qmark with
    | none => exact .ok _ _
    | some q =>
      refine .wr fun hql => ?_
      show Carries _ _ (parseArgs _ _ ((r.buf ++ e).size + 1) ((r.buf ++ e).setIfInBounds q 0) _ _)
      rw [Array.setIfInBounds_append_left hql]
      exact parseArgs_ext strict _ e _ _ _ _ _ (by rw [Array.size_append]; omega)

/-- the same for the outer `get_request_line` once the line is complete (`rlExtendR`: what the
    scanner's finished result looks like after more bytes arrived) -/
theorem getRequestLineOuter_buffer_extension (F : RLFlags) (strict : Bool) (pool : Nat) (r : ReqLine) (e : Bytes) (T : Target)
    (h : getRequestLineOuter F strict pool (.done (.ok r)) = .ok T) :
    getRequestLineOuter F strict pool (.done (rlExtendR (.ok r) e)) = .ok { T with buf := T.buf ++ e } := by
  simp only [getRequestLineOuter, rlExtendR] at h ⊢
  have hw : lineWspCheck F pool { r with buf := r.buf ++ e } = lineWspCheck F pool r := rfl
  rw [hw]
  cases hc : lineWspCheck F pool r with
  | some err => rw [hc] at h; cases h
  | none =>
    rw [hc] at h
    cases hp : processRequestTarget strict r with
    | error f => rw [hp] at h; cases h
    | ok T' =>
      rw [hp] at h
      rw [processRequestTarget_buffer_extension strict r e T' hp]
      injection h with h; rw [← h]

end TGT
end Mhd.Req
