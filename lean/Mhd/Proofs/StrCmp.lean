/-
  C17 proofs: caseless comparison — `charsequalcaseless`,
  `MHD_str_equal_caseless_`, `MHD_str_equal_caseless_n_`,
  `MHD_str_equal_caseless_bin_n_`.
-/
import Mhd.Proofs.StrQuote

namespace Mhd.Str

/-- US-ASCII lower-casing -/
def toLower (c : UInt8) : UInt8 := if 0x41 ≤ c ∧ c ≤ 0x5a then c + 32 else c

theorem toLower_toNat (c : UInt8) :
    (toLower c).toNat = if 65 ≤ c.toNat ∧ c.toNat ≤ 90 then c.toNat + 32 else c.toNat := by
  unfold toLower
  simp only [UInt8.le_iff_toNat_le, UInt8.toNat_ofNat, Nat.reducePow, Nat.reduceMod]
  split
  · rw [UInt8.toNat_add]; simp only [UInt8.toNat_ofNat, Nat.reducePow, Nat.reduceMod]; omega
  · rfl

/-- `charsequalcaseless (a, b)` ⇔ equal after US-ASCII lower-casing: both sides are compared as
    numbers below 256, where adding 32 to an upper-case letter does not wrap -/
theorem charsEqualCaseless_iff (a b : UInt8) : charsEqualCaseless a b = (toLower a == toLower b) := by
  rw [Bool.eq_iff_iff]
  simp only [charsEqualCaseless, isUpper, beq_iff_eq, Bool.or_eq_true, Bool.and_eq_true, decide_eq_true_eq,
    ← UInt8.toNat_inj, toLower_toNat, UInt8.le_iff_toNat_le, UInt8.toNat_ofNat, Nat.reducePow, Nat.reduceMod]
  split <;> split <;> simp only [beq_iff_eq, Bool.and_eq_true, decide_eq_true_eq] <;> omega

theorem ceq_zero (x : UInt8) (h : x ≠ 0) : charsEqualCaseless x 0 = false ∧ charsEqualCaseless 0 x = false := by
  have h0 : x.toNat ≠ 0 := fun e => h (UInt8.toNat_inj.mp e)
  have hl : (toLower 0).toNat = 0 := by rw [toLower_toNat]; rfl
  simp only [charsEqualCaseless_iff, beq_eq_false_iff_ne, ne_eq, ← UInt8.toNat_inj, hl]
  rw [toLower_toNat]
  constructor <;> split <;> omega

/-- caseless equality of two byte strings of equal length -/
abbrev ceqBytes : Bytes → Bytes → Bool := listEq charsEqualCaseless

/-- a loop that compares `A0` with `B0` position by position: inside both it goes on exactly when the two
    characters are equal under `eq`; where one of them ends it answers whether both do -/
theorem cmp_iter {eq : UInt8 → UInt8 → Bool} (step : Nat → M (Nat ⊕ Bool)) (A0 B0 : Bytes)
    (hin : ∀ i x y A B, A0.drop i = x :: A → B0.drop i = y :: B →
      step i = if eq x y then .ok (.inl (i + 1)) else .ok (.inr false))
    (hend : ∀ i, i ≤ A0.length → i ≤ B0.length → (A0.length ≤ i ∨ B0.length ≤ i) →
      step i = .ok (.inr (decide (A0.length ≤ i ∧ B0.length ≤ i)))) :
    ∀ (A B : Bytes) (i n : Nat), A0.drop i = A → B0.drop i = B → i ≤ A0.length → i ≤ B0.length → A.length < n →
      iter step n i = .ok (listEq eq A B) := by
  intro A
  induction A with
  | nil =>
    intro B i n hA hB hia hib hn
    obtain ⟨n', rfl⟩ := fuel_succ hn
    have hAl := List.drop_eq_nil_iff.mp hA
    rw [iter_inr n' (hend i hia hib (.inl hAl))]
    cases B with
    | nil => rw [decide_eq_true ⟨hAl, List.drop_eq_nil_iff.mp hB⟩]; rfl
    | cons y B' => rw [decide_eq_false (fun h => Nat.not_le_of_lt (lt_of_drop hB) h.2)]; rfl
  | cons x A' ih =>
    intro B i n hA hB hia hib hn
    obtain ⟨n', rfl⟩ := fuel_succ hn
    cases B with
    | nil =>
      rw [iter_inr n' (hend i hia hib (.inr (List.drop_eq_nil_iff.mp hB))),
        decide_eq_false (fun h => Nat.not_le_of_lt (lt_of_drop hA) h.1)]; rfl
    | cons y B' =>
      have hstep := hin i x y A' B' hA hB
      show iter _ _ _ = Except.ok (eq x y && listEq eq A' B')
      by_cases he : eq x y = true
      · rw [if_pos he] at hstep
        rw [iter_inl n' hstep, ih B' (i + 1) n' (drop_succ_of_drop hA) (drop_succ_of_drop hB) (lt_of_drop hA)
          (lt_of_drop hB) (Nat.lt_of_succ_lt_succ hn), he, Bool.true_and]
      · rw [if_neg he] at hstep
        rw [iter_inr n' hstep, Bool.eq_false_iff.mpr he, Bool.false_and]

theorem drop_add_cons {a : Bytes} {o i : Nat} {A j : Bytes} {x : UInt8} {A' : Bytes} (ha : a.drop o = A ++ j)
    (h : A.drop i = x :: A') : a.drop (o + i) = x :: (A' ++ j) := by
  rw [← List.drop_drop, ha, List.drop_append_of_le_length (Nat.le_of_lt (lt_of_drop h)), h]; rfl

/-- `MHD_str_equal_caseless_bin_n_ (a + oa, b + ob, len)` -/
theorem equalCaselessBinAt_spec (a : Bytes) (oa : Nat) (b : Bytes) (ob len : Nat) (A B ja jb : Bytes)
    (ha : a.drop oa = A ++ ja) (hb : b.drop ob = B ++ jb) (hlA : A.length = len) (hlB : B.length = len) :
    equalCaselessBinAt a oa b ob len = .ok (ceqBytes A B) := by
  refine cmp_iter _ A B ?_ ?_ A B 0 _ rfl rfl (Nat.zero_le _) (Nat.zero_le _) (hlA ▸ Nat.lt_succ_self _)
  · intro i x y A' B' hA hB
    simp only [equalCaselessBinStep, hlA ▸ lt_of_drop hA, if_true, rd_of_drop (drop_add_cons ha hA),
      rd_of_drop (drop_add_cons hb hB), bind_ok', pure_eq_ok]
  · intro i _ _ h
    rw [hlA, hlB, or_self] at h
    rw [hlA, hlB, decide_eq_true ⟨h, h⟩]
    simp only [equalCaselessBinStep, Nat.not_lt.mpr h, if_false, pure_eq_ok]

theorem rd_z_take {c tail : Bytes} {m i : Nat} {x : UInt8} {A : Bytes} (h : (c.take m).drop i = x :: A) :
    rd (c ++ 0 :: tail) i = .ok x ∧ x ∈ c ∧ i < m := by
  have h1 := (List.of_drop_eq_cons h).1
  rw [List.getElem?_take] at h1
  by_cases him : i < m
  · rw [if_pos him] at h1
    obtain ⟨hic, _⟩ := List.getElem?_eq_some_iff.mp h1
    exact ⟨rd_some (by rw [List.getElem?_append_left hic, h1]), List.mem_of_getElem? h1, him⟩
  · rw [if_neg him] at h1; cases h1

/-- the body of `MHD_str_equal_caseless_n_` meets the two hypotheses of `cmp_iter` for the first `maxlen`
    characters of the two strings -/
theorem equalCaselessNStep_cmp (ca ta cb tb : Bytes) (maxlen : Nat) (hza : ∀ x ∈ ca, x ≠ 0) (hzb : ∀ x ∈ cb, x ≠ 0) :
    (∀ i x y A B, (ca.take maxlen).drop i = x :: A → (cb.take maxlen).drop i = y :: B →
      equalCaselessNStep (ca ++ 0 :: ta) (cb ++ 0 :: tb) maxlen i =
        if charsEqualCaseless x y then .ok (.inl (i + 1)) else .ok (.inr false)) ∧
    (∀ i, i ≤ (ca.take maxlen).length → i ≤ (cb.take maxlen).length →
      ((ca.take maxlen).length ≤ i ∨ (cb.take maxlen).length ≤ i) →
      equalCaselessNStep (ca ++ 0 :: ta) (cb ++ 0 :: tb) maxlen i =
        .ok (.inr (decide ((ca.take maxlen).length ≤ i ∧ (cb.take maxlen).length ≤ i)))) := by
  constructor
  · intro i x y A B hA hB
    obtain ⟨hra, _, hlt⟩ := rd_z_take (tail := ta) hA
    obtain ⟨hrb, hyb, _⟩ := rd_z_take (tail := tb) hB
    simp only [equalCaselessNStep, hlt, if_true, hra, hrb, bind_ok', hzb y hyb, if_false, pure_eq_ok]
  · intro i hia hib h
    rw [List.length_take] at hia hib h ⊢
    rw [List.length_take] at h ⊢
    unfold equalCaselessNStep
    by_cases hlt : i < maxlen
    · -- below the limit a string has ended at `i` exactly when it is `i` long
      have hm : ∀ n, min maxlen n ≤ i ↔ n ≤ i := fun n => by omega
      simp only [hm] at h ⊢
      rw [if_pos hlt]
      rcases rd_z_cases cb tb hzb i (Nat.le_trans hib (Nat.min_le_right _ _)) with ⟨hb, hrb, hxb⟩ | ⟨hb, hrb⟩
      · rcases rd_z_cases ca ta hza i (Nat.le_trans hia (Nat.min_le_right _ _)) with ⟨ha, _⟩ | ⟨_, hra⟩
        · exact absurd h (fun h => h.elim (Nat.not_le.mpr ha) (Nat.not_le.mpr hb))
        · rw [hra, bind_ok', hrb, bind_ok', if_neg hxb, (ceq_zero _ hxb).2,
            decide_eq_false (fun h => Nat.not_le.mpr hb h.2)]; rfl
      · rcases rd_z_cases ca ta hza i (Nat.le_trans hia (Nat.min_le_right _ _)) with ⟨ha, hra, hxa⟩ | ⟨ha, hra⟩
        · rw [hra, bind_ok', hrb, bind_ok', if_pos rfl, beq_eq_false_iff_ne.mpr hxa,
            decide_eq_false (fun h => Nat.not_le.mpr ha h.1)]; rfl
        · rw [hra, bind_ok', hrb, bind_ok', if_pos rfl, decide_eq_true ⟨ha, hb⟩]; rfl
    · have hm : ∀ n, min maxlen n ≤ i := fun n => Nat.le_trans (Nat.min_le_left _ _) (Nat.le_of_not_lt hlt)
      rw [if_neg hlt, decide_eq_true ⟨hm _, hm _⟩]; rfl

/-- below the limit the two loop bodies agree: they test for the terminator in a different
    order, and no other character equals it -/
theorem equalCaselessStep_eq (a b : Bytes) (m i : Nat) (hlt : i < m) :
    equalCaselessStep a b i = equalCaselessNStep a b m i := by
  unfold equalCaselessStep equalCaselessNStep
  rw [if_pos hlt]
  congr 1; funext c1; congr 1; funext c2
  by_cases h1 : c1 = 0 <;> by_cases h2 : c2 = 0
  · subst h1 h2; rfl
  · subst h1; rw [if_neg (fun h => h rfl), if_neg h2, (ceq_zero _ h2).2, beq_eq_false_iff_ne.mpr h2]; rfl
  · subst h2; rw [if_pos h1, if_pos rfl, (ceq_zero _ h1).1, beq_eq_false_iff_ne.mpr h1]; rfl
  · rw [if_pos h1, if_neg h2]

end Mhd.Str
