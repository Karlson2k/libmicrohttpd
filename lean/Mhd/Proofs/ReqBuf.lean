/-
  The buffer vocabulary of the request parsers (request line, target, field lines, cookies).
  `HSP.BufIs` (in `ReqRoundtrip`) is the same definition as `RLP.BufIs` under the name the field-line
  statements use; a hypothesis of the one is accepted where the other is asked for.
-/
import Mhd.Model.ReqCookie
namespace Mhd.Req

theorem rdRange_ext (buf e : Bytes) (off n : Nat) (h : off + n ≤ buf.size) :
    rdRange (buf ++ e) off n = rdRange buf off n := by
  unfold rdRange
  rw [if_pos h, if_pos (by rw [Array.size_append]; omega), Array.extract_append,
    show off + n - buf.size = 0 by omega, Array.extract_zero, Array.append_empty]

theorem rdRange_in {buf : Bytes} {off n : Nat} (h : off + n ≤ buf.size) :
    rdRange buf off n = some (buf.extract off (off + n)).toList := by
  unfold rdRange; rw [if_pos h]

theorem rdRange_some {buf : Bytes} {off n : Nat} {bs : List UInt8} (h : rdRange buf off n = some bs) :
    off + n ≤ buf.size ∧ bs.length = n := by
  unfold rdRange at h
  split at h
  · cases h; simp; omega
  · cases h

theorem rdRange_none {buf : Bytes} {off n : Nat} (h : rdRange buf off n = none) : ¬ (off + n ≤ buf.size) := by
  unfold rdRange at h
  split at h
  · cases h
  · assumption

theorem wr_ext {α : Type} {buf e : Bytes} {i : Nat} {v : UInt8} {site : Nat} (h : i < buf.size)
    (flt : Fault → α) (k : Bytes → α) :
    wr (buf ++ e) i v site flt k = k (buf.setIfInBounds i v ++ e) := by
  unfold wr
  rw [if_pos (by rw [Array.size_append]; omega), Array.setIfInBounds_append_left h]

theorem wr_in {α : Type} {buf : Bytes} {i : Nat} {v : UInt8} {site : Nat} (h : i < buf.size)
    (flt : Fault → α) (k : Bytes → α) : wr buf i v site flt k = k (buf.setIfInBounds i v) := by
  unfold wr; rw [if_pos h]

theorem get_some_lt {buf : Bytes} {i : Nat} {x : UInt8} (h : buf[i]? = some x) : i < buf.size := by
  by_cases hlt : i < buf.size
  · exact hlt
  · rw [Array.getElem?_eq_none (by omega)] at h; cases h

theorem get_some_ext {buf : Bytes} {i : Nat} {x : UInt8} (e : Bytes) (h : buf[i]? = some x) : (buf ++ e)[i]? = some x := by
  rw [Array.getElem?_append_left (get_some_lt h)]; exact h

theorem bind_eq {α β : Type} {x : Except Fault α} {a : α} {f : α → Except Fault β} {r : Except Fault β}
    (h : x = .ok a) (hf : f a = r) : (x >>= f) = r := by subst h; exact hf

namespace RLP

/-- the bytes `w` are in the buffer at absolute offset `off` -/
def BufIs (buf : Bytes) (off : Nat) (w : List UInt8) : Prop := ∀ i, i < w.length → buf[off + i]? = w[i]?

theorem BufIs.left {buf : Bytes} {off : Nat} {a b : List UInt8} (h : BufIs buf off (a ++ b)) : BufIs buf off a := by
  intro i hi
  have := h i (by simp; omega)
  rw [this, List.getElem?_append_left hi]

theorem BufIs.right {buf : Bytes} {off : Nat} {a b : List UInt8} (h : BufIs buf off (a ++ b)) :
    BufIs buf (off + a.length) b := by
  intro i hi
  have := h (a.length + i) (by simp; omega)
  rw [Nat.add_assoc, this, List.getElem?_append_right (by omega)]
  congr 1; omega

theorem BufIs.head {buf : Bytes} {off : Nat} {c : UInt8} {w : List UInt8} (h : BufIs buf off (c :: w)) :
    buf[off]? = some c := by
  have := h 0 (by simp); simpa using this

theorem BufIs.tail {buf : Bytes} {off : Nat} {c : UInt8} {w : List UInt8} (h : BufIs buf off (c :: w)) :
    BufIs buf (off + 1) w := by
  intro i hi
  have := h (i + 1) (by simp; omega)
  rw [Nat.add_assoc, Nat.add_comm 1 i]; simpa using this

theorem BufIs.set {buf : Bytes} {off : Nat} {w : List UInt8} (h : BufIs buf off w) (j : Nat) (v : UInt8)
    (hj : j < off ∨ off + w.length ≤ j) : BufIs (buf.setIfInBounds j v) off w := by
  intro i hi
  rw [Array.getElem?_setIfInBounds_ne (by omega)]
  exact h i hi

theorem BufIs.nul {buf : Bytes} {off : Nat} {w : List UInt8} (h : BufIs buf off w) (j : Nat) (hj : j = off + w.length)
    (hsz : j < buf.size) : BufIs (buf.setIfInBounds j 0) off (w ++ [0]) := by
  intro i hi
  simp only [List.length_append, List.length_cons, List.length_nil] at hi
  by_cases hiw : i < w.length
  · rw [Array.getElem?_setIfInBounds_ne (by omega), List.getElem?_append_left hiw]
    exact h i hiw
  · have : i = w.length := by omega
    subst this
    rw [← hj, Array.getElem?_setIfInBounds_self_of_lt hsz, List.getElem?_append_right (Nat.le_refl _)]
    simp

theorem BufIs.append {buf : Bytes} {off : Nat} {a b : List UInt8} (h1 : BufIs buf off a)
    (h2 : BufIs buf (off + a.length) b) : BufIs buf off (a ++ b) := by
  intro i hi
  by_cases hlt : i < a.length
  · rw [List.getElem?_append_left hlt]; exact h1 i hlt
  · rw [List.getElem?_append_right (by omega)]
    have := h2 (i - a.length) (by simp at hi; omega)
    rw [← this]; congr 1; omega


theorem BufIs.cons {buf : Bytes} {off : Nat} {c : UInt8} {w : List UInt8} (h0 : buf[off]? = some c)
    (ht : BufIs buf (off + 1) w) : BufIs buf off (c :: w) := by
  intro i hi
  cases i with
  | zero => exact h0
  | succ i => rw [← Nat.add_assoc, Nat.add_right_comm]; exact ht i (Nat.lt_of_succ_lt_succ hi)


theorem BufIs.cast {buf : Bytes} {off off' : Nat} {w : List UInt8} (h : BufIs buf off w) (e : off = off') :
    BufIs buf off' w := e ▸ h


theorem BufIs.size_lt {buf : Bytes} {off : Nat} {w : List UInt8} (h : BufIs buf off w) (i : Nat) (hi : i < w.length) :
    off + i < buf.size := by
  by_cases hlt : off + i < buf.size
  · exact hlt
  · have := h i hi
    rw [Array.getElem?_eq_none (by omega), List.getElem?_eq_getElem hi] at this; cases this

/-! A C string `k ++ c :: v` that is cut at the delimiter `c` by writing a NUL over it. -/

theorem BufIs.delim_lt {buf : Bytes} {a : Nat} {k v : List UInt8} {c : UInt8} (h : BufIs buf a (k ++ c :: v ++ [0])) :
    a + k.length < buf.size := h.size_lt k.length (by simp)

theorem BufIs.cut {buf : Bytes} {a : Nat} {k v : List UInt8} {c : UInt8} (h : BufIs buf a (k ++ c :: v ++ [0])) :
    BufIs (buf.setIfInBounds (a + k.length) 0) a (k ++ [0]) :=
  h.left.left.nul _ rfl h.delim_lt

theorem BufIs.behind {buf : Bytes} {a : Nat} {k v : List UInt8} {c : UInt8} (h : BufIs buf a (k ++ c :: v ++ [0])) :
    BufIs buf (a + k.length + 1) (v ++ [0]) := by
  rw [List.append_assoc] at h; exact h.right.tail

end RLP

/-- `b'` has the size of `b` and differs from it at most inside `[lo, hi)` -/
structure WritesIn (lo hi : Nat) (b b' : Bytes) : Prop where
  size : b'.size = b.size
  out : ∀ j, j < lo ∨ hi ≤ j → b'[j]? = b[j]?

theorem WritesIn.refl (lo hi : Nat) (b : Bytes) : WritesIn lo hi b b := ⟨rfl, fun _ _ => rfl⟩

theorem WritesIn.trans {lo hi : Nat} {b b1 b2 : Bytes} (h1 : WritesIn lo hi b b1) (h2 : WritesIn lo hi b1 b2) :
    WritesIn lo hi b b2 :=
  ⟨h2.1.trans h1.1, fun j hj => (h2.2 j hj).trans (h1.2 j hj)⟩

theorem WritesIn.mono {lo hi lo' hi' : Nat} {b b' : Bytes} (h : WritesIn lo hi b b') (h1 : lo' ≤ lo) (h2 : hi ≤ hi') :
    WritesIn lo' hi' b b' :=
  ⟨h.1, fun j hj => h.2 j (by omega)⟩

theorem WritesIn.set {lo hi : Nat} {b b' : Bytes} (h : WritesIn lo hi b b') (j : Nat) (v : UInt8) (h1 : lo ≤ j)
    (h2 : j < hi) : WritesIn lo hi b (b'.setIfInBounds j v) :=
  ⟨by rw [Array.size_setIfInBounds]; exact h.1,
   fun k hk => by rw [Array.getElem?_setIfInBounds_ne (by omega)]; exact h.2 k hk⟩

theorem RLP.BufIs.writesIn {lo hi off : Nat} {b b' : Bytes} {w : List UInt8} (h : RLP.BufIs b off w) (hw : WritesIn lo hi b b')
    (hd : off + w.length ≤ lo ∨ hi ≤ off) : RLP.BufIs b' off w := by
  intro i hi'
  rw [hw.2 _ (by omega)]; exact h i hi'

theorem sliceBytes_get (buf : Bytes) (sl : Slice) (i : Nat) :
    (sliceBytes buf sl)[i]? = if i < sl.len then buf[sl.off + i]? else none := by
  unfold sliceBytes
  rw [Array.getElem?_toList, Array.getElem?_extract]
  by_cases hi : i < sl.len
  · rw [if_pos hi]
    by_cases hb : sl.off + i < buf.size
    · rw [if_pos (by omega)]
    · rw [if_neg (by omega), Array.getElem?_eq_none (by omega)]
  · rw [if_neg hi, if_neg (by omega)]

theorem sliceBytes_eq (buf : Bytes) (off : Nat) (w : List UInt8)
    (h : ∀ i, i < w.length → buf[off + i]? = w[i]?) : sliceBytes buf ⟨0, off, w.length⟩ = w := by
  apply List.ext_getElem?
  intro i
  rw [sliceBytes_get]
  show (if i < w.length then buf[off + i]? else none) = w[i]?
  split
  · next hi => exact h i hi
  · next hi => rw [List.getElem?_eq_none (by omega)]

theorem RLP.extract_eq (buf : Bytes) (off : Nat) (w : List UInt8) (h : RLP.BufIs buf off w) :
    (buf.extract off (off + w.length)).toList = w :=
  sliceBytes_eq buf off w h

theorem RLP.rdRange_eq (buf : Bytes) (off : Nat) (w : List UInt8) (h : RLP.BufIs buf off w) (hs : off + w.length ≤ buf.size) :
    rdRange buf off w.length = some w := by
  unfold rdRange
  rw [if_pos hs, RLP.extract_eq buf off w h]

theorem RLP.BufIs.view {buf : Bytes} {a : Nat} {d : List UInt8} (h : RLP.BufIs buf a (d ++ [0])) :
    sliceBytes buf ⟨0, a, d.length⟩ = d :=
  sliceBytes_eq buf a d h.left

theorem sliceBytes_congr (b1 b2 : Bytes) (sl : Slice)
    (h : ∀ i, sl.off ≤ i → i < sl.off + sl.len → b1[i]? = b2[i]?) : sliceBytes b1 sl = sliceBytes b2 sl := by
  apply List.ext_getElem?
  intro i
  rw [sliceBytes_get, sliceBytes_get]
  split
  · next hi => exact h _ (by omega) (by omega)
  · rfl

namespace HSP

/-- what the application reads back for an element of the read-buffer region -/
def elemView (buf : Bytes) (el : Elem) : Nat × List UInt8 × Option (List UInt8) :=
  (el.kind, sliceBytes buf el.key, el.value.map (sliceBytes buf))

/-- slices of an element lie in `[lo, hi)` -/
def ElemIn (el : Elem) (lo hi : Nat) : Prop :=
  lo ≤ el.key.off ∧ el.key.off + el.key.len ≤ hi ∧ (∀ v, el.value = some v → lo ≤ v.off ∧ v.off + v.len ≤ hi) ∧
    el.key.region = 0 ∧ ∀ v, el.value = some v → v.region = 0

theorem elemView_congr (b1 b2 : Bytes) (el : Elem) (lo hi : Nat) (hin : ElemIn el lo hi)
    (h : ∀ i, lo ≤ i → i < hi → b1[i]? = b2[i]?) : elemView b1 el = elemView b2 el := by
  unfold elemView
  have hk := sliceBytes_congr b1 b2 el.key (fun i h1 h2 => h i (by have := hin.1; omega) (by have := hin.2.1; omega))
  rw [hk]
  cases hv : el.value with
  | none => rfl
  | some v =>
    have := hin.2.2.1 v hv
    have hv' := sliceBytes_congr b1 b2 v (fun i h1 h2 => h i (by omega) (by omega))
    simp only [Option.map_some, hv']

theorem ElemIn.mono {el : Elem} {lo hi lo' hi' : Nat} (h : ElemIn el lo hi) (h1 : lo' ≤ lo) (h2 : hi ≤ hi') :
    ElemIn el lo' hi' :=
  ⟨by have := h.1; omega, by have := h.2.1; omega, fun v hv => by have := h.2.2.1 v hv; omega, h.2.2.2⟩

end HSP
end Mhd.Req
