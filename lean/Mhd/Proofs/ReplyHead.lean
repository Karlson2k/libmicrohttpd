import Mhd.Proofs.ReplyParse
import Mhd.Proofs.RespInv
import Mhd.Model.ReplyWire
namespace Mhd.Reply
open Mhd.ReplyStr Mhd.Resp

def toHttp (f : Field) : Mhd.Http.Field := ⟨f.name, f.value⟩

theorem fieldLine_http (f : Field) : fieldLine f = Mhd.Http.fieldLine (toHttp f) := by
  simp [fieldLine, Mhd.Http.fieldLine, toHttp, colonSp, crlf, List.append_assoc]

theorem render_http (fs : List Field) : (fs.map fieldLine).flatten = Mhd.Http.renderFields (fs.map toHttp) := by
  unfold Mhd.Http.renderFields
  induction fs with
  | nil => rfl
  | cons f t ih => simp [fieldLine_http, ih]

theorem runSegs_eq (bs : Nat) : ∀ (segs : List Seg) (buf out : Bytes), runSegs bs segs buf = some out →
    out = buf ++ (segs.map (·.piece)).flatten
  | [], buf, out, h => by simp [runSegs] at h; simp [h]
  | s :: rest, buf, out, h => by
    simp only [runSegs, appendChk] at h
    by_cases hc : bs < buf.length + s.need
    · simp [hc] at h
    · simp only [hc, if_false] at h
      have := runSegs_eq bs rest _ out h
      simp [this, List.append_assoc]

/-- the automatic body headers as fields -/
def bodyFields (r : Resp) (props : Props) : List Field :=
  if props.useReplyBodyHeaders && ! r.flags.headOnly then
    (if props.chunked then (if ! r.fa.transEnc then [⟨sTransferEncoding, sChunked⟩] else [])
     else if r.totalSize != Mhd.Gen.Reply.sizeUnknown then
       (if ! r.fa.contentLength then [⟨sContentLength, sizeDigits r.totalSize⟩] else [])
     else [])
  else []

theorem bodyHdrSegs_pieces (r : Resp) (props : Props) :
    ((bodyHdrSegs r props).map (·.piece)).flatten = ((bodyFields r props).map fieldLine).flatten := by
  -- the two definitions branch alike; the writes of each leaf make up its field lines
  let R : List Seg → List Field → Prop := fun segs fs => (segs.map (·.piece)).flatten = (fs.map fieldLine).flatten
  have nil : R [] [] := rfl
  have te : R [segStr (fieldLine ⟨sTransferEncoding, sChunked⟩)] [⟨sTransferEncoding, sChunked⟩] := rfl
  have cl : R [segStr (sContentLength ++ colonSp), segStr (sizeDigits r.totalSize), ⟨2, crlf⟩]
      [⟨sContentLength, sizeDigits r.totalSize⟩] := by
    simp [R, segStr, fieldLine]
  exact ite_rel R (ite_rel R (ite_rel R te nil) (ite_rel R (ite_rel R cl nil) nil)) nil

/-- every field of the header block, in wire order -/
def allFields (c : Conn) (r : Resp) (date : Option Bytes) (ka : KA) (props : Props) : List Field :=
  dateFields c r date ++ connFields c r ka ++ userFields c r ka props ++ bodyFields r props

theorem map_fieldSeg_pieces (fs : List Field) : ((fs.map fieldSeg).map (·.piece)).flatten = (fs.map fieldLine).flatten := by
  induction fs with
  | nil => rfl
  | cons f t ih =>
    simp only [List.map_cons, List.flatten_cons, ih]
    simp [fieldSeg, segStr]

theorem dateSegs_pieces (c : Conn) (r : Resp) (date : Option Bytes) :
    ((dateSegs c r date).map (·.piece)).flatten = ((dateFields c r date).map fieldLine).flatten := by
  unfold dateSegs dateFields
  split <;> simp

theorem headSegs_pieces (c : Conn) (r : Resp) (rcode : Nat) (icy : Bool) (date : Option Bytes) (ka : KA) (props : Props) :
    ((headSegs c r rcode icy date ka props).map (·.piece)).flatten =
      versionStr r icy ++ 32 :: (codeDigits rcode ++ 32 :: (reasonPhrase rcode ++ 13 :: 10 ::
        (Mhd.Http.renderFields ((allFields c r date ka props).map toHttp) ++ [13, 10]))) := by
  rw [← render_http]
  unfold headSegs allFields
  simp only [List.map_append, List.flatten_append, map_fieldSeg_pieces, dateSegs_pieces, bodyHdrSegs_pieces]
  simp [segStr, crlf, List.append_assoc]

theorem mem_dateFields {c : Conn} {r : Resp} {date : Option Bytes} {f : Field} (h : f ∈ dateFields c r date) :
    ∃ d, date = some d ∧ f = ⟨sDate, d⟩ := by
  unfold dateFields at h
  rcases mem_ite h with ⟨_, h⟩ | ⟨_, h⟩
  · cases date with
    | none => cases h
    | some d => exact ⟨d, rfl, List.mem_singleton.1 h⟩
  · cases h

theorem mem_connFields {c : Conn} {r : Resp} {ka : KA} {f : Field} (h : f ∈ connFields c r ka) :
    r.fa.connHdr = false ∧ (useConnClose ka = true ∧ f = ⟨sConnection, sClose⟩ ∨
      useConnClose ka = false ∧ f = ⟨sConnection, sKeepAlive⟩) := by
  unfold connFields at h
  rcases mem_ite h with ⟨hc, h⟩ | ⟨_, h⟩
  · refine ⟨by simpa using hc, ?_⟩
    rcases mem_ite h with ⟨hu, h⟩ | ⟨hu, h⟩
    · exact .inl ⟨hu, List.mem_singleton.1 h⟩
    · rcases mem_ite h with ⟨_, h⟩ | ⟨_, h⟩
      · exact .inr ⟨by simpa using hu, List.mem_singleton.1 h⟩
      · cases h
  · cases h

theorem mem_bodyFields {r : Resp} {props : Props} {f : Field} (h : f ∈ bodyFields r props) :
    f = ⟨sTransferEncoding, sChunked⟩ ∨ f = ⟨sContentLength, sizeDigits r.totalSize⟩ := by
  unfold bodyFields at h
  rcases mem_ite h with ⟨_, h⟩ | ⟨_, h⟩
  · rcases mem_ite h with ⟨_, h⟩ | ⟨_, h⟩
    · rcases mem_ite h with ⟨_, h⟩ | ⟨_, h⟩
      · exact .inl (List.mem_singleton.1 h)
      · cases h
    · rcases mem_ite h with ⟨_, h⟩ | ⟨_, h⟩
      · rcases mem_ite h with ⟨_, h⟩ | ⟨_, h⟩
        · exact .inr (List.mem_singleton.1 h)
        · cases h
      · cases h
  · cases h

theorem mem_allFields {c : Conn} {r : Resp} {date : Option Bytes} {ka : KA} {props : Props} {f : Field}
    (h : f ∈ allFields c r date ka props) :
    (∃ d, date = some d ∧ f = ⟨sDate, d⟩) ∨ f ∈ connFields c r ka ∨ f ∈ userFields c r ka props ∨
      f = ⟨sTransferEncoding, sChunked⟩ ∨ f = ⟨sContentLength, sizeDigits r.totalSize⟩ := by
  unfold allFields at h
  rcases List.mem_append.1 h with h | h
  · rcases List.mem_append.1 h with h | h
    · rcases List.mem_append.1 h with h | h
      · exact .inl (mem_dateFields h)
      · exact .inr (.inl h)
    · exact .inr (.inr (.inl h))
  · exact .inr (.inr (.inr (mem_bodyFields h)))

def fcnt (key : Bytes) (fs : List Field) : Nat := (fs.filter fun f => nameIs f.name key).length

theorem fcnt_cons (key : Bytes) (f : Field) (t : List Field) : fcnt key (f :: t) = b2n (nameIs f.name key) + fcnt key t := by
  unfold fcnt b2n; by_cases h : nameIs f.name key = true <;> simp [List.filter, h]; omega

theorem fcnt_append (key : Bytes) (a b : List Field) : fcnt key (a ++ b) = fcnt key a + fcnt key b := by
  unfold fcnt; simp [List.filter_append]

theorem isHdr_of_header {h : Hdr} (hk : h.kind = .header) (k : Bytes) : isHdr k h = nameIs h.name k := by
  rw [isHdr_of, hk]; rfl

/-- what goes in front of the value of the first header the loop emits -/
def UH.pre (st : UH) : Bytes := if st.addClose then sCloseSep else if st.addKA then sKeepAliveSep else []

/-- the entries `add_user_headers` puts on the wire: header-kind, and not caught by an armed filter -/
def UH.sends (st : UH) (h : Hdr) : Bool :=
  h.kind == .header && !(st.filterTE && nameIs h.name sTransferEncoding) && !(st.filterCL && nameIs h.name sContentLength)

/-- `p` goes in front of the value of the first field -/
def prefixFirst (p : Bytes) : List Field → List Field
  | [] => []
  | f :: t => ⟨f.name, p ++ f.value⟩ :: t

theorem prefixFirst_nil (l : List Field) : prefixFirst [] l = l := by cases l <;> rfl

/-- The loop of `add_user_headers` (insanity flag off) is a filter: it emits, in order, the entries that pass,
    the merged token in front of the first.  The Transfer-Encoding filter disarms itself after one hit; with at
    most one such header that is the same as staying armed. -/
theorem userLoop_eq : ∀ (hs : List Hdr) (st : UH), cnt sTransferEncoding hs ≤ 1 →
    userFieldsLoop false hs st = prefixFirst st.pre ((hs.filter st.sends).map fun h => ⟨h.name, h.value⟩)
  | [], st, _ => rfl
  | h :: rest, st, hc => by
    have hc' : cnt sTransferEncoding rest ≤ 1 := by rw [cnt_cons] at hc; omega
    have ih := fun st' => userLoop_eq rest st' hc'
    rw [userFieldsLoop]
    cases hk : h.kind with
    | footer => rw [if_pos (by decide), ih, List.filter_cons_of_neg (by simp [UH.sends, hk])]
    | header =>
      rw [if_neg (by decide)]
      by_cases h1 : (st.filterTE && nameIs h.name sTransferEncoding) = true
      · -- the one Transfer-Encoding header: none is left, so the disarmed filter passes what the armed one does
        rw [if_pos h1, ih, List.filter_cons_of_neg (by simp [UH.sends, h1])]
        have h0 : cnt sTransferEncoding rest = 0 := by
          rw [Bool.and_eq_true] at h1
          rw [cnt_cons, isHdr_of_header hk, h1.2] at hc; simp only [b2n, if_true] at hc; omega
        refine congrArg (fun l : List Hdr => prefixFirst st.pre (l.map fun h => ⟨h.name, h.value⟩))
          (List.filter_congr fun x hx => ?_)
        have := cnt_zero_of_mem _ _ h0 x hx
        rw [isHdr_of, Bool.and_eq_false_iff] at this
        simp only [UH.sends]
        rcases this with hxk | hxn
        · rw [hxk]; rfl
        · rw [hxn]; simp
      · rw [if_neg h1]
        by_cases h2 : (st.filterCL && nameIs h.name sContentLength) = true
        · rw [if_pos h2, List.filter_cons_of_neg (by simp [UH.sends, h2])]
          rw [Bool.and_eq_true] at h2
          have : ({ st with filterCL := !false } : UH) = st := by cases st; simp_all
          rw [this, ih]
        · rw [if_neg h2, List.filter_cons_of_pos (by simp [UH.sends, hk, h1, h2]), ih]
          exact congrArg _ (prefixFirst_nil _)

theorem sends_header {st : UH} {h : Hdr} (hs : st.sends h = true) : h.kind = .header := by
  unfold UH.sends at hs
  cases hk : h.kind with
  | header => rfl
  | footer => rw [hk] at hs; cases hs

theorem mem_sent {st : UH} {hs : List Hdr} {f : Field} (hf : f ∈ (hs.filter st.sends).map fun h => ⟨h.name, h.value⟩) :
    ∃ h ∈ hs, h.kind = .header ∧ f = ⟨h.name, h.value⟩ := by
  obtain ⟨h, hm, rfl⟩ := List.mem_map.1 hf
  obtain ⟨hm, hs'⟩ := List.mem_filter.1 hm
  exact ⟨h, hm, sends_header hs', rfl⟩

theorem fcnt_prefixFirst (k p : Bytes) (l : List Field) : fcnt k (prefixFirst p l) = fcnt k l := by
  cases l with
  | nil => rfl
  | cons f t => rw [prefixFirst, fcnt_cons, fcnt_cons]

/-- how many of the entries sent are headers named `k`: none if a filter catches that name (`b`), else all -/
theorem fcnt_sent (st : UH) (k : Bytes) (b : Bool) (hb : ∀ h, isHdr k h = true → st.sends h = !b) : ∀ (hs : List Hdr),
    fcnt k ((hs.filter st.sends).map fun h => ⟨h.name, h.value⟩) = if b then 0 else cnt k hs
  | [] => by cases b <;> rfl
  | h :: t => by
    have ih := fcnt_sent st k b hb t
    rw [cnt_cons]
    by_cases hh : st.sends h = true
    · rw [List.filter_cons_of_pos hh, List.map_cons, fcnt_cons, ih, ← isHdr_of_header (sends_header hh)]
      cases hi : isHdr k h with
      | false => cases b <;> simp [b2n]
      | true => rw [hb h hi] at hh; cases b <;> first | rfl | cases hh
    · rw [List.filter_cons_of_neg hh, ih]
      cases hi : isHdr k h with
      | false => cases b <;> simp [b2n]
      | true =>
        rw [hb h hi] at hh
        cases b with
        | true => rfl
        | false => exact absurd rfl hh
end Mhd.Reply
