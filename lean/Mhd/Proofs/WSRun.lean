/-
  C19: a buffer write over a concatenation, and the flat big-step view `Run` of a
  decoding session — a sequence of `trip`s, with input or (what the code does after its `while`
  loop) without, up to the point where nothing is pending — on which split independence is stated;
  `Run` is deterministic.
-/
import Mhd.Proofs.WSSafe
namespace Mhd.WS

theorem writeAt_append (buf : List UInt8) (off : Nat) (x y r1 : List UInt8) (h1 : writeAt buf off x = some r1) :
    writeAt buf off (x ++ y) = writeAt r1 (off + x.length) y := by
  have hl := writeAt_length _ _ _ _ h1
  unfold writeAt at h1 ⊢
  split at h1
  · rename_i hle
    injection h1 with h1
    subst h1
    simp only [List.length_append] at hl ⊢
    by_cases hc : off + (x.length + y.length) ≤ buf.length
    · rw [if_pos hc, if_pos (by simp only [List.length_take, List.length_drop]; omega)]
      have hl1 : (buf.take off ++ x).length = off + x.length := by
        simp only [List.length_append, List.length_take]; omega
      rw [List.take_left' hl1, ← List.drop_drop (i := y.length) (j := off + x.length), List.drop_left' hl1,
        List.drop_drop]
      simp only [List.append_assoc, Nat.add_assoc]
    · rw [if_neg hc, if_neg (by simp only [List.length_take, List.length_drop]; omega)]
  · exact absurd h1 (by simp)

/-- what the application sees of one frame or error: status, returned allocation, length -/
abbrev Ev := Int × Option (List UInt8) × Nat

inductive Out where
  | more (ws : WS)      -- all input consumed, the stream can take more
  | stop                -- a negative status ended the session

def evOf (st : Int) (pl : Option (List UInt8)) (plen : Nat) : List Ev := if st = 0 then [] else [(st, pl, plen)]

theorem evOf_ne {st : Int} (h : st ≠ 0) (pl : Option (List UInt8)) (plen : Nat) : evOf st pl plen = [(st, pl, plen)] :=
  if_neg h

/-- big-step run of the decoder over `rest` to the point where all input is consumed and
    nothing is pending, ignoring where one `MHD_websocket_decode` call ends and the next begins -/
inductive Run : WS → List UInt8 → List Ev → Out → Prop
  | done (ws : WS) : sil ws = 0 → Run ws [] [] (.more ws)
  | cont (ws : WS) (rest : List UInt8) (ws' : WS) (k : Nat) (E : List Ev) (out : Out) :
      rest ≠ [] ∨ sil ws ≠ 0 → trip ws rest = .cont ws' k → Run ws' (rest.drop k) E out → Run ws rest E out
  | emit (ws : WS) (rest : List UInt8) (ws' : WS) (st : Int) (k : Nat) (pl : Option (List UInt8)) (plen : Nat)
      (E : List Ev) (out : Out) :
      rest ≠ [] ∨ sil ws ≠ 0 → trip ws rest = .ret ws' st k pl plen → 0 ≤ st → Run ws' (rest.drop k) E out →
      Run ws rest (evOf st pl plen ++ E) out
  | err (ws : WS) (rest : List UInt8) (ws' : WS) (st : Int) (k : Nat) (pl : Option (List UInt8)) (plen : Nat) :
      rest ≠ [] ∨ sil ws ≠ 0 → trip ws rest = .ret ws' st k pl plen → st < 0 → Run ws rest [(st, pl, plen)] .stop

theorem Run.idle {ws : WS} (hs : ws.step = 0) : Run ws [] [] (.more ws) :=
  .done _ (sil_of_step0 hs)

theorem Run.det {ws : WS} {rest : List UInt8} {E E' : List Ev} {o o' : Out} (h : Run ws rest E o)
    (h' : Run ws rest E' o') : E = E' ∧ o = o' := by
  induction h generalizing E' o' with
  | done ws hq =>
    have no : ¬ (([] : List UInt8) ≠ [] ∨ sil ws ≠ 0) := fun c => c.elim (fun c => c rfl) (fun c => c hq)
    cases h' with
    | done => exact ⟨rfl, rfl⟩
    | cont _ _ _ _ _ _ hg => exact absurd hg no
    | emit _ _ _ _ _ _ _ _ _ hg => exact absurd hg no
    | err _ _ _ _ _ _ _ hg => exact absurd hg no
  | cont ws rest ws' k E out hg hi _ ih =>
    cases h' with
    | done _ hq => exact absurd hq (hg.resolve_left (fun c => c rfl))
    | cont _ _ ws2 k2 _ _ _ hi2 hr2 =>
      cases hi.symm.trans hi2; exact ih hr2
    | emit _ _ _ _ _ _ _ _ _ _ hi2 => cases hi.symm.trans hi2
    | err _ _ _ _ _ _ _ _ hi2 => cases hi.symm.trans hi2
  | emit ws rest ws' st k pl plen E out hg hi h0 _ ih =>
    cases h' with
    | done _ hq => exact absurd hq (hg.resolve_left (fun c => c rfl))
    | cont _ _ _ _ _ _ _ hi2 => cases hi.symm.trans hi2
    | emit _ _ _ _ _ _ _ _ _ _ hi2 _ hr2 =>
      cases hi.symm.trans hi2
      obtain ⟨e1, e2⟩ := ih hr2
      exact ⟨by rw [e1], e2⟩
    | err _ _ _ _ _ _ _ _ hi2 hneg =>
      cases hi.symm.trans hi2; omega
  | err ws rest ws' st k pl plen hg hi hneg =>
    cases h' with
    | done _ hq => exact absurd hq (hg.resolve_left (fun c => c rfl))
    | cont _ _ _ _ _ _ _ hi2 => cases hi.symm.trans hi2
    | emit _ _ _ _ _ _ _ _ _ _ hi2 h0 =>
      cases hi.symm.trans hi2; omega
    | err _ _ _ _ _ _ _ _ hi2 _ =>
      cases hi.symm.trans hi2; exact ⟨rfl, rfl⟩

end Mhd.WS
