/-
  The ordinary build (`Mhd.Model.Pool`, `Mhd.Model.PoolOps`).  From a well-formed state it is the
  red-zone model at `rz = 0` with the poison map forgotten (`Mhd.PoolRz.erase_step_wf`), so its
  theorems are the instances of those of `Mhd.Proofs.PoolRzInv`: a state is lifted (`lift`), the step is
  taken there, and the result is read back (`step_lift`).
-/
import Mhd.Proofs.PoolRzInv

namespace Mhd.Pool

open Mhd.PoolRz (eraseSt eraseRes valid_rz0)

/-- a state of the red-zone model over a state of the ordinary build (poison map: anything of the right length) -/
def lift (s : St) : Mhd.PoolRz.St :=
  ⟨⟨s.p.size, s.p.pos, s.p.end_, s.p.mem, List.replicate s.p.size true⟩, s.live⟩

theorem inside_rz0 {chk : Bool} {p : Mhd.PoolRz.Pool} {b : Blk} :
    Mhd.PoolRz.Inside ⟨0, chk⟩ p b ↔ b.Inside (Mhd.PoolRz.erase p) :=
  and_congr_right fun _ => and_congr_right fun _ => and_congr_right fun _ =>
    ⟨fun h hl => h (.inl hl), fun h hl => h (hl.resolve_right fun h0 => h0 rfl)⟩

theorem sep_rz0 {chk : Bool} {a b : Blk} : Mhd.PoolRz.Sep ⟨0, chk⟩ a b ↔ Disjoint a b := by
  show (0 = 0 ∧ _) ∨ a.off + a.len + 0 ≤ b.off ∨ b.off + b.len + 0 ≤ a.off ↔ _
  unfold Disjoint; omega

theorem wf_rz0 {chk : Bool} {s : Mhd.PoolRz.St} (hp : s.p.psn.length = s.p.size) :
    Mhd.PoolRz.WF ⟨0, chk⟩ s ↔ WF (eraseSt s) :=
  and_congr ⟨fun h => ⟨h.1, h.2.1, h.2.2.1, h.2.2.2.1, h.2.2.2.2.1, h.2.2.2.2.2.1, h.2.2.2.2.2.2.1⟩,
      fun h => ⟨h.1, h.2.1, h.2.2.1, h.2.2.2.1, h.2.2.2.2.1, h.2.2.2.2.2.1, h.2.2.2.2.2.2, hp⟩⟩
    (and_congr (forall₂_congr fun _ _ => inside_rz0)
      ⟨fun h => h.imp sep_rz0.mp, fun h => h.imp sep_rz0.mpr⟩)

theorem wf_lift {s : St} (h : WF s) : Mhd.PoolRz.WF ⟨0, true⟩ (lift s) :=
  (wf_rz0 (List.length_replicate ..)).mpr h

theorem step_lift (s : St) (o : Op) (h : WF s) (ho : o.Valid) :
    eraseSt (Mhd.PoolRz.step ⟨0, true⟩ (lift s) o).1 = (step s o).1 ∧
    eraseRes (Mhd.PoolRz.step ⟨0, true⟩ (lift s) o).2 = (step s o).2 :=
  have r := Mhd.PoolRz.erase_step_wf true (lift s) o ho (wf_lift h)
  ⟨r.1, r.2.1⟩

theorem eraseRes_block {r : Mhd.PoolRz.Res} {off len : Nat} (h : eraseRes r = .block off len) :
    r = .block off len := by
  cases r <;> cases h; rfl

theorem eraseRes_refused {r : Mhd.PoolRz.Res} (h : eraseRes r = .null ∨ ∃ n, eraseRes r = .nullNeed n) :
    r = .null ∨ ∃ n, r = .nullNeed n := by
  cases r <;> rcases h with h | ⟨n, h⟩ <;> cases h
  · exact .inl rfl
  · exact .inr ⟨_, rfl⟩

theorem step_wf (s : St) (o : Op) (h : WF s) (ho : o.Valid) : WF (step s o).1 := by
  have hw := Mhd.PoolRz.step_wf _ (valid_rz0 true).1 (valid_rz0 true).2 _ o (wf_lift h) ho
  rw [← (step_lift s o h ho).1]
  exact (wf_rz0 hw.1.2.2.2.2.2.2.2).mp hw

theorem init_wf (allocSize : Nat) (ha : allocSize % A = 0) (hs : allocSize < 2 ^ 62) : WF (St.init allocSize) :=
  (wf_rz0 (List.length_replicate ..)).mp (Mhd.PoolRz.init_wf ⟨0, true⟩ allocSize ha hs)

theorem run_wf' (s : St) (ops : List Op) (h : WF s) (ho : ∀ o ∈ ops, o.Valid) : WF (run s ops) :=
  List.foldlRecOn ops _ h fun s hs o hm => step_wf s o hs (ho o hm)

theorem run_wf (allocSize : Nat) (ha : allocSize % A = 0) (hs : allocSize < 2 ^ 62)
    (ops : List Op) (ho : ∀ o ∈ ops, o.Valid) : WF (run (St.init allocSize) ops) :=
  run_wf' _ ops (init_wf allocSize ha hs) ho

theorem block_in_bounds_disjoint (s : St) (o : Op) (h : WF s) (ho : o.Valid) (off len : Nat)
    (hr : (step s o).2 = .block off len) :
    off % A = 0 ∧ off + len ≤ s.p.size ∧
    ∃ b ∈ (step s o).1.live, b.off = off ∧ b.len = len ∧
      ∀ c ∈ (step s o).1.live, c ≠ b → Disjoint b c := by
  obtain ⟨e1, e2⟩ := step_lift s o h ho
  rw [← e1]
  exact Mhd.PoolRz.block_in_bounds_disjoint _ (valid_rz0 true).1 (valid_rz0 true).2 _ o (wf_lift h) ho off len
    (eraseRes_block (e2.trans hr))

theorem refused_unchanged (s : St) (o : Op) (h : WF s) (ho : o.Valid)
    (hr : (step s o).2 = .null ∨ ∃ n, (step s o).2 = .nullNeed n) : (step s o).1 = s := by
  obtain ⟨e1, e2⟩ := step_lift s o h ho
  rw [← e2] at hr
  rw [← e1, Mhd.PoolRz.refused_unchanged _ (valid_rz0 true).1 (valid_rz0 true).2 _ o (wf_lift h) ho
    (eraseRes_refused hr)]
  rfl

theorem others_untouched (s : St) (o : Op) (h : WF s) (ho : o.Valid) (hnr : ¬ o.isReset)
    (j : Nat) (b : Blk) (hb : s.live[j]? = some b) (hj : o.target ≠ some j) :
    readAt (step s o).1.p.mem b.off b.len = readAt s.p.mem b.off b.len := by
  rw [← (step_lift s o h ho).1]
  exact Mhd.PoolRz.others_untouched _ (valid_rz0 true).1 (valid_rz0 true).2 _ o (wf_lift h) ho hnr j b hb hj

theorem realloc_preserves (s : St) (i n : Nat) (h : WF s) (hn : n < W) (b : Blk)
    (hb : s.live[i]? = some b) (hf : b.front = true) (off len : Nat)
    (hr : (step s (.realloc (some i) n)).2 = .block off len) :
    len = n ∧ readAt (step s (.realloc (some i) n)).1.p.mem off (min b.len n)
              = readAt s.p.mem b.off (min b.len n) := by
  obtain ⟨e1, e2⟩ := step_lift s (.realloc (some i) n) h hn
  rw [← e1]
  exact Mhd.PoolRz.realloc_preserves _ (valid_rz0 true).1 (valid_rz0 true).2 _ i n (wf_lift h) hn b hb hf off len
    (eraseRes_block (e2.trans hr))

theorem reset_keeps (s : St) (i copy n : Nat) (h : WF s) (b : Blk) (hb : s.live[i]? = some b)
    (hc : copy ≤ b.len) (hcn : copy ≤ n) (hn : n ≤ s.p.size) :
    let s' := (step s (.reset (some i) copy n)).1
    readAt s'.p.mem 0 copy = readAt s.p.mem b.off copy ∧
    s'.p.end_ = s'.p.size ∧ s'.p.size = s.p.size ∧ s'.p.pos = roundUp n ∧ s'.live = [⟨0, n, true⟩] := by
  have hk := Mhd.PoolRz.reset_keeps _ (valid_rz0 true).1 _ i copy n (wf_lift h) b hb hc hcn hn
    (roundUp_le n _ hn h.1.2.2.2.2.1)
  rw [Mhd.PoolRz.roundRz_rz0] at hk
  rw [← (step_lift s (.reset (some i) copy n) h trivial).1]
  exact hk

/-- the `memset` of `MHD_pool_reset` -/
theorem reset_zeroes_rest (s : St) (i copy n : Nat) (h : WF s) (b : Blk) (hb : s.live[i]? = some b)
    (hc : copy ≤ b.len) (hcn : copy ≤ n) (hn : n ≤ s.p.size) :
    let s' := (step s (.reset (some i) copy n)).1
    readAt s'.p.mem copy (s.p.size - copy) = List.replicate (s.p.size - copy) 0 := by
  rw [← (step_lift s (.reset (some i) copy n) h trivial).1]
  exact Mhd.PoolRz.reset_zeroes_rest _ _ i copy n (wf_lift h) b hb hc hcn hn (roundUp_le n _ hn h.1.2.2.2.2.1)

/-- relocation never copies between overlapping ranges (`memcpy (new_blc, old, old_size)` is defined) -/
theorem realloc_move_no_overlap (s : St) (i n : Nat) (h : WF s) (b : Blk)
    (hb : s.live[i]? = some b) (hf : b.front = true) (off len : Nat)
    (hr : (step s (.realloc (some i) n)).2 = .block off len) :
    off = b.off ∨ b.len = 0 ∨ b.off + b.len ≤ off := by
  obtain ⟨bo, bl, bf⟩ := b
  simp only at hf; subst hf
  simp only [step, hb, Bool.not_true, Bool.false_eq_true, if_false] at hr
  -- at `rz = 0` with the wrap test of `reallocate` itself the two models agree for every `n`
  have hw : Mhd.PoolRz.WF ⟨0, false⟩ (lift s) := (wf_rz0 (List.length_replicate ..)).mpr h
  have hoff := fun off => Mhd.PoolRz.reallocate_offset ⟨0, false⟩ n hw.1 (hw.2.1 _ (List.mem_of_getElem? hb)) (off := off)
  have e : reallocate s.p (some bo) bl n = _ :=
    (Mhd.PoolRz.erase_reallocate false (lift s).p (some bo) bl n (fun h => nomatch h)).symm
  rw [e] at hr
  generalize Mhd.PoolRz.reallocate ⟨0, false⟩ (lift s).p (some bo) bl n = res at hr hoff
  obtain ⟨p', _ | o⟩ := res
  · cases hr
  · injection hr with e1 _
    exact e1 ▸ hoff o rfl

end Mhd.Pool
