import Mhd.Proofs.UpgInv
namespace Mhd.Upg

/-- hypothesis on the parser (C02 proves it for the real one): a complete head stays the
    result when more bytes follow -/
def PStable (P : Parser) : Prop := ∀ a b h, P.parse a = some h → P.parse (a ++ b) = some h

/-- `head` is a complete request head and no proper prefix of it is one -/
def IsHead (P : Parser) (head : Bytes) : Prop :=
  (∃ h, P.parse head = some h ∧ h.len = head.length) ∧ ∀ p, p <+: head → p ≠ head → P.parse p = none

theorem first_head {P : Parser} (hs : PStable P) {head s w : Bytes} (hh : IsHead P head)
    (h1 : head <+: s) (h2 : w <+: s) {h : Head} (hp : P.parse w = some h) : w.take h.len = head := by
  obtain ⟨⟨h0, hp0, hl0⟩, hmin⟩ := hh
  rcases List.prefix_or_prefix_of_prefix h2 h1 with hw | hw
  · by_cases he : w = head
    · subst he
      rw [hp0] at hp; cases hp
      rw [hl0]; exact List.take_length
    · rw [hmin w hw he] at hp; cases hp
  · obtain ⟨q, rfl⟩ := hw
    rw [hs head q h0 hp0] at hp; cases hp
    rw [hl0]; simp

/-- the first head consumed on the connection is the head the stream starts with, whatever stream `s` the bytes
    sent so far grow into -/
structure HdI (cfg : Cfg) (x : Conn) : Prop where
  first : ∀ head s, IsHead cfg.parser head → PStable cfg.parser → head <+: s → x.sent <+: s →
    ∀ h0, x.heads.head? = some h0 → h0 = head

theorem hdI_init (cfg) : HdI cfg {} := ⟨fun _ _ _ _ _ _ _ => nofun⟩

theorem hdI_same {cfg} {x y : Conn} (h : HdI cfg x) (h1 : y.heads = x.heads) (h2 : y.sent = x.sent) : HdI cfg y :=
  ⟨by rw [h1, h2]; exact h.first⟩

def Same (x y : Conn) : Prop := y.heads = x.heads ∧ y.sent = x.sent
theorem Same.rfl' (x : Conn) : Same x x := ⟨rfl, rfl⟩

/-- the one place where a head is consumed -/
theorem hdI_consumeHead {cfg x} (hc : CI cfg x) (h : HdI cfg x) (ha : x.loc = .active) {hd : Head}
    (hp : cfg.parser.parse x.rbuf = some hd) : HdI cfg (consumeHead x hd) := by
  refine ⟨?_⟩
  intro head s ih ps h1 h2 h0 hh
  have h2' : x.sent <+: s := h2
  cases hx : x.heads with
  | cons a l =>
    apply h.first head s ih ps h1 h2' h0
    simp [consumeHead, hx] at hh
    simp [hx, hh]
  | nil =>
    have hn := hc.logi.noUpg_of_loc (Or.inl ha)
    have hh0 := hc.logi.handed_upg hn
    have hcons := hc.logi.cons
    rw [hx, hh0] at hcons
    simp at hcons
    have hw : x.rbuf <+: s := by
      have : x.rbuf <+: x.sent := ⟨x.sockIn, hcons⟩
      exact this.trans h2'
    have := first_head ps ih h1 hw hp
    simp [consumeHead, hx] at hh
    rw [← hh]; exact this

theorem hdI_kept (cfg : Cfg) : Kept cfg (CI cfg) (HdI cfg) where
  act {x y} a hc h := by
    cases a with
    | head hd ha hp => exact hdI_consumeHead hc h ha hp
    | clientSend bs =>
      exact ⟨fun head s ih ps h1 h2 => h.first head s ih ps h1 ((List.prefix_append x.sent bs).trans h2)⟩
    | incoherent hi => exact absurd hi hc.life.coherent
    | _ => exact hdI_same h rfl rfl

/-- `d`: the reply being sent is the one built last, and it is that of the queued response; `c`: once a response has
    been handed over, the reply built last is its 101 head -/
structure WI (cfg : Cfg) (x : Conn) : Prop where
  d : x.st = .sending → ∀ rid, x.rp = some rid → ∃ pre, x.outq = pre ++ [replyBytes cfg rid]
  c : ∀ rid, rid ∈ upgRids x.log → ∃ pre, x.outq = pre ++ [head101 cfg (cfg.resp rid)]

theorem wi_init (cfg) : WI cfg {} := ⟨nofun, nofun⟩

/-- `WI` reads the state only to ask whether it is SENDING, the queued response, the replies built and the upgrade events -/
theorem wi_same {cfg} {x y : Conn} (h : WI cfg x) (hs : y.st = .sending → x.st = .sending ∧ y.rp = x.rp)
    (ho : y.outq = x.outq) (hr : upgRids y.log = upgRids x.log) : WI cfg y :=
  ⟨fun h0 rid hrp => ho ▸ h.d (hs h0).1 rid ((hs h0).2 ▸ hrp), fun rid hm => ho ▸ h.c rid (hr ▸ hm)⟩

theorem wi_kept (cfg : Cfg) : Kept cfg (CI cfg) (WI cfg) where
  act {x y} a hc h := by
    cases a with
    | toCleanup | resumeClean | marked | arrive | clientSend => exact wi_same h (fun hs => ⟨hs, rfl⟩) rfl rfl
    | shutdown | entered | completed | recv | send | started | stopNew | appRecv =>
      exact wi_same h (fun hs => ⟨hs, rfl⟩) rfl (upgRids_snoc _ rfl)
    | release => exact wi_same h (fun hs => ⟨hs, rfl⟩) rfl ((upgRids_snoc _ rfl).trans (upgRids_snoc _ rfl))
    | emit e he => exact wi_same h (fun hs => ⟨hs, rfl⟩) rfl (upgRids_snoc _ (Ev.neutral_spec he).2.1)
    | ctl s r d hs => exact wi_same h (fun h0 => absurd h0 hs) rfl rfl
    | dropRp => exact ⟨fun _ _ hr => (nomatch hr), h.c⟩
    | accept | head => exact ⟨nofun, h.c⟩
    | built rid ha hr =>
      refine ⟨fun _ rid' hr' => ?_, fun rid' hm => ?_⟩
      · cases hr.symm.trans hr'
        exact ⟨x.outq, rfl⟩
      · rw [show upgRids x.log = [] from upgRids_nil_of_noUpg _ (hc.logi.noUpg_of_loc (.inl ha))] at hm
        cases hm
    | handover rid ha hs _ hr hu =>
      obtain ⟨pre, hpre⟩ := h.d hs rid hr
      refine ⟨nofun, fun rid' hm => ?_⟩
      have hm : rid' ∈ upgRids (x.log ++ [.upgrade rid x.rbuf]) := hm
      rw [upgRids_append, upgRids_nil_of_noUpg _ (hc.logi.noUpg_of_loc (.inl ha))] at hm
      cases List.mem_singleton.mp hm
      exact ⟨pre, hpre.trans (by simp [replyBytes, hu])⟩
    | incoherent hi => exact absurd hi hc.life.coherent

end Mhd.Upg
