/-
  C07 — what faults do: final states are final, a permanent socket error closes without sending,
  a failing allocation closes the connection or was not needed.
-/
import Mhd.Proofs.SendIdle
namespace Mhd.Send
open Mhd.Gen.Send

theorem Bk.cleanup_idem (b : Bk) : b.cleanup.cleanup = b.cleanup := by
  unfold Bk.cleanup
  by_cases h : b.inCleanup = true
  · simp [h]
  · simp [h]

theorem Bk.cleanup_cst (b : Bk) : b.cleanup.cstClosed = b.cstClosed := by
  unfold Bk.cleanup; split <;> rfl

theorem Bk.fin_idem (b : Bk) : b.fin.fin = b.fin := by
  unfold Bk.fin
  by_cases h : b.cstClosed = true
  · simp only [h, if_true, Bk.cleanup_cst, Bk.cleanup_idem]
  · have h' : b.cstClosed = false := by simpa using h
    simp [h']

theorem idleClosed_idem (c : Conn) : idleClosed (idleClosed c) = idleClosed c := by
  rw [idleClosed_eq (idleClosed c), idleClosed_bk, Bk.fin_idem, idleClosed_eq]

/-- the reply is over: closed by an error, or completed -/
def Final (s : St) : Prop := s = .closed ∨ s = .done

instance : DecidablePred Final := fun s => inferInstanceAs (Decidable (s = .closed ∨ s = .done))

theorem Final.not_active {s : St} (h : Final s) : ¬ writeActive s ∧ ¬ idleActive s := by
  rcases h with h | h <;> rw [h] <;> exact ⟨nofun, nofun⟩

theorem handleWrite_final {r : Resp} {c : Conn} (s1 s2 : SockRes) (app : AppAns) (alloc : Bool) (h : Final c.st) :
    handleWrite r c s1 s2 app alloc = c :=
  handleWrite_idle h.not_active.1 s1 s2 app alloc

theorem idleStep_final {r : Resp} {c : Conn} (app : AppAns) (alloc : Bool) (h : Final c.st) :
    idleStep r c app alloc = c :=
  idleStep_idle h.not_active.2 app alloc

theorem handleIdle_final {r : Resp} {c : Conn} (app : AppAns) (alloc : Bool) (h : Final c.st) :
    handleIdle r c app alloc = idleClosed c := by
  unfold handleIdle
  rw [idleStep_final app alloc h, idleStep_final app alloc h, idleStep_final app alloc h, idleStep_final app alloc h]

/-- the one thing that still happens in a final state is the (guarded) `cleanup_connection` of a
    connection whose C state is CLOSED -/
theorem round_final {r : Resp} {c : Conn} (x : Round) (h : Final c.st) : round r c x = idleClosed c := by
  unfold round
  rw [handleWrite_final _ _ _ _ h, ite_self, handleIdle_final _ _ h]

theorem run_final {r : Resp} : ∀ (xs : List Round) (c : Conn), Final c.st →
    run r c xs = c ∨ run r c xs = idleClosed c
  | [], _, _ => Or.inl rfl
  | x :: xs, c, h => by
    rw [run_cons, round_final x h]
    right
    rcases run_final xs (idleClosed c) (by rw [idleClosed_st]; exact h) with e | e
    · exact e
    · rw [e, idleClosed_idem]

theorem run_settled {r : Resp} (xs : List Round) (c : Conn) (h : c.st = .closed ∨ c.st = .done)
    (hs : idleClosed c = c) : run r c xs = c := by
  rcases run_final (r := r) xs c h with e | e
  · exact e
  · rw [e, hs]

/-- an errno that the senders do not map to "try again" -/
def Errno.isHard (e : Errno) : Prop := mapSendErr e ≠ .again

instance : DecidablePred Errno.isHard := fun e => inferInstanceAs (Decidable (mapSendErr e ≠ .again))

/-- sendfile(): EBADF is the one errno `MHD_send_sendfile_` treats as permanent -/
def Errno.isHardSendfile (e : Errno) : Prop := e.isEbadf = true ∧ e.isEagain = false ∧ e.isEintr = false

instance : DecidablePred Errno.isHardSendfile := fun e =>
  inferInstanceAs (Decidable (e.isEbadf = true ∧ e.isEagain = false ∧ e.isEintr = false))

/-- "permanent failure" as the code classifies it: for the sendfile sender only EBADF, for the
    standard senders every errno that is not mapped to "try again" -/
def Permanent (c : Conn) (e : Errno) : Prop :=
  if c.st = .normalBodyReady ∧ c.sf = true then Errno.isHardSendfile e else Errno.isHard e

instance (c : Conn) (e : Errno) : Decidable (Permanent c e) := by unfold Permanent; exact inferInstance

theorem account_hard (c : Conn) (e : Err) (he : e ≠ .again) (k : Nat → Conn) :
    (account c (.fail e) k).st = .closed ∧ (account c (.fail e) k).out = c.out :=
  account_cases (P := fun c' => c'.st = .closed ∧ c'.out = c.out)
    (fun h => absurd (Except.error.inj h) he) (fun _ _ _ => ⟨rfl, List.append_nil _⟩) nofun

/-- What a permanent error answer does to `x := f (.err e)`, the result of a branch of
    MHD_connection_handle_write: the connection is closed and `out` is as before, or the branch made no
    system call, so that any other answer gives the same. -/
def HardOr (c : Conn) (f : SockRes → Conn) (e : Errno) : Prop :=
  ((f (.err e)).st = .closed ∧ (f (.err e)).out = c.out) ∨ f (.err e) = f .full

theorem wbSend_hard {c : Conn} (e : Errno) (he : Errno.isHard e) (next : St) :
    HardOr c (fun s => match wbPending c with
      | none => setFault c
      | some b => wbAccount c (sendData false b s) next) e := by
  unfold HardOr
  cases wbPending c with
  | none => exact Or.inr rfl
  | some b => simp only [wbAccount_eq, sendData_err]; exact Or.inl (account_hard c _ he _)

theorem bodySend_hard {r : Resp} {c : Conn} (e : Errno)
    (he : if c.sf = true then Errno.isHardSendfile e else Errno.isHard e) : HardOr c (bodySend r c) e := by
  unfold HardOr bodySend
  by_cases hsf : c.sf = true
  · rw [if_pos hsf] at he
    simp only [if_pos hsf]
    by_cases hov : off64Max < c.rp + r.fdOff
    · right; rw [sendSendfile_overflow _ _ _ _ _ _ hov, sendSendfile_overflow _ _ _ _ _ _ hov]
    · left
      rw [sendSendfile_err _ _ _ _ _ _ hov, he.2.1, he.2.2, he.1]
      exact account_hard { c with sf := true } .badf nofun _
  rw [if_neg hsf] at he
  simp only [if_neg hsf]
  by_cases hk : r.kind = .iovec
  · left
    simp only [if_pos hk]
    obtain ⟨X, -, -, hout, hnf, -, -⟩ := sendIovec_sent c.isent c.irest (.err e)
    generalize sendIovec false c.isent c.irest (.err e) = x at hout hnf ⊢
    rw [hnf, if_neg Bool.false_ne_true, hout, sysSend_err]
    exact account_hard { c with isent := x.sent, irest := x.rest } _ he _
  · simp only [if_neg hk]
    by_cases hf : c.rp < c.ds ∨ c.dz < c.rp - c.ds ∨ r.body.length < c.ds + c.dz
    · right; rw [if_pos hf, if_pos hf]
    · left; rw [if_neg hf, sendData_err]; exact account_hard c _ he _

theorem handleWrite_hard {r : Resp} {c : Conn} (e : Errno) (he : Permanent c e) (s2 : SockRes) (app : AppAns)
    (alloc : Bool) : HardOr c (fun s => handleWrite r c s s2 app alloc) e := by
  unfold Permanent at he
  by_cases ha : ¬ writeActive c.st
  · exact Or.inr (by simp only [handleWrite_idle ha])
  have hstd : ∀ s, c.st = s → s ≠ .normalBodyReady → Errno.isHard e := fun s hs hn => by
    rwa [if_neg (fun x => hn (hs ▸ x.1))] at he
  rcases Classical.not_not.mp ha with hs | hs | hs | hs
  · unfold HardOr handleWrite
    rw [hs]
    cases hp : wbPending c with
    | none => right; simp only [hwHeaders_none hp]
    | some part =>
      left
      simp only [hwHeaders_eq hp, sendHdrAndBody_err]
      exact account_hard c _ (hstd _ hs nofun) _
  · simp only [hs, true_and] at he
    unfold HardOr handleWrite
    rw [hs]
    simp only [hwNormalBody_eq]
    by_cases hlt : c.rp < c.tot
    · simp only [if_pos hlt]
      have hr := tryReady_ready r c app alloc
      generalize tryReadyNormalBody r c app alloc = p at hr ⊢
      obtain ⟨c', ok⟩ := p
      cases ok with
      | false => exact Or.inr rfl
      | true =>
        obtain ⟨e2, e5, -, -⟩ := hr.same
        have := bodySend_hard (r := r) (c := c') e (by rw [e5]; exact he)
        unfold HardOr at this
        rw [e2] at this
        exact this
    · simp only [if_neg hlt]; exact Or.inr trivial
  · unfold handleWrite; rw [hs]
    exact wbSend_hard e (hstd _ hs nofun) _
  · unfold handleWrite; rw [hs]
    exact wbSend_hard e (hstd _ hs nofun) _

theorem permanent_closes_aux {r : Resp} {c : Conn} (e : Errno) (he : Permanent c e)
    (x : Round) (hwr : x.wr = true) (hs1 : x.s1 = .err e) :
    ((round r c x).st = .closed ∧ (round r c x).out = c.out) ∨ round r c x = round r c { x with s1 := .full } := by
  unfold round
  simp only [hwr, if_true, hs1]
  rcases handleWrite_hard (r := r) e he x.s2 x.appW x.allocW with ⟨h1, h2⟩ | h
  · left
    rw [handleIdle_final _ _ (Or.inl h1), idleClosed_st, idleClosed_out]
    exact ⟨h1, h2⟩
  · right; exact congrArg (fun c' => handleIdle r c' x.appI x.allocI) h

theorem tryReady_alloc (r : Resp) (c : Conn) (app : AppAns) :
    tryReadyNormalBody r c app false = (closeErr c, false) ∨
    tryReadyNormalBody r c app false = tryReadyNormalBody r c app true := by
  unfold tryReadyNormalBody
  by_cases h0 : c.tot = 0 ∨ c.rp = c.tot
  · right; rw [if_pos h0, if_pos h0]
  · rw [if_neg h0, if_neg h0]
    by_cases hk : r.kind = .iovec
    · rw [if_pos hk, if_pos hk]
      by_cases hset : c.iovSet = true
      · right; rw [if_pos hset, if_pos hset]
      · left; rw [if_neg hset]; rfl
    · right; rw [if_neg hk, if_neg hk]

theorem idleStep_alloc (r : Resp) (c : Conn) (app : AppAns) :
    (idleStep r c app false).st = .closed ∨ idleStep r c app false = idleStep r c app true := by
  by_cases hi : ¬ idleActive c.st
  · right; rw [idleStep_idle hi, idleStep_idle hi]
  rcases Classical.not_not.mp hi with hs | hs | hs | hs | hs
  · right; rw [idleStep_headersSent hs, idleStep_headersSent hs]
  · rw [idleStep_nbUnready hs, idleStep_nbUnready hs]
    by_cases h0 : c.tot = 0
    · right; rw [if_pos h0, if_pos h0]
    · rw [if_neg h0, if_neg h0]
      rcases tryReady_alloc r c app with h | h
      · left; rw [h]; rfl
      · right; rw [h]
  · right; rw [idleStep_cbUnready hs, idleStep_cbUnready hs]
  · left; rw [idleStep_cbSent hs]; rfl
  · right; rw [idleStep_fullReplySent hs, idleStep_fullReplySent hs]

theorem handleIdle_alloc (r : Resp) {c c' : Conn} (app : AppAns) (h : c.st = .closed ∨ c = c') :
    (handleIdle r c app false).st = .closed ∨ handleIdle r c app false = handleIdle r c' app true := by
  have step : ∀ x y : Conn, x.st = .closed ∨ x = y →
      (idleStep r x app false).st = .closed ∨ idleStep r x app false = idleStep r y app true := fun x y h => by
    rcases h with h | h
    · left; rw [idleStep_final app false (Or.inl h)]; exact h
    · rw [h]; exact idleStep_alloc r y app
  unfold handleIdle
  rcases step _ _ (step _ _ (step _ _ (step c c' h))) with h4 | h4
  · left; rw [idleClosed_st]; exact h4
  · right; rw [h4]

theorem handleWrite_alloc (r : Resp) (c : Conn) (s1 s2 : SockRes) (app : AppAns) :
    (handleWrite r c s1 s2 app false).st = .closed ∨
    handleWrite r c s1 s2 app false = handleWrite r c s1 s2 app true := by
  by_cases hs : c.st = .normalBodyReady
  · unfold handleWrite; rw [hs]
    simp only [hwNormalBody_eq]
    by_cases hlt : c.rp < c.tot
    · rw [if_pos hlt, if_pos hlt]
      rcases tryReady_alloc r c app with h | h
      · left; rw [h]; rfl
      · right; rw [h]
    · right; rw [if_neg hlt, if_neg hlt]
  · -- no other branch asks the allocator
    right; unfold handleWrite; split
    case h_2 => exact absurd ‹_› hs
    all_goals rfl

end Mhd.Send
