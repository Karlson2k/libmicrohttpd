/-
  C20, TLS forwarding: one direction of `process_urh` as a bounded FIFO.

  `process_urh` runs two copies of the same machine on different fields (client → application through
  `in_buffer`, application → client through `out_buffer`).  `Dir` is one of them; the four I/O stages are
  the two functions `Dir.recvStage` / `Dir.sendStage` (UpgTls shows that each stage of the model acts on its
  direction as one of them and leaves the other direction alone), and everything the theorems of C20 say
  about buffers — conservation and order, bounds, what is discarded when, when a direction has come to
  rest — is proved here, once, about `Dir`.
-/
import Mhd.Model.UpgTls
namespace Mhd.UpgTls

structure Dir where
  done : Bytes        -- forwarded to the sink
  drop : Bytes        -- received and discarded
  buf : Bytes         -- in the forwarding buffer
  src : Bytes         -- written by the source, not yet received
  all : Bytes         -- everything the source wrote
  size : Nat          -- `*_buffer_size` (0 = stopped)
  cap : Nat

/-- conservation, order, bounds -/
structure DirI (d : Dir) : Prop where
  eq : d.done ++ d.drop ++ d.buf ++ d.src = d.all
  drop : d.drop = [] ∨ (d.buf = [] ∧ d.size = 0)
  len : d.buf.length ≤ d.cap
  size : d.size ≤ d.cap

/-- stopped and empty: nothing will move in this direction any more -/
def Dir.idle (d : Dir) : Prop := d.size = 0 ∧ d.buf = []

def Dir.recv (d : Dir) (k : Nat) : Dir := { d with buf := d.buf ++ d.src.take k, src := d.src.drop k }
def Dir.send (d : Dir) (k : Nat) : Dir := { d with done := d.done ++ d.buf.take k, buf := d.buf.drop k }
def Dir.discard (d : Dir) : Dir := { d with drop := d.drop ++ d.buf, buf := [], size := 0 }
def Dir.stop (d : Dir) : Dir := { d with size := 0 }
def Dir.feed (d : Dir) (bs : Bytes) : Dir := { d with src := d.src ++ bs, all := d.all ++ bs }

/-- a receive call returns at most what there is room for and what the peer has written -/
def recvRes (r : IoRes) (room avail : Nat) : IoRes :=
  match r with
  | .ok n => if min n (min room avail) = 0 then .again else .ok (min n (min room avail))
  | r => r

/-- a send call takes at most what is buffered; 0 is handled like a hard error -/
def sendRes (r : IoRes) (avail : Nat) : IoRes :=
  match r with
  | .ok n => if min n avail = 0 then .again else .ok (min n avail)
  | .eof => .fatal
  | r => r

/-- what the receive has done to the direction when it returned `r` (`halt`: EAGAIN stops the direction —
    the source has its error bit set, or the read was forced after the application's close) -/
def Dir.recvd (d : Dir) (halt : Bool) : IoRes → Dir
  | .ok k => if d.cap < d.buf.length + k then d else d.recv k
  | .intr => d
  | .again => if halt then d.stop else d
  | _ => d.stop

/-- what a stage reads besides its direction: the readiness of its descriptor, whether its error bit (or the
    application's close) makes "nothing moved" final, the largest count one call may ask for -/
structure Knobs where
  ready : Bool
  halt : Bool
  lim : Nat

def Dir.recvStage (d : Dir) (n : Knobs) (r : IoRes) : Dir :=
  if n.ready && decide (d.buf.length < d.size) then
    d.recvd n.halt (recvRes r (min (d.size - d.buf.length) n.lim) d.src.length)
  else d

def Dir.sentd (d : Dir) : IoRes → Dir
  | .ok k => d.send k
  | .intr => d
  | .again => d
  | _ => d.discard

/-- the test after the send: an empty buffer and the sink's error bit (`halt`) stop the direction -/
def Dir.tail (d : Dir) (halt : Bool) : Dir := if d.buf.isEmpty && halt then d.stop else d

def Dir.sendStage (d : Dir) (n : Knobs) (r : IoRes) : Dir :=
  if n.ready && decide (d.buf.length > 0) then (d.sentd (sendRes r (min d.buf.length n.lim))).tail n.halt else d

/-- the `was_closed` block at the start and the shutdown block at the end of `process_urh` -/
def Dir.discardIf (d : Dir) (c : Bool) : Dir := if c then d.discard else d

/-- the shutdown block at the end of `process_urh`: a direction not yet at rest is discarded -/
def Dir.flush (d : Dir) (sh : Bool) : Dir := d.discardIf (sh && (d.size != 0 || ! d.buf.isEmpty))

theorem take_drop_mid (a b c : Bytes) (k : Nat) : a ++ (b ++ c.take k) ++ c.drop k = a ++ b ++ c := by
  simp [List.append_assoc]

theorem recvRes_ok {r : IoRes} {room avail k : Nat} (h : recvRes r room avail = .ok k) : k ≤ room := by
  unfold recvRes at h
  split at h
  · split at h
    · cases h
    · cases h; exact Nat.le_trans (Nat.min_le_right _ _) (Nat.min_le_left _ _)
  · rename_i hr; exact absurd h (hr k)

theorem recvRes_empty (r : IoRes) (room : Nat) : ∀ k, recvRes r room 0 ≠ .ok k := by
  intro k h
  unfold recvRes at h
  split at h
  · simp at h
  · rename_i hr; exact hr k h

theorem recvRes_intr {r : IoRes} {room avail : Nat} (h : recvRes r room avail = .intr) : r = .intr := by
  unfold recvRes at h
  split at h
  · split at h <;> cases h
  · exact h

theorem sendRes_ok {r : IoRes} (avail : Nat) (h1 : r ≠ .fatal) (h2 : r ≠ .eof) :
    sendRes r avail ≠ .fatal ∧ sendRes r avail ≠ .eof := by
  cases r with
  | ok n => unfold sendRes; simp only []; split <;> exact ⟨nofun, nofun⟩
  | again => exact ⟨nofun, nofun⟩
  | intr => exact ⟨nofun, nofun⟩
  | eof => exact absurd rfl h2
  | fatal => exact absurd rfl h1

theorem DirI.drop_nil {d : Dir} (h : DirI d) (hlt : d.buf.length < d.size) : d.drop = [] := by
  rcases h.drop with h1 | ⟨_, h2⟩
  · exact h1
  · rw [h2] at hlt; cases hlt

theorem DirI.recv {d : Dir} (h : DirI d) {k : Nat} (hk : d.buf.length + k ≤ d.size) (hlt : d.buf.length < d.size) :
    DirI (d.recv k) := by
  refine ⟨?_, .inl (h.drop_nil hlt), ?_, h.size⟩
  · show d.done ++ d.drop ++ (d.buf ++ d.src.take k) ++ d.src.drop k = d.all
    rw [take_drop_mid]; exact h.eq
  · have := h.size
    show (d.buf ++ d.src.take k).length ≤ d.cap
    rw [List.length_append, List.length_take]; omega

/-- bytes are only forwarded from a buffer that holds some: then nothing was discarded before them -/
theorem DirI.send {d : Dir} (h : DirI d) (hpos : 0 < d.buf.length) (k : Nat) : DirI (d.send k) := by
  have hd : d.drop = [] := by
    rcases h.drop with h1 | ⟨h1, _⟩
    · exact h1
    · rw [h1] at hpos; cases hpos
  refine ⟨?_, .inl hd, ?_, h.size⟩
  · show d.done ++ d.buf.take k ++ d.drop ++ d.buf.drop k ++ d.src = d.all
    rw [← h.eq, hd]; simp
  · have := h.len
    show (d.buf.drop k).length ≤ d.cap
    rw [List.length_drop]; omega

theorem DirI.discard {d : Dir} (h : DirI d) : DirI d.discard := by
  refine ⟨?_, .inr ⟨rfl, rfl⟩, Nat.zero_le _, Nat.zero_le _⟩
  show d.done ++ (d.drop ++ d.buf) ++ [] ++ d.src = d.all
  rw [← h.eq]; simp

theorem DirI.stop {d : Dir} (h : DirI d) : DirI d.stop :=
  ⟨h.eq, h.drop.imp_right fun h1 => ⟨h1.1, rfl⟩, h.len, Nat.zero_le _⟩

theorem DirI.feed {d : Dir} (h : DirI d) (bs : Bytes) : DirI (d.feed bs) := by
  refine ⟨?_, h.drop, h.len, h.size⟩
  show d.done ++ d.drop ++ d.buf ++ (d.src ++ bs) = d.all ++ bs
  rw [← h.eq]; simp

theorem DirI.discardIf {d : Dir} (h : DirI d) (c : Bool) : DirI (d.discardIf c) := by
  unfold Dir.discardIf; split
  · exact h.discard
  · exact h

theorem Dir.discardIf_size_le {d : Dir} (h : d.size ≤ d.cap) (c : Bool) : (d.discardIf c).size ≤ (d.discardIf c).cap := by
  unfold Dir.discardIf; split
  · exact Nat.zero_le _
  · exact h

theorem DirI.flush {d : Dir} (h : DirI d) (sh : Bool) : DirI (d.flush sh) := h.discardIf _

/-- a receive stays below `size`, hence inside the allocation: the overrun test of the model never fires -/
theorem recvRes_fits {d : Dir} {r : IoRes} {lim avail k : Nat} (hlt : d.buf.length < d.size)
    (hr : recvRes r (min (d.size - d.buf.length) lim) avail = .ok k) : d.buf.length + k ≤ d.size := by
  have := Nat.le_trans (recvRes_ok hr) (Nat.min_le_left _ _)
  omega

theorem DirI.recvStage {d : Dir} (h : DirI d) (n : Knobs) (r : IoRes) : DirI (d.recvStage n r) := by
  unfold Dir.recvStage
  split
  · rename_i hc
    have hlt : d.buf.length < d.size := of_decide_eq_true (Bool.and_eq_true_iff.mp hc).2
    cases hr : recvRes r (min (d.size - d.buf.length) n.lim) d.src.length with
    | ok k =>
      simp only [Dir.recvd]; split
      · exact h
      · exact h.recv (recvRes_fits hlt hr) hlt
    | intr => exact h
    | again =>
      simp only [Dir.recvd]; split
      · exact h.stop
      · exact h
    | _ => exact h.stop
  · exact h

theorem DirI.sendStage {d : Dir} (h : DirI d) (n : Knobs) (r : IoRes) : DirI (d.sendStage n r) := by
  unfold Dir.sendStage
  split
  · rename_i hc
    have hpos : 0 < d.buf.length := of_decide_eq_true (Bool.and_eq_true_iff.mp hc).2
    have : DirI (d.sentd (sendRes r (min d.buf.length n.lim))) := by
      cases sendRes r (min d.buf.length n.lim) with
      | ok k => exact h.send hpos k
      | intr => exact h
      | again => exact h
      | _ => exact h.discard
    unfold Dir.tail; split
    · exact this.stop
    · exact this
  · exact h

theorem Dir.recvStage_drop (d : Dir) (n : Knobs) (r : IoRes) : (d.recvStage n r).drop = d.drop := by
  unfold Dir.recvStage
  split
  · cases recvRes r (min (d.size - d.buf.length) n.lim) d.src.length with
    | ok k => simp only [Dir.recvd]; split <;> rfl
    | again => simp only [Dir.recvd]; split <;> rfl
    | _ => rfl
  · rfl

theorem Dir.sendStage_drop (d : Dir) (n : Knobs) {r : IoRes} (h1 : r ≠ .fatal) (h2 : r ≠ .eof) :
    (d.sendStage n r).drop = d.drop := by
  unfold Dir.sendStage
  split
  · have ht : ∀ t : Dir, (t.tail n.halt).drop = t.drop := by intro t; unfold Dir.tail; split <;> rfl
    rw [ht]
    have hs := sendRes_ok (min d.buf.length n.lim) h1 h2
    cases hr : sendRes r (min d.buf.length n.lim) with
    | eof => exact absurd hr hs.2
    | fatal => exact absurd hr hs.1
    | _ => rfl
  · rfl

theorem Dir.discard_idle (d : Dir) : d.discard.idle := ⟨rfl, rfl⟩

theorem Dir.flush_idle (d : Dir) : (d.flush true).idle := by
  unfold Dir.flush Dir.discardIf; split
  · exact d.discard_idle
  · rename_i h; simpa [Dir.idle] using h

theorem Dir.recvStage_stopped {d : Dir} (h : d.size = 0) (n : Knobs) (r : IoRes) : d.recvStage n r = d := by
  unfold Dir.recvStage; simp [h]

theorem Dir.sendStage_empty {d : Dir} (h : d.buf = []) (n : Knobs) (r : IoRes) : d.sendStage n r = d := by
  unfold Dir.sendStage; simp [h]

/-- once the connection counts as closed the direction towards the application is discarded first, and neither
    stage moves it again -/
theorem Dir.closed_stages (d : Dir) (n m : Knobs) (r r' : IoRes) : (((d.discardIf true).recvStage n r).sendStage m r').idle := by
  show ((d.discard.recvStage n r).sendStage m r').idle
  rw [Dir.recvStage_stopped rfl, Dir.sendStage_empty rfl]
  exact d.discard_idle

/-- the forced read after the close: nothing buffered, nothing in flight, the read not interrupted — the
    direction stops, and there is nothing to send -/
theorem Dir.forced_stages {d : Dir} (hs : d.src = []) (hb : d.buf = []) {n : Knobs} (hr : n.ready = true)
    (hh : n.halt = true) {r : IoRes} (hi : r ≠ .intr) (m : Knobs) (r' : IoRes) : ((d.recvStage n r).sendStage m r').idle := by
  have h : (d.recvStage n r).idle := by
    unfold Dir.recvStage
    rw [hr, hh]
    split
    · rw [hs]
      cases hr : recvRes r (min (d.size - d.buf.length) n.lim) ([] : Bytes).length with
      | ok k => exact absurd hr (recvRes_empty _ _ k)
      | intr => exact absurd (recvRes_intr hr) hi
      | _ => exact ⟨rfl, hb⟩
    · rename_i hc
      rw [hb] at hc
      exact ⟨by simpa using hc, hb⟩
  rw [Dir.sendStage_empty h.2]
  exact h

end Mhd.UpgTls
