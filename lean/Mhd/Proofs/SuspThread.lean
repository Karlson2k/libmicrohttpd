/-
  C11 — a resume requested by another thread *inside* a round.

  MHD_resume_connection is atomic (cleanup_connection_mutex): it sets `connection->resuming` and
  `daemon->resuming` (and signals the ITC).  After resume_suspended_connections has run, no step of
  a round reads or clears these flags for a suspended connection: the request stays pending until the
  next round (`Pend`), MHD_get_timeout answers 0, and the next resume_suspended_connections serves it.
-/
import Mhd.Proofs.SuspFrozen
import Mhd.Proofs.SuspResume
namespace Mhd.Susp

/-- `c` is suspended and its resume request is pending at connection and daemon level -/
def Pend (c : Nat) (d : Daemon) : Prop := c ∈ d.susp ∧ (d.conn c).resuming = true ∧ d.resuming = true

theorem Held.pend {c : Nat} {d : Daemon} (h : Held c true d) : Pend c d := ⟨h.1, h.2.1, h.2.2 rfl⟩

theorem susp_travEready (g : Guards) (c : Nat) : ∀ (l : List Nat) (d : Daemon), c ∈ d.susp → c ∈ (travEready g l d).1.susp :=
  fun l d => turns_susp (travEready_turns g l d) c

theorem susp_travSelect (g : Guards) (c : Nat) (fr fw rd wr : Nat → Bool) :
    ∀ (l : List Nat) (d : Daemon), c ∈ d.susp → c ∈ (travSelect g fr fw rd wr l d).1.susp :=
  fun l d => turns_susp (travSelect_turns g fr fw rd wr l d) c

theorem susp_travAll (g : Guards) (c : Nat) (fr fw rd wr : Nat → Bool) :
    ∀ (l : List Nat) (d : Daemon), c ∈ d.susp → c ∈ (travAll g fr fw rd wr l d).1.susp :=
  fun l d => turns_susp (travAll_turns g fr fw rd wr l d) c

/-- consistent, and `c` suspended with its `resuming` flag at `b` (a set flag is known to the daemon): `b = false`
    before the other thread's call, `b = true` after it -/
def HS (c : Nat) (b : Bool) (d : Daemon) : Prop := WF d ∧ Held c b d
def GS (c : Nat) (d : Daemon) : Prop := WF d ∧ Pend c d

theorem HS.fz {c : Nat} {b : Bool} {d d' : Daemon} {evs} (hs : HS c b d) (h : FZ c b d evs d') : HS c b d' :=
  ⟨(h hs.1 hs.2).1, (h hs.1 hs.2).2.2.2.1⟩

theorem HS.resumeReq {c : Nat} {d : Daemon} (h : HS c false d) : HS c true (resumeReq d c).1 :=
  ⟨(WK_resumeReq d c h.1).1, h.2.1, congrArg Conn.resuming (setConn_same _ _ _), fun _ => rfl⟩

theorem HS.gs {c : Nat} {d : Daemon} (h : HS c true d) : GS c d := ⟨h.1, h.2.pend⟩

/-- `MHD_resume_connection (c)` by another thread right here, if this is position `k` -/
def injAt (c : Nat) (p : Option Nat) (k : Nat) (r : Daemon × List Ev) : Daemon × List Ev :=
  if p = some k then bindD (fun d => resumeReq d c) r else r

/-- a connection traversal `T` over the snapshot `l`; positions `base`, `base+1`, … are the points before the
    1st, 2nd, … turn (any position past the end = after the last turn) -/
def splitTrav (T : List Nat → Daemon → Daemon × List Ev) (c : Nat) (p : Option Nat) (base : Nat) (l : List Nat)
    (r : Daemon × List Ev) : Daemon × List Ev :=
  match p with
  | some q =>
    if base ≤ q then bindD (T (l.drop (q - base))) (bindD (fun d => resumeReq d c) (bindD (T (l.take (q - base))) r))
    else bindD (T l) r
  | none => bindD (T l) r

/-- MHD_epoll; positions: 0 before resume_suspended_connections, 1 after it, 2 after the epoll_wait results,
    3 after new_connections_list_process_, 4 after the timeout scan = before the first eready turn, 4+j before turn j+1 -/
def roundEpollAt (g : Guards) (d : Daemon) (ids : List Nat) (evs : List (Nat × Bool × Bool)) (c : Nat) (p : Option Nat) :
    Daemon × List Ev :=
  let r0 := injAt c p 0 (timers d ids)
  let r1 := injAt c p 1 (bindD (resumeSuspended g) r0)
  let r2 := injAt c p 2 (bindD (pureD (fun d => epollEvents evs { d with pending := false })) r1)
  let r3 := injAt c p 3 (bindD newPhase r2)
  let r4 := bindD (timeoutScan g) r3
  splitTrav (travEready g) c p 4 r4.1.eready.reverse r4

/-- MHD_run_from_select2; positions: 0 before resume_suspended_connections, 1 after it, 2 after
    new_connections_list_process_ = before the first turn, 2+j before turn j+1 -/
def roundSelectAt (g : Guards) (d : Daemon) (ids : List Nat) (rd wr : Nat → Bool) (c : Nat) (p : Option Nat) :
    Daemon × List Ev :=
  let t := timers d ids
  let fr := fun a => t.1.active.contains a && (t.1.conn a).eli.hasRead
  let fw := fun a => t.1.active.contains a && (t.1.conn a).eli == .write
  let r0 := injAt c p 0 t
  let r1 := injAt c p 1 (bindD (resumeSuspended g) r0)
  let r2 := bindD newPhase r1
  splitTrav (travSelect g fr fw rd wr) c p 2 r2.1.active.reverse r2

/-- MHD_poll_all; positions as for select (the snapshot and the poll set are taken before new connections are added) -/
def roundPollAt (g : Guards) (d : Daemon) (ids : List Nat) (rd wr : Nat → Bool) (c : Nat) (p : Option Nat) :
    Daemon × List Ev :=
  let r0 := injAt c p 0 (timers d ids)
  let r1 := injAt c p 1 (bindD (resumeSuspended g) r0)
  let fr := fun a => (r1.1.conn a).eli.hasRead
  let fw := fun a => (r1.1.conn a).eli == .write
  let r2 := bindD newPhase r1
  splitTrav (travAll g fr fw rd wr) c p 2 r1.1.active.reverse r2

theorem roundEpollAt_none (g : Guards) (d : Daemon) (ids : List Nat) (evs : List (Nat × Bool × Bool)) (c : Nat) :
    roundEpollAt g d ids evs c none = roundEpoll g d ids evs := by
  simp [roundEpollAt, roundEpoll, injAt, splitTrav, bindD]

theorem roundSelectAt_none (g : Guards) (d : Daemon) (ids : List Nat) (rd wr : Nat → Bool) (c : Nat) :
    roundSelectAt g d ids rd wr c none = roundSelect g d ids rd wr := by
  simp [roundSelectAt, roundSelect, injAt, splitTrav, bindD]

theorem roundPollAt_none (g : Guards) (d : Daemon) (ids : List Nat) (rd wr : Nat → Bool) (c : Nat) :
    roundPollAt g d ids rd wr c none = roundPoll g d ids rd wr := by
  simp [roundPollAt, roundPoll, pollPhase, injAt, splitTrav, bindD, List.append_assoc]

/-! Before position `k` of a round in which the request lands at position `q`, the stage is `HS c (q < k)`. -/

theorem HS.inj {c q k : Nat} {r : Daemon × List Ev} (h : HS c (decide (q < k)) r.1) : HS c (decide (q < k + 1)) (injAt c (some q) k r).1 := by
  unfold injAt
  by_cases e : q = k
  · subst e
    rw [if_pos rfl, decide_eq_true (Nat.lt_succ_self q)]
    rw [decide_eq_false (Nat.lt_irrefl q)] at h
    exact h.resumeReq
  · rw [if_neg fun x => e (Option.some.inj x),
      show decide (q < k + 1) = decide (q < k) from decide_eq_decide.2 ⟨fun x => Nat.lt_of_le_of_ne (Nat.le_of_lt_succ x) e, Nat.lt_succ_of_lt⟩]
    exact h

/-- a phase of the round, in the form in which the round definitions spell it -/
theorem HS.phase {c : Nat} {b : Bool} {f : Daemon → Daemon × List Ev} {r : Daemon × List Ev} (h : HS c b r.1)
    (hf : ∀ b, DSat (FZ c b) f) : HS c b (bindD f r).1 := h.fz (hf b r.1)

theorem GS_splitTrav {g : Guards} (hg : g.Sound) {c : Nat} (T : List Nat → Daemon → Daemon × List Ev)
    (hT : ∀ l d, Turns g l d (T l d))
    (q base : Nat) (l : List Nat) (r : Daemon × List Ev) (hl : ∀ a ∈ l, a ∈ r.1.active) (h : HS c (decide (q < base)) r.1) :
    GS c (splitTrav T c (some q) base l r).1 := by
  have ok (a : Nat) (ha : a ∈ l) : Known r.1 a ∧ a ≠ c := ⟨.inl (hl a ha), fun e => h.2.not_active h.1 (e ▸ hl a ha)⟩
  unfold splitTrav
  simp only []
  by_cases hb : base ≤ q
  · rw [if_pos hb]
    rw [decide_eq_false (Nat.not_lt.2 hb)] at h
    have a := FZ_turns g hg c false (hT (l.take (q - base)) r.1) (fun x hx => ok x (List.mem_of_mem_take hx)) h.1 h.2
    show GS c (T (l.drop (q - base)) (resumeReq (T (l.take (q - base)) r.1).1 c).1).1
    exact ((HS.resumeReq ⟨a.1, a.2.2.2.1⟩).fz (FZ_turns g hg c true (hT _ _)
      fun x hx => ⟨a.2.1 x (ok x (List.mem_of_mem_drop hx)).1, (ok x (List.mem_of_mem_drop hx)).2⟩)).gs
  · rw [if_neg hb]
    rw [decide_eq_true (Nat.lt_of_not_le hb)] at h
    exact (h.fz (FZ_turns g hg c true (hT l r.1) ok)).gs

theorem mem_bindD {e : Ev} {f : Daemon → Daemon × List Ev} {r : Daemon × List Ev} (h : e ∈ r.2) : e ∈ (bindD f r).2 :=
  List.mem_append_left _ h

theorem mem_injAt {e : Ev} {c : Nat} {p : Option Nat} {k : Nat} {r : Daemon × List Ev} (h : e ∈ r.2) : e ∈ (injAt c p k r).2 := by
  unfold injAt; split
  · exact mem_bindD h
  · exact h

theorem mem_splitTrav {e : Ev} {T : List Nat → Daemon → Daemon × List Ev} {c : Nat} {p : Option Nat} {b : Nat} {l : List Nat}
    {r : Daemon × List Ev} (h : e ∈ r.2) : e ∈ (splitTrav T c p b l r).2 := by
  unfold splitTrav
  split
  · split
    · exact mem_bindD (mem_bindD (mem_bindD h))
    · exact mem_bindD h
  · exact mem_bindD h

/-- the common start of every round: script timers, then the request lands before resume_suspended_connections
    (position 0: served by this very call) or the call leaves the frozen connection alone -/
theorem round_head (g : Guards) (c : Nat) (d : Daemon) (hw : WF d) (hf : Frz c d) (ht : (d.conn c).timer ≠ some 0)
    (ids : List Nat) (hnd : ids.Nodup) :
    (c, CEv.resumed) ∈ (bindD (resumeSuspended g) (injAt c (some 0) 0 (timers d ids))).2 ∧
    (∀ q, 1 ≤ q → HS c (decide (q < 1)) (bindD (resumeSuspended g) (injAt c (some q) 0 (timers d ids))).1) := by
  have ft : HS c false (timers d ids).1 := HS.fz ⟨hw, hf⟩ (FZ_timerScan c ids d hnd (Or.inl ht))
  refine ⟨?_, fun q hq => ?_⟩
  · have gs := ft.resumeReq
    have rm := resume_moves_back g _ gs.1 c gs.2.1 gs.2.2.1
    simp only [injAt, if_true, bindD]
    exact List.mem_append_right _ rm.1
  · rw [decide_eq_false (Nat.not_lt.2 hq)]
    simp only [injAt, if_neg fun e : some q = some 0 => Nat.ne_of_gt hq (Option.some.inj e)]
    exact ft.fz (FZ_resumeSuspended g c (timers d ids).1)

theorem resume_any_point_epoll (g : Guards) (hg : g.Sound) (c : Nat) (d : Daemon) (hw : WF d) (hf : Frz c d)
    (ht : (d.conn c).timer ≠ some 0) (ids : List Nat) (hnd : ids.Nodup) (evs : List (Nat × Bool × Bool)) :
    (c, CEv.resumed) ∈ (roundEpollAt g d ids evs c (some 0)).2 ∧
    ∀ q, 1 ≤ q → GS c (roundEpollAt g d ids evs c (some q)).1 := by
  have hd := round_head g c d hw hf ht ids hnd
  refine ⟨?_, fun q hq => ?_⟩
  · unfold roundEpollAt; simp only []
    exact mem_splitTrav (mem_bindD (mem_injAt (mem_bindD (mem_injAt (mem_bindD (mem_injAt hd.1))))))
  · have s2 := ((hd.2 q hq).inj.phase fun b => FZ_epollPhase c b evs).inj
    have s4 := ((s2.phase fun b => FZ_newPhase c b).inj.phase fun b => FZ_timeoutScan g hg c b)
    unfold roundEpollAt; simp only []
    exact GS_splitTrav hg (travEready g) (travEready_turns g) q 4 _ _ (fun a ha => s4.1.er_sub a (List.mem_reverse.1 ha)) s4

theorem resume_any_point_select (g : Guards) (hg : g.Sound) (c : Nat) (d : Daemon) (hw : WF d) (hf : Frz c d)
    (ht : (d.conn c).timer ≠ some 0) (ids : List Nat) (hnd : ids.Nodup) (rd wr : Nat → Bool) :
    (c, CEv.resumed) ∈ (roundSelectAt g d ids rd wr c (some 0)).2 ∧
    ∀ q, 1 ≤ q → GS c (roundSelectAt g d ids rd wr c (some q)).1 := by
  have hd := round_head g c d hw hf ht ids hnd
  refine ⟨?_, fun q hq => ?_⟩
  · unfold roundSelectAt; simp only []
    exact mem_splitTrav (mem_bindD (mem_injAt hd.1))
  · have s2 := (hd.2 q hq).inj.phase fun b => FZ_newPhase c b
    unfold roundSelectAt; simp only []
    exact GS_splitTrav hg (travSelect g _ _ rd wr) (travSelect_turns g _ _ rd wr) q 2 _ _ (fun a ha => List.mem_reverse.1 ha) s2

theorem resume_any_point_poll (g : Guards) (hg : g.Sound) (c : Nat) (d : Daemon) (hw : WF d) (hf : Frz c d)
    (ht : (d.conn c).timer ≠ some 0) (ids : List Nat) (hnd : ids.Nodup) (rd wr : Nat → Bool) :
    (c, CEv.resumed) ∈ (roundPollAt g d ids rd wr c (some 0)).2 ∧
    ∀ q, 1 ≤ q → GS c (roundPollAt g d ids rd wr c (some q)).1 := by
  have hd := round_head g c d hw hf ht ids hnd
  refine ⟨?_, fun q hq => ?_⟩
  · unfold roundPollAt; simp only []
    exact mem_splitTrav (mem_bindD (mem_injAt hd.1))
  · have s2 := (hd.2 q hq).inj.phase fun b => FZ_newPhase c b
    unfold roundPollAt; simp only []
    -- the snapshot is taken before the new connections are added
    exact GS_splitTrav hg (travAll g _ _ rd wr) (travAll_turns g _ _ rd wr) q 2 _ _
      (fun a ha => newPhase_active _ (List.mem_reverse.1 ha)) s2

theorem Pend_hint {c : Nat} {d : Daemon} (h : Pend c d) : d.hintZero = true := by
  simp [Daemon.hintZero, h.2.2]

theorem resume_pending_hint (d : Daemon) (hw : WF d) (c : Nat) (hs : c ∈ d.susp) (hr : (d.conn c).resuming = true) :
    d.hintZero = true :=
  Pend_hint ⟨hs, hr, hw.no_lost c ((hw.susp_iff c).2 hs) hr⟩

theorem GS.served {c : Nat} {d : Daemon} (g : Guards) (h : GS c d) :
    d.hintZero = true ∧ (c, CEv.resumed) ∈ (resumeSuspended g d).2 ∧ c ∈ (resumeSuspended g d).1.active ∧
    c ∉ (resumeSuspended g d).1.susp := by
  have rm := resume_moves_back g d h.1 c h.2.1 h.2.2.1
  exact ⟨Pend_hint h.2, rm.1, rm.2.1, rm.2.2.1⟩

end Mhd.Susp
