/-
  C14: unfolding lemmas of the scanners, whitespace skipping, unquoting of rendered values, and what may stand
  behind a value (`TailOK`, `TokEnd`).
-/
import Mhd.Proofs.AuthStr
namespace Mhd.Auth
open Mhd.Gen.Auth

theorem unquoteLoop_nil : unquoteLoop [] = some [] := by rw [unquoteLoop.eq_def]
theorem unquoteLoop_esc (c2 : UInt8) (r2 : Bytes) :
    unquoteLoop (92 :: c2 :: r2) = (unquoteLoop r2).map (c2 :: ·) := by rw [unquoteLoop.eq_def]; simp
theorem unquoteLoop_plain (c : UInt8) (r : Bytes) (h : c ≠ 92) :
    unquoteLoop (c :: r) = (unquoteLoop r).map (c :: ·) := by rw [unquoteLoop.eq_def]; simp [h]
theorem unquoteLoop_bs : unquoteLoop [92] = none := by rw [unquoteLoop.eq_def]; simp

theorem eq_nil_of_unquoteLoop_nil (q : Bytes) (h : unquoteLoop q = some []) : q = [] := by
  cases q with
  | nil => rfl
  | cons c r =>
    by_cases hc : c = 92
    · subst hc
      cases r with
      | nil => simp [unquoteLoop_bs] at h
      | cons c2 r2 => simp [unquoteLoop_esc] at h
    · simp [unquoteLoop_plain _ _ hc] at h

theorem scanQ_nil (t : Option UInt8) : scanQ t [] = .reject := by rw [scanQ.eq_def]
theorem scanQ_quote (t : Option UInt8) (r : Bytes) : scanQ t (34 :: r) = .ok ([], false, r) := by
  rw [scanQ.eq_def]; simp
theorem scanQ_esc (t : Option UInt8) (c2 : UInt8) (r2 : Bytes) (h : c2 ≠ 0) :
    scanQ t (92 :: c2 :: r2) = (scanQ t r2).map fun x => (92 :: c2 :: x.1, true, x.2.2) := by
  rw [scanQ.eq_def]; simp [h]
theorem scanQ_esc0 (t : Option UInt8) (r2 : Bytes) : scanQ t (92 :: 0 :: r2) = .reject := by
  rw [scanQ.eq_def]; simp
theorem scanQ_bs_end_some (t : UInt8) : scanQ (some t) [92] = .reject := by
  rw [scanQ.eq_def]; simp
theorem scanQ_bs_end_none : scanQ none [92] = .fault .quotedBackslashEnd := by
  rw [scanQ.eq_def]; simp
theorem scanQ_plain (t : Option UInt8) (c : UInt8) (r : Bytes) (h34 : c ≠ 34) (h92 : c ≠ 92) (h0 : c ≠ 0) :
    scanQ t (c :: r) = (scanQ t r).map fun x => (c :: x.1, x.2.1, x.2.2) := by
  rw [scanQ.eq_def]; simp [h34, h92, h0]
theorem scanQ_zero (t : Option UInt8) (r : Bytes) : scanQ t (0 :: r) = .reject := by
  rw [scanQ.eq_def]; simp

theorem scanTok_nil_some (t : UInt8) : scanTok (some t) [] = if t = 59 then .reject else .ok ([], []) := by
  rw [scanTok.eq_def]
theorem scanTok_nil_none : scanTok none [] = .fault .tokenEnd := by
  rw [scanTok.eq_def]
theorem scanTok_cons (t : Option UInt8) (c : UInt8) (r : Bytes) :
    scanTok t (c :: r) = if c = 44 ∨ c = 32 ∨ c = 9 then .ok ([], c :: r) else if c = 59 then .reject
      else if c = 0 then .reject else if c = 34 then .reject else (scanTok t r).map fun x => (c :: x.1, x.2) := by
  rw [scanTok.eq_def]

theorem skipU_false_nil : skipU false [] = .ok [] := by rw [skipU.eq_def]
theorem skipU_false_cons (c : UInt8) (r : Bytes) :
    skipU false (c :: r) = if c = 44 then .ok (c :: r) else if c = 0 ∨ c = 59 then .reject
      else if c = 34 then skipU true r else skipU false r := by rw [skipU.eq_def]
theorem skipU_true_quote (r : Bytes) : skipU true (34 :: r) = skipU false r := by rw [skipU.eq_def]; simp
theorem skipU_true_esc (c2 : UInt8) (r2 : Bytes) : skipU true (92 :: c2 :: r2) = skipU true r2 := by
  rw [skipU.eq_def]; simp
theorem skipU_true_plain (c : UInt8) (r : Bytes) (h34 : c ≠ 34) (h0 : c ≠ 0) (h92 : c ≠ 92) :
    skipU true (c :: r) = skipU true r := by rw [skipU.eq_def]; simp [h34, h0, h92]

theorem skipU_true_nil : skipU true [] = .reject := by rw [skipU.eq_def]
theorem skipU_true_zero (r : Bytes) : skipU true (0 :: r) = .reject := by rw [skipU.eq_def]; simp
theorem skipU_true_bs_end : skipU true [92] = .reject := by rw [skipU.eq_def]; simp


theorem isWs_iff (c : UInt8) : isWs c = true ↔ c = 32 ∨ c = 9 := by simp [isWs]

theorem isWs_false_of_isDelim_false {c : UInt8} (h : isDelim c = false) : isWs c = false := by
  simp only [isDelim, Bool.or_eq_false_iff, decide_eq_false_iff_not] at h
  simp [isWs, h.1.1.1.2, h.1.1.2]

theorem skipWs_nil : skipWs [] = [] := by rw [skipWs.eq_def]
theorem skipWs_cons (c : UInt8) (r : Bytes) : skipWs (c :: r) = if isWs c then skipWs r else c :: r := by
  rw [skipWs.eq_def]

theorem skipWs_eq (s : Bytes) : skipWs s = s.dropWhile isWs := by
  induction s with
  | nil => rfl
  | cons c r ih => rw [skipWs, ih, List.dropWhile_cons]

theorem skipWs_append (w rest : Bytes) (hw : allWs w = true) : skipWs (w ++ rest) = skipWs rest := by
  rw [skipWs_eq, skipWs_eq, List.dropWhile_append_of_pos (List.all_eq_true.mp hw)]

/-- no white space in front (the loop always stands at such an input) -/
def NoWs (inp : Bytes) : Prop := inp = [] ∨ ∃ c r, inp = c :: r ∧ isWs c = false

theorem skipWs_stop (rest : Bytes) (h : NoWs rest) : skipWs rest = rest := by
  rcases h with rfl | ⟨c, r, rfl, hc⟩
  · rfl
  · rw [skipWs_eq, List.dropWhile_cons_of_neg (by simp [hc])]

theorem skipWs_length (s : Bytes) : (skipWs s).length ≤ s.length :=
  skipWs_eq s ▸ (List.dropWhile_sublist isWs).length_le

theorem nextParam_length (r : Bytes) : (nextParam r).length ≤ r.length - 1 := by
  cases r with
  | nil => simp [nextParam]
  | cons c r => simp only [nextParam]; have := skipWs_length r; simp; omega

theorem unquoteLoop_escRender (esc : List Bool) (v : Bytes) : unquoteLoop (escRender esc v) = some v := by
  induction v generalizing esc with
  | nil => cases esc <;> simp [escRender, unquoteLoop_nil]
  | cons c r ih =>
    cases esc with
    | nil =>
      simp only [escRender]
      split
      · simp [unquoteLoop_esc, ih]
      · rename_i h
        have h92 : c ≠ 92 := fun h' => h (Or.inr h')
        simp [unquoteLoop_plain _ _ h92, ih]
    | cons b bs =>
      simp only [escRender]
      split
      · simp [unquoteLoop_esc, ih]
      · rename_i h
        have h92 : c ≠ 92 := fun h' => h (Or.inr (Or.inl h'))
        simp [unquoteLoop_plain _ _ h92, ih]

theorem any_escRender (esc : List Bool) (v : Bytes) : (escRender esc v).any (· = 92) = anyEsc esc v := by
  induction v generalizing esc with
  | nil => cases esc <;> rfl
  | cons c r ih =>
    cases esc with
    | nil =>
      simp only [escRender, anyEsc]
      by_cases h : c = 34 ∨ c = 92
      · simp [h]
      · have h92 : c ≠ 92 := fun h' => h (Or.inr h')
        simp only [h, if_false, decide_false, Bool.false_or, List.any_cons, ih]; simp [h92]
    | cons b bs =>
      simp only [escRender, anyEsc]
      by_cases h : c = 34 ∨ c = 92 ∨ b = true
      · simp [h]
      · have h92 : c ≠ 92 := fun h' => h (Or.inr (Or.inl h'))
        simp only [h, if_false, decide_false, Bool.false_or, List.any_cons, ih]; simp [h92]

theorem unquoteLoop_plain_all (q : Bytes) (h : q.any (· = 92) = false) : unquoteLoop q = some q := by
  induction q with
  | nil => exact unquoteLoop_nil
  | cons c r ih =>
    simp only [List.any_cons, Bool.or_eq_false_iff, decide_eq_false_iff_not] at h
    rw [unquoteLoop_plain _ _ h.1, ih h.2]; rfl

theorem escRender_of_anyEsc_false (esc : List Bool) (v : Bytes) (h : anyEsc esc v = false) : escRender esc v = v :=
  Option.some.inj ((unquoteLoop_plain_all _ (any_escRender esc v ▸ h)).symm.trans (unquoteLoop_escRender esc v))

theorem Res.map_eq_ok {α β : Type} (f : α → β) (r : Res α) (b : β) :
    r.map f = .ok b ↔ ∃ a, r = .ok a ∧ f a = b := by
  cases r <;> simp [Res.map]

theorem Res.bind_eq_ok {α β : Type} (f : α → Res β) (r : Res α) (b : β) :
    r.bind f = .ok b ↔ ∃ a, r = .ok a ∧ f a = .ok b := by
  cases r <;> simp [Res.bind]

theorem skipWs_split (s : Bytes) : ∃ w, s = w ++ skipWs s ∧ allWs w = true ∧ NoWs (skipWs s) := by
  refine ⟨s.takeWhile isWs, by rw [skipWs_eq, List.takeWhile_append_dropWhile], List.all_takeWhile, ?_⟩
  rw [skipWs_eq]
  cases h : s.dropWhile isWs with
  | nil => exact .inl rfl
  | cons c r =>
    have := List.head_dropWhile_not isWs (l := s) (by simp [h])
    exact .inr ⟨c, r, rfl, by simpa [h] using this⟩

theorem skipWs_noWs (s : Bytes) : NoWs (skipWs s) := by
  obtain ⟨_, _, _, h⟩ := skipWs_split s; exact h

/-- tail of a rendered parameter: end of the string or the separating comma -/
def TailOK (tail : Bytes) : Prop := tail = [] ∨ ∃ more, tail = 44 :: more

theorem TailOK.noWs {tail : Bytes} (h : TailOK tail) : NoWs tail :=
  h.imp id fun ⟨m, hm⟩ => ⟨44, m, hm, rfl⟩

theorem TailOK.delimited {tail : Bytes} (h : TailOK tail) : Delimited tail :=
  h.imp id fun ⟨m, hm⟩ => ⟨44, m, hm, rfl⟩

theorem skipWs_tail (tail : Bytes) (h : TailOK tail) : skipWs tail = tail := skipWs_stop _ h.noWs

theorem afterValue_ok (ws3 tail : Bytes) (hw : allWs ws3 = true) (ht : TailOK tail) :
    afterValue (ws3 ++ tail) = some tail := by
  unfold afterValue
  rw [skipWs_append _ _ hw, skipWs_tail _ ht]
  rcases ht with h | ⟨m, h⟩ <;> subst h <;> simp

/-- what ends an unquoted value: the end of the string, a comma or white space -/
def TokEnd (rest : Bytes) : Prop := rest = [] ∨ ∃ c r, rest = c :: r ∧ (c = 44 ∨ c = 32 ∨ c = 9)

theorem ws_tail_head (ws3 tail : Bytes) (hw : allWs ws3 = true) (ht : TailOK tail) : TokEnd (ws3 ++ tail) := by
  cases ws3 with
  | nil =>
    rcases ht with h | ⟨m, h⟩
    · left; simp [h]
    · right; exact ⟨44, m, by simp [h], Or.inl rfl⟩
  | cons c r =>
    right
    simp only [allWs, List.all_cons, Bool.and_eq_true, isWs_iff] at hw
    exact ⟨c, r ++ tail, rfl, Or.inr hw.1⟩

theorem delimited_ws_eq (ws X : Bytes) (hw : allWs ws = true) : Delimited (ws ++ 61 :: X) := by
  cases ws with
  | nil => exact .inr ⟨61, X, rfl, rfl⟩
  | cons c r =>
    simp only [allWs, List.all_cons, Bool.and_eq_true, isWs_iff] at hw
    exact .inr ⟨c, r ++ 61 :: X, rfl, by rcases hw.1 with h | h <;> subst h <;> rfl⟩

end Mhd.Auth
