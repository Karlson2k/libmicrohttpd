/- The representation invariant of the response object ("flags_auto says exactly what the header list
   contains") and its preservation by every call of the response API. -/
import Mhd.Proofs.ReplyTokRef
import Mhd.Model.Resp
namespace Mhd.Resp
open Mhd.ReplyStr

/-- bytes allowed in a stored header name (what `add_response_entry_n` checks, plus "no colon",
    which is the caller's obligation: the name must be an HTTP token) -/
def NameClean (n : Bytes) : Prop := n ≠ [] ∧ ∀ b ∈ n, b ≠ 58 ∧ b ≠ 32 ∧ b ≠ 9 ∧ b ≠ 13 ∧ b ≠ 10
def ValClean (v : Bytes) : Prop := v ≠ [] ∧ ∀ b ∈ v, b ≠ 13 ∧ b ≠ 10
def IsDigits (v : Bytes) : Prop := v ≠ [] ∧ ∀ b ∈ v, 48 ≤ b.toNat ∧ b.toNat ≤ 57

def cnt (key : Bytes) (hs : List Hdr) : Nat := (hs.filter (isHdr key)).length
def b2n (b : Bool) : Nat := if b then 1 else 0

/-- what must hold of a Connection value when the close flag is set -/
def ClosePrefix (v : Bytes) : Prop := v = sClose ∨ ∃ t, v = sCloseSep ++ t

/-- the representation invariant of a response object: `flags_auto` says exactly what the list contains -/
structure Inv (r : Resp) : Prop where
  clean : ∀ h ∈ r.hdrs, NameClean h.name ∧ ValClean h.value
  noInsanity : r.flags.insanity = false
  conn : if r.fa.connHdr then
           ∃ v rest, r.hdrs = ⟨.header, sConnection, v⟩ :: rest ∧ cnt sConnection rest = 0 ∧
             (r.fa.connClose = true → ClosePrefix v)
         else cnt sConnection r.hdrs = 0 ∧ r.fa.connClose = false
  te : cnt sTransferEncoding r.hdrs = b2n r.fa.transEnc
  teVal : ∀ h ∈ r.hdrs, isHdr sTransferEncoding h = true → strEqCaseless h.value sChunked = true
  cl : cnt sContentLength r.hdrs = b2n r.fa.contentLength
  clVal : ∀ h ∈ r.hdrs, isHdr sContentLength h = true → IsDigits h.value
  clHead : r.fa.contentLength = true → r.flags.headOnly = true
  teCl : ¬ (r.fa.transEnc = true ∧ r.fa.contentLength = true)
  headSize : r.flags.headOnly = true → r.totalSize = 0
  date : cnt sDate r.hdrs = b2n r.fa.date
  upg : r.upgrade = true → r.fa.connClose = false

/-- what the application must respect (MHD does not check it) -/
def Call.Legal : Call → Prop
  | .add n v => (∀ b ∈ n, b ≠ 58) ∧ (strEqCaseless n sContentLength = true → IsDigits v)
  | .del _ _ => True
  | .foot n _ => (∀ b ∈ n, b ≠ 58)
  | .opt f => f.insanity = false



theorem cnt_eq (k : Bytes) (hs : List Hdr) : cnt k hs = hs.countP (isHdr k) := List.countP_eq_length_filter.symm

theorem cnt_nil (k : Bytes) : cnt k [] = 0 := rfl
theorem cnt_cons (k : Bytes) (h : Hdr) (t : List Hdr) : cnt k (h :: t) = b2n (isHdr k h) + cnt k t := by
  rw [cnt_eq, cnt_eq, List.countP_cons, Nat.add_comm]; rfl
theorem cnt_append (k : Bytes) (a b : List Hdr) : cnt k (a ++ b) = cnt k a + cnt k b := by
  rw [cnt_eq, cnt_eq, cnt_eq, List.countP_append]
theorem cnt_single (k : Bytes) (h : Hdr) : cnt k [h] = b2n (isHdr k h) := by
  rw [cnt_cons, cnt_nil]; omega

theorem cnt_zero_of_mem (k : Bytes) (hs : List Hdr) (h0 : cnt k hs = 0) (h : Hdr) (hm : h ∈ hs) : isHdr k h = false :=
  Bool.eq_false_iff.2 (List.countP_eq_zero.1 (cnt_eq k hs ▸ h0) h hm)

theorem cnt_pos_of_mem (k : Bytes) (hs : List Hdr) (h : Hdr) (hm : h ∈ hs) (hh : isHdr k h = true) : 1 ≤ cnt k hs :=
  cnt_eq k hs ▸ List.countP_pos_iff.2 ⟨h, hm, hh⟩

/-- a counted header in the list: the flag that counts it is set -/
theorem flag_of_mem {k : Bytes} {hs : List Hdr} {h : Hdr} {b : Bool} (hc : cnt k hs = b2n b) (hm : h ∈ hs)
    (hh : isHdr k h = true) : b = true := by
  have := cnt_pos_of_mem k hs h hm hh
  cases b with
  | true => rfl
  | false => rw [hc] at this; exact absurd this (by decide)

theorem any_eq_false_of_cnt_zero (k : Bytes) (hs : List Hdr) (h0 : cnt k hs = 0) : hs.any (isHdr k) = false := by
  rw [List.any_eq_false]; intro h hm; simp [cnt_zero_of_mem k hs h0 h hm]

theorem find_none_of_cnt_zero (k : Bytes) (hs : List Hdr) (h0 : cnt k hs = 0) : hs.find? (isHdr k) = none := by
  rw [List.find?_eq_none]; intro h hm; simp [cnt_zero_of_mem k hs h0 h hm]

theorem eraseFirst_split (p : Hdr → Bool) : ∀ {l : List Hdr} {x : Hdr} {l' : List Hdr}, eraseFirst p l = some (x, l') →
    ∃ a b, (∀ h ∈ a, p h = false) ∧ p x = true ∧ l = a ++ x :: b ∧ l' = a ++ b
  | [], _, _, h => nomatch h
  | y :: t, x, l', h => by
    rw [eraseFirst] at h
    by_cases hp : p y = true
    · rw [if_pos hp] at h; injection h with h; injection h with h1 h2
      exact ⟨[], t, nofun, h1 ▸ hp, by rw [h1]; rfl, h2.symm⟩
    · rw [if_neg hp] at h
      cases he : eraseFirst p t with
      | none => rw [he] at h; cases h
      | some z =>
        rw [he] at h; injection h with h; injection h with h1 h2
        obtain ⟨a, b, ha, hx, rfl, hb⟩ := eraseFirst_split p he
        exact ⟨y :: a, b, List.forall_mem_cons.2 ⟨Bool.eq_false_iff.2 hp, ha⟩, h1 ▸ hx, by rw [h1]; rfl, by rw [← h2, hb]; rfl⟩

theorem eraseFirst_spec (p : Hdr → Bool) (l : List Hdr) (x : Hdr) (l' : List Hdr) (h : eraseFirst p l = some (x, l')) :
    p x = true ∧ x ∈ l ∧ (∀ k, cnt k l = b2n (isHdr k x) + cnt k l') ∧ (∀ h ∈ l', h ∈ l) := by
  obtain ⟨a, b, _, hx, rfl, rfl⟩ := eraseFirst_split p h
  refine ⟨hx, List.mem_append_right _ List.mem_cons_self, fun k => ?_, fun h hm => ?_⟩
  · rw [cnt_append, cnt_append, cnt_cons]; omega
  · exact (List.mem_append.1 hm).elim (List.mem_append_left _) fun h => List.mem_append_right _ (List.mem_cons_of_mem _ h)

theorem eraseFirst_cons_neg (p : Hdr → Bool) (a : Hdr) (t : List Hdr) (x : Hdr) (l' : List Hdr) (hp : p a = false)
    (h : eraseFirst p (a :: t) = some (x, l')) : ∃ t', l' = a :: t' ∧ eraseFirst p t = some (x, t') := by
  rw [eraseFirst, if_neg (by rw [hp]; exact Bool.false_ne_true)] at h
  cases he : eraseFirst p t with
  | none => rw [he] at h; cases h
  | some q => rw [he] at h; injection h with h; injection h with h1 h2; exact ⟨q.2, h2.symm, by rw [← h1]⟩

theorem nameIs_of_strEq (n k : Bytes) (h : strEqCaseless n k = true) : nameIs n k = true := by
  unfold nameIs eqCaselessBin
  simp [strEqCaseless_length n k h, h]

theorem strEq_of_nameIs (n k : Bytes) (h : nameIs n k = true) : strEqCaseless n k = true := by
  unfold nameIs eqCaselessBin at h
  simp at h; exact h.2

theorem nameIs_length (n k : Bytes) (h : nameIs n k = true) : n.length = k.length := by
  unfold nameIs eqCaselessBin at h
  simp at h; exact h.1

theorem len_sConnection : sConnection.length = 10 := by decide
theorem len_sTransferEncoding : sTransferEncoding.length = 17 := by decide
theorem len_sDate : sDate.length = 4 := by decide
theorem len_sContentLength : sContentLength.length = 14 := by decide

theorem isHdr_of (k : Bytes) (h : Hdr) : isHdr k h = (h.kind == .header && nameIs h.name k) := rfl
theorem isHdr_footer (k n v : Bytes) : isHdr k ⟨.footer, n, v⟩ = false := rfl
theorem isHdr_header (k n v : Bytes) : isHdr k ⟨.header, n, v⟩ = nameIs n k := by rw [isHdr_of]; rfl
theorem nameIs_conn_conn : nameIs sConnection sConnection = true := by decide
theorem isHdr_conn_head (v : Bytes) : isHdr sConnection ⟨.header, sConnection, v⟩ = true := by
  rw [isHdr_header]; exact nameIs_conn_conn

/-- the stored value of the Connection header, if there is one -/
def _root_.Mhd.Tok.connVal (r : Resp) : Option Bytes := (r.hdrs.find? (isHdr sConnection)).map (·.value)

/-- `r'` has the Connection value, the close flag and the upgrade handler of `r` -/
def SameConn (r r' : Resp) : Prop :=
  Mhd.Tok.connVal r' = Mhd.Tok.connVal r ∧ r'.fa.connClose = r.fa.connClose ∧ r'.upgrade = r.upgrade

theorem SameConn.refl (r : Resp) : SameConn r r := ⟨rfl, rfl, rfl⟩

theorem SameConn.trans {a b c : Resp} (h1 : SameConn a b) (h2 : SameConn b c) : SameConn a c :=
  ⟨h2.1.trans h1.1, h2.2.1.trans h1.2.1, h2.2.2.trans h1.2.2⟩

theorem sameConn_append (r : Resp) (e : Hdr) (fa' : AutoFlags) (he : isHdr sConnection e = false)
    (hcc : fa'.connClose = r.fa.connClose) : SameConn r { r with hdrs := r.hdrs ++ [e], fa := fa' } := by
  refine ⟨?_, hcc, rfl⟩
  unfold Mhd.Tok.connVal
  simp only [List.find?_append]
  cases r.hdrs.find? (isHdr sConnection) with
  | some x => rfl
  | none => simp [List.find?, he]

theorem find_eraseFirst (p q : Hdr → Bool) (l : List Hdr) (x : Hdr) (l' : List Hdr)
    (h : eraseFirst q l = some (x, l')) (hx : p x = false) : l'.find? p = l.find? p := by
  obtain ⟨a, b, _, _, rfl, rfl⟩ := eraseFirst_split q h
  rw [List.find?_append, List.find?_append, List.find?_cons, hx]

theorem sameConn_erase (r : Resp) (q : Hdr → Bool) (x : Hdr) (hs' : List Hdr) (fa' : AutoFlags)
    (he : eraseFirst q r.hdrs = some (x, hs')) (hx : isHdr sConnection x = false)
    (hcc : fa'.connClose = r.fa.connClose) : SameConn r { r with hdrs := hs', fa := fa' } :=
  ⟨by unfold Mhd.Tok.connVal; rw [find_eraseFirst _ q _ _ _ he hx], hcc, rfl⟩

theorem Inv_append (r : Resp) (e : Hdr) (fa' : AutoFlags) (hinv : Inv r)
    (hn : NameClean e.name) (hv : ValClean e.value)
    (hc : isHdr sConnection e = false)
    (hfc : fa'.connHdr = r.fa.connHdr) (hfcl : fa'.connClose = r.fa.connClose)
    (hte : b2n fa'.transEnc = b2n r.fa.transEnc + b2n (isHdr sTransferEncoding e))
    (htev : isHdr sTransferEncoding e = true → strEqCaseless e.value sChunked = true)
    (hcl : b2n fa'.contentLength = b2n r.fa.contentLength + b2n (isHdr sContentLength e))
    (hclv : isHdr sContentLength e = true → IsDigits e.value)
    (hclh : fa'.contentLength = true → r.flags.headOnly = true)
    (htecl : ¬ (fa'.transEnc = true ∧ fa'.contentLength = true))
    (hdate : b2n fa'.date = b2n r.fa.date + b2n (isHdr sDate e)) :
    Inv { r with hdrs := r.hdrs ++ [e], fa := fa' } := by
  refine ⟨?_, hinv.noInsanity, ?_, ?_, ?_, ?_, ?_, hclh, htecl, hinv.headSize, ?_, ?_⟩
  · intro h hm
    rcases List.mem_append.1 hm with h1 | h1
    · exact hinv.clean h h1
    · simp at h1; subst h1; exact ⟨hn, hv⟩
  · have hcn := hinv.conn
    simp only [hfc, hfcl]
    split
    · rename_i hf
      simp only [hf, if_true] at hcn
      obtain ⟨v, rest, h1, h2, h3⟩ := hcn
      refine ⟨v, rest ++ [e], by simp [h1], ?_, h3⟩
      rw [cnt_append, cnt_single, h2, hc]; rfl
    · rename_i hf
      simp only [hf] at hcn
      refine ⟨?_, hcn.2⟩
      simp only [cnt_append, cnt_single, hcn.1, hc]; rfl
  · simp only [cnt_append, cnt_single, hinv.te, hte]
  · intro h hm hh
    rcases List.mem_append.1 hm with h1 | h1
    · exact hinv.teVal h h1 hh
    · simp at h1; subst h1; exact htev hh
  · simp only [cnt_append, cnt_single, hinv.cl, hcl]
  · intro h hm hh
    rcases List.mem_append.1 hm with h1 | h1
    · exact hinv.clVal h h1 hh
    · simp at h1; subst h1; exact hclv hh
  · simp only [cnt_append, cnt_single, hinv.date, hdate]
  · intro hu; simp only [hfcl]; exact hinv.upg hu

theorem not_contains {l : Bytes} {a : UInt8} (h : l.contains a = false) : ∀ b ∈ l, b ≠ a := by
  intro b hb hba
  rw [hba, ← List.contains_iff_mem, h] at hb; cases hb

theorem addEntry_cases (r : Resp) (k : Kind) (n v : Bytes) :
    addEntry r k n v = (false, r) ∨
    (addEntry r k n v = (true, { r with hdrs := r.hdrs ++ [⟨k, n, v⟩] }) ∧ n ≠ [] ∧ v ≠ [] ∧
      (∀ b ∈ n, b ≠ 9 ∧ b ≠ 32 ∧ b ≠ 13 ∧ b ≠ 10) ∧ (∀ b ∈ v, b ≠ 13 ∧ b ≠ 10)) := by
  let P : Bool × Resp → Prop := fun p => p = (false, r) ∨
    (p = (true, { r with hdrs := r.hdrs ++ [⟨k, n, v⟩] }) ∧ n ≠ [] ∧ v ≠ [] ∧
      (∀ b ∈ n, b ≠ 9 ∧ b ≠ 32 ∧ b ≠ 13 ∧ b ≠ 10) ∧ (∀ b ∈ v, b ≠ 13 ∧ b ≠ 10))
  show P (addEntry r k n v)
  unfold addEntry
  refine ite_cases P (fun _ => .inl rfl) fun h1 => ite_cases P (fun _ => .inl rfl) fun h2 =>
    ite_cases P (fun _ => .inl rfl) fun h3 => ite_cases P (fun _ => .inl rfl) fun h4 => .inr ⟨rfl, ?_, ?_, ?_, ?_⟩
  · intro h; rw [h] at h1; exact h1 rfl
  · intro h; rw [h] at h2; exact h2 rfl
  · simp only [Bool.or_eq_true, not_or, Bool.not_eq_true] at h3
    exact fun b hb => ⟨not_contains h3.1.1.1 b hb, not_contains h3.1.1.2 b hb, not_contains h3.1.2 b hb, not_contains h3.2 b hb⟩
  · simp only [Bool.or_eq_true, not_or, Bool.not_eq_true] at h4
    exact fun b hb => ⟨not_contains h4.1 b hb, not_contains h4.2 b hb⟩

theorem b2n_le_one (b : Bool) : b2n b ≤ 1 := by cases b <;> simp [b2n]
theorem b2n_eq_one (b : Bool) : b2n b = 1 ↔ b = true := by cases b <;> simp [b2n]
theorem b2n_eq_zero (b : Bool) : b2n b = 0 ↔ b = false := by cases b <;> simp [b2n]

/-- counts after an entry has gone: `c = a + c'` entries before, flag `f` before and `f'` after with `f' + a = f` -/
theorem cnt_after_erase {c c' a f f' : Nat} (h1 : c = a + c') (h2 : c = f) (h3 : f' + a = f) : c' = f' := by omega

theorem b2n_true_of_add {b b' : Bool} {a : Nat} (h : b2n b' + a = b2n b) (hb : b' = true) : b = true := by
  cases b with
  | true => rfl
  | false => rw [hb] at h; exact absurd h (by simp [b2n])

theorem Inv_erase (r : Resp) (p : Hdr → Bool) (x : Hdr) (hs' : List Hdr) (fa' : AutoFlags) (hinv : Inv r)
    (he : eraseFirst p r.hdrs = some (x, hs'))
    (hc : isHdr sConnection x = false)
    (hfc : fa'.connHdr = r.fa.connHdr) (hfcl : fa'.connClose = r.fa.connClose)
    (hte : b2n fa'.transEnc + b2n (isHdr sTransferEncoding x) = b2n r.fa.transEnc)
    (hcl : b2n fa'.contentLength + b2n (isHdr sContentLength x) = b2n r.fa.contentLength)
    (hdate : b2n fa'.date + b2n (isHdr sDate x) = b2n r.fa.date) :
    Inv { r with hdrs := hs', fa := fa' } := by
  obtain ⟨hp, hxm, hcnt, hsub⟩ := eraseFirst_spec p r.hdrs x hs' he
  have hte' : fa'.transEnc = true → r.fa.transEnc = true := b2n_true_of_add hte
  have hcl' : fa'.contentLength = true → r.fa.contentLength = true := b2n_true_of_add hcl
  have hc0 : b2n (isHdr sConnection x) = 0 := by rw [hc]; rfl
  refine ⟨fun h hm => hinv.clean h (hsub h hm), hinv.noInsanity, ?_, cnt_after_erase (hcnt _) hinv.te hte,
    fun h hm => hinv.teVal h (hsub h hm), cnt_after_erase (hcnt _) hinv.cl hcl,
    fun h hm => hinv.clVal h (hsub h hm), fun h => hinv.clHead (hcl' h), fun h => hinv.teCl ⟨hte' h.1, hcl' h.2⟩,
    hinv.headSize, cnt_after_erase (hcnt _) hinv.date hdate, fun hu => hfcl.trans (hinv.upg hu)⟩
  have hcn := hinv.conn
  show if fa'.connHdr = true then _ else _
  rw [hfc, hfcl]
  by_cases hf : r.fa.connHdr = true
  · rw [if_pos hf] at hcn ⊢
    obtain ⟨v, rest, h1, h2, h3⟩ := hcn
    have hpc : p ⟨.header, sConnection, v⟩ = false := by
      cases hpc : p ⟨.header, sConnection, v⟩ with
      | false => rfl
      | true =>
        rw [h1, eraseFirst, if_pos hpc] at he
        injection he with he; injection he with he _
        rw [← he, isHdr_conn_head] at hc; cases hc
    rw [h1] at he
    obtain ⟨t', ht', het⟩ := eraseFirst_cons_neg p _ rest x hs' hpc he
    obtain ⟨_, _, hcnt2, _⟩ := eraseFirst_spec p rest x t' het
    refine ⟨v, t', ht', ?_, h3⟩
    have := hcnt2 sConnection; rw [h2, hc0, Nat.zero_add] at this; exact this.symm
  · rw [if_neg hf] at hcn ⊢
    refine ⟨?_, hcn.2⟩
    have := hcnt sConnection; rw [hcn.1, hc0, Nat.zero_add] at this; exact this.symm

theorem eraseFirst_some_of_cnt (k : Bytes) (hs : List Hdr) (h : 1 ≤ cnt k hs) :
    ∃ x hs', eraseFirst (isHdr k) hs = some (x, hs') := by
  rw [cnt_eq] at h
  obtain ⟨x, hm, hx⟩ := List.countP_pos_iff.1 h
  clear h
  induction hs with
  | nil => cases hm
  | cons y t ih =>
    rw [eraseFirst]
    by_cases hy : isHdr k y = true
    · exact ⟨y, t, if_pos hy⟩
    · rcases List.mem_cons.1 hm with rfl | hm
      · exact absurd hx hy
      · obtain ⟨z, t', e⟩ := ih hm
        exact ⟨z, y :: t', by rw [if_neg hy, e]⟩

/-- the four managed names have different lengths -/
theorem nameIs_excl (n k1 k2 : Bytes) (h1 : nameIs n k1 = true) (hl : k1.length ≠ k2.length) : nameIs n k2 = false := by
  by_cases h2 : nameIs n k2 = true
  · have := nameIs_length n k1 h1; have := nameIs_length n k2 h2; omega
  · simpa using h2


/-! The calls on anything but the Connection header:
each of them leaves the Connection header alone (`SameConn`), whatever its arguments, and keeps the invariant when
the arguments are legal.  Both are read off the same walk through the call: every way out is "nothing changed",
an entry appended or an entry removed. -/

theorem nameClean_of (n : Bytes) (h1 : n ≠ []) (h2 : ∀ b ∈ n, b ≠ 9 ∧ b ≠ 32 ∧ b ≠ 13 ∧ b ≠ 10) (h3 : ∀ b ∈ n, b ≠ 58) :
    NameClean n := ⟨h1, fun b hb => ⟨h3 b hb, (h2 b hb).2.1, (h2 b hb).1, (h2 b hb).2.2.1, (h2 b hb).2.2.2⟩⟩

theorem not_nameIs_of_not_strEq (n k : Bytes) (h : strEqCaseless n k = false) : nameIs n k = false := by
  cases hh : nameIs n k with
  | false => rfl
  | true => rw [strEq_of_nameIs n k hh] at h; cases h

theorem lenNe_CT : sConnection.length ≠ sTransferEncoding.length := by decide
theorem lenNe_CD : sConnection.length ≠ sDate.length := by decide
theorem lenNe_CL : sConnection.length ≠ sContentLength.length := by decide
theorem lenNe_TD : sTransferEncoding.length ≠ sDate.length := by decide
theorem lenNe_TL : sTransferEncoding.length ≠ sContentLength.length := by decide
theorem lenNe_DL : sDate.length ≠ sContentLength.length := by decide

theorem addFooter_rest (r : Resp) (n v : Bytes) (hinv : Inv r) :
    SameConn r (addFooter r n v).2 ∧ ((∀ b ∈ n, b ≠ 58) → Inv (addFooter r n v).2) := by
  unfold addFooter
  rcases addEntry_cases r .footer n v with h | ⟨h, hn1, hv1, hn2, hv2⟩ <;> rw [h]
  · exact ⟨.refl r, fun _ => hinv⟩
  · have f : ∀ k, b2n (isHdr k ⟨.footer, n, v⟩) = 0 := fun k => by rw [isHdr_footer]; rfl
    have nf : ∀ {k}, isHdr k ⟨.footer, n, v⟩ = true → False := fun h => by rw [isHdr_footer] at h; cases h
    exact ⟨sameConn_append r _ r.fa (isHdr_footer _ _ _) rfl, fun hl =>
      Inv_append r ⟨.footer, n, v⟩ r.fa hinv (nameClean_of n hn1 hn2 hl) ⟨hv1, hv2⟩ (isHdr_footer _ _ _) rfl rfl
        (by rw [f]; rfl) (fun h => (nf h).elim) (by rw [f]; rfl) (fun h => (nf h).elim) hinv.clHead hinv.teCl (by rw [f]; rfl)⟩

theorem setOptions_rest (r : Resp) (f : RFlags) (hinv : Inv r) :
    SameConn r (setOptions r f).2 ∧ (f.insanity = false → Inv (setOptions r f).2) := by
  let P : Ret × Resp → Prop := fun p => SameConn r p.2 ∧ (f.insanity = false → Inv p.2)
  have same : ∀ x, P (x, r) := fun _ => ⟨.refl r, fun _ => hinv⟩
  show P (setOptions r f)
  unfold setOptions
  refine ite_cases P (fun _ => same _) fun _ => ite_cases P (fun _ => same _) fun h2 =>
    ite_cases P (fun _ => same _) fun h3 => ⟨⟨rfl, rfl, rfl⟩, fun hl => ?_⟩
  refine ⟨hinv.clean, hl, hinv.conn, hinv.te, hinv.teVal, hinv.cl, hinv.clVal, ?_, hinv.teCl, ?_, hinv.date, hinv.upg⟩
  · -- a stored Content-Length needs the head-only flag: clearing it was refused above
    intro hc
    have hc : r.fa.contentLength = true := hc
    have hh := hinv.clHead hc
    cases hf : f.headOnly with
    | true => rfl
    | false => exact (h2 (by rw [hc, hh, hf, hl]; rfl)).elim
  · intro hh
    have hh : f.headOnly = true := hh
    cases hz : (r.totalSize != 0) with
    | false => simpa using hz
    | true => exact (h3 (by rw [hh, hz]; rfl)).elim

/-- the old Date header, if any, is taken out before a new one goes in -/
theorem dropDate_spec (r r0 : Resp) (hinv : Inv r)
    (h : (if r.fa.date = true then
            match eraseFirst (isHdr sDate) r.hdrs with
            | none => none
            | some (_, hs') => some { r with hdrs := hs', fa := { r.fa with date := false } }
          else some r) = some r0) : Inv r0 ∧ SameConn r r0 ∧ r0.fa.date = false := by
  by_cases hfd : r.fa.date = true
  · rw [if_pos hfd] at h
    cases he : eraseFirst (isHdr sDate) r.hdrs with
    | none => rw [he] at h; cases h
    | some q =>
      obtain ⟨x, hs'⟩ := q
      rw [he] at h; injection h with h; subst h
      obtain ⟨hp, _, _, _⟩ := eraseFirst_spec _ _ _ _ he
      rw [isHdr_of, Bool.and_eq_true, beq_iff_eq] at hp
      have hx : ∀ k, sDate.length ≠ k.length → isHdr k x = false := fun k hk => by
        rw [isHdr_of, nameIs_excl _ _ _ hp.2 hk, Bool.and_false]
      have hxd : isHdr sDate x = true := by rw [isHdr_of, hp.1, hp.2]; rfl
      exact ⟨Inv_erase r _ x hs' _ hinv he (hx _ lenNe_CD.symm) rfl rfl (by rw [hx _ lenNe_TD.symm]; rfl)
          (by rw [hx _ lenNe_DL]; rfl) (by rw [hxd, hfd]; rfl),
        sameConn_erase r _ x hs' _ he (hx _ lenNe_CD.symm) rfl, rfl⟩
  · rw [if_neg hfd] at h; injection h with h; subst h
    exact ⟨hinv, .refl _, by simpa using hfd⟩

theorem addHeader_rest (r : Resp) (n v : Bytes) (hinv : Inv r) (hconn : strEqCaseless n sConnection = false) :
    SameConn r (addHeader r n v).2 ∧
    ((∀ b ∈ n, b ≠ 58) → (strEqCaseless n sContentLength = true → IsDigits v) → Inv (addHeader r n v).2) := by
  let P : Ret × Resp → Prop := fun p => SameConn r p.2 ∧
    ((∀ b ∈ n, b ≠ 58) → (strEqCaseless n sContentLength = true → IsDigits v) → Inv p.2)
  have same : ∀ x, P (x, r) := fun _ => ⟨.refl r, fun _ _ => hinv⟩
  have hnc : ∀ val, isHdr sConnection ⟨.header, n, val⟩ = false := fun val => by
    rw [isHdr_header]; exact not_nameIs_of_not_strEq _ _ hconn
  -- which of the three counted names the new header has
  have cls : ∀ k, b2n (isHdr k ⟨.header, n, v⟩) = b2n (nameIs n k) := fun k => by rw [isHdr_header]
  have yes : ∀ {k}, nameIs n k = true → b2n (nameIs n k) = 1 := fun h => by rw [h]; rfl
  have no : ∀ {k}, nameIs n k = false → b2n (nameIs n k) = 0 := fun h => by rw [h]; rfl
  have isNot : ∀ {k}, nameIs n k = false → isHdr k ⟨.header, n, v⟩ = true → False := fun h h' => by
    rw [isHdr_header, h] at h'; cases h'
  show P (addHeader r n v)
  unfold addHeader
  rw [if_neg (by rw [hconn]; exact Bool.false_ne_true)]
  refine ite_cases P (fun hte => ?_) fun hte => ite_cases P (fun hd => ?_) fun hd => ite_cases P (fun hl => ?_) fun hl => ?_
  · have hnt := nameIs_of_strEq _ _ hte
    have ncl := nameIs_excl n _ _ hnt lenNe_TL
    have nd := nameIs_excl n _ _ hnt lenNe_TD
    refine ite_cases P (fun _ => same _) fun hch => ite_cases P (fun _ => same _) fun hfl =>
      ite_cases P (fun _ => same _) fun hcl => ?_
    rw [Bool.not_eq_true] at hfl
    have hclf : r.fa.contentLength = false := by simpa [hinv.noInsanity] using hcl
    rcases addEntry_cases r .header n v with h | ⟨h, hn1, hv1, hn2, hv2⟩ <;> rw [h]
    · exact same _
    · exact ⟨sameConn_append r _ _ (hnc v) rfl, fun hcolon _ =>
        Inv_append r ⟨.header, n, v⟩ { r.fa with transEnc := true } hinv (nameClean_of n hn1 hn2 hcolon) ⟨hv1, hv2⟩
          (hnc v) rfl rfl (by rw [cls, yes hnt, hfl]; rfl) (fun _ => by simpa using hch)
          (by rw [cls, no ncl]; rfl) (fun h => (isNot ncl h).elim) (fun h => by rw [hclf] at h; cases h)
          (fun h => by rw [hclf] at h; cases h.2) (by rw [cls, no nd]; rfl)⟩
  · have hnte := not_nameIs_of_not_strEq _ _ (by simpa using hte)
    have hnd := nameIs_of_strEq _ _ hd
    have ncl := nameIs_excl n _ _ hnd lenNe_DL
    dsimp only
    split
    · exact same _
    · rename_i r0 hr0
      obtain ⟨hinv0, hs0, hd0⟩ := dropDate_spec r r0 hinv hr0
      rcases addEntry_cases r0 .header n v with h | ⟨h, hn1, hv1, hn2, hv2⟩ <;> rw [h]
      · exact ⟨hs0, fun _ _ => hinv0⟩
      · exact ⟨hs0.trans (sameConn_append r0 _ _ (hnc v) rfl), fun hcolon _ =>
          Inv_append r0 ⟨.header, n, v⟩ { r0.fa with date := true } hinv0 (nameClean_of n hn1 hn2 hcolon) ⟨hv1, hv2⟩
            (hnc v) rfl rfl (by rw [cls, no hnte]; rfl) (fun h => (isNot hnte h).elim)
            (by rw [cls, no ncl]; rfl) (fun h => (isNot ncl h).elim) hinv0.clHead hinv0.teCl
            (by rw [cls, yes hnd, hd0]; rfl)⟩
  · have hnte := not_nameIs_of_not_strEq _ _ (by simpa using hte)
    have hnd := not_nameIs_of_not_strEq _ _ (by simpa using hd)
    have hnl := nameIs_of_strEq _ _ hl
    refine ite_cases P (fun hcond => ?_) fun _ => same _
    simp only [hinv.noInsanity, Bool.false_or, Bool.and_eq_true, Bool.not_eq_true'] at hcond
    obtain ⟨⟨hho, htf⟩, hcf⟩ := hcond
    rcases addEntry_cases r .header n v with h | ⟨h, hn1, hv1, hn2, hv2⟩ <;> rw [h]
    · exact same _
    · exact ⟨sameConn_append r _ _ (hnc v) rfl, fun hcolon hdig =>
        Inv_append r ⟨.header, n, v⟩ { r.fa with contentLength := true } hinv (nameClean_of n hn1 hn2 hcolon) ⟨hv1, hv2⟩
          (hnc v) rfl rfl (by rw [cls, no hnte]; rfl) (fun h => (isNot hnte h).elim)
          (by rw [cls, yes hnl, hcf]; rfl) (fun _ => hdig hl) (fun _ => hho)
          (fun h => by rw [htf] at h; cases h.1) (by rw [cls, no hnd]; rfl)⟩
  · have hnte := not_nameIs_of_not_strEq _ _ (by simpa using hte)
    have hnd := not_nameIs_of_not_strEq _ _ (by simpa using hd)
    have hnl := not_nameIs_of_not_strEq _ _ (by simpa using hl)
    rcases addEntry_cases r .header n v with h | ⟨h, hn1, hv1, hn2, hv2⟩ <;> rw [h]
    · exact same _
    · exact ⟨sameConn_append r _ _ (hnc v) rfl, fun hcolon _ =>
        Inv_append r ⟨.header, n, v⟩ r.fa hinv (nameClean_of n hn1 hn2 hcolon) ⟨hv1, hv2⟩
          (hnc v) rfl rfl (by rw [cls, no hnte]; rfl) (fun h => (isNot hnte h).elim)
          (by rw [cls, no hnl]; rfl) (fun h => (isNot hnl h).elim) hinv.clHead hinv.teCl (by rw [cls, no hnd]; rfl)⟩

theorem kind_ne_header {k : Kind} : (k != .header) = true ↔ k = .footer := by cases k <;> decide
theorem kind_not_ne_header {k : Kind} : ¬ (k != .header) = true ↔ k = .header := by cases k <;> decide

theorem delHeader_rest (r : Resp) (n v : Bytes) (hinv : Inv r)
    (hbr : (r.fa.connHdr && nameIs n sConnection) = false) :
    SameConn r (delHeader r n v).2 ∧ Inv (delHeader r n v).2 := by
  unfold delHeader
  rw [if_neg (by rw [hbr]; exact Bool.false_ne_true)]
  cases he : eraseFirst (fun h => h.name == n && h.value == v) r.hdrs with
  | none => exact ⟨.refl r, hinv⟩
  | some q =>
    obtain ⟨x, hs'⟩ := q
    obtain ⟨hp, hxm, hcnt, _⟩ := eraseFirst_spec _ _ _ _ he
    have hxn : x.name = n := by simp at hp; exact hp.1
    have hxc : isHdr sConnection x = false := by
      cases hf : r.fa.connHdr with
      | true => rw [hf, Bool.true_and] at hbr; rw [isHdr_of, hxn, hbr, Bool.and_false]
      | false => have hcn := hinv.conn; rw [hf] at hcn; exact cnt_zero_of_mem _ _ hcn.1 x hxm
    -- which of the three counted names it has: `isHdr k x` for each, and the flag of a name it has is set
    have hisK : ∀ k, isHdr k x = (x.kind == .header && nameIs n k) := fun k => by rw [isHdr_of, hxn]
    let P : AutoFlags → Prop := fun fa' => fa'.connHdr = r.fa.connHdr ∧ fa'.connClose = r.fa.connClose ∧
      b2n fa'.transEnc + b2n (isHdr sTransferEncoding x) = b2n r.fa.transEnc ∧
      b2n fa'.contentLength + b2n (isHdr sContentLength x) = b2n r.fa.contentLength ∧
      b2n fa'.date + b2n (isHdr sDate x) = b2n r.fa.date
    suffices h : ∀ fa', P fa' → SameConn r { r with hdrs := hs', fa := fa' } ∧ Inv { r with hdrs := hs', fa := fa' } from
      h _ (by
        show P _
        refine ite_cases P (fun hk => ?_) fun hk => ?_
        · -- a footer: no flag is touched, and it counts for none
          have : ∀ k, isHdr k x = false := fun k => by rw [hisK, kind_ne_header.1 hk]; rfl
          exact ⟨rfl, rfl, by rw [this]; rfl, by rw [this]; rfl, by rw [this]; rfl⟩
        · have hkk : x.kind = .header := kind_not_ne_header.1 hk
          have hisK' : ∀ k, isHdr k x = nameIs n k := fun k => by rw [hisK, hkk]; rfl
          refine ite_cases P (fun h1 => ?_) fun h1 => ite_cases P (fun h2 => ?_) fun h2 => ite_cases P (fun h3 => ?_) fun h3 => ?_
          · have := flag_of_mem hinv.te hxm (by rw [hisK', h1])
            exact ⟨rfl, rfl, by rw [hisK', h1, this]; rfl, by rw [hisK', nameIs_excl n _ _ h1 lenNe_TL]; rfl,
              by rw [hisK', nameIs_excl n _ _ h1 lenNe_TD]; rfl⟩
          · have := flag_of_mem hinv.date hxm (by rw [hisK', h2])
            exact ⟨rfl, rfl, by rw [hisK', Bool.eq_false_iff.2 h1]; rfl, by rw [hisK', nameIs_excl n _ _ h2 lenNe_DL]; rfl,
              by rw [hisK', h2, this]; rfl⟩
          · -- the flag goes when the last Content-Length header goes; with the flag set there is exactly one
            have hfl := flag_of_mem hinv.cl hxm (by rw [hisK', h3])
            have hc0 : cnt sContentLength hs' = 0 := by
              have := hcnt sContentLength
              rw [hisK', h3, hinv.cl, hfl] at this
              simp only [b2n, if_true] at this; omega
            rw [any_eq_false_of_cnt_zero _ _ hc0]
            exact ⟨rfl, rfl, by rw [hisK', Bool.eq_false_iff.2 h1]; rfl, by rw [hisK', h3, hfl]; rfl,
              by rw [hisK', Bool.eq_false_iff.2 h2]; rfl⟩
          · exact ⟨rfl, rfl, by rw [hisK', Bool.eq_false_iff.2 h1]; rfl, by rw [hisK', Bool.eq_false_iff.2 h3]; rfl,
              by rw [hisK', Bool.eq_false_iff.2 h2]; rfl⟩)
    intro fa' ⟨f1, f2, f3, f4, f5⟩
    exact ⟨sameConn_erase r _ x hs' fa' he hxc f2, Inv_erase r _ x hs' fa' hinv he hxc f1 f2 f3 f4 f5⟩

theorem nameIs_conn_te : nameIs sConnection sTransferEncoding = false := by decide
theorem nameIs_conn_cl : nameIs sConnection sContentLength = false := by decide
theorem nameIs_conn_date : nameIs sConnection sDate = false := by decide
theorem nameClean_conn : NameClean sConnection := by unfold NameClean; decide

/-- the leading Connection header, if there is one -/
def connEntry : Option Bytes → List Hdr
  | some v => [⟨.header, sConnection, v⟩]
  | none => []

theorem cnt_connEntry (k : Bytes) (o : Option Bytes) (rest : List Hdr) (hk : nameIs sConnection k = false) :
    cnt k (connEntry o ++ rest) = cnt k rest := by
  cases o with
  | none => rfl
  | some v => rw [connEntry, List.singleton_append, cnt_cons, isHdr_header, hk]; exact Nat.zero_add _

/-- The one rule for the Connection side of a response object: whatever stands in front of the other entries is
    replaced by `new` (a clean value that starts with `close` if the close flag is set); the other entries and
    the flags that count them stay. -/
theorem Inv_conn (r : Resp) (old new : Option Bytes) (rest : List Hdr) (fa' : AutoFlags) (hinv : Inv r)
    (hh : r.hdrs = connEntry old ++ rest) (h0 : cnt sConnection rest = 0)
    (hc : fa'.connHdr = new.isSome) (hte : fa'.transEnc = r.fa.transEnc)
    (hcl : fa'.contentLength = r.fa.contentLength) (hd : fa'.date = r.fa.date)
    (hv : ∀ v, new = some v → ValClean v ∧ (fa'.connClose = true → ClosePrefix v))
    (hn : new = none → fa'.connClose = false) (hup : r.upgrade = true → fa'.connClose = false) :
    Inv { r with hdrs := connEntry new ++ rest, fa := fa' } := by
  have hsub : ∀ h ∈ rest, h ∈ r.hdrs := fun h hm => hh ▸ List.mem_append_right _ hm
  have mem : ∀ {h}, h ∈ connEntry new ++ rest → (∃ v, new = some v ∧ h = ⟨.header, sConnection, v⟩) ∨ h ∈ rest := by
    intro h hm
    rcases List.mem_append.1 hm with hm | hm
    · cases new with
      | none => cases hm
      | some v => exact .inl ⟨v, rfl, List.mem_singleton.1 hm⟩
    · exact .inr hm
  have count : ∀ k b b', nameIs sConnection k = false → b' = b → cnt k r.hdrs = b2n b →
      cnt k (connEntry new ++ rest) = b2n b' := fun k b b' hk hb hcnt => by
    rw [cnt_connEntry k new rest hk, hb, ← hcnt, hh, cnt_connEntry k old rest hk]
  have vals : ∀ k (P : Bytes → Prop), nameIs sConnection k = false → (∀ h ∈ r.hdrs, isHdr k h = true → P h.value) →
      ∀ h ∈ connEntry new ++ rest, isHdr k h = true → P h.value := fun k P hk hp h hm hi => by
    rcases mem hm with ⟨v, _, rfl⟩ | hm
    · rw [isHdr_header, hk] at hi; cases hi
    · exact hp h (hsub h hm) hi
  refine ⟨fun h hm => ?_, hinv.noInsanity, ?_, count _ _ _ nameIs_conn_te hte hinv.te,
    vals _ (fun v => strEqCaseless v sChunked = true) nameIs_conn_te hinv.teVal,
    count _ _ _ nameIs_conn_cl hcl hinv.cl, vals _ IsDigits nameIs_conn_cl hinv.clVal,
    fun h => hinv.clHead (hcl ▸ h), fun h => hinv.teCl ⟨hte ▸ h.1, hcl ▸ h.2⟩, hinv.headSize,
    count _ _ _ nameIs_conn_date hd hinv.date, hup⟩
  · rcases mem hm with ⟨v, hv', rfl⟩ | hm
    · exact ⟨nameClean_conn, (hv v hv').1⟩
    · exact hinv.clean h (hsub h hm)
  · show if fa'.connHdr = true then _ else _
    rw [hc]
    cases new with
    | some v => exact ⟨v, rest, rfl, h0, (hv v rfl).2⟩
    | none => exact ⟨h0, hn rfl⟩

def NotCRLF (b : UInt8) : Prop := b ≠ 13 ∧ b ≠ 10

theorem allQ_sClose : AllQ NotCRLF sClose := by unfold AllQ NotCRLF; decide
theorem allQ_sSep : AllQ NotCRLF sSep := by unfold AllQ NotCRLF; decide

theorem sCloseSep_eq : sCloseSep = sClose ++ sSep := by decide

theorem notCRLF_44 : NotCRLF 44 := ⟨by decide, by decide⟩
theorem notCRLF_32 : NotCRLF 32 := ⟨by decide, by decide⟩

theorem allQ_ite {Q} (c : Prop) [Decidable c] (x y : Bytes) (hx : AllQ Q x) (hy : AllQ Q y) :
    AllQ Q (if c then x else y) := by split <;> assumption

theorem mergeConn_allQ (ins : Bool) (old : Option Bytes) (norm : Bytes)
    (ho : ∀ o, old = some o → AllQ NotCRLF o) (hn : AllQ NotCRLF norm) : AllQ NotCRLF (mergeConn ins old norm) := by
  unfold mergeConn
  simp only
  cases old with
  | none =>
    simp only [List.append_nil]
    exact allQ_append _ _ (allQ_ite _ _ _ allQ_sClose allQ_nil)
      (allQ_ite _ _ _ allQ_nil (allQ_append _ _ (allQ_ite _ _ _ allQ_nil allQ_sSep) hn))
  | some o =>
    simp only
    exact allQ_append _ _
      (allQ_append _ _ (allQ_ite _ _ _ allQ_sClose allQ_nil)
        (allQ_append _ _ (allQ_ite _ _ _ allQ_nil allQ_sSep) (ho o rfl)))
      (allQ_ite _ _ _ allQ_nil (allQ_append _ _ (allQ_ite _ _ _ allQ_nil allQ_sSep) hn))

theorem mergeConn_ne_nil (ins : Bool) (old : Option Bytes) (norm : Bytes) (h : ins = true ∨ norm ≠ []) :
    mergeConn ins old norm ≠ [] := by
  unfold mergeConn
  simp only
  rcases h with h | h
  · subst h
    simp [sClose]
  · have : norm.isEmpty = false := by cases norm <;> simp_all
    simp only [this, Bool.false_eq_true, if_false]
    intro hh
    have := congrArg List.length hh
    simp at this
    cases norm with
    | nil => exact h rfl
    | cons a t => simp at this

theorem mergeConn_close_ins (old : Option Bytes) (norm : Bytes) : ClosePrefix (mergeConn true old norm) := by
  unfold mergeConn ClosePrefix
  simp only [if_true]
  have hne : sClose.isEmpty = false := by decide
  cases old with
  | none =>
    simp only [List.append_nil]
    by_cases hn : norm.isEmpty = true
    · left; simp [hn]
    · right; simp only [hn, Bool.false_eq_true, if_false, hne]
      exact ⟨norm, by rw [sCloseSep_eq]; simp⟩
  | some o =>
    right
    simp only [hne, Bool.false_eq_true, if_false]
    rw [sCloseSep_eq]
    exact ⟨o ++ (if norm.isEmpty = true then [] else (if (sClose ++ (sSep ++ o)).isEmpty = true then [] else sSep) ++ norm),
      by simp [List.append_assoc]⟩

theorem mergeConn_close_keep (o : Bytes) (norm : Bytes) (h : ClosePrefix o) :
    ClosePrefix (mergeConn false (some o) norm) := by
  unfold mergeConn
  simp only [Bool.false_eq_true, if_false, List.nil_append, List.isEmpty_nil, if_true]
  by_cases hn : norm.isEmpty = true
  · simpa [hn] using h
  · simp only [hn, Bool.false_eq_true, if_false]
    have hone : o.isEmpty = false := by
      rcases h with h | ⟨t, h⟩ <;> (subst h; simp [sClose, sCloseSep])
    simp only [hone, Bool.false_eq_true, if_false]
    right
    rcases h with h | ⟨t, h⟩
    · subst h; exact ⟨norm, by rw [sCloseSep_eq]; simp⟩
    · subst h; exact ⟨t ++ (sSep ++ norm), by simp [List.append_assoc]⟩

theorem conn_shape (r : Resp) (hinv : Inv r) (hf : r.fa.connHdr = true) :
    ∃ v rest, r.hdrs = ⟨.header, sConnection, v⟩ :: rest ∧ cnt sConnection rest = 0 ∧
      (r.fa.connClose = true → ClosePrefix v) ∧ ValClean v := by
  have hcn := hinv.conn
  simp only [hf, if_true] at hcn
  obtain ⟨v, rest, h1, h2, h3⟩ := hcn
  exact ⟨v, rest, h1, h2, h3, (hinv.clean ⟨.header, sConnection, v⟩ (by rw [h1]; simp)).2⟩


/-- `conn_shape` read for a list whose head is known -/
theorem conn_shape_of (r : Resp) (hinv : Inv r) (hf : r.fa.connHdr = true) {v : Bytes} {rest : List Hdr}
    (hh : r.hdrs = ⟨.header, sConnection, v⟩ :: rest) :
    cnt sConnection rest = 0 ∧ (r.fa.connClose = true → ClosePrefix v) ∧ ValClean v := by
  obtain ⟨v1, rest1, hh1, h0, hcp, hvc⟩ := conn_shape r hinv hf
  rw [hh] at hh1; injection hh1 with hh1 hr; injection hh1 with _ _ hv
  subst hv hr; exact ⟨h0, hcp, hvc⟩


/-- `add_response_header_connection` on a response object satisfying the invariant: refused / nothing to do, or
    the value — `close` taken out (`norm0`), then `keep-alive` (`norm`) — is merged into the (new or existing)
    leading Connection header, `close` going to the front when the value had it and the header did not -/
theorem addHeaderConnection_cases (r : Resp) (value : Bytes) (hinv : Inv r) :
    (addHeaderConnection r value).2 = r ∨
    ∃ norm0 vhc norm, AllQ NotCRLF value ∧
      removeTokenCaseless value sClose (value.length + value.length / 2 + 1) = some ⟨norm0, vhc⟩ ∧
      (norm0 = [] ∧ norm = [] ∨ ∃ rem, removeTokensCaseless norm0 sKeepAliveLower = some ⟨norm, rem⟩) ∧
      (r.upgrade = true → vhc = false) ∧ (norm = [] → vhc = true) ∧
      ((∃ v0 rest, r.fa.connHdr = true ∧ r.hdrs = ⟨.header, sConnection, v0⟩ :: rest ∧
          (norm = [] → r.fa.connClose = false) ∧
          (addHeaderConnection r value).2 =
            { r with hdrs := ⟨.header, sConnection, mergeConn (vhc && ! r.fa.connClose) (some v0) norm⟩ :: rest,
                     fa := { r.fa with connClose := vhc && ! r.fa.connClose || r.fa.connClose } }) ∨
       (r.fa.connHdr = false ∧
          (addHeaderConnection r value).2 =
            { r with hdrs := ⟨.header, sConnection, mergeConn vhc none norm⟩ :: r.hdrs,
                     fa := { r.fa with connHdr := true, connClose := vhc } })) := by
  unfold addHeaderConnection
  by_cases hcr : (value.contains 13 || value.contains 10) = true
  · rw [if_pos hcr]; exact .inl rfl
  rw [if_neg hcr]
  rw [Bool.or_eq_true, not_or, Bool.not_eq_true, Bool.not_eq_true] at hcr
  have hvq : AllQ NotCRLF value := fun b hb => ⟨not_contains hcr.1 b hb, not_contains hcr.2 b hb⟩
  dsimp only
  cases hrt : removeTokenCaseless value sClose (value.length + value.length / 2 + 1) with
  | none => exact .inl rfl
  | some res =>
    obtain ⟨norm0, vhc⟩ := res
    dsimp only
    by_cases hupg : (r.upgrade && vhc) = true
    · rw [if_pos hupg]; exact .inl rfl
    rw [if_neg hupg]
    have hupc : r.upgrade = true → vhc = false := fun hu => by
      rw [hu, Bool.true_and] at hupg; exact Bool.eq_false_iff.2 hupg
    cases hnorm : (if norm0.isEmpty = true then some norm0
        else Option.map (fun x => x.out) (removeTokensCaseless norm0 sKeepAliveLower)) with
    | none => exact .inl rfl
    | some norm =>
      dsimp only
      have hn : norm0 = [] ∧ norm = [] ∨ ∃ rem, removeTokensCaseless norm0 sKeepAliveLower = some ⟨norm, rem⟩ := by
        by_cases he : norm0.isEmpty = true
        · rw [if_pos he] at hnorm; injection hnorm with hnorm
          rw [List.isEmpty_iff] at he
          exact .inl ⟨he, hnorm ▸ he⟩
        · rw [if_neg he] at hnorm
          cases hrts : removeTokensCaseless norm0 sKeepAliveLower with
          | none => rw [hrts] at hnorm; cases hnorm
          | some res2 => rw [hrts] at hnorm; injection hnorm with hnorm; exact .inr ⟨res2.removed, by rw [← hnorm]⟩
      by_cases hc1 : (norm.isEmpty && !vhc) = true
      · rw [if_pos hc1]; exact .inl rfl
      rw [if_neg hc1]
      have hc1' : norm = [] → vhc = true := fun h => by
        rw [h] at hc1; simpa using hc1
      by_cases hf : r.fa.connHdr = true
      · obtain ⟨v0, rest, hh, _, _, _⟩ := conn_shape r hinv hf
        have hfind : r.hdrs.find? (isHdr sConnection) = some ⟨.header, sConnection, v0⟩ := by
          rw [hh, List.find?_cons, isHdr_conn_head]
        rw [if_pos hf, if_pos hf, hfind]
        by_cases hc2 : (norm.isEmpty && r.fa.connClose) = true
        · rw [if_pos hc2]; exact .inl rfl
        rw [if_neg hc2]
        have hc2' : norm = [] → r.fa.connClose = false := fun h => by
          rw [h] at hc2; simpa using hc2
        refine .inr ⟨norm0, vhc, norm, hvq, rfl, hn, hupc, hc1', .inl ⟨v0, rest, hf, hh, hc2', ?_⟩⟩
        have hset : setValueFirst (isHdr sConnection) (mergeConn (vhc && !r.fa.connClose) (some v0) norm) r.hdrs
            = ⟨.header, sConnection, mergeConn (vhc && !r.fa.connClose) (some v0) norm⟩ :: rest := by
          rw [hh, setValueFirst, if_pos (isHdr_conn_head v0)]
        dsimp only [Option.map_some]
        rw [hset]
        cases vhc && !r.fa.connClose <;> rfl
      · have hcn := hinv.conn
        rw [if_neg hf] at hcn
        rw [if_neg hf, if_neg hf]
        refine .inr ⟨norm0, vhc, norm, hvq, rfl, hn, hupc, hc1', .inr ⟨Bool.eq_false_iff.2 hf, ?_⟩⟩
        simp only [Option.map_none, Bool.not_false, Bool.and_true, hcn.2, Bool.false_or, Bool.and_false,
          Bool.false_eq_true, if_false]

theorem addHeaderConnection_inv (r : Resp) (value : Bytes) (hinv : Inv r) : Inv (addHeaderConnection r value).2 := by
  rcases addHeaderConnection_cases r value hinv with h | ⟨norm0, vhc, norm, hvq, hrt, hn, hupc, hc1, hcase⟩
  · rw [h]; exact hinv
  -- the editors write nothing but bytes of their input, commas and spaces
  have hnq : AllQ NotCRLF norm := by
    have hn0 := removeTokenCaseless_allQ value sClose _ _ notCRLF_44 notCRLF_32 (by decide) hvq hrt
    rcases hn with ⟨_, rfl⟩ | ⟨rem, hrts⟩
    · exact allQ_nil
    · exact removeTokensCaseless_allQ _ _ _ notCRLF_44 notCRLF_32 hn0 hrts
  have hne : ∀ ins, (norm = [] → ins = true) → ∀ old, mergeConn ins old norm ≠ [] := fun ins h old =>
    mergeConn_ne_nil _ _ _ (by
      cases hx : norm with
      | nil => exact .inl (h hx)
      | cons _ _ => exact .inr nofun)
  rcases hcase with ⟨v0, rest, hf, hh, hc2, he⟩ | ⟨hf, he⟩
  · rw [he]
    obtain ⟨h0, hcp, hvc⟩ := conn_shape_of r hinv hf hh
    refine Inv_conn r (some v0) (some _) rest _ hinv hh h0 hf rfl rfl rfl (fun v e => ?_) nofun
      (fun hu => by rw [hupc hu, hinv.upg hu]; rfl)
    injection e with e; subst e
    refine ⟨⟨hne _ (fun h => by rw [hc1 h, hc2 h]; rfl) _,
      mergeConn_allQ _ _ _ (fun o ho => by injection ho with ho; exact ho ▸ hvc.2) hnq⟩, fun hcc => ?_⟩
    cases hins : vhc && !r.fa.connClose with
    | true => exact mergeConn_close_ins _ _
    | false => rw [hins, Bool.false_or] at hcc; exact mergeConn_close_keep _ _ (hcp hcc)
  · rw [he]
    have hcn := hinv.conn
    rw [hf] at hcn
    refine Inv_conn r none (some _) r.hdrs _ hinv rfl hcn.1 rfl rfl rfl rfl (fun v e => ?_) nofun hupc
    injection e with e; subst e
    exact ⟨⟨hne _ hc1 _, mergeConn_allQ _ _ _ nofun hnq⟩, fun hcc => by
      have hcc : vhc = true := hcc
      rw [hcc]; exact mergeConn_close_ins _ _⟩

/-- the test by which `del_response_header_connection` decides whether the close flag stays -/
def keepTest (v : Bytes) : Bool :=
  if v.length == 5 then v == sClose else if 7 < v.length then v.take 7 == sCloseSep else false

theorem keepTest_prefix (v : Bytes) (h : keepTest v = true) : ClosePrefix v := by
  unfold keepTest at h
  by_cases h5 : (v.length == 5) = true
  · rw [if_pos h5] at h; exact .inl (beq_iff_eq.1 h)
  · rw [if_neg h5] at h
    by_cases h7 : 7 < v.length
    · rw [if_pos h7] at h
      exact .inr ⟨v.drop 7, by rw [← beq_iff_eq.1 h, List.take_append_drop]⟩
    · rw [if_neg h7] at h; cases h

theorem delHeaderConnection_cases (r : Resp) (value : Bytes) (hinv : Inv r) (hf : r.fa.connHdr = true) :
    (delHeaderConnection r value).2 = r ∨
    ∃ v0 rest v', r.hdrs = ⟨.header, sConnection, v0⟩ :: rest ∧ removeTokensCaseless v0 value = some ⟨v', true⟩ ∧
      ((v' = [] ∧ (delHeaderConnection r value).2 =
          { r with hdrs := rest, fa := { r.fa with connHdr := false, connClose := false } }) ∨
       (v' ≠ [] ∧ (delHeaderConnection r value).2 =
          { r with hdrs := ⟨.header, sConnection, v'⟩ :: rest,
                   fa := { r.fa with connClose := keepTest v' && r.fa.connClose } })) := by
  unfold delHeaderConnection
  obtain ⟨v0, rest, hh, _, _, _⟩ := conn_shape r hinv hf
  have hfind : r.hdrs.find? (isHdr sConnection) = some ⟨.header, sConnection, v0⟩ := by
    rw [hh, List.find?_cons, isHdr_conn_head]
  rw [hfind]
  dsimp only
  cases hrt : removeTokensCaseless v0 value with
  | none => exact .inl rfl
  | some res =>
    obtain ⟨v', removed⟩ := res
    dsimp only
    cases removed with
    | false => exact .inl rfl
    | true =>
      rw [if_neg (by decide)]
      refine .inr ⟨v0, rest, v', hh, hrt, ?_⟩
      by_cases hemp : v'.isEmpty = true
      · rw [if_pos hemp]
        have her : eraseFirst (isHdr sConnection) r.hdrs = some (⟨.header, sConnection, v0⟩, rest) := by
          rw [hh, eraseFirst, if_pos (isHdr_conn_head v0)]
        rw [her]
        exact .inl ⟨List.isEmpty_iff.1 hemp, rfl⟩
      · rw [if_neg hemp]
        have hset : setValueFirst (isHdr sConnection) v' r.hdrs = ⟨.header, sConnection, v'⟩ :: rest := by
          rw [hh, setValueFirst, if_pos (isHdr_conn_head v0)]
        rw [hset]
        refine .inr ⟨fun h => hemp (List.isEmpty_iff.2 h), ?_⟩
        have hoth : (r.fa.connHdr || r.fa.transEnc || r.fa.contentLength || r.fa.date) = true := by rw [hf]; rfl
        rw [hoth, Bool.true_and]
        show (if (!keepTest v') = true then _ else _ : Ret × Resp).2 = _
        cases keepTest v' <;> rfl

theorem delHeaderConnection_inv (r : Resp) (value : Bytes) (hinv : Inv r) (hf : r.fa.connHdr = true) :
    Inv (delHeaderConnection r value).2 := by
  rcases delHeaderConnection_cases r value hinv hf with h | ⟨v0, rest, v', hh, hrt, ⟨_, he⟩ | ⟨hne, he⟩⟩
  · rw [h]; exact hinv
  all_goals obtain ⟨h0, _, hvc⟩ := conn_shape_of r hinv hf hh
  · rw [he]; exact Inv_conn r (some v0) none rest _ hinv hh h0 rfl rfl rfl rfl nofun (fun _ => rfl) (fun _ => rfl)
  · rw [he]
    refine Inv_conn r (some v0) (some v') rest _ hinv hh h0 hf rfl rfl rfl (fun v e => ?_) nofun
      (fun hu => by rw [hinv.upg hu]; exact Bool.and_false _)
    injection e with e; subst e
    refine ⟨⟨hne, removeTokensCaseless_allQ _ _ _ notCRLF_44 notCRLF_32 hvc.2 hrt⟩, fun hk => ?_⟩
    have hk : (keepTest v' && r.fa.connClose) = true := hk
    rw [Bool.and_eq_true] at hk
    exact keepTest_prefix v' hk.1

theorem addHeader_conn {r : Resp} {n : Bytes} (v : Bytes) (h : strEqCaseless n sConnection = true) :
    addHeader r n v = addHeaderConnection r v := by unfold addHeader; rw [if_pos h]

theorem delHeader_conn {r : Resp} {n : Bytes} (v : Bytes) (h : (r.fa.connHdr && nameIs n sConnection) = true) :
    delHeader r n v = delHeaderConnection r v := by unfold delHeader; rw [if_pos h]

/-- a call leaves the Connection header alone (and keeps the invariant if it is legal), or it is one of the two
    Connection editors -/
theorem applyCall_cases (r : Resp) (c : Call) (hinv : Inv r) :
    (SameConn r (applyCall r c).2 ∧ (c.Legal → Inv (applyCall r c).2)) ∨
    (∃ v, (applyCall r c).2 = (addHeaderConnection r v).2) ∨
    (r.fa.connHdr = true ∧ ∃ v, (applyCall r c).2 = (delHeaderConnection r v).2) := by
  cases c with
  | add n v =>
    by_cases hc : strEqCaseless n sConnection = true
    · exact .inr (.inl ⟨v, by rw [applyCall, addHeader_conn v hc]⟩)
    · have := addHeader_rest r n v hinv (Bool.eq_false_iff.2 hc)
      exact .inl ⟨this.1, fun hl => this.2 hl.1 hl.2⟩
  | del n v =>
    by_cases hbr : (r.fa.connHdr && nameIs n sConnection) = true
    · exact .inr (.inr ⟨(Bool.and_eq_true_iff.1 hbr).1, v, by rw [applyCall, delHeader_conn v hbr]⟩)
    · have := delHeader_rest r n v hinv (Bool.eq_false_iff.2 hbr)
      exact .inl ⟨this.1, fun _ => this.2⟩
  | foot n v => exact .inl (addFooter_rest r n v hinv)
  | opt f => exact .inl (setOptions_rest r f hinv)

theorem applyCall_inv (r : Resp) (c : Call) (hinv : Inv r) (hl : c.Legal) : Inv (applyCall r c).2 := by
  rcases applyCall_cases r c hinv with h | ⟨v, h⟩ | ⟨hf, v, h⟩
  · exact h.2 hl
  · rw [h]; exact addHeaderConnection_inv r v hinv
  · rw [h]; exact delHeaderConnection_inv r v hinv hf

theorem runCalls_inv (cs : List Call) : ∀ (r : Resp), Inv r → (∀ c ∈ cs, c.Legal) → Inv (runCalls r cs) :=
  fun _ h hl => List.foldlRecOn cs _ h fun r hr c hc => applyCall_inv r c hr (hl c hc)

theorem applyCall_upgrade (r : Resp) (c : Call) (hinv : Inv r) : (applyCall r c).2.upgrade = r.upgrade := by
  rcases applyCall_cases r c hinv with h | ⟨v, h⟩ | ⟨hf, v, h⟩
  · exact h.1.2.2
  · rw [h]
    rcases addHeaderConnection_cases r v hinv with h | ⟨_, _, _, _, _, _, _, _, ⟨_, _, _, _, _, h⟩ | ⟨_, h⟩⟩ <;> rw [h]
  · rw [h]
    rcases delHeaderConnection_cases r v hinv hf with h | ⟨_, _, _, _, _, ⟨_, h⟩ | ⟨_, h⟩⟩ <;> rw [h]

theorem runCalls_upgrade (cs : List Call) : ∀ (r : Resp), Inv r → (∀ c ∈ cs, c.Legal) → (runCalls r cs).upgrade = r.upgrade := by
  induction cs with
  | nil => intro r _ _; rfl
  | cons c cs ih =>
    intro r hi hl
    exact (ih _ (applyCall_inv r c hi (hl c List.mem_cons_self)) fun c' hc' => hl c' (List.mem_cons_of_mem _ hc')).trans
      (applyCall_upgrade r c hi)

theorem inv_of_nil (r : Resp) (h1 : r.hdrs = []) (h2 : r.fa = {}) (h3 : r.flags.insanity = false)
    (h4 : r.flags.headOnly = true → r.totalSize = 0) : Inv r := by
  refine ⟨?_, h3, ?_, ?_, ?_, ?_, ?_, ?_, ?_, h4, ?_, ?_⟩
  · intro h hm; rw [h1] at hm; cases hm
  · rw [h2, h1]; simp [cnt]
  · rw [h2, h1]; simp [cnt, b2n]
  · intro h hm; rw [h1] at hm; cases hm
  · rw [h2, h1]; simp [cnt, b2n]
  · intro h hm; rw [h1] at hm; cases hm
  · rw [h2]; intro h; cases h
  · rw [h2]; intro h; cases h.1
  · rw [h2, h1]; simp [cnt, b2n]
  · rw [h2]; intro _; rfl

theorem create_inv (size : Nat) : Inv (Resp.create size) :=
  inv_of_nil _ rfl rfl rfl (by intro h; cases h)

theorem createEmpty_inv (f : RFlags) (hf : f.insanity = false) : Inv (Resp.createEmpty f) :=
  inv_of_nil _ rfl rfl hf (fun _ => rfl)

theorem createUpgrade_inv : Inv Resp.createUpgrade := by
  unfold Resp.createUpgrade
  apply applyCall_inv _ (.add _ _)
  · exact inv_of_nil _ rfl rfl rfl (by intro h; cases h)
  · refine ⟨by decide, ?_⟩
    intro h
    have : strEqCaseless sConnection sContentLength = false := by decide
    rw [this] at h; cases h
end Mhd.Resp
