/-
  Composition with the request-line scanner.  Whatever request-line round trip produced the
  record `r` (canonical, non-canonical, whitespace blocks), the outer `get_request_line` then
  hands the application the decoded path and arguments of the rendering `R` of the target
  (`target_after_line`).  Composed with `RLP.reqline_run` (through `reqline_roundtrip_blk`):
  `reqline_target_blk` for every rendering and every combination of flags; one-byte separators
  (`reqline_target_roundtrip_nc`) and the canonical line (`reqline_target_roundtrip`) are instances.
-/
import Mhd.Proofs.ReqTargetRT
import Mhd.Proofs.ReqLineRoundtripBlk
namespace Mhd.Req
namespace TGT
open RLP (BufIs)

theorem firstQ_eq (t : List UInt8) : RLP.firstQ t = idxOf 63 t := by
  induction t with
  | nil => rfl
  | cons c cs ih => simp only [RLP.firstQ, idxOf, ih]

theorem target_after_line (F : RLFlags) (strict : Bool) (pool : Nat) (r : ReqLine) (R : TargetR) (m v : List UInt8)
    (hR : R.ok = true) (hnum : r.numWs = 0) (vT : BufIs r.buf r.tgt (R.render ++ [0])) (hlen : r.tgtLen = R.render.length)
    (hq : r.qmark = (RLP.firstQ R.render).map (r.tgt + ·)) (vM : BufIs r.buf r.method (m ++ [0]))
    (vV : BufIs r.buf r.version (v ++ [0])) (hmt : r.method + m.length < r.tgt)
    (htv : r.tgt + R.render.length < r.version) :
    ∃ T, getRequestLineOuter F strict pool (.done (.ok r)) = .ok T ∧
      T.rawTarget = R.render ∧
      sliceBytes T.buf ⟨0, T.url, T.urlLen⟩ = R.semPath ∧
      T.elems.map (HSP.elemView T.buf) = R.semArgs.map (fun kv => (Gen.Http.kindGetArgument, kv.1, kv.2)) ∧
      BufIs T.buf T.method (m ++ [0]) ∧ T.methodLen = r.methodLen ∧ T.mthd = r.mthd ∧
      BufIs T.buf T.version (v ++ [0]) ∧ T.httpVer = r.httpVer ∧ T.rb = r.rb := by
  obtain ⟨_, ht⟩ := TargetR.render_bytes hR
  have wf : TargetWF r R.render := ⟨vT, fun x hx => (ht x hx).2.2.2.2.2.2, hlen, by rw [hq, firstQ_eq]⟩
  obtain ⟨b2, els, hT, ok, hv, _⟩ := processRequestTarget_ok strict r R.render wf
  obtain ⟨d1, d2⟩ := target_decode_render strict R hR
  refine ⟨targetOf r R.render b2 _ els, ?_, rfl, ok.view.trans d1, hv.trans (congrArg _ d2), ok.same.bufIs vM (Or.inl ?_), rfl, rfl,
    ok.same.bufIs vV (Or.inr htv), rfl, rfl⟩
  · simp only [getRequestLineOuter, lineWspCheck, hnum, ne_eq, not_true_eq_false, ↓reduceIte, hT]
  · rw [List.length_append]; exact hmt

/-- **request line incl. target decoding, every rendering, every combination of flags**: the one
    composition of `RLP.reqline_run` (through `reqline_roundtrip_blk`) with `target_after_line` -/
theorem reqline_target_blk (F : RLFlags) (strict : Bool) (pool : Nat) (buf0 : Bytes) (rb : Nat)
    (els : List (List UInt8)) (m v eol ws1 ws2 : List UInt8) (R : TargetR) (hv : Int)
    (hrb : rb ≤ buf0.size) (hels : ∀ e ∈ els, RLP.LineEnd F e) (hk : RLP.SkipOK F els.length)
    (hws1 : ws1 ≠ [] ∧ ∀ w ∈ ws1, rlIsWsp F w = true) (hws2 : ws2 ≠ [] ∧ ∀ w ∈ ws2, rlIsWsp F w = true)
    (hsingle : F.wspBlocks = false → ws1.length = 1 ∧ ws2.length = 1)
    (heol : RLP.LineEnd F eol) (hm0 : m ≠ []) (hm : ∀ c ∈ m, RLP.rplain c ∧ c ≠ 63) (hR : R.ok = true)
    (hvl : v.length = 8) (hvc : ∀ c ∈ v, RLP.rplain c ∧ c ≠ 63) (hpv : parseHttpVersion v = .ok hv)
    (hbuf : BufIs buf0 rb (els.flatten ++ (m ++ ws1 ++ R.render ++ (ws2 ++ v ++ eol)))) :
    ∃ T, getRequestLineOuter F strict pool ((rlScanner F).run (RL.init buf0 rb)) = .ok T ∧
      T.rawTarget = R.render ∧
      sliceBytes T.buf ⟨0, T.url, T.urlLen⟩ = R.semPath ∧
      T.elems.map (HSP.elemView T.buf) = R.semArgs.map (fun kv => (Gen.Http.kindGetArgument, kv.1, kv.2)) ∧
      BufIs T.buf T.method (m ++ [0]) ∧ T.methodLen = m.length ∧ T.mthd = stdMethodOf m ∧
      BufIs T.buf T.version (v ++ [0]) ∧ T.httpVer = hv ∧
      T.rb = rb + els.flatten.length + m.length + ws1.length + R.render.length + ws2.length + 8 + eol.length := by
  obtain ⟨ht0, ht⟩ := TargetR.render_bytes hR
  obtain ⟨r, hr, ok⟩ := RLP.reqline_roundtrip_blk F buf0 rb els m R.render v eol ws1 ws2 hv hrb hels hk hws1 hws2 hsingle
    heol hm0 ht0 hm ht hvl hvc hpv hbuf
  have a1 : ws1.length ≠ 0 := fun h => hws1.1 (List.length_eq_zero_iff.mp h)
  have a2 : ws2.length ≠ 0 := fun h => hws2.1 (List.length_eq_zero_iff.mp h)
  obtain ⟨T, h1, h2, h3, h4, h5, h6, h7, h8, h9, h10⟩ := target_after_line F strict pool r R m v hR
    ok.numWs ok.vTgt ok.tgtLen ok.qmark ok.vMethod ok.vVersion (by rw [ok.method, ok.tgt]; omega)
    (by rw [ok.tgt, ok.version]; omega)
  exact ⟨T, hr ▸ h1, h2, h3, h4, h5, h6.trans ok.methodLen, h7.trans ok.mthd, h8, h9.trans ok.httpVer, h10.trans ok.rb⟩

set_option linter.unusedVariables false in
/-- **Request line incl. target decoding, every rendering admitted when whitespace blocks are
    not merged** (levels ≥ 0): `els` empty lines (each CRLF or — if admitted — bare LF, their
    number within the level's limit), separators `w1`, `w2` any bytes the level treats as
    whitespace, line end CRLF or (if admitted) bare LF, the target any admissible rendering `R`
    of a (path, argument list).  `get_request_line` succeeds; the application is given the
    method, the path, the arguments (in order, with multiplicity, name-only arguments without
    value) and the version; the URI logger sees the target as sent.  (`hB` is not used:
    `reqline_target_blk` needs no condition on the flags for one-byte separators.) -/
theorem reqline_target_roundtrip_nc (F : RLFlags) (hB : F.wspBlocks = false) (strict : Bool) (pool : Nat)
    (buf0 : Bytes) (rb : Nat) (els : List (List UInt8)) (m v eol : List UInt8) (w1 w2 : UInt8) (R : TargetR) (hv : Int)
    (hrb : rb ≤ buf0.size) (hels : ∀ e ∈ els, RLP.LineEnd F e) (hk : RLP.SkipOK F els.length)
    (hw1 : rlIsWsp F w1 = true) (hw2 : rlIsWsp F w2 = true) (heol : RLP.LineEnd F eol) (hm0 : m ≠ [])
    (hm : ∀ c ∈ m, RLP.rplain c ∧ c ≠ 63) (hR : R.ok = true) (hvl : v.length = 8)
    (hvc : ∀ c ∈ v, RLP.rplain c ∧ c ≠ 63) (hpv : parseHttpVersion v = .ok hv)
    (hbuf : BufIs buf0 rb (els.flatten ++ (m ++ [w1] ++ R.render ++ ([w2] ++ v ++ eol)))) :
    ∃ T, getRequestLineOuter F strict pool ((rlScanner F).run (RL.init buf0 rb)) = .ok T ∧
      T.rawTarget = R.render ∧
      sliceBytes T.buf ⟨0, T.url, T.urlLen⟩ = R.semPath ∧
      T.elems.map (HSP.elemView T.buf) = R.semArgs.map (fun kv => (Gen.Http.kindGetArgument, kv.1, kv.2)) ∧
      BufIs T.buf T.method (m ++ [0]) ∧ T.methodLen = m.length ∧ T.mthd = stdMethodOf m ∧
      BufIs T.buf T.version (v ++ [0]) ∧ T.httpVer = hv ∧
      T.rb = rb + els.flatten.length + m.length + R.render.length + 10 + eol.length := by
  have one : ∀ w0, rlIsWsp F w0 = true → [w0] ≠ [] ∧ ∀ w ∈ [w0], rlIsWsp F w = true :=
    fun w0 h => ⟨nofun, fun w hw => List.mem_singleton.mp hw ▸ h⟩
  obtain ⟨T, h1, h2, h3, h4, h5, h6, h7, h8, h9, h10⟩ := reqline_target_blk F strict pool buf0 rb els m v eol [w1] [w2] R hv
    hrb hels hk (one w1 hw1) (one w2 hw2) (fun _ => ⟨rfl, rfl⟩) heol hm0 hm hR hvl hvc hpv hbuf
  exact ⟨T, h1, h2, h3, h4, h5, h6, h7, h8, h9, h10.trans (by simp only [List.length_cons, List.length_nil]; omega)⟩

/-- **Request line incl. target decoding: the application is given exactly the method, the
    path, the arguments and the version the client sent.**  The line is
    `method SP target SP version CRLF` where `target` is *any* admissible rendering `R` of a
    (path, argument list) pair.  Then `get_request_line` (inner scanner + whitespace check +
    `process_request_target`) succeeds with the record `T`: the decoded URL is the path, the
    argument elements are the arguments (in order, with multiplicity, name-only arguments
    without value), the raw target shown to the URI logger is the target as sent; method and
    version strings are intact.  (`hB`, whitespace blocks not merged, is only handed to
    `reqline_target_roundtrip_nc`, which does not use it: one-byte separators are read the same
    way under every combination of flags.) -/
theorem reqline_target_roundtrip (F : RLFlags) (hB : F.wspBlocks = false) (strict : Bool) (pool : Nat)
    (buf0 : Bytes) (rb : Nat) (m v : List UInt8) (R : TargetR) (hv : Int) (hrb : rb ≤ buf0.size) (hm0 : m ≠ [])
    (hm : ∀ c ∈ m, RLP.rplain c ∧ c ≠ 63) (hR : R.ok = true) (hvl : v.length = 8)
    (hvc : ∀ c ∈ v, RLP.rplain c ∧ c ≠ 63) (hpv : parseHttpVersion v = .ok hv)
    (hbuf : BufIs buf0 rb (m ++ [cSP] ++ R.render ++ ([cSP] ++ v ++ [cCR, cLF]))) :
    ∃ T, getRequestLineOuter F strict pool ((rlScanner F).run (RL.init buf0 rb)) = .ok T ∧
      T.rawTarget = R.render ∧
      sliceBytes T.buf ⟨0, T.url, T.urlLen⟩ = R.semPath ∧
      T.elems.map (HSP.elemView T.buf) = R.semArgs.map (fun kv => (Gen.Http.kindGetArgument, kv.1, kv.2)) ∧
      BufIs T.buf T.method (m ++ [0]) ∧ T.methodLen = m.length ∧ T.mthd = stdMethodOf m ∧
      BufIs T.buf T.version (v ++ [0]) ∧ T.httpVer = hv ∧
      T.rb = rb + (m.length + R.render.length + 12) := by
  obtain ⟨T, h1, h2, h3, h4, h5, h6, h7, h8, h9, h10⟩ := reqline_target_roundtrip_nc F hB strict pool buf0 rb [] m v
    [cCR, cLF] cSP cSP R hv hrb (fun _ h => nomatch h) (.inl rfl) rfl rfl (.inl rfl) hm0 hm hR hvl hvc hpv hbuf
  exact ⟨T, h1, h2, h3, h4, h5, h6, h7, h8, h9, h10.trans (by show rb + 0 + m.length + R.render.length + 10 + 2 = _; omega)⟩

end TGT
end Mhd.Req
