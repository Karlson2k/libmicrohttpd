/-
  Table / history level of the nonce-nc map (for `Mhd.Props.C13`): the table refines an abstract view of its
  history, per slot the nonce registered last and the counts accepted since (`SlotRel`, `TblRel`).  Every function
  of the table is gone through once (`…_walk`), and both what it does to the table (`Did`) and that it reads
  inside the buffers (`BufOk`) are read off each leaf.
-/
import Mhd.Proofs.Nonce
import Mhd.Proofs.Lists
namespace Mhd.Nonce
open Mhd.Gen.Nonce

def Op.nonce : Op → Bytes
  | .add _ n => n
  | .check n _ _ => n
  | .present _ _ _ _ n _ => n

def Op.count : Op → Nat
  | .add _ _ => 0
  | .check _ _ c => c
  | .present _ _ _ _ _ c => c

def Op.isAdd : Op → Bool
  | .add _ _ => true
  | _ => false

/-- the event registered a nonce -/
def Ev.isAdded (e : Ev) : Bool := e.op.isAdd && e.out == .added
/-- the event accepted a (nonce, count) presentation -/
def Ev.isOk (e : Ev) : Bool := !e.op.isAdd && e.out == .ok

/-- the nonce registered last in slot `i` (a history has the most recent event first) -/
def lastAdd (size : Nat) : List Ev → Nat → Option Bytes
  | [], _ => none
  | e :: h, i => if e.isAdded = true ∧ slotIdx size e.op.nonce = i then some e.op.nonce else lastAdd size h i

/-- the counts accepted in slot `i` since the last registration there -/
def usedSince (size : Nat) : List Ev → Nat → List Nat
  | [], _ => []
  | e :: h, i =>
    if slotIdx size e.op.nonce = i then
      if e.isAdded then []
      else if e.isOk then e.op.count :: usedSince size h i
      else usedSince size h i
    else usedSince size h i

/-- how often `(n, c)` was accepted -/
def okCount (h : List Ev) (n : Bytes) (c : Nat) : Nat :=
  (h.filter fun e => e.isOk && decide (e.op.nonce = n) && decide (e.op.count = c)).length

/-- how often `n` was registered -/
def addCount (h : List Ev) (n : Bytes) : Nat :=
  (h.filter fun e => e.isAdded && decide (e.op.nonce = n)).length

theorem getElem?_some_of_lt {α} (l : List α) (i : Nat) (h : i < l.length) : ∃ z, l[i]? = some z :=
  ⟨l[i], List.getElem?_eq_getElem h⟩

theorem strlen_of_zero : ∀ (buf : Bytes) (k : Nat), buf[k]? = some 0 → ∃ j, strlen buf = some j ∧ j ≤ k := by
  intro buf
  induction buf with
  | nil => intro k h; simp at h
  | cons a as ih =>
    intro k h
    by_cases ha : a = 0
    · exact ⟨0, by simp [strlen, ha], by omega⟩
    · cases k with
      | zero => simp at h; exact (ha h).elim
      | succ k =>
        simp only [List.getElem?_cons_succ] at h
        obtain ⟨j, hj, hjk⟩ := ih k h
        exact ⟨j + 1, by simp [strlen, ha, hj], by omega⟩

theorem getTs_no_fault (buf : Bytes) (len : Nat) (h0 : len ≠ 0) (hl : len ≤ buf.length) :
    getNonceTimestamp buf len ≠ .fault := by
  unfold getNonceTimestamp
  rw [if_neg h0]
  simp only []
  split
  · simp
  · rw [if_neg (by omega)]
    split
    · split <;> simp
    · simp

theorem getTs0_no_fault (buf : Bytes) (k : Nat) (hz : buf[k]? = some 0) : getNonceTimestamp buf 0 ≠ .fault := by
  obtain ⟨j, hj, hjk⟩ := strlen_of_zero buf k hz
  have hk : k < buf.length := (List.getElem?_eq_some_iff.mp hz).1
  unfold getNonceTimestamp
  rw [if_pos rfl, hj]
  simp only []
  split
  · simp
  · rw [if_neg (by omega)]
    split
    · split <;> simp
    · simp

theorem avail_no_fault (nn : Slot) (ts : Nat) (n : Bytes) (hl : nn.nonce.length = nonceBufSize)
    (hn : n.length ≤ maxNonceLen) : isSlotAvailable nn ts n ≠ none := by
  simp only [nonceBufSize, maxNonceLen] at hl hn
  obtain ⟨b0, hb0⟩ := getElem?_some_of_lt nn.nonce 0 (by omega)
  obtain ⟨e, he⟩ := getElem?_some_of_lt nn.nonce (nonceBufSize - 1) (by simp only [nonceBufSize]; omega)
  unfold isSlotAvailable
  rw [hb0]
  simp only []
  by_cases h1 : b0 = 0
  · rw [if_pos h1]; simp
  rw [if_neg h1, if_neg (by omega)]
  by_cases h2 : nn.nonce.take n.length = n
  · rw [if_pos h2]; simp
  rw [if_neg h2]
  by_cases h3 : nn.nc ≠ 0
  · rw [if_pos h3]; simp
  rw [if_neg h3, he]
  simp only []
  by_cases h4 : e ≠ 0
  · rw [if_pos h4]; simp
  rw [if_neg h4]
  simp only [ne_eq, Decidable.not_not] at h4
  subst h4
  have := getTs0_no_fault nn.nonce _ he
  cases hts : getNonceTimestamp nn.nonce 0 with
  | fault => exact (this hts).elim
  | invalid => simp
  | ts s => simp

theorem ofNc_fault (r : NcRes) : Out.ofNc r = .fault ↔ r = .fault := by cases r <;> simp [Out.ofNc]
theorem ofAdd_fault (r : AddRes) : Out.ofAdd r = .fault ↔ r = .fault := by cases r <;> simp [Out.ofAdd]

/-- every slot buffer has the size of the C array -/
def BufOk (tbl : Table) : Prop := ∀ nn ∈ tbl, nn.nonce.length = nonceBufSize

def NoNul (n : Bytes) : Prop := ∀ b ∈ n, b ≠ 0

/-- what the property assumes about the operations: registered nonces are the
    daemon's own (non-empty, no NUL byte); `stdLen` is one of the two standard lengths -/
def Op.Wf : Op → Prop
  | .add _ n => NoNul n ∧ n ≠ [] ∧ n.length ≤ maxNonceLen
  | .check _ _ _ => True
  | .present _ _ _ sl _ _ => sl = stdLenMd5 ∨ sl = stdLenSha

/-- what reading inside the buffers asks of an operation: a registered nonce fits the slot buffer; the vetting
    sequence is not asked for the standard length 0 with the empty nonce (`noncelen = 0` means `strlen`, and the
    model then answers `fault` on every table) -/
def Op.Safe : Op → Prop
  | .add _ n => n.length ≤ maxNonceLen
  | .check _ _ _ => True
  | .present _ _ _ sl n _ => sl ≠ 0 ∨ n ≠ []

theorem Op.Wf.safe {o : Op} (h : o.Wf) : o.Safe := by
  cases o with
  | add ts n => exact h.2.2
  | check n t c => trivial
  | present now tmo mx sl n c => exact Or.inl (by rcases h with h | h <;> rw [h] <;> decide)

theorem ofNc_eq_ok (r : NcRes) : Out.ofNc r = .ok ↔ r = .ok := by cases r <;> simp [Out.ofNc]
theorem ofNc_ne_added (r : NcRes) : Out.ofNc r ≠ .added := by cases r <;> simp [Out.ofNc]
theorem ofAdd_ne_ok (r : AddRes) : Out.ofAdd r ≠ .ok := by cases r <;> simp [Out.ofAdd]
theorem ofAdd_eq_added (r : AddRes) : Out.ofAdd r = .added ↔ r = .added := by cases r <;> simp [Out.ofAdd]

/-- what a step about nonce `n` and count `c` (`a`: it is a registration) with result `r` did to `tbl`:
    nothing, or it wrote `n` into its slot, or it moved the window of that slot -/
def Did (tbl : Table) (a : Bool) (n : Bytes) (c : Nat) (r : Table × Out) : Prop :=
  (r.1 = tbl ∧ (a = true → r.2 ≠ .added) ∧ (a = false → r.2 ≠ .ok)) ∨
  (∃ nn, a = true ∧ tbl[slotIdx tbl.length n]? = some nn ∧ n.length + 1 ≤ nn.nonce.length ∧ r.2 = .added ∧
     r.1 = tbl.set (slotIdx tbl.length n) ⟨writeNonce nn.nonce n, 0, 0⟩) ∨
  (∃ nn, a = false ∧ tbl[slotIdx tbl.length n]? = some nn ∧ slotMatches nn n = some true ∧ c < ncGuard ∧
     (windowStep ⟨nn.nc, nn.nmask⟩ c).2 = true ∧ r.2 = .ok ∧
     r.1 = tbl.set (slotIdx tbl.length n)
        { nn with nc := (windowStep ⟨nn.nc, nn.nmask⟩ c).1.nc, nmask := (windowStep ⟨nn.nc, nn.nmask⟩ c).1.nmask })

theorem Did.idle {tbl : Table} {a : Bool} {n : Bytes} {c : Nat} {o : Out} (h1 : o ≠ .added) (h2 : o ≠ .ok) :
    Did tbl a n c (tbl, o) :=
  Or.inl ⟨rfl, fun _ => h1, fun _ => h2⟩

theorem classify_walk (nn : Slot) (len t : Nat) :
    classifyMismatch nn len t ≠ .ok ∧
    (nn.nonce.length = nonceBufSize → len ≤ maxNonceLen → classifyMismatch nn len t ≠ .fault) := by
  unfold classifyMismatch
  cases hb0 : nn.nonce[0]? with
  | none =>
    refine ⟨nofun, fun hl _ => ?_⟩
    rw [List.getElem?_eq_none_iff, hl] at hb0
    cases hb0
  | some b0 =>
    cases hz : nn.nonce[len]? with
    | none =>
      refine ⟨nofun, fun hl hlen => ?_⟩
      rw [List.getElem?_eq_none_iff, hl] at hz
      simp only [nonceBufSize, maxNonceLen] at hz hlen
      omega
    | some z =>
      simp only []
      by_cases h1 : b0 = 0
      · rw [if_pos h1]; exact ⟨nofun, fun _ _ => nofun⟩
      rw [if_neg h1]
      by_cases h2 : z ≠ 0
      · rw [if_pos h2]; exact ⟨nofun, fun _ _ => nofun⟩
      rw [if_neg h2]
      cases hts : getNonceTimestamp nn.nonce len with
      | fault =>
        refine ⟨nofun, fun hl hlen => ?_⟩
        -- `len = 0` would make the first byte the NUL just seen
        have hlen0 : len ≠ 0 := by
          rintro rfl
          exact h1 ((Option.some.inj (hb0.symm.trans hz)).trans (Decidable.not_not.mp h2))
        simp only [nonceBufSize, maxNonceLen] at hl hlen
        exact (getTs_no_fault nn.nonce len hlen0 (by omega) hts).elim
      | invalid => exact ⟨nofun, fun _ _ => nofun⟩
      | ts s =>
        simp only []
        by_cases h3 : reuseTimeout * 1000 ≥ trim (sub64 t s)
        · rw [if_pos h3]; exact ⟨nofun, fun _ _ => nofun⟩
        rw [if_neg h3]
        by_cases h4 : trim (W64 - 1) / 2 ≥ trim (sub64 t s)
        · rw [if_pos h4]; exact ⟨nofun, fun _ _ => nofun⟩
        · rw [if_neg h4]; exact ⟨nofun, fun _ _ => nofun⟩

theorem check_walk (tbl : Table) (n : Bytes) (t c : Nat) :
    Did tbl false n c (step tbl (.check n t c)) ∧ (BufOk tbl → (checkNonceNc tbl n t c).2 ≠ .fault) := by
  show Did tbl false n c ((checkNonceNc tbl n t c).1, Out.ofNc (checkNonceNc tbl n t c).2) ∧ _
  unfold checkNonceNc
  by_cases h1 : maxNonceLen < n.length
  · rw [if_pos h1]; exact ⟨.idle nofun nofun, fun _ => nofun⟩
  rw [if_neg h1]
  by_cases h2 : tbl.length = 0
  · rw [if_pos h2]; exact ⟨.idle nofun nofun, fun _ => nofun⟩
  rw [if_neg h2]
  by_cases h3 : c ≥ ncGuard
  · rw [if_pos h3]; exact ⟨.idle nofun nofun, fun _ => nofun⟩
  rw [if_neg h3]
  simp only []
  cases hs : tbl[slotIdx tbl.length n]? with
  | none =>
    refine ⟨.idle nofun nofun, fun _ => ?_⟩
    have := Nat.mod_lt (fastSimpleHash n) (Nat.pos_of_ne_zero h2)
    rw [List.getElem?_eq_none_iff] at hs
    exact absurd this (Nat.not_lt.mpr hs)
  | some nn =>
    simp only []
    cases hm : slotMatches nn n with
    | none =>
      refine ⟨.idle nofun nofun, fun hb => ?_⟩
      unfold slotMatches at hm
      obtain ⟨z, hz⟩ := getElem?_some_of_lt nn.nonce n.length
        (by have := hb nn (List.mem_of_getElem? hs); simp only [nonceBufSize, maxNonceLen] at *; omega)
      rw [hz] at hm
      cases hm
    | some b =>
      cases b with
      | false =>
        exact ⟨.idle (ofNc_ne_added _) (fun h => (classify_walk _ _ _).1 ((ofNc_eq_ok _).mp h)),
          fun hb => (classify_walk nn n.length t).2 (hb nn (List.mem_of_getElem? hs)) (by omega)⟩
      | true =>
        simp only []
        cases hw : (windowStep ⟨nn.nc, nn.nmask⟩ c).2 with
        | false =>
          rw [windowStep_refused ⟨nn.nc, nn.nmask⟩ c hw, List.set_eq_self hs]
          exact ⟨.idle nofun nofun, fun _ => nofun⟩
        | true => exact ⟨Or.inr (Or.inr ⟨nn, rfl, hs, hm, by omega, hw, rfl, rfl⟩), fun _ => nofun⟩

theorem add_walk (tbl : Table) (ts : Nat) (n : Bytes) :
    Did tbl true n 0 (step tbl (.add ts n)) ∧
    (BufOk tbl → n.length ≤ maxNonceLen → (addNonce tbl ts n).2 ≠ .fault) := by
  show Did tbl true n 0 ((addNonce tbl ts n).1, Out.ofAdd (addNonce tbl ts n).2) ∧ _
  unfold addNonce
  by_cases h1 : tbl.length = 0
  · rw [if_pos h1]; exact ⟨.idle nofun nofun, fun _ _ => nofun⟩
  rw [if_neg h1]
  simp only []
  cases hs : tbl[slotIdx tbl.length n]? with
  | none =>
    refine ⟨.idle nofun nofun, fun _ _ => ?_⟩
    have := Nat.mod_lt (fastSimpleHash n) (Nat.pos_of_ne_zero h1)
    rw [List.getElem?_eq_none_iff] at hs
    exact absurd this (Nat.not_lt.mpr hs)
  | some nn =>
    simp only []
    cases ha : isSlotAvailable nn ts n with
    | none => exact ⟨.idle nofun nofun, fun hb hn => (avail_no_fault nn ts n (hb nn (List.mem_of_getElem? hs)) hn ha).elim⟩
    | some b =>
      cases b with
      | false => exact ⟨.idle nofun nofun, fun _ _ => nofun⟩
      | true =>
        simp only []
        by_cases h2 : nn.nonce.length < n.length + 1
        · rw [if_pos h2]
          refine ⟨.idle nofun nofun, fun hb hn => ?_⟩
          have := hb nn (List.mem_of_getElem? hs)
          simp only [nonceBufSize, maxNonceLen] at *
          omega
        · rw [if_neg h2]; exact ⟨Or.inr (Or.inl ⟨nn, rfl, hs, by omega, rfl, rfl⟩), fun _ _ => nofun⟩

/-- the vetting sequence either refuses without touching the table or is `check_nonce_nc` with the time
    stamp the nonce carries -/
theorem present_walk (tbl : Table) (now tmo mx sl : Nat) (n : Bytes) (c : Nat) :
    (((present tbl now tmo mx sl n c).1 = tbl ∧ (present tbl now tmo mx sl n c).2 ≠ .added ∧
      (present tbl now tmo mx sl n c).2 ≠ .ok) ∨
     (∃ t, present tbl now tmo mx sl n c = step tbl (.check n t c))) ∧
    (BufOk tbl → (sl ≠ 0 ∨ n ≠ []) → (present tbl now tmo mx sl n c).2 ≠ .fault) := by
  unfold present
  simp only []
  generalize (if mx = 0 then defMaxNc else mx) = mx'
  generalize (if tmo = 0 then defTimeout else tmo) = tmo'
  by_cases h1 : c = 0
  · rw [if_pos h1]; exact ⟨Or.inl ⟨rfl, nofun, nofun⟩, fun _ _ => nofun⟩
  rw [if_neg h1]
  by_cases h2 : mx' ≠ 0 ∧ mx' < c
  · rw [if_pos h2]; exact ⟨Or.inl ⟨rfl, nofun, nofun⟩, fun _ _ => nofun⟩
  rw [if_neg h2]
  by_cases h3 : sl ≠ n.length
  · rw [if_pos h3]; exact ⟨Or.inl ⟨rfl, nofun, nofun⟩, fun _ _ => nofun⟩
  rw [if_neg h3]
  cases hts : getNonceTimestamp n n.length with
  | fault =>
    refine ⟨Or.inl ⟨rfl, nofun, nofun⟩, fun _ h0 => ?_⟩
    have hn0 : n.length ≠ 0 := fun hl =>
      h0.elim (fun h => h ((Decidable.not_not.mp h3).trans hl)) (fun h => h (List.eq_nil_of_length_eq_zero hl))
    exact (getTs_no_fault n n.length hn0 (Nat.le_refl _) hts).elim
  | invalid => exact ⟨Or.inl ⟨rfl, nofun, nofun⟩, fun _ _ => nofun⟩
  | ts t =>
    simp only []
    by_cases h4 : trim (sub64 now t) > (tmo' * 1000) % 2 ^ timeoutBits
    · rw [if_pos h4]; exact ⟨Or.inl ⟨rfl, nofun, nofun⟩, fun _ _ => nofun⟩
    · rw [if_neg h4]
      exact ⟨Or.inr ⟨t, rfl⟩, fun hb _ => mt (ofNc_fault _).mp ((check_walk tbl n t c).2 hb)⟩

theorem step_walk (tbl : Table) (o : Op) :
    Did tbl o.isAdd o.nonce o.count (step tbl o) ∧ (BufOk tbl → o.Safe → (step tbl o).2 ≠ .fault) := by
  cases o with
  | add ts n => exact ⟨(add_walk tbl ts n).1, fun hb ho => mt (ofAdd_fault _).mp ((add_walk tbl ts n).2 hb ho)⟩
  | check n t c => exact ⟨(check_walk tbl n t c).1, fun hb _ => mt (ofNc_fault _).mp ((check_walk tbl n t c).2 hb)⟩
  | present now tmo mx sl n c =>
    refine ⟨?_, (present_walk tbl now tmo mx sl n c).2⟩
    rcases (present_walk tbl now tmo mx sl n c).1 with ⟨h0, h1, h2⟩ | ⟨t, he⟩
    · exact Or.inl ⟨h0, fun _ => h1, fun _ => h2⟩
    · exact (show step tbl (.present now tmo mx sl n c) = _ from he) ▸ (check_walk tbl n t c).1

theorem writeNonce_length (buf n : Bytes) (h : n.length + 1 ≤ buf.length) :
    (writeNonce buf n).length = buf.length := by
  simp only [writeNonce, List.length_append, List.length_cons, List.length_drop]; omega

theorem BufOk.set {tbl : Table} (hb : BufOk tbl) (i : Nat) {nn' : Slot} (hl : nn'.nonce.length = nonceBufSize) :
    BufOk (tbl.set i nn') :=
  fun s hs => (List.mem_or_eq_of_mem_set hs).elim (hb s) fun e => e ▸ hl

/-- every step keeps the buffer sizes, whatever the operation: the alternatives of `Did` -/
theorem bufOk_step (tbl : Table) (o : Op) (hb : BufOk tbl) : BufOk (step tbl o).1 := by
  rcases (step_walk tbl o).1 with ⟨h1, _⟩ | ⟨nn, _, h2, h4, _, h6⟩ | ⟨nn, _, h2, _, _, _, _, h8⟩
  · rw [h1]; exact hb
  · rw [h6]; exact hb.set _ ((writeNonce_length _ _ h4).trans (hb nn (List.mem_of_getElem? h2)))
  · rw [h8]; exact hb.set _ (hb nn (List.mem_of_getElem? h2))

theorem bufOk_init (size : Nat) : BufOk (Table.init size) := fun _ h => List.eq_of_mem_replicate h ▸ rfl

/-- the slot buffer holds `m` followed by the terminating NUL -/
def Holds (nn : Slot) (m : Bytes) : Prop := ∃ rest, nn.nonce = m ++ 0 :: rest

theorem slotMatches_true (nn : Slot) (n : Bytes) (h : slotMatches nn n = some true) :
    nn.nonce[n.length]? = some 0 ∧ nn.nonce.take n.length = n := by
  unfold slotMatches at h
  split at h
  · cases h
  · rename_i z hz
    simp only [Option.some.injEq, decide_eq_true_eq] at h
    exact ⟨by rw [hz, h.2], h.1⟩

theorem matches_of_holds (nn : Slot) (n : Bytes) (h : Holds nn n) : slotMatches nn n = some true := by
  obtain ⟨rest, hr⟩ := h
  unfold slotMatches
  have h1 : nn.nonce[n.length]? = some 0 := by
    rw [hr]; simp
  rw [h1]
  simp only [Option.some.injEq, decide_eq_true_eq, and_true]
  rw [hr]; simp

theorem matches_unique (nn : Slot) (m n : Bytes) (hh : Holds nn m) (hm : NoNul m) (hn : NoNul n)
    (h : slotMatches nn n = some true) : n = m := by
  obtain ⟨rest, hr⟩ := hh
  obtain ⟨hz, ht⟩ := slotMatches_true nn n h
  rw [hr] at hz ht
  rcases Nat.lt_trichotomy n.length m.length with hlt | heq | hgt
  · exfalso
    rw [List.getElem?_append_left hlt] at hz
    have : m[n.length]'hlt = 0 := by
      rw [List.getElem?_eq_getElem hlt] at hz; exact Option.some.inj hz
    exact hm _ (List.getElem_mem hlt) this
  · rw [← ht, heq]; simp
  · exfalso
    have hlen : m.length < n.length := hgt
    have h0 : n[m.length]? = some 0 := by
      rw [← ht, List.getElem?_take, if_pos hlen]; simp
    rw [List.getElem?_eq_getElem hlen] at h0
    exact hn _ (List.getElem_mem hlen) (Option.some.inj h0)

theorem not_matches_empty (nn : Slot) (n : Bytes) (h0 : nn.nonce[0]? = some 0) (hn : NoNul n) (hne : n ≠ [])
    (h : slotMatches nn n = some true) : False := by
  obtain ⟨hz, ht⟩ := slotMatches_true nn n h
  cases n with
  | nil => exact hne rfl
  | cons a as =>
    have : (a :: as)[0]? = some 0 := by
      rw [← ht, List.getElem?_take, if_pos (by simp)]; exact h0
    simp at this
    exact hn a (by simp) this

/-- one slot against the abstract view of its history: the nonce registered last
    (`none`: never) and the counts accepted since -/
def SlotRel (nn : Slot) (la : Option Bytes) (us : List Nat) : Prop :=
  nn.nonce[nonceBufSize - 1]? = some 0 ∧ (∀ u ∈ us, u ≠ 0) ∧
  nn.nonce.length = nonceBufSize ∧ nn.nc < W32 ∧
  (la = none → nn.nonce[0]? = some 0) ∧
  (∀ m, la = some m → Holds nn m ∧ NoNul m ∧ m ≠ []) ∧
  WInv ⟨nn.nc, nn.nmask⟩ (fun c => c = 0 ∨ c ∈ us)

def TblRel (size : Nat) (tbl : Table) (h : List Ev) : Prop :=
  tbl.length = size ∧
  (∀ i m, lastAdd size h i = some m → i < size) ∧
  ∀ i nn, tbl[i]? = some nn → SlotRel nn (lastAdd size h i) (usedSince size h i)

theorem Ev.neutral {o : Op} {out : Out} (h2 : o.isAdd = true → out ≠ .added) (h3 : o.isAdd = false → out ≠ .ok) :
    (Ev.mk o out).isAdded = false ∧ (Ev.mk o out).isOk = false := by
  cases ha : o.isAdd
  · exact ⟨by simp [Ev.isAdded, ha], by simpa [Ev.isOk, ha] using h3 ha⟩
  · exact ⟨by simpa [Ev.isAdded, ha] using h2 ha, by simp [Ev.isOk, ha]⟩

theorem hist_neutral (size : Nat) (e : Ev) (h : List Ev) (i : Nat) (h1 : e.isAdded = false) (h2 : e.isOk = false) :
    lastAdd size (e :: h) i = lastAdd size h i ∧ usedSince size (e :: h) i = usedSince size h i := by
  simp [lastAdd, usedSince, h1, h2]

theorem hist_added (size : Nat) (e : Ev) (h : List Ev) (i : Nat) (h1 : e.isAdded = true) :
    lastAdd size (e :: h) i = (if slotIdx size e.op.nonce = i then some e.op.nonce else lastAdd size h i) ∧
    usedSince size (e :: h) i = (if slotIdx size e.op.nonce = i then [] else usedSince size h i) := by
  simp [lastAdd, usedSince, h1]

theorem hist_ok (size : Nat) (e : Ev) (h : List Ev) (i : Nat) (h1 : e.isAdded = false) (h2 : e.isOk = true) :
    lastAdd size (e :: h) i = lastAdd size h i ∧
    usedSince size (e :: h) i = (if slotIdx size e.op.nonce = i then e.op.count :: usedSince size h i else usedSince size h i) := by
  simp [lastAdd, usedSince, h1, h2]

theorem tblRel_init (size : Nat) : TblRel size (Table.init size) [] := by
  refine ⟨by simp [Table.init], ?_, ?_⟩
  · intro i m h; simp [lastAdd] at h
  · intro i nn h
    obtain rfl : nn = Slot.empty := List.eq_of_mem_replicate (List.mem_of_getElem? h)
    refine ⟨by simp [Slot.empty, nonceBufSize], (by intro u hu; simp [usedSince] at hu),
      by simp [Slot.empty], by simp [Slot.empty, W32_eq], ?_, ?_, ?_⟩
    · intro _; simp [Slot.empty, nonceBufSize]
    · intro m hm; simp [lastAdd] at hm
    · refine ⟨Or.inl rfl, Or.inl rfl, ?_, ?_⟩
      · intro n hn; rcases hn with hn | hn
        · simp [Slot.empty, hn]
        · simp [usedSince] at hn
      · intro i hi; simp [Slot.empty]


theorem ncGuard_eq : ncGuard = 4294967231 := by rfl

theorem writeNonce_last (buf n : Bytes) (hl : buf.length = nonceBufSize)
    (h0 : buf[nonceBufSize - 1]? = some 0) (hn : n.length + 1 ≤ buf.length) :
    (writeNonce buf n)[nonceBufSize - 1]? = some 0 := by
  simp only [nonceBufSize] at *
  unfold writeNonce
  rw [List.getElem?_append_right (by omega)]
  by_cases h : n.length = 76
  · rw [h]; simp
  · have : 77 - 1 - n.length = (77 - 1 - n.length - 1) + 1 := by omega
    rw [this, List.getElem?_cons_succ, List.getElem?_drop]
    have e : n.length + 1 + (77 - 1 - n.length - 1) = 77 - 1 := by omega
    rw [e]; exact h0

theorem WInv.fresh (us : List Nat) (h : us = []) : WInv ⟨0, 0#64⟩ (fun c => c = 0 ∨ c ∈ us) := by
  subst h
  refine ⟨Or.inl rfl, Or.inl rfl, ?_, ?_⟩
  · intro n hn; rcases hn with hn | hn
    · simp [hn]
    · simp at hn
  · intro i hi; simp

theorem hist_other (size : Nat) (e : Ev) (h : List Ev) (i : Nat) (hne : slotIdx size e.op.nonce ≠ i) :
    lastAdd size (e :: h) i = lastAdd size h i ∧ usedSince size (e :: h) i = usedSince size h i := by
  simp [lastAdd, usedSince, hne]

theorem SlotRel.window {nn : Slot} {la : Option Bytes} {us : List Nat} (hs : SlotRel nn la us) {c : Nat}
    (hc : c < ncGuard) :
    ((windowStep ⟨nn.nc, nn.nmask⟩ c).2 = true ↔ c ≠ 0 ∧ c ∉ us ∧ ∀ u ∈ us, u ≤ c + 64) ∧
    ((windowStep ⟨nn.nc, nn.nmask⟩ c).2 = true →
      SlotRel { nn with nc := (windowStep ⟨nn.nc, nn.nmask⟩ c).1.nc, nmask := (windowStep ⟨nn.nc, nn.nmask⟩ c).1.nmask }
        la (c :: us)) := by
  obtain ⟨g1, g2, g3, g4, g5, g6, g7⟩ := hs
  have hc' : c < W32 := by rw [W32_eq]; rw [ncGuard_eq] at hc; omega
  have hiff := window_ok_iff ⟨nn.nc, nn.nmask⟩ _ c g7 hc' g4
  simp only [not_or] at hiff
  have hiff' : (windowStep ⟨nn.nc, nn.nmask⟩ c).2 = true ↔ c ≠ 0 ∧ c ∉ us ∧ ∀ u ∈ us, u ≤ c + 64 := by
    rw [hiff]
    constructor
    · rintro ⟨⟨a, b⟩, hle⟩
      exact ⟨a, b, fun u hu => Nat.le_trans (g7.2.2.1 u (Or.inr hu)) hle⟩
    · rintro ⟨a, b, hwin⟩
      refine ⟨⟨a, b⟩, ?_⟩
      -- the highest count is 0 or one of the accepted ones
      rcases g7.2.1 with h0 | hmem
      · exact Nat.le_trans (Nat.le_of_eq h0) (Nat.zero_le _)
      · exact hwin _ hmem
  refine ⟨hiff', fun hok => ⟨g1, ?_, g3, windowStep_nc_lt ⟨nn.nc, nn.nmask⟩ c g4, g5, g6, ?_⟩⟩
  · intro u hu
    rcases List.mem_cons.mp hu with rfl | hu
    · exact (hiff'.mp hok).1
    · exact g2 u hu
  · refine WInv.congr _ _ _ (fun n => ?_) (window_refines ⟨nn.nc, nn.nmask⟩ _ c g7 hc' g4)
    simp only [hok, true_and, List.mem_cons, or_assoc, or_comm (a := n ∈ us)]

theorem SlotRel.write {nn : Slot} {la : Option Bytes} {us : List Nat} (hs : SlotRel nn la us) {n : Bytes}
    (hn : NoNul n) (hne : n ≠ []) (hfit : n.length + 1 ≤ nn.nonce.length) :
    SlotRel ⟨writeNonce nn.nonce n, 0, 0⟩ (some n) [] := by
  refine ⟨writeNonce_last _ _ hs.2.2.1 hs.1 hfit, fun _ hu => (by cases hu), (writeNonce_length _ _ hfit).trans hs.2.2.1,
    (by simp [W32_eq]), fun hh => (by cases hh), fun m hm => ?_, WInv.fresh [] rfl⟩
  cases hm
  exact ⟨⟨_, rfl⟩, hn, hne⟩

theorem SlotRel.matches_of {nn : Slot} {n : Bytes} {us : List Nat} (hs : SlotRel nn (some n) us) :
    slotMatches nn n = some true ∧ n.length ≤ maxNonceLen := by
  obtain ⟨k1, _, _⟩ := hs.2.2.2.2.2.1 n rfl
  refine ⟨matches_of_holds nn n k1, ?_⟩
  obtain ⟨rest, hrest⟩ := k1
  have := hs.2.2.1
  rw [hrest] at this
  simp only [List.length_append, List.length_cons, nonceBufSize, maxNonceLen] at this ⊢
  omega

theorem SlotRel.of_matches {nn : Slot} {la : Option Bytes} {us : List Nat} (hs : SlotRel nn la us) {n : Bytes}
    (hn : NoNul n) (hne : n ≠ []) (hm : slotMatches nn n = some true) : la = some n := by
  cases la with
  | none => exact (not_matches_empty nn n (hs.2.2.2.2.1 rfl) hn hne hm).elim
  | some m =>
    obtain ⟨k1, k2, _⟩ := hs.2.2.2.2.2.1 m rfl
    rw [matches_unique nn m n k1 k2 hn hm]

theorem SlotRel.not_matches {nn : Slot} {la : Option Bytes} {us : List Nat} (hs : SlotRel nn la us) {n : Bytes}
    (hn : NoNul n) (hne : n ≠ []) (hl : n.length ≤ maxNonceLen) (hla : la ≠ some n) : slotMatches nn n = some false := by
  obtain ⟨z, hz⟩ := getElem?_some_of_lt nn.nonce n.length
    (by have := hs.2.2.1; simp only [nonceBufSize, maxNonceLen] at *; omega)
  cases hm : slotMatches nn n with
  | none => unfold slotMatches at hm; rw [hz] at hm; cases hm
  | some b =>
    cases b with
    | false => rfl
    | true => exact (hla (hs.of_matches hn hne hm)).elim

theorem SlotRel.nc_eq_zero {nn : Slot} {la : Option Bytes} {us : List Nat} (hs : SlotRel nn la us) :
    nn.nc = 0 ↔ us = [] := by
  obtain ⟨_, hnz, _, _, _, _, hw⟩ := hs
  constructor
  · intro h0
    cases us with
    | nil => rfl
    | cons u us =>
      have h1 : u ≤ nn.nc := hw.2.2.1 u (Or.inr List.mem_cons_self)
      have := hnz u List.mem_cons_self
      omega
  · rintro rfl
    rcases hw.2.1 with h | h
    · exact h
    · cases h

theorem TblRel.of_slot {size : Nat} {tbl : Table} {h : List Ev} (hr : TblRel size tbl h) {n : Bytes} {nn : Slot}
    (hnn : tbl[slotIdx tbl.length n]? = some nn) :
    SlotRel nn (lastAdd size h (slotIdx size n)) (usedSince size h (slotIdx size n)) :=
  hr.1 ▸ hr.2.2 _ nn hnn

theorem TblRel.slot {size : Nat} {tbl : Table} {h : List Ev} (hr : TblRel size tbl h) (hsz : 0 < size) (n : Bytes) :
    ∃ nn, tbl[slotIdx tbl.length n]? = some nn ∧
      SlotRel nn (lastAdd size h (slotIdx size n)) (usedSince size h (slotIdx size n)) := by
  obtain ⟨nn, hnn⟩ := getElem?_some_of_lt tbl (slotIdx tbl.length n) (Nat.mod_lt _ (hr.1 ▸ hsz))
  exact ⟨nn, hnn, hr.of_slot hnn⟩

/-- frame rule: an event changes the abstract state of the slot of its own nonce only, so it is enough
    to re-establish `SlotRel` there -/
theorem TblRel.set {size : Nat} {tbl : Table} {h : List Ev} (hr : TblRel size tbl h) (e : Ev) {nn nn' : Slot}
    (hnn : tbl[slotIdx tbl.length e.op.nonce]? = some nn)
    (hs : SlotRel nn' (lastAdd size (e :: h) (slotIdx size e.op.nonce)) (usedSince size (e :: h) (slotIdx size e.op.nonce))) :
    TblRel size (tbl.set (slotIdx tbl.length e.op.nonce) nn') (e :: h) := by
  obtain ⟨hlen, hbound, hslots⟩ := hr
  have hi : slotIdx size e.op.nonce < size := hlen ▸ (List.getElem?_eq_some_iff.mp hnn).1
  refine ⟨by rw [List.length_set]; exact hlen, fun i m hm => ?_, fun i s hs' => ?_⟩
  · by_cases he : slotIdx size e.op.nonce = i
    · exact he ▸ hi
    · exact hbound i m ((hist_other size e h i he).1 ▸ hm)
  · rw [hlen, List.getElem?_set] at hs'
    by_cases he : slotIdx size e.op.nonce = i
    · rw [if_pos he, if_pos (by omega)] at hs'
      cases hs'
      exact he ▸ hs
    · rw [if_neg he] at hs'
      rw [(hist_other size e h i he).1, (hist_other size e h i he).2]
      exact hslots i s hs'

theorem tblRel_step (size : Nat) (tbl : Table) (h : List Ev) (o : Op) (hr : TblRel size tbl h) (ho : o.Wf) :
    TblRel size (step tbl o).1 (⟨o, (step tbl o).2⟩ :: h) := by
  rcases (step_walk tbl o).1 with ⟨h1, h2, h3⟩ | ⟨nn, h1, h2, h4, h5, h6⟩ | ⟨nn, h1, h2, _, h4, h6, h7, h8⟩
  · obtain ⟨e1, e2⟩ := Ev.neutral h2 h3
    rw [h1]
    refine ⟨hr.1, fun i m hm => hr.2.1 i m ((hist_neutral size _ h i e1 e2).1 ▸ hm), fun i nn hnn => ?_⟩
    rw [(hist_neutral size _ h i e1 e2).1, (hist_neutral size _ h i e1 e2).2]
    exact hr.2.2 i nn hnn
  · have hwf : NoNul o.nonce ∧ o.nonce ≠ [] := by
      cases o with
      | add ts n => exact ⟨ho.1, ho.2.1⟩
      | check n t c => cases h1
      | present a b c d e f => cases h1
    have hh := hist_added size ⟨o, (step tbl o).2⟩ h (slotIdx size o.nonce) (by simp [Ev.isAdded, h1, h5])
    rw [h6]
    refine hr.set ⟨o, _⟩ h2 ?_
    rw [hh.1, hh.2, if_pos rfl, if_pos rfl]
    exact (hr.of_slot h2).write hwf.1 hwf.2 h4
  · have hh := hist_ok size ⟨o, (step tbl o).2⟩ h (slotIdx size o.nonce) (by simp [Ev.isAdded, h1])
      (by simp [Ev.isOk, h1, h7])
    rw [h8]
    refine hr.set ⟨o, _⟩ h2 ?_
    rw [hh.1, hh.2, if_pos rfl]
    exact ((hr.of_slot h2).window h4).2 h6

theorem ok_facts (size : Nat) (tbl : Table) (h : List Ev) (o : Op) (hr : TblRel size tbl h)
    (hadd : o.isAdd = false) (hok : (step tbl o).2 = .ok) :
    o.count ≠ 0 ∧ o.count < ncGuard ∧ o.count ∉ usedSince size h (slotIdx size o.nonce) ∧
    (∀ u ∈ usedSince size h (slotIdx size o.nonce), u ≤ o.count + 64) ∧
    (NoNul o.nonce → o.nonce ≠ [] → lastAdd size h (slotIdx size o.nonce) = some o.nonce) := by
  rcases (step_walk tbl o).1 with ⟨_, _, h3⟩ | ⟨nn, h1, _⟩ | ⟨nn, h1, h2, h3, h4, h6, h7, h8⟩
  · exact (h3 hadd hok).elim
  · rw [hadd] at h1; cases h1
  · obtain ⟨f1, f2, f3⟩ := ((hr.of_slot h2).window h4).1.mp h6
    exact ⟨f1, h4, f2, f3, fun hn hne => (hr.of_slot h2).of_matches hn hne h3⟩

theorem complete_of_rel (size : Nat) (tbl : Table) (h : List Ev) (n : Bytes) (t c : Nat)
    (hr : TblRel size tbl h) (hla : lastAdd size h (slotIdx size n) = some n)
    (hc0 : c ≠ 0) (hcg : c < ncGuard) (hnew : c ∉ usedSince size h (slotIdx size n))
    (hwin : ∀ u ∈ usedSince size h (slotIdx size n), u ≤ c + 64) :
    (checkNonceNc tbl n t c).2 = .ok := by
  obtain ⟨nn, hnn, hs⟩ := hr.slot (Nat.zero_lt_of_lt (hr.2.1 _ _ hla)) n
  have hw := (hs.window hcg).1.mpr ⟨hc0, hnew, hwin⟩
  rw [hla] at hs
  have hne : tbl.length ≠ 0 := Nat.ne_zero_of_lt (List.getElem?_eq_some_iff.mp hnn).1
  unfold checkNonceNc
  rw [if_neg (by have := hs.matches_of.2; omega), if_neg hne, if_neg (by omega)]
  simp only [hnn, hs.matches_of.1, hw, if_true]

/-- a property of table and history that every admissible step keeps holds along every run of admissible
    operations from any state that has it -/
theorem runH_induct {J : Table → List Ev → Prop} {S : Op → Prop}
    (hJ : ∀ tbl h o, J tbl h → S o → J (step tbl o).1 (⟨o, (step tbl o).2⟩ :: h))
    (ops : List Op) : ∀ (tbl : Table) (h : List Ev), J tbl h → (∀ o ∈ ops, S o) →
      J (runH tbl h ops).1 (runH tbl h ops).2 := by
  induction ops with
  | nil => intro tbl h hj _; exact hj
  | cons o os ih =>
    intro tbl h hj hs
    exact ih _ _ (hJ tbl h o hj (hs o List.mem_cons_self)) fun o' ho' => hs o' (List.mem_cons_of_mem _ ho')

theorem runH_append (l1 l2 : List Op) : ∀ (tbl : Table) (h : List Ev),
    runH tbl h (l1 ++ l2) = runH (runH tbl h l1).1 (runH tbl h l1).2 l2 := by
  induction l1 with
  | nil => intro tbl h; rfl
  | cons o os ih => intro tbl h; simp only [List.cons_append, runH]; exact ih _ _

theorem run_snoc (size : Nat) (ops : List Op) (o : Op) :
    run size (ops ++ [o]) = ((step (run size ops).1 o).1, ⟨o, (step (run size ops).1 o).2⟩ :: (run size ops).2) := by
  unfold run
  rw [runH_append]
  rfl

/-- every NUL-free nonce: accepted at most as often as registered, and strictly less
    often while it is registered and the count is still unused -/
def CntInv (size : Nat) (h : List Ev) : Prop :=
  ∀ n, NoNul n → n ≠ [] → ∀ c,
    okCount h n c ≤ addCount h n ∧
    (lastAdd size h (slotIdx size n) = some n → c ≠ 0 → c ∉ usedSince size h (slotIdx size n) →
      okCount h n c < addCount h n)

theorem okCount_cons (e : Ev) (h : List Ev) (n : Bytes) (c : Nat) :
    okCount (e :: h) n c = okCount h n c + (if e.isOk = true ∧ e.op.nonce = n ∧ e.op.count = c then 1 else 0) := by
  simp only [okCount, List.filter_cons]
  by_cases h1 : e.isOk = true <;> by_cases h2 : e.op.nonce = n <;> by_cases h3 : e.op.count = c <;> simp [h1, h2, h3]

theorem addCount_cons (e : Ev) (h : List Ev) (n : Bytes) :
    addCount (e :: h) n = addCount h n + (if e.isAdded = true ∧ e.op.nonce = n then 1 else 0) := by
  simp only [addCount, List.filter_cons]
  by_cases h1 : e.isAdded = true <;> by_cases h2 : e.op.nonce = n <;> simp [h1, h2]

theorem isOk_not_isAdded (e : Ev) (h : e.isOk = true) : e.isAdded = false := by
  simp only [Ev.isOk, Ev.isAdded, Bool.and_eq_true, Bool.not_eq_true', beq_iff_eq] at *
  simp [h.1]

theorem cnt_step (size : Nat) (tbl : Table) (h : List Ev) (o : Op) (hr : TblRel size tbl h)
    (hc : CntInv size h) : CntInv size (⟨o, (step tbl o).2⟩ :: h) := by
  intro n hn hne c
  obtain ⟨c1, c2⟩ := hc n hn hne c
  rw [okCount_cons, addCount_cons]
  cases hok : (Ev.mk o (step tbl o).2).isOk
  · cases hadd : (Ev.mk o (step tbl o).2).isAdded
    · rw [(hist_neutral size _ h _ hadd hok).1, (hist_neutral size _ h _ hadd hok).2]
      simp only [Bool.false_eq_true, false_and, if_false, Nat.add_zero]
      exact ⟨c1, c2⟩
    · rw [(hist_added size _ h _ hadd).1, (hist_added size _ h _ hadd).2]
      simp only [Bool.false_eq_true, false_and, if_false, Nat.add_zero, true_and]
      by_cases he : o.nonce = n
      · rw [if_pos he]
        exact ⟨by omega, fun _ _ _ => by omega⟩
      · rw [if_neg he]
        refine ⟨c1, ?_⟩
        by_cases hs : slotIdx size o.nonce = slotIdx size n
        · rw [if_pos hs]
          intro hh; exact absurd (Option.some.inj hh) he
        · rw [if_neg hs, if_neg hs]; exact c2
  · have hadd := isOk_not_isAdded _ hok
    have hisadd : o.isAdd = false := by
      simp only [Ev.isOk, Bool.and_eq_true, Bool.not_eq_true'] at hok; exact hok.1
    have hout : (step tbl o).2 = .ok := by
      simp only [Ev.isOk, Bool.and_eq_true, beq_iff_eq] at hok; exact hok.2
    obtain ⟨f1, f2, f3, f4, f5⟩ := ok_facts size tbl h o hr hisadd hout
    rw [(hist_ok size _ h _ hadd hok).1, (hist_ok size _ h _ hadd hok).2, hadd]
    simp only [Bool.false_eq_true, false_and, if_false, Nat.add_zero, true_and]
    by_cases he : o.nonce = n ∧ o.count = c
    · rw [if_pos he]
      obtain ⟨e1, e2⟩ := he
      subst e1; subst e2
      have := c2 (f5 hn hne) f1 f3
      refine ⟨by omega, ?_⟩
      rw [if_pos rfl]
      intro _ _ hmem; exact absurd (List.mem_cons_self) hmem
    · rw [if_neg he]
      refine ⟨c1, ?_⟩
      intro hla hc0 hmem
      refine c2 hla hc0 ?_
      by_cases hs : slotIdx size o.nonce = slotIdx size n
      · rw [if_pos hs] at hmem
        intro hin; exact hmem (List.mem_cons_of_mem _ hin)
      · rw [if_neg hs] at hmem; exact hmem

theorem cnt_init (size : Nat) : CntInv size [] := by
  intro n _ _ c
  simp [okCount, addCount, lastAdd]

theorem lastAdd_addCount (size : Nat) (h : List Ev) (i : Nat) (n : Bytes) (hl : lastAdd size h i = some n) :
    0 < addCount h n := by
  induction h with
  | nil => simp [lastAdd] at hl
  | cons e h ih =>
    rw [addCount_cons]
    simp only [lastAdd] at hl
    split at hl
    · rename_i hc
      have : e.op.nonce = n := Option.some.inj hl
      rw [if_pos ⟨hc.1, this⟩]; omega
    · have := ih hl; omega

theorem run_rel (size : Nat) (ops : List Op) (hwf : ∀ o ∈ ops, o.Wf) :
    TblRel size (run size ops).1 (run size ops).2 :=
  runH_induct (tblRel_step size) ops _ _ (tblRel_init size) hwf

theorem run_cnt (size : Nat) (ops : List Op) (hwf : ∀ o ∈ ops, o.Wf) : CntInv size (run size ops).2 :=
  (runH_induct (J := fun tbl h => TblRel size tbl h ∧ CntInv size h)
    (fun tbl h o hj ho => ⟨tblRel_step size tbl h o hj.1 ho, cnt_step size tbl h o hj.1 hj.2⟩) ops _ _
    ⟨tblRel_init size, cnt_init size⟩ hwf).2

/-- from any table with the right buffer sizes, a run of safe operations never reads outside a buffer; neither the
    refinement nor the well-formedness of registered nonces is needed -/
theorem run_no_fault (ops : List Op) (tbl : Table) (h : List Ev) (hb : BufOk tbl) (hh : ∀ e ∈ h, e.out ≠ .fault)
    (hs : ∀ o ∈ ops, o.Safe) : ∀ e ∈ (runH tbl h ops).2, e.out ≠ .fault :=
  (runH_induct (J := fun tbl h => BufOk tbl ∧ ∀ e ∈ h, e.out ≠ .fault)
    (fun tbl h o hj ho => ⟨bufOk_step tbl o hj.1, fun e he =>
      (List.mem_cons.mp he).elim (fun e' => e' ▸ (step_walk tbl o).2 hj.1 ho) (hj.2 e)⟩) ops tbl h ⟨hb, hh⟩ hs).2

end Mhd.Nonce
