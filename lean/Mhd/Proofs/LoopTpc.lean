/-
  C06 — proofs: thread-per-connection (Mhd.Model.LoopTpc).

  No lost wake-up and progress for the loop of thread_main_handle_connection, under the same laws
  of the abstract per-connection step as the select / poll / epoll loops (`Laws`, `ProgLaws`).
-/
import Mhd.Model.LoopTpc
import Mhd.Proofs.LoopProgress
namespace Mhd.Loop
open Mhd.Gen.Loop
variable {W : Type}

theorem socketWait_spec (wb : Bool) (c : Conn W) :
    (c.loc.eli = .cleanup ∧ socketWait wb c = none) ∨
    (∃ b, socketWait wb c = some b ∧ b.onItc = false ∧
      (c.loc.eli.hasProcess = true → b.wait = .zero) ∧
      (b.wait = .forever → c.loc.eli.hasProcess = false) ∧
      (c.loc.eli.hasRead = true → b.r = true) ∧ (c.loc.eli.isWrite = true → b.w = true)) := by
  have hw : ∀ e : Eli, ∀ w : TWait,
      w = (if e.hasProcess then TWait.zero else if c.tmo > 0 then TWait.deadline
           else if wb && e.isWrite then TWait.bounded1000 else TWait.forever) →
      (e.hasProcess = true → w = .zero) ∧ (w = .forever → e.hasProcess = false) := by
    intro e w hw
    subst hw
    cases hp : e.hasProcess
    · by_cases ht : c.tmo > 0
      · simp [ht]
      · cases (wb && e.isWrite) <;> simp [ht]
    · simp
  unfold socketWait
  cases h : c.loc.eli
  case cleanup => left; exact ⟨rfl, rfl⟩
  all_goals
    right
    refine ⟨_, rfl, rfl, ?_⟩
    simp only []
    have := hw c.loc.eli _ (by rw [h])
    rw [h] at this
    refine ⟨this.1, this.2, ?_, ?_⟩ <;> intro hp <;> first | trivial | exact absurd hp (by decide)

/-- what the connection's thread relies on between two iterations:
    `sync`   — an active connection that is past the post-resume idle call is in sync;
    `marked` — (only for a loop that marks early) a suspended connection is known to be suspended. -/
structure TInv (needs : Local W → Bool) (early : Bool) (t : TState W) : Prop where
  sync : t.wh = .active → t.wasSuspended = false → Sync needs t.c
  marked : early = true → t.wh = .susp → t.wasSuspended = true

/-- the daemon thread may process a resume now without the connection's thread missing it -/
def Noticed (early : Bool) (t : TState W) : Prop := early = true ∨ (t.wh = .susp → t.wasSuspended = true)

section
variable {ops : Ops W} {needs : Local W → Bool}

/-- the state and the blocking call the thread reaches from the loop head (loop with the re-check) -/
structure HeadOK (needs : Local W → Bool) (t1 : TState W) (b : TBlock) : Prop where
  susp : t1.wh = .susp → b = suspendedWait ∧ t1.wasSuspended = true
  sock : t1.wh ≠ .susp → socketWait t1.selBounded t1.c = some b
  sync : t1.wh = .active → Sync needs t1.c

theorem tpcExit_none (ops : Ops W) (t : TState W) : (tpcExit ops t).2 = none := by
  unfold tpcExit; split <;> rfl

theorem tpcExit_ne_some (ops : Ops W) (t t1 : TState W) (b : TBlock) : tpcExit ops t ≠ (t1, some b) := by
  intro h
  have := tpcExit_none ops t
  rw [h] at this; cases this

theorem tpcHead_ok (L : Laws ops needs) (early : Bool) {t : TState W} (h : TInv needs early t)
    {t1 : TState W} {b : TBlock} (hb : tpcHeadWith ops true early t = (t1, some b)) : HeadOK needs t1 b := by
  unfold tpcHeadWith at hb
  by_cases hc : t.c.loc.st = stClosed
  · rw [if_pos hc] at hb
    have := tpcExit_none ops t
    rw [hb] at this; cases this
  rw [if_neg hc] at hb
  by_cases hs : t.wh = .susp
  · rw [if_pos hs] at hb
    cases hb
    exact ⟨fun _ => ⟨rfl, rfl⟩, fun hn => absurd hs hn, fun ha => by rw [show ({ t with wasSuspended := true } : TState W).wh = t.wh from rfl, hs] at ha; cases ha⟩
  rw [if_neg hs] at hb
  cases hws : t.wasSuspended
  · simp only [hws, Bool.false_eq_true, if_false] at hb
    cases hb' : socketWait t.selBounded t.c with
    | none => rw [hb'] at hb; cases hb
    | some b' =>
      rw [hb'] at hb; cases hb
      exact ⟨fun e => absurd e hs, fun _ => hb', fun ha => h.sync ha hws⟩
  · simp only [hws, if_true] at hb
    generalize hsd : doIdle ops false { c := t.c, wh := t.wh, evs := [] } = s at hb
    by_cases hr : s.wh = .susp
    · simp only [hr, Bool.true_and, decide_true, if_true] at hb
      by_cases hc2 : s.c.loc.st = stClosed
      · rw [if_pos hc2] at hb
        exact absurd hb (tpcExit_ne_some ops _ _ _)
      · rw [if_neg hc2] at hb
        cases hb
        exact ⟨fun _ => ⟨rfl, rfl⟩, fun hn => absurd rfl hn, fun ha => by cases ha⟩
    · simp only [hr, decide_false, Bool.and_false, Bool.false_eq_true, if_false] at hb
      cases hb' : socketWait t.selBounded s.c with
      | none => rw [hb'] at hb; cases hb
      | some b' =>
        rw [hb'] at hb; cases hb
        exact ⟨fun e => absurd e hr, fun _ => hb', fun ha =>
          hsd ▸ IdlePost.doIdle (Q := fun l => needs l = true → l.eli.hasProcess = true) L.idle_sync false _ (hsd ▸ ha)⟩

theorem tpcTail_inv (L : Laws ops needs) (early : Bool) {t1 : TState W} (h : TInv needs early t1) (b : TBlock) (rr wr er : Bool) :
    TInv needs early (tpcTailWith ops early t1 b rr wr er) := by
  unfold tpcTailWith
  cases b.onItc
  · simp only [Bool.false_eq_true, if_false]
    refine ⟨fun ha _ => chLocal_sync L false t1.c t1.wh rr wr er ha, fun he hs => ?_⟩
    have hs' : (chLocal ops false t1.c t1.wh rr wr er).wh = .susp := hs
    show (t1.wasSuspended || (early && decide ((chLocal ops false t1.c t1.wh rr wr er).wh = .susp))) = true
    simp [he, hs']
  · simpa using h

theorem tpcIter_inv (L : Laws ops needs) (early : Bool) {t t' : TState W} (h : TInv needs early t) {rr wr er : Bool}
    (hi : tpcIterWith ops true early t rr wr er = some t') : TInv needs early t' := by
  unfold tpcIterWith at hi
  generalize hh : tpcHeadWith ops true early t = r at hi
  obtain ⟨t1, ob⟩ := r
  cases ob with
  | none => simp at hi
  | some b =>
    simp only [Option.some.injEq] at hi
    rw [← hi]
    have H := tpcHead_ok L early h hh
    exact tpcTail_inv L early ⟨fun ha _ => H.sync ha, fun _ hs => (H.susp hs).2⟩ b rr wr er

theorem tpcResumed_inv (early : Bool) {t : TState W} (h : TInv needs early t) (hn : Noticed early t) :
    TInv needs early (tpcResumed t) := by
  unfold tpcResumed
  by_cases hs : t.wh = .susp
  · rw [if_pos hs]
    have hws : t.wasSuspended = true := by
      rcases hn with he | hn
      · exact h.marked he hs
      · exact hn hs
    refine ⟨fun _ hf => ?_, fun _ hx => ?_⟩
    · have hf' : t.wasSuspended = false := hf
      rw [hws] at hf'; cases hf'
    · cases hx
  · rw [if_neg hs]; exact h

/-- states of a connection's thread reachable from its creation by iterations with arbitrary readiness and by
    resumes the daemon thread processes — at any moment if the loop marks early, else only once the thread has
    noticed the suspension -/
inductive TReach (ops : Ops W) (needs : Local W → Bool) (early : Bool) : TState W → Prop where
  | init (c : Conn W) (h : Sync needs c) : TReach ops needs early { c := c, wh := .active }
  | iter {t t' : TState W} (rr wr er : Bool) : TReach ops needs early t → tpcIterWith ops true early t rr wr er = some t' →
      TReach ops needs early t'
  | resumed {t : TState W} : TReach ops needs early t → Noticed early t → TReach ops needs early (tpcResumed t)

theorem treach_inv (L : Laws ops needs) {early : Bool} {t : TState W} (h : TReach ops needs early t) : TInv needs early t := by
  induction h with
  | init c hc => exact ⟨fun _ _ => hc, fun _ hs => by cases hs⟩
  | iter rr wr er _ hi ih => exact tpcIter_inv L early ih hi
  | resumed _ hn ih => exact tpcResumed_inv early ih hn

/-- **No lost wake-up, thread-per-connection.** -/
theorem no_lost_wakeup_tpc (L : Laws ops needs) (early : Bool) {t : TState W} (h : TInv needs early t)
    {t1 : TState W} {b : TBlock} (hb : tpcHeadWith ops true early t = (t1, some b)) :
    (t1.wh = .susp → b = suspendedWait) ∧
    (t1.wh = .active → b.onItc = false ∧ (needs t1.c.loc = true → b.wait = .zero) ∧
        (t1.c.loc.eli.hasRead = true → b.r = true) ∧ (t1.c.loc.eli.isWrite = true → b.w = true)) ∧
    (b.wait = .forever → t1.wh ≠ .susp ∧ (t1.wh = .active → needs t1.c.loc = false)) := by
  have H := tpcHead_ok L early h hb
  have key : t1.wh ≠ .susp → b.onItc = false ∧ (t1.c.loc.eli.hasProcess = true → b.wait = .zero) ∧
      (b.wait = .forever → t1.c.loc.eli.hasProcess = false) ∧
      (t1.c.loc.eli.hasRead = true → b.r = true) ∧ (t1.c.loc.eli.isWrite = true → b.w = true) := by
    intro hn
    have hsw := H.sock hn
    rcases socketWait_spec t1.selBounded t1.c with ⟨_, e⟩ | ⟨b', e, h1, h2, h4, h6, h7⟩
    · rw [e] at hsw; cases hsw
    · rw [e] at hsw; cases hsw
      exact ⟨h1, h2, h4, h6, h7⟩
  refine ⟨fun hs => (H.susp hs).1, fun ha => ?_, fun hf => ?_⟩
  · have hn : t1.wh ≠ .susp := by rw [ha]; decide
    obtain ⟨k1, k2, _, k4, k5⟩ := key hn
    exact ⟨k1, fun hnd => k2 (H.sync ha hnd), k4, k5⟩
  · have hn : t1.wh ≠ .susp := by
      intro hs
      rw [(H.susp hs).1] at hf
      cases hf
    refine ⟨hn, fun ha => ?_⟩
    have := (key hn).2.2.1 hf
    cases hnd : needs t1.c.loc with
    | false => rfl
    | true => rw [H.sync ha hnd] at this; cases this

/-- a resumed connection is passed through handle_idle before its thread blocks again -/
theorem tpc_resumed_idles (recheck early : Bool) {t : TState W} (hc : t.c.loc.st ≠ stClosed) (hw : t.wh ≠ .susp)
    (hs : t.wasSuspended = true) :
    ∃ evs, (tpcHeadWith ops recheck early t).1.log = evs ++ t.log ∧ Ev.idle t.c.id ∈ evs := by
  unfold tpcHeadWith
  rw [if_neg hc, if_neg hw]
  simp only [hs, if_true]
  split
  · split
    · unfold tpcExit
      split
      · exact ⟨[Ev.idle t.c.id], rfl, List.mem_cons_self⟩
      · exact ⟨[Ev.idle (doIdle ops false { c := t.c, wh := t.wh, evs := [] }).c.id, Ev.idle t.c.id], rfl, by simp⟩
    · exact ⟨[Ev.idle t.c.id], rfl, List.mem_cons_self⟩
  · exact ⟨[Ev.idle t.c.id], rfl, List.mem_cons_self⟩

variable {awaiting : Local W → Bool} {replies rank : Local W → Nat}

theorem tpc_progress_iter (L : Laws ops needs) (PL : ProgLaws ops awaiting replies rank) (recheck early : Bool) {t : TState W}
    (hw : t.wh = .active) (hs : t.wasSuspended = false) (ha : awaiting t.c.loc = true)
    (he : t.c.loc.eli = .process ∨ t.c.loc.eli = .write) (rr wr : Bool) (hfair : t.c.loc.eli = .write → wr = true) :
    match tpcIterWith ops recheck early t rr wr false with
    | none => True
    | some t' => t'.wh ≠ .active ∨ replies t.c.loc < replies t'.c.loc ∨
        (awaiting t'.c.loc = true ∧ replies t'.c.loc = replies t.c.loc ∧ rank t'.c.loc < rank t.c.loc ∧
          (t'.c.loc.eli = .process ∨ t'.c.loc.eli = .write) ∧ t'.wasSuspended = false) := by
  unfold tpcIterWith tpcHeadWith
  by_cases hc : t.c.loc.st = stClosed
  · rw [if_pos hc]
    have := tpcExit_none ops t
    generalize tpcExit ops t = r at this
    obtain ⟨r1, r2⟩ := r
    simp only at this
    subst this
    trivial
  rw [if_neg hc, if_neg (by rw [hw]; decide)]
  simp only [hs, Bool.false_eq_true, if_false]
  rcases socketWait_spec t.selBounded t.c with ⟨e, _⟩ | ⟨b, e, hb, _⟩
  · rcases he with h | h <;> rw [h] at e <;> cases e
  · rw [e]
    show _ ∨ _ ∨ _
    unfold tpcTailWith
    simp only [hb, Bool.false_eq_true, if_false]
    have P := chLocal_progress L PL t.c rr wr ha he hfair
    rw [hw]
    rcases P with P | P | ⟨p1, p2, p3, p4⟩
    · exact Or.inl P
    · exact Or.inr (Or.inl P)
    · by_cases hact : (chLocal ops false t.c .active rr wr false).wh = .active
      · refine Or.inr (Or.inr ⟨p1, p2, p3, p4, ?_⟩)
        show (t.wasSuspended || (early && decide ((chLocal ops false t.c .active rr wr false).wh = .susp))) = false
        simp [hs, hact]
      · exact Or.inl hact

/-- what can happen to a connection's thread -/
inductive TStep where
  | iter (rr wr er : Bool)     -- its blocking call returns with this readiness of the socket
  | resumed                    -- the daemon thread processes a resume of this connection
  deriving Repr, DecidableEq

def tpcStep (ops : Ops W) (recheck early : Bool) (t : TState W) : TStep → Option (TState W)
  | .iter rr wr er => tpcIterWith ops recheck early t rr wr er
  | .resumed => some (tpcResumed t)

/-- `none` = the thread has left the loop (the connection is closed) -/
def tpcRun (ops : Ops W) (recheck early : Bool) : TState W → List TStep → Option (TState W)
  | t, [] => some t
  | t, s :: H => match tpcStep ops recheck early t s with
    | none => none
    | some t' => tpcRun ops recheck early t' H

def nIters : List TStep → Nat
  | [] => 0
  | .iter _ _ _ :: H => nIters H + 1
  | .resumed :: H => nIters H

/-- fair for this connection: whenever its thread's blocking call returns, the socket is reported writable if the
    connection waits for writability, and no socket error is reported -/
def TFair (ops : Ops W) (recheck early : Bool) : TState W → List TStep → Prop
  | _, [] => True
  | t, .resumed :: H => TFair ops recheck early (tpcResumed t) H
  | t, .iter rr wr er :: H => ((t.c.loc.eli = .write → wr = true) ∧ er = false) ∧
      ∀ t', tpcIterWith ops recheck early t rr wr er = some t' → TFair ops recheck early t' H

theorem tpc_progress_run (L : Laws ops needs) (PL : ProgLaws ops awaiting replies rank) (recheck early : Bool) :
    ∀ (H : List TStep) (t : TState W), t.wh = .active → t.wasSuspended = false → awaiting t.c.loc = true →
      (t.c.loc.eli = .process ∨ t.c.loc.eli = .write) → TFair ops recheck early t H → rank t.c.loc < nIters H →
      ∃ H1 H2, H = H1 ++ H2 ∧
        match tpcRun ops recheck early t H1 with
        | none => True
        | some t' => t'.wh ≠ .active ∨ replies t.c.loc < replies t'.c.loc := by
  intro H
  induction H with
  | nil => intro t _ _ _ _ _ hr; simp [nIters] at hr
  | cons st H' ih =>
    intro t hw hs ha he hf hr
    cases st with
    | resumed =>
      have hid : tpcResumed t = t := by unfold tpcResumed; rw [if_neg (by rw [hw]; decide)]
      simp only [TFair, hid] at hf
      obtain ⟨H1, H2, e, hh⟩ := ih t hw hs ha he hf (by simpa [nIters] using hr)
      refine ⟨.resumed :: H1, H2, by rw [e]; rfl, ?_⟩
      simpa [tpcRun, tpcStep, hid] using hh
    | iter rr wr er =>
      obtain ⟨⟨hfw, hfe⟩, hf'⟩ := hf
      subst hfe
      have P := tpc_progress_iter L PL recheck early hw hs ha he rr wr hfw
      cases hi : tpcIterWith ops recheck early t rr wr false with
      | none => exact ⟨[.iter rr wr false], H', rfl, by simp [tpcRun, tpcStep, hi]⟩
      | some t' =>
        rw [hi] at P
        -- either the history may be cut after this iteration, or the induction hypothesis applies to the rest
        by_cases hdone : t'.wh ≠ .active ∨ replies t.c.loc < replies t'.c.loc
        · exact ⟨[.iter rr wr false], H', rfl, by simpa only [tpcRun, tpcStep, hi] using hdone⟩
        · rcases P with P | P | ⟨p1, p2, p3, p4, p5⟩
          · exact absurd (Or.inl P) hdone
          · exact absurd (Or.inr P) hdone
          · have hact : t'.wh = .active := Decidable.of_not_not fun h => hdone (Or.inl h)
            have hr' : rank t'.c.loc < nIters H' := by simp only [nIters] at hr; omega
            obtain ⟨H1, H2, e, hh⟩ := ih t' hact p5 p1 p4 (hf' t' hi) hr'
            refine ⟨.iter rr wr false :: H1, H2, by rw [e]; rfl, ?_⟩
            simp only [tpcRun, tpcStep, hi]
            rwa [p2] at hh

end

/-- a cycle that calls resume_suspended_connections resumes every connection marked by MHD_resume_connection -/
theorem tpcDaemonCycle_resumes {ths : List (TThread W)} {th : TThread W} (hm : th ∈ ths) (hr : th.resuming = true) :
    ({ t := tpcResumed th.t, resuming := false } : TThread W) ∈ tpcDaemonCycleWith true ths := by
  unfold tpcDaemonCycleWith
  simp only [if_true]
  exact List.mem_map.mpr ⟨th, hm, by simp [hr]⟩

theorem tpcResumed_active {t : TState W} (h : t.wh = .susp) : (tpcResumed t).wh = .active := by
  unfold tpcResumed; rw [if_pos h]

theorem tpcIter_suspended (ops : Ops W) (recheck early : Bool) {t : TState W} (hs : t.wh = .susp) (hc : t.c.loc.st ≠ stClosed)
    (rr wr er : Bool) : tpcIterWith ops recheck early t rr wr er = some { t with wasSuspended := true } := by
  unfold tpcIterWith tpcHeadWith
  rw [if_neg hc, if_pos hs]
  rfl

/-- one round of a daemon whose thread does not call resume_suspended_connections: the connection's thread runs an
    iteration (its bounded wait expired), the daemon thread runs a cycle -/
def tpcDeafRound (ops : Ops W) (recheck early : Bool) (th : TThread W) : TThread W :=
  match tpcIterWith ops recheck early th.t false false false with
  | some t' => (tpcDaemonCycleWith false [{ th with t := t' }]).headD th
  | none => th

def tpcDeafRounds (ops : Ops W) (recheck early : Bool) : Nat → TThread W → TThread W
  | 0, th => th
  | n + 1, th => tpcDeafRounds ops recheck early n (tpcDeafRound ops recheck early th)

/-! a lawful instance of the abstract step for the thread-per-connection witnesses: `w` = "the application has
    a reply ready for this connection".  The access handler suspends the connection in the idle calls number 1
    and (if `again`) number 2 of the connection; once resumed, the next idle call queues the reply (WRITE). -/
namespace TpcWitness

def ops (again : Bool) : Ops Bool where
  read := fun _ _ f l => if f then { l with st := stClosed, eli := .cleanup } else l
  write := fun _ _ l => l
  close := fun _ _ l => l
  idle := fun _ k wh l =>
    if l.st = stClosed then (l, .cleanup)
    else if wh = .active then
      if k = 1 ∨ (again = true ∧ k = 2) then ({ l with w := true }, .susp)     -- suspended: the wait state stays stale
      else if l.w then ({ l with eli := .write, w := false }, wh)
      else (l, wh)
    else (l, wh)

/-- work that needs no network input: a reply is ready, or the connection is in a PROCESS state -/
def needs (l : Local Bool) : Bool := l.w || l.eli.hasProcess

theorem laws (again : Bool) : Laws (ops again) needs where
  idle_sync := by
    intro id k wh l
    simp only [ops]
    by_cases h1 : l.st = stClosed
    · rw [if_pos h1]; intro h; cases h
    rw [if_neg h1]
    by_cases h2 : wh = .active
    · rw [if_pos h2]
      by_cases h3 : k = 1 ∨ (again = true ∧ k = 2)
      · rw [if_pos h3]; intro h; cases h
      rw [if_neg h3]
      by_cases h4 : l.w = true
      · rw [if_pos h4]; intro _ hn; simp only [needs, Bool.false_or] at hn; exact absurd hn (by decide)
      · rw [if_neg h4]; intro _ hn; exact ((Bool.or_eq_true _ _).mp hn).resolve_left h4
    · rw [if_neg h2]; intro h; exact absurd h h2
  idle_closed := by intro id k l h; simp only [ops, if_pos h]
  read_force := fun _ _ _ => rfl
  idle_where := by
    intro id k wh l h
    simp only [ops, if_neg h]
    by_cases h1 : l.st = stClosed
    · rw [if_pos h1]; exact fun e => nomatch e
    · rw [if_neg h1]; exact h

def c0 : Conn Bool := { id := 0, loc := { st := stInit, eli := .read, rdReady := false, wrReady := false, bufSpace := true, w := false } }
def t0 : TState Bool := { c := c0, wh := .active }

end TpcWitness
end Mhd.Loop
