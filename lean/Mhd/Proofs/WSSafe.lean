/-
  C19, part (iv) of the property: no fault / invariant kept / progress for one loop trip
  (`iter_ok`); what one decode call promises (`CallOK`).  What follows the `while` loop is the loop
  without input: `trip` is a loop trip, or with nothing left to read the pending trip that needs
  none (`silent`), `trip_ok` holds for both, and `tail` takes such trips until nothing is pending
  (`tail_step`, `tail_quiet`).  A freshly initialised stream satisfies the invariant (`init_inv`).
-/
import Mhd.Proofs.WSPayload
namespace Mhd.WS

theorem iter_start (ws : WS) (b : UInt8) (rest : List UInt8) (hs : ws.step = 0) :
    iter false ws (b :: rest) = stepStart ws b := by
  unfold iter; rw [hs]; rfl

theorem iter_len1 (ws : WS) (b : UInt8) (rest : List UInt8) (hs : ws.step = 1) :
    iter false ws (b :: rest) = stepLen1 ws b := by
  unfold iter; rw [hs]; rfl

theorem iter_len2of2 (ws : WS) (b : UInt8) (rest : List UInt8) (hs : ws.step = 3) :
    iter false ws (b :: rest) = stepLen2of2 ws b := by
  unfold iter; rw [hs]; rfl

theorem iter_len8of8 (ws : WS) (b : UInt8) (rest : List UInt8) (hs : ws.step = 11) :
    iter false ws (b :: rest) = stepLen8of8 ws b := by
  unfold iter; rw [hs]; rfl

theorem iter_mask4 (ws : WS) (b : UInt8) (rest : List UInt8) (hs : ws.step = 15) :
    iter false ws (b :: rest) = stepMask4 ws b := by
  unfold iter; rw [hs]; rfl

theorem iter_store (ws : WS) (b : UInt8) (rest : List UInt8)
    (hs : ws.step = 2 ∨ (4 ≤ ws.step ∧ ws.step ≤ 10) ∨ (12 ≤ ws.step ∧ ws.step ≤ 14)) :
    iter false ws (b :: rest) = stepStore ws b := by
  have : ws.step = 2 ∨ ws.step = 4 ∨ ws.step = 5 ∨ ws.step = 6 ∨ ws.step = 7 ∨ ws.step = 8 ∨ ws.step = 9 ∨
      ws.step = 10 ∨ ws.step = 12 ∨ ws.step = 13 ∨ ws.step = 14 := by omega
  unfold iter
  rcases this with h | h | h | h | h | h | h | h | h | h | h <;> rw [h] <;> rfl

/-- `case MHD_WebSocket_DecodeStep_HeaderCompleted`: `decode_header_complete` as a loop trip -/
def hcTrip (ws : WS) : R :=
  match headerComplete false ws with
  | .cont ws' _ => .cont ws' 0
  | r => r

theorem iter_hc (ws : WS) (b : UInt8) (rest : List UInt8) (hs : ws.step = 16) :
    iter false ws (b :: rest) = hcTrip ws := by
  unfold iter; rw [hs]; rfl

theorem iter_payload (ws : WS) (rest : List UInt8) (hne : rest ≠ []) (hs : ws.step = 17 ∨ ws.step = 18) :
    iter false ws rest = stepPayload false ws rest := by
  unfold iter
  cases rest with
  | nil => exact absurd rfl hne
  | cons b r => rcases hs with h | h <;> simp only [h]

theorem iter_broken (ws : WS) (b : UInt8) (rest : List UInt8) (hs : ws.step = 99) :
    iter false ws (b :: rest) = .ret ws (-2) 0 none 0 := by
  unfold iter; rw [hs]; rfl

/-- it consumes nothing, and at most one more silent trip (`decode_payload_complete` of an empty
    payload) can follow -/
theorem hcTrip_ok {ws : WS} (h : Inv ws) (hv : ws.validity ≠ 0) (hs : ws.step = 16) (n : Nat) :
    R.OK ws n (hcTrip ws) := by
  unfold hcTrip
  have h2 : sil ws = 2 := by unfold sil; rw [if_pos hs]
  have := headerComplete_ok h hv hs
  revert this
  cases headerComplete false ws with
  | cont ws' k =>
    intro ⟨hi, hv', hst⟩
    refine ⟨hi, hv', Nat.zero_le _, ?_⟩
    have h1 : sil ws' ≤ 1 := by
      unfold sil; rw [if_neg (by omega)]; split <;> omega
    omega
  | ret ws' st k pl plen =>
    intro hc
    refine ⟨hc.1, by have := hc.2.1; omega, hc.2.2.1, fun h0 => ?_⟩
    obtain ⟨hst, hv'⟩ := hc.2.2.2 h0
    exact ⟨sil_of_step0 hst, hv', fun hq => by omega⟩
  | fault s => exact id

theorem Inv.stepCases {ws : WS} (h : Inv ws) :
    ws.step = 0 ∨ ws.step = 1 ∨ ws.step = 3 ∨ ws.step = 11 ∨ ws.step = 15 ∨ ws.step = 16 ∨
      (ws.step = 17 ∨ ws.step = 18) ∨ ws.step = 99 ∨
      (ws.step = 2 ∨ (4 ≤ ws.step ∧ ws.step ≤ 10) ∨ (12 ≤ ws.step ∧ ws.step ≤ 14)) := by
  have := h.stepOk; omega

theorem iter_ok {ws : WS} (h : Inv ws) (hv : ws.validity ≠ 0) (rest : List UInt8) (hn : 1 ≤ rest.length) :
    R.OK ws rest.length (iter false ws rest) := by
  match rest, hn with
  | b :: r, hn =>
    rcases h.stepCases with hs | hs | hs | hs | hs | hs | hs | hs | hs
    · rw [iter_start _ _ _ hs]; exact stepStart_ok h hv hs b hn
    · rw [iter_len1 _ _ _ hs]; exact stepLen1_ok h hv hs b hn
    · rw [iter_len2of2 _ _ _ hs]; exact stepLen2of2_ok h hv hs b hn
    · rw [iter_len8of8 _ _ _ hs]; exact stepLen8of8_ok h hv hs b hn
    · rw [iter_mask4 _ _ _ hs]; exact stepMask4_ok h hv hs b hn
    · rw [iter_hc _ _ _ hs]; exact hcTrip_ok h hv hs _
    · rw [iter_payload _ _ (by simp) hs]; exact stepPayload_ok h hv hs (b :: r) hn
    · rw [iter_broken _ _ _ hs]; exact ⟨fun _ => h, Nat.zero_le _, rfl, fun h0 => by omega⟩
    · rw [iter_store _ _ _ hs]; exact stepStore_ok h hv hs b hn

/-- what one decode call promises to its caller -/
structure CallOK (n : Nat) (ws' : WS) (st : Int) (rd : Nat) (pl : Option (List UInt8)) (plen : Nat) : Prop where
  inv : ws'.validity ≠ 0 → Inv ws'
  rd : rd ≤ n
  pl : PlOK pl plen
  quiet : 0 ≤ st → sil ws' = 0 ∧ ws'.validity ≠ 0

/-- the loop trip that needs no input (`sil ws ≠ 0`): `decode_header_complete`, or
    `decode_payload_complete` of a payload that is complete.  The code performs it inside the
    `while` loop while input remains and after the loop when not. -/
def silent (ws : WS) : R := if ws.step = 16 then hcTrip ws else payloadFinish false 0 ws

def trip (ws : WS) (rest : List UInt8) : R := if rest = [] then silent ws else iter false ws rest

theorem trip_ne {ws : WS} {rest : List UInt8} (h : rest ≠ []) : trip ws rest = iter false ws rest := if_neg h

theorem sil_ne {ws : WS} (hq : sil ws ≠ 0) (h16 : ws.step ≠ 16) :
    (ws.step = 17 ∨ ws.step = 18) ∧ ws.payloadSize = ws.payloadIndex :=
  Decidable.by_contra fun c => hq (by unfold sil; rw [if_neg h16, if_neg c])

theorem iter_silent {ws : WS} (hq : sil ws ≠ 0) {rest : List UInt8} (hne : rest ≠ []) :
    iter false ws rest = silent ws := by
  unfold silent
  cases rest with
  | nil => exact absurd rfl hne
  | cons b r =>
    by_cases h16 : ws.step = 16
    · rw [if_pos h16, iter_hc _ _ _ h16]
    · obtain ⟨hs, he⟩ := sil_ne hq h16
      rw [if_neg h16, iter_payload _ _ hne hs]
      unfold stepPayload
      simp only [he, Nat.add_sub_cancel_left, Nat.mod_self, Nat.zero_min, ne_eq, not_true_eq_false, if_false]

theorem trip_silent {ws : WS} (hq : sil ws ≠ 0) (rest : List UInt8) : trip ws rest = silent ws := by
  by_cases hr : rest = []
  · exact if_pos hr
  · rw [trip_ne hr, iter_silent hq hr]

theorem trip_ok {ws : WS} (h : Inv ws) (hv : ws.validity ≠ 0) (rest : List UInt8) (hg : rest ≠ [] ∨ sil ws ≠ 0) :
    R.OK ws rest.length (trip ws rest) := by
  unfold trip
  by_cases hr : rest = []
  · have hq := hg.resolve_left (fun c => c hr)
    rw [if_pos hr]
    unfold silent
    by_cases h16 : ws.step = 16
    · rw [if_pos h16]; exact hcTrip_ok h hv h16 _
    · obtain ⟨hs, he⟩ := sil_ne hq h16
      rw [if_neg h16]
      exact payloadFinish_ok h hv hs (Nat.zero_le _) (.inr ⟨by unfold sil; rw [if_neg h16, if_pos ⟨hs, he⟩], he⟩)
  · rw [if_neg hr]; exact iter_ok h hv rest (List.length_pos_iff.mpr hr)

theorem tail_quiet {ws : WS} (hq : sil ws = 0) (cur : Nat) : tail false ws cur = .ret ws 0 cur none 0 := by
  have h16 : ws.step ≠ 16 := fun h => by unfold sil at hq; rw [if_pos h] at hq; omega
  have hc : ¬ ((ws.step = 17 ∨ ws.step = 18) ∧ ws.payloadSize = ws.payloadIndex) := fun h => by
    unfold sil at hq; rw [if_neg h16, if_pos h] at hq; omega
  unfold tail
  rw [if_neg h16]
  unfold tailAfter
  rw [if_neg hc]

/-- **what follows the `while` loop is the loop without input**: the pending silent trip, then
    again what follows the loop -/
theorem tail_step {ws : WS} (h : Inv ws) (hv : ws.validity ≠ 0) (hq : sil ws ≠ 0) (cur : Nat) :
    tail false ws cur = match silent ws with
      | .cont ws' k => tail false ws' (cur + k)
      | .ret ws' st k pl plen => .ret ws' st (cur + k) pl plen
      | .fault s => .fault s := by
  unfold silent
  by_cases h16 : ws.step = 16
  · have hhc := headerComplete_ok h hv h16
    rw [if_pos h16]
    unfold tail hcTrip
    rw [if_pos h16]
    revert hhc
    cases headerComplete false ws with
    | cont ws' k =>
      intro ⟨_, _, hst⟩
      have hst : ws'.step = 17 ∨ ws'.step = 18 := hst
      show tailAfter false ws' cur = tail false ws' cur
      unfold tail; rw [if_neg (by omega)]
    | ret ws' st k pl plen => intro hc; rw [hc.2.1]; rfl
    | fault s => intro _; rfl
  · obtain ⟨hs, he⟩ := sil_ne hq h16
    have hpc := payloadComplete_ok h hv hs he
    rw [if_neg h16]
    unfold tail payloadFinish
    rw [if_neg h16, if_pos he]
    unfold tailAfter
    rw [if_pos ⟨hs, he⟩]
    revert hpc
    cases payloadComplete false ws with
    | cont ws' k => intro ⟨_, _, hst⟩; exact (tail_quiet (sil_of_step0 hst) cur).symm
    | ret ws' st k pl plen => intro _; rfl
    | fault s => intro _; rfl

/-- a state between two decode calls of a live session: invariant + nothing pending that
    does not need input -/
def Ready (ws : WS) : Prop := ws.validity ≠ 0 → (Inv ws ∧ sil ws = 0)

theorem init_inv (flags maxPayload allocLimit : Nat) (ws : WS) (ha : allocLimit < 2 ^ 63)
    (h : WS.init flags maxPayload allocLimit = some ws) : Inv ws ∧ sil ws = 0 ∧ ws.validity = 1 := by
  unfold WS.init at h
  split at h
  · exact absurd h (by simp)
  · injection h with h
    subst h
    refine ⟨?_, rfl, rfl⟩
    exact {
      allocLt := ha
      hdrLen := by simp
      stepOk := by simp
      hsU := by simp
      hsS := by simp
      hsL := by intro h1; simp only [] at h1; omega
      hs1 := by intro h1; simp only [] at h1; omega
      h0 := by intro h1; simp only [] at h1; omega
      h0c := by intro h1; simp only [] at h1; omega
      h0n := by intro h1; simp only [] at h1; omega
      psz := by simp
      idx := by simp
      idx0 := fun _ => rfl
      dsz := by simp
      dbuf := rfl
      dst := by intro h1; simp only [] at h1; omega
      cbuf := by intro h1; simp only [] at h1; omega
      u8a := fun _ => rfl
      u8b := by simp
      carry := by intro h1; simp only [] at h1; omega }

end Mhd.WS
