/-
  Symbolic execution of the header-section scanner, for the round trip of the field lines
  (C02 clause b): what one loop iteration does on each class of input (`hsStep_*`, and the
  equations of `onFieldWsp`, `onFieldChar`, `onLineEnd`), runs over a name and over whitespace
  (`Steps`), the relation `Parsed` between the states before and after one field line, and what a
  finished header section owes (`Finished`).  `Parsed.finish` puts a line in front of a finished
  section; that the strings of the line read the same in the final buffer is `run_stable`.
  `HSP.BufIs` below is the same definition as `RLP.BufIs` (`ReqBuf`), under the name the field-line
  statements use.
-/
import Mhd.Proofs.ReqStable
import Mhd.Model.ReqHead
namespace Mhd.Req
namespace HSP
open Mhd.Gen

/-- a character that is neither a line end, nor whitespace, nor NUL -/
def plain (c : UInt8) : Prop := c ≠ cCR ∧ c ≠ cLF ∧ c ≠ cSP ∧ c ≠ cHT ∧ c ≠ 0

/-- line end: CRLF, or a bare LF where the level treats it as CRLF -/
def FEol (F : FLFlags) (e : List UInt8) : Prop := e = [cCR, cLF] ∨ (e = [cLF] ∧ F.bareLfAsCrlf = true)

/-- the bytes `w` are in the buffer at absolute offset `off` -/
def BufIs (buf : Bytes) (off : Nat) (w : List UInt8) : Prop := ∀ i, i < w.length → buf[off + i]? = w[i]?

/-- bytes of the buffer at the current position -/
def At (s : HS) (w : List UInt8) : Prop := ∀ i, i < w.length → s.buf[s.rb + s.p + i]? = w[i]?

theorem BufIs.set {buf : Bytes} {off : Nat} {w : List UInt8} (h : BufIs buf off w) (j : Nat) (v : UInt8)
    (hj : j < off ∨ off + w.length ≤ j) : BufIs (buf.setIfInBounds j v) off w :=
  RLP.BufIs.set h j v hj

theorem BufIs.at {s : HS} {w : List UInt8} (h : BufIs s.buf (s.rb + s.p) w) : At s w := h

theorem At.head {s : HS} {c : UInt8} {w : List UInt8} (h : At s (c :: w)) : s.buf[s.rb + s.p]? = some c :=
  h 0 (Nat.zero_lt_succ _)

theorem At.tail {s : HS} {c : UInt8} {w : List UInt8} (h : At s (c :: w)) (s' : HS) (hb : s'.buf = s.buf)
    (hr : s'.rb = s.rb) (hp : s'.p = s.p + 1) : At s' w := by
  intro i hi
  rw [hb, hr, hp, show s.rb + (s.p + 1) + i = s.rb + s.p + (i + 1) by omega]
  exact h (i + 1) (Nat.succ_lt_succ hi)

theorem ws_beq {c : UInt8} (hw : c = cSP ∨ c = cHT) :
    (c == cCR) = false ∧ (c == cLF) = false ∧ (c == cSP || c == cHT) = true := by
  cases hw <;> (subst_vars; decide)

theorem hsStep_wsp (F : FLFlags) (fs : Nat) (s : HS) {c : UInt8} (hc : s.buf[s.rb + s.p]? = some c)
    (hw : c = cSP ∨ c = cHT) : hsStep F fs s = onFieldWsp F s := by
  obtain ⟨b1, b2, b3⟩ := ws_beq hw
  unfold hsStep
  rw [hc]
  simp only [b1, b2, b3, Bool.false_eq_true, ↓reduceIte]

theorem hsStep_plain (F : FLFlags) (fs : Nat) (s : HS) {c : UInt8} (hc : s.buf[s.rb + s.p]? = some c)
    (hp : plain c) : hsStep F fs s = onFieldChar F s c := by
  obtain ⟨h1, h2, h3, h4, h5⟩ := hp
  unfold hsStep
  rw [hc]
  simp only [beq_eq_false_iff_ne.mpr h1, beq_eq_false_iff_ne.mpr h2, beq_eq_false_iff_ne.mpr h3,
    beq_eq_false_iff_ne.mpr h4, beq_eq_false_iff_ne.mpr h5, Bool.false_eq_true, ↓reduceIte, Bool.or_self]

theorem hsStep_nul (F : FLFlags) (fs : Nat) (s : HS) (hc : s.buf[s.rb + s.p]? = some 0) (hF : F.nulAsSp = true) :
    hsStep F fs s = onFieldWsp F { s with buf := s.buf.setIfInBounds (s.rb + s.p) cSP } := by
  unfold hsStep
  rw [hc]
  simp only [show ((0 : UInt8) == cCR) = false from rfl, show ((0 : UInt8) == cLF) = false from rfl,
    show ((0 : UInt8) == cSP || (0 : UInt8) == cHT) = false from rfl, hF, beq_self_eq_true, Bool.false_eq_true,
    ↓reduceIte, Bool.not_true]
  rw [wr_in (get_some_lt hc)]

theorem hsStep_bareCr (F : FLFlags) (fs : Nat) (s : HS) {d : UInt8} (hc : s.buf[s.rb + s.p]? = some cCR)
    (hn : s.buf[s.rb + s.p + 1]? = some d) (hd : d ≠ cLF) (hsz : s.rb + s.p + 2 < s.buf.size) :
    hsStep F fs s =
      if F.bareCrAsSp then
        onFieldWsp F { s with buf := s.buf.setIfInBounds (s.rb + s.p) cSP, crSp := s.crSp + 1 }
      else if !F.bareCrKeep then HS.err .bareCR else onFieldChar F s cCR := by
  unfold hsStep
  rw [hc]
  have hf : decide (s.p + 2 ≥ s.fill) = false ∧ decide (s.p + 2 > s.fill) = false := by
    simp [HS.fill]; omega
  simp only [beq_self_eq_true, ↓reduceIte, hf.1, hf.2, Bool.and_false, Bool.or_self, Bool.false_eq_true, hn,
    beq_eq_false_iff_ne.mpr hd]
  rw [wr_in (by omega)]

/-- the condition on the size is the one under which the C code does not wait for more data: the
    byte behind a non-empty line must have arrived (it decides about folding) -/
theorem hsStep_eol (F : FLFlags) (fs : Nat) (s : HS) {e : List UInt8} (he : FEol F e) (hat : At s e)
    (hsz : s.p ≠ 0 → s.rb + s.p + e.length < s.buf.size) :
    hsStep F fs s = handleFieldEol F s (e.headD cLF) fs := by
  rcases he with rfl | ⟨rfl, hL⟩
  · have c0 : s.buf[s.rb + s.p]? = some cCR := hat 0 (by decide)
    have c1 : s.buf[s.rb + s.p + 1]? = some cLF := hat 1 (by decide)
    have h1 := get_some_lt c1
    unfold hsStep
    rw [c0]
    have hf : (s.p != 0 && decide (s.p + 2 ≥ s.fill) || s.p == 0 && decide (s.p + 2 > s.fill)) = false := by
      by_cases hp : s.p = 0
      · simp [hp, HS.fill]; omega
      · have := hsz hp
        simp [hp, HS.fill] at this ⊢; omega
    simp only [beq_self_eq_true, ↓reduceIte, hf, Bool.false_eq_true, c1, List.headD_cons]
  · have c0 : s.buf[s.rb + s.p]? = some cLF := hat 0 (by decide)
    unfold hsStep
    rw [c0]
    have hf : (s.p != 0 && decide (s.p + 1 ≥ s.fill)) = false := by
      by_cases hp : s.p = 0
      · simp [hp]
      · have := hsz hp
        simp [hp, HS.fill] at this ⊢; omega
    simp only [show (cLF == cCR) = false from rfl, beq_self_eq_true, ↓reduceIte, hf, hL, Bool.false_eq_true,
      List.headD_cons]

theorem FEol.lineLen {F : FLFlags} {e : List UInt8} (he : FEol F e) :
    (if (e.headD cLF == cCR) = true then 2 else 1) = e.length := by
  rcases he with rfl | ⟨rfl, _⟩ <;> rfl

theorem onFieldWsp_adv (F : FLFlags) (s : HS) (hp : s.p ≠ 0)
    (h : s.nameEndFound = true ∨ F.allowWspBeforeColon = true) :
    onFieldWsp F s = .advance { s with wsStart := if (s.wsStart == 0) = true then s.p else s.wsStart, p := s.p + 1 } := by
  unfold onFieldWsp
  rw [if_neg (by simpa using hp)]
  rcases h with h | h
  · rw [if_neg (by simp [h])]
  · split
    · rw [if_pos (by simp [h])]
    · rfl

theorem onFieldChar_name (F : FLFlags) (s : HS) {c : UInt8} (hcol : c ≠ 58) (h1 : s.nameEndFound = false)
    (h2 : s.startsWithWs = false) (h3 : s.wsStart = 0) :
    onFieldChar F s c = .advance { s with p := s.p + 1 } := by
  unfold onFieldChar
  simp only [h1, h2, h3, beq_eq_false_iff_ne.mpr hcol, Bool.not_false, Bool.and_self, ↓reduceIte, Bool.false_eq_true,
    bne_self_eq_false]

/-- the state in which the name, `n` bytes long, has been terminated in place; `p` is the position behind the colon -/
def named (s : HS) (n p : Nat) : HS :=
  { s with buf := s.buf.setIfInBounds (s.rb + n) 0, nameLen := n, wsStart := 0, nameEndFound := true, p := p }

/-- `n` is where the name ends: at the colon, or at the whitespace before it -/
theorem onFieldChar_colon (F : FLFlags) (s : HS) (n : Nat) (h1 : s.nameEndFound = false) (h2 : s.startsWithWs = false)
    (hn : n = if s.wsStart = 0 then s.p else s.wsStart) (hF : s.wsStart ≠ 0 → F.allowWspBeforeColon = true)
    (hn0 : n ≠ 0) (hb : s.rb + n < s.buf.size) :
    onFieldChar F s 58 = .advance (named s n (s.p + 1)) := by
  unfold onFieldChar named
  simp only [h1, h2, Bool.not_false, Bool.and_self, ↓reduceIte, beq_self_eq_true]
  by_cases hw : s.wsStart = 0
  · rw [if_pos hw] at hn
    subst hn
    simp only [hw, beq_self_eq_true, ↓reduceIte, beq_eq_false_iff_ne.mpr hn0, Bool.false_and, Bool.false_eq_true]
    rw [wr_in hb]
  · rw [if_neg hw] at hn
    subst hn
    simp only [beq_eq_false_iff_ne.mpr hw, hF hw, Bool.false_eq_true, ↓reduceIte, Bool.not_true, Bool.false_and]
    rw [wr_in hb]

theorem onFieldChar_value (F : FLFlags) (s : HS) (c : UInt8) (h1 : s.nameEndFound = true) :
    onFieldChar F s c =
      .advance { s with valueStart := if (s.valueStart == 0) = true then s.p else s.valueStart, wsStart := 0,
                        p := s.p + 1 } := by
  unfold onFieldChar
  simp only [h1, Bool.not_true, Bool.false_and, Bool.false_eq_true, ↓reduceIte]

/-- where the value of a complete field line lies, relative to `read_buffer`: the position of
    its terminating NUL, its start, its length (trailing whitespace is cut off) -/
def valueSpan (s : HS) : Nat × Nat × Nat :=
  if s.valueStart = 0 then (s.p, s.p, 0)
  else if s.wsStart ≠ 0 then (s.wsStart, s.valueStart, s.wsStart - s.valueStart)
  else (s.p, s.valueStart, s.p - s.valueStart)

theorem onLineEnd_field (F : FLFlags) (s : HS) (lineLen : Nat) (h1 : s.nameEndFound = true)
    (h2 : s.startsWithWs = false) (hw : s.wsStart ≤ s.p) (hb : s.rb + s.p < s.buf.size) :
    onLineEnd F s lineLen =
      .advance ({ ({ s with buf := s.buf.setIfInBounds (s.rb + (valueSpan s).1) 0 }.consume lineLen).resetLine with
        elems := s.elems ++ [⟨Http.kindHeader, ⟨0, s.rb, s.nameLen⟩,
                              some ⟨0, s.rb + (valueSpan s).2.1, (valueSpan s).2.2⟩⟩] }) := by
  unfold onLineEnd valueSpan
  simp only [h1, h2, Bool.false_eq_true, ↓reduceIte, Bool.not_true]
  by_cases hv : s.valueStart = 0
  · simp only [hv, beq_self_eq_true, ↓reduceIte]
    rw [wr_in hb]
  · simp only [hv, beq_eq_false_iff_ne.mpr hv, Bool.false_eq_true, ↓reduceIte]
    by_cases hz : s.wsStart = 0
    · simp only [hz, bne_self_eq_false, Bool.false_eq_true, ↓reduceIte, ne_eq, not_true_eq_false]
      rw [wr_in hb]
    · simp only [bne_iff_ne, ne_eq, hz, not_false_eq_true, ↓reduceIte]
      rw [wr_in (by omega)]

theorem hsStep_lineEnd (F : FLFlags) (fs : Nat) (s : HS) {e : List UInt8} {d : UInt8} (he : FEol F e)
    (hat : At s (e ++ [d])) (hd : d ≠ cSP ∧ d ≠ cHT) (hp : s.p ≠ 0) :
    hsStep F fs s = onLineEnd F s (s.p + e.length) := by
  have hdd : s.buf[s.rb + (s.p + e.length)]? = some d := by
    rw [← Nat.add_assoc]; exact (RLP.BufIs.right hat).head
  have hlt := get_some_lt hdd
  rw [hsStep_eol F fs s he (RLP.BufIs.left hat) (fun _ => by omega)]
  unfold handleFieldEol
  simp only [he.lineLen, beq_eq_false_iff_ne.mpr hp, Bool.false_eq_true, ↓reduceIte, hdd, beq_eq_false_iff_ne.mpr hd.1,
    beq_eq_false_iff_ne.mpr hd.2, Bool.or_self]

theorem hsStep_emptyLine (F : FLFlags) (fs : Nat) (s : HS) {e : List UInt8} (he : FEol F e) (hat : At s e)
    (hp : s.p = 0) : hsStep F fs s = finishHeaders (s.consume e.length) fs := by
  rw [hsStep_eol F fs s he hat (fun h => absurd hp h)]
  unfold handleFieldEol
  simp only [he.lineLen, hp, beq_self_eq_true, ↓reduceIte, Nat.zero_add]

/-- an obs-fold: the bytes of the line end are overwritten with spaces and the first of them is
    processed as whitespace -/
theorem hsStep_fold (F : FLFlags) (fs : Nat) (s : HS) {e : List UInt8} {w : UInt8} (he : FEol F e)
    (hat : At s (e ++ [w])) (hw : w = cSP ∨ w = cHT) (hp : s.p ≠ 0) (h1 : s.nameEndFound = true)
    (hF : F.allowFolded = true) :
    ∃ b, hsStep F fs s =
        .advance { s with buf := b, wsStart := if (s.wsStart == 0) = true then s.p else s.wsStart, p := s.p + 1 } ∧
      WritesIn (s.rb + s.p) (s.rb + s.p + e.length) s.buf b ∧
      RLP.BufIs b (s.rb + s.p) (List.replicate e.length cSP ++ [w]) := by
  have hww : s.buf[s.rb + (s.p + e.length)]? = some w := by
    rw [← Nat.add_assoc]; exact (RLP.BufIs.right hat).head
  have hlt := get_some_lt hww
  rw [hsStep_eol F fs s he (RLP.BufIs.left hat) (fun _ => by omega)]
  unfold handleFieldEol
  simp only [he.lineLen, beq_eq_false_iff_ne.mpr hp, Bool.false_eq_true, ↓reduceIte, hww, (ws_beq hw).2.2, hF,
    Bool.not_true]
  rw [wr_in (by omega)]
  rcases he with rfl | ⟨rfl, _⟩
  · simp only [List.length_cons, List.length_nil, Nat.zero_add, Nat.reduceAdd] at hlt hww
    rw [if_pos (by rfl), wr_in (by simp only [Array.size_setIfInBounds]; omega)]
    refine ⟨_, onFieldWsp_adv F { s with buf := (s.buf.setIfInBounds (s.rb + s.p) cSP).setIfInBounds (s.rb + s.p + 1) cSP }
      hp (.inl h1), ((WritesIn.refl _ _ _).set _ _ (by omega) (by simp)).set _ _ (by omega) (by simp),
      .cons ?_ (.cons ?_ (.cons ?_ (fun _ hi => nomatch hi)))⟩
    · rw [Array.getElem?_setIfInBounds_ne (by omega), Array.getElem?_setIfInBounds_self_of_lt (by omega)]
    · exact Array.getElem?_setIfInBounds_self_of_lt (by simp only [Array.size_setIfInBounds]; omega)
    · rw [Array.getElem?_setIfInBounds_ne (by omega), Array.getElem?_setIfInBounds_ne (by omega), Nat.add_assoc,
        Nat.add_assoc, hww]
  · simp only [List.length_cons, List.length_nil, Nat.zero_add] at hlt hww
    rw [if_neg (by decide)]
    refine ⟨_, onFieldWsp_adv F { s with buf := s.buf.setIfInBounds (s.rb + s.p) cSP } hp (.inl h1),
      (WritesIn.refl _ _ _).set _ _ (by omega) (by simp), .cons ?_ (.cons ?_ (fun _ hi => nomatch hi))⟩
    · exact Array.getElem?_setIfInBounds_self_of_lt (by omega)
    · rw [Array.getElem?_setIfInBounds_ne (by omega), Nat.add_assoc, hww]

/-- the run from `s` passes through `s'`, and both layers of the invariant hold there too -/
abbrev Steps (F : FLFlags) (fs : Nat) : HS → HS → Prop := Scanner.Reaches (hsScanner F fs) Good

theorem Steps.step {F : FLFlags} {fs : Nat} {s s' : HS} (hs : hsStep F fs s = .advance s') : Steps F fs s s' :=
  Scanner.Reaches.step (hsLaws F fs) (fun _ h => h.i1)
    (fun hi => ⟨((hsStep_ok F fs s hi.i1).adv s' hs).1, (hsStep_inv2 F fs s hi.i1 hi.i2).1 s' hs⟩) hs

theorem run_name (F : FLFlags) (fs : Nat) (w : List UInt8) (s : HS) (p' : Nat) (hat : At s w)
    (hw : ∀ c ∈ w, plain c ∧ c ≠ 58) (h1 : s.nameEndFound = false) (h2 : s.startsWithWs = false) (h3 : s.wsStart = 0)
    (hp : p' = s.p + w.length) : Steps F fs s { s with p := p' } := by
  induction w generalizing s with
  | nil => rw [hp]; exact Scanner.Reaches.refl s
  | cons c w ih =>
    have hc := hw c List.mem_cons_self
    exact (Steps.step ((hsStep_plain F fs s hat.head hc.1).trans (onFieldChar_name F s hc.2 h1 h2 h3))).trans
      (ih { s with p := s.p + 1 } (hat.tail _ rfl rfl rfl) (fun c' hc' => hw c' (List.mem_cons_of_mem _ hc')) h1 h2 h3
        (by rw [hp, List.length_cons]; show s.p + (w.length + 1) = s.p + 1 + w.length; omega))

/-- how the scanner tracks the start of the value and the start of trailing whitespace over
    the bytes behind the name -/
def vsFold (vs ws p : Nat) : List UInt8 → Nat × Nat
  | [] => (vs, ws)
  | c :: cs =>
    if c = cSP ∨ c = cHT then vsFold vs (if (ws == 0) = true then p else ws) (p + 1) cs
    else vsFold (if (vs == 0) = true then p else vs) 0 (p + 1) cs

/-- the state after the bytes `w` behind the name, each either whitespace or part of the value -/
def afterValue (s : HS) (w : List UInt8) : HS :=
  let r := vsFold s.valueStart s.wsStart s.p w
  { s with valueStart := r.fst, wsStart := r.snd, p := s.p + w.length }

theorem afterValue_ws (s : HS) {c : UInt8} (w : List UInt8) (hc : c = cSP ∨ c = cHT) :
    afterValue s (c :: w) =
      afterValue { s with wsStart := if (s.wsStart == 0) = true then s.p else s.wsStart, p := s.p + 1 } w := by
  simp only [afterValue, vsFold, hc, ↓reduceIte, List.length_cons]
  rw [show s.p + (w.length + 1) = s.p + 1 + w.length by omega]

theorem afterValue_ch (s : HS) {c : UInt8} (w : List UInt8) (hc : ¬ (c = cSP ∨ c = cHT)) :
    afterValue s (c :: w) =
      afterValue { s with valueStart := if (s.valueStart == 0) = true then s.p else s.valueStart, wsStart := 0,
                          p := s.p + 1 } w := by
  simp only [afterValue, vsFold, hc, ↓reduceIte, List.length_cons]
  rw [show s.p + (w.length + 1) = s.p + 1 + w.length by omega]

theorem run_wsp (F : FLFlags) (fs : Nat) (w : List UInt8) (s : HS) (hat : At s w)
    (hw : ∀ c ∈ w, c = cSP ∨ c = cHT) (hp0 : s.p ≠ 0)
    (hF : w ≠ [] → s.nameEndFound = true ∨ F.allowWspBeforeColon = true) : Steps F fs s (afterValue s w) := by
  induction w generalizing s with
  | nil => exact Scanner.Reaches.refl s
  | cons c w ih =>
    have hc := hw c List.mem_cons_self
    have hF' := hF (List.cons_ne_nil _ _)
    rw [afterValue_ws s w hc]
    exact (Steps.step ((hsStep_wsp F fs s hat.head hc).trans (onFieldWsp_adv F s hp0 hF'))).trans
      (ih _ (hat.tail _ rfl rfl rfl) (fun c' hc' => hw c' (List.mem_cons_of_mem _ hc')) (Nat.succ_ne_zero _) (fun _ => hF'))

/-- the parser is at the start of a line -/
structure Fresh (s : HS) : Prop where
  p : s.p = 0
  f1 : s.nameEndFound = false
  f2 : s.startsWithWs = false
  f3 : s.wsStart = 0
  f4 : s.valueStart = 0

/-- the run from `s`, at the start of a line of `len` bytes, passes through `s'`, at the start of the next
    line; only bytes of the line have been written to, and one element has been appended, whose strings lie
    in the line and read `view` -/
structure Parsed (F : FLFlags) (fs : Nat) (s s' : HS) (len : Nat) (view : Nat × List UInt8 × Option (List UInt8)) :
    Prop where
  steps : Steps F fs s s'
  fresh : Fresh s'
  rb : s'.rb = s.rb + len
  buf : WritesIn s.rb s'.rb s.buf s'.buf
  version : s'.version = s.version
  method : s'.method = s.method
  elems : ∃ el, s'.elems = s.elems ++ [el] ∧ elemView s'.buf el = view ∧ ElemIn el s.rb s'.rb

/-- the header section that starts at `s` is `len` bytes long; the run finishes and has appended elements
    reading `views`, all of them below the final `read_buffer`, behind which the unconsumed bytes follow -/
def Finished (F : FLFlags) (fs : Nat) (s : HS) (len : Nat) (views : List (Nat × List UInt8 × Option (List UInt8))) :
    Prop :=
  ∃ h : Headers, (hsScanner F fs).run s = .done (.ok h) ∧ Below h s.version ∧
    (∃ els, h.elems = s.elems ++ els ∧ els.map (elemView h.buf) = views) ∧
    h.headerSize = s.rb + len - s.method ∧ ∀ j, h.buf[h.rb + j]? = s.buf[s.rb + len + j]?

/-- a line in front of a finished section: its strings are not touched by what follows (`run_stable`) -/
theorem Parsed.finish {F : FLFlags} {fs : Nat} {s s1 : HS} {len n : Nat} {view : Nat × List UInt8 × Option (List UInt8)}
    {views : List (Nat × List UInt8 × Option (List UInt8))} (P : Parsed F fs s s1 len view) (hg : Good s)
    (fin : Finished F fs s1 n views) : Finished F fs s (len + n) (view :: views) := by
  obtain ⟨g1, hrun1⟩ := P.steps hg
  obtain ⟨el, e_el, hview, hin⟩ := P.elems
  obtain ⟨h, hrun, below, ⟨els, hel, hviews⟩, hhs, hrest⟩ := fin
  have stable := (run_stable F fs s1 g1.i1 g1.i2 h hrun).2.2
  have e_rb := P.rb
  refine ⟨h, hrun1.trans hrun, P.version ▸ below, ⟨el :: els, by rw [hel, e_el, List.append_assoc]; rfl, ?_⟩,
    by rw [hhs, e_rb, P.method, Nat.add_assoc], fun j => by
      rw [hrest j, P.buf.2 _ (.inr (by omega)), e_rb, Nat.add_assoc s.rb, Nat.add_assoc s.rb]⟩
  rw [List.map_cons, hviews, ← hview]
  congr 1
  -- the strings of `el` end below the old and below the final `read_buffer`
  have hmem : el ∈ h.elems := by rw [hel, e_el]; simp
  have hkey := below.2 el hmem el.key (by simp [Elem.slices]) hin.2.2.2.1
  refine elemView_congr h.buf s1.buf el s.rb (min s1.rb h.rb) ⟨hin.1, by have := hin.2.1; omega, fun v hv => ?_, hin.2.2.2⟩
    (fun i _ hi => stable i (by omega) (by omega))
  have := below.2 el hmem v (by simp [Elem.slices, hv]) (hin.2.2.2.2 v hv)
  have := hin.2.2.1 v hv
  omega

end HSP
end Mhd.Req
