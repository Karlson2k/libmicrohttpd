/-
  C17 proofs: `MHD_str_remove_tokens_caseless_` — the removal round for one token equals
  "filter the element list".
-/
import Mhd.Proofs.StrRtFun

namespace Mhd.Str

/-- the first of the three parts of one iteration of the `do … while (1)` loop (`rtInnerStep_eq`) -/
def rtMatchPart (tokens : Bytes) (tkn tknLen len : Nat) (st : RtIn) : M Bool := do
  let atEnd ← (if len = st.pr + tknLen then pure true else do
                 let c ← rd st.buf (st.pr + tknLen)
                 pure (c == 0x2c) : M Bool)
  if atEnd then equalCaselessBinAt st.buf st.pr tokens tkn tknLen else pure false

def rtKeepPart (len : Nat) (st : RtIn) : M RtIn := do
  let (pw, buf) ← rtSep st.pr st.pw st.buf
  let (pr, pw, buf) ← iter (rtCopyElemStep len) (len + 1) (st.pr, pw, buf)
  pure { st with pr := pr + 2, pw := pw, buf := buf }

def rtTailPart (len tknLen : Nat) (st1 : RtIn) : M (RtIn ⊕ (Nat × Bytes × Bool)) := do
  if len < st1.pr + tknLen then
    if len > st1.pr then
      let copySize := len - st1.pr
      let (pw, buf) ← rtSep st1.pr st1.pw st1.buf
      let buf ← (if st1.pr ≠ pw then copyBytes buf st1.pr buf pw copySize else pure buf)
      return .inr (pw + copySize, buf, st1.removed)
    else return .inr (st1.pw, st1.buf, st1.removed)
  else return .inl st1

theorem rtInnerStep_eq (tokens : Bytes) (tkn tknLen len : Nat) (st : RtIn) :
    rtInnerStep tokens tkn tknLen len st = (do
      let isMatch ← rtMatchPart tokens tkn tknLen len st
      let st1 ← (if isMatch then pure { st with removed := true, pr := st.pr + tknLen + 2 } else rtKeepPart len st : M RtIn)
      rtTailPart len tknLen st1) := by
  unfold rtInnerStep rtMatchPart rtKeepPart rtTailPart
  simp only [bind_assoc]

/-- what follows an element in the joined list -/
def afterElem (rest : List Bytes) : Bytes := if rest = [] then [] else sepCS ++ joinWith sepCS rest

theorem join_split (e : Bytes) (rest : List Bytes) : joinWith sepCS (e :: rest) = e ++ afterElem rest :=
  joinWith_cons _ _ _

theorem afterElem_nil : afterElem [] = [] := rfl

theorem afterElem_cons (a : Bytes) (t : List Bytes) :
    afterElem (a :: t) = 0x2c :: 0x20 :: (a ++ afterElem t) := by
  rw [afterElem, if_neg (List.cons_ne_nil a t), join_split]; rfl

theorem headElem_afterElem (rest : List Bytes) : headElem (afterElem rest) = [] := by
  cases rest with
  | nil => rfl
  | cons a t => rw [afterElem_cons]; rfl

/-- the last argument lists the elements still to be handled: the first of them starts at `pr` (the string
    ends at `len`, `junk` is behind it); the elements `K` kept so far have been written, joined,
    up to `pw`.  Behind the last element `pr` is `len + 2`. -/
def RtInv (len N : Nat) (junk : Bytes) (st : RtIn) (K : List Bytes) : List Bytes → Prop
  | [] => st.pr = len + 2 ∧ st.buf.length = N ∧ st.buf.take st.pw = joinWith sepCS K ∧ st.pw ≤ len
  | e :: rest =>
    st.buf.drop st.pr = e ++ (afterElem rest ++ junk) ∧ st.pr + (e ++ afterElem rest).length = len ∧
    st.buf.length = N ∧ st.buf.take st.pw = joinWith sepCS K ∧ (st.pw = 0 ↔ K = []) ∧
    SepRoom st.pr st.pw st.buf

theorem RtInv.next {len N : Nat} {junk : Bytes} {st1 : RtIn} {K' : List Bytes} (e : Bytes) (pr : Nat) (rest : List Bytes)
    (hd : st1.buf.drop (pr + e.length) = afterElem rest ++ junk) (hlen : pr + (e ++ afterElem rest).length = len)
    (hpr : st1.pr = pr + e.length + 2) (hN : st1.buf.length = N) (htake : st1.buf.take st1.pw = joinWith sepCS K')
    (h0 : st1.pw = 0 ↔ K' = []) (hpw : st1.pw ≤ pr + e.length)
    (hsame : st1.pw = pr + e.length → rest ≠ [] → (st1.buf.drop st1.pw).take 2 = sepCS) :
    RtInv len N junk st1 K' rest := by
  rw [List.length_append, ← Nat.add_assoc] at hlen
  cases rest with
  | nil => exact ⟨by rw [hpr, ← hlen]; rfl, hN, htake, hlen ▸ hpw⟩
  | cons e' rest' =>
    rw [afterElem_cons] at hd hlen
    have hd2 : st1.buf.drop (pr + e.length + 2) = e' ++ (afterElem rest' ++ junk) :=
      drop_at st1.buf (pr + e.length) sepCS _ (by rw [hd, List.cons_append, List.cons_append, List.append_assoc]; rfl)
    refine ⟨by rw [hpr]; exact hd2, by rw [hpr, Nat.add_right_comm]; exact hlen, hN, htake, h0,
      Or.inr ⟨hpr ▸ Nat.add_le_add_right hpw 2, fun h => hsame ?_ (List.cons_ne_nil _ _)⟩⟩
    exact (Nat.add_right_cancel (hpr.symm.trans h)).symm

theorem window_match (R : Bytes) (hR : headElem R = []) :
    ∀ (e T : Bytes), (∀ x ∈ e, x ≠ 0x2c) → (∀ x ∈ T, x ≠ 0x2c) → T.length ≤ (e ++ R).length →
      ((headElem ((e ++ R).drop T.length)).isEmpty && ceqBytes ((e ++ R).take T.length) T) = ceqBytes e T := by
  intro e
  induction e with
  | nil =>
    intro T _ hT hfit
    cases T with
    | nil => rw [List.nil_append, List.length_nil, List.drop_zero, hR]; rfl
    | cons y T' =>
      cases R with
      | nil => exact absurd hfit (Nat.not_succ_le_zero _)
      | cons z R' =>
        have hz : z = 0x2c := by
          by_cases hz : z = 0x2c
          · exact hz
          · rw [headElem_cons z R' hz] at hR; cases hR
        have : charsEqualCaseless z y = false :=
          Bool.eq_false_iff.mpr (fun h => hT y List.mem_cons_self (ceq_comma y (hz ▸ h)))
        simp only [List.nil_append, List.length_cons, List.take_succ_cons, listEq, this, Bool.false_and, Bool.and_false]
  | cons x e' ih =>
    intro T he hT hfit
    have hx := he x List.mem_cons_self
    cases T with
    | nil => rw [List.length_nil, List.drop_zero, List.cons_append, headElem_cons x _ hx]; rfl
    | cons y T' =>
      rw [List.cons_append, List.length_cons, List.drop_succ_cons, List.take_succ_cons]
      show (_ && (charsEqualCaseless x y && _)) = (charsEqualCaseless x y && _)
      rw [Bool.and_left_comm, ih T' (fun z hz => he z (List.mem_cons_of_mem _ hz))
        (fun z hz => hT z (List.mem_cons_of_mem _ hz)) (Nat.le_of_succ_le_succ hfit)]

theorem rtMatch_spec (tokens : Bytes) (tkn tknLen len N : Nat) (T jt junk : Bytes) (st : RtIn) (e : Bytes)
    (K rest : List Bytes) (hT : tokens.drop tkn = T ++ jt) (hTl : T.length = tknLen) (hTc : ∀ x ∈ T, x ≠ 0x2c)
    (hi : RtInv len N junk st K (e :: rest)) (he : ∀ x ∈ e, x ≠ 0x2c) (hfit : st.pr + tknLen ≤ len) :
    rtMatchPart tokens tkn tknLen len st = .ok (ceqBytes e T) := by
  obtain ⟨hbuf, hlen, _⟩ := hi
  subst hTl hlen
  have hR := headElem_afterElem rest
  generalize afterElem rest = R at hbuf hfit hR
  have hfit' : T.length ≤ (e ++ R).length := Nat.le_of_add_le_add_left hfit
  have hwin : st.buf.drop st.pr = (e ++ R).take T.length ++ ((e ++ R).drop T.length ++ junk) := by
    rw [hbuf, ← List.append_assoc, ← List.append_assoc, List.take_append_drop]
  have hwl : ((e ++ R).take T.length).length = T.length := by
    rw [List.length_take]; exact Nat.min_eq_left hfit'
  have hE := equalCaselessBinAt_spec st.buf st.pr tokens tkn T.length _ T _ jt hwin hT hwl rfl
  have hdw : st.buf.drop (st.pr + T.length) = (e ++ R).drop T.length ++ junk := by
    have := drop_at st.buf st.pr _ _ hwin
    rwa [hwl] at this
  have hpeek := peek_isEnd_len st.buf (st.pr + T.length) (st.pr + (e ++ R).length) ((e ++ R).drop T.length) junk hdw
    (by rw [List.length_drop, Nat.add_assoc, Nat.add_sub_cancel' hfit'])
  unfold rtMatchPart
  rw [hpeek, bind_ok', ← window_match R hR e T he hTc hfit']
  cases (headElem ((e ++ R).drop T.length)).isEmpty
  · rfl
  · rw [if_pos rfl, hE]; rfl

theorem rtKeep_spec (len N : Nat) (junk : Bytes) (st : RtIn) (e : Bytes) (rest K : List Bytes)
    (heok : elemOk e = true) (hi : RtInv len N junk st K (e :: rest)) :
    ∃ st1, rtKeepPart len st = .ok st1 ∧ st1.removed = st.removed ∧ RtInv len N junk st1 (K ++ [e]) rest := by
  obtain ⟨hbuf, hlen, hN, htake, h0, hroom⟩ := hi
  obtain ⟨hene, hec⟩ := (elemOk_iff e).mp heok
  obtain ⟨c, cs, rfl⟩ := List.exists_cons_of_ne_nil hene
  unfold rtKeepPart
  obtain ⟨pw', buf1, hs, hl1, hpw', hpwle, ht1, hd1⟩ := rtSep_spec st.pr st.pw st.buf _ htake hroom
    (Nat.le_of_lt (lt_of_drop hbuf))
  have hlen1 : st.pr + 1 + (cs ++ afterElem rest).length = len := (Nat.succ_add_eq_add_succ st.pr _).trans hlen
  obtain ⟨buf2, hc, hl2, ht2, hd2⟩ := rtCopyElem_go len junk cs c (afterElem rest) st.pr pw' buf1 (len + 1)
    (by rw [hd1, hbuf]; rfl) hlen1 (fun x hx => hec x (List.mem_cons_of_mem _ hx)) (headElem_afterElem rest) hpwle
    (Nat.lt_succ_of_le (hlen1 ▸ Nat.le_trans (by rw [List.length_append]; exact Nat.le_add_right _ _)
      (Nat.le_add_left _ _)))
  simp only [hs, bind_ok', hc, pure_eq_ok]
  refine ⟨_, rfl, rfl, RtInv.next (c :: cs) st.pr rest hd2 hlen rfl (hl2.trans (hl1.trans hN)) ?_
    ⟨fun h => absurd h (Nat.succ_ne_zero _), fun h => absurd h (by simp)⟩ (Nat.add_le_add_right hpwle _)
    (fun heq hr => ?_)⟩
  · show buf2.take (pw' + (c :: cs).length) = _
    rw [ht2, ht1, joinWith_append _ K [c :: cs] (List.cons_ne_nil _ _), ite_congr (propext h0) (fun _ => rfl) (fun _ => rfl)]
    rfl
  · -- the `", "` behind the element, where the next one would have to write it
    show (buf2.drop (pw' + (c :: cs).length)).take 2 = sepCS
    have heq' : pw' + (c :: cs).length = st.pr + (c :: cs).length := heq
    rw [heq', hd2]
    cases rest with
    | nil => exact absurd rfl hr
    | cons a t => rw [afterElem_cons]; rfl

theorem rtTail_spec (len tknLen N : Nat) (junk T : Bytes) (hTl : T.length = tknLen) (K' rest : List Bytes) (st1 : RtIn)
    (hok : ∀ x ∈ rest, elemOk x = true) (hi : RtInv len N junk st1 K' rest) :
    (∃ len' buf', rtTailPart len tknLen st1 = .ok (.inr (len', buf', st1.removed)) ∧
        buf'.length = N ∧ len' ≤ len ∧ buf'.take len' = joinWith sepCS (K' ++ rest) ∧
        rest.filter (fun x => !ceqBytes x T) = rest ∧ rest.any (fun x => ceqBytes x T) = false) ∨
    (rtTailPart len tknLen st1 = .ok (.inl st1) ∧ rest ≠ [] ∧ st1.pr + tknLen ≤ len) := by
  unfold rtTailPart
  cases rest with
  | nil =>
    obtain ⟨hpr, hN, htake, hpw⟩ := hi
    have h1 : len < st1.pr + tknLen :=
      hpr ▸ Nat.lt_of_lt_of_le (Nat.lt_add_of_pos_right (by decide)) (Nat.le_add_right _ _)
    have h2 : ¬ len > st1.pr := Nat.not_lt.mpr (hpr ▸ Nat.le_add_right _ _)
    rw [if_pos h1, if_neg h2, List.append_nil]
    exact Or.inl ⟨_, _, rfl, hN, hpw, htake, rfl, rfl⟩
  | cons e' rest' =>
    obtain ⟨hbuf, hlen, hN, htake, h0, hroom⟩ := hi
    subst hlen
    by_cases hlt : st1.pr + (e' ++ afterElem rest').length < st1.pr + tknLen
    · left
      obtain ⟨hene, _⟩ := (elemOk_iff e').mp (hok e' List.mem_cons_self)
      obtain ⟨c, cs, rfl⟩ := List.exists_cons_of_ne_nil hene
      have hpr := Nat.le_of_lt (lt_of_drop hbuf)
      have hbl : st1.pr + (c :: cs ++ afterElem rest').length ≤ st1.buf.length := by
        rw [← length_of_drop hpr hbuf, ← List.append_assoc, List.length_append (bs := junk), ← Nat.add_assoc]
        exact Nat.le_add_right _ _
      have hpos : 0 < (c :: cs ++ afterElem rest').length := Nat.succ_pos _
      rw [if_pos hlt, if_pos (Nat.lt_add_of_pos_right hpos), Nat.add_sub_cancel_left]
      obtain ⟨pw', buf1, hs, hl1, hpw', hpwle, ht1, hd1⟩ := rtSep_spec st1.pr st1.pw st1.buf _ htake hroom hpr
      simp only [hs, bind_ok']
      obtain ⟨buf2, hcp, hl2, ht2⟩ : ∃ buf2, (if st1.pr ≠ pw' then copyBytes buf1 st1.pr buf1 pw' (c :: cs ++ afterElem rest').length else .ok buf1 : M Bytes) = .ok buf2 ∧
          buf2.length = buf1.length ∧ buf2.take (pw' + (c :: cs ++ afterElem rest').length) =
            buf1.take pw' ++ (buf1.drop st1.pr).take (c :: cs ++ afterElem rest').length := by
        by_cases hne : st1.pr = pw'
        · exact ⟨buf1, by rw [if_neg (by simp [hne])], rfl, by rw [← hne, List.take_add]⟩
        · obtain ⟨d, hd, hdl, hdt⟩ := copyBytes_exact buf1 st1.pr buf1 pw' _ (hl1 ▸ hbl)
            (hl1 ▸ Nat.le_trans (Nat.add_le_add_right hpwle _) hbl)
          exact ⟨d, by rw [if_pos hne]; exact hd, hdl, hdt⟩
      simp only [pure_eq_ok, hcp, bind_ok']
      obtain ⟨s1, s2⟩ := no_match_of_length ((c :: cs) :: rest') T (fun x hx => Nat.ne_of_lt
        (Nat.lt_of_le_of_lt (joinWith_length_mem sepCS _ x hx) (by
          rw [join_split, hTl]; exact Nat.lt_of_add_lt_add_left hlt)))
      refine ⟨_, _, rfl, hl2.trans (hl1.trans hN), Nat.add_le_add_right hpwle _, ?_, s1, s2⟩
      rw [ht2, ht1, hd1, hbuf, ← List.append_assoc, List.take_left' rfl, ← join_split,
        joinWith_append _ K' ((c :: cs) :: rest') (List.cons_ne_nil _ _), ite_congr (propext h0) (fun _ => rfl) (fun _ => rfl)]
    · right
      rw [if_neg hlt]
      exact ⟨rfl, List.cons_ne_nil _ _, Nat.le_of_not_lt hlt⟩

theorem rtInner_go (tokens : Bytes) (tkn tknLen len N : Nat) (T jt junk : Bytes)
    (hT : tokens.drop tkn = T ++ jt) (hTl : T.length = tknLen) (hTc : ∀ x ∈ T, x ≠ 0x2c) :
    ∀ (n : Nat) (rest : List Bytes) (e : Bytes) (K : List Bytes) (st : RtIn),
      (∀ x ∈ e :: rest, elemOk x = true) → RtInv len N junk st K (e :: rest) → st.pr + tknLen ≤ len →
      rest.length < n →
      ∃ len' buf', iter (rtInnerStep tokens tkn tknLen len) n st =
          .ok (len', buf', (st.removed || (e :: rest).any (fun x => ceqBytes x T))) ∧
        buf'.length = N ∧ len' ≤ len ∧
        buf'.take len' = joinWith sepCS (K ++ (e :: rest).filter (fun x => !ceqBytes x T)) := by
  intro n
  induction n with
  | zero => intro rest e K st _ _ _ hn; exact absurd hn (Nat.not_lt_zero _)
  | succ n ih =>
    intro rest e K st hok hi hfit hn
    have heok := hok e List.mem_cons_self
    have hokr : ∀ x ∈ rest, elemOk x = true := fun x hx => hok x (List.mem_cons_of_mem _ hx)
    have hm := rtMatch_spec tokens tkn tknLen len N T jt junk st e K rest hT hTl hTc hi ((elemOk_iff e).mp heok).2 hfit
    obtain ⟨st1, hst1, hrem, hi1⟩ : ∃ st1,
        (if ceqBytes e T = true then pure { st with removed := true, pr := st.pr + tknLen + 2 } else rtKeepPart len st : M RtIn)
          = .ok st1 ∧ st1.removed = (st.removed || ceqBytes e T) ∧
        RtInv len N junk st1 (if ceqBytes e T then K else K ++ [e]) rest := by
      cases hc : ceqBytes e T with
      | true =>
        obtain ⟨hbuf, hlen, hN, htake, h0, hroom⟩ := hi
        have hel : e.length = tknLen := by rw [← hTl]; exact listEq_length hc
        have hp : 0 < e.length := List.length_pos_iff.mpr ((elemOk_iff e).mp heok).1
        have hpw : st.pw < st.pr + e.length := Nat.lt_of_le_of_lt hroom.le (Nat.lt_add_of_pos_right hp)
        exact ⟨_, rfl, by simp, RtInv.next e st.pr rest (drop_at _ _ _ _ hbuf) hlen (by rw [hel]) hN htake h0
          (Nat.le_of_lt hpw) (fun h _ => absurd h (Nat.ne_of_lt hpw))⟩
      | false =>
        obtain ⟨st1, hk, q1, q2⟩ := rtKeep_spec len N junk st e rest K heok hi
        exact ⟨st1, hk, by rw [q1]; simp, q2⟩
    have hstep : rtInnerStep tokens tkn tknLen len st = rtTailPart len tknLen st1 := by
      rw [rtInnerStep_eq, hm, bind_ok', hst1, bind_ok']
    have hfilter : ∀ l : List Bytes, K ++ (e :: l).filter (fun x => !ceqBytes x T) =
        (if ceqBytes e T then K else K ++ [e]) ++ l.filter (fun x => !ceqBytes x T) := by
      intro l; rw [List.filter_cons]; cases ceqBytes e T <;> simp
    rw [List.any_cons, hfilter, ← Bool.or_assoc, ← hrem]
    rcases rtTail_spec len tknLen N junk T hTl _ rest st1 hokr hi1 with
      ⟨len', buf', ht, r1, r2, r3, r4, r5⟩ | ⟨ht, hne, hfit1⟩
    · exact ⟨len', buf', by rw [iter_inr n (hstep.trans ht), r5, Bool.or_false], r1, r2, by rw [r3, r4]⟩
    · obtain ⟨e', rest', rfl⟩ := List.exists_cons_of_ne_nil hne
      obtain ⟨len', buf', hr, r1, r2, r3⟩ := ih rest' e' _ st1 hokr hi1 hfit1 (Nat.lt_of_succ_lt_succ hn)
      exact ⟨len', buf', by rw [iter_inl n (hstep.trans ht), hr], r1, r2, r3⟩

end Mhd.Str
