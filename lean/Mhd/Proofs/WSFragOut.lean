/-
  What the fragment-mode event list of a fragmented message
  (`Mhd.Proofs.WSFragMsg`) says about the bytes: binary fragments (and text fragments that end
  on a character boundary) are the frame payloads; in general the fragments handed out,
  concatenated, are the message.
-/
import Mhd.Proofs.WSFragMsg
namespace Mhd.WS

/-- fragment mode: everything the application gets for a whole fragmented message -/
def msgFragEvs (op : Nat) (p0 : List UInt8) (mids : List Mid) (pn : List UInt8) : List Ev :=
  fragEv op 0x10 0 [] p0 :: fragEvs op (stepAfter op 0 p0) (fragKeep op 0 [] p0) mids ++
    [(Int.ofNat (op ||| 0x40), plOf (fragCarry op (stepAfter op 0 p0) (fragKeep op 0 [] p0) mids ++ pn),
      (fragCarry op (stepAfter op 0 p0) (fragKeep op 0 [] p0) mids ++ pn).length)]

theorem fragEv_whole (t m u : Nat) (p : List UInt8) (h : t ≠ 1 ∨ stepAfter t u p = 0) :
    fragEv t m u [] p = (fragMark t m, plOf p, p.length) ∧ fragKeep t u [] p = [] := by
  have hc : cutLen t (stepAfter t u p) ([] ++ p) = p.length := by
    unfold cutLen
    rcases h with h | h
    · rw [if_neg h]; simp
    · rw [h]; simp [givenUtf8]
  unfold fragEv fragKeep
  rw [hc]
  simp [cutPl_full]

/-- the events of the frames in the middle when every fragment is handed out as it is -/
def plainEvs (t : Nat) : List Mid → List Ev
  | [] => []
  | .ctrl op p :: r => (Int.ofNat op, plOf p, p.length) :: plainEvs t r
  | .frag p :: r => (fragMark t 0x20, plOf p, p.length) :: plainEvs t r

theorem fragEvs_binary (t : Nat) (ht : t ≠ 1) (l : List Mid) :
    ∀ u, fragEvs t u [] l = plainEvs t l ∧ fragCarry t u [] l = [] := by
  induction l with
  | nil => intro u; exact ⟨rfl, rfl⟩
  | cons x r ih =>
    intro u
    cases x with
    | frag p =>
      obtain ⟨a, b⟩ := fragEv_whole t 0x20 u p (Or.inl ht)
      simp only [fragEvs, fragCarry, plainEvs, a, b, ih, and_self]
    | ctrl op p => simp only [fragEvs, fragCarry, plainEvs, ih, and_self]

/-- the bytes an event of a data fragment hands to the application (`payload[0 .. payload_len)`);
    control frames (status < 16) do not count -/
def evBytes (e : Ev) : List UInt8 := if 16 ≤ e.1 then (e.2.1.getD []).take e.2.2 else []

def dataBytes (E : List Ev) : List UInt8 := (E.map evBytes).flatten

theorem dataBytes_cons (e : Ev) (E : List Ev) : dataBytes (e :: E) = evBytes e ++ dataBytes E := by
  simp [dataBytes]

theorem dataBytes_append (A B : List Ev) : dataBytes (A ++ B) = dataBytes A ++ dataBytes B := by
  simp [dataBytes]

theorem fragMark_ge (t m : Nat) (ht : t = 1 ∨ t = 2) (hm : m = 0x10 ∨ m = 0x20 ∨ m = 0x40) : (16 : Int) ≤ fragMark t m := by
  rcases ht with h | h <;> rcases hm with g | g | g <;> subst h g <;> decide

theorem evBytes_cut (st : Int) (hst : 16 ≤ st) (d : List UInt8) (k : Nat) (hk : k ≤ d.length) :
    evBytes (st, cutPl d k, k) = d.take k := by
  unfold evBytes cutPl
  simp only [hst, if_true]
  by_cases h0 : k = 0
  · subst h0; simp
  · rw [if_neg h0]
    simp only [Option.getD_some]
    rw [List.take_set_of_le (Nat.le_refl k), List.take_append_of_le_length hk]

theorem evBytes_whole (st : Int) (hst : 16 ≤ st) (d : List UInt8) : evBytes (st, plOf d, d.length) = d := by
  rw [← cutPl_full, evBytes_cut st hst d d.length (Nat.le_refl _), List.take_length]

theorem evBytes_frag (t m u : Nat) (ht : t = 1 ∨ t = 2) (hm : m = 0x10 ∨ m = 0x20 ∨ m = 0x40) (c p : List UInt8) :
    evBytes (fragEv t m u c p) ++ fragKeep t u c p = c ++ p := by
  unfold fragEv fragKeep
  rw [evBytes_cut _ (fragMark_ge t m ht hm) _ _ (by unfold cutLen; omega)]
  exact List.take_append_drop _ _

theorem fragEvs_lossless (t : Nat) (ht : t = 1 ∨ t = 2) (l : List Mid)
    (hl : ∀ x ∈ l, ∀ op p, x = .ctrl op p → op < 16) :
    ∀ u c, dataBytes (fragEvs t u c l) ++ fragCarry t u c l = c ++ midData l := by
  induction l with
  | nil => intro u c; simp [fragEvs, fragCarry, midData, dataBytes]
  | cons x r ih =>
    intro u c
    have ihr := ih (fun y hy => hl y (List.mem_cons_of_mem _ hy))
    cases x with
    | frag p =>
      simp only [fragEvs, fragCarry, midData, dataBytes_cons]
      rw [List.append_assoc, ihr, ← List.append_assoc, evBytes_frag t 0x20 u ht (by omega) c p, List.append_assoc]
    | ctrl op p =>
      have hop : op < 16 := hl _ (List.mem_cons_self ..) op p rfl
      simp only [fragEvs, fragCarry, midData, dataBytes_cons]
      have : evBytes (Int.ofNat op, plOf p, p.length) = [] := by
        unfold evBytes
        rw [if_neg (by simp only [Int.ofNat_eq_natCast]; omega)]
      rw [this, List.nil_append, ihr]

end Mhd.WS
