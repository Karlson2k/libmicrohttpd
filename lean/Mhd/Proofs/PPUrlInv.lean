/-
  Loop invariant of `post_process_urlencoded` for well-formed input (`LInv`): what has been delivered,
  where the scan stands in the grammar, what the key buffer and `pp->xbuf` hold.  It sits on top of the
  shape invariant of `PPUrlSafe`, which supplies the pointer shapes, the absence of faults and termination:
  `step_linv` is the premise of `urlLoop_inv`.
-/
import Mhd.Proofs.PPUrlSafe
namespace Mhd.PP

/-- a field as lists of tokens: any conforming rendering of a key and a value -/
structure FieldT where
  k : List Tok
  v : List Tok

/-- well-formed: non-empty key, proper tokens, raw key fits the key buffer of `N` bytes -/
def FieldT.Ok (N : Nat) (f : FieldT) : Prop :=
  f.k ≠ [] ∧ AllOk f.k ∧ AllOk f.v ∧ (rawOf f.k).length < N

instance (N : Nat) (f : FieldT) : Decidable (f.Ok N) := by
  unfold FieldT.Ok AllOk; exact inferInstance

/-- `k1=v1&k2=v2&…` -/
def encF : List FieldT → Bytes
  | [] => []
  | f :: fs => rawOf f.k ++ cEq :: rawOf f.v ++ (match fs with | [] => [] | _ :: _ => cAmp :: encF fs)

/-- what follows a value: the trailing newlines, or `&` and the remaining fields -/
def tailF (rest : List FieldT) (nl : Bytes) : Bytes :=
  match rest with
  | [] => nl
  | _ :: _ => cAmp :: (encF rest ++ nl)

theorem encF_cons_nl (f : FieldT) (fs : List FieldT) (nl : Bytes) :
    encF (f :: fs) ++ nl = rawOf f.k ++ cEq :: (rawOf f.v ++ tailF fs nl) := by
  cases fs <;> simp [encF, tailF]

def IsNl (nl : Bytes) : Prop := ∀ c ∈ nl, c = cCR ∨ c = cLF

/-- the field the application must see: key as a C string, decoded value -/
def fld (f : FieldT) : Meta × Bytes := (urlMeta (cstr (decOf f.k)), decOf f.v)

/-- the part of the key that lies in the current chunk and is not yet in the key buffer -/
def pendKey (d : Bytes) (l : UL) : Bytes :=
  match l.startKey with
  | none => []
  | some sk => slice d sk (l.endKey.getD l.poff)

/-- key buffer + pending piece = `kd`, the received part of the raw key -/
structure KeyRaw (d : Bytes) (pp : PP) (l : UL) (kd : Bytes) : Prop where
  content : pp.buf.take pp.bufferPos ++ pendKey d l = kd
  inbuf : pp.bufferPos ≤ pp.buf.length
  must : 0 < pp.bufferPos → pp.mustUnescapeKey = true

/-- progress of the value of field `f`: `Wv` is the raw text not yet given to `process_value` -/
def ValSt (done : List FieldT) (f : FieldT) (pp : PP) (Wv : Bytes) : Prop :=
  ∃ vdone vrest, f.v = vdone ++ vrest ∧ rawOf vrest = pp.xbuf ++ Wv ∧ Carry pp.xbuf vrest ∧
    Delivering pp.evs pp.mustIkvi pp.valueOffset (done.map fld) (fld f).1 (decOf vdone)

/-- the key of the current field is complete: either still raw (key buffer + pending piece of this
    chunk, no iterator call made yet) or already unescaped in the key buffer -/
def KeySt (d : Bytes) (pp : PP) (l : UL) (f : FieldT) : Prop :=
  (KeyRaw d pp l (rawOf f.k) ∧ pp.mustIkvi = true)
  ∨ (l.startKey = none ∧ l.endKey = none ∧ pp.mustUnescapeKey = false ∧ cstr pp.buf = cstr (decOf f.k)
      ∧ pp.mustIkvi = false)

/-- the value bytes scanned in this call and not yet processed -/
def scanned (d : Bytes) (l : UL) : Bytes :=
  match l.startValue with
  | none => []
  | some sv => slice d sv (l.endValue.getD l.poff)

/-- Loop invariant of `post_process_urlencoded` for well-formed input, on top of `UInv` and `ULoc`.
    `d` = the chunk, `F` = all later input, `all` = the fields, `nl` = the newlines after them. -/
inductive LInv (d F : Bytes) (N : Nat) (all : List FieldT) (nl : Bytes) : PP → UL → Prop
  | init {pp : PP} {l : UL} (done rem : List FieldT)
      (hst : pp.state = .init) (hall : all = done ++ rem)
      (hR : d.drop l.poff ++ F = encF rem ++ nl)
      (hev : Delivers pp.evs (done.map fld))
      (hbp : pp.bufferPos = 0) (hvo : pp.valueOffset = 0) (hxb : pp.xbuf = []) (hmu : pp.mustUnescapeKey = false) :
      LInv d F N all nl pp l
  | key {pp : PP} {l : UL} (done : List FieldT) (f : FieldT) (rest : List FieldT) (kd kr : Bytes)
      (hst : pp.state = .processKey) (hall : all = done ++ f :: rest)
      (hk : rawOf f.k = kd ++ kr) (hkd : kd ≠ [])
      (hR : d.drop l.poff ++ F = kr ++ cEq :: (rawOf f.v ++ tailF rest nl))
      (hev : Delivers pp.evs (done.map fld))
      (hkey : KeyRaw d pp l kd) (hvo : pp.valueOffset = 0) (hxb : pp.xbuf = []) : LInv d F N all nl pp l
  | val {pp : PP} {l : UL} (done : List FieldT) (f : FieldT) (rest : List FieldT) (wrest : Bytes)
      (hst : pp.state = .processValue) (hall : all = done ++ f :: rest)
      (hR : d.drop l.poff ++ F = wrest ++ tailF rest nl)
      (hval : ValSt done f pp (scanned d l ++ wrest))
      (hkey : KeySt d pp l f) : LInv d F N all nl pp l
  | cb {pp : PP} {l : UL} (done : List FieldT) (f : FieldT) (rest : List FieldT) (sv ev : Nat)
      (hst : pp.state = .callback) (hall : all = done ++ f :: rest)
      (hR : d.drop l.poff ++ F = encF rest ++ nl)
      (hsv : l.startValue = some sv) (hev' : l.endValue = some ev)
      (hval : ValSt done f pp (slice d sv ev))
      (hkey : KeySt d pp l f) : LInv d F N all nl pp l
  | done {pp : PP} {l : UL} (pre : Bytes)
      (hst : pp.state = .done) (hnl : nl = pre ++ (d.drop l.poff ++ F))
      (hev : Delivers pp.evs (all.map fld)) (hxb : pp.xbuf = []) : LInv d F N all nl pp l

variable {d d' F : Bytes} {N : Nat} {all : List FieldT} {nl : Bytes} {pp : PP} {l l' : UL} {f : FieldT} {done : List FieldT}
  {kd : Bytes} {c : UInt8}

theorem first_key_byte (hf : f.Ok N) :
    ∃ c kr, rawOf f.k = c :: kr ∧ c ≠ cEq ∧ c ≠ cAmp ∧ c ≠ cLF ∧ c ≠ cCR := by
  obtain ⟨hne, hok, _, _⟩ := hf
  cases hr : rawOf f.k with
  | nil => exact absurd (rawOf_eq_nil hr) hne
  | cons c kr => exact ⟨c, kr, rfl, (raw_byte hok (by rw [hr]; exact List.mem_cons_self)).2⟩

theorem drop_cons_at {p : Nat} {R : Bytes} (hp : p < d.length)
    (h : d.drop p ++ F = c :: R) : d[p]? = some c ∧ d.drop (p + 1) ++ F = R := by
  rw [List.drop_eq_getElem_cons hp, List.cons_append] at h
  have h' := List.cons.inj h
  exact ⟨by rw [List.getElem?_eq_getElem hp, h'.1], h'.2⟩

theorem drop_nl_at {p : Nat} (hnl : IsNl nl) (hp : p < d.length) (h : d.drop p ++ F = nl) :
    ∃ c, (c = cLF ∨ c = cCR) ∧ d[p]? = some c ∧ nl = c :: (d.drop (p + 1) ++ F) := by
  cases nl with
  | nil =>
    rw [List.drop_eq_getElem_cons hp] at h; cases h
  | cons c nl' =>
    obtain ⟨hc, hR⟩ := drop_cons_at hp h
    exact ⟨c, (hnl c List.mem_cons_self).symm, hc, by rw [hR]⟩

theorem keyRaw_len (h : KeyRaw d pp l kd) :
    kd.length = pp.bufferPos + (pendKey d l).length := by
  rw [← h.content, List.length_append, List.length_take, Nat.min_eq_left h.inbuf]

/-- in `PP_ProcessValue` the pending key piece, if any, has its end set -/
theorem keySt_value (h : KeySt d pp l f) (hL : ULoc pp l)
    (hst : pp.state = .processValue) (st : St) (sv ev le : Option Nat) (po : Nat) :
    KeySt d { pp with state := st } { l with startValue := sv, endValue := ev, lastEscape := le, poff := po } f := by
  rcases h with ⟨⟨k1, k2, k3⟩, hm⟩ | h
  · refine Or.inl ⟨⟨Eq.trans ?_ k1, k2, k3⟩, hm⟩
    show pp.buf.take pp.bufferPos ++ pendKey d _ = _
    unfold pendKey
    rcases ((uloc_value hst).mp hL).2.2 with ⟨e1, _⟩ | ⟨a, b, e1, e2, _⟩
    · simp only [e1]
    · simp only [e1, e2, Option.getD_some]
  · exact Or.inr h

theorem keySt_unescaped (h : KeySt d pp l f)
    (hm : pp.mustIkvi = false) : pp.mustUnescapeKey = false := by
  rcases h with ⟨_, hm'⟩ | ⟨_, _, c, _⟩
  · rw [hm] at hm'; cases hm'
  · exact c

/-- `=` ends the key: `end_key` is set (unless `poff = 0`) -/
theorem pendKey_close (hek : l.endKey = none)
    (hptr : (l.startKey = none ∧ l.poff = 0) ∨ ∃ a, l.startKey = some a ∧ a < l.poff) :
    pendKey d { l with endKey := if l.poff ≠ 0 then some l.poff else l.endKey, poff := l.poff + 1 } = pendKey d l := by
  unfold pendKey
  rcases hptr with ⟨h, _⟩ | ⟨a, h, hlt⟩
  · simp only [h]
  · simp only [h, hek, if_pos (Nat.ne_of_gt (Nat.lt_of_le_of_lt (Nat.zero_le a) hlt)), Option.getD_some, Option.getD_none]

/-- a key byte: `start_key` is set to the start of the chunk if the key began in an earlier one -/
theorem pendKey_snoc (hek : l.endKey = none)
    (hptr : (l.startKey = none ∧ l.poff = 0) ∨ ∃ a, l.startKey = some a ∧ a < l.poff) (hc : d[l.poff]? = some c) :
    pendKey d { l with startKey := if l.poff = 0 then some 0 else l.startKey, poff := l.poff + 1 } = pendKey d l ++ [c] := by
  unfold pendKey
  rcases hptr with ⟨h, h0⟩ | ⟨a, h, hlt⟩
  · rw [h0] at hc
    simp only [h, h0, hek, if_true, Option.getD_none, List.nil_append]
    exact slice_one d 0 c hc
  · simp only [h, hek, if_neg (Nat.ne_of_gt (Nat.lt_of_le_of_lt (Nat.zero_le a) hlt)), Option.getD_none]
    exact slice_snoc d a l.poff c (Nat.le_of_lt hlt) hc

theorem keyRaw_append {a e : Nat} (hkr : KeyRaw d pp l kd)
    (hs : l.startKey = some a) (he : l.endKey.getD l.poff = e) (hae : a ≤ e) (hed : e ≤ d.length) :
    ∃ B, appendKey d pp a (e - a) = { pp with buf := B, bufferPos := pp.bufferPos + (e - a), mustUnescapeKey := true } ∧
      B.take (pp.bufferPos + (e - a)) = kd ∧ pp.bufferPos + (e - a) ≤ B.length ∧ pp.bufferPos + (e - a) = kd.length := by
  have hadd : a + (e - a) = e := Nat.add_sub_cancel' hae
  have hed' : a + (e - a) ≤ d.length := by rw [hadd]; exact hed
  have hpend : pendKey d l = slice d a (a + (e - a)) := by rw [hadd, pendKey, hs, he]
  obtain ⟨B, h1, h2⟩ := appendKey_spec d pp a (e - a) hed'
  obtain ⟨h3, h4⟩ := h2 hkr.inbuf
  refine ⟨B, h1, by rw [h3, ← hpend]; exact hkr.content, h4, ?_⟩
  rw [keyRaw_len hkr, hpend, slice_length d a _ hed', Nat.add_sub_cancel_left]

theorem keySt_rechunk (h : KeySt d pp l f)
    (hs : l.startKey = none) (hs' : l'.startKey = none) (he' : l'.endKey = none) : KeySt d' pp l' f := by
  rcases h with ⟨hkr, hm⟩ | ⟨_, _, c⟩
  · have hc := hkr.content
    rw [pendKey, hs] at hc
    exact Or.inl ⟨⟨by rw [pendKey, hs']; exact hc, hkr.inbuf, hkr.must⟩, hm⟩
  · exact Or.inr ⟨hs', he', c⟩

theorem keySt_append {a b : Nat} (hk : KeySt d pp l f)
    (hs : l.startKey = some a) (he : l.endKey = some b) (hab : a < b) (hb : b ≤ d.length) (hfok : f.Ok N)
    (hsz : pp.bufferSize = N) :
    ∃ B, appendKey d pp a (b - a) = { pp with buf := B, bufferPos := pp.bufferPos + (b - a), mustUnescapeKey := true } ∧
      pp.bufferPos + (b - a) < pp.bufferSize ∧
      ∀ (d' : Bytes) (l' : UL), l'.startKey = none →
        KeySt d' { pp with buf := B, bufferPos := pp.bufferPos + (b - a), mustUnescapeKey := true } l' f := by
  rcases hk with ⟨hkr, hm⟩ | ⟨h, _⟩
  · obtain ⟨B, h1, h2, h3, h4⟩ := keyRaw_append hkr hs (by rw [he]; rfl) (Nat.le_of_lt hab) hb
    exact ⟨B, h1, by rw [h4, hsz]; exact hfok.2.2.2, fun d' l' hl' =>
      Or.inl ⟨⟨by rw [pendKey, hl', List.append_nil]; exact h2, h3, fun _ => rfl⟩, hm⟩⟩
  · rw [hs] at h; cases h

/-- `if (pp->must_unescape_key) …` when the key is complete in the key buffer -/
theorem keySt_unescape (hk : KeySt d pp l f)
    (hpend : pendKey d l = []) (hfok : f.Ok N) (hsz : pp.bufferSize = N) :
    ∃ B, (if pp.mustUnescapeKey = true then unescapeKey pp else pp) = { pp with buf := B, mustUnescapeKey := false } ∧
      cstr B = cstr (decOf f.k) := by
  obtain ⟨hne, hokk, _, hlen⟩ := hfok
  rcases hk with ⟨hkr, _⟩ | ⟨_, _, c, e, _⟩
  · have hc : pp.buf.take pp.bufferPos = rawOf f.k := by rw [← hkr.content, hpend, List.append_nil]
    have hl : (rawOf f.k).length = pp.bufferPos := by rw [keyRaw_len hkr, hpend]; rfl
    have hbp : 0 < pp.bufferPos := by
      rw [← hl]; exact List.length_pos_iff.mpr fun h => hne (rawOf_eq_nil h)
    obtain ⟨B, hB, _, hB'⟩ := unescapeIfMust_spec pp (fun _ => by rw [hsz, ← hl]; exact Nat.le_of_lt hlen)
    exact ⟨B, hB, hB' (hkr.must hbp) f.k hokk hc hkr.inbuf⟩
  · obtain ⟨B, hB, hB', _⟩ := unescapeIfMust_spec pp (fun h => by rw [c] at h; cases h)
    exact ⟨B, hB, by rw [hB' c]; exact e⟩

/-- the first half of `case PP_Callback:` leaves the decoded key of `f` in the key buffer -/
theorem cbKey_spec (hf : pp.fault = none) (hsz : pp.bufferSize = N) (hp : l.poff ≤ d.length) (hfok : f.Ok N) (hkey : KeySt d pp l f)
    (hk : (l.startKey = none ∧ l.endKey = none) ∨
      ∃ a b, l.startKey = some a ∧ l.endKey = some b ∧ a < b ∧ b ≤ l.poff) :
    ∃ B bp, cstr B = cstr (decOf f.k) ∧ urlCallbackKey d pp l =
      ({ pp with buf := B, bufferPos := bp, mustUnescapeKey := false }, { l with startKey := none, endKey := none }) := by
  rcases hk with ⟨p1, p2⟩ | ⟨a, b, p1, p2, p3, p4⟩
  · obtain ⟨B, hB, hB'⟩ := keySt_unescape hkey (by rw [pendKey, p1]) hfok hsz
    exact ⟨B, _, hB', by rw [urlCallbackKey_none hf p1 p2, hB]⟩
  · have hb := Nat.le_trans p4 hp
    obtain ⟨B, h1, hfit, hk'⟩ := keySt_append hkey p1 p2 p3 hb hfok hsz
    obtain ⟨B', hB, hB'⟩ := keySt_unescape (hk' d { l with startKey := none, endKey := none } rfl) rfl hfok hsz
    exact ⟨B', _, hB', by rw [urlCallbackKey_some hf p1 p2 p3 hb hfit, h1, hB]⟩

theorem valSt_fresh (hev : Delivers pp.evs (done.map fld)) (hxb : pp.xbuf = []) (hvo : pp.valueOffset = 0)
    (hmi : pp.mustIkvi = true) (hs : l.startValue = none) : ValSt done f pp (scanned d l ++ rawOf f.v) := by
  rw [scanned, hs]
  exact ⟨[], f.v, rfl, by rw [hxb]; rfl, Or.inl hxb, hmi ▸ hvo ▸ Delivering.start hev⟩

theorem valSt_complete (h : ValSt done f pp []) (hm : pp.mustIkvi = false) :
    pp.xbuf = [] ∧ Delivers pp.evs ((done ++ [f]).map fld) := by
  obtain ⟨vdone, vrest, g1, g2, g3, g4⟩ := h
  obtain ⟨hx, hv⟩ := carry_whole g3 (by rw [g2, List.append_nil])
  rw [hv, List.append_nil] at g1
  rw [hm] at g4
  have : fld f = ((fld f).1, decOf vdone) := by rw [← g1]; rfl
  exact ⟨hx, by rw [List.map_append, List.map_cons, List.map_nil, this]; exact g4.done⟩

theorem value_process {sv ev : Nat} (le : Option Nat) (W : Bytes)
    (last : Bool)
    (hval : ValSt done f pp (slice d sv ev ++ W)) (hkf : cstr pp.buf = cstr (decOf f.k)) (hokv : AllOk f.v)
    (hse : sv ≤ ev) (hed : ev ≤ d.length) (hlast : last = true → W = []) :
    ∃ p vo es, processValue d pp (some sv) (some ev) le last =
        { pp with xbuf := p, valueOffset := vo, mustIkvi := false, evs := es } ∧
      ValSt done f { pp with xbuf := p, valueOffset := vo, mustIkvi := false, evs := es } W := by
  obtain ⟨vdone, vrest, g1, g2, g3, g4⟩ := hval
  have hokr : AllOk vrest := by rw [g1] at hokv; exact hokv.append_right
  obtain ⟨ts1, ts2, p, es, f1, f3, f4, f5, f6, f7⟩ :=
    processValue_spec d pp sv ev le vrest W last hokr (by rw [g2, List.append_assoc]) (carry_len g3 hokr) hse hed hlast
  have hm : urlMeta pp.keyStr = (fld f).1 := by rw [PP.keyStr, hkf]; rfl
  refine ⟨p, _, _, f7, vdone ++ ts1, ts2, by rw [g1, f1, List.append_assoc], f4, f3, ?_⟩
  rw [decOf_append]
  exact g4.more (hm ▸ f5) f6

/-- effective `start_value` after the first statement of `case PP_ProcessValue:` -/
theorem scanned_start (d : Bytes) (l : UL) (hev : l.endValue = none)
    (hsv : l.startValue = none ∨ ∃ s, l.startValue = some s ∧ s ≤ l.poff) :
    scanned d l = slice d (l.startValue.getD l.poff) l.poff ∧ l.startValue.getD l.poff ≤ l.poff := by
  unfold scanned
  rcases hsv with h | ⟨s, h, hle⟩ <;> rw [h]
  · exact ⟨(slice_self d l.poff).symm, Nat.le_refl _⟩
  · rw [hev]; exact ⟨rfl, hle⟩

theorem value_empty (hcb : ¬ ValuePending pp l) (hsc : scanned d l = slice d (l.startValue.getD l.poff) l.poff) :
    pp.mustIkvi = false ∧ scanned d l = [] := by
  refine ⟨Bool.eq_false_iff.mpr fun h => hcb (Or.inl h), ?_⟩
  · have h0 : l.startValue.getD l.poff = l.poff :=
      Classical.not_not.mp fun h => hcb (Or.inr (Or.inl fun h' => h (Option.some.inj h')))
    rw [hsc, h0, slice_self]

theorem step_linv (hok : ∀ f ∈ all, f.Ok N) (hnl : IsNl nl) (hI : UInv pp) (hsz : pp.bufferSize = N) (hL : ULoc pp l)
    (hp : l.poff ≤ d.length) (hc : (l.poff < d.length ∨ pp.state = .callback) ∧ pp.state ≠ .error)
    (hInv : LInv d F N all nl pp l) : LInv d F N all nl (urlIter d pp l).1 (urlIter d pp l).2 := by
  have hlt : pp.state ≠ .callback → l.poff < d.length := fun h => hc.1.elim id fun h' => absurd h' h
  cases hInv with
  | init done rem hst hall hR hev hbp hvo hxb hmu =>
    have hp := hlt (by rw [hst]; decide)
    obtain ⟨_, hek, _, _⟩ := (uloc_init hst).mp hL
    cases rem with
    | nil =>
      obtain ⟨c, hcn, hc, hnl'⟩ := drop_nl_at hnl hp hR
      rw [urlIter_init hst hc, urlInit_nl hcn]
      exact LInv.done [c] rfl hnl' (by rw [hall, List.append_nil]; exact hev) hxb
    | cons f rest =>
      obtain ⟨c, kr, hk, hcok⟩ := first_key_byte (hok f (by rw [hall]; simp))
      rw [encF_cons_nl, hk] at hR
      obtain ⟨hc, hR2⟩ := drop_cons_at hp hR
      rw [urlIter_init hst hc, urlInit_byte hcok]
      refine LInv.key done f rest [c] kr rfl hall hk (List.cons_ne_nil _ _) hR2 hev
        ⟨?_, by rw [hbp]; exact Nat.zero_le _, fun h => by rw [hbp] at h; cases h⟩ hvo hxb
      show pp.buf.take pp.bufferPos ++ slice d l.poff (l.endKey.getD (l.poff + 1)) = [c]
      rw [hbp, List.take_zero, hek, List.nil_append]
      exact slice_one d l.poff c hc
  | key done f rest kd kr hst hall hk hkd hR hev hkey hvo hxb =>
    have hp := hlt (by rw [hst]; decide)
    obtain ⟨hek, hsv, _, hmi, hptr⟩ := (uloc_key hst).mp hL
    cases kr with
    | nil =>
      obtain ⟨hc, hR2⟩ := drop_cons_at hp hR
      rw [urlIter_key hst hc, urlKey_eq]
      refine LInv.val done f rest (rawOf f.v) rfl hall hR2 (valSt_fresh hev hxb hvo hmi hsv)
        (Or.inl ⟨⟨?_, hkey.inbuf, hkey.must⟩, hmi⟩)
      rw [pendKey_close hek hptr, hkey.content, hk, List.append_nil]
    | cons c kr' =>
      obtain ⟨hc, hR2⟩ := drop_cons_at hp hR
      have hcok := (raw_byte (hok f (by rw [hall]; simp)).2.1 (c := c) (by rw [hk]; simp)).2
      rw [urlIter_key hst hc, urlKey_byte hcok]
      exact LInv.key done f rest (kd ++ [c]) kr' hst hall (by rw [hk, List.append_assoc]; rfl) (by simp) hR2 hev
        ⟨by rw [pendKey_snoc hek hptr hc, ← List.append_assoc, hkey.content], hkey.inbuf, hkey.must⟩ hvo hxb
  | val done f rest wrest hst hall hR hval hkey =>
    have hp := hlt (by rw [hst]; decide)
    obtain ⟨hev', hsv, _⟩ := (uloc_value hst).mp hL
    obtain ⟨hsc, hsvp⟩ := scanned_start d l hev' hsv
    have hkey' := keySt_value hkey hL hst
    cases wrest with
    | cons c w' =>
      obtain ⟨vdone, vrest, g1, g2, _⟩ := id hval
      have hokr : AllOk vrest := by
        have := (hok f (by rw [hall]; simp)).2.2.1; rw [g1] at this; exact this.append_right
      obtain ⟨hc, hR2⟩ := drop_cons_at hp hR
      obtain ⟨le, e⟩ := urlValue_byte (raw_byte hokr (c := c) (by rw [g2]; simp)).2 pp l
      rw [urlIter_value hst hc, e]
      refine LInv.val done f rest w' hst hall hR2 ?_ (hkey' _ _ _ _ _)
      show ValSt done f pp (slice d (l.startValue.getD l.poff) (l.endValue.getD (l.poff + 1)) ++ w')
      rw [hev', Option.getD_none, slice_snoc d _ l.poff c hsvp hc, ← hsc, List.append_assoc]
      exact hval
    | nil =>
      -- the value ends: `PP_Callback` if anything is left to deliver, else the field is complete
      rw [List.append_nil, hsc] at hval
      by_cases hcb : ValuePending pp l
      · cases rest with
        | nil =>
          obtain ⟨c, hcn, hc, _⟩ := drop_nl_at hnl hp hR
          rw [urlIter_value hst hc, urlValue_nl_cb hcn hcb]
          exact LInv.cb done f [] _ _ rfl hall hR rfl rfl hval (hkey' _ _ _ _ _)
        | cons g rest' =>
          obtain ⟨hc, hR2⟩ := drop_cons_at hp hR
          rw [urlIter_value hst hc, urlValue_amp_cb hcb]
          exact LInv.cb done f (g :: rest') _ _ rfl hall hR2 rfl rfl hval (hkey' _ _ _ _ _)
      · obtain ⟨hm, hnil⟩ := value_empty hcb hsc
        rw [← hsc, hnil] at hval
        obtain ⟨hx, hdel⟩ := valSt_complete hval hm
        have hmu := keySt_unescaped hkey hm
        cases rest with
        | nil =>
          obtain ⟨c, hcn, hc, hnl'⟩ := drop_nl_at hnl hp hR
          rw [urlIter_value hst hc, urlValue_nl_done hcn hcb]
          exact LInv.done [c] rfl hnl' (hall ▸ hdel) hx
        | cons g rest' =>
          obtain ⟨hc, hR2⟩ := drop_cons_at hp hR
          rw [urlIter_value hst hc, urlValue_amp_done hcb]
          exact LInv.init (done ++ [f]) (g :: rest') rfl (by rw [hall, List.append_assoc]; rfl) hR2 hdel rfl rfl hx hmu
  | cb done f rest sv ev hst hall hR hsv hev' hval hkey =>
    -- the key is completed and unescaped, the value processed: the field is delivered
    have hf : f.Ok N := hok f (by rw [hall]; simp)
    obtain ⟨hv, hk⟩ := (uloc_cb hst).mp hL
    obtain ⟨hse, hep⟩ : sv ≤ ev ∧ ev ≤ l.poff := by
      rcases hv with ⟨v1, _⟩ | ⟨s, e, v1, v2, v3, v4⟩ <;> rw [hsv] at v1 <;> cases v1
      rw [hev'] at v2; cases v2
      exact ⟨v3, v4⟩
    obtain ⟨B, bp, hB, e⟩ := cbKey_spec hI.fault hsz hp hf hkey hk
    obtain ⟨p, vo, es, hpv, hval3⟩ := value_process (pp := { pp with buf := B, bufferPos := bp, mustUnescapeKey := false })
      none [] true (by rw [List.append_nil]; exact hval) hB hf.2.2.1 hse (Nat.le_trans hep hp) (fun _ => rfl)
    obtain ⟨hx, hdel⟩ := valSt_complete hval3 rfl
    rw [urlIter_cb hst, urlCallback_of e (by show pp.state ≠ .error; rw [hst]; decide) (by rw [hsv, hev']; exact hpv)]
    exact LInv.init (done ++ [f]) rest rfl (by rw [hall, List.append_assoc]; rfl) hR hdel rfl rfl hx rfl
  | done pre hst hnle hev hxb =>
    have hp := hlt (by rw [hst]; decide)
    have hdrop : d.drop l.poff ++ F = d[l.poff] :: (d.drop (l.poff + 1) ++ F) := by
      rw [List.drop_eq_getElem_cons hp]; rfl
    have hcn : d[l.poff] = cLF ∨ d[l.poff] = cCR := (hnl _ (by rw [hnle, hdrop]; simp)).symm
    rw [urlIter_done hst (List.getElem?_eq_getElem hp), urlDone_nl hcn]
    exact LInv.done (pre ++ [d[l.poff]]) hst (by rw [hnle, hdrop, List.append_assoc]; rfl) hev hxb

end Mhd.PP
