/-
  C11 — the per-connection machine (Mhd.Model.SuspConn) made ready for proofs.  A record has two halves: the
  suspend / resume calls of a callback touch only flags and counters (the data fields, `Conn.data`, stay), everything
  else touches only data (the flags, `Conn.flags`, stay).  The `_cases` lemmas give the result of every function of
  the machine case by case, with a callback invocation known only as a `Call`.
-/
import Mhd.Model.SuspDaemon
namespace Mhd.Susp

/-- a property of a turn (start state, events, end state) that composes -/
structure TurnRel (R : Conn → List CEv → Conn → Prop) : Prop where
  refl : ∀ k, R k [] k
  trans : ∀ k e1 k1 e2 k2, R k e1 k1 → R k1 e2 k2 → R k (e1 ++ e2) k2

def Sat (R : Conn → List CEv → Conn → Prop) (f : Conn → Conn × List CEv) : Prop :=
  ∀ k, R k (f k).2 (f k).1

theorem sat_seq2 {R} (hR : TurnRel R) {f h} (hf : Sat R f) (hh : Sat R h) : Sat R (seq2 f h) :=
  fun k => hR.trans _ _ _ _ _ (hf k) (hh _)

theorem sat_stepIf {R} (hR : TurnRel R) {g ep c f} (hf : Sat R f) (hi : Sat R (handleIdle g ep)) :
    Sat R (stepIf g ep c f) := by
  intro k
  cases c
  · exact hR.refl k
  · exact sat_seq2 hR hf hi k

theorem sat_callHandlers {R} (hR : TurnRel R) {g ep} (hr : Sat R (handleRead g)) (hw : Sat R (handleWrite g))
    (hi : Sat R (handleIdle g ep)) (rr wr : Bool) : Sat R (fun k => callHandlers g ep k rr wr) := by
  intro k
  simp only [callHandlers]
  have A := sat_stepIf (c := k.eli.hasRead && rr) hR hr hi k
  generalize stepIf g ep (k.eli.hasRead && rr) (handleRead g) k = a at A
  have B := sat_stepIf (c := a.1.eli == .write && wr) hR hw hi a.1
  generalize stepIf g ep (a.1.eli == .write && wr) (handleWrite g) a.1 = b at B
  have AB := hR.trans _ _ _ _ _ A B
  cases !(k.eli.hasRead && rr || a.1.eli == .write && wr)
  · cases k.st == .recvHead && k.rbuf.isEmpty
    · exact AB
    · have C := sat_stepIf (c := b.1.st == .hdrSending) hR hw hi b.1
      generalize stepIf g ep (b.1.st == .hdrSending) (handleWrite g) b.1 = c at C
      exact hR.trans _ _ _ _ _ (hR.trans _ _ _ _ _ AB C) (sat_stepIf (c := c.1.st == .bodyReady) hR hw hi c.1)
  · exact hR.trans _ _ _ _ _ AB (hi b.1)

theorem sat_idleLoop {R} (hR : TurnRel R) {g} (hfault : ∀ k w, R k [.fault w] (k.setFault w).1)
    (hstep : ∀ k, ((g.idleLoop && k.suspended) || k.fault.isSome) = false → R k (idleStep g k).2.1 (idleStep g k).1) :
    ∀ n, Sat R (idleLoop g n) := by
  intro n
  induction n with
  | zero => exact fun k => hfault k _
  | succ n ih =>
    intro k
    simp only [idleLoop]
    cases hc : (g.idleLoop && k.suspended) || k.fault.isSome
    · have hs := hstep k hc
      cases (idleStep g k).2.2
      · exact hs
      · exact hR.trans _ _ _ _ _ hs (ih _)
    · exact hR.refl k

theorem sat_handleIdle {R} (hR : TurnRel R) {g ep} (hl : Sat R (idleLoop g idleFuel))
    (he : ∀ k, R k [] (updateEli g k)) (hp : ∀ k, R k [] (epollUpdate k)) :
    Sat R (handleIdle g ep) := by
  intro k
  simp only [handleIdle]
  have AB := hR.trans _ _ _ _ _ (hl k) (he (idleLoop g idleFuel k).1)
  rw [List.append_nil] at AB
  cases ep && !(g.idleEpoll && (updateEli g (idleLoop g idleFuel k).1).suspended)
  · exact AB
  · have := hR.trans _ _ _ _ _ AB (hp (updateEli g (idleLoop g idleFuel k).1))
    rwa [List.append_nil] at this

/-- the pass loop of process_request_body; `P` holds of the states the loop continues from -/
theorem sat_chunkLoop {R} (hR : TurnRel R) {g} (P : Conn → Prop)
    (hfault : ∀ k w, R k [.fault w] (k.setFault w).1)
    (hit : ∀ k, P k → R k (chunkIter g k).2.1 (chunkIter g k).1)
    (hnext : ∀ k, P k → ((chunkIter g k).2.2 && !(g.bodyRetry && (chunkIter g k).1.suspended)
                          && (chunkIter g k).1.fault.isNone) = true → P (chunkIter g k).1) :
    ∀ n k, P k → R k (chunkLoop g n k).2 (chunkLoop g n k).1 := by
  intro n
  induction n with
  | zero => exact fun k _ => hfault k _
  | succ n ih =>
    intro k hk
    simp only [chunkLoop]
    cases h : (chunkIter g k).2.2 && !(g.bodyRetry && (chunkIter g k).1.suspended) && (chunkIter g k).1.fault.isNone
    · exact hit k hk
    · exact hR.trans _ _ _ _ _ (hit k hk) (ih _ (hnext k hk h))

/-- the upload bytes the handler consumed -/
def upBytes : List CEv → List UInt8
  | [] => []
  | .handler .upload off took :: r => off.take took ++ upBytes r
  | _ :: r => upBytes r

/-- the reply body bytes sent to the client -/
def wireBytes : List CEv → List UInt8
  | [] => []
  | .sendBody b :: r => b ++ wireBytes r
  | _ :: r => wireBytes r

@[simp] theorem upBytes_nil : upBytes [] = [] := rfl
@[simp] theorem wireBytes_nil : wireBytes [] = [] := rfl

theorem upBytes_append (a b : List CEv) : upBytes (a ++ b) = upBytes a ++ upBytes b := by
  induction a with
  | nil => rfl
  | cons e r ih =>
    cases e with
    | handler ph off took =>
      cases ph
      case upload => exact (congrArg (off.take took ++ ·) ih).trans (List.append_assoc _ _ _).symm
      all_goals exact ih
    | _ => exact ih

theorem wireBytes_append (a b : List CEv) : wireBytes (a ++ b) = wireBytes a ++ wireBytes b := by
  induction a with
  | nil => rfl
  | cons e r ih =>
    cases e with
    | sendBody x => exact (congrArg (x ++ ·) ih).trans (List.append_assoc _ _ _).symm
    | _ => exact ih

def CEv.active : CEv → Bool
  | .suspend _ | .resumeReq | .resumed | .fault _ | .connStart => false
  | _ => true

def qstep (s : Bool) (e : CEv) : Option Bool :=
  match e with
  | .suspend true => if s then none else some true
  | .resumed => some false
  | e => if e.active && s then none else some s

/-- the quietness monitor: runs the `suspended` bit `s` over a log; `none` once an active event (`CEv.active`) or a
    second effective suspend is logged while the bit is set -/
def quietFrom (s : Bool) : List CEv → Option Bool
  | [] => some s
  | e :: r => (qstep s e).bind (fun s' => quietFrom s' r)

theorem quietFrom_append (s : Bool) (a b : List CEv) :
    quietFrom s (a ++ b) = (quietFrom s a).bind (fun s' => quietFrom s' b) := by
  induction a generalizing s with
  | nil => rfl
  | cons e r ih =>
    simp only [List.cons_append, quietFrom]
    cases qstep s e with
    | none => rfl
    | some s' => exact ih s'

@[simp] theorem qstep_handler (p o t) : qstep false (.handler p o t) = some false := rfl
@[simp] theorem qstep_queued : qstep false .queued = some false := rfl
@[simp] theorem qstep_reader (j p r) : qstep false (.reader j p r) = some false := rfl
@[simp] theorem qstep_recv (n) : qstep false (.recv n) = some false := rfl
@[simp] theorem qstep_sendHdr : qstep false .sendHdr = some false := rfl
@[simp] theorem qstep_sendBody (b) : qstep false (.sendBody b) = some false := rfl
@[simp] theorem qstep_sendEnd : qstep false .sendEnd = some false := rfl
@[simp] theorem qstep_completed : qstep false .completed = some false := rfl

theorem qstep_unsusp (e : CEv) : qstep false e = some (e == .suspend true) := by
  cases e with
  | suspend b => cases b <;> rfl
  | _ => rfl

def QR (k : Conn) (evs : List CEv) (k' : Conn) : Prop := quietFrom k.suspended evs = some k'.suspended

theorem QR_rel : TurnRel QR where
  refl := fun _ => rfl
  trans := by
    intro k e1 k1 e2 k2 h1 h2
    unfold QR at *
    rw [quietFrom_append, h1]; exact h2

theorem QR_nil {k k1 : Conn} (e : k1.suspended = k.suspended) : QR k [] k1 := congrArg some e.symm

theorem QR_frame {k k1 k2 : Conn} {evs} (h : QR k evs k1) (e : k2.suspended = k1.suspended) : QR k evs k2 :=
  h.trans (congrArg some e.symm)

theorem QR_cons {k k' : Conn} {e : CEv} {evs} (hk : k.suspended = false) (he : (e == .suspend true) = false)
    (k1 : Conn) (h1 : k1.suspended = false) (h : QR k1 evs k') : QR k (e :: evs) k' := by
  unfold QR at *
  rw [hk, quietFrom, qstep_unsusp, he]
  rw [h1] at h; exact h

theorem QR_one {k k' : Conn} {e : CEv} (hk : k.suspended = false) (he : (e == .suspend true) = false)
    (h1 : k'.suspended = false) : QR k [e] k' :=
  QR_cons hk he k' h1 (QR_nil rfl)

theorem QR_setFault (k : Conn) (w : String) : QR k [.fault w] (k.setFault w).1 := by
  show quietFrom k.suspended [.fault w] = some k.suspended
  cases k.suspended <;> rfl

/-- the data fields: what the callbacks' suspend / resume calls never touch -/
def Conn.data (k : Conn) :=
  (k.rbuf, k.inbox, k.sent, k.plan, k.st, k.remaining, k.chunkSize, k.chunkOff, k.lastSeen, k.rwp, k.wpend, k.eos,
   k.winStart, k.winSize, k.later, k.done)

structure Keeps (k k' : Conn) : Prop where
  rbuf : k'.rbuf = k.rbuf
  inbox : k'.inbox = k.inbox
  sent : k'.sent = k.sent
  plan : k'.plan = k.plan
  st : k'.st = k.st
  remaining : k'.remaining = k.remaining
  chunkSize : k'.chunkSize = k.chunkSize
  chunkOff : k'.chunkOff = k.chunkOff
  lastSeen : k'.lastSeen = k.lastSeen
  rwp : k'.rwp = k.rwp
  wpend : k'.wpend = k.wpend
  eos : k'.eos = k.eos
  winStart : k'.winStart = k.winStart
  winSize : k'.winSize = k.winSize
  later : k'.later = k.later
  done : k'.done = k.done

theorem Keeps.of_data {k k' : Conn} (h : k'.data = k.data) : Keeps k k' := by
  simp only [Conn.data, Prod.mk.injEq] at h
  obtain ⟨h1, h2, h3, h4, h5, h6, h7, h8, h9, h10, h11, h12, h13, h14, h15, h16⟩ := h
  exact ⟨h1, h2, h3, h4, h5, h6, h7, h8, h9, h10, h11, h12, h13, h14, h15, h16⟩

theorem Keeps.data {k k' : Conn} (h : Keeps k k') : k'.data = k.data := by
  simp only [Conn.data, h.rbuf, h.inbox, h.sent, h.plan, h.st, h.remaining, h.chunkSize, h.chunkOff, h.lastSeen, h.rwp,
    h.wpend, h.eos, h.winStart, h.winSize, h.later, h.done]

theorem Keeps.refl (k : Conn) : Keeps k k := .of_data rfl

theorem Keeps.trans {a b c : Conn} (h1 : Keeps a b) (h2 : Keeps b c) : Keeps a c := .of_data (h2.data.trans h1.data)

theorem Keeps.script {k k' : Conn} (h : Keeps k k') : k'.script = k.script := by
  unfold Conn.script; rw [h.plan, h.later, h.done]

/-- the flags: all that the suspend / resume bookkeeping of the daemon looks at -/
def Conn.flags (k : Conn) := (k.script, k.suspended, k.resuming, k.dres)

/-- what a turn may do to the flags: the scripts stay, and a suspended connection with a pending
    resume request has told the daemon (`dres`, copied to `daemon->resuming` after the turn) -/
def FrS (k k' : Conn) : Prop :=
  k'.script = k.script ∧
  (k'.suspended = true → k'.resuming = true → (k.suspended = true ∧ k.resuming = true) ∨ k'.dres = true) ∧
  (k.dres = true → k'.dres = true)

theorem FrS.refl (k : Conn) : FrS k k := ⟨rfl, fun a b => Or.inl ⟨a, b⟩, id⟩

theorem FrS.trans {a b c : Conn} (h1 : FrS a b) (h2 : FrS b c) : FrS a c := by
  refine ⟨h2.1.trans h1.1, fun hs hr => ?_, fun h => h2.2.2 (h1.2.2 h)⟩
  rcases h2.2.1 hs hr with ⟨hs1, hr1⟩ | hd
  · exact (h1.2.1 hs1 hr1).imp id h2.2.2
  · exact Or.inr hd

theorem FrS.congr {a a' b b' : Conn} (h : FrS a b) (ea : a'.flags = a.flags) (eb : b'.flags = b.flags) : FrS a' b' := by
  simp only [Conn.flags, Prod.mk.injEq] at ea eb
  obtain ⟨a1, a2, a3, a4⟩ := ea
  obtain ⟨b1, b2, b3, b4⟩ := eb
  unfold FrS
  rw [a1, a2, a3, a4, b1, b2, b3, b4]; exact h

theorem FrS.to {a b b' : Conn} (h : FrS a b) (e : b'.flags = b.flags) : FrS a b' := h.congr rfl e
theorem FrS.from {a a' b : Conn} (h : FrS a' b) (e : a'.flags = a.flags) : FrS a b := h.congr e.symm rfl
theorem FrS.of_flags {a b : Conn} (e : b.flags = a.flags) : FrS a b := (FrS.refl a).to e

theorem flags_suspended {a b : Conn} (e : b.flags = a.flags) : b.suspended = a.suspended :=
  congrArg (·.2.1) e

def QF (k : Conn) (evs : List CEv) (k' : Conn) : Prop := QR k evs k' ∧ FrS k k'

theorem QF_rel : TurnRel QF where
  refl := fun k => ⟨QR_rel.refl k, .refl k⟩
  trans := fun _ _ _ _ _ h1 h2 => ⟨QR_rel.trans _ _ _ _ _ h1.1 h2.1, h1.2.trans h2.2⟩

theorem QF.nil {k k' : Conn} (e : k'.flags = k.flags) : QF k [] k' := ⟨QR_nil (flags_suspended e), .of_flags e⟩

theorem QF.one {k k' : Conn} {ev : CEv} (e : k'.flags = k.flags) (hk : k.suspended = false)
    (he : (ev == .suspend true) = false) : QF k [ev] k' :=
  ⟨QR_one hk he ((flags_suspended e).trans hk), .of_flags e⟩

theorem QF.to {k k1 k2 : Conn} {evs} (h : QF k evs k1) (e : k2.flags = k1.flags) : QF k evs k2 :=
  ⟨QR_frame h.1 (flags_suspended e), h.2.to e⟩

theorem QF_setFault (k : Conn) (w : String) : QF k [.fault w] (k.setFault w).1 := ⟨QR_setFault k w, .of_flags rfl⟩

/-- an administrative change of a record — the suspend / resume bookkeeping of a callback or of the daemon: the
    data fields stay, nothing audible is logged -/
structure Adm (k : Conn) (evs : List CEv) (k' : Conn) : Prop where
  keeps : Keeps k k'
  up : upBytes evs = []
  wire : wireBytes evs = []
  quiet : QR k evs k'

theorem Adm_rel : TurnRel Adm where
  refl := fun k => ⟨.refl k, rfl, rfl, QR_rel.refl k⟩
  trans := fun _ _ _ _ _ h1 h2 =>
    ⟨h1.keeps.trans h2.keeps, by rw [upBytes_append, h1.up, h2.up]; rfl, by rw [wireBytes_append, h1.wire, h2.wire]; rfl,
     QR_rel.trans _ _ _ _ _ h1.quiet h2.quiet⟩

theorem Adm.silent {k k' : Conn} (hd : k'.data = k.data) (hs : k'.suspended = k.suspended) : Adm k [] k' :=
  ⟨.of_data hd, rfl, rfl, QR_nil hs⟩

/-- a marker that is no activity of the connection: `resumeReq`, `connStart` -/
theorem Adm.note {k k' : Conn} {e : CEv} (hd : k'.data = k.data) (hs : k'.suspended = k.suspended)
    (he : ∀ s, qstep s e = some s) (h1 : upBytes [e] = []) (h2 : wireBytes [e] = []) : Adm k [e] k' := by
  refine ⟨.of_data hd, h1, h2, ?_⟩
  show (qstep k.suspended e).bind _ = _
  rw [he, hs]; rfl

/-- the MHD_suspend_connection / MHD_resume_connection calls of one callback -/
structure Act (g : Guards) (k : Conn) (evs : List CEv) (k' : Conn) : Prop extends Adm k evs k' where
  fr : g.shortcut = true → FrS k k'

theorem Act.nil {g : Guards} {k k' : Conn} (hd : k'.data = k.data) (hf : k'.flags = k.flags) : Act g k [] k' :=
  ⟨.silent hd (flags_suspended hf), fun _ => .of_flags hf⟩

theorem Act.trans {g : Guards} {k k1 k2 : Conn} {e1 e2} (h1 : Act g k e1 k1) (h2 : Act g k1 e2 k2) : Act g k (e1 ++ e2) k2 :=
  ⟨Adm_rel.trans _ _ _ _ _ h1.toAdm h2.toAdm, fun hg => (h1.fr hg).trans (h2.fr hg)⟩

/-- internal_suspend_connection_: with the `resuming` short-cut, the connection is never left suspended
    with `resuming` set -/
theorem doSuspend_act (g : Guards) (k : Conn) (hk : k.suspended = false) :
    Act g k [.suspend (k.doSuspend g).2] (k.doSuspend g).1 := by
  unfold Conn.doSuspend
  cases hc : k.resuming && g.shortcut
  · refine ⟨⟨.of_data rfl, rfl, rfl, ?_⟩, fun hg => ⟨rfl, fun _ hr => ?_, id⟩⟩
    · show quietFrom k.suspended [.suspend true] = some true
      rw [hk]; rfl
    · rw [hg, Bool.and_true] at hc
      exact absurd (hr : k.resuming = true) (by rw [hc]; exact Bool.false_ne_true)
  · exact ⟨⟨.of_data rfl, rfl, rfl, QR_one hk rfl hk⟩,
      fun _ => ⟨rfl, fun hs => absurd (hs : k.suspended = true) (by rw [hk]; exact Bool.false_ne_true), id⟩⟩

theorem doResumeReq_act (g : Guards) (k : Conn) : Act g k [.resumeReq] k.doResumeReq :=
  ⟨.note rfl rfl (fun s => by cases s <;> rfl) rfl rfl, fun _ => ⟨rfl, fun _ _ => Or.inr rfl, fun _ => rfl⟩⟩

@[simp] theorem doResumeReq_susp (k : Conn) : k.doResumeReq.suspended = k.suspended := rfl

theorem suspendAct_act (g : Guards) (a : ActK) (k : Conn) : Act g k (suspendAct g k a).2 (suspendAct g k a).1 := by
  unfold suspendAct
  cases hk : k.suspended
  · have hs := doSuspend_act g k hk
    cases a with
    | pre => exact (doResumeReq_act g k).trans (doSuspend_act g k.doResumeReq hk)
    | imm => exact hs.trans (doResumeReq_act g _)
    | manual => exact hs
    | delay n =>
      generalize k.doSuspend g = r at hs
      obtain ⟨k1, eff⟩ := r
      cases eff
      · exact hs
      · exact hs.trans (Act.nil rfl rfl)
  · exact ⟨⟨.of_data rfl, rfl, rfl, QR_setFault k _⟩, fun _ => .of_flags rfl⟩

theorem optAct_none_susp (g : Guards) (k : Conn) : (optAct g k none).1 = k := rfl

theorem optAct_act (g : Guards) (a : Option ActK) (k : Conn) : Act g k (optAct g k a).2 (optAct g k a).1 := by
  cases a with
  | none => exact Act.nil rfl rfl
  | some a => exact suspendAct_act g a k

/-- all that is known of a callback invocation: the data fields stay, nothing goes on the wire, the flag
    discipline holds — it is the first thing logged, by a connection that is not suspended -/
structure Call (g : Guards) (k : Conn) (evs : List CEv) (k' : Conn) : Prop where
  keeps : Keeps k k'
  wire : wireBytes evs = []
  fr : g.shortcut = true → FrS k k'
  quiet : k.suspended = false → QR k evs k'

theorem Call.qf {g : Guards} {k k' : Conn} {evs} (h : Call g k evs k') (hg : g.shortcut = true) (hk : k.suspended = false) :
    QF k evs k' := ⟨h.quiet hk, h.fr hg⟩

/-- the callback's own event `e`, then its suspend / resume calls, on a record `k0` with a counter moved on -/
theorem Call.of_act {g : Guards} {k k0 k' : Conn} {e : CEv} {evs} (h : Act g k0 evs k') (hd : k0.data = k.data)
    (hf : k0.flags = k.flags) (he : (e == .suspend true) = false) (hw : wireBytes (e :: evs) = wireBytes evs) :
    Call g k (e :: evs) k' :=
  ⟨.of_data (h.keeps.data.trans hd), hw.trans h.wire, fun hg => (h.fr hg).from hf,
   fun hk => QR_cons hk he k0 ((flags_suspended hf).trans hk) h.quiet⟩

theorem upBytes_handler_nil (ph : Phase) (r : List CEv) : upBytes (.handler ph [] 0 :: r) = upBytes r := by
  cases ph <;> rfl

theorem callFirst_call (g : Guards) (k : Conn) :
    ∃ k1 evs, callFirst g k = (k1, evs) ∧ Call g k evs k1 ∧ upBytes evs = [] :=
  ⟨_, _, rfl, .of_act (optAct_act g _ _) rfl rfl rfl rfl, (upBytes_handler_nil _ _).trans (optAct_act g _ _).up⟩

theorem callFinal_call (g : Guards) (k : Conn) :
    ∃ k1 evs, callFinal g k = (k1, evs) ∧ Call g k evs k1 ∧ upBytes evs = [] := by
  simp only [callFinal]
  cases k.haveResp
  · cases k.plan.ls[k.nfinal]? with
    | none =>
      exact ⟨_, _, rfl, ⟨.of_data rfl, rfl, fun _ => .of_flags rfl, fun hk => QR_cons hk rfl k hk (QR_one hk rfl hk)⟩, rfl⟩
    | some a => exact ⟨_, _, rfl, .of_act (suspendAct_act g a _) rfl rfl rfl rfl, (suspendAct_act g a _).up⟩
  · exact ⟨_, _, rfl, ⟨.refl k, rfl, fun _ => .refl k, fun _ => QR_nil rfl⟩, rfl⟩

theorem takeOf_le (p : Plan) (n off : Nat) : p.takeOf n off ≤ off := by
  unfold Plan.takeOf
  split
  · exact Nat.le_refl _
  · split
    · exact Nat.min_le_right _ _
    · exact Nat.le_refl _

theorem callUpload_call (g : Guards) (k : Conn) (off : List UInt8) :
    ∃ k1 evs took, callUpload g k off = (k1, evs, took) ∧ Call g k evs k1 ∧ upBytes evs = off.take took ∧ took ≤ off.length :=
  ⟨_, _, _, rfl, .of_act (optAct_act g _ _) rfl rfl rfl rfl,
   (congrArg (off.take _ ++ ·) (optAct_act g _ _).up).trans (List.append_nil _), takeOf_le _ _ _⟩

/-- a content reader call at position `k.rwp`: a `Call`; it stays within the announced size; and unless the
    reader may suspend and return data at the same time (`rd`), a call that produced data did not suspend -/
structure Reader (g : Guards) (k : Conn) (evs : List CEv) (k' : Conn) (ret : Option Nat) : Prop where
  call : Call g k evs k'
  up : upBytes evs = []
  eos : ret = none → k.plan.size ≤ k.rwp
  le : ∀ n, ret = some n → n ≤ k.plan.size - k.rwp
  data : k.plan.rd = false → ret ≠ some 0 → k'.suspended = k.suspended

theorem readerData_le (p : Plan) (pos mx : Nat) : readerData p pos mx ≤ p.size - pos := by
  unfold readerData
  by_cases h : p.cbmax = 0
  · rw [if_pos h]; exact Nat.min_le_left _ _
  · rw [if_neg h]; exact Nat.le_trans (Nat.min_le_left _ _) (Nat.min_le_left _ _)

theorem callReader_call (g : Guards) (mx : Nat) (k : Conn) :
    ∃ k1 evs ret, callReader g k mx = (k1, evs, ret) ∧ Reader g k evs k1 ret := by
  simp only [callReader]
  have ha := optAct_act g (lookupAct k.nreader k.plan.rs) { k with nreader := k.nreader + 1 }
  have hc (r : Option Nat) : Call g k (.reader k.nreader k.rwp r :: (optAct g { k with nreader := k.nreader + 1 } (lookupAct k.nreader k.plan.rs)).2)
      (optAct g { k with nreader := k.nreader + 1 } (lookupAct k.nreader k.plan.rs)).1 := .of_act ha rfl rfl rfl rfl
  cases hc1 : (lookupAct k.nreader k.plan.rs).isSome && !k.plan.rd
  · by_cases hp : k.rwp ≥ k.plan.size
    · refine ⟨_, _, _, if_pos hp, ⟨.of_data rfl, rfl, fun _ => .of_flags rfl, fun hk => QR_one hk rfl hk⟩, rfl, fun _ => hp,
        fun n h => (nomatch h), fun _ _ => rfl⟩
    · refine ⟨_, _, _, if_neg hp, hc _, ha.up, fun h => (nomatch h), fun n h => ?_, fun hrd _ => ?_⟩
      · rw [← Option.some.inj h]; exact readerData_le _ _ _
      · -- no suspend point at this call: `optAct … none`
        rw [hrd, Bool.not_false, Bool.and_true] at hc1
        cases hl : lookupAct k.nreader k.plan.rs with
        | none => rfl
        | some a => rw [hl] at hc1; exact nomatch hc1
  · exact ⟨_, _, _, rfl, hc _, ha.up, fun h => (nomatch h), fun n h => by rw [← Option.some.inj h]; exact Nat.zero_le _,
      fun _ h => absurd rfl h⟩

theorem dataOf_append (a b : List Sym) : dataOf (a ++ b) = dataOf a ++ dataOf b := by
  induction a with
  | nil => rfl
  | cons x r ih => cases x <;> first | exact ih | exact congrArg (_ :: ·) ih

theorem dataOf_drop_lead (l : List Sym) (n : Nat) (h : n ≤ (leadBytes l).length) :
    (leadBytes l).take n ++ dataOf (l.drop n) = dataOf l := by
  induction l generalizing n with
  | nil => cases n <;> rfl
  | cons x r ih =>
    cases n with
    | zero => rfl
    | succ m =>
      cases x with
      | b y => exact congrArg (y :: ·) (ih m (Nat.le_of_succ_le_succ h))
      | _ => exact absurd h (Nat.not_succ_le_zero m)

def Conn.reply (k : Conn) := (k.plan, k.rwp, k.wpend, k.eos, k.winStart, k.winSize, k.done)

/-- a step that consumes only framing symbols of a chunked body, or nothing: no body byte leaves the read
    buffer; state, reply side and flags stay; a malformed body is reported -/
structure Parse (k : Conn) (evs : List CEv) (k' : Conn) : Prop where
  flags : k'.flags = k.flags
  body : dataOf k'.rbuf = dataOf k.rbuf
  inbox : k'.inbox = k.inbox
  sent : k'.sent = k.sent
  reply : k'.reply = k.reply
  st : k'.st = k.st
  evs : evs = [] ∨ ∃ w, evs = [.fault w]

theorem Parse.refl (k : Conn) : Parse k [] k := ⟨rfl, rfl, rfl, rfl, rfl, rfl, .inl rfl⟩

theorem Parse.fault (k : Conn) (w : String) : Parse k (faultIter k w).2.1 (faultIter k w).1 :=
  ⟨rfl, rfl, rfl, rfl, rfl, rfl, .inr ⟨w, rfl⟩⟩

theorem dataOf_skip {x : Sym} {r l : List Sym} (h : l = x :: r) (hx : dataOf (x :: r) = dataOf r) : dataOf r = dataOf l := by
  rw [h, hx]

theorem chunkSizeLine_parse (k : Conn) : Parse k (chunkSizeLine k).2.1 (chunkSizeLine k).1 := by
  unfold chunkSizeLine
  cases h : k.rbuf with
  | nil => exact .refl k
  | cons x r =>
    cases x with
    | sz n => exact ⟨rfl, dataOf_skip h rfl, rfl, rfl, rfl, rfl, .inl rfl⟩
    | last => exact ⟨rfl, dataOf_skip h rfl, rfl, rfl, rfl, rfl, .inl rfl⟩
    | _ => exact .fault k _

theorem chunkEnd_parse (k : Conn) : Parse k (chunkEnd k).2.1 (chunkEnd k).1 := by
  cases h : k.rbuf with
  | nil => simp only [chunkEnd, h]; exact .refl k
  | cons x r =>
    cases x with
    | crlf =>
      simp only [chunkEnd, h]
      cases r.isEmpty
      · have p := chunkSizeLine_parse { k with rbuf := r, chunkOff := 0, chunkSize := 0 }
        exact ⟨p.flags, p.body.trans (dataOf_skip h rfl), p.inbox, p.sent, p.reply, p.st, p.evs⟩
      · exact ⟨rfl, dataOf_skip h rfl, rfl, rfl, rfl, rfl, .inl rfl⟩
    | _ => simp only [chunkEnd, h]; exact .fault k _

/-- the handler is offered leading body bytes of the read buffer and takes `took` of them: they leave the read
    buffer; for the rest the record is as the callback left it, up to bookkeeping of the upload -/
structure Deliver (g : Guards) (k : Conn) (evs : List CEv) (k' : Conn) (took : Nat) : Prop where
  up : upBytes evs = (leadBytes k.rbuf).take took
  le : took ≤ (leadBytes k.rbuf).length
  wire : wireBytes evs = []
  rbuf : k'.rbuf = k.rbuf.drop took
  inbox : k'.inbox = k.inbox
  sent : k'.sent = k.sent
  reply : k'.reply = k.reply
  st : k'.st = k.st
  script : k'.script = k.script
  fr : g.shortcut = true → FrS k k'
  quiet : k.suspended = false → QR k evs k'

/-- the handler call of process_request_body; `upd` is what the caller does to the record afterwards -/
theorem callUpload_deliver (g : Guards) (k : Conn) (n : Nat) (upd : Conn → Nat → Conn)
    (hu : ∀ k1 t, (upd k1 t).rbuf = k1.rbuf.drop t ∧ (upd k1 t).inbox = k1.inbox ∧ (upd k1 t).sent = k1.sent ∧
      (upd k1 t).reply = k1.reply ∧ (upd k1 t).st = k1.st ∧ (upd k1 t).flags = k1.flags) :
    ∃ k1 evs took, callUpload g k ((leadBytes k.rbuf).take n) = (k1, evs, took) ∧ Keeps k k1 ∧ took ≤ n ∧
      Deliver g k evs (upd k1 took) took := by
  obtain ⟨k1, evs, took, e, hc, hup, hle⟩ := callUpload_call g k ((leadBytes k.rbuf).take n)
  rw [List.length_take] at hle
  have hk := hc.keeps
  obtain ⟨u1, u2, u3, u4, u5, u6⟩ := hu k1 took
  refine ⟨k1, evs, took, e, hk, Nat.le_trans hle (Nat.min_le_left _ _), ?_, Nat.le_trans hle (Nat.min_le_right _ _), hc.wire,
    u1.trans (congrArg (List.drop took) hk.rbuf), u2.trans hk.inbox, u3.trans hk.sent, ?_, u5.trans hk.st,
    (congrArg (·.1) u6).trans hk.script, fun hg => (hc.fr hg).to u6, fun h => QR_frame (hc.quiet h) (flags_suspended u6)⟩
  · rw [hup, List.take_take, Nat.min_eq_left (Nat.le_trans hle (Nat.min_le_left _ _))]
  · rw [u4]; simp only [Conn.reply, hk.plan, hk.rwp, hk.wpend, hk.eos, hk.winStart, hk.winSize, hk.done]

theorem procBodyCL_cases (g : Guards) (k : Conn) :
    procBodyCL g k = (k, []) ∨
    ∃ took, Deliver g k (procBodyCL g k).2 (procBodyCL g k).1 took ∧ took ≤ k.remaining ∧
      (procBodyCL g k).1.remaining = k.remaining - took ∧ (procBodyCL g k).1.plan = k.plan ∧ (procBodyCL g k).1.done = k.done := by
  by_cases h : min k.remaining (leadBytes k.rbuf).length = 0
  · exact .inl (if_pos h)
  · obtain ⟨k1, evs, took, e, hk, hle, hd⟩ := callUpload_deliver g k (min k.remaining (leadBytes k.rbuf).length)
      (fun k1 t => { k1 with rbuf := k1.rbuf.drop t, remaining := k1.remaining - t, spp := t != 0 })
      (fun _ _ => ⟨rfl, rfl, rfl, rfl, rfl, rfl⟩)
    have eq : procBodyCL g k = ({ k1 with rbuf := k1.rbuf.drop took, remaining := k1.remaining - took, spp := took != 0 }, evs) := by
      simp only [procBodyCL, if_neg h, e]
    rw [eq]
    exact .inr ⟨took, hd, Nat.le_trans hle (Nat.min_le_left _ _), congrArg (· - took) hk.remaining, hk.plan, hk.done⟩

theorem chunkMid_cases (g : Guards) (k : Conn) :
    Parse k (chunkMid g k).2.1 (chunkMid g k).1 ∨ ∃ took, Deliver g k (chunkMid g k).2.1 (chunkMid g k).1 took := by
  cases h : (leadBytes k.rbuf).isEmpty
  · obtain ⟨k1, evs, took, e, _, _, hd⟩ := callUpload_deliver g k (min (k.chunkSize - k.chunkOff) (leadBytes k.rbuf).length)
      (fun k1 t => { k1 with rbuf := k1.rbuf.drop t, chunkOff := k1.chunkOff + t, spp := t != 0 })
      (fun _ _ => ⟨rfl, rfl, rfl, rfl, rfl, rfl⟩)
    refine .inr ⟨took, ?_⟩
    simp only [chunkMid, h, e]
    exact hd
  · refine .inl ?_
    simp only [chunkMid, h, if_true]
    cases k.rbuf.isEmpty
    · exact .fault k _
    · exact .refl k

theorem chunkIter_cases (g : Guards) (k : Conn) :
    Parse k (chunkIter g k).2.1 (chunkIter g k).1 ∨ ∃ took, Deliver g k (chunkIter g k).2.1 (chunkIter g k).1 took := by
  unfold chunkIter
  by_cases h1 : k.chunkSize ≠ 0 ∧ k.chunkOff = k.chunkSize
  · rw [if_pos h1]; exact .inl (chunkEnd_parse k)
  · rw [if_neg h1]
    by_cases h2 : k.chunkSize ≠ 0
    · rw [if_pos h2]; exact chunkMid_cases g k
    · rw [if_neg h2]; exact .inl (chunkSizeLine_parse k)

/-- `P` holds where a pass starts -/
theorem sat_procBody {R} (hR : TurnRel R) {g : Guards} (P : Conn → Prop)
    (hfault : ∀ k w, R k [.fault w] (k.setFault w).1)
    (hparse : ∀ {k evs k'}, Parse k evs k' → R k evs k')
    (hdel : ∀ {k evs k' took}, P k → Deliver g k evs k' took → R k evs k')
    (hnext : ∀ k, P k → ((chunkIter g k).2.2 && !(g.bodyRetry && (chunkIter g k).1.suspended)
                          && (chunkIter g k).1.fault.isNone) = true → P (chunkIter g k).1)
    (k : Conn) (hk : P k) : R k (procBody g k).2 (procBody g k).1 := by
  unfold procBody
  cases k.chunkedUp
  · show R k (procBodyCL g k).2 (procBodyCL g k).1
    rcases procBodyCL_cases g k with e | ⟨took, hd, _⟩
    · rw [e]; exact hR.refl k
    · exact hdel hk hd
  · refine sat_chunkLoop hR P hfault (fun k hk => ?_) hnext _ k hk
    rcases chunkIter_cases g k with p | ⟨took, hd⟩
    · exact hparse p
    · exact hdel hk hd

/-- declared body length of a request (0 for a chunked one: not known from the head) -/
def Plan.clen (p : Plan) : Nat := match p.body with | .cl n => n | _ => 0

theorem stRecvHead_cases (k : Conn) :
    stRecvHead k = (k, [], false) ∨
    ∃ r, k.rbuf = .head :: r ∧
      stRecvHead k = ({ k with rbuf := r, st := .hdrProcessed, remaining := k.plan.clen }, [], true) := by
  unfold stRecvHead
  cases h : k.rbuf with
  | nil => exact .inl rfl
  | cons x r =>
    cases x with
    | head => exact .inr ⟨r, rfl, rfl⟩
    | _ => exact .inl rfl

theorem stHdrProcessed_cases (g : Guards) (k : Conn) :
    ∃ k1 evs, Call g k evs k1 ∧ upBytes evs = [] ∧
      (stHdrProcessed g k = (k1, evs, true) ∨
       stHdrProcessed g k = ({ k1 with st := if k.plan.noBody then .fullReq else .bodyRecv }, evs, true)) := by
  obtain ⟨k1, evs, e, hc, hu⟩ := callFirst_call g k
  refine ⟨k1, evs, hc, hu, ?_⟩
  simp only [stHdrProcessed, e]
  cases g.idleFirstCall && k1.suspended
  · exact .inr rfl
  · exact .inl rfl

theorem stBodyRecv_cases (g : Guards) (k : Conn) :
    ∃ k1 evs, ((k1, evs) = (k, []) ∨ (k1, evs) = procBody g k) ∧
      (stBodyRecv g k = (k1, evs, false) ∨
       k1.bodyDone = true ∧ stBodyRecv g k = ({ k1 with st := .bodyReceived }, evs, true)) := by
  simp only [stBodyRecv]
  have h : (if k.rbuf.isEmpty then (k, []) else procBody g k) = (k, []) ∨
      (if k.rbuf.isEmpty then (k, []) else procBody g k) = procBody g k := by
    cases k.rbuf.isEmpty
    · exact .inr rfl
    · exact .inl rfl
  generalize (if k.rbuf.isEmpty then (k, []) else procBody g k) = r at h ⊢
  refine ⟨r.1, r.2, h, ?_⟩
  cases hd : r.1.bodyDone
  · exact .inl rfl
  · exact .inr ⟨rfl, rfl⟩

theorem stFootersRecv_cases (k : Conn) :
    stFootersRecv k = (k, [], false) ∨
    ∃ r, k.rbuf = .trailerEnd :: r ∧ stFootersRecv k = ({ k with rbuf := r, st := .fullReq }, [], true) := by
  unfold stFootersRecv
  cases h : k.rbuf with
  | nil => exact .inl rfl
  | cons x r =>
    cases x with
    | trailerEnd => exact .inr ⟨r, rfl, rfl⟩
    | _ => exact .inl rfl

theorem stFullReq_cases (g : Guards) (k : Conn) :
    ∃ k1 evs, Call g k evs k1 ∧ upBytes evs = [] ∧
      (stFullReq g k = (k1, evs, false) ∨ stFullReq g k = ({ k1 with st := .hdrSending }, evs, false)) := by
  obtain ⟨k1, evs, e, hc, hu⟩ := callFinal_call g k
  refine ⟨k1, evs, hc, hu, ?_⟩
  simp only [stFullReq, e]
  cases k1.haveResp
  · exact .inl rfl
  · exact .inr rfl

theorem readyChunked_cases (g : Guards) (k : Conn) :
    k.eos = true ∧ readyChunked g k = ({ k with st := .bodySent }, [], true) ∨
    ∃ k1 evs ret, Reader g k evs k1 ret ∧
      (ret = none ∧ readyChunked g k = ({ k1 with eos := true, st := .bodySent }, evs, true) ∨
       ret = some 0 ∧ readyChunked g k = (k1, evs, false) ∨
       ∃ n, ret = some (n + 1) ∧
         readyChunked g k = ({ k1 with wpend := patRange k.plan.rid k.rwp (n + 1), rwp := k.rwp + (n + 1), st := .bodyReady }, evs, true)) := by
  unfold readyChunked
  cases k.eos
  · obtain ⟨k1, evs, ret, e, hr⟩ := callReader_call g (2 ^ 24 - 1) k
    refine .inr ⟨k1, evs, ret, hr, ?_⟩
    rw [e]
    cases ret with
    | none => exact .inl ⟨rfl, rfl⟩
    | some n =>
      cases n with
      | zero => exact .inr (.inl ⟨rfl, rfl⟩)
      | succ n => exact .inr (.inr ⟨n, rfl, rfl⟩)
  · exact .inl ⟨rfl, rfl⟩

theorem tryReadyNormal_cases (g : Guards) (k : Conn) :
    tryReadyNormal g k = (k, [], true) ∨
    ∃ k1 evs ret, Reader g k evs k1 ret ∧
      (ret = none ∧ tryReadyNormal g k =
          ((k1.setFault "end of stream from a known-size reader").1,
           evs ++ (k1.setFault "end of stream from a known-size reader").2, false) ∨
       ret = some 0 ∧ tryReadyNormal g k = ({ k1 with winStart := k.rwp, winSize := 0, st := .bodyUnready }, evs, false) ∨
       ∃ n, ret = some (n + 1) ∧ tryReadyNormal g k = ({ k1 with winStart := k.rwp, winSize := n + 1 }, evs, true)) := by
  unfold tryReadyNormal
  by_cases h1 : k.rwp = k.plan.size
  · exact .inl (if_pos h1)
  · by_cases h2 : k.winStart ≤ k.rwp ∧ k.rwp < k.winStart + k.winSize
    · exact .inl ((if_neg h1).trans (if_pos h2))
    · obtain ⟨k1, evs, ret, e, hr⟩ := callReader_call g (min 1024 (k.plan.size - k.rwp)) k
      refine .inr ⟨k1, evs, ret, hr, ?_⟩
      rw [if_neg h1, if_neg h2, e]
      cases ret with
      | none => exact .inl ⟨rfl, rfl⟩
      | some n =>
        cases n with
        | zero => exact .inr (.inl ⟨rfl, rfl⟩)
        | succ n => exact .inr (.inr ⟨n, rfl, rfl⟩)

theorem stBodyUnready_cases (g : Guards) (k : Conn) :
    k.chunkedReply = true ∧ stBodyUnready g k = readyChunked g k ∨
    k.chunkedReply = false ∧
      (k.plan.size = 0 ∧ stBodyUnready g k = ({ k with st := .replySent }, [], true) ∨
       ∃ k1 evs rdy, tryReadyNormal g k = (k1, evs, rdy) ∧
         stBodyUnready g k = (if rdy then { k1 with st := .bodyReady } else k1, evs, false)) := by
  simp only [stBodyUnready]
  cases k.chunkedReply
  · refine .inr ⟨rfl, ?_⟩
    by_cases hz : k.plan.size = 0
    · exact .inl ⟨hz, (if_neg Bool.false_ne_true).trans (if_pos hz)⟩
    · refine .inr ⟨(tryReadyNormal g k).1, (tryReadyNormal g k).2.1, (tryReadyNormal g k).2.2, rfl,
        (if_neg Bool.false_ne_true).trans ((if_neg hz).trans ?_)⟩
      generalize tryReadyNormal g k = r
      cases r.2.2 <;> rfl
  · exact .inl ⟨rfl, rfl⟩

theorem nextRequest_cases (k : Conn) :
    k.later = [] ∧ nextRequest k = ({ k with st := .finished }, [.completed], true) ∨
    ∃ p ps, k.later = p :: ps ∧
      nextRequest k =
        ({ k with plan := p, later := ps, done := k.done ++ [k.plan], st := .recvHead,
                  remaining := 0, chunkSize := 0, chunkOff := 0, lastSeen := false, spp := false,
                  haveResp := false, rwp := 0, winStart := 0, winSize := 0, wpend := [], eos := false,
                  eli := if k.rbuf.isEmpty then .read else .process,
                  nfirst := 0, nupload := 0, nfinal := 0, nreader := 0 }, [.completed], true) := by
  unfold nextRequest
  cases h : k.later with
  | nil => exact .inl ⟨rfl, rfl⟩
  | cons p ps => exact .inr ⟨p, ps, rfl, rfl⟩

theorem idleStep_cases (g : Guards) (k : Conn) {P : Conn × List CEv × Bool → Prop}
    (recvHead : k.st = .recvHead → P (stRecvHead k))
    (hdrProcessed : k.st = .hdrProcessed → P (stHdrProcessed g k))
    (bodyRecv : k.st = .bodyRecv → P (stBodyRecv g k))
    (bodyReceived : k.st = .bodyReceived → P ({ k with st := if k.chunkedUp then .footersRecv else .fullReq }, [], true))
    (footersRecv : k.st = .footersRecv → P (stFootersRecv k))
    (fullReq : k.st = .fullReq → P (stFullReq g k))
    (hdrSent : k.st = .hdrSent → P ({ k with st := .bodyUnready }, [], true))
    (bodyUnready : k.st = .bodyUnready → P (stBodyUnready g k))
    (bodySent : k.st = .bodySent → P ({ k with st := .footersSending }, [], true))
    (replySent : k.st = .replySent → P (nextRequest k))
    (wait : P (k, [], false)) : P (idleStep g k) := by
  unfold idleStep
  cases h : k.st
  case recvHead => exact recvHead h
  case hdrProcessed => exact hdrProcessed h
  case bodyRecv => exact bodyRecv h
  case bodyReceived => exact bodyReceived h
  case footersRecv => exact footersRecv h
  case fullReq => exact fullReq h
  case hdrSent => exact hdrSent h
  case bodyUnready => exact bodyUnready h
  case bodySent => exact bodySent h
  case replySent => exact replySent h
  all_goals exact wait

theorem updateEli_frame (g : Guards) (k : Conn) : (updateEli g k).data = k.data ∧ (updateEli g k).flags = k.flags := by
  unfold updateEli
  cases g.eli && k.suspended <;> exact ⟨rfl, rfl⟩

theorem ite_frame {c : Prop} [Decidable c] {k k' : Conn} (h : k'.data = k.data ∧ k'.flags = k.flags) :
    (if c then k' else k).data = k.data ∧ (if c then k' else k).flags = k.flags := by
  by_cases hc : c
  · rw [if_pos hc]; exact h
  · rw [if_neg hc]; exact ⟨rfl, rfl⟩

theorem epollUpdate_frame (k : Conn) : (epollUpdate k).data = k.data ∧ (epollUpdate k).flags = k.flags := by
  unfold epollUpdate
  have a := ite_frame (c := (k.eli.hasProcess && !k.inEready) = true) (k := k) (k' := { k with inEready := true }) ⟨rfl, rfl⟩
  generalize (if (k.eli.hasProcess && !k.inEready) = true then { k with inEready := true } else k) = k1 at a ⊢
  have b := ite_frame (c := (!k1.inSet && !k1.epSusp &&
      ((k1.eli == .write && !k1.writeReady) || (k1.eli.hasRead && !k1.readReady))) = true) (k := k1)
    (k' := { k1 with inSet := true }) ⟨rfl, rfl⟩
  exact ⟨b.1.trans a.1, b.2.trans a.2⟩

theorem epollMark_frame (k : Conn) (i o : Bool) : (epollMark k i o).data = k.data ∧ (epollMark k i o).flags = k.flags := by
  unfold epollMark
  have a := ite_frame (c := i = true) (k := k) (k' := { k with readReady := true, inEready := true }) ⟨rfl, rfl⟩
  generalize (if i = true then { k with readReady := true, inEready := true } else k) = k1 at a ⊢
  have b := ite_frame (c := o = true) (k := k1)
    (k' := { k1 with writeReady := true, inEready := k1.inEready || k1.eli == .write }) ⟨rfl, rfl⟩
  exact ⟨b.1.trans a.1, b.2.trans a.2⟩

theorem handleRead_cases (g : Guards) (k : Conn) :
    (g.read && k.suspended) = true ∧ handleRead g k = (k, []) ∨
    (g.read && k.suspended) = false ∧
      (k.inbox = [] ∧ handleRead g k = ({ k with readReady := false }, [.recv none]) ∨
       handleRead g k = ({ k with rbuf := k.rbuf ++ k.inbox, inbox := [], readReady := false }, [.recv (some k.inbox.length)])) := by
  unfold handleRead
  cases g.read && k.suspended
  · refine .inr ⟨rfl, ?_⟩
    cases k.inbox with
    | nil => exact .inl ⟨rfl, rfl⟩
    | cons x xs => exact .inr rfl
  · exact .inl ⟨rfl, rfl⟩

theorem writeBodyKnown_cases (g : Guards) (k : Conn) :
    ¬ k.rwp < k.plan.size ∧ writeBodyKnown g k = ({ k with st := .replySent }, []) ∨
    k.rwp < k.plan.size ∧ ∃ k1 evs rdy, tryReadyNormal g k = (k1, evs, rdy) ∧
      (writeBodyKnown g k = (k1, evs) ∨
       rdy = true ∧ (g.writeReader && k1.suspended) = false ∧ ∃ n s, n = k1.winStart + k1.winSize - k1.rwp ∧
         (s = .replySent ∧ k1.rwp + n = k1.plan.size ∨ s = k1.st ∧ k1.rwp + n ≠ k1.plan.size) ∧
         writeBodyKnown g k = ({ k1 with rwp := k1.rwp + n, st := s }, evs ++ [.sendBody (patRange k1.plan.rid k1.rwp n)])) := by
  by_cases h : k.rwp < k.plan.size
  · refine .inr ⟨h, (tryReadyNormal g k).1, (tryReadyNormal g k).2.1, (tryReadyNormal g k).2.2, rfl, ?_⟩
    simp only [writeBodyKnown, if_pos h]
    generalize tryReadyNormal g k = r
    cases r.2.2
    · exact .inl rfl
    · cases g.writeReader && r.1.suspended
      · refine .inr ⟨rfl, rfl, _, _, rfl, ?_, rfl⟩
        by_cases hc : r.1.rwp + (r.1.winStart + r.1.winSize - r.1.rwp) = r.1.plan.size
        · exact .inl ⟨if_pos hc, hc⟩
        · exact .inr ⟨if_neg hc, hc⟩
      · exact .inl rfl
  · exact .inl ⟨h, if_neg h⟩

theorem handleWrite_cases (g : Guards) (k : Conn) :
    handleWrite g k = (k, []) ∨
    (g.write && k.suspended) = false ∧
      (k.st = .hdrSending ∧ handleWrite g k = ({ k with st := .hdrSent }, [.sendHdr]) ∨
       k.st = .bodyReady ∧ k.chunkedReply = true ∧ handleWrite g k = ({ k with wpend := [], st := .bodyUnready }, [.sendBody k.wpend]) ∨
       k.st = .bodyReady ∧ k.chunkedReply = false ∧ handleWrite g k = writeBodyKnown g k ∨
       k.st = .footersSending ∧ handleWrite g k = ({ k with st := .replySent }, [.sendEnd])) := by
  unfold handleWrite
  cases g.write && k.suspended
  · cases h : k.st
    case hdrSending => exact .inr ⟨rfl, .inl ⟨rfl, rfl⟩⟩
    case bodyReady =>
      cases hc : k.chunkedReply
      · exact .inr ⟨rfl, .inr (.inr (.inl ⟨rfl, rfl, rfl⟩))⟩
      · exact .inr ⟨rfl, .inr (.inl ⟨rfl, rfl, rfl⟩)⟩
    case footersSending => exact .inr ⟨rfl, .inr (.inr (.inr ⟨rfl, rfl⟩))⟩
    all_goals exact .inl rfl
  · exact .inl rfl

end Mhd.Susp
