/-
  What each primitive operation of the model does to the daemon state (`…_cases`, `…_eq`: every state,
  also after a failed list operation), what it leaves alone and how it may change the record of its
  connection (`Touch`), and that it preserves `Inv` (repaired variant); with the API-level facts: an
  override takes effect immediately, resume restarts the timer.
-/
import Mhd.Proofs.TmoInv
namespace Mhd.Tmo
open Mhd.Gen.Tmo

@[simp] theorem mem_without {l : List Id} {i j : Id} : j ∈ without l i ↔ j ∈ l ∧ j ≠ i := by
  simp [without]

theorem nodup_without {l : List Id} (i : Id) (h : l.Nodup) : (without l i).Nodup :=
  List.Nodup.sublist List.filter_sublist h

theorem mem_stampIns (v : Variant) (f : Id → Nat) (l : List Id) (i j : Id) :
    j ∈ stampIns v f l i ↔ j = i ∨ j ∈ l := by
  unfold stampIns
  split
  · exact mem_insSorted f l i j
  · simp

theorem stampIns_sorted {v : Variant} (hv : v.actSorted = true) (f : Id → Nat) (l : List Id) (i : Id) :
    stampIns v f l i = insSorted f l i := by
  simp [stampIns, hv]

theorem remNormal_eq (d : Daemon) (i : Id) :
    d.remNormal i = { d with normal := d.normal.erase i, fault := d.fault || !decide (i ∈ d.normal) } := by
  unfold Daemon.remNormal
  by_cases h : i ∈ d.normal
  · simp [h]
  · simp [h, List.erase_of_not_mem h]

theorem remManual_eq (d : Daemon) (i : Id) :
    d.remManual i = { d with manual := d.manual.erase i, fault := d.fault || !decide (i ∈ d.manual) } := by
  unfold Daemon.remManual
  by_cases h : i ∈ d.manual
  · simp [h]
  · simp [h, List.erase_of_not_mem h]

theorem remConns_eq (d : Daemon) (i : Id) :
    d.remConns i = { d with conns := d.conns.erase i, fault := d.fault || !decide (i ∈ d.conns) } := by
  unfold Daemon.remConns
  by_cases h : i ∈ d.conns
  · simp [h]
  · simp [h, List.erase_of_not_mem h]

theorem remSusp_eq (d : Daemon) (i : Id) :
    d.remSusp i = { d with susp := d.susp.erase i, fault := d.fault || !decide (i ∈ d.susp) } := by
  unfold Daemon.remSusp
  by_cases h : i ∈ d.susp
  · simp [h]
  · simp [h, List.erase_of_not_mem h]

theorem remTimeout_shape (d : Daemon) (i : Id) :
    ∃ n m f, d.remTimeout i = { d with normal := n, manual := m, fault := f } := by
  unfold Daemon.remTimeout
  split
  · exact ⟨_, _, _, remNormal_eq d i⟩
  · exact ⟨_, _, _, remManual_eq d i⟩

/-- a live connection is on exactly one of the two timeout lists: the removal succeeds, and erasing it
    from the other list as well changes nothing -/
theorem remTimeout_live {d : Daemon} (h : Inv d) {i : Id} (hi : i ∈ d.conns) :
    d.remTimeout i = { d with normal := d.normal.erase i, manual := d.manual.erase i } := by
  unfold Daemon.remTimeout
  by_cases ht : (d.c i).tmo = d.cfg.dtmo
  · have hm : i ∉ d.manual := fun x => h.manualT i x ht
    simp [ht, remNormal_eq, mem_normal_of_conns h hi ht, List.erase_of_not_mem hm]
  · have hn : i ∉ d.normal := fun x => ht (h.normalT i x)
    simp [ht, remManual_eq, mem_manual_of_conns h hi ht, List.erase_of_not_mem hn]

theorem insTimeout_eq (v : Variant) (d : Daemon) (i : Id) : d.insTimeout v i =
    { d with normal := if (d.c i).tmo = d.cfg.dtmo then stampIns v d.la d.normal i else d.normal,
             manual := if (d.c i).tmo = d.cfg.dtmo then d.manual else i :: d.manual } := by
  unfold Daemon.insTimeout
  split <;> rfl

theorem ite_ite_same {α : Type} (i : Id) (x y : α) (f : Id → α) :
    (fun j => if j = i then y else if j = i then x else f j) = fun j => if j = i then y else f j := by
  funext j; split <;> rfl

theorem set_set (d : Daemon) (i : Id) (x y : Conn) : (d.set i x).set i y = d.set i y := by
  unfold Daemon.set
  congr 1
  funext j
  by_cases h : j = i <;> simp [h]

/-- everything that later steps rely on about the connections outside `S` is unchanged -/
structure OthersOf (S : Id → Prop) (d d' : Daemon) : Prop where
  used : d'.used = d.used
  newL : d'.newL = d.newL
  cfg : d'.cfg = d.cfg
  now : d'.now = d.now
  back : d'.back = d.back
  conns : ∀ j, ¬ S j → (j ∈ d'.conns ↔ j ∈ d.conns)
  susp : ∀ j, ¬ S j → (j ∈ d'.susp ↔ j ∈ d.susp)
  cleanup : ∀ j, ¬ S j → (j ∈ d'.cleanup ↔ j ∈ d.cleanup)
  c : ∀ j, ¬ S j → d'.c j = d.c j

/-- … about the connections other than `i` -/
abbrev Others (i : Id) (d d' : Daemon) : Prop := OthersOf (· = i) d d'

theorem OthersOf.refl (S : Id → Prop) (d : Daemon) : OthersOf S d d :=
  ⟨rfl, rfl, rfl, rfl, rfl, fun _ _ => .rfl, fun _ _ => .rfl, fun _ _ => .rfl, fun _ _ => rfl⟩

theorem OthersOf.trans {S : Id → Prop} {a b c : Daemon} (h1 : OthersOf S a b) (h2 : OthersOf S b c) : OthersOf S a c :=
  ⟨h2.used.trans h1.used, h2.newL.trans h1.newL, h2.cfg.trans h1.cfg, h2.now.trans h1.now, h2.back.trans h1.back,
   fun j hj => (h2.conns j hj).trans (h1.conns j hj), fun j hj => (h2.susp j hj).trans (h1.susp j hj),
   fun j hj => (h2.cleanup j hj).trans (h1.cleanup j hj), fun j hj => (h2.c j hj).trans (h1.c j hj)⟩

theorem OthersOf.mono {S S' : Id → Prop} {d d' : Daemon} (hS : ∀ j, S j → S' j) (h : OthersOf S d d') : OthersOf S' d d' :=
  ⟨h.used, h.newL, h.cfg, h.now, h.back, fun j hj => h.conns j (fun x => hj (hS j x)), fun j hj => h.susp j (fun x => hj (hS j x)),
   fun j hj => h.cleanup j (fun x => hj (hS j x)), fun j hj => h.c j (fun x => hj (hS j x))⟩

/-- how the record of one connection may change inside a round: it may be freed (`tmo = 0`), be or
    become closed, or keep its timeout while its stamp is either untouched (then a suspended
    connection stays suspended) or set to the current time -/
def Step1 (now : Nat) (c c' : Conn) : Prop :=
  (c.closed = true → c'.closed = true ∨ c'.tmo = 0) ∧
  (c'.tmo = 0 ∨ c'.closed = true ∨ (c'.tmo = c.tmo ∧ (c'.la = now ∨
    (c'.la = c.la ∧ (c.suspended = true → c'.suspended = true)))))

theorem Step1.refl (now : Nat) (c : Conn) : Step1 now c c :=
  ⟨fun h => Or.inl h, Or.inr (Or.inr ⟨rfl, Or.inr ⟨rfl, fun h => h⟩⟩)⟩

theorem Step1.trans {now : Nat} {a b c : Conn} (h1 : Step1 now a b) (h2 : Step1 now b c) : Step1 now a c := by
  unfold Step1 at *
  grind

theorem Step1.of_closed {now : Nat} {c c' : Conn} (h : c'.closed = true) : Step1 now c c' :=
  ⟨fun _ => .inl h, .inr (.inl h)⟩

theorem Step1.of_free {now : Nat} {c c' : Conn} (h : c'.tmo = 0) : Step1 now c c' :=
  ⟨fun _ => .inr h, .inl h⟩

theorem Step1.keep {now : Nat} {c c' : Conn} (h1 : c'.la = c.la) (h2 : c'.tmo = c.tmo)
    (h3 : c.suspended = true → c'.suspended = true) (h4 : c.closed = true → c'.closed = true) : Step1 now c c' :=
  ⟨fun h => .inl (h4 h), .inr (.inr ⟨h2, .inr ⟨h1, h3⟩⟩)⟩

theorem Step1.stamp {now : Nat} {c c' : Conn} (h1 : c'.la = now) (h2 : c'.tmo = c.tmo)
    (h4 : c.closed = true → c'.closed = true) : Step1 now c c' :=
  ⟨fun h => .inl (h4 h), .inr (.inr ⟨h2, .inl h1⟩)⟩

/-- an operation on connection `i` inside a round: the other connections and the daemon-wide pending flag
    are left alone and the record of `i` changes admissibly -/
structure Touch (i : Id) (d d' : Daemon) : Prop extends OthersOf (· = i) d d' where
  dataPending : d'.dataPending = d.dataPending
  step : Step1 d.now (d.c i) (d'.c i)

theorem Touch.refl (i : Id) (d : Daemon) : Touch i d d := ⟨OthersOf.refl _ d, rfl, Step1.refl _ _⟩

theorem Touch.trans {i : Id} {a b c : Daemon} (h1 : Touch i a b) (h2 : Touch i b c) : Touch i a c :=
  ⟨h1.toOthersOf.trans h2.toOthersOf, h2.dataPending.trans h1.dataPending, h1.step.trans (h1.now ▸ h2.step)⟩

theorem touch_lists (i : Id) (d : Daemon) {x : Conn} (hx : Step1 d.now (d.c i) x) {cs ss cl n m e k : List Id} {f : Bool}
    (hcs : ∀ j, j ≠ i → (j ∈ cs ↔ j ∈ d.conns)) (hss : ∀ j, j ≠ i → (j ∈ ss ↔ j ∈ d.susp))
    (hcl : ∀ j, j ≠ i → (j ∈ cl ↔ j ∈ d.cleanup)) :
    Touch i d { d.set i x with conns := cs, susp := ss, cleanup := cl, normal := n, manual := m, eready := e,
                               kq := k, fault := f } :=
  ⟨⟨rfl, rfl, rfl, rfl, rfl, hcs, hss, hcl, fun j hj => by simp [hj]⟩, rfl, by simpa using hx⟩

theorem touch_set (i : Id) (d : Daemon) (x : Conn) (h1 : x.la = (d.c i).la) (h2 : x.tmo = (d.c i).tmo)
    (h3 : x.suspended = (d.c i).suspended) (h4 : (d.c i).closed = true → x.closed = true) : Touch i d (d.set i x) :=
  touch_lists i d (Step1.keep h1 h2 (fun h => h3.trans h) h4) (fun _ _ => .rfl) (fun _ _ => .rfl) (fun _ _ => .rfl)


theorem updateLastActivity_cases (v : Variant) (d : Daemon) (i : Id) :
    (((d.c i).tmo = 0 ∨ (d.c i).suspended = true) ∧ updateLastActivity v d i = d) ∨
    ∃ n f, updateLastActivity v d i = { d.set i { (d.c i) with la := d.now } with normal := n, fault := f } := by
  unfold updateLastActivity
  dsimp only
  by_cases h0 : (d.c i).tmo = 0
  · exact .inl ⟨.inl h0, if_pos h0⟩
  · rw [if_neg h0]
    by_cases hs : (d.c i).suspended = true
    · exact .inl ⟨.inr hs, if_pos hs⟩
    · rw [if_neg hs]
      split
      · exact .inr ⟨_, _, rfl⟩
      · exact .inr ⟨_, _, by rw [remNormal_eq]⟩

theorem touch_updateLastActivity (v : Variant) (d : Daemon) (i : Id) : Touch i d (updateLastActivity v d i) := by
  rcases updateLastActivity_cases v d i with ⟨_, e⟩ | ⟨n, f, e⟩ <;> rw [e]
  · exact Touch.refl i d
  · refine touch_lists i d ?_ (fun _ _ => .rfl) (fun _ _ => .rfl) (fun _ _ => .rfl)
    exact Step1.stamp rfl rfl id

theorem updateLastActivity_conns (v : Variant) (d : Daemon) (i : Id) : (updateLastActivity v d i).conns = d.conns := by
  rcases updateLastActivity_cases v d i with ⟨_, e⟩ | ⟨n, f, e⟩ <;> rw [e] <;> rfl

theorem updateLastActivity_closed (v : Variant) (d : Daemon) (i : Id) :
    ((updateLastActivity v d i).c i).closed = (d.c i).closed := by
  rcases updateLastActivity_cases v d i with ⟨_, e⟩ | ⟨n, f, e⟩ <;> rw [e]
  simp

theorem inv_updateLastActivity {v : Variant} (hv : v.actSorted = true) {d : Daemon} (h : Inv d) (i : Id)
    (hi : i ∈ d.conns) : Inv (updateLastActivity v d i) := by
  by_cases h0 : (d.c i).tmo = 0
  · simp [updateLastActivity, h0]; exact h
  have hs : (d.c i).suspended = false := h.connsS i hi
  have e : updateLastActivity v d i = { d.set i { (d.c i) with la := d.now } with
      normal := if (d.c i).tmo = d.cfg.dtmo then insSorted (d.set i { (d.c i) with la := d.now }).la (d.normal.erase i) i
        else d.normal } := by
    unfold updateLastActivity
    simp only [if_neg h0, hs, Bool.false_eq_true, if_false]
    by_cases ht : (d.c i).tmo = d.cfg.dtmo
    · simp only [ht, ne_eq, not_true, if_false, if_true, remNormal_eq, set_normal, stampIns_sorted hv,
        mem_normal_of_conns h hi ht, decide_true, Bool.not_true, Bool.or_false]
      rfl
    · simp only [ht, ne_eq, not_false_eq_true, if_true, if_false]
      rfl
  rw [e]
  apply inv_retime h hi
  case hnormal =>
    split
    · rfl
    · rename_i ht; exact (List.erase_of_not_mem fun x => ht (h.normalT i x)).symm
  case hmanual =>
    intro j
    rw [List.Nodup.mem_erase_iff h.ndManual]
    by_cases e : j = i
    · subst e; simp; exact ⟨fun x => h.manualT j x, fun x => mem_manual_of_conns h hi x⟩
    · simp [e]
  case hndm => exact h.ndManual
  case hxs => exact hs
  case hxl => exact Nat.le_add_right _ _
  case hxt => exact h.tmoB i

theorem setTimeout_cases (v : Variant) (d : Daemon) (i : Id) (s : Nat) :
    ∃ x n m f, (v.optSusp = true → x.tmo = s * msPerSec) ∧
      setTimeout v d i s = { d.set i x with normal := n, manual := m, fault := f } := by
  obtain ⟨n, m, f, e⟩ := remTimeout_shape d i
  unfold setTimeout
  dsimp only
  by_cases hs : (d.c i).suspended = false
  · rw [if_pos hs, e]
    by_cases hn : s * msPerSec = d.cfg.dtmo
    · exact ⟨_, _, _, _, fun _ => rfl, if_pos hn⟩
    · exact ⟨_, _, _, _, fun _ => rfl, if_neg hn⟩
  · rw [if_neg hs]
    by_cases hv : v.optSusp = true
    · exact ⟨_, _, _, _, fun _ => rfl, if_pos hv⟩
    · exact ⟨_, _, _, _, fun x => absurd x hv, if_neg hv⟩

theorem others_setTimeout (v : Variant) (d : Daemon) (i : Id) (s : Nat) : Others i d (setTimeout v d i s) := by
  obtain ⟨x, n, m, f, _, e⟩ := setTimeout_cases v d i s
  rw [e]
  exact ⟨rfl, rfl, rfl, rfl, rfl, fun _ _ => .rfl, fun _ _ => .rfl, fun _ _ => .rfl, fun j hj => by simp [hj]⟩

/-- the record after an override that is stored -/
def overrideRec (d : Daemon) (i : Id) (s : Nat) : Conn :=
  { (d.c i) with la := if (d.c i).tmo = 0 then d.now else (d.c i).la, tmo := s * msPerSec }

theorem inv_setTimeout {v : Variant} (hv : Fixed v) {d : Daemon} (h : Inv d) (i : Id) (s : Nat)
    (hst : i ∈ d.conns ∨ i ∈ d.susp) (hT : s * msPerSec ≤ tmoMax) : Inv (setTimeout v d i s) := by
  obtain ⟨v1, v2, _, _, _⟩ := hv
  have hla : (if (d.c i).tmo = 0 then d.now else (d.c i).la) ≤ d.now + d.back := by
    split; exact Nat.le_add_right _ _; exact h.laLe i
  rcases hst with hi | hi
  · have hs : (d.c i).suspended = false := h.connsS i hi
    have e : setTimeout v d i s = { d.set i (overrideRec d i s) with
        normal := if s * msPerSec = d.cfg.dtmo then insSorted (d.set i (overrideRec d i s)).la (d.normal.erase i) i
          else d.normal.erase i,
        manual := if s * msPerSec = d.cfg.dtmo then d.manual.erase i else i :: d.manual.erase i } := by
      unfold setTimeout
      simp only [hs, if_true, remTimeout_live h hi, set_cfg, v1, overrideRec]
      split <;> rfl
    rw [e]
    apply inv_retime h hi
    case hnormal => rfl
    case hmanual => intro j; simp only [overrideRec]; split <;> simp [*]
    case hndm =>
      have := h.ndManual.erase i
      split
      · exact this
      · exact List.nodup_cons.2 ⟨List.Nodup.not_mem_erase h.ndManual, this⟩
    case hxs => exact hs
    case hxl => exact hla
    case hxt => exact hT
  · -- a suspended connection is in no timeout list: only its record changes
    have hs : (d.c i).suspended = true := h.suspS i hi
    have hnc : i ∉ d.conns := fun hc => by have := h.connsS i hc; simp [hs] at this
    have e : setTimeout v d i s = d.set i (overrideRec d i s) := by
      simp [setTimeout, hs, v2, overrideRec]
    rw [e]
    apply inv_offlist h i hnc (fun x => (h.disjNew i x).2.1 hi)
    case hnde => exact h.ndEready
    case hnep => exact h.nonEpoll
    case hrdy => exact fun j hj => hj
    case hc => intro j hj; simp [hj]
    case hxs => left; simp [overrideRec]
    case hxl => simpa [overrideRec] using hla
    case hxt => simpa [overrideRec] using hT


/-- override: whatever list the connection is on and whether or not it is suspended, the new value is
    in force as soon as `MHD_set_connection_option` returns (repaired behaviour) -/
theorem setTimeout_tmo {v : Variant} (hv : v.optSusp = true) (d : Daemon) (i : Id) (s : Nat) :
    ((setTimeout v d i s).c i).tmo = s * msPerSec := by
  obtain ⟨x, n, m, f, hx, e⟩ := setTimeout_cases v d i s
  rw [e]; simpa using hx hv

/-- … and a live connection sits on the list that `MHD_get_timeout64` and the loops consult for that
    value: the normal list iff the value equals the daemon's default -/
theorem setTimeout_list {v : Variant} (hv : Fixed v) {d : Daemon} (h : Inv d) (i : Id) (s : Nat)
    (hi : i ∈ d.conns) (hs : s * msPerSec ≤ tmoMax) :
    (i ∈ (setTimeout v d i s).normal ↔ s * msPerSec = d.cfg.dtmo) ∧
    (i ∈ (setTimeout v d i s).manual ↔ s * msPerSec ≠ d.cfg.dtmo) := by
  have h' := inv_setTimeout hv h i s (Or.inl hi) hs
  have ht := setTimeout_tmo hv.2.1 d i s
  have hcfg : (setTimeout v d i s).cfg = d.cfg := (others_setTimeout v d i s).cfg
  have hc : i ∈ (setTimeout v d i s).conns := by
    obtain ⟨x, n, m, f, _, e⟩ := setTimeout_cases v d i s
    rw [e]; exact hi
  have hn := h'.normalT i
  have hm := h'.manualT i
  rw [ht, hcfg] at hn hm
  rcases (h'.connsIff i).1 hc with y | y
  · exact ⟨⟨hn, fun _ => y⟩, ⟨fun x => hm x, fun x => absurd (hn y) x⟩⟩
  · exact ⟨⟨hn, fun x => absurd x (hm y)⟩, ⟨hm, fun _ => y⟩⟩


theorem internalSuspend_cases (d : Daemon) (i : Id) :
    internalSuspend d i = d.set i { (d.c i) with resuming := false } ∨
    ∃ n m f e k b, internalSuspend d i =
      { d.set i { (d.c i) with suspended := true, inSet := b } with
        normal := n, manual := m, fault := f, conns := d.conns.erase i, susp := i :: d.susp, eready := e, kq := k } := by
  obtain ⟨n, m, f, e⟩ := remTimeout_shape d i
  unfold internalSuspend
  dsimp only
  by_cases hr : (d.c i).resuming = true
  · exact .inl (by rw [if_pos hr])
  · simp only [if_neg hr, e, remConns_eq, set_cfg, set_c, if_true, set_set, set_eready, set_kq]
    split
    · exact .inr ⟨n, m, _, _, _, false, rfl⟩
    · exact .inr ⟨n, m, _, _, _, (d.c i).inSet, rfl⟩

theorem touch_internalSuspend (d : Daemon) (i : Id) : Touch i d (internalSuspend d i) := by
  rcases internalSuspend_cases d i with e | ⟨n, m, f, e', k, b, e⟩ <;> rw [e]
  · exact touch_set i d _ rfl rfl rfl id
  · refine touch_lists i d ?_ (fun _ hj => List.mem_erase_of_ne hj) (fun _ hj => by simp [hj]) (fun _ _ => .rfl)
    exact Step1.keep rfl rfl (fun _ => rfl) id

theorem internalSuspend_post (d : Daemon) (i : Id) (hi : i ∈ d.conns) :
    (i ∈ (internalSuspend d i).conns ∨ ((internalSuspend d i).c i).suspended = true) ∧
    ((internalSuspend d i).c i).closed = (d.c i).closed := by
  rcases internalSuspend_cases d i with e | ⟨n, m, f, e', k, b, e⟩ <;> rw [e]
  · exact ⟨.inl hi, by simp⟩
  · exact ⟨.inr (by simp), by simp⟩

theorem inv_internalSuspend {d : Daemon} (h : Inv d) (i : Id) (hi : i ∈ d.conns) :
    Inv (internalSuspend d i) := by
  by_cases hr : (d.c i).resuming = true
  · simp only [internalSuspend, hr, if_true]
    exact inv_set_inessential h i _ rfl rfl rfl
  unfold internalSuspend
  simp only [if_neg hr, remTimeout_live h hi, remConns_eq, set_cfg, set_c, if_true, set_set, set_eready, set_kq, hi,
    decide_true, Bool.not_true, Bool.or_false]
  cases he : d.cfg.epoll
  · obtain ⟨e1, e2⟩ := h.nonEpoll he
    apply inv_deactivate h i hi true
    case hnde => exact h.ndEready
    case hnep => exact h.nonEpoll
    case hrdy => intro j hj; simp [e1, e2] at hj
    case hc => intro j hj; simp [hj]
    all_goals simp
  · apply inv_deactivate h i hi true
    case hnde => exact nodup_without i h.ndEready
    case hnep => intro x; simp [he] at x
    case hrdy => intro j hj; simp at hj; exact ⟨.inl (hj.elim (·.2) (·.2)), hj.imp (·.1) (·.1)⟩
    case hc => intro j hj; simp [hj]
    all_goals simp


theorem cleanupConnection_cases (d : Daemon) (i : Id) :
    cleanupConnection d i = d ∨
    ∃ x n m f cs ss, x.closed = (d.c i).closed ∧
      (∀ j, j ≠ i → (j ∈ cs ↔ j ∈ d.conns) ∧ (j ∈ ss ↔ j ∈ d.susp)) ∧
      cleanupConnection d i = { d.set i x with normal := n, manual := m, fault := f, conns := cs, susp := ss,
                                               cleanup := i :: d.cleanup } := by
  obtain ⟨n, m, f, e⟩ := remTimeout_shape d i
  unfold cleanupConnection
  dsimp only
  by_cases hc : i ∈ d.cleanup
  · exact .inl (if_pos hc)
  · rw [if_neg hc]
    refine .inr ?_
    split
    · simp only [remSusp_eq, set_c, if_true]
      simp only [Daemon.set, ite_ite_same]
      exact ⟨{ (d.c i) with suspended := false, resuming := false }, _, _, _, _, _, rfl,
        fun j hj => ⟨.rfl, List.mem_erase_of_ne hj⟩, rfl⟩
    · simp only [e, remConns_eq]
      exact ⟨{ (d.c i) with resuming := false }, _, _, _, _, _, rfl, fun j hj => ⟨List.mem_erase_of_ne hj, .rfl⟩, rfl⟩

theorem touch_cleanupConnection (d : Daemon) (i : Id) (hc : (d.c i).closed = true) : Touch i d (cleanupConnection d i) := by
  rcases cleanupConnection_cases d i with e | ⟨x, n, m, f, cs, ss, hx, hl, e⟩ <;> rw [e]
  · exact Touch.refl i d
  · exact touch_lists i d (Step1.of_closed (hx.trans hc)) (fun j hj => (hl j hj).1) (fun j hj => (hl j hj).2)
      (fun _ hj => by simp [hj])

theorem cleanupConnection_closed (d : Daemon) (i : Id) : ((cleanupConnection d i).c i).closed = (d.c i).closed := by
  rcases cleanupConnection_cases d i with e | ⟨x, n, m, f, cs, ss, hx, _, e⟩ <;> rw [e]
  simpa using hx

theorem cleanupConnection_live {d : Daemon} (h : Inv d) {i : Id} (hi : i ∈ d.conns) :
    cleanupConnection d i = { d.set i { (d.c i) with resuming := false } with
      normal := d.normal.erase i, manual := d.manual.erase i, conns := d.conns.erase i, cleanup := i :: d.cleanup } := by
  have hcl : i ∉ d.cleanup := fun x => (h.disjClean i x).1 hi
  unfold cleanupConnection
  simp only [if_neg hcl, h.connsS i hi, Bool.false_eq_true, if_false, remTimeout_live h hi, remConns_eq, hi, decide_true,
    Bool.not_true, Bool.or_false]
  rfl

theorem inv_cleanupConnection {d : Daemon} (h : Inv d) (i : Id) (hi : i ∈ d.conns ∨ i ∈ d.cleanup) :
    Inv (cleanupConnection d i) := by
  by_cases hcl : i ∈ d.cleanup
  · simp [cleanupConnection, hcl]; exact h
  have hi : i ∈ d.conns := hi.resolve_right hcl
  rw [cleanupConnection_live h hi]
  apply inv_deactivate h i hi false
  case hnde => exact h.ndEready
  case hnep => exact h.nonEpoll
  case hrdy => exact fun j hj => ⟨.inr rfl, hj⟩
  case hc => intro j hj; simp [hj]
  case hxs => simp [h.connsS i hi]
  all_goals simp

theorem cleanupConnection_mem {d : Daemon} (h : Inv d) (i : Id) (hi : i ∈ d.conns ∨ i ∈ d.cleanup) :
    i ∈ (cleanupConnection d i).cleanup ∧ i ∉ (cleanupConnection d i).conns := by
  by_cases hcl : i ∈ d.cleanup
  · simp [cleanupConnection, hcl]; exact (h.disjClean i hcl).1
  rw [cleanupConnection_live h (hi.resolve_right hcl)]
  exact ⟨List.mem_cons_self .., List.Nodup.not_mem_erase h.ndConns⟩


/-- the record of a connection that `resume_suspended_connections` has processed -/
def resumedRec (d : Daemon) (i : Id) : Conn :=
  { (d.c i) with suspended := false, la := if (d.c i).tmo ≠ 0 then d.now else (d.c i).la, resuming := false,
                 readReady := if d.cfg.epoll then true else (d.c i).readReady }

theorem resumeOne_eq (v : Variant) (d : Daemon) (i : Id) (hr : (d.c i).resuming = true) :
    resumeOne v d i = { d.set i (resumedRec d i) with
      susp := d.susp.erase i, conns := i :: d.conns, fault := d.fault || !decide (i ∈ d.susp),
      normal := if (d.c i).tmo = d.cfg.dtmo then stampIns v (d.set i (resumedRec d i)).la d.normal i else d.normal,
      manual := if (d.c i).tmo = d.cfg.dtmo then d.manual else i :: d.manual,
      eready := if d.cfg.epoll then i :: d.eready else d.eready } := by
  unfold resumeOne
  simp only [hr, Bool.true_eq_false, if_false, remSusp_eq, insTimeout_eq, set_c, if_true, set_cfg, resumedRec]
  cases d.cfg.epoll <;> rfl

theorem touch_resumeOne (v : Variant) (d : Daemon) (i : Id) : Touch i d (resumeOne v d i) := by
  cases hr : (d.c i).resuming
  · simp only [resumeOne, hr, if_true]; exact Touch.refl i d
  · rw [resumeOne_eq v d i hr]
    refine touch_lists i d ?_ (fun _ hj => by simp [hj]) (fun _ hj => List.mem_erase_of_ne hj) (fun _ _ => .rfl)
    by_cases h0 : (d.c i).tmo = 0
    · exact Step1.of_free h0
    · exact Step1.stamp (if_pos h0) rfl id

theorem inv_resumeOne {v : Variant} (hv : v.actSorted = true) {d : Daemon} (h : Inv d) (i : Id) (hi : i ∈ d.susp) :
    Inv (resumeOne v d i) := by
  cases hr : (d.c i).resuming
  · simp only [resumeOne, hr, if_true]; exact h
  have hs : (d.c i).suspended = true := h.suspS i hi
  have hnc : i ∉ d.conns := fun hc => by have := h.connsS i hc; simp [hs] at this
  have hncl : i ∉ d.cleanup := fun hc => (h.disjClean i hc).2 hi
  have hin : i ∉ d.normal := fun hm => hnc ((h.connsIff i).2 (Or.inl hm))
  have him : i ∉ d.manual := fun hm => hnc ((h.connsIff i).2 (Or.inr hm))
  have hne : i ∉ d.eready := fun he => (h.ready i (.inl he)).elim hnc hncl
  rw [resumeOne_eq v d i hr]
  simp only [hi, decide_true, Bool.not_true, Bool.or_false]
  apply inv_place h i hncl (fun x => (h.disjNew i x).2.1 hi) (h.usedAll i (.inr (.inr (.inl hi))))
  case hsusp => rfl
  case hconns => simp
  case hndc => exact List.nodup_cons.2 ⟨hnc, h.ndConns⟩
  case hnormal => simp only [set_c, if_true, List.erase_of_not_mem hin, stampIns_sorted hv]; rfl
  case hmanual => intro j; simp only [set_c, if_true, List.erase_of_not_mem him]; split <;> simp [resumedRec, *]
  case hndm => split; exact h.ndManual; exact List.nodup_cons.2 ⟨him, h.ndManual⟩
  case hnde => split; exact List.nodup_cons.2 ⟨hne, h.ndEready⟩; exact h.ndEready
  case hnep => intro x; have := h.nonEpoll x; simp_all
  case hrdy => intro j hj; split at hj <;> simp at hj <;> grind
  case hc => intro j hj; simp [hj]
  case hxs => simp [resumedRec]
  case hxl => simp only [set_c, if_true, resumedRec]; split; exact Nat.le_add_right _ _; exact h.laLe i
  case hxt => simp only [set_c, if_true, resumedRec]; exact h.tmoB i


/-- the record of a connection that `new_connection_process_` has started -/
def startedRec (v : Variant) (d : Daemon) (i : Id) : Conn :=
  { (d.c i) with la := if v.stampNew ∧ (d.c i).tmo ≠ 0 then d.now else (d.c i).la,
                 inSet := if d.cfg.epoll then true else (d.c i).inSet }

theorem processOneNew_eq (v : Variant) (d : Daemon) (i : Id) :
    processOneNew v d i = { d.set i (startedRec v d i) with
      conns := i :: d.conns, normal := stampIns v (d.set i (startedRec v d i)).la d.normal i,
      kq := if d.cfg.epoll then d.kq ++ [i] else d.kq } := by
  unfold processOneNew startedRec
  cases d.cfg.epoll <;> rfl

theorem touch_processOneNew (v : Variant) (d : Daemon) (i : Id) : Touch i d (processOneNew v d i) := by
  rw [processOneNew_eq]
  refine touch_lists i d ?_ (fun _ hj => by simp [hj]) (fun _ _ => .rfl) (fun _ _ => .rfl)
  by_cases hs : v.stampNew ∧ (d.c i).tmo ≠ 0
  · exact Step1.stamp (if_pos hs) rfl id
  · exact Step1.keep (if_neg hs) rfl id id

/-- what is known about a connection taken from the queue of new connections (`processNew` empties the
    queue before it starts them, hence `i ∉ d.newL`) -/
def Fresh (d : Daemon) (i : Id) : Prop :=
  i ∉ d.conns ∧ i ∉ d.susp ∧ i ∉ d.cleanup ∧ i ∉ d.newL ∧ i ∈ d.used ∧
    (d.c i).tmo = d.cfg.dtmo ∧ (d.c i).suspended = false

theorem inv_processOneNew {v : Variant} (hv : Fixed v) {d : Daemon} (h : Inv d) (i : Id) (hf : Fresh d i) :
    Inv (processOneNew v d i) := by
  obtain ⟨hnc, hns, hncl, hnn, hu, ht, hs⟩ := hf
  have hin : i ∉ d.normal := fun hm => hnc ((h.connsIff i).2 (Or.inl hm))
  have him : i ∉ d.manual := fun hm => hnc ((h.connsIff i).2 (Or.inr hm))
  rw [processOneNew_eq]
  apply inv_place h i hncl hnn hu
  case hconns => simp
  case hndc => exact List.nodup_cons.2 ⟨hnc, h.ndConns⟩
  case hsusp => exact (List.erase_of_not_mem hns).symm
  case hnormal =>
    simp only [set_c, if_true, startedRec, ht, List.erase_of_not_mem hin, stampIns_sorted hv.2.2.2.2]; rfl
  case hmanual => intro j; simp [startedRec, ht, List.erase_of_not_mem him]
  case hndm => exact h.ndManual
  case hnde => exact h.ndEready
  case hnep => intro x; have := h.nonEpoll x; simp_all
  case hrdy => intro j hj; split at hj <;> simp at hj <;> grind
  case hc => intro j hj; simp [hj]
  case hxs => simp [startedRec, hs]
  case hxl => simp only [set_c, if_true, startedRec]; split; exact Nat.le_add_right _ _; exact h.laLe i
  case hxt => simp only [set_c, if_true, startedRec, ht]; exact h.dtmoB

theorem touch_freeOne (d : Daemon) (i : Id) : Touch i d (freeOne d i) := by
  refine touch_lists i d ?_ (fun _ _ => .rfl) (fun _ _ => .rfl) (fun _ _ => .rfl)
  exact Step1.of_free rfl

theorem inv_freeOne {d : Daemon} (h : Inv d) (i : Id) (hi : i ∈ d.cleanup) : Inv (freeOne d i) := by
  have hnc : i ∉ d.conns := (h.disjClean i hi).1
  have hns : i ∉ d.susp := (h.disjClean i hi).2
  have hnn : i ∉ d.newL := fun hc => (h.disjNew i hc).2.2 hi
  apply inv_offlist h i hnc hnn
  case hnde => exact nodup_without i h.ndEready
  case hnep =>
    intro he
    obtain ⟨e1, e2⟩ := h.nonEpoll he
    simp [e1, e2, without]
  case hrdy => intro j hj; simp at hj; exact hj.imp (·.1) (·.1)
  case hc => intro j hj; simp [hj]
  case hxs => right; exact hns
  case hxl => simp
  case hxt => simp

theorem freeOne_not_ready (d : Daemon) (i : Id) : i ∉ (freeOne d i).eready ∧ i ∉ (freeOne d i).kq := by
  simp [freeOne]

/-- a script operation that is carried out when a condition holds and is illegal otherwise -/
theorem ite_eq_some {α : Type} {c : Prop} [Decidable c] {a r : α} (h : (if c then some a else none) = some r) :
    c ∧ a = r := by
  split at h
  · exact ⟨‹c›, Option.some.inj h⟩
  · cases h

theorem inv_arrive {d : Daemon} (h : Inv d) (i : Id) (hi : i ∉ d.used) : Inv (arrive d i) := by
  have a1 : i ∉ d.newL := fun x => hi (h.usedAll i (.inl x))
  have a2 : i ∉ d.conns := fun x => hi (h.usedAll i (.inr (.inl x)))
  have a3 : i ∉ d.susp := fun x => hi (h.usedAll i (.inr (.inr (.inl x))))
  have a4 : i ∉ d.cleanup := fun x => hi (h.usedAll i (.inr (.inr (.inr x))))
  have a5 : i ∉ d.normal := fun x => a2 ((h.connsIff i).2 (.inl x))
  have a6 : i ∉ d.manual := fun x => a2 ((h.connsIff i).2 (.inr x))
  refine Inv.of_at h.nofault h.ndConns h.ndNormal h.ndManual h.ndSusp (List.nodup_cons.2 ⟨a1, h.ndNew⟩) h.ndClean
    h.ndEready h.nonEpoll (fun hd => ?_) h.dtmoB (fun j => ?_)
  · exact sorted_congr (fun a ha => by simp [arrive, show a ≠ i from fun e => a5 (e ▸ ha)]) (h.sorted hd)
  · by_cases e : j = i
    · subst e
      refine ⟨⟨(absurd · a2), fun x => x.elim (absurd · a5) (absurd · a6)⟩, (absurd · a5), (absurd · a6), (absurd · a2),
        (absurd · a3), fun _ => by simp [arrive], fun _ => ⟨a2, a3, a4⟩, (absurd · a4), fun _ => List.mem_cons_self ..,
        fun x => absurd (h.ready j x) (fun y => y.elim a2 a4), ?_, by simp [arrive]; exact h.dtmoB⟩
      simp only [arrive, set_c, if_true]; split
      · exact Nat.le_add_right _ _
      · exact Nat.zero_le _
    · have hc : (arrive d i).c j = d.c j := by simp [arrive, e]
      exact (h.at j).congr rfl rfl (congrArg Conn.la hc) (congrArg Conn.tmo hc) (congrArg Conn.suspended hc)
        (List.mem_cons.trans (or_iff_right e)) (List.mem_cons.trans (or_iff_right e)) .rfl .rfl .rfl .rfl .rfl (h.ready j)

end Mhd.Tmo
