/-
  C07 — the senders of `Mhd.Model.Send`, one call at a time: what a call that was offered `req`
  does to the wire (`SendSpec`), what a transient answer of the socket guarantees (`Trans`), and
  what an error answer returns.  Every sender is reduced to `sysSend` on a prefix of what it
  was offered; the facts are proved for `sysSend` and carried along that prefix.
-/
import Mhd.Model.SendConn
namespace Mhd.Send
open Mhd.Gen.Send

theorem take_append_drop_add (l : List α) (a n : Nat) :
    (l.drop a).take n ++ l.drop (a + n) = l.drop a := by
  rw [← List.drop_drop]; exact List.take_append_drop n (l.drop a)

theorem slice_split (l : List α) (a n m : Nat) :
    ((l.drop a).take n).take m ++ (l.drop (a + m)).take (n - m) = (l.drop a).take n := by
  rw [← List.drop_drop, ← List.drop_take]
  exact List.take_append_drop m ((l.drop a).take n)

theorem prefix_take_app (a b : List α) (n : Nat) (h : a.length ≤ n) :
    (a ++ b).take n ++ b.drop (n - a.length) = a ++ b := by
  rw [List.take_append, List.take_of_length_le h, List.append_assoc, List.take_append_drop]

theorem take_ne_nil {l : List α} {k : Nat} (h : l ≠ []) (hk : 1 ≤ k) : l.take k ≠ [] := by
  intro e
  rcases List.take_eq_nil_iff.mp e with e | e
  · omega
  · exact h e

theorem flatten_take_prefix (l : List Bytes) (n : Nat) : (l.take n).flatten <+: l.flatten := by
  conv => rhs; rw [← List.take_append_drop n l, List.flatten_append]
  exact List.prefix_append _ _

theorem prefix_take_eq {X Y : List α} (h : X <+: Y) (n : Nat) (hn : n ≤ X.length) : X.take n = Y.take n := by
  obtain ⟨t, rfl⟩ := h
  exact (List.take_append_of_le_length hn).symm

theorem fair_count (p : α → Prop) [DecidablePred p] (f : Nat → α) (fair : ∀ n, ∃ m, n ≤ m ∧ p (f m)) :
    ∀ k, ∃ N, ∀ n, N ≤ n → k ≤ ((List.range n).map f).countP (fun x => decide (p x))
  | 0 => ⟨0, fun _ _ => Nat.zero_le _⟩
  | k + 1 => by
    obtain ⟨N, hN⟩ := fair_count p f fair k
    obtain ⟨m, hm, hg⟩ := fair N
    refine ⟨m + 1, fun n hn => ?_⟩
    have hsub := ((List.range_sublist.mpr hn).map f).countP_le (p := fun x => decide (p x))
    rw [List.range_succ, List.map_append, List.countP_append, List.map_singleton, List.countP_singleton,
      if_pos (decide_eq_true hg)] at hsub
    exact Nat.le_trans (Nat.succ_le_succ (hN m hm)) hsub

/-- what one call of a sender that was offered `req` guarantees -/
structure SendSpec (o : SendOut) (req : Bytes) : Prop where
  ok : ∀ n, o.ret = .ok n → n ≤ req.length ∧ o.wire = req.take n
  again : o.ret = .error .again → o.wire = []
  err : ∀ e, o.ret = .error e → o.wire <+: req

theorem SendSpec.prefix {o : SendOut} {req : Bytes} (h : SendSpec o req) : o.wire <+: req := by
  cases hr : o.ret with
  | ok n => rw [(h.ok n hr).2]; exact List.take_prefix _ _
  | error e => exact h.err e hr

theorem SendSpec.wire_length {o : SendOut} {req : Bytes} (h : SendSpec o req) {n : Nat} (hn : o.ret = .ok n) :
    o.wire.length = n := by
  obtain ⟨h1, h2⟩ := h.ok n hn
  rw [h2, List.length_take]; omega

theorem SendSpec.of_take {o : SendOut} {req : Bytes} (m : Nat) (h : SendSpec o (req.take m)) : SendSpec o req := by
  refine ⟨fun n hn => ?_, h.again, fun e he => (h.err e he).trans (List.take_prefix _ _)⟩
  obtain ⟨h1, h2⟩ := h.ok n hn
  rw [List.length_take] at h1
  refine ⟨by omega, ?_⟩
  rw [h2, List.take_take, Nat.min_eq_left (by omega)]

theorem SendSpec.fail (e : Err) (X : Bytes) : SendSpec (.fail e) X :=
  ⟨nofun, fun _ => rfl, fun _ _ => List.nil_prefix⟩

/-- what a transient answer `s` of the socket (a count of at least one byte, EAGAIN, EINTR) guarantees
    of a call that was offered `req` -/
structure Trans (o : SendOut) (req : Bytes) (s : SockRes) : Prop where
  onlyAgain : ∀ e, o.ret = .error e → e = .again
  pos : req ≠ [] → ∀ n, o.ret = .ok n → 1 ≤ n
  data : s.isData = true → ∃ n, o.ret = .ok n

theorem Trans.of_take {o : SendOut} {req : Bytes} {s : SockRes} {m : Nat} (h : Trans o (req.take m) s)
    (hm : 1 ≤ m) : Trans o req s :=
  ⟨h.onlyAgain, fun hne => h.pos (take_ne_nil hne hm), h.data⟩

theorem transient_err {e : Errno} (h : (SockRes.err e).isTransient = true) : mapSendErr e = .again := by
  unfold mapSendErr
  cases h1 : e.isEagain
  · have h2 : e.isEintr = true := by simpa [SockRes.isTransient, h1] using h
    simp [h2]
  · simp

theorem transient_legal {s : SockRes} (h : s.isTransient = true) : s.Legal := by
  cases s with
  | short k => exact of_decide_eq_true h
  | _ => trivial

theorem data_transient {s : SockRes} (h : s.isData = true) : s.isTransient = true := by
  cases s with
  | err e => cases h
  | _ => exact h

theorem sysSend_err (req : Bytes) (e : Errno) : sysSend req (.err e) = .fail (mapSendErr e) := rfl

theorem sysSend_spec (req : Bytes) (s : SockRes) : SendSpec (sysSend req s) req := by
  cases s with
  | full => exact ⟨fun n hn => by cases hn; exact ⟨Nat.le_refl _, List.take_length.symm⟩, nofun, nofun⟩
  | short k => exact ⟨fun n hn => by cases hn; exact ⟨Nat.min_le_right _ _, rfl⟩, nofun, nofun⟩
  | err e => exact SendSpec.fail _ _

theorem sysSend_legal_pos (req : Bytes) (s : SockRes) (hs : s.Legal) (hne : req ≠ []) (n : Nat)
    (h : (sysSend req s).ret = .ok n) : 1 ≤ n := by
  have hl := List.length_pos_iff.mpr hne
  cases s with
  | full => cases h; exact hl
  | short k => cases h; exact Nat.le_min.mpr ⟨hs, hl⟩
  | err e => cases h

theorem sysSend_trans (req : Bytes) (s : SockRes) (ht : s.isTransient = true) : Trans (sysSend req s) req s := by
  refine ⟨fun e he => ?_, fun hne => sysSend_legal_pos req s (transient_legal ht) hne, fun hd => ?_⟩
  · cases s with
    | err e' => cases he; exact transient_err ht
    | _ => cases he
  · cases s with
    | err e' => cases hd
    | _ => exact ⟨_, rfl⟩

theorem sendData_eq (buf : Bytes) (s : SockRes) :
    sendData false buf s = sysSend (buf.take (min (min buf.length ssizeMax) sendMax)) s := rfl

theorem ssizeMax_pos : 1 ≤ ssizeMax := by decide
theorem sendMax_pos : 1 ≤ sendMax := by decide

theorem clamp_pos {buf : Bytes} (hne : buf ≠ []) : 1 ≤ min (min buf.length ssizeMax) sendMax :=
  Nat.le_min.mpr ⟨Nat.le_min.mpr ⟨List.length_pos_iff.mpr hne, ssizeMax_pos⟩, sendMax_pos⟩

theorem sendData_spec (buf : Bytes) (s : SockRes) : SendSpec (sendData false buf s) buf :=
  SendSpec.of_take _ (sysSend_spec _ s)

theorem sendData_legal_pos (buf : Bytes) (s : SockRes) (hs : s.Legal) (hne : buf ≠ []) (n : Nat)
    (h : (sendData false buf s).ret = .ok n) : 1 ≤ n :=
  sysSend_legal_pos _ s hs (take_ne_nil hne (clamp_pos hne)) n h

theorem sendData_trans (buf : Bytes) (s : SockRes) (ht : s.isTransient = true) : Trans (sendData false buf s) buf s :=
  ⟨(sysSend_trans _ s ht).onlyAgain, fun hne => sendData_legal_pos buf s (transient_legal ht) hne,
   (sysSend_trans _ s ht).data⟩

theorem sendData_err (buf : Bytes) (e : Errno) : sendData false buf (.err e) = .fail (mapSendErr e) := rfl

/-- the result of the header-then-body fall-back once the header (`ret` bytes) is out completely
    and the body call has returned `o2` -/
def thenBody (ret : Nat) (hdr : Bytes) (o2 : SendOut) : SendOut :=
  match o2.ret with
  | .ok ret2 => if 0 < ret2 then ⟨.ok (ret + ret2), hdr ++ o2.wire⟩ else ⟨.ok ret2, hdr ++ o2.wire⟩
  | .error .again => ⟨.ok ret, hdr⟩
  | .error e => ⟨.error e, hdr⟩

/-- Left: the vectored call, or the header call alone.  Right: the header is out completely and a
    second call follows on the body. -/
theorem sendHdrAndBody_cases (noVec nonblk : Bool) (hdr body : Bytes) (s1 s2 : SockRes) :
    (∃ k, (hdr ≠ [] → 1 ≤ k) ∧
      sendHdrAndBody false noVec nonblk hdr body s1 s2 = sysSend ((hdr ++ body).take k) s1) ∨
    (∃ bsz, body.take bsz ≠ [] ∧ (sendData false hdr s1).ret = .ok hdr.length ∧
      sendHdrAndBody false noVec nonblk hdr body s1 s2 =
        thenBody hdr.length hdr (sendData false (body.take bsz) s2)) := by
  unfold sendHdrAndBody
  rw [if_neg Bool.false_ne_true]
  by_cases hc : noVec ∨ body.length = 0 ∨ ssizeMax ≤ hdr.length ∨ sendMax < hdr.length
  · rw [if_pos hc]
    simp only []
    have hone : ∃ k, (hdr ≠ [] → 1 ≤ k) ∧ sendData false hdr s1 = sysSend ((hdr ++ body).take k) s1 :=
      ⟨_, clamp_pos, by
        rw [List.take_append_of_le_length (Nat.le_trans (Nat.min_le_left _ _) (Nat.min_le_left _ _))]; rfl⟩
    have hs1 := sendData_spec hdr s1
    generalize sendData false hdr s1 = o1 at hone hs1 ⊢
    cases hr : o1.ret with
    | error e => exact Or.inl hone
    | ok ret =>
      simp only []
      by_cases hc2 : hdr.length = ret ∧ hdr.length < ssizeMax ∧ body.length ≠ 0 ∧ nonblk = true
      · rw [if_pos hc2]
        obtain ⟨hc1, hc2, hc3, -⟩ := hc2
        have hw : o1.wire = hdr := by rw [(hs1.ok ret hr).2, ← hc1, List.take_length]
        refine Or.inr ⟨if ssizeMax - ret < body.length then ssizeMax - ret else body.length, ?_, by rw [hc1], ?_⟩
        · refine take_ne_nil (List.length_pos_iff.mp (Nat.pos_of_ne_zero hc3)) ?_
          have := ssizeMax_pos
          split <;> omega
        · rw [hw, ← hc1]; rfl
      · rw [if_neg hc2]; exact Or.inl hone
  · rw [if_neg hc]
    exact Or.inl ⟨_, fun hne => Nat.le_trans (List.length_pos_iff.mpr hne) (Nat.le_add_right _ _),
      by rw [List.take_length_add_append]⟩

theorem thenBody_spec {hdr body : Bytes} {o2 : SendOut} {bsz : Nat} (h2 : SendSpec o2 (body.take bsz))
    (hpos : ∀ m, o2.ret = .ok m → 1 ≤ m) : SendSpec (thenBody hdr.length hdr o2) (hdr ++ body) := by
  have hhdr : SendSpec ⟨.ok hdr.length, hdr⟩ (hdr ++ body) :=
    ⟨fun n hn => by cases hn; exact ⟨by simp, (List.take_left' rfl).symm⟩, nofun, nofun⟩
  unfold thenBody
  split
  · rename_i ret2 hr2
    obtain ⟨hle, hw⟩ := (SendSpec.of_take bsz h2).ok ret2 hr2
    rw [if_pos (show 0 < ret2 from hpos ret2 hr2)]
    refine ⟨fun n hn => ?_, nofun, nofun⟩
    cases hn
    exact ⟨by simp; omega, by rw [List.take_length_add_append, hw]⟩
  · exact hhdr
  · exact ⟨nofun, fun h => by cases h; contradiction, fun _ _ => List.prefix_append _ _⟩

theorem sendHdrAndBody_spec (noVec nonblk : Bool) (hdr body : Bytes) (s1 s2 : SockRes) (h2 : s2.Legal) :
    SendSpec (sendHdrAndBody false noVec nonblk hdr body s1 s2) (hdr ++ body) := by
  rcases sendHdrAndBody_cases noVec nonblk hdr body s1 s2 with ⟨k, -, e⟩ | ⟨bsz, hne, -, e⟩ <;> rw [e]
  · exact SendSpec.of_take k (sysSend_spec _ s1)
  · exact thenBody_spec (sendData_spec _ s2) (sendData_legal_pos _ s2 h2 hne)

theorem sendHdrAndBody_trans (noVec nonblk : Bool) (hdr body : Bytes) (s1 s2 : SockRes)
    (h1 : s1.isTransient = true) (h2 : s2.isTransient = true) (hne : hdr ≠ []) :
    Trans (sendHdrAndBody false noVec nonblk hdr body s1 s2) (hdr ++ body) s1 := by
  rcases sendHdrAndBody_cases noVec nonblk hdr body s1 s2 with ⟨k, hk, e⟩ | ⟨bsz, hb, -, e⟩ <;> rw [e]
  · exact (sysSend_trans _ s1 h1).of_take (hk hne)
  · -- the header is out: whatever the body call does, the result is a count of at least |hdr|
    have t2 := sendData_trans (body.take bsz) s2 h2
    have hl := List.length_pos_iff.mpr hne
    unfold thenBody
    split
    · rename_i ret2 hr2
      rw [if_pos (show 0 < ret2 from t2.pos hb ret2 hr2)]
      exact ⟨nofun, fun _ n hn => by cases hn; omega, fun _ => ⟨_, rfl⟩⟩
    · exact ⟨nofun, fun _ n hn => by cases hn; exact hl, fun _ => ⟨_, rfl⟩⟩
    · rename_i e' hne' hr2
      exact (hne' (t2.onlyAgain e' hr2)).elim

theorem sendHdrAndBody_err (noVec nonblk : Bool) (hdr body : Bytes) (e : Errno) (s2 : SockRes) :
    sendHdrAndBody false noVec nonblk hdr body (.err e) s2 = .fail (mapSendErr e) := by
  rcases sendHdrAndBody_cases noVec nonblk hdr body (.err e) s2 with ⟨k, -, h⟩ | ⟨_, -, h, -⟩
  · exact h
  · cases h

theorem iovAdvance_spec : ∀ (l : List Bytes) (t : Nat), t ≤ l.flatten.length →
    ∃ k l', iovAdvance l t = some (k, l') ∧ l'.flatten = l.flatten.drop t ∧
      ((∀ e ∈ l, e ≠ []) → ∀ e ∈ l', e ≠ [])
  | [], t, h => by
    have : t = 0 := Nat.le_zero.mp h
    subst this
    exact ⟨0, [], rfl, rfl, fun x => x⟩
  | e :: rest, t, h => by
    rw [List.flatten_cons, List.length_append] at h
    unfold iovAdvance
    by_cases hc : t ≠ 0 ∧ e.length ≤ t
    · obtain ⟨k, l', h1, h2, h4⟩ := iovAdvance_spec rest (t - e.length) (by omega)
      refine ⟨k + 1, l', by rw [if_pos hc, h1], ?_, fun hne => h4 (fun x hx => hne x (List.mem_cons_of_mem _ hx))⟩
      rw [h2, List.flatten_cons, List.drop_append, List.drop_eq_nil_of_le hc.2, List.nil_append]
    · rw [if_neg hc]
      by_cases h0 : t ≠ 0
      · have hlt : t < e.length := by omega
        refine ⟨0, e.drop t :: rest, by rw [if_pos h0], ?_, fun hne x hx => ?_⟩
        · rw [List.flatten_cons, List.flatten_cons, List.drop_append, Nat.sub_eq_zero_of_le (Nat.le_of_lt hlt),
            List.drop_zero]
        · rcases List.mem_cons.mp hx with hx | hx
          · rw [hx]; exact List.ne_nil_of_length_pos (by rw [List.length_drop]; omega)
          · exact hne x (List.mem_cons_of_mem _ hx)
      · have : t = 0 := Decidable.not_not.mp h0
        subst this
        exact ⟨0, e :: rest, by rw [if_neg h0], rfl, fun x => x⟩

theorem iovMax_pos : 1 ≤ iovMax := by decide

theorem sendIovec_sent (sent : Nat) (rest : List Bytes) (s : SockRes) :
    let x := sendIovec false sent rest s
    ∃ X, X <+: rest.flatten ∧ (rest ≠ [] → (∀ e ∈ rest, e ≠ []) → X ≠ []) ∧
      x.out = sysSend X s ∧ x.fault = false ∧
      (∀ e, x.out.ret = .error e → x.rest = rest) ∧
      (∀ n, x.out.ret = .ok n → x.rest.flatten = rest.flatten.drop n ∧
        ((∀ e ∈ rest, e ≠ []) → ∀ e ∈ x.rest, e ≠ [])) := by
  intro x
  clear_value (hx : x = _)
  have hmax := iovMax_pos
  unfold sendIovec at hx
  rw [if_neg Bool.false_ne_true, if_neg (by omega)] at hx
  simp only [] at hx
  generalize hit : (if iovMax < rest.length then iovMax else rest.length) = items at hx
  have hX : (rest.take items).flatten <+: rest.flatten := flatten_take_prefix rest items
  refine ⟨(rest.take items).flatten, hX, fun hne hel => ?_, ?_⟩
  · have hl := List.length_pos_iff.mpr hne
    have hitems : 1 ≤ items := by rw [← hit]; split <;> omega
    cases rest with
    | nil => exact absurd rfl hne
    | cons e t =>
      obtain ⟨m, rfl⟩ : ∃ m, items = m + 1 := ⟨items - 1, by omega⟩
      rw [List.take_succ_cons, List.flatten_cons]
      exact fun hnil => hel e List.mem_cons_self (List.append_eq_nil_iff.mp hnil).1
  · cases hr : (sysSend (rest.take items).flatten s).ret with
    | error e =>
      rw [hr] at hx; subst hx
      exact ⟨rfl, rfl, fun _ _ => rfl, fun n hn => by rw [hr] at hn; cases hn⟩
    | ok res =>
      have hle := ((sysSend_spec _ s).ok res hr).1
      obtain ⟨k, l', h1, h2, h4⟩ := iovAdvance_spec rest res (Nat.le_trans hle hX.length_le)
      rw [hr] at hx
      simp only [h1] at hx
      subst hx
      exact ⟨rfl, rfl, fun e he => (by rw [hr] at he; cases he), fun n hn => by rw [hr] at hn; cases hn; exact ⟨h2, h4⟩⟩

theorem sendSendfile_overflow (t : Bool) (file : Bytes) (fdOff pos total : Nat) (s : SockRes)
    (h : off64Max < pos + fdOff) : sendSendfile t file fdOff pos total s = ⟨.fail .again, false⟩ := by
  unfold sendSendfile; simp only []; rw [if_pos h]

theorem sendSendfile_err (t : Bool) (file : Bytes) (fdOff pos total : Nat) (e : Errno)
    (h : ¬ off64Max < pos + fdOff) :
    sendSendfile t file fdOff pos total (.err e) =
      if e.isEagain then ⟨.fail .again, true⟩ else if e.isEintr then ⟨.fail .again, true⟩
      else if e.isEbadf then ⟨.fail .badf, true⟩ else ⟨.fail .again, false⟩ := by
  unfold sendSendfile; simp only []; rw [if_neg h]

theorem chunk_pos : 1 ≤ sendfileChunk ∧ 1 ≤ sendfileChunkThr := by decide

/-- the C idiom for the smaller of two sizes -/
theorem ite_lt_eq_min (a b : Nat) : (if a < b then a else b) = min a b := by
  by_cases h : a < b
  · rw [if_pos h, Nat.min_eq_left (Nat.le_of_lt h)]
  · rw [if_neg h, Nat.min_eq_right (Nat.le_of_not_lt h)]

theorem sendSendfile_count (t : Bool) (file : Bytes) (fdOff pos total : Nat) (s : SockRes)
    (h : ¬ off64Max < pos + fdOff) (hs : ∀ e, s ≠ .err e) :
    ∃ sz, (pos < total → 1 ≤ sz) ∧
      sendSendfile t file fdOff pos total s = ⟨sysSend ((file.drop pos).take sz) s, true⟩ := by
  refine ⟨if (if t = true then sendfileChunkThr else sendfileChunk) <
        (if ssizeMax < total - pos then ssizeMax else total - pos)
      then (if t = true then sendfileChunkThr else sendfileChunk)
      else (if ssizeMax < total - pos then ssizeMax else total - pos), fun hlt => ?_, ?_⟩
  · have hc : 1 ≤ (if t = true then sendfileChunkThr else sendfileChunk) := by
      split
      · exact chunk_pos.2
      · exact chunk_pos.1
    have hl : 1 ≤ (if ssizeMax < total - pos then ssizeMax else total - pos) := by
      have := ssizeMax_pos
      split <;> omega
    rw [ite_lt_eq_min]; exact Nat.le_min.mpr ⟨hc, hl⟩
  · -- `simp only []` selects the branch of the `match` on `s` with `hs`
    unfold sendSendfile; simp only []; rw [if_neg h]

theorem sendSendfile_spec (t : Bool) (file : Bytes) (fdOff pos total : Nat) (s : SockRes) :
    ∃ X, X <+: file.drop pos ∧ SendSpec (sendSendfile t file fdOff pos total s).out X := by
  by_cases h : off64Max < pos + fdOff
  · rw [sendSendfile_overflow _ _ _ _ _ _ h]; exact ⟨[], List.nil_prefix, SendSpec.fail _ _⟩
  · by_cases hs : ∀ e, s ≠ .err e
    · obtain ⟨sz, -, e⟩ := sendSendfile_count t file fdOff pos total s h hs
      rw [e]; exact ⟨_, List.take_prefix sz _, sysSend_spec _ _⟩
    · cases s with
      | err e =>
        rw [sendSendfile_err _ _ _ _ _ _ h]
        refine ⟨[], List.nil_prefix, ?_⟩
        cases e.isEagain <;> cases e.isEintr <;> cases e.isEbadf <;> exact SendSpec.fail _ _
      | _ => exact absurd nofun hs

/-- A transient answer while content is left at `pos`: sendfile stays in use, and the call was one on a
    non-empty piece of the file (for EAGAIN/EINTR: any piece, nothing was sent). -/
theorem sendSendfile_trans (t : Bool) (file : Bytes) (fdOff pos total : Nat) (s : SockRes)
    (h : ¬ off64Max < pos + fdOff) (ht : s.isTransient = true) (hpos : pos < file.length) (htot : pos < total) :
    (sendSendfile t file fdOff pos total s).sf = true ∧
    ∃ X, X ≠ [] ∧ SendSpec (sendSendfile t file fdOff pos total s).out X ∧
      Trans (sendSendfile t file fdOff pos total s).out X s := by
  have hne : file.drop pos ≠ [] := List.ne_nil_of_length_pos (by rw [List.length_drop]; omega)
  by_cases hs : ∀ e, s ≠ .err e
  · obtain ⟨sz, hsz, e⟩ := sendSendfile_count t file fdOff pos total s h hs
    rw [e]
    exact ⟨rfl, _, take_ne_nil hne (hsz htot), sysSend_spec _ s, sysSend_trans _ s ht⟩
  · cases s with
    | err e =>
      have hx : sendSendfile t file fdOff pos total (.err e) = ⟨.fail .again, true⟩ := by
        rw [sendSendfile_err _ _ _ _ _ _ h]
        cases h1 : e.isEagain
        · rw [show e.isEintr = true by simpa [SockRes.isTransient, h1] using ht]; rfl
        · rfl
      rw [hx]
      exact ⟨rfl, _, hne, SendSpec.fail _ _, fun _ he => by cases he; rfl, fun _ => nofun, nofun⟩
    | _ => exact absurd nofun hs

end Mhd.Send
