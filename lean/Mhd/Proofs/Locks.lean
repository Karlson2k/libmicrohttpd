/-
  C18 (lock discipline of the daemon): an abstract small-step model of threads taking and releasing
  mutexes under an acquisition discipline given by a set of permitted (held, requested) pairs (`Sys`),
  in which a ranking respected by the pairs excludes wait cycles; and the lemmas that lift the Boolean
  whole-table checks of `Mhd.Model.Locks` to ∀-statements about the entries and events of any table.
-/
import Mhd.Model.Locks

namespace Mhd.Locks
open Mhd.Gen.Locks

/-- global state: who owns each mutex, and which mutex each thread is blocked on (if any) -/
structure Sys (T : Type) where
  owner : Lock → Option T
  want : T → Option Lock

namespace Sys
set_option linter.unusedSectionVars false
variable {T : Type} [DecidableEq T]

def init : Sys T := ⟨fun _ => none, fun _ => none⟩

/-- the discipline: thread `t` may ask for `l` only if every mutex it owns is listed before `l` -/
def Allowed (edges : List (Lock × Lock)) (s : Sys T) (t : T) (l : Lock) : Prop :=
  ∀ h, s.owner h = some t → (h, l) ∈ edges

def setWant (s : Sys T) (t : T) (v : Option Lock) : Sys T :=
  { s with want := fun x => if x = t then v else s.want x }

def setOwner (s : Sys T) (l : Lock) (v : Option T) : Sys T :=
  { s with owner := fun x => if x = l then v else s.owner x }

/-- one step of some thread: ask for a mutex (becoming blocked on it), be granted a free mutex,
    or release an owned mutex while not blocked -/
inductive Step (edges : List (Lock × Lock)) : Sys T → Sys T → Prop
  | request (s : Sys T) (t : T) (l : Lock) :
      s.want t = none → Allowed edges s t l → Step edges s (s.setWant t (some l))
  | grant (s : Sys T) (t : T) (l : Lock) :
      s.want t = some l → s.owner l = none → Step edges s ((s.setOwner l (some t)).setWant t none)
  | release (s : Sys T) (t : T) (l : Lock) :
      s.owner l = some t → s.want t = none → Step edges s (s.setOwner l none)

inductive Reachable (edges : List (Lock × Lock)) : Sys T → Prop
  | init : Reachable edges init
  | step {s s' : Sys T} : Reachable edges s → Step edges s s' → Reachable edges s'

/-- a blocked thread owns only mutexes that are listed before the one it asks for -/
def Disciplined (edges : List (Lock × Lock)) (s : Sys T) : Prop :=
  ∀ t l, s.want t = some l → ∀ h, s.owner h = some t → (h, l) ∈ edges

theorem disciplined_init (edges : List (Lock × Lock)) : Disciplined edges (init : Sys T) := by
  intro t l h
  simp [init] at h

theorem disciplined_step {edges : List (Lock × Lock)} {s s' : Sys T}
    (hd : Disciplined edges s) (hs : Step edges s s') : Disciplined edges s' := by
  cases hs with
  | request t l hw ha =>
    intro t' l' hw' h ho
    simp only [setWant] at hw' ho
    by_cases htt : t' = t
    · subst htt
      simp at hw'
      subst hw'
      exact ha h ho
    · simp [htt] at hw'
      exact hd t' l' hw' h ho
  | grant t l hw hfree =>
    intro t' l' hw' h ho
    simp only [setWant, setOwner] at hw' ho
    by_cases htt : t' = t
    · subst htt
      simp at hw'
    · simp [htt] at hw'
      by_cases hl : h = l
      · subst hl
        simp at ho
        exact absurd ho.symm htt
      · simp [hl] at ho
        exact hd t' l' hw' h ho
  | release t l ho' hw =>
    intro t' l' hw' h ho
    simp only [setOwner] at hw' ho
    by_cases hl : h = l
    · subst hl
      simp at ho
    · simp [hl] at ho
      exact hd t' l' hw' h ho

theorem disciplined_of_reachable {edges : List (Lock × Lock)} {s : Sys T}
    (h : Reachable edges s) : Disciplined edges s := by
  induction h with
  | init => exact disciplined_init edges
  | step _ hs ih => exact disciplined_step ih hs

/-- `t` is blocked on a mutex owned by `t'` -/
def Waits (s : Sys T) (t t' : T) : Prop := ∃ l, s.want t = some l ∧ s.owner l = some t'

inductive WaitPlus (s : Sys T) : T → T → Prop
  | single {a b : T} : Waits s a b → WaitPlus s a b
  | tail {a b c : T} : WaitPlus s a b → Waits s b c → WaitPlus s a c

theorem rank_increases {edges : List (Lock × Lock)} {rank : Lock → Nat} {s : Sys T}
    (hd : Disciplined edges s) (hr : ∀ p ∈ edges, rank p.1 < rank p.2)
    {a b : T} (hw : WaitPlus s a b) :
    ∀ lb, s.want b = some lb → ∃ la, s.want a = some la ∧ rank la < rank lb := by
  induction hw with
  | single h =>
    intro lb hb
    obtain ⟨la, hwa, hoa⟩ := h
    exact ⟨la, hwa, hr (la, lb) (hd _ lb hb la hoa)⟩
  | tail _ h ih =>
    intro lc hc
    obtain ⟨lb, hwb, hob⟩ := h
    obtain ⟨la, hwa, hlt⟩ := ih lb hwb
    exact ⟨la, hwa, Nat.lt_trans hlt (hr (lb, lc) (hd _ lc hc lb hob))⟩

theorem waitPlus_source_waits {s : Sys T} {a b : T} (hw : WaitPlus s a b) : ∃ l, s.want a = some l := by
  induction hw with
  | single h => obtain ⟨l, h1, _⟩ := h; exact ⟨l, h1⟩
  | tail _ _ ih => exact ih

/-- **acyclic lock order ⇒ no cycle of waiting threads** (no deadlock by lock ordering),
    in every state that satisfies the discipline — in particular in every reachable state -/
theorem no_wait_cycle {edges : List (Lock × Lock)} {rank : Lock → Nat} {s : Sys T}
    (hd : Disciplined edges s) (hr : ∀ p ∈ edges, rank p.1 < rank p.2) (t : T) :
    ¬ WaitPlus s t t := by
  intro hc
  obtain ⟨l, hl⟩ := waitPlus_source_waits hc
  obtain ⟨l', hl', hlt⟩ := rank_increases hd hr hc l hl
  rw [hl] at hl'
  cases hl'
  exact Nat.lt_irrefl _ hlt

/-- progress: among finitely many threads, if some thread is blocked then some blocked thread is
    blocked on a mutex that is free or owned by a thread that is itself *not* blocked -/
theorem exists_unblocked {edges : List (Lock × Lock)} {rank : Lock → Nat} {s : Sys T}
    (hd : Disciplined edges s) (hr : ∀ p ∈ edges, rank p.1 < rank p.2)
    (threads : List T) (t0 : T) (l0 : Lock) (h0 : t0 ∈ threads) (hw0 : s.want t0 = some l0) :
    ∃ t ∈ threads, ∃ l, s.want t = some l ∧
      (s.owner l = none ∨ ∃ t', s.owner l = some t' ∧ (s.want t' = none ∨ t' ∉ threads)) := by
  let f : T → Nat := fun t => match s.want t with | some l => rank l + 1 | none => 0
  obtain ⟨m, hm, hmax⟩ : ∃ m ∈ threads, ∀ t ∈ threads, f t ≤ f m :=
    ⟨_, List.maxOn_mem (h := List.ne_nil_of_mem h0), fun _ ht => List.le_apply_maxOn_of_mem ht⟩
  have hfm : 0 < f m := by
    have h1 : f t0 = rank l0 + 1 := by simp only [f, hw0]
    have := hmax t0 h0
    omega
  cases hwm : s.want m with
  | none => simp only [f, hwm] at hfm; exact absurd hfm (Nat.lt_irrefl 0)
  | some l =>
    refine ⟨m, hm, l, hwm, ?_⟩
    cases ho : s.owner l with
    | none => exact Or.inl rfl
    | some t' =>
      right
      by_cases hin : t' ∈ threads
      · cases hw' : s.want t' with
        | none => exact ⟨t', rfl, Or.inl hw'⟩
        | some l' =>
          exfalso
          have hlt : rank l < rank l' := hr (l, l') (hd t' l' hw' l ho)
          have h1 : f t' = rank l' + 1 := by simp only [f, hw']
          have h2 : f m = rank l + 1 := by simp only [f, hwm]
          have := hmax t' hin
          omega
      · exact ⟨t', rfl, Or.inr hin⟩

end Sys

theorem isAccOf_iff (f : Field) (w : Bool) (e : Ev) : isAccOf f w e = true ↔ e.kind = Kind.acc f w := by
  unfold isAccOf
  split
  · rename_i f' w' hk
    rw [hk]
    simp
  · rename_i hk
    constructor
    · intro h; cases h
    · intro h; exact absurd h (hk f w)

/-- Evaluating the Boolean search costs the kernel a fraction of what the `Decidable` instance of the
    nested bounded quantifiers and the derived equality of `Kind` do. -/
theorem exists_acc_of_any {t : List Entry} (f : Field) (w : Bool) (Q : Entry → Ev → Prop)
    [∀ en e, Decidable (Q en e)]
    (h : (t.any fun en => en.events.any fun e => isAccOf f w e && decide (Q en e)) = true) :
    ∃ en ∈ t, ∃ e ∈ en.events, e.kind = Kind.acc f w ∧ Q en e := by
  simpa [isAccOf_iff] using h

/-- Serves the mutation tests of `Props/C18` (one function of the table rewritten, the check must fail).
    The name is compared last, and only for entries that fail: comparing two strings is by far the
    dearest step of an evaluation in the kernel. -/
theorem all_map_name_false (t : List Entry) (name : String) (g : Entry → Entry) (chk : Entry → Bool)
    (h : (t.any fun en => !chk (g en) && en.name == name) = true) :
    (t.map fun en => if en.name == name then g en else en).all chk = false := by
  obtain ⟨en, hmem, hen⟩ := List.any_eq_true.mp h
  simp only [Bool.and_eq_true, Bool.not_eq_true'] at hen
  exact List.all_eq_false.mpr ⟨g en, List.mem_map.mpr ⟨en, hmem, by simp [hen.2]⟩, by simp [hen.1]⟩

theorem rankOk_iff (t : List Entry) (rank : Lock → Nat) :
    rankOk t rank = true ↔ ∀ p ∈ lockEdges t, rank p.1 < rank p.2 := by
  simp [rankOk, List.all_eq_true]

theorem mem_lockEdges (t : List Entry) (h l : Lock) :
    (h, l) ∈ lockEdges t ↔ ∃ en ∈ t, ∃ e ∈ en.events, e.kind = Kind.lock l ∧ h ∈ effMay en e := by
  simp only [lockEdges, List.mem_flatMap]
  constructor
  · rintro ⟨en, hen, e, he, hmem⟩
    refine ⟨en, hen, e, he, ?_⟩
    unfold evEdges at hmem
    split at hmem
    · rename_i l' hk
      simp only [List.mem_map, Prod.mk.injEq] at hmem
      obtain ⟨h', hh', rfl, rfl⟩ := hmem
      exact ⟨hk, hh'⟩
    · simp at hmem
  · rintro ⟨en, hen, e, he, hk, hh⟩
    refine ⟨en, hen, e, he, ?_⟩
    unfold evEdges
    rw [hk]
    exact List.mem_map.mpr ⟨h, hh, rfl⟩

theorem locksetOk_iff (t : List Entry) :
    locksetOk t = true ↔ ∀ en ∈ t, ∀ e ∈ en.events, accOk en e = true := by
  simp [locksetOk, List.all_eq_true]

theorem locksetOk_acc (t : List Entry) (h : locksetOk t = true) :
    ∀ en ∈ t, ∀ e ∈ en.events, ∀ f w, e.kind = Kind.acc f w →
      (protectedAcc en e f = true ∨ knownUnprotected f w = true) := by
  intro en hen e he f w hk
  have := (locksetOk_iff t).mp h en hen e he
  unfold accOk at this
  rw [hk] at this
  simpa using this

theorem locksetStrict_false (t : List Entry) (h : locksetOkStrict t = false) :
    ¬ (∀ en ∈ t, ∀ e ∈ en.events, ∀ f w, e.kind = Kind.acc f w → protectedAcc en e f = true) := by
  intro hall
  have : locksetOkStrict t = true := by
    simp only [locksetOkStrict, List.all_eq_true]
    intro en hen e he
    unfold accOkStrict
    split
    · rename_i f w hk
      exact hall en hen e he f w hk
    · rfl
  rw [h] at this
  cases this

theorem callbackOk_iff (t : List Entry) :
    callbackOk t = true ↔ ∀ en ∈ t, ∀ e ∈ en.events, e.kind = Kind.callback → ∀ l ∈ effMay en e,
      (l = Lock.response_mutex ∨ (l = Lock.cleanup_connection_mutex ∧ en.name = "resume_suspended_connections")) := by
  simp only [callbackOk, List.all_eq_true]
  constructor
  · intro h en hen e he hk l hl
    have := h en hen e he
    rw [hk] at this
    simp only [List.all_eq_true] at this
    simpa using this l hl
  · intro h en hen e he
    split
    · rename_i hk
      simp only [List.all_eq_true]
      intro l hl
      simpa using h en hen e he hk l hl
    · rfl

theorem writesOk_iff (t : List Entry) :
    writesOk t = true ↔ ∀ en ∈ t, ∀ e ∈ en.events, ∀ f, e.kind = Kind.acc f true → writeOk en e f = true := by
  simp only [writesOk, List.all_eq_true]
  constructor
  · intro h en hen e he f hk
    have := h en hen e he
    rw [hk] at this
    simpa using this
  · intro h en hen e he
    split
    · rename_i f hk
      simpa using h en hen e he f hk
    · rfl

theorem strictOk_iff (t : List Entry) :
    strictOk t = true ↔ ∀ en ∈ t, ∀ e ∈ en.events, ∀ f w, e.kind = Kind.acc f w → f ∈ strictFields →
      strictAccOk en e f = true := by
  simp only [strictOk, List.all_eq_true]
  constructor
  · intro h en hen e he f w hk hf
    have := h en hen e he
    rw [hk] at this
    simpa [hf] using this
  · intro h en hen e he
    split
    · rename_i f w hk
      by_cases hf : f ∈ strictFields
      · simpa [hf] using h en hen e he f w hk hf
      · simp [hf]
    · rfl

theorem exitsOk_iff (t : List Entry) (exits : List (String × Lock × Nat × Bool)) (wrappers : List (String × Lock)) :
    exitsOk t exits wrappers = true ↔
      (∀ x ∈ exits, (x.1, x.2.1) ∈ wrappers) ∧ (∀ w ∈ wrappers, wrapperOk t w = true) := by
  simp [exitsOk, List.all_eq_true]

theorem blockingOk_iff (t : List Entry) :
    blockingOk t = true ↔ ∀ en ∈ t, ∀ e ∈ en.events, (e.kind = Kind.join ∨ e.kind = Kind.wait) → effMay en e = [] := by
  simp only [blockingOk, List.all_eq_true]
  constructor
  · intro h en hen e he hk
    have := h en hen e he
    rcases hk with hk | hk <;> rw [hk] at this <;> simpa using this
  · intro h en hen e he
    split
    · rename_i hk; simpa using h en hen e he (Or.inl hk)
    · rename_i hk; simpa using h en hen e he (Or.inr hk)
    · rfl

end Mhd.Locks
