/-
  C17 proofs: one round of the outer loop of `MHD_str_remove_token_caseless_`, cut into its
  parts, in list terms and for *any* token: either the element at hand is the token and is
  skipped, or it is copied in normalised form, or the buffer is full.
-/
import Mhd.Proofs.StrRm

namespace Mhd.Str

/-- the test for a full match: the whole token matched and only spaces/tabs follow up to the
    next comma or the end (F17c: otherwise nothing of the skipped whitespace is kept) -/
def rmFullPart (str token : Bytes) (s1 tPos : Nat) : M (Nat × Bool) :=
  if tPos = token.length ∧ token.length ≠ 0 then do
    let matchEnd := s1
    let s1' ← skipN str isWs s1
    let isEnd ← (if s1' = str.length then pure true else do
                    let c ← rd str s1'
                    pure (c == 0x2c) : M Bool)
    if isEnd then pure (s1', true) else pure (matchEnd, false)
  else pure (s1, false)

/-- the space check and the `", "` before an element that is kept -/
def rmSepPart (st : RmSt) (copySize : Nat) : M (Option (Nat × Bytes)) :=
  if st.w = 0 then
    if st.out.length < copySize then (pure none : M (Option (Nat × Bytes))) else pure (some (st.w, st.out))
  else
    if st.out.length < st.w + copySize + 2 then pure none
    else do
      let o ← wr st.out st.w 0x2c
      let o ← wr o (st.w + 1) 0x20
      pure (some (st.w + 2, o))

/-- copying an element that is kept: separator, the part the matching loop went over, the rest -/
def rmKeepPart (str : Bytes) (st : RmSt) (cur s1 : Nat) : M (RmSt ⊕ RmRes) := do
  let copySize := s1 - cur
  let r ← rmSepPart st copySize
  match r with
  | none => return .inr .fail
  | some (w, out) =>
    let out ← (if copySize ≠ 0 then copyBytes str cur out w copySize else pure out)
    let st1 : RmSt := { st with s1 := s1, w := w + copySize, out := out }
    match ← iter (rmCopyRestStep str) (str.length + 1) st1 with
    | none => return .inr .fail
    | some st2 => return .inl st2

theorem rmOuterStep_eq (str token : Bytes) (st : RmSt) :
    rmOuterStep str token st =
      if st.s1 < str.length then do
        let cur ← skipN str isWsComma st.s1
        if cur ≥ str.length then return .inr (.done { st with s1 := cur })
        let (s1, tPos) ← iter (rmMatchStep str token) (str.length + 1) (cur, 0)
        let (s1, full) ← rmFullPart str token s1 tPos
        if full then return .inl { st with s1 := s1, removed := true }
        rmKeepPart str st cur s1
      else return .inr (.done st) := by
  unfold rmOuterStep rmKeepPart rmSepPart rmFullPart
  rfl

/-- the code's test for "the element at the head of `r` is the token" -/
def FullMatch (r tok : Bytes) : Prop :=
  matchLen r tok = tok.length ∧ tok ≠ [] ∧ headElem ((r.drop tok.length).dropWhile isWs) = []

instance (r tok : Bytes) : Decidable (FullMatch r tok) := by unfold FullMatch; infer_instance

theorem rmFullPart_spec (str tok : Bytes) (cur : Nat) (r1 : Bytes) (hcur : cur ≤ str.length)
    (hr1 : str.drop cur = r1) :
    rmFullPart str tok (cur + matchLen r1 tok) (matchLen r1 tok) =
      .ok (if FullMatch r1 tok then (cur + tok.length + ((r1.drop tok.length).takeWhile isWs).length, true)
           else (cur + matchLen r1 tok, false)) := by
  unfold rmFullPart FullMatch
  by_cases hm : matchLen r1 tok = tok.length
  · by_cases hne : tok = []
    · subst hne
      simp only [List.length_nil, ne_eq, not_true_eq_false, and_false, false_and, if_false, pure_eq_ok]
    · have hl : tok.length ≠ 0 := fun h => hne (List.eq_nil_of_length_eq_zero h)
      have hkr := matchLen_le r1 tok
      obtain ⟨hj, hjd, hjl⟩ := skipN_exact str isWs (cur + tok.length) (r1.drop tok.length)
        (by rw [← length_of_drop hcur hr1]; exact Nat.add_le_add_left (hm ▸ hkr) cur) (by rw [← hr1, List.drop_drop])
      simp only [hm, hl, ne_eq, not_false_eq_true, and_self, if_true, hj, bind_ok', peek_isEnd str _ hjl, hjd, hne,
        true_and]
      by_cases hE : headElem ((r1.drop tok.length).dropWhile isWs) = []
      · simp only [hE, List.isEmpty_nil, if_true, pure_eq_ok]
      · simp only [List.isEmpty_eq_false_iff.mpr hE, Bool.false_eq_true, if_false, pure_eq_ok, hE]
  · simp only [hm, false_and, if_false, pure_eq_ok]

theorem rmSepPart_spec (L : Nat) (st : RmSt) (n : Nat) (hl : st.out.length = L) :
    if st.w + (if st.w = 0 then [] else sepCS).length + n ≤ L then
      ∃ w o, rmSepPart st n = .ok (some (w, o)) ∧ w = st.w + (if st.w = 0 then [] else sepCS).length ∧
        o.length = L ∧ o.take w = st.out.take st.w ++ (if st.w = 0 then [] else sepCS)
    else rmSepPart st n = .ok none := by
  unfold rmSepPart
  by_cases hw0 : st.w = 0
  · simp only [hw0, if_true, List.length_nil, Nat.zero_add, Nat.add_zero, hl]
    by_cases hsz : n ≤ L
    · simp only [hsz, if_true, Nat.not_lt.mpr hsz, if_false, pure_eq_ok]
      exact ⟨_, _, rfl, rfl, hl, by simp⟩
    · simp only [hsz, if_false, Nat.lt_of_not_le hsz, if_true, pure_eq_ok]
  · simp only [hw0, if_false, List.length_cons, List.length_nil, hl]
    by_cases hsz : st.w + 2 + n ≤ L
    · have hw2 : st.w + 1 < st.out.length :=
        hl ▸ Nat.lt_of_lt_of_le (Nat.lt_succ_self _) (Nat.le_trans (Nat.le_add_right (st.w + 2) n) hsz)
      have hw1 : st.w < st.out.length := Nat.lt_of_succ_lt hw2
      have hnl : ¬ L < st.w + n + 2 := Nat.not_lt.mpr (Nat.add_right_comm st.w 2 n ▸ hsz)
      have hw2' : st.w + 1 < (st.out.set st.w 0x2c).length := by rw [List.length_set]; exact hw2
      simp only [hsz, if_true, hnl, if_false, wr_ok _ hw1, wr_ok _ hw2', bind_ok', pure_eq_ok]
      exact ⟨_, _, rfl, rfl, by rw [List.length_set, List.length_set]; exact hl, take_set_two _ _ _ _ hw2⟩
    · have : L < st.w + n + 2 := Nat.add_right_comm st.w 2 n ▸ Nat.lt_of_not_le hsz
      simp only [hsz, if_false, this, if_true, pure_eq_ok]

theorem rmKeepPart_spec (str : Bytes) (L : Nat) (st : RmSt) (cur k : Nat) (r1 : Bytes) (hb : RmBnd str L st)
    (hcur : cur ≤ str.length) (hr1 : str.drop cur = r1) (hk : k ≤ r1.length) :
    ∃ res, RmAdv str L st (restElems (r1.drop k))
        ((if st.w = 0 then [] else sepCS) ++ r1.take k ++ restOutput (headElem (r1.drop k))) res ∧
      rmKeepPart str st cur (cur + k) = .ok (match res with
        | none => .inr .fail
        | some st2 => .inl st2) := by
  have hck : cur + k ≤ str.length := by rw [← length_of_drop hcur hr1]; exact Nat.add_le_add_left hk cur
  have hdk : str.drop (cur + k) = r1.drop k := by rw [← hr1, List.drop_drop]
  have hplen : (r1.take k).length = k := by rw [List.length_take]; exact Nat.min_eq_left hk
  have hsep := rmSepPart_spec L st k hb.2.2
  unfold rmKeepPart
  rw [Nat.add_sub_cancel_left]
  by_cases hfit : st.w + (if st.w = 0 then [] else sepCS).length + k ≤ L
  · rw [if_pos hfit] at hsep
    obtain ⟨w, o, hso, hwdef, hol, hotake⟩ := hsep
    have hwk : w + k ≤ L := hwdef ▸ hfit
    obtain ⟨o2, ho2, hol2, ho2take⟩ : ∃ o2, (if k ≠ 0 then copyBytes str cur o w k else pure o : M Bytes) = .ok o2 ∧
        o2.length = L ∧ o2.take (w + k) = o.take w ++ r1.take k := by
      by_cases hk0 : k = 0
      · subst hk0; exact ⟨o, by simp, hol, by simp⟩
      · obtain ⟨d, hd, hdl, hdt⟩ := copyBytes_exact str cur o w k hck (hol ▸ hwk)
        exact ⟨d, by rw [if_pos hk0]; exact hd, hdl.trans hol, by rw [hdt, hr1]⟩
    have hn1 : RmNext str L st (r1.drop k) ((if st.w = 0 then [] else sepCS) ++ r1.take k)
        { st with s1 := cur + k, w := w + k, out := o2 } :=
      ⟨⟨hck, hwk, hol2⟩, hdk, by show w + k = _; rw [List.length_append, hplen, hwdef, Nat.add_assoc],
        by show o2.take (w + k) = _; rw [ho2take, hotake, List.append_assoc], rfl⟩
    obtain ⟨res, hres, hpost⟩ := rmCopyRest_go str L (str.length + 1) _ (str.length + 1)
      (by rw [hn1.2.1]; exact Nat.lt_of_le_of_lt (List.length_takeWhile_le notComma _) (fuel_of_drop hdk))
      (Nat.le_refl _) hn1.1
    rw [hn1.2.1] at hpost
    refine ⟨res, RmAdv.trans hn1 hpost, ?_⟩
    simp only [hso, bind_ok', ho2, hres]
    cases res <;> rfl
  · rw [if_neg hfit] at hsep
    refine ⟨none, RmAdv.none_append (u1 := []) _ _ ?_, by simp only [hsep, bind_ok']; rfl⟩
    show L < st.w + _
    rw [List.length_append, hplen, ← Nat.add_assoc]
    exact Nat.lt_of_not_le hfit

theorem rmOuterStep_cases (str tok : Bytes) (L : Nat) (st : RmSt) (hb : RmBnd str L st) (r1 : Bytes)
    (hr1 : (str.drop st.s1).dropWhile isWsComma = r1) :
    if r1 = [] then ∃ s1', s1' ≤ str.length ∧ rmOuterStep str tok st = .ok (.inr (.done { st with s1 := s1' }))
    else if FullMatch r1 tok then
      ∃ s1', s1' ≤ str.length ∧ str.drop s1' = (r1.drop tok.length).dropWhile isWs ∧
        rmOuterStep str tok st = .ok (.inl { st with s1 := s1', removed := true })
    else
      ∃ res, RmAdv str L st (restElems (r1.drop (matchLen r1 tok)))
          ((if st.w = 0 then [] else sepCS) ++ r1.take (matchLen r1 tok) ++
            restOutput (headElem (r1.drop (matchLen r1 tok)))) res ∧
        rmOuterStep str tok st = .ok (match res with
          | none => .inr .fail
          | some st2 => .inl st2) := by
  rw [rmOuterStep_eq]
  by_cases hlt : st.s1 < str.length
  · obtain ⟨hcur, hcd, hcl⟩ := skipN_exact str isWsComma st.s1 _ hb.1 rfl
    rw [hr1] at hcd
    generalize st.s1 + ((str.drop st.s1).takeWhile isWsComma).length = cur at hcur hcd hcl
    rw [if_pos hlt, hcur, bind_ok']
    by_cases hnil : r1 = []
    · rw [if_pos hnil]
      rw [hnil] at hcd
      exact ⟨_, hcl, by rw [if_pos (List.drop_eq_nil_iff.mp hcd)]; rfl⟩
    · have : ¬ str.length ≤ cur := fun h => hnil (by rw [← hcd]; exact List.drop_eq_nil_iff.mpr h)
      rw [if_neg hnil, if_neg this]
      simp only [rmMatch_exact str tok cur r1 hcd, bind_ok', rmFullPart_spec str tok cur r1 hcl hcd]
      by_cases hm : FullMatch r1 tok
      · have hkr := matchLen_le r1 tok
        rw [hm.1] at hkr
        obtain ⟨hjd, hjl⟩ := run_pos str isWs (cur + tok.length) (r1.drop tok.length)
          (by rw [← length_of_drop hcl hcd]; exact Nat.add_le_add_left hkr cur) (by rw [← hcd, List.drop_drop])
        simp only [hm, if_true, pure_eq_ok]
        exact ⟨_, hjl, hjd, rfl⟩
      · obtain ⟨res, hadv, hres⟩ := rmKeepPart_spec str L st cur (matchLen r1 tok) r1 hb hcl hcd (matchLen_le r1 tok)
        simp only [hm, if_false, Bool.false_eq_true, hres]
        exact ⟨res, hadv, rfl⟩
  · have : r1 = [] := by rw [← hr1, List.drop_eq_nil_iff.mpr (Nat.le_of_not_lt hlt)]; rfl
    rw [if_pos this, if_neg hlt]
    exact ⟨st.s1, hb.1, rfl⟩

theorem fullMatch_rest_lt (r tok : Bytes) (hm : FullMatch r tok) :
    ((r.drop tok.length).dropWhile isWs).length < r.length := by
  have h1 := List.length_dropWhile_le isWs (r.drop tok.length)
  have h2 : 0 < tok.length := List.length_pos_iff.mpr hm.2.1
  have h3 := matchLen_le r tok
  rw [List.length_drop] at h1
  rw [hm.1] at h3
  exact Nat.lt_of_le_of_lt h1 (Nat.sub_lt (Nat.lt_of_lt_of_le h2 h3) h2)

end Mhd.Str
