/-
  C06 — proofs: one call of call_handlers at daemon level (`finishCH`, `CHFields`), and the connection
  traversals of the select and the poll loop in closed form (`TravSpec`, `selectTrav_closed`, `pollTrav_closed`).
-/
import Mhd.Proofs.LoopCH
import Mhd.Proofs.Lists
namespace Mhd.Loop
open Mhd.Gen.Loop
variable {W : Type}

theorem doIdle_inEready_noep (ops : Ops W) (s : CS W) : (doIdle ops false s).c.inEready = s.c.inEready := by
  unfold doIdle
  simp only [Bool.false_and, Bool.false_eq_true, if_false]

theorem chLocal_inEready_noep (ops : Ops W) (c0 : Conn W) (wh0 : Wh) (rr wr fc : Bool) :
    (chLocal ops false c0 wh0 rr wr fc).c.inEready = c0.inEready := by
  obtain ⟨t, e, ht⟩ := chLocal_lastIdle ops false c0 wh0 rr wr fc
  rw [e]
  exact chain_bit (P := fun _ b => b = c0.inEready) ht.chain rfl fun u _ ih => (doIdle_inEready_noep ops u).trans ih

theorem lookup_active {d : Daemon W} {A B : List (Conn W)} {c : Conn W}
    (hc : d.conns = A ++ c :: B) (hA : c.id ∉ ids A) : d.lookup c.id = some (c, .active) := by
  unfold Daemon.lookup
  rw [hc, findConn_mid hA]

theorem prevOf_active {d : Daemon W} {A B : List (Conn W)} {c : Conn W}
    (hc : d.conns = A ++ c :: B) (hA : c.id ∉ ids A) : d.prevOf c.id = some (tailId A) := by
  unfold Daemon.prevOf
  rw [hc, prevIn_mid hA]

/-- the daemon-level part of call_handlers (and of a lone handle_idle, with `dapCheck = false`) once the handlers
    have run on connection `c` of list `wh0` -/
def finishCH (d : Daemon W) (c : Conn W) (wh0 : Wh) (r : ChRes W) : Daemon W :=
  let d1 := d.place r.c wh0 r.wh
  let d2 := syncEready d1 c.id c.inEready r.c.inEready
  let d3 := if r.dapCheck && !d2.dap && r.c.loc.eli.hasProcess then { d2 with dap := true } else d2
  { d3 with log := r.evs ++ d3.log }

theorem callHandlers_eq (ops : Ops W) {d : Daemon W} {c : Conn W} {wh : Wh} (h : d.lookup c.id = some (c, wh))
    (rr wr fc : Bool) : callHandlers ops d c.id rr wr fc = finishCH d c wh (chLocal ops d.epoll c wh rr wr fc) := by
  unfold callHandlers
  rw [h]
  rfl

theorem idleAt_eq (ops : Ops W) {d : Daemon W} {c : Conn W} {wh : Wh} (h : d.lookup c.id = some (c, wh)) :
    idleAt ops d c.id = finishCH d c wh
      ⟨(doIdle ops d.epoll ⟨c, wh, []⟩).c, (doIdle ops d.epoll ⟨c, wh, []⟩).wh, (doIdle ops d.epoll ⟨c, wh, []⟩).evs, false⟩ := by
  unfold idleAt
  rw [h]
  rfl

theorem finishCH_eq (d : Daemon W) (c : Conn W) (wh0 : Wh) (r : ChRes W) :
    finishCH d c wh0 r =
      { d.place r.c wh0 r.wh with
        eready := erNew (d.place r.c wh0 r.wh).eready c.id c.inEready r.c.inEready
        dap := (r.dapCheck && !(d.place r.c wh0 r.wh).dap && r.c.loc.eli.hasProcess) || (d.place r.c wh0 r.wh).dap
        log := r.evs ++ (d.place r.c wh0 r.wh).log } := by
  unfold finishCH
  simp only [syncEready_eq]
  cases r.dapCheck && !(d.place r.c wh0 r.wh).dap && r.c.loc.eli.hasProcess <;> rfl

theorem finishCH_frame (d : Daemon W) (c : Conn W) (wh0 : Wh) (r : ChRes W) : Frame d (finishCH d c wh0 r) := by
  have f := place_frame d r.c wh0 r.wh
  rw [finishCH_eq]
  exact ⟨f.fault, f.newc, f.epoll, f.resuming, f.haveNew, f.shutdown, f.allowSuspend⟩

/-- `d'` is `d` after connection `c` of the active list `A ++ c :: B` was replaced by `r.c` or moved to the list `r.wh`,
    field by field (call_handlers, a lone handle_idle, an epoll event, the drop from the eready list) -/
structure CHFields (d d' : Daemon W) (A B : List (Conn W)) (c : Conn W) (r : ChRes W) : Prop where
  conns : d'.conns = if r.wh = .active then A ++ r.c :: B else A ++ B
  susp : d'.susp = if r.wh = .susp then r.c :: d.susp else d.susp
  cleanup : d'.cleanup = if r.wh = .cleanup then r.c :: d.cleanup else d.cleanup
  newc : d'.newc = d.newc
  resuming : d'.resuming = d.resuming
  haveNew : d'.haveNew = d.haveNew
  shutdown : d'.shutdown = d.shutdown
  epoll : d'.epoll = d.epoll
  allowSuspend : d'.allowSuspend = d.allowSuspend
  fault : d'.fault = d.fault
  dap : d'.dap = (d.dap || (r.dapCheck && r.c.loc.eli.hasProcess))
  log : d'.log = r.evs ++ d.log
  eready : d'.eready = if r.c.inEready && !c.inEready then c.id :: d.eready
                       else if !r.c.inEready && c.inEready then d.eready.erase c.id else d.eready

theorem finishCH_fields {d : Daemon W} {A B : List (Conn W)} {c : Conn W} (r : ChRes W)
    (hc : d.conns = A ++ c :: B) (hA : c.id ∉ ids A) (hid : r.c.id = c.id) :
    CHFields d (finishCH d c .active r) A B c r := by
  obtain ⟨p1, p2, p3⟩ := place_active hc hA hid r.wh
  obtain ⟨q1, q2, q3⟩ := place_rest d r.c .active r.wh
  have f := place_frame d r.c .active r.wh
  have hb : ∀ x k p : Bool, ((k && !x && p) || x) = (x || (k && p)) := by decide
  rw [finishCH_eq, q1, q2, q3]
  exact ⟨p1, p2, p3, f.newc, f.resuming, f.haveNew, f.shutdown, f.epoll, f.allowSuspend, f.fault, hb _ _ _, rfl, rfl⟩

theorem callHandlers_fields (ops : Ops W) {d : Daemon W} {A B : List (Conn W)} {c : Conn W}
    (hc : d.conns = A ++ c :: B) (hA : c.id ∉ ids A) (rr wr fc : Bool) :
    CHFields d (callHandlers ops d c.id rr wr fc) A B c (chLocal ops d.epoll c .active rr wr fc) :=
  callHandlers_eq ops (lookup_active hc hA) rr wr fc ▸ finishCH_fields _ hc hA (chLocal_static ..).id

namespace CHFields
variable {d d' : Daemon W} {A B : List (Conn W)} {c : Conn W} {r : ChRes W}

theorem frame (F : CHFields d d' A B c r) : Frame d d' :=
  ⟨F.fault, F.newc, F.epoll, F.resuming, F.haveNew, F.shutdown, F.allowSuspend⟩

theorem mem_conns (F : CHFields d d' A B c r) {x : Conn W} (hx : x ∈ d'.conns) :
    (x = r.c ∧ r.wh = .active) ∨ x ∈ A ++ B := by
  rw [F.conns] at hx
  split at hx
  · rcases List.mem_append.mp hx with h | h
    · exact Or.inr (List.mem_append_left _ h)
    · rcases List.mem_cons.mp h with h | h
      · exact Or.inl ⟨h, ‹_›⟩
      · exact Or.inr (List.mem_append_right _ h)
  · exact Or.inr hx

theorem mem_susp (F : CHFields d d' A B c r) {x : Conn W} (hx : x ∈ d'.susp) :
    (x = r.c ∧ r.wh = .susp) ∨ x ∈ d.susp := by
  rw [F.susp] at hx
  split at hx
  · rcases List.mem_cons.mp hx with h | h
    · exact Or.inl ⟨h, ‹_›⟩
    · exact Or.inr h
  · exact Or.inr hx

theorem perm (F : CHFields d d' A B c r) (hc : d.conns = A ++ c :: B) (hid : r.c.id = c.id) :
    (ids d'.conns ++ ids d'.susp ++ ids d'.cleanup).Perm (ids d.conns ++ ids d.susp ++ ids d.cleanup) := by
  rw [F.conns, F.susp, F.cleanup, hc, List.perm_iff_count]
  intro y
  cases r.wh <;>
    simp only [if_true, if_false, reduceCtorEq, ids_append, ids_cons, List.count_append, List.count_cons, hid] <;> omega

end CHFields

def visitRes (ops : Ops W) (ep : Bool) (rdy : Ready) (y : Conn W) : ChRes W :=
  chLocal ops ep y .active (rdyR rdy y.id) (rdyW rdy y.id) (rdyE rdy y.id)

def keepIf (wh : Wh) (r : ChRes W) : Option (Conn W) := if r.wh = wh then some r.c else none

/-- what a traversal that calls the handlers on every connection of `V` does to the
    daemon; `P` = the part of the active list before `V` (towards the head, not visited),
    `B` = the part behind it -/
structure TravSpec (ops : Ops W) (rdy : Ready) (d d' : Daemon W) (P V B : List (Conn W)) : Prop where
  conns : d'.conns = P ++ V.filterMap (fun y => keepIf .active (visitRes ops d.epoll rdy y)) ++ B
  susp : d'.susp = V.filterMap (fun y => keepIf .susp (visitRes ops d.epoll rdy y)) ++ d.susp
  cleanup : d'.cleanup = V.filterMap (fun y => keepIf .cleanup (visitRes ops d.epoll rdy y)) ++ d.cleanup
  newc : d'.newc = d.newc
  resuming : d'.resuming = d.resuming
  haveNew : d'.haveNew = d.haveNew
  shutdown : d'.shutdown = d.shutdown
  epoll : d'.epoll = d.epoll
  allowSuspend : d'.allowSuspend = d.allowSuspend
  fault : d'.fault = d.fault
  dap : d'.dap = (d.dap || V.any (fun y => (visitRes ops d.epoll rdy y).dapCheck && (visitRes ops d.epoll rdy y).c.loc.eli.hasProcess))
  log : d'.log = V.flatMap (fun y => (visitRes ops d.epoll rdy y).evs) ++ d.log
  eready : d.epoll = false → d'.eready = d.eready
  perm : (ids d'.conns ++ ids d'.susp ++ ids d'.cleanup).Perm (ids d.conns ++ ids d.susp ++ ids d.cleanup)

theorem visit_step (ops : Ops W) (rdy : Ready) {d : Daemon W} {A B : List (Conn W)} {c : Conn W}
    (hc : d.conns = A ++ c :: B) (hA : c.id ∉ ids A) :
    TravSpec ops rdy d (callHandlers ops d c.id (rdyR rdy c.id) (rdyW rdy c.id) (rdyE rdy c.id)) A [c] B := by
  have F : CHFields d _ A B c (visitRes ops d.epoll rdy c) := callHandlers_fields ops hc hA _ _ _
  refine ⟨?_, ?_, ?_, F.newc, F.resuming, F.haveNew, F.shutdown, F.epoll, F.allowSuspend, F.fault, ?_, ?_, ?_,
    F.perm hc (chLocal_static ..).id⟩
  · rw [F.conns]
    cases hw : (visitRes ops d.epoll rdy c).wh <;> simp [keepIf, hw]
  · rw [F.susp]
    cases hw : (visitRes ops d.epoll rdy c).wh <;> simp [keepIf, hw]
  · rw [F.cleanup]
    cases hw : (visitRes ops d.epoll rdy c).wh <;> simp [keepIf, hw]
  · rw [F.dap]; simp
  · rw [F.log]; simp
  · intro h
    have hb : (visitRes ops d.epoll rdy c).c.inEready = c.inEready := by
      unfold visitRes; rw [h]; exact chLocal_inEready_noep ops c .active _ _ _
    rw [F.eready, hb]
    cases c.inEready <;> rfl

theorem TravSpec.comp {ops : Ops W} {rdy : Ready} {d d1 d2 : Daemon W} {P V1 V2 B : List (Conn W)}
    (h1 : TravSpec ops rdy d d1 (P ++ V2) V1 B)
    (h2 : TravSpec ops rdy d1 d2 P V2 (V1.filterMap (fun y => keepIf .active (visitRes ops d.epoll rdy y)) ++ B)) :
    TravSpec ops rdy d d2 P (V2 ++ V1) B := by
  have e := h1.epoll
  constructor
  · rw [h2.conns, e]; simp [List.filterMap_append, List.append_assoc]
  · rw [h2.susp, h1.susp, e]; simp [List.filterMap_append, List.append_assoc]
  · rw [h2.cleanup, h1.cleanup, e]; simp [List.filterMap_append, List.append_assoc]
  · rw [h2.newc, h1.newc]
  · rw [h2.resuming, h1.resuming]
  · rw [h2.haveNew, h1.haveNew]
  · rw [h2.shutdown, h1.shutdown]
  · rw [h2.epoll, h1.epoll]
  · rw [h2.allowSuspend, h1.allowSuspend]
  · rw [h2.fault, h1.fault]
  · rw [h2.dap, h1.dap, e]; simp [List.any_append, Bool.or_assoc, Bool.or_comm]
  · rw [h2.log, h1.log, e]; simp [List.flatMap_append, List.append_assoc]
  · intro h; rw [h2.eready (by rw [e]; exact h), h1.eready h]
  · exact h2.perm.trans h1.perm


theorem TravSpec.nil (ops : Ops W) (rdy : Ready) {d : Daemon W} {P B : List (Conn W)} (hc : d.conns = P ++ B) :
    TravSpec ops rdy d d P [] B :=
  ⟨by simpa using hc, rfl, rfl, rfl, rfl, rfl, rfl, rfl, rfl, rfl, by simp, rfl, fun _ => rfl, List.Perm.refl _⟩

theorem selectTrav_step (ops : Ops W) (rdy : Ready) {d : Daemon W} {A B : List (Conn W)} {c : Conn W} (f : Nat)
    (hc : d.conns = A ++ c :: B) (hA : c.id ∉ ids A) (hv : c.sockValid = true) :
    selectTrav ops true rdy (f + 1) (some c.id) d =
      selectTrav ops true rdy f (tailId A) (callHandlers ops d c.id (rdyR rdy c.id) (rdyW rdy c.id) (rdyE rdy c.id)) := by
  rw [selectTrav]
  rw [lookup_active hc hA, prevOf_active hc hA]
  simp only [hv, if_true]

theorem selectTrav_closed (ops : Ops W) (rdy : Ready) :
    ∀ (fuel : Nat) (V B : List (Conn W)) (d : Daemon W), d.conns = V ++ B →
      (ids d.conns ++ ids d.susp ++ ids d.cleanup).Nodup → V.length ≤ fuel → (∀ x ∈ V, x.sockValid = true) →
      TravSpec ops rdy d (selectTrav ops true rdy fuel (tailId V) d) [] V B := by
  intro fuel
  induction fuel with
  | zero =>
    intro V B d hc _ hf _
    have : V = [] := List.eq_nil_of_length_eq_zero (Nat.le_zero.mp hf)
    subst this
    rw [tailId_nil, selectTrav]
    exact .nil ops rdy hc
  | succ f ih =>
    intro V B d hc hnd hf hsv
    rcases List.eq_nil_or_concat V with rfl | ⟨A, c, hV⟩
    · rw [tailId_nil, selectTrav]
      exact .nil ops rdy hc
    · rw [List.concat_eq_append] at hV
      subst hV
      have hc : d.conns = A ++ c :: B := by rw [hc]; simp
      have hA : c.id ∉ ids A := nodup_mid_notin (hc ▸ (nodup3 hnd).1)
      rw [tailId_concat, selectTrav_step ops rdy f hc hA (hsv c (by simp))]
      have S := visit_step ops rdy hc hA
      have IH := ih A _ _ (by rw [S.conns, List.append_assoc]) (S.perm.nodup_iff.mpr hnd) (by simpa using hf)
        fun x hx => hsv x (List.mem_append_left _ hx)
      simpa using TravSpec.comp (P := []) (by simpa using S) IH

theorem pollTrav_step (ops : Ops W) (rdy : Ready) (parr : List CId) {d : Daemon W} {A B : List (Conn W)} {c : Conn W} (f i : Nat)
    (hc : d.conns = A ++ c :: B) (hA : c.id ∉ ids A) (hi : parr[i]? = some c.id) :
    pollTrav ops true parr rdy (f + 1) i (some c.id) d =
      pollTrav ops true parr rdy f (i + 1) (tailId A) (callHandlers ops d c.id (rdyR rdy c.id) (rdyW rdy c.id) (rdyE rdy c.id)) := by
  rw [pollTrav]
  rw [prevOf_active hc hA]
  have hlt : i < parr.length := by
    rcases Nat.lt_or_ge i parr.length with h | h
    · exact h
    · rw [List.getElem?_eq_none h] at hi; cases hi
  simp only [ge_iff_le, Nat.not_le.mpr hlt, if_false, hi, ne_eq, not_true_eq_false, if_true]

theorem pollTrav_break (ops : Ops W) (rdy : Ready) (parr : List CId) {d : Daemon W} {A B : List (Conn W)} {c : Conn W} (f i : Nat)
    (hc : d.conns = A ++ c :: B) (hA : c.id ∉ ids A) (hi : parr.length ≤ i) :
    pollTrav ops true parr rdy (f + 1) i (some c.id) d = d := by
  rw [pollTrav]
  rw [prevOf_active hc hA]
  simp only [ge_iff_le, hi, if_true]

/-- The handler loop of MHD_poll_all from the tail of `P ++ V`, the array holding (from index `i`) the ids of `V`
    tail first: it visits `V` and stops at the first connection of `P`, whose index is beyond the array. -/
theorem pollTrav_closed (ops : Ops W) (rdy : Ready) (parr : List CId) :
    ∀ (fuel : Nat) (V B P : List (Conn W)) (d : Daemon W) (i : Nat), d.conns = P ++ V ++ B →
      (ids d.conns ++ ids d.susp ++ ids d.cleanup).Nodup → V.length < fuel → parr.drop i = (ids V).reverse →
      TravSpec ops rdy d (pollTrav ops true parr rdy fuel i (tailId (P ++ V)) d) P V B := by
  intro fuel
  induction fuel with
  | zero => intro _ _ _ _ _ _ _ hf; exact absurd hf (Nat.not_lt_zero _)
  | succ f ih =>
    intro V B P d i hc hnd hf hdrop
    rcases List.eq_nil_or_concat V with rfl | ⟨A, c, hV⟩
    · rw [List.append_nil] at hc ⊢
      rcases List.eq_nil_or_concat P with rfl | ⟨P', p, hP⟩
      · rw [tailId_nil, pollTrav]
        exact .nil ops rdy hc
      · rw [List.concat_eq_append] at hP
        subst hP
        have hc' : d.conns = P' ++ p :: B := by rw [hc]; simp
        rw [tailId_concat, pollTrav_break ops rdy parr f i hc' (nodup_mid_notin (hc' ▸ (nodup3 hnd).1)) (by simpa using hdrop)]
        exact .nil ops rdy hc
    · rw [List.concat_eq_append] at hV
      subst hV
      have hc' : d.conns = (P ++ A) ++ c :: B := by rw [hc]; simp [List.append_assoc]
      have hA : c.id ∉ ids (P ++ A) := nodup_mid_notin (hc' ▸ (nodup3 hnd).1)
      rw [show (ids (A ++ [c])).reverse = c.id :: (ids A).reverse by simp [ids]] at hdrop
      obtain ⟨hi, hrest, -⟩ := List.of_drop_eq_cons hdrop
      rw [← List.append_assoc, tailId_concat, pollTrav_step ops rdy parr f i hc' hA hi]
      have S := visit_step ops rdy hc' hA
      have IH := ih A _ P _ (i + 1) (by rw [S.conns, List.append_assoc]) (S.perm.nodup_iff.mpr hnd) (by simpa using hf) hrest
      simpa using TravSpec.comp (P := P) (V2 := A) (by simpa [List.append_assoc] using S) IH

end Mhd.Loop
