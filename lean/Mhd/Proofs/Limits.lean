/-
  C09 — how connections and events are counted, and the accounting
  ledger `InvG` (the counter `connections` and the per-address counters against
  the members of the lists) with what `MHD_ip_limit_add` / `MHD_ip_limit_del`
  do to it.
-/
import Mhd.Model.Limits

namespace Mhd.Limits

theorem countP_map_of {q : Conn → Bool} {f : Conn → Conn} (hf : ∀ c, q (f c) = q c) (l : List Conn) :
    (l.map f).countP q = l.countP q := by
  rw [List.countP_map]; exact congrArg (List.countP · l) (funext hf)

theorem countP_updConn {q : Conn → Bool} {f : Conn → Conn} (hf : ∀ c, q (f c) = q c) (id : Nat) (l : List Conn) :
    (updConn id f l).countP q = l.countP q :=
  countP_map_of (fun c => by split; exact hf c; rfl) l

/-- a predicate that sees of a connection only what the ledgers are about: index, address, queued response -/
def Keyed (q : Conn → Bool) : Prop :=
  ∀ c c' : Conn, c'.id = c.id → c'.addr = c.addr → c'.resp = c.resp → q c' = q c

/-- … only index and address, which nothing ever changes -/
def Stable (q : Conn → Bool) : Prop := ∀ c c' : Conn, c'.id = c.id → c'.addr = c.addr → q c' = q c

theorem Stable.keyed {q : Conn → Bool} (h : Stable q) : Keyed q := fun c c' h1 h2 _ => h c c' h1 h2

/-- members of the three lists that `daemon->connections` counts -/
def cntL (q : Conn → Bool) (s : St) : Nat := s.active.countP q + s.susp.countP q + s.cleanup.countP q

def mu (p : Nat → Bool) (l : List Conn) : Nat := l.countP (fun c => p c.addr)

@[simp] theorem mu_nil (p) : mu p [] = 0 := rfl
@[simp] theorem mu_cons (p) (c : Conn) (l) : mu p (c :: l) = mu p l + if p c.addr = true then 1 else 0 :=
  List.countP_cons
@[simp] theorem mu_append (p) (l₁ l₂ : List Conn) : mu p (l₁ ++ l₂) = mu p l₁ + mu p l₂ := List.countP_append
@[simp] theorem mu_reverse (p) (l : List Conn) : mu p l.reverse = mu p l := List.countP_reverse
theorem mu_tail_cons (p) (c : Conn) (l : List Conn) : mu p (c :: l).tail = mu p l := rfl
theorem mu_stable (p : Nat → Bool) : Stable (fun c => p c.addr) := fun _ _ _ h => congrArg p h

def nu (c : Nat) (l : List Conn) : Nat := l.countP (fun x => x.id == c)

@[simp] theorem nu_nil (c) : nu c [] = 0 := rfl
@[simp] theorem nu_cons (c) (x : Conn) (l) : nu c (x :: l) = nu c l + if x.id = c then 1 else 0 := by
  simp [nu, List.countP_cons]
@[simp] theorem nu_append (c) (l₁ l₂ : List Conn) : nu c (l₁ ++ l₂) = nu c l₁ + nu c l₂ := List.countP_append
@[simp] theorem nu_reverse (c) (l : List Conn) : nu c l.reverse = nu c l := List.countP_reverse
theorem nu_stable (c : Nat) : Stable (fun x => x.id == c) := fun _ _ h _ => congrArg (· == c) h

def hold (r : Nat) (l : List Conn) : Nat := l.countP (fun c => c.resp == some r)
def hold1 (r : Nat) (c : Conn) : Nat := if c.resp = some r then 1 else 0

@[simp] theorem hold_nil (r) : hold r [] = 0 := rfl
@[simp] theorem hold_cons (r) (c : Conn) (l) : hold r (c :: l) = hold r l + hold1 r c := by
  simp [hold, hold1, List.countP_cons]
@[simp] theorem hold_append (r) (l₁ l₂ : List Conn) : hold r (l₁ ++ l₂) = hold r l₁ + hold r l₂ := List.countP_append
@[simp] theorem hold_reverse (r) (l : List Conn) : hold r l.reverse = hold r l := List.countP_reverse
theorem hold_keyed (r : Nat) : Keyed (fun c => c.resp == some r) := fun _ _ _ _ h => congrArg (· == some r) h
theorem hold1_none {c : Conn} (h : c.resp = none) (r : Nat) : hold1 r c = 0 := by simp [hold1, h]
theorem hold1_some (r0 r : Nat) {c : Conn} (h : c.resp = some r0) : hold1 r c = if r0 = r then 1 else 0 := by
  simp [hold1, h]

def fdc (c : Nat) (evs : List Ev) : Nat := evs.count (.fdClose c)
def stc (c : Nat) (evs : List Ev) : Nat := evs.count (.connStart c)
def clc (c : Nat) (evs : List Ev) : Nat := evs.count (.connClose c)
def frc (r : Nat) (evs : List Ev) : Nat := evs.count (.freeCb r)

@[simp] theorem fdc_nil (c) : fdc c [] = 0 := rfl
@[simp] theorem stc_nil (c) : stc c [] = 0 := rfl
@[simp] theorem clc_nil (c) : clc c [] = 0 := rfl
@[simp] theorem frc_nil (r) : frc r [] = 0 := rfl
@[simp] theorem fdc_append (c) (a b : List Ev) : fdc c (a ++ b) = fdc c a + fdc c b := List.count_append
@[simp] theorem stc_append (c) (a b : List Ev) : stc c (a ++ b) = stc c a + stc c b := List.count_append
@[simp] theorem clc_append (c) (a b : List Ev) : clc c (a ++ b) = clc c a + clc c b := List.count_append
@[simp] theorem frc_append (r) (a b : List Ev) : frc r (a ++ b) = frc r a + frc r b := List.count_append
@[simp] theorem fdc_cons (c) (e : Ev) (l) : fdc c (e :: l) = fdc c l + if e = .fdClose c then 1 else 0 := by
  simp [fdc, List.count_cons]
@[simp] theorem stc_cons (c) (e : Ev) (l) : stc c (e :: l) = stc c l + if e = .connStart c then 1 else 0 := by
  simp [stc, List.count_cons]
@[simp] theorem clc_cons (c) (e : Ev) (l) : clc c (e :: l) = clc c l + if e = .connClose c then 1 else 0 := by
  simp [clc, List.count_cons]
@[simp] theorem frc_cons (r) (e : Ev) (l) : frc r (e :: l) = frc r l + if e = .freeCb r then 1 else 0 := by
  simp [frc, List.count_cons]

/-- no socket-close / start / close-notification event -/
def Quiet (evs : List Ev) : Prop := ∀ c, fdc c evs = 0 ∧ stc c evs = 0 ∧ clc c evs = 0

/-- no event that any ledger counts -/
def Inert (evs : List Ev) : Prop := Quiet evs ∧ ∀ r, frc r evs = 0

theorem quiet_nil : Quiet [] := fun _ => ⟨rfl, rfl, rfl⟩
theorem quiet_append {a b : List Ev} (ha : Quiet a) (hb : Quiet b) : Quiet (a ++ b) := fun c => by
  obtain ⟨a1, a2, a3⟩ := ha c
  obtain ⟨b1, b2, b3⟩ := hb c
  simp only [fdc_append, stc_append, clc_append, a1, a2, a3, b1, b2, b3, and_self]

/-- the events some ledger counts -/
def Ev.counted : Ev → Bool
  | .fdClose _ | .connStart _ | .connClose _ | .freeCb _ => true
  | _ => false

theorem count_uncounted {x y : Ev} (hx : x.counted = false) (hy : y.counted = true) (e : List Ev) :
    List.count y (x :: e) = List.count y e :=
  List.count_cons_of_ne (fun h => by rw [h, hy] at hx; cases hx)

theorem quiet_cons {x : Ev} {e : List Ev} (hx : x.counted = false) (h : Quiet e) : Quiet (x :: e) := fun c =>
  ⟨(count_uncounted hx rfl e).trans (h c).1, (count_uncounted hx rfl e).trans (h c).2.1,
   (count_uncounted hx rfl e).trans (h c).2.2⟩

theorem inert_nil : Inert [] := ⟨quiet_nil, fun _ => rfl⟩

theorem inert_one {x : Ev} (hx : x.counted = false := by rfl) : Inert [x] :=
  ⟨quiet_cons hx quiet_nil, fun _ => count_uncounted hx rfl []⟩

def tot (p : Nat → Bool) (s : St) : Nat := mu p s.newL + mu p s.active + mu p s.susp + mu p s.cleanup

def isA (a : Nat) : Nat → Bool := fun x => x == a
def allA : Nat → Bool := fun _ => true

theorem mu_all (l : List Conn) : mu allA l = l.length := by simp [mu, allA]

theorem mu_all_cons (c : Conn) (l : List Conn) : mu allA (c :: l) = mu allA l + 1 := mu_cons allA c l

theorem mu_isA_cons (a : Nat) (c : Conn) (l : List Conn) :
    mu (isA a) (c :: l) = mu (isA a) l + if c.addr = a then 1 else 0 := by simp [isA]

theorem mergeFault_ind {P : Option Fault → Prop} {a b : Option Fault} (ha : P a) (hb : P b) : P (mergeFault a b) := by
  unfold mergeFault; split <;> assumption

/-- faults that the counting invariant excludes -/
def CountFaultFree (f : Option Fault) : Prop := f ≠ some .ipDelZero ∧ f ≠ some .connUnderflow

theorem cf_none : CountFaultFree none := by simp [CountFaultFree]

/-- The accounting invariant.  `pc`: connections detached from every list that
    are still counted in `connections` and per address (the local list of
    `MHD_cleanup_connections`); `pi`: detached connections counted per address
    only (prepared but not yet processed). -/
structure InvG (s : St) (pc pi : List Conn) : Prop where
  conns : s.connections = mu allA s.active + mu allA s.susp + mu allA s.cleanup + mu allA pc
  le : s.connections ≤ s.cfg.limit
  ip : ∀ a, s.ipCount a = if s.cfg.perIp = 0 ∨ a = 0 then 0 else tot (isA a) s + mu (isA a) pc + mu (isA a) pi
  ipLe : ∀ a, s.ipCount a ≤ s.cfg.perIp
  cf : CountFaultFree s.fault

abbrev Inv (s : St) : Prop := InvG s [] []

theorem Inv.zero_of_empty {s : St} (h : Inv s)
    (he : s.newL = [] ∧ s.active = [] ∧ s.susp = [] ∧ s.cleanup = []) :
    s.connections = 0 ∧ ∀ a, s.ipCount a = 0 := by
  obtain ⟨h1, h2, h3, h4⟩ := he
  refine ⟨?_, fun a => ?_⟩
  · have := h.conns; rw [h2, h3, h4] at this; exact this
  · have := h.ip a; unfold tot at this; rw [h1, h2, h3, h4] at this; exact this.trans (ite_self 0)

/-- the per-address half of `InvG`: the counters `cnt` against the number `n a` of connections from
    address `a` that ought to be counted -/
def IpOk (perIp : Nat) (cnt n : Nat → Nat) : Prop :=
  ∀ a, cnt a = (if perIp = 0 ∨ a = 0 then 0 else n a) ∧ cnt a ≤ perIp

theorem InvG.ipOk {s : St} {pc pi : List Conn} (h : InvG s pc pi) :
    IpOk s.cfg.perIp s.ipCount (fun a => tot (isA a) s + mu (isA a) pc + mu (isA a) pi) :=
  fun a => ⟨h.ip a, h.ipLe a⟩

theorem IpOk.congr {perIp : Nat} {cnt n n' : Nat → Nat} (h : IpOk perIp cnt n) (e : ∀ a, n' a = n a) :
    IpOk perIp cnt n' := fun a => by rw [e a]; exact h a

theorem InvG.move {s s' : St} {pc pi pc' pi' : List Conn} (h : InvG s pc pi)
    (hcfg : s'.cfg = s.cfg) (hn : s'.connections = s.connections) (hip : s'.ipCount = s.ipCount)
    (hN : ∀ p, mu p s'.newL + mu p pi' = mu p s.newL + mu p pi)
    (hL : ∀ p, mu p s'.active + mu p s'.susp + mu p s'.cleanup + mu p pc'
              = mu p s.active + mu p s.susp + mu p s.cleanup + mu p pc)
    (hf : CountFaultFree s'.fault) : InvG s' pc' pi' := by
  refine ⟨?_, ?_, fun a => ?_, fun a => ?_, hf⟩
  · rw [hn, hL allA]; exact h.conns
  · rw [hn, hcfg]; exact h.le
  · have h1 := h.ip a
    have h2 := hN (isA a)
    have h3 := hL (isA a)
    rw [hip, hcfg]
    by_cases hg : s.cfg.perIp = 0 ∨ a = 0
    · rw [if_pos hg] at h1 ⊢; exact h1
    · rw [if_neg hg] at h1 ⊢; unfold tot at h1 ⊢; omega
  · rw [hip, hcfg]; exact h.ipLe a

theorem keyed_false {a : Nat} : (!keyed a) = true ↔ a = 0 := by simp [keyed]

theorem ipDel_off {s : St} {a : Nat} (h : s.cfg.perIp = 0 ∨ a = 0) : ipDel s a = s := by
  unfold ipDel
  by_cases hp : s.cfg.perIp = 0
  · rw [if_pos hp]
  · rw [if_neg hp, if_pos (keyed_false.mpr (h.resolve_left hp))]

theorem ipDel_on {s : St} {a : Nat} (hp : s.cfg.perIp ≠ 0) (ha : a ≠ 0) : ipDel s a =
    if s.ipCount a = 0 then { s with fault := some .ipDelZero }
    else { s with ipCount := setFn s.ipCount a (s.ipCount a - 1) } := by
  unfold ipDel
  rw [if_neg hp, if_neg (fun h => ha (keyed_false.mp h))]

theorem ipDel_eq (s : St) (a : Nat) :
    ipDel s a = { s with ipCount := (ipDel s a).ipCount, fault := (ipDel s a).fault } := by
  by_cases h : s.cfg.perIp = 0 ∨ a = 0
  · rw [ipDel_off h]
  · rw [ipDel_on (fun e => h (.inl e)) (fun e => h (.inr e))]; split <;> rfl

@[simp] theorem ipDel_cfg (s : St) (a : Nat) : (ipDel s a).cfg = s.cfg := by rw [ipDel_eq]
@[simp] theorem ipDel_connections (s : St) (a : Nat) : (ipDel s a).connections = s.connections := by rw [ipDel_eq]
@[simp] theorem ipDel_newL (s : St) (a : Nat) : (ipDel s a).newL = s.newL := by rw [ipDel_eq]
@[simp] theorem ipDel_active (s : St) (a : Nat) : (ipDel s a).active = s.active := by rw [ipDel_eq]
@[simp] theorem ipDel_susp (s : St) (a : Nat) : (ipDel s a).susp = s.susp := by rw [ipDel_eq]
@[simp] theorem ipDel_cleanup (s : St) (a : Nat) : (ipDel s a).cleanup = s.cleanup := by rw [ipDel_eq]
@[simp] theorem ipDel_resps (s : St) (a : Nat) : (ipDel s a).resps = s.resps := by rw [ipDel_eq]
@[simp] theorem ipDel_nextId (s : St) (a : Nat) : (ipDel s a).nextId = s.nextId := by rw [ipDel_eq]

theorem ipDel_fault (s : St) (a : Nat) : (ipDel s a).fault = s.fault ∨ (ipDel s a).fault = some .ipDelZero := by
  by_cases h : s.cfg.perIp = 0 ∨ a = 0
  · rw [ipDel_off h]; exact .inl rfl
  · rw [ipDel_on (fun e => h (.inl e)) (fun e => h (.inr e))]; split; exact .inr rfl; exact .inl rfl

/-- the MHD_PANIC of a missing node cannot happen -/
theorem ipDel_ipOk (s : St) (a : Nat) (n : Nat → Nat)
    (h : IpOk s.cfg.perIp s.ipCount (fun x => n x + if a = x then 1 else 0)) :
    IpOk s.cfg.perIp (ipDel s a).ipCount n ∧ (ipDel s a).fault = s.fault := by
  by_cases hoff : s.cfg.perIp = 0 ∨ a = 0
  · rw [ipDel_off hoff]
    exact ⟨fun x => by have := h x; grind, rfl⟩
  · have ha := h a
    rw [ipDel_on (fun e => hoff (.inl e)) (fun e => hoff (.inr e)), if_neg (by grind)]
    exact ⟨fun x => by have := h x; simp only [setFn]; grind, rfl⟩

theorem InvG.ipDel_pi {s : St} {c : Conn} {pc pi : List Conn} (h : InvG s pc (c :: pi)) :
    IpOk s.cfg.perIp (ipDel s c.addr).ipCount (fun a => tot (isA a) s + mu (isA a) pc + mu (isA a) pi) ∧
    (ipDel s c.addr).fault = s.fault :=
  ipDel_ipOk s c.addr _ (h.ipOk.congr (fun a => by simp only [mu_isA_cons]; omega))

theorem InvG.ipDel_pc {s : St} {c : Conn} {pc pi : List Conn} (h : InvG s (c :: pc) pi) :
    IpOk s.cfg.perIp (ipDel s c.addr).ipCount (fun a => tot (isA a) s + mu (isA a) pc + mu (isA a) pi) ∧
    (ipDel s c.addr).fault = s.fault :=
  ipDel_ipOk s c.addr _ (h.ipOk.congr (fun a => by simp only [mu_isA_cons]; omega))

theorem ipDel_cf_fault (s : St) (c : Conn) (pc pi : List Conn) (h : InvG s pc (c :: pi)) :
    CountFaultFree (ipDel s c.addr).fault := h.ipDel_pi.2 ▸ h.cf

theorem ipAdd_cases (s : St) (a : Nat) :
    (ipAdd s a = (s, true, []) ∧ (s.cfg.perIp = 0 ∨ a = 0)) ∨
    (ipAdd s a = ({ s with ipCount := setFn s.ipCount a (s.ipCount a + 1) }, true, []) ∧
      s.cfg.perIp ≠ 0 ∧ a ≠ 0 ∧ s.ipCount a < s.cfg.perIp) ∨
    ipAdd s a = (s, false, []) ∨ ipAdd s a = ({ s with armed := none }, false, [.failed .ipnode]) := by
  unfold ipAdd
  by_cases hp : s.cfg.perIp = 0
  · rw [if_pos hp]; exact .inl ⟨rfl, .inl hp⟩
  · rw [if_neg hp]
    by_cases harm : s.armed = some .ipnode
    · rw [if_pos harm]; exact .inr (.inr (.inr rfl))
    · rw [if_neg harm]
      by_cases hk : (!keyed a) = true
      · rw [if_pos hk]; exact .inl ⟨rfl, .inr (keyed_false.mp hk)⟩
      · rw [if_neg hk]
        by_cases hlt : s.ipCount a < s.cfg.perIp
        · rw [if_pos hlt]; exact .inr (.inl ⟨rfl, hp, fun e => hk (keyed_false.mpr e), hlt⟩)
        · rw [if_neg hlt]; exact .inr (.inr (.inl rfl))

theorem ipAdd_frame (s : St) (a : Nat) : ∃ f x, (ipAdd s a).1 = { s with ipCount := f, armed := x } := by
  rcases ipAdd_cases s a with ⟨he, _⟩ | ⟨he, _⟩ | he | he <;> rw [he] <;> exact ⟨_, _, rfl⟩

theorem ipAdd_inert (s : St) (a : Nat) : Inert (ipAdd s a).2.2 := by
  rcases ipAdd_cases s a with ⟨he, _⟩ | ⟨he, _⟩ | he | he <;> rw [he]
  · exact inert_nil
  · exact inert_nil
  · exact inert_nil
  · exact inert_one

theorem ipAdd_ipOk (s : St) (a : Nat) (n : Nat → Nat) (h : IpOk s.cfg.perIp s.ipCount n) :
    IpOk s.cfg.perIp (ipAdd s a).1.ipCount (fun x => n x + if (ipAdd s a).2.1 = true ∧ a = x then 1 else 0) := by
  intro x
  have := h x
  have := h a
  rcases ipAdd_cases s a with ⟨he, hoff⟩ | ⟨he, hp, ha, hlt⟩ | he | he <;> rw [he] <;> simp only [setFn] <;> grind

end Mhd.Limits
