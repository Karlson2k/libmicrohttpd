/-
  C06 — proofs: the end of handle_idle after a completely sent reply on a kept-alive connection
  (Mhd.Model.LoopReset): bytes of the next request that are already buffered are examined in the same call.
-/
import Mhd.Model.LoopReset
namespace Mhd.Loop
open Mhd.Gen.Loop

/-- buffered input the parser has not looked at is work that needs no network input -/
def needsBuf (l : Local Bool) : Bool := l.w || l.eli.hasProcess

theorem tableEli_w (l : Local Bool) : (tableEli l).w = l.w := by
  simp only [tableEli, apply_ite Local.w, ite_self]

theorem tableEli_st (l : Local Bool) : (tableEli l).st = l.st := by
  simp only [tableEli, apply_ite Local.st, ite_self]

/-- with `continue` no unexamined input is left behind, whatever was buffered and wherever the parser gets -/
theorem replySent_examined (parse : Local Bool → Nat) (l : Local Bool) : (replySentIdleWith true parse l).w = false := by
  unfold replySentIdleWith
  simp only [if_true]
  rw [tableEli_w]
  unfold examineLoc
  cases h : (resetLoc l).w <;> simp [h]

theorem replySent_sync (parse : Local Bool → Nat) (l : Local Bool) (h : needsBuf (replySentIdleWith true parse l) = true) :
    (replySentIdleWith true parse l).eli.hasProcess = true := by
  unfold needsBuf at h
  rw [replySent_examined] at h
  simpa using h

/-- without it: INIT, READ, the buffered request still unexamined -/
theorem replySent_break (parse : Local Bool → Nat) (l : Local Bool) (hb : l.w = true) :
    (replySentIdleWith false parse l).st = stInit ∧ (replySentIdleWith false parse l).eli = .read ∧
    (replySentIdleWith false parse l).w = true := by
  have hi : stInit ∉ writeStates ∧ stInit ∉ processStates ∧ stInit ∈ readStates := by decide
  unfold replySentIdleWith
  simp only [Bool.false_eq_true, if_false]
  refine ⟨by rw [tableEli_st]; rfl, ?_, by rw [tableEli_w]; exact hb⟩
  unfold tableEli
  have : (resetLoc l).st = stInit := rfl
  rw [this, if_neg hi.1, if_neg hi.2.1, if_pos hi.2.2]

end Mhd.Loop

