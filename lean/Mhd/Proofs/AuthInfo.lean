/-
  C14: the information API (digestauth.c) depends only on the meaning of the
  parameters; specification predicates `canon`, `Elem.infoWf`, `eraseCnl`.
-/
import Mhd.Proofs.AuthSem
namespace Mhd.Auth
open Mhd.Gen.Auth

/-- every '%' is followed by at least two bytes (no read beyond the value by the percent-decoder) -/
def pctComplete : Bytes → Bool
  | [] => true
  | c :: r =>
    if c = 37 then
      match r with
      | _ :: _ :: r' => pctComplete r'
      | _ => false
    else pctComplete r

theorem pctStrict_complete (next : Option UInt8) (enc : Bytes) (h : pctComplete enc = true) :
    pctStrict next enc = pctStrict none enc := by
  fun_induction pctComplete enc with
  | case1 => rw [pctStrict.eq_def, pctStrict.eq_def]
  | case2 r' a b ih =>
    rw [pctStrict.eq_def, pctStrict.eq_def (next := none)]
    simp only [if_true]
    rw [ih h]
  | case3 r hr =>
    simp at h
  | case4 c r hc ih =>
    rw [pctStrict.eq_def, pctStrict.eq_def (next := none)]
    simp only [hc, if_false]
    rw [ih h]

/-- the percent-encoded part of an extended-notation value is complete -/
def extEncComplete (ext : Bytes) : Bool :=
  match skipLang (ext.drop extPrefix.length) with
  | some enc => pctComplete enc
  | none => true

theorem extUname_complete (ext : Bytes) (next : Option UInt8) (h : extEncComplete ext = true) :
    extUname ext next = extUname ext none := by
  unfold extUname
  unfold extEncComplete at h
  split
  · rfl
  · split
    · rfl
    · cases hs : skipLang (ext.drop extPrefix.length) with
      | none => rfl
      | some enc =>
        rw [hs] at h
        simp only
        rw [pctStrict_complete next enc h]

theorem paramUnq_unquoted (p : Param) (h : p.quoted = false) : paramUnq p = p.raw := by
  simp [paramUnq, h]

theorem rqUname_standard (s : Bytes) (term : Option UInt8) (d : DAuth) :
    rqUname s term d unStandard =
      match d.slots kUsername with
      | some u => .ok ⟨unStandard, some (paramUnq u), none, none⟩
      | none => .ok ⟨unInvalid, none, none, none⟩ := rfl

theorem rqUname_userhash (s : Bytes) (term : Option UInt8) (d : DAuth) :
    rqUname s term d unUserhash =
      match d.slots kUsername with
      | some u =>
        let n := match hexToBin (paramUnq u) with | some b => b.length | none => 0
        if n * 2 ≠ (paramUnq u).length then .ok ⟨unInvalid, none, some (paramUnq u), none⟩
        else .ok ⟨unUserhash, none, some (paramUnq u), if n = 0 then none else hexToBin (paramUnq u)⟩
      | none => .ok ⟨unInvalid, none, none, none⟩ := rfl

theorem rqUname_extended (s : Bytes) (term : Option UInt8) (d : DAuth) :
    rqUname s term d unExtended =
      match d.slots kUsernameExt with
      | some e =>
        match extUname e.raw (byteAt s term (e.off + e.raw.length)) with
        | .ok name => .ok ⟨unExtended, some name, none, none⟩
        | .invalid => .ok ⟨unInvalid, none, none, none⟩
        | .overread => .overread
      | none => .ok ⟨unInvalid, none, none, none⟩ := rfl

theorem rqUname_other (s : Bytes) (term : Option UInt8) (d : DAuth) (ut : Nat) (h1 : ut ≠ unStandard)
    (h2 : ut ≠ unUserhash) (h3 : ut ≠ unExtended) : rqUname s term d ut = .ok ⟨unInvalid, none, none, none⟩ := by
  rw [rqUname, if_neg h1, if_neg h2, if_neg h3]

/-- the structure returned by `MHD_digest_auth_get_request_info3`, the raw cnonce length aside -/
def eraseCnl : IRes DigestInfo → IRes DigestInfo
  | .ok i => .ok { i with cnonceLen := 0 }
  | .null => .null
  | .overread => .overread

/-- where the information API looks at more than the unquoted value: `username*` must not carry a backslash
    and its percent-encoding must be complete; a backslash-escaped `nc` must fit the buffer of `get_rq_nc` -/
def InfoOK (d : DAuth) : Prop :=
  (∀ e, d.slots kUsernameExt = some e → e.quoted = false ∧ extEncComplete e.raw = true) ∧
  (∀ p, d.slots kNc = some p → p.quoted = true → p.raw.length ≤ ncUnqBuf)

/-- the same parameters, every value written as it is meant -/
def plain (d : DAuth) : DAuth := { d with slots := fun k => (d.slots k).map fun p => ⟨0, paramUnq p, false⟩ }

theorem plain_slots (d : DAuth) (k : Nat) : (plain d).slots k = (d.slots k).map fun p => ⟨0, paramUnq p, false⟩ := rfl

theorem unameType_plain (d : DAuth) (h : InfoOK d) : unameType (plain d) = unameType d := by
  unfold unameType
  rw [plain_slots, plain_slots]
  cases d.slots kUsername <;> cases he : d.slots kUsernameExt <;> try rfl
  rename_i e
  simp only [Option.map_some, Option.map_none, paramUnq_unquoted e (h.1 e he).1, (h.1 e he).1]
  rfl

theorem rqUname_plain (s s' : Bytes) (term term' : Option UInt8) (d : DAuth) (ut : Nat) (h : InfoOK d) :
    rqUname s' term' (plain d) ut = rqUname s term d ut := by
  by_cases h1 : ut = unStandard
  · rw [h1, rqUname_standard, rqUname_standard, plain_slots]
    cases d.slots kUsername <;> rfl
  by_cases h2 : ut = unUserhash
  · rw [h2, rqUname_userhash, rqUname_userhash, plain_slots]
    cases d.slots kUsername <;> rfl
  by_cases h3 : ut = unExtended
  · rw [h3, rqUname_extended, rqUname_extended, plain_slots]
    cases he : d.slots kUsernameExt with
    | none => rfl
    | some e =>
      obtain ⟨hq, hc⟩ := h.1 e he
      simp only [Option.map_some, paramUnq_unquoted e hq]
      rw [extUname_complete e.raw _ hc, extUname_complete e.raw (byteAt s term _) hc]
  · rw [rqUname_other _ _ _ _ h1 h2 h3, rqUname_other _ _ _ _ h1 h2 h3]

/-- `get_rq_nc` tests the raw slice for emptiness and then the unquoted copy again: an unquoted copy that comes
    out empty is BROKEN either way -/
theorem rqNc_plain (d : DAuth) (h : InfoOK d) : rqNc (plain d) = rqNc d := by
  unfold rqNc
  rw [plain_slots]
  cases hp : d.slots kNc with
  | none => rfl
  | some p =>
    simp only [Option.map_some, Bool.not_false, if_true]
    cases hq : p.quoted
    · simp only [paramUnq_unquoted p hq, Bool.not_false, if_true]
    · have hl : ¬ ncUnqBuf < p.raw.length := Nat.not_lt.mpr (h.2 p hp hq)
      simp only [paramUnq, hq, if_true, Bool.not_true, Bool.false_eq_true, if_false, hl]
      by_cases h0 : p.raw.length = 0
      · simp [List.length_eq_zero_iff.mp h0, unquote, unquoteLoop]
      · by_cases hu : (unquote p.raw).length = 0 <;> simp only [h0, hu, if_true, if_false]

theorem requestInfo_plain (s s' : Bytes) (term term' : Option UInt8) (d : DAuth) (h : InfoOK d) :
    eraseCnl (requestInfo s' term' (plain d)) = eraseCnl (requestInfo s term d) := by
  unfold requestInfo
  simp only [unameType_plain d h, fun ut => rqUname_plain s s' term term' d ut h, rqNc_plain d h]
  have hs : ∀ k, ((plain d).slots k).map paramUnq = (d.slots k).map paramUnq := fun k => by
    rw [plain_slots]; cases d.slots k <;> rfl
  rw [hs, hs]
  split <;> rfl

theorem usernameInfo_plain (s s' : Bytes) (term term' : Option UInt8) (d : DAuth) (h : InfoOK d) :
    usernameInfo s' term' (plain d) = usernameInfo s term d := by
  unfold usernameInfo
  simp only [unameType_plain d h, fun ut => rqUname_plain s s' term term' d ut h]
  rfl

def canonSlots (v : Nat → Option Bytes) : Slots := fun k => (v k).map fun b => ⟨0, b, false⟩

/-- the parameters written in the plainest way: every value as is, nothing quoted -/
def canon (v : Nat → Option Bytes) : DAuth :=
  { slots := canonSlots v, userhash := userhashSem (v kUserhash), algo3 := algoSem (v kAlgorithm), qop := qopSem (v kQop) }

theorem canon_eq_plain (d : DAuth) (v : Nat → Option Bytes) (hv : ∀ k, (d.slots k).map paramUnq = v k)
    (ha : d.algo3 = algoSem (v kAlgorithm)) (hq : d.qop = qopSem (v kQop)) (hu : d.userhash = userhashSem (v kUserhash)) :
    canon v = plain d := by
  unfold canon plain canonSlots
  rw [← ha, ← hq, ← hu]
  congr 1
  funext k
  rw [← hv k]
  cases d.slots k <;> rfl

/-- extra conditions under which the information API is rendering-independent: `username*` is not written
    with backslash escapes and its percent-encoding is complete; a backslash-escaped `nc` fits the 16-byte
    buffer of `get_rq_nc` -/
def Elem.infoWf (e : Elem) : Bool :=
  (e.item.slot != kUsernameExt || (!quotedOf e && extEncComplete e.item.value)) &&
  (e.item.slot != kNc || !quotedOf e || decide ((rawOf e).length ≤ ncUnqBuf))

theorem rawView_mem (es : List Elem) (k : Nat) (x : Bytes × Bool) :
    ∀ init, rawView es init k = some x → init = some x ∨ ∃ e ∈ es, e.item.slot = k ∧ x = (rawOf e, quotedOf e) := by
  induction es with
  | nil => intro init h; exact Or.inl h
  | cons e es ih =>
    intro init h
    rw [rawView, List.foldl_cons] at h
    rcases ih _ h with h1 | ⟨e', he', h2⟩
    · by_cases hk : e.item.slot = k
      · rw [if_pos hk] at h1
        exact Or.inr ⟨e, by simp, hk, (Option.some.inj h1).symm⟩
      · rw [if_neg hk] at h1; exact Or.inl h1
    · exact Or.inr ⟨e', by simp [he'], h2⟩

theorem infoOK_of_wf (es : List Elem) (d : DAuth) (hinfo : es.all Elem.infoWf = true)
    (hraw : ∀ k, (d.slots k).map pr = rawView es none k) : InfoOK d := by
  have key : ∀ k p, d.slots k = some p → ∃ e, e.infoWf = true ∧ e.item.slot = k ∧ p.raw = rawOf e ∧ p.quoted = quotedOf e ∧
      Denotes (p.raw, p.quoted) e.item.value := fun k p hp => by
    have h := hraw k
    rw [hp] at h
    rcases rawView_mem es k _ none h.symm with h0 | ⟨e, he, hk, hx⟩
    · cases h0
    · have h1 : p.raw = rawOf e := congrArg Prod.fst hx
      have h2 : p.quoted = quotedOf e := congrArg Prod.snd hx
      exact ⟨e, List.all_eq_true.mp hinfo e he, hk, h1, h2, by rw [h1, h2]; exact denotes_elem e⟩
  constructor
  · intro p hp
    obtain ⟨e, hwf, hk, _, h2, hden⟩ := key _ p hp
    simp only [Elem.infoWf, hk, bne_self_eq_false, Bool.false_or, Bool.and_eq_true, Bool.not_eq_true'] at hwf
    have hq : p.quoted = false := h2.trans hwf.1.1
    simp only [Denotes, hq, Bool.false_eq_true, if_false] at hden
    exact ⟨hq, by rw [hden]; exact hwf.1.2⟩
  · intro p hp hq
    obtain ⟨e, hwf, hk, h1, h2, _⟩ := key _ p hp
    simp only [Elem.infoWf, hk, bne_self_eq_false, Bool.false_or, Bool.and_eq_true, Bool.or_eq_true, Bool.not_eq_true',
      decide_eq_true_eq, ← h2, hq, reduceCtorEq, false_or] at hwf
    rw [h1]; exact hwf.2

end Mhd.Auth
