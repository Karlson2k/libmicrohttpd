/-
  Since one step of the idle loop commutes with the arrival of more bytes (`step_comm`),
  `feed (feed s a) b = feed s (a ++ b)` and every segmentation of a stream gives the same result.

  Partial upload takes.  An iteration in which the handler takes only `k` of the `n` bytes it is offered is
  absorbed by the next iteration: the automaton in which the handler always takes everything reaches, from the
  state after the partial take, the same state in one step (`take_confluent`).  Hence every schedule of arrivals /
  iterations / partial takes ends (after the loop has run to quiescence) in the state that feeding all bytes in
  one piece produces (`sched_eq_feed`).
-/
import Mhd.Proofs.FramingIdle
namespace Mhd.Framing
open Mhd.Gen.Framing

set_option linter.unusedSectionVars false
variable [P : HeadParser] [L : LawfulHeadParser]

theorem feed_eq (lvl : Int) (app : App) (s : St) (b : Bytes) : feed lvl app s b = idle lvl app (recv s b) := by
  unfold feed recv
  split
  · rename_i h
    rw [idle_of_none]
    unfold idleStep
    cases h with
    | inl h => simp [h]
    | inr h => simp [h]
  · rfl

theorem idle_recv_idle (lvl : Int) (app : App) (n : Nat) (s : St) (hm : measure s < n) (wf : ChunkWF s) (b : Bytes) :
    idle lvl app (recv (idle lvl app s) b) = idle lvl app (recv s b) := by
  induction n generalizing s with
  | zero => omega
  | succ n ih =>
    cases hs : idleStep lvl app s with
    | none => rw [idle_of_none lvl app s hs]
    | some s' =>
      have ok := step_ok lvl app s s' hs wf
      rw [idle_step lvl app s s' wf hs, ih s' (by have := ok.2; omega) ok.1]
      exact (step_comm lvl app s s' b wf hs).symm

theorem feed_append (lvl : Int) (app : App) (s : St) (wf : ChunkWF s) (a b : Bytes) :
    feed lvl app (feed lvl app s a) b = feed lvl app s (a ++ b) := by
  rw [feed_eq, feed_eq, feed_eq]
  rw [idle_recv_idle lvl app _ (recv s a) (Nat.lt_succ_self _) (chunkWF_recv s a wf) b, recv_recv]

theorem feed_chunkWF (lvl : Int) (app : App) (s : St) (wf : ChunkWF s) (b : Bytes) :
    ChunkWF (feed lvl app s b) ∧ idleStep lvl app (feed lvl app s b) = none := by
  rw [feed_eq]
  have := idle_fix lvl app (recv s b) (chunkWF_recv s b wf)
  exact ⟨this.2, this.1⟩

theorem foldl_feed_flatten (lvl : Int) (app : App) (segs : List Bytes) (s : St) (wf : ChunkWF s)
    (hq : idleStep lvl app s = none) :
    segs.foldl (feed lvl app) s = feed lvl app s segs.flatten := by
  induction segs generalizing s with
  | nil =>
    simp only [List.foldl_nil, List.flatten_nil]
    rw [feed_eq, recv_nil, idle_of_none lvl app s hq]
  | cons a t ih =>
    simp only [List.foldl_cons, List.flatten_cons]
    have := feed_chunkWF lvl app s wf a
    rw [ih (feed lvl app s a) this.1 this.2, feed_append lvl app s wf]

theorem init_quiescent (lvl : Int) (app : App) : idleStep lvl app {} = none := by
  unfold idleStep; simp only [L.head_nil]

theorem runSegs_flatten (lvl : Int) (app : App) (segs : List Bytes) :
    runSegs lvl app segs = runSegs lvl app [segs.flatten] := by
  unfold runSegs
  rw [foldl_feed_flatten lvl app segs {} (by simp [ChunkWF]) (init_quiescent lvl app)]
  rfl

theorem consume_partial (lvl : Int) (s : St) (n k : Nat) (h : offered lvl s = some n) (hk : k < n) (wf : ChunkWF s) :
    offered lvl (consume s k) = some (n - k) ∧ consume (consume s k) (n - k) = consume s n ∧
    ChunkWF (consume s k) := by
  obtain ⟨hs, hrem, _, _, hn⟩ := (offered_iff lvl s n wf).1 h
  have hkw : k < window s := Nat.lt_of_lt_of_le hk (hn ▸ Nat.min_le_left _ _)
  have hkl : k < s.buf.length := Nat.lt_of_lt_of_le hk (hn ▸ Nat.min_le_right _ _)
  obtain ⟨cs, cr, cb, cw⟩ := consume_open s k hkw hrem
  have hwf := consume_wf s k wf (Nat.le_of_lt hkw)
  refine ⟨(offered_iff lvl _ _ hwf).2 ⟨cs.trans hs, cr, ?_, ?_, ?_⟩, ?_, hwf⟩
  · rw [cb]; exact fun e => Nat.not_le_of_lt hkl (List.drop_eq_nil_iff.1 e)
  · rw [cw]; exact Nat.sub_ne_zero_of_lt hkw
  · rw [cw, cb, List.length_drop, hn, Nat.sub_min_sub_right]
  · rw [consume_consume s k (n - k) (fun hc => window_identity hc ▸ hkw), Nat.add_sub_cancel' (Nat.le_of_lt hk)]

theorem take_confluent (lvl : Int) (app : App) (k : Nat) (s s1 : St) (h : takeStep lvl k s = some s1)
    (wf : ChunkWF s) :
    ∃ s', idleStep lvl app s = some s' ∧ ChunkWF s1 ∧ (s1 = s' ∨ idleStep lvl app s1 = some s') := by
  unfold takeStep at h
  cases ho : offered lvl s with
  | none => rw [ho] at h; cases h
  | some n =>
    rw [ho] at h; cases h
    have hfull := consume_full lvl app s n wf ho
    refine ⟨consume s n, hfull, ?_⟩
    by_cases hk : k < n
    · have hm : min k n = k := by omega
      rw [hm]
      obtain ⟨h1, h2, h3⟩ := consume_partial lvl s n k ho hk wf
      refine ⟨h3, Or.inr ?_⟩
      rw [consume_full lvl app (consume s k) (n - k) h3 h1, h2]
    · have hm : min k n = n := by omega
      rw [hm]
      exact ⟨(step_ok lvl app s _ hfull wf).1, Or.inl rfl⟩

theorem feed_of_step (lvl : Int) (app : App) (s s' : St) (b : Bytes) (wf : ChunkWF s)
    (h : idleStep lvl app s = some s') : feed lvl app s b = feed lvl app s' b := by
  rw [feed_eq, feed_eq]
  exact step_comm lvl app s s' b wf h

theorem sched_eq_feed (lvl : Int) (app : App) (is : List Inp) (s : St) (wf : ChunkWF s) :
    idle lvl app (runSched lvl app is s) = feed lvl app s (is.flatMap Inp.arrived) := by
  induction is generalizing s with
  | nil =>
    simp only [runSched, List.foldl_nil, List.flatMap_nil]
    rw [feed_eq, recv_nil]
  | cons i t ih =>
    have hrun : runSched lvl app (i :: t) s = runSched lvl app t (applyInp lvl app s i) := rfl
    rw [hrun, List.flatMap_cons]
    cases i with
    | bytes b =>
      show idle lvl app (runSched lvl app t (recv s b)) = _
      rw [ih (recv s b) (chunkWF_recv s b wf)]
      simp only [Inp.arrived]
      rw [feed_eq, feed_eq, recv_recv]
    | step =>
      simp only [Inp.arrived, List.nil_append]
      cases hs : idleStep lvl app s with
      | none =>
        have : applyInp lvl app s .step = s := by simp only [applyInp, hs, Option.getD_none]
        rw [this, ih s wf]
      | some s' =>
        have : applyInp lvl app s .step = s' := by simp only [applyInp, hs, Option.getD_some]
        rw [this, ih s' (step_ok lvl app s s' hs wf).1]
        exact (feed_of_step lvl app s s' _ wf hs).symm
    | take k =>
      simp only [Inp.arrived, List.nil_append]
      cases hs : takeStep lvl k s with
      | none =>
        have : applyInp lvl app s (.take k) = s := by simp only [applyInp, hs, Option.getD_none]
        rw [this, ih s wf]
      | some s1 =>
        have : applyInp lvl app s (.take k) = s1 := by simp only [applyInp, hs, Option.getD_some]
        rw [this]
        obtain ⟨s', h1, wf1, h2⟩ := take_confluent lvl app k s s1 hs wf
        rw [ih s1 wf1, feed_of_step lvl app s s' _ wf h1]
        cases h2 with
        | inl e => rw [e]
        | inr h2 => exact feed_of_step lvl app s1 s' _ wf1 h2

end Mhd.Framing
