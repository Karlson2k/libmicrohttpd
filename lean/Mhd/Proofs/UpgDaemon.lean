/-
  C20: the daemon-level invariant over all histories: who switches `resuming` on, where a
  connection can be between two operations, `DInv` and its preservation by every operation.
-/
import Mhd.Proofs.UpgCnt
namespace Mhd.Upg

/-- `resuming` is only ever switched on together with the daemon's flag -/
def RF (x : Conn) (p : CB) : Prop := p.1.resuming = true → x.resuming = true ∨ p.2 = true

theorem rf_upgradeActionClose (x : Conn) : RF x (upgradeActionClose x) := by
  unfold upgradeActionClose RF
  split
  · intro h; left; exact h
  · split
    · intro h; left; exact h
    · intro _; right; rfl

theorem rf_executeUpgrade (cfg) (x : Conn) (rid : Nat) : RF x (executeUpgrade cfg x rid) := by
  unfold executeUpgrade RF
  simp only
  split
  · intro h
    have := rf_upgradeActionClose (handOver (internalSuspend (takeExtra x)) rid x.rbuf) h
    rcases this with h1 | h1
    · simp [handOver] at h1
    · right; exact h1
  · intro h; simp [handOver] at h

theorem rf_afterSend (cfg) (x : Conn) : RF x (afterSend cfg x) := by
  unfold afterSend
  split
  · split
    · intro h; left; exact h
    · split
      · exact rf_executeUpgrade cfg x _
      · intro h; left; simpa using h
  · intro h; left; exact h

theorem rf_idle (cfg sh) (x : Conn) : RF x (idle cfg sh x) := by
  unfold idle RF
  intro h
  simp at h
  exact rf_afterSend cfg x h

theorem rf_callHandlers (cfg sh) (x : Conn) (a : IoAct) : RF x (callHandlers cfg sh x a) :=
  callHandlers_keeps (Q := RF x)
    (fun p n hp h => hp ((handleRead_resuming p.1 n).symm.trans h))
    (fun p n hp h => hp ((handleWrite_resuming p.1 n).symm.trans h))
    (fun p hp h => by
      show x.resuming = true ∨ (p.2 || (idle cfg sh p.1).2) = true
      rcases rf_idle cfg sh p.1 h with h1 | h1
      · exact (hp h1).imp_right fun h2 => by rw [h2]; rfl
      · right; rw [h1, Bool.or_true])
    .inl a

theorem resumeOne_resuming {cfg x} (h : Life cfg x) : (resumeOne x).resuming = false := by
  cases hr : x.resuming with
  | false =>
    unfold resumeOne; simp [hr]
  | true =>
    have hs := h.resuming_susp hr
    have hu := h.susp_urh hs
    cases hx : x.urh with
    | none => simp [hx] at hu
    | some u =>
      have h1 := h.resuming_closed hr u hx
      have h2 := h.urh_ready u hx
      unfold resumeOne
      simp [hs, hr, hx, h1, h2]

theorem roundConn_flag {cfg x} (h : Life cfg x) (sh scan : Bool) (a : Option IoAct)
    (hs : x.resuming = true → scan = true) : (roundConn cfg sh scan a x).1.resuming = true → (roundConn cfg sh scan a x).2 = true := by
  unfold roundConn
  have h1 : (newToActive (if scan = true then resumeOne x else x)).resuming = false := by
    rw [newToActive_resuming]
    split
    · exact resumeOne_resuming h
    · rename_i hsc
      cases hr : x.resuming with
      | false => rfl
      | true => exact absurd (hs hr) hsc
  simp only
  split
  · intro hh
    rw [cleanupOne_resuming] at hh
    exact (rf_callHandlers cfg sh _ _ hh).resolve_left (by rw [h1]; nofun)
  · intro hh
    rw [cleanupOne_resuming, h1] at hh; cases hh

theorem cleanupOne_not_cleanup (x : Conn) : (cleanupOne x).loc ≠ .cleanup := by
  rw [cleanupOne_loc]
  split
  · nofun
  · assumption

theorem roundConn_not_cleanup (cfg sh scan a) (x : Conn) : (roundConn cfg sh scan a x).1.loc ≠ .cleanup := by
  unfold roundConn
  simp only
  split <;> exact cleanupOne_not_cleanup _

theorem stopConn_loc {cfg x} (h : Life cfg x) : (stopConn cfg x).loc = if x.loc = .none then .none else .freed := by
  unfold stopConn
  split
  · rename_i hn
    rw [if_neg (by simp [hn])]; rfl
  · rename_i hn
    rw [cleanupOne_loc]
    cases hl : x.loc with
    | new => exact absurd hl hn
    | suspended =>
      -- an upgraded connection: marked closed and resuming, taken off the suspended list by the forced scan
      have hu := h.susp_urh hl
      have hal := h.upg_allowed hu
      obtain ⟨u, hx⟩ := Option.isSome_iff_exists.mp hu
      have hrd := h.urh_ready u hx
      cases hr : x.resuming with
      | true =>
        have hc := h.resuming_closed hr u hx
        simp [stopCloseActive, resumeIf, stopShutdownActive, stopMarkSuspended, resumeOne, hl, Conn.emit, hal, hx, hr, hc, hrd]
      | false =>
        simp [stopCloseActive, resumeIf, stopShutdownActive, stopMarkSuspended, resumeOne, hl, Conn.emit, hal, hx, hr, hrd]
    | _ => simp [stopCloseActive, resumeIf, stopShutdownActive, stopMarkSuspended, resumeOne, hl, Conn.emit]

structure DInv (d : Daemon) : Prop where
  conns : ∀ c, FI (d.cfg c) (d.conn c)
  settled : ∀ c, (d.conn c).loc ≠ .cleanup
  flag : ∀ c, (d.conn c).resuming = true → d.resuming = true
  known : ∀ c, (d.conn c).loc ≠ .none → c ∈ d.ids
  stopped : d.shutdown = true → ∀ c, (d.conn c).loc = .freed ∨ (d.conn c).loc = .none

theorem DInv.urh_susp {d : Daemon} (h : DInv d) (c : Nat) (hu : (d.conn c).urh.isSome = true) :
    (d.conn c).loc = .suspended :=
  ((h.conns c).ci.life.urh_loc hu).elim id (fun h1 => absurd h1 (h.settled c))

theorem dinv_init (base : Cfg) (behs : Nat → Nat → Beh) : DInv (Daemon.init base behs) := by
  refine ⟨fun c => fi_init _, ?_, ?_, ?_, ?_⟩ <;> intro c <;> simp [Daemon.init]

theorem setConn_same (f : Nat → Conn) (c : Nat) (x : Conn) : setConn f c x c = x := by simp [setConn]
theorem setConn_other (f : Nat → Conn) {c k : Nat} (x : Conn) (h : k ≠ c) : setConn f c x k = f k := by
  simp [setConn, h]

theorem roundConn_none_loc (cfg sh scan a) {x : Conn} (h : x.loc = .none) : (roundConn cfg sh scan a x).1 = x := by
  unfold roundConn
  have h1 : (if scan = true then resumeOne x else x) = x := by
    split
    · unfold resumeOne; simp [h]
    · rfl
  have h2 : newToActive x = x := by unfold newToActive; simp [h]
  have h3 : cleanupOne x = x := by unfold cleanupOne; simp [h]
  simp only [h1, h2]
  split
  · unfold callHandlers; simp [h, h3]
  · exact h3

theorem roundConn_loc_none (cfg sh scan a) {x : Conn} (h : (roundConn cfg sh scan a x).1.loc ≠ .none) : x.loc ≠ .none := by
  intro hn
  rw [roundConn_none_loc cfg sh scan a hn] at h
  exact h hn

theorem Conn.appOwns_urh {x : Conn} (h : x.appOwns = true) : x.urh.isSome = true := by
  unfold Conn.appOwns at h
  cases hx : x.urh <;> simp_all

theorem dinv_setConn {d : Daemon} (h : DInv d) (c : Nat) (y : Conn) (ids' : List Nat) (res : Bool)
    (hfi : FI (d.cfg c) y) (hset : y.loc ≠ .cleanup) (hres : d.resuming = true → res = true)
    (hflag : y.resuming = true → res = true) (hids : ∀ k, k ∈ d.ids → k ∈ ids') (hknown : y.loc ≠ .none → c ∈ ids')
    (hstop : d.shutdown = true → y.loc = .freed ∨ y.loc = .none) :
    DInv { d with conn := setConn d.conn c y, ids := ids', resuming := res } := by
  have hc : ∀ (P : Conn → Prop) k, P y → P (d.conn k) → P (setConn d.conn c y k) := by
    intro P k hy hk
    by_cases e : k = c
    · rw [e, setConn_same]; exact hy
    · rw [setConn_other _ _ e]; exact hk
  refine ⟨fun k => ?_, fun k => hc (·.loc ≠ .cleanup) k hset (h.settled k), fun k => ?_, fun k => ?_, fun h0 k => ?_⟩
  · by_cases e : k = c
    · show FI (d.cfg k) (setConn d.conn c y k); rw [e, setConn_same]; exact hfi
    · show FI (d.cfg k) (setConn d.conn c y k); rw [setConn_other _ _ e]; exact h.conns k
  · exact hc (·.resuming = true → res = true) k hflag (fun hr => hres (h.flag k hr))
  · by_cases e : k = c
    · show (setConn d.conn c y k).loc ≠ .none → k ∈ ids'; rw [e, setConn_same]; exact hknown
    · show (setConn d.conn c y k).loc ≠ .none → k ∈ ids'; rw [setConn_other _ _ e]; exact fun hk => hids k (h.known k hk)
  · exact hc (fun z => z.loc = .freed ∨ z.loc = .none) k (hstop h0) (h.stopped h0 k)

theorem dinv_update {d : Daemon} (h : DInv d) (c : Nat) {y : Conn} (hfi : FI (d.cfg c) y) (hloc : y.loc = (d.conn c).loc)
    (hres : y.resuming = (d.conn c).resuming) : DInv { d with conn := setConn d.conn c y } :=
  dinv_setConn h c y d.ids d.resuming hfi (hloc ▸ h.settled c) id (hres ▸ h.flag c) (fun _ => id) (hloc ▸ h.known c)
    (fun h0 => hloc ▸ h.stopped h0 c)

theorem dinv_step (d : Daemon) (op : Op) (h : DInv d) : DInv (step d op) := by
  cases op with
  | arrive c =>
    simp only [step]
    split
    · exact h
    · rename_i hsd
      refine dinv_setConn h c _ _ _ ((fi_kept _).arriveConn (h.conns c)) ?_ id ?_ ?_ ?_ (fun h0 => absurd h0 hsd)
      · rcases arriveConn_loc (d.conn c) with h1 | h1
        · rw [h1]; simp
        · rw [h1]; exact h.settled c
      · rw [arriveConn_resuming]; exact h.flag c
      · intro k hk; split
        · exact hk
        · exact List.mem_append_left _ hk
      · intro _; split
        · assumption
        · simp
  | clientSend c bs =>
    exact dinv_update h c ((fi_kept _).clientSendConn bs (h.conns c)) (clientSendConn_loc ..) (clientSendConn_resuming ..)
  | round sched =>
    simp only [step]
    split
    · exact h
    · rename_i hsd
      refine ⟨fun k => (fi_kept _).round (h.conns k) _ _ _, fun k => roundConn_not_cleanup _ _ _ _ _, fun k hk => ?_,
        fun k hk => h.known k (roundConn_loc_none _ _ _ _ hk), fun h0 => absurd h0 hsd⟩
      have hlife := (h.conns k).ci.life
      have hscan : (d.conn k).resuming = true → (d.allowUpgrade && d.resuming) = true := by
        intro hr
        have h3 : d.allowUpgrade = true := hlife.upg_allowed (hlife.susp_urh (hlife.resuming_susp hr))
        rw [h.flag k hr, h3]; rfl
      have hflag := roundConn_flag hlife d.shutdown (d.allowUpgrade && d.resuming) (sched k) hscan hk
      have hloc : (d.conn k).loc ≠ .none := by
        apply roundConn_loc_none (d.cfg k) d.shutdown (d.allowUpgrade && d.resuming) (sched k)
        intro hn
        have := (life_roundConn hlife d.shutdown (d.allowUpgrade && d.resuming) (sched k)).resuming_susp hk
        rw [hn] at this; cases this
      show ((if d.allowUpgrade = true then false else d.resuming) || d.ids.any _) = true
      rw [List.any_eq_true.mpr ⟨k, h.known k hloc, hflag⟩, Bool.or_true]
  | upClose c =>
    simp only [step]
    split
    · exact h
    · rename_i hsd
      refine dinv_setConn h c _ _ _ ((fi_kept _).upgradeActionClose (h.urh_susp c) (h.conns c)) ?_
        (fun h0 => by rw [h0]; rfl) ?_ (fun _ => id) ?_ (fun h0 => absurd h0 hsd)
      · rw [upgradeActionClose_loc]; exact h.settled c
      · intro hr
        rcases rf_upgradeActionClose (d.conn c) hr with h1 | h1
        · rw [h.flag c h1]; rfl
        · rw [h1, Bool.or_true]
      · rw [upgradeActionClose_loc]; exact h.known c
  | upRecv c mx =>
    simp only [step]
    split
    · rename_i ho
      exact dinv_update h c ((fi_kept _).act (.appRecv mx (Conn.appOwns_urh ho)) trivial (h.conns c)) rfl rfl
    · exact dinv_update h c ((fi_kept _).emit _ rfl (h.conns c)) rfl rfl
  | upSend c bs =>
    simp only [step]
    split
    · exact dinv_update h c ((fi_kept _).emit (.appSend bs) rfl (h.conns c)) rfl rfl
    · exact dinv_update h c ((fi_kept _).emit _ rfl (h.conns c)) rfl rfl
  | stop =>
    simp only [step]
    split
    · exact h
    · have hloc : ∀ k, (stopConn (d.cfg k) (d.conn k)).loc = if (d.conn k).loc = .none then .none else .freed :=
        fun k => stopConn_loc (h.conns k).ci.life
      refine ⟨fun k => (fi_kept _).stop (h.conns k), fun k => ?_, fun k hr => ?_, fun k hk => h.known k fun hn => hk ?_,
        fun _ k => ?_⟩
      · show (stopConn _ _).loc ≠ _
        rw [hloc]; split <;> nofun
      · have := (life_stopConn (h.conns k).ci.life).resuming_susp hr
        rw [hloc] at this
        split at this <;> cases this
      · show (stopConn _ _).loc = _
        rw [hloc, if_pos hn]
      · show (stopConn _ _).loc = _ ∨ (stopConn _ _).loc = _
        rw [hloc]; split
        · exact .inr rfl
        · exact .inl rfl

theorem Kept.step {J : Cfg → Conn → Prop} (k : ∀ cfg, Kept cfg Any (J cfg)) {d : Daemon} (hi : DInv d) (op : Op)
    (h : ∀ c, J (d.cfg c) (d.conn c)) : ∀ c, J (d.cfg c) ((Upg.step d op).conn c) := by
  intro c'
  have hc : ∀ c y, J (d.cfg c) y → J (d.cfg c') (setConn d.conn c y c') := by
    intro c y hy
    by_cases e : c' = c
    · subst e; rw [setConn_same]; exact hy
    · rw [setConn_other _ _ e]; exact h c'
  cases op with
  | arrive c =>
    simp only [Upg.step]; split
    · exact h c'
    · exact hc c _ ((k _).arriveConn (h c))
  | clientSend c bs => exact hc c _ ((k _).clientSendConn bs (h c))
  | round sched =>
    simp only [Upg.step]; split
    · exact h c'
    · exact (k _).round (h c') _ _ _
  | upClose c =>
    simp only [Upg.step]; split
    · exact h c'
    · exact hc c _ ((k _).upgradeActionClose (hi.urh_susp c) (h c))
  | upRecv c mx =>
    simp only [Upg.step]; split
    · rename_i ho; exact hc c _ ((k _).act (.appRecv mx (Conn.appOwns_urh ho)) trivial (h c))
    · exact hc c _ ((k _).emit _ rfl (h c))
  | upSend c bs =>
    simp only [Upg.step]; split
    · exact hc c _ ((k _).emit (.appSend bs) rfl (h c))
    · exact hc c _ ((k _).emit _ rfl (h c))
  | stop =>
    simp only [Upg.step]; split
    · exact h c'
    · exact (k _).stop (h c')

theorem dinv_run (d : Daemon) (ops : List Op) (h : DInv d) : DInv (run d ops) :=
  List.foldlRecOn ops _ h fun d hd op _ => dinv_step d op hd

theorem step_cfg (d : Daemon) (op : Op) : (step d op).cfg = d.cfg := by
  cases op with
  | clientSend c bs => rfl
  | _ => simp only [step]; split <;> rfl

theorem stop_sets_shutdown (d : Daemon) : (step d .stop).shutdown = true := by
  simp only [step]; split
  · assumption
  · rfl

theorem Kept.run {J : Cfg → Conn → Prop} (k : ∀ cfg, Kept cfg (CI cfg) (J cfg)) (ops : List Op) :
    ∀ {d : Daemon}, DInv d → (∀ c, J (d.cfg c) (d.conn c)) → ∀ c, J (d.cfg c) ((Upg.run d ops).conn c) := by
  induction ops with
  | nil => intro d _ h; exact h
  | cons op ops ih =>
    intro d hi h c
    have h1 := Kept.step (fun cfg => (ci_kept cfg).and (k cfg)) hi op (fun c => ⟨(hi.conns c).ci, h c⟩)
    have := ih (dinv_step d op hi) (fun c => by rw [step_cfg]; exact (h1 c).2) c
    rwa [step_cfg] at this

theorem roundConn_release (cfg : Cfg) (sh : Bool) (a : Option IoAct) {x : Conn} {u : Urh} (hs : x.loc = .suspended)
    (hr : x.resuming = true) (hu : x.urh = some u) (hw : u.wasClosed = true) (hc : u.cleanReady = true) :
    (roundConn cfg sh true a x).1.loc = .freed := by
  have h1 : (resumeOne x).loc = .cleanup := by simp [resumeOne, hs, hr, hu, hw, hc]
  have h2 : newToActive (resumeOne x) = resumeOne x := by simp [newToActive, h1]
  unfold roundConn
  simp only [if_true, h2]
  cases a with
  | none => rw [cleanupOne_loc, if_pos h1]
  | some a =>
    have : callHandlers cfg sh (resumeOne x) a = (resumeOne x, false) := by simp [callHandlers, h1]
    simp only [this]
    rw [cleanupOne_loc, if_pos h1]

/-- **no lost wake-up**: the close action marks the connection and sets the daemon's flag, so the next round scans
    and releases it -/
theorem upClose_round_freed {d : Daemon} (hi : DInv d) (c : Nat) (sched : Nat → Option IoAct)
    (hns : d.shutdown = false) (ho : (d.conn c).appOwns = true) :
    ((step (step d (.upClose c)) (.round sched)).conn c).loc = .freed := by
  have hu := Conn.appOwns_urh ho
  have hl := (hi.conns c).ci.life
  have hsusp := hi.urh_susp c hu
  have hal : d.allowUpgrade = true := hl.upg_allowed hu
  obtain ⟨u, hx⟩ := Option.isSome_iff_exists.mp hu
  have hwc : u.wasClosed = false := by
    unfold Conn.appOwns at ho; rw [hx] at ho; simpa using ho
  have h1 : step d (.upClose c) =
      { d with resuming := d.resuming || true,
               conn := setConn d.conn c ((markAppClosed (d.conn c)).emit (Ev.upClose true)) } := by
    simp only [step, hns, Bool.false_eq_true, if_false, upgradeActionClose, hx, hwc]
  rw [h1]
  simp only [step, hns, Bool.false_eq_true, if_false, Daemon.allowUpgrade] at hal ⊢
  rw [hal, Bool.or_true, setConn_same]
  exact roundConn_release _ _ _ (u := { u with wasClosed := true }) hsusp rfl (by simp [markAppClosed, Conn.emit, hx]) rfl
    (hl.urh_ready u hx)

end Mhd.Upg
