import Mhd.Proofs.ReplyParse
import Mhd.Proofs.ReplyStr
import Mhd.Proofs.RespInv
namespace Mhd.Bridge
open Mhd.ReplyStr
open Mhd.Http (lower ciEq)

theorem lower_toNat (b : UInt8) : (lower b).toNat = if 65 ≤ b.toNat ∧ b.toNat ≤ 90 then b.toNat + 32 else b.toNat := by
  unfold lower
  by_cases h : 65 ≤ b.toNat ∧ b.toNat ≤ 90
  · rw [if_pos h, if_pos (by simp [h.1, h.2]), UInt8.toNat_add]
    exact Nat.mod_eq_of_lt (by have : (32 : UInt8).toNat = 32 := rfl; omega)
  · rw [if_neg h, if_neg (by simpa using h)]

theorem charsEq_iff (c1 c2 : UInt8) : charsEqCaseless c1 c2 = true ↔ lower c1 = lower c2 := by
  rw [← UInt8.toNat_inj, lower_toNat, lower_toNat]
  have hc : charsEqCaseless c1 c2 = true ↔ (c1.toNat = c2.toNat ∨
      (if 65 ≤ c1.toNat ∧ c1.toNat ≤ 90 then c1.toNat + 32 = c2.toNat
       else c1.toNat = c2.toNat + 32 ∧ 65 ≤ c2.toNat ∧ c2.toNat ≤ 90)) := by
    unfold charsEqCaseless isUpper
    rw [Bool.or_eq_true, beq_iff_eq, ← UInt8.toNat_inj]
    by_cases h : 65 ≤ c1.toNat ∧ c1.toNat ≤ 90
    · rw [if_pos h, if_pos (by simp [h.1, h.2]), beq_iff_eq]
    · rw [if_neg h, if_neg (by simpa using h)]
      simp only [Bool.and_eq_true, beq_iff_eq, decide_eq_true_eq]
  rw [hc]
  split <;> split <;> omega

theorem strEq_iff : ∀ (a b : Bytes), strEqCaseless a b = true ↔ a.map lower = b.map lower
  | [], b => by cases b <;> simp [strEqCaseless]
  | _ :: _, [] => by simp [strEqCaseless]
  | c1 :: r1, c2 :: r2 => by
    simp only [strEqCaseless, List.map_cons, List.cons.injEq]
    by_cases hc : charsEqCaseless c1 c2 = true
    · simp only [hc, if_true, (charsEq_iff c1 c2).1 hc, true_and]
      exact strEq_iff r1 r2
    · have : ¬ lower c1 = lower c2 := fun h => hc ((charsEq_iff c1 c2).2 h)
      simp [hc, this]

theorem nameIs_iff (n key lit : Bytes) (hk : key.map lower = lit) : Mhd.Resp.nameIs n key = ciEq n lit := by
  unfold Mhd.Resp.nameIs eqCaselessBin ciEq
  rw [← hk]
  by_cases h : strEqCaseless n key = true
  · have := (strEq_iff n key).1 h
    simp [h, this, strEqCaseless_length n key h]
  · have h' : strEqCaseless n key = false := by simpa using h
    have : ¬ n.map lower = key.map lower := fun hh => h ((strEq_iff n key).2 hh)
    simp [h', this]

theorem hasToken_close_of_prefix (v : Bytes) (h : Mhd.Resp.ClosePrefix v) : Mhd.Http.hasToken v Mhd.Http.vClose = true := by
  rcases h with h | ⟨t, h⟩
  · subst h; decide
  · subst h
    have : Mhd.Resp.sCloseSep ++ t = Mhd.Http.vClose ++ 44 :: (32 :: t) := by simp [Mhd.Resp.sCloseSep, Mhd.Http.vClose]
    rw [this]; exact Mhd.Http.hasToken_close_prefix _
end Mhd.Bridge
