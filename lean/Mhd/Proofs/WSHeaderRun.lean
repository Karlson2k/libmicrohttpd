/-
  The decoder over the header bytes an encoder writes (all three length encodings, with and
  without mask key): from a frame boundary it reaches `HeaderCompleted` with the announced
  payload size and the key in its registers, and everything else as it was (`frame_header`).
-/
import Mhd.Proofs.WSHeader
namespace Mhd.WS

/-- in state `w` the decoder reads the bytes `a`, whatever follows them, one per trip without
    returning, and is then in state `w'` -/
inductive Reads : WS → List UInt8 → WS → Prop
  | nil (w : WS) : Reads w [] w
  | cons {w w' w'' : WS} {b : UInt8} {a : List UInt8} :
      (∀ r, iter false w (b :: r) = .cont w' 1) → Reads w' a w'' → Reads w (b :: a) w''

theorem Reads.run {w w' : WS} {a r : List UInt8} {E : List Ev} {out : Out} (h : Reads w a w')
    (hr : Run w' r E out) : Run w (a ++ r) E out := by
  induction h with
  | nil => exact hr
  | cons hi _ ih => exact Run.cont _ _ _ 1 _ _ (.inl (List.cons_ne_nil _ _)) (hi _) (ih hr)

theorem Reads.trans {w w' w'' : WS} {a b : List UInt8} (h : Reads w a w') (h' : Reads w' b w'') :
    Reads w (a ++ b) w'' := by
  induction h with
  | nil => exact h'
  | cons hi _ ih => exact .cons hi (ih h')

theorem Reads.inv {w w' : WS} {a : List UInt8} (h : Reads w a w') (hi : Inv w) (hv : w.validity ≠ 0) :
    Inv w' ∧ w'.validity ≠ 0 := by
  induction h with
  | nil => exact ⟨hi, hv⟩
  | @cons w _ _ b _ hstep _ ih =>
    have hok := iter_ok hi hv [b] (Nat.le_refl 1)
    rw [hstep []] at hok
    exact ih hok.1 hok.2.1

theorem reads_stores (ws : WS) (psz : Nat) (key : List UInt8) (v : Nat) (hl : ws.hdr.length = 32) (bs : List UInt8) :
    ∀ (p : List UInt8) (s : Nat), p.length + bs.length ≤ 32 →
      (∀ i, i < bs.length → s + i = 2 ∨ (4 ≤ s + i ∧ s + i ≤ 10) ∨ (12 ≤ s + i ∧ s + i ≤ 14)) →
      Reads (hdrPhase ws p s psz key v) bs (hdrPhase ws (p ++ bs) (s + bs.length) psz key v) := by
  induction bs with
  | nil => intro p s _ _; rw [List.append_nil]; exact .nil _
  | cons b bs ih =>
    intro p s hlen hs
    rw [List.length_cons] at hlen
    have := ih (p ++ [b]) (s + 1) (by rw [List.length_append]; exact Nat.add_right_comm .. ▸ hlen)
      (fun i hi => Nat.add_right_comm .. ▸ Nat.add_assoc .. ▸ hs (i + 1) (Nat.succ_lt_succ hi))
    rw [List.append_assoc, Nat.add_assoc, Nat.add_comm 1] at this
    exact .cons (fun r => (iter_store _ b r (hs 0 (Nat.succ_pos _))).trans
      (stepStore_phase ws p s psz key v b hl (by omega))) this

theorem lenbyte_spec (masked : Bool) (x : Nat) (hx : x < 128) :
    len7 (UInt8.ofNat ((if masked then 128 else 0) + x)) = x ∧
    finBit (UInt8.ofNat ((if masked then 128 else 0) + x)) = masked := by
  unfold len7 finBit
  cases masked <;> simp only [UInt8.toNat_ofNat'] <;> constructor <;> simp <;> omega

theorem lenBytes_length (masked : Bool) (n : Nat) :
    (lenBytes masked n).length = 1 + (if 125 < n then (if 65535 < n then 8 else 2) else 0) := by
  unfold lenBytes
  simp only []
  by_cases h1 : n < 126
  · have a : ¬ 125 < n := by omega
    simp only [if_pos h1, if_neg a, List.length_singleton]
  · have a : 125 < n := by omega
    by_cases h2 : n < 65536
    · have b : ¬ 65535 < n := by omega
      simp only [if_neg h1, if_pos h2, if_pos a, if_neg b, List.length_cons, beBytes_length, Nat.add_comm]
    · have b : 65535 < n := by omega
      simp only [if_neg h1, if_neg h2, if_pos a, if_pos b, List.length_cons, beBytes_length, Nat.add_comm]

theorem len_reads (ws : WS) (b0 : UInt8) (n psz : Nat) (key : List UInt8) (v : Nat) (masked : Bool)
    (hm : masked = !ws.isClient) (hl : ws.hdr.length = 32) (hn : n < 2 ^ 63)
    (hctl : ctlBit b0 = true → n ≤ 125) (hclose : opcodeOf b0 = 8 → n ≠ 1)
    (hmax : ws.maxPayload = 0 ∨ n ≤ ws.maxPayload) :
    Reads (hdrPhase ws [b0] 1 psz key v) (lenBytes masked n) (lenPhase ws (b0 :: lenBytes masked n) n key v masked) := by
  have hnomax : ¬ (ws.maxPayload ≠ 0 ∧ ws.maxPayload < n) := fun h =>
    hmax.elim h.1 fun hle => Nat.not_lt.mpr hle h.2
  unfold lenBytes
  simp only []
  by_cases h126 : n < 126
  · obtain ⟨hl7, hfb⟩ := lenbyte_spec masked n (Nat.lt_trans h126 (by decide))
    simp only [if_pos h126]
    generalize UInt8.ofNat ((if masked then 128 else 0) + n) = B1 at hl7 hfb ⊢
    have hst := stepLen1_phase ws psz key v b0 B1 hl (not_len1Bad_of (hfb.trans hm)
      (fun hh => absurd (hl7 ▸ hh.1) (Nat.not_le.mpr h126)) (fun hh => hclose hh.2 (hl7 ▸ hh.1)))
    rw [hl7, if_neg (Nat.ne_of_lt h126), if_neg (Nat.ne_of_lt (Nat.lt_trans h126 (by decide))), if_neg hnomax,
      hfb] at hst
    exact .cons (fun r => (iter_len1 _ _ r rfl).trans hst) (.nil _)
  · have hctl' : ctlBit b0 ≠ true := fun h => h126 (Nat.lt_succ_of_le (hctl h))
    by_cases h64k : n < 65536
    · obtain ⟨hl7, hfb⟩ := lenbyte_spec masked 126 (by decide)
      obtain ⟨ls, l, hbe, hls, hval⟩ := beBytes_snoc 1 n h64k
      simp only [if_neg h126, if_pos h64k, hbe]
      generalize UInt8.ofNat ((if masked then 128 else 0) + 126) = B1 at hl7 hfb ⊢
      have hst1 := stepLen1_phase ws psz key v b0 B1 hl (not_len1Bad_of (hfb.trans hm) (fun hh => hctl' hh.2)
        (fun hh => absurd (hl7 ▸ hh.1) (by decide)))
      rw [hl7, if_pos rfl] at hst1
      have hst3 := stepLen2of2_phase ws psz key v b0 B1 ls hls l hl
      rw [hval, if_neg (Nat.not_le.mpr (Nat.not_lt.mp h126)), if_neg hnomax, hfb] at hst3
      refine .cons (fun r => (iter_len1 _ _ r rfl).trans hst1) ?_
      refine (reads_stores ws psz key v hl ls _ 2 (by simp [hls]) fun i hi => by omega).trans ?_
      rw [hls]
      exact .cons (fun r => (iter_len2of2 _ _ r rfl).trans hst3) (.nil _)
    · obtain ⟨hl7, hfb⟩ := lenbyte_spec masked 127 (by decide)
      obtain ⟨ls, l, hbe, hls, hval⟩ := beBytes_snoc 7 n (Nat.lt_trans hn (by decide))
      simp only [if_neg h126, if_neg h64k, hbe]
      generalize UInt8.ofNat ((if masked then 128 else 0) + 127) = B1 at hl7 hfb ⊢
      have hst1 := stepLen1_phase ws psz key v b0 B1 hl (not_len1Bad_of (hfb.trans hm) (fun hh => hctl' hh.2)
        (fun hh => absurd (hl7 ▸ hh.1) (by decide)))
      rw [hl7, if_neg (by decide), if_pos rfl] at hst1
      have hst11 := stepLen8of8_phase ws psz key v b0 B1 ls hls l hl
      rw [hval, if_neg (Nat.not_lt.mpr (Nat.le_of_lt_succ hn)), if_neg (Nat.not_le.mpr (Nat.not_lt.mp h64k)),
        if_neg hnomax, hfb] at hst11
      refine .cons (fun r => (iter_len1 _ _ r rfl).trans hst1) ?_
      refine (reads_stores ws psz key v hl ls _ 4 (by simp [hls]) fun i hi => by omega).trans ?_
      rw [hls]
      exact .cons (fun r => (iter_len8of8 _ _ r rfl).trans hst11) (.nil _)

theorem mask_reads (ws : WS) (p : List UInt8) (n : Nat) (key0 : List UInt8) (v : Nat) (m1 m2 m3 m4 : UInt8)
    (hl : ws.hdr.length = 32) (hp : p.length ≤ 10) :
    Reads (hdrPhase ws p 12 n key0 v) [m1, m2, m3, m4] (hdrPhase ws (p ++ [m1, m2, m3, m4]) 16 n [m1, m2, m3, m4] v) :=
  (reads_stores ws n key0 v hl [m1, m2, m3] p 12 (by simp; omega) fun i hi => by
      simp only [List.length_cons, List.length_nil] at hi; omega).trans
    (.cons (fun r => (iter_mask4 _ _ r rfl).trans (stepMask4_phase ws p n key0 v m1 m2 m3 m4 hl (by omega))) (.nil _))

/-- the masking key of one frame (ignored when the sender is a server) -/
abbrev Key := UInt8 × UInt8 × UInt8 × UInt8

def keyOf (masked : Bool) (k : Key) : List UInt8 := if masked then [k.1, k.2.1, k.2.2.1, k.2.2.2] else [0, 0, 0, 0]

def hdrTail (masked : Bool) (n : Nat) (k : Key) : List UInt8 :=
  lenBytes masked n ++ (if masked then [k.1, k.2.1, k.2.2.1, k.2.2.2] else [])

/-- RFC 6455 framing of one frame: first byte `b0`, payload `p`, masked with `k` iff `masked` -/
def wireOf (masked : Bool) (b0 : UInt8) (p : List UInt8) (k : Key) : List UInt8 :=
  frameBytes masked b0 p.length (keyOf masked k) (copyPayload p (keyOf masked k) 0)

theorem wireOf_eq (masked : Bool) (b0 : UInt8) (p : List UInt8) (k : Key) :
    wireOf masked b0 p k = b0 :: (hdrTail masked p.length k ++ copyPayload p (keyOf masked k) 0) := by
  cases masked <;> rfl

theorem header_reads (ws : WS) (b0 : UInt8) (n psz : Nat) (key0 : List UInt8) (v : Nat) (masked : Bool) (k : Key)
    (hm : masked = !ws.isClient) (hl : ws.hdr.length = 32) (hn : n < 2 ^ 63)
    (hctl : ctlBit b0 = true → n ≤ 125) (hclose : opcodeOf b0 = 8 → n ≠ 1)
    (hmax : ws.maxPayload = 0 ∨ n ≤ ws.maxPayload) :
    Reads (hdrPhase ws [b0] 1 psz key0 v) (hdrTail masked n k)
      (hdrPhase ws (b0 :: hdrTail masked n k) 16 n (keyOf masked k) v) := by
  have hlen := len_reads ws b0 n psz key0 v masked hm hl hn hctl hclose hmax
  have h10 : (b0 :: lenBytes masked n).length ≤ 10 := by
    rw [List.length_cons, lenBytes_length]; split <;> (try split) <;> omega
  unfold hdrTail keyOf
  unfold lenPhase at hlen
  cases masked
  · simpa using hlen
  · exact hlen.trans (mask_reads ws _ n key0 v _ _ _ _ hl h10)

/-- the fields a frame header (and a whole control frame) leaves alone: the message under
    assembly and the configuration -/
def SameData (a b : WS) : Prop :=
  b.dataType = a.dataType ∧ b.dataBuf = a.dataBuf ∧ b.dataSize = a.dataSize ∧ b.dataUtf8 = a.dataUtf8 ∧
  b.flags = a.flags ∧ b.maxPayload = a.maxPayload ∧ b.allocLimit = a.allocLimit

theorem SameData.refl (a : WS) : SameData a a := ⟨rfl, rfl, rfl, rfl, rfl, rfl, rfl⟩

/-- configuration fields, never touched by decoding -/
def Cfg (a b : WS) : Prop := b.flags = a.flags ∧ b.maxPayload = a.maxPayload ∧ b.allocLimit = a.allocLimit

theorem SameData.cfg {a b : WS} (h : SameData a b) : Cfg a b := h.2.2.2.2

theorem Cfg.want {a b : WS} (h : Cfg a b) : b.wantFragments = a.wantFragments := by
  unfold WS.wantFragments; rw [h.1]

theorem Cfg.client {a b : WS} (h : Cfg a b) : b.isClient = a.isClient := by
  unfold WS.isClient; rw [h.1]

theorem Cfg.trans {a b c : WS} (h1 : Cfg a b) (h2 : Cfg b c) : Cfg a c :=
  ⟨h2.1.trans h1.1, h2.2.1.trans h1.2.1, h2.2.2.trans h1.2.2⟩

/-- `w` is the live state `ws` with the header of a frame read — first byte `b0`, payload size
    `n`, key `key` — and validity `v`: the decoder is at `HeaderCompleted` -/
structure AtBody (ws w : WS) (b0 : UInt8) (n : Nat) (key : List UInt8) (v : Nat) : Prop where
  inv : Inv w
  step : w.step = 16
  hdr0 : w.hdr[0]? = some b0
  psz : w.payloadSize = n
  key : w.maskKey = key
  val : w.validity = v
  same : SameData ws w

/-- **the header of any frame the decoder accepts**, as the encoders write it (`frameBytes`
    without the payload): the first byte is legal in the present state, the MASK bit is right
    for the role, the payload size is minimally encoded, below 2^63, within the configured
    maximum, ≤ 125 on a control frame and not 1 on a close frame -/
theorem frame_header {ws : WS} (h : Inv ws) (hs : ws.step = 0) (hv : ws.validity ≠ 0) (b0 : UInt8) (n : Nat)
    (masked : Bool) (k : Key) (hm : masked = !ws.isClient) (hb : ¬ StartBad ws b0)
    (hn : n < 2 ^ 63) (hctl : ctlBit b0 = true → n ≤ 125) (hclose : opcodeOf b0 = 8 → n ≠ 1)
    (hmax : ws.maxPayload = 0 ∨ n ≤ ws.maxPayload) :
    ∃ w, Reads ws (b0 :: hdrTail masked n k) w ∧
      AtBody ws w b0 n (keyOf masked k) (if opcodeOf b0 = 8 then 2 else ws.validity) := by
  have hl := h.hdrLen
  have hstart : ∀ r, iter false ws (b0 :: r) =
      .cont (hdrPhase ws [b0] 1 ws.payloadSize ws.maskKey (if opcodeOf b0 = 8 then 2 else ws.validity)) 1 := by
    intro r
    rw [iter_start _ _ _ hs]
    conv => lhs; rw [phase_base h hs]
    exact stepStart_phase ws ws.payloadSize ws.maskKey ws.validity b0 hl hv hb
  have hreads := Reads.cons hstart (header_reads ws b0 n _ _ _ masked k hm hl hn hctl hclose hmax)
  exact ⟨_, hreads, (hreads.inv h hv).1, rfl, phase_hdr0 .., rfl, rfl, rfl, ⟨rfl, rfl, rfl, rfl, rfl, rfl, rfl⟩⟩

end Mhd.WS
