/-
  C07 — the stream invariant `Inv` (delivered ++ pending = reply stream, plus the representation
  facts it rests on), the accounting tail that all branches of MHD_connection_handle_write share
  (`account`), and the invariant across a send from the write buffer.  Also what `check_write_done` and
  the CLOSED case of the idle loop (`idleClosed`) leave as it was.
-/
import Mhd.Proofs.SendLemmas
namespace Mhd.Send
open Mhd.Gen.Send

/-- well-formed reply descriptions (what MHD_queue_response / build_header_response establish) -/
structure WF (r : Resp) : Prop where
  hdr_ne : r.hdr ≠ []
  footer_ne : r.footer ≠ []
  iov_body : r.kind = .iovec → r.iov.flatten = r.body
  cb_max : r.kind ≠ .callback → r.cbMax = 0
  size : r.body.length < sizeUnknown
  known : (r.kind = .buffer ∨ r.kind = .iovec) → r.sizeKnown = true
  sf_kind : r.sendfile = true → r.kind = .file
  iov_ne : ∀ e ∈ r.iov, e ≠ []

/-- `response->total_size` is the content length, or still "unknown", or (after end of
    stream) the position reached -/
def TotOk (r : Resp) (c : Conn) : Prop :=
  if r.sizeKnown then c.tot = r.body.length
  else (c.tot = sizeUnknown ∨ (c.tot = r.body.length ∧ c.rp = r.body.length))

/-- the part of the invariant that does not talk about the state, the write buffer or `out` -/
structure Core (r : Resp) (c : Conn) : Prop where
  rpLe : r.sendBody = true → c.rp ≤ r.body.length
  win : if r.kind = .buffer then c.ds = 0 ∧ c.dz = r.body.length else c.ds + c.dz ≤ r.body.length
  iovOk : r.kind = .iovec → r.sendBody = true →
          (if c.iovSet then c.irest.flatten = r.body.drop c.rp else c.rp = 0)
  tot : TotOk r c
  sfOk : c.sf = true → r.sendfile = true
  winChunk : r.chunked = true → r.kind ≠ .buffer → c.dz = 0
  iovNe : ∀ e ∈ c.irest, e ≠ []
  sfWin : c.sf = true → c.dz = 0

theorem Core.congr {r : Resp} {c c' : Conn} (h : Core r c) (h2 : c'.rp = c.rp)
    (h3 : c'.ds = c.ds) (h4 : c'.dz = c.dz) (h5 : c'.iovSet = c.iovSet) (h6 : c'.irest = c.irest)
    (h7 : c'.tot = c.tot) (h8 : c'.sf = true → c.sf = true := by exact fun x => x) : Core r c' := by
  refine ⟨by rw [h2]; exact h.rpLe, by rw [h3, h4]; exact h.win,
          by rw [h5, h6, h2]; exact h.iovOk, ?_, fun x => h.sfOk (h8 x), by rw [h4]; exact h.winChunk, by rw [h6]; exact h.iovNe, fun x => by rw [h4]; exact h.sfWin (h8 x)⟩
  have := h.tot
  unfold TotOk at this ⊢
  rw [h7, h2]; exact this

theorem Core.advance {r : Resp} {c c' : Conn} (h : Core r c) (n : Nat) (hrp : c'.rp = c.rp + n)
    (hn : c.rp + n ≤ r.body.length) (h3 : c'.ds = c.ds) (h4 : c'.dz = c.dz) (h7 : c'.tot = c.tot)
    (h8 : c'.sf = true → c.sf = true)
    (hiov : r.kind = .iovec → (if c'.iovSet then c'.irest.flatten = r.body.drop c'.rp else c'.rp = 0))
    (hne : ∀ e ∈ c'.irest, e ≠ []) : Core r c' := by
  refine ⟨fun _ => by rw [hrp]; exact hn, by rw [h3, h4]; exact h.win, fun hk _ => hiov hk, ?_,
    fun x => h.sfOk (h8 x), by rw [h4]; exact h.winChunk, hne, fun x => by rw [h4]; exact h.sfWin (h8 x)⟩
  have ht := h.tot
  unfold TotOk at ht ⊢
  rw [h7, hrp]
  by_cases hk : r.sizeKnown = true
  · rw [if_pos hk] at ht ⊢; exact ht
  · rw [if_neg hk] at ht ⊢; exact ht.imp id (fun ht => ⟨ht.1, by omega⟩)

theorem Core.tot_cases {r : Resp} {c : Conn} (h : Core r c) : c.tot = r.body.length ∨ c.tot = sizeUnknown := by
  have ht := h.tot
  unfold TotOk at ht
  split at ht
  · exact Or.inl ht
  · exact ht.elim Or.inr (fun x => Or.inl x.1)

theorem Core.tot_known {r : Resp} {c : Conn} (h : Core r c) (hk : r.sizeKnown = true) : c.tot = r.body.length := by
  have := h.tot
  unfold TotOk at this
  rwa [if_pos hk] at this

theorem Core.win_buffer {r : Resp} {c : Conn} (h : Core r c) (hk : r.kind = .buffer) :
    c.ds = 0 ∧ c.dz = r.body.length := by
  have := h.win
  rwa [if_pos hk] at this

theorem TotOk.eos {r : Resp} {c : Conn} (h1 : c.tot = r.body.length) (h2 : c.rp = r.body.length) : TotOk r c := by
  unfold TotOk
  split
  · exact h1
  · exact Or.inr ⟨h1, h2⟩

theorem tot_eq_rp_end {r : Resp} {c : Conn} (hw : WF r) (hc : Core r c) (hsb : r.sendBody = true)
    (h : c.tot = c.rp) : r.body.length ≤ c.rp := by
  have hr := hc.rpLe hsb
  have hs := hw.size
  rcases hc.tot_cases with ht | ht <;> omega

theorem rp_le_tot {r : Resp} {c : Conn} (hw : WF r) (hc : Core r c) (hsb : r.sendBody = true) : c.rp ≤ c.tot := by
  have hrp := hc.rpLe hsb
  have hsz := hw.size
  rcases hc.tot_cases with ht | ht <;> omega

theorem sizeUnknown_ne_zero : sizeUnknown ≠ 0 := by decide

theorem tot_zero_empty {r : Resp} {c : Conn} (hc : Core r c) (h0 : c.tot = 0) : r.body.length ≤ c.rp := by
  have hu := sizeUnknown_ne_zero
  rcases hc.tot_cases with ht | ht <;> omega

def isWbState (s : St) : Prop := s = .headersSending ∨ s = .chunkedBodyReady ∨ s = .footersSending

structure Inv (r : Resp) (c : Conn) : Prop where
  nofault : c.fault = false
  core : c.st ≠ .closed → Core r c
  eqn : c.st ≠ .closed → c.out ++ pending r c = stream r
  pfx : c.out <+: stream r
  wbuf : isWbState c.st → c.so < c.ao ∧ c.ao ≤ c.wb.length
  stBody : (c.st = .normalBodyUnready ∨ c.st = .normalBodyReady) → r.sendBody = true ∧ r.chunked = false
  stChunk : (c.st = .chunkedBodyUnready ∨ c.st = .chunkedBodyReady ∨ c.st = .chunkedBodySent ∨ c.st = .footersSending) →
          r.sendBody = true ∧ r.chunked = true

theorem Inv.setBk {r : Resp} {c : Conn} (h : Inv r c) (b : Bk) : Inv r { c with bk := b } :=
  ⟨h.nofault, fun hne => (h.core hne).congr rfl rfl rfl rfl rfl rfl, h.eqn, h.pfx, h.wbuf, h.stBody, h.stChunk⟩

/-- `cleanup_connection` as the CLOSED case of the idle loop runs it -/
def Bk.fin (b : Bk) : Bk := if b.cstClosed then b.cleanup else b

theorem idleClosed_eq (c : Conn) : idleClosed c = { c with bk := c.bk.fin } := by
  unfold idleClosed Bk.fin; split <;> rfl

theorem idleClosed_st (c : Conn) : (idleClosed c).st = c.st := by rw [idleClosed_eq]

theorem idleClosed_out (c : Conn) : (idleClosed c).out = c.out := by rw [idleClosed_eq]

theorem idleClosed_bk (c : Conn) : (idleClosed c).bk = c.bk.fin := by rw [idleClosed_eq]

theorem idleClosed_inv {r : Resp} {c : Conn} (h : Inv r c) : Inv r (idleClosed c) := by
  rw [idleClosed_eq]; exact h.setBk _

theorem prefix_append_of_prefix {a w rest s : List α} (h : a ++ rest = s) (hw : w <+: rest) : a ++ w <+: s := by
  obtain ⟨t, ht⟩ := hw
  exact ⟨t, by rw [List.append_assoc, ht, h]⟩

theorem Inv.closed {r : Resp} {c : Conn} (hf : c.fault = false) (hst : c.st = .closed) (hp : c.out <+: stream r) : Inv r c := by
  refine ⟨hf, fun hne => absurd hst hne, fun hne => absurd hst hne, hp, ?_, ?_, ?_⟩ <;> rw [hst] <;> exact nofun

theorem Inv.close {r : Resp} {c c' : Conn} (h : Inv r c) (hne : c.st ≠ .closed) {w : Bytes} (hw : w <+: pending r c)
    (hout : c'.out = c.out ++ w) (hst : c'.st = .closed) (hf : c'.fault = false) : Inv r c' :=
  Inv.closed hf hst (by rw [hout]; exact prefix_append_of_prefix (h.eqn hne) hw)

theorem Inv.sent {r : Resp} {c c' : Conn} (h : Inv r c) (hne : c.st ≠ .closed) {w : Bytes}
    (hout : c'.out = c.out ++ w) (hpend : pending r c = w ++ pending r c') (hf : c'.fault = false)
    (hcore : Core r c') (hwb : isWbState c'.st → c'.so < c'.ao ∧ c'.ao ≤ c'.wb.length)
    (hB : (c'.st = .normalBodyUnready ∨ c'.st = .normalBodyReady) → r.sendBody = true ∧ r.chunked = false)
    (hC : (c'.st = .chunkedBodyUnready ∨ c'.st = .chunkedBodyReady ∨ c'.st = .chunkedBodySent ∨ c'.st = .footersSending) →
          r.sendBody = true ∧ r.chunked = true) : Inv r c' := by
  have heq : c'.out ++ pending r c' = stream r := by
    rw [hout, List.append_assoc, ← hpend]; exact h.eqn hne
  exact ⟨hf, fun _ => hcore, fun _ => heq, ⟨_, heq⟩, hwb, hB, hC⟩

theorem Inv.done_out {r : Resp} {c : Conn} (h : Inv r c) (hd : c.st = .done) : c.out = stream r := by
  have := h.eqn (by rw [hd]; exact nofun)
  simp only [pending, hd, List.append_nil] at this
  exact this


/-- The tail every branch of MHD_connection_handle_write ends with: what the socket took is on the
    wire; "again" leaves the state alone, any other error closes the connection, a count `n`
    continues with `k n`. -/
def account (c : Conn) (o : SendOut) (k : Nat → Conn) : Conn :=
  match o.ret with
  | .error .again => { c with out := c.out ++ o.wire }
  | .error _ => closeErr { c with out := c.out ++ o.wire }
  | .ok n => k n

theorem account_cases {P : Conn → Prop} {c : Conn} {o : SendOut} {k : Nat → Conn}
    (hag : o.ret = .error .again → P { c with out := c.out ++ o.wire })
    (herr : ∀ e, e ≠ .again → o.ret = .error e → P (closeErr { c with out := c.out ++ o.wire }))
    (hok : ∀ n, o.ret = .ok n → P (k n)) : P (account c o k) := by
  unfold account
  split
  · exact hag ‹_›
  · exact herr _ ‹_› ‹_›
  · exact hok _ ‹_›

theorem wbAccount_eq (c : Conn) (o : SendOut) (next : St) :
    wbAccount c o next =
      account c o (fun n => checkWriteDone { c with out := c.out ++ o.wire, so := c.so + n } next) := rfl

theorem checkWriteDone_st (c : Conn) (next : St) : (checkWriteDone c next).st = c.st ∨ (checkWriteDone c next).st = next := by
  unfold checkWriteDone; split
  · left; rfl
  · right; rfl

theorem checkWriteDone_out (c : Conn) (next : St) : (checkWriteDone c next).out = c.out := by
  unfold checkWriteDone; split <;> rfl

theorem account_inv {r : Resp} {c : Conn} {o : SendOut} {k : Nat → Conn} {req : Bytes} (h : Inv r c)
    (hne : c.st ≠ .closed) (hspec : SendSpec o req) (hreq : req <+: pending r c)
    (hok : ∀ n, o.ret = .ok n → Inv r (k n)) : Inv r (account c o k) := by
  refine account_cases (fun hr => ?_) (fun e _ hr => ?_) hok
  · rw [hspec.again hr, List.append_nil]; exact h
  · exact h.close hne ((hspec.err e hr).trans hreq) rfl rfl h.nofault

theorem isWbState.ne_closed {s : St} (h : isWbState s) : s ≠ .closed := fun e => by rw [e] at h; exact nomatch h

theorem wbPending_some {r : Resp} {c : Conn} (h : Inv r c) (hs : isWbState c.st) :
    wbPending c = some (slice c.wb c.so (c.ao - c.so)) ∧ (slice c.wb c.so (c.ao - c.so)).length = c.ao - c.so := by
  obtain ⟨h1, h2⟩ := h.wbuf hs
  constructor
  · simp only [wbPending]; rw [if_pos ⟨by omega, h2⟩]
  · simp only [slice, List.length_take, List.length_drop]; omega

/-- What sending from the write buffer in the state of `c` rests on: `after` is the rest of the reply
    behind the buffer, `next` the state `check_write_done` moves to once the buffer is empty. -/
structure WbStep (r : Resp) (c : Conn) (after : Bytes) (next : St) : Prop where
  same : ∀ so' out', pending r { c with so := so', out := out' } = slice c.wb so' (c.ao - so') ++ after
  done : ∀ out', pending r { c with so := 0, ao := 0, st := next, out := out' } = after
  notWb : ¬ isWbState next
  body : (next = .normalBodyUnready ∨ next = .normalBodyReady) → r.sendBody = true ∧ r.chunked = false
  chunk : (next = .chunkedBodyUnready ∨ next = .chunkedBodyReady ∨ next = .chunkedBodySent ∨ next = .footersSending) →
          r.sendBody = true ∧ r.chunked = true

theorem wb_ok_step {r : Resp} {c : Conn} (h : Inv r c) (hs : isWbState c.st) {after : Bytes} {next : St}
    (hx : WbStep r c after next) (wire : Bytes) (n : Nat)
    (hn : n ≤ c.ao - c.so) (hw : wire = (slice c.wb c.so (c.ao - c.so)).take n) :
    Inv r (checkWriteDone { c with out := c.out ++ wire, so := c.so + n } next) := by
  obtain ⟨hlt, hle⟩ := h.wbuf hs
  have hcore : Core r c := h.core hs.ne_closed
  have hlen := (wbPending_some h hs).2
  have hsplit : slice c.wb c.so (c.ao - c.so) = wire ++ slice c.wb (c.so + n) (c.ao - (c.so + n)) := by
    rw [hw, ← Nat.sub_sub]; exact (slice_split c.wb c.so (c.ao - c.so) n).symm
  unfold checkWriteDone
  by_cases hd : c.ao ≠ c.so + n
  · rw [if_pos hd]
    refine h.sent hs.ne_closed rfl ?_ h.nofault (hcore.congr rfl rfl rfl rfl rfl rfl)
      (fun _ => ⟨by show c.so + n < c.ao; omega, hle⟩) h.stBody h.stChunk
    rw [hx.same c.so c.out, hx.same, hsplit, List.append_assoc]
  · rw [if_neg hd]
    refine h.sent hs.ne_closed rfl ?_ h.nofault (hcore.congr rfl rfl rfl rfl rfl rfl)
      (fun x => absurd x hx.notWb) hx.body hx.chunk
    have hnn : c.ao - (c.so + n) = 0 := by omega
    rw [hx.same c.so c.out, hx.done, hsplit, hnn]
    simp only [slice, List.take_zero, List.append_nil]

theorem wbAccount_inv {r : Resp} {c : Conn} (h : Inv r c) (hs : isWbState c.st) {after : Bytes} {next : St}
    (hx : WbStep r c after next) {o : SendOut} (hspec : SendSpec o (slice c.wb c.so (c.ao - c.so))) :
    Inv r (wbAccount c o next) := by
  rw [wbAccount_eq]
  refine account_inv h hs.ne_closed hspec (by rw [hx.same c.so c.out]; exact List.prefix_append _ _) (fun n hr => ?_)
  obtain ⟨hn, hw⟩ := hspec.ok n hr
  rw [(wbPending_some h hs).2] at hn
  exact wb_ok_step h hs hx o.wire n hn hw

end Mhd.Send
