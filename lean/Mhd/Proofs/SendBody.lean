/-
  C07 — try_ready_normal_body and the NORMAL_BODY_READY branch of MHD_connection_handle_write:
  what each of them can do (`Ready`, `bodySend`), and the invariant across them.
-/
import Mhd.Proofs.SendInv
namespace Mhd.Send
open Mhd.Gen.Send

def isNb (s : St) : Prop := s = .normalBodyUnready ∨ s = .normalBodyReady

theorem isNb.ne_closed {s : St} (h : isNb s) : s ≠ .closed := fun e => by rw [e] at h; exact nomatch h

theorem isNb.not_wb {s : St} (h : isNb s) : ¬ isWbState s := by
  rcases h with e | e <;> rw [e] <;> exact nofun

theorem pending_nb {r : Resp} {c : Conn} (h : isNb c.st) : pending r c = r.body.drop c.rp := by
  rcases h with e | e <;> simp only [pending, e]

/-- in the normal-body states only `out` and `rp` matter for the stream equation -/
theorem Inv.nb_update {r : Resp} {c c' : Conn} (h : Inv r c) (hst : isNb c.st) (hst' : isNb c'.st)
    (ho : c'.out = c.out) (hrp : c'.rp = c.rp) (hf : c'.fault = false) (hc : Core r c') : Inv r c' := by
  refine h.sent hst.ne_closed (w := []) (by rw [ho, List.append_nil]) ?_ hf hc (fun x => absurd x hst'.not_wb)
    (fun _ => h.stBody hst) ?_
  · rw [pending_nb hst', pending_nb hst, hrp]; rfl
  · rcases hst' with e | e <;> rw [e] <;> exact nofun

theorem readerGives_data {body : Bytes} {cbMax pos max n : Nat} (h : readerGives body cbMax pos max = .data n) :
    pos < body.length ∧ n = capMax cbMax (min max (body.length - pos)) := by
  unfold readerGives at h
  by_cases hle : body.length ≤ pos
  · rw [if_pos hle] at h; cases h
  · rw [if_neg hle] at h; cases h; exact ⟨Nat.lt_of_not_le hle, rfl⟩

theorem readerGives_eos {body : Bytes} {cbMax pos max : Nat} (h : readerGives body cbMax pos max = .eos) : body.length ≤ pos := by
  unfold readerGives at h
  by_cases hle : body.length ≤ pos
  · exact hle
  · rw [if_neg hle] at h; cases h

theorem capMax_le (m n : Nat) : capMax m n ≤ n := by unfold capMax; split <;> omega

/-- the size is the one `frames` expects (the per-call cap applies to application readers only) -/
theorem crcCall_data {r : Resp} {pos max n : Nat} {app : AppAns} (h : crcCall r pos max app = .data n) (hn : n ≠ 0) :
    pos < r.body.length ∧ n = capMax (if r.kind = .callback then r.cbMax else 0) (min max (r.body.length - pos)) := by
  unfold crcCall at h
  by_cases hk : r.kind = .callback
  · rw [hk] at h
    rw [if_pos hk]
    cases app with
    | err => cases h
    | notReady => cases h; exact absurd rfl hn
    | ready => exact readerGives_data h
  · rw [if_neg hk]
    cases hkk : r.kind with
    | callback => exact absurd hkk hk
    | _ => rw [hkk] at h; exact readerGives_data h

theorem crcCall_eos {r : Resp} {pos max : Nat} {app : AppAns} (h : crcCall r pos max app = .eos) : r.body.length ≤ pos := by
  unfold crcCall at h
  cases hkk : r.kind with
  | callback =>
    rw [hkk] at h
    cases app with
    | ready => exact readerGives_eos h
    | _ => cases h
  | _ => rw [hkk] at h; exact readerGives_eos h

theorem crcCall_size {r : Resp} {pos max n : Nat} {app : AppAns} (h : crcCall r pos max app = .data n) (hn : n ≠ 0) :
    n ≤ max ∧ pos + n ≤ r.body.length := by
  obtain ⟨h1, h2⟩ := crcCall_data h hn
  have := capMax_le (if r.kind = .callback then r.cbMax else 0) (min max (r.body.length - pos))
  omega

theorem crcCall_ready_ne_wait {r : Resp} {pos max : Nat} (hmax : 1 ≤ max) : crcCall r pos max .ready ≠ .data 0 := by
  have key : ∀ m, readerGives r.body m pos max ≠ .data 0 := fun m h => by
    obtain ⟨h1, h2⟩ := readerGives_data h
    have : 1 ≤ min max (r.body.length - pos) := by omega
    unfold capMax at h2; split at h2 <;> omega
  unfold crcCall
  cases r.kind <;> exact key _

theorem crcCall_not_err {r : Resp} {pos max : Nat} {app : AppAns} (h : app ≠ .err) : crcCall r pos max app ≠ .err := by
  have key : ∀ m, readerGives r.body m pos max ≠ .err := fun m => by unfold readerGives; split <;> exact nofun
  unfold crcCall
  cases r.kind
  case callback =>
    cases app with
    | err => exact absurd rfl h
    | notReady => exact nofun
    | ready => exact key _
  all_goals exact key _

/-- `try_ready_normal_body` has to ask the content reader -/
structure Ask (r : Resp) (c : Conn) : Prop where
  left : ¬ (c.tot = 0 ∨ c.rp = c.tot)
  kind : ¬ (r.kind = .iovec ∨ r.kind = .buffer)
  sf : ¬ c.sf = true
  win : ¬ (c.ds ≤ c.rp ∧ c.rp < c.dz + c.ds)

/-- `try_ready_normal_body` has nothing to prepare: nothing is left, or the iovec has been copied, or
    the data is at hand (plain buffer, window), or sendfile will fetch it -/
def Keep (r : Resp) (c : Conn) : Prop :=
  (c.tot = 0 ∨ c.rp = c.tot) ∨ (r.kind = .iovec ∧ c.iovSet = true) ∨
  (r.kind ≠ .iovec ∧ (r.kind = .buffer ∨ (c.ds ≤ c.rp ∧ c.rp < c.dz + c.ds) ∨ c.sf = true))

/-- what `try_ready_normal_body` can return -/
inductive Ready (r : Resp) (c : Conn) (app : AppAns) (alloc : Bool) : Conn × Bool → Prop
  | keep : Keep r c → Ready r c app alloc (c, true)
  | iov : ¬ (c.tot = 0 ∨ c.rp = c.tot) → r.kind = .iovec → ¬ c.iovSet = true → alloc = true →
      Ready r c app alloc ({ c with iovSet := true, isent := 0, irest := r.iov }, true)
  | nomem : alloc = false → Ready r c app alloc (closeErr c, false)
  | readerErr : Ask r c → crcCall r c.rp (min r.bufSize (c.tot - c.rp)) app = .err →
      Ready r c app alloc (closeReader r { c with tot := c.rp }, false)
  | eos : Ask r c → crcCall r c.rp (min r.bufSize (c.tot - c.rp)) app = .eos →
      Ready r c app alloc (closeOk { c with tot := c.rp }, false)
  | wait : Ask r c → crcCall r c.rp (min r.bufSize (c.tot - c.rp)) app = .data 0 →
      Ready r c app alloc ({ c with ds := c.rp, dz := 0, st := .normalBodyUnready }, false)
  | data (n : Nat) : Ask r c → crcCall r c.rp (min r.bufSize (c.tot - c.rp)) app = .data (n + 1) →
      Ready r c app alloc ({ c with ds := c.rp, dz := n + 1 }, true)

theorem tryReady_ready (r : Resp) (c : Conn) (app : AppAns) (alloc : Bool) :
    Ready r c app alloc (tryReadyNormalBody r c app alloc) := by
  unfold tryReadyNormalBody
  by_cases h0 : c.tot = 0 ∨ c.rp = c.tot
  · rw [if_pos h0]; exact .keep (Or.inl h0)
  rw [if_neg h0]
  by_cases hk : r.kind = .iovec
  · rw [if_pos hk]
    by_cases hset : c.iovSet = true
    · rw [if_pos hset]; exact .keep (Or.inr (Or.inl ⟨hk, hset⟩))
    · rw [if_neg hset]
      cases alloc
      · exact .nomem rfl
      · exact .iov h0 hk hset rfl
  rw [if_neg hk]
  by_cases hkb : r.kind = .buffer
  · rw [if_pos hkb]; exact .keep (Or.inr (Or.inr ⟨hk, Or.inl hkb⟩))
  rw [if_neg hkb]
  by_cases hwin : c.ds ≤ c.rp ∧ c.rp < c.dz + c.ds
  · rw [if_pos hwin]; exact .keep (Or.inr (Or.inr ⟨hk, Or.inr (Or.inl hwin)⟩))
  rw [if_neg hwin]
  by_cases hsf : c.sf = true
  · rw [if_pos hsf]; exact .keep (Or.inr (Or.inr ⟨hk, Or.inr (Or.inr hsf)⟩))
  rw [if_neg hsf]
  have ha : Ask r c := ⟨h0, fun x => x.elim hk hkb, hsf, hwin⟩
  cases hcrc : crcCall r c.rp (min r.bufSize (c.tot - c.rp)) app with
  | err => exact .readerErr ha hcrc
  | eos => exact .eos ha hcrc
  | data n =>
    cases n with
    | zero => exact .wait ha hcrc
    | succ m => exact .data m ha hcrc

theorem Ready.same {r : Resp} {c c' : Conn} {app : AppAns} {alloc ok : Bool} (h : Ready r c app alloc (c', ok)) :
    c'.out = c.out ∧ c'.sf = c.sf ∧ c'.rp = c.rp ∧ (ok = true → c'.st = c.st ∧ c'.tot = c.tot ∧ c'.bk = c.bk) := by
  cases h with
  | keep | iov | data => exact ⟨rfl, rfl, rfl, fun _ => ⟨rfl, rfl, rfl⟩⟩
  | nomem | readerErr | eos | wait => exact ⟨rfl, rfl, rfl, nofun⟩

/-- what `try_ready_normal_body` returning MHD_YES has established for the sender that follows -/
def BodyReady (r : Resp) (c : Conn) : Prop :=
  c.rp < c.tot → (c.sf = true ∨ (r.kind = .iovec ∧ c.iovSet = true) ∨
                  (r.kind ≠ .iovec ∧ c.ds ≤ c.rp ∧ c.rp < c.ds + c.dz))

theorem BodyReady.iov {r : Resp} {c : Conn} (h : BodyReady r c) (hlt : c.rp < c.tot) (hsf : ¬ c.sf = true)
    (hk : r.kind = .iovec) : c.iovSet = true := by
  rcases h hlt with x | x | x
  · exact absurd x hsf
  · exact x.2
  · exact absurd hk x.1

theorem BodyReady.win {r : Resp} {c : Conn} (h : BodyReady r c) (hc : Core r c) (hlt : c.rp < c.tot)
    (hsf : ¬ c.sf = true) (hk : r.kind ≠ .iovec) :
    c.ds ≤ c.rp ∧ c.rp < c.ds + c.dz ∧ c.ds + c.dz ≤ r.body.length := by
  have hb : c.ds + c.dz ≤ r.body.length := by
    have := hc.win
    split at this
    · rw [this.1, this.2, Nat.zero_add]; exact Nat.le_refl _
    · exact this
  rcases h hlt with x | x | x
  · exact absurd x hsf
  · exact absurd x.1 hk
  · exact ⟨x.2.1, x.2.2, hb⟩

theorem Ready.inv {r : Resp} {c c' : Conn} {app : AppAns} {alloc ok : Bool} (hw : WF r) (h : Inv r c)
    (hst : isNb c.st) (hr : Ready r c app alloc (c', ok)) : Inv r c' ∧ (ok = true → BodyReady r c') := by
  have hcore := h.core hst.ne_closed
  obtain ⟨hsb, hnc⟩ := h.stBody hst
  have hrp := hcore.rpLe hsb
  cases hr with
  | keep hk =>
    refine ⟨h, fun _ hlt => ?_⟩
    rcases hk with h0 | hi | ⟨hni, hb | hwin | hsf⟩
    · omega
    · exact Or.inr (Or.inl hi)
    · have hwin := hcore.win_buffer hb
      have ht := hcore.tot_known (hw.known (Or.inl hb))
      exact Or.inr (Or.inr ⟨hni, by omega, by omega⟩)
    · exact Or.inr (Or.inr ⟨hni, hwin.1, by omega⟩)
    · exact Or.inl hsf
  | iov h0 hk hset _ =>
    -- the iovec is copied into the connection's pool
    have hio := hcore.iovOk hk hsb
    rw [if_neg hset] at hio
    refine ⟨h.nb_update hst hst rfl rfl h.nofault ?_, fun _ _ => Or.inr (Or.inl ⟨hk, rfl⟩)⟩
    refine ⟨hcore.rpLe, hcore.win, fun _ _ => ?_, hcore.tot, hcore.sfOk, hcore.winChunk, hw.iov_ne, hcore.sfWin⟩
    show r.iov.flatten = r.body.drop c.rp
    rw [hw.iov_body hk, hio, List.drop_zero]
  | nomem _ => exact ⟨Inv.closed h.nofault rfl h.pfx, nofun⟩
  | readerErr _ _ => exact ⟨Inv.closed h.nofault rfl h.pfx, nofun⟩
  | eos ha hcrc =>
    -- the position reached becomes the size; nothing of the content is left
    have hend := crcCall_eos hcrc
    refine ⟨h.sent hst.ne_closed (w := []) (List.append_nil _).symm ?_ h.nofault ?_ nofun nofun nofun, nofun⟩
    · rw [pending_nb hst, List.drop_eq_nil_of_le hend]; rfl
    · exact ⟨hcore.rpLe, hcore.win, hcore.iovOk, TotOk.eos (Nat.le_antisymm hrp hend) (Nat.le_antisymm hrp hend),
        hcore.sfOk, hcore.winChunk, hcore.iovNe, hcore.sfWin⟩
  | wait ha _ =>
    refine ⟨h.nb_update hst (Or.inl rfl) rfl rfl h.nofault ?_, nofun⟩
    refine ⟨hcore.rpLe, ?_, hcore.iovOk, hcore.tot, hcore.sfOk, fun hch => (by rw [hnc] at hch; cases hch), hcore.iovNe,
      fun x => absurd x ha.sf⟩
    rw [if_neg (fun x => ha.kind (Or.inr x))]; exact hrp
  | data n ha hcrc =>
    have hd := crcCall_size hcrc (Nat.succ_ne_zero n)
    refine ⟨h.nb_update hst hst rfl rfl h.nofault ?_,
      fun _ _ => Or.inr (Or.inr ⟨fun x => ha.kind (Or.inl x), Nat.le_refl _, Nat.lt_add_of_pos_right (Nat.succ_pos n)⟩)⟩
    refine ⟨hcore.rpLe, ?_, hcore.iovOk, hcore.tot, hcore.sfOk, fun hch => (by rw [hnc] at hch; cases hch), hcore.iovNe,
      fun x => absurd x ha.sf⟩
    rw [if_neg (fun x => ha.kind (Or.inr x))]; exact hd.2

/-- `if (rp == total_size) state = FULL_REPLY_SENT` -/
def finish (c : Conn) : Conn := if c.rp = c.tot then { c with st := .fullReplySent } else c

/-- account for the result `o` of a body sender; `c` already holds the sender's own trackers -/
def bodyAccount (c : Conn) (o : SendOut) : Conn :=
  account c o (fun n => finish { c with out := c.out ++ o.wire, rp := c.rp + n })

/-- after `try_ready_normal_body` has said MHD_YES: one call of the sender in charge -/
def bodySend (r : Resp) (c : Conn) (s : SockRes) : Conn :=
  if c.sf then
    let x := sendSendfile r.thrPerConn r.body r.fdOff c.rp c.tot s
    bodyAccount { c with sf := x.sf } x.out
  else if r.kind = .iovec then
    let x := sendIovec false c.isent c.irest s
    if x.fault then setFault { c with out := c.out ++ x.out.wire, isent := x.sent, irest := x.rest }
    else bodyAccount { c with isent := x.sent, irest := x.rest } x.out
  else
    if c.rp < c.ds ∨ c.dz < c.rp - c.ds ∨ r.body.length < c.ds + c.dz then setFault c
    else bodyAccount c (sendData false (slice r.body (c.ds + (c.rp - c.ds)) (c.dz - (c.rp - c.ds))) s)

theorem hwNormalBody_eq (r : Resp) (c : Conn) (s : SockRes) (app : AppAns) (alloc : Bool) :
    hwNormalBody r c s app alloc =
      if c.rp < c.tot then
        match tryReadyNormalBody r c app alloc with
        | (c', false) => c'
        | (c', true) => bodySend r c' s
      else finish c := rfl

theorem finish_inv {r : Resp} {c : Conn} (hw : WF r) (h : Inv r c) (hst : isNb c.st) : Inv r (finish c) := by
  unfold finish
  split
  · rename_i he
    have hcore := h.core hst.ne_closed
    have hend := tot_eq_rp_end hw hcore (h.stBody hst).1 he.symm
    refine h.sent hst.ne_closed (w := []) (List.append_nil _).symm ?_ h.nofault (hcore.congr rfl rfl rfl rfl rfl rfl)
      nofun nofun nofun
    rw [pending_nb hst, List.drop_eq_nil_of_le hend]; rfl
  · exact h

/-- `X` is the prefix of the unsent content the sender was offered; `c1` is `c` up to the sender's
    own trackers, which are right again once the count is in. -/
theorem bodyAccount_inv {r : Resp} {c c1 : Conn} {o : SendOut} {X : Bytes} (hw : WF r) (h : Inv r c)
    (hs : c.st = .normalBodyReady) (hX : X <+: r.body.drop c.rp) (hspec : SendSpec o X)
    (hst : c1.st = c.st) (hout : c1.out = c.out) (hrp : c1.rp = c.rp) (hf : c1.fault = false)
    (hagain : o.ret = .error .again → Core r c1)
    (hok : ∀ n, o.ret = .ok n → c.rp + n ≤ r.body.length →
      Core r { c1 with out := c1.out ++ o.wire, rp := c1.rp + n }) :
    Inv r (bodyAccount c1 o) := by
  have hnb : isNb c.st := Or.inr hs
  have hnb1 : isNb c1.st := by rw [hst]; exact hnb
  have hpend := pending_nb (r := r) hnb
  refine account_cases (fun hr => ?_) (fun e _ hr => ?_) (fun n hr => ?_)
  · rw [hspec.again hr, List.append_nil]
    exact h.nb_update hnb hnb1 hout hrp hf (hagain hr)
  · refine h.close hnb.ne_closed (w := o.wire) ?_ (by show c1.out ++ o.wire = _; rw [hout]) rfl hf
    rw [hpend]; exact (hspec.err e hr).trans hX
  · obtain ⟨hn, hwire⟩ := hspec.ok n hr
    have hle : c.rp + n ≤ r.body.length := by
      have := hX.length_le; rw [List.length_drop] at this
      have := (h.core hnb.ne_closed).rpLe (h.stBody hnb).1
      omega
    refine finish_inv hw (h.sent hnb.ne_closed (w := o.wire) ?_ ?_ hf (hok n hr hle) ?_ ?_ ?_) hnb1
    · show c1.out ++ o.wire = _; rw [hout]
    · have hp2 : pending r { c1 with out := c1.out ++ o.wire, rp := c1.rp + n } = r.body.drop (c1.rp + n) :=
        pending_nb hnb1
      rw [hp2, hpend, hwire, prefix_take_eq hX n hn, hrp]
      exact (take_append_drop_add r.body c.rp n).symm
    · exact fun x => absurd x hnb1.not_wb
    · exact fun _ => h.stBody hnb
    · show (c1.st = _ ∨ _) → _; rw [hst, hs]; exact nofun

theorem bodySend_inv {r : Resp} {c : Conn} (hw : WF r) (h : Inv r c) (hs : c.st = .normalBodyReady)
    (hlt : c.rp < c.tot) (hready : BodyReady r c) (s : SockRes) : Inv r (bodySend r c s) := by
  have hnb : isNb c.st := Or.inr hs
  have hcore := h.core hnb.ne_closed
  have hsb := (h.stBody hnb).1
  unfold bodySend
  by_cases hsf : c.sf = true
  · rw [if_pos hsf]
    have hki : r.kind ≠ .iovec := by rw [hw.sf_kind (hcore.sfOk hsf)]; exact nofun
    obtain ⟨X, hX, hspec⟩ := sendSendfile_spec r.thrPerConn r.body r.fdOff c.rp c.tot s
    generalize sendSendfile r.thrPerConn r.body r.fdOff c.rp c.tot s = x at hspec ⊢
    refine bodyAccount_inv hw h hs hX hspec rfl rfl rfl h.nofault
      (fun _ => hcore.congr rfl rfl rfl rfl rfl rfl (fun _ => hsf)) (fun n _ hle => ?_)
    exact hcore.advance n rfl hle rfl rfl rfl (fun _ => hsf) (fun hk => absurd hk hki) hcore.iovNe
  rw [if_neg hsf]
  by_cases hk : r.kind = .iovec
  · rw [if_pos hk]
    have hset := hready.iov hlt hsf hk
    have hio := hcore.iovOk hk hsb
    rw [if_pos hset] at hio
    obtain ⟨X, hX, -, hout, hnf, hsame, hrest⟩ := sendIovec_sent c.isent c.irest s
    generalize sendIovec false c.isent c.irest s = x at hout hnf hsame hrest ⊢
    rw [hio] at hX
    simp only [hnf, Bool.false_eq_true, if_false]
    refine bodyAccount_inv hw h hs hX (by rw [hout]; exact sysSend_spec X s) rfl rfl rfl h.nofault
      (fun hr => hcore.congr rfl rfl rfl rfl (hsame _ hr) rfl) (fun n hr hle => ?_)
    refine hcore.advance n rfl hle rfl rfl rfl id (fun _ => ?_) ((hrest n hr).2 hcore.iovNe)
    show (if c.iovSet = true then x.rest.flatten = r.body.drop (c.rp + n) else c.rp + n = 0)
    rw [if_pos hset, (hrest n hr).1, hio, List.drop_drop]
  · rw [if_neg hk]
    obtain ⟨hw1, hw2, hw3⟩ := hready.win hcore hlt hsf hk
    rw [if_neg (by omega), Nat.add_sub_cancel' hw1]
    exact bodyAccount_inv hw h hs (List.take_prefix _ _) (sendData_spec _ s) rfl rfl rfl h.nofault
      (fun _ => hcore) (fun n _ hle => hcore.advance n rfl hle rfl rfl rfl id (fun hk' => absurd hk' hk) hcore.iovNe)

theorem hw_normalBody_inv {r : Resp} {c : Conn} (hw : WF r) (h : Inv r c) (hs : c.st = .normalBodyReady)
    (s : SockRes) (app : AppAns) (alloc : Bool) : Inv r (hwNormalBody r c s app alloc) := by
  have hst : isNb c.st := Or.inr hs
  rw [hwNormalBody_eq]
  by_cases hlt : c.rp < c.tot
  · rw [if_pos hlt]
    have hr := tryReady_ready r c app alloc
    generalize tryReadyNormalBody r c app alloc = p at hr ⊢
    obtain ⟨c', ok⟩ := p
    obtain ⟨hinv', hready⟩ := hr.inv hw h hst
    cases ok with
    | false => exact hinv'
    | true =>
      obtain ⟨-, -, e3, hy⟩ := hr.same
      obtain ⟨e1, e4, -⟩ := hy rfl
      exact bodySend_inv hw hinv' (by rw [e1]; exact hs) (by rw [e3, e4]; exact hlt) (hready rfl) s
  · rw [if_neg hlt]; exact finish_inv hw h hst

end Mhd.Send
