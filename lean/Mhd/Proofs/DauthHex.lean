/-
  C12 proofs: hexadecimal round trip of `MHD_bin_to_hex` / `MHD_hex_to_bin`, digest length.
-/
import Mhd.Model.Dauth
namespace Mhd.Dauth
open Mhd.Auth Mhd.Gen.Auth Mhd.Gen.Dauth

theorem md5_len (m : Bytes) : (Algo.md5.hash m).length = Algo.md5.size := by
  simp [Algo.hash, Algo.size, Mhd.Hash.Spec.Md5.hash, Mhd.Hash.Spec.Hash.hash, Mhd.Hash.Spec.Md5.spec,
    Mhd.Hash.Spec.Md5.out, Mhd.Hash.bytesLE32]
  rfl

theorem sha256_len (m : Bytes) : (Algo.sha256.hash m).length = Algo.sha256.size := by
  simp [Algo.hash, Algo.size, Mhd.Hash.Spec.Sha256.hash, Mhd.Hash.Spec.Hash.hash, Mhd.Hash.Spec.Sha256.spec,
    Mhd.Hash.Spec.Sha256.out, Mhd.Hash.bytesBE32]
  rfl

theorem sha512_len (m : Bytes) : (Algo.sha512.hash m).length = Algo.sha512.size := by
  simp [Algo.hash, Algo.size, Mhd.Hash.Spec.Sha512.hash, Mhd.Hash.Spec.Hash.hash, Mhd.Hash.Spec.Sha512.spec,
    Mhd.Hash.Spec.Sha512.out, Mhd.Hash.bytesBE64]
  rfl

theorem hash_len (a : Algo) (m : Bytes) : (a.hash m).length = a.size := by
  cases a
  · exact md5_len m
  · exact sha256_len m
  · exact sha512_len m

theorem hexVal_hexDigitL (n : Nat) (h : n < 16) : hexVal (hexDigitL n) = some n := by
  have : ∀ k : Fin 16, hexVal (hexDigitL k.val) = some k.val := by decide
  exact this ⟨n, h⟩

theorem hexPairs_binToHex (b : Bytes) : hexPairs (binToHex b) = some b := by
  induction b with
  | nil => rfl
  | cons x t ih =>
    have h1 : x.toNat / 16 < 16 := by have := x.toNat_lt; omega
    have h2 : x.toNat % 16 < 16 := by omega
    simp only [binToHex, hexPairs, hexVal_hexDigitL _ h1, hexVal_hexDigitL _ h2, ih]
    congr 2
    have : x.toNat / 16 * 16 + x.toNat % 16 = x.toNat := by omega
    rw [this]; simp

theorem binToHex_length (b : Bytes) : (binToHex b).length = 2 * b.length := by
  induction b with
  | nil => rfl
  | cons x t ih => simp [binToHex, ih]; omega

theorem hexToBin_binToHex (b : Bytes) (h : b ≠ []) : hexToBin (binToHex b) = some b := by
  cases b with
  | nil => exact absurd rfl h
  | cons x t =>
    have hl := binToHex_length (x :: t)
    unfold hexToBin
    have : ¬ (binToHex (x :: t)).length % 2 = 1 := by rw [hl]; omega
    simp only [binToHex] at this ⊢
    simp only [this, if_false]
    exact hexPairs_binToHex (x :: t)

end Mhd.Dauth
