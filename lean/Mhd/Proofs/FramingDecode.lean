/-
  The chunk decoder on every rendering of a chunked body that the strictness level admits (any chunk sizes, hex
  renderings, extensions, BWS, bare-LF line ends).
-/
import Mhd.Proofs.FramingIdle
namespace Mhd.Framing
open Mhd.Gen.Framing Framer

theorem isWs_cases (c : UInt8) (h : isWs c = true) : c = SP ∨ c = HT := by
  simpa [isWs] using h

theorem isWs_not_hex (c : UInt8) (h : isWs c = true) : isHex c = false := by
  cases isWs_cases c h with
  | inl h => subst h; decide
  | inr h => subst h; decide

theorem Eol.bytes_ne (e : Eol) : e.bytes ≠ [] := by cases e <;> simp [Eol.bytes]

theorem ne_LF_of_mem (e : Bytes) (h : ∀ d ∈ e, d ≠ LF) : ∀ x ∈ e, (fun x => x != LF) x = true := by
  intro x hx; simp [h x hx]

theorem eolOK_lf {lvl : Int} (h : eolOK lvl .lf) : lvl ≤ bareLfMaxLvl :=
  h.elim nofun id

theorem eolAct_eol (lvl : Int) (eol : Eol) (heol : eolOK lvl eol) (more : Bytes) (two one : Act) :
    ∃ c rest, eol.bytes ++ more = c :: rest ∧ (∀ bw : Bool, (c == SEMI || bw && (c == SP || c == HT)) = false) ∧
      eolAct (decide (lvl ≤ bareLfMaxLvl)) c rest two one = (if eol = .crlf then two else one) := by
  cases eol with
  | crlf => exact ⟨CR, LF :: more, rfl, fun bw => by cases bw <;> decide, eolAct_crlf _ more two one⟩
  | lf =>
    refine ⟨LF, more, rfl, fun bw => by cases bw <;> decide, ?_⟩
    rw [decide_eq_true (eolOK_lf heol)]; exact eolAct_lf more two one

theorem extAct_line (lvl : Int) (k size : Nat) (bws e : Bytes) (eol : Eol) (more : Bytes)
    (hbws : ∀ d ∈ bws, isWs d = true) (he : ∀ d ∈ e, d ≠ LF) (heol : eolOK lvl eol) :
    extAct (decide (lvl ≤ bareLfMaxLvl)) k size (bws ++ SEMI :: (e ++ eol.bytes ++ more))
      = .line (k + bws.length + 1 + e.length + eol.bytes.length) size := by
  rw [extAct_skip _ k size bws _ hbws (Stops.cons (by decide) _)]
  cases eol with
  | lf =>
    rw [show e ++ Eol.lf.bytes ++ more = e ++ LF :: more by simp [Eol.bytes],
      extAct_semi _ _ size e (LF :: more) (ne_LF_of_mem e he) (Stops.cons (by decide) _)]
    simp only [eolOK_lf heol, decide_true, if_true]; rfl
  | crlf =>
    rw [show e ++ Eol.crlf.bytes ++ more = (e ++ [CR]) ++ LF :: more by simp [Eol.bytes],
      extAct_semi _ _ size (e ++ [CR]) (LF :: more) (fun x hx => by
        rcases List.mem_append.1 hx with h | h
        · exact ne_LF_of_mem e he x h
        · rw [List.mem_singleton.1 h]; decide) (Stops.cons (by decide) _)]
    have hp : prevOf (e ++ [CR]) = CR := by simp [prevOf, List.getD_eq_getElem?_getD]
    simp only [hp, beq_self_eq_true, if_true, ite_self, List.length_append, List.length_cons, List.length_nil, Eol.bytes]
    rfl

theorem sizeLineAct_line (lvl : Int) (c : Chunk) (h : LineOK lvl c) (more : Bytes) :
    sizeLineAct (decide (lvl ≤ bareLfMaxLvl)) (decide (bwsAboveLvl < lvl)) (c.line ++ more)
      = .line c.line.length (hexValue c.digits) := by
  have hX : c.line ++ more = c.digits ++ (c.bws ++ c.ext ++ c.eol.bytes ++ more) := by
    simp [Chunk.line, List.append_assoc]
  rw [hX]
  rcases h.ext with hex | ⟨e, hee, hel⟩
  · -- no extension, hence no bad whitespace: the line end follows the digits
    have hb : c.bws = [] := by
      cases hbq : c.bws with
      | nil => rfl
      | cons w t => exact absurd hex (h.bwsLevel (by rw [hbq]; simp)).2
    obtain ⟨c0, rest, hcr, hc0, he⟩ := eolAct_eol lvl c.eol h.eol more
      (.line (c.digits.length + 2) (hexValue c.digits)) (.line (c.digits.length + 1) (hexValue c.digits))
    have hh : isHex c0 = false := by
      cases hce : c.eol <;> (rw [hce] at hcr; cases hcr; decide)
    rw [hb, hex, List.nil_append, List.nil_append, hcr,
      sizeLineAct_digits _ _ c.digits c0 rest h.digitsNonempty h.digitsHex hh h.noOverflow, hc0, if_neg Bool.false_ne_true, he]
    simp only [Chunk.line, hb, hex, List.append_nil, List.length_append]
    cases c.eol <;> rfl
  · have hlen : c.line.length = c.digits.length + c.bws.length + 1 + e.length + c.eol.bytes.length := by
      simp only [Chunk.line, hee, List.length_append, List.length_cons]; omega
    rw [hlen, ← extAct_line lvl c.digits.length (hexValue c.digits) c.bws e c.eol more h.bwsWs hel h.eol, hee]
    cases hb : c.bws with
    | nil =>
      simp only [List.nil_append, List.cons_append, List.append_assoc]
      rw [sizeLineAct_digits _ _ c.digits SEMI _ h.digitsNonempty h.digitsHex (by decide) h.noOverflow]
      simp only [beq_self_eq_true, Bool.true_or, if_true]
    | cons w t =>
      have hw := h.bwsWs w (by rw [hb]; exact List.mem_cons_self)
      have hl := (h.bwsLevel (by rw [hb]; simp)).1
      simp only [List.cons_append, List.append_assoc]
      rw [sizeLineAct_digits _ _ c.digits w _ h.digitsNonempty h.digitsHex (isWs_not_hex w hw) h.noOverflow, if_pos]
      rcases isWs_cases w hw with rfl | rfl <;> simp [hl]

theorem Chunk.line_ne (lvl : Int) (c : Chunk) (h : LineOK lvl c) : c.line ≠ [] :=
  List.append_ne_nil_of_left_ne_nil
    (List.append_ne_nil_of_left_ne_nil (List.append_ne_nil_of_left_ne_nil h.digitsNonempty _) _) _

theorem chunkAct_line_ok (lvl : Int) (c : Chunk) (h : LineOK lvl c) (more : Bytes) :
    chunkAct lvl 0 0 (c.line ++ more) = .line c.line.length (hexValue c.digits) := by
  rw [chunkAct_zero lvl 0 _ (List.append_ne_nil_of_left_ne_nil (Chunk.line_ne lvl c h) _)]
  exact sizeLineAct_line lvl c h more

theorem chunkAct_term_eol (lvl : Int) (n : Nat) (hn : n ≠ 0) (eol : Eol) (heol : eolOK lvl eol) (more : Bytes) :
    chunkAct lvl n n (eol.bytes ++ more) = .term eol.bytes.length := by
  obtain ⟨c, rest, hcr, _, he⟩ := eolAct_eol lvl eol heol more (.term 2) (.term 1)
  rw [hcr, chunkAct_end lvl n n ⟨rfl, hn⟩, he]; cases eol <;> rfl

set_option linter.unusedSectionVars false
variable [P : HeadParser] [L : LawfulHeadParser]

theorem steps_chunk (lvl : Int) (app : App) (s : St) (c : Chunk) (hc : ChunkOK lvl c) (more : Bytes)
    (hs : s.state = .bodyReceiving) (hch : s.chunked = true) (hrem : s.remaining ≠ 0)
    (hcur : s.cur = 0) (hoff : s.off = 0) (hbuf : s.buf = c.bytes ++ more) :
    Steps lvl app s { s with buf := more, out := emitUpload c.data s.out } := by
  have hsz : hexValue c.digits = c.data.length := hc.size
  have hdl : 0 < c.data.length := List.length_pos_iff.2 hc.nonEmpty
  have hb1 : s.buf = c.line ++ (c.data ++ c.dataEol.bytes ++ more) := by
    rw [hbuf]; simp [Chunk.bytes, List.append_assoc]
  have a1 : chunkAct lvl s.cur s.off s.buf = .line c.line.length c.data.length := by
    rw [hcur, hoff, hb1, chunkAct_line_ok lvl c hc.toLineOK, hsz]
  let s1 : St := { s with buf := c.data ++ c.dataEol.bytes ++ more, cur := c.data.length, off := 0 }
  have st1 : idleStep lvl app s = some s1 := by
    apply body_idleStep lvl app s s1 hs hrem
    rw [bodyStep_line lvl s _ _ hch a1, if_neg (by omega)]
    simp only [s1, hb1, List.drop_left]
  have a2 : chunkAct lvl s1.cur s1.off s1.buf = .data c.data.length := by
    show chunkAct lvl c.data.length 0 (c.data ++ c.dataEol.bytes ++ more) = _
    rw [chunkAct_data_of lvl _ _ _ (by omega) (by omega)]
    · simp only [List.length_append, Nat.sub_zero]; congr 1; omega
    · exact List.append_ne_nil_of_left_ne_nil (List.append_ne_nil_of_left_ne_nil hc.nonEmpty _) _
  let s2 : St := { s with buf := c.dataEol.bytes ++ more, cur := c.data.length, off := c.data.length,
                          out := emitUpload c.data s.out }
  have st2 : idleStep lvl app s1 = some s2 := by
    apply body_idleStep lvl app s1 s2 hs hrem
    rw [bodyStep_data lvl s1 _ hch a2]
    simp only [s1, s2, List.append_assoc, List.drop_left, List.take_left, Nat.zero_add]
  have a3 : chunkAct lvl s2.cur s2.off s2.buf = .term c.dataEol.bytes.length := by
    show chunkAct lvl c.data.length c.data.length (c.dataEol.bytes ++ more) = _
    exact chunkAct_term_eol lvl _ (by omega) _ hc.dataEolOK more
  have st3 : idleStep lvl app s2 = some { s with buf := more, out := emitUpload c.data s.out } := by
    apply body_idleStep lvl app s2 _ hs hrem
    rw [bodyStep_term lvl s2 _ hch a3]
    simp only [s2, List.drop_left, hcur, hoff]
  exact Steps.head st1 (Steps.head st2 (Steps.one st3))

/-- upload events of a list of chunks (coalesced by `emitUpload`) -/
def uploadAll (cs : List Chunk) (out : List Ev) : List Ev := cs.foldl (fun o c => emitUpload c.data o) out

omit P L in
theorem uploadAll_cons (c : Chunk) (cs : List Chunk) (out : List Ev) :
    uploadAll (c :: cs) out = uploadAll cs (emitUpload c.data out) := rfl

omit P L in
theorem uploadAll_emit (cs : List Chunk) (x : Bytes) (out : List Ev) :
    uploadAll cs (emitUpload x out) = emitUpload (x ++ cs.flatMap Chunk.data) out := by
  induction cs generalizing x with
  | nil => simp [uploadAll]
  | cons c t ih =>
    rw [uploadAll_cons, emitUpload_emitUpload, ih]
    simp [List.flatMap_cons, List.append_assoc]

omit P L in
theorem uploadAll_eq (cs : List Chunk) (out : List Ev) (hne : cs ≠ []) :
    uploadAll cs out = emitUpload (cs.flatMap Chunk.data) out := by
  cases cs with
  | nil => exact absurd rfl hne
  | cons c t => rw [uploadAll_cons, uploadAll_emit]; simp [List.flatMap_cons]

theorem steps_chunks (lvl : Int) (app : App) (cs : List Chunk) (hcs : ∀ c ∈ cs, ChunkOK lvl c) (more : Bytes)
    (s : St) (hs : s.state = .bodyReceiving) (hch : s.chunked = true) (hrem : s.remaining ≠ 0)
    (hcur : s.cur = 0) (hoff : s.off = 0) (hbuf : s.buf = cs.flatMap Chunk.bytes ++ more) :
    Steps lvl app s { s with buf := more, out := uploadAll cs s.out } := by
  induction cs generalizing s with
  | nil =>
    simp only [List.flatMap_nil, List.nil_append] at hbuf
    have : { s with buf := more, out := uploadAll [] s.out } = s := by
      cases s; simp only [uploadAll, List.foldl_nil] at *; simp [hbuf]
    rw [this]; exact Steps.refl s
  | cons c t ih =>
    have h1 := steps_chunk lvl app s c (hcs c List.mem_cons_self) (t.flatMap Chunk.bytes ++ more) hs hch hrem hcur hoff
      (by rw [hbuf]; simp [List.flatMap_cons, List.append_assoc])
    have h2 := ih (fun c hc => hcs c (List.mem_cons_of_mem _ hc))
      { s with buf := t.flatMap Chunk.bytes ++ more, out := emitUpload c.data s.out } hs hch hrem hcur hoff rfl
    exact Steps.trans h1 h2

theorem steps_chunked_body (lvl : Int) (app : App) (cs : List Chunk) (hcs : ∀ c ∈ cs, ChunkOK lvl c)
    (last : Chunk) (hl : LastOK lvl last) (rest : Bytes)
    (s : St) (hs : s.state = .bodyReceiving) (hch : s.chunked = true) (hrem : s.remaining ≠ 0)
    (hcur : s.cur = 0) (hoff : s.off = 0) (hbuf : s.buf = encodeChunked cs last ++ rest) :
    Steps lvl app s { s with buf := rest, out := uploadAll cs s.out, state := .bodyReceived, remaining := 0 } := by
  have h1 := steps_chunks lvl app cs hcs (last.line ++ rest) s hs hch hrem hcur hoff
    (by rw [hbuf]; simp [encodeChunked, List.append_assoc])
  let s1 : St := { s with buf := last.line ++ rest, out := uploadAll cs s.out }
  have a1 : chunkAct lvl s1.cur s1.off s1.buf = .line last.line.length 0 := by
    show chunkAct lvl s.cur s.off (last.line ++ rest) = _
    rw [hcur, hoff, chunkAct_line_ok lvl last hl.toLineOK, hl.zero]
  have st : idleStep lvl app s1 = some { s with buf := rest, out := uploadAll cs s.out, state := .bodyReceived, remaining := 0 } := by
    apply body_idleStep lvl app s1 _ hs hrem
    rw [bodyStep_line lvl s1 _ _ hch a1, if_pos rfl]
    simp only [s1, List.drop_left, hcur, hoff]
  exact Steps.trans h1 (Steps.one st)
end Mhd.Framing
