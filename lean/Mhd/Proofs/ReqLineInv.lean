/-
  Invariants of the request-line scanner (`Mhd.Model.ReqLine`) and what the single state updates of
  the code do to them.  `RLInv` is the representation invariant of the parser state: positions
  inside the received data, pointers consistent.  The equations of `rlStep` that hold in any state
  (`RLP.rlStep_char`, `RLP.rlStep_wsp`) stand here too; those along a well-formed line are in
  `ReqLineRoundtrip`.
-/
import Mhd.Proofs.ReqBuf
namespace Mhd.Req

def Step.ext (e : Bytes) : Step RL RLDone → Step RL RLDone
  | .advance s => .advance (rlExtend s e)
  | .done r => .done (rlExtendR r e)
  | .needMore => .needMore
  | .fault f => .fault f

@[simp] theorem Step.ext_advance (e : Bytes) (s : RL) : Step.ext e (.advance s) = .advance (rlExtend s e) := rfl
@[simp] theorem Step.ext_done (e : Bytes) (r : RLDone) : Step.ext e (.done r) = .done (rlExtendR r e) := rfl
@[simp] theorem Step.ext_needMore (e : Bytes) : Step.ext e .needMore = .needMore := rfl
@[simp] theorem Step.ext_fault (e : Bytes) (f : Fault) : Step.ext e (.fault f) = .fault f := rfl

structure RLInv (s : RL) : Prop where
  hp : s.rb + s.p ≤ s.buf.size
  hws : s.wsStart ≤ s.p ∧ s.wsEnd ≤ s.p
  htgt : ∀ t, s.tgt = some t → 1 ≤ t ∧ t ≤ s.p
  hver : ∀ v, s.version = some v → v ≤ s.p ∧ s.tgt ≠ none
  hmeth : s.hasMethod = true → s.tgt = none → s.wsEnd = s.p ∧ s.p ≠ 0
  hnom : s.hasMethod = false → s.wsEnd = 0 ∧ s.tgt = none ∧ s.version = none

/-- between the strict end-of-whitespace processing and the character processing -/
structure Mid (F : RLFlags) (s : RL) : Prop extends RLInv s where
  hblk : s.hasMethod = true → s.tgt = none → F.wspBlocks = true

theorem RLInv.ext {s : RL} (h : RLInv s) (e : Bytes) : RLInv (rlExtend s e) := by
  refine ⟨?_, h.hws, h.htgt, h.hver, h.hmeth, h.hnom⟩
  show s.rb + s.p ≤ (s.buf ++ e).size
  rw [Array.size_append]; have := h.hp; omega

theorem RLInv.init (buf : Bytes) (rb : Nat) (h : rb ≤ buf.size) : RLInv (RL.init buf rb) := by
  refine ⟨by simpa [RL.init] using h, by simp [RL.init], ?_, ?_, ?_, ?_⟩ <;> simp [RL.init]

/-- what either end-of-whitespace routine does when it acts: behind the first block the target
    starts, behind the second the version (unless whitespace in the URI is parsed) -/
def closeWsp (F : RLFlags) (s : RL) : RL :=
  match s.tgt with
  | none => { s with tgt := some s.p, wsStart := 0, wsEnd := 0 }
  | some _ => if !F.wspInUri then { s with version := some s.p, wsStart := 0, wsEnd := 0 } else s

/-- the two routines differ only in the value of `wsp_blocks` for which they act -/
theorem endOfWspStrict_eq (F : RLFlags) (s : RL) :
    endOfWspStrict F s = if !F.wspBlocks && s.p == s.wsEnd && s.wsEnd != 0 then closeWsp F s else s := rfl

theorem endOfWspBlock_eq (F : RLFlags) (s : RL) :
    endOfWspBlock F s = if s.p == s.wsEnd && s.wsEnd != 0 && F.wspBlocks then closeWsp F s else s := rfl

theorem closeWsp_ext (F : RLFlags) (s : RL) (e : Bytes) : closeWsp F (rlExtend s e) = rlExtend (closeWsp F s) e := by
  unfold closeWsp rlExtend
  dsimp only
  repeat' split
  all_goals rfl

theorem closeWsp_same (F : RLFlags) (s : RL) :
    (closeWsp F s).buf = s.buf ∧ (closeWsp F s).rb = s.rb ∧ (closeWsp F s).p = s.p := by
  unfold closeWsp
  repeat' split
  all_goals exact ⟨rfl, rfl, rfl⟩

theorem endOfWspStrict_ext (F : RLFlags) (s : RL) (e : Bytes) :
    endOfWspStrict F (rlExtend s e) = rlExtend (endOfWspStrict F s) e := by
  rw [endOfWspStrict_eq, endOfWspStrict_eq, closeWsp_ext]
  exact (apply_ite (rlExtend · e) ..).symm

theorem endOfWspBlock_ext (F : RLFlags) (s : RL) (e : Bytes) :
    endOfWspBlock F (rlExtend s e) = rlExtend (endOfWspBlock F s) e := by
  rw [endOfWspBlock_eq, endOfWspBlock_eq, closeWsp_ext]
  exact (apply_ite (rlExtend · e) ..).symm

theorem endOfWspStrict_same (F : RLFlags) (s : RL) :
    (endOfWspStrict F s).buf = s.buf ∧ (endOfWspStrict F s).rb = s.rb ∧ (endOfWspStrict F s).p = s.p := by
  rw [endOfWspStrict_eq]
  split
  · exact closeWsp_same F s
  · exact ⟨rfl, rfl, rfl⟩

theorem endOfWspBlock_same (F : RLFlags) (s : RL) :
    (endOfWspBlock F s).buf = s.buf ∧ (endOfWspBlock F s).rb = s.rb ∧ (endOfWspBlock F s).p = s.p := by
  rw [endOfWspBlock_eq]
  split
  · exact closeWsp_same F s
  · exact ⟨rfl, rfl, rfl⟩

namespace RLP

theorem rlStep_char (F : RLFlags) (s : RL) (c : UInt8) (hc : s.buf[s.rb + s.p]? = some c)
    (h1 : c ≠ cCR) (h2 : c ≠ cLF) : rlStep F s = processChar F s c := by
  have b1 : (c == cCR) = false := by simp [h1]
  have b2 : (c == cLF) = false := by simp [h2]
  have hcs : charStep F s = processChar F s c := by
    unfold charStep
    rw [hc]
    simp only [b1, b2, Bool.false_eq_true, ↓reduceIte]
  unfold rlStep
  split
  next hp =>
    simp only [Bool.and_eq_true, beq_iff_eq] at hp
    have hc0 : s.buf[s.rb]? = some c := by rw [← hc, hp.1, Nat.add_zero]
    have : skipStep F s = none := by
      unfold skipStep
      rw [hc0]
      simp only [b1, b2, Bool.false_eq_true, ↓reduceIte, Bool.false_and]
    rw [this, hcs]
  next => exact hcs

theorem endStrict_id (F : RLFlags) (s : RL) (h : s.wsEnd = 0 ∨ s.p ≠ s.wsEnd ∨ F.wspBlocks = true) :
    endOfWspStrict F s = s := by
  unfold endOfWspStrict
  rcases h with h | h | h <;> simp [h]

theorem endBlock_id (F : RLFlags) (s : RL) (h : s.wsEnd = 0 ∨ s.p ≠ s.wsEnd ∨ F.wspBlocks = false) :
    endOfWspBlock F s = s := by
  unfold endOfWspBlock
  rcases h with h | h | h <;> simp [h]

theorem wsp_ne {F : RLFlags} {w : UInt8} (h : rlIsWsp F w = true) : w ≠ cCR ∧ w ≠ cLF := by
  have a1 : (cCR == cSP) = false ∧ (cCR == cHT) = false ∧ (cCR == cVT) = false ∧ (cCR == cFF) = false := by decide
  have a2 : (cLF == cSP) = false ∧ (cLF == cHT) = false ∧ (cLF == cVT) = false ∧ (cLF == cFF) = false := by decide
  constructor <;> (intro e; subst e; simp [rlIsWsp, a1, a2] at h)

/-- a whitespace byte is left to `onWsp`, unless it directly follows a whitespace block although
    blocks are not merged (then the pending block is closed first) -/
theorem rlStep_wsp (F : RLFlags) (s : RL) (w : UInt8) (hw : rlIsWsp F w = true) (hc : s.buf[s.rb + s.p]? = some w)
    (h : s.wsEnd = 0 ∨ s.p ≠ s.wsEnd ∨ F.wspBlocks = true) : rlStep F s = onWsp F s := by
  rw [rlStep_char F s w hc (wsp_ne hw).1 (wsp_ne hw).2]
  unfold processChar
  rw [endStrict_id F s h, hw]
  rfl

end RLP

theorem closeWsp_inv (F : RLFlags) {s : RL} (h : RLInv s) (hpe : s.p = s.wsEnd) (hne : s.wsEnd ≠ 0) :
    RLInv (closeWsp F s) ∧ (closeWsp F s).tgt ≠ none := by
  unfold closeWsp
  split
  next ht =>
    refine ⟨⟨h.hp, by simp, ?_, ?_, ?_, ?_⟩, by simp⟩
    · intro t ht'; simp only [Option.some.injEq] at ht'; subst ht'; dsimp only; omega
    · intro v hv; exact ⟨(h.hver v hv).1, by simp⟩
    · intro _ hn; simp at hn
    · intro hm; have := h.hnom hm; omega
  next t ht =>
    split
    · refine ⟨⟨h.hp, by simp, h.htgt, ?_, ?_, ?_⟩, by simp [ht]⟩
      · intro v hv; simp only [Option.some.injEq] at hv; subst hv; exact ⟨Nat.le_refl _, by simp [ht]⟩
      · intro _ hn; simp [ht] at hn
      · intro hm; have := h.hnom hm; simp [ht] at this
    · exact ⟨h, by simp [ht]⟩

theorem endOfWspStrict_mid (F : RLFlags) (s : RL) (h : RLInv s) : Mid F (endOfWspStrict F s) := by
  rw [endOfWspStrict_eq]
  split
  next hc =>
    simp only [Bool.and_eq_true, Bool.not_eq_true', beq_iff_eq, bne_iff_ne, ne_eq] at hc
    have := closeWsp_inv F h hc.1.2 hc.2
    exact ⟨this.1, fun _ hn => absurd hn this.2⟩
  next hc =>
    refine ⟨h, ?_⟩
    intro hm hn
    have := h.hmeth hm hn
    cases hb : F.wspBlocks with
    | true => rfl
    | false =>
      exfalso; apply hc
      simp only [hb, Bool.not_false, Bool.true_and, Bool.and_eq_true, beq_iff_eq, bne_iff_ne, ne_eq]
      omega

theorem endOfWspBlock_inv (F : RLFlags) (s : RL) (h : Mid F s) :
    RLInv (endOfWspBlock F s) ∧ ((endOfWspBlock F s).hasMethod = true → (endOfWspBlock F s).tgt ≠ none) := by
  rw [endOfWspBlock_eq]
  split
  next hc =>
    simp only [Bool.and_eq_true, beq_iff_eq, bne_iff_ne, ne_eq] at hc
    have := closeWsp_inv F h.toRLInv hc.1.1 hc.1.2
    exact ⟨this.1, fun _ => this.2⟩
  next hc =>
    refine ⟨h.toRLInv, ?_⟩
    intro hm hn
    have h1 := h.hmeth hm hn
    have h2 := h.hblk hm hn
    apply hc
    simp only [h2, Bool.and_true, Bool.and_eq_true, beq_iff_eq, bne_iff_ne, ne_eq]
    omega

structure StepOK (s : RL) (r : Step RL RLDone) : Prop where
  nofault : ∀ f, r ≠ .fault f
  adv : ∀ s', r = .advance s' → RLInv s' ∧ s'.buf.size = s.buf.size ∧ s.rb + s.p < s'.rb + s'.p

theorem StepOK.needMore (s : RL) : StepOK s .needMore :=
  ⟨fun _ h => (by cases h), fun _ h => (by cases h)⟩

theorem inv_p_succ {s : RL} (h : RLInv s) (hb : s.rb + s.p < s.buf.size) (ht : s.hasMethod = true → s.tgt ≠ none)
    (n : Nat) (q : Option Nat) :
    RLInv { s with numWs := n, qmark := q, p := s.p + 1 } := by
  refine ⟨by dsimp only; omega, by dsimp only; have := h.hws; omega, ?_, ?_, ?_, ?_⟩
  · intro t' ht'; have := h.htgt t' ht'; dsimp only; omega
  · intro v hv'; have := h.hver v hv'; dsimp only; exact ⟨by omega, this.2⟩
  · intro hm hn; exact absurd hn (ht hm)
  · intro hf; exact h.hnom hf

theorem RLInv.wsp {s s' : RL} (h : RLInv s) (hb : s'.rb + s'.p ≤ s'.buf.size) (hp : s'.p = s.p + 1)
    (hwe : s'.wsEnd = s.p + 1) (hws : s'.wsStart ≤ s.p) (ht : s'.tgt = s.tgt) (hv : s'.version = s.version)
    (hm : s'.hasMethod = true) : RLInv s' := by
  refine ⟨hb, by omega, ?_, ?_, fun _ _ => by omega, fun hf => by rw [hm] at hf; cases hf⟩
  · intro t ht'
    have := h.htgt t (ht.symm.trans ht')
    omega
  · intro v hv'
    have := h.hver v (hv.symm.trans hv')
    exact ⟨by omega, by rw [ht]; exact this.2⟩

theorem RLInv.setBuf {s : RL} (h : RLInv s) (buf : Bytes) (hs : buf.size = s.buf.size) (n : Nat) :
    RLInv { s with buf := buf, crSp := n } :=
  ⟨by show s.rb + s.p ≤ buf.size; rw [hs]; exact h.hp, h.hws, h.htgt, h.hver, h.hmeth, h.hnom⟩

theorem RLInv.skip {s : RL} (h : RLInv s) (hp0 : s.p = 0) (k : Nat) (hk : s.rb + k ≤ s.buf.size) (n : Nat) :
    RLInv { s with rb := s.rb + k, skipped := n } := by
  refine ⟨by show s.rb + k + s.p ≤ s.buf.size; omega, h.hws, h.htgt, h.hver, h.hmeth, h.hnom⟩

/-- what every successfully parsed request line satisfies (`hq`: a '?' in the version is excluded
    because `parse_http_version` accepted it) -/
structure RLPost (r : ReqLine) : Prop where
  hrb : r.rb ≤ r.buf.size
  hm : r.method < r.tgt
  htl : r.tgt + r.tgtLen < r.version
  hnul : r.buf[r.tgt + r.tgtLen]? = some 0
  hq : ∀ q, r.qmark = some q → r.tgt ≤ q ∧ q < r.tgt + r.tgtLen
  hv : r.version + Gen.Discipline.httpVerLen + 1 ≤ r.rb

/-- what is recorded of a target that starts at `t`: where it has been closed by a NUL, where a recorded '?' lies -/
structure TgtX (F : RLFlags) (s : RL) (t : Nat) : Prop where
  m : s.hasMethod = true → s.methodLen < t
  q : ∀ q, s.qmark = some q → q < s.p ∧ s.buf[s.rb + q]? = some 63 ∧ t ≤ q ∧
        (s.wsEnd ≠ 0 → q < s.wsStart ∨ s.wsEnd ≤ q) ∧ (∀ v, s.version = some v → q < t + s.tgtLen ∨ v ≤ q)
  w : s.wsEnd ≠ 0 → t ≤ s.wsStart ∧ s.wsStart < s.wsEnd
  s1 : F.wspInUri = false → s.version = none → s.wsEnd ≠ 0 →
         s.tgtLen = s.wsStart - t ∧ s.buf[s.rb + s.wsStart]? = some 0
  s2 : ∀ v, s.version = some v → t + s.tgtLen < v ∧ s.buf[s.rb + (t + s.tgtLen)]? = some 0

/-- content invariant of the scanner state (on top of `RLInv`) -/
structure RLX (F : RLFlags) (s : RL) : Prop where
  m1 : s.hasMethod = true → 1 ≤ s.methodLen
  m3 : s.hasMethod = true → s.tgt = none → s.methodLen < s.wsEnd
  v : F.wspInUri = true → s.version = none
  vw : ∀ v, s.version = some v → s.wsEnd = 0
  qn : s.tgt = none → s.qmark = none
  tgt : ∀ t, s.tgt = some t → TgtX F s t

structure RLInvX (F : RLFlags) (s : RL) : Prop where
  inv : RLInv s
  x : RLX F s

theorem RLX.init (F : RLFlags) (buf : Bytes) (rb : Nat) : RLX F (RL.init buf rb) :=
  ⟨nofun, nofun, fun _ => rfl, nofun, fun _ => rfl, nofun⟩

theorem RLInvX.init (F : RLFlags) (buf : Bytes) (rb : Nat) (h : rb ≤ buf.size) : RLInvX F (RL.init buf rb) :=
  ⟨RLInv.init buf rb h, RLX.init F buf rb⟩

theorem RLX.ext {F : RLFlags} {s : RL} (h : RLX F s) (e : Bytes) : RLX F (rlExtend s e) := by
  refine ⟨h.m1, h.m3, h.v, h.vw, h.qn, fun t ht => ?_⟩
  have k := h.tgt t ht
  refine ⟨k.m, fun q hq => ?_, k.w, fun hf hv hw => ?_, fun v hv => ?_⟩
  · obtain ⟨a, b, c⟩ := k.q q hq
    exact ⟨a, get_some_ext e b, c⟩
  · obtain ⟨a, b⟩ := k.s1 hf hv hw
    exact ⟨a, get_some_ext e b⟩
  · obtain ⟨a, b⟩ := k.s2 v hv
    exact ⟨a, get_some_ext e b⟩

theorem RLInvX.ext {F : RLFlags} {s : RL} (h : RLInvX F s) (e : Bytes) : RLInvX F (rlExtend s e) :=
  ⟨h.inv.ext e, h.x.ext e⟩

theorem RLX.setP {F : RLFlags} {s : RL} (hi : RLInv s) (h : RLX F s) (x : UInt8) (n : Nat) :
    RLX F { s with buf := s.buf.setIfInBounds (s.rb + s.p) x, crSp := n } := by
  have keep : ∀ i, i < s.p → (s.buf.setIfInBounds (s.rb + s.p) x)[s.rb + i]? = s.buf[s.rb + i]? :=
    fun i hi' => Array.getElem?_setIfInBounds_ne (by omega)
  refine ⟨h.m1, h.m3, h.v, h.vw, h.qn, fun t ht => ?_⟩
  have k := h.tgt t ht
  refine ⟨k.m, fun q hq => ?_, k.w, fun hf hv hw => ?_, fun v hv => ?_⟩
  · obtain ⟨a, b, c⟩ := k.q q hq
    exact ⟨a, (keep q a).trans b, c⟩
  · obtain ⟨a, b⟩ := k.s1 hf hv hw
    have := k.w hw; have := hi.hws
    exact ⟨a, (keep s.wsStart (by omega)).trans b⟩
  · obtain ⟨a, b⟩ := k.s2 v hv
    have := (hi.hver v hv).1
    exact ⟨a, (keep (t + s.tgtLen) (by omega)).trans b⟩

theorem RLX.pSucc {F : RLFlags} {s : RL} (h : RLX F s) (n : Nat) : RLX F { s with numWs := n, p := s.p + 1 } :=
  ⟨h.m1, h.m3, h.v, h.vw, h.qn, fun t ht => have k := h.tgt t ht
    ⟨k.m, fun q hq => by obtain ⟨a, b⟩ := k.q q hq; exact ⟨by show q < s.p + 1; omega, b⟩, k.w, k.s1, k.s2⟩⟩

theorem RLX.qSet {F : RLFlags} {s : RL} (hi : RLInv s) (h : RLX F s) (t : Nat) (ht : s.tgt = some t)
    (hc : s.buf[s.rb + s.p]? = some 63) : RLX F { s with qmark := some s.p, p := s.p + 1 } := by
  refine ⟨h.m1, h.m3, h.v, h.vw, fun hn => (nomatch ht.symm.trans hn), fun t' ht' => ?_⟩
  have k := h.tgt t' ht'
  refine ⟨k.m, fun q hq => ?_, k.w, k.s1, k.s2⟩
  cases Option.some.inj hq
  exact ⟨Nat.lt_succ_self _, hc, (hi.htgt t' ht').2, fun _ => Or.inr hi.hws.2, fun v hv => Or.inr (hi.hver v hv).1⟩

theorem RLX.tgtStart {F : RLFlags} {s : RL} (hi : RLInv s) (h : RLX F s) (htn : s.tgt = none) (hp : s.p = s.wsEnd) :
    RLX F { s with tgt := some s.p, wsStart := 0, wsEnd := 0 } := by
  refine ⟨h.m1, fun _ hn => (nomatch hn), h.v, fun _ _ => rfl, fun hn => (nomatch hn), fun t ht => ?_⟩
  cases Option.some.inj ht
  refine ⟨fun hm => hp ▸ h.m3 hm htn, fun q hq => (nomatch (h.qn htn).symm.trans hq), fun hw => absurd rfl hw,
    fun _ _ hw => absurd rfl hw, fun v hv => absurd htn (hi.hver v hv).2⟩

theorem RLX.verStart {F : RLFlags} {s : RL} (h : RLX F s) (t0 : Nat) (ht0 : s.tgt = some t0)
    (hf : F.wspInUri = false) (hp : s.p = s.wsEnd) (hne : s.wsEnd ≠ 0) :
    RLX F { s with version := some s.p, wsStart := 0, wsEnd := 0 } := by
  have hvn : s.version = none := by
    cases hv : s.version with
    | none => rfl
    | some v0 => exact absurd (h.vw v0 hv) hne
  have k := h.tgt t0 ht0
  have hs1 := k.s1 hf hvn hne
  have hw := k.w hne
  refine ⟨h.m1, fun _ hn => (nomatch ht0.symm.trans hn), fun ht => (nomatch hf.symm.trans ht), fun _ _ => rfl,
    fun hn => (nomatch ht0.symm.trans hn), fun t ht => ?_⟩
  cases Option.some.inj (ht0.symm.trans ht)
  refine ⟨k.m, fun q hq => ?_, fun hw' => absurd rfl hw', fun _ hv => (nomatch hv), fun v hv => ?_⟩
  · obtain ⟨a, b, c, d, _⟩ := k.q q hq
    refine ⟨a, b, c, fun hw' => absurd rfl hw', fun v hv => ?_⟩
    cases Option.some.inj hv
    left
    show q < t0 + s.tgtLen
    have := d hne
    omega
  · cases Option.some.inj hv
    have e : t0 + s.tgtLen = s.wsStart := by omega
    refine ⟨by show t0 + s.tgtLen < s.p; omega, ?_⟩
    show s.buf[s.rb + (t0 + s.tgtLen)]? = some 0
    rw [e]; exact hs1.2

theorem closeWsp_x (F : RLFlags) (s : RL) (hi : RLInv s) (h : RLX F s) (hpe : s.p = s.wsEnd) (hne : s.wsEnd ≠ 0) :
    RLX F (closeWsp F s) := by
  unfold closeWsp
  split
  next ht => exact RLX.tgtStart hi h ht hpe
  next t ht =>
    split
    next hf => exact RLX.verStart h t ht (by simpa using hf) hpe hne
    · exact h

theorem endOfWspStrict_x (F : RLFlags) (s : RL) (hi : RLInv s) (h : RLX F s) : RLX F (endOfWspStrict F s) := by
  rw [endOfWspStrict_eq]
  split
  next hc =>
    simp only [Bool.and_eq_true, beq_iff_eq, bne_iff_ne, ne_eq] at hc
    exact closeWsp_x F s hi h hc.1.2 hc.2
  · exact h

theorem endOfWspBlock_x (F : RLFlags) (s : RL) (hi : RLInv s) (h : RLX F s) : RLX F (endOfWspBlock F s) := by
  rw [endOfWspBlock_eq]
  split
  next hc =>
    simp only [Bool.and_eq_true, beq_iff_eq, bne_iff_ne, ne_eq] at hc
    exact closeWsp_x F s hi h hc.1.1 hc.1.2
  · exact h

theorem parseHttpVersion_ok {vs : List UInt8} {hv : Int} (h : parseHttpVersion vs = .ok hv) :
    vs.length = Gen.Discipline.httpVerLen ∧ ∀ i, i < 8 → vs.getD i 0 ≠ 63 := by
  unfold parseHttpVersion at h
  dsimp only at h
  split at h
  · cases h
  next hc =>
    simp only [not_or, Decidable.not_not] at hc
    obtain ⟨h0, h1, h2, h3, h4, h5, h6, h7, h8, h9, h10⟩ := hc
    refine ⟨h0, ?_⟩
    intro i hi
    have : i = 0 ∨ i = 1 ∨ i = 2 ∨ i = 3 ∨ i = 4 ∨ i = 5 ∨ i = 6 ∨ i = 7 := by omega
    rcases this with rfl | rfl | rfl | rfl | rfl | rfl | rfl | rfl
    · rw [h1]; decide
    · rw [h2]; decide
    · rw [h3]; decide
    · rw [h4]; decide
    · rw [h5]; decide
    · intro h63; rw [h63] at h8; exact h8 (by decide)
    · rw [h6]; decide
    · intro h63; rw [h63] at h10; exact h10 (by decide)

/-- with `p = 0` nothing has been recognised yet: every clause is vacuous, whatever `rb` -/
theorem RLX.atStart {F : RLFlags} {s : RL} (hi : RLInv s) (h : RLX F s) (hp0 : s.p = 0) (rb' k : Nat) :
    RLX F { s with rb := rb', skipped := k } := by
  have htn : s.tgt = none := by
    cases ht : s.tgt with
    | none => rfl
    | some t => have := hi.htgt t ht; omega
  have hmf : s.hasMethod = false := by
    cases hm : s.hasMethod with
    | false => rfl
    | true => have := hi.hmeth hm htn; omega
  have hn := hi.hnom hmf
  exact ⟨fun hm => (nomatch hmf.symm.trans hm), fun hm => (nomatch hmf.symm.trans hm), fun _ => hn.2.2,
    fun v hv => (nomatch hn.2.2.symm.trans hv), h.qn, fun t ht => (nomatch htn.symm.trans ht)⟩

end Mhd.Req
