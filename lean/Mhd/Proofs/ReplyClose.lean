import Mhd.Proofs.ReplyTokSpecs
import Mhd.Proofs.ReplyExtra
namespace Mhd.Tok
open Mhd.ReplyStr Mhd.Resp
open Mhd.Http (splitComma trimOWS ciEq hasToken isOWS vClose lower)

theorem connTok_create (size : Nat) : ConnTok (Resp.create size) := connTok_of_nil _ rfl
theorem connTok_createEmpty (f : RFlags) : ConnTok (Resp.createEmpty f) := connTok_of_nil _ rfl
theorem connTok_createUpgrade : ConnTok Resp.createUpgrade := by
  have hb : Inv ({ totalSize := 0, upgrade := true } : Resp) := inv_of_nil _ rfl rfl rfl (by intro h; cases h)
  exact applyCall_connTok editorSpecs _ (.add sConnection [85, 112, 103, 114, 97, 100, 101]) hb (connTok_of_nil _ rfl)

theorem reachable_connTok (r0 : Resp) (cs : List Call)
    (h0 : (∃ size, r0 = Resp.create size) ∨ (∃ f, f.insanity = false ∧ r0 = Resp.createEmpty f) ∨ r0 = Resp.createUpgrade)
    (hl : ∀ c ∈ cs, c.Legal) : ConnTok (runCalls r0 cs) := by
  rcases h0 with ⟨s, rfl⟩ | ⟨f, hf, rfl⟩ | rfl
  · exact runCalls_connTok editorSpecs cs _ (create_inv s) (connTok_create s) hl
  · exact runCalls_connTok editorSpecs cs _ (createEmpty_inv f hf) (connTok_createEmpty f) hl
  · exact runCalls_connTok editorSpecs cs _ createUpgrade_inv connTok_createUpgrade hl

open Mhd.Reply in
theorem no_close_in_fields' (c : Conn) (r : Resp) (date : Option Bytes) (ka : KA) (props : Props) (hinv : Inv r) (hct : ConnTok r)
    (hcc : r.fa.connClose = false) (huc : useConnClose ka = false) :
    Mhd.Http.announcesClose (((allFields c r date ka props).map toHttp).map Mhd.Http.normField) = false := by
  unfold Mhd.Http.announcesClose
  rw [List.any_eq_false]
  intro f hf
  simp only [List.mem_map] at hf
  obtain ⟨g, ⟨g0, hg0, rfl⟩, rfl⟩ := hf
  simp only [Mhd.Http.normField, toHttp]
  by_cases hn : ciEq g0.name Mhd.Http.nConnection = true
  · simp only [hn, Bool.true_and, Mhd.Http.hasToken_dropOWS]
    have hnm : nameIs g0.name sConnection = true := by
      rw [Mhd.Bridge.nameIs_iff g0.name _ _ lower_sConn]; exact hn
    intro hht
    rcases mem_allFields hg0 with ⟨d, _, rfl⟩ | hg | hg | rfl | rfl
    · cases nameIs_date_conn.symm.trans hnm
    · rcases (mem_connFields hg).2 with ⟨h, _⟩ | ⟨_, rfl⟩
      · rw [huc] at h; cases h
      · revert hht; decide
    · -- the stored Connection header, possibly with "Keep-Alive, " in front
      obtain ⟨v, rest, hh, hv⟩ := userFields_conn c r ka props hinv g0 hg hnm
      obtain ⟨es, hes, hok, hsh⟩ := hct v (connVal_of_shape r v rest hh)
      rw [hcc] at hsh; simp only [Bool.false_eq_true, if_false] at hsh
      have hv0 : hasToken v vClose = false := by
        rw [hes, hasToken_joinE es vClose (by decide) hok, List.any_eq_false]
        intro e he; simp [hsh e he]
      rw [hv, connPre, huc, Bool.false_and, if_neg Bool.false_ne_true] at hht
      by_cases hk : useConnKAlive c r ka = true
      · have : sKeepAliveSep ++ v = sKeepAlive ++ 44 :: (32 :: v) := rfl
        rw [if_pos hk, this, Mhd.Http.hasToken_prefix_elem _ _ _ (by decide),
          Mhd.Http.hasToken_ws_cons 32 v _ (by decide), hv0] at hht
        revert hht; decide
      · rw [if_neg hk, List.nil_append, hv0] at hht; cases hht
    · cases nameIs_te_conn.symm.trans hnm
    · cases nameIs_cl_conn.symm.trans hnm
  · simp [hn]

open Mhd.Reply in
theorem no_close_in_fields (c : Conn) (r : Resp) (date : Option Bytes) (props : Props) (hinv : Inv r) (hct : ConnTok r)
    (hcc : r.fa.connClose = false) :
    Mhd.Http.announcesClose (((allFields c r date .useKeepalive props).map toHttp).map Mhd.Http.normField) = false :=
  no_close_in_fields' c r date .useKeepalive props hinv hct hcc rfl

open Mhd.Reply in
theorem mustClose_of_connClose (c : Conn) (r : Resp) (code : Nat) (hinv : Inv r) (hcc : r.fa.connClose = true) :
    (setupReplyProperties c r code).1 = .mustClose := by
  have hu : r.upgrade = false := by
    cases hx : r.upgrade with
    | false => rfl
    | true => have := hinv.upg hx; rw [this] at hcc; cases hcc
  rcases setup_ka_noUpgrade c r code hu with h | ⟨_, _, _, h⟩
  · exact h
  · rw [h] at hcc; cases hcc

open Mhd.Reply in
theorem announces_iff_mustClose (c : Conn) (r : Resp) (date : Option Bytes) (code : Nat) (hinv : Inv r) (hct : ConnTok r) :
    Mhd.Http.announcesClose (((allFields c r date (setupReplyProperties c r code).1
        (setupReplyProperties c r code).2).map toHttp).map Mhd.Http.normField) = true ↔
      (setupReplyProperties c r code).1 = .mustClose := by
  constructor
  · intro ha
    cases hk : (setupReplyProperties c r code).1 with
    | mustClose => rfl
    | unknown | useKeepalive | mustUpgrade =>
      exfalso
      have hcc : r.fa.connClose = false := by
        cases hx : r.fa.connClose with
        | false => rfl
        | true => have := mustClose_of_connClose c r code hinv hx; rw [hk] at this; cases this
      rw [no_close_in_fields' c r date _ _ hinv hct hcc (by rw [hk]; rfl)] at ha
      cases ha
  · intro hk
    exact close_in_fields c r date _ _ hinv hk
end Mhd.Tok
