/-
  C17 proofs, base layer: the Hoare rules for `iter`, the checked accessors on
  plain and on z-terminated buffers, the invariant shared by the loops that
  decode an input into the front of an output buffer (`DecInv`), and the
  hexadecimal digit table of the compiled `toxdigitvalue`.
-/
import Mhd.Proofs.StrSpec
import Mhd.Model.Str
import Mhd.Model.StrCodec
import Mhd.Model.StrToken
import Mhd.Proofs.Lists

namespace Mhd.Str

theorem iter_spec {σ ρ : Type} (step : σ → M (σ ⊕ ρ)) (Inv : σ → Prop) (m : σ → Nat) (Post : ρ → Prop)
    (h : ∀ s, Inv s → (∃ s', step s = .ok (.inl s') ∧ Inv s' ∧ m s' < m s) ∨ (∃ r, step s = .ok (.inr r) ∧ Post r)) :
    ∀ n s, Inv s → m s < n → ∃ r, iter step n s = .ok r ∧ Post r := by
  intro n
  induction n with
  | zero => intro s _ hm; omega
  | succ n ih =>
    intro s hi hm
    rcases h s hi with ⟨s', hs, hi', hlt⟩ | ⟨r, hs, hp⟩
    · have := ih s' hi' (by omega)
      simpa [iter, hs] using this
    · exact ⟨r, by simp [iter, hs], hp⟩

/-- the outcome of one round of a loop body: it goes on with a state that satisfies `Next`, or
    leaves the loop with a result that satisfies `Post` -/
abbrev StepOk {σ ρ : Type} (res : M (σ ⊕ ρ)) (Next : σ → Prop) (Post : ρ → Prop) : Prop :=
  (∃ s', res = .ok (.inl s') ∧ Next s') ∨ (∃ r, res = .ok (.inr r) ∧ Post r)

theorem iter_scan {σ ρ : Type} (step : σ → M (σ ⊕ ρ)) (Inv : σ → Prop) (pos : σ → Nat) (N : Nat) (Post : ρ → Prop)
    (hb : ∀ s, Inv s → pos s ≤ N) (h : ∀ s, Inv s → StepOk (step s) (fun s' => Inv s' ∧ pos s < pos s') Post)
    (n : Nat) (hn : N < n) (s : σ) (hi : Inv s) : ∃ r, iter step n s = .ok r ∧ Post r := by
  refine iter_spec step Inv (fun s => N - pos s) Post (fun s hs => ?_) n s hi (by omega)
  rcases h s hs with ⟨s', e, hs', hlt⟩ | hr
  · exact .inl ⟨s', e, hs', by have := hb s' hs'; omega⟩
  · exact .inr hr

theorem iter_inl {σ ρ : Type} {step : σ → M (σ ⊕ ρ)} {s s' : σ} (n : Nat) (h : step s = .ok (.inl s')) :
    iter step (n + 1) s = iter step n s' := by
  rw [iter, h]

theorem iter_inr {σ ρ : Type} {step : σ → M (σ ⊕ ρ)} {s : σ} {r : ρ} (n : Nat) (h : step s = .ok (.inr r)) :
    iter step (n + 1) s = .ok r := by
  rw [iter, h]

theorem fuel_succ {a n : Nat} (h : a < n) : ∃ n', n = n' + 1 := ⟨n - 1, by omega⟩

theorem rd_lt {s : Bytes} {i : Nat} (h : i < s.length) : rd s i = .ok s[i] := by
  simp [rd, List.getElem?_eq_getElem h]

theorem rd_some {s : Bytes} {i : Nat} {c : UInt8} (h : s[i]? = some c) : rd s i = .ok c := by
  simp [rd, h]

theorem wr_ok {o : Bytes} {i : Nat} (c : UInt8) (h : i < o.length) : wr o i c = .ok (o.set i c) := by
  simp [wr, h]

@[simp] theorem bind_ok' {α β} (a : α) (f : α → M β) : (Except.ok a >>= f) = f a := rfl
@[simp] theorem pure_eq_ok {α} (a : α) : (pure a : M α) = .ok a := rfl

theorem take_set_succ (o : Bytes) (w : Nat) (c : UInt8) (h : w < o.length) :
    (o.set w c).take (w + 1) = o.take w ++ [c] := by
  rw [List.take_succ_eq_append_getElem (by simpa using h), List.take_set_of_le (Nat.le_refl _), List.getElem_set_self]

theorem take_set_two (o : Bytes) (w : Nat) (a b : UInt8) (h : w + 1 < o.length) :
    ((o.set w a).set (w + 1) b).take (w + 2) = o.take w ++ [a, b] := by
  rw [take_set_succ _ _ _ (by simpa using h), take_set_succ _ _ _ (by omega), List.append_assoc]; rfl

theorem take_set_three (o : Bytes) (w : Nat) (a b c : UInt8) (h : w + 2 < o.length) :
    (((o.set w a).set (w + 1) b).set (w + 2) c).take (w + 3) = o.take w ++ [a, b, c] := by
  rw [take_set_succ _ _ _ (by simpa using h), take_set_two _ _ _ _ (by omega), List.append_assoc]; rfl

theorem mem_of_drop_eq_cons {c : Bytes} {r : Nat} {x : UInt8} {t : Bytes} (h : c.drop r = x :: t) : x ∈ c :=
  List.mem_of_mem_drop (h ▸ List.mem_cons_self)

theorem rd_of_drop {s : Bytes} {i : Nat} {x : UInt8} {t : Bytes} (h : s.drop i = x :: t) : rd s i = .ok x :=
  rd_some (List.of_drop_eq_cons h).1

theorem drop_succ_of_drop {s : Bytes} {i : Nat} {x : UInt8} {t : Bytes} (h : s.drop i = x :: t) : s.drop (i + 1) = t :=
  (List.of_drop_eq_cons h).2.1

theorem lt_of_drop {s : Bytes} {i : Nat} {x : UInt8} {t : Bytes} (h : s.drop i = x :: t) : i < s.length :=
  (List.of_drop_eq_cons h).2.2

/-- the fuel `s.length + 1` suffices for a loop over a suffix of `s` -/
theorem fuel_of_drop {s : Bytes} {i : Nat} {r : Bytes} (h : s.drop i = r) : r.length < s.length + 1 := by
  rw [← h, List.length_drop]; exact Nat.lt_succ_of_le (Nat.sub_le _ _)

theorem drop_at (buf : Bytes) (pr : Nat) (a b : Bytes) (h : buf.drop pr = a ++ b) : buf.drop (pr + a.length) = b := by
  rw [← List.drop_drop, h, List.drop_left]

theorem length_of_drop {s : Bytes} {i : Nat} {r : Bytes} (hi : i ≤ s.length) (h : s.drop i = r) :
    i + r.length = s.length := by
  rw [← h, List.length_drop]; exact Nat.add_sub_cancel' hi

theorem drop_takeWhile_length (p : UInt8 → Bool) (l : Bytes) : l.drop (l.takeWhile p).length = l.dropWhile p := by
  conv => lhs; arg 2; rw [← List.takeWhile_append_dropWhile (p := p) (l := l)]
  exact List.drop_left

theorem run_pos (s : Bytes) (p : UInt8 → Bool) (i : Nat) (r : Bytes) (hi : i ≤ s.length) (hr : s.drop i = r) :
    s.drop (i + (r.takeWhile p).length) = r.dropWhile p ∧ i + (r.takeWhile p).length ≤ s.length := by
  refine ⟨by rw [← List.drop_drop, hr]; exact drop_takeWhile_length p r, ?_⟩
  exact length_of_drop hi hr ▸ Nat.add_le_add_left (List.length_takeWhile_le p r) i

theorem drop_z (c tail : Bytes) (i : Nat) (h : i ≤ c.length) :
    (c ++ 0 :: tail).drop i = c.drop i ++ 0 :: tail := by
  rw [List.drop_append_of_le_length h]

theorem rd_z_lt {c : Bytes} (tail : Bytes) {i : Nat} (h : i < c.length) : rd (c ++ 0 :: tail) i = .ok c[i] :=
  rd_some (by rw [List.getElem?_append_left h, List.getElem?_eq_getElem h])

theorem rd_z_end (c tail : Bytes) : rd (c ++ 0 :: tail) c.length = .ok 0 :=
  rd_some (by simp)

theorem rd_z_cases (c tail : Bytes) (hz : ∀ x ∈ c, x ≠ 0) (i : Nat) (hi : i ≤ c.length) :
    (∃ h : i < c.length, rd (c ++ 0 :: tail) i = .ok c[i] ∧ c[i] ≠ 0) ∨ (c.length ≤ i ∧ rd (c ++ 0 :: tail) i = .ok 0) := by
  by_cases h : i < c.length
  · exact .inl ⟨h, rd_z_lt tail h, hz _ (List.getElem_mem h)⟩
  · exact .inr ⟨Nat.le_of_not_lt h, Nat.le_antisymm hi (Nat.le_of_not_lt h) ▸ rd_z_end c tail⟩

/-- what an in-place decoder has not yet consumed is still the input -/
theorem rd_of_drop_eq {buf b : Bytes} {r : Nat} (h : buf.drop r = b.drop r) (k : Nat) : rd buf (r + k) = rd b (r + k) := by
  have := congrArg (·[k]?) h
  simp only [List.getElem?_drop] at this
  simp only [rd, this]

theorem drop_set_of_drop_eq {buf b : Bytes} {r : Nat} (h : buf.drop r = b.drop r) {w : Nat} (x : UInt8) {k : Nat}
    (hw : w < r + k) : (buf.set w x).drop (r + k) = b.drop (r + k) := by
  rw [List.drop_set_of_lt hw, ← List.drop_drop, ← List.drop_drop, h]

theorem exists_cstr (b : Bytes) (h : 0 ∈ b) : ∃ c tail, b = c ++ 0 :: tail ∧ ∀ x ∈ c, x ≠ 0 :=
  let ⟨c, tail, e, hn⟩ := List.eq_append_cons_of_mem h
  ⟨c, tail, e, fun _ hx e0 => hn (e0 ▸ hx)⟩

/-- the normal-return shape of a function that fills an output buffer: the buffer
    keeps its size; on success the return value is the length of `d` and the
    first bytes are `d`; otherwise the return value is 0 -/
def Wrote (res : M (Nat × Bytes)) (out : Bytes) (expected : Option Bytes) : Prop :=
  ∃ n out', res = .ok (n, out') ∧ out'.length = out.length ∧
    match expected with
    | some d => n = d.length ∧ out'.take n = d
    | none => n = 0

def fitsIn (n : Nat) (d : Bytes) : Bool := decide (d.length ≤ n)

/-- a model computation returns normally (no read/write fault, no fuel fault) -/
def NoFault {α : Type} (x : M α) : Prop := ∃ r, x = .ok r

theorem Wrote.noFault {res out e} (h : Wrote res out e) : NoFault res := by
  obtain ⟨n, o, h, _⟩ := h; exact ⟨_, h⟩

theorem Wrote.zero {o out : Bytes} (hl : o.length = out.length) : Wrote (.ok (0, o)) out none :=
  ⟨0, o, rfl, hl, rfl⟩

theorem Wrote.front {o out : Bytes} {w : Nat} (hl : o.length = out.length) (hw : w ≤ out.length) :
    Wrote (.ok (w, o)) out (some (o.take w)) :=
  ⟨w, o, rfl, hl, (List.length_take_of_le (hl ▸ hw)).symm, rfl⟩

/-- what was written fits, so a result may be restricted to the outputs that fit -/
theorem Wrote.filter_fits {res out e} (h : Wrote res out e) : Wrote res out (e.filter (fitsIn out.length)) := by
  obtain ⟨n, o, hr, hl, hm⟩ := h
  refine ⟨n, o, hr, hl, ?_⟩
  cases e with
  | none => exact hm
  | some d =>
    have : fitsIn out.length d = true := by
      have := congrArg List.length hm.2
      simp [fitsIn] at this ⊢; omega
    rw [Option.filter_some, if_pos this]; exact hm

/-- a stage of a function that fills `out` from `pos` on: it appends `d` at `pos`, or returns 0 if `d`
    does not fit -/
def StagePost (out : Bytes) (pos : Nat) (d : Bytes) (r : Nat × Bytes) : Prop :=
  r.2.length = out.length ∧
  if pos + d.length ≤ out.length then r.1 = pos + d.length ∧ r.2.take r.1 = out.take pos ++ d else r.1 = 0

theorem StagePost.done {out o : Bytes} {pos : Nat} {d : Bytes} (hl : o.length = out.length)
    (hfit : pos + d.length ≤ out.length) (ht : o.take (pos + d.length) = out.take pos ++ d) :
    StagePost out pos d (pos + d.length, o) :=
  ⟨hl, by rw [if_pos hfit]; exact ⟨rfl, ht⟩⟩

theorem StagePost.nofit {out o : Bytes} {pos : Nat} {d : Bytes} (hl : o.length = out.length)
    (h : out.length < pos + d.length) : StagePost out pos d (0, o) :=
  ⟨hl, by rw [if_neg (Nat.not_le.mpr h)]⟩

/-- invariant of the loops that decode an input into the front of an output buffer.
  `spec` is the reference decoder.  After reading `r` input bytes and writing `w` output bytes into `o`,
  the reference result for the whole input is the written prefix followed by the reference result for
  the unread input. -/
def DecInv (spec : Bytes → Option Bytes) (s out : Bytes) (r w : Nat) (o : Bytes) : Prop :=
  r ≤ s.length ∧ o.length = out.length ∧ w ≤ out.length ∧ spec s = (spec (s.drop r)).map (o.take w ++ ·)

theorem DecInv.init (spec s out) : DecInv spec s out 0 0 out :=
  ⟨Nat.zero_le _, rfl, Nat.zero_le _, by simp⟩

/-- decoders that write at most one byte per byte read, one at a time -/
def ShrInv (spec : Bytes → Option Bytes) (s out : Bytes) (r w : Nat) (o : Bytes) : Prop :=
  DecInv spec s out r w o ∧ w ≤ r

/-- the loops see their input through the window `s.drop r`: behind the bytes `pre` read in one round
    lies the window of the next round -/
theorem window_next {s pre rest : Bytes} {r : Nat} (h : s.drop r = pre ++ rest) (hr : r ≤ s.length) :
    s.drop (r + pre.length) = rest ∧ r + pre.length ≤ s.length := by
  have hl : pre.length ≤ s.length - r := by
    rw [← List.length_drop, h, List.length_append]; exact Nat.le_add_right ..
  exact ⟨drop_at s r pre rest h, Nat.add_le_of_le_sub' hr hl⟩

/-- one round: it reads `pre`, for which the reference decoder puts `d` in front of its result for the
    rest, and writes `d` behind what is written (`hs` is an equation of the reference as it stands) -/
theorem DecInv.emit {spec s out r w o} (hi : DecInv spec s out r w o) {pre rest d o' : Bytes}
    (hd : s.drop r = pre ++ rest) (hs : spec (pre ++ rest) = (spec rest).map (d ++ ·))
    (hl : o'.length = o.length) (hw : w + d.length ≤ o.length) (ht : o'.take (w + d.length) = o.take w ++ d) :
    DecInv spec s out (r + pre.length) (w + d.length) o' := by
  obtain ⟨h1, h2, _, h4⟩ := hi
  obtain ⟨hn, hr⟩ := window_next hd h1
  refine ⟨hr, hl.trans h2, h2 ▸ hw, ?_⟩
  rw [h4, hd, hs, hn, ht, Option.map_map]
  congr 1; funext x; simp

theorem DecInv.emit1 {spec s out r w o} (hi : DecInv spec s out r w o) {pre rest : Bytes} {b : UInt8}
    (hd : s.drop r = pre ++ rest) (hs : spec (pre ++ rest) = (spec rest).map (b :: ·)) (hw : w < o.length) :
    DecInv spec s out (r + pre.length) (w + 1) (o.set w b) :=
  hi.emit (d := [b]) hd hs (List.length_set ..) hw (take_set_succ o w b hw)

theorem ShrInv.round {spec s out r w o} (hi : ShrInv spec s out r w o) {pre rest : Bytes} {b : UInt8}
    (hk : 1 ≤ pre.length) (hd : s.drop r = pre ++ rest) (hw : w < o.length)
    (hs : spec (pre ++ rest) = (spec rest).map (b :: ·)) :
    ShrInv spec s out (r + pre.length) (w + 1) (o.set w b) :=
  ⟨hi.1.emit1 hd hs hw, Nat.add_le_add hi.2 hk⟩

theorem DecInv.emitT {f : Bytes → Bytes} {s out r w o} (hi : DecInv (fun s => some (f s)) s out r w o)
    {pre rest d o' : Bytes} (hd : s.drop r = pre ++ rest) (hs : f (pre ++ rest) = d ++ f rest)
    (hl : o'.length = o.length) (hw : w + d.length ≤ o.length) (ht : o'.take (w + d.length) = o.take w ++ d) :
    DecInv (fun s => some (f s)) s out (r + pre.length) (w + d.length) o' :=
  hi.emit hd (congrArg some hs) hl hw ht

theorem DecInv.spec_none {spec s out r w o} (hi : DecInv spec s out r w o) (hn : spec (s.drop r) = none) :
    spec s = none := by
  rw [hi.2.2.2, hn]; rfl

theorem DecInv.spec_done {spec s out r w o} (hi : DecInv spec s out r w o) (hr : s.length ≤ r)
    (h0 : spec [] = some []) : spec s = some (o.take w) := by
  rw [hi.2.2.2, List.drop_eq_nil_of_le hr, h0]; simp

theorem DecInv.wrote_none {spec s out r w o} (hi : DecInv spec s out r w o) (hn : spec (s.drop r) = none)
    {o' : Bytes} (hl : o'.length = out.length) : Wrote (.ok (0, o')) out (spec s) :=
  hi.spec_none hn ▸ Wrote.zero hl

theorem DecInv.wrote_done {spec s out r w o} (hi : DecInv spec s out r w o) (hr : s.length ≤ r)
    (h0 : spec [] = some []) : Wrote (.ok (w, o)) out (spec s) :=
  hi.spec_done hr h0 ▸ Wrote.front hi.2.1 hi.2.2.1

theorem DecInv.wrote_nofit {spec s out r w o} (hi : DecInv spec s out r w o)
    (hbig : ∀ d, spec (s.drop r) = some d → out.length < w + d.length) {o' : Bytes} (hl : o'.length = out.length) :
    Wrote (.ok (0, o')) out ((spec s).filter (fitsIn out.length)) := by
  obtain ⟨_, hlo, hwo, hs⟩ := hi
  refine ⟨0, o', rfl, hl, ?_⟩
  cases hd : spec (s.drop r) with
  | none => rw [hs, hd]; rfl
  | some d =>
    have := hbig d hd
    rw [hs, hd, Option.map_some, Option.filter_some, if_neg]
    simp only [fitsIn, List.length_append, List.length_take, decide_eq_true_eq]; omega

theorem filter_fits_some (x : Bytes) (n : Nat) :
    (some x).filter (fitsIn n) = if x.length ≤ n then some x else none := by
  simp only [Option.filter_some, fitsIn, decide_eq_true_eq]

/-- the compiled table, entry by entry (compared as lists: indexing a literal list at a literal
    position is what makes an entry-wise sweep slow) -/
theorem xdigitTable_eq : Mhd.Gen.Str.xdigitTable =
    (List.range 256).map (fun n => match xval (UInt8.ofNat n) with | some v => (v : Int) | none => -1) := by
  decide +kernel

theorem toxdigitvalue_eq (c : UInt8) :
    toxdigitvalue c = match xval c with | some v => (v : Int) | none => -1 := by
  rw [toxdigitvalue, xdigitTable_eq, List.getD_map_range _ _ c.toNat_lt, UInt8.ofNat_toNat]

theorem getD_lt {t : List Int} {d n : Int} (h : ∀ x ∈ t, x < n) (hd : d < n) (i : Nat) : t.getD i d < n := by
  rw [List.getD_eq_getElem?_getD]
  cases hi : t[i]? with
  | none => exact hd
  | some x => exact h x (List.mem_of_getElem? hi)

theorem xdigitTable_lt : ∀ x ∈ Mhd.Gen.Str.xdigitTable, x < 16 := by decide +kernel

theorem xval_lt {c : UInt8} {v : Nat} (h : xval c = some v) : v < 16 := by
  have hv : toxdigitvalue c = (v : Int) := by rw [toxdigitvalue_eq, h]
  have := getD_lt (d := -1) xdigitTable_lt (by decide) c.toNat
  rw [← toxdigitvalue, hv] at this
  omega

/-- for `b < 2^k` the bits of `a <<< k` and of `b` are disjoint, so or-ing them is adding them,
    also modulo `2^8` -/
theorem shl_or_mod (a b k : Nat) (hk : k ≤ 8) (hb : b < 2 ^ k) :
    (a <<< k) % 2 ^ 8 ||| b = (a * 2 ^ k + b) % 2 ^ 8 := by
  have h8 : 2 ^ 8 = 2 ^ (8 - k) * 2 ^ k := by rw [← Nat.pow_add, Nat.sub_add_cancel hk]
  have hlt : a % 2 ^ (8 - k) * 2 ^ k + b < 2 ^ (8 - k) * 2 ^ k :=
    calc a % 2 ^ (8 - k) * 2 ^ k + b < (a % 2 ^ (8 - k) + 1) * 2 ^ k := by rw [Nat.add_mul, Nat.one_mul]; omega
      _ ≤ 2 ^ (8 - k) * 2 ^ k := Nat.mul_le_mul_right _ (Nat.mod_lt _ (Nat.two_pow_pos _))
  have hsplit : a * 2 ^ k + b = a % 2 ^ (8 - k) * 2 ^ k + b + 2 ^ (8 - k) * 2 ^ k * (a / 2 ^ (8 - k)) := by
    conv => lhs; rw [← Nat.mod_add_div a (2 ^ (8 - k)), Nat.add_mul, Nat.mul_right_comm]
    omega
  rw [Nat.shiftLeft_eq, h8, Nat.mul_mod_mul_right, ← Nat.shiftLeft_eq, ← Nat.shiftLeft_add_eq_or_of_lt hb,
    Nat.shiftLeft_eq, hsplit, Nat.add_mul_mod_self_left, Nat.mod_eq_of_lt hlt]

theorem u8_shl_or (a b k : Nat) (hk : k < 8) (hb : b < 2 ^ k) :
    (UInt8.ofNat a <<< UInt8.ofNat k) ||| UInt8.ofNat b = UInt8.ofNat (a * 2 ^ k + b) := by
  have hb8 : b % 2 ^ 8 = b := Nat.mod_eq_of_lt (Nat.lt_of_lt_of_le hb (Nat.pow_le_pow_right (by decide) (by omega)))
  have hk8 : k % 2 ^ 8 % 8 = k := by omega
  rw [← UInt8.toNat_inj, UInt8.toNat_or, UInt8.toNat_shiftLeft, UInt8.toNat_ofNat', UInt8.toNat_ofNat',
    UInt8.toNat_ofNat', UInt8.toNat_ofNat', hb8, hk8, shl_or_mod _ _ _ (by omega) hb, Nat.add_mod, Nat.mod_mul_mod,
    ← Nat.add_mod]

theorem u8_shr (y k : Nat) (hy : y < 256) (hk : k < 8) : UInt8.ofNat y >>> UInt8.ofNat k = UInt8.ofNat (y / 2 ^ k) := by
  have hk8 : k % 2 ^ 8 % 8 = k := by omega
  have hd : y / 2 ^ k < 2 ^ 8 := Nat.lt_of_le_of_lt (Nat.div_le_self _ _) hy
  rw [← UInt8.toNat_inj, UInt8.toNat_shiftRight, UInt8.toNat_ofNat', UInt8.toNat_ofNat', UInt8.toNat_ofNat', hk8,
    Nat.shiftRight_eq_div_pow, Nat.mod_eq_of_lt hy, Nat.mod_eq_of_lt hd]

theorem hexByte_eq (h l : Nat) (hl : l < 16) : hexByte (h : Int) (l : Int) = UInt8.ofNat (h * 16 + l) :=
  u8_shl_or h l 4 (by decide) hl

theorem twoDigits (a b : UInt8) :
    ((toxdigitvalue a < 0 ∨ toxdigitvalue b < 0) ∧ (xval a = none ∨ xval b = none)) ∨
    (¬ (toxdigitvalue a < 0 ∨ toxdigitvalue b < 0) ∧ ∃ h l, xval a = some h ∧ xval b = some l ∧
      hexByte (toxdigitvalue a) (toxdigitvalue b) = UInt8.ofNat (h * 16 + l)) := by
  rw [toxdigitvalue_eq a, toxdigitvalue_eq b]
  cases ha : xval a with
  | none => exact .inl ⟨.inl (by decide), .inl rfl⟩
  | some h =>
    cases hb : xval b with
    | none => exact .inl ⟨.inr (by decide), .inr rfl⟩
    | some l => exact .inr ⟨by simp only; omega, h, l, rfl, rfl, hexByte_eq h l (xval_lt hb)⟩

theorem toxdigit_cases (c : UInt8) :
    (∃ v, xval c = some v ∧ v < 16 ∧ toxdigitvalue c = (v : Int)) ∨ (xval c = none ∧ toxdigitvalue c = -1) := by
  rw [toxdigitvalue_eq]
  cases hx : xval c with
  | none => exact .inr ⟨rfl, rfl⟩
  | some v => exact .inl ⟨v, rfl, xval_lt hx, rfl⟩

end Mhd.Str
