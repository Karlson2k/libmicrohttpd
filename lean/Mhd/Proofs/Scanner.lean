/-
  Split independence of an incremental scanner, proved once (DESIGN.md A.2).

  A scanner state contains its buffer; `extend` = "more bytes arrived".  If, on
  states satisfying an invariant, a step that advanced or finished does the
  same on the extended state (`adv_ext`, `done_ext`: the decision never looked
  beyond the bytes it had), the measure decreases and no step faults, then
  feeding any segmentation equals feeding the concatenation (`feedAll_flatten`).

  The laws of a concrete parser come from ONE walk over the text of its step function (`Walk`,
  `Laws.of_walk`); there is one rule per construct of the model text.  What an advance and a
  finished result owe are parameters of `Walk`, and each parser fixes them once (its `Adv` / `Stop`:
  representation invariant, progress, content invariant, post-condition).  Its `*_walk` lemmas are
  stated at these predicates and `Walk.mono` only weakens them, so a new fact about single steps
  needs `Adv` / `Stop` extended or a walk of its own.  A new fact about whole runs needs neither:
  `run_induct` carries any predicate that the advancing steps keep (as `rl_run_both` does).
-/
import Mhd.Model.ReqLine
import Mhd.Proofs.ReqBuf

namespace Mhd.Req
namespace Scanner
variable {σ ρ : Type}

structure Laws (sc : Scanner σ ρ) (Inv : σ → Prop) : Prop where
  decr : ∀ s s', Inv s → sc.step s = .advance s' → sc.measure s' < sc.measure s
  inv_step : ∀ s s', Inv s → sc.step s = .advance s' → Inv s'
  inv_ext : ∀ s e, Inv s → Inv (sc.extend s e)
  no_fault : ∀ s f, Inv s → sc.step s ≠ .fault f
  adv_ext : ∀ s s' e, Inv s → sc.step s = .advance s' →
    sc.step (sc.extend s e) = .advance (sc.extend s' e)
  done_ext : ∀ s r e, Inv s → sc.step s = .done r →
    sc.step (sc.extend s e) = .done (sc.extendR r e)
  ext_nil : ∀ s, sc.extend s #[] = s
  ext_ext : ∀ s a b, sc.extend (sc.extend s a) b = sc.extend s (a ++ b)
  extR_extR : ∀ r a b, sc.extendR (sc.extendR r a) b = sc.extendR r (a ++ b)

variable {sc : Scanner σ ρ} {Inv : σ → Prop}

theorem runFuel_mono (L : Laws sc Inv) :
    ∀ (n : Nat) (s : σ) (m : Nat), Inv s → sc.measure s < n → n ≤ m →
      sc.runFuel m s = sc.runFuel n s := by
  intro n
  induction n with
  | zero => intro s m _ h _; omega
  | succ n ih =>
    intro s m hi hm hle
    obtain ⟨m', rfl⟩ : ∃ m', m = m' + 1 := ⟨m - 1, by omega⟩
    simp only [runFuel]
    cases hs : sc.step s with
    | advance s' =>
      have hd := L.decr s s' hi hs
      exact ih s' m' (L.inv_step s s' hi hs) (by omega) (by omega)
    | done r => rfl
    | needMore => rfl
    | fault f => rfl

theorem run_advance (L : Laws sc Inv) (s s' : σ) (hi : Inv s) (hs : sc.step s = .advance s') :
    sc.run s = sc.run s' := by
  have hd := L.decr s s' hi hs
  unfold run
  rw [show sc.runFuel (sc.measure s + 1) s = sc.runFuel (sc.measure s) s' by simp only [runFuel, hs]]
  exact runFuel_mono L (sc.measure s' + 1) s' (sc.measure s) (L.inv_step s s' hi hs) (by omega) (by omega)

theorem run_done (s : σ) (r : ρ) (hs : sc.step s = .done r) : sc.run s = .done r := by
  simp only [run, runFuel, hs]

theorem run_needMore (s : σ) (hs : sc.step s = .needMore) : sc.run s = .more s := by
  simp only [run, runFuel, hs]

theorem runFuel_induct (L : Laws sc Inv) (P : σ → Prop)
    (hP : ∀ s s', Inv s → P s → sc.step s = .advance s' → P s') :
    ∀ (n : Nat) (s : σ), Inv s → P s → sc.measure s < n →
      (∀ s₁, sc.runFuel n s = .more s₁ → Inv s₁ ∧ P s₁) ∧
      (∀ r, sc.runFuel n s = .done r → ∃ s₁, Inv s₁ ∧ P s₁ ∧ sc.step s₁ = .done r) ∧
      (∀ f, sc.runFuel n s ≠ .fault f) := by
  intro n
  induction n with
  | zero => intro s _ _ h; omega
  | succ n ih =>
    intro s hi hp hm
    simp only [runFuel]
    cases hs : sc.step s with
    | advance s' =>
      have hd := L.decr s s' hi hs
      exact ih s' (L.inv_step s s' hi hs) (hP s s' hi hp hs) (by omega)
    | done r =>
      dsimp only
      refine ⟨?_, ?_, ?_⟩
      · intro s₁ h1; cases h1
      · intro r' h1; cases h1; exact ⟨s, hi, hp, hs⟩
      · intro f h1; cases h1
    | needMore =>
      dsimp only
      refine ⟨?_, ?_, ?_⟩
      · intro s₁ h1; cases h1; exact ⟨hi, hp⟩
      · intro r h1; cases h1
      · intro f h1; cases h1
    | fault f => exact absurd hs (L.no_fault s f hi)

theorem run_induct (L : Laws sc Inv) (P : σ → Prop)
    (hP : ∀ s s', Inv s → P s → sc.step s = .advance s' → P s') (s : σ) (hi : Inv s) (hp : P s) :
    (∀ s₁, sc.run s = .more s₁ → Inv s₁ ∧ P s₁) ∧
    (∀ r, sc.run s = .done r → ∃ s₁, Inv s₁ ∧ P s₁ ∧ sc.step s₁ = .done r) ∧
    (∀ f, sc.run s ≠ .fault f) :=
  runFuel_induct L P hP (sc.measure s + 1) s hi hp (by omega)

theorem run_no_fault (L : Laws sc Inv) (s : σ) (hi : Inv s) (f : Fault) : sc.run s ≠ .fault f :=
  (run_induct L (fun _ => True) (fun _ _ _ _ _ => trivial) s hi trivial).2.2 f

theorem run_more_inv (L : Laws sc Inv) (s s₁ : σ) (hi : Inv s) (h : sc.run s = .more s₁) : Inv s₁ :=
  ((run_induct L (fun _ => True) (fun _ _ _ _ _ => trivial) s hi trivial).1 s₁ h).1

/-- every advancing step of the run from `s` is made on the extended state as well -/
theorem feed_run (L : Laws sc Inv) (s : σ) (hi : Inv s) (e : Bytes) :
    sc.feed (sc.run s) e = sc.run (sc.extend s e) := by
  have h := run_induct L (fun s' => sc.run (sc.extend s e) = sc.run (sc.extend s' e))
    (fun a b hia hp hs => hp.trans (run_advance L _ _ (L.inv_ext a e hia) (L.adv_ext a b e hia hs))) s hi rfl
  cases hr : sc.run s with
  | more s₁ => exact (h.1 s₁ hr).2.symm
  | done r =>
    obtain ⟨s₁, hi₁, hp, hd⟩ := h.2.1 r hr
    exact (hp.trans (run_done _ _ (L.done_ext s₁ r e hi₁ hd))).symm
  | fault f => exact absurd hr (h.2.2 f)

theorem feed_append (L : Laws sc Inv) (s : σ) (hi : Inv s) (a b : Bytes) :
    sc.feed (sc.feed (sc.run s) a) b = sc.feed (sc.run s) (a ++ b) := by
  rw [feed_run L s hi a, feed_run L _ (L.inv_ext s a hi) b, feed_run L s hi (a ++ b), L.ext_ext]

def flatten (chunks : List Bytes) : Bytes := chunks.foldr (· ++ ·) #[]

theorem feedAll_flatten (L : Laws sc Inv) (chunks : List Bytes) :
    ∀ (s : σ), Inv s → sc.feedAll (sc.run s) chunks = sc.run (sc.extend s (flatten chunks)) := by
  induction chunks with
  | nil => intro s _; simp only [feedAll, List.foldl, flatten, List.foldr, L.ext_nil]
  | cons c cs ih =>
    intro s hi
    simp only [feedAll, List.foldl] at *
    rw [feed_run L s hi c, ih _ (L.inv_ext s c hi), L.ext_ext]
    rfl

theorem feedAll_eq_of_flatten_eq (L : Laws sc Inv) (s : σ) (hi : Inv s) (c₁ c₂ : List Bytes)
    (h : flatten c₁ = flatten c₂) : sc.feedAll (sc.run s) c₁ = sc.feedAll (sc.run s) c₂ := by
  rw [feedAll_flatten L c₁ s hi, feedAll_flatten L c₂ s hi, h]


/-- a step result after `e` has arrived behind the buffer -/
def stepExt (sc : Scanner σ ρ) (e : Bytes) : Step σ ρ → Step σ ρ
  | .advance s => .advance (sc.extend s e)
  | .done r => .done (sc.extendR r e)
  | .needMore => .needMore
  | .fault f => .fault f

/-- `r`: result of a routine on some state, `r'`: its result on that state with `e` appended.
    `r` is no fault, an advance satisfies `A`, a finished result `D`; unless `r` asks for more
    data, `r'` is `r` with `e` appended (the routine never looked beyond the bytes it had). -/
structure Walk (sc : Scanner σ ρ) (e : Bytes) (A : σ → Prop) (D : ρ → Prop) (r r' : Step σ ρ) : Prop where
  nofault : ∀ f, r ≠ .fault f
  adv : ∀ s', r = .advance s' → A s'
  fin : ∀ d, r = .done d → D d
  ext : r ≠ .needMore → r' = sc.stepExt e r

namespace Walk
variable {sc : Scanner σ ρ} {e : Bytes} {A A' : σ → Prop} {D D' : ρ → Prop} {r r' a a' b b' : Step σ ρ}

theorem more : Walk sc e A D .needMore r' := ⟨nofun, nofun, nofun, fun h => absurd rfl h⟩

theorem advance {s1 : σ} (h : A s1) : Walk sc e A D (.advance s1) (.advance (sc.extend s1 e)) :=
  ⟨nofun, fun _ h' => Step.advance.inj h' ▸ h, nofun, fun _ => rfl⟩

theorem done {d : ρ} (h : D d) : Walk sc e A D (.done d) (.done (sc.extendR d e)) :=
  ⟨nofun, nofun, fun _ h' => Step.done.inj h' ▸ h, fun _ => rfl⟩

theorem mono (h : Walk sc e A D r r') (hA : ∀ s, A s → A' s) (hD : ∀ d, D d → D' d) : Walk sc e A' D' r r' :=
  ⟨h.nofault, fun s hs => hA s (h.adv s hs), fun d hd => hD d (h.fin d hd), h.ext⟩

theorem ite {c : Prop} [Decidable c] (ht : c → Walk sc e A D a a') (he : ¬ c → Walk sc e A D b b') :
    Walk sc e A D (if c then a else b) (if c then a' else b') := by
  by_cases h : c
  · rw [if_pos h, if_pos h]; exact ht h
  · rw [if_neg h, if_neg h]; exact he h

/-- a test for "not enough data yet": once passed, it stays passed when more data arrive -/
theorem iteMore {c c' : Prop} [Decidable c] [Decidable c'] (hcc : ¬ c → ¬ c') (h : ¬ c → Walk sc e A D b b') :
    Walk sc e A D (if c then .needMore else b) (if c' then .needMore else b') := by
  by_cases hc : c
  · rw [if_pos hc]; exact more
  · rw [if_neg hc, if_neg (hcc hc)]; exact h hc

/-- a case distinction on a register that the arrival of `e` does not change.  (A rule whose statement contains a
    `match` applies to the model text only if both use the same matcher constant: Lean re-uses the matcher the model
    has made, so these rules stand behind `import Mhd.Model.ReqLine`; `generalizing := false` keeps the hypotheses out
    of the matcher.) -/
theorem opt {o : Option Nat} {n n' : Step σ ρ} {k k' : Nat → Step σ ρ} (hn : o = none → Walk sc e A D n n')
    (hs : ∀ x, o = some x → Walk sc e A D (k x) (k' x)) :
    Walk sc e A D (match (generalizing := false) o with | none => n | some x => k x)
      (match (generalizing := false) o with | none => n' | some x => k' x) := by
  cases o with
  | none => exact hn rfl
  | some x => exact hs x rfl

/-- the same with the alternatives in the other order (a different matcher) -/
theorem optS {o : Option Nat} {n n' : Step σ ρ} {k k' : Nat → Step σ ρ} (hs : ∀ x, o = some x → Walk sc e A D (k x) (k' x))
    (hn : o = none → Walk sc e A D n n') :
    Walk sc e A D (match (generalizing := false) o with | some x => k x | none => n)
      (match (generalizing := false) o with | some x => k' x | none => n') := by
  cases o with
  | none => exact hn rfl
  | some x => exact hs x rfl

theorem wr {buf : Bytes} {i : Nat} {v : UInt8} {site : Nat} {k k' : Bytes → Step σ ρ} (hi : i < buf.size)
    (h : Walk sc e A D (k (buf.setIfInBounds i v)) (k' (buf.setIfInBounds i v ++ e))) :
    Walk sc e A D (Req.wr buf i v site .fault k) (Req.wr (buf ++ e) i v site .fault k') := by
  rw [wr_in hi, wr_ext hi]
  exact h

/-- the read that is the loop condition: no byte, no step -/
theorem rdMore {buf : Bytes} {i : Nat} {K K' : UInt8 → Step σ ρ}
    (h : ∀ c, buf[i]? = some c → Walk sc e A D (K c) (K' c)) :
    Walk sc e A D (match buf[i]? with | none => .needMore | some c => K c)
      (match (buf ++ e)[i]? with | none => .needMore | some c => K' c) := by
  cases hb : buf[i]? with
  | none => exact more
  | some c => rw [get_some_ext e hb]; exact h c hb

theorem rdIn {buf : Bytes} {i : Nat} {f : Fault} {K K' : UInt8 → Step σ ρ} (hi : i < buf.size)
    (h : ∀ c, buf[i]? = some c → Walk sc e A D (K c) (K' c)) :
    Walk sc e A D (match buf[i]? with | none => .fault f | some c => K c)
      (match (buf ++ e)[i]? with | none => .fault f | some c => K' c) := by
  rw [Array.getElem?_append_left hi, Array.getElem?_eq_getElem hi]
  exact h _ (Array.getElem?_eq_getElem hi)

end Walk

theorem Laws.of_walk {sc : Scanner σ ρ} {Inv : σ → Prop} (size pos : σ → Nat)
    (hm : ∀ s, sc.measure s = size s - pos s) (hle : ∀ s, Inv s → pos s ≤ size s)
    (walk : ∀ s e, Inv s →
      Walk sc e (fun s' => Inv s' ∧ size s' = size s ∧ pos s < pos s') (fun _ => True) (sc.step s) (sc.step (sc.extend s e)))
    (inv_ext : ∀ s e, Inv s → Inv (sc.extend s e)) (ext_nil : ∀ s, sc.extend s #[] = s)
    (ext_ext : ∀ s a b, sc.extend (sc.extend s a) b = sc.extend s (a ++ b))
    (extR_extR : ∀ r a b, sc.extendR (sc.extendR r a) b = sc.extendR r (a ++ b)) : Laws sc Inv where
  decr := fun s s' hi hs => by
    obtain ⟨h1, h2, h3⟩ := (walk s #[] hi).adv s' hs
    have := hle s' h1
    rw [hm, hm]; omega
  inv_step := fun s s' hi hs => ((walk s #[] hi).adv s' hs).1
  inv_ext := inv_ext
  no_fault := fun s f hi => (walk s #[] hi).nofault f
  adv_ext := fun s s' e hi hs => ((walk s e hi).ext (fun h => nomatch hs.symm.trans h)).trans (congrArg (sc.stepExt e) hs)
  done_ext := fun s r e hi hs => ((walk s e hi).ext (fun h => nomatch hs.symm.trans h)).trans (congrArg (sc.stepExt e) hs)
  ext_nil := ext_nil
  ext_ext := ext_ext
  extR_extR := extR_extR

/-- what is kept of "the run from `s` passes through `s'`" (built by `refl`, `step`, `trans`): the invariant `J` is
    carried along and the two runs end alike; it does not say that `s'` is an iterate of the step -/
def Reaches (sc : Scanner σ ρ) (J : σ → Prop) (s s' : σ) : Prop := J s → J s' ∧ sc.run s = sc.run s'

namespace Reaches
variable {sc : Scanner σ ρ} {Inv J : σ → Prop} {a b c s s' : σ}

theorem refl (s : σ) : Reaches sc J s s := fun hi => ⟨hi, rfl⟩

theorem trans (h1 : Reaches sc J a b) (h2 : Reaches sc J b c) : Reaches sc J a c :=
  fun hi => ⟨(h2 (h1 hi).1).1, (h1 hi).2.trans (h2 (h1 hi).1).2⟩

/-- `J` may be stronger than the invariant of the laws -/
theorem step (L : Laws sc Inv) (hJ : ∀ s, J s → Inv s) (keep : J s → J s') (h : sc.step s = .advance s') :
    Reaches sc J s s' :=
  fun hi => ⟨keep hi, run_advance L s s' (hJ s hi) h⟩

theorem done {r : ρ} (h : Reaches sc J s s') (hi : J s) (hd : sc.step s' = .done r) : sc.run s = .done r :=
  (h hi).2.trans (run_done s' r hd)

end Reaches

theorem feedAll_no_fault {sc : Scanner σ ρ} {Inv : σ → Prop} (L : Laws sc Inv) (s : σ) (hi : Inv s)
    (chunks : List Bytes) (f : Fault) : sc.feedAll (sc.run s) chunks ≠ .fault f := by
  rw [feedAll_flatten L chunks s hi]
  exact run_no_fault L _ (L.inv_ext s _ hi) f

end Scanner
end Mhd.Req
