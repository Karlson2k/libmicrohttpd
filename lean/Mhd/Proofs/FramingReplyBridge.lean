/-
  The reply's "carries close" flag of the framing automaton tied to the keep-alive verdict of C04's reply builder.

  `connOf s` is the connection as the reply builder sees it in the framing state `s`; for a response
  object inside C03's stated assumptions (no upgrade, no HTTP/1.0 response flags, known size) the two
  models of `keepalive_possible` agree, so a reply the builder leaves in MUST_CLOSE (by
  `Mhd.C04.close_announced_iff` exactly one whose head announces close on the wire) leaves the framing
  automaton tainted after `startReply`, and `no_reparse` / `no_further_request` apply.
-/
import Mhd.Model.Reply
import Mhd.Proofs.FramingIdle
namespace Mhd.Framing
open Mhd.Gen.Framing

/-- the connection fields the reply builder consults, read off the framing state -/
def connOf (s : St) : Mhd.Reply.Conn :=
  { keepalive := match s.keepalive with | .unknown => .unknown | .use => .useKeepalive | .mustClose => .mustClose
    ver := if s.head.http11 then .v11 else .v10
    readClosed := s.readClosed
    discardRequest := s.discard
    reqClose := lookupToken s.head.fields hdrConnection tokClose
    reqKeepAlive := lookupToken s.head.fields hdrConnection tokKeepAlive }

/-- C03's assumptions on the response object -/
structure PlainResp (r : Mhd.Resp.Resp) : Prop where
  noUpgrade : r.upgrade = false
  noStrict : r.flags.http10Strict = false
  noServer : r.flags.http10Server = false
  knownSize : r.totalSize ≠ Mhd.Gen.Reply.sizeUnknown

theorem ite_iff_congr {α β : Type} {c c' : Prop} [Decidable c] [Decidable c'] {a x : α} {b y : β}
    (hc : c ↔ c') (h : x = a ↔ y = b) : (if c then a else x) = a ↔ (if c' then b else y) = b := by
  by_cases g : c
  · rw [if_pos g, if_pos (hc.1 g)]; exact ⟨fun _ => rfl, fun _ => rfl⟩
  · rw [if_neg g, if_neg (fun g' => g (hc.2 g'))]; exact h

theorem ka_bridge (s : St) (r : Mhd.Resp.Resp) (h : PlainResp r) :
    Mhd.Reply.keepalivePossible (connOf s) r = .mustClose ↔ keepalivePossible s r.fa.connClose = .mustClose := by
  have hk : ((connOf s).keepalive == Mhd.Reply.KA.mustClose) = true ↔ s.keepalive = .mustClose := by
    unfold connOf; dsimp only; generalize s.keepalive = k; cases k <;> decide
  -- the request version is 1.0 or 1.1, so the version tests of the reply builder reduce to `http11`
  have hsup : (!Mhd.Reply.verSupported (connOf s).ver) = false := by
    unfold connOf; dsimp only; generalize s.head.http11 = v; cases v <;> decide
  have h10 : ((connOf s).ver == Mhd.Reply.Ver.v10 || false) = !s.head.http11 := by
    unfold connOf; dsimp only; generalize s.head.http11 = v; cases v <;> decide
  have h11 : Mhd.Reply.ver11Compat (connOf s).ver = s.head.http11 := by
    unfold connOf; dsimp only; generalize s.head.http11 = v; cases v <;> decide
  have hq : (connOf s).reqKeepAlive = lookupToken s.head.fields hdrConnection tokKeepAlive := rfl
  unfold Mhd.Reply.keepalivePossible keepalivePossible
  simp only [h.noUpgrade, h.noStrict, h.noServer, hsup, h10, h11, hq, Bool.false_eq_true, if_false]
  -- what remains are the same tests in the same order on both sides
  refine ite_iff_congr hk (ite_iff_congr Iff.rfl (ite_iff_congr Iff.rfl (ite_iff_congr Iff.rfl ?_)))
  generalize s.head.http11 = v; generalize lookupToken s.head.fields hdrConnection tokKeepAlive = t
  cases v <;> cases t <;> decide

theorem setup_ka_plain (c : Mhd.Reply.Conn) (r : Mhd.Resp.Resp) (code : Nat) (h : PlainResp r) :
    (Mhd.Reply.setupReplyProperties c r code).1 = Mhd.Reply.keepalivePossible c r := by
  unfold Mhd.Reply.setupReplyProperties
  have : (r.totalSize == Mhd.Gen.Reply.sizeUnknown) = false := by simpa using h.knownSize
  simp only [this, Bool.false_and, Bool.false_eq_true, if_false]
  split <;> rfl

theorem mustClose_taints [HeadParser] (r : Mhd.Resp.Resp) (hplain : PlainResp r) (lvl : Int) (app : App) (s : St)
    (status : Nat) (hs : s.state = .startReply) (wf : FlagsWF s) (hresp : s.resp = some (status, r.fa.connClose))
    (code : Nat) (hka : (Mhd.Reply.setupReplyProperties (connOf s) r code).1 = .mustClose) :
    ∃ s1, idleStep lvl app s = some s1 ∧ NoReparse s1 ∧ PastFirst s1 ∧
      ∀ s', Reach lvl s1 s' → s'.state ≠ .init ∧ countFirst s'.out = countFirst s1.out := by
  rw [setup_ka_plain _ _ _ hplain, ka_bridge s _ hplain] at hka
  let s1 : St := { s with keepalive := keepalivePossible s r.fa.connClose, state := .fullReplySent,
                          out := .reply status (keepalivePossible s r.fa.connClose == .mustClose) :: s.out }
  have hstep : idleStep lvl app s = some s1 := by
    unfold idleStep; rw [hs]; simp only [hresp, s1]
  have hnr : NoReparse s1 := ⟨wf, Or.inr (Or.inr hka), by simp [s1]⟩
  have hpf : PastFirst s1 := ⟨by simp [s1], by simp [s1], by simp [s1]⟩
  refine ⟨s1, hstep, hnr, hpf, fun s' hr =>
    let k := (reach_keeps lvl s1 s' hr).2 hnr
    ⟨k.1.2.2, (k.2 hpf).2⟩⟩

end Mhd.Framing
