/-
  C19, parts (iv) and (i) of the property.  The `while` loop of the decoder and the application's
  receive loop are each walked once (`loop_spec`, `feedLoop_spec`): no fault, invariant kept,
  progress, and what they do is a piece of a flat run; `C19.decode_no_fault` and `feedLoop_ok` are what
  is left of that when the run is forgotten.  Then the session of an application (`sessionG`) and
  split independence of a whole session (`session_split_independent`).
-/
import Mhd.Proofs.WSAppend
namespace Mhd.WS

/-- the frames and errors an application sees in a list of decode calls (status ≠ 0) -/
def evsOf (calls : List Call) : List Ev := calls.flatMap (fun c => evOf c.st c.pl c.plen)

theorem evsOf_append (a b : List Call) : evsOf (a ++ b) = evsOf a ++ evsOf b := by
  unfold evsOf; rw [List.flatMap_append]

theorem decode_loop {ws : WS} (hv : ws.validity ≠ 0) (buf : List UInt8) :
    decode false ws buf = loop false (3 * buf.length + 4) ws buf 0 := by
  unfold decode; rw [if_neg hv]

theorem decode_broken {lg : Bool} {ws : WS} (hv : ws.validity = 0) (buf : List UInt8) :
    decode lg ws buf = .ret ws (-2) 0 none 0 :=
  if_pos hv

theorem loop_trip (fuel : Nat) {ws : WS} (h : Inv ws) (hv : ws.validity ≠ 0) (rest : List UInt8) (cur : Nat)
    (hg : rest ≠ [] ∨ sil ws ≠ 0) :
    loop false (fuel + 2) ws rest cur = match trip ws rest with
      | .cont ws' k => loop false (fuel + 1) ws' (rest.drop k) (cur + k)
      | .ret ws' st k pl plen => .ret ws' st (cur + k) pl plen
      | .fault s => .fault s := by
  cases rest with
  | nil =>
    show tail false ws cur = _
    rw [tail_step h hv (hg.resolve_left (fun c => c rfl))]
    show _ = match silent ws with
      | .cont ws' k => loop false (fuel + 1) ws' (List.drop k []) (cur + k)
      | .ret ws' st k pl plen => .ret ws' st (cur + k) pl plen
      | .fault s => .fault s
    cases silent ws with
    | cont ws' k => show _ = loop false (fuel + 1) ws' (List.drop k []) (cur + k); rw [List.drop_nil]; rfl
    | ret => rfl
    | fault => rfl
  | cons b r => rfl

/-- **the `while` loop and what follows it**, for every state satisfying the invariant and every
    input: it returns (no fault: every access was inside its buffer), the invariant holds
    afterwards, no more is reported consumed than was offered, a successful call from a state
    between calls consumes at least one byte — and what it did is a piece of a flat run -/
theorem loop_spec (fuel : Nat) {ws : WS} (h : Inv ws) (hv : ws.validity ≠ 0) (rest : List UInt8) (cur : Nat)
    (hf : 3 * rest.length + sil ws < fuel) :
    ∃ ws' st k pl plen, loop false fuel ws rest cur = .ret ws' st (cur + k) pl plen ∧
      CallOK rest.length ws' st k pl plen ∧ (0 ≤ st → sil ws = 0 → rest ≠ [] → 1 ≤ k) ∧
      (st < 0 → Run ws rest [(st, pl, plen)] .stop) ∧
      (0 ≤ st → ∀ E out, Run ws' (rest.drop k) E out → Run ws rest (evOf st pl plen ++ E) out) := by
  induction fuel generalizing ws rest cur with
  | zero => omega
  | succ f ih =>
    by_cases hg : rest ≠ [] ∨ sil ws ≠ 0
    · have hf1 : 1 ≤ f := by
        rcases hg with hne | hq
        · have := List.length_pos_iff.mpr hne; omega
        · omega
      obtain ⟨f, rfl⟩ := Nat.exists_eq_add_of_le' hf1
      rw [loop_trip f h hv rest cur hg]
      have hok := trip_ok h hv rest hg
      revert hok
      cases hit : trip ws rest with
      | cont ws1 k =>
        intro ⟨hi1, hv1, hk, hm⟩
        obtain ⟨ws2, st, k2, pl, plen, he, hc2, _, r1, r2⟩ := ih hi1 hv1 (rest.drop k) (cur + k)
          (by simp only [List.length_drop]; omega)
        have := hc2.rd
        simp only [List.length_drop] at this
        refine ⟨ws2, st, k + k2, pl, plen, by rw [← Nat.add_assoc]; exact he, ⟨hc2.inv, by omega, hc2.pl, hc2.quiet⟩,
          fun _ hq hne => by have := List.length_pos_iff.mpr hne; omega,
          fun hneg => Run.cont ws rest ws1 k _ _ hg hit (r1 hneg), fun h0 E out hr => ?_⟩
        exact Run.cont ws rest ws1 k _ _ hg hit (r2 h0 E out (by rw [List.drop_drop]; exact hr))
      | ret w s k p l =>
        intro hc
        refine ⟨w, s, k, p, l, rfl, ⟨hc.1, hc.2.1, hc.2.2.1, fun h0 => ⟨(hc.2.2.2 h0).1, (hc.2.2.2 h0).2.1⟩⟩,
          fun h0 hq _ => (hc.2.2.2 h0).2.2 hq, fun hneg => Run.err ws rest _ _ k _ _ hg hit hneg,
          fun h0 E out hr => Run.emit ws rest _ _ k _ _ E out hg hit h0 hr⟩
      | fault s => exact False.elim
    · have hr : rest = [] := Decidable.by_contra fun c => hg (.inl c)
      have hq : sil ws = 0 := Decidable.by_contra fun c => hg (.inr c)
      subst hr
      unfold loop
      rw [if_pos rfl, tail_quiet hq]
      exact ⟨ws, 0, 0, none, 0, rfl, ⟨fun _ => h, Nat.le_refl _, rfl, fun _ => ⟨hq, hv⟩⟩, fun _ _ hne => absurd rfl hne,
        fun hneg => absurd hneg (by decide), fun _ E out hr => hr⟩

/-- **the application's receive loop** on a live stream between two calls: it never faults, never
    gets stuck, ends with everything consumed or with an error status, and what the application
    saw is a flat run over the chunk -/
theorem feedLoop_spec (budget : Nat) {ws : WS} (hi : Inv ws) (hq : sil ws = 0) (hv : ws.validity ≠ 0)
    (rest : List UInt8) (acc : List Call) (hb : rest.length < budget) :
    ∃ ws' calls e E, feedLoop false budget ws rest acc = (ws', calls, e) ∧ evsOf calls = evsOf acc.reverse ++ E ∧
      (ws'.validity ≠ 0 → Inv ws') ∧
      ((e = .consumed ∧ Run ws rest E (.more ws')) ∨ (e = .error ∧ Run ws rest E .stop)) := by
  induction budget generalizing ws rest acc with
  | zero => omega
  | succ n ih =>
    unfold feedLoop
    split
    · rename_i hnil
      subst hnil
      exact ⟨ws, _, .consumed, [], rfl, (List.append_nil _).symm, fun _ => hi,
        .inl ⟨rfl, .done _ hq⟩⟩
    · rename_i hne
      obtain ⟨ws1, st, k, pl, plen, hd, hc, hp, r1, r2⟩ := loop_spec (3 * rest.length + 4) hi hv rest 0
        (by rw [hq]; omega)
      rw [decode_loop hv, hd, Nat.zero_add]
      simp only []
      split
      · rename_i hneg
        refine ⟨ws1, _, .error, [(st, pl, plen)], rfl, ?_, hc.inv, .inr ⟨rfl, r1 hneg⟩⟩
        rw [List.reverse_cons, evsOf_append]
        congr 1
        simp [evsOf, evOf_ne (Int.ne_of_lt hneg)]
      · rename_i hpos
        have h0 : 0 ≤ st := by omega
        obtain ⟨hq1, hv1⟩ := hc.quiet h0
        have hrd := hp h0 hq hne
        have hlen : 1 ≤ rest.length := List.length_pos_iff.mpr hne
        obtain ⟨ws2, calls, e, E', hf, hE', hinv, hrun'⟩ := ih (hc.inv hv1) hq1 hv1 (rest.drop k)
          (⟨st, k, pl, plen⟩ :: acc) (by simp only [List.length_drop]; omega)
        refine ⟨ws2, calls, e, evOf st pl plen ++ E', hf, ?_, hinv, ?_⟩
        · rw [hE', List.reverse_cons, evsOf_append, List.append_assoc]
          congr 1
          simp [evsOf]
        · rcases hrun' with ⟨he, hr⟩ | ⟨he, hr⟩
          · exact .inl ⟨he, r2 h0 _ _ hr⟩
          · exact .inr ⟨he, r2 h0 _ _ hr⟩

/-- (iv) for the application's receive loop, also on a stream that is no longer valid: it ends
    with everything consumed, and a state that is `Ready` again, or with an error status -/
theorem feedLoop_ok (budget : Nat) {ws : WS} (h : Ready ws) (rest : List UInt8) (acc : List Call)
    (hb : rest.length < budget) :
    ∃ ws' calls e, feedLoop false budget ws rest acc = (ws', calls, e) ∧ (e = .consumed ∨ e = .error) ∧
      (ws'.validity ≠ 0 → Inv ws') ∧ (e = .consumed → Ready ws') := by
  by_cases hv : ws.validity = 0
  · cases budget with
    | zero => omega
    | succ n =>
      unfold feedLoop
      rw [decode_broken hv]
      split
      · exact ⟨ws, _, .consumed, rfl, .inl rfl, fun c => absurd hv c, fun _ => h⟩
      · exact ⟨ws, _, .error, rfl, .inr rfl, fun c => absurd hv c, fun c => by cases c⟩
  · obtain ⟨hi, hq⟩ := h hv
    obtain ⟨ws', calls, e, E, hf, _, hinv, hr⟩ := feedLoop_spec budget hi hq hv rest acc hb
    refine ⟨ws', calls, e, hf, hr.elim (fun x => .inl x.1) (fun x => .inr x.1), hinv, fun he _ => ?_⟩
    rcases hr with ⟨_, hr⟩ | ⟨he', _⟩
    · obtain ⟨a, b, _⟩ := hr.more_quiet hi hv rfl
      exact ⟨a, b⟩
    · rw [he'] at he; cases he

/-- what the application sees when it receives the chunks one after the other, running
    its decode loop on each, and stops at the first negative status -/
def sessionG (lg : Bool) : WS → List (List UInt8) → List Ev
  | _, [] => []
  | ws, c :: cs =>
    let r := feed lg ws c
    evsOf r.2.1 ++ (if r.2.2 = .consumed then sessionG lg r.1 cs else [])

/-- `sessionG` for the code after the fixes -/
abbrev session := sessionG false

theorem session_run {ws : WS} (hi : Inv ws) (hq : sil ws = 0) (hv : ws.validity ≠ 0) (chunks : List (List UInt8)) :
    ∃ out, Run ws chunks.flatten (session ws chunks) out := by
  induction chunks generalizing ws with
  | nil => exact ⟨_, Run.done _ hq⟩
  | cons c cs ih =>
    unfold session sessionG
    simp only [List.flatten_cons]
    cases hf : feed false ws c with
    | mk ws1 rest1 =>
      cases rest1 with
      | mk calls e =>
        simp only []
        obtain ⟨ws1', calls', e', E, hf', hE, _, hr⟩ := feedLoop_spec (c.length + 9) hi hq hv c [] (by omega)
        cases hf.symm.trans hf'
        simp only [List.reverse_nil, evsOf, List.flatMap_nil, List.nil_append] at hE
        have hE' : evsOf calls = E := hE
        rw [hE']
        rcases hr with ⟨he, hr⟩ | ⟨he, hr⟩
        · subst he
          simp only [if_true]
          obtain ⟨hi1, hq1, hv1⟩ := hr.more_quiet hi hv rfl
          obtain ⟨out, hrs⟩ := ih hi1 hq1 hv1
          exact ⟨out, run_glue hi hv hr hrs⟩
        · subst he
          rw [if_neg (by simp)]
          simp only [List.append_nil]
          by_cases hb : cs.flatten = []
          · rw [hb, List.append_nil]; exact ⟨_, hr⟩
          · exact ⟨_, (hr.append hi hv _ hb).1 rfl⟩

/-- **(i) split independence.**  For every live stream state between two calls, every list
    of chunks: feeding the chunks one after the other gives the application exactly the
    frames, payloads and error it gets from feeding the concatenation in one piece. -/
theorem session_split_independent {ws : WS} (hi : Inv ws) (hq : sil ws = 0) (hv : ws.validity ≠ 0)
    (chunks : List (List UInt8)) : session ws chunks = session ws [chunks.flatten] := by
  obtain ⟨o1, r1⟩ := session_run hi hq hv chunks
  obtain ⟨o2, r2⟩ := session_run hi hq hv [chunks.flatten]
  simp only [List.flatten_cons, List.flatten_nil, List.append_nil] at r2
  exact (r1.det r2).1

theorem session_of_wire {ws : WS} (hi : Inv ws) (hq : sil ws = 0) (hv : ws.validity ≠ 0) {wire : List UInt8}
    {E : List Ev} {out : Out} (hr : Run ws wire E out) (chunks : List (List UInt8)) (hc : chunks.flatten = wire) :
    session ws chunks = E := by
  obtain ⟨o, r⟩ := session_run hi hq hv [wire]
  rw [session_split_independent hi hq hv chunks, hc]
  simp only [List.flatten_cons, List.flatten_nil, List.append_nil] at r
  exact (r.det hr).1

end Mhd.WS
