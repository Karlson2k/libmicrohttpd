/-
  C17 proofs: the loops of `MHD_str_remove_token_caseless_` in list terms, for *any* token.

  A state is described by the input still to be read (`str.drop st.s1`) and the output written
  so far (`st.out.take st.w`); `RmAdv` says how a loop moves both.
-/
import Mhd.Proofs.StrRmSpec
import Mhd.Proofs.StrTok

namespace Mhd.Str

/-- length of the longest common caseless prefix -/
def matchLen : Bytes → Bytes → Nat
  | x :: r, y :: t => if charsEqualCaseless x y then matchLen r t + 1 else 0
  | _, _ => 0

theorem matchLen_nil_right (r : Bytes) : matchLen r [] = 0 := by
  cases r <;> rfl

theorem matchLen_cons (x y : UInt8) (r t : Bytes) :
    matchLen (x :: r) (y :: t) = if charsEqualCaseless x y then matchLen r t + 1 else 0 := by
  rw [matchLen]

theorem matchLen_le (r t : Bytes) : matchLen r t ≤ r.length := by
  induction r generalizing t with
  | nil => exact Nat.zero_le _
  | cons x r' ih =>
    cases t with
    | nil => exact Nat.zero_le _
    | cons y t' =>
      rw [matchLen_cons]
      by_cases he : charsEqualCaseless x y = true
      · rw [if_pos he]; exact Nat.succ_le_succ (ih t')
      · rw [if_neg he]; exact Nat.zero_le _

theorem rmMatchStep_stop (str tok : Bytes) (a b : Nat) (h : ¬ (a < str.length ∧ tok.length > b)) :
    rmMatchStep str tok (a, b) = .ok (.inr (a, b)) := by
  simp only [rmMatchStep, h, if_false, pure_eq_ok]

theorem rmMatchStep_cons {str tok : Bytes} {a b : Nat} {x y : UInt8} {r t : Bytes} (hr : str.drop a = x :: r)
    (ht : tok.drop b = y :: t) :
    rmMatchStep str tok (a, b) = if charsEqualCaseless x y then .ok (.inl (a + 1, b + 1)) else .ok (.inr (a, b)) := by
  simp only [rmMatchStep, lt_of_drop hr, lt_of_drop ht, and_self, if_true, rd_of_drop hr, rd_of_drop ht,
    bind_ok', pure_eq_ok]

theorem rmMatch_go (str tok : Bytes) :
    ∀ (r t : Bytes) (a b n : Nat), str.drop a = r → tok.drop b = t → r.length < n →
      iter (rmMatchStep str tok) n (a, b) = .ok (a + matchLen r t, b + matchLen r t) := by
  intro r
  induction r with
  | nil =>
    intro t a b n hr ht hn
    obtain ⟨n', rfl⟩ := fuel_succ hn
    exact iter_inr n' (rmMatchStep_stop str tok a b (fun h => Nat.not_lt.mpr (List.drop_eq_nil_iff.mp hr) h.1))
  | cons x r' ih =>
    intro t a b n hr ht hn
    obtain ⟨n', rfl⟩ := fuel_succ hn
    cases t with
    | nil =>
      exact iter_inr n' (rmMatchStep_stop str tok a b (fun h => Nat.not_lt.mpr (List.drop_eq_nil_iff.mp ht) h.2))
    | cons y t' =>
      have hstep := rmMatchStep_cons hr ht
      rw [matchLen_cons]
      by_cases he : charsEqualCaseless x y = true
      · rw [if_pos he] at hstep ⊢
        rw [iter_inl n' hstep, ih t' (a + 1) (b + 1) n' (drop_succ_of_drop hr) (drop_succ_of_drop ht)
          (Nat.lt_of_succ_lt_succ hn), Nat.succ_add_eq_add_succ, Nat.succ_add_eq_add_succ]
      · rw [if_neg he] at hstep ⊢
        exact iter_inr n' hstep

theorem rmMatch_exact (str tok : Bytes) (s : Nat) (r : Bytes) (hr : str.drop s = r) :
    iter (rmMatchStep str tok) (str.length + 1) (s, 0) = .ok (s + matchLen r tok, matchLen r tok) := by
  have := rmMatch_go str tok r tok s 0 (str.length + 1) hr rfl (fuel_of_drop hr)
  rwa [Nat.zero_add] at this

theorem copyBytes_exact (src : Bytes) (r : Nat) (dst : Bytes) (w n : Nat)
    (hr : r + n ≤ src.length) (hw : w + n ≤ dst.length) :
    ∃ d, copyBytes src r dst w n = .ok d ∧ d.length = dst.length ∧
      d.take (w + n) = dst.take w ++ (src.drop r).take n := by
  induction n with
  | zero => exact ⟨dst, by simp [copyBytes], rfl, by simp⟩
  | succ n ih =>
    obtain ⟨d, hd, hl, ht⟩ := ih (Nat.le_of_lt hr) (Nat.le_of_lt hw)
    have h1 : r + n < src.length := hr
    have h2 : w + n < d.length := hl ▸ hw
    refine ⟨d.set (w + n) src[r + n], ?_, by rw [List.length_set]; exact hl, ?_⟩
    · unfold copyBytes at hd ⊢
      rw [List.range_succ, List.foldlM_append, hd]
      simp [List.foldlM, rd_lt h1, wr_ok _ h2]
    · have hn : n < (src.drop r).length := by
        rw [List.length_drop]; exact Nat.lt_sub_of_add_lt (Nat.add_comm r n ▸ h1)
      show (d.set (w + n) src[r + n]).take (w + n + 1) = _
      rw [take_set_succ _ _ _ h2, ht, List.append_assoc, List.take_add_one]
      simp [List.getElem?_eq_getElem hn]

/-- positions inside the input, write position inside the buffer, buffer size unchanged -/
def RmBnd (str : Bytes) (L : Nat) (st : RmSt) : Prop :=
  st.s1 ≤ str.length ∧ st.w ≤ L ∧ st.out.length = L

/-- `st'` is `st` after `d` has been appended to the output, with `u'` the input still to be read -/
def RmNext (str : Bytes) (L : Nat) (st : RmSt) (u' d : Bytes) (st' : RmSt) : Prop :=
  RmBnd str L st' ∧ str.drop st'.s1 = u' ∧ st'.w = st.w + d.length ∧
    st'.out.take st'.w = st.out.take st.w ++ d ∧ st'.removed = st.removed

/-- result of a copying loop: `none` when `d` does not fit into the buffer -/
def RmAdv (str : Bytes) (L : Nat) (st : RmSt) (u' d : Bytes) : Option RmSt → Prop
  | none => L < st.w + d.length
  | some st' => RmNext str L st u' d st'

theorem RmNext.refl {str : Bytes} {L : Nat} {st : RmSt} {u : Bytes} (hb : RmBnd str L st) (hu : str.drop st.s1 = u) :
    RmNext str L st u [] st :=
  ⟨hb, hu, rfl, (List.append_nil _).symm, rfl⟩

theorem RmNext.move {str : Bytes} {L : Nat} {st : RmSt} {u' : Bytes} {j : Nat} (hb : RmBnd str L st)
    (hj : j ≤ str.length) (hu : str.drop j = u') : RmNext str L st u' [] { st with s1 := j } :=
  ⟨⟨hj, hb.2⟩, hu, rfl, (List.append_nil _).symm, rfl⟩

theorem RmNext.put {str : Bytes} {L : Nat} {st : RmSt} {u' : Bytes} {j : Nat} (c : UInt8) (hb : RmBnd str L st)
    (hw : st.w < st.out.length) (hj : j ≤ str.length) (hu : str.drop j = u') :
    RmNext str L st u' [c] { st with s1 := j, w := st.w + 1, out := st.out.set st.w c } :=
  ⟨⟨hj, Nat.succ_le_of_lt (hb.2.2 ▸ hw), by rw [List.length_set]; exact hb.2.2⟩, hu, rfl, take_set_succ _ _ _ hw, rfl⟩

theorem RmNext.trans {str : Bytes} {L : Nat} {st st1 st2 : RmSt} {u1 d1 u2 d2 : Bytes}
    (h1 : RmNext str L st u1 d1 st1) (h2 : RmNext str L st1 u2 d2 st2) : RmNext str L st u2 (d1 ++ d2) st2 := by
  obtain ⟨_, _, a3, a4, a5⟩ := h1
  obtain ⟨b1, b2, b3, b4, b5⟩ := h2
  exact ⟨b1, b2, by rw [b3, a3, List.length_append, Nat.add_assoc], by rw [b4, a4, List.append_assoc], b5.trans a5⟩

theorem RmAdv.trans {str : Bytes} {L : Nat} {st st1 : RmSt} {u1 d1 u2 d2 : Bytes} {res : Option RmSt}
    (h1 : RmNext str L st u1 d1 st1) (h2 : RmAdv str L st1 u2 d2 res) : RmAdv str L st u2 (d1 ++ d2) res := by
  cases res with
  | none =>
    show L < st.w + (d1 ++ d2).length
    rw [List.length_append, ← Nat.add_assoc, ← h1.2.2.1]; exact h2
  | some st2 => exact RmNext.trans h1 h2

theorem RmAdv.none_append {str : Bytes} {L : Nat} {st : RmSt} {u1 d1 : Bytes} (u2 d2 : Bytes)
    (h : RmAdv str L st u1 d1 none) : RmAdv str L st u2 (d1 ++ d2) none := by
  show L < st.w + (d1 ++ d2).length
  rw [List.length_append, ← Nat.add_assoc]
  exact Nat.lt_of_lt_of_le h (Nat.le_add_right _ _)

theorem RmAdv.full {str : Bytes} {L : Nat} {st : RmSt} (hb : RmBnd str L st) (hfull : st.out.length ≤ st.w)
    (u : Bytes) (c : UInt8) (d : Bytes) : RmAdv str L st u (c :: d) none :=
  Nat.lt_succ_of_le (Nat.le_trans (hb.2.2 ▸ hfull) (Nat.le_add_right _ _))

/-- a character of a word: no comma, space or tab -/
def isWordB (c : UInt8) : Bool := notComma c && notWsB c

theorem isWordB_iff (c : UInt8) : isWordB c = true ↔ (c ≠ 0x2c ∧ c ≠ 0x20 ∧ c ≠ 0x09) := by
  simp [isWordB, notComma, notWsB, isWs]

theorem isWordB_notComma {x : UInt8} (h : isWordB x = true) : notComma x = true :=
  (Bool.and_eq_true _ _ ▸ h).1

theorem isWordB_notWs {x : UInt8} (h : isWordB x = true) : isWs x = false :=
  (notWsB_true_iff x).mp (Bool.and_eq_true _ _ ▸ h).2

theorem rmCopyWord_go (str : Bytes) (L : Nat) :
    ∀ (u : Bytes) (st : RmSt) (n : Nat), RmBnd str L st → str.drop st.s1 = u → u.length < n →
      ∃ res, iter (rmCopyWordStep str) n st = .ok res ∧
        RmAdv str L st (u.dropWhile isWordB) (u.takeWhile isWordB) res := by
  intro u
  induction u with
  | nil =>
    intro st n hb hu hn
    obtain ⟨n', rfl⟩ := fuel_succ hn
    have : ¬ st.s1 < str.length := Nat.not_lt.mpr (List.drop_eq_nil_iff.mp hu)
    exact ⟨some st, iter_inr n' (by simp only [rmCopyWordStep, this, if_false, pure_eq_ok]), RmNext.refl hb hu⟩
  | cons x t ih =>
    intro st n hb hu hn
    obtain ⟨n', rfl⟩ := fuel_succ hn
    have hsl := lt_of_drop hu
    by_cases hword : isWordB x = true
    · have hc := (isWordB_iff x).mp hword
      rw [List.takeWhile_cons_of_pos hword, List.dropWhile_cons_of_pos hword]
      by_cases hfull : st.out.length ≤ st.w
      · exact ⟨none, iter_inr n' (by
          simp only [rmCopyWordStep, hsl, if_true, rd_of_drop hu, bind_ok', hc, ne_eq, not_false_eq_true, and_self,
            hfull, pure_eq_ok]), RmAdv.full hb hfull _ x _⟩
      · have hwl : st.w < st.out.length := Nat.lt_of_not_le hfull
        have hput := RmNext.put x hb hwl hsl (drop_succ_of_drop hu)
        obtain ⟨res, hres, hpost⟩ := ih _ n' hput.1 hput.2.1 (Nat.lt_of_succ_lt_succ hn)
        have hstep : rmCopyWordStep str st =
            .ok (.inl { st with s1 := st.s1 + 1, w := st.w + 1, out := st.out.set st.w x }) := by
          simp only [rmCopyWordStep, hsl, if_true, rd_of_drop hu, bind_ok', hc, ne_eq, not_false_eq_true, and_self,
            hfull, if_false, wr_ok _ hwl, pure_eq_ok]
        exact ⟨res, by rw [iter_inl n' hstep]; exact hres, RmAdv.trans hput hpost⟩
    · rw [List.takeWhile_cons_of_neg hword, List.dropWhile_cons_of_neg hword]
      have hnc : ¬ (x ≠ 0x2c ∧ x ≠ 0x20 ∧ x ≠ 0x09) := fun h => hword ((isWordB_iff x).mpr h)
      exact ⟨some st, iter_inr n' (by
        simp only [rmCopyWordStep, hsl, if_true, rd_of_drop hu, bind_ok', hnc, if_false, pure_eq_ok]),
        RmNext.refl hb hu⟩

theorem elem_split (u : Bytes) :
    u.takeWhile isWordB = (headElem u).takeWhile notWsB ∧
    (u.dropWhile isWordB).takeWhile isWs = ((headElem u).dropWhile notWsB).takeWhile isWs ∧
    (u.dropWhile isWordB).dropWhile isWs = ((headElem u).dropWhile notWsB).dropWhile isWs ++ restElems u ∧
    headElem ((u.dropWhile isWordB).dropWhile isWs) = ((headElem u).dropWhile notWsB).dropWhile isWs ∧
    restElems ((u.dropWhile isWordB).dropWhile isWs) = restElems u := by
  have hstopW : StopsAt isWs (restElems u) := restElems_stops isWs (by decide) u
  have hstopC : StopsAt notComma (restElems u) := restElems_stops notComma (by decide) u
  have hd : u.dropWhile isWordB = (headElem u).dropWhile notWsB ++ restElems u := by
    exact dropWhile_and notComma notWsB u
  have hnc : ∀ x ∈ ((headElem u).dropWhile notWsB).dropWhile isWs, notComma x = true :=
    fun x hx => headElem_notComma u x (List.dropWhile_subset _ (List.dropWhile_subset _ hx))
  refine ⟨takeWhile_and notComma notWsB u, ?_, ?_, ?_, ?_⟩
  · rw [hd, takeWhile_append_stop _ _ _ hstopW]
  · rw [hd, dropWhile_append_stop _ _ _ hstopW]
  · rw [hd, dropWhile_append_stop _ _ _ hstopW]
    exact takeWhile_append_all notComma _ _ hnc hstopC
  · rw [hd, dropWhile_append_stop _ _ _ hstopW, restElems_append_word _ _ hnc]
    exact dropWhile_stop hstopC

theorem headElem_isEmpty_cons (x : UInt8) (u : Bytes) : (headElem (x :: u)).isEmpty = (x == 0x2c) := by
  by_cases hc : x = 0x2c
  · subst hc; rfl
  · rw [headElem_cons x u hc]; simp [hc]

/-- the loop test `pr < len && ',' != b[pr]`, with `u` the string from `pr` to `len` -/
theorem peek_notComma_len (b : Bytes) (j len : Nat) (u junk : Bytes) (hd : b.drop j = u ++ junk)
    (hl : j + u.length = len) :
    (if j < len then (do let c ← rd b j; .ok (c != 0x2c)) else .ok false : M Bool) =
      .ok (!(headElem u).isEmpty) := by
  cases u with
  | nil => rw [if_neg (hl ▸ Nat.lt_irrefl j)]; rfl
  | cons x u' =>
    rw [if_pos (hl ▸ Nat.lt_add_of_pos_right (Nat.succ_pos _)), rd_of_drop hd, bind_ok', headElem_isEmpty_cons]
    rfl

/-- the test `len == pr || ',' == b[pr]`, with `u` the string from `pr` to `len` -/
theorem peek_isEnd_len (b : Bytes) (j len : Nat) (u junk : Bytes) (hd : b.drop j = u ++ junk)
    (hl : j + u.length = len) :
    (if len = j then pure true else do
        let c ← rd b j
        pure (c == 0x2c) : M Bool) = .ok (headElem u).isEmpty := by
  cases u with
  | nil => rw [if_pos (show len = j from hl.symm)]; rfl
  | cons x u' =>
    rw [if_neg (hl ▸ Nat.ne_of_gt (Nat.lt_add_of_pos_right (Nat.succ_pos _))), rd_of_drop hd, bind_ok', pure_eq_ok,
      headElem_isEmpty_cons]

theorem peek_notComma (str : Bytes) (j : Nat) :
    (if j < str.length then do
        let c ← rd str j
        pure (c != 0x2c)
      else pure false : M Bool) = .ok (!(headElem (str.drop j)).isEmpty) := by
  by_cases hj : j ≤ str.length
  · exact peek_notComma_len str j str.length (str.drop j) [] (List.append_nil _).symm (length_of_drop hj rfl)
  · rw [if_neg (fun h => hj (Nat.le_of_lt h)), List.drop_eq_nil_of_le (Nat.le_of_not_le hj)]; rfl

theorem peek_isEnd (str : Bytes) (j : Nat) (hj : j ≤ str.length) :
    (if j = str.length then pure true else do
        let c ← rd str j
        pure (c == 0x2c) : M Bool) = .ok (headElem (str.drop j)).isEmpty := by
  have := peek_isEnd_len str j str.length (str.drop j) [] (List.append_nil _).symm (length_of_drop hj rfl)
  by_cases he : j = str.length
  · rw [if_pos he]; rw [if_pos he.symm] at this; exact this
  · rw [if_neg he]; rw [if_neg (Ne.symm he)] at this; exact this

/-- behind a word: skip spaces and tabs; if the element goes on, emit one space -/
def rmAfterWord (str : Bytes) (st : RmSt) : M (RmSt ⊕ Option RmSt) := do
  let s1 ← skipN str isWs st.s1
  let more ← (if s1 < str.length then do
                let c ← rd str s1
                pure (c != 0x2c)
              else pure false : M Bool)
  if more then
    if st.out.length ≤ st.w then return .inr none
    let o ← wr st.out st.w 0x20
    return .inl { st with s1 := s1, w := st.w + 1, out := o }
  else return .inl { st with s1 := s1 }

theorem rmCopyRestStep_eq (str : Bytes) (st : RmSt) :
    rmCopyRestStep str st =
      if !(headElem (str.drop st.s1)).isEmpty then do
        match ← iter (rmCopyWordStep str) (str.length + 1) st with
        | none => return .inr none
        | some st => rmAfterWord str st
      else .ok (.inr (some st)) := by
  unfold rmCopyRestStep rmAfterWord
  rw [peek_notComma str st.s1]; rfl

theorem rmAfterWord_spec (str : Bytes) (L : Nat) (st : RmSt) (hb : RmBnd str L st) (v : Bytes)
    (hv : str.drop st.s1 = v) :
    (∃ st2, rmAfterWord str st = .ok (.inl st2) ∧
        RmNext str L st (v.dropWhile isWs) (if headElem (v.dropWhile isWs) = [] then [] else [0x20]) st2) ∨
    (headElem (v.dropWhile isWs) ≠ [] ∧ rmAfterWord str st = .ok (.inr none) ∧
        RmAdv str L st (v.dropWhile isWs) [0x20] none) := by
  obtain ⟨hk1, hk2, hk3⟩ := skipN_exact str isWs st.s1 v hb.1 hv
  unfold rmAfterWord
  rw [hk1, bind_ok', peek_notComma str _, hk2, bind_ok']
  by_cases hE : headElem (v.dropWhile isWs) = []
  · rw [hE, if_pos rfl]
    exact Or.inl ⟨_, rfl, RmNext.move hb hk3 hk2⟩
  · rw [List.isEmpty_eq_false_iff.mpr hE, if_pos (by rfl), if_neg hE]
    by_cases hfull : st.out.length ≤ st.w
    · rw [if_pos hfull]
      exact Or.inr ⟨hE, rfl, RmAdv.full hb hfull _ _ _⟩
    · have hwl : st.w < st.out.length := Nat.lt_of_not_le hfull
      rw [if_neg hfull, wr_ok _ hwl]
      exact Or.inl ⟨_, rfl, RmNext.put 0x20 hb hwl hk3 hk2⟩

theorem rmCopyRest_go (str : Bytes) (L : Nat) :
    ∀ (m : Nat) (st : RmSt) (n : Nat), (headElem (str.drop st.s1)).length < m → m ≤ n → RmBnd str L st →
      ∃ res, iter (rmCopyRestStep str) n st = .ok res ∧
        RmAdv str L st (restElems (str.drop st.s1)) (restOutput (headElem (str.drop st.s1))) res := by
  intro m
  induction m with
  | zero => intro st n h; exact absurd h (Nat.not_lt_zero _)
  | succ m ih =>
    intro st n hE hn hb
    obtain ⟨n', rfl⟩ := fuel_succ hn
    have hstep := rmCopyRestStep_eq str st
    generalize hu : str.drop st.s1 = u at hE hstep ⊢
    by_cases hEe : headElem u = []
    · rw [hEe] at hstep
      refine ⟨some st, iter_inr n' hstep, ?_⟩
      rw [hEe, restOutput_nil, show restElems u = u from dropWhile_stop (headElem_nil_stops hEe)]
      exact RmNext.refl hb hu
    · rw [List.isEmpty_eq_false_iff.mpr hEe, if_pos (by rfl)] at hstep
      obtain ⟨hs1, _, hs3, hs4, hs5⟩ := elem_split u
      have hshort := rest_shorter (headElem u) hEe
      rw [restOutput_rec (headElem u)]
      generalize ((headElem u).dropWhile notWsB).dropWhile isWs = E2 at hs3 hs4 hshort ⊢
      obtain ⟨res1, hres1, hw1⟩ := rmCopyWord_go str L u st (str.length + 1) hb hu (fuel_of_drop hu)
      rw [hs1] at hw1
      rw [hres1, bind_ok'] at hstep
      cases res1 with
      | none => exact ⟨none, iter_inr n' hstep, RmAdv.none_append _ _ hw1⟩
      | some st1 =>
        rcases rmAfterWord_spec str L st1 hw1.1 _ hw1.2.1 with ⟨st2, hst2, hn2⟩ | ⟨hE2n, hst2, hn2⟩
        · rw [hs4] at hn2
          rw [hs3] at hn2
          have hd2 := hn2.2.1
          obtain ⟨res, hres, hpost⟩ := ih st2 n'
            (by rw [hd2, ← hs3, hs4]; exact Nat.lt_of_lt_of_le hshort (Nat.le_of_lt_succ hE))
            (Nat.le_of_succ_le_succ hn) hn2.1
          rw [hd2, ← hs3, hs4, hs5] at hpost
          refine ⟨res, by rw [iter_inl n' (hstep.trans hst2)]; exact hres, ?_⟩
          have := RmAdv.trans (RmNext.trans hw1 hn2) hpost
          rwa [List.append_assoc] at this
        · refine ⟨none, iter_inr n' (hstep.trans hst2), ?_⟩
          rw [hs4] at hE2n
          rw [if_neg hE2n, ← List.append_assoc]
          exact RmAdv.none_append _ _ (RmAdv.trans hw1 hn2)

end Mhd.Str
