import Mhd.Proofs.ReplyMain
namespace Mhd.Reply
open Mhd.ReplyStr Mhd.Resp
open Mhd.Http (FieldOK NameOK NoCRLF normField ciEq lower isOWS)

def managed (n : Bytes) : Bool :=
  nameIs n sConnection || nameIs n sTransferEncoding || nameIs n sContentLength || nameIs n sDate

theorem lower_sDate : sDate.map lower = Mhd.Http.nDate := by decide

theorem managed_bridge (n : Bytes) : Mhd.Http.managedName n = managed n := by
  unfold Mhd.Http.managedName managed
  rw [Mhd.Bridge.nameIs_iff n _ _ lower_sConn, Mhd.Bridge.nameIs_iff n _ _ lower_sTE,
      Mhd.Bridge.nameIs_iff n _ _ lower_sCL, Mhd.Bridge.nameIs_iff n _ _ lower_sDate]

def userHdrs (hs : List Hdr) : List Field :=
  (hs.filter fun h => h.kind == .header && ! managed h.name).map fun h => ⟨h.name, h.value⟩

theorem userHdrs_cons (h : Hdr) (rest : List Hdr) :
    userHdrs (h :: rest) =
      if (h.kind == .header && ! managed h.name) = true then ⟨h.name, h.value⟩ :: userHdrs rest else userHdrs rest := by
  unfold userHdrs
  rw [List.filter_cons]
  split <;> rfl

/-- among the entries sent, the unmanaged ones are the unmanaged header-kind entries: the filters catch managed names only -/
theorem sent_unmanaged (st : UH) (hs : List Hdr) :
    ((hs.filter st.sends).map fun h => (⟨h.name, h.value⟩ : Field)).filter (fun f => ! managed f.name) = userHdrs hs := by
  unfold userHdrs
  rw [List.filter_map, List.filter_filter]
  refine congrArg _ (List.filter_congr fun h _ => ?_)
  show (!managed h.name && st.sends h) = (h.kind == .header && !managed h.name)
  unfold UH.sends managed
  cases h.kind == .header <;> cases nameIs h.name sTransferEncoding <;> cases nameIs h.name sContentLength <;> simp

theorem managed_conn : managed sConnection = true := by decide
theorem managed_te : managed sTransferEncoding = true := by decide
theorem managed_cl : managed sContentLength = true := by decide
theorem managed_date : managed sDate = true := by decide

theorem allFields_unmanaged (c : Conn) (r : Resp) (date : Option Bytes) (ka : KA) (props : Props) (hinv : Inv r) :
    (allFields c r date ka props).filter (fun f => ! managed f.name) = userHdrs r.hdrs := by
  -- the automatic fields all carry managed names
  have hd : (dateFields c r date).filter (fun f => ! managed f.name) = [] := by
    rw [List.filter_eq_nil_iff]; intro f hf
    obtain ⟨d, _, rfl⟩ := mem_dateFields hf
    simp [managed_date]
  have hc : (connFields c r ka).filter (fun f => ! managed f.name) = [] := by
    rw [List.filter_eq_nil_iff]; intro f hf
    rcases (mem_connFields hf).2 with ⟨_, rfl⟩ | ⟨_, rfl⟩ <;> simp [managed_conn]
  have hb : (bodyFields r props).filter (fun f => ! managed f.name) = [] := by
    rw [List.filter_eq_nil_iff]; intro f hf
    rcases mem_bodyFields hf with rfl | rfl
    · simp [managed_te]
    · simp [managed_cl]
  unfold allFields
  rw [List.filter_append, List.filter_append, List.filter_append, hd, hc, hb, List.nil_append, List.nil_append,
    List.append_nil]
  rcases userFields_split c r ka props hinv with ⟨v, rest, _, hh, _, e⟩ | ⟨_, _, e⟩ <;> rw [e]
  · rw [List.filter_cons_of_neg (by simp [managed_conn]), sent_unmanaged, hh, userHdrs_cons, if_neg (by simp [managed_conn])]
  · exact sent_unmanaged _ _

theorem parsed_unmanaged (F : List Field) :
    (((F.map toHttp).map normField).filter fun f => ! Mhd.Http.managedName f.name) =
      ((F.filter fun f => ! managed f.name).map toHttp).map normField := by
  simp only [managed_bridge]; exact filter_parsed (! managed ·) F

theorem closesAfter_iff (c : Conn) (r : Resp) (code : Nat) (hu : r.upgrade = false) :
    closesAfter c (setupReplyProperties c r code).1 = true ↔ (setupReplyProperties c r code).1 = .mustClose := by
  unfold closesAfter
  rcases setup_ka_noUpgrade c r code hu with h | ⟨h1, h2, h3, _⟩
  · simp [h]
  · simp [h1, h2, h3]
end Mhd.Reply
