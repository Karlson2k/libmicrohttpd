/-
  The sending side of a fragmented message — the application calls
  MHD_websocket_encode_text / _binary with FRAGMENTATION_FIRST / FOLLOWING / LAST and
  MHD_websocket_encode_ping / _pong in between, and sends the frames it gets one after the other.
  What goes over the wire is the RFC 6455 framing `wireOf` of each payload.
-/
import Mhd.Proofs.WSFragMsg
namespace Mhd.WS

/-- the sending application: its stream, its `utf8_step` variable, what it has sent so far -/
structure Tx where
  ws : WS
  u8 : Nat
  wire : List UInt8
  deriving Repr, DecidableEq

/-- `if (MHD_WEBSOCKET_STATUS_OK == ret) send (frame, frame_len)` -/
def txAdd (tx : Tx) (r : EncRes) (u : Nat) : Option Tx :=
  if r.st = 0 ∧ r.fault = false then
    match r.frame with
    | some f => some { ws := r.ws, u8 := u, wire := tx.wire ++ f.take r.len }
    | none => none
  else none

/-- `MHD_websocket_encode_text (ws, p, |p|, frag, &frame, &len, &utf8_step)` for a text
    message (`op = 1`), `MHD_websocket_encode_binary (ws, p, |p|, frag, &frame, &len)` otherwise -/
def sendData (op : Nat) (tx : Tx) (p : List UInt8) (frag : Nat) : Option Tx :=
  if op = 1 then
    let r := encodeText tx.ws p frag (some tx.u8)
    txAdd tx r.1 (r.2.getD 0)
  else txAdd tx (encodeBinary tx.ws p frag) tx.u8

/-- one step between the first and the last fragment: a FOLLOWING fragment, or
    `MHD_websocket_encode_ping` / `_pong` -/
def sendMid (op : Nat) (tx : Tx) : Mid → Option Tx
  | .frag p => sendData op tx p 2
  | .ctrl c p => txAdd tx (encodePingPong tx.ws p c) tx.u8

def sendMids (op : Nat) : Tx → List Mid → Option Tx
  | tx, [] => some tx
  | tx, x :: r => (sendMid op tx x).bind fun tx' => sendMids op tx' r

/-- a whole message: FIRST fragment `p0`, the steps `mids`, LAST fragment `pn` -/
def sendMessage (wsS : WS) (op : Nat) (p0 : List UInt8) (mids : List Mid) (pn : List UInt8) : Option Tx :=
  (sendData op { ws := wsS, u8 := 0, wire := [] } p0 1).bind fun t1 =>
    (sendMids op t1 mids).bind fun t2 => sendData op t2 pn 3

/-- the frame for `p` fits the sender's allocation limit -/
def SendFits (wsS : WS) (p : List UInt8) : Prop := overheadSize wsS p.length + p.length + 1 ≤ wsS.allocLimit

/-- the sender's configuration (role, allocation limit) is that of `wsS` -/
def TxCfg (wsS : WS) (tx : Tx) : Prop := tx.ws.flags = wsS.flags ∧ tx.ws.allocLimit = wsS.allocLimit

theorem TxCfg.client {wsS : WS} {tx : Tx} (h : TxCfg wsS tx) : tx.ws.isClient = wsS.isClient := by
  unfold WS.isClient; rw [h.1]

theorem TxCfg.fits {wsS : WS} {tx : Tx} (h : TxCfg wsS tx) {p : List UInt8} (hf : SendFits wsS p) : SendFits tx.ws p := by
  unfold SendFits overheadSize at *
  rw [h.client, h.2]; exact hf

theorem maskFor_cfg (ws : WS) : (maskFor ws).1.flags = ws.flags ∧ (maskFor ws).1.allocLimit = ws.allocLimit := by
  obtain ⟨r, hr⟩ := maskFor_ws ws
  rw [hr]; exact ⟨rfl, rfl⟩

theorem txAdd_frame (wsS : WS) (tx : Tx) (hc : TxCfg wsS tx) (b0 : UInt8) (p : List UInt8) (u : Nat)
    (hfit : SendFits wsS p) :
    ∃ (k : Key) (tx' : Tx),
      txAdd tx (encodeFrame tx.ws b0 p.length (fun mask => copyPayload p mask 0)) u = some tx' ∧
      tx'.wire = tx.wire ++ wireOf wsS.isClient b0 p k ∧ tx'.u8 = u ∧ TxCfg wsS tx' := by
  obtain ⟨k, he, hl⟩ := encodeFrame_full tx.ws b0 p.length (fun mask => copyPayload p mask 0)
    (fun m => copyPayload_length _ _ _) (hc.fits hfit)
  refine ⟨k, Tx.mk (maskFor tx.ws).1 u (tx.wire ++
      List.take (overheadSize tx.ws p.length + p.length)
        (frameBytes tx.ws.isClient b0 p.length (keyOf tx.ws.isClient k) (copyPayload p (keyOf tx.ws.isClient k) 0) ++ [0])),
    ?_, ?_, rfl, ?_⟩
  · rw [he]
    unfold txAdd
    simp only [and_self, if_true]
  · simp only []
    rw [← hl, List.take_left, hc.client]
    rfl
  · obtain ⟨a, b⟩ := maskFor_cfg tx.ws
    exact ⟨a.trans hc.1, b.trans hc.2⟩

/-- first byte of a data frame by fragmentation parameter -/
def fragB0 (op frag : Nat) : UInt8 := if frag = 1 then UInt8.ofNat op else if frag = 2 then 0x00 else 0x80

/-- sending one fragment (`frag` = FIRST 1 / FOLLOWING 2 / LAST 3) of a text or binary message;
    the application's `utf8_step` variable is 0 before the first fragment -/
theorem sendData_ok (wsS : WS) (hAS : wsS.allocLimit < 2 ^ 63) (op : Nat) (hop : op = 1 ∨ op = 2) (tx : Tx)
    (hc : TxCfg wsS tx) (p : List UInt8) (frag : Nat) (hfrag : frag = 1 ∨ frag = 2 ∨ frag = 3) (hfit : SendFits wsS p)
    (hfirst : frag = 1 → tx.u8 = 0) (u1 : Nat) (hu : U8 op p tx.u8 u1) :
    ∃ (k : Key) (tx' : Tx), sendData op tx p frag = some tx' ∧
      tx'.wire = tx.wire ++ wireOf wsS.isClient (fragB0 op frag) p k ∧ tx'.u8 = u1 ∧ TxCfg wsS tx' := by
  have hlen : ¬ p.length > 0x7FFFFFFFFFFFFFFF := by unfold SendFits at hfit; omega
  have hed : encodeData tx.ws p frag op =
      encodeFrame tx.ws (fragB0 op frag) p.length (fun mask => copyPayload p mask 0) := by
    unfold encodeData fragB0
    rcases hfrag with h | h | h <;> subst h <;> simp
  unfold sendData
  rcases hop with h1 | h2
  · subst h1
    have hck := hu.1 rfl
    have het : encodeText tx.ws p frag (some tx.u8) = (encodeData tx.ws p frag 1, some u1) := by
      unfold encodeText
      by_cases hf1 : frag = 1
      · rw [hfirst hf1] at hck
        subst hf1
        simp [hlen, hck]
      · simp [show ¬ frag > 3 by omega, show frag ≠ 0 by omega, hf1, hlen, hck]
    rw [if_pos rfl, het, hed]
    exact txAdd_frame wsS tx hc _ p u1 hfit
  · subst h2
    have heb : encodeBinary tx.ws p frag = encodeData tx.ws p frag 2 := by
      unfold encodeBinary
      rw [if_neg (by omega), if_neg hlen]
    rw [if_neg (by decide), heb, hed, ← hu.2 (by decide)]
    exact txAdd_frame wsS tx hc _ p u1 hfit

/-- side conditions on one step between first and last fragment, sender's side -/
def SendOK (wsS : WS) : Mid → Prop
  | .frag p => SendFits wsS p
  | .ctrl c p => (c = 9 ∨ c = 10) ∧ p.length ≤ 125 ∧ SendFits wsS p

theorem sendMids_ok (wsS : WS) (hAS : wsS.allocLimit < 2 ^ 63) (op : Nat) (hop : op = 1 ∨ op = 2) (mids : List Mid) :
    ∀ (tx : Tx) (u' : Nat), TxCfg wsS tx → (∀ x ∈ mids, SendOK wsS x) → U8 op (midData mids) tx.u8 u' →
      ∃ (ks : List (Mid × Key)) (tx' : Tx), ks.map Prod.fst = mids ∧ sendMids op tx mids = some tx' ∧
        tx'.wire = tx.wire ++ midWire wsS.isClient ks ∧ tx'.u8 = u' ∧ TxCfg wsS tx' := by
  induction mids with
  | nil =>
    intro tx u' hc _ hu
    exact ⟨[], tx, rfl, rfl, (List.append_nil _).symm, hu.nil.symm, hc⟩
  | cons x r ih =>
    intro tx u' hc hok hu
    have hok' : ∀ y ∈ r, SendOK wsS y := fun y hy => hok y (List.mem_cons_of_mem _ hy)
    cases x with
    | frag p =>
      obtain ⟨u1, hu1, hu2⟩ := U8.split (a := p) hu
      obtain ⟨k, tx1, hs1, hw1, rfl, hc1⟩ := sendData_ok wsS hAS op hop tx hc p 2 (.inr (.inl rfl))
        (hok (.frag p) (List.mem_cons_self ..)) (fun h => absurd h (by decide)) u1 hu1
      obtain ⟨ks, tx2, hk2, hs2, hw2, hu2, hc2⟩ := ih tx1 u' hc1 hok' hu2
      refine ⟨(.frag p, k) :: ks, tx2, by rw [List.map_cons, hk2], ?_, ?_, hu2, hc2⟩
      · simp only [sendMids, sendMid, hs1, Option.bind_some, hs2]
      · rw [hw2, hw1, List.append_assoc]; rfl
    | ctrl c p =>
      obtain ⟨hc9, hn, hfit⟩ : SendOK wsS (.ctrl c p) := hok (.ctrl c p) (List.mem_cons_self ..)
      obtain ⟨k, tx1, hs1, hw1, hu1, hc1⟩ := txAdd_frame wsS tx hc (UInt8.ofNat (0x80 + c)) p tx.u8 hfit
      rw [← encodePingPong_eq tx.ws p c hn] at hs1
      obtain ⟨ks, tx2, hk2, hs2, hw2, hu2, hc2⟩ := ih tx1 u' hc1 hok' (hu1.symm ▸ hu)
      refine ⟨(.ctrl c p, k) :: ks, tx2, by rw [List.map_cons, hk2], ?_, ?_, hu2, hc2⟩
      · simp only [sendMids, sendMid, hs1, Option.bind_some, hs2]
      · rw [hw2, hw1, List.append_assoc]; rfl

/-- **the sender of a fragmented message**: all encoder calls succeed and what is sent is the
    RFC 6455 framing of first fragment, steps and last fragment, masked (with keys from the
    sender's rng) iff the sender is a client -/
theorem sendMessage_ok (wsS : WS) (hAS : wsS.allocLimit < 2 ^ 63) (op : Nat) (hop : op = 1 ∨ op = 2)
    (p0 : List UInt8) (mids : List Mid) (pn : List UInt8)
    (h0 : SendFits wsS p0) (hm : ∀ x ∈ mids, SendOK wsS x) (hn : SendFits wsS pn)
    (hutf : op = 1 → checkUtf8 (p0 ++ midData mids ++ pn) 0 0 = .ok 0) :
    ∃ (k0 : Key) (ks : List (Mid × Key)) (kn : Key) (tx : Tx), ks.map Prod.fst = mids ∧
      sendMessage wsS op p0 mids pn = some tx ∧
      tx.wire = wireOf wsS.isClient (UInt8.ofNat op) p0 k0 ++ midWire wsS.isClient ks ++ wireOf wsS.isClient 0x80 pn kn := by
  obtain ⟨u2, hu12, hun⟩ := U8.split (t := op) ⟨hutf, fun _ => rfl⟩
  obtain ⟨u1, hu0, hum⟩ := hu12.split
  obtain ⟨k0, t1, hs1, hw1, rfl, hc1⟩ := sendData_ok wsS hAS op hop { ws := wsS, u8 := 0, wire := [] } ⟨rfl, rfl⟩ p0 1
    (.inl rfl) h0 (fun _ => rfl) u1 hu0
  obtain ⟨ks, t2, hk2, hs2, hw2, rfl, hc2⟩ := sendMids_ok wsS hAS op hop mids t1 u2 hc1 hm hum
  obtain ⟨kn, t3, hs3, hw3, _, _⟩ := sendData_ok wsS hAS op hop t2 hc2 pn 3 (.inr (.inr rfl)) hn
    (fun h => absurd h (by decide)) 0 hun
  refine ⟨k0, ks, kn, t3, hk2, ?_, ?_⟩
  · unfold sendMessage
    simp only [hs1, Option.bind_some, hs2, hs3]
  · rw [hw3, hw2, hw1]; rfl

end Mhd.WS
