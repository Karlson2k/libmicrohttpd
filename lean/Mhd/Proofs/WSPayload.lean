/-
  C19: decode_payload_complete keeps the invariant; the payload case of the
  decoder in closed form (what is written where, what the UTF-8 validator is run on), and from
  that: it keeps the invariant, never faults, and makes progress.
-/
import Mhd.Proofs.WSInv
namespace Mhd.WS

theorem givenUtf8_bounds (s : Nat) (h1 : s ≠ 0) (h2 : s ≤ 10) : 1 ≤ givenUtf8 s ∧ givenUtf8 s ≤ 3 := by
  have : s = 1 ∨ s = 2 ∨ s = 3 ∨ s = 4 ∨ s = 5 ∨ s = 6 ∨ s = 7 ∨ s = 8 ∨ s = 9 ∨ s = 10 := by omega
  rcases this with h | h | h | h | h | h | h | h | h | h <;> subst h <;> decide

theorem plOK_of {buf : Option (List UInt8)} {n : Nat}
    (h : match buf with
         | none => n = 0
         | some b => b.length = n + 1) : PlOK buf n := by
  cases buf with
  | none => exact h
  | some b => show n < b.length; rw [show b.length = n + 1 from h]; omega

theorem payloadComplete_ok {ws : WS} (h : Inv ws) (hv : ws.validity ≠ 0) (hs : ws.step = 17 ∨ ws.step = 18)
    (he : ws.payloadSize = ws.payloadIndex) :
    R.HC (fun ws' => ws'.step = 0) (payloadComplete false ws) := by
  obtain ⟨h0, hh0, hok⟩ := h.h0 (by omega) (by omega)
  have hdb := h.dbuf
  have hcarry := h.carry
  have hdsz := h.dsz
  unfold payloadComplete
  simp only [hh0, Bool.false_eq_true, not_false_eq_true, true_and]
  refine iteInduction (fun hfin => iteInduction (fun h17 => iteInduction (fun _ => HC_err _ _ _ _) (fun hnu => ?_))
    (fun h17 => iteInduction (fun _ => HC_err _ _ _ _) (fun _ => ?_))) (fun hfin => ?_)
  · refine ⟨fun _ => h.toStart none ws.ctrlBuf 0 0 0 rfl (by omega) (fun _ => ?_) (by omega), rfl, plOK_of hdb,
      fun _ => ⟨rfl, hv⟩⟩
    by_cases hd : ws.dataType = 1
    · exact Decidable.not_not.mp (fun hu => hnu ⟨hd, hu⟩)
    · exact h.u8a hd
  · have h18 : ws.step = 18 := hs.resolve_left h17
    refine ⟨fun _ => h.toStart ws.dataBuf none ws.dataStart ws.dataSize ws.dataType hdb h.dsz h.u8a ?_, rfl,
      plOK_of (h.cbuf h18), fun _ => ⟨rfl, hv⟩⟩
    intro hd; have := hcarry hd; rwa [if_neg h17] at this
  · -- control frames are never fragmented (`OkOp`), so this is a data frame
    have h17 : ws.step = 17 := by
      rcases hs with h17 | h18
      · exact h17
      · exact absurd (hok.2 (h.h0c h18 h0 hh0)) hfin
    have hdst := h.dst h17
    have hcar : ws.dataType = 1 → givenUtf8 ws.dataUtf8 ≤ ws.dataSize := by
      intro hd; have := hcarry hd; rw [if_pos h17] at this; omega
    have keep := h.toStart ws.dataBuf ws.ctrlBuf ws.dataStart ws.dataSize ws.dataType hdb h.dsz h.u8a hcar
    refine iteInduction (fun _ => iteInduction (fun htxt => ?_) (fun hntxt => ?_)) (fun _ => ⟨keep, hv, rfl⟩)
    · -- a text fragment ending inside a character: its last `given` bytes are kept for the next one
      obtain ⟨hd1, hu⟩ := htxt
      obtain ⟨hg1, hg3⟩ := givenUtf8_bounds ws.dataUtf8 hu h.u8b
      have hgd := hcar hd1
      have hnl : (ws.dataSize + W - givenUtf8 ws.dataUtf8) % W = ws.dataSize - givenUtf8 ws.dataUtf8 := by
        rw [W_eq]; omega
      rw [hnl]
      refine iteInduction (fun hne => ?_) (fun _ => ⟨fun _ => keep, rfl, rfl, fun _ => ⟨rfl, hv⟩⟩)
      clear keep
      cases hnx : alloc ws (givenUtf8 ws.dataUtf8 + 1) with
      | none => exact HC_oom _ h
      | some nx =>
        obtain ⟨hnxl, _⟩ := alloc_length _ _ _ hnx
        cases hbuf : ws.dataBuf with
        | none => rw [hbuf] at hdb; simp only [] at hdb; omega
        | some buf =>
          rw [hbuf] at hdb; simp only [] at hdb
          have hsl : ((buf.drop (ws.dataStart + ws.payloadIndex - givenUtf8 ws.dataUtf8)).take
              (givenUtf8 ws.dataUtf8)).length = givenUtf8 ws.dataUtf8 := by
            rw [List.length_take, List.length_drop]; omega
          have hnx' := writeAt_eq nx 0 _ (by rw [hsl]; omega)
          obtain ⟨buf', hbuf'⟩ := termAt_some buf (ws.dataSize - givenUtf8 ws.dataUtf8) (by omega)
          have hl1 := writeAt_length _ _ _ _ hnx'
          have hl2 := termAt_length _ _ _ hbuf'
          simp only [if_neg (show ¬ (ws.dataStart + ws.payloadIndex < givenUtf8 ws.dataUtf8 ∨
            buf.length < ws.dataStart + ws.payloadIndex) by omega), hnx', hbuf']
          refine ⟨fun _ => ?_, rfl, show _ < _ by omega, fun _ => ⟨rfl, hv⟩⟩
          exact h.toStart (some _) ws.ctrlBuf ws.dataStart (givenUtf8 ws.dataUtf8) ws.dataType
            (by simp only []; omega) (by omega) h.u8a (fun _ => Nat.le_refl _)
    · refine ⟨fun _ => h.toStart none ws.ctrlBuf 0 0 ws.dataType rfl (by omega) h.u8a (fun hd => ?_), rfl,
        plOK_of hdb, fun _ => ⟨rfl, hv⟩⟩
      have : ws.dataUtf8 = 0 := Decidable.not_not.mp (fun hu => hntxt ⟨hd, hu⟩)
      rw [this]; decide

theorem payloadFinish_ok {ws0 ws : WS} {n take : Nat} (h : Inv ws) (hv : ws.validity ≠ 0)
    (hs : ws.step = 17 ∨ ws.step = 18) (ht : take ≤ n)
    (hprog : 1 ≤ take ∨ (sil ws0 = 1 ∧ ws.payloadSize = ws.payloadIndex)) :
    R.OK ws0 n (payloadFinish false take ws) := by
  unfold payloadFinish
  split
  · rename_i he
    have := payloadComplete_ok h hv hs he
    revert this
    cases payloadComplete false ws with
    | cont ws' k =>
      intro ⟨hi, hv', hst⟩
      refine ⟨hi, hv', ht, ?_⟩
      have := sil_of_step0 hst
      rcases hprog with h1 | ⟨h1, _⟩ <;> omega
    | ret ws' st k pl plen =>
      intro hc
      refine ⟨hc.1, ht, hc.2.2.1, fun h0 => ?_⟩
      obtain ⟨hst, hv'⟩ := hc.2.2.2 h0
      refine ⟨sil_of_step0 hst, hv', fun hq => ?_⟩
      rcases hprog with h1 | ⟨h1, _⟩ <;> omega
    | fault s => exact id
  · rename_i hne
    refine ⟨h, hv, ht, ?_⟩
    have : sil ws = 0 := by
      unfold sil; rw [if_neg (by omega), if_neg (by intro hh; exact hne hh.2)]
    rcases hprog with h1 | ⟨_, h2⟩
    · omega
    · exact absurd h2 hne

theorem checkUtf8Buf_in (buf : List UInt8) (start n step : Nat) (h : start + n ≤ buf.length) :
    checkUtf8Buf buf start n step = .res (checkUtf8 ((buf.drop start).take n) step 0) := by
  unfold checkUtf8Buf; rw [if_pos h]

theorem needed_eq {ws : WS} (h : Inv ws) :
    (ws.payloadSize + W - ws.payloadIndex) % W = ws.payloadSize - ws.payloadIndex := by
  have := h.idx; have := h.psz
  rw [W_eq]; omega

theorem stepPayload_zero {ws : WS} (h : Inv ws) (rest : List UInt8)
    (hk : min (ws.payloadSize - ws.payloadIndex) rest.length = 0) :
    stepPayload false ws rest = payloadFinish false 0 ws := by
  unfold stepPayload
  simp only [needed_eq h, hk, ne_eq, not_true_eq_false, if_false]

/-- the payload of this frame is text to be validated -/
def Checked (ws : WS) (h0 : UInt8) : Prop := if ws.step = 17 then ws.dataType = 1 else opcodeOf h0 = 8

instance (ws : WS) (h0 : UInt8) : Decidable (Checked ws h0) := by unfold Checked; exact inferInstance

/-- payload bytes from `payload_index` on that are not text: the status code of a close frame -/
def skipOf (ws : WS) : Nat := if ws.step = 17 then 0 else 2 - ws.payloadIndex

def regOf (ws : WS) : Nat := if ws.step = 17 then ws.dataUtf8 else ws.ctrlUtf8

def setReg (ws : WS) (s : Nat) : WS := if ws.step = 17 then { ws with dataUtf8 := s } else { ws with ctrlUtf8 := s }

/-- the allocation the payload case writes into, and where this frame's payload begins in it -/
def plBufO (ws : WS) : Option (List UInt8) := if ws.step = 17 then ws.dataBuf else ws.ctrlBuf

def plBase (ws : WS) : Nat := if ws.step = 17 then ws.dataStart else 0

theorem setReg_adv (ws : WS) (h0 : UInt8) (buf : List UInt8) (k ρ : Nat) :
    (setReg (payloadAdvance ws buf k) ρ).payloadIndex = ws.payloadIndex + k ∧
    (setReg (payloadAdvance ws buf k) ρ).payloadSize = ws.payloadSize ∧
    (Checked (setReg (payloadAdvance ws buf k) ρ) h0 ↔ Checked ws h0) ∧
    skipOf (setReg (payloadAdvance ws buf k) ρ) = skipOf ws - k ∧
    regOf (setReg (payloadAdvance ws buf k) ρ) = ρ ∧
    (setReg (payloadAdvance ws buf k) ρ).step = ws.step ∧
    (setReg (payloadAdvance ws buf k) ρ).hdr = ws.hdr ∧
    (setReg (payloadAdvance ws buf k) ρ).maskKey = ws.maskKey ∧
    plBase (setReg (payloadAdvance ws buf k) ρ) = plBase ws ∧
    plBufO (setReg (payloadAdvance ws buf k) ρ) = some buf ∧
    (setReg (payloadAdvance ws buf k) ρ).validity = ws.validity := by
  unfold setReg payloadAdvance Checked skipOf regOf plBase plBufO
  by_cases h : ws.step = 17
  · simp only [h, if_true, true_and, and_true]; omega
  · simp only [h, if_false, true_and, and_true]; omega

theorem setReg_regOf (ws : WS) (buf : List UInt8) (k : Nat) :
    setReg (payloadAdvance ws buf k) (regOf ws) = payloadAdvance ws buf k := by
  unfold setReg payloadAdvance regOf
  by_cases h : ws.step = 17
  · simp only [h, if_true]
  · simp only [h, if_false]

theorem Inv.plBuf {ws : WS} (h : Inv ws) (hs : ws.step = 17 ∨ ws.step = 18) (hne : ws.payloadSize ≠ 0) :
    ∃ buf, plBufO ws = some buf ∧ buf.length = plBase ws + ws.payloadSize + 1 := by
  unfold plBufO plBase
  rcases hs with h17 | h18
  · have hdb := h.dbuf
    have hdst := h.dst h17
    rw [if_pos h17, if_pos h17]
    cases hb : ws.dataBuf with
    | none => rw [hb] at hdb; simp only [] at hdb; omega
    | some buf => rw [hb] at hdb; simp only [] at hdb; exact ⟨buf, rfl, by omega⟩
  · have hcb := h.cbuf h18
    have h17 : ¬ ws.step = 17 := by omega
    rw [if_neg h17, if_neg h17]
    cases hb : ws.ctrlBuf with
    | none => rw [hb] at hcb; simp only [] at hcb; omega
    | some buf => rw [hb] at hcb; simp only [] at hcb; exact ⟨buf, rfl, by omega⟩

theorem Inv.adv {ws : WS} (h : Inv ws) (hs : ws.step = 17 ∨ ws.step = 18) (buf buf' : List UInt8)
    (hb : plBufO ws = some buf) (hl : buf'.length = buf.length) (k : Nat) (hk : ws.payloadIndex + k ≤ ws.payloadSize)
    (s : Nat) (hd : ws.step = 17 → s ≤ 10 ∧ (ws.dataType ≠ 1 → s = 0) ∧
      (ws.dataType = 1 → givenUtf8 s ≤ ws.dataStart + (ws.payloadIndex + k))) :
    Inv (setReg (payloadAdvance ws buf' k) s) := by
  have hc := h.carry
  unfold plBufO at hb
  unfold setReg payloadAdvance
  rcases hs with h17 | h18
  · obtain ⟨h1, h2, h3⟩ := hd h17
    have hdb := h.dbuf
    rw [if_pos h17] at hb
    rw [hb] at hdb
    simp only [if_pos h17]
    exact { h with
      idx := hk
      idx0 := by intro h1; simp only [] at h1; omega
      dbuf := hl.trans hdb
      u8a := h2
      u8b := h1
      carry := by intro hd; have := h3 hd; simp only [h17, if_true]; exact this }
  · have h17 : ¬ ws.step = 17 := by omega
    have hcb := h.cbuf h18
    rw [if_neg h17] at hb hc
    rw [hb] at hcb
    simp only [if_neg h17]
    exact { h with
      idx := hk
      idx0 := by intro h1; simp only [] at h1; omega
      cbuf := fun _ => hl.trans hcb
      carry := by intro hd; have := hc hd; simp only [h17, if_false]; exact this }

/-- the validator is run on exactly the text bytes just copied, with the register of this kind
    of frame (the two cases of `utf8OfPayload`, code after F7) -/
theorem utf8OfPayload_eq (ws : WS) (hs : ws.step = 17 ∨ ws.step = 18) (buf buf' bytes : List UInt8)
    (hw : writeAt buf (plBase ws + ws.payloadIndex) bytes = some buf') (hsk : skipOf ws < bytes.length) :
    utf8OfPayload false (payloadAdvance ws buf' bytes.length) buf' (plBase ws) ws.payloadIndex bytes.length =
      match checkUtf8 (bytes.drop (skipOf ws)) (regOf ws) 0 with
      | .invalid o => .bad (o + skipOf ws)
      | .ok s => .pass (setReg (payloadAdvance ws buf' bytes.length) s) := by
  have hl := writeAt_length _ _ _ _ hw
  have hin : plBase ws + ws.payloadIndex + bytes.length ≤ buf.length := by
    unfold writeAt at hw; split at hw
    · assumption
    · cases hw
  unfold utf8OfPayload skipOf regOf setReg payloadAdvance plBase at *
  rcases hs with h17 | h18
  · simp only [h17, if_true] at hsk hw hin ⊢
    rw [checkUtf8Buf_in _ _ _ _ (by omega), writeAt_read _ _ _ _ hw, List.drop_zero]
    cases checkUtf8 bytes ws.dataUtf8 0 <;> rfl
  · have h17 : ¬ ws.step = 17 := by omega
    simp only [h17, if_false, Bool.false_eq_true, Nat.zero_add] at hsk hw hin ⊢
    have hst : (if ws.payloadIndex < 2 then 2 else ws.payloadIndex) = ws.payloadIndex + (2 - ws.payloadIndex) := by
      split <;> omega
    have heo : (if ws.payloadIndex < 2 then 2 - ws.payloadIndex else 0) = 2 - ws.payloadIndex := by
      split <;> omega
    rw [hst, heo, checkUtf8Buf_in _ _ _ _ (by omega),
      show ws.payloadIndex + bytes.length - (ws.payloadIndex + (2 - ws.payloadIndex)) = bytes.length - (2 - ws.payloadIndex)
        by omega, writeAt_read_drop _ _ _ _ _ hw]
    cases checkUtf8 (bytes.drop (2 - ws.payloadIndex)) ws.ctrlUtf8 0 <;> rfl

/-- the `if` that guards the validator, in the terms of `plTrip` -/
theorem checked_iff (ws : WS) (hs : ws.step = 17 ∨ ws.step = 18) (h0 : UInt8) (buf' : List UInt8) {k : Nat} (hk : k ≠ 0) :
    ((payloadAdvance ws buf' k).step = 17 ∧ (payloadAdvance ws buf' k).dataType = 1 ∨
      (payloadAdvance ws buf' k).step = 18 ∧ opcodeOf h0 = 8 ∧ 2 < (payloadAdvance ws buf' k).payloadIndex) ↔
    (Checked ws h0 ∧ skipOf ws < k) := by
  unfold payloadAdvance Checked skipOf
  rcases hs with h | h
  · simp only [h, if_true, true_and, Nat.reduceEqDiff, false_and, or_false]
    exact ⟨fun c => ⟨c, Nat.pos_of_ne_zero hk⟩, fun c => c.1⟩
  · simp only [h, Nat.reduceEqDiff, if_false, false_and, false_or, true_and]
    exact ⟨fun c => ⟨c.1, by omega⟩, fun c => ⟨c.1, by omega⟩⟩

/-- what the payload case does with the unmasked `bytes` once they are in the buffer `buf'` -/
def plTrip (ws : WS) (h0 : UInt8) (buf' bytes : List UInt8) : R :=
  if Checked ws h0 ∧ skipOf ws < bytes.length then
    match checkUtf8 (bytes.drop (skipOf ws)) (regOf ws) 0 with
    | .invalid o => errRet (payloadAdvance ws buf' bytes.length) 1007 (-6) (o + skipOf ws)
    | .ok s => payloadFinish false bytes.length (setReg (payloadAdvance ws buf' bytes.length) s)
  else payloadFinish false bytes.length (payloadAdvance ws buf' bytes.length)

theorem getD_hdr0 {ws : WS} {h0 : UInt8} (hh : ws.hdr[0]? = some h0) : ws.hdr.getD 0 0 = h0 := by
  rw [List.getD_eq_getElem?_getD, hh]; rfl

/-- **the payload case in closed form**: what `stepPayload` does with the unmasked bytes it takes -/
def payTrip (ws : WS) (bytes : List UInt8) : R :=
  if bytes = [] then payloadFinish false 0 ws
  else plTrip ws (ws.hdr.getD 0 0) (written ((plBufO ws).getD []) (plBase ws + ws.payloadIndex) bytes) bytes

theorem stepPayload_eq {ws : WS} (h : Inv ws) (hs : ws.step = 17 ∨ ws.step = 18) (rest : List UInt8) :
    stepPayload false ws rest =
      payTrip ws (copyPayload (rest.take (ws.payloadSize - ws.payloadIndex)) ws.maskKey (ws.payloadIndex % 4)) := by
  have hidx := h.idx
  generalize hb : copyPayload (rest.take (ws.payloadSize - ws.payloadIndex)) ws.maskKey (ws.payloadIndex % 4) = bytes
  rw [List.take_eq_take_min] at hb
  have hbl : bytes.length = min (ws.payloadSize - ws.payloadIndex) rest.length := by
    rw [← hb, copyPayload_length, List.length_take, Nat.min_assoc, Nat.min_self]
  generalize hmin : min (ws.payloadSize - ws.payloadIndex) rest.length = k at hb hbl
  unfold payTrip
  by_cases hk0 : bytes = []
  · rw [if_pos hk0]
    exact stepPayload_zero h rest (by rw [hmin, ← hbl, hk0]; rfl)
  · have hk : k ≠ 0 := fun c => hk0 (List.eq_nil_of_length_eq_zero (hbl.trans c))
    obtain ⟨h0, hh0, _⟩ := h.h0 (by omega) (by omega)
    obtain ⟨buf, hbuf, hlen⟩ := h.plBuf hs (by omega)
    have hw := writeAt_eq buf (plBase ws + ws.payloadIndex) bytes (by omega)
    rw [if_neg hk0, hbuf, Option.getD_some, getD_hdr0 hh0]
    generalize written buf (plBase ws + ws.payloadIndex) bytes = buf' at hw
    unfold stepPayload plTrip
    simp only [needed_eq h, hmin, ne_eq, hk, not_false_eq_true, if_true, hh0, hb,
      show (if ws.step = 17 then ws.dataBuf else ws.ctrlBuf) = some buf from hbuf,
      show writeAt buf ((if ws.step = 17 then ws.dataStart else 0) + ws.payloadIndex) bytes = some buf' from hw]
    subst hbl
    by_cases hc : Checked ws h0 ∧ skipOf ws < bytes.length
    · rw [if_pos ((checked_iff ws hs h0 buf' hk).mpr hc), if_pos hc]
      have := utf8OfPayload_eq ws hs buf buf' bytes hw hc.2
      unfold plBase at this
      rw [this]
      cases checkUtf8 (bytes.drop (skipOf ws)) (regOf ws) 0 <;> rfl
    · rw [if_neg (fun c => hc ((checked_iff ws hs h0 buf' hk).mp c)), if_neg hc]

theorem stepPayload_ok {ws : WS} (h : Inv ws) (hv : ws.validity ≠ 0) (hs : ws.step = 17 ∨ ws.step = 18)
    (rest : List UInt8) (hn : 1 ≤ rest.length) : R.OK ws rest.length (stepPayload false ws rest) := by
  have hidx := h.idx
  rw [stepPayload_eq h hs rest]
  generalize hb : copyPayload (rest.take (ws.payloadSize - ws.payloadIndex)) ws.maskKey (ws.payloadIndex % 4) = bytes
  have hbl : bytes.length = min (ws.payloadSize - ws.payloadIndex) rest.length := by
    rw [← hb, copyPayload_length, List.length_take]
  unfold payTrip
  refine iteInduction (fun h0 => ?_) (fun hne => ?_)
  · have he : ws.payloadSize = ws.payloadIndex := by rw [h0, List.length_nil] at hbl; omega
    refine payloadFinish_ok h hv hs (Nat.zero_le _) (Or.inr ⟨?_, he⟩)
    unfold sil
    rw [if_neg (by omega), if_pos ⟨hs, he⟩]
  · have hk1 : 1 ≤ bytes.length := List.length_pos_iff.mpr hne
    obtain ⟨buf, hbuf, hlen⟩ := h.plBuf hs (by omega)
    rw [hbuf, Option.getD_some]
    have hwl := writeAt_length _ _ _ _ (writeAt_eq buf (plBase ws + ws.payloadIndex) bytes (by omega))
    generalize written buf (plBase ws + ws.payloadIndex) bytes = buf' at hwl
    have adv : ∀ s, (ws.step = 17 → s ≤ 10 ∧ (ws.dataType ≠ 1 → s = 0) ∧
        (ws.dataType = 1 → givenUtf8 s ≤ ws.dataStart + (ws.payloadIndex + bytes.length))) →
        R.OK ws rest.length (payloadFinish false bytes.length (setReg (payloadAdvance ws buf' bytes.length) s)) :=
      fun s hd =>
        have f := (setReg_adv ws 0 buf' bytes.length s).2.2.2.2.2
        payloadFinish_ok (h.adv hs buf buf' hbuf hwl bytes.length (by omega) s hd) (f.2.2.2.2.2.symm ▸ hv)
          (f.1.symm ▸ hs) (by omega) (Or.inl hk1)
    have hcar := h.carry
    unfold plTrip
    refine iteInduction (fun hc => ?_) (fun _ => ?_)
    · cases hx : checkUtf8 (bytes.drop (skipOf ws)) (regOf ws) 0 with
      | invalid o =>
        have := checkUtf8_invalid_lt _ _ _ _ hx
        rw [List.length_drop] at this
        exact OK_err _ _ _ _ (by omega)
      | ok s =>
        refine adv s (fun h17 => ?_)
        unfold Checked regOf skipOf at *
        simp only [if_pos h17, List.drop_zero] at hc hx hcar
        exact ⟨checkUtf8_le _ _ _ _ h.u8b hx, fun hne => absurd hc.1 hne, fun hd => by
          have := checkUtf8_given _ _ _ _ hx; have := hcar hd; omega⟩
    · rw [← setReg_regOf]
      refine adv _ (fun h17 => ?_)
      unfold regOf
      rw [if_pos h17] at hcar ⊢
      exact ⟨h.u8b, h.u8a, fun hd => by have := hcar hd; omega⟩

end Mhd.WS
