import Mhd.Proofs.UpgLife
namespace Mhd.Upg

/-- log shape (no daemon I/O after the hand-over) and byte conservation of one connection -/
structure LogI (x : Conn) : Prop where
  ok : okLog false x.log = true
  upg_loc : hasUpg x.log = true → x.loc = .suspended ∨ x.loc = .cleanup ∨ x.loc = .freed
  urh_upg : x.urh.isSome = true → hasUpg x.log = true
  handed_log : x.handed = handedOf x.log
  handed_upg : hasUpg x.log = false → x.handed = []
  cons : x.heads.flatten ++ x.handed ++ x.rbuf ++ x.sockIn = x.sent
  upg_rbuf : hasUpg x.log = true → x.rbuf = []
  wire : daemonWire x.log ++ x.wbuf = x.outq.flatten
  upg_wbuf : hasUpg x.log = true → x.wbuf = []

theorem logI_init : LogI {} := by constructor <;> simp [okLog, daemonWire]

theorem LogI.noUpg_of_loc {x} (h : LogI x) (ha : x.loc = .active ∨ x.loc = .new ∨ x.loc = .none) : hasUpg x.log = false := by
  cases hh : hasUpg x.log with
  | false => rfl
  | true => have := h.upg_loc hh; rcases ha with ha | ha | ha <;> simp_all

theorem LogI.frame {x y : Conn} (h : LogI x)
    (hy : y = { x with loc := y.loc, st := y.st, req := y.req, reqNo := y.reqNo, rp := y.rp, discard := y.discard,
                       clientAware := y.clientAware, resuming := y.resuming, urh := y.urh, sockOpen := y.sockOpen })
    (hloc : hasUpg x.log = true → y.loc = .suspended ∨ y.loc = .cleanup ∨ y.loc = .freed)
    (hurh : y.urh.isSome = true → x.urh.isSome = true) : LogI y := by
  rw [hy]
  exact ⟨h.ok, hloc, fun hu => h.urh_upg (hurh hu), h.handed_log, h.handed_upg, h.cons, h.upg_rbuf, h.wire, h.upg_wbuf⟩

theorem okLog_snoc (l : List Ev) (e : Ev) : okLog false (l ++ [e]) = (okLog false l && !(hasUpg l && e.isIo)) := by
  rw [okLog_append, okLog_single, Bool.false_or]

theorem logI_emit {x} (h : LogI x) (e : Ev) (hio : e.isIo = true → hasUpg x.log = false) (hup : e.isUpgrade = false)
    (hh : handedOf [e] = []) (hw : daemonWire [e] = []) : LogI (x.emit e) := by
  have hu : hasUpg (x.emit e).log = hasUpg x.log := by
    rw [emit_log, hasUpg_append, hasUpg_single, hup, Bool.or_false]
  constructor
  · rw [emit_log, okLog_snoc, h.ok]
    cases hi : e.isIo with
    | false => simp
    | true => rw [hio hi]; rfl
  · rw [hu]; exact h.upg_loc
  · rw [hu]; exact h.urh_upg
  · rw [emit_log, handedOf_append, hh, List.append_nil]; exact h.handed_log
  · rw [hu]; exact h.handed_upg
  · exact h.cons
  · rw [hu]; exact h.upg_rbuf
  · rw [emit_log, daemonWire_append, hw, List.append_nil]; exact h.wire
  · rw [hu]; exact h.upg_wbuf

theorem Ev.neutral_spec {e : Ev} (he : e.neutral = true) :
    e.isIo = false ∧ e.isUpgrade = false ∧ handedOf [e] = [] ∧ daemonWire [e] = [] := by
  cases e <;> first | exact ⟨rfl, rfl, rfl, rfl⟩ | cases he

theorem logI_kept (cfg : Cfg) : Kept cfg (Life cfg) LogI where
  act {x y} a hl h := by
    cases a with
    | ctl | dropRp | accept => exact h.frame rfl h.upg_loc id
    | toCleanup | resumeClean => exact h.frame rfl (fun _ => .inr (.inl rfl)) id
    | marked u _ hu => exact h.frame rfl h.upg_loc (fun _ => by rw [hu]; rfl)
    | emit e he =>
      obtain ⟨h1, h2, h3, h4⟩ := e.neutral_spec he
      exact logI_emit h e (fun hi => nomatch h1.symm.trans hi) h2 h3 h4
    | shutdown ha => exact logI_emit h _ (fun _ => h.noUpg_of_loc (.inl ha)) rfl rfl rfl
    | entered fin =>
      have h1 := logI_emit h (.handler x.reqNo fin) nofun rfl rfl rfl
      exact h1.frame rfl h1.upg_loc id
    | completed code =>
      have h1 := logI_emit h (.completed x.reqNo code) nofun rfl rfl rfl
      exact h1.frame rfl h1.upg_loc id
    | built rid ha =>
      have h0 := h.noUpg_of_loc (Or.inl ha)
      obtain ⟨a1, a2, a3, a4, a5, a6, a7, a8, a9⟩ := h
      refine ⟨a1, a2, a3, a4, a5, a6, a7, ?_, ?_⟩
      · show daemonWire x.log ++ (x.wbuf ++ _) = (x.outq ++ [_]).flatten
        rw [← List.append_assoc, a8]; simp
      · intro hu; rw [h0] at hu; cases hu
    | head hd ha =>
      have hn := h.noUpg_of_loc (Or.inl ha)
      obtain ⟨a1, a2, a3, a4, a5, a6, a7, a8, a9⟩ := h
      refine ⟨a1, a2, a3, a4, a5, ?_, fun hu => ?_, a8, a9⟩
      · show (x.heads ++ [x.rbuf.take hd.len]).flatten ++ x.handed ++ x.rbuf.drop hd.len ++ x.sockIn = x.sent
        rw [← a6, a5 hn]; simp
      · cases hn.symm.trans hu
    | recv n ha =>
      have hn := h.noUpg_of_loc (Or.inl ha)
      obtain ⟨a1, a2, a3, a4, a5, a6, a7, a8, a9⟩ := logI_emit h (.ioRecv n) (fun _ => hn) rfl rfl rfl
      refine ⟨a1, a2, a3, a4, a5, ?_, fun hu => ?_, a8, a9⟩
      · show x.heads.flatten ++ x.handed ++ (x.rbuf ++ x.sockIn.take _) ++ x.sockIn.drop _ = x.sent
        rw [← h.cons]; simp
      · have hu : hasUpg (x.log ++ [.ioRecv n]) = true := hu
        rw [hasUpg_append, hn] at hu; cases hu
    | send n ha =>
      have hn := h.noUpg_of_loc (Or.inl ha)
      have hu : hasUpg (x.log ++ [Ev.ioSend (x.wbuf.take n)]) = false := by
        rw [hasUpg_append, hn]; rfl
      obtain ⟨a1, a2, a3, a4, a5, a6, a7, a8, a9⟩ := h
      refine ⟨?_, ?_, ?_, ?_, fun _ => a5 hn, a6, ?_, ?_, ?_⟩
      · show okLog false (x.log ++ [_]) = true
        rw [okLog_snoc, a1, hn]; rfl
      · intro h0; rw [hu] at h0; cases h0
      · intro h0; exact absurd (a3 h0) (by simp [hn])
      · show x.handed = handedOf (x.log ++ [_])
        rw [handedOf_append, ← a4]; simp [handedOf]
      · intro h0; rw [hu] at h0; cases h0
      · show daemonWire (x.log ++ [_]) ++ x.wbuf.drop _ = x.outq.flatten
        rw [daemonWire_append, ← a8]; simp [daemonWire]
      · intro h0; rw [hu] at h0; cases h0
    | handover rid ha _ hw =>
      have hu : hasUpg (x.log ++ [Ev.upgrade rid x.rbuf]) = true := by
        rw [hasUpg_append, hasUpg_single]; simp [Ev.isUpgrade]
      obtain ⟨a1, a2, a3, a4, a5, a6, a7, a8, a9⟩ := h
      refine ⟨?_, fun _ => .inl rfl, fun _ => hu, ?_, fun h0 => ?_, ?_, fun _ => rfl, ?_, fun _ => hw⟩
      · show okLog false (x.log ++ [_]) = true
        rw [okLog_snoc, a1]; simp [Ev.isIo]
      · show x.handed ++ x.rbuf = handedOf (x.log ++ [_])
        rw [handedOf_append, ← a4]; simp [handedOf]
      · cases hu.symm.trans h0
      · show x.heads.flatten ++ (x.handed ++ x.rbuf) ++ [] ++ x.sockIn = x.sent
        rw [← a6]; simp
      · show daemonWire (x.log ++ [_]) ++ x.wbuf = x.outq.flatten
        rw [daemonWire_append, ← a8]; simp [daemonWire]
    | started hn =>
      have hnu := h.noUpg_of_loc (.inr (.inl hn))
      have h1 := logI_emit h .start nofun rfl rfl rfl
      exact h1.frame rfl (fun hu => by rw [emit_log, hasUpg_append, hnu] at hu; cases hu) id
    | release =>
      have h1 : LogI ({ x with urh := none }.emit .connClose) :=
        logI_emit (h.frame (y := { x with urh := none }) rfl h.upg_loc (fun hu => Bool.noConfusion hu)) .connClose nofun rfl rfl rfl
      exact (logI_emit h1 .sockClose nofun rfl rfl rfl).frame rfl (fun _ => .inr (.inr rfl)) id
    | stopNew => exact (logI_emit h .sockClose nofun rfl rfl rfl).frame rfl (fun _ => .inr (.inr rfl)) id
    | arrive hn => exact h.frame rfl (fun hu => by rw [h.noUpg_of_loc (.inr (.inr hn))] at hu; cases hu) id
    | clientSend bs =>
      obtain ⟨a1, a2, a3, a4, a5, a6, a7, a8, a9⟩ := h
      refine ⟨a1, a2, a3, a4, a5, ?_, a7, a8, a9⟩
      show x.heads.flatten ++ x.handed ++ x.rbuf ++ (x.sockIn ++ bs) = x.sent ++ bs
      rw [← a6]; simp
    | appRecv n hu =>
      -- the application reads from the socket it was handed: the read window is empty by then
      have hr := hl.urh_rbuf hu
      have hg := h.urh_upg hu
      have hg' : hasUpg (x.log ++ [Ev.appRecv (x.sockIn.take (min n x.sockIn.length))]) = true := by
        rw [hasUpg_append, hg]; rfl
      obtain ⟨a1, a2, a3, a4, a5, a6, a7, a8, a9⟩ := h
      refine ⟨?_, fun _ => a2 hg, fun _ => hg', ?_, fun h0 => ?_, ?_, fun _ => hr, ?_, fun _ => a9 hg⟩
      · show okLog false (x.log ++ [_]) = true
        rw [okLog_snoc, a1]; simp [Ev.isIo]
      · show x.handed ++ _ = handedOf (x.log ++ [_])
        rw [handedOf_append, ← a4]; simp [handedOf]
      · cases hg'.symm.trans h0
      · show x.heads.flatten ++ (x.handed ++ x.sockIn.take _) ++ x.rbuf ++ x.sockIn.drop _ = x.sent
        rw [← a6, hr]; simp
      · show daemonWire (x.log ++ [_]) ++ x.wbuf = x.outq.flatten
        rw [daemonWire_append, ← a8]; simp [daemonWire]
    | incoherent hi => exact absurd hi hl.coherent

structure CI (cfg : Cfg) (x : Conn) : Prop where
  life : Life cfg x
  logi : LogI x

theorem ci_kept (cfg : Cfg) : Kept cfg Any (CI cfg) :=
  ((life_kept cfg).and (logI_kept cfg)).of_iff fun _ => ⟨fun h => ⟨h.1, h.2⟩, fun h => ⟨h.life, h.logi⟩⟩


theorem ci_roundConn {cfg x} (h : CI cfg x) (sh scan : Bool) (a : Option IoAct) :
    CI cfg (roundConn cfg sh scan a x).1 :=
  (ci_kept cfg).round h sh scan a

theorem ci_appSendConn {cfg x} (h : CI cfg x) (bs : Bytes) : CI cfg (appSendConn x bs) :=
  (ci_kept cfg).emit _ rfl h

end Mhd.Upg
