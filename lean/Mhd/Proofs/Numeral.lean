/-
  Positional numerals, independent of every model: the digit string of a number in base `b`
  (`digitsB`), the number of digits it needs (`width`), the value of a digit string (a left fold),
  and that reading undoes writing.  The printers (`MHD_uint64_to_str`, `MHD_uint16_to_str`,
  `MHD_uint32_to_strx`, in the string model and in the reply model) write `digitsB b ch (width b J v) v`,
  the nonce time stamp is the fixed-width `digitsB 16 ch 11 v`; every parser folds digits.
-/
namespace Mhd.Num

abbrev Bytes := List UInt8

/-- exponent of the leading digit of `v` in base `b` when at most `j + 1` digits are looked at:
    what the "skip leading zeros" loops compute -/
def width (b : Nat) : Nat → Nat → Nat
  | 0, _ => 0
  | j + 1, v => if v / b ^ (j + 1) = 0 then width b j v else j + 1

theorem width_le (b j v : Nat) : width b j v ≤ j := by
  induction j with
  | zero => exact Nat.le_refl _
  | succ j ih => rw [width]; split; exact Nat.le_succ_of_le ih; exact Nat.le_refl _

theorem lt_pow_width {b : Nat} (hb : 0 < b) {j v : Nat} (h : v < b ^ (j + 1)) : v < b ^ (width b j v + 1) := by
  induction j with
  | zero => exact h
  | succ j ih =>
    rw [width]; split
    · exact ih (Nat.lt_of_div_eq_zero (Nat.pow_pos hb) ‹_›)
    · exact h

theorem width_min {b : Nat} (j v : Nat) : width b j v = 0 ∨ b ^ width b j v ≤ v := by
  induction j with
  | zero => exact .inl rfl
  | succ j ih =>
    rw [width]; split
    · exact ih
    · exact .inr (Nat.le_of_not_lt fun h => ‹¬ _› (Nat.div_eq_of_lt h))

/-- the `k+1` digits of `v < b^(k+1)` in base `b`, most significant first, written with `ch` -/
def digitsB (b : Nat) (ch : Nat → UInt8) : Nat → Nat → Bytes
  | 0, v => [ch v]
  | k + 1, v => ch (v / b ^ (k + 1)) :: digitsB b ch k (v % b ^ (k + 1))

theorem digitsB_length (b ch) (k v : Nat) : (digitsB b ch k v).length = k + 1 := by
  induction k generalizing v with
  | zero => rfl
  | succ k ih => rw [digitsB, List.length_cons, ih]

theorem div_pow_lt {b v k : Nat} (h : v < b ^ (k + 1)) : v / b ^ k < b :=
  Nat.div_lt_of_lt_mul (by rw [← Nat.pow_succ]; exact h)

theorem pow_succ_div {b : Nat} (hb : 0 < b) (k : Nat) : b ^ (k + 1) / b = b ^ k := Nat.mul_div_cancel _ hb

theorem one_lt_pow_succ {b : Nat} (hb : 1 < b) (k : Nat) : 1 < b ^ (k + 1) := Nat.one_lt_pow (Nat.succ_ne_zero k) hb

variable {b : Nat} {ch : Nat → UInt8} {f : UInt8 → Nat} {p : UInt8 → Bool}

theorem digitsB_val (hb : 0 < b) (hf : ∀ d < b, f (ch d) = d) (k v : Nat) (hv : v < b ^ (k + 1)) (acc : Nat) :
    (digitsB b ch k v).foldl (fun a d => a * b + f d) acc = acc * b ^ (k + 1) + v := by
  induction k generalizing v acc with
  | zero => rw [digitsB, List.foldl_cons, List.foldl_nil, hf v (by simpa using hv), Nat.zero_add, Nat.pow_one]
  | succ k ih =>
    rw [digitsB, List.foldl_cons, hf _ (div_pow_lt hv), ih _ (Nat.mod_lt _ (Nat.pow_pos hb)), Nat.add_mul, Nat.mul_assoc,
      ← Nat.pow_succ', Nat.add_assoc, Nat.mul_comm (v / _), Nat.div_add_mod]

theorem digitsB_all (hb : 0 < b) {P : UInt8 → Prop} (hp : ∀ d < b, P (ch d)) (k v : Nat) (hv : v < b ^ (k + 1)) :
    ∀ c ∈ digitsB b ch k v, P c := by
  induction k generalizing v with
  | zero =>
    intro c hc
    rw [digitsB, List.mem_singleton] at hc
    exact hc ▸ hp v (by simpa using hv)
  | succ k ih =>
    intro c hc
    rw [digitsB, List.mem_cons] at hc
    rcases hc with rfl | hc
    · exact hp _ (div_pow_lt hv)
    · exact ih _ (Nat.mod_lt _ (Nat.pow_pos hb)) c hc

theorem mod_pow_div_mod (t b : Nat) {k n : Nat} (h : k < n) : t % b ^ n / b ^ k % b = t / b ^ k % b := by
  obtain ⟨d, rfl⟩ := Nat.exists_eq_add_of_lt h
  rw [Nat.pow_succ, Nat.pow_add, Nat.mul_assoc, Nat.mod_mul_right_div_self, Nat.mod_mul_left_mod]

theorem digitsB_eq_map (b ch) (k v : Nat) (hv : v < b ^ (k + 1)) :
    digitsB b ch k v = (List.range (k + 1)).map fun j => ch (v / b ^ (k - j) % b) := by
  induction k generalizing v with
  | zero =>
    rw [digitsB, List.range_one, List.map_cons, List.map_nil, Nat.sub_self, Nat.pow_zero, Nat.div_one,
      Nat.mod_eq_of_lt (by simpa using hv)]
  | succ k ih =>
    have hb : 0 < b := Nat.pos_of_ne_zero fun h => by rw [h, Nat.zero_pow (Nat.succ_pos _)] at hv; exact Nat.not_lt_zero _ hv
    conv => rhs; rw [List.range_succ_eq_map, List.map_cons, List.map_map, Nat.sub_zero, Nat.mod_eq_of_lt (div_pow_lt hv)]
    rw [digitsB, ih _ (Nat.mod_lt _ (Nat.pow_pos hb))]
    congr 1
    refine List.map_congr_left fun j _ => ?_
    simp only [Function.comp, Nat.succ_sub_succ]
    rw [mod_pow_div_mod v b (Nat.lt_succ_of_le (Nat.sub_le k j))]

theorem foldl_ge (b : Nat) (hb : 1 ≤ b) (f : UInt8 → Nat) (ds : Bytes) (acc : Nat) :
    acc ≤ ds.foldl (fun a d => a * b + f d) acc := by
  induction ds generalizing acc with
  | nil => exact Nat.le_refl _
  | cons d t ih => exact Nat.le_trans (Nat.le_trans (Nat.le_mul_of_pos_right _ hb) (Nat.le_add_right _ _)) (ih _)

/-- `MHD_uint32_to_strx` keeps the `j+1` nibbles `X` still to be printed left-aligned in a 32-bit word:
    `>> 28` yields the first of them and `<< 4` (mod 2^32) moves the next one up -/
theorem nibble_shift (j X : Nat) (hj : j ≤ 7) :
    (X * 16 ^ (7 - j)) / 2 ^ 28 = X / 16 ^ j ∧
    (X * 16 ^ (7 - j) * 16) % 2 ^ 32 = (X % 16 ^ j) * 16 ^ (8 - j) := by
  have ha : (2 : Nat) ^ 28 = 16 ^ (7 - j) * 16 ^ j := by
    rw [← Nat.pow_add, Nat.sub_add_cancel hj]
  have hb : (2 : Nat) ^ 32 = 16 ^ (8 - j) * 16 ^ j := by
    rw [← Nat.pow_add, Nat.sub_add_cancel (Nat.le_succ_of_le hj)]
  have hc : (16 : Nat) ^ (7 - j) * 16 = 16 ^ (8 - j) := by
    rw [← Nat.pow_succ, ← Nat.succ_sub hj]
  exact ⟨by rw [ha, Nat.mul_comm X, Nat.mul_div_mul_left _ _ (Nat.pow_pos (by decide))],
    by rw [hb, Nat.mul_assoc, hc, Nat.mul_comm X, Nat.mul_mod_mul_left, Nat.mul_comm]⟩

end Mhd.Num
