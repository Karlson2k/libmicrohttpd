/-
  Round trip of the request line (C02 clause b, request line): what `get_request_line_inner`
  does on a well-formed line `empty lines · method · WSP+ · target · WSP+ · version · line end`
  for every combination of flags (`reqline_run`).  The method is one run; each separator with the
  token behind it is one run (`run_sep_token`); the line end is handled in one of the two regimes
  of the C code (`tail_part`): URI end and version start decided while reading
  (`wsp_in_uri = false`) or at the end of the line.
-/
import Mhd.Proofs.ReqLine
namespace Mhd.Req
namespace RLP
open Mhd.Gen
open Scanner (Reaches)

/-- a request-line character that is no line end, no whitespace of any level, not NUL -/
def rplain (c : UInt8) : Prop := c ≠ cCR ∧ c ≠ cLF ∧ c ≠ cSP ∧ c ≠ cHT ∧ c ≠ cVT ∧ c ≠ cFF ∧ c ≠ 0

theorem rplain_beq {c : UInt8} (h : rplain c) :
    (c == cCR) = false ∧ (c == cLF) = false ∧ (c == cSP) = false ∧ (c == cHT) = false ∧ (c == cVT) = false ∧
      (c == cFF) = false ∧ (c == 0) = false :=
  ⟨beq_false_of_ne h.1, beq_false_of_ne h.2.1, beq_false_of_ne h.2.2.1, beq_false_of_ne h.2.2.2.1,
    beq_false_of_ne h.2.2.2.2.1, beq_false_of_ne h.2.2.2.2.2.1, beq_false_of_ne h.2.2.2.2.2.2⟩

theorem notWsp (F : RLFlags) {c : UInt8} (h : rplain c) : rlIsWsp F c = false := by
  obtain ⟨_, _, b3, b4, b5, b6, _⟩ := rplain_beq h
  simp [rlIsWsp, b3, b4, b5, b6]

/-- position of the first '?' -/
def firstQ : List UInt8 → Option Nat
  | [] => none
  | c :: cs => if c == 63 then some 0 else (firstQ cs).map (· + 1)

/-- the '?' memo after the bytes `w` read from position `p`: the first '?' is recorded, once a
    target has begun -/
def qAfter (tgt q : Option Nat) (p : Nat) (w : List UInt8) : Option Nat :=
  if q.isNone && tgt.isSome then (firstQ w).map (p + ·) else q

theorem qAfter_no63 (tgt q : Option Nat) (p : Nat) (w : List UInt8) (h : ∀ c ∈ w, c ≠ 63) : qAfter tgt q p w = q := by
  have : firstQ w = none := by
    induction w with
    | nil => rfl
    | cons c w ih =>
      have hc : (c == 63) = false := by simpa using h c (List.mem_cons_self ..)
      simp only [firstQ, hc, Bool.false_eq_true, ↓reduceIte, ih (fun x hx => h x (List.mem_cons_of_mem _ hx)), Option.map_none]
  unfold qAfter
  rw [this]
  cases q <;> simp

theorem qAfter_cons (tgt q : Option Nat) (p : Nat) (c : UInt8) (w : List UInt8) :
    qAfter tgt (qAfter tgt q p [c]) (p + 1) w = qAfter tgt q p (c :: w) := by
  unfold qAfter
  cases q with
  | some x => simp
  | none =>
    cases tgt with
    | none => simp
    | some t =>
      by_cases bq : (c == 63) = true
      · simp [firstQ, bq]
      · simp only [firstQ, bq, Bool.false_eq_true, ↓reduceIte, Option.map_none, Option.isNone_none, Option.isSome_some,
          Bool.and_self, Option.map_map]
        cases firstQ w with
        | none => rfl
        | some k => simp only [Option.map_some, Function.comp_apply, Option.some.injEq]; omega

theorem qmap_shift (q : Option Nat) (rb : Nat) (k : Nat) :
    (q.map (k + ·)).map (rb + ·) = q.map (rb + k + ·) := by
  cases q <;> simp [Nat.add_assoc]

/-- the end-of-whitespace processing that a non-whitespace byte goes through -/
def endWsp (F : RLFlags) (s : RL) : RL := endOfWspBlock F (endOfWspStrict F s)

theorem endWsp_id (F : RLFlags) (s : RL) (h : s.wsEnd = 0 ∨ s.p ≠ s.wsEnd) : endWsp F s = s := by
  rw [endWsp, endStrict_id F s (h.imp_right Or.inl), endBlock_id F s (h.imp_right Or.inl)]

/-- directly behind a whitespace block exactly one of the two routines acts (which one depends
    on `wsp_blocks`) -/
theorem endWsp_fire (F : RLFlags) (s : RL) (hpe : s.p = s.wsEnd) (hne : s.wsEnd ≠ 0) : endWsp F s = closeWsp F s := by
  have c1 : (s.p == s.wsEnd) = true := by simp [hpe]
  have c2 : (s.wsEnd != 0) = true := by simp [hne]
  unfold endWsp
  cases hB : F.wspBlocks with
  | false =>
    rw [endBlock_id F _ (Or.inr (Or.inr hB)), endOfWspStrict_eq]
    simp only [hB, c1, c2, Bool.not_false, Bool.and_self, ↓reduceIte]
  | true =>
    rw [endStrict_id F s (Or.inr (Or.inr hB)), endOfWspBlock_eq]
    simp only [hB, c1, c2, Bool.and_self, ↓reduceIte]

theorem closeWsp_ver (F : RLFlags) (s : RL) (t0 : Nat) (ht : s.tgt = some t0) (hU : F.wspInUri = false) :
    closeWsp F s = { s with version := some s.p, wsStart := 0, wsEnd := 0 } := by
  rw [closeWsp, ht, hU]; rfl

theorem closeWsp_keep (F : RLFlags) (s : RL) (t0 : Nat) (ht : s.tgt = some t0) (hU : F.wspInUri = true) :
    closeWsp F s = s := by
  rw [closeWsp, ht, hU]; rfl

theorem endWsp_same (F : RLFlags) (s : RL) :
    (endWsp F s).buf = s.buf ∧ (endWsp F s).rb = s.rb ∧ (endWsp F s).p = s.p := by
  obtain ⟨a1, a2, a3⟩ := endOfWspStrict_same F s
  obtain ⟨b1, b2, b3⟩ := endOfWspBlock_same F (endOfWspStrict F s)
  exact ⟨b1.trans a1, b2.trans a2, b3.trans a3⟩

theorem step_tok (F : RLFlags) (s : RL) (c : UInt8) (hc : s.buf[s.rb + s.p]? = some c) (hp : rplain c) :
    rlStep F s = .advance { endWsp F s with qmark := qAfter (endWsp F s).tgt (endWsp F s).qmark (endWsp F s).p [c],
                                            p := (endWsp F s).p + 1 } := by
  rw [rlStep_char F s c hc hp.1 hp.2.1]
  obtain ⟨_, _, _, _, b5, b6, b7⟩ := rplain_beq hp
  unfold processChar onOther endWsp
  rw [notWsp F hp]
  dsimp only
  generalize endOfWspBlock F (endOfWspStrict F s) = s1
  unfold qAfter firstQ firstQ
  by_cases bq : (c == 63) = true
  · by_cases h2 : (s1.qmark.isNone && s1.tgt.isSome) = true <;> simp [bq, h2]
  · cases hq : s1.qmark <;> simp [bq, b5, b6, b7]

theorem step_plain (F : RLFlags) (s : RL) (c : UInt8) (hc : s.buf[s.rb + s.p]? = some c) (hp : rplain c)
    (hq : c ≠ 63) (hw : s.wsEnd = 0) :
    rlStep F s = .advance { s with p := s.p + 1 } := by
  rw [step_tok F s c hc hp, endWsp_id F s (Or.inl hw), qAfter_no63 _ _ _ _ (by simpa using hq)]

/-! The byte read is given as the head of the block `w :: ws` that is in the buffer: below, these
  lemmas are applied to states written out field by field, and there a hypothesis `BufIs s.buf …`
  is matched argument by argument, whereas for `s.buf[…]? = …` the unifier unfolds `getElem?`. -/

theorem step_methodEnd (F : RLFlags) (s : RL) (w : UInt8) (ws m : List UInt8) (hw1 : rlIsWsp F w = true)
    (hb : BufIs s.buf (s.rb + s.p) (w :: ws)) (hm : s.hasMethod = false) (hp0 : s.p ≠ 0) (hw : s.wsEnd = 0)
    (hbm : BufIs s.buf s.rb m) (hl : m.length = s.p) :
    rlStep F s = .advance { s with buf := s.buf.setIfInBounds (s.rb + s.p) 0, hasMethod := true, methodLen := s.p,
                                   mthd := stdMethodOf m, wsStart := s.p, wsEnd := s.p + 1, p := s.p + 1 } := by
  have hsz := get_some_lt hb.head
  rw [rlStep_wsp F s w hw1 hb.head (Or.inl hw)]
  unfold onWsp
  have hz : (s.p == 0) = false := by simp [hp0]
  simp only [hw, beq_self_eq_true, Bool.true_or, ↓reduceIte, hm, Bool.not_false, hz, Bool.false_eq_true]
  rw [wr_in hsz]
  have hr : rdRange (s.buf.setIfInBounds (s.rb + s.p) 0) s.rb s.p = some m := by
    rw [← hl]
    exact rdRange_eq _ _ _ (hbm.set _ _ (Or.inr (by omega))) (by simp only [Array.size_setIfInBounds]; omega)
  rw [hr]

theorem step_targetEnd_strict (F : RLFlags) (s : RL) (w : UInt8) (ws : List UInt8) (t0 l : Nat) (hw1 : rlIsWsp F w = true)
    (hb : BufIs s.buf (s.rb + s.p) (w :: ws)) (hU : F.wspInUri = false) (hm : s.hasMethod = true) (ht : s.tgt = some t0)
    (hv : s.version = none) (hw : s.wsEnd = 0) (hl : l = s.p - t0) :
    rlStep F s = .advance { s with buf := s.buf.setIfInBounds (s.rb + s.p) 0, tgtLen := l,
                                   wsStart := s.p, wsEnd := s.p + 1, p := s.p + 1 } := by
  rw [rlStep_wsp F s w hw1 hb.head (Or.inl hw), hl]
  unfold onWsp
  simp only [hw, beq_self_eq_true, Bool.true_or, ↓reduceIte, hm, Bool.not_true, Bool.false_eq_true, hU, Bool.not_false, hv, ht]
  rw [wr_in (get_some_lt hb.head)]

/-- whitespace in the URI is parsed: nothing is decided before the line end -/
theorem step_targetEnd_lenient (F : RLFlags) (s : RL) (w : UInt8) (ws : List UInt8) (hw1 : rlIsWsp F w = true)
    (hb : BufIs s.buf (s.rb + s.p) (w :: ws)) (hU : F.wspInUri = true) (hm : s.hasMethod = true) (hw : s.wsEnd = 0) :
    rlStep F s = .advance { s with wsStart := s.p, wsEnd := s.p + 1, p := s.p + 1 } := by
  rw [rlStep_wsp F s w hw1 hb.head (Or.inl hw)]
  unfold onWsp
  simp only [hw, beq_self_eq_true, Bool.true_or, ↓reduceIte, hm, Bool.not_true, Bool.false_eq_true, hU, bne_self_eq_false]

theorem step_wsp_cont (F : RLFlags) (s : RL) (w : UInt8) (hw1 : rlIsWsp F w = true) (hc : s.buf[s.rb + s.p]? = some w)
    (hB : F.wspBlocks = true) (hpe : s.p = s.wsEnd) (hne : s.wsEnd ≠ 0) :
    rlStep F s = .advance { s with wsEnd := s.p + 1, p := s.p + 1 } := by
  rw [rlStep_wsp F s w hw1 hc (Or.inr (Or.inr hB))]
  unfold onWsp
  have : (s.wsEnd == 0 || s.p != s.wsEnd || !F.wspBlocks) = false := by simp [hB, hpe, hne]
  simp only [this, Bool.false_eq_true, ↓reduceIte]

/-- a line end the parser accepts: `CR LF`, or a bare `LF` where that is taken as a line end -/
def LineEnd (F : RLFlags) (e : List UInt8) : Prop := e = [cCR, cLF] ∨ (e = [cLF] ∧ F.bareLfAsCrlf = true)

instance (F : RLFlags) (e : List UInt8) : Decidable (LineEnd F e) := by unfold LineEnd; infer_instance

theorem LineEnd.lt_size {F : RLFlags} {e : List UInt8} (he : LineEnd F e) {buf : Bytes} {off : Nat}
    (hb : BufIs buf off e) : off < buf.size := by
  rcases he with rfl | ⟨rfl, _⟩ <;> exact get_some_lt hb.head

theorem rlStep_eol (F : RLFlags) (s : RL) (e : List UInt8) (he : LineEnd F e) (hb : BufIs s.buf (s.rb + s.p) e)
    (hp0 : s.p ≠ 0) : rlStep F s = handleEol F s (e.headD 0) := by
  have hz : (s.p == 0 && F.skipEmpty) = false := by simp [hp0]
  unfold rlStep charStep
  simp only [hz, Bool.false_eq_true, ↓reduceIte]
  rcases he with rfl | ⟨rfl, hL⟩
  · have hn := hb.tail.head
    have hf : (s.p + 1 == s.fill) = false := by have := get_some_lt hn; simp [RL.fill]; omega
    simp only [hb.head, hn, hf, List.headD_cons, beq_self_eq_true, Bool.false_eq_true, ↓reduceIte]
  · have e1 : (cLF == cCR) = false := by decide
    simp only [hb.head, e1, hL, List.headD_cons, beq_self_eq_true, Bool.false_eq_true, ↓reduceIte]

theorem step_eol_strict (F : RLFlags) (s : RL) (e : List UInt8) (t0 v0 : Nat) (he : LineEnd F e)
    (hb : BufIs s.buf (s.rb + s.p) e) (hp0 : s.p ≠ 0) (hU : F.wspInUri = false) (hm : s.hasMethod = true)
    (ht : s.tgt = some t0) (hv : s.version = some v0) :
    rlStep F s = finishLine s (e.headD 0) t0 v0 := by
  rw [rlStep_eol F s e he hb hp0]
  unfold handleEol eolResolveStrict eolFinish
  simp only [hm, ↓reduceIte, hU, Bool.false_eq_true, hv, ht]

/-- the last whitespace block of the line separates URI and version -/
theorem step_eol_lenient (F : RLFlags) (s : RL) (e : List UInt8) (t0 l : Nat) (he : LineEnd F e)
    (hb : BufIs s.buf (s.rb + s.p) e) (hp0 : s.p ≠ 0) (hU : F.wspInUri = true) (hm : s.hasMethod = true)
    (ht : s.tgt = some t0) (hne : s.wsEnd ≠ 0) (hws : s.wsStart ≤ s.p) (hl : l = s.wsStart - t0) :
    rlStep F s = finishLine { s with buf := s.buf.setIfInBounds (s.rb + s.wsStart) 0, tgtLen := l,
                                     version := some s.wsEnd } (e.headD 0) t0 s.wsEnd := by
  have hsz := he.lt_size hb
  rw [rlStep_eol F s e he hb hp0, hl]
  unfold handleEol eolResolveWspInUri
  simp only [hm, ↓reduceIte, hU, ne_eq, hne, not_false_eq_true, ht]
  rw [wr_in (by omega)]
  rfl

theorem finishLine_ok (F : RLFlags) (s : RL) (e : List UInt8) (t v : Nat) (vs : List UInt8) (hv : Int) (he : LineEnd F e)
    (hb : BufIs s.buf (s.rb + s.p) e) (hvs : BufIs s.buf (s.rb + v) vs) (hl : s.p - v = vs.length) (hvp : v ≤ s.p)
    (hpv : parseHttpVersion vs = .ok hv) :
    finishLine s (e.headD 0) t v = .done (.ok {
        buf := s.buf.setIfInBounds (s.rb + s.p) 0, rb := s.rb + (s.p + e.length), method := s.rb,
        methodLen := s.methodLen, mthd := s.mthd, tgt := s.rb + t, tgtLen := s.tgtLen, qmark := s.qmark.map (s.rb + ·),
        version := s.rb + v, httpVer := hv, numWs := s.numWs, crSp := s.crSp, skipped := s.skipped }) := by
  have hsz := he.lt_size hb
  unfold finishLine
  rw [hl, rdRange_eq _ _ _ hvs (by omega)]
  simp only [hpv]
  rw [wr_in hsz]
  rcases he with rfl | ⟨rfl, _⟩ <;> rfl

/-- from `s` the scanner advances to `s'` in some number of steps; the invariant is carried along -/
abbrev Leads (F : RLFlags) : RL → RL → Prop := Reaches (rlScanner F) RLInv

theorem Leads.step {F : RLFlags} {s s' : RL} (h : rlStep F s = .advance s') : Leads F s s' :=
  Reaches.step (rlLaws F) (fun _ hi => hi) (fun hi => ((rlStep_walk F s #[] hi).adv s' h).inv) h

theorem Leads.done {F : RLFlags} {s s' : RL} {r : RLDone} (h : Leads F s s') (hi : RLInv s)
    (hd : rlStep F s' = .done r) : (rlScanner F).run s = .done r :=
  Reaches.done h hi hd

theorem run_tok (F : RLFlags) (w : List UInt8) : ∀ (s : RL) (p' : Nat) (q' : Option Nat),
    BufIs s.buf (s.rb + s.p) w → (∀ c ∈ w, rplain c) → (s.wsEnd = 0 ∨ s.wsEnd < s.p) →
    p' = s.p + w.length → q' = qAfter s.tgt s.qmark s.p w → Leads F s { s with qmark := q', p := p' } := by
  induction w with
  | nil =>
    intro s p' q' _ _ _ hp hq
    rw [hp, hq, qAfter_no63 _ _ _ _ (fun _ h => absurd h List.not_mem_nil)]
    exact Reaches.refl s
  | cons c w ih =>
    intro s p' q' hb hw hws hp hq
    have st := step_tok F s c hb.head (hw c (List.mem_cons_self ..))
    rw [endWsp_id F s (hws.imp_right Nat.ne_of_gt)] at st
    refine (Leads.step st).trans (ih _ p' q' ?_ (fun x hx => hw x (List.mem_cons_of_mem _ hx)) ?_ ?_ ?_)
    · have := hb.tail; rwa [Nat.add_assoc] at this
    · exact hws.imp_right Nat.lt_succ_of_lt
    · rw [hp, List.length_cons]; show s.p + (w.length + 1) = s.p + 1 + w.length; omega
    · rw [hq]; exact (qAfter_cons ..).symm

/-- `s1` says what the first byte of the token decides -/
theorem run_token (F : RLFlags) (s s1 : RL) (w : List UInt8) (p' : Nat) (q' : Option Nat) (h1 : endWsp F s = s1)
    (hw0 : w ≠ []) (hb : BufIs s.buf (s.rb + s.p) w) (hw : ∀ c ∈ w, rplain c) (hp : p' = s.p + w.length)
    (hq : q' = qAfter s1.tgt s1.qmark s.p w) : Leads F s { s1 with qmark := q', p := p' } := by
  intro hi
  cases w with
  | nil => exact absurd rfl hw0
  | cons c w =>
    have i1 : RLInv s1 := h1 ▸ (endOfWspBlock_inv F _ (endOfWspStrict_mid F s hi)).1
    obtain ⟨e1, e2, e3⟩ := h1 ▸ endWsp_same F s
    have st := step_tok F s c hb.head (hw c (List.mem_cons_self ..))
    rw [h1] at st
    refine ((Leads.step st).trans (run_tok F w _ p' q' ?_ (fun x hx => hw x (List.mem_cons_of_mem _ hx)) ?_ ?_ ?_)) hi
    · have := hb.tail; rwa [Nat.add_assoc, ← e1, ← e2, ← e3] at this
    · exact Or.inr (Nat.lt_succ_of_le i1.hws.2)
    · rw [hp, List.length_cons]; show s.p + (w.length + 1) = s1.p + 1 + w.length; omega
    · rw [hq, ← e3]; exact (qAfter_cons ..).symm

theorem run_wsp (F : RLFlags) (ws : List UInt8) : ∀ (s : RL) (p' : Nat),
    BufIs s.buf (s.rb + s.p) ws → (∀ w ∈ ws, rlIsWsp F w = true) → (ws ≠ [] → F.wspBlocks = true) → s.p = s.wsEnd →
    s.wsEnd ≠ 0 → p' = s.p + ws.length → Leads F s { s with wsEnd := p', p := p' } := by
  induction ws with
  | nil =>
    intro s p' _ _ _ hpe _ hp
    have : ({ s with wsEnd := p', p := p' } : RL) = s := by
      rw [hp]; cases s; simp only at hpe; subst hpe; rfl
    rw [this]; exact Reaches.refl s
  | cons c ws ih =>
    intro s p' hb hw hB hpe hne hp
    have hB' := hB (List.cons_ne_nil _ _)
    refine (Leads.step (step_wsp_cont F s c (hw c (List.mem_cons_self ..)) hb.head hB' hpe hne)).trans
      (ih _ p' ?_ (fun x hx => hw x (List.mem_cons_of_mem _ hx)) (fun _ => hB') rfl (Nat.succ_ne_zero _) ?_)
    · have := hb.tail; rwa [Nat.add_assoc] at this
    · rw [hp, List.length_cons]; show s.p + (ws.length + 1) = s.p + 1 + ws.length; omega

/-- **a separator block and the token behind it.**  `s1` is what the first separator byte makes of
    `s` (it opens a whitespace block: method or target may end there), `s2` what the end of the block
    decides (`closeWsp`: target or version starts, or nothing yet). -/
theorem run_sep_token (F : RLFlags) (s s1 s2 : RL) (ws tok : List UInt8) (pw pt : Nat) (q' : Option Nat)
    (h1 : rlStep F s = .advance s1) (hpe : s1.p = s1.wsEnd) (hne : s1.wsEnd ≠ 0)
    (hws : ∀ w ∈ ws, rlIsWsp F w = true) (hblk : ws ≠ [] → F.wspBlocks = true)
    (hbw : BufIs s1.buf (s1.rb + s1.p) ws) (hpw : pw = s1.p + ws.length)
    (h2 : closeWsp F { s1 with wsEnd := pw, p := pw } = s2)
    (ht0 : tok ≠ []) (hbt : BufIs s1.buf (s1.rb + pw) tok) (ht : ∀ c ∈ tok, rplain c) (hpt : pt = pw + tok.length)
    (hq : q' = qAfter s2.tgt s2.qmark pw tok) :
    Leads F s { s2 with qmark := q', p := pt } :=
  (Leads.step h1).trans <| (run_wsp F ws s1 pw hbw hws hblk hpe hne hpw).trans <|
    run_token F _ s2 tok pt q' ((endWsp_fire F _ rfl (by show pw ≠ 0; omega)).trans h2) ht0 hbt ht hpt hq

-- From here on states are written out as records.  To compare `{ buf := b, … }.buf` with a
-- buffer `x.setIfInBounds i v` the unifier would unfold `setIfInBounds` before it reduces the
-- projection; sealed, the projection is reduced at once.
seal Array.setIfInBounds

/-- the number of empty lines `afterEmptyLine` lets pass -/
def skipLimit (F : RLFlags) : Nat := if F.skipSeveral then Discipline.maxEmptyLinesSkip else 1

/-- `k` empty lines before the request line are skipped (not an error) -/
def SkipOK (F : RLFlags) (k : Nat) : Prop :=
  k = 0 ∨ (F.skipEmpty = true ∧ (F.skipUnlimited = true ∨ k ≤ skipLimit F))

instance (F : RLFlags) (k : Nat) : Decidable (SkipOK F k) := by unfold SkipOK; infer_instance

/-- the parser state at the start of the request line after `k` skipped empty lines -/
def startAt (buf0 : Bytes) (rb k : Nat) : RL := { buf := buf0, rb := rb, skipped := k }

theorem startAt_zero (buf0 : Bytes) (rb : Nat) : startAt buf0 rb 0 = RL.init buf0 rb := rfl

theorem step_skip (F : RLFlags) (s : RL) (e : List UInt8) (he : LineEnd F e) (hp0 : s.p = 0) (hS : F.skipEmpty = true)
    (hb : BufIs s.buf s.rb e) (hk : F.skipUnlimited = true ∨ s.skipped + 1 ≤ skipLimit F) :
    rlStep F s = .advance { s with rb := s.rb + e.length, skipped := s.skipped + 1 } := by
  have hz : (s.p == 0 && F.skipEmpty) = true := by simp [hp0, hS]
  have hlim : (!F.skipUnlimited &&
      decide ((if F.skipSeveral then Discipline.maxEmptyLinesSkip else 1) < s.skipped + 1)) = false := by
    rcases hk with h | h
    · simp [h]
    · unfold skipLimit at h
      simp only [Bool.and_eq_false_imp, decide_eq_false_iff_not, Nat.not_lt]
      exact fun _ => h
  unfold rlStep skipStep afterEmptyLine
  simp only [hz, ↓reduceIte]
  rcases he with rfl | ⟨rfl, hL⟩
  · have h1 := hb.tail.head
    have hf : (s.fill == 1) = false := by have := get_some_lt h1; simp [RL.fill]; omega
    simp only [hb.head, h1, hf, hlim, beq_self_eq_true, ↓reduceIte, Bool.false_eq_true]
    rfl
  · have e1 : (cLF == cCR) = false := by decide
    simp only [hb.head, e1, hL, hlim, beq_self_eq_true, Bool.and_self, ↓reduceIte, Bool.false_eq_true]
    rfl

theorem run_skip (F : RLFlags) (hS : F.skipEmpty = true) (els : List (List UInt8)) : ∀ (s : RL) (rb' k' : Nat),
    s.p = 0 → (∀ e ∈ els, LineEnd F e) → (F.skipUnlimited = true ∨ s.skipped + els.length ≤ skipLimit F) →
    BufIs s.buf s.rb els.flatten → rb' = s.rb + els.flatten.length → k' = s.skipped + els.length →
    Leads F s { s with rb := rb', skipped := k' } := by
  induction els with
  | nil => intro s rb' k' _ _ _ _ hr hk'; rw [hr, hk']; exact Reaches.refl s
  | cons e els ih =>
    intro s rb' k' hp0 he hk hb hr hk'
    rw [List.flatten_cons] at hb hr
    rw [List.length_cons] at hk hk'
    refine (Leads.step (step_skip F s e (he e (List.mem_cons_self ..)) hp0 hS hb.left (hk.imp_right (by omega)))).trans
      (ih _ rb' k' hp0 (fun x hx => he x (List.mem_cons_of_mem _ hx)) (hk.imp_right ?_) hb.right ?_ ?_)
    · intro h; show s.skipped + 1 + els.length ≤ _; omega
    · rw [hr, List.length_append]; exact (Nat.add_assoc ..).symm
    · rw [hk']; show s.skipped + (els.length + 1) = s.skipped + 1 + els.length; omega

theorem run_skip_init (F : RLFlags) (buf0 : Bytes) (rb : Nat) (els : List (List UInt8))
    (hels : ∀ e ∈ els, LineEnd F e) (hk : SkipOK F els.length) (hb : BufIs buf0 rb els.flatten) :
    Leads F (RL.init buf0 rb) (startAt buf0 (rb + els.flatten.length) els.length) := by
  cases els with
  | nil => exact Reaches.refl _
  | cons e els =>
    rcases hk with h | ⟨hS, hlim⟩
    · cases h
    · exact run_skip F hS (e :: els) (RL.init buf0 rb) _ _ rfl hels
        (hlim.imp_right (fun h => (Nat.zero_add _).symm ▸ h)) hb rfl (Nat.zero_add _).symm

/-- the parser state after `method WSP+ target` (`a`, `A`, `b` bytes; the method at `rb`, `k`
    empty lines skipped): from here the two regimes differ -/
def afterTarget (buf0 : Bytes) (rb k a A b : Nat) (m t : List UInt8) : RL :=
  { buf := buf0.setIfInBounds (rb + a) 0, rb := rb, p := a + A + b, skipped := k, hasMethod := true, methodLen := a,
    mthd := stdMethodOf m, tgt := some (a + A), qmark := (firstQ t).map (a + A + ·) }

/-- what the parser hands out for `method WSP+ target WSP+ version` (`a`, `A`, `b`, `B`, 8 bytes)
    and a line end of `e` bytes: the NULs are written on the first byte of each separator and
    of the line end -/
def lineOut (buf0 : Bytes) (rb k a A b B e : Nat) (m t : List UInt8) (hv : Int) : ReqLine :=
  { buf := ((buf0.setIfInBounds (rb + a) 0).setIfInBounds (rb + (a + A + b)) 0).setIfInBounds (rb + (a + A + b + B + 8)) 0,
    rb := rb + (a + A + b + B + 8 + e), method := rb, methodLen := a, mthd := stdMethodOf m, tgt := rb + (a + A),
    tgtLen := b, qmark := (firstQ t).map (rb + (a + A) + ·), version := rb + (a + A + b + B), httpVer := hv,
    numWs := 0, crSp := 0, skipped := k }

theorem head_part (F : RLFlags) (buf0 : Bytes) (rb k a A b : Nat) (m t : List UInt8) (w1 : UInt8) (ws1 : List UInt8)
    (ha : m.length = a) (hA : ws1.length + 1 = A) (hb : t.length = b) (hm0 : m ≠ []) (ht0 : t ≠ [])
    (hm : ∀ c ∈ m, rplain c) (ht : ∀ c ∈ t, rplain c) (hw1 : ∀ w ∈ w1 :: ws1, rlIsWsp F w = true)
    (hblk : ws1 ≠ [] → F.wspBlocks = true)
    (hbm : BufIs buf0 rb m) (hbw : BufIs buf0 (rb + a) (w1 :: ws1)) (hbt : BufIs buf0 (rb + (a + A)) t) :
    Leads F (startAt buf0 rb k) (afterTarget buf0 rb k a A b m t) := by
  have a0 : a ≠ 0 := fun h => hm0 (List.length_eq_zero_iff.mp (ha.trans h))
  refine Reaches.trans (b := { buf := buf0, rb := rb, p := a, skipped := k })
    (run_token F _ _ m a none (endWsp_id F _ (Or.inl rfl)) hm0 hbm hm (ha ▸ (Nat.zero_add _).symm) rfl) ?_
  exact run_sep_token F _ _ _ ws1 t (a + A) (a + A + b) _
    (step_methodEnd F _ w1 ws1 m (hw1 w1 (List.mem_cons_self ..)) hbw rfl a0 rfl hbm ha) rfl (Nat.succ_ne_zero a)
    (fun w h => hw1 w (List.mem_cons_of_mem _ h)) hblk
    ((Nat.add_assoc rb a 1 ▸ hbw.tail).set (rb + a) 0 (Or.inl (by omega))) (by show a + A = a + 1 + ws1.length; omega)
    rfl ht0 (hbt.set (rb + a) 0 (Or.inl (by omega))) ht (by rw [hb]) rfl

theorem tail_part (F : RLFlags) (buf0 : Bytes) (rb k a A b B : Nat) (m t v eol : List UInt8)
    (w2 : UInt8) (ws2 : List UInt8) (hv : Int) (hA : A ≠ 0) (hB : ws2.length + 1 = B)
    (hw2 : ∀ w ∈ w2 :: ws2, rlIsWsp F w = true) (hblk : ws2 ≠ [] → F.wspBlocks = true) (heol : LineEnd F eol)
    (hvl : v.length = 8) (hvc : ∀ c ∈ v, rplain c ∧ c ≠ 63) (hpv : parseHttpVersion v = .ok hv)
    (hbw : BufIs buf0 (rb + (a + A + b)) (w2 :: ws2)) (hbv : BufIs buf0 (rb + (a + A + b + B)) v)
    (hbe : BufIs buf0 (rb + (a + A + b + B + 8)) eol) (hi : RLInv (afterTarget buf0 rb k a A b m t)) :
    (rlScanner F).run (afterTarget buf0 rb k a A b m t) = .done (.ok (lineOut buf0 rb k a A b B eol.length m t hv)) := by
  have v0 : v ≠ [] := fun h => by rw [h] at hvl; cases hvl
  have hw' := (Nat.add_assoc rb (a + A + b) 1 ▸ hbw.tail).set (rb + a) 0 (Or.inl (by omega))
  have hbv' := hbv.set (rb + a) 0 (Or.inl (by omega))
  have hbe' := hbe.set (rb + a) 0 (Or.inl (by omega))
  have hpw : a + A + b + B = a + A + b + 1 + ws2.length := by omega
  have hq63 : ∀ c ∈ v, c ≠ 63 := fun c h => (hvc c h).2
  cases hU : F.wspInUri with
  | false =>
    -- the first separator byte ends the target: NUL written, length known; the version starts behind the block.
    -- (The state of the step lemma is written out: left as `_` it is found only after its buffer hypothesis has been
    -- elaborated against an unknown state, which is slow to check.)
    have hbv'' := hbv'.set (rb + (a + A + b)) 0 (Or.inl (by omega))
    have hbe'' := hbe'.set (rb + (a + A + b)) 0 (Or.inl (by omega))
    refine Leads.done (s' :=
        { afterTarget buf0 rb k a A b m t with
            buf := (buf0.setIfInBounds (rb + a) 0).setIfInBounds (rb + (a + A + b)) 0,
            p := a + A + b + B + 8, version := some (a + A + b + B), tgtLen := b })
      (run_sep_token F _ _ _ ws2 v (a + A + b + B) (a + A + b + B + 8) _
        (step_targetEnd_strict F (afterTarget buf0 rb k a A b m t) w2 ws2 (a + A) b (hw2 w2 (List.mem_cons_self ..))
          (hbw.set (rb + a) 0 (Or.inl (by omega))) hU rfl rfl rfl rfl (by show b = a + A + b - (a + A); omega))
        rfl (Nat.succ_ne_zero _) (fun w h => hw2 w (List.mem_cons_of_mem _ h)) hblk
        (hw'.set (rb + (a + A + b)) 0 (Or.inl (by omega))) hpw (closeWsp_ver F _ (a + A) rfl hU) v0 hbv''
        (fun c h => (hvc c h).1) (by rw [hvl]) (qAfter_no63 _ _ _ _ hq63).symm) hi ?_
    exact Eq.trans
      (step_eol_strict F _ eol (a + A) (a + A + b + B) heol hbe'' (Nat.succ_ne_zero _) hU rfl rfl rfl)
      (Eq.trans
        (finishLine_ok F _ eol _ _ v hv heol hbe'' hbv''
          (by show a + A + b + B + 8 - (a + A + b + B) = v.length; omega)
          (by show a + A + b + B ≤ a + A + b + B + 8; omega) hpv)
        (by rw [lineOut, ← qmap_shift (firstQ t) rb (a + A)]; rfl))
  | true =>
    -- the first separator byte only opens a whitespace block; the NUL behind the target is written at the line end
    refine Leads.done (s' :=
        { afterTarget buf0 rb k a A b m t with p := a + A + b + B + 8, wsStart := a + A + b, wsEnd := a + A + b + B })
      (run_sep_token F _ _ _ ws2 v (a + A + b + B) (a + A + b + B + 8) _
        (step_targetEnd_lenient F (afterTarget buf0 rb k a A b m t) w2 ws2 (hw2 w2 (List.mem_cons_self ..))
          (hbw.set (rb + a) 0 (Or.inl (by omega))) hU rfl rfl)
        rfl (Nat.succ_ne_zero _) (fun w h => hw2 w (List.mem_cons_of_mem _ h)) hblk hw' hpw
        (closeWsp_keep F _ (a + A) rfl hU) v0 hbv' (fun c h => (hvc c h).1) (by rw [hvl]) (qAfter_no63 _ _ _ _ hq63).symm) hi ?_
    exact Eq.trans
      (step_eol_lenient F _ eol (a + A) b heol hbe' (Nat.succ_ne_zero _) hU rfl rfl
        (by show a + A + b + B ≠ 0; omega)
        (by show a + A + b ≤ a + A + b + B + 8; omega) (by show b = a + A + b - (a + A); omega))
      (Eq.trans
        (finishLine_ok F _ eol _ _ v hv heol (hbe'.set (rb + (a + A + b)) 0 (Or.inl (by omega)))
          (hbv'.set (rb + (a + A + b)) 0 (Or.inl (by omega))) (by show a + A + b + B + 8 - (a + A + b + B) = v.length; omega)
          (by show a + A + b + B ≤ a + A + b + B + 8; omega) hpv)
        (by rw [lineOut, ← qmap_shift (firstQ t) rb (a + A)]; rfl))

theorem BufIs.line {buf : Bytes} {off : Nat} {m W1 t W2 v eol : List UInt8}
    (h : BufIs buf off (m ++ W1 ++ t ++ (W2 ++ v ++ eol))) :
    BufIs buf off m ∧ BufIs buf (off + m.length) W1 ∧ BufIs buf (off + (m.length + W1.length)) t ∧
      BufIs buf (off + (m.length + W1.length + t.length)) W2 ∧
      BufIs buf (off + (m.length + W1.length + t.length + W2.length)) v ∧
      BufIs buf (off + (m.length + W1.length + t.length + W2.length + v.length)) eol := by
  have e1 := h.left.right
  have e2 := h.right.left.left
  have e3 := h.right.left.right
  have e4 := h.right.right
  simp only [List.length_append] at e1 e2 e3 e4
  rw [Nat.add_assoc] at e3
  rw [Nat.add_assoc, ← Nat.add_assoc (m.length + W1.length + t.length)] at e4
  exact ⟨h.left.left.left, h.left.left.right, e1, e2, e3, e4⟩

/-- **The request line in every rendering, every combination of flags.**  `els` empty lines
    (within the limit of `afterEmptyLine`), then `m (w1 :: ws1) t (w2 :: ws2) v eol`: method and
    version of token characters, target of token characters, both separators non-empty blocks of
    bytes that are whitespace at this strictness (a single byte unless `wsp_blocks`), `v` a
    supported HTTP version, `eol` a line end.  The parser hands out `lineOut`. -/
theorem reqline_run (F : RLFlags) (buf0 : Bytes) (rb : Nat) (els : List (List UInt8)) (m t v eol : List UInt8)
    (w1 w2 : UInt8) (ws1 ws2 : List UInt8) (hv : Int) (hrb : rb ≤ buf0.size)
    (hels : ∀ e ∈ els, LineEnd F e) (hk : SkipOK F els.length)
    (hw1 : ∀ w ∈ w1 :: ws1, rlIsWsp F w = true) (hw2 : ∀ w ∈ w2 :: ws2, rlIsWsp F w = true)
    (hblk : F.wspBlocks = false → ws1 = [] ∧ ws2 = []) (heol : LineEnd F eol)
    (hm0 : m ≠ []) (ht0 : t ≠ []) (hm : ∀ c ∈ m, rplain c) (ht : ∀ c ∈ t, rplain c)
    (hvl : v.length = 8) (hvc : ∀ c ∈ v, rplain c ∧ c ≠ 63) (hpv : parseHttpVersion v = .ok hv)
    (hbuf : BufIs buf0 rb (els.flatten ++ (m ++ (w1 :: ws1) ++ t ++ ((w2 :: ws2) ++ v ++ eol)))) :
    (rlScanner F).run (RL.init buf0 rb) = .done (.ok (lineOut buf0 (rb + els.flatten.length) els.length
      m.length (ws1.length + 1) t.length (ws2.length + 1) eol.length m t hv)) := by
  obtain ⟨bm, bw1, bt, bw2, bv, be⟩ := hbuf.right.line
  rw [hvl] at be
  have hb1 : ws1 ≠ [] → F.wspBlocks = true := fun h => by
    cases hB : F.wspBlocks with
    | true => rfl
    | false => exact absurd (hblk hB).1 h
  have hb2 : ws2 ≠ [] → F.wspBlocks = true := fun h => by
    cases hB : F.wspBlocks with
    | true => rfl
    | false => exact absurd (hblk hB).2 h
  obtain ⟨hi, hr⟩ := (run_skip_init F buf0 rb els hels hk hbuf.left).trans
    (head_part F buf0 _ els.length _ _ _ m t w1 ws1 rfl rfl rfl hm0 ht0 hm ht hw1 hb1 bm bw1 bt) (RLInv.init buf0 rb hrb)
  rw [hr]
  exact tail_part F buf0 _ _ _ _ _ _ m t v eol w2 ws2 hv (Nat.succ_ne_zero _) rfl hw2 hb2 heol hvl hvc hpv bw2 bv be hi

end RLP
end Mhd.Req
