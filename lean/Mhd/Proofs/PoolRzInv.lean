/-
  Invariant theorems for the red-zone-parameterised pool model (`Mhd.Model.PoolRz`, `Mhd.Model.PoolRzOps`),
  both build variants of memorypool.c at once (`v.rz = 0`: ordinary build, `v.rz = ALIGN_SIZE`:
  MHD_ASAN_POISON_ACTIVE).

  The well-formedness that is inductive in the red-zone build is stronger than the one of the ordinary build:
  every live block *plus its red zone* lies in its part of the arena (`Inside`, for zero-length blocks too
  when `rz ≠ 0`), and live blocks are pairwise separated by a red zone (`Sep`).  The build-independent
  reading (`InsideW`, `WFW`, `Mhd.Pool.Disjoint`) follows (`Inside.weak`, `WF.weak`, `Sep.disjoint`) but is
  not inductive by itself (`wfw_not_inductive`).

  `Inside` depends on the cursors only and is monotone in them (`Inside.mono`); a block placed in the free
  space between the cursors is separated from every block inside (`Inside.sep_gap`); and when the last
  front block (the first back block) is resized or freed, every other block is inside the arena whose
  cursor is drawn back over it (`Inside.before_last`, `Inside.after_first`).  Every operation is one of
  these moves.
-/
import Mhd.Proofs.PoolRz
import Mhd.Proofs.Lists

set_option linter.unusedVariables false
namespace Mhd.PoolRz
open Mhd.Pool (W A roundUp zeroRange writeAt readAt Blk Op Disjoint W_eq
  readAt_zeroRange_disjoint readAt_writeAt_same
  readAt_length roundUp_le roundUp_of_aligned roundUp_aligned aligned_add aligned_sub)

def Inv (p : Pool) : Prop :=
  p.pos ≤ p.end_ ∧ p.end_ ≤ p.size ∧ p.pos % A = 0 ∧ p.end_ % A = 0 ∧ p.size % A = 0 ∧
  p.size < 2 ^ 62 ∧ p.mem.length = p.size ∧ p.psn.length = p.size

/-- a live block lies in the part of the arena it was carved from — the build-independent reading
    (same shape as `Mhd.Pool.Blk.Inside`); consequence of `Inside` -/
def InsideW (p : Pool) (b : Blk) : Prop :=
  b.off % A = 0 ∧ b.off ≤ p.size ∧ b.len < W ∧
  (0 < b.len → (b.front = true → b.off + b.len ≤ p.pos) ∧
               (b.front = false → p.end_ ≤ b.off ∧ b.off + b.len ≤ p.size))

/-- a live block *together with its red zone* lies in the part of the arena it was carved from.
    In the red-zone build this also constrains zero-length blocks (they own a red zone and
    `MHD_pool_deallocate` has no early return for them). -/
def Inside (v : Var) (p : Pool) (b : Blk) : Prop :=
  b.off % A = 0 ∧ b.off ≤ p.size ∧ b.len < W ∧
  ((0 < b.len ∨ v.rz ≠ 0) → (b.front = true → b.off + b.len + v.rz ≤ p.pos) ∧
               (b.front = false → p.end_ ≤ b.off ∧ b.off + b.len + v.rz ≤ p.size))

/-- two blocks are separated by at least a red zone (ordinary build: share no byte) -/
def Sep (v : Var) (a b : Blk) : Prop :=
  (v.rz = 0 ∧ (a.len = 0 ∨ b.len = 0)) ∨ a.off + a.len + v.rz ≤ b.off ∨ b.off + b.len + v.rz ≤ a.off

/-- the build-independent well-formedness (the statement shape of `Mhd.Pool.WF`); consequence of `WF` -/
def WFW (s : St) : Prop :=
  Inv s.p ∧ (∀ b ∈ s.live, InsideW s.p b) ∧ s.live.Pairwise Disjoint

/-- well-formedness that is inductive in both builds -/
def WF (v : Var) (s : St) : Prop :=
  Inv s.p ∧ (∀ b ∈ s.live, Inside v s.p b) ∧ s.live.Pairwise (Sep v)

theorem Sep.symm {v : Var} {a b : Blk} (h : Sep v a b) : Sep v b a := by
  unfold Sep at *; omega

theorem Sep.disjoint {v : Var} {a b : Blk} (h : Sep v a b) : Disjoint a b := by
  unfold Sep at h; unfold Disjoint; omega

theorem Sep.bytes {v : Var} {bo bl : Nat} {f : Bool} {c : Blk} (h : Sep v ⟨bo, bl, f⟩ c) :
    bl = 0 ∨ c.len = 0 ∨ bo + bl ≤ c.off ∨ c.off + c.len ≤ bo := h.disjoint

theorem Inside.weak {v : Var} {p : Pool} {b : Blk} (h : Inside v p b) : InsideW p b := by
  obtain ⟨a, b', c, d⟩ := h
  refine ⟨a, b', c, fun hl => ?_⟩
  have := d (Or.inl hl)
  exact ⟨fun hf => by have := this.1 hf; omega, fun hf => by have := this.2 hf; omega⟩

theorem WF.weak {v : Var} {s : St} (h : WF v s) : WFW s :=
  ⟨h.1, fun b hb => (h.2.1 b hb).weak, h.2.2.imp (fun h => h.disjoint)⟩

theorem inside_iff {v : Var} {p : Pool} {c : Blk} : Inside v p c ↔
    c.off % A = 0 ∧ c.off ≤ p.size ∧ c.len < W ∧
    ((c.len = 0 ∧ v.rz = 0) ∨ (c.front = true ∧ c.off + c.len + v.rz ≤ p.pos) ∨
      (c.front = false ∧ p.end_ ≤ c.off ∧ c.off + c.len + v.rz ≤ p.size)) := by
  refine and_congr_right fun _ => and_congr_right fun _ => and_congr_right fun _ => ⟨fun d => ?_, fun d hl => ?_⟩
  · by_cases hl : c.len = 0 ∧ v.rz = 0
    · exact .inl hl
    · have := d (by omega)
      cases hf : c.front
      · exact .inr (.inr ⟨rfl, this.2 hf⟩)
      · exact .inr (.inl ⟨rfl, this.1 hf⟩)
  · rcases d with d | ⟨hf, d⟩ | ⟨hf, d⟩
    · omega
    · exact ⟨fun _ => d, fun hf' => absurd (hf.symm.trans hf') (by decide)⟩
    · exact ⟨fun hf' => absurd (hf.symm.trans hf') (by decide), fun _ => d⟩

theorem inside_front {v : Var} {p : Pool} {o l : Nat} (ha : o % A = 0) (hs : o ≤ p.size) (hl : l < W)
    (h : o + l + v.rz ≤ p.pos) : Inside v p ⟨o, l, true⟩ :=
  inside_iff.mpr ⟨ha, hs, hl, .inr (.inl ⟨rfl, h⟩)⟩

theorem inside_back {v : Var} {p : Pool} {o l : Nat} (ha : o % A = 0) (hs : o ≤ p.size) (hl : l < W)
    (he : p.end_ ≤ o) (h : o + l + v.rz ≤ p.size) : Inside v p ⟨o, l, false⟩ :=
  inside_iff.mpr ⟨ha, hs, hl, .inr (.inr ⟨rfl, he, h⟩)⟩

theorem Inside.mono {v : Var} {p q : Pool} {c : Blk} (h : Inside v q c) (hs : p.size = q.size)
    (hp : q.pos ≤ p.pos) (he : p.end_ ≤ q.end_) : Inside v p c := by
  obtain ⟨ha, hsz, hl, hc⟩ := inside_iff.mp h
  refine inside_iff.mpr ⟨ha, hs ▸ hsz, hl, ?_⟩
  rcases hc with d | ⟨f, d⟩ | ⟨f, d1, d2⟩
  · exact .inl d
  · exact .inr (.inl ⟨f, by omega⟩)
  · exact .inr (.inr ⟨f, by omega, by omega⟩)

theorem Inside.bytes {v : Var} {q : Pool} {c : Blk} (h : Inside v q c) :
    c.len = 0 ∨ c.off + c.len ≤ q.pos ∨ q.end_ ≤ c.off := by
  obtain ⟨_, _, _, d | ⟨_, d⟩ | ⟨_, d, _⟩⟩ := inside_iff.mp h <;> omega

theorem Inside.sep_gap {v : Var} {q : Pool} {c : Blk} (h : Inside v q c) {o n : Nat} (f : Bool)
    (ho : q.pos ≤ o) (hn : o + n + v.rz ≤ q.end_) : Sep v c ⟨o, n, f⟩ := by
  show _ ∨ c.off + c.len + v.rz ≤ o ∨ o + n + v.rz ≤ c.off
  obtain ⟨_, _, _, d | ⟨_, d⟩ | ⟨_, d, _⟩⟩ := inside_iff.mp h <;> omega

theorem Inside.le_size {v : Var} {p : Pool} {c : Blk} (h : Inside v p c) (hi : Inv p) :
    c.off + c.len ≤ p.size := by
  obtain ⟨_, _, _, d | ⟨_, d⟩ | ⟨_, _, d⟩⟩ := inside_iff.mp h <;> have := hi.1 <;> have := hi.2.1 <;> omega

theorem Var.Valid.add_le {v : Var} (hv : v.Valid) {n x : Nat} (h : n + v.rz ≤ x) (hx : x % A = 0) :
    roundUp n + v.rz ≤ x := by
  have := roundUp_le n (x - v.rz) (by omega) (aligned_sub hx hv.aligned)
  omega

theorem Inside.before_last {v : Var} (hv : v.Valid) {p : Pool} {c : Blk} {bo bl : Nat} (h : Inside v p c)
    (hs : Sep v ⟨bo, bl, true⟩ c) (hi : Inv p) (hb : Inside v p ⟨bo, bl, true⟩)
    (hlast : p.pos = roundUp (bo + bl) + v.rz) : Inside v { p with pos := bo } c := by
  obtain ⟨ha, hsz, hl, hc⟩ := inside_iff.mp h
  refine inside_iff.mpr ⟨ha, hsz, hl, ?_⟩
  rcases hc with d | ⟨f, d⟩ | d
  · exact .inl d
  · rcases hs with ⟨h0, hz⟩ | hs | hs
    · have hbo : bo ≤ p.size := hb.2.1
      have : roundUp bo = bo := roundUp_of_aligned bo hb.1 (by have := hi.2.2.2.2.2.1; rw [W_eq]; omega)
      simp only at hz
      by_cases hcl : c.len = 0
      · exact .inl ⟨hcl, h0⟩
      · have hbl : bl = 0 := by omega
        subst hbl
        exact .inr (.inl ⟨f, by show c.off + c.len + v.rz ≤ bo; rw [Nat.add_zero] at hlast; omega⟩)
    · have := hv.add_le hs ha
      exact .inl (by simp only at this; omega)
    · exact .inr (.inl ⟨f, hs⟩)
  · exact .inr (.inr d)

theorem Inside.after_first {v : Var} (hv : v.Valid) {p : Pool} {c : Blk} {bl : Nat} (h : Inside v p c)
    (hs : Sep v ⟨p.end_, bl, false⟩ c) (hi : Inv p) :
    Inside v { p with end_ := roundUp (p.end_ + bl) + v.rz } c := by
  obtain ⟨ha, hsz, hl, hc⟩ := inside_iff.mp h
  refine inside_iff.mpr ⟨ha, hsz, hl, ?_⟩
  rcases hc with d | d | ⟨f, d1, d2⟩
  · exact .inl d
  · exact .inr (.inl d)
  · rcases hs with ⟨h0, hz⟩ | hs | hs
    · have : roundUp p.end_ = p.end_ := roundUp_of_aligned _ hi.2.2.2.1 (by have := hi.2.1; have := hi.2.2.2.2.2.1; rw [W_eq]; omega)
      simp only at hz
      by_cases hcl : c.len = 0
      · exact .inl ⟨hcl, h0⟩
      · have hbl : bl = 0 := by omega
        subst hbl
        exact .inr (.inr ⟨f, by show roundUp (p.end_ + 0) + v.rz ≤ c.off; rw [Nat.add_zero]; omega, d2⟩)
    · exact .inr (.inr ⟨f, hv.add_le hs ha, d2⟩)
    · exact .inl (by simp only at hs; omega)


/-- `p'` is `p` with the cursors at `pos`, `end_` and the bytes `mem` (the poison flags may differ) -/
structure Upd (p p' : Pool) (pos end_ : Nat) (mem : List UInt8) : Prop where
  size : p'.size = p.size
  pos : p'.pos = pos
  end_ : p'.end_ = end_
  mem : p'.mem = mem
  psn : p'.psn.length = p.psn.length

theorem upd_iff {p p' : Pool} {pos end_ : Nat} {mem : List UInt8} : Upd p p' pos end_ mem ↔
    p'.size = p.size ∧ p'.pos = pos ∧ p'.end_ = end_ ∧ p'.mem = mem ∧ p'.psn.length = p.psn.length :=
  ⟨fun h => ⟨h.1, h.2, h.3, h.4, h.5⟩, fun h => ⟨h.1, h.2.1, h.2.2.1, h.2.2.2.1, h.2.2.2.2⟩⟩

theorem Upd.inv {p p' : Pool} {pos end_ : Nat} {mem : List UInt8} (hu : Upd p p' pos end_ mem) (h : Inv p)
    (hm : mem.length = p.mem.length) (h1 : pos ≤ end_) (h2 : end_ ≤ p.size) (h3 : pos % A = 0)
    (h4 : end_ % A = 0) : Inv p' := by
  unfold Inv
  rw [hu.size, hu.pos, hu.end_, hu.mem, hu.psn]
  exact ⟨h1, h2, h3, h4, h.2.2.2.2.1, h.2.2.2.2.2.1, hm.trans h.2.2.2.2.2.2.1, h.2.2.2.2.2.2.2⟩

/-- `p'` is `p` after block `nb` was handed out; `K` singles out the blocks that stay live: each is still
    inside, separated from `nb`, and has its bytes -/
structure Placed (v : Var) (p p' : Pool) (nb : Blk) (K : Blk → Prop) : Prop where
  inv : Inv p'
  size : p'.size = p.size
  inside : Inside v p' nb
  others : ∀ c, Inside v p c → K c →
    Inside v p' c ∧ Sep v c nb ∧ readAt p'.mem c.off c.len = readAt p.mem c.off c.len

theorem Placed.of_gap {v : Var} {p p' q : Pool} {o n : Nat} {f : Bool} {K : Blk → Prop} (hinv : Inv p')
    (hsz : p'.size = p.size) (hqs : q.size = p.size) (hin : Inside v p' ⟨o, n, f⟩)
    (hq : ∀ c, Inside v p c → K c → Inside v q c ∧ readAt p'.mem c.off c.len = readAt p.mem c.off c.len)
    (hp : q.pos ≤ p'.pos) (he : p'.end_ ≤ q.end_) (ho : q.pos ≤ o) (hn : o + n + v.rz ≤ q.end_) :
    Placed v p p' ⟨o, n, f⟩ K :=
  ⟨hinv, hsz, hin, fun c hc hk =>
    ⟨(hq c hc hk).1.mono (hsz.trans hqs.symm) hp he, (hq c hc hk).1.sep_gap f ho hn, (hq c hc hk).2⟩⟩

theorem carve_front {v : Var} (hv : v.Valid) (hs : v.Sound) {p p' : Pool} {n : Nat} {mem : List UInt8}
    {K : Blk → Prop} (h : Inv p) (hn : n < W) (ht : tooBig v n (roundRz v n) = false)
    (hfit : roundRz v n ≤ p.end_ - p.pos) (hu : Upd p p' (p.pos + roundRz v n) p.end_ mem)
    (hm : mem.length = p.mem.length)
    (hmem : ∀ c, Inside v p c → K c → readAt mem c.off c.len = readAt p.mem c.off c.len) :
    Placed v p p' ⟨p.pos, n, true⟩ K ∧ p.pos + roundUp n + v.rz ≤ p'.pos := by
  obtain ⟨hle, hr⟩ := roundRz_of_ok hv hs hn ht
  have ⟨h1, h2, h3, h4, _⟩ := h
  have ⟨us, up, ue, um, _⟩ := hu
  have key : p.pos + n + v.rz ≤ p'.pos ∧ p.pos + roundRz v n ≤ p.end_ ∧ p.pos + roundUp n + v.rz ≤ p'.pos := by
    omega
  refine ⟨.of_gap (q := p) (hu.inv h hm key.2.1 h2 ?_ h4) us rfl
    (inside_front h3 (us ▸ Nat.le_trans h1 h2) hn key.1) (fun c hc hk => ⟨hc, um ▸ hmem c hc hk⟩)
    (up ▸ Nat.le_add_right ..) (Nat.le_of_eq ue) (Nat.le_refl _) (Nat.le_trans key.1 (up ▸ key.2.1)), key.2.2⟩
  rw [hr]; exact aligned_add h3 (aligned_add (roundUp_aligned n) hv.aligned)

theorem carve_back {v : Var} (hv : v.Valid) (hs : v.Sound) {p p' : Pool} {n : Nat} {K : Blk → Prop}
    (h : Inv p) (hn : n < W) (ht : tooBig v n (roundRz v n) = false) (hfit : roundRz v n ≤ p.end_ - p.pos)
    (hu : Upd p p' p.pos (p.end_ - roundRz v n) p.mem) :
    Placed v p p' ⟨p.end_ - roundRz v n, n, false⟩ K ∧ p.end_ - roundRz v n + roundUp n + v.rz ≤ p.end_ := by
  obtain ⟨hle, hr⟩ := roundRz_of_ok hv hs hn ht
  have ⟨h1, h2, h3, h4, _⟩ := h
  have ha : (p.end_ - roundRz v n) % A = 0 := by
    rw [hr]; exact aligned_sub h4 (aligned_add (roundUp_aligned n) hv.aligned)
  have he : p.end_ - roundRz v n + roundRz v n = p.end_ := by omega
  generalize p.end_ - roundRz v n = e at *
  have ⟨us, up, ue, um, _⟩ := hu
  have key : p.pos ≤ e ∧ e ≤ p.end_ ∧ e ≤ p.size ∧ e + n + v.rz ≤ p.end_ ∧ e + n + v.rz ≤ p.size ∧
      e + roundUp n + v.rz ≤ p.end_ := by omega
  obtain ⟨k1, k2, k3, k4, k5, k6⟩ := key
  exact ⟨.of_gap (q := p) (hu.inv h rfl k1 k3 h3 ha) us rfl
    (inside_back ha (us ▸ k3) hn (Nat.le_of_eq ue) (us ▸ k5)) (fun c hc _ => ⟨hc, by rw [um]⟩)
    (Nat.le_of_eq up.symm) (ue ▸ k2) k1 k4, k6⟩

theorem allocate_spec {v : Var} (hv : v.Valid) (hs : v.Sound) (p : Pool) (n : Nat) (fe : Bool)
    (h : Inv p) (hn : n < W) :
    allocate v p n fe = (p, none) ∨
    ∃ p' off, allocate v p n fe = (p', some off) ∧ Placed v p p' ⟨off, n, !fe⟩ (fun _ => True) ∧
      (fe = false → off + roundUp n + v.rz ≤ p'.pos) ∧ (fe = true → off + roundUp n + v.rz ≤ p.end_) := by
  cases ht : tooBig v n (roundRz v n)
  · by_cases h2 : roundRz v n > p.end_ - p.pos
    · left; simp [allocate, ht, h2]
    · right
      cases fe
      · have hc := carve_front hv hs (K := fun _ => True) h hn ht (by omega)
          (p' := { p with pos := p.pos + roundRz v n, psn := setPsn p.psn p.pos n false })
          ⟨rfl, rfl, rfl, rfl, setPsn_length ..⟩ rfl (fun _ _ _ => rfl)
        exact ⟨_, _, by simp [allocate, ht, h2], hc.1, fun _ => hc.2, fun hh => nomatch hh⟩
      · have hc := carve_back hv hs (K := fun _ => True) h hn ht (by omega)
          (p' := { p with end_ := p.end_ - roundRz v n, psn := setPsn p.psn (p.end_ - roundRz v n) n false })
          ⟨rfl, rfl, rfl, rfl, setPsn_length ..⟩
        exact ⟨_, _, by simp [allocate, ht, h2], hc.1, (fun hh => nomatch hh), fun _ => hc.2⟩
  · left; simp [allocate, ht]

theorem tryAlloc_spec {v : Var} (hv : v.Valid) (hs : v.Sound) (p : Pool) (n : Nat) (h : Inv p) (hn : n < W) :
    (∃ need, tryAlloc v p n = (p, none, some need)) ∨
    ∃ p' off, tryAlloc v p n = (p', some off, none) ∧ Placed v p p' ⟨off, n, false⟩ (fun _ => True) ∧
      off + roundUp n + v.rz ≤ p.end_ := by
  cases ht : tooBig v n (roundRz v n)
  · by_cases h2 : roundRz v n > p.end_ - p.pos
    · left
      by_cases h3 : roundRz v n ≤ p.end_ <;> simp [tryAlloc, ht, h2, h3]
    · right
      have hc := carve_back hv hs (K := fun _ => True) h hn ht (by omega)
        (p' := { p with end_ := p.end_ - roundRz v n, psn := setPsn p.psn (p.end_ - roundRz v n) n false })
        ⟨rfl, rfl, rfl, rfl, setPsn_length ..⟩
      exact ⟨_, _, by simp [tryAlloc, ht, h2], hc.1, hc.2⟩
  · left; simp [tryAlloc, ht]

/-- purely syntactic case analysis of `reallocate` on a non-NULL block: refused; resized in place (the block
    is the last one); shrunk where it is; moved to the front of the free space -/
theorem reallocate_cases (v : Var) (p : Pool) (o os n : Nat) :
    reallocate v p (some o) os n = (p, none) ∨
    ((reallocate v p (some o) os n).2 = some o ∧
       Upd p (reallocate v p (some o) os n).1 (roundRz v ((o + n) % W)) p.end_ (shrinkMem p.mem o os n) ∧
       p.pos = roundRz v ((o + os) % W) ∧
       (os ≤ n → roundRz v ((o + n) % W) ≤ p.end_ ∧ p.pos ≤ roundRz v ((o + n) % W) ∧ n ≤ (p.end_ + W - o) % W)) ∨
    ((reallocate v p (some o) os n).2 = some o ∧
       Upd p (reallocate v p (some o) os n).1 p.pos p.end_ (shrinkMem p.mem o os n) ∧ n < os) ∨
    ((reallocate v p (some o) os n).2 = some p.pos ∧
       Upd p (reallocate v p (some o) os n).1 (p.pos + roundRz v n) p.end_ (moveMem p.mem p.pos o os) ∧
       os ≤ n ∧ roundRz v n ≤ p.end_ - p.pos ∧ tooBig v n (roundRz v n) = false) := by
  unfold reallocate reallocFresh shrinkHead shrinkMem moveMem
  by_cases hs : os > n
  · by_cases hl : p.pos = roundRz v ((o + os) % W)
    · right; left
      simp [hs, hl, upd_iff]
      omega
    · right; right; left
      simp [hs, hl, upd_iff]
  · have hs' : os ≤ n := by omega
    by_cases hl : p.pos = roundRz v ((o + os) % W)
    · by_cases hg : (roundRz v ((o + n) % W) > p.end_ ∨ roundRz v ((o + n) % W) < p.pos ∨ n > (p.end_ + W - o) % W)
      · left
        have hg' := hg; rw [hl] at hg'
        simp [hs, hl, hg']
      · right; left
        have hg' := hg; rw [hl] at hg'
        simp [hs, hl, hg', upd_iff]
        rw [hl] at hg; omega
    · cases ht : tooBig v n (roundRz v n)
      · by_cases hf : roundRz v n > p.end_ - p.pos
        · left
          simp [hs, hl, hf, ht]
        · right; right; right
          by_cases ho : os = 0
          · subst ho; simp only [Nat.add_zero] at hl; simp [hl, hf, ht, upd_iff]; omega
          · simp [hs, hl, hf, ho, hs', ht, upd_iff]; omega
      · left
        simp [hs, hl, ht]

theorem front_extent {v : Var} {p : Pool} {bo bl : Nat} (h : Inv p) (hb : Inside v p ⟨bo, bl, true⟩) :
    bo % A = 0 ∧ bo ≤ p.size ∧ ((bl = 0 ∧ v.rz = 0) ∨ bo + bl + v.rz ≤ p.pos) ∧ bo + bl < 2 ^ 63 := by
  have hlt : bo + bl < 2 ^ 63 := Nat.lt_of_le_of_lt (hb.le_size h) (Nat.lt_trans h.2.2.2.2.2.1 (by decide))
  obtain ⟨ha, hsz, _, d | ⟨_, d⟩ | ⟨hf, _⟩⟩ := inside_iff.mp hb
  · exact ⟨ha, hsz, .inl d, hlt⟩
  · exact ⟨ha, hsz, .inr d, hlt⟩
  · cases hf

/-- where `reallocate` puts the block, in every build and for every size: it stays where it is, or the old block was
    empty, or the new block starts behind the old one and its red zone (the relocating `memcpy` never overlaps) -/
theorem reallocate_offset (v : Var) {p : Pool} {bo bl : Nat} (n : Nat) (h : Inv p) (hb : Inside v p ⟨bo, bl, true⟩)
    {off : Nat} (hr : (reallocate v p (some bo) bl n).2 = some off) :
    off = bo ∨ bl = 0 ∨ bo + bl + v.rz ≤ off := by
  obtain ⟨_, _, hext, _⟩ := front_extent h hb
  rcases reallocate_cases v p bo bl n with hc | ⟨hc, _⟩ | ⟨hc, _⟩ | ⟨hc, _⟩ <;> rw [hc] at hr
  · cases hr
  · exact .inl (Option.some.inj hr).symm
  · exact .inl (Option.some.inj hr).symm
  · cases hr
    exact hext.elim (fun hz => .inr (.inl hz.1)) (fun hz => .inr (.inr hz))

theorem realloc_inplace {v : Var} (hv : v.Valid) {p p' : Pool} {bo bl n : Nat} (h : Inv p)
    (hb : Inside v p ⟨bo, bl, true⟩) (hn : n < W) (h1 : p.pos = roundRz v ((bo + bl) % W))
    (h2 : bl ≤ n → roundRz v ((bo + n) % W) ≤ p.end_ ∧ p.pos ≤ roundRz v ((bo + n) % W) ∧ n ≤ (p.end_ + W - bo) % W)
    (hu : Upd p p' (roundRz v ((bo + n) % W)) p.end_ (shrinkMem p.mem bo bl n)) :
    Placed v p p' ⟨bo, n, true⟩ (Sep v ⟨bo, bl, true⟩) ∧
    readAt p'.mem bo (min bl n) = readAt p.mem bo (min bl n) := by
  obtain ⟨hba, hbs, hbe, hbl⟩ := front_extent h hb
  have ⟨i1, i2, _, i4, _, i6, _⟩ := h
  obtain ⟨r1, -, l1⟩ := roundRz_small hv (bo + bl) hbl
  rw [r1] at h1
  -- growing: the code's test `new_size ≤ end - old_offset` keeps `bo + n` from wrapping
  have hbn : bo + n < 2 ^ 63 := by
    by_cases hsn : bl ≤ n
    · have := (h2 hsn).2.2; simp only [W_eq] at this; omega
    · omega
  obtain ⟨r2, -, l2⟩ := roundRz_small hv (bo + n) hbn
  rw [r2] at h2 hu
  have hle : roundUp (bo + n) + v.rz ≤ p.end_ := by
    by_cases hsn : bl ≤ n
    · exact (h2 hsn).1
    · have := roundUp_le (bo + n) (roundUp (bo + bl)) (by omega) (roundUp_aligned _); omega
  have ⟨us, up, ue, um, _⟩ := hu
  refine ⟨.of_gap (q := { p with pos := bo })
      (hu.inv h (shrinkMem_length ..) hle i2 (aligned_add (roundUp_aligned _) hv.aligned) i4) us rfl
      (inside_front hba (us ▸ hbs) hn (up ▸ Nat.add_le_add_right l2 _))
      (fun c hc hk => ⟨hc.before_last hv hk h hb h1, ?_⟩)
      (up ▸ Nat.le_trans (Nat.le_add_right bo n) (Nat.le_trans l2 (Nat.le_add_right ..))) (Nat.le_of_eq ue)
      (Nat.le_refl _) (Nat.le_trans (Nat.add_le_add_right l2 _) hle), ?_⟩
  · have := hk.bytes
    exact um ▸ readAt_shrinkMem _ _ _ _ _ _ (by omega)
  · exact um ▸ readAt_shrinkMem _ _ _ _ _ _ (by omega)

theorem realloc_shrink {v : Var} {p p' : Pool} {bo bl n : Nat} (h : Inv p)
    (hb : Inside v p ⟨bo, bl, true⟩) (hn : n < bl) (hu : Upd p p' p.pos p.end_ (shrinkMem p.mem bo bl n)) :
    Placed v p p' ⟨bo, n, true⟩ (Sep v ⟨bo, bl, true⟩) ∧
    readAt p'.mem bo (min bl n) = readAt p.mem bo (min bl n) := by
  obtain ⟨hba, hbs, hbe, hbl⟩ := front_extent h hb
  have hbw : bl < W := hb.2.2.1
  have hsame : ∀ c, Inside v p c → Inside v p' c := fun c hc =>
    hc.mono hu.size (Nat.le_of_eq hu.pos.symm) (Nat.le_of_eq hu.end_)
  refine ⟨⟨hu.inv h (shrinkMem_length ..) h.1 h.2.1 h.2.2.1 h.2.2.2.1, hu.size,
    hsame _ (inside_front hba hbs (by omega) (by omega)), fun c hc hk => ⟨hsame c hc, ?_, ?_⟩⟩, ?_⟩
  · show (v.rz = 0 ∧ (c.len = 0 ∨ n = 0)) ∨ c.off + c.len + v.rz ≤ bo ∨ bo + n + v.rz ≤ c.off
    have : (v.rz = 0 ∧ (bl = 0 ∨ c.len = 0)) ∨ bo + bl + v.rz ≤ c.off ∨ c.off + c.len + v.rz ≤ bo := hk
    omega
  · have := hk.bytes
    exact hu.mem ▸ readAt_shrinkMem _ _ _ _ _ _ (by omega)
  · exact hu.mem ▸ readAt_shrinkMem _ _ _ _ _ _ (by omega)

theorem realloc_fresh {v : Var} (hv : v.Valid) (hs : v.Sound) {p p' : Pool} {bo bl n : Nat} (h : Inv p)
    (hb : Inside v p ⟨bo, bl, true⟩) (hn : n < W) (h1 : bl ≤ n) (h2 : roundRz v n ≤ p.end_ - p.pos)
    (h3 : tooBig v n (roundRz v n) = false)
    (hu : Upd p p' (p.pos + roundRz v n) p.end_ (moveMem p.mem p.pos bo bl)) :
    Placed v p p' ⟨p.pos, n, true⟩ (Sep v ⟨bo, bl, true⟩) ∧
    readAt p'.mem p.pos (min bl n) = readAt p.mem bo (min bl n) := by
  obtain ⟨hba, hbs, hbe, hbl⟩ := front_extent h hb
  obtain ⟨hle, hr⟩ := roundRz_of_ok hv hs hn h3
  have ⟨i1, i2, _, _, _, _, i7, _⟩ := h
  refine ⟨(carve_front hv hs h hn h3 h2 hu (moveMem_length ..) fun c hc hk => ?_).1, ?_⟩
  · have := hk.bytes
    have := hc.bytes
    exact readAt_moveMem _ _ _ _ _ _ (by omega)
  · rw [hu.mem, Nat.min_eq_left h1]
    exact readAt_moveMem_self _ _ _ _ (by omega) (by omega)

theorem reallocate_spec {v : Var} (hv : v.Valid) (hs : v.Sound) (p : Pool) (bo bl n : Nat) (h : Inv p)
    (hb : Inside v p ⟨bo, bl, true⟩) (hn : n < W) :
    reallocate v p (some bo) bl n = (p, none) ∨
    ∃ p' off, reallocate v p (some bo) bl n = (p', some off) ∧
      Placed v p p' ⟨off, n, true⟩ (Sep v ⟨bo, bl, true⟩) ∧
      readAt p'.mem off (min bl n) = readAt p.mem bo (min bl n) := by
  rcases reallocate_cases v p bo bl n with hc | ⟨hc, hu, h1, h2⟩ | ⟨hc, hu, h1⟩ | ⟨hc, hu, h1, h2, h3⟩
  · exact .inl hc
  · have := realloc_inplace hv h hb hn h1 h2 hu
    exact .inr ⟨_, _, Prod.ext rfl hc, this.1, this.2⟩
  · have := realloc_shrink h hb h1 hu
    exact .inr ⟨_, _, Prod.ext rfl hc, this.1, this.2⟩
  · have := realloc_fresh hv hs h hb hn h1 h2 h3 hu
    exact .inr ⟨_, _, Prod.ext rfl hc, this.1, this.2⟩

theorem reallocate_none (v : Var) (p : Pool) (os n : Nat) :
    reallocate v p none os n = allocate v p n false := by
  unfold reallocate reallocFresh allocate
  cases ht : tooBig v n (roundRz v n)
  · by_cases hf : roundRz v n > p.end_ - p.pos <;> simp [ht, hf]
  · simp [ht]

theorem deallocFront_cases (v : Var) (p : Pool) (off : Nat) :
    Upd p (deallocFront v p off) (deallocFront v p off).pos p.end_ p.mem ∧
    ((deallocFront v p off).pos = roundUp off ∨
      ((deallocFront v p off).pos = roundUp off + v.rz ∧ roundUp off = off)) := by
  unfold deallocFront
  simp only
  by_cases h0 : v.rz = 0
  · simp [h0, upd_iff]
  · rw [if_neg h0]
    by_cases h1 : roundUp off ≠ off
    · rw [if_pos h1]; simp [upd_iff]
    · rw [if_neg h1]
      have h1' : roundUp off = off := by omega
      by_cases h2 : roundUp off ≠ 0
      · rw [if_pos h2]
        by_cases h3 : noPoison p.psn (roundUp off - v.rz) v.rz = true
        · rw [if_pos h3]; simp [h1', upd_iff]
        · rw [if_neg h3]; simp [upd_iff]
      · rw [if_neg h2]; simp [upd_iff]

/-- case analysis of `deallocate`: the cursors stay; or the block is the last front block and `pos` is drawn
    back to it; or it is the first back block and `end_` moves past it -/
theorem deallocate_cases (v : Var) (p : Pool) (off len : Nat) (q : Pool)
    (hq : deallocate v p (some off) len = q) :
    Upd p q q.pos q.end_ (zeroRange p.mem off len) ∧
    ((q.pos = p.pos ∧ q.end_ = p.end_) ∨
     (¬ (len = 0 ∧ v.rz = 0) ∧ off ≤ p.pos ∧ roundRz v ((off + len) % W) = p.pos ∧ q.end_ = p.end_ ∧
        (q.pos = roundUp off ∨ (q.pos = roundUp off + v.rz ∧ roundUp off = off))) ∨
     (¬ (len = 0 ∧ v.rz = 0) ∧ ¬ off ≤ p.pos ∧ off = p.end_ ∧ q.pos = p.pos ∧
        q.end_ = roundRz v ((off + len) % W))) := by
  subst hq
  unfold deallocate
  simp only
  by_cases hz : len = 0 ∧ v.rz = 0
  · simp [hz, upd_iff, Mhd.Pool.zeroRange_zero]
  · rw [if_neg hz]
    generalize hp0 : (if len ≠ 0 then
        ({ p with mem := zeroRange p.mem off len, psn := setPsn p.psn off len true } : Pool) else p) = p0
    have f0 : Upd p p0 p.pos p.end_ (zeroRange p.mem off len) := by
      rw [← hp0]; by_cases hl : len = 0 <;> simp [hl, upd_iff, Mhd.Pool.zeroRange_zero]
    by_cases hle : off ≤ p0.pos
    · rw [if_pos hle]
      by_cases hlast : roundRz v ((off + len) % W) = p0.pos
      · rw [if_pos hlast]
        obtain ⟨df, dp⟩ := deallocFront_cases v p0 off
        exact ⟨⟨df.size.trans f0.size, rfl, rfl, df.mem.trans f0.mem, df.psn.trans f0.psn⟩,
          .inr (.inl ⟨hz, f0.pos ▸ hle, f0.pos ▸ hlast, df.end_.trans f0.end_, dp⟩)⟩
      · rw [if_neg hlast]
        exact ⟨⟨f0.size, rfl, rfl, f0.mem, f0.psn⟩, .inl ⟨f0.pos, f0.end_⟩⟩
    · rw [if_neg hle]
      by_cases hlast : off = p0.end_
      · rw [if_pos hlast]
        exact ⟨⟨f0.size, rfl, rfl, f0.mem, f0.psn⟩, .inr (.inr ⟨hz, f0.pos ▸ hle, f0.end_ ▸ hlast, f0.pos, rfl⟩)⟩
      · rw [if_neg hlast]
        exact ⟨⟨f0.size, rfl, rfl, f0.mem, f0.psn⟩, .inl ⟨f0.pos, f0.end_⟩⟩

theorem deallocate_spec {v : Var} (hv : v.Valid) (p : Pool) (b : Blk) (h : Inv p) (hb : Inside v p b) :
    Inv (deallocate v p (some b.off) b.len) ∧ (deallocate v p (some b.off) b.len).size = p.size ∧
    (∀ c : Blk, Inside v p c → Sep v b c →
        Inside v (deallocate v p (some b.off) b.len) c ∧
        readAt (deallocate v p (some b.off) b.len).mem c.off c.len = readAt p.mem c.off c.len) := by
  obtain ⟨bo, bl, bf⟩ := b
  simp only
  obtain ⟨hu, hc⟩ := deallocate_cases v p bo bl _ rfl
  generalize deallocate v p (some bo) bl = q at *
  have hml := Mhd.Pool.zeroRange_length p.mem bo bl
  have hmem : ∀ c : Blk, Sep v ⟨bo, bl, bf⟩ c → readAt q.mem c.off c.len = readAt p.mem c.off c.len :=
    fun c hd => hu.mem ▸ readAt_zeroRange_disjoint _ _ _ _ _ (by have := hd.bytes; omega)
  have ⟨i1, i2, i3, i4, _, i6, _⟩ := h
  obtain ⟨hba, hbs, _, hbc⟩ := inside_iff.mp hb
  simp only at hba hbs hbc
  have hsz : bo + bl ≤ p.size := hb.le_size h
  obtain ⟨r, -, hle'⟩ := roundRz_small hv (bo + bl) (by omega)
  rcases hc with ⟨q1, q2⟩ | ⟨hz, hle, hlast, q2, q1⟩ | ⟨hz, hle, hlast, q1, q2⟩
  · exact ⟨hu.inv h hml (q1 ▸ q2 ▸ i1) (q2 ▸ i2) (q1 ▸ i3) (q2 ▸ i4), hu.size, fun c hci hd =>
      ⟨hci.mono hu.size (Nat.le_of_eq q1.symm) (Nat.le_of_eq q2), hmem c hd⟩⟩
  · -- the block ends at `pos`: a front block
    rw [r] at hlast
    rw [roundUp_of_aligned _ hba (by rw [W_eq]; omega)] at q1
    obtain ⟨rfl, hfe⟩ : bf = true ∧ bo + bl + v.rz ≤ p.pos := by
      rcases hbc with d | d | ⟨_, d, _⟩
      · exact absurd d hz
      · exact d
      · omega
    have hq : bo ≤ q.pos ∧ q.pos ≤ p.end_ ∧ q.pos % A = 0 := by
      rcases q1 with q1 | ⟨q1, _⟩ <;> rw [q1]
      · exact ⟨Nat.le_refl _, by omega, hba⟩
      · exact ⟨Nat.le_add_right .., by omega, aligned_add hba hv.aligned⟩
    exact ⟨hu.inv h hml (q2 ▸ hq.2.1) (q2 ▸ i2) hq.2.2 (q2 ▸ i4), hu.size, fun c hci hd =>
      ⟨(hci.before_last hv hd h hb hlast.symm).mono hu.size hq.1 (Nat.le_of_eq q2), hmem c hd⟩⟩
  · -- the block starts at `end_` above `pos`: a back block
    rw [r] at q2
    obtain ⟨rfl, hbe, hbz⟩ : bf = false ∧ p.end_ ≤ bo ∧ bo + bl + v.rz ≤ p.size := by
      rcases hbc with d | ⟨_, d⟩ | d
      · exact absurd d hz
      · omega
      · exact d
    subst hlast
    exact ⟨hu.inv h hml (by omega) (q2 ▸ hv.add_le hbz h.2.2.2.2.1) (q1 ▸ i3)
        (q2 ▸ aligned_add (roundUp_aligned _) hv.aligned), hu.size, fun c hci hd =>
      ⟨(hci.after_first hv hd h).mono hu.size (Nat.le_of_eq q1.symm) (Nat.le_of_eq q2), hmem c hd⟩⟩

theorem resetMove_spec (m : List UInt8) (keep : Option Nat) (copy : Nat)
    (hk : ∀ k, keep = some k → k + copy ≤ m.length) :
    (resetMove m keep copy).length = m.length ∧
    ∀ k, keep = some k → readAt (resetMove m keep copy) 0 copy = readAt m k copy := by
  cases keep with
  | none => exact ⟨rfl, fun k hk' => nomatch hk'⟩
  | some k =>
    have hk' := hk k rfl
    have hl : (readAt m k copy).length = copy := readAt_length _ _ _ hk'
    unfold resetMove
    simp only
    split
    · refine ⟨Mhd.Pool.writeAt_length .., fun k2 hk2 => ?_⟩
      cases hk2
      rw [readAt_writeAt_same _ _ _ _ (by omega) (by omega), List.take_of_length_le (by omega)]
    · refine ⟨rfl, fun k2 hk2 => ?_⟩
      cases hk2
      by_cases hk0 : k = 0
      · rw [hk0]
      · rw [show copy = 0 by omega, Mhd.Pool.readAt_zero, Mhd.Pool.readAt_zero]

theorem resetPsn_length (p : Pool) (copy n : Nat) : (resetPsn p copy n).length = p.psn.length := by
  unfold resetPsn
  simp only
  split <;> simp

theorem reset_spec {v : Var} (hv : v.Valid) (p : Pool) (keep : Option Nat) (copy n : Nat) (h : Inv p)
    (hn : n ≤ p.size) (hrz : roundUp n + v.rz ≤ p.size) (hk : ∀ k, keep = some k → k + copy ≤ p.size) :
    Inv (reset v p keep copy n) ∧ (reset v p keep copy n).size = p.size ∧
    (reset v p keep copy n).end_ = p.size ∧ (reset v p keep copy n).pos = roundRz v n ∧
    Inside v (reset v p keep copy n) ⟨0, n, true⟩ ∧
    (∀ k, keep = some k → readAt (reset v p keep copy n).mem 0 copy = readAt p.mem k copy) := by
  have ⟨_, _, _, _, i5, i6, i7, _⟩ := h
  obtain ⟨_, r, hle⟩ := roundRz_small hv n (by omega)
  have hmv := resetMove_spec p.mem keep copy (by rw [i7]; exact hk)
  have hu : Upd p (reset v p keep copy n) (roundUp n + v.rz) p.size
      (if p.size > copy then zeroRange (resetMove p.mem keep copy) copy (p.size - copy)
       else resetMove p.mem keep copy) := ⟨rfl, r, rfl, rfl, resetPsn_length ..⟩
  refine ⟨hu.inv h ?_ hrz (Nat.le_refl _) (aligned_add (roundUp_aligned n) hv.aligned) i5, rfl, rfl, rfl,
    inside_iff.mpr ⟨Nat.zero_mod _, Nat.zero_le _, by show n < W; rw [W_eq]; omega, .inr (.inl ⟨rfl, ?_⟩)⟩, fun k hk' => ?_⟩
  · split
    · rw [Mhd.Pool.zeroRange_length]; exact hmv.1
    · exact hmv.1
  · show 0 + n + v.rz ≤ (reset v p keep copy n).pos; rw [hu.pos]; omega
  · rw [hu.mem, ← hmv.2 k hk']
    split
    · exact readAt_zeroRange_disjoint _ _ _ _ _ (by omega)
    · rfl

theorem WF.sep_erased {v : Var} {s : St} (h : WF v s) {i : Nat} {b : Blk} (hb : s.live[i]? = some b) :
    ∀ c ∈ s.live.eraseIdx i, Sep v b c := fun c hc => by
  obtain ⟨j, hji, hj⟩ := List.mem_eraseIdx_iff_getElem?.mp hc
  exact List.pairwise_getElem? (fun _ _ => Sep.symm) h.2.2 hb hj (Ne.symm hji)

/-- what a successful operation answers: the block it hands out, or nothing (`dealloc`) -/
def answer (n : Nat) : Option Blk → Res
  | some nb => .block nb.off n
  | none => .unit

/-- What an operation does to a well-formed state: it is refused and the state stays as it is; or it
    succeeds: the live blocks `keep` stay, a block `nb` of `n` bytes joins them (none for `dealloc`), the
    successor state is well-formed, the blocks that stay keep their bytes, and `X` (what else the
    operation promises) holds. -/
def Hands (v : Var) (s : St) (keep : List Blk) (n : Nat) (X : Pool → Blk → Prop) (r : St × Res) : Prop :=
  (r.1 = s ∧ (r.2 = .null ∨ r.2 = .badOp ∨ ∃ k, r.2 = .nullNeed k)) ∨
  ∃ p' nb, r = (⟨p', keep ++ nb.toList⟩, answer n nb) ∧ WF v ⟨p', keep ++ nb.toList⟩ ∧
    p'.size = s.p.size ∧ (∀ c ∈ keep, readAt p'.mem c.off c.len = readAt s.p.mem c.off c.len) ∧
    ∀ b ∈ nb, b.len = n ∧ X p' b

theorem handOut_placed {v : Var} {s : St} (h : WF v s) {keep : List Blk} (hsub : keep.Sublist s.live)
    {p' : Pool} {off n : Nat} {f : Bool} {K : Blk → Prop} {X : Pool → Blk → Prop} (hK : ∀ c ∈ keep, K c)
    (hp : Placed v s.p p' ⟨off, n, f⟩ K) (hx : X p' ⟨off, n, f⟩) :
    Hands v s keep n X (handOut s p' off n f keep) := by
  have ho := fun c hc => hp.others c (h.2.1 c (hsub.subset hc)) (hK c hc)
  have hw : WF v ⟨p', keep ++ [⟨off, n, f⟩]⟩ :=
    ⟨hp.inv, fun c hc => (List.mem_append.mp hc).elim (fun hc => (ho c hc).1)
        (fun hc => List.mem_singleton.mp hc ▸ hp.inside),
      List.pairwise_append_single (h.2.2.sublist hsub) fun c hc => (ho c hc).2.1⟩
  rw [handOut, if_pos (hp.inside.le_size hp.inv)]
  exact .inr ⟨p', some _, rfl, hw, hp.size, fun c hc => (ho c hc).2.2, fun b hb => Option.mem_some.mp hb ▸ ⟨rfl, hx⟩⟩

theorem step_alloc {v : Var} (hv : v.Valid) (hs : v.Sound) {s : St} (h : WF v s) {n : Nat} (hn : n < W)
    (fe : Bool) :
    Hands v s s.live n (fun p' nb => (fe = false → nb.off + roundUp n + v.rz ≤ p'.pos) ∧
      (fe = true → nb.off + roundUp n + v.rz ≤ s.p.end_)) (step v s (.alloc n fe)) := by
  rcases allocate_spec hv hs s.p n fe h.1 hn with he | ⟨p', off, he, hp, hx⟩ <;> simp only [step, he]
  · exact .inl ⟨rfl, .inl rfl⟩
  · exact handOut_placed h (List.Sublist.refl _) (fun _ _ => trivial) hp hx

theorem step_tryAlloc {v : Var} (hv : v.Valid) (hs : v.Sound) {s : St} (h : WF v s) {n : Nat} (hn : n < W) :
    Hands v s s.live n (fun _ nb => nb.off + roundUp n + v.rz ≤ s.p.end_) (step v s (.tryAlloc n)) := by
  rcases tryAlloc_spec hv hs s.p n h.1 hn with ⟨k, he⟩ | ⟨p', off, he, hp, hx⟩ <;> simp only [step, he]
  · exact .inl ⟨rfl, .inr (.inr ⟨k, rfl⟩)⟩
  · exact handOut_placed h (List.Sublist.refl _) (fun _ _ => trivial) hp hx

theorem step_realloc_none (v : Var) (s : St) (n : Nat) :
    step v s (.realloc none n) = step v s (.alloc n false) := by
  simp only [step, reallocate_none]
  rfl

theorem step_realloc {v : Var} (hv : v.Valid) (hs : v.Sound) {s : St} (h : WF v s) {n : Nat} (hn : n < W)
    (i : Nat) :
    Hands v s (s.live.eraseIdx i) n (fun p' nb => ∀ b, s.live[i]? = some b →
      readAt p'.mem nb.off (min b.len n) = readAt s.p.mem b.off (min b.len n))
      (step v s (.realloc (some i) n)) := by
  simp only [step]
  cases hb : s.live[i]? with
  | none => exact .inl ⟨rfl, .inr (.inl rfl)⟩
  | some b =>
    obtain ⟨bo, bl, bf⟩ := b
    cases bf with
    | false => exact .inl ⟨rfl, .inr (.inl rfl)⟩
    | true =>
      simp only [Bool.not_true, Bool.false_eq_true, if_false]
      rcases reallocate_spec hv hs s.p bo bl n h.1 (h.2.1 _ (List.mem_of_getElem? hb)) hn with
        he | ⟨p', off, he, hp, hx⟩ <;> simp only [he]
      · exact .inl ⟨rfl, .inl rfl⟩
      · exact handOut_placed h (List.eraseIdx_sublist ..) (h.sep_erased hb) hp
          (fun b' hb' => by cases hb'; exact hx)

theorem step_reset {v : Var} (hv : v.Valid) {s : St} (h : WF v s) (i : Option Nat) (copy n : Nat) :
    Hands v s [] n (fun _ _ => True) (step v s (.reset i copy n)) := by
  have hands : ∀ k cp, n ≤ s.p.size → roundUp n + v.rz ≤ s.p.size → (∀ k', k = some k' → k' + cp ≤ s.p.size) →
      Hands v s [] n (fun _ _ => True) (⟨reset v s.p k cp n, [⟨0, n, true⟩]⟩, .block 0 n) := fun k cp h1 h2 h3 =>
    have hr := reset_spec hv s.p k cp n h.1 h1 h2 h3
    .inr ⟨_, some ⟨0, n, true⟩, rfl,
      ⟨hr.1, fun b hb => by rw [List.mem_singleton.mp hb]; exact hr.2.2.2.2.1, List.pairwise_singleton ..⟩,
      hr.2.1, (fun _ hc => nomatch hc), fun b hb => Option.mem_some.mp hb ▸ ⟨rfl, trivial⟩⟩
  cases i with
  | none =>
    simp only [step]
    split
    · exact .inl ⟨rfl, .inr (.inl rfl)⟩
    · exact hands none 0 (by omega) (by omega) (fun k hk => nomatch hk)
  | some i =>
    simp only [step]
    cases hb : s.live[i]? with
    | none => exact .inl ⟨rfl, .inr (.inl rfl)⟩
    | some b =>
      simp only
      split
      · exact .inl ⟨rfl, .inr (.inl rfl)⟩
      · have hbs := (h.2.1 _ (List.mem_of_getElem? hb)).le_size h.1
        exact hands _ copy (by omega) (by omega) (fun k hk => by cases hk; omega)

theorem step_dealloc {v : Var} (hv : v.Valid) {s : St} (h : WF v s) (i : Nat) :
    Hands v s (s.live.eraseIdx i) 0 (fun _ _ => True) (step v s (.dealloc i)) := by
  simp only [step]
  cases hb : s.live[i]? with
  | none => exact .inl ⟨rfl, .inr (.inl rfl)⟩
  | some b =>
    have hd := deallocate_spec hv s.p b h.1 (h.2.1 _ (List.mem_of_getElem? hb))
    have ho := fun c hc => hd.2.2 c (h.2.1 c ((List.eraseIdx_sublist ..).subset hc)) (h.sep_erased hb c hc)
    refine .inr ⟨_, none, ?_, ?_, hd.2.1, fun c hc => (ho c hc).2, fun _ hc => nomatch hc⟩ <;>
      simp only [Option.toList_none, List.append_nil]
    · rfl
    · exact ⟨hd.1, fun c hc => (ho c hc).1, h.2.2.sublist (List.eraseIdx_sublist ..)⟩

theorem step_cases {v : Var} (hv : v.Valid) (hs : v.Sound) {s : St} (h : WF v s) {o : Op} (ho : o.Valid) :
    ∃ keep n X, Hands v s keep n X (step v s o) ∧
      ∀ j b, s.live[j]? = some b → o.target ≠ some j → ¬ o.isReset → b ∈ keep := by
  have hall : ∀ j b, s.live[j]? = some b → o.target ≠ some j → ¬ o.isReset → b ∈ s.live :=
    fun _ _ hb _ _ => List.mem_of_getElem? hb
  have hers : ∀ i j b, s.live[j]? = some b → some i ≠ some j → b ∈ s.live.eraseIdx i := fun i j b hb hj =>
    List.mem_eraseIdx_iff_getElem?.mpr ⟨j, fun e => hj (e ▸ rfl), hb⟩
  cases o with
  | alloc n fe => exact ⟨_, _, _, step_alloc hv hs h ho fe, hall⟩
  | tryAlloc n => exact ⟨_, _, _, step_tryAlloc hv hs h ho, hall⟩
  | realloc i n =>
    cases i with
    | none => exact ⟨_, _, _, step_realloc_none v s n ▸ step_alloc hv hs h ho false, hall⟩
    | some i => exact ⟨_, _, _, step_realloc hv hs h ho i, fun j b hb hj _ => hers i j b hb hj⟩
  | reset i copy n => exact ⟨_, _, _, step_reset hv h i copy n, fun _ _ _ _ hnr => absurd trivial hnr⟩
  | dealloc i => exact ⟨_, _, _, step_dealloc hv h i, fun j b hb hj _ => hers i j b hb hj⟩

section
variable {v : Var} {s : St} {keep : List Blk} {n : Nat} {X : Pool → Blk → Prop} {r : St × Res}
  (hh : Hands v s keep n X r)
include hh

theorem Hands.wf (h : WF v s) : WF v r.1 := by
  rcases hh with ⟨e, _⟩ | ⟨p', nb, e, hw, _⟩ <;> rw [e]
  · exact h
  · exact hw

theorem Hands.no_fault : r.2 ≠ .fault := by
  rcases hh with ⟨_, e | e | ⟨k, e⟩⟩ | ⟨p', nb, e, _⟩ <;> rw [e]
  iterate 3 exact Res.noConfusion
  cases nb <;> exact Res.noConfusion

theorem Hands.refused (hr : r.2 = .null ∨ ∃ k, r.2 = .nullNeed k) : r.1 = s := by
  rcases hh with ⟨e, _⟩ | ⟨p', nb, e, _⟩
  · exact e
  · rw [e] at hr; cases nb <;> rcases hr with hr | ⟨k, hr⟩ <;> cases hr

theorem Hands.untouched {b : Blk} (hb : b ∈ keep) :
    readAt r.1.p.mem b.off b.len = readAt s.p.mem b.off b.len := by
  rcases hh with ⟨e, _⟩ | ⟨p', nb, e, _, _, hm, _⟩ <;> rw [e]
  exact hm b hb

theorem Hands.block {off len : Nat} (hr : r.2 = .block off len) :
    ∃ p' nb, r.1 = ⟨p', keep ++ [nb]⟩ ∧ nb.off = off ∧ nb.len = len ∧ len = n ∧
      WF v ⟨p', keep ++ [nb]⟩ ∧ p'.size = s.p.size ∧ X p' nb := by
  rcases hh with ⟨_, e | e | ⟨k, e⟩⟩ | ⟨p', nb, e, hw, hsz, _, hx⟩ <;> rw [e] at hr
  iterate 3 cases hr
  cases nb with
  | none => cases hr
  | some nb =>
    cases hr
    exact ⟨p', nb, by rw [e]; rfl, rfl, (hx nb rfl).1, rfl, hw, hsz, (hx nb rfl).2⟩

theorem Hands.in_bounds_sep {off len : Nat} (hr : r.2 = .block off len) :
    off % A = 0 ∧ off + len ≤ s.p.size ∧
    ∃ b ∈ r.1.live, b.off = off ∧ b.len = len ∧ ∀ c ∈ r.1.live, c ≠ b → Sep v b c := by
  obtain ⟨p', nb, e, rfl, rfl, _, hw, hsz, _⟩ := hh.block hr
  have hnb : nb ∈ keep ++ [nb] := List.mem_append_right _ (List.mem_singleton.mpr rfl)
  rw [e, ← hsz]
  refine ⟨(hw.2.1 nb hnb).1, (hw.2.1 nb hnb).le_size hw.1, nb, hnb, rfl, rfl, fun c hc hne => ?_⟩
  rcases List.mem_append.mp hc with hc | hc
  · exact ((List.pairwise_append.mp hw.2.2).2.2 c hc nb (List.mem_singleton.mpr rfl)).symm
  · exact absurd (List.mem_singleton.mp hc) hne

end

theorem step_wf (v : Var) (hv : v.Valid) (hs : v.Sound) (s : St) (o : Op) (h : WF v s) (ho : o.Valid) :
    WF v (step v s o).1 :=
  have ⟨_, _, _, hh, _⟩ := step_cases hv hs h ho
  hh.wf h

theorem init_wf (v : Var) (allocSize : Nat) (ha : allocSize % A = 0) (hs : allocSize < 2 ^ 62) :
    WF v (St.init allocSize) :=
  ⟨⟨Nat.zero_le _, Nat.le_refl _, Nat.zero_mod _, ha, ha, hs, List.length_replicate .., List.length_replicate ..⟩,
    (fun _ hb => nomatch hb), List.Pairwise.nil⟩

theorem run_wf' (v : Var) (hv : v.Valid) (hs : v.Sound) (s : St) (ops : List Op) (h : WF v s)
    (ho : ∀ o ∈ ops, o.Valid) : WF v (run v s ops) :=
  List.foldlRecOn ops _ h fun s hw o hm => step_wf v hv hs s o hw (ho o hm)

theorem run_wf (v : Var) (hv : v.Valid) (hs : v.Sound) (allocSize : Nat) (ha : allocSize % A = 0)
    (hsz : allocSize < 2 ^ 62) (ops : List Op) (ho : ∀ o ∈ ops, o.Valid) :
    WF v (run v (St.init allocSize) ops) :=
  run_wf' v hv hs _ ops (init_wf v allocSize ha hsz) ho

/-- no operation faults (the unpoisoned range of a handed-out block is inside the arena) -/
theorem step_no_fault (v : Var) (hv : v.Valid) (hs : v.Sound) (s : St) (o : Op) (h : WF v s) (ho : o.Valid) :
    (step v s o).2 ≠ .fault :=
  have ⟨_, _, _, hh, _⟩ := step_cases hv hs h ho
  hh.no_fault

theorem block_in_bounds_disjoint (v : Var) (hv : v.Valid) (hs : v.Sound) (s : St) (o : Op) (h : WF v s)
    (ho : o.Valid) (off len : Nat) (hr : (step v s o).2 = .block off len) :
    off % A = 0 ∧ off + len ≤ s.p.size ∧
    ∃ b ∈ (step v s o).1.live, b.off = off ∧ b.len = len ∧
      ∀ c ∈ (step v s o).1.live, c ≠ b → Disjoint b c := by
  have ⟨_, _, _, hh, _⟩ := step_cases hv hs h ho
  obtain ⟨h1, h2, b, hb, h3, h4, h5⟩ := hh.in_bounds_sep hr
  exact ⟨h1, h2, b, hb, h3, h4, fun c hc hne => (h5 c hc hne).disjoint⟩

theorem refused_unchanged (v : Var) (hv : v.Valid) (hs : v.Sound) (s : St) (o : Op) (h : WF v s) (ho : o.Valid)
    (hr : (step v s o).2 = .null ∨ ∃ n, (step v s o).2 = .nullNeed n) : (step v s o).1 = s :=
  have ⟨_, _, _, hh, _⟩ := step_cases hv hs h ho
  hh.refused hr

theorem others_untouched (v : Var) (hv : v.Valid) (hs : v.Sound) (s : St) (o : Op) (h : WF v s) (ho : o.Valid)
    (hnr : ¬ o.isReset) (j : Nat) (b : Blk) (hb : s.live[j]? = some b) (hj : o.target ≠ some j) :
    readAt (step v s o).1.p.mem b.off b.len = readAt s.p.mem b.off b.len :=
  have ⟨_, _, _, hh, hk⟩ := step_cases hv hs h ho
  hh.untouched (hk j b hb hj hnr)

theorem realloc_preserves (v : Var) (hv : v.Valid) (hs : v.Sound) (s : St) (i n : Nat) (h : WF v s) (hn : n < W)
    (b : Blk) (hb : s.live[i]? = some b) (hf : b.front = true) (off len : Nat)
    (hr : (step v s (.realloc (some i) n)).2 = .block off len) :
    len = n ∧ readAt (step v s (.realloc (some i) n)).1.p.mem off (min b.len n)
              = readAt s.p.mem b.off (min b.len n) := by
  obtain ⟨p', nb, e, rfl, _, hl, _, _, hx⟩ := (step_realloc hv hs h hn i).block hr
  rw [e]
  exact ⟨hl, hx b hb⟩

theorem reset_keeps (v : Var) (hv : v.Valid) (s : St) (i copy n : Nat) (h : WF v s) (b : Blk)
    (hb : s.live[i]? = some b) (hc : copy ≤ b.len) (hcn : copy ≤ n) (hn : n ≤ s.p.size)
    (hrz : roundUp n + v.rz ≤ s.p.size) :
    let s' := (step v s (.reset (some i) copy n)).1
    readAt s'.p.mem 0 copy = readAt s.p.mem b.off copy ∧
    s'.p.end_ = s'.p.size ∧ s'.p.size = s.p.size ∧ s'.p.pos = roundRz v n ∧ s'.live = [⟨0, n, true⟩] := by
  have hcond : ¬ (copy > b.len ∨ copy > n ∨ n > s.p.size ∨ roundUp n + v.rz > s.p.size) := by omega
  have hbs := (h.2.1 _ (List.mem_of_getElem? hb)).le_size h.1
  have hr := reset_spec hv s.p (some b.off) copy n h.1 hn hrz (fun k hk => by cases hk; omega)
  simp only [step, hb, hcond, if_false]
  exact ⟨hr.2.2.2.2.2 _ rfl, hr.2.2.1.trans hr.2.1.symm, hr.2.1, hr.2.2.2.1, trivial⟩

/-- the `memset` of `MHD_pool_reset` -/
theorem reset_zeroes_rest (v : Var) (s : St) (i copy n : Nat) (h : WF v s) (b : Blk)
    (hb : s.live[i]? = some b) (hc : copy ≤ b.len) (hcn : copy ≤ n) (hn : n ≤ s.p.size)
    (hrz : roundUp n + v.rz ≤ s.p.size) :
    readAt (step v s (.reset (some i) copy n)).1.p.mem copy (s.p.size - copy)
      = List.replicate (s.p.size - copy) 0 := by
  have hcond : ¬ (copy > b.len ∨ copy > n ∨ n > s.p.size ∨ roundUp n + v.rz > s.p.size) := by omega
  have hbs := (h.2.1 _ (List.mem_of_getElem? hb)).le_size h.1
  have hl := (resetMove_spec s.p.mem (some b.off) copy (fun k hk => by cases hk; have := h.1.2.2.2.2.2.2.1; omega)).1
  simp only [step, hb, hcond, if_false, reset]
  split
  · exact Mhd.Pool.readAt_zeroRange_same _ _ _ (by have := h.1.2.2.2.2.2.2.1; omega)
  · rw [show s.p.size - copy = 0 by omega, Mhd.Pool.readAt_zero]; rfl

theorem tryAlloc_red_zone (v : Var) (hv : v.Valid) (hs : v.Sound) (s : St) (n : Nat) (h : WF v s)
    (hn : n < W) (off len : Nat) (hr : (step v s (.tryAlloc n)).2 = .block off len) :
    len = n ∧ off + roundUp n + v.rz ≤ s.p.end_ := by
  obtain ⟨p', nb, _, rfl, _, hl, _, _, hx⟩ := (step_tryAlloc hv hs h hn).block hr
  exact ⟨hl, hx⟩

def eraseSt (s : St) : Mhd.Pool.St := ⟨erase s.p, s.live⟩

/-- results correspond one to one; `fault` has no counterpart (excluded by hypothesis below) -/
def eraseRes : Res → Mhd.Pool.Res
  | .block off len => .block off len
  | .null => .null
  | .nullNeed k => .nullNeed k
  | .unit => .unit
  | .badOp => .badOp
  | .fault => .badOp

theorem erase_handOut {s : St} {p' : Pool} {off n : Nat} {f : Bool} {live : List Blk}
    (hnf : (handOut s p' off n f live).2 ≠ .fault) :
    eraseSt (handOut s p' off n f live).1 = ⟨erase p', live ++ [⟨off, n, f⟩]⟩ ∧
    eraseRes (handOut s p' off n f live).2 = .block off n := by
  by_cases hh : off + n ≤ p'.size
  · rw [handOut, if_pos hh]; exact ⟨rfl, rfl⟩
  · rw [handOut, if_neg hh] at hnf; exact absurd rfl hnf

/-- At `rz = 0` (either form of the wrap test) one step of the parameterised model is one step of
    `Mhd.Pool.step`, provided it did not fault (it never does from a well-formed state:
    `erase_step_wf`) and the arena size is an aligned value (needed for `reset` only). -/
theorem erase_step (chk : Bool) (s : St) (o : Op) (ho : o.Valid) (hsz : s.p.size % A = 0)
    (hnf : (step ⟨0, chk⟩ s o).2 ≠ .fault) :
    eraseSt (step ⟨0, chk⟩ s o).1 = (Mhd.Pool.step (eraseSt s) o).1 ∧
    eraseRes (step ⟨0, chk⟩ s o).2 = (Mhd.Pool.step (eraseSt s) o).2 := by
  cases o with
  | alloc n fe =>
    simp only [step, Mhd.Pool.step, eraseSt, ← erase_allocate chk s.p n fe ho] at hnf ⊢
    generalize allocate ⟨0, chk⟩ s.p n fe = r at hnf ⊢
    rcases r with ⟨p', _ | off⟩
    · exact ⟨rfl, rfl⟩
    · exact erase_handOut hnf
  | tryAlloc n =>
    simp only [step, Mhd.Pool.step, eraseSt, ← erase_tryAlloc chk s.p n ho] at hnf ⊢
    generalize tryAlloc ⟨0, chk⟩ s.p n = r at hnf ⊢
    rcases r with ⟨p', _ | off, _ | need⟩
    · exact ⟨rfl, rfl⟩
    · exact ⟨rfl, rfl⟩
    all_goals exact erase_handOut hnf
  | realloc i n =>
    cases i with
    | none =>
      simp only [step, Mhd.Pool.step, eraseSt, ← erase_reallocate chk s.p none 0 n fun _ => ho] at hnf ⊢
      generalize reallocate ⟨0, chk⟩ s.p none 0 n = r at hnf ⊢
      rcases r with ⟨p', _ | off⟩
      · exact ⟨rfl, rfl⟩
      · exact erase_handOut hnf
    | some i =>
      simp only [step, Mhd.Pool.step, eraseSt] at hnf ⊢
      cases hb : s.live[i]? with
      | none => exact ⟨rfl, rfl⟩
      | some b =>
        simp only [hb] at hnf ⊢
        by_cases hf : (!b.front) = true
        · rw [if_pos hf, if_pos hf]; exact ⟨rfl, rfl⟩
        · simp only [hf, ← erase_reallocate chk s.p (some b.off) b.len n fun _ => ho] at hnf ⊢
          generalize reallocate ⟨0, chk⟩ s.p (some b.off) b.len n = r at hnf ⊢
          rcases r with ⟨p', _ | off⟩
          · exact ⟨rfl, rfl⟩
          · exact erase_handOut hnf
  | dealloc i =>
    simp only [step, Mhd.Pool.step, eraseSt]
    cases s.live[i]? with
    | none => exact ⟨rfl, rfl⟩
    | some b => exact ⟨by simp only [erase_deallocate], rfl⟩
  | reset i copy n =>
    -- the red-zone model's extra test `roundUp n + rz > size` adds nothing at `rz = 0`
    have hcond : (n > s.p.size ∨ roundUp n + 0 > s.p.size) ↔ n > s.p.size :=
      ⟨fun hh => Nat.lt_of_not_le fun hle => by have := roundUp_le n _ hle hsz; omega, .inl⟩
    have hsz' : (eraseSt s).p.size = s.p.size := rfl
    have hlv : (eraseSt s).live = s.live := rfl
    cases i with
    | none =>
      simp only [step, Mhd.Pool.step, hcond, hsz']
      split
      · exact ⟨rfl, rfl⟩
      · exact ⟨by rw [eraseSt, erase_reset]; rfl, rfl⟩
    | some i =>
      simp only [step, Mhd.Pool.step, hcond, hsz', hlv]
      cases s.live[i]? with
      | none => exact ⟨rfl, rfl⟩
      | some b =>
        simp only
        split
        · exact ⟨rfl, rfl⟩
        · exact ⟨by rw [eraseSt, erase_reset]; rfl, rfl⟩

theorem valid_rz0 (chk : Bool) : Var.Valid ⟨0, chk⟩ ∧ Var.Sound ⟨0, chk⟩ := ⟨Or.inl rfl, Or.inr rfl⟩

theorem erase_step_wf (chk : Bool) (s : St) (o : Op) (ho : o.Valid) (h : WF ⟨0, chk⟩ s) :
    eraseSt (step ⟨0, chk⟩ s o).1 = (Mhd.Pool.step (eraseSt s) o).1 ∧
    eraseRes (step ⟨0, chk⟩ s o).2 = (Mhd.Pool.step (eraseSt s) o).2 ∧
    (step ⟨0, chk⟩ s o).2 ≠ .fault := by
  have hnf := step_no_fault _ (valid_rz0 chk).1 (valid_rz0 chk).2 s o h ho
  have := erase_step chk s o ho h.1.2.2.2.2.1 hnf
  exact ⟨this.1, this.2, hnf⟩

/-- a state of the red-zone build that satisfies `WFW` but not `WF`: two front blocks without a red zone
    between them (never produced by the model from `St.init`) -/
def wfwWitness : St :=
  ⟨⟨64, 32, 64, List.replicate 64 0, List.replicate 64 true⟩, [⟨0, 16, true⟩, ⟨16, 8, true⟩]⟩

/-- kernel-checked: `WFW` alone is not preserved by `step` in the red-zone build (freeing the first block
    moves `pos` back to 0 although the second block is still live) — hence the red-zone-aware `Inside`/`Sep` -/
theorem wfw_not_inductive :
    WFW wfwWitness ∧ ¬ WFW (step ⟨16, true⟩ wfwWitness (.dealloc 0)).1 := by
  unfold WFW Inv InsideW Disjoint
  decide

end Mhd.PoolRz
