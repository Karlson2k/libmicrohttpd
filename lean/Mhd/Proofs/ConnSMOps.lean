/-
  C05 — what the operations of the connection model leave in the record.  The loop of process_request_body, one pass
  of the state switch of MHD_connection_handle_idle and its `while` loop are each described by a relation (`BodyRun`,
  `IdleStep`, `IdleRun`) that is proved against the model once; the invariants of the other `ConnSM*` files are
  inductions / case analyses over these relations and do not unfold `processBody`, `idleCase` or `idleLoop`.  Only the
  two fuel arguments of `ConnSMFuel`, which compare two runs, walk the loops themselves.
-/
import Mhd.Model.ConnSM
namespace Mhd.ConnSM
open Mhd.Gen.ConnState Mhd.Protocol
variable {σ : Type}

theorem dropResp_fst (c : Conn σ) : (dropResp c).1 = { c with response := none } := by
  unfold dropResp
  split
  · next h => cases c; cases h; rfl
  · rfl

theorem notify_fst (c : Conn σ) (code : Nat) : (notify c code).1 = { c with clientAware := false } := by
  unfold notify; split <;> rfl

theorem closeConn_fst (c : Conn σ) (code : Nat) :
    (closeConn c code).1 = { c with clientAware := false, response := none, state := .closed } := by
  show { (dropResp (notify c code).1).1 with state := .closed } = _
  rw [dropResp_fst, notify_fst]

theorem closeError_fst (c : Conn σ) :
    (closeError c).1 =
      { c with stopWithError := true, discard := true, clientAware := false, response := none, state := .closed } :=
  closeConn_fst _ _

theorem cleanupConnection_fst (c : Conn σ) :
    (cleanupConnection c).1 =
      if c.inCleanup then c else { c with inCleanup := true, response := none, suspended := false } := by
  unfold cleanupConnection
  split
  · rfl
  · show { (dropResp _).1 with suspended := false } = _
    rw [dropResp_fst]

theorem connectionReset_fst (c : Conn σ) (reuse : Bool) :
    (connectionReset c reuse).1 =
      match reuse with
      | true => clearRq { c with clientAware := false, response := none, keepalive := .unknown, state := .init }
      | false => { c with clientAware := false, response := none, state := .closed, buf := [], ctx := none } := by
  cases reuse
  · show { (closeConn c _).1 with buf := [], ctx := none } = _
    rw [closeConn_fst]
  · show clearRq { (dropResp (notify c _).1).1 with keepalive := .unknown, state := .init } = _
    rw [dropResp_fst, notify_fst]

theorem dropResp_state (c : Conn σ) : (dropResp c).1.state = c.state ∧ (dropResp c).1.suspended = c.suspended := by
  rw [dropResp_fst]; exact ⟨rfl, rfl⟩

theorem closeConn_state (c : Conn σ) (code : Nat) : (closeConn c code).1.state = .closed := by
  rw [closeConn_fst]

theorem closeError_state (c : Conn σ) : (closeError c).1.state = .closed := by
  rw [closeError_fst]

theorem connectionReset_state (c : Conn σ) (reuse : Bool) :
    (connectionReset c reuse).1.state = .closed ∨ (connectionReset c reuse).1.state = .init := by
  rw [connectionReset_fst]
  cases reuse
  · exact .inl rfl
  · exact .inr rfl

theorem afterUpload_frame (c1 : Conn σ) (tk : Nat) :
    (afterUpload c1 tk).state = c1.state ∧ (afterUpload c1 tk).haveChunked = c1.haveChunked ∧
    (afterUpload c1 tk).suspended = c1.suspended := by
  unfold afterUpload; split <;> exact ⟨rfl, rfl, rfl⟩

theorem queueResponse_cases (env : IdleEnv) (c : Conn σ) (r : Resp) :
    queueResponse env c r = (c, [], false) ∨
    c.response = none ∧
      (c.state = .headersProcessed ∧ queueResponse env c r =
          ({ c with response := some r, touched := true, discard := true, state := .startReply, remaining := 0 },
            [.queued], true) ∨
       c.state = .fullReqReceived ∧ queueResponse env c r =
          ({ c with response := some r, touched := true }, [.queued], true)) := by
  unfold queueResponse
  split
  · exact .inl rfl
  next hr =>
  split
  · exact .inl rfl
  next hst =>
  split
  · exact .inl rfl
  split
  · exact .inl rfl
  refine .inr ⟨by simpa using hr, ?_⟩
  by_cases h5 : c.state = .headersProcessed
  · exact .inl ⟨h5, by simp only [h5, if_true]⟩
  · refine .inr ⟨?_, by simp only [h5, if_false]⟩
    exact Decidable.not_not.mp fun h11 => hst ⟨h5, h11⟩

/-- The fields of the upload accounting after an operation on `c` that ended in `c'` having taken `taken` body
    bytes: the framing is untouched, the bytes taken are added to `upOff`, and either nothing else of it
    moved or the rest of the upload was given up by an early response (straight to START_REPLY). -/
def Acct (c c' : Conn σ) (taken : Nat) : Prop :=
  c'.haveChunked = c.haveChunked ∧ c'.chunkLeft = c.chunkLeft ∧ c'.chunkTotal = c.chunkTotal ∧
  c'.inChunk = c.inChunk ∧ c'.framing = c.framing ∧ c'.upOff = c.upOff + taken ∧
  (c'.state = c.state ∧ c'.remaining = c.remaining ∧ c'.discard = c.discard ∨
   c.state = .headersProcessed ∧ c'.state = .startReply ∧ c'.discard = true)

theorem Acct.state {c c' : Conn σ} {n : Nat} (h : Acct c c' n) :
    c'.state = c.state ∨ (c.state = .headersProcessed ∧ c'.state = .startReply) :=
  h.2.2.2.2.2.2.imp (·.1) fun h => ⟨h.1, h.2.1⟩

theorem queueResponse_acct (env : IdleEnv) (c : Conn σ) (r : Resp) : Acct c (queueResponse env c r).1 0 := by
  rcases queueResponse_cases env c r with e | ⟨-, ⟨h5, e⟩ | ⟨-, e⟩⟩ <;> rw [e]
  · exact ⟨rfl, rfl, rfl, rfl, rfl, rfl, .inl ⟨rfl, rfl, rfl⟩⟩
  · exact ⟨rfl, rfl, rfl, rfl, rfl, rfl, .inr ⟨h5, rfl, rfl⟩⟩
  · exact ⟨rfl, rfl, rfl, rfl, rfl, rfl, .inl ⟨rfl, rfl, rfl⟩⟩

theorem queueResponse_state (env : IdleEnv) (c : Conn σ) (r : Resp) :
    (queueResponse env c r).1.state = c.state ∨
    (c.state = .headersProcessed ∧ (queueResponse env c r).1.state = .startReply) :=
  (queueResponse_acct env c r).state

/-- the record when the access handler returns, before what it asked for is carried out -/
def afterHandler (app : App σ) (c : Conn σ) (site : Site) (offered : Nat) : Conn σ :=
  let r := app.handle c.app { site := site, offered := offered, ctxIn := c.ctx }
  { c with app := r.1, clientAware := true, ctx := r.2.ctxOut, upOff := c.upOff + min r.2.take offered,
           somePayloadProcessed := if site = .upload then min r.2.take offered ≠ 0 else c.somePayloadProcessed }

theorem callApp_eq (cfg : Cfg) (app : App σ) (env : IdleEnv) (c : Conn σ) (site : Site) (offered : Nat) :
    callApp cfg app env c site offered =
      (let d := (app.handle c.app { site := site, offered := offered, ctxIn := c.ctx }).2
       let a := afterHandler app c site offered
       let ev := fun ret => LEv.handler site c.upOff offered (min d.take offered) c.ctx d.ctxOut ret
       match d.act with
       | .cont => (a, [ev true], true, min d.take offered)
       | .fail => (a, [ev false], false, min d.take offered)
       | .suspend => (suspendConn cfg a, [ev true], true, min d.take offered)
       | .reply r rr =>
           ((queueResponse env a r).1, [ev ((queueResponse env a r).2.2 || rr)] ++ (queueResponse env a r).2.1,
            (queueResponse env a r).2.2 || rr, min d.take offered)) := by
  unfold callApp afterHandler
  cases h : (app.handle c.app { site := site, offered := offered, ctxIn := c.ctx }).2.act <;> simp only [h]

theorem callApp_acct (cfg : Cfg) (app : App σ) (env : IdleEnv) (c : Conn σ) (site : Site) (offered : Nat) :
    Acct c (callApp cfg app env c site offered).1 (callApp cfg app env c site offered).2.2.2 ∧
    (callApp cfg app env c site offered).2.2.2 ≤ offered := by
  have ha : Acct c (afterHandler app c site offered)
      (min (app.handle c.app { site := site, offered := offered, ctxIn := c.ctx }).2.take offered) :=
    ⟨rfl, rfl, rfl, rfl, rfl, rfl, .inl ⟨rfl, rfl, rfl⟩⟩
  rw [callApp_eq]
  dsimp only
  split
  · exact ⟨ha, Nat.min_le_right _ _⟩
  · exact ⟨ha, Nat.min_le_right _ _⟩
  · refine ⟨?_, Nat.min_le_right _ _⟩
    unfold suspendConn
    split <;> exact ha
  · exact ⟨queueResponse_acct env (afterHandler app c site offered) _, Nat.min_le_right _ _⟩

theorem callApp_state (cfg : Cfg) (app : App σ) (env : IdleEnv) (c : Conn σ) (site : Site) (offered : Nat) :
    (callApp cfg app env c site offered).1.state = c.state ∨
    (c.state = .headersProcessed ∧ (callApp cfg app env c site offered).1.state = .startReply) :=
  (callApp_acct cfg app env c site offered).1.state

theorem callConnectionHandler_acct (cfg : Cfg) (app : App σ) (env : IdleEnv) (c : Conn σ) (site : Site) :
    (callConnectionHandler cfg app env c site).1.state = .closed ∨
    Acct c (callConnectionHandler cfg app env c site).1 0 := by
  unfold callConnectionHandler
  split
  · exact .inr ⟨rfl, rfl, rfl, rfl, rfl, rfl, .inl ⟨rfl, rfl, rfl⟩⟩
  · obtain ⟨h, h0⟩ := callApp_acct cfg app env c site 0
    generalize callApp cfg app env c site 0 = r at h h0
    obtain ⟨c1, l, ret, tk⟩ := r
    simp only
    split
    · exact .inl (closeError_state _)
    · exact .inr (Nat.le_zero.mp h0 ▸ h)

theorem callConnectionHandler_state (cfg : Cfg) (app : App σ) (env : IdleEnv) (c : Conn σ) (site : Site) :
    (callConnectionHandler cfg app env c site).1.state = c.state ∨
    (callConnectionHandler cfg app env c site).1.state = .closed ∨
    (c.state = .headersProcessed ∧ (callConnectionHandler cfg app env c site).1.state = .startReply) := by
  rcases callConnectionHandler_acct cfg app env c site with h | h
  · exact .inr (.inl h)
  · exact h.state.imp_right .inr

theorem releaseEverything_frame (cfg : Cfg) (c : Conn σ) :
    (releaseEverything cfg c).1.state = c.state ∧ (releaseEverything cfg c).1.discard = c.discard := by
  unfold releaseEverything
  split
  · exact ⟨by simp only [notify_fst], by simp only [notify_fst]⟩
  · exact ⟨rfl, rfl⟩

theorem releaseEverything_fixed {cfg : Cfg} (h1 : cfg.f14Fixed = true) (h2 : cfg.f14ClearsAware = true) (c : Conn σ) :
    releaseEverything cfg c =
      ({ c with clientAware := false }, (notify c terminatedWithError).2 ++ [.invalidate]) := by
  simp only [releaseEverything, h1, h2, if_true, notify_fst]

/-- The projection is pushed through the definition, which leaves a small decision tree; splitting the definition
    itself is far slower to check. -/
theorem transmitError_state_eq (cfg : Cfg) (env : IdleEnv) (c : Conn σ) :
    (transmitError cfg env c).1.state =
      if c.stopWithError then (if lt c.state .closed then .closed else c.state)
      else if lt .startReply c.state then .closed
      else if env.errAllocFail then .closed
      else if env.shutdown then .closed
      else if env.errHdrFail1 then (if env.errHdrFail2 then .closed else .headersSending)
      else .headersSending := by
  simp only [transmitError, apply_ite Prod.fst, apply_ite Conn.state, closeError_fst, dropResp_fst,
    releaseEverything_frame, ite_self]

theorem transmitError_discard (cfg : Cfg) (env : IdleEnv) (c : Conn σ) (h : c.stopWithError = false) :
    (transmitError cfg env c).1.discard = true := by
  simp only [transmitError, h, apply_ite Prod.fst, apply_ite Conn.discard, closeError_fst, dropResp_fst,
    releaseEverything_frame, ite_self, Bool.false_eq_true, if_false]

theorem past_reply (s : CState) : lt s .closed = true ∨ s = .closed ∨ s = .upgrade := by
  cases s <;> decide

/-- The last case: a second error response (`stopWithError` is set) for an upgraded connection changes nothing. -/
theorem transmitError_out (cfg : Cfg) (env : IdleEnv) (c : Conn σ) :
    (transmitError cfg env c).1.state = .closed ∨
    ((transmitError cfg env c).1.state = .headersSending ∧ (transmitError cfg env c).1.discard = true) ∨
    (c.state = .upgrade ∧ (transmitError cfg env c).1.state = .upgrade) := by
  generalize he : (transmitError cfg env c).1.state = s
  rw [transmitError_state_eq] at he
  cases hs : c.stopWithError <;> simp only [hs, Bool.false_eq_true, if_false, if_true] at he
  · have hd := transmitError_discard cfg env c hs
    split at he
    · exact .inl he.symm
    split at he
    · exact .inl he.symm
    split at he
    · exact .inl he.symm
    split at he
    · split at he
      · exact .inl he.symm
      · exact .inr (.inl ⟨he.symm, hd⟩)
    · exact .inr (.inl ⟨he.symm, hd⟩)
  · rcases past_reply c.state with hl | hl | hl
    · rw [if_pos hl] at he; exact .inl he.symm
    · rw [hl] at he; exact .inl he.symm
    · rw [hl] at he; exact .inr (.inr ⟨hl, he.symm⟩)

theorem transmitError_state (cfg : Cfg) (env : IdleEnv) (c : Conn σ) (h : c.state.toNat ≤ 12) :
    (transmitError cfg env c).1.state = .headersSending ∨ (transmitError cfg env c).1.state = .closed := by
  rcases transmitError_out cfg env c with e | e | e
  · exact .inr e
  · exact .inl e.1
  · rw [e.1] at h; exact absurd h (by decide)

/-- What process_request_body can do from the record `c` at the head of a pass: the outcome of the whole loop, the
    callback log counted from this pass on.  A pass goes on (`upload`: a call that succeeded, with what it did to the
    accounting; `chunkEnd`; `chunkHdr`) or ends the loop: out of data or out of fuel (`stop`), the last chunk
    (`last`), malformed input (`err`), the handler failed (`fail`). -/
inductive BodyRun (cfg : Cfg) (app : App σ) (env : IdleEnv) : Conn σ → Out σ → Prop
  | upload {c k c1 l taken o} : bodyOffer c k ≠ 0 → ¬ (c.haveChunked ∧ ¬ c.inChunk) →
      callApp cfg app env c .upload (bodyOffer c k) = (c1, l, true, taken) → Acct c c1 taken → taken ≤ bodyOffer c k →
      BodyRun cfg app env (afterUpload c1 taken) o → BodyRun cfg app env c (o.1, l ++ o.2)
  | chunkEnd {c o} : c.haveChunked ∧ c.inChunk ∧ c.chunkLeft = 0 →
      BodyRun cfg app env { c with inChunk := false } o → BodyRun cfg app env c o
  | chunkHdr {c k o} : c.haveChunked ∧ ¬ c.inChunk → k ≠ 0 →
      BodyRun cfg app env { c with inChunk := true, chunkLeft := k, chunkTotal := c.chunkTotal + k } o →
      BodyRun cfg app env c o
  | stop {c b f} : BodyRun cfg app env c ({ c with buf := b, fault := f }, [])
  | last {c b} : c.haveChunked ∧ ¬ c.inChunk → BodyRun cfg app env c ({ c with remaining := 0, buf := b }, [])
  | err {c b} : BodyRun cfg app env c (transmitError cfg env { c with buf := b })
  | fail {c k c1 l taken} : bodyOffer c k ≠ 0 →
      callApp cfg app env c .upload (bodyOffer c k) = (c1, l, false, taken) →
      BodyRun cfg app env c ((closeError c1).1, l ++ (closeError c1).2)

theorem processBody_run (cfg : Cfg) (app : App σ) (env : IdleEnv) :
    ∀ (n : Nat) (buf : List Tok) (c : Conn σ), BodyRun cfg app env c (processBody cfg app env n buf c) := by
  intro n
  induction n with
  | zero => intro buf c; exact .stop
  | succ n ih =>
    intro buf c
    have stop' : ∀ b, BodyRun cfg app env c ({ c with buf := b }, []) := fun b => .stop (f := c.fault)
    match buf with
    | [] => exact stop' _
    | .junk :: t =>
      simp only [processBody]
      split
      · exact stop' _
      · exact ih _ c
    | .data k :: t =>
      simp only [processBody]
      by_cases hk : k = 0
      · rw [if_pos hk]; exact ih _ c
      rw [if_neg hk]
      by_cases hnc : c.haveChunked = true ∧ ¬ c.inChunk = true
      · rw [if_pos hnc]; exact .err
      rw [if_neg hnc]
      by_cases hoff : bodyOffer c k = 0
      · rw [if_pos hoff]
        by_cases hch : c.haveChunked = true
        · rw [if_pos hch]; exact .err
        · rw [if_neg hch]; exact stop' _
      rw [if_neg hoff]
      have ha := callApp_acct cfg app env c .upload (bodyOffer c k)
      generalize hca : callApp cfg app env c .upload (bodyOffer c k) = r at ha
      obtain ⟨c1, l, ret, taken⟩ := r
      cases ret
      · exact .fail hoff hca
      · simp only [Bool.not_true, Bool.false_eq_true, if_false]
        split
        · exact .upload hoff hnc hca ha.1 ha.2 (ih _ _)
        · simpa only [List.append_nil] using
            BodyRun.upload hoff hnc hca ha.1 ha.2 (.stop (b := restAfter k taken t) (f := (afterUpload c1 taken).fault))
    | .chunkEnd :: t =>
      simp only [processBody]
      split
      next hc =>
        split
        · exact .chunkEnd hc (.stop (f := c.fault))
        · exact .chunkEnd hc (ih _ _)
      · exact .err
    | .chunkHdr k :: t =>
      simp only [processBody]
      split
      next hc =>
        split
        · exact .last hc
        next hk =>
        split
        · exact .chunkHdr hc hk (.stop (f := c.fault))
        · exact .chunkHdr hc hk (ih _ _)
      · exact .err
    | .line _ :: t | .headers .. :: t | .hdrBad :: t | .chunkBad :: t | .footers _ :: t =>
      simp only [processBody]; exact .err

theorem Acct.body {c c1 : Conn σ} {taken : Nat} (ha : Acct c c1 taken) (hst : c.state = .bodyReceiving) :
    (afterUpload c1 taken).state = .bodyReceiving ∧ c1.remaining = c.remaining ∧ c1.discard = c.discard := by
  obtain ⟨b1, b2, b3⟩ := ha.2.2.2.2.2.2.resolve_right (fun e => nomatch hst ▸ e.1)
  exact ⟨(afterUpload_frame c1 taken).1.trans (b1.trans hst), b2, b3⟩

theorem BodyRun.state {cfg : Cfg} {app : App σ} {env : IdleEnv} {c : Conn σ} {o : Out σ} (r : BodyRun cfg app env c o)
    (hst : c.state = .bodyReceiving) :
    o.1.state = .bodyReceiving ∨ o.1.state = .closed ∨ o.1.state = .headersSending := by
  induction r with
  | upload _ _ _ ha _ _ ih => exact ih (ha.body hst).1
  | chunkEnd _ _ ih | chunkHdr _ _ _ ih => exact ih hst
  | stop | last => exact .inl hst
  | @err c b =>
    rcases transmitError_state cfg env { c with buf := b } (by show c.state.toNat ≤ 12; rw [hst]; decide) with e | e
    · exact .inr (.inr e)
    · exact .inr (.inl e)
  | fail => exact .inr (.inl (closeError_state _))

theorem handleRead_cases (c : Conn σ) (e : Ev) :
    handleRead c e = (c, []) ∨ (∃ b, handleRead c e = ({ c with buf := b }, [])) ∨
    ∃ c' code, handleRead c e = closeConn c' code ∧ c'.started = c.started ∧ c'.cleaned = c.cleaned ∧
      c'.clientAware = c.clientAware ∧ c'.ctx = c.ctx ∧
      ((c.stopWithError = true → c.discard = true) → c'.stopWithError = true → c'.discard = true) := by
  generalize ho : handleRead c e = o
  unfold handleRead at ho
  cases e
  case recv toks =>
    dsimp only at ho
    split at ho
    · exact .inl ho.symm
    · exact .inr (.inl ⟨_, ho.symm⟩)
  case recvEof =>
    dsimp only at ho
    split at ho
    · exact .inl ho.symm
    split at ho
    · exact .inr (.inr ⟨_, _, ho.symm, rfl, rfl, rfl, rfl, fun _ _ => rfl⟩)
    split at ho <;> exact .inr (.inr ⟨_, _, ho.symm, rfl, rfl, rfl, rfl, id⟩)
  case recvErr reset =>
    dsimp only at ho
    split at ho
    · exact .inl ho.symm
    split at ho
    · split at ho
      · exact .inr (.inr ⟨_, _, ho.symm, rfl, rfl, rfl, rfl, fun _ _ => rfl⟩)
      · exact .inr (.inr ⟨_, _, ho.symm, rfl, rfl, rfl, rfl, id⟩)
    · exact .inr (.inr ⟨_, _, ho.symm, rfl, rfl, rfl, rfl, fun _ _ => rfl⟩)
  all_goals exact .inl ho.symm

/-- what the completion of a send does to the state -/
def writeMoves : List (CState × CState) :=
  [(.headersSending, .headersSent), (.normalBodyReady, .fullReplySent), (.chunkedBodyReady, .chunkedBodyUnready),
   (.footersSending, .fullReplySent)]

theorem handleWrite_cases (c : Conn σ) (r : WriteRes) :
    handleWrite c r = (c, []) ∨ handleWrite c r = closeError c ∨
    handleWrite c r = ({ c with cont100Sent := true }, []) ∨
    ∃ m ∈ writeMoves, c.state = m.1 ∧ handleWrite c r = ({ c with state := m.2 }, []) := by
  unfold handleWrite
  split
  · exact .inl rfl
  cases r
  case again | part => split <;> exact .inl rfl
  case err =>
    split
    iterate 5 exact .inr (.inl rfl)
    exact .inl rfl
  case done =>
    split
    · exact .inr (.inr (.inl rfl))
    · exact .inr (.inr (.inr ⟨(_, _), .head _, ‹_›, rfl⟩))
    · exact .inr (.inr (.inr ⟨(_, _), .tail _ (.head _), ‹_›, rfl⟩))
    · exact .inr (.inr (.inr ⟨(_, _), .tail _ (.tail _ (.head _)), ‹_›, rfl⟩))
    · exact .inr (.inr (.inr ⟨(_, _), .tail _ (.tail _ (.tail _ (.head _))), ‹_›, rfl⟩))
    · exact .inl rfl

def frameLen : Framing → Nat
  | .length n => n
  | _ => 0

/-- the changes of state that the switch makes without a callback, each with what the loop does next -/
def idleMoves : List (CState × CState × Flow) :=
  [(.init, .reqLineReceiving, .stop), (.reqLineReceiving, .reqLineReceiving, .stop),
   (.init, .reqLineReceived, .again), (.reqLineReceiving, .reqLineReceived, .again),
   (.reqLineReceived, .reqHeadersReceiving, .again), (.continueSending, .bodyReceiving, .again),
   (.bodyReceiving, .bodyReceived, .again), (.bodyReceived, .footersReceiving, .again),
   (.bodyReceived, .fullReqReceived, .again), (.footersReceiving, .footersReceived, .again),
   (.footersReceived, .fullReqReceived, .again), (.fullReqReceived, .startReply, .again),
   (.startReply, .headersSending, .stop), (.headersSent, .chunkedBodyUnready, .again),
   (.headersSent, .normalBodyUnready, .again), (.headersSent, .fullReplySent, .again),
   (.normalBodyUnready, .fullReplySent, .again), (.normalBodyUnready, .normalBodyReady, .stop),
   (.chunkedBodyUnready, .chunkedBodySent, .again), (.chunkedBodyUnready, .chunkedBodyReady, .again),
   (.chunkedBodySent, .footersSending, .again)]

/-- the state in which an error reply to malformed input finds the record, by the state the input was read in -/
def errMoves : List (CState × CState) :=
  [(.init, .reqLineReceiving), (.reqLineReceiving, .reqLineReceiving), (.reqLineReceived, .reqLineReceived),
   (.reqHeadersReceiving, .reqHeadersReceiving), (.headersReceived, .headersReceived),
   (.footersReceiving, .footersReceiving)]

/-- what follows the first handler call when it left the connection in HEADERS_PROCESSED and running -/
def firstMoves : List (CState × Flow) :=
  [(.continueSending, .stop), (.fullReqReceived, .again), (.bodyReceiving, .again)]

def ReadState (s : CState) : Prop := s = .init ∨ s = .reqLineReceiving ∨ s = .reqHeadersReceiving ∨ s = .footersReceiving

instance : DecidablePred ReadState := fun s =>
  inferInstanceAs (Decidable (s = .init ∨ s = .reqLineReceiving ∨ s = .reqHeadersReceiving ∨ s = .footersReceiving))

/-- the record and the callback log wherever the switch goes on from after a sub-operation that may or may not
    have changed the state: at the start, after the URI log callback, after the handler call in FULL_REQ_RECEIVED,
    after process_request_body -/
inductive Mid (cfg : Cfg) (app : App σ) (env : IdleEnv) (c : Conn σ) : Conn σ → List LEv → Prop
  | start : Mid cfg app env c c []
  | uri {t} : c.state.toNat ≤ 1 →
      Mid cfg app env c { c with app := (app.uriLog c.app).1, buf := t, clientAware := true,
                                   ctx := (app.uriLog c.app).2, state := .reqLineReceived } [.uriLog (app.uriLog c.app).2]
  | final : c.state = .fullReqReceived →
      Mid cfg app env c (callConnectionHandler cfg app env c .final).1 (callConnectionHandler cfg app env c .final).2
  | body : c.state = .bodyReceiving →
      Mid cfg app env c (processBody cfg app env (bodyFuel c.buf) c.buf c).1
        (processBody cfg app env (bodyFuel c.buf) c.buf c).2

/-- What one pass of the state switch of MHD_connection_handle_idle can do.  From a `Mid` the pass hands the record on
    as it is (`go`: the operation changed the state; `stay`: the loop ends, possibly with the fault flag, and where
    the state reads the request nothing complete is left in the buffer), changes the state as `idleMoves` lists
    (`move`), or answers malformed input (`err`); `kept`: the connection is upgraded; `firstOut`, `first`,
    `firstDiscard`: what follows the handler call in HEADERS_PROCESSED (`firstMoves`); every other outcome is the
    result of the one operation its constructor names. -/
inductive IdleStep (cfg : Cfg) (app : App σ) (env : IdleEnv) (c : Conn σ) : Conn σ × List LEv × Flow → Prop
  | go {c0 l0} : Mid cfg app env c c0 l0 → c0.state ≠ c.state → IdleStep cfg app env c (c0, l0, .again)
  | stay {c0 l0 ft} : Mid cfg app env c c0 l0 → c0.state = c.state →
      (ReadState c.state → dropJunk c0.buf = []) → IdleStep cfg app env c ({ c0 with fault := ft }, l0, .stop)
  | kept : c.state = .upgrade → IdleStep cfg app env c (c, [], .keep)
  | move {c0 l0 s' b k f} : Mid cfg app env c c0 l0 → c0.state = c.state → (c.state, s', f) ∈ idleMoves →
      (s' = .bodyReceived → c0.remaining = 0) →
      (f = .stop → ReadState s' → dropJunk b = []) →
      IdleStep cfg app env c ({ c0 with state := s', buf := b, keepalive := k }, l0, f)
  | err {c0 s' b l0} : Mid cfg app env c c0 l0 → (c0.state, s') ∈ errMoves →
      IdleStep cfg app env c ((transmitError cfg env { c0 with state := s', buf := b }).1,
         l0 ++ (transmitError cfg env { c0 with state := s', buf := b }).2, .again)
  | close {s' f} : c.state.toNat ≤ 21 → f = .again ∨ f = .stop →
      IdleStep cfg app env c ((closeError { c with state := s' }).1, (closeError { c with state := s' }).2, f)
  | headers {t fr ka e} : c.state = .reqHeadersReceiving →
      IdleStep cfg app env c
        ({ c with buf := t, framing := fr, reqKA := ka, expect100 := e, state := .headersReceived }, [], .again)
  | parsed {n ch} : c.state = .headersReceived → (ch = true ∨ ch = c.haveChunked ∧ n = frameLen c.framing) →
      IdleStep cfg app env c ({ c with remaining := n, haveChunked := ch, state := .headersProcessed }, [], .again)
  | firstOut : c.state = .headersProcessed →
      (callConnectionHandler cfg app env c .first).1.state ≠ .headersProcessed ∨
        (callConnectionHandler cfg app env c .first).1.suspended →
      IdleStep cfg app env c ((callConnectionHandler cfg app env c .first).1,
        (callConnectionHandler cfg app env c .first).2, .again)
  | first {s' f} : c.state = .headersProcessed →
      (callConnectionHandler cfg app env c .first).1.state = .headersProcessed → (s', f) ∈ firstMoves →
      (s' = .fullReqReceived → (callConnectionHandler cfg app env c .first).1.remaining = 0) →
      IdleStep cfg app env c ({ (callConnectionHandler cfg app env c .first).1 with state := s' },
        (callConnectionHandler cfg app env c .first).2, f)
  | firstDiscard : c.state = .headersProcessed →
      (callConnectionHandler cfg app env c .first).1.state = .headersProcessed →
      (callConnectionHandler cfg app env c .first).1.response.isSome →
      IdleStep cfg app env c
        ({ (callConnectionHandler cfg app env c .first).1 with remaining := 0, discard := true, state := .fullReqReceived },
         (callConnectionHandler cfg app env c .first).2, .again)
  | upgrade {r} : c.state = .headersSent → c.response = some r → r.upgrade →
      IdleStep cfg app env c ((dropResp { c with state := .upgrade, suspended := true, inEpollSet := false }).1,
         [.upgrade] ++ (dropResp { c with state := .upgrade, suspended := true, inEpollSet := false }).2, .again)
  | interim : c.state = .fullReplySent → interimPending c →
      IdleStep cfg app env c ((dropResp { c with state := .headersProcessed }).1,
         [.interimSent] ++ (dropResp { c with state := .headersProcessed }).2, .again)
  | reset {reuse} : c.state = .fullReplySent → (reuse = true → c.discard = false) →
      IdleStep cfg app env c ((connectionReset c reuse).1, (connectionReset c reuse).2, .again)
  | cleanup : c.state = .closed →
      IdleStep cfg app env c ((cleanupConnection c).1, (cleanupConnection c).2, .dead)

theorem idleCase_step (cfg : Cfg) (app : App σ) (env : IdleEnv) (c : Conn σ) :
    IdleStep cfg app env c (idleCase cfg app env c) := by
  -- the constructors whose side conditions are decided from the state, with the state as a variable
  have go := @IdleStep.go _ cfg app env c
  have stay := @IdleStep.stay _ cfg app env c
  have move := @IdleStep.move _ cfg app env c
  have close := @IdleStep.close _ cfg app env c
  generalize hst : c.state = s at go stay move close
  cases s
  case headersProcessed =>
    -- the definition goes through an intermediate record, and splitting its unfolding is very slow to check
    have firstOut := @IdleStep.firstOut _ cfg app env c hst
    have first := @IdleStep.first _ cfg app env c
    have firstDiscard := @IdleStep.firstDiscard _ cfg app env c hst
    rcases hcc : callConnectionHandler cfg app env c .first with ⟨c1, l⟩
    rw [hcc] at firstOut first firstDiscard
    simp only [idleCase, hst, hcc]
    by_cases h1 : c1.state ≠ .headersProcessed
    · rw [if_pos h1]; exact firstOut (.inl h1)
    rw [if_neg h1]
    by_cases h2 : c1.suspended = true
    · rw [if_pos h2]; exact firstOut (.inr h2)
    rw [if_neg h2]
    have hs1 := Decidable.not_not.mp h1
    by_cases h3 : c1.response.isNone = true ∧ c1.expect100 = true ∧ c1.remaining ≠ 0 ∧ c1.buf.isEmpty = true
    · rw [if_pos h3]; exact first hst hs1 (by decide) nofun
    rw [if_neg h3]
    by_cases h4 : c1.response.isSome = true ∧ c1.remaining ≠ 0
    · simp only [if_pos h4]; exact firstDiscard hs1 h4.1
    simp only [if_neg h4]
    by_cases h5 : c1.remaining = 0
    · rw [if_pos h5]; exact first hst hs1 (by decide) fun _ => h5
    · rw [if_neg h5]; exact first hst hs1 (by decide) nofun
  all_goals simp only [idleCase, hst]
  case init | reqLineReceiving =>
    have hlow : c.state.toNat ≤ 1 := by rw [hst]; decide
    split
    next hd =>
      split
      · rw [← hst]; exact stay .start hst fun _ => hd
      · exact move .start hst (by decide) nofun fun _ _ => hd
    · split
      · exact go (.uri hlow) nofun
      · exact move .start hst (by decide) nofun nofun
    · split
      · exact .err (.uri (t := []) hlow) (List.mem_of_elem_eq_true rfl)
      · exact .err .start (by rw [hst]; decide)
    · exact .err .start (by rw [hst]; decide)
  case reqLineReceived => exact move .start hst (by decide) nofun nofun
  case reqHeadersReceiving =>
    split
    next hd => exact stay .start hst fun _ => hd
    · exact .headers hst
    · exact .err .start (by rw [hst]; decide)
  case headersReceived =>
    split
    · exact .err .start (by rw [hst]; decide)
    next hf => exact .parsed hst (.inr ⟨rfl, by rw [hf]; rfl⟩)
    next n hf => exact .parsed hst (.inr ⟨rfl, by rw [hf]; rfl⟩)
    · exact .parsed hst (.inl rfl)
  case continueSending =>
    split
    · exact move .start hst (by decide) nofun nofun
    · exact stay .start hst nofun
  case bodyReceiving =>
    split
    · split
      next hne => exact go (.body hst) hne
      next he =>
      have he := Decidable.not_not.mp he
      split
      next hr => exact move (.body hst) he (by decide) (fun _ => hr) nofun
      · exact stay (.body hst) he nofun
    split
    next hr => exact move .start hst (by decide) (fun _ => hr) nofun
    · exact stay .start hst nofun
  case bodyReceived =>
    split
    · split <;> exact move .start hst (by decide) nofun nofun
    · exact stay .start hst nofun
  case footersReceiving =>
    split
    next hd => exact stay .start hst fun _ => hd
    · exact move .start hst (by decide) nofun nofun
    · exact .err .start (by rw [hst]; decide)
  case footersReceived => exact move .start hst (by decide) nofun nofun
  case fullReqReceived =>
    split
    next hne => exact go (.final hst) hne
    next he =>
    have he := Decidable.not_not.mp he
    split
    · exact stay (.final hst) he nofun
    · exact move (.final hst) he (by decide) nofun nofun
  case headersSending | normalBodyReady | chunkedBodyReady | footersSending => exact stay .start hst nofun
  case upgrade => exact .kept hst
  case startReply =>
    split
    · rw [← hst]; exact stay .start hst nofun
    · split
      · exact close (s' := c.state) (by decide) (by decide)
      · exact move .start hst (by decide) nofun nofun
  case headersSent =>
    split
    · rw [← hst]; exact stay .start hst nofun
    next r hr =>
    split
    next hup =>
      split
      · exact close (by decide) (by decide)
      · exact .upgrade hst hr hup
    · split
      · split <;> exact move .start hst (by decide) nofun nofun
      · exact move .start hst (by decide) nofun nofun
  case normalBodyUnready =>
    split
    · rw [← hst]; exact stay .start hst nofun
    split
    · exact move .start hst (by decide) nofun nofun
    split
    · exact close (s' := c.state) (by decide) (by decide)
    split
    · exact move .start hst (by decide) nofun nofun
    · exact stay .start hst nofun
  case chunkedBodyUnready =>
    split
    · rw [← hst]; exact stay .start hst nofun
    split
    · exact move .start hst (by decide) nofun nofun
    split
    · exact close (s' := c.state) (by decide) (by decide)
    split
    · split <;> exact move .start hst (by decide) nofun nofun
    · exact stay .start hst nofun
  case chunkedBodySent =>
    split
    · exact close (s' := c.state) (by decide) (by decide)
    · exact move .start hst (by decide) nofun nofun
  case fullReplySent =>
    split
    next hint => exact .interim hst hint
    · exact .reset hst (fun x => by simpa using (of_decide_eq_true x).2.2)
  case closed => exact .cleanup hst

/-- What the `while` loop of MHD_connection_handle_idle can do from `c`: the bound is reached (`fuel`), the connection
    is suspended (`susp`), or passes of the switch follow one another until one does not say `continue`. -/
inductive IdleRun (cfg : Cfg) (app : App σ) (env : IdleEnv) : Conn σ → Conn σ × List LEv × Flow → Prop
  | fuel {c} : IdleRun cfg app env c ({ c with fault := true }, [], .stop)
  | susp {c} : c.suspended = true → IdleRun cfg app env c (c, [], .stop)
  | last {c c1 l f} : IdleStep cfg app env c (c1, l, f) → f ≠ .again → IdleRun cfg app env c (c1, l, f)
  | more {c c1 l1 r} : IdleStep cfg app env c (c1, l1, .again) → IdleRun cfg app env c1 r →
      IdleRun cfg app env c (r.1, l1 ++ r.2.1, r.2.2)

theorem idleLoop_run (cfg : Cfg) (app : App σ) (env : IdleEnv) :
    ∀ (n : Nat) (c : Conn σ), IdleRun cfg app env c (idleLoop cfg app env n c) := by
  intro n
  induction n with
  | zero => exact fun c => .fuel
  | succ n ih =>
    intro c
    simp only [idleLoop]
    split
    next hs => exact .susp hs
    · have st := idleCase_step cfg app env c
      generalize idleCase cfg app env c = rr at st
      obtain ⟨c1, l1, f⟩ := rr
      cases f
      case again => exact .more st (ih c1)
      all_goals exact .last st nofun

theorem idleCase_closed {cfg : Cfg} {app : App σ} {env : IdleEnv} {c : Conn σ} (hc : c.state = .closed) :
    idleCase cfg app env c = ((cleanupConnection c).1, (cleanupConnection c).2, .dead) := by
  simp only [idleCase, hc]

theorem handleIdleWith_closed {cfg : Cfg} {app : App σ} {env : IdleEnv} {c : Conn σ} {n : Nat} (hn : 0 < n)
    (hs : c.suspended = false) (hc : c.state = .closed) :
    handleIdleWith n cfg app env c = cleanupConnection { c with touched := false } := by
  obtain ⟨m, rfl⟩ : ∃ m, n = m + 1 := ⟨n - 1, by omega⟩
  unfold handleIdleWith
  rw [idleLoop, if_neg (by rw [hs]; decide), idleCase_closed (c := { c with touched := false }) hc]

theorem handleIdle_closed {cfg : Cfg} {app : App σ} {env : IdleEnv} {c : Conn σ} (hs : c.suspended = false)
    (hc : c.state = .closed) : handleIdle cfg app env c = cleanupConnection { c with touched := false } :=
  handleIdleWith_closed (Nat.mul_pos (by decide) (Nat.succ_pos _)) hs hc

end Mhd.ConnSM
