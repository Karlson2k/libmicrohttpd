/-
  The request line in its renderings, as records of what the application is given.  `LineBlk`: the
  separators are whitespace BLOCKS (merged where `wsp_blocks`, levels ≤ -1; a single byte elsewhere).
  `LineNC`: the renderings accepted when whitespace blocks are not merged (`wsp_blocks = false`,
  levels ≥ 0); it is `LineBlk` at block lengths 1 together with the buffer as an equation.  Both
  round trips are `reqline_run` read through `lineOut_blk`.
-/
import Mhd.Proofs.ReqLineRoundtrip
namespace Mhd.Req
namespace RLP
open Mhd.Gen

/-- the finished request line of a rendering with whitespace blocks: `rb'` is where the method
    starts (behind the `k` skipped empty lines), `a` / `b` the lengths of the two separator
    blocks, `e` the length of the line end -/
structure LineBlk (r : ReqLine) (buf0 : Bytes) (rb' : Nat) (m t v : List UInt8) (hv : Int) (k a b e : Nat) : Prop where
  method : r.method = rb'
  methodLen : r.methodLen = m.length
  mthd : r.mthd = stdMethodOf m
  tgt : r.tgt = rb' + m.length + a
  tgtLen : r.tgtLen = t.length
  qmark : r.qmark = (firstQ t).map (r.tgt + ·)
  version : r.version = rb' + m.length + a + t.length + b
  httpVer : r.httpVer = hv
  numWs : r.numWs = 0
  skipped : r.skipped = k
  rb : r.rb = rb' + m.length + a + t.length + b + 8 + e
  vMethod : BufIs r.buf r.method (m ++ [0])
  vTgt : BufIs r.buf r.tgt (t ++ [0])
  vVersion : BufIs r.buf r.version (v ++ [0])
  size : r.buf.size = buf0.size

-- sealed for the reason given in `ReqLineRoundtrip`: buffers are compared as written-out `setIfInBounds` terms
seal Array.setIfInBounds in
/-- `lineOut` read as the record `LineBlk`: the offsets in the spelling of the statements, the three
    strings NUL-terminated (each NUL lies behind its string; the other two lie outside it) -/
theorem lineOut_blk (buf0 : Bytes) (rb k A B e : Nat) (m t v : List UInt8) (hv : Int) (hvl : v.length = 8)
    (hA : A ≠ 0) (hB : B ≠ 0) (hbm : BufIs buf0 rb m) (hbt : BufIs buf0 (rb + (m.length + A)) t)
    (hbv : BufIs buf0 (rb + (m.length + A + t.length + B)) v)
    (hsz : rb + (m.length + A + t.length + B + 8) < buf0.size) :
    LineBlk (lineOut buf0 rb k m.length A t.length B e m t hv) buf0 rb m t v hv k A B e := by
  have l1 : ∀ w : List UInt8, (w ++ [0]).length = w.length + 1 := fun w => List.length_append
  refine ⟨rfl, rfl, rfl, (Nat.add_assoc ..).symm, rfl, rfl, ?_, rfl, rfl, rfl, ?_, ?_, ?_, ?_, ?_⟩
  · show rb + (m.length + A + t.length + B) = _; omega
  · show rb + (m.length + A + t.length + B + 8 + e) = _; omega
  · exact ((hbm.nul (rb + m.length) rfl (by omega)).set (rb + (m.length + A + t.length)) 0 (Or.inr (by rw [l1]; omega))).set
      (rb + (m.length + A + t.length + B + 8)) 0 (Or.inr (by rw [l1]; omega))
  · exact ((hbt.set (rb + m.length) 0 (Or.inl (by omega))).nul (rb + (m.length + A + t.length)) (by omega)
      (by rw [Array.size_setIfInBounds]; omega)).set (rb + (m.length + A + t.length + B + 8)) 0 (Or.inr (by rw [l1]; omega))
  · exact ((hbv.set (rb + m.length) 0 (Or.inl (by omega))).set (rb + (m.length + A + t.length)) 0 (Or.inl (by omega))).nul
      (rb + (m.length + A + t.length + B + 8)) (by rw [hvl]; omega) (by rw [Array.size_setIfInBounds, Array.size_setIfInBounds]; exact hsz)
  · simp only [lineOut, Array.size_setIfInBounds]

/-- **Round trip of the request line with whitespace blocks**, for every combination of flags:
    `k` empty lines in front (each `CR LF`, or a bare `LF` where that ends a line; accepted up to
    the per-level limit), each of the two separators a non-empty BLOCK of bytes that are
    whitespace delimiters at this strictness (of one byte unless `wsp_blocks`), the line ended
    by `CR LF` or — where allowed — a bare `LF`.  The parser hands out exactly the three tokens
    (each NUL-terminated in the buffer), remembers the first '?' of the target, recognises method
    and version, counts no whitespace inside the URI, counts the skipped lines and consumes
    exactly the empty lines and the line. -/
theorem reqline_roundtrip_blk (F : RLFlags) (buf0 : Bytes) (rb : Nat)
    (els : List (List UInt8)) (m t v eol ws1 ws2 : List UInt8) (hv : Int)
    (hrb : rb ≤ buf0.size) (hels : ∀ e ∈ els, LineEnd F e) (hk : SkipOK F els.length)
    (hws1 : ws1 ≠ [] ∧ ∀ w ∈ ws1, rlIsWsp F w = true) (hws2 : ws2 ≠ [] ∧ ∀ w ∈ ws2, rlIsWsp F w = true)
    (hsingle : F.wspBlocks = false → ws1.length = 1 ∧ ws2.length = 1)
    (heol : LineEnd F eol) (hm0 : m ≠ []) (ht0 : t ≠ []) (hm : ∀ c ∈ m, rplain c ∧ c ≠ 63)
    (ht : ∀ c ∈ t, rplain c) (hvl : v.length = 8) (hvc : ∀ c ∈ v, rplain c ∧ c ≠ 63)
    (hpv : parseHttpVersion v = .ok hv)
    (hbuf : BufIs buf0 rb (els.flatten ++ (m ++ ws1 ++ t ++ (ws2 ++ v ++ eol)))) :
    ∃ r, (rlScanner F).run (RL.init buf0 rb) = .done (.ok r) ∧
      LineBlk r buf0 (rb + els.flatten.length) m t v hv els.length ws1.length ws2.length eol.length := by
  obtain ⟨w1, ws1, rfl⟩ := List.exists_cons_of_ne_nil hws1.1
  obtain ⟨w2, ws2, rfl⟩ := List.exists_cons_of_ne_nil hws2.1
  have hblk : F.wspBlocks = false → ws1 = [] ∧ ws2 = [] := fun h =>
    ⟨List.length_eq_zero_iff.mp (Nat.succ.inj (hsingle h).1), List.length_eq_zero_iff.mp (Nat.succ.inj (hsingle h).2)⟩
  obtain ⟨bm, _, bt, _, bv, be⟩ := hbuf.right.line
  exact ⟨_, reqline_run F buf0 rb els m t v eol w1 w2 ws1 ws2 hv hrb hels hk hws1.2 hws2.2 hblk heol hm0 ht0
      (fun c h => (hm c h).1) ht hvl hvc hpv hbuf,
    lineOut_blk buf0 _ _ _ _ _ m t v hv hvl (Nat.succ_ne_zero _) (Nat.succ_ne_zero _) bm bt bv (hvl ▸ heol.lt_size be)⟩

/-- the finished request line of a (possibly non-canonical) rendering: `rb'` is where the
    method starts (behind the `k` skipped empty lines), `e` the length of the line end -/
structure LineNC (r : ReqLine) (buf0 : Bytes) (rb' : Nat) (m t v : List UInt8) (hv : Int) (k e : Nat) : Prop where
  method : r.method = rb'
  methodLen : r.methodLen = m.length
  mthd : r.mthd = stdMethodOf m
  tgt : r.tgt = rb' + m.length + 1
  tgtLen : r.tgtLen = t.length
  qmark : r.qmark = (firstQ t).map (r.tgt + ·)
  version : r.version = rb' + m.length + t.length + 2
  httpVer : r.httpVer = hv
  numWs : r.numWs = 0
  crSp : r.crSp = 0
  skipped : r.skipped = k
  rb : r.rb = rb' + m.length + t.length + 10 + e
  /-- the buffer is the input with the three delimiters replaced by NUL -/
  buf : r.buf = ((buf0.setIfInBounds (rb' + m.length) 0).setIfInBounds (rb' + m.length + 1 + t.length) 0).setIfInBounds
                  (rb' + m.length + t.length + 10) 0
  vMethod : BufIs r.buf r.method (m ++ [0])
  vTgt : BufIs r.buf r.tgt (t ++ [0])
  vVersion : BufIs r.buf r.version (v ++ [0])

seal Array.setIfInBounds in
set_option linter.unusedVariables false in
/-- **Round trip of the non-canonical renderings of the request line** that the parser accepts
    when whitespace blocks are not merged (levels ≥ 0): `k` empty lines in front (each `CR LF`,
    or a bare `LF` where that ends a line; accepted up to the per-level limit), each of the two
    separators any byte that is a whitespace delimiter at this strictness (SP; HT with
    `tabAsWsp`; VT/FF with `otherWspAsWsp`), the line ended by `CR LF` or — where allowed — a
    bare `LF`.  The parser hands out exactly the three tokens (each NUL-terminated in the
    buffer), remembers the first '?' of the target, recognises method and version, counts the
    skipped lines and consumes exactly the empty lines and the line. -/
theorem reqline_roundtrip_nc (F : RLFlags) (hB : F.wspBlocks = false) (buf0 : Bytes) (rb : Nat)
    (els : List (List UInt8)) (m t v eol : List UInt8) (w1 w2 : UInt8) (hv : Int)
    (hrb : rb ≤ buf0.size)
    (hels : ∀ e ∈ els, LineEnd F e) (hk : SkipOK F els.length)
    (hw1 : rlIsWsp F w1 = true) (hw2 : rlIsWsp F w2 = true) (heol : LineEnd F eol)
    (hm0 : m ≠ []) (ht0 : t ≠ []) (hm : ∀ c ∈ m, rplain c ∧ c ≠ 63)
    (ht : ∀ c ∈ t, rplain c) (hvl : v.length = 8) (hvc : ∀ c ∈ v, rplain c ∧ c ≠ 63)
    (hpv : parseHttpVersion v = .ok hv)
    (hbuf : BufIs buf0 rb (els.flatten ++ (m ++ [w1] ++ t ++ ([w2] ++ v ++ eol)))) :
    ∃ r, (rlScanner F).run (RL.init buf0 rb) = .done (.ok r) ∧
      LineNC r buf0 (rb + els.flatten.length) m t v hv els.length eol.length := by
  have one : ∀ w0, rlIsWsp F w0 = true → ∀ w ∈ [w0], rlIsWsp F w = true :=
    fun w0 h w hw => by rw [List.mem_singleton.mp hw]; exact h
  refine ⟨_, reqline_run F buf0 rb els m t v eol w1 w2 [] [] hv hrb hels hk (one w1 hw1) (one w2 hw2)
    (fun _ => ⟨rfl, rfl⟩) heol hm0 ht0 (fun c h => (hm c h).1) ht hvl hvc hpv hbuf, ?_⟩
  obtain ⟨bm, _, bt, _, bv, be⟩ := hbuf.right.line
  have b := lineOut_blk buf0 (rb + els.flatten.length) els.length 1 1 eol.length m t v hv hvl (Nat.succ_ne_zero _)
    (Nat.succ_ne_zero _) bm bt bv (hvl ▸ heol.lt_size be)
  generalize rb + els.flatten.length = rb' at *
  refine ⟨b.method, b.methodLen, b.mthd, b.tgt, b.tgtLen, b.qmark, b.version.trans (by omega), b.httpVer, b.numWs, rfl,
    b.skipped, b.rb.trans (by omega), ?_, b.vMethod, b.vTgt, b.vVersion⟩
  show ((buf0.setIfInBounds (rb' + m.length) 0).setIfInBounds (rb' + (m.length + 1 + t.length)) 0).setIfInBounds
    (rb' + (m.length + 1 + t.length + 1 + 8)) 0 = _
  rw [show rb' + (m.length + 1 + t.length) = rb' + m.length + 1 + t.length by omega,
    show rb' + (m.length + 1 + t.length + 1 + 8) = rb' + m.length + t.length + 10 by omega]

/-- the canonical line is the rendering without empty lines, `SP` separators and `CR LF` -/
example (F : RLFlags) : SkipOK F ([] : List (List UInt8)).length ∧ rlIsWsp F cSP = true ∧ LineEnd F [cCR, cLF] :=
  ⟨Or.inl rfl, by simp [rlIsWsp], Or.inl rfl⟩

/-- at level 0: up to 1024 empty lines, `HT` as separator, bare `LF` as line end are accepted, `VT` is not -/
example : SkipOK (RLFlags.ofLevel 0) 1024 ∧ ¬ SkipOK (RLFlags.ofLevel 0) 1025 ∧ SkipOK (RLFlags.ofLevel 1) 1 ∧
    ¬ SkipOK (RLFlags.ofLevel 1) 2 ∧ ¬ SkipOK (RLFlags.ofLevel 2) 1 ∧
    rlIsWsp (RLFlags.ofLevel 0) cHT = true ∧ rlIsWsp (RLFlags.ofLevel 0) cVT = false ∧
    rlIsWsp (RLFlags.ofLevel 1) cHT = false ∧
    LineEnd (RLFlags.ofLevel 0) [cLF] ∧ ¬ LineEnd (RLFlags.ofLevel 1) [cLF] := by decide

theorem BufIs.ofList (w post : List UInt8) : BufIs (w ++ post).toArray 0 w := by
  intro i hi
  simp [List.getElem?_append_left hi]

/-- `CRLF GET HT /a?x HT HTTP/1.1 LF H` at level 0: the hypotheses of `reqline_roundtrip_nc` hold -/
example : ∃ r, (rlScanner (RLFlags.ofLevel 0)).run
      (RL.init #[13, 10, 71, 69, 84, 9, 47, 97, 63, 120, 9, 72, 84, 84, 80, 47, 49, 46, 49, 10, 72] 0) = .done (.ok r) ∧
    r.method = 2 ∧ r.tgt = 6 ∧ r.tgtLen = 4 ∧ r.qmark = some 8 ∧ r.version = 11 ∧ r.rb = 20 ∧ r.skipped = 1 ∧
    r.httpVer = Http.ver11 := by
  obtain ⟨r, h, ok⟩ := reqline_roundtrip_nc (RLFlags.ofLevel 0) rfl
    #[13, 10, 71, 69, 84, 9, 47, 97, 63, 120, 9, 72, 84, 84, 80, 47, 49, 46, 49, 10, 72] 0
    [[13, 10]] [71, 69, 84] [47, 97, 63, 120] [72, 84, 84, 80, 47, 49, 46, 49] [10] 9 9 Http.ver11
    (by decide) (by decide) (by decide) (by decide) (by decide) (by decide) (by decide) (by decide)
    (by intro c hc; simp at hc; rcases hc with rfl | rfl | rfl <;> (unfold rplain; decide))
    (by intro c hc; simp at hc; rcases hc with rfl | rfl | rfl | rfl <;> (unfold rplain; decide))
    rfl
    (by intro c hc; simp at hc; rcases hc with rfl | rfl | rfl | rfl | rfl | rfl | rfl <;> (unfold rplain; decide))
    rfl
    (BufIs.ofList _ [72])
  refine ⟨r, h, ok.method, ok.tgt, ok.tgtLen, ?_, ok.version, ok.rb, ok.skipped, ok.httpVer⟩
  rw [ok.qmark, ok.tgt]; rfl

/-- the same line evaluated by the kernel (`decide +kernel`: a test of the model on this input, not a
    proof step of any theorem): one empty line skipped, `HT` separators, bare `LF` line end -/
example :
    (match (rlScanner (RLFlags.ofLevel 0)).run
        (RL.init #[13, 10, 71, 69, 84, 9, 47, 97, 63, 120, 9, 72, 84, 84, 80, 47, 49, 46, 49, 10, 72] 0) with
     | .done (.ok r) =>
        (r.method, r.methodLen, r.tgt, r.tgtLen, r.qmark, r.version) == (2, 3, 6, 4, some 8, 11) &&
        (r.rb, r.skipped, r.numWs, r.httpVer) == (20, 1, 0, Http.ver11) &&
        r.buf.toList == [13, 10, 71, 69, 84, 0, 47, 97, 63, 120, 0, 72, 84, 84, 80, 47, 49, 46, 49, 0, 72]
     | _ => false) = true := by decide +kernel

/-- at level 1 the same bytes are refused (`HT` is no delimiter, the bare `LF` is an error) -/
example :
    (match (rlScanner (RLFlags.ofLevel 1)).run
        (RL.init #[13, 10, 71, 69, 84, 9, 47, 97, 63, 120, 9, 72, 84, 84, 80, 47, 49, 46, 49, 10, 72] 0) with
     | .done (.err _) => true
     | _ => false) = true := by decide +kernel

/-- levels ≤ -1 are in the regime of the theorem; `HT` is a delimiter there, `VT`/`FF` only at -3 -/
example : (RLFlags.ofLevel (-1)).wspBlocks = true ∧ (RLFlags.ofLevel (-1)).wspInUri = true ∧
    (RLFlags.ofLevel (-3)).wspBlocks = true ∧ (RLFlags.ofLevel (-3)).wspInUri = true ∧
    (RLFlags.ofLevel 0).wspBlocks = false ∧
    rlIsWsp (RLFlags.ofLevel (-1)) cHT = true ∧ rlIsWsp (RLFlags.ofLevel (-3)) cVT = true := by decide

/-- `GET SP SP HT /a?x SP HT SP HTTP/1.1 CR LF` at level -1: the hypotheses of
    `reqline_roundtrip_blk` hold -/
example : ∃ r, (rlScanner (RLFlags.ofLevel (-1))).run
      (RL.init #[71, 69, 84, 32, 32, 9, 47, 97, 63, 120, 32, 9, 32, 72, 84, 84, 80, 47, 49, 46, 49, 13, 10] 0) = .done (.ok r) ∧
    r.method = 0 ∧ r.tgt = 6 ∧ r.tgtLen = 4 ∧ r.qmark = some 8 ∧ r.version = 13 ∧ r.rb = 23 ∧ r.skipped = 0 ∧
    r.numWs = 0 ∧ r.httpVer = Http.ver11 := by
  obtain ⟨r, h, ok⟩ := reqline_roundtrip_blk (RLFlags.ofLevel (-1))
    #[71, 69, 84, 32, 32, 9, 47, 97, 63, 120, 32, 9, 32, 72, 84, 84, 80, 47, 49, 46, 49, 13, 10] 0
    [] [71, 69, 84] [47, 97, 63, 120] [72, 84, 84, 80, 47, 49, 46, 49] [13, 10] [32, 32, 9] [32, 9, 32] Http.ver11
    (by decide) (by decide) (by decide) (by decide) (by decide) (by decide) (by decide) (by decide) (by decide)
    (by intro c hc; simp at hc; rcases hc with rfl | rfl | rfl <;> (unfold rplain; decide))
    (by intro c hc; simp at hc; rcases hc with rfl | rfl | rfl | rfl <;> (unfold rplain; decide))
    rfl
    (by intro c hc; simp at hc; rcases hc with rfl | rfl | rfl | rfl | rfl | rfl | rfl <;> (unfold rplain; decide))
    rfl
    (BufIs.ofList _ [])
  refine ⟨r, h, ok.method, ok.tgt, ok.tgtLen, ?_, ok.version, ok.rb, ok.skipped, ok.numWs, ok.httpVer⟩
  rw [ok.qmark, ok.tgt]; rfl

/-- the line "GET  \t/a?x \t HTTP/1.1\r\n" evaluated by the kernel at level -1 (`decide +kernel`: a
    test of the model on this input, not a proof step of any theorem): blocks of three
    separator bytes each; the NULs are written at the first byte of each block and at the CR -/
example :
    (match (rlScanner (RLFlags.ofLevel (-1))).run
        (RL.init #[71, 69, 84, 32, 32, 9, 47, 97, 63, 120, 32, 9, 32, 72, 84, 84, 80, 47, 49, 46, 49, 13, 10] 0) with
     | .done (.ok r) =>
        (r.method, r.methodLen, r.tgt, r.tgtLen, r.qmark, r.version) == (0, 3, 6, 4, some 8, 13) &&
        (r.rb, r.skipped, r.numWs, r.httpVer) == (23, 0, 0, Http.ver11) &&
        r.buf.toList == [71, 69, 84, 0, 32, 9, 47, 97, 63, 120, 0, 9, 32, 72, 84, 84, 80, 47, 49, 46, 49, 0, 10]
     | _ => false) = true := by decide +kernel

/-- one empty line in front, blocks `HT VT` and `FF SP`, bare `LF` line end, at level -3 -/
example :
    (match (rlScanner (RLFlags.ofLevel (-3))).run
        (RL.init #[13, 10, 71, 69, 84, 9, 11, 47, 97, 12, 32, 72, 84, 84, 80, 47, 49, 46, 48, 10, 72] 0) with
     | .done (.ok r) =>
        (r.method, r.methodLen, r.tgt, r.tgtLen, r.qmark, r.version) == (2, 3, 7, 2, none, 11) &&
        (r.rb, r.skipped, r.numWs, r.httpVer) == (20, 1, 0, Http.ver10)
     | _ => false) = true := by decide +kernel

end RLP
end Mhd.Req
