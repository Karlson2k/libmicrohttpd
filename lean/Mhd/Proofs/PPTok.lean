/-
  Tokens of well-formed `application/x-www-form-urlencoded` text and the byte-level facts about them that
  the proofs about `process_value` need: a byte prefix is whole tokens plus a partial escape (`rawOf_cut`), and
  what the "escape at the end of the staging buffer" test (`escTail`) finds on such a prefix.
-/
import Mhd.Model.PP
namespace Mhd.PP

/-- a token of well-formed urlencoded text -/
inductive Tok
  | lit (c : UInt8)
  | esc (a b : UInt8)
  deriving DecidableEq, Repr

def isHex (c : UInt8) : Bool := (hexVal c).isSome

def Tok.raw : Tok → Bytes
  | .lit c => [c]
  | .esc a b => [cPct, a, b]

/-- literal bytes that stand for themselves (or, for '+', a space) -/
def litOk (c : UInt8) : Bool :=
  c != 0 && c != cPct && c != cAmp && c != cEq && c != cCR && c != cLF

def Tok.ok : Tok → Bool
  | .lit c => litOk c
  | .esc a b => isHex a && isHex b

def Tok.dec : Tok → UInt8
  | .lit c => if c = cPlus then cSp else c
  | .esc a b => UInt8.ofNat ((hexVal a).getD 0 * 16 + (hexVal b).getD 0)

def rawOf (ts : List Tok) : Bytes := (ts.map Tok.raw).flatten

def decOf (ts : List Tok) : Bytes := ts.map Tok.dec

@[simp] theorem rawOf_nil : rawOf [] = [] := rfl
@[simp] theorem rawOf_cons (t : Tok) (ts) : rawOf (t :: ts) = t.raw ++ rawOf ts := by simp [rawOf]
@[simp] theorem rawOf_append (a b : List Tok) : rawOf (a ++ b) = rawOf a ++ rawOf b := by simp [rawOf]
@[simp] theorem decOf_nil : decOf [] = [] := rfl
@[simp] theorem decOf_cons (t : Tok) (ts) : decOf (t :: ts) = t.dec :: decOf ts := rfl
@[simp] theorem decOf_append (a b : List Tok) : decOf (a ++ b) = decOf a ++ decOf b := by simp [decOf]

def AllOk (ts : List Tok) : Prop := ∀ t ∈ ts, t.ok = true

theorem AllOk.tail {t : Tok} {ts : List Tok} (h : AllOk (t :: ts)) : AllOk ts :=
  fun x hx => h x (List.mem_cons_of_mem _ hx)

theorem AllOk.head {t : Tok} {ts : List Tok} (h : AllOk (t :: ts)) : t.ok = true := h t List.mem_cons_self

theorem AllOk.append_left {a b : List Tok} (h : AllOk (a ++ b)) : AllOk a :=
  fun x hx => h x (List.mem_append_left _ hx)

theorem AllOk.append_right {a b : List Tok} (h : AllOk (a ++ b)) : AllOk b :=
  fun x hx => h x (List.mem_append_right _ hx)

theorem litOk_iff {c : UInt8} : litOk c = true ↔ c ≠ 0 ∧ c ≠ cPct ∧ c ≠ cAmp ∧ c ≠ cEq ∧ c ≠ cCR ∧ c ≠ cLF := by
  simp only [litOk, Bool.and_eq_true, bne_iff_ne, and_assoc]

theorem hex_ne {c : UInt8} (h : isHex c = true) :
    c ≠ cPct ∧ c ≠ cPlus ∧ c ≠ 0 ∧ c ≠ cEq ∧ c ≠ cAmp ∧ c ≠ cLF ∧ c ≠ cCR := by
  have ne : ∀ v : UInt8, isHex v = false → c ≠ v := fun v hv hc => by rw [hc, hv] at h; cases h
  exact ⟨ne _ (by decide), ne _ (by decide), ne _ (by decide), ne _ (by decide), ne _ (by decide), ne _ (by decide),
    ne _ (by decide)⟩

theorem Tok.raw_cases {t : Tok} (ht : t.ok = true) :
    (∃ c, t = .lit c ∧ litOk c = true) ∨ ∃ a b, t = .esc a b ∧ isHex a = true ∧ isHex b = true := by
  cases t with
  | lit c => exact Or.inl ⟨c, rfl, ht⟩
  | esc a b => exact Or.inr ⟨a, b, rfl, (Bool.and_eq_true _ _ ▸ ht : _ ∧ _)⟩

theorem Tok.pct_first {t : Tok} (ht : t.ok = true) {p q : Bytes} (h : t.raw = p ++ cPct :: q) : p = [] := by
  cases p with
  | nil => rfl
  | cons x p' =>
    rcases Tok.raw_cases ht with ⟨c, rfl, _⟩ | ⟨a, b, rfl, ha, hb⟩
    · cases p' <;> cases h
    · have hm : cPct ∈ [a, b] := by rw [(List.cons.inj h).2]; exact List.mem_append_right _ List.mem_cons_self
      rcases List.mem_cons.mp hm with e | hm
      · exact absurd e.symm (hex_ne ha).1
      · exact absurd (List.mem_singleton.mp hm).symm (hex_ne hb).1

theorem raw_byte {ts : List Tok} (hok : AllOk ts) {c : UInt8} (hc : c ∈ rawOf ts) :
    c ≠ 0 ∧ c ≠ cEq ∧ c ≠ cAmp ∧ c ≠ cLF ∧ c ≠ cCR := by
  induction ts with
  | nil => cases hc
  | cons t ts ih =>
    rw [rawOf_cons, List.mem_append] at hc
    rcases hc with hc | hc
    · rcases Tok.raw_cases hok.head with ⟨x, rfl, hl⟩ | ⟨a, b, rfl, ha, hb⟩
      · cases List.mem_singleton.mp hc
        have ⟨h1, _, h3, h4, h5, h6⟩ := litOk_iff.mp hl
        exact ⟨h1, h4, h3, h6, h5⟩
      · simp only [Tok.raw, List.mem_cons, List.not_mem_nil, or_false] at hc
        rcases hc with rfl | rfl | rfl
        · decide
        · exact (hex_ne ha).2.2
        · exact (hex_ne hb).2.2
    · exact ih hok.tail hc

theorem cstr_of_no_zero (l : Bytes) (h : ∀ c ∈ l, c ≠ 0) : cstr l = l := by
  unfold cstr
  induction l with
  | nil => rfl
  | cons x t ih =>
    rw [List.takeWhile_cons, if_pos (decide_eq_true (h x List.mem_cons_self)),
      ih fun c hc => h c (List.mem_cons_of_mem _ hc)]

theorem pd_lit (c : UInt8) (r : Bytes) (h : c ≠ cPct) : pctDecode (c :: r) = c :: pctDecode r := by
  rw [pctDecode.eq_def]; simp [h]

theorem pd_esc (a b : UInt8) (r : Bytes) (x y : Nat) (ha : hexVal a = some x) (hb : hexVal b = some y) :
    pctDecode (cPct :: a :: b :: r) = UInt8.ofNat (x * 16 + y) :: pctDecode r := by
  rw [pctDecode.eq_def]; simp [ha, hb]

theorem plusSp_cons (c : UInt8) (r : Bytes) : plusSp (c :: r) = (if c = cPlus then cSp else c) :: plusSp r := rfl

theorem pctDecode_plusSp_raw (ts : List Tok) (h : AllOk ts) :
    pctDecode (plusSp (rawOf ts)) = decOf ts := by
  induction ts with
  | nil => rw [rawOf_nil, decOf_nil, plusSp, List.map_nil, pctDecode]
  | cons t ts ih =>
    rw [rawOf_cons, decOf_cons]
    rcases Tok.raw_cases h.head with ⟨c, rfl, hl⟩ | ⟨a, b, rfl, ha, hb⟩
    · have hd : (if c = cPlus then cSp else c) ≠ cPct := by
        by_cases hp : c = cPlus
        · rw [if_pos hp]; decide
        · rw [if_neg hp]; exact (litOk_iff.mp hl).2.1
      rw [Tok.raw, List.singleton_append, plusSp_cons, pd_lit _ _ hd, ih h.tail]
      rfl
    · obtain ⟨x, hx⟩ := Option.isSome_iff_exists.mp ha
      obtain ⟨y, hy⟩ := Option.isSome_iff_exists.mp hb
      rw [Tok.raw, List.cons_append, List.cons_append, List.cons_append, List.nil_append, plusSp_cons, plusSp_cons,
        plusSp_cons, if_neg (by decide), if_neg (hex_ne ha).2.1, if_neg (hex_ne hb).2.1, pd_esc a b _ x y hx hy,
        ih h.tail, Tok.dec, hx, hy]
      rfl

theorem unescape_raw (ts : List Tok) (h : AllOk ts) : unescape (rawOf ts) = decOf ts := by
  rw [unescape, cstr_of_no_zero _ fun c hc => (raw_byte h hc).1, pctDecode_plusSp_raw ts h]

/-- `p` is the part already received of the first token of `ts` (possibly nothing) -/
def Carry (p : Bytes) (ts : List Tok) : Prop :=
  p = [] ∨ ∃ t rest q, ts = t :: rest ∧ t.raw = p ++ q ∧ q ≠ []

theorem rawOf_cut (ts : List Tok) : ∀ (X W : Bytes), rawOf ts = X ++ W →
    ∃ ts1 ts2 p, ts = ts1 ++ ts2 ∧ X = rawOf ts1 ++ p ∧ Carry p ts2 ∧ rawOf ts2 = p ++ W := by
  induction ts with
  | nil =>
    intro X W h
    obtain ⟨rfl, rfl⟩ := List.append_eq_nil_iff.mp h.symm
    exact ⟨[], [], [], rfl, rfl, Or.inl rfl, rfl⟩
  | cons t ts ih =>
    intro X W h
    rw [rawOf_cons] at h
    rcases List.append_eq_append_iff.mp h with ⟨a', h1, h2⟩ | ⟨c', h1, h2⟩
    · obtain ⟨ts1, ts2, p, e1, e2, e3, e4⟩ := ih a' W h2
      exact ⟨t :: ts1, ts2, p, by rw [e1]; rfl, by rw [h1, e2, rawOf_cons, List.append_assoc], e3, e4⟩
    · by_cases hc : c' = []
      · obtain ⟨ts1, ts2, p, e1, e2, e3, e4⟩ := ih [] W (by rw [h2, hc]; rfl)
        rw [hc, List.append_nil] at h1
        exact ⟨t :: ts1, ts2, p, by rw [e1]; rfl,
          by rw [rawOf_cons, List.append_assoc, ← e2, List.append_nil, h1], e3, e4⟩
      · exact ⟨[], t :: ts, X, rfl, rfl, Or.inr ⟨t, ts, c', rfl, h1, hc⟩, by rw [rawOf_cons, h1, h2, List.append_assoc]⟩

theorem carry_forms {p : Bytes} {ts : List Tok} (hc : Carry p ts) (hok : AllOk ts) :
    p = [] ∨ p = [cPct] ∨ ∃ a, isHex a = true ∧ p = [cPct, a] := by
  rcases hc with h | ⟨t, rest, q, rfl, hr, hq⟩
  · exact Or.inl h
  · rcases Tok.raw_cases hok.head with ⟨c, rfl, _⟩ | ⟨a, b, rfl, ha, _⟩
    · rcases List.singleton_eq_append_iff.mp hr with ⟨h1, _⟩ | ⟨_, h2⟩
      · exact Or.inl h1
      · exact absurd h2 hq
    · match p, hr with
      | [], _ => exact Or.inl rfl
      | [x], hr => cases hr; exact Or.inr (Or.inl rfl)
      | [x, y], hr => cases hr; exact Or.inr (Or.inr ⟨a, ha, rfl⟩)
      | [x, y, z], hr => cases hr; exact absurd rfl hq
      | x :: y :: z :: w :: r, hr => cases hr

theorem carry_len {p : Bytes} {ts : List Tok} (hc : Carry p ts) (hok : AllOk ts) : p.length ≤ 2 := by
  rcases carry_forms hc hok with h | h | ⟨a, _, h⟩ <;> rw [h]
  · exact Nat.zero_le 2
  · exact Nat.le_succ 1
  · exact Nat.le_refl 2

theorem escTail_cases (X : Bytes) :
    escTail X = (X.length, false, 0) ∨
    ∃ j, (j = 1 ∨ j = 2) ∧ j ≤ X.length ∧
      escTail X = (X.length - j, X.length != XBUF, if X.length != XBUF then 0 else j) := by
  unfold escTail
  by_cases h1 : X.length > 0 ∧ X[X.length - 1]? = some cPct
  · exact Or.inr ⟨1, Or.inl rfl, h1.1, by rw [if_pos h1]⟩
  · by_cases h2 : X.length > 1 ∧ X[X.length - 2]? = some cPct
    · exact Or.inr ⟨2, Or.inr rfl, h2.1, by rw [if_neg h1, if_pos h2]⟩
    · exact Or.inl (by rw [if_neg h1, if_neg h2])

theorem escTail_drop_le (X : Bytes) : (X.drop (escTail X).1).length ≤ 2 := by
  rcases escTail_cases X with h | ⟨j, hj, hle, h⟩ <;> rw [h, List.length_drop]
  · rw [Nat.sub_self]; exact Nat.zero_le 2
  · rw [Nat.sub_sub_self hle]; rcases hj with rfl | rfl <;> decide

theorem escTail_short (X : Bytes) (hX : X.length ≠ XBUF) (h : (escTail X).2.1 = false) :
    X.drop (escTail X).1 = [] := by
  rcases escTail_cases X with h' | ⟨j, _, _, h'⟩ <;> rw [h'] at h ⊢
  · exact List.drop_length
  · exact absurd (bne_eq_false_iff_eq.mp h) hX

/-- `clen ≠ 0` exactly if the next round starts with the bytes held back -/
theorem escTail_keep (X : Bytes) (h : (escTail X).2.1 = false) :
    (if (escTail X).2.2 ≠ 0 then X.drop (escTail X).1 else []) = X.drop (escTail X).1 := by
  rcases escTail_cases X with h' | ⟨j, hj, _, h'⟩ <;> rw [h'] at h ⊢
  · rw [if_neg (by simp)]; exact List.drop_length.symm
  · have : j ≠ 0 := by rcases hj with rfl | rfl <;> decide
    have hb : (X.length != XBUF) = false := h
    rw [hb, if_neg Bool.false_ne_true, if_pos this]

theorem escTail_pct (A : Bytes) :
    escTail (A ++ [cPct]) = (A.length, (A.length + 1 != XBUF), if (A.length + 1 != XBUF) then 0 else 1) := by
  simp [escTail]

theorem escTail_two (A : Bytes) (b c : UInt8) (hc : c ≠ cPct) :
    escTail (A ++ [b, c]) =
      if b = cPct then (A.length, (A.length + 2 != XBUF), if (A.length + 2 != XBUF) then 0 else 2)
      else ((A ++ [b, c]).length, false, 0) := by
  have h1 : (A ++ [b, c])[(A ++ [b, c]).length - 1]? = some c := by simp
  have h2 : (A ++ [b, c])[(A ++ [b, c]).length - 2]? = some b := by simp
  rw [escTail, h1, h2]
  by_cases hb : b = cPct <;> simp [hb, hc]

theorem raw_ends (ts : List Tok) (hok : AllOk ts) :
    rawOf ts = [] ∨ (∃ c, rawOf ts = [c] ∧ c ≠ cPct) ∨ ∃ A b c, rawOf ts = A ++ [b, c] ∧ b ≠ cPct ∧ c ≠ cPct := by
  induction ts with
  | nil => exact Or.inl rfl
  | cons t ts ih =>
    rw [rawOf_cons]
    right
    rcases Tok.raw_cases hok.head with ⟨x, rfl, hl⟩ | ⟨a, b, rfl, ha, hb⟩
    · have hx := (litOk_iff.mp hl).2.1
      rcases ih hok.tail with h | ⟨c, h, hc⟩ | ⟨A, b, c, h, hb, hc⟩ <;> rw [h]
      · exact Or.inl ⟨x, rfl, hx⟩
      · exact Or.inr ⟨[], x, c, rfl, hx, hc⟩
      · exact Or.inr ⟨x :: A, b, c, rfl, hb, hc⟩
    · have ha' := (hex_ne ha).1
      have hb' := (hex_ne hb).1
      rcases ih hok.tail with h | ⟨c, h, hc⟩ | ⟨A, b', c, h, hb'', hc⟩ <;> rw [h]
      · exact Or.inr ⟨[cPct], a, b, rfl, ha', hb'⟩
      · exact Or.inr ⟨[cPct, a], b, c, rfl, hb', hc⟩
      · exact Or.inr ⟨cPct :: a :: b :: A, b', c, rfl, hb'', hc⟩

theorem escTail_tok (t1 : List Tok) (p1 : Bytes) (hok : AllOk t1) {t2 : List Tok} (hc : Carry p1 t2) (hok2 : AllOk t2) :
    ((escTail (rawOf t1 ++ p1)).1, (escTail (rawOf t1 ++ p1)).2.1) =
      ((rawOf t1).length, (decide (p1 ≠ []) && ((rawOf t1 ++ p1).length != XBUF))) := by
  rcases carry_forms hc hok2 with rfl | rfl | ⟨a, ha, rfl⟩
  · rw [List.append_nil]
    rcases raw_ends t1 hok with h | ⟨c, h, hc⟩ | ⟨A, b, c, h, hb, hc⟩ <;> rw [h]
    · rfl
    · simp [escTail, hc]
    · rw [escTail_two A b c hc, if_neg hb]; rfl
  · rw [escTail_pct]; simp
  · rw [escTail_two _ _ _ (hex_ne ha).1, if_pos rfl]; simp

end Mhd.PP
