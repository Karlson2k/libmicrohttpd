/-
  What the reply proofs need of the two token editors (`Mhd.Tok.EditorSpecs`, "no new bytes"), read off the exact
  specifications of C17: `removeTokenCaseless_eq` (the reply side's `remove_token` is the reference editor) and
  `removeTokens_sim` + `Mhd.Str.removeTokensCaseless_spec` (its `remove_tokens` filters the element list).
-/
import Mhd.Proofs.ReplyTokSim
import Mhd.Proofs.ReplyTokens
namespace Mhd.Tok
open Mhd.Str
open Mhd.ReplyStr (RemoveRes)
open Mhd.Http (trimOWS ciEq isOWS vClose lower)
open Mhd.Resp (sClose)

theorem elemOK_iff (e : Bytes) : ElemOK e ↔ elemOk e = true := (elemOk_iff e).symm

theorem removeTokens_reply_exact (s toks : Bytes) (hn : isCsList s = true) :
    Mhd.ReplyStr.removeTokensCaseless s toks = some ⟨removeTokensOut s toks, removeTokensFlag s toks⟩ := by
  obtain ⟨buf, hs, _, _, ht⟩ := removeTokensCaseless_spec s toks hn
  rw [removeTokens_sim s toks _ _ buf hs, ht]

/-- SPEC of `MHD_str_remove_tokens_caseless_` on a `", "`-list: whatever tokens are given, what is left is the
    `", "`-list of a sublist of the elements (nothing is invented, reordered or glued together) -/
theorem removeTokens_sublist_spec (es : List Bytes) (toks out : Bytes) (rem : Bool) (hok : ∀ e ∈ es, ElemOK e)
    (h : Mhd.ReplyStr.removeTokensCaseless (joinE es) toks = some ⟨out, rem⟩) :
    ∃ fs : List Bytes, fs.Sublist es ∧ out = joinE fs := by
  have hok' : ∀ e ∈ es, elemOk e = true := fun e he => (elemOK_iff e).1 (hok e he)
  rw [joinE_eq, removeTokens_reply_exact _ toks (isCsList_join es hok')] at h
  injection h with h; injection h with h _
  refine ⟨es.filter (keepAll (tokListOf toks)), List.filter_sublist, ?_⟩
  rw [← h, joinE_eq, removeTokensOut, csElems_join es hok']

theorem ceq_map_lower : ∀ a b : Bytes, ceqBytes a b = decide (a.map lower = b.map lower)
  | [], [] => rfl
  | [], _ :: _ => by simp [listEq]
  | _ :: _, [] => by simp [listEq]
  | x :: a, y :: b => by
    show (charsEqualCaseless x y && ceqBytes a b) = _
    rw [ceq_map_lower a b, ← ceq_eq]
    by_cases h : Mhd.ReplyStr.charsEqCaseless x y = true
    · simp [h, (Mhd.Bridge.charsEq_iff x y).1 h]
    · have : lower x ≠ lower y := fun e => h ((Mhd.Bridge.charsEq_iff x y).2 e)
      simp [h, this]

/-- the reply grammar's tokenizer and the reference of C17 test an element in the same way -/
theorem isTok_eq (tok e : Bytes) : isTok (tok.map lower) e = ceqBytes (trimWs e) tok := by
  have : isOWS = isWs := by
    funext b; unfold isOWS isWs
    by_cases h1 : b = 32 <;> by_cases h2 : b = 9 <;> simp [h1, h2]
  unfold isTok ciEq trimOWS
  rw [this, ceq_map_lower]; rfl

/-- normalising the blanks inside an element does not make it the token -/
theorem isTok_normElem (tok T : Bytes) (htok : tokenLegal tok = true) (hT : trimWs T = T) (hne : T ≠ [])
    (hc : ceqBytes T tok = false) : isTok (tok.map lower) (normElem T) = false := by
  obtain ⟨x, T', rfl⟩ := List.exists_cons_of_ne_nil hne
  have hx := trimWs_head_nonws _ x T' hT
  have hst : StopsAt isWs (x :: T') := stopsAt_cons T' hx
  have ht : ∀ y ∈ tok, isWs y = false := fun y hy => by
    have := ((tokenLegal_iff tok).1 htok).2 y hy
    simp [isWs, this.1, this.2.1]
  rw [isTok_eq, normElem, ← restOutput_eq_norm _ hst,
    trimWs_of_head_not_ws _ (by rw [restOutput_cons_word x T' hx]; exact stopsAt_cons _ hx),
    ceq_restOutput tok ht, ← trimWs_of_head_not_ws _ hst, hT, hc]

theorem lower_sClose : sClose.map lower = vClose := by decide

/-- SPEC of `MHD_str_remove_token_caseless_ (…, "close", …)`: the output is a `", "`-list of elements
    none of which is a `close` token for the grammar's tokenizer -/
theorem removeToken_close_spec (value : Bytes) (n : Nat) (out : Bytes) (rem : Bool)
    (h : Mhd.ReplyStr.removeTokenCaseless value sClose n = some ⟨out, rem⟩) :
    ∃ es, out = joinE es ∧ (∀ e ∈ es, ElemOK e) ∧ CloseFree es := by
  have hl : tokenLegal sClose = true := by decide
  rw [removeTokenCaseless_eq value sClose n hl, fit] at h
  by_cases hf : ([] : Bytes).length + (removeTokenOut value sClose).length ≤ n
  · rw [if_pos hf] at h
    injection h with h; injection h with h _
    refine ⟨keptOut sClose value, by rw [← h, joinE_eq]; rfl, fun e he => (elemOK_iff e).2 (keptOut_elemOk _ _ e he), ?_⟩
    intro e he
    obtain ⟨T, hT, rfl⟩ := List.mem_map.1 he
    obtain ⟨hmem, hcond⟩ := List.mem_filter.1 hT
    obtain ⟨p, _, rfl⟩ := List.mem_map.1 hmem
    simp only [Bool.and_eq_true, Bool.not_eq_true', List.isEmpty_eq_false_iff] at hcond
    rw [← lower_sClose]
    exact isTok_normElem sClose _ hl (trimWs_idem p) hcond.1 hcond.2
  · rw [if_neg hf] at h; cases h

/-- both editor specifications hold, so nothing about the editors is assumed -/
theorem editorSpecs : EditorSpecs :=
  ⟨removeToken_close_spec, fun es toks out rem hok h => removeTokens_sublist_spec es toks out rem hok h⟩

end Mhd.Tok
