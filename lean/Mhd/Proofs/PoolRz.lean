/-
  Helper lemmas for the red-zone-parameterised pool model `Mhd.Model.PoolRz`: what the `memset` and the
  `memcpy` of `reallocate` leave in the byte list (`shrinkMem`, `moveMem`), the rounding `roundRz` under
  the wrap test `tooBig`, and the pool-level agreement with `Mhd.Model.Pool` at `rz = 0`.
-/
import Mhd.Model.PoolRzOps
import Mhd.Proofs.Pool

namespace Mhd.PoolRz
open Mhd.Pool (W A roundUp zeroRange writeAt readAt Blk Op W_eq roundUp_spec roundUp_wrap
  readAt_zeroRange_disjoint readAt_writeAt_disjoint readAt_writeAt_same readAt_length)

/-- the two variants that exist: ordinary build (0) and MHD_ASAN_POISON_ACTIVE (red zone = ALIGN_SIZE) -/
def Var.Valid (v : Var) : Prop := v.rz = 0 ∨ v.rz = A

/-- the wrap test really excludes wrapped sizes: always in the ordinary build; in the red-zone
    build only with `asize < size` -/
def Var.Sound (v : Var) : Prop := v.chk = true ∨ v.rz = 0

@[simp] theorem setPsn_length (m : List Bool) (off n : Nat) (b : Bool) :
    (setPsn m off n b).length = m.length :=
  Mhd.Pool.length_splice _ _ _ _ (List.length_replicate ..)

/-- contents after the shrinking memset of `reallocate` -/
def shrinkMem (m : List UInt8) (o os n : Nat) : List UInt8 :=
  if os > n then zeroRange m (o + n) (os - n) else m

/-- contents after relocating a block to `pos` -/
def moveMem (m : List UInt8) (pos o os : Nat) : List UInt8 :=
  if os ≠ 0 then zeroRange (writeAt m pos (readAt m o os)) o os else m

theorem shrinkMem_length (m : List UInt8) (o os n : Nat) : (shrinkMem m o os n).length = m.length := by
  unfold shrinkMem; split
  · exact Mhd.Pool.zeroRange_length ..
  · rfl

theorem moveMem_length (m : List UInt8) (pos o os : Nat) : (moveMem m pos o os).length = m.length := by
  unfold moveMem; split
  · rw [Mhd.Pool.zeroRange_length, Mhd.Pool.writeAt_length]
  · rfl

theorem readAt_shrinkMem (m : List UInt8) (o os n c l : Nat) (h : l = 0 ∨ os = 0 ∨ c + l ≤ o + n ∨ o + os ≤ c) :
    readAt (shrinkMem m o os n) c l = readAt m c l := by
  unfold shrinkMem; split
  · exact readAt_zeroRange_disjoint _ _ _ _ _ (by omega)
  · rfl

theorem readAt_moveMem (m : List UInt8) (pos o os c l : Nat)
    (h : l = 0 ∨ os = 0 ∨ (c + l ≤ o ∨ o + os ≤ c) ∧ (c + l ≤ pos ∨ pos + os ≤ c)) :
    readAt (moveMem m pos o os) c l = readAt m c l := by
  unfold moveMem; split
  · have : (readAt m o os).length ≤ os := List.length_take_le ..
    rw [readAt_zeroRange_disjoint _ _ _ _ _ (by omega), readAt_writeAt_disjoint _ _ _ _ _ (by omega)]
  · rfl

theorem readAt_moveMem_self (m : List UInt8) (pos o os : Nat) (ho : os = 0 ∨ o + os ≤ pos)
    (hp : pos + os ≤ m.length) : readAt (moveMem m pos o os) pos os = readAt m o os := by
  unfold moveMem; split
  · have hl : (readAt m o os).length = os := readAt_length _ _ _ (by omega)
    rw [readAt_zeroRange_disjoint _ _ _ _ _ (by omega), readAt_writeAt_same _ _ _ _ (by omega) (by omega),
      List.take_of_length_le (by omega)]
  · have : os = 0 := by omega
    subst this; rfl

theorem Var.Valid.aligned {v : Var} (hv : v.Valid) : v.rz % A = 0 := by
  rcases hv with h | h <;> rw [h]
  · exact Nat.zero_mod _
  · exact Nat.mod_self _

theorem roundRz_of_ok {v : Var} (hv : v.Valid) (hs : v.Sound) {n : Nat} (hn : n < W)
    (ht : tooBig v n (roundRz v n) = false) : n ≤ roundUp n ∧ roundRz v n = roundUp n + v.rz := by
  have hr := roundUp_wrap n hn
  obtain ⟨rz, chk⟩ := v
  cases chk
  all_goals
    replace ht := of_decide_eq_false ht
    simp only [Bool.false_eq_true, false_or, roundRz, Var.Valid, Var.Sound, W_eq, A,
      Mhd.Gen.Pool.alignSize] at *
    omega

/-- small arguments (everything inside an arena is `< 2^62`) never wrap -/
theorem roundRz_small {v : Var} (hv : v.Valid) (x : Nat) (hx : x < 2 ^ 63) :
    roundRz v (x % W) = roundUp x + v.rz ∧ roundRz v x = roundUp x + v.rz ∧ x ≤ roundUp x := by
  have hA := Mhd.Pool.A_pos
  have h1 := roundUp_spec x (by rw [W_eq]; omega)
  have hr : v.rz ≤ A := by rcases hv with h | h <;> omega
  rw [Nat.mod_eq_of_lt (by rw [W_eq]; omega : x < W), roundRz, Nat.mod_eq_of_lt (by rw [W_eq]; omega)]
  exact ⟨rfl, rfl, h1.1⟩

theorem roundRz_rz0 (chk : Bool) (n : Nat) : roundRz ⟨0, chk⟩ n = roundUp n := by
  simp only [roundRz, roundUp, W_eq, A, Mhd.Gen.Pool.alignSize] at *
  omega

/-- for `size_t` arguments the two forms of the wrap test agree in the ordinary build (the form
    `(0 == asize) && (0 != size)` is the test of `Mhd.Model.Pool` itself) -/
theorem tooBig_rz0 (chk : Bool) (n : Nat) (hn : chk = true → n < W) :
    tooBig ⟨0, chk⟩ n (roundUp n) = decide (roundUp n = 0 ∧ n ≠ 0) := by
  cases chk
  · rfl
  · have hr := roundUp_wrap n (hn rfl)
    exact decide_eq_decide.mpr (by simp only [W_eq, A, Mhd.Gen.Pool.alignSize] at *; omega)

/-- forget the poison list -/
def erase (p : Pool) : Mhd.Pool.Pool := ⟨p.size, p.pos, p.end_, p.mem⟩

theorem erase_create (n : Nat) : erase (create n) = Mhd.Pool.create n := rfl

theorem erase_getFree (chk : Bool) (p : Pool) : getFree ⟨0, chk⟩ p = Mhd.Pool.getFree (erase p) := by
  simp [getFree, Mhd.Pool.getFree, erase]

theorem erase_isResizableInplace (chk : Bool) (p : Pool) (b : Option Nat) (n : Nat) :
    isResizableInplace ⟨0, chk⟩ p b n = Mhd.Pool.isResizableInplace (erase p) b n := by
  cases b <;> simp [isResizableInplace, Mhd.Pool.isResizableInplace, erase, roundRz_rz0]

theorem erase_allocate (chk : Bool) (p : Pool) (n : Nat) (fe : Bool) (hn : n < W) :
    (erase (allocate ⟨0, chk⟩ p n fe).1, (allocate ⟨0, chk⟩ p n fe).2) = Mhd.Pool.allocate (erase p) n fe := by
  unfold allocate Mhd.Pool.allocate
  simp only [roundRz_rz0, tooBig_rz0 _ _ fun _ => hn]
  by_cases h1 : roundUp n = 0 ∧ n ≠ 0
  · simp [h1, erase]
  · by_cases h2 : roundUp n > p.end_ - p.pos
    · simp [h1, h2, erase]
    · cases fe <;> simp [h1, h2, erase]

theorem erase_tryAlloc (chk : Bool) (p : Pool) (n : Nat) (hn : n < W) :
    (erase (tryAlloc ⟨0, chk⟩ p n).1, (tryAlloc ⟨0, chk⟩ p n).2) = Mhd.Pool.tryAlloc (erase p) n := by
  unfold tryAlloc Mhd.Pool.tryAlloc
  simp only [roundRz_rz0, tooBig_rz0 _ _ fun _ => hn]
  by_cases h1 : roundUp n = 0 ∧ n ≠ 0
  · simp [h1, erase]
  · by_cases h2 : roundUp n > p.end_ - p.pos
    · by_cases h3 : roundUp n ≤ p.end_ <;> simp [h1, h2, h3, erase]
    · simp [h1, h2, erase]

theorem erase_reallocate (chk : Bool) (p : Pool) (old : Option Nat) (os n : Nat) (hn : chk = true → n < W) :
    (erase (reallocate ⟨0, chk⟩ p old os n).1, (reallocate ⟨0, chk⟩ p old os n).2)
      = Mhd.Pool.reallocate (erase p) old os n := by
  unfold reallocate Mhd.Pool.reallocate reallocFresh shrinkHead
  simp only [roundRz_rz0, tooBig_rz0 _ _ hn]
  cases old with
  | none =>
    by_cases hf : (roundUp n = 0 ∧ n ≠ 0) ∨ roundUp n > p.end_ - p.pos <;> simp [hf, erase]
  | some o =>
    by_cases hs : os > n
    · by_cases hl : p.pos = roundUp ((o + os) % W)
      · simp [hs, hl, erase]
      · simp [hs, hl, erase]
    · by_cases hl : p.pos = roundUp ((o + os) % W)
      · by_cases hg : (roundUp ((o + n) % W) > p.end_ ∨ roundUp ((o + n) % W) < p.pos ∨ n > (p.end_ + W - o) % W)
        · have hg' := hg; rw [hl] at hg'
          simp [hs, hl, erase, hg']
        · have hg' := hg; rw [hl] at hg'
          simp [hs, hl, erase, hg']
      · by_cases hf : (roundUp n = 0 ∧ n ≠ 0) ∨ roundUp n > p.end_ - p.pos
        · simp [hs, hl, hf, erase]
        · by_cases ho : os = 0
          · subst ho; simp only [Nat.add_zero] at hl; simp [hl, hf, erase]
          · simp [hs, hl, hf, ho, erase]

theorem erase_deallocate (chk : Bool) (p : Pool) (b : Option Nat) (n : Nat) :
    erase (deallocate ⟨0, chk⟩ p b n) = Mhd.Pool.deallocate (erase p) b n := by
  unfold deallocate Mhd.Pool.deallocate deallocFront
  simp only [roundRz_rz0]
  cases b with
  | none => rfl
  | some off =>
    by_cases hz : n = 0
    · simp [hz, erase]
    · by_cases hle : off ≤ p.pos
      · by_cases hlast : roundUp ((off + n) % W) = p.pos <;> simp [hz, hle, hlast, erase]
      · by_cases hlast : off = p.end_
        · subst hlast; simp [hz, hle, erase]
        · simp [hz, hle, hlast, erase]

theorem erase_reset (chk : Bool) (p : Pool) (keep : Option Nat) (copy n : Nat) :
    erase (reset ⟨0, chk⟩ p keep copy n) = Mhd.Pool.reset (erase p) keep copy n := by
  unfold reset Mhd.Pool.reset
  rw [roundRz_rz0]
  cases keep <;> rfl

end Mhd.PoolRz
