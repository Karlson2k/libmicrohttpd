/-
  C11 — a suspended connection that nobody has asked, or is scheduled (`timer = some 0`), to resume is left alone
  (`frozen_step`): it is in no list the event loops traverse (`WF`), and a `send` of its client only grows the
  socket's receive queue.

  The relation `FZ c b` says this of one daemon-level step, for a suspended connection whose `resuming` flag is `b`:
  after resume_suspended_connections has run, the steps of a round leave a connection with a *pending* request
  (`b = true`) alone just as well — nothing reads or clears the flag before the next round (used in
  Mhd.Proofs.SuspThread).
-/
import Mhd.Proofs.SuspDaemon
namespace Mhd.Susp

/-- the processing state of a connection: everything but the socket's receive queue, the
    ghost copy of what the client sent, the script thread's timer and the per-turn flag `dres` -/
def Conn.core (k : Conn) : Conn := { k with inbox := [], sent := [], timer := none, dres := false }

/-- `c` is suspended, its `resuming` flag is `b`, and a request that is pending is known to the daemon -/
def Held (c : Nat) (b : Bool) (d : Daemon) : Prop :=
  c ∈ d.susp ∧ (d.conn c).resuming = b ∧ (b = true → d.resuming = true)

abbrev Frz (c : Nat) (d : Daemon) : Prop := Held c false d

theorem Held.not_active {c : Nat} {b : Bool} {d : Daemon} (hw : WF d) (hf : Held c b d) : c ∉ d.active :=
  fun hm => hw.act_nosusp c hm hf.1

def FZ (c : Nat) (b : Bool) (d : Daemon) (evs : List Ev) (d' : Daemon) : Prop :=
  WF d → Held c b d →
    WF d' ∧ (∀ a, Known d a → Known d' a) ∧ proj c evs = [] ∧ Held c b d' ∧ (d'.conn c).core = (d.conn c).core ∧
    (d'.conn c).inbox = (d.conn c).inbox

theorem FZ_rel (c : Nat) (b : Bool) : DRel (FZ c b) where
  refl := fun _ hw hf => ⟨hw, fun _ h => h, rfl, hf, rfl, rfl⟩
  trans := by
    intro d e1 d1 e2 d2 h1 h2 hw hf
    have a := h1 hw hf
    have b := h2 a.1 a.2.2.2.1
    refine ⟨b.1, fun x hx => b.2.1 x (a.2.1 x hx), ?_, b.2.2.2.1, b.2.2.2.2.1.trans a.2.2.2.2.1, b.2.2.2.2.2.trans a.2.2.2.2.2⟩
    rw [proj_append, a.2.2.1, b.2.2.1]; rfl

theorem FZ_of_WK {c : Nat} {b : Bool} {d d' : Daemon} {evs : List Ev} (hwk : WK d evs d')
    (hp : WF d → Held c b d → proj c evs = [] ∧ d'.conn c = d.conn c ∧ c ∈ d'.susp ∧ (d.resuming = true → d'.resuming = true)) :
    FZ c b d evs d' := by
  intro hw hf
  have a := hwk hw
  obtain ⟨h1, e, h3, h4⟩ := hp hw hf
  exact ⟨a.1, a.2, h1, ⟨h3, by rw [e]; exact hf.2.1, fun hb => h4 (hf.2.2 hb)⟩, by rw [e], by rw [e]⟩

theorem FZ_turnWith (c : Nat) (b : Bool) (f : Conn → Conn × List CEv) (hf : ∀ k, FrS k (f k).1)
    (hfs : ∀ k, k.suspended = true → f k = (k, [])) (d : Daemon) (a : Nat) (hka : Known d a) (hne : a ≠ c) :
    FZ c b d (turnWith f d a).2 (turnWith f d a).1 :=
  FZ_of_WK (WK_turnWith f hf hfs d hka) fun _ h =>
    ⟨proj_tag_ne hne _, (congrFun (turnWith_conn f d a) c).trans (setConn_ne _ _ (Ne.symm hne)), sync_susp_mem _ a c h.1,
     fun e => (sync_resuming _ a).trans (by show (d.resuming || _) = true; rw [e]; rfl)⟩

theorem FZ_turn (g : Guards) (hg : g.Sound) (c : Nat) (b : Bool) (d : Daemon) (a : Nat) (rr wr : Bool) (hka : Known d a) (hne : a ≠ c) :
    FZ c b d (turn g d a rr wr).2 (turn g d a rr wr).1 :=
  FZ_turnWith c b _ (fun k => (QRP_callHandlers g hg d.isEpoll rr wr k).1) (callHandlers_suspended g hg d.isEpoll rr wr) d a hka hne

theorem FZ_idleTurn (g : Guards) (hg : g.Sound) (c : Nat) (b : Bool) (d : Daemon) (a : Nat) (hka : Known d a) (hne : a ≠ c) :
    FZ c b d (idleTurn g d a).2 (idleTurn g d a).1 :=
  FZ_turnWith c b _ (fun k => (QRP_handleIdle g hg d.isEpoll k).1) (handleIdle_suspended g hg d.isEpoll) d a hka hne

theorem FZ_setSync (c : Nat) (b : Bool) {d : Daemon} {a : Nat} (hka : Known d a) (hne : a ≠ c) {k' : Conn}
    (hf : k'.flags = (d.conn a).flags) : FZ c b d [] (sync { d with conn := setConn d.conn a k' } a) :=
  FZ_of_WK (WK_setSync hka hf) fun _ h =>
    ⟨rfl, (congrFun (sync_conn _ a) c).trans (setConn_ne _ _ (Ne.symm hne)), sync_susp_mem _ a c h.1, fun e => (sync_resuming _ a).trans e⟩

theorem FZ_ereadyPost (c : Nat) (b : Bool) (d : Daemon) (a : Nat) (hka : Known d a) (hne : a ≠ c) : FZ c b d [] (ereadyPost d a) := by
  unfold ereadyPost
  exact iteInduction (motive := FZ c b d []) (fun _ => FZ_setSync c b hka hne rfl) (fun _ => (FZ_rel c b).refl d)

theorem FZ_turns (g : Guards) (hg : g.Sound) (c : Nat) (b : Bool) {l : List Nat} {d : Daemon} {r : Daemon × List Ev}
    (h : Turns g l d r) : (∀ a ∈ l, Known d a ∧ a ≠ c) → FZ c b d r.2 r.1 := by
  induction h with
  | stop l d => exact fun _ => (FZ_rel c b).refl d
  | @turn a _ d _ rr wr _ hd _ ih =>
    intro hl hw hf
    have ha := hl a List.mem_cons_self
    have h1 := FZ_turn g hg c b d a rr wr ha.1 ha.2
    have x := h1 hw hf
    rcases hd with e | e <;> subst e
    · exact (FZ_rel c b).trans _ _ _ _ _ h1
        (ih fun y hy => ⟨x.2.1 y (hl y (List.mem_cons_of_mem _ hy)).1, (hl y (List.mem_cons_of_mem _ hy)).2⟩) hw hf
    · have h2 := FZ_ereadyPost c b (turn g d a rr wr).1 a (x.2.1 a ha.1) ha.2
      have h12 := (FZ_rel c b).trans _ _ _ _ _ h1 h2
      rw [List.append_nil] at h12
      have y := h12 hw hf
      exact (FZ_rel c b).trans _ _ _ _ _ h12
        (ih fun z hz => ⟨y.2.1 z (hl z (List.mem_cons_of_mem _ hz)).1, (hl z (List.mem_cons_of_mem _ hz)).2⟩) hw hf

theorem FZ_resumeReq (c : Nat) (b : Bool) (d : Daemon) (a : Nat) (hne : a ≠ c) : FZ c b d (resumeReq d a).2 (resumeReq d a).1 :=
  FZ_of_WK (WK_resumeReq d a) fun _ h => ⟨proj_cons_ne hne _ _, setConn_ne _ _ (Ne.symm hne), h.1, fun _ => rfl⟩

theorem FZ_setOther (c : Nat) (b : Bool) (d : Daemon) (a : Nat) (k : Conn) (hne : a ≠ c)
    (hs : k.suspended = (d.conn a).suspended) (hr : k.resuming = (d.conn a).resuming) :
    FZ c b d [] { d with conn := setConn d.conn a k } :=
  FZ_of_WK (WK_of_eq fun hw => ⟨hw.replace a k hs (fun h => .inl (hr ▸ h)), rfl, rfl⟩) fun _ h =>
    ⟨rfl, setConn_ne _ _ (Ne.symm hne), h.1, id⟩

theorem FZ_setSelf (c : Nat) (b : Bool) (d : Daemon) (k : Conn) (hcore : k.core = (d.conn c).core) (hi : k.inbox = (d.conn c).inbox) :
    FZ c b d [] { d with conn := setConn d.conn c k } := by
  intro hw hf
  have hs : k.suspended = (d.conn c).suspended := congrArg (·.suspended) hcore
  have hr : k.resuming = (d.conn c).resuming := congrArg (·.resuming) hcore
  refine ⟨hw.replace c k hs (fun h => .inl (hr ▸ h)), fun _ h => h, rfl, ⟨hf.1, ?_, hf.2.2⟩, ?_, ?_⟩
  · show (setConn d.conn c k c).resuming = b
    rw [setConn_same, hr]; exact hf.2.1
  · show (setConn d.conn c k c).core = _
    rw [setConn_same]; exact hcore
  · show (setConn d.conn c k c).inbox = _
    rw [setConn_same]; exact hi

theorem FZ_timerScan (c : Nat) : ∀ (l : List Nat) (d : Daemon), l.Nodup → ((d.conn c).timer ≠ some 0 ∨ c ∉ l) →
    FZ c false d (timerScan l d).2 (timerScan l d).1 := by
  intro l
  induction l with
  | nil => exact fun d _ _ => (FZ_rel c false).refl d
  | cons a rest ih =>
    intro d hnd ht
    have hnd' := List.nodup_cons.1 hnd
    by_cases hac : a = c
    · subst hac
      -- the timer of `a` itself: it is not at 0, and `a` is not visited again (`Nodup`)
      have ht' : (d.conn a).timer ≠ some 0 := ht.resolve_right fun h => h List.mem_cons_self
      cases h : (d.conn a).timer with
      | none => simp only [timerScan, h]; exact ih d hnd'.2 (.inr hnd'.1)
      | some n =>
        cases n with
        | zero => exact absurd h ht'
        | succ n =>
          simp only [timerScan, h]
          exact (FZ_rel a false).after (ih _ hnd'.2 (.inr hnd'.1)) (FZ_setSelf a false d _ rfl rfl)
    · have ht2 (d2 : Daemon) (e : d2.conn c = d.conn c) : (d2.conn c).timer ≠ some 0 ∨ c ∉ rest :=
        ht.imp (fun h => by rw [e]; exact h) (fun h hm => h (List.mem_cons_of_mem _ hm))
      have hca : c ≠ a := Ne.symm hac
      cases h : (d.conn a).timer with
      | none => simp only [timerScan, h]; exact ih d hnd'.2 (ht2 d rfl)
      | some n =>
        cases n with
        | zero =>
          simp only [timerScan, h]
          refine (FZ_rel c false).after ((FZ_rel c false).trans _ _ _ _ _ (FZ_resumeReq c false _ a hac) (ih _ hnd'.2 (ht2 _ ?_)))
            (FZ_setOther c false d a _ hac rfl rfl)
          exact (setConn_ne _ _ hca).trans (setConn_ne _ _ hca)
        | succ n =>
          simp only [timerScan, h]
          exact (FZ_rel c false).after (ih _ hnd'.2 (ht2 _ (setConn_ne _ _ hca))) (FZ_setOther c false d a _ hac rfl rfl)

theorem resumeScan_frame (g : Guards) (c : Nat) : ∀ (l : List Nat) (d : Daemon),
    (d.conn c).resuming = false → c ∈ d.susp →
    (resumeScan g l d).1.conn c = d.conn c ∧ c ∈ (resumeScan g l d).1.susp ∧ proj c (resumeScan g l d).2 = [] := by
  intro l
  induction l with
  | nil => exact fun d _ hs => ⟨rfl, hs, rfl⟩
  | cons a rest ih =>
    intro d hr hs
    unfold resumeScan
    cases hres : (d.conn a).resuming
    · exact ih d hr hs
    · have hac : a ≠ c := fun e => by rw [e, hr] at hres; exact nomatch hres
      have e : (moveBack g d a).conn c = d.conn c := moveBack_conn_ne g d (Ne.symm hac)
      have r := ih (moveBack g d a) (e ▸ hr) ((List.mem_erase_of_ne (Ne.symm hac)).2 hs)
      exact ⟨r.1.trans e, r.2.1, (proj_cons_ne hac _ _).trans r.2.2⟩

theorem FZ_resumeSuspended (g : Guards) (c : Nat) : DSat (FZ c false) (resumeSuspended g) := by
  intro d hw hf
  have a := WK_resumeSuspended g d hw
  have fr : proj c (resumeSuspended g d).2 = [] ∧ (resumeSuspended g d).1.conn c = d.conn c ∧ c ∈ (resumeSuspended g d).1.susp := by
    unfold resumeSuspended
    by_cases h : d.resuming = true
    · rw [if_pos h]
      have r := resumeScan_frame g c d.susp.reverse { d with resuming := false } hf.2.1 hf.1
      exact ⟨r.2.2, r.1, r.2.1⟩
    · rw [if_neg h]; exact ⟨rfl, rfl, hf.1⟩
  exact ⟨a.1, a.2, fr.1, ⟨fr.2.2, by rw [fr.2.1]; exact hf.2.1, fun h => nomatch h⟩, by rw [fr.2.1], by rw [fr.2.1]⟩

theorem FZ_newPhase (c : Nat) (b : Bool) : DSat (FZ c b) newPhase :=
  fun d => FZ_of_WK (WK_newPhase d) fun hw hf =>
    have r := processNew_frame c d.newConns { d with pending := false } fun hm => (hw.new_fresh c hm).2 hf.1
    have l := processNew_lists d.newConns { d with pending := false }
    ⟨r.2, r.1, l.1 ▸ hf.1, fun e => l.2.2.1.trans e⟩

theorem FZ_epollPhase (c : Nat) (b : Bool) (evs : List (Nat × Bool × Bool)) :
    DSat (FZ c b) (pureD (fun d => epollEvents evs { d with pending := false })) := by
  intro d
  refine (FZ_rel c b).after (epollEvents_sat (FZ_rel c b) (fun d a i o ha hw hf => ?_) evs _) ?_
  · -- an event for a connection of the active list: not `c`
    exact FZ_setSync c b (.inl ha) (fun e => hf.not_active hw (e ▸ ha)) (epollMark_frame _ i o).2 hw hf
  · exact FZ_of_WK (WK_clearPending d) fun _ h => ⟨rfl, rfl, h.1, id⟩

theorem FZ_timeoutScan (g : Guards) (hg : g.Sound) (c : Nat) (b : Bool) : DSat (FZ c b) (timeoutScan g) :=
  timeoutScan_sat (FZ_rel c b) fun d a ha hw hf =>
    have hact : a ∈ d.active := hw.to_sub a ha
    FZ_idleTurn g hg c b d a (.inl hact) (fun e => hf.not_active hw (e ▸ hact)) hw hf

theorem FZ_active_turns (g : Guards) (hg : g.Sound) (c : Nat) (b : Bool) {l : List Nat} {d : Daemon} {r : Daemon × List Ev}
    (h : Turns g l d r) (hl : ∀ a ∈ l, a ∈ d.active) : FZ c b d r.2 r.1 :=
  fun hw hf => FZ_turns g hg c b h (fun a ha => ⟨.inl (hl a ha), fun e => hf.not_active hw (e ▸ hl a ha)⟩) hw hf

theorem frozen_step (g : Guards) (hg : g.Sound) (d : Daemon) (hw : WF d) (c : Nat) (hf : Frz c d)
    (ht : (d.conn c).timer ≠ some 0) (op : Op)
    (hop : match op with
      | .resume c' => c' ≠ c
      | .round ids _ _ => ids.Nodup
      | .eround ids _ => ids.Nodup
      | _ => True) :
    proj c (step g d op).2 = [] ∧ Frz c (step g d op).1 ∧ ((step g d op).1.conn c).core = (d.conn c).core ∧
    ((step g d op).1.conn c).inbox = (d.conn c).inbox ++ (match op with | .send c' syms => if c' = c then syms else [] | _ => []) := by
  have fin {d' : Daemon} {evs} (h : FZ c false d evs d') :
      proj c evs = [] ∧ Frz c d' ∧ (d'.conn c).core = (d.conn c).core ∧ (d'.conn c).inbox = (d.conn c).inbox ++ [] :=
    have r := h hw hf
    ⟨r.2.2.1, r.2.2.2.1, r.2.2.2.2.1, r.2.2.2.2.2.trans (List.append_nil _).symm⟩
  have hz := FZ_rel c false
  have rounds := round_sat hz g d
    (fun ids hnd => dsat_bindD hz (FZ_resumeSuspended g c) (FZ_timerScan c ids d hnd (.inl ht)))
    (FZ_newPhase c false) (FZ_epollPhase c false) (FZ_timeoutScan g hg c false)
    (fun _ _ _ h hl => FZ_active_turns g hg c false h hl)
    (fun _ _ h hw hf => FZ_active_turns g hg c false h (fun a ha => hw.er_sub a (List.mem_reverse.1 ha)) hw hf)
  cases op with
  | arrive a =>
    simp only [step]
    cases d.newConns.contains a || d.active.contains a || d.susp.contains a
    · exact ⟨rfl, hf, rfl, (List.append_nil _).symm⟩
    · exact ⟨rfl, hf, rfl, (List.append_nil _).symm⟩
  | send a syms =>
    simp only [step]
    by_cases hac : a = c
    · subst hac
      refine ⟨rfl, ⟨hf.1, ?_, hf.2.2⟩, ?_, ?_⟩
      · show (setConn d.conn a _ a).resuming = false
        rw [setConn_same]; exact hf.2.1
      · show (setConn d.conn a _ a).core = _
        rw [setConn_same]; rfl
      · show (setConn d.conn a _ a).inbox = _
        rw [setConn_same, if_pos rfl]
    · show _ ∧ _ ∧ _ ∧ _ = _ ++ if a = c then syms else []
      rw [if_neg hac]
      exact fin (FZ_setOther c false d a _ hac rfl rfl)
  | resume a =>
    exact fin ((FZ_rel c false).after (FZ_resumeReq c false _ a hop) (FZ_setOther c false d a _ hop rfl rfl))
  | round ids rd wr => exact fin (rounds.1 ids rd wr hop)
  | eround ids evs => exact fin (rounds.2 ids evs hop)

end Mhd.Susp
