/-
  The ghost field `back` of the model is the distance of the clock from the highest value it has shown
  so far: clock reading and displacement after a history are a function of the clock operations of the
  history alone (no other operation touches them), and `now + back` is the running maximum of `now`
  (`C10.clock_highWater`).
-/
import Mhd.Proofs.TmoExact
namespace Mhd.Tmo
open Mhd.Gen.Tmo

/-- effect of one script operation on (clock reading, displacement from the high-water mark);
    a backward step beyond 0 is not legal and skipped, as in `step` -/
def clockStep (p : Nat × Nat) : Op → Nat × Nat
  | .tick ms => (p.1 + ms, p.2 - ms)
  | .tickback ms => if ms ≤ p.1 then (p.1 - ms, p.2 + ms) else p
  | _ => p

theorem clientData_clock (d : Daemon) (i : Id) (k : Kind) (n : Nat) :
    (clientData d i k n).now = d.now ∧ (clientData d i k n).back = d.back := by
  unfold clientData
  dsimp only
  repeat' split
  all_goals exact ⟨rfl, rfl⟩

theorem clientClose_clock (d : Daemon) (i : Id) :
    (clientClose d i).now = d.now ∧ (clientClose d i).back = d.back := by
  unfold clientClose
  dsimp only
  repeat' split
  all_goals exact ⟨rfl, rfl⟩

theorem round_clock (v : Variant) (d : Daemon) : (round v d).1.now = d.now ∧ (round v d).1.back = d.back :=
  ⟨(sound_round v d).1.1, (sound_round v d).1.2.1⟩

theorem step_clock (v : Variant) (d : Daemon) (o : Op) (r : Daemon × List Event) (hr : step v d o = some r) :
    (r.1.now, r.1.back) = clockStep (d.now, d.back) o := by
  have pair : ∀ {d' : Daemon}, d'.now = d.now ∧ d'.back = d.back → (d'.now, d'.back) = (d.now, d.back) :=
    fun h => by rw [h.1, h.2]
  cases o with
  | arrive i => obtain ⟨_, rfl⟩ := ite_eq_some hr; rfl
  | send i => obtain ⟨_, rfl⟩ := ite_eq_some hr; exact pair (clientData_clock d i _ _)
  | sendn i k => obtain ⟨_, rfl⟩ := ite_eq_some hr; exact pair (clientData_clock d i _ _)
  | slow i => obtain ⟨_, rfl⟩ := ite_eq_some hr; rfl
  | sendp i => obtain ⟨_, rfl⟩ := ite_eq_some hr; exact pair (clientData_clock d i _ _)
  | cclose i => obtain ⟨_, rfl⟩ := ite_eq_some hr; exact pair (clientClose_clock d i)
  | tick ms => cases hr; rfl
  | tickback ms => obtain ⟨hc, rfl⟩ := ite_eq_some hr; simp only [clockStep, hc, if_true]
  | setTimeout i s =>
    obtain ⟨_, rfl⟩ := ite_eq_some hr
    exact pair ⟨(others_setTimeout v d i s).now, (others_setTimeout v d i s).back⟩
  | susp i => obtain ⟨_, rfl⟩ := ite_eq_some hr; rfl
  | resume i => obtain ⟨_, rfl⟩ := ite_eq_some hr; rfl
  | round => cases hr; exact pair (round_clock v _)
  | roundw ws fs => cases hr; exact pair (round_clock v _)
  | allow i => obtain ⟨_, rfl⟩ := ite_eq_some hr; rfl
  | get i e => obtain ⟨_, rfl⟩ := ite_eq_some hr; exact pair (clientData_clock (d.set i _) i _ _)

theorem step_none_clock (v : Variant) (d : Daemon) (o : Op) (hr : step v d o = none) :
    clockStep (d.now, d.back) o = (d.now, d.back) := by
  cases o with
  | tick ms => simp [step] at hr
  | tickback ms =>
    simp only [step] at hr
    split at hr
    · cases hr
    · rename_i hc; simp only [clockStep, hc, if_false]
  | round => simp [step] at hr
  | roundw ws fs => simp [step] at hr
  | _ => rfl

theorem run_clock (v : Variant) : ∀ (ops : List Op) (d : Daemon),
    ((run v d ops).now, (run v d ops).back) = ops.foldl clockStep (d.now, d.back)
  | [], d => rfl
  | o :: os, d => by
    unfold run
    rw [List.foldl_cons]
    split
    · rename_i r hr
      rw [run_clock v os r.1, step_clock v d o r hr]
    · rename_i hr
      rw [run_clock v os d, step_none_clock v d o hr]

end Mhd.Tmo
