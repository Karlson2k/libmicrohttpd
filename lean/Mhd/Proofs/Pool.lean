/-
  What the pool theorems are stated with (the predicates used by `Mhd.Props.C08`), and the lemmas about
  byte lists and about rounding that both pool models share.
-/
import Mhd.Model.PoolOps

namespace Mhd.Pool

def Inv (p : Pool) : Prop :=
  p.pos ≤ p.end_ ∧ p.end_ ≤ p.size ∧ p.pos % A = 0 ∧ p.end_ % A = 0 ∧ p.size % A = 0 ∧
  p.size < 2 ^ 62 ∧ p.mem.length = p.size

/-- a live block lies in the part of the arena it was carved from -/
def Blk.Inside (p : Pool) (b : Blk) : Prop :=
  b.off % A = 0 ∧ b.off ≤ p.size ∧ b.len < W ∧
  (0 < b.len → (b.front = true → b.off + b.len ≤ p.pos) ∧
               (b.front = false → p.end_ ≤ b.off ∧ b.off + b.len ≤ p.size))

def Disjoint (a b : Blk) : Prop :=
  a.len = 0 ∨ b.len = 0 ∨ a.off + a.len ≤ b.off ∨ b.off + b.len ≤ a.off

def WF (s : St) : Prop :=
  Inv s.p ∧ (∀ b ∈ s.live, b.Inside s.p) ∧ s.live.Pairwise Disjoint

/-- arguments are `size_t` values -/
def Op.Valid : Op → Prop
  | .alloc n _ => n < W
  | .tryAlloc n => n < W
  | .realloc _ n => n < W
  | .dealloc _ => True
  | .reset _ _ _ => True

def Op.isReset : Op → Prop
  | .reset _ _ _ => True
  | _ => False

/-- the live block an operation is asked to work on -/
def Op.target : Op → Option Nat
  | .realloc (some i) _ => some i
  | .dealloc i => some i
  | _ => none

/-! `zeroRange`, `writeAt` (and the poison map's `setPsn`) overwrite `k` cells at `off`, clipped at the end of
the list: `take off m ++ mid ++ drop (off + k) m` with `mid` of the clipped length. -/

theorem length_splice {α} (m mid : List α) (off k : Nat) (hmid : mid.length = min k (m.length - off)) :
    (m.take off ++ mid ++ m.drop (off + k)).length = m.length := by
  simp only [List.length_append, List.length_take, List.length_drop, hmid]; omega

theorem getElem?_splice_outside {α} (m mid : List α) (off k i : Nat)
    (hmid : mid.length = min k (m.length - off)) (hi : i < off ∨ off + k ≤ i) :
    (m.take off ++ mid ++ m.drop (off + k))[i]? = m[i]? := by
  by_cases hl : i < m.length
  · rcases hi with hi | hi
    · rw [List.append_assoc, List.getElem?_append_left (by rw [List.length_take]; omega),
        List.getElem?_take_of_lt hi]
    · rw [List.getElem?_append_right (by simp only [List.length_append, List.length_take, hmid]; omega),
        List.getElem?_drop]
      congr 1; simp only [List.length_append, List.length_take, hmid]; omega
  · rw [List.getElem?_eq_none (by rw [length_splice _ _ _ _ hmid]; omega), List.getElem?_eq_none (by omega)]

theorem zeroRange_length (m : List UInt8) (off n : Nat) : (zeroRange m off n).length = m.length :=
  length_splice _ _ _ _ (List.length_replicate ..)

theorem writeAt_length (m : List UInt8) (off : Nat) (bs : List UInt8) :
    (writeAt m off bs).length = m.length :=
  length_splice _ _ _ _ (by rw [List.length_take, Nat.min_comm])

theorem take_writeAt (m : List UInt8) (off : Nat) (bs : List UInt8) (h : off + bs.length ≤ m.length) :
    (writeAt m off bs).take (off + bs.length) = m.take off ++ bs := by
  unfold writeAt
  rw [List.take_of_length_le (by omega : bs.length ≤ m.length - off)]
  exact List.take_left' (by rw [List.length_append, List.length_take]; omega)

theorem zeroRange_zero (m : List UInt8) (off : Nat) : zeroRange m off 0 = m := by
  simp [zeroRange]

@[simp] theorem readAt_length (m : List UInt8) (off n : Nat) (h : off + n ≤ m.length) :
    (readAt m off n).length = n := by
  rw [readAt, List.length_take, List.length_drop]; omega

theorem getElem?_readAt (m : List UInt8) (off n i : Nat) (hi : i < n) :
    (readAt m off n)[i]? = m[off + i]? := by
  rw [readAt, List.getElem?_take_of_lt hi, List.getElem?_drop]

theorem readAt_zero (m : List UInt8) (off : Nat) : readAt m off 0 = [] := List.take_zero ..

theorem readAt_congr (m m' : List UInt8) (o l : Nat) (h : ∀ i, i < l → m'[o + i]? = m[o + i]?) :
    readAt m' o l = readAt m o l := by
  apply List.ext_getElem?
  intro i
  by_cases hi : i < l
  · rw [getElem?_readAt _ _ _ _ hi, getElem?_readAt _ _ _ _ hi, h i hi]
  · simp [readAt, List.getElem?_take, hi]

theorem readAt_zeroRange_disjoint (m : List UInt8) (off n o l : Nat)
    (hd : l = 0 ∨ n = 0 ∨ o + l ≤ off ∨ off + n ≤ o) : readAt (zeroRange m off n) o l = readAt m o l :=
  readAt_congr _ _ _ _ fun _ _ =>
    getElem?_splice_outside _ _ _ _ _ (List.length_replicate ..) (by omega)

theorem readAt_writeAt_disjoint (m : List UInt8) (off : Nat) (bs : List UInt8) (o l : Nat)
    (hd : l = 0 ∨ o + l ≤ off ∨ off + bs.length ≤ o) :
    readAt (writeAt m off bs) o l = readAt m o l :=
  readAt_congr _ _ _ _ fun _ _ =>
    getElem?_splice_outside _ _ _ _ _ (by rw [List.length_take, Nat.min_comm]) (by omega)

theorem readAt_splice_same (m mid : List UInt8) (off k l : Nat) (ho : off ≤ m.length) (hl : l ≤ mid.length) :
    readAt (m.take off ++ mid ++ m.drop (off + k)) off l = mid.take l := by
  rw [readAt, List.append_assoc, List.drop_left' (by rw [List.length_take]; omega),
    List.take_append_of_le_length hl]

theorem readAt_writeAt_same (m : List UInt8) (off : Nat) (bs : List UInt8) (l : Nat)
    (h : off + bs.length ≤ m.length) (hl : l ≤ bs.length) :
    readAt (writeAt m off bs) off l = bs.take l := by
  rw [writeAt, List.take_of_length_le (by omega : bs.length ≤ m.length - off)]
  exact readAt_splice_same _ _ _ _ _ (by omega) hl

theorem readAt_zeroRange_same (m : List UInt8) (off n : Nat) (h : off + n ≤ m.length) :
    readAt (zeroRange m off n) off n = List.replicate n 0 := by
  rw [zeroRange, Nat.min_eq_left (by omega)]
  exact (readAt_splice_same _ _ _ _ _ (by omega) (Nat.le_of_eq List.length_replicate.symm)).trans
    (List.take_of_length_le (Nat.le_of_eq List.length_replicate))

theorem readAt_take (m : List UInt8) (off n l : Nat) (hl : l ≤ n) :
    (readAt m off n).take l = readAt m off l := by
  rw [readAt, readAt, List.take_take, Nat.min_eq_left hl]

theorem A_pos : 0 < A ∧ A < 2 ^ 32 := by simp [A, Mhd.Gen.Pool.alignSize]
theorem W_eq : W = 2 ^ 64 := rfl
theorem W_pos : 0 < W := by simp [W]

theorem roundUp_aligned (n : Nat) : roundUp n % A = 0 := by
  simp only [roundUp, A, Mhd.Gen.Pool.alignSize, W]
  omega

theorem roundUp_wrap (n : Nat) (hn : n < W) :
    (n + A ≤ W → n ≤ roundUp n ∧ roundUp n < n + A) ∧ (W < n + A → roundUp n = 0) := by
  simp only [roundUp, A, Mhd.Gen.Pool.alignSize, W] at *
  omega

theorem roundUp_spec (n : Nat) (h : n + (A - 1) < W) :
    n ≤ roundUp n ∧ roundUp n < n + A ∧ roundUp n % A = 0 :=
  have hw := (roundUp_wrap n (by omega)).1 (by have := A_pos.1; omega)
  ⟨hw.1, hw.2, roundUp_aligned n⟩

theorem roundUp_of_aligned (n : Nat) (h : n % A = 0) (hn : n < W) : roundUp n = n := by
  simp only [roundUp, A, Mhd.Gen.Pool.alignSize, W] at *
  omega

/-- `roundUp n` is the least aligned value from `n` on (trivially so when the addition wraps) -/
theorem roundUp_le (n x : Nat) (h : n ≤ x) (hx : x % A = 0) : roundUp n ≤ x := by
  simp only [roundUp, A, Mhd.Gen.Pool.alignSize, W] at *
  omega

theorem aligned_add {a b : Nat} (ha : a % A = 0) (hb : b % A = 0) : (a + b) % A = 0 := by
  rw [Nat.add_mod, ha, hb]; rfl

theorem aligned_sub {a b : Nat} (ha : a % A = 0) (hb : b % A = 0) : (a - b) % A = 0 :=
  Nat.sub_mod_eq_zero_of_mod_eq (ha.trans hb.symm)

end Mhd.Pool
