/-
  C14: meaning of the recorded (slice, quoted) pairs; the if-chains of
  get_rq_dauth_algo / get_rq_dauth_qop (regenerated) against the reference table; parse ∘ render.
-/
import Mhd.Proofs.AuthEmbed
import Mhd.Proofs.StrSpecQuoted
import Mhd.Model.AuthInfo
namespace Mhd.Auth
open Mhd.Gen.Auth

theorem eqClN_listEq (a b : Bytes) : eqClN a b = Mhd.Str.listEq eqCl a b := by
  induction a generalizing b with
  | nil => cases b <;> rfl
  | cons x s ih => cases b with
    | nil => rfl
    | cons y t => rw [eqClN, Mhd.Str.listEq, ih]

theorem auth_unquoteLoop (q : Bytes) : unquoteLoop q = Mhd.Str.unquoteSpec q := by
  induction q using Mhd.Str.unquoteSpec.induct with
  | case1 => rfl
  | case2 x rest ih => rw [unquoteLoop.eq_def, Mhd.Str.unquoteSpec_bs]; dsimp only; rw [if_pos rfl, ih]
  | case3 => rfl
  | case4 c t hc ih => rw [unquoteLoop.eq_def, Mhd.Str.unquoteSpec_cons_ne c t hc]; dsimp only; rw [if_neg hc, ih]

theorem unquoteLoop_lengths (q v : Bytes) (h : unquoteLoop q = some v) : v.length ≤ q.length ∧ q.length ≤ 2 * v.length :=
  Mhd.Str.unquoteSpec_length_le q v (auth_unquoteLoop q ▸ h)

theorem auth_eqQuotedCl (q u : Bytes) : eqQuotedCl q u = Mhd.Str.quotedEq eqCl q u :=
  Mhd.Str.eqQuoted_gen eqCl eqQuotedLoop (by rw [eqQuotedLoop.eq_def]) (fun _ _ => by rw [eqQuotedLoop.eq_def])
    (fun _ _ => by rw [eqQuotedLoop.eq_def]) (fun _ _ => by rw [eqQuotedLoop.eq_def]; simp)
    (fun _ _ _ _ => by rw [eqQuotedLoop.eq_def]; simp) (fun _ _ _ _ hq => by rw [eqQuotedLoop.eq_def]; simp [hq]) q u

theorem eqQuotedCl_unquote (q v tok : Bytes) (h : unquoteLoop q = some v) : eqQuotedCl q tok = eqClS tok v := by
  rw [eqClS_eq, eqClN_comm, auth_eqQuotedCl, Mhd.Str.quotedEq, ← auth_unquoteLoop, h, eqClN_listEq]

/-- the recorded (slice, flag) pair stands for the semantic value `v` -/
def Denotes (x : Bytes × Bool) (v : Bytes) : Prop :=
  if x.2 then unquoteLoop x.1 = some v else x.1 = v

theorem denotes_escRender (esc : List Bool) (v : Bytes) : Denotes (escRender esc v, anyEsc esc v) v := by
  unfold Denotes
  cases ha : anyEsc esc v
  · simp [escRender_of_anyEsc_false esc _ ha]
  · simp [unquoteLoop_escRender]

theorem denotes_elem (e : Elem) : Denotes (rawOf e, quotedOf e) e.item.value := by
  unfold rawOf quotedOf
  cases e.r.form with
  | token => simp [Denotes]
  | quoted esc => exact denotes_escRender esc _

theorem paramUnq_denotes (off : Nat) (x : Bytes × Bool) (v : Bytes) (h : Denotes x v) :
    paramUnq ⟨off, x.1, x.2⟩ = v := by
  unfold Denotes at h
  unfold paramUnq unquote
  cases hq : x.2 <;> simp [hq] at h ⊢ <;> simp [h]

theorem chainFind_mem (eq : Bytes → Bool) (l : List (Bytes × Nat)) (d : Nat) {P : Nat → Prop} (hd : P d)
    (hl : ∀ x ∈ l, eq x.1 = true → P x.2) : P (chainFind eq l d) := by
  induction l with
  | nil => exact hd
  | cons x t ih =>
    rw [chainFind]
    split
    · exact hl x (by simp) ‹_›
    · exact ih fun y hy => hl y (by simp [hy])

/-- how `get_rq_dauth_algo`, `get_rq_dauth_qop` and the userhash test compare a parameter with a token -/
def cmp (p : Param) (tok : Bytes) : Bool := if p.quoted then eqQuotedCl p.raw tok else eqClS tok p.raw

theorem cmp_denotes (off : Nat) (x : Bytes × Bool) (v : Bytes) (h : Denotes x v) :
    cmp ⟨off, x.1, x.2⟩ = fun tok => eqClS tok v := by
  funext tok
  unfold Denotes at h
  unfold cmp
  cases hx : x.2 <;> simp only [hx, if_true, Bool.false_eq_true, if_false] at h ⊢
  · rw [h]
  · exact eqQuotedCl_unquote _ _ tok h

/-- the two if-chains of `get_rq_dauth_algo` list the same (token, constant) pairs in the order of the
    reference table.  (Regenerated from the source: this is what the unfixed tree — F5 — violates.) -/
theorem algo_chains_agree :
    algoQuotedChain = algoTokenChain ∧
    algoTokenChain = [(tokMd5, algoMd5), (tokSha256, algoSha256), (tokSha512, algoSha512),
      (tokMd5 ++ tokSess, algoMd5Sess), (tokSha256 ++ tokSess, algoSha256Sess), (tokSha512 ++ tokSess, algoSha512Sess)] ∧
    algoAbsent = algoMd5 ∧ algoNoMatch = algoInvalid := by decide

theorem qop_chains_agree :
    qopQuotedChain = qopTokenChain ∧ qopTokenChain = [(tokAuth, qopAuth), (tokAuthInt, qopAuthInt)] ∧
    qopAbsent = qopNone ∧ qopNoMatch = qopInvalid := by decide

theorem algoOf_some (p : Param) : algoOf (some p) = chainFind (cmp p) algoTokenChain algoNoMatch := by
  unfold algoOf cmp
  cases h : p.quoted <;> simp [h, algo_chains_agree.1]

theorem qopOf_some (p : Param) : qopOf (some p) = chainFind (cmp p) qopTokenChain qopNoMatch := by
  unfold qopOf cmp
  cases h : p.quoted <;> simp [h, qop_chains_agree.1]

theorem algoOf_denotes (off : Nat) (x : Bytes × Bool) (v : Bytes) (h : Denotes x v) :
    algoOf (some ⟨off, x.1, x.2⟩) = algoSem (some v) := by
  rw [algoOf_some, cmp_denotes off x v h, algo_chains_agree.2.1, algo_chains_agree.2.2.2]
  simp [chainFind, algoSem]

theorem qopOf_denotes (off : Nat) (x : Bytes × Bool) (v : Bytes) (h : Denotes x v) :
    qopOf (some ⟨off, x.1, x.2⟩) = qopSem (some v) := by
  rw [qopOf_some, cmp_denotes off x v h, qop_chains_agree.2.1, qop_chains_agree.2.2.2]
  simp [chainFind, qopSem]

theorem userhashOf_denotes (off : Nat) (x : Bytes × Bool) (v : Bytes) (h : Denotes x v) :
    userhashOf (some ⟨off, x.1, x.2⟩) = userhashSem (some v) := by
  have ht : userhashTrueQuoted = [116, 114, 117, 101] ∧ userhashTrueToken = [116, 114, 117, 101] := by decide
  have : userhashOf (some ⟨off, x.1, x.2⟩) = cmp ⟨off, x.1, x.2⟩ [116, 114, 117, 101] := by
    unfold userhashOf cmp; rw [ht.1, ht.2]
  rw [this, cmp_denotes off x v h]; rfl

def Agree (a : Option (Bytes × Bool)) (b : Option Bytes) : Prop :=
  match a, b with
  | none, none => True
  | some x, some v => Denotes x v
  | _, _ => False

theorem agree_foldG (gs : List GElem) (k : Nat) :
    ∀ (init : Option (Bytes × Bool)) (initv : Option Bytes), Agree init initv →
      Agree (rawViewG gs init k) (gs.foldl (fun acc g => match g with
        | .known e => if e.item.slot = k then some e.item.value else acc
        | _ => acc) initv) := by
  induction gs with
  | nil => intro init initv h; exact h
  | cons g gs ih =>
    intro init initv h
    simp only [rawViewG, List.foldl_cons]
    apply ih
    cases g with
    | known e =>
      by_cases hk : e.item.slot = k
      · simp only [hk, if_true]; exact denotes_elem e
      · simp only [hk, if_false]; exact h
    | ext _ _ _ => exact h
    | empty _ => exact h

theorem agree_viewG (gs : List GElem) (k : Nat) : Agree (rawViewG gs none k) (viewG gs k) :=
  agree_foldG gs k none none trivial

theorem agree_view (es : List Elem) (k : Nat) : Agree (rawView es none k) (view es k) := by
  have := agree_viewG (es.map .known) k
  rwa [rawViewG_known, viewG_known] at this

theorem slot_sem (p : Option Param) (v : Option Bytes) (h : Agree (p.map pr) v) :
    p.map paramUnq = v ∧ algoOf p = algoSem v ∧ qopOf p = qopSem v ∧ userhashOf p = userhashSem v := by
  cases p with
  | none =>
    cases v with
    | none =>
      refine ⟨rfl, ?_, ?_, rfl⟩
      · simp [algoOf, algoSem, algo_chains_agree.2.2.1]
      · simp [qopOf, qopSem, qop_chains_agree.2.2.1]
    | some v => simp [Agree] at h
  | some p =>
    cases v with
    | none => simp [Agree] at h
    | some v =>
      simp only [Agree, Option.map_some, pr] at h
      obtain ⟨off, raw, q⟩ := p
      exact ⟨by simp [paramUnq_denotes off (raw, q) v h], algoOf_denotes off (raw, q) v h,
        qopOf_denotes off (raw, q) v h, userhashOf_denotes off (raw, q) v h⟩

theorem view_congr {es es' : List Elem} (h : es.map (·.item) = es'.map (·.item)) : view es = view es' := by
  funext k
  have : ∀ l : List Elem, view l k =
      (l.map (·.item)).foldl (fun acc i => if i.slot = k then some i.value else acc) none := fun l => by
    simp [view, List.foldl_map]
  rw [this es, this es', h]

theorem parseDigest_render_raw (lead : Bytes) (es : List Elem) (t : UInt8) (ht : t ≠ 59) (hwf : WF lead es = true) :
    ∃ d, parseDigest (render lead es) (some t) = .ok d ∧
      (∀ k, (d.slots k).map pr = rawView es none k) ∧
      d.algo3 = algoOf (d.slots kAlgorithm) ∧ d.qop = qopOf (d.slots kQop) ∧
      d.userhash = userhashOf (d.slots kUserhash) := by
  obtain ⟨d, hp, hraw⟩ := parseDigest_renderG_raw lead (es.map .known) t ht (by rw [WFG_known]; exact hwf)
  simp only [renderG, renderGList_known, rawViewG_known] at hp hraw
  exact ⟨d, hp, hraw, parseDigest_fields hp⟩

theorem parseDigest_renderG (lead : Bytes) (gs : List GElem) (t : UInt8) (ht : t ≠ 59) (hwf : WFG lead gs = true) :
    ∃ d, parseDigest (renderG lead gs) (some t) = .ok d ∧
      (∀ k, (d.slots k).map paramUnq = viewG gs k) ∧
      d.algo3 = algoSem (viewG gs kAlgorithm) ∧ d.qop = qopSem (viewG gs kQop) ∧
      d.userhash = userhashSem (viewG gs kUserhash) := by
  obtain ⟨d, hp, hraw⟩ := parseDigest_renderG_raw lead gs t ht hwf
  obtain ⟨ha, hq, hu⟩ := parseDigest_fields hp
  have hag := fun k => slot_sem _ _ (hraw k ▸ agree_viewG gs k)
  exact ⟨d, hp, fun k => (hag k).1, ha ▸ (hag kAlgorithm).2.1, hq ▸ (hag kQop).2.2.1, hu ▸ (hag kUserhash).2.2.2⟩

theorem parseDigest_render (lead : Bytes) (es : List Elem) (t : UInt8) (ht : t ≠ 59) (hwf : WF lead es = true) :
    ∃ d, parseDigest (render lead es) (some t) = .ok d ∧
      (∀ k, (d.slots k).map paramUnq = view es k) ∧
      d.algo3 = algoSem (view es kAlgorithm) ∧ d.qop = qopSem (view es kQop) ∧
      d.userhash = userhashSem (view es kUserhash) := by
  have := parseDigest_renderG lead (es.map .known) t ht (by rw [WFG_known]; exact hwf)
  simpa only [renderG, render, renderGList_known, viewG_known] using this

end Mhd.Auth
