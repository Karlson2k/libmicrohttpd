/-
  C17 proofs: the scanning loops `skipZ` / `skipN`, and the round of
  `MHD_str_has_token_caseless_` (`hasToken_step`), which makes it membership in the
  reference token list (split on ',', trim SP/HT, caseless), for every z-terminated
  string and every permitted token.
-/
import Mhd.Proofs.StrTokSpec

namespace Mhd.Str

/-- a loop whose round steps over a character satisfying `p` and leaves at any other one stops
    behind the run of `p`; what it does at the end of the string matters only if the run reaches it
    (`while (p (*str)) str++` and `while ((pos < len) && p (s[pos])) pos++`) -/
theorem scan_iter (s : Bytes) (p : UInt8 → Bool) (step : Nat → M (Nat ⊕ Nat))
    (hin : ∀ i x t, s.drop i = x :: t → p x = true → step i = .ok (.inl (i + 1)))
    (hout : ∀ i x t, s.drop i = x :: t → p x = false → step i = .ok (.inr i)) :
    ∀ (r : Bytes) (i n : Nat), s.drop i = r → (r.dropWhile p = [] → ∀ j, s.drop j = [] → step j = .ok (.inr j)) →
      r.length < n → iter step n i = .ok (i + (r.takeWhile p).length) := by
  intro r
  induction r with
  | nil =>
    intro i n hr hend hn
    obtain ⟨n', rfl⟩ := fuel_succ hn
    exact iter_inr n' (hend rfl i hr)
  | cons x t ih =>
    intro i n hr hend hn
    obtain ⟨n', rfl⟩ := fuel_succ hn
    by_cases hx : p x = true
    · rw [iter_inl n' (hin i x t hr hx), List.takeWhile_cons_of_pos hx,
        ih (i + 1) n' (drop_succ_of_drop hr) (by rwa [List.dropWhile_cons_of_pos hx] at hend)
          (Nat.lt_of_succ_lt_succ hn), List.length_cons, Nat.succ_add_eq_add_succ]
    · rw [iter_inr n' (hout i x t hr (by simpa using hx)), List.takeWhile_cons_of_neg hx]; rfl

theorem skipN_exact (s : Bytes) (p : UInt8 → Bool) (i : Nat) (r : Bytes) (hi : i ≤ s.length) (hr : s.drop i = r) :
    skipN s p i = .ok (i + (r.takeWhile p).length) ∧
    s.drop (i + (r.takeWhile p).length) = r.dropWhile p ∧
    i + (r.takeWhile p).length ≤ s.length := by
  refine ⟨?_, run_pos s p i r hi hr⟩
  refine scan_iter s p _ ?_ ?_ r i _ hr ?_ (fuel_of_drop hr)
  · intro j x t hj hx
    simp only [lt_of_drop hj, if_true, rd_of_drop hj, bind_ok', hx, pure_eq_ok]
  · intro j x t hj hx
    simp only [lt_of_drop hj, if_true, rd_of_drop hj, bind_ok', hx, Bool.false_eq_true, if_false, pure_eq_ok]
  · intro _ j hj
    have : ¬ j < s.length := Nat.not_lt.mpr (List.drop_eq_nil_iff.mp hj)
    simp only [this, if_false, pure_eq_ok]

/-- on a z-terminated string `skipZ` never reads past the NUL (the NUL does not satisfy `p`) -/
theorem skipZ_spec (c tail : Bytes) (p : UInt8 → Bool) (hp0 : p 0 = false) (i : Nat) (r : Bytes) (hi : i ≤ c.length)
    (hr : c.drop i = r) :
    skipZ (c ++ 0 :: tail) p i = .ok (i + (r.takeWhile p).length) ∧
    c.drop (i + (r.takeWhile p).length) = r.dropWhile p ∧
    i + (r.takeWhile p).length ≤ c.length := by
  refine ⟨?_, run_pos c p i r hi hr⟩
  have hz : StopsAt p (0 :: tail) := stopsAt_cons tail hp0
  have hd : (c ++ 0 :: tail).drop i = r ++ 0 :: tail := by rw [drop_z c tail i hi, hr]
  rw [← takeWhile_append_stop p r _ hz]
  refine scan_iter _ p _ ?_ ?_ _ i _ hd ?_ (fuel_of_drop hd)
  · intro j x t hj hx
    simp only [rd_of_drop hj, bind_ok', hx, if_true, pure_eq_ok]
  · intro j x t hj hx
    simp only [rd_of_drop hj, bind_ok', hx, Bool.false_eq_true, if_false, pure_eq_ok]
  · intro h
    rw [dropWhile_append_stop p r _ hz] at h
    exact absurd h (by simp)

/-- after the last token character: only spaces and tabs may follow up to the next comma or the end -/
def matchTail (s : Bytes) (p : Nat) : M ((Nat × Nat) ⊕ TokRes) := do
  let p' ← skipZ s isWs p
  let c ← rd s p'
  if c = 0 ∨ c = 0x2c then return .inr (.ret true)
  return .inr (.brk p')

theorem hasTokenMatchStep_eq (s token : Bytes) (p i : Nat) (sc tc : UInt8) (h1 : rd s p = .ok sc)
    (h2 : rd token i = .ok tc) :
    hasTokenMatchStep s token (p, i) =
      if sc = 0 then .ok (.inr (.ret false))
      else if charsEqualCaseless sc tc = false then .ok (.inr (.brk (if sc = 0x2c then p else p + 1)))
      else if token.length ≤ i + 1 then matchTail s (p + 1)
      else .ok (.inl (p + 1, i + 1)) := by
  simp only [hasTokenMatchStep, matchTail, h1, h2, bind_ok', pure_eq_ok, ge_iff_le, Bool.not_eq_eq_eq_not,
    Bool.not_true, Nat.add_sub_cancel]

theorem matchTail_spec (c tail : Bytes) (hz : ∀ x ∈ c, x ≠ 0) (p : Nat) (r : Bytes) (hp : p ≤ c.length)
    (hr : c.drop p = r) :
    matchTail (c ++ 0 :: tail) p =
      .ok (.inr (if headElem (r.dropWhile isWs) = [] then .ret true else .brk (p + (r.takeWhile isWs).length))) := by
  obtain ⟨hs1, hs2, hs3⟩ := skipZ_spec c tail isWs isWs_zero p r hp hr
  have hd := drop_z c tail _ hs3
  rw [hs2] at hd
  unfold matchTail
  rw [hs1, bind_ok']
  cases hd2 : r.dropWhile isWs with
  | nil =>
    rw [hd2, List.nil_append] at hd
    simp only [rd_of_drop hd, bind_ok', true_or, if_true, pure_eq_ok]; rfl
  | cons z b =>
    rw [hd2, List.cons_append] at hd
    have hz0 : z ≠ 0 := hz z (mem_of_drop_eq_cons (hs2.trans hd2))
    by_cases hc : z = 0x2c
    · subst hc
      simp only [rd_of_drop hd, bind_ok', or_true, if_true, pure_eq_ok, headElem_comma]
    · have : headElem (z :: b) ≠ [] := by rw [headElem_cons z b hc]; simp
      simp only [rd_of_drop hd, bind_ok', hz0, hc, or_self, if_false, pure_eq_ok, this]

/-- what the matching loop reports about the element at the head of `r`: the answer, or a
    position inside the element (`b` is what is left of it) from which to go on -/
def MatchRel (c r t : Bytes) : TokRes → Prop
  | .ret b => b = elemIs r t ∧ (b = false → restElems r = [])
  | .brk p2 => elemIs r t = false ∧ r ≠ [] ∧ p2 ≤ c.length ∧
      ∃ b, (∀ x ∈ b, notComma x = true) ∧ c.drop p2 = b ++ restElems r

theorem matchLoop_spec (c tail tok : Bytes) (hz : ∀ x ∈ c, x ≠ 0)
    (htok : ∀ x ∈ tok, x ≠ 0 ∧ x ≠ 0x20 ∧ x ≠ 0x09 ∧ x ≠ 0x2c) :
    ∀ (t r : Bytes) (p i n : Nat), t ≠ [] → tok.drop i = t → c.drop p = r → p ≤ c.length → r.length < n →
      ∃ res, iter (hasTokenMatchStep (c ++ 0 :: tail) tok) n (p, i) = .ok res ∧ MatchRel c r t res := by
  intro t
  induction t with
  | nil => intro r p i n h; exact absurd rfl h
  | cons y t' ih =>
    intro r p i n _ ht hr hp hn
    obtain ⟨n', rfl⟩ := fuel_succ hn
    have hy := htok y (List.mem_of_mem_drop (ht ▸ List.mem_cons_self))
    have hd := drop_z c tail p hp
    rw [hr] at hd
    cases r with
    | nil =>
      have hstep := hasTokenMatchStep_eq (c ++ 0 :: tail) tok p i _ y (rd_of_drop hd) (rd_of_drop ht)
      rw [if_pos rfl] at hstep
      exact ⟨.ret false, iter_inr n' hstep, rfl, fun _ => rfl⟩
    | cons x r' =>
      have hx0 : x ≠ 0 := hz x (mem_of_drop_eq_cons hr)
      have hr1 := drop_succ_of_drop hr
      have hp1 : p + 1 ≤ c.length := lt_of_drop hr
      have hstep := hasTokenMatchStep_eq (c ++ 0 :: tail) tok p i _ y (rd_of_drop hd) (rd_of_drop ht)
      rw [if_neg hx0] at hstep
      by_cases hceq : charsEqualCaseless x y = true
      · have hxc : x ≠ 0x2c := by
          intro h; subst h; exact hy.2.2.2 (ceq_comma y hceq)
        have helem : elemIs (x :: r') (y :: t') = elemIs r' t' := by
          rw [elemIs_cons, hceq]; simp [hxc]
        rw [if_neg (by simp [hceq])] at hstep
        by_cases hlast : tok.length ≤ i + 1
        · have ht'nil : t' = [] := by rw [← drop_succ_of_drop ht]; exact List.drop_eq_nil_of_le hlast
          subst ht'nil
          rw [if_pos hlast, matchTail_spec c tail hz (p + 1) r' hp1 hr1] at hstep
          refine ⟨_, iter_inr n' hstep, ?_⟩
          have hiff := all_ws_headElem_iff r'
          rw [← elemIs_nil] at hiff
          by_cases hE : headElem (r'.dropWhile isWs) = []
          · rw [if_pos hE]
            exact ⟨by rw [helem]; exact (hiff.mpr hE).symm, fun h => by cases h⟩
          · rw [if_neg hE]
            obtain ⟨hq1, hq2⟩ := run_pos c isWs (p + 1) r' hp1 hr1
            refine ⟨?_, List.cons_ne_nil _ _, hq2, headElem (r'.dropWhile isWs), headElem_notComma _, ?_⟩
            · rw [helem]; exact Bool.eq_false_iff.mpr (fun h => hE (hiff.mp h))
            · rw [hq1, restElems_cons x r' hxc, ← restElems_dropWhile_ws r']
              exact headElem_append_restElems _
        · have ht'ne : t' ≠ [] := by
            intro h
            have := List.drop_eq_nil_iff.mp ((drop_succ_of_drop ht).trans h)
            exact hlast this
          rw [if_neg hlast] at hstep
          obtain ⟨res, hres, hrel⟩ := ih r' (p + 1) (i + 1) n' ht'ne (drop_succ_of_drop ht) hr1 hp1
            (Nat.lt_of_succ_lt_succ hn)
          refine ⟨res, by rw [iter_inl n' hstep]; exact hres, ?_⟩
          cases res with
          | ret b =>
            exact ⟨by rw [helem]; exact hrel.1, fun h => by rw [restElems_cons _ _ hxc]; exact hrel.2 h⟩
          | brk p2 =>
            obtain ⟨hb1, _, hb3, hb4⟩ := hrel
            exact ⟨by rw [helem]; exact hb1, List.cons_ne_nil _ _, hb3, by rw [restElems_cons _ _ hxc]; exact hb4⟩
      · have hceq' : charsEqualCaseless x y = false := by simpa using hceq
        have helem : elemIs (x :: r') (y :: t') = false := by
          rw [elemIs_cons, hceq']; simp
        rw [if_pos hceq'] at hstep
        refine ⟨_, iter_inr n' hstep, helem, List.cons_ne_nil _ _, ?_⟩
        by_cases hxc : x = 0x2c
        · rw [if_pos hxc]; subst hxc
          exact ⟨hp, [], (fun _ h => by cases h), hr⟩
        · rw [if_neg hxc, restElems_cons _ _ hxc]
          exact ⟨hp1, headElem r', headElem_notComma r', hr1.trans (headElem_append_restElems r')⟩

theorem takeWhile_notNulComma (l : Bytes) (h : ∀ x ∈ l, x ≠ 0) :
    l.takeWhile (fun c => c != 0 && c != 0x2c) = headElem l := by
  induction l with
  | nil => rfl
  | cons x t ih =>
    have : (x != 0 && x != 0x2c) = notComma x := by simp [notComma, h x List.mem_cons_self]
    simp only [headElem, List.takeWhile, this]
    rw [ih (fun y hy => h y (List.mem_cons_of_mem _ hy))]; rfl

theorem hasToken_step (c tail tok : Bytes) (hz : ∀ x ∈ c, x ≠ 0) (htok : TokenOk tok) (p : Nat)
    (hi : p ≤ c.length ∧ hasTokenSpec c tok = (tokListOf (c.drop p)).any (fun e => ceqBytes e tok)) :
    (∃ p', hasTokenStep (c ++ 0 :: tail) tok p = .ok (.inl p') ∧
        (p' ≤ c.length ∧ hasTokenSpec c tok = (tokListOf (c.drop p')).any (fun e => ceqBytes e tok)) ∧
        (c.drop p').length < (c.drop p).length) ∨
    (∃ b, hasTokenStep (c ++ 0 :: tail) tok p = .ok (.inr b) ∧ b = hasTokenSpec c tok) := by
  obtain ⟨hp, hg⟩ := hi
  obtain ⟨hne, htk⟩ := htok
  have hd := drop_z c tail p hp
  unfold hasTokenStep
  cases hr : c.drop p with
  | nil =>
    right
    rw [hr, List.nil_append] at hd
    simp only [rd_of_drop hd, bind_ok', ne_eq, not_true_eq_false, if_false, pure_eq_ok]
    exact ⟨false, rfl, by rw [hg, hr, tokListOf_nil]; rfl⟩
  | cons x r0 =>
    rw [hr, List.cons_append] at hd
    have hx0 : x ≠ 0 := hz x (mem_of_drop_eq_cons hr)
    obtain ⟨hs1, hs2, hs3⟩ := skipZ_spec c tail isWsComma isWsComma_zero p _ hp hr
    simp only [rd_of_drop hd, bind_ok', ne_eq, hx0, not_false_eq_true, if_true, hs1]
    -- `p1`, `r1`: position and text behind the skipped spaces, tabs and commas
    rw [hr, tokListOf_skip] at hg
    have hstop := dropWhile_stops isWsComma (x :: r0)
    have hsuf := List.length_dropWhile_le isWsComma (x :: r0)
    generalize p + ((x :: r0).takeWhile isWsComma).length = p1 at hs1 hs2 hs3
    generalize (x :: r0).dropWhile isWsComma = r1 at hs2 hg hstop hsuf
    obtain ⟨res, hres, hrel⟩ := matchLoop_spec c tail tok hz htk tok r1 p1 0 ((c ++ 0 :: tail).length + 1) hne rfl hs2 hs3
      (Nat.lt_of_lt_of_le (fuel_of_drop hs2) (by rw [List.length_append]; exact Nat.succ_le_succ (Nat.le_add_right _ _)))
    rw [hres]
    have href : (tokListOf r1).any (fun e => ceqBytes e tok) =
        (elemIs r1 tok || (tokListOf (restElems r1)).any (fun e => ceqBytes e tok)) := by
      rcases hstop with rfl | ⟨z, b, rfl, hzw⟩
      · cases tok with
        | nil => exact absurd rfl hne
        | cons _ _ => rfl
      · rw [(tokListOf_elem z b hzw).1, List.any_cons, elemIs_eq _ _ (fun y hy => (htk y hy).2)]
    cases res with
    | ret b =>
      right
      refine ⟨b, rfl, ?_⟩
      rw [hg, href, ← hrel.1]
      cases b with
      | true => rfl
      | false => rw [hrel.2 rfl, tokListOf_nil]; rfl
    | brk p2 =>
      left
      obtain ⟨hb1, hr1ne, hp2, b, hb, hd2⟩ := hrel
      obtain ⟨hq1, _, hq3⟩ := skipZ_spec c tail (fun c => c != 0 && c != 0x2c) (by decide) p2 _ hp2 hd2
      rw [takeWhile_notNulComma _ (fun x hx => hz x (List.mem_of_mem_drop (hd2 ▸ hx))),
        headElem_append_word b _ hb, show headElem (restElems r1) = [] from
          takeWhile_stop (restElems_stops notComma (by decide) r1), List.append_nil] at hq1 hq3
      have hfinal := drop_at c p2 b _ hd2
      simp only [hq1, bind_ok', pure_eq_ok]
      refine ⟨_, rfl, ⟨hq3, by rw [hfinal, hg, href, hb1]; rfl⟩, ?_⟩
      rw [hfinal]
      obtain ⟨z, b', rfl, hzw⟩ := hstop.resolve_left hr1ne
      exact Nat.lt_of_lt_of_le (rest_lt_of_elem z b' hzw 0) hsuf

end Mhd.Str
