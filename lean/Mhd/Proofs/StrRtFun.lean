/-
  C17 proofs: `MHD_str_remove_tokens_caseless_` — what a removal round is made of, in list
  terms: the `", "` before a kept element, copying an element down.
-/
import Mhd.Proofs.StrRm

namespace Mhd.Str

/-- an element of a comma list as the in-place editor needs it: non-empty and free of commas -/
def elemOk (e : Bytes) : Bool := !e.isEmpty && e.all notComma

theorem elemOk_iff (e : Bytes) : elemOk e = true ↔ e ≠ [] ∧ ∀ x ∈ e, x ≠ 0x2c := by
  unfold elemOk
  cases e with
  | nil => simp
  | cons a t => simp [notComma]

theorem ceqBytes_commafree (a b : Bytes) (h : ceqBytes a b = true) (hb : ∀ x ∈ b, x ≠ 0x2c) : ∀ x ∈ a, x ≠ 0x2c := by
  induction a generalizing b with
  | nil => intro x hx; simp at hx
  | cons c a' ih =>
    cases b with
    | nil => simp [listEq] at h
    | cons d b' =>
      simp only [listEq, Bool.and_eq_true] at h
      intro x hx
      rcases List.mem_cons.mp hx with hx | hx
      · subst hx
        intro hc; subst hc
        exact hb d List.mem_cons_self (ceq_comma d h.1)
      · exact ih b' h.2 (fun y hy => hb y (List.mem_cons_of_mem _ hy)) x hx

theorem ceqBytes_length_ne (a b : Bytes) (h : a.length ≠ b.length) : ceqBytes a b = false :=
  Bool.eq_false_iff.mpr (fun hc => h (listEq_length hc))

theorem no_match_of_length (l : List Bytes) (T : Bytes) (h : ∀ x ∈ l, x.length ≠ T.length) :
    l.filter (fun x => !ceqBytes x T) = l ∧ l.any (fun x => ceqBytes x T) = false := by
  have hall : ∀ x ∈ l, ceqBytes x T = false := fun x hx => ceqBytes_length_ne _ _ (h x hx)
  exact ⟨List.filter_eq_self.mpr (fun x hx => by rw [hall x hx]; rfl),
    List.any_eq_false.mpr (fun x hx => by rw [hall x hx]; exact Bool.false_ne_true)⟩

/-- what `rtSep` relies on at a write position `pw` behind kept elements: room for a `", "` before
    the read position `pr`, and, where there is room for no more than that, a `", "` in place -/
def SepRoom (pr pw : Nat) (buf : Bytes) : Prop :=
  pw = 0 ∨ (pw + 2 ≤ pr ∧ (pr = pw + 2 → (buf.drop pw).take 2 = sepCS))

theorem SepRoom.le {pr pw : Nat} {buf : Bytes} (h : SepRoom pr pw buf) : pw ≤ pr := by
  rcases h with rfl | ⟨h, _⟩
  · exact Nat.zero_le _
  · exact Nat.le_trans (Nat.le_add_right _ _) h

theorem rtSep_spec (pr pw : Nat) (buf J : Bytes) (hJ : buf.take pw = J) (hroom : SepRoom pr pw buf)
    (hpr : pr ≤ buf.length) :
    ∃ pw' buf', rtSep pr pw buf = .ok (pw', buf') ∧ buf'.length = buf.length ∧
      pw' = pw + (if pw = 0 then 0 else 2) ∧ pw' ≤ pr ∧
      buf'.take pw' = J ++ (if pw = 0 then [] else sepCS) ∧ buf'.drop pr = buf.drop pr := by
  unfold rtSep
  by_cases h0 : pw = 0
  · subst h0
    refine ⟨0, buf, rfl, rfl, rfl, Nat.zero_le _, ?_, rfl⟩
    rw [← hJ]; rfl
  · obtain ⟨hg, hs⟩ := hroom.resolve_left h0
    simp only [h0, ne_eq, not_false_eq_true, if_true, if_false]
    by_cases hp : pr = pw + 2
    · rw [if_neg (fun h : pr ≠ pw + 2 => h hp)]
      refine ⟨pw + 2, buf, rfl, rfl, rfl, hg, ?_, rfl⟩
      rw [List.take_add, hJ, hs hp]
    · have ⟨h1, h2, h3⟩ : pw + 1 < buf.length ∧ pw < pr ∧ pw + 1 < pr := by omega
      have h2' : pw + 1 < (buf.set pw 0x2c).length := by rw [List.length_set]; exact h1
      simp only [hp, not_false_eq_true, if_true, wr_ok _ (Nat.lt_of_succ_lt h1), wr_ok _ h2', bind_ok', pure_eq_ok]
      refine ⟨pw + 2, _, rfl, by rw [List.length_set, List.length_set], rfl, hg, ?_, ?_⟩
      · rw [take_set_two _ _ _ _ h1, hJ]
      · rw [List.drop_set_of_lt h3, List.drop_set_of_lt h2]

/-- `if (pr != pw) str[pw] = str[pr];` -/
theorem rtCopyByte (buf : Bytes) (pr pw : Nat) (c : UInt8) (t : Bytes) (hd : buf.drop pr = c :: t) (hle : pw ≤ pr) :
    ∃ b1, (if pr ≠ pw then (do let c ← rd buf pr; wr buf pw c) else .ok buf : M Bytes) = .ok b1 ∧
      b1.length = buf.length ∧ b1.take (pw + 1) = buf.take pw ++ [c] ∧ b1.drop (pr + 1) = t := by
  have hpr := lt_of_drop hd
  by_cases hne : pr = pw
  · subst hne
    refine ⟨buf, by rw [if_neg (by simp)], rfl, ?_, drop_succ_of_drop hd⟩
    rw [List.take_add, hd]; rfl
  · have hpw : pw < buf.length := Nat.lt_of_le_of_lt hle hpr
    refine ⟨_, by rw [if_pos hne, rd_of_drop hd, bind_ok', wr_ok _ hpw], List.length_set, take_set_succ _ _ _ hpw, ?_⟩
    rw [List.drop_set_of_lt (Nat.lt_succ_of_le hle)]; exact drop_succ_of_drop hd

theorem rtCopyElem_go (len : Nat) (junk : Bytes) :
    ∀ (cs : Bytes) (c : UInt8) (tail : Bytes) (pr pw : Nat) (buf : Bytes) (n : Nat),
      buf.drop pr = c :: (cs ++ (tail ++ junk)) → pr + 1 + (cs ++ tail).length = len →
      (∀ x ∈ cs, x ≠ 0x2c) → headElem tail = [] → pw ≤ pr → cs.length < n →
      ∃ buf', iter (rtCopyElemStep len) n (pr, pw, buf) =
          .ok (pr + (c :: cs).length, pw + (c :: cs).length, buf') ∧
        buf'.length = buf.length ∧ buf'.take (pw + (c :: cs).length) = buf.take pw ++ c :: cs ∧
        buf'.drop (pr + (c :: cs).length) = tail ++ junk := by
  intro cs
  induction cs with
  | nil =>
    intro c tail pr pw buf n hd hlen hcs htail hle hn
    obtain ⟨n', rfl⟩ := fuel_succ hn
    obtain ⟨b1, hb1, hb1l, hb1t, hb1d⟩ := rtCopyByte buf pr pw c _ hd hle
    have hagain := peek_notComma_len b1 (pr + 1) len tail junk hb1d hlen
    rw [htail] at hagain
    refine ⟨b1, iter_inr n' ?_, hb1l, hb1t, hb1d⟩
    simp only [rtCopyElemStep, pure_eq_ok, hb1, bind_ok', hagain, List.isEmpty_nil, Bool.not_true, Bool.false_eq_true,
      if_false, List.length_cons, List.length_nil, Nat.zero_add]
  | cons c' cs' ih =>
    intro c tail pr pw buf n hd hlen hcs htail hle hn
    obtain ⟨n', rfl⟩ := fuel_succ hn
    obtain ⟨b1, hb1, hb1l, hb1t, hb1d⟩ := rtCopyByte buf pr pw c _ hd hle
    have hagain := peek_notComma_len b1 (pr + 1) len (c' :: (cs' ++ tail)) junk
      (by rw [hb1d, List.cons_append, List.cons_append, List.append_assoc]) hlen
    rw [headElem_cons c' _ (hcs c' List.mem_cons_self)] at hagain
    obtain ⟨b2, hb2, hb2l, hb2t, hb2d⟩ := ih c' tail (pr + 1) (pw + 1) b1 n' hb1d
      ((Nat.succ_add_eq_add_succ (pr + 1) _).trans hlen)
      (fun x hx => hcs x (List.mem_cons_of_mem _ hx)) htail (Nat.succ_le_succ hle) (Nat.lt_of_succ_lt_succ hn)
    have e1 : ∀ k : Nat, k + 1 + (c' :: cs').length = k + (c :: c' :: cs').length :=
      fun k => Nat.succ_add_eq_add_succ k _
    rw [e1, e1] at hb2
    rw [e1] at hb2t hb2d
    refine ⟨b2, ?_, hb2l.trans hb1l, by rw [hb2t, hb1t, List.append_assoc]; rfl, hb2d⟩
    rw [iter_inl n' (s' := (pr + 1, pw + 1, b1)) (by
      simp only [rtCopyElemStep, pure_eq_ok, hb1, bind_ok', hagain, List.isEmpty_cons, Bool.not_false, if_true])]
    exact hb2

end Mhd.Str
