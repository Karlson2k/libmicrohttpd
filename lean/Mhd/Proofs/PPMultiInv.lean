/-
  The sub-operations of the multipart machine, case by case: what `find_boundary`,
  `process_multipart_headers`, `process_value_to_boundary`, the `skip_rn` pre-machine and `AGAIN:` return
  in each of their cases, as equations that hold for arbitrary input.
-/
import Mhd.Proofs.PPSpec
import Mhd.Proofs.PPValue
namespace Mhd.PP

/-- fields that the multipart helper functions never touch -/
def Frame (pp pp1 : PP) : Prop :=
  pp1.fault = pp.fault ∧ pp1.nested = pp.nested ∧ pp1.bufferSize = pp.bufferSize ∧ pp1.isUrl = pp.isUrl

theorem frame_with_state (pp : PP) (s : St) : Frame pp { pp with state := s } := ⟨rfl, rfl, rfl, rfl⟩

theorem findByte_none {c : UInt8} : ∀ {l : Bytes}, findByte c l = none → ∀ i : Nat, l[i]? ≠ some c
  | [], _, i => by simp
  | x :: t, h, i => by
    simp only [findByte] at h
    by_cases hx : x = c
    · simp [hx] at h
    · simp only [hx, if_false, Option.map_eq_none_iff] at h
      cases i with
      | zero => simpa using hx
      | succ i => simpa using findByte_none h i

theorem findByte_some {c : UInt8} : ∀ {l : Bytes} {k : Nat}, findByte c l = some k →
    l[k]? = some c ∧ ∀ i, i < k → l[i]? ≠ some c
  | [], k, h => by simp [findByte] at h
  | x :: t, k, h => by
    simp only [findByte] at h
    by_cases hx : x = c
    · simp [hx] at h; subst h; simp [hx]
    · simp only [hx, if_false, Option.map_eq_some_iff] at h
      obtain ⟨k', hk', rfl⟩ := h
      obtain ⟨h1, h2⟩ := findByte_some hk'
      refine ⟨by simpa using h1, ?_⟩
      intro i hi
      cases i with
      | zero => simpa using hx
      | succ i => simpa using h2 i (by omega)

theorem findByte_lt (c : UInt8) (l : Bytes) (k : Nat) (h : findByte c l = some k) : k < l.length :=
  let ⟨hk, _⟩ := List.getElem?_eq_some_iff.mp (findByte_some h).1
  hk

theorem findBoundary_short (pp : PP) (B : Bytes) (ioff : Nat) (next nd : St) (h : pp.buf.length < 2 + B.length)
    (h2 : pp.buf.length ≠ pp.bufferSize) : findBoundary pp B ioff next nd = (pp, ioff, false) := by
  simp only [findBoundary, h, h2, if_true, if_false]

theorem findBoundary_hit (pp : PP) (B : Bytes) (ioff : Nat) (next nd : St) (a' : Bytes)
    (h : pp.buf = sDashDash ++ B ++ a') :
    findBoundary pp B ioff next nd =
      ({ pp with skipRn := .dash, state := next, dashState := nd }, ioff + 2 + B.length, true) := by
  have h1 : ¬ pp.buf.length < 2 + B.length := by
    rw [h, List.length_append, List.length_append]; exact Nat.not_lt.mpr (Nat.le_add_right _ _)
  have h2 : slice pp.buf 0 2 = sDashDash := by rw [h]; simp [slice, sDashDash]
  have h3 : slice pp.buf 2 (2 + B.length) = B := by rw [h]; simp [slice, sDashDash]
  simp [findBoundary, h1, h2, h3]

/-- in `PP_Init` a window that does not start with the delimiter is skipped up to its next `-` -/
theorem findBoundary_skip (pp : PP) (b : Bytes) (ioff : Nat) (next nd : St) (h1 : ¬ pp.buf.length < 2 + b.length)
    (h2 : slice pp.buf 0 2 ≠ sDashDash ∨ slice pp.buf 2 (2 + b.length) ≠ b) (hs : pp.state = .init) :
    ∃ s, 1 ≤ s ∧ s ≤ pp.buf.length ∧ (∀ i, 1 ≤ i → i < s → pp.buf[i]? ≠ some cDash) ∧
      findBoundary pp b ioff next nd = (pp, ioff + s, false) := by
  have h3 : ¬ pp.state ≠ .init := fun h => h hs
  unfold findBoundary
  rw [if_neg h1, if_pos h2, if_neg h3]
  cases hf : findByte cDash pp.buf with
  | none =>
    exact ⟨_, Nat.le_trans (Nat.le_add_right 1 (1 + b.length)) (Nat.add_assoc 1 1 _ ▸ Nat.le_of_not_lt h1), Nat.le_refl _,
      fun i _ _ => findByte_none hf i, rfl⟩
  | some k =>
    have := findByte_lt _ _ _ hf
    cases k with
    | zero => exact ⟨1, Nat.le_refl _, this, fun i h h' => absurd h (Nat.not_le.mpr h'), rfl⟩
    | succ k => exact ⟨k + 1, Nat.succ_pos _, Nat.le_of_lt this, fun i _ h => (findByte_some hf).2 i h, rfl⟩

theorem findBoundary_cases (pp : PP) (b : Bytes) (ioff : Nat) (next nd : St) :
    (∃ k, 0 < k ∧ k ≤ pp.buf.length ∧ findBoundary pp b ioff next nd =
      ({ pp with skipRn := .dash, state := next, dashState := nd }, ioff + k, true)) ∨
    (∃ k, k ≤ pp.buf.length ∧ findBoundary pp b ioff next nd = (pp, ioff + k, false)) ∨
    findBoundary pp b ioff next nd = ({ pp with state := .error }, ioff, false) := by
  by_cases h1 : pp.buf.length < 2 + b.length
  · by_cases h2 : pp.buf.length = pp.bufferSize
    · exact Or.inr (Or.inr (by unfold findBoundary; rw [if_pos h1, if_pos h2]))
    · exact Or.inr (Or.inl ⟨0, Nat.zero_le _, findBoundary_short pp b ioff next nd h1 h2⟩)
  · by_cases h2 : slice pp.buf 0 2 ≠ sDashDash ∨ slice pp.buf 2 (2 + b.length) ≠ b
    · by_cases h3 : pp.state = .init
      · obtain ⟨s, _, hs, _, h⟩ := findBoundary_skip pp b ioff next nd h1 h2 h3
        exact Or.inr (Or.inl ⟨s, hs, h⟩)
      · exact Or.inr (Or.inr (by simp only [findBoundary, h1, h2, h3, ne_eq, not_false_eq_true, if_true, if_false]))
    · refine Or.inl ⟨2 + b.length, Nat.lt_of_lt_of_le Nat.zero_lt_two (Nat.le_add_right _ _), Nat.le_of_not_lt h1, ?_⟩
      simp only [findBoundary, h1, h2, if_false, Nat.add_assoc]

theorem lineEnd_le : ∀ (l : Bytes), lineEnd l ≤ l.length
  | [] => Nat.le_refl _
  | c :: t => by
    simp only [lineEnd]
    split
    · exact Nat.zero_le _
    · exact Nat.succ_le_succ (lineEnd_le t)

def PP.metaOf (pp : PP) : Meta := ⟨pp.cname, pp.cfile, pp.ctype, pp.cenc⟩

/-- what `process_multipart_headers` does to the four metadata strings for one header line -/
def hdrM (m : Meta) (line0 : Bytes) : Meta :=
  let line := cstr line0
  if eqCaselessN hdrDisposition line hdrDisposition.length then
    let rest := line.drop hdrDisposition.length
    { m with key := tryGetValue rest sName m.key, filename := tryGetValue rest sFilename m.filename }
  else
    { m with ctype := tryMatchHeader hdrType line m.ctype, enc := tryMatchHeader hdrEncoding line m.enc }

theorem hdrM_key_some {m : Meta} {ln k : Bytes} (h : m.key = some k) : (hdrM m ln).key = some k := by
  unfold hdrM
  simp only
  split
  · simp [tryGetValue, h]
  · exact h

theorem pmh_wait (pp : PP) (ioff : Nat) (next : St) (h : lineEnd pp.buf = pp.buf.length)
    (h2 : pp.buf.length ≠ pp.bufferSize) : processMultipartHeaders pp ioff next = (pp, ioff, false) := by
  simp only [processMultipartHeaders, h, h2, if_true, if_false]

/-- the empty line that ends the headers (its CR or LF is left to `skip_rn`) -/
theorem pmh_empty (pp : PP) (ioff : Nat) (next : St) (h : lineEnd pp.buf = 0) (hne : pp.buf ≠ [])
    (h2 : 0 ≠ pp.bufferSize) :
    processMultipartHeaders pp ioff next = ({ pp with skipRn := .full, state := next }, ioff, true) := by
  have h3 : ¬ (0 = pp.buf.length) := fun h => hne (List.length_eq_zero_iff.mp h.symm)
  simp only [processMultipartHeaders, h, h2, h3, if_false, if_true]

/-- a header line `buf[0 .. nl)`; a CR leaves an optional LF to `skip_rn` -/
theorem pmh_line (pp : PP) (ioff : Nat) (next : St) (h0 : lineEnd pp.buf ≠ 0)
    (hlt : lineEnd pp.buf < pp.buf.length) (hsz : lineEnd pp.buf ≠ pp.bufferSize) :
    processMultipartHeaders pp ioff next =
      ({ pp with skipRn := if pp.buf[lineEnd pp.buf]? = some cCR then .optN else pp.skipRn,
                 cname := (hdrM pp.metaOf (pp.buf.take (lineEnd pp.buf))).key,
                 cfile := (hdrM pp.metaOf (pp.buf.take (lineEnd pp.buf))).filename,
                 ctype := (hdrM pp.metaOf (pp.buf.take (lineEnd pp.buf))).ctype,
                 cenc := (hdrM pp.metaOf (pp.buf.take (lineEnd pp.buf))).enc,
                 buf := pp.buf.set (lineEnd pp.buf) 0 }, ioff + lineEnd pp.buf + 1, true) := by
  have h3 : lineEnd pp.buf ≠ pp.buf.length := Nat.ne_of_lt hlt
  simp only [processMultipartHeaders, hsz, h3, h0, if_false, List.getElem?_eq_getElem hlt, hdrM, PP.metaOf,
    Option.some.injEq]
  by_cases hc : pp.buf[lineEnd pp.buf] = cCR <;>
    by_cases hd : eqCaselessN hdrDisposition (cstr (pp.buf.take (lineEnd pp.buf))) hdrDisposition.length = true <;>
    simp only [hc, hd, if_true, if_false] <;> rfl

theorem pmh_cases (pp : PP) (ioff : Nat) (next : St) :
    processMultipartHeaders pp ioff next = ({ pp with state := .error }, ioff, false) ∨
    processMultipartHeaders pp ioff next = (pp, ioff, false) ∨
    processMultipartHeaders pp ioff next = ({ pp with skipRn := .full, state := next }, ioff, true) ∨
    ∃ nl rn, ∃ m : Meta, nl < pp.buf.length ∧ processMultipartHeaders pp ioff next =
      ({ pp with skipRn := rn, cname := m.key, cfile := m.filename, ctype := m.ctype, cenc := m.enc,
                 buf := pp.buf.set nl 0 }, ioff + nl + 1, true) := by
  by_cases hsz : lineEnd pp.buf = pp.bufferSize
  · exact Or.inl (by simp only [processMultipartHeaders, hsz, if_true])
  · by_cases h2 : lineEnd pp.buf = pp.buf.length
    · exact Or.inr (Or.inl (pmh_wait pp ioff next h2 (h2 ▸ hsz)))
    · have hlt := Nat.lt_of_le_of_ne (lineEnd_le pp.buf) h2
      by_cases h3 : lineEnd pp.buf = 0
      · exact Or.inr (Or.inr (Or.inl (pmh_empty pp ioff next h3 (by intro h; rw [h] at h2; exact h2 rfl) (h3 ▸ hsz))))
      · exact Or.inr (Or.inr (Or.inr ⟨_, _, _, hlt, pmh_line pp ioff next h3 hlt hsz⟩))

/-- `memchr` on `buf[a .. b)` -/
theorem findByte_slice (c : UInt8) (buf : Bytes) (a b : Nat) (hb : b ≤ buf.length) :
    match findByte c (slice buf a b) with
    | none => ∀ j, j < b - a → buf[a + j]? ≠ some c
    | some k => k < b - a ∧ ∀ j, j < k → buf[a + j]? ≠ some c := by
  cases hf : findByte c (slice buf a b) with
  | none => exact fun j hj => by have := findByte_none hf j; rwa [slice_get, if_pos hj] at this
  | some k =>
    have hk : k < b - a := slice_length buf a b hb ▸ findByte_lt _ _ _ hf
    exact ⟨hk, fun j hj => by
      have := (findByte_some hf).2 j hj
      rwa [slice_get, if_pos (Nat.lt_trans hj hk)] at this⟩

/-- where the inner `while` of `process_value_to_boundary` stops: at the first position from `n` on that
    holds `"\r\n--"` with a byte to spare, else at `buffer_pos - 4`, or (window too short) at `n` itself -/
theorem scanCR_spec (buf : Bytes) (n : Nat) :
    (∀ v, n ≤ v → v + 4 < buf.length → buf[v]? = some cCR → slice buf v (v + 4) = sCRLFDashDash → scanCR buf n ≤ v) ∧
    (if n + 4 < buf.length then
      scanCR buf n + 4 ≤ buf.length ∧
        (scanCR buf n + 4 < buf.length → slice buf (scanCR buf n) (scanCR buf n + 4) = sCRLFDashDash)
     else scanCR buf n = n) := by
  induction n using scanCR.induct (buf := buf) with
  | case1 n h hf =>
    have e : scanCR buf n = buf.length - 4 := by rw [scanCR, dif_pos h]; simp only [hf]
    have hm := findByte_slice cCR buf n (buf.length - 4) (Nat.sub_le _ _)
    rw [hf] at hm
    have h4 : buf.length - 4 + 4 = buf.length := Nat.sub_add_cancel (Nat.le_trans (Nat.le_add_left 4 n) (Nat.le_of_lt h))
    rw [e, if_pos h, h4]
    refine ⟨fun v h1 h2 h3 _ => ?_, Nat.le_refl _, fun h => absurd h (Nat.lt_irrefl _)⟩
    have hv : v - n < buf.length - 4 - n ∧ n + (v - n) = v := by omega
    exact absurd (by rw [hv.2]; exact h3) (hm _ hv.1)
  | case2 n h k hf hs =>
    have e : scanCR buf n = n + k := by rw [scanCR, dif_pos h]; simp only [hf, hs, if_true]
    have hm := findByte_slice cCR buf n (buf.length - 4) (Nat.sub_le _ _)
    rw [hf] at hm
    rw [e, if_pos h]
    refine ⟨fun v h1 h2 h3 _ => Nat.le_of_not_lt fun hlt => ?_, by have := hm.1; omega, fun _ => hs⟩
    have hv : v - n < k ∧ n + (v - n) = v := by omega
    exact absurd (by rw [hv.2]; exact h3) (hm.2 _ hv.1)
  | case3 n h k hf hs ih =>
    have e : scanCR buf n = scanCR buf (n + k + 1) := by rw [scanCR, dif_pos h]; simp only [hf, hs, if_false]
    have hm := findByte_slice cCR buf n (buf.length - 4) (Nat.sub_le _ _)
    rw [hf] at hm
    rw [e, if_pos h]
    refine ⟨fun v h1 h2 h3 h4 => ih.1 v (Nat.le_of_not_lt fun hlt => ?_) h2 h3 h4, ?_⟩
    · by_cases hv0 : v = n + k
      · exact hs (hv0 ▸ h4)
      · have hv : v - n < k ∧ n + (v - n) = v := by omega
        exact absurd (by rw [hv.2]; exact h3) (hm.2 _ hv.1)
    · have i3 := ih.2
      have := hm.1
      split at i3
      · exact i3
      · rw [i3]; exact ⟨by omega, fun h => by omega⟩
  | case4 n h =>
    have e : scanCR buf n = n := by rw [scanCR, dif_neg h]
    rw [e, if_neg h]
    exact ⟨fun v h1 _ _ _ => h1, rfl⟩

theorem scanCR_le (buf : Bytes) (n : Nat) (hn : n ≤ buf.length) : scanCR buf n ≤ buf.length := by
  have := (scanCR_spec buf n).2
  split at this
  · omega
  · omega

/-- what the outer loop of `process_value_to_boundary` answers, for any window: a boundary it reports lies
    inside the window; where it stops short of one, the window is too short for a comparison there -/
theorem scanBoundary_bound (buf b : Bytes) (sz : Nat) (n0 : Nat) (hn : n0 ≤ buf.length) :
    match scanBoundary buf b sz n0 with
    | .found nl => nl + b.length + 4 ≤ buf.length
    | .partialAt nl => nl ≤ buf.length ∧ ¬ nl + b.length + 4 ≤ buf.length
    | .oom => True := by
  induction n0 using scanBoundary.induct (buf := buf) (boundary := b) (bufferSize := sz) with
  | case1 n0 nl h hne ih =>
    rw [scanBoundary, dif_pos h, if_pos hne]
    exact ih (by show scanCR buf n0 + 4 ≤ buf.length; omega)
  | case2 n0 nl h hne => rw [scanBoundary, dif_pos h, if_neg hne]; exact h
  | case3 n0 nl h hz => rw [scanBoundary, dif_neg h, if_pos hz]; trivial
  | case4 n0 nl h hz => rw [scanBoundary, dif_neg h, if_neg hz]; exact ⟨scanCR_le buf n0 hn, h⟩

/-- the event that `process_value_to_boundary` hands to the iterator -/
def valEv (q : PP) (nl : Nat) : Event :=
  { key := q.cname, filename := q.cfile, ctype := q.ctype, enc := q.cenc, off := q.valueOffset, data := q.buf.take nl }

/-- the state after the iterator call of `process_value_to_boundary` for `buf[0 .. nl)` -/
def partPP (pp : PP) (nl : Nat) : PP :=
  { pp with evs := pp.evs ++ (if pp.mustIkvi = true ∨ nl ≠ 0 then [valEv pp nl] else []), mustIkvi := false,
            valueOffset := pp.valueOffset + nl }

theorem pvtbDeliver_eq (q : PP) (ioff nl : Nat) (h : nl ≤ q.buf.length) :
    pvtbDeliver q ioff nl = (partPP q nl, ioff + nl, true) := by
  have : ¬ nl > q.buf.length := Nat.not_lt.mpr h
  unfold pvtbDeliver partPP
  simp only [this, if_false]
  by_cases hc : q.mustIkvi = true ∨ nl ≠ 0
  · simp only [hc, if_true, emitMulti, valEv]
  · simp only [hc, if_false, List.append_nil]

theorem pvtb_eq (pp : PP) (ioff : Nat) (b : Bytes) (next nd : St) :
    processValueToBoundary pp ioff b next nd =
      match scanBoundary pp.buf b pp.bufferSize 0 with
      | .oom => ({ pp with state := .error }, ioff, false)
      | .partialAt nl => (partPP pp nl, ioff + nl, true)
      | .found nl => (partPP { pp with skipRn := .dash, state := next, dashState := nd, buf := pp.buf.set nl 0 } nl,
          ioff + b.length + 4 + nl, true) := by
  have hb := scanBoundary_bound pp.buf b pp.bufferSize 0 (Nat.zero_le _)
  unfold processValueToBoundary
  cases hs : scanBoundary pp.buf b pp.bufferSize 0 with
  | oom => rfl
  | partialAt nl => rw [hs] at hb; exact pvtbDeliver_eq pp ioff nl hb.1
  | found nl =>
    rw [hs] at hb
    exact pvtbDeliver_eq _ _ nl (by rw [List.length_set]; omega)

theorem rnFull_cases (q : PP) (l : ML) (hne : q.buf ≠ []) :
    (∃ k rn, 0 < k ∧ k ≤ q.buf.length ∧
      rnFull q l = ({ q with skipRn := rn }, { l with ioff := l.ioff + k }, some .again)) ∨
    rnFull q l = ({ q with skipRn := .inactive, state := .error }, l, some .ret) := by
  obtain ⟨c, t, hb⟩ := List.exists_cons_of_ne_nil hne
  have h1 : 1 ≤ q.buf.length := by rw [hb]; exact Nat.succ_le_succ (Nat.zero_le _)
  unfold rnFull
  rw [hb, List.getElem?_cons_zero]
  show (∃ k rn, _ ∧ _ ∧ (if c = cCR then _ else _) = _) ∨ (if c = cCR then _ else _) = _
  by_cases hc : c = cCR
  · rw [if_pos hc]
    by_cases h2 : (c :: t).length > 1 ∧ (c :: t)[1]? = some cLF
    · rw [if_pos h2]; exact Or.inl ⟨2, _, Nat.zero_lt_two, hb ▸ h2.1, rfl⟩
    · rw [if_neg h2]; exact Or.inl ⟨1, _, Nat.zero_lt_one, hb ▸ h1, rfl⟩
  · rw [if_neg hc]
    by_cases h2 : c = cLF
    · rw [if_pos h2]; exact Or.inl ⟨1, _, Nat.zero_lt_one, hb ▸ h1, rfl⟩
    · rw [if_neg h2]; exact Or.inr rfl

theorem rnDash_cases (q : PP) (l : ML) (hne : q.buf ≠ []) :
    (∃ k rn, 0 < k ∧ k ≤ q.buf.length ∧
      rnDash q l = ({ q with skipRn := rn }, { l with ioff := l.ioff + k }, some .again)) ∨
    rnDash q l = ({ q with skipRn := .inactive, state := .error }, l, some .ret) := by
  obtain ⟨c, t, hb⟩ := List.exists_cons_of_ne_nil hne
  unfold rnDash
  rw [hb, List.getElem?_cons_zero]
  simp only
  split
  · exact Or.inl ⟨1, _, Nat.zero_lt_one, by simp, rfl⟩
  · exact hb ▸ rnFull_cases { q with skipRn := .full } l hne

/-- the outcomes of the `skip_rn` pre-machine on a non-empty window: inactive; one or two bytes consumed
    (the state changes only in `RN_Dash2`, to `dash_state`); a byte that is neither CR nor LF where a line
    end must be; no second dash after a boundary's first -/
theorem rnMachine_cases (pp : PP) (l : ML) (hne : pp.buf ≠ []) :
    rnMachine pp l = (pp, l, none) ∨
    (∃ k rn s, 0 < k ∧ k ≤ pp.buf.length ∧ (s = pp.state ∨ s = pp.dashState) ∧
      rnMachine pp l = ({ pp with skipRn := rn, state := s }, { l with ioff := l.ioff + k }, some .again)) ∨
    (∃ rn, rnMachine pp l = ({ pp with skipRn := rn, state := .error }, l, some .ret)) ∨
    (∃ rn, rnMachine pp l = ({ pp with skipRn := rn, state := .error }, l, none)) := by
  have lift : ∀ r : PP × ML × Option Flow,
      ((∃ k rn, 0 < k ∧ k ≤ pp.buf.length ∧
        r = ({ pp with skipRn := rn }, { l with ioff := l.ioff + k }, some .again)) ∨
      r = ({ pp with skipRn := .inactive, state := .error }, l, some .ret)) →
      r = (pp, l, none) ∨
      (∃ k rn s, 0 < k ∧ k ≤ pp.buf.length ∧ (s = pp.state ∨ s = pp.dashState) ∧
        r = ({ pp with skipRn := rn, state := s }, { l with ioff := l.ioff + k }, some .again)) ∨
      (∃ rn, r = ({ pp with skipRn := rn, state := .error }, l, some .ret)) ∨
      (∃ rn, r = ({ pp with skipRn := rn, state := .error }, l, none)) := by
    rintro r (⟨k, rn, h1, h2, h3⟩ | h)
    · exact Or.inr (Or.inl ⟨k, rn, _, h1, h2, Or.inl rfl, h3⟩)
    · exact Or.inr (Or.inr (Or.inl ⟨_, h⟩))
  obtain ⟨c, t, hb⟩ := List.exists_cons_of_ne_nil hne
  unfold rnMachine
  cases pp.skipRn with
  | inactive => exact Or.inl rfl
  | full => exact lift _ (rnFull_cases pp l hne)
  | dash => exact lift _ (rnDash_cases pp l hne)
  | optN =>
    simp only [rnOptN, hb, List.getElem?_cons_zero]
    split
    · exact Or.inr (Or.inl ⟨1, _, _, Nat.zero_lt_one, by simp, Or.inl rfl, rfl⟩)
    · exact hb ▸ lift _ (rnDash_cases pp l hne)
  | dash2 =>
    simp only [rnDash2, hb, List.getElem?_cons_zero]
    split
    · exact Or.inr (Or.inl ⟨1, _, _, Nat.zero_lt_one, by simp, Or.inr rfl, rfl⟩)
    · exact Or.inr (Or.inr (Or.inr ⟨pp.skipRn, rfl⟩))

theorem again_pos (pp : PP) (l : ML) (h0 : 0 < l.ioff) (h1 : l.ioff ≤ pp.buf.length) :
    again pp l = ({ pp with buf := pp.buf.drop l.ioff }, { l with ioff := 0, stateChanged := true }) := by
  simp only [again, gt_iff_lt, h0, if_true, Nat.not_lt.mpr h1, if_false]

theorem again_zero (pp : PP) (l : ML) (h0 : l.ioff = 0) : again pp l = (pp, l) := by
  simp only [again, h0, gt_iff_lt, Nat.lt_irrefl, if_false]

/-- `AGAIN:` after a pass that asks for another round -/
def mpFin : PP × ML × Flow → PP × ML × Flow
  | (pp3, l4, .again) => let (pp4, l5) := again pp3 l4; (pp4, l5, if pp4.fault.isSome then .ret else .again)
  | r => r

/-- everything after the copy and the out-of-memory test in one iteration of the loop -/
def mpAct (pp1 : PP) (l2 : ML) : PP × ML × Flow :=
  match rnMachine pp1 l2 with
  | (pp2, l3, some .again) => mpFin (pp2, l3, .again)
  | (pp2, l3, some f) => (pp2, l3, f)
  | (pp2, l3, none) => mpFin (mainSwitch pp2 l3)

theorem mpIter_eq (d : Bytes) (pp : PP) (l : ML) :
    mpIter d pp l =
      if pp.buf.length > pp.bufferSize then (pp.setFault "buffer-pos-oob", l, .ret) else
      let max := min (pp.bufferSize - pp.buf.length) (d.length - l.poff)
      let pp1 := { pp with buf := pp.buf ++ slice d l.poff (l.poff + max) }
      let l1 := { l with poff := l.poff + max }
      if max = 0 ∧ l1.stateChanged = false ∧ l1.poff < d.length then ({ pp1 with state := .error }, l1, .ret)
      else mpAct pp1 { l1 with stateChanged := false } := rfl

/-- the first half of an iteration: `mx` bytes of input are copied to the window -/
theorem mpIter_fill (d : Bytes) (pp : PP) (l : ML) (hsz : pp.buf.length ≤ pp.bufferSize) (hpos : 0 < pp.bufferSize)
    (hp : l.poff ≤ d.length) (hne : l.poff < d.length ∨ (0 < pp.buf.length ∧ l.stateChanged = true)) :
    ∃ mx, l.poff + mx ≤ d.length ∧ pp.buf.length + mx ≤ pp.bufferSize ∧
      (l.poff + mx = d.length ∨ pp.buf.length + mx = pp.bufferSize) ∧ 0 < pp.buf.length + mx ∧
      (slice d l.poff (l.poff + mx)).length = mx ∧
      mpIter d pp l =
        if mx = 0 ∧ l.stateChanged = false ∧ l.poff + mx < d.length then
          ({ pp with buf := pp.buf ++ slice d l.poff (l.poff + mx), state := .error }, { l with poff := l.poff + mx }, .ret)
        else mpAct { pp with buf := pp.buf ++ slice d l.poff (l.poff + mx) }
          { l with poff := l.poff + mx, stateChanged := false } := by
  have h3 : min (pp.bufferSize - pp.buf.length) (d.length - l.poff) = pp.bufferSize - pp.buf.length ∨
      min (pp.bufferSize - pp.buf.length) (d.length - l.poff) = d.length - l.poff := by
    rw [Nat.min_def]; split <;> simp
  have e1 : l.poff + min (pp.bufferSize - pp.buf.length) (d.length - l.poff) ≤ d.length :=
    Nat.add_comm _ _ ▸ Nat.add_le_of_le_sub hp (Nat.min_le_right _ _)
  have e2 : pp.buf.length + min (pp.bufferSize - pp.buf.length) (d.length - l.poff) ≤ pp.bufferSize :=
    Nat.add_comm _ _ ▸ Nat.add_le_of_le_sub hsz (Nat.min_le_left _ _)
  refine ⟨_, e1, e2, ?_, ?_, by rw [slice_length d l.poff _ e1, Nat.add_sub_cancel_left],
    by rw [mpIter_eq, if_neg (Nat.not_lt.mpr hsz)]⟩
  · rcases h3 with h | h <;> rw [h]
    · exact Or.inr (Nat.add_sub_cancel' hsz)
    · exact Or.inl (Nat.add_sub_cancel' hp)
  · rcases hne with h | h
    · rcases h3 with h' | h' <;> rw [h'] <;> omega
    · exact Nat.lt_of_lt_of_le h.1 (Nat.le_add_right _ _)

theorem mpFin_again (q : PP) (l' : ML) (hf : q.fault = none) (h : l'.ioff ≤ q.buf.length) :
    mpFin (q, l', .again) =
      ({ q with buf := q.buf.drop l'.ioff },
       { l' with ioff := 0, stateChanged := l'.stateChanged || decide (0 < l'.ioff) }, Flow.again) := by
  unfold mpFin
  have hfs : (q.fault.isSome = true) = False := by rw [hf]; simp
  obtain ⟨io, po, sc⟩ := l'
  cases io with
  | zero => simp only [again_zero q ⟨0, po, sc⟩ rfl, hfs, if_false, Nat.lt_irrefl, decide_false, Bool.or_false]; rfl
  | succ n =>
    simp only [again_pos q ⟨n + 1, po, sc⟩ (Nat.succ_pos n) h, hfs, if_false, Nat.succ_pos, decide_true, Bool.or_true]

end Mhd.PP
