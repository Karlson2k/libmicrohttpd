/-
  C05 — fuel sufficiency: the two loops of the model that are written with an explicit bound
  (`processBody` for the `do … while (instant_retry)` loop of process_request_body, `idleLoop` for the
  `while (! connection->suspended)` loop of MHD_connection_handle_idle) never stop because the bound
  was reached: with any larger bound they return the same result.  No hypothesis on the connection
  record, the application or the environment.
-/
import Mhd.Proofs.ConnSMOps
namespace Mhd.ConnSM
open Mhd.Gen.ConnState Mhd.Protocol

theorem dropJunk_length_le (t : List Tok) : (dropJunk t).length ≤ t.length := by
  induction t with
  | nil => simp [dropJunk]
  | cons a t ih => cases a <;> simp [dropJunk] <;> omega

/-- passes still possible: every pass drops a token, except the one that takes the rest of a chunk
    out of a longer run of payload bytes (and then the chunk is finished) -/
def bodyMeasure {σ} (buf : List Tok) (c : Conn σ) : Nat :=
  2 * buf.length + (if c.haveChunked = true ∧ c.chunkLeft ≠ 0 then 1 else 0)

theorem bodyMeasure_le {σ} (buf : List Tok) (c : Conn σ) : bodyMeasure buf c ≤ 2 * buf.length + 1 := by
  unfold bodyMeasure; split <;> omega

theorem retry_measure {σ} (c c1 : Conn σ) (k taken : Nat) (t : List Tok)
    (h1 : c1.haveChunked = c.haveChunked) (h2 : c1.chunkLeft = c.chunkLeft)
    (hoff : bodyOffer c k ≠ 0)
    (hr : retryNow c k (bodyOffer c k) taken (restAfter k taken t) = true) :
    bodyMeasure (restAfter k taken t) (afterUpload c1 taken) < bodyMeasure (.data k :: t) c := by
  unfold retryNow at hr
  simp only [Bool.and_eq_true, decide_eq_true_eq] at hr
  obtain ⟨⟨⟨hch, hle⟩, htk⟩, _⟩ := hr
  have hoffv : bodyOffer c k = c.chunkLeft := by
    unfold bodyOffer; simp [hch]; omega
  have hne : c.chunkLeft ≠ 0 := by rw [← hoffv]; exact hoff
  unfold bodyMeasure afterUpload restAfter
  simp only [h1, hch, if_true, h2, List.length_cons]
  rw [htk, hoffv]
  by_cases hk : c.chunkLeft = k
  · simp [hk]; split <;> omega
  · simp [hk, hne]

theorem processBody_fuel {σ} (cfg : Cfg) (app : App σ) (env : IdleEnv) :
    ∀ (n m : Nat) (buf : List Tok) (c : Conn σ), bodyMeasure buf c < n → bodyMeasure buf c < m →
      processBody cfg app env n buf c = processBody cfg app env m buf c := by
  intro n
  induction n with
  | zero => intro m buf c h; omega
  | succ n ih =>
    intro m buf c hn hm
    cases m with
    | zero => omega
    | succ m =>
    cases buf with
    | nil => simp only [processBody]
    | cons tok t =>
      have hlen : bodyMeasure (tok :: t) c ≥ 2 * t.length + 2 := by unfold bodyMeasure; simp; omega
      have hrec : ∀ (t' : List Tok) (c' : Conn σ), t'.length ≤ t.length →
          processBody cfg app env n t' c' = processBody cfg app env m t' c' := by
        intro t' c' hl
        have := bodyMeasure_le t' c'
        exact ih m t' c' (by omega) (by omega)
      cases tok with
      | junk =>
        simp only [processBody]
        have := dropJunk_length_le t
        cases hd : dropJunk t with
        | nil => rfl
        | cons a t' => exact hrec _ _ (hd ▸ this)
      | data k =>
        simp only [processBody]
        by_cases hk : k = 0
        · simp only [if_pos hk]; exact hrec _ _ (Nat.le_refl _)
        · simp only [if_neg hk]
          by_cases h1 : c.haveChunked = true ∧ ¬ c.inChunk = true
          · simp only [if_pos h1]
          · simp only [if_neg h1]
            by_cases h2 : bodyOffer c k = 0
            · simp only [if_pos h2]
            · simp only [if_neg h2]
              by_cases h3 : (!(callApp cfg app env c .upload (bodyOffer c k)).2.2.1) = true
              · simp only [if_pos h3]
              · simp only [if_neg h3]
                by_cases h4 : retryNow c k (bodyOffer c k) (callApp cfg app env c .upload (bodyOffer c k)).2.2.2
                    (restAfter k (callApp cfg app env c .upload (bodyOffer c k)).2.2.2 t) = true
                · simp only [if_pos h4]
                  have ha := (callApp_acct cfg app env c .upload (bodyOffer c k)).1
                  have hm' := retry_measure c (callApp cfg app env c .upload (bodyOffer c k)).1 k _ t ha.1 ha.2.1 h2 h4
                  rw [ih m _ _ (Nat.lt_of_lt_of_le hm' (by omega)) (Nat.lt_of_lt_of_le hm' (by omega))]
                · simp only [if_neg h4]
      | chunkEnd =>
        simp only [processBody]
        by_cases h1 : c.haveChunked = true ∧ c.inChunk = true ∧ c.chunkLeft = 0
        · simp only [if_pos h1]
          by_cases h2 : t.isEmpty = true
          · simp only [if_pos h2]
          · simp only [if_neg h2]; exact hrec _ _ (Nat.le_refl _)
        · simp only [if_neg h1]
      | chunkHdr k =>
        simp only [processBody]
        by_cases h1 : c.haveChunked = true ∧ ¬ c.inChunk = true
        · simp only [if_pos h1]
          by_cases h2 : k = 0
          · simp only [if_pos h2]
          · simp only [if_neg h2]
            by_cases h3 : t.isEmpty = true
            · simp only [if_pos h3]
            · simp only [if_neg h3]; exact hrec _ _ (Nat.le_refl _)
        · simp only [if_neg h1]
      | _ => simp only [processBody]

/-- position of a state in one lap of the loop: a lap starts behind the reply header
    (HEADERS_SENT … FULL_REPLY_SENT), goes on with the next request (or the same one after an interim
    reply) from INIT to HEADERS_SENDING, and ends there, in CLOSED or in UPGRADE -/
def lapPos (s : CState) : Nat :=
  if 14 ≤ s.toNat ∧ s.toNat ≤ 21 then s.toNat - 14 else if s.toNat ≤ 13 then s.toNat + 8 else s.toNat

theorem lapPos_low (s : CState) (h : s.toNat ≤ 13) : lapPos s = s.toNat + 8 := by
  unfold lapPos
  rw [if_neg (by omega), if_pos h]

theorem lapPos_reply (s : CState) (h : 14 ≤ s.toNat ∧ s.toNat ≤ 21) : lapPos s = s.toNat - 14 := by
  unfold lapPos
  rw [if_pos h]

theorem lapPos_lt_closed (s : CState) (h : s.toNat ≤ 21) : lapPos s < lapPos .closed := by
  show lapPos s < 22
  unfold lapPos
  split
  · omega
  · split <;> omega

section
variable {σ : Type} {cfg : Cfg} {app : App σ} {env : IdleEnv} {c c0 : Conn σ} {l0 : List LEv}

theorem lap_sub (hs : c.state.toNat ≤ 12)
    (h0 : c0.state = c.state ∨ c0.state = .closed ∨ c0.state = .headersSending ∨
      (c.state = .headersProcessed ∧ c0.state = .startReply)) :
    c0.state = c.state ∨ lapPos c.state < lapPos c0.state := by
  have hl : lapPos c.state ≤ 20 := by rw [lapPos_low _ (by omega)]; omega
  rcases h0 with e | e | e | e
  · exact .inl e
  · exact .inr (e ▸ Nat.lt_of_le_of_lt hl (by decide))
  · exact .inr (e ▸ Nat.lt_of_le_of_lt hl (by decide))
  · exact .inr (by rw [e.1, e.2]; decide)

theorem Mid.lap (m : Mid cfg app env c c0 l0) : c0.state = c.state ∨ lapPos c.state < lapPos c0.state := by
  cases m with
  | start => exact .inl rfl
  | uri hlow =>
    refine .inr ?_
    rw [lapPos_low _ (by omega)]
    exact Nat.lt_of_le_of_lt (Nat.add_le_add_right hlow 8) (show 1 + 8 < lapPos .reqLineReceived by decide)
  | final hst =>
    exact lap_sub (by rw [hst]; decide) ((callConnectionHandler_state cfg app env c .final).imp id (.imp id .inr))
  | body hst =>
    exact lap_sub (by rw [hst]; decide) (((processBody_run cfg app env _ _ c).state hst).imp (·.trans hst.symm) (.imp id .inl))

theorem IdleStep.progress {c1 l} (st : IdleStep cfg app env c (c1, l, .again)) :
    c1.suspended = true ∨ lapPos c.state < lapPos c1.state := by
  have mv : ∀ m ∈ idleMoves, m.2.2 = .again → lapPos m.1 < lapPos m.2.1 := by decide
  have em : ∀ m ∈ errMoves, lapPos m.1 ≤ 18 ∧ m.2.toNat ≤ 12 := by decide
  have fm : ∀ m ∈ firstMoves, m.2 = .again → lapPos .headersProcessed < lapPos m.1 := by decide
  -- the passes that end the loop (`stay`, `kept`, `cleanup`) are not of this form
  cases st with
  | go m hne => exact .inr (m.lap.resolve_left hne)
  | move _ _ hm => exact .inr (mv _ hm rfl)
  | @err c0 s' b _ m hm =>
    -- an error reply from a state before START_REPLY ends in HEADERS_SENDING or CLOSED, the last positions of a lap
    have hl : lapPos c.state ≤ 18 :=
      m.lap.elim (fun e => e ▸ (em _ hm).1) (fun e => Nat.le_of_lt (Nat.lt_of_lt_of_le e (em _ hm).1))
    rcases transmitError_state cfg env { c0 with state := s', buf := b } (em _ hm).2 with e | e <;>
      exact .inr (e ▸ Nat.lt_of_le_of_lt hl (by decide))
  | close h21 => exact .inr (closeError_state _ ▸ lapPos_lt_closed _ h21)
  | headers hst => exact .inr (show _ < lapPos .headersReceived by rw [hst]; decide)
  | parsed hst => exact .inr (show _ < lapPos .headersProcessed by rw [hst]; decide)
  | firstOut hst hne =>
    have h1 := lap_sub (c := c) (by rw [hst]; decide)
      ((callConnectionHandler_state cfg app env c .first).imp id (.imp id .inr))
    exact hne.elim (fun hne => .inr (h1.resolve_left (fun e => hne (e.trans hst)))) .inl
  | first hst _ hm => exact .inr (by rw [hst]; exact fm _ hm rfl)
  | firstDiscard hst => exact .inr (show _ < lapPos .fullReqReceived by rw [hst]; decide)
  | upgrade => exact .inl (dropResp_state _).2
  | interim hst =>
    refine .inr ?_
    show _ < lapPos (dropResp _).1.state
    rw [(dropResp_state _).1]
    show _ < lapPos .headersProcessed
    rw [hst]; decide
  | @reset reuse hst =>
    rcases connectionReset_state c reuse with e | e <;>
      exact .inr (show _ < lapPos (connectionReset c reuse).1.state by rw [e, hst]; decide)

end

/-- passes of the loop still possible from this connection record -/
def idleMeasure {σ} (c : Conn σ) : Nat := if c.suspended = true then 0 else 25 - lapPos c.state

theorem lapPos_le (s : CState) : lapPos s ≤ 23 := by
  unfold lapPos
  cases s <;> simp

theorem idleMeasure_le {σ} (c : Conn σ) : idleMeasure c ≤ 25 := by
  unfold idleMeasure; split <;> omega

theorem idleLoop_fuel {σ} (cfg : Cfg) (app : App σ) (env : IdleEnv) :
    ∀ (n m : Nat) (c : Conn σ), idleMeasure c < n → idleMeasure c < m →
      idleLoop cfg app env n c = idleLoop cfg app env m c := by
  intro n
  induction n with
  | zero => intro m c h; omega
  | succ n ih =>
    intro m c hn hm
    cases m with
    | zero => omega
    | succ m =>
      simp only [idleLoop]
      split
      · rfl
      next hs =>
        generalize hce : idleCase cfg app env c = rr
        obtain ⟨c1, l1, f⟩ := rr
        cases f with
        | again =>
          simp only
          have hlt : idleMeasure c1 < idleMeasure c := by
            have h23 := lapPos_le c1.state
            have h23' := lapPos_le c.state
            unfold idleMeasure
            rw [if_neg hs]
            rcases IdleStep.progress (hce ▸ idleCase_step cfg app env c) with h | h
            · rw [if_pos h]; omega
            · split <;> omega
          rw [ih m c1 (by omega) (by omega)]
        | _ => rfl

theorem idleFuel_sufficient {σ} (cfg : Cfg) (app : App σ) (env : IdleEnv) (c : Conn σ) (n : Nat)
    (h : idleFuel c ≤ n) : idleLoop cfg app env n c = idleLoop cfg app env (idleFuel c) c := by
  have := idleMeasure_le c
  unfold idleFuel at h ⊢
  exact idleLoop_fuel cfg app env _ _ c (by omega) (by omega)

theorem handleIdle_fuel_irrelevant {σ} (cfg : Cfg) (app : App σ) (env : IdleEnv) (c : Conn σ) (n : Nat)
    (h : idleFuel c ≤ n) : handleIdleWith n cfg app env c = handleIdle cfg app env c := by
  show _ = handleIdleWith (idleFuel { c with touched := false }) cfg app env c
  unfold handleIdleWith
  rw [idleFuel_sufficient cfg app env { c with touched := false } n h]

end Mhd.ConnSM
