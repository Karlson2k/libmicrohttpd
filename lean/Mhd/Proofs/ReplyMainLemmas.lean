import Mhd.Proofs.ReplyFields
import Mhd.Proofs.ReplyBody
namespace Mhd.Reply
open Mhd.ReplyStr Mhd.Resp
open Mhd.Http (FieldOK NameOK NoCRLF normField ChunkOK chunkBytes clsOf tesOf connsOf ciEq lower isOWS)
open Mhd.Gen.Reply (sizeUnknown maxChunk)

theorem userFields_mem (c : Conn) (r : Resp) (ka : KA) (props : Props) (hinv : Inv r) (f : Field)
    (hf : f ∈ userFields c r ka props) :
    f.name = sConnection ∨ ∃ h ∈ r.hdrs, h.kind = .header ∧ f = ⟨h.name, h.value⟩ := by
  rcases userFields_split c r ka props hinv with ⟨v, rest, _, hh, _, e⟩ | ⟨_, _, e⟩ <;> rw [e] at hf
  · rcases List.mem_cons.1 hf with rfl | hf
    · exact .inl rfl
    · obtain ⟨h, hm, hk⟩ := mem_sent hf
      exact .inr ⟨h, hh ▸ List.mem_cons_of_mem _ hm, hk⟩
  · exact .inr (mem_sent hf)

theorem userFields_conn (c : Conn) (r : Resp) (ka : KA) (props : Props) (hinv : Inv r) (f : Field)
    (hf : f ∈ userFields c r ka props) (hn : nameIs f.name sConnection = true) :
    ∃ v rest, r.hdrs = ⟨.header, sConnection, v⟩ :: rest ∧ f.value = connPre c r ka ++ v := by
  -- a Connection header among the other entries sent contradicts `cnt sConnection hs = 0`
  have none : ∀ hs : List Hdr, cnt sConnection hs = 0 →
      f ∉ (hs.filter (userSt c r ka props).sends).map fun h => ⟨h.name, h.value⟩ := fun hs h0 hf => by
    obtain ⟨h, hm, hk, rfl⟩ := mem_sent hf
    have := cnt_zero_of_mem _ _ h0 h hm
    rw [isHdr_of_header hk, hn] at this; cases this
  rcases userFields_split c r ka props hinv with ⟨v, rest, _, hh, h0, e⟩ | ⟨_, h0, e⟩ <;> rw [e] at hf
  · rcases List.mem_cons.1 hf with rfl | hf
    · exact ⟨v, rest, hh, rfl⟩
    · exact absurd hf (none rest h0)
  · exact absurd hf (none _ h0)

theorem lower_sCL : sContentLength.map lower = Mhd.Http.nContentLength := by decide
theorem lower_sTE : sTransferEncoding.map lower = Mhd.Http.nTransferEncoding := by decide
theorem lower_sConn : sConnection.map lower = Mhd.Http.nConnection := by decide
theorem lower_sChunked : sChunked.map lower = Mhd.Http.vChunked := by decide

/-- parsing keeps the names, so selecting by name commutes with it -/
theorem filter_parsed (p : Bytes → Bool) (F : List Field) :
    (((F.map toHttp).map normField).filter fun f => p f.name) =
      ((F.filter fun f => p f.name).map toHttp).map normField := by
  rw [List.map_map, List.map_map, List.filter_map]; rfl

theorem filter_bridge (F : List Field) (key lit : Bytes) (hk : key.map lower = lit) :
    (((F.map toHttp).map normField).filter fun f => ciEq f.name lit) =
      ((F.filter fun f => nameIs f.name key).map toHttp).map normField := by
  simp only [← Mhd.Bridge.nameIs_iff _ key lit hk]; exact filter_parsed (nameIs · key) F

theorem clsOf_bridge (F : List Field) :
    clsOf ((F.map toHttp).map normField) = ((F.filter fun f => nameIs f.name sContentLength).map toHttp).map normField :=
  filter_bridge F _ _ lower_sCL
theorem tesOf_bridge (F : List Field) :
    tesOf ((F.map toHttp).map normField) = ((F.filter fun f => nameIs f.name sTransferEncoding).map toHttp).map normField :=
  filter_bridge F _ _ lower_sTE
theorem connsOf_bridge (F : List Field) :
    connsOf ((F.map toHttp).map normField) = ((F.filter fun f => nameIs f.name sConnection).map toHttp).map normField :=
  filter_bridge F _ _ lower_sConn

theorem clsOf_len (F : List Field) : (clsOf ((F.map toHttp).map normField)).length = fcnt sContentLength F := by
  rw [clsOf_bridge]; simp [fcnt]
theorem tesOf_len (F : List Field) : (tesOf ((F.map toHttp).map normField)).length = fcnt sTransferEncoding F := by
  rw [tesOf_bridge]; simp [fcnt]
theorem connsOf_len (F : List Field) : (connsOf ((F.map toHttp).map normField)).length = fcnt sConnection F := by
  rw [connsOf_bridge]; simp [fcnt]

theorem dropOWS_self {v : Bytes} (h : ∀ b ∈ v.head?, isOWS b = false) : v.dropWhile isOWS = v := by
  cases v with
  | nil => rfl
  | cons b t => exact List.dropWhile_cons_of_neg (by rw [h b rfl]; exact Bool.false_ne_true)

theorem isDigit_notOWS {b : UInt8} (h : Mhd.Http.isDigit b = true) : isOWS b = false := by
  unfold isOWS
  have h1 : b ≠ 32 := by intro hh; subst hh; cases h
  have h2 : b ≠ 9 := by intro hh; subst hh; cases h
  simp [h1, h2]

theorem parseDec_digits (v : Bytes) (h0 : v ≠ []) (h : v.all Mhd.Http.isDigit = true) :
    Mhd.Http.parseDec (v.dropWhile isOWS) = some (Mhd.Http.decValue v) := by
  rw [dropOWS_self fun b hb => isDigit_notOWS (List.all_eq_true.1 h b (List.mem_of_mem_head? hb)),
    Mhd.Http.parseDec, h, List.isEmpty_eq_false_iff.2 h0]; rfl

theorem isDigits_parse (v : Bytes) (h : IsDigits v) : (Mhd.Http.parseDec (v.dropWhile isOWS)).isSome = true := by
  rw [parseDec_digits v h.1 (List.all_eq_true.2 fun x hx => by
    have := h.2 x hx; unfold Mhd.Http.isDigit; simp [this.1, this.2])]; rfl

theorem chunked_value (v : Bytes) (h : strEqCaseless v sChunked = true) :
    ciEq (v.dropWhile isOWS) Mhd.Http.vChunked = true := by
  have hm : v.map lower = Mhd.Http.vChunked := by
    rw [← lower_sChunked]; exact (Mhd.Bridge.strEq_iff v sChunked).1 h
  rw [dropOWS_self fun b hb => ?_]
  · exact decide_eq_true hm
  · -- the first byte is a `c` or a `C`
    cases v with
    | nil => cases hb
    | cons x t =>
      cases hb
      have hx : lower b = 99 := (List.cons.inj hm).1
      unfold isOWS
      have h1 : b ≠ 32 := by intro hh; subst hh; revert hx; decide
      have h2 : b ≠ 9 := by intro hh; subst hh; revert hx; decide
      simp [h1, h2]

theorem cl_values (c : Conn) (r : Resp) (date : Option Bytes) (ka : KA) (props : Props) (hinv : Inv r)
    (hsz : r.totalSize < 2 ^ 64) :
    ∀ f ∈ allFields c r date ka props, nameIs f.name sContentLength = true →
      (Mhd.Http.parseDec (normField (toHttp f)).value).isSome = true := by
  intro f hf hn
  rcases mem_allFields hf with ⟨d, _, rfl⟩ | hg | hg | rfl | rfl
  · cases nameIs_date_cl.symm.trans hn
  · rcases (mem_connFields hg).2 with ⟨_, rfl⟩ | ⟨_, rfl⟩ <;> cases nameIs_conn_cl.symm.trans hn
  · rcases userFields_mem c r ka props hinv f hg with h | ⟨h, hm, hk, rfl⟩
    · rw [h, nameIs_conn_cl] at hn; cases hn
    · exact isDigits_parse _ (hinv.clVal h hm (by rw [isHdr_of_header hk]; exact hn))
  · cases nameIs_te_cl.symm.trans hn
  · obtain ⟨s1, s2, _⟩ := sizeDigits_ok r.totalSize hsz
    exact (congrArg Option.isSome (parseDec_digits _ s1 s2)).trans rfl

theorem te_values (c : Conn) (r : Resp) (date : Option Bytes) (ka : KA) (props : Props) (hinv : Inv r) :
    ∀ f ∈ allFields c r date ka props, nameIs f.name sTransferEncoding = true →
      ciEq (normField (toHttp f)).value Mhd.Http.vChunked = true := by
  intro f hf hn
  rcases mem_allFields hf with ⟨d, _, rfl⟩ | hg | hg | rfl | rfl
  · cases nameIs_date_te.symm.trans hn
  · rcases (mem_connFields hg).2 with ⟨_, rfl⟩ | ⟨_, rfl⟩ <;> cases nameIs_conn_te.symm.trans hn
  · rcases userFields_mem c r ka props hinv f hg with h | ⟨h, hm, hk, rfl⟩
    · rw [h, nameIs_conn_te] at hn; cases hn
    · exact chunked_value _ (hinv.teVal h hm (by rw [isHdr_of_header hk]; exact hn))
  · decide
  · cases nameIs_cl_te.symm.trans hn

theorem dropOWS_closePrefix (v : Bytes) (h : ClosePrefix v) : v.dropWhile isOWS = v :=
  dropOWS_self fun b hb => by rcases h with h | ⟨t, h⟩ <;> (subst h; cases hb; rfl)

theorem ciEq_conn : ciEq sConnection Mhd.Http.nConnection = true := by decide

theorem close_in_fields (c : Conn) (r : Resp) (date : Option Bytes) (ka : KA) (props : Props) (hinv : Inv r)
    (hka : ka = .mustClose) :
    Mhd.Http.announcesClose (((allFields c r date ka props).map toHttp).map normField) = true := by
  unfold Mhd.Http.announcesClose
  rw [List.any_eq_true]
  rcases userFields_split c r ka props hinv with ⟨v', rest, hc, hh, _, hu⟩ | ⟨hc', _, _⟩
  · obtain ⟨_, hcp, _⟩ := conn_shape_of r hinv hc hh
    have huc : useConnClose ka = true := by rw [hka]; rfl
    have huk : useConnKAlive c r ka = false := by rw [hka]; rfl
    let val : Bytes := connPre c r ka ++ v'
    have hval : ClosePrefix val := by
      simp only [val, connPre, huc, huk, Bool.true_and]
      by_cases hcc : r.fa.connClose = true
      · simpa [hcc] using hcp hcc
      · have : r.fa.connClose = false := by simpa using hcc
        simp only [this, Bool.not_false, if_true]
        right; exact ⟨v', rfl⟩
    refine ⟨normField (toHttp ⟨sConnection, val⟩), ?_, ?_⟩
    · apply List.mem_map_of_mem
      apply List.mem_map_of_mem
      unfold allFields
      rw [hu]
      simp only [List.mem_append, List.mem_cons]
      exact Or.inl (Or.inr (Or.inl rfl))
    · simp only [normField, toHttp, ciEq_conn, Bool.true_and, dropOWS_closePrefix val hval]
      exact Mhd.Bridge.hasToken_close_of_prefix val hval
  · refine ⟨normField (toHttp ⟨sConnection, sClose⟩), ?_, by decide⟩
    apply List.mem_map_of_mem
    apply List.mem_map_of_mem
    unfold allFields connFields
    simp [hc', hka, useConnClose]

theorem ite_none_some {α : Type} {c : Prop} [Decidable c] {x : Option α} {q : α}
    (h : (if c then none else x) = some q) : ¬ c ∧ x = some q := by
  by_cases hc : c
  · rw [if_pos hc] at h; cases h
  · rw [if_neg hc] at h; exact ⟨hc, h⟩

theorem queue_facts (c : Conn) (st : CState) (allow : Bool) (code0 : Nat) (r : Resp) (q : Queued)
    (h : queueResponse c st false false allow code0 r = some q) :
    100 ≤ q.code ∧ q.code ≤ 999 ∧ (r.flags.headOnly = true → isReplyBodyNeeded c.mthd q.code ≠ .send) ∧
    (r.upgrade = true → q.code = 101) ∧
    q.bodyPretendSent = (c.mthd == .head || decide ((q.code : Int) < Mhd.Gen.Reply.httpOk) ||
      (q.code : Int) == Mhd.Gen.Reply.httpNoContent || (q.code : Int) == Mhd.Gen.Reply.httpNotModified) := by
  unfold queueResponse at h
  simp only at h
  generalize codeOf code0 = code at h
  obtain ⟨_, h⟩ := ite_none_some h
  obtain ⟨_, h⟩ := ite_none_some h
  obtain ⟨_, h⟩ := ite_none_some h
  obtain ⟨_, h⟩ := ite_none_some h
  obtain ⟨h5, h⟩ := ite_none_some h
  obtain ⟨_, h⟩ := ite_none_some h
  obtain ⟨_, h⟩ := ite_none_some h
  obtain ⟨_, h⟩ := ite_none_some h
  obtain ⟨_, h⟩ := ite_none_some h
  obtain ⟨h10, h⟩ := ite_none_some h
  obtain ⟨_, h⟩ := ite_none_some h
  obtain ⟨_, h⟩ := ite_none_some h
  obtain ⟨_, h⟩ := ite_none_some h
  obtain ⟨h14, h⟩ := ite_none_some h
  injection h with h
  subst h
  simp only [Bool.or_eq_true, decide_eq_true_eq, not_or, Nat.not_lt] at h10
  refine ⟨h10.1, h10.2, ?_, ?_, rfl⟩
  · intro hh hs
    apply h14
    simp [hh, hs]
  · intro hu
    show code = 101
    simp [hu, Mhd.Gen.Reply.httpSwitchingProtocols] at h5
    omega
end Mhd.Reply
