/-
  The two number parsers (`MHD_str_to_uint64_n_`, `MHD_strx_to_uint64_n_`) are one loop (`numAux`: base, digit
  test, digit value).  On a run of digits (`numAux_digits`) it yields the value of the run (a left fold, as
  `Framer.decValue` / `Framer.hexValue` and `Mhd.Num` have it) if that fits 64 bits, and `(0, 0)` otherwise,
  whatever follows the run.
-/
import Mhd.Model.FramingRef
import Mhd.Proofs.Numeral
namespace Mhd.Framing
open Mhd.Gen.Framing Framer

/-- `r` does not start with a `p`-byte -/
def Stops (p : UInt8 → Bool) (r : Bytes) : Prop := ∀ c t, r = c :: t → p c = false

theorem mulOvf_iff {base : Nat} (hb : 0 < base) (res d : Nat) (hd : d < base) :
    mulOvf base res d = true ↔ res * base + d > uint64Max := by
  unfold mulOvf
  rw [Bool.or_eq_true, Bool.and_eq_true, decide_eq_true_iff, decide_eq_true_iff, decide_eq_true_iff]
  have hM := Nat.div_add_mod uint64Max base
  have hm := Nat.mod_lt uint64Max hb
  rw [Nat.mul_comm] at hM
  generalize uint64Max / base = q at hM ⊢
  generalize uint64Max % base = m at hM hm ⊢
  rcases Nat.lt_trichotomy res q with h | h | h
  · have := Nat.mul_le_mul_right base (Nat.succ_le_of_lt h); rw [Nat.succ_mul] at this; omega
  · subst h; omega
  · have := Nat.mul_le_mul_right base (Nat.succ_le_of_lt h); rw [Nat.succ_mul] at this; omega

/-- the loop of both number parsers: `(digits consumed, value)`; `(0, 0)` on overflow -/
def numAux (base : Nat) (p : UInt8 → Bool) (val : UInt8 → Nat) : Bytes → Nat → Nat → Nat × Nat
  | [], res, i => (i, res)
  | c :: t, res, i =>
    if p c then
      if mulOvf base res (val c) then (0, 0) else numAux base p val t (res * base + val c) (i + 1)
    else (i, res)

theorem strToU64Aux_eq (s : Bytes) (res i : Nat) :
    strToU64Aux s res i = numAux 10 isDigit (fun c => c.toNat - 48) s res i := by
  induction s generalizing res i with
  | nil => rfl
  | cons c t ih => simp only [strToU64Aux, numAux, ih]

theorem strxAux_eq (s : Bytes) (res i : Nat) :
    strxAux s res i = numAux 16 isHex (fun c => (hexVal c).getD 0) s res i := by
  induction s generalizing res i with
  | nil => rfl
  | cons c t ih => cases h : hexVal c <;> simp [strxAux, numAux, isHex, h, ih]

section
variable {base : Nat} {p : UInt8 → Bool} {val : UInt8 → Nat}

theorem numAux_stop (x : Bytes) (res i : Nat) (hx : Stops p x) : numAux base p val x res i = (i, res) := by
  cases x with
  | nil => rfl
  | cons c r => rw [numAux, if_neg (by rw [hx c r rfl]; exact Bool.false_ne_true)]

theorem numAux_digits (hb : 0 < base) (hval : ∀ c, p c = true → val c < base) (ds x : Bytes) (res i : Nat)
    (hd : ∀ c ∈ ds, p c = true) (hr : res ≤ uint64Max) :
    numAux base p val (ds ++ x) res i =
      if ds.foldl (fun a c => a * base + val c) res ≤ uint64Max
      then numAux base p val x (ds.foldl (fun a c => a * base + val c) res) (i + ds.length) else (0, 0) := by
  induction ds generalizing res i with
  | nil => rw [List.foldl_nil, if_pos hr]; rfl
  | cons c t ih =>
    have hc := hd c List.mem_cons_self
    have hov := mulOvf_iff hb res (val c) (hval c hc)
    rw [List.cons_append, numAux, if_pos hc, List.foldl_cons, List.length_cons, Nat.add_comm t.length, ← Nat.add_assoc]
    by_cases ho : mulOvf base res (val c) = true
    · -- the value only grows along the run
      have := Mhd.Num.foldl_ge base hb val t (res * base + val c)
      rw [if_pos ho, if_neg (Nat.not_le_of_lt (Nat.lt_of_lt_of_le (hov.1 ho) this))]
    · rw [if_neg ho]
      exact ih _ _ (fun d h => hd d (List.mem_cons_of_mem _ h)) (Nat.le_of_not_lt fun h => ho (hov.2 h))
end

theorem hexVal_le (c : UInt8) (d : Nat) (h : hexVal c = some d) : d ≤ 15 := by
  unfold hexVal at h
  split at h
  · rename_i hc; cases h
    have := UInt8.le_iff_toNat_le.mp hc.2; simp at this; omega
  · split at h
    · rename_i hc; cases h
      have := UInt8.le_iff_toNat_le.mp hc.2; simp at this; omega
    · split at h
      · rename_i hc; cases h
        have := UInt8.le_iff_toNat_le.mp hc.2; simp at this; omega
      · cases h

theorem hexVal_lt (c : UInt8) (h : isHex c = true) : (hexVal c).getD 0 < 16 := by
  obtain ⟨d, hd⟩ := Option.isSome_iff_exists.1 h
  rw [hd]; exact Nat.lt_succ_of_le (hexVal_le c d hd)

theorem decVal_lt (c : UInt8) (h : isDigit c = true) : c.toNat - 48 < 10 := by
  simp only [isDigit, Bool.and_eq_true, decide_eq_true_eq] at h
  have : c.toNat ≤ 57 := by simpa using UInt8.le_iff_toNat_le.mp h.2
  omega

theorem strx_run (ds x : Bytes) (hd : ∀ d ∈ ds, isHex d = true) :
    strx (ds ++ x) = if hexValue ds ≤ uint64Max then numAux 16 isHex (fun c => (hexVal c).getD 0) x (hexValue ds) ds.length
                     else (0, 0) := by
  rw [strx, strxAux_eq, numAux_digits (by decide) hexVal_lt ds x 0 0 hd (Nat.zero_le _), Nat.zero_add]; rfl

theorem strx_digits (ds x : Bytes) (hd : ∀ d ∈ ds, isHex d = true)
    (hx : Stops isHex x) (hv : hexValue ds ≤ uint64Max) :
    strx (ds ++ x) = (ds.length, hexValue ds) := by
  rw [strx_run ds x hd, if_pos hv, numAux_stop x _ _ hx]

theorem strx_overflow (ds x : Bytes) (hd : ∀ d ∈ ds, isHex d = true) (hv : uint64Max < hexValue ds) :
    strx (ds ++ x) = (0, 0) := by
  rw [strx_run ds x hd, if_neg (Nat.not_le_of_lt hv)]

/-- `Framer.decValue` started from the accumulator `res` -/
def decFrom (res : Nat) (ds : Bytes) : Nat := ds.foldl (fun a c => a * 10 + (c.toNat - 48)) res

theorem stops_dropWhile (p : UInt8 → Bool) (t : Bytes) : Stops p (t.dropWhile p) := by
  intro c r e
  have := List.head_dropWhile_not p (l := t) (by rw [e]; exact List.cons_ne_nil _ _)
  simpa only [e, List.head_cons] using this

theorem strToU64Aux_spec (t : Bytes) (res i : Nat) (hr : res ≤ uint64Max) :
    strToU64Aux t res i =
      if decFrom res (t.takeWhile isDigit) ≤ uint64Max
      then (i + (t.takeWhile isDigit).length, decFrom res (t.takeWhile isDigit)) else (0, 0) := by
  conv => lhs; rw [← List.takeWhile_append_dropWhile (p := isDigit) (l := t)]
  rw [strToU64Aux_eq, numAux_digits (by decide) decVal_lt _ _ res i (List.all_eq_true.1 List.all_takeWhile) hr,
    numAux_stop _ _ _ (stops_dropWhile isDigit t)]
  rfl

end Mhd.Framing
