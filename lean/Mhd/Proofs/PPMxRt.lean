/-
  Round trip of the multipart machine (form fields and nested multipart/mixed) for EVERY split of the body,
  from one loop iteration (`mpIter_rt`) and quiescence (`stuck_final`) to the complete life of a post
  processor (`multipart_items_roundtrip`; `multipart_roundtrip` for the reference encoder).
-/
import Mhd.Proofs.PPMxStep
import Mhd.Proofs.PPMulti
namespace Mhd.PP

theorem afterB_ne_nil (B : Bytes) (ps : List Item) : afterB B ps ≠ [] := by
  cases ps with
  | nil => simp [afterB]
  | cons it r => rw [afterB_cons]; simp

/-- when the whole stream has been received and the machine is stuck, it is in `PP_Done` and has
    delivered every field: every other phase expects more of the stream -/
theorem stuck_final {c : Cfg} {pp : PP} (hI : MInv c (view pp) pp.skipRn (pp.buf ++ [])) (hq : Stuck c.size pp []) :
    pp.state = .done ∧ Delivers pp.evs (flat c.items) := by
  have hbuf : pp.buf = [] := Decidable.by_contra fun h => hq.2 h rfl
  rw [hbuf] at hI
  have len : ∀ {X Y : Bytes}, X = Y → X.length = Y.length := fun h => congrArg List.length h
  obtain ⟨X, s', hr, hm⟩ := hI
  have hX : X = [] ∧ s' = pp.state := by
    cases hr with
    | inactive _ h => exact ⟨h.symm, rfl⟩
    | optN _ h | crlf _ h | dashes _ h | dash2 _ h => cases h
  obtain ⟨rfl, rfl⟩ := hX
  cases hm with
  | bnd0 pre hs he hm hX2 hpre => have := len hX2; simp [sDashDash] at this
  | hdr ps lines hin hend hd hs hl hX2 => have := len hX2; simp at this
  | chk done it rest hsp hd hs hm hi hX2 =>
    cases it <;> (have := len hX2; simp [itemBody, sCRLFDashDash, sDashDash] at this)
  | val ps p fs0 off hin hfs hfr hs hc hv hm hle hX2 => have := len hX2; simp [sCRLFDashDash] at this
  | bnd ps hin hd hs hc hX2 => have := len hX2; simp [sDashDash] at this
  | fin hd hs hX2 => exact ⟨hs, hd⟩

theorem mpIter_rt (c : Cfg) (hc : CfgOk c) (d future : Bytes) (pp : PP) (l : ML) (T : Bytes) (hM : MPend pp T 0)
    (hb : MBase c pp) (hio : l.ioff = 0) (hpo : l.poff ≤ d.length)
    (hI : MInv c (view pp) pp.skipRn (pp.buf ++ (d.drop l.poff ++ future)))
    (hq : l.stateChanged = false → Stuck c.size pp (d.drop l.poff ++ future))
    (hcond : l.poff < d.length ∨ (pp.buf.length > 0 ∧ l.stateChanged = true)) :
    (mpIter d pp l).2.2 ≠ .ret ∧ MBase c (mpIter d pp l).1 ∧ (mpIter d pp l).2.1.ioff = 0 ∧
    MInv c (view (mpIter d pp l).1) (mpIter d pp l).1.skipRn ((mpIter d pp l).1.buf ++ (d.drop (mpIter d pp l).2.1.poff ++ future)) ∧
    (((mpIter d pp l).2.2 = .gotoEnd ∨ (mpIter d pp l).2.1.stateChanged = false) →
      Stuck c.size (mpIter d pp l).1 (d.drop (mpIter d pp l).2.1.poff ++ future)) ∧
    ((mpIter d pp l).2.2 = .gotoEnd → (mpIter d pp l).2.1.poff = d.length) := by
  obtain ⟨mx, hpm, hfit, hfull, hpos1, hsl, e⟩ := mpIter_fill d pp l hM.size hM.pos hpo hcond
  rw [e, if_neg (fun ⟨h0, hsc, hlt⟩ => by
    have := (hq hsc).1
    rw [← hb.size] at this
    omega)]
  have hI1 : MInv c (view pp) pp.skipRn
      (pp.buf ++ slice d l.poff (l.poff + mx) ++ (d.drop (l.poff + mx) ++ future)) := by
    rw [List.append_assoc, ← List.append_assoc (slice _ _ _), slice_drop_app]
    exact hI
  obtain ⟨a1, a2, a3, a4, a5, a6, a7⟩ := mpAct_spec c hc { pp with buf := pp.buf ++ slice d l.poff (l.poff + mx) }
    { l with poff := l.poff + mx, stateChanged := false } (d.drop (l.poff + mx) ++ future)
    ⟨hb.size, hb.bnd, hb.xbuf, hb.fault⟩ hI1
    (List.ne_nil_of_length_pos (by show 0 < (pp.buf ++ _).length; rw [List.length_append, hsl]; exact hpos1)) hio
  refine ⟨a1, a2, a4, a5 ▸ a3, fun h => a5 ▸ a6 h, fun h => ?_⟩
  have := (a6 (Or.inl h)).1
  rw [a7 h, ← hb.size] at this
  rw [a5]
  refine hfull.resolve_right (fun h' => ?_)
  rw [show (_ : PP).buf = pp.buf ++ slice d l.poff (l.poff + mx) from rfl, List.length_append, hsl, h'] at this
  exact Nat.lt_irrefl _ this

theorem mpLoop_rt (c : Cfg) (hc : CfgOk c) (d future : Bytes) : ∀ (fuel : Nat) (pp : PP) (l : ML) (T : Bytes),
    MPend pp T 0 → MBase c pp → l.ioff = 0 → l.poff ≤ d.length →
    MInv c (view pp) pp.skipRn (pp.buf ++ (d.drop l.poff ++ future)) →
    (l.stateChanged = false → Stuck c.size pp (d.drop l.poff ++ future)) → phi d pp l < fuel →
    (mpLoop fuel d pp l).2.2 ≠ .ret ∧ (mpLoop fuel d pp l).2.1.ioff = 0 ∧ (mpLoop fuel d pp l).2.1.poff = d.length ∧
    MBase c (mpLoop fuel d pp l).1 ∧ MInv c (view (mpLoop fuel d pp l).1) (mpLoop fuel d pp l).1.skipRn ((mpLoop fuel d pp l).1.buf ++ future) ∧
    Stuck c.size (mpLoop fuel d pp l).1 future := by
  intro fuel
  induction fuel with
  | zero => intro pp l T _ _ _ _ _ _ h; omega
  | succ n ih =>
    intro pp l T hM hb hio hpo hI hq hphi
    rw [mpLoop]
    by_cases hcond : l.poff < d.length ∨ (pp.buf.length > 0 ∧ l.stateChanged = true)
    · rw [if_pos hcond]
      obtain ⟨i1, i2, i3, i4, i5, i6⟩ := mpIter_spec d pp l T hM hio hpo hcond
      obtain ⟨r1, r2, r3, r4, r5, r6⟩ := mpIter_rt c hc d future pp l T hM hb hio hpo hI hq hcond
      generalize hit : mpIter d pp l = r at i1 i2 i3 i4 i5 i6 r1 r2 r3 r4 r5 r6
      obtain ⟨pp1, l1, fl⟩ := r
      simp only at i1 i2 i3 i4 i5 i6 r1 r2 r3 r4 r5 r6
      cases fl with
      | again =>
        have i3 : MPend pp1 _ 0 := r3 ▸ i3
        exact ih pp1 l1 _ i3 r2 r3 i1 r4 (fun h => r5 (Or.inr h)) (Nat.lt_of_lt_of_le (i6 rfl) (Nat.le_of_lt_succ hphi))
      | gotoEnd =>
        simp only
        have hp := r6 rfl
        have r5 := r5 (Or.inl rfl)
        rw [hp, List.drop_length, List.nil_append] at r4 r5
        exact ⟨nofun, r3, hp, r2, r4, r5⟩
      | ret => exact absurd rfl r1
    · rw [if_neg hcond]
      have hp : l.poff = d.length := by omega
      refine ⟨by simp, hio, hp, hb, ?_, ?_⟩
      · rw [hp, List.drop_length, List.nil_append] at hI
        exact hI
      · by_cases hbz : pp.buf = []
        · exact ⟨by rw [hbz]; exact Nat.lt_of_le_of_lt (Nat.zero_le _) hc.bs, fun h => absurd hbz h⟩
        · have h := hq (by
            cases hsc : l.stateChanged with
            | false => rfl
            | true => exact absurd (Or.inr ⟨List.length_pos_iff.mpr hbz, hsc⟩) hcond)
          rwa [hp, List.drop_length, List.nil_append] at h

theorem postProcessMultipart_rt (c : Cfg) (hc : CfgOk c) (d future : Bytes) (pp : PP) (T : Bytes) (hM : MPend pp T 0)
    (hb : MBase c pp) (hI : MInv c (view pp) pp.skipRn (pp.buf ++ (d ++ future))) :
    (postProcessMultipart pp d).2 = true ∧ MBase c (postProcessMultipart pp d).1 ∧
    MInv c (view (postProcessMultipart pp d).1) (postProcessMultipart pp d).1.skipRn ((postProcessMultipart pp d).1.buf ++ future) ∧
    Stuck c.size (postProcessMultipart pp d).1 future := by
  unfold postProcessMultipart
  obtain ⟨k1, k2, k3, k4, k5, k6⟩ := mpLoop_rt c hc d future (16 * (d.length + pp.buf.length) + 16) pp {} T hM hb rfl
    (Nat.zero_le _) (by simpa using hI) (by intro h; cases h) (phi_init_lt d pp)
  generalize mpLoop (16 * (d.length + pp.buf.length) + 16) d pp {} = r at k1 k2 k3 k4 k5 k6
  obtain ⟨pp1, l1, fl⟩ := r
  simp only at k1 k2 k3 k4 k5 k6
  have h1 : ¬ l1.ioff > pp1.buf.length := by omega
  have h2 : ¬ l1.ioff ≠ 0 := by omega
  have h3 : ¬ l1.poff < d.length := by omega
  cases fl with
  | ret => exact absurd rfl k1
  | again | gotoEnd => simp only [h1, h2, h3, if_false]; exact ⟨trivial, k4, k5, k6⟩

/-- between two calls: the invariant against the not yet received rest of the stream, and the machine is stuck -/
def MGoodRt (c : Cfg) (pp : PP) (future : Bytes) : Prop :=
  (∃ T, MPend pp T 0) ∧ MBase c pp ∧ MInv c (view pp) pp.skipRn (pp.buf ++ future) ∧ Stuck c.size pp future

theorem feed_rt (c : Cfg) (hc : CfgOk c) (d future : Bytes) (pp : PP) (h : MGoodRt c pp (d ++ future)) :
    (feed pp d).2 = true ∧ MGoodRt c (feed pp d).1 future := by
  obtain ⟨⟨T, hM⟩, hb, hI, hq⟩ := h
  have hfs : pp.fault.isSome = false := by rw [hb.fault]; rfl
  by_cases hd : d.length = 0
  · have : d = [] := List.length_eq_zero_iff.mp hd
    subst this
    simp only [feed, hfs, Bool.false_eq_true, if_false, List.length_nil, if_true]
    exact ⟨trivial, ⟨T, hM⟩, hb, by simpa using hI, hq⟩
  · have hu : pp.isUrl = false := hM.ctl.url
    have hfeed : feed pp d = postProcessMultipart pp d := by simp [feed, hfs, hd, hu]
    rw [hfeed]
    obtain ⟨a1, a2, a3, a4⟩ := postProcessMultipart_rt c hc d future pp T hM hb hI
    obtain ⟨p, _, hM', _⟩ := postProcessMultipart_spec pp d T hM
    exact ⟨a1, ⟨_, hM'⟩, a2, a3, a4⟩

theorem feedAll_rt (c : Cfg) (hc : CfgOk c) (chunks : List Bytes) (pp : PP) (future : Bytes)
    (h : MGoodRt c pp (chunks.flatten ++ future)) :
    MGoodRt c (feedAll pp chunks) future ∧
      ∀ pre ch post, chunks = pre ++ ch :: post → (feed (feedAll pp pre) ch).2 = true :=
  feedAll_fut (MGoodRt c) (fun pp d F => feed_rt c hc d F pp) chunks pp future h

/-- the round trip with a preamble `pre` before the first delimiter in which `"--" ++ B` does not start -/
theorem multipart_items_roundtrip_gen (n : Nat) (ctype : Bytes) (pp0 : PP) (items : List Item) (chunks : List Bytes)
    (pre : Bytes) (hc : create n ctype = some pp0) (hu : pp0.isUrl = false) (hB : 1 ≤ pp0.boundary.length)
    (hit : ∀ it ∈ items, ItemOk (n + 4) pp0.boundary it)
    (hpre : ∀ k, k < pre.length → slice (pre ++ (sDashDash ++ pp0.boundary ++ afterB pp0.boundary items)) k
      (k + (2 + pp0.boundary.length)) ≠ sDashDash ++ pp0.boundary)
    (hch : chunks.flatten = pre ++ encodeItems pp0.boundary items) :
    ∃ pp, run n ctype chunks = some (pp, true) ∧ pp.fault = none ∧ Delivers pp.evs (flat items) ∧
      ∀ pre ch post, chunks = pre ++ ch :: post → (feed (feedAll pp0 pre) ch).2 = true := by
  have hM := create_multipart_mpend n ctype pp0 hc hu
  obtain ⟨b, hbl, rfl⟩ := create_multipart n ctype pp0 hc hu
  have hcfg : CfgOk ⟨b, n + 4, items⟩ := ⟨hB, Nat.add_lt_add_right hbl 4, hit⟩
  have hgood : MGoodRt ⟨b, n + 4, items⟩ _ (chunks.flatten ++ []) :=
    ⟨⟨[], hM⟩, ⟨rfl, rfl, rfl, rfl⟩, by
      rw [List.append_nil, hch]
      exact .main _ _ (.inactive rfl rfl) (.bnd0 pre rfl rfl rfl rfl hpre), Nat.succ_pos _, fun h => absurd rfl h⟩
  obtain ⟨⟨_, hb, hI, hq⟩, hyes⟩ := feedAll_rt _ hcfg chunks _ [] hgood
  obtain ⟨hdone, hdel⟩ := stuck_final hI hq
  refine ⟨_, ?_, hb.fault, hdel, hyes⟩
  simp [run, hc, destroy, hb.fault, hdone, hb.xbuf]


/-- **Round trip for rendered bodies — form fields and nested multipart/mixed containers, every split.** -/
theorem multipart_items_roundtrip (n : Nat) (ctype : Bytes) (pp0 : PP) (items : List Item) (chunks : List Bytes)
    (hc : create n ctype = some pp0) (hu : pp0.isUrl = false) (hB : 1 ≤ pp0.boundary.length)
    (hit : ∀ it ∈ items, ItemOk (n + 4) pp0.boundary it)
    (hch : chunks.flatten = encodeItems pp0.boundary items) :
    ∃ pp, run n ctype chunks = some (pp, true) ∧ pp.fault = none ∧ Delivers pp.evs (flat items) ∧
      ∀ pre ch post, chunks = pre ++ ch :: post → (feed (feedAll pp0 pre) ch).2 = true :=
  multipart_items_roundtrip_gen n ctype pp0 items chunks [] hc hu hB hit (by intro k hk; cases hk) (by simpa using hch)

/-- the preamble condition: `"--" ++ B` does not start inside the preamble (RFC 2046 §5.1.1: the preamble
    is ignored; it normally ends with CRLF) -/
def PreOk (B pre : Bytes) : Prop :=
  occursIn (sDashDash ++ B) (pre ++ (sDashDash ++ B).take ((sDashDash ++ B).length - 1)) = false

def dispLine (p : Part) : Bytes :=
  ofStr "Content-Disposition: form-data; name=\"" ++ p.name ++ [cQuote]
  ++ (match p.filename with | some f => ofStr "; filename=\"" ++ f ++ [cQuote] | none => [])

/-- the header lines of a part as `encPartHeaders` writes them, without their CRLF -/
def hdrLines (p : Part) : List Bytes :=
  dispLine p :: ((match p.ctype with | some t => [ofStr "Content-Type: " ++ t] | none => []) ++
    (match p.enc with | some e => [ofStr "Content-Transfer-Encoding: " ++ e] | none => []))

theorem encPartHeaders_eq (p : Part) : encPartHeaders p = linesEnc (hdrLines p) ++ [cCR, cLF] := by
  show dispLine p ++ sCRLF ++ _ ++ _ ++ sCRLF = _
  unfold hdrLines
  cases p.ctype <;> cases p.enc <;> simp [linesEnc, sCRLF]

def metaP (p : Part) : Meta := ⟨some p.name, p.filename, p.ctype, p.enc⟩
def fieldOf (p : Part) : Meta × Bytes := (metaP p, p.value)
def toItem (p : Part) : Item := .field ⟨hdrLines p, metaP p, p.value⟩

theorem afterB_toItem (B : Bytes) : ∀ ps : List Part, sDashDash ++ B ++ afterB B (ps.map toItem) = encodeMultipart B ps
  | [] => by simp [encodeMultipart, afterB, sDashDash, sCRLF]
  | p :: rest => by
    have ih := afterB_toItem B rest
    simp only [List.map_cons, toItem, afterB, encodeMultipart, encPartHeaders_eq] at ih ⊢
    rw [← ih]
    simp [sDashDash, sCRLF, sCRLFDashDash]

theorem flat_toItem : ∀ ps : List Part, flat (ps.map toItem) = ps.map fieldOf
  | [] => rfl
  | p :: rest => by simp [toItem, flat, rfield, fieldOf, flat_toItem rest]

/-- side conditions on one part of the reference encoding -/
structure PartOk (size : Nat) (p : Part) : Prop where
  lines : ∀ ln ∈ hdrLines p, LineOk size ln
  hdr : (hdrLines p).foldl hdrM none4 = metaP p
  notMixed : ∀ ct, p.ctype = some ct → eqCaselessN ct sMixed sMixed.length = false

/-- **Round trip, single-level multipart/form-data in the reference encoding, every split.** -/
theorem multipart_roundtrip (n : Nat) (ctype : Bytes) (pp0 : PP) (parts : List Part) (chunks : List Bytes)
    (hc : create n ctype = some pp0) (hu : pp0.isUrl = false) (hB : 1 ≤ pp0.boundary.length)
    (hfresh : boundaryFresh pp0.boundary parts = true) (hp : ∀ p ∈ parts, PartOk (n + 4) p)
    (hch : chunks.flatten = encodeMultipart pp0.boundary parts) :
    ∃ pp, run n ctype chunks = some (pp, true) ∧ pp.fault = none ∧ Delivers pp.evs (parts.map fieldOf) ∧
      ∀ pre ch post, chunks = pre ++ ch :: post → (feed (feedAll pp0 pre) ch).2 = true := by
  have hit : ∀ it ∈ parts.map toItem, ItemOk (n + 4) pp0.boundary it := by
    intro it hit
    simp only [List.mem_map] at hit
    obtain ⟨p, hpm, rfl⟩ := hit
    have hpo := hp p hpm
    have hfr : FreshFor pp0.boundary p.value := by
      unfold boundaryFresh at hfresh
      rw [List.all_eq_true] at hfresh
      simpa [FreshFor] using hfresh p hpm
    exact .field _ ⟨hpo.lines, hpo.hdr, hfr⟩ hpo.notMixed
  have := multipart_items_roundtrip n ctype pp0 (parts.map toItem) chunks hc hu hB hit
    (by rw [hch]; exact (afterB_toItem _ _).symm)
  rwa [flat_toItem] at this

end Mhd.PP
