/-
  C17 reference specifications: short recursive functions on byte lists that
  say what each codec *means*.  They are independent of the model (no indices,
  no buffers, no loops; the only import is for the type `Bytes`) and are
  cross-checked by the Python references of tools/props/C17.py on every run.
  Each comes with its unfolding lemmas and the specification-level round-trip
  facts.
-/
import Mhd.Model.Str

namespace Mhd.Str

/-- reference value of a hexadecimal digit -/
def xval (c : UInt8) : Option Nat :=
  if 0x30 ≤ c ∧ c ≤ 0x39 then some (c.toNat - 0x30)
  else if 0x41 ≤ c ∧ c ≤ 0x46 then some (c.toNat - 0x41 + 10)
  else if 0x61 ≤ c ∧ c ≤ 0x66 then some (c.toNat - 0x61 + 10)
  else none

/-- strict percent-decoding (RFC 3986 section 2.1): every '%' must be followed by two hexadecimal digits -/
def pctStrict : Bytes → Option Bytes
  | [] => some []
  | c :: t =>
    if c = 0x25 then
      match t with
      | a :: b :: rest =>
        match xval a, xval b with
        | some h, some l => (pctStrict rest).map (UInt8.ofNat (h * 16 + l) :: ·)
        | _, _ => none
      | _ => none
    else (pctStrict t).map (c :: ·)

/-- lenient: a '%' not followed by two hexadecimal digits is copied as is
    (and only that '%': the following characters are decoded normally);
    the flag says whether that happened -/
def pctLenient : Bytes → Bytes × Bool
  | [] => ([], false)
  | c :: t =>
    if c = 0x25 then
      match t with
      | a :: b :: rest =>
        match xval a, xval b with
        | some h, some l => (UInt8.ofNat (h * 16 + l) :: (pctLenient rest).1, (pctLenient rest).2)
        | _, _ => (c :: (pctLenient (a :: b :: rest)).1, true)
      | [x] => (c :: (pctLenient [x]).1, true)
      | [] => ([c], true)
    else (c :: (pctLenient t).1, (pctLenient t).2)

theorem pctStrict_nil : pctStrict [] = some [] := by rw [pctStrict.eq_def]

theorem pctStrict_cons_ne (c : UInt8) (t : Bytes) (h : c ≠ 0x25) :
    pctStrict (c :: t) = (pctStrict t).map (c :: ·) := by
  rw [pctStrict.eq_def]; simp [h]

theorem pctStrict_pct (a b : UInt8) (rest : Bytes) :
    pctStrict (0x25 :: a :: b :: rest) =
      match xval a, xval b with
      | some h, some l => (pctStrict rest).map (UInt8.ofNat (h * 16 + l) :: ·)
      | _, _ => none := by
  rw [pctStrict.eq_def]; simp

theorem pctStrict_pct_bad (a b : UInt8) (rest : Bytes) (hx : xval a = none ∨ xval b = none) :
    pctStrict (0x25 :: a :: b :: rest) = none := by
  rw [pctStrict_pct]
  rcases hx with hx | hx
  · rw [hx]
  · rw [hx]; cases xval a <;> rfl

theorem pctStrict_pct_ok {a b : UInt8} (rest : Bytes) {hi lo : Nat} (ha : xval a = some hi) (hb : xval b = some lo) :
    pctStrict (0x25 :: a :: b :: rest) = (pctStrict rest).map (UInt8.ofNat (hi * 16 + lo) :: ·) := by
  rw [pctStrict_pct, ha, hb]

theorem pctStrict_pct_short (t : Bytes) (h : t.length < 2) : pctStrict (0x25 :: t) = none := by
  rw [pctStrict.eq_def]
  match t, h with
  | [], _ => simp
  | [_], _ => simp

theorem pctLenient_nil : pctLenient [] = ([], false) := by rw [pctLenient.eq_def]

theorem pctLenient_cons_ne (c : UInt8) (t : Bytes) (h : c ≠ 0x25) :
    pctLenient (c :: t) = (c :: (pctLenient t).1, (pctLenient t).2) := by
  rw [pctLenient.eq_def]; simp [h]

theorem pctLenient_pct_ok (a b : UInt8) (rest : Bytes) (h l : Nat) (ha : xval a = some h) (hb : xval b = some l) :
    pctLenient (0x25 :: a :: b :: rest) = (UInt8.ofNat (h * 16 + l) :: (pctLenient rest).1, (pctLenient rest).2) := by
  rw [pctLenient.eq_def]; simp [ha, hb]

theorem pctLenient_pct_bad (a b : UInt8) (rest : Bytes) (h : xval a = none ∨ xval b = none) :
    pctLenient (0x25 :: a :: b :: rest) = (0x25 :: (pctLenient (a :: b :: rest)).1, true) := by
  rw [pctLenient.eq_def]
  rcases h with h | h
  · simp [h]
  · cases ha : xval a <;> simp [h]

theorem pctLenient_pct_short (t : Bytes) (h : t.length < 2) :
    pctLenient (0x25 :: t) = (0x25 :: (pctLenient t).1, true) := by
  rw [pctLenient.eq_def]
  match t, h with
  | [], _ => simp [pctLenient_nil]
  | [_], _ => simp

theorem pctLenient_last (c : UInt8) : ∃ fl, pctLenient [c] = ([c], fl) := by
  by_cases hc : c = 0x25
  · exact ⟨true, by rw [hc, pctLenient_pct_short [] (Nat.succ_pos 1), pctLenient_nil]⟩
  · exact ⟨false, by rw [pctLenient_cons_ne c [] hc, pctLenient_nil]⟩

theorem pctLenient_cons_pos (c : UInt8) (t : Bytes) : 0 < (pctLenient (c :: t)).1.length := by
  rw [pctLenient.eq_def]
  simp only
  split
  · split
    · split <;> simp
    · simp
    · simp
  · simp

theorem pctStrict_some_induct {P : Bytes → Bytes → Prop} (nil : P [] [])
    (lit : ∀ c t d, c ≠ 0x25 → pctStrict t = some d → P t d → P (c :: t) (c :: d))
    (esc : ∀ a b rest hi lo d, xval a = some hi → xval b = some lo → pctStrict rest = some d → P rest d →
      P (0x25 :: a :: b :: rest) (UInt8.ofNat (hi * 16 + lo) :: d)) :
    ∀ s d, pctStrict s = some d → P s d := by
  intro s
  induction s using pctStrict.induct with
  | case1 => intro d h; rw [pctStrict_nil] at h; cases h; exact nil
  | case2 a b rest hi lo hb ha ih =>
    intro d h
    rw [pctStrict_pct, ha, hb, Option.map_eq_some_iff] at h
    obtain ⟨d', hd', rfl⟩ := h
    exact esc a b rest hi lo d' ha hb hd' (ih d' hd')
  | case3 a b rest hx =>
    intro d h
    rw [pctStrict_pct] at h
    split at h
    · exact (hx _ _ ‹_› ‹_›).elim
    · contradiction
  | case4 t ht =>
    intro d h
    rw [pctStrict.eq_def] at h
    simp only [if_true] at h
    contradiction
  | case5 c t hc ih =>
    intro d h
    rw [pctStrict_cons_ne c t hc, Option.map_eq_some_iff] at h
    obtain ⟨d', hd', rfl⟩ := h
    exact lit c t d' hc hd' (ih d' hd')

theorem pctLenient_of_strict (s d : Bytes) (h : pctStrict s = some d) : pctLenient s = (d, false) :=
  pctStrict_some_induct (P := fun s d => pctLenient s = (d, false)) pctLenient_nil
    (fun c t d hc _ ih => by rw [pctLenient_cons_ne c t hc, ih])
    (fun a b rest hi lo d ha hb _ ih => by rw [pctLenient_pct_ok a b rest hi lo ha hb, ih]) s d h

theorem pctStrict_cons_pos (c : UInt8) (t d : Bytes) (h : pctStrict (c :: t) = some d) : 0 < d.length := by
  have := pctLenient_cons_pos c t
  rwa [pctLenient_of_strict _ _ h] at this

theorem pctStrict_length_le (s d : Bytes) (h : pctStrict s = some d) : d.length ≤ s.length :=
  pctStrict_some_induct (P := fun s d => d.length ≤ s.length) (Nat.le_refl _)
    (fun _ _ _ _ _ ih => Nat.succ_le_succ ih)
    (fun _ _ _ _ _ _ _ _ _ ih => Nat.succ_le_succ (Nat.le_succ_of_le (Nat.le_succ_of_le ih))) s d h

theorem pctLenient_length_le (s : Bytes) : (pctLenient s).1.length ≤ s.length := by
  induction s using pctLenient.induct with
  | case1 => rw [pctLenient_nil]; exact Nat.le_refl _
  | case2 a b rest h l hb ha ih => rw [pctLenient_pct_ok a b rest h l ha hb]; simp only [List.length_cons]; omega
  | case3 a b rest hx ih =>
    have hbad : xval a = none ∨ xval b = none := by
      cases ha : xval a with
      | none => exact .inl rfl
      | some h =>
        cases hb : xval b with
        | none => exact .inr rfl
        | some l => exact (hx h l ha hb).elim
    rw [pctLenient_pct_bad a b rest hbad]; simp only [List.length_cons] at ih ⊢; omega
  | case4 x ih => rw [pctLenient_pct_short [x] (Nat.lt_succ_self 1)]; simp only [List.length_cons] at ih ⊢; omega
  | case5 => rw [pctLenient_pct_short [] (Nat.succ_pos 1), pctLenient_nil]; exact Nat.le_refl _
  | case6 c t hc ih => rw [pctLenient_cons_ne c t hc]; exact Nat.succ_le_succ ih

/-- quoted strings (RFC 7230 section 3.2.6) -/
def quoteSpec : Bytes → Bytes
  | [] => []
  | c :: t => if c = 0x5c ∨ c = 0x22 then 0x5c :: c :: quoteSpec t else c :: quoteSpec t

/-- a backslash makes the next character literal; a trailing lone backslash is an error -/
def unquoteSpec : Bytes → Option Bytes
  | [] => some []
  | c :: t =>
    if c = 0x5c then
      match t with
      | x :: rest => (unquoteSpec rest).map (x :: ·)
      | [] => none
    else (unquoteSpec t).map (c :: ·)

theorem unquoteSpec_nil : unquoteSpec [] = some [] := by rw [unquoteSpec.eq_def]

theorem unquoteSpec_cons_ne (c : UInt8) (t : Bytes) (h : c ≠ 0x5c) :
    unquoteSpec (c :: t) = (unquoteSpec t).map (c :: ·) := by
  rw [unquoteSpec.eq_def]; simp [h]

theorem unquoteSpec_bs (x : UInt8) (rest : Bytes) :
    unquoteSpec (0x5c :: x :: rest) = (unquoteSpec rest).map (x :: ·) := by
  rw [unquoteSpec.eq_def]; simp

theorem unquoteSpec_bs_end : unquoteSpec [0x5c] = none := by
  rw [unquoteSpec.eq_def]; simp

theorem quoteSpec_length_le (s : Bytes) : s.length ≤ (quoteSpec s).length ∧ (quoteSpec s).length ≤ 2 * s.length := by
  induction s with
  | nil => simp [quoteSpec]
  | cons c t ih =>
    by_cases h : c = 0x5c ∨ c = 0x22 <;> simp [quoteSpec, h] <;> omega

theorem unquoteSpec_length_le (q u : Bytes) (h : unquoteSpec q = some u) : u.length ≤ q.length ∧ q.length ≤ 2 * u.length := by
  induction q using unquoteSpec.induct generalizing u with
  | case1 => rw [unquoteSpec_nil] at h; injection h with h; subst h; simp
  | case2 x rest ih =>
    rw [unquoteSpec_bs] at h
    simp only [Option.map_eq_some_iff] at h
    obtain ⟨u', hu', rfl⟩ := h
    have := ih u' hu'; simp; omega
  | case3 => rw [unquoteSpec_bs_end] at h; simp at h
  | case4 c t hc ih =>
    rw [unquoteSpec_cons_ne c t hc] at h
    simp only [Option.map_eq_some_iff] at h
    obtain ⟨u', hu', rfl⟩ := h
    have := ih u' hu'; simp; omega

end Mhd.Str
