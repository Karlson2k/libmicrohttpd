/-
  C07 — upload side (recv_param_adapter, MHD_connection_handle_read, process_request_body without
  chunked encoding): the bytes handed to the application are a prefix of the request body, all of it
  when nothing remains.
-/
import Mhd.Proofs.SendLemmas
namespace Mhd.Send
open Mhd.Gen.Send

/-- upload side: nothing is lost, duplicated or reordered between the socket and the handler -/
structure UpInv (body rest : Bytes) (u : Up) : Prop where
  stream : u.handed ++ u.buf ++ u.pendingIn = body ++ rest
  count : u.handed.length + u.remaining = body.length

theorem upInit_inv (cap : Nat) (body rest : Bytes) : UpInv body rest (upInit cap body rest) := by
  constructor <;> simp [upInit]

theorem recvAdapter_ok {space : Nat} {pend : Bytes} {r : RecvRes} {n : Nat} {got : Bytes}
    (h : recvAdapter false space pend r = (.ok n, got)) : got = pend.take n ∧ n ≤ pend.length := by
  unfold recvAdapter at h
  simp only [Bool.false_eq_true, if_false] at h
  split at h
  · cases h
  · simp only [Prod.mk.injEq, Except.ok.injEq] at h
    obtain ⟨rfl, rfl⟩ := h
    exact ⟨rfl, Nat.zero_le _⟩
  · simp only [Prod.mk.injEq, Except.ok.injEq] at h
    obtain ⟨rfl, rfl⟩ := h
    exact ⟨rfl, Nat.min_le_right _ _⟩

theorem upRead_inv {body rest : Bytes} {u : Up} (h : UpInv body rest u) (r : RecvRes) : UpInv body rest (upRead u r) := by
  unfold upRead
  split
  · exact h
  · split
    · exact h
    · split
      · exact h
      · exact ⟨h.stream, h.count⟩
      · exact ⟨h.stream, h.count⟩
      · rename_i n got _ heq
        obtain ⟨hg, _⟩ := recvAdapter_ok heq
        refine ⟨?_, h.count⟩
        show u.handed ++ (u.buf ++ got) ++ u.pendingIn.drop n = body ++ rest
        rw [hg, ← h.stream]
        simp only [List.append_assoc, List.take_append_drop]

theorem upProcess_inv {body rest : Bytes} {u : Up} (h : UpInv body rest u) (take : Nat) :
    UpInv body rest (upProcess u take) := by
  unfold upProcess
  split
  · exact h
  · simp only []
    generalize hp : min take (if u.remaining < u.buf.length then u.remaining else u.buf.length) = p
    have hle : p ≤ min u.remaining u.buf.length := by rw [← hp, ite_lt_eq_min]; exact Nat.min_le_right _ _
    constructor
    · show (u.handed ++ u.buf.take p) ++ u.buf.drop p ++ u.pendingIn = body ++ rest
      rw [← h.stream, List.append_assoc u.handed, List.take_append_drop]
    · show (u.handed ++ u.buf.take p).length + (u.remaining - p) = body.length
      rw [← h.count, List.length_append, List.length_take, Nat.min_eq_left (Nat.le_trans hle (Nat.min_le_right _ _)),
        Nat.add_assoc, Nat.add_sub_cancel' (Nat.le_trans hle (Nat.min_le_left _ _))]

theorem upRun_inv {body rest : Bytes} : ∀ (ops : List UpOp) (u : Up), UpInv body rest u → UpInv body rest (upRun u ops) :=
  fun ops _ h => List.foldlRecOn ops _ h fun _ hu op _ =>
    match op with
    | .read r => upRead_inv hu r
    | .process t => upProcess_inv hu t

theorem UpInv.handed_prefix {body rest : Bytes} {u : Up} (h : UpInv body rest u) : u.handed <+: body := by
  have hs := h.stream
  have hc := h.count
  have hle : u.handed.length ≤ body.length := by omega
  have : u.handed = (body ++ rest).take u.handed.length := by
    rw [← hs, List.append_assoc, List.take_append, List.take_length, Nat.sub_self, List.take_zero, List.append_nil]
  rw [this, List.take_append, Nat.sub_eq_zero_of_le hle, List.take_zero, List.append_nil]
  exact List.take_prefix _ _

theorem UpInv.complete {body rest : Bytes} {u : Up} (h : UpInv body rest u) (h0 : u.remaining = 0) :
    u.handed = body :=
  h.handed_prefix.eq_of_length (by rw [← h.count, h0]; rfl)

end Mhd.Send
