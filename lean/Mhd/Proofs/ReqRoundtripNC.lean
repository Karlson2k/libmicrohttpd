/-
  Round trip of the header section (C02 clause b): for every record of flags `F : FLFlags`, the
  rendering of any list of fields followed by the empty line is parsed into exactly one element
  per field whose name reads back as sent and whose value reads back as `FieldR.semValue`.
  `FieldR.ok` says which renderings (whitespace before the colon, obs-folds, NUL, bare CR, bare
  LF) `F` accepts; the canonical `name ": " value CRLF` is the rendering `Field.toR`.

  Proof: a line is run in three phases — name, whitespace and colon (`run_head`); the tokens of
  the value part (`run_tok`, `run_toks`, invariant `VRun`); the line end (`run_lineEnd`), where the
  scanner's bookkeeping `vsFold` is related to `trimWs` (`valueSpan_afterValue`).  The section is an
  induction on the fields: the empty line (`run_emptyLine`), then `Parsed.finish` for each line.
-/
import Mhd.Proofs.ReqRoundtrip
namespace Mhd.Req
namespace HSP
open Mhd.Gen

instance (c : UInt8) : Decidable (plain c) := by unfold plain; infer_instance

instance (F : FLFlags) (e : List UInt8) : Decidable (FEol F e) := by unfold FEol; infer_instance

/-- one unit of the value part (everything between ':' and the final line end) -/
inductive VTok where
  | ch (c : UInt8)
  | ws (w : UInt8)
  | fold (eol : List UInt8) (w : UInt8)
  /-- a NUL byte, replaced by a space where `nulAsSp` -/
  | nul
  /-- a bare CR (not followed by LF), replaced by a space where `bareCrAsSp` -/
  | crSp
  /-- a bare CR (not followed by LF), kept as a value byte where `bareCrKeep` (and not `bareCrAsSp`) -/
  | crKeep
  deriving Repr, DecidableEq

/-- the bytes sent -/
def VTok.flat : VTok → List UInt8
  | .ch c => [c]
  | .ws w => [w]
  | .fold eol w => eol ++ [w]
  | .nul => [0]
  | .crSp => [cCR]
  | .crKeep => [cCR]

/-- what the code leaves in the buffer: each byte of the line end of an obs-fold is replaced by a
    space, a NUL and (at the levels that do so) a bare CR too; a kept bare CR stays -/
def VTok.seen : VTok → List UInt8
  | .ch c => [c]
  | .ws w => [w]
  | .fold eol w => List.replicate eol.length cSP ++ [w]
  | .nul => [cSP]
  | .crSp => [cSP]
  | .crKeep => [cCR]

def VTok.ok (F : FLFlags) : VTok → Prop
  | .ch c => plain c
  | .ws w => w = cSP ∨ w = cHT
  | .fold eol w => F.allowFolded = true ∧ FEol F eol ∧ (w = cSP ∨ w = cHT)
  | .nul => F.nulAsSp = true
  | .crSp => F.bareCrAsSp = true
  | .crKeep => F.bareCrAsSp = false ∧ F.bareCrKeep = true

instance (F : FLFlags) (t : VTok) : Decidable (t.ok F) := by
  cases t <;> (unfold VTok.ok; infer_instance)

def VTok.isFold : VTok → Bool
  | .fold _ _ => true
  | _ => false

def VTok.isCr : VTok → Bool
  | .crSp => true
  | .crKeep => true
  | _ => false

/-- context condition of the bare-CR tokens: in `flatMap flat toks ++ tail` no bare CR is directly
    followed by LF (that would be a line end, not a bare CR) -/
def crOK : List VTok → List UInt8 → Bool
  | [], _ => true
  | t :: ts, tail => (!t.isCr || (ts.flatMap VTok.flat ++ tail).head? != some cLF) && crOK ts tail

def isWs (b : UInt8) : Bool := b == cSP || b == cHT

def trimWs (w : List UInt8) : List UInt8 := ((w.dropWhile isWs).reverse.dropWhile isWs).reverse

structure FieldR where
  name : List UInt8
  preColon : List UInt8
  value : List VTok
  eol : List UInt8
  deriving Repr, DecidableEq

def FieldR.render (f : FieldR) : List UInt8 := f.name ++ f.preColon ++ [58] ++ f.value.flatMap VTok.flat ++ f.eol

def FieldR.semValue (f : FieldR) : List UInt8 := trimWs (f.value.flatMap VTok.seen)

def FieldR.ok (F : FLFlags) (f : FieldR) : Prop :=
  f.name ≠ [] ∧ (∀ c ∈ f.name, plain c ∧ c ≠ 58) ∧ (∀ w ∈ f.preColon, w = cSP ∨ w = cHT) ∧
  (f.preColon ≠ [] → F.allowWspBeforeColon = true) ∧ (∀ t ∈ f.value, t.ok F) ∧ FEol F f.eol ∧
  crOK f.value f.eol = true

instance (F : FLFlags) (f : FieldR) : Decidable (f.ok F) := by unfold FieldR.ok; infer_instance

def renderFieldsR : List FieldR → List UInt8
  | [] => []
  | f :: fs => f.render ++ renderFieldsR fs

theorem isWs_iff (c : UInt8) : isWs c = true ↔ (c = cSP ∨ c = cHT) := by simp [isWs]

theorem vsFold_append (a b : List UInt8) (vs ws p : Nat) :
    vsFold vs ws p (a ++ b) = vsFold (vsFold vs ws p a).1 (vsFold vs ws p a).2 (p + a.length) b := by
  induction a generalizing vs ws p with
  | nil => rfl
  | cons c a ih =>
    simp only [List.cons_append, vsFold, List.length_cons]
    have e : p + (a.length + 1) = p + 1 + a.length := by omega
    split <;> (rw [ih, e])

theorem vsFold_allws (w : List UInt8) (vs ws p : Nat) (hp : p ≠ 0) (hw : ∀ c ∈ w, isWs c = true) :
    vsFold vs ws p w = (vs, if w = [] then ws else if ws = 0 then p else ws) := by
  induction w generalizing ws p with
  | nil => rfl
  | cons c w ih =>
    have hc := (isWs_iff c).mp (hw c (by simp))
    simp only [vsFold, hc, ↓reduceIte]
    rw [ih _ _ (by omega) (fun c' hc' => hw c' (by simp [hc']))]
    by_cases hz : ws = 0
    · subst hz; simp; intro _; omega
    · simp [hz]

theorem vsFold_vs (w : List UInt8) (vs ws p : Nat) (hv : vs ≠ 0) : (vsFold vs ws p w).fst = vs := by
  induction w generalizing ws p with
  | nil => rfl
  | cons c w ih =>
    simp only [vsFold]
    split
    · exact ih _ _
    · rw [beq_eq_false_iff_ne.mpr hv, if_neg Bool.false_ne_true]
      exact ih _ _

theorem vsFold_ws (w : List UInt8) (vs ws p : Nat) (hne : w ≠ []) (hl : isWs (w.getLast hne) = false) :
    (vsFold vs ws p w).snd = 0 := by
  induction w generalizing vs ws p with
  | nil => exact absurd rfl hne
  | cons c w ih =>
    cases w with
    | nil =>
      have hc : ¬ (c = cSP ∨ c = cHT) := by rw [← isWs_iff]; simpa using hl
      rw [vsFold, if_neg hc]; rfl
    | cons c2 w2 =>
      rw [List.getLast_cons (List.cons_ne_nil _ _)] at hl
      rw [vsFold]
      split
      · exact ih _ _ _ _ hl
      · exact ih _ _ _ _ hl

theorem trim_decomp (W : List UInt8) : ∃ l m r, W = l ++ (m ++ r) ∧ trimWs W = m ∧
    (∀ c ∈ l, isWs c = true) ∧ (∀ c ∈ r, isWs c = true) ∧
    (∀ hne : m ≠ [], isWs (m.head hne) = false) ∧ (∀ hne : m ≠ [], isWs (m.getLast hne) = false) := by
  refine ⟨W.takeWhile isWs, ((W.dropWhile isWs).reverse.dropWhile isWs).reverse,
    ((W.dropWhile isWs).reverse.takeWhile isWs).reverse, ?_, rfl, ?_, ?_, ?_, ?_⟩
  · rw [← List.reverse_append, List.takeWhile_append_dropWhile, List.reverse_reverse, List.takeWhile_append_dropWhile]
  · exact List.all_eq_true.mp List.all_takeWhile
  · intro c hc; rw [List.mem_reverse] at hc; exact List.all_eq_true.mp List.all_takeWhile c hc
  · intro hne
    generalize hR : W.dropWhile isWs = R at hne ⊢
    have hsplit : R = ((R.reverse.dropWhile isWs).reverse) ++ ((R.reverse.takeWhile isWs).reverse) := by
      rw [← List.reverse_append, List.takeWhile_append_dropWhile, List.reverse_reverse]
    have hRne : R ≠ [] := by
      intro h; subst h; simp at hne
    have h1 : R.head hRne = ((R.reverse.dropWhile isWs).reverse).head hne := by
      conv => lhs; arg 1; rw [hsplit]
      rw [List.head_append_of_ne_nil]
    rw [← h1]
    subst hR
    simpa using List.head_dropWhile_not isWs hRne
  · intro hne
    have hne' : (W.dropWhile isWs).reverse.dropWhile isWs ≠ [] := by
      intro h; rw [h] at hne; simp at hne
    rw [List.getLast_reverse]
    simpa using List.head_dropWhile_not isWs hne'

theorem vsFold_core (m : List UInt8) (hne : m ≠ []) (p ws : Nat) (hp : p ≠ 0)
    (hh : isWs (m.head hne) = false) (hl : isWs (m.getLast hne) = false) :
    vsFold 0 ws p m = (p, 0) := by
  cases m with
  | nil => exact absurd rfl hne
  | cons c m' =>
    have hcw : ¬ (c = cSP ∨ c = cHT) := by rw [← isWs_iff]; simpa using hh
    simp only [vsFold, hcw, ↓reduceIte, beq_self_eq_true]
    apply Prod.ext
    · exact vsFold_vs _ _ _ _ hp
    · cases m' with
      | nil => rfl
      | cons c2 m2 =>
        rw [List.getLast_cons (List.cons_ne_nil _ _)] at hl
        exact vsFold_ws _ _ _ _ _ hl

theorem valueSpan_afterValue (s : HS) (W : List UInt8) (hv : s.valueStart = 0) (hw : s.wsStart = 0) (hp : s.p ≠ 0) :
    ∃ l r, W = l ++ (trimWs W ++ r) ∧
      valueSpan (afterValue s W) = (s.p + l.length + (trimWs W).length, s.p + l.length, (trimWs W).length) := by
  obtain ⟨l, m, r, hW, ht, hl, hr, hh, hla⟩ := trim_decomp W
  rw [ht]
  unfold valueSpan afterValue
  simp only [hv, hw]
  by_cases hm : m = []
  · subst hm
    have hall : ∀ c ∈ W, isWs c = true := by
      intro c hc
      rw [hW, List.nil_append, List.mem_append] at hc
      exact hc.elim (hl c) (hr c)
    refine ⟨W, [], by simp, ?_⟩
    rw [vsFold_allws W _ _ _ hp hall]
    simp
  · refine ⟨l, r, hW, ?_⟩
    have hml : m.length ≠ 0 := fun h => hm (List.eq_nil_of_length_eq_zero h)
    have e : vsFold 0 0 s.p W = (s.p + l.length, if r = [] then 0 else s.p + l.length + m.length) := by
      rw [hW, vsFold_append, vsFold_allws l _ _ _ hp hl, vsFold_append]
      simp only
      rw [vsFold_core m hm _ _ (by omega) (hh hm) (hla hm), vsFold_allws r _ _ _ (by omega) hr]
      simp
    rw [e, if_neg (by simp only; omega)]
    by_cases hre : r = []
    · subst hre
      rw [hW]
      simp only [↓reduceIte, ne_eq, not_true_eq_false, List.append_nil, List.length_append, Prod.mk.injEq, true_and]
      omega
    · simp only [hre, ↓reduceIte, ne_eq]
      rw [if_pos (by omega)]
      simp only [Prod.mk.injEq, true_and]
      omega

theorem afterValue_allws (s : HS) (w : List UInt8) (hp : s.p ≠ 0) (hw : ∀ c ∈ w, isWs c = true) :
    afterValue s w =
      { s with wsStart := if w = [] then s.wsStart else if s.wsStart = 0 then s.p else s.wsStart,
               p := s.p + w.length } := by
  unfold afterValue
  rw [vsFold_allws w _ _ _ hp hw]

theorem run_colon (F : FLFlags) (fs : Nat) (s : HS) (n : Nat) (hc : s.buf[s.rb + s.p]? = some 58)
    (h1 : s.nameEndFound = false) (h2 : s.startsWithWs = false)
    (hn : n = if s.wsStart = 0 then s.p else s.wsStart) (hF : s.wsStart ≠ 0 → F.allowWspBeforeColon = true)
    (hn0 : n ≠ 0) :
    Steps F fs s (named s n (s.p + 1)) := by
  intro hg
  have hlt := get_some_lt hc
  have hws := hg.i1.hws
  exact Steps.step ((hsStep_plain F fs s hc (by decide)).trans
    (onFieldChar_colon F s n h1 h2 hn hF hn0 (by rw [hn]; split <;> omega))) hg

theorem run_head (F : FLFlags) (fs : Nat) (s : HS) (name pre : List UInt8) (hf : Fresh s)
    (hn0 : name ≠ []) (hname : ∀ c ∈ name, plain c ∧ c ≠ 58) (hpre : ∀ w ∈ pre, w = cSP ∨ w = cHT)
    (hF : pre ≠ [] → F.allowWspBeforeColon = true) (hbuf : RLP.BufIs s.buf s.rb (name ++ pre ++ [58])) :
    Steps F fs s (named s name.length (name.length + pre.length + 1)) := by
  have n1 : name.length ≠ 0 := fun h => hn0 (List.eq_nil_of_length_eq_zero h)
  have hpw : ∀ c ∈ pre, isWs c = true := fun c hc => (isWs_iff c).mpr (hpre c hc)
  have r1 := run_name F fs name s name.length (hbuf.left.left.cast (by rw [hf.p]; rfl)) hname hf.f1 hf.f2 hf.f3
    (by rw [hf.p, Nat.zero_add])
  have r2 := run_wsp F fs pre { s with p := name.length } hbuf.left.right hpre n1 (fun h => .inr (hF h))
  rw [afterValue_allws _ pre n1 hpw] at r2
  refine r1.trans (r2.trans (run_colon F fs _ name.length ?_ hf.f1 hf.f2 ?_ ?_ n1))
  · have := hbuf.right 0 (by simp)
    simpa [Nat.add_assoc] using this
  · show name.length = if (if pre = [] then s.wsStart else if s.wsStart = 0 then name.length else s.wsStart) = 0
        then name.length + pre.length else _
    rw [hf.f3]
    by_cases hpe : pre = []
    · simp [hpe]
    · simp [hpe, n1]
  · show (if pre = [] then s.wsStart else _) ≠ 0 → _
    rw [hf.f3]
    by_cases hpe : pre = []
    · rw [if_pos hpe]; intro h; exact absurd rfl h
    · intro _; exact hF hpe

/-- the effect of the value phase on the bytes `W` (as the scanner sees them, i.e. after the
    line ends of folds have been overwritten) -/
def VRun (s s' : HS) (W : List UInt8) : Prop :=
  ∃ buf' n, s' = afterValue { s with buf := buf', crSp := n } W ∧
    WritesIn (s.rb + s.p) (s.rb + s.p + W.length) s.buf buf' ∧ RLP.BufIs buf' (s.rb + s.p) W

theorem VRun.refl (s : HS) : VRun s s [] :=
  ⟨s.buf, s.crSp, rfl, WritesIn.refl _ _ _, fun _ hi => nomatch hi⟩

theorem afterValue_append (s : HS) (a b : List UInt8) : afterValue (afterValue s a) b = afterValue s (a ++ b) := by
  simp only [afterValue, vsFold_append, List.length_append, Nat.add_assoc]

theorem VRun.trans {s s1 s2 : HS} {A B : List UInt8} (h1 : VRun s s1 A) (h2 : VRun s1 s2 B) : VRun s s2 (A ++ B) := by
  obtain ⟨b1, n1, rfl, w1, i1⟩ := h1
  obtain ⟨b2, n2, rfl, w2, i2⟩ := h2
  have w2' : WritesIn (s.rb + s.p + A.length) (s.rb + s.p + A.length + B.length) b1 b2 := by
    rw [Nat.add_assoc s.rb]; exact w2
  refine ⟨b2, n2, ?_, ?_, (i1.writesIn w2' (.inl (Nat.le_refl _))).append (i2.cast (Nat.add_assoc _ _ _).symm)⟩
  · rw [← afterValue_append]; rfl
  · rw [List.length_append, ← Nat.add_assoc]
    exact (w1.mono (Nat.le_refl _) (Nat.le_add_right _ _)).trans (w2'.mono (Nat.le_add_right _ _) (Nat.le_refl _))

theorem flat_len (t : VTok) : t.flat.length = t.seen.length := by
  cases t <;> simp [VTok.flat, VTok.seen]

theorem FEol.length_pos {F : FLFlags} {e : List UInt8} (he : FEol F e) : ∃ k, e.length = k + 1 := by
  rcases he with rfl | ⟨rfl, _⟩
  · exact ⟨1, rfl⟩
  · exact ⟨0, rfl⟩

theorem run_tok (F : FLFlags) (fs : Nat) (t : VTok) (s : HS) (hat : At s t.flat) (hok : t.ok F)
    (h1 : s.nameEndFound = true) (hp0 : s.p ≠ 0)
    (hnext : t.isCr = true → ∃ d, s.buf[s.rb + s.p + 1]? = some d ∧ d ≠ cLF ∧ s.rb + s.p + 2 < s.buf.size) :
    ∃ s', Steps F fs s s' ∧ VRun s s' t.seen := by
  have asWs : ∀ (b : Bytes) (n : Nat) (c : UInt8), c = cSP ∨ c = cHT →
      hsStep F fs s = onFieldWsp F { s with buf := b, crSp := n } →
      WritesIn (s.rb + s.p) (s.rb + s.p + 1) s.buf b → b[s.rb + s.p]? = some c →
      ∃ s', Steps F fs s s' ∧ VRun s s' [c] := by
    intro b n c hc st hw hb
    exact ⟨_, Steps.step (st.trans (onFieldWsp_adv F _ hp0 (.inl h1))), b, n, by rw [afterValue_ws _ [] hc]; rfl, hw,
      .cons hb fun _ h => nomatch h⟩
  have asCh : ∀ (c : UInt8), ¬ (c = cSP ∨ c = cHT) → hsStep F fs s = onFieldChar F s c →
      s.buf[s.rb + s.p]? = some c →
      ∃ s', Steps F fs s s' ∧ VRun s s' [c] := by
    intro c hc st hb
    exact ⟨_, Steps.step (st.trans (onFieldChar_value F s c h1)), s.buf, s.crSp, by rw [afterValue_ch _ [] hc]; rfl,
      WritesIn.refl _ _ _, .cons hb fun _ h => nomatch h⟩
  have wset : WritesIn (s.rb + s.p) (s.rb + s.p + 1) s.buf (s.buf.setIfInBounds (s.rb + s.p) cSP) :=
    (WritesIn.refl _ _ _).set _ _ (Nat.le_refl _) (Nat.lt_succ_self _)
  have gset : ∀ {c : UInt8}, s.buf[s.rb + s.p]? = some c →
      (s.buf.setIfInBounds (s.rb + s.p) cSP)[s.rb + s.p]? = some cSP :=
    fun h => Array.getElem?_setIfInBounds_self_of_lt (get_some_lt h)
  cases t with
  | ch c =>
    have hpl : plain c := hok
    exact asCh c (fun h => h.elim hpl.2.2.1 hpl.2.2.2.1) (hsStep_plain F fs s hat.head hpl) hat.head
  | ws c => exact asWs s.buf s.crSp c hok (hsStep_wsp F fs s hat.head hok) (WritesIn.refl _ _ _) hat.head
  | nul => exact asWs _ s.crSp cSP (.inl rfl) (hsStep_nul F fs s hat.head hok) wset (gset hat.head)
  | crSp =>
    have hF : F.bareCrAsSp = true := hok
    obtain ⟨d, hn, hd, hsz⟩ := hnext rfl
    exact asWs _ (s.crSp + 1) cSP (.inl rfl) ((hsStep_bareCr F fs s hat.head hn hd hsz).trans (if_pos hF)) wset
      (gset hat.head)
  | crKeep =>
    obtain ⟨hF, hK⟩ : F.bareCrAsSp = false ∧ F.bareCrKeep = true := hok
    obtain ⟨d, hn, hd, hsz⟩ := hnext rfl
    exact asCh cCR (by decide) ((hsStep_bareCr F fs s hat.head hn hd hsz).trans
      ((if_neg (by rw [hF]; exact Bool.false_ne_true)).trans (if_neg (by rw [hK]; decide)))) hat.head
  | fold eol w =>
    -- the blanked line end and the whitespace behind it are all whitespace to the following steps
    obtain ⟨hF, he, hw⟩ : F.allowFolded = true ∧ FEol F eol ∧ (w = cSP ∨ w = cHT) := hok
    obtain ⟨b, st, hwr, hb⟩ := hsStep_fold F fs s he hat hw hp0 h1 hF
    obtain ⟨k, hk⟩ := he.length_pos
    simp only [VTok.seen]
    rw [hk, List.replicate_succ, List.cons_append] at hb ⊢
    refine ⟨_, (Steps.step st).trans (run_wsp F fs (List.replicate k cSP ++ [w]) _
      (fun i hi' => by
        have := hb (i + 1) (Nat.succ_lt_succ hi')
        rwa [show s.rb + s.p + (i + 1) = s.rb + (s.p + 1) + i by omega] at this)
      (fun c hc => by
        rcases List.mem_append.mp hc with h | h
        · exact .inl (List.eq_of_mem_replicate h)
        · rw [List.mem_singleton.mp h]; exact hw)
      (Nat.succ_ne_zero _) (fun _ => .inl h1)), b, s.crSp, by rw [afterValue_ws _ _ (.inl rfl)], ?_, hb⟩
    rw [List.length_cons, List.length_append, List.length_replicate, List.length_singleton]
    exact hwr.mono (Nat.le_refl _) (by omega)

theorem next_of_cr (buf : Bytes) (off : Nat) (R : List UInt8) (h : RLP.BufIs buf (off + 1) R) (h2 : 2 ≤ R.length)
    (hh : (R.head? != some cLF) = true) : ∃ d, buf[off + 1]? = some d ∧ d ≠ cLF ∧ off + 2 < buf.size := by
  match R, h2 with
  | d :: d2 :: R', _ =>
    refine ⟨d, h 0 (Nat.zero_lt_succ _), ?_, get_some_lt (h 1 (by simp))⟩
    intro hd; subst hd; simp at hh

theorem crOK_tail (toks : List VTok) (eol x : List UInt8) (he : eol ≠ []) (h : crOK toks eol = true) :
    crOK toks (eol ++ x) = true := by
  -- the byte behind a token is found in the tokens after it or is the first byte of `eol`
  obtain ⟨c, e, rfl⟩ := List.exists_cons_of_ne_nil he
  induction toks with
  | nil => rfl
  | cons t ts ih =>
    simp only [crOK, Bool.and_eq_true, List.cons_append, List.head?_append, List.head?_cons] at h ⊢
    exact ⟨h.1, ih h.2⟩

theorem flatMap_len (toks : List VTok) : (toks.flatMap VTok.flat).length = (toks.flatMap VTok.seen).length := by
  induction toks with
  | nil => rfl
  | cons t ts ih => simp only [List.flatMap_cons, List.length_append, ih, flat_len]

/-- `tail` = the bytes behind the value part (the line end and one more byte) -/
theorem run_toks (F : FLFlags) (fs : Nat) (toks : List VTok) (tail : List UInt8) (ht : 2 ≤ tail.length) (s : HS)
    (hat : At s (toks.flatMap VTok.flat ++ tail)) (hok : ∀ t ∈ toks, t.ok F) (hcr : crOK toks tail = true)
    (h1 : s.nameEndFound = true) (hp0 : s.p ≠ 0) :
    ∃ s', Steps F fs s s' ∧ VRun s s' (toks.flatMap VTok.seen) := by
  induction toks generalizing s with
  | nil => exact ⟨s, .refl s, VRun.refl s⟩
  | cons t ts ih =>
    simp only [List.flatMap_cons, List.append_assoc] at hat ⊢
    have hat' : RLP.BufIs s.buf (s.rb + s.p) (t.flat ++ (ts.flatMap VTok.flat ++ tail)) := hat
    simp only [crOK, Bool.and_eq_true] at hcr
    have hnext : t.isCr = true → ∃ d, s.buf[s.rb + s.p + 1]? = some d ∧ d ≠ cLF ∧ s.rb + s.p + 2 < s.buf.size := by
      intro hc
      have hfl : t.flat.length = 1 := by cases t <;> simp [VTok.isCr] at hc <;> rfl
      have hR := hat'.right
      rw [hfl] at hR
      have hh := hcr.1
      rw [hc] at hh
      exact next_of_cr s.buf (s.rb + s.p) _ hR (by simp only [List.length_append]; omega) (by simpa using hh)
    obtain ⟨s1, r1, v1⟩ := run_tok F fs t s hat'.left (hok t List.mem_cons_self) h1 hp0 hnext
    obtain ⟨b1, n1, e1, w1, i1⟩ := v1
    have hat1 : At s1 (ts.flatMap VTok.flat ++ tail) := by
      rw [e1]
      intro i hi'
      show b1[s.rb + (s.p + t.seen.length) + i]? = _
      rw [w1.2 _ (by omega), ← flat_len, ← Nat.add_assoc]
      exact hat'.right i hi'
    obtain ⟨s2, r2, v2⟩ := ih s1 hat1 (fun t' ht' => hok t' (List.mem_cons_of_mem _ ht')) hcr.2
      (by rw [e1]; exact h1) (by rw [e1]; show s.p + t.seen.length ≠ 0; omega)
    exact ⟨s2, r1.trans r2, VRun.trans ⟨b1, n1, e1, w1, i1⟩ v2⟩

theorem run_lineEnd (F : FLFlags) (fs : Nat) (s : HS) (W e : List UInt8) (d : UInt8) (hg : Good (afterValue s W))
    (h1 : s.nameEndFound = true) (h2 : s.startsWithWs = false) (hv : s.valueStart = 0) (hw : s.wsStart = 0)
    (hp : s.p ≠ 0) (he : FEol F e) (hd : d ≠ cSP ∧ d ≠ cHT) (hW : RLP.BufIs s.buf (s.rb + s.p) W)
    (hat : RLP.BufIs s.buf (s.rb + s.p + W.length) (e ++ [d])) :
    ∃ s' v, Steps F fs (afterValue s W) s' ∧ Fresh s' ∧
      s'.rb = s.rb + (s.p + W.length + e.length) ∧
      WritesIn (s.rb + s.p) (s.rb + s.p + W.length + 1) s.buf s'.buf ∧
      s'.version = s.version ∧ s'.method = s.method ∧
      s'.elems = s.elems ++ [⟨Http.kindHeader, ⟨0, s.rb, s.nameLen⟩, some v⟩] ∧ v.region = 0 ∧
      sliceBytes s'.buf v = trimWs W ∧ s.rb + s.p ≤ v.off ∧ v.off + v.len ≤ s.rb + s.p + W.length := by
  obtain ⟨l, r, hWd, hspan⟩ := valueSpan_afterValue s W hv hw hp
  have hlen : W.length = l.length + ((trimWs W).length + r.length) := by
    conv => lhs; rw [hWd]
    simp only [List.length_append]
  have hat' : At (afterValue s W) (e ++ [d]) := hat.cast (Nat.add_assoc _ _ _)
  have hlt : s.rb + (s.p + W.length) < s.buf.size := by
    have := get_some_lt hat.right.head
    omega
  have e_rb : (afterValue s W).rb = s.rb := rfl
  have st := (hsStep_lineEnd F fs _ he hat' hd (by show s.p + W.length ≠ 0; omega)).trans
    (onLineEnd_field F _ _ h1 h2 hg.i1.hws hlt)
  rw [hspan] at st
  refine ⟨_, ⟨0, s.rb + (s.p + l.length), (trimWs W).length⟩, Steps.step st, ⟨rfl, rfl, rfl, rfl, rfl⟩, rfl,
    (WritesIn.refl _ _ _).set _ _ (by omega) (by omega), rfl, rfl, rfl, rfl, ?_,
    by show s.rb + s.p ≤ s.rb + (s.p + l.length); omega,
    by show s.rb + (s.p + l.length) + (trimWs W).length ≤ _; omega⟩
  apply sliceBytes_eq
  rw [hWd] at hW
  exact (hW.right.left.set _ _ (.inr (by omega))).cast (Nat.add_assoc _ _ _)

theorem run_line_nc (F : FLFlags) (fs : Nat) (s : HS) (f : FieldR) (d : UInt8)
    (hi : Good s) (hf : Fresh s) (hok : f.ok F)
    (hbuf : RLP.BufIs s.buf s.rb (f.render ++ [d])) (hd : d ≠ cSP ∧ d ≠ cHT) :
    ∃ s', Parsed F fs s s' f.render.length (Http.kindHeader, f.name, some f.semValue) := by
  obtain ⟨name, pre, value, eol⟩ := f
  obtain ⟨hn0, hname, hpre, hF, hval, heol, hcr⟩ := hok
  simp only at hn0 hname hpre hF hval heol hcr
  simp only [FieldR.render, FieldR.semValue] at hbuf ⊢
  have hLW := flatMap_len value
  obtain ⟨k, hk⟩ := heol.length_pos
  have hb1 : RLP.BufIs s.buf s.rb (name ++ pre ++ [58]) := hbuf.left.left.left
  have hb2 : RLP.BufIs s.buf (s.rb + (name.length + pre.length + 1)) (value.flatMap VTok.flat ++ (eol ++ [d])) := by
    rw [List.append_assoc, List.append_assoc (name ++ pre ++ [58])] at hbuf
    exact hbuf.right.cast (by simp only [List.length_append, List.length_cons, List.length_nil])
  have r2 := run_head F fs s name pre hf hn0 hname hpre hF hb1
  have wA : WritesIn (s.rb + name.length) (s.rb + name.length + 1) s.buf (s.buf.setIfInBounds (s.rb + name.length) 0) :=
    (WritesIn.refl _ _ _).set _ _ (Nat.le_refl _) (Nat.lt_succ_self _)
  have hb2' : RLP.BufIs (s.buf.setIfInBounds (s.rb + name.length) 0) (s.rb + (name.length + pre.length + 1))
      (value.flatMap VTok.flat ++ (eol ++ [d])) := hb2.set _ _ (.inl (by omega))
  obtain ⟨s3, r3, b3, n3, rfl, w3, i3⟩ := run_toks F fs value (eol ++ [d])
    (by rw [List.length_append, hk]; exact Nat.le_add_left _ _) (named s name.length (name.length + pre.length + 1)) hb2' hval
    (crOK_tail value eol [d] (fun h => by rw [h] at hk; exact Nat.succ_ne_zero k hk.symm) hcr) rfl (Nat.succ_ne_zero _)
  dsimp only [named] at w3 i3
  have hb3 : RLP.BufIs b3 (s.rb + (name.length + pre.length + 1) + (value.flatMap VTok.seen).length) (eol ++ [d]) :=
    (hb2'.right.cast (by rw [hLW])).writesIn w3 (.inr (Nat.le_refl _))
  obtain ⟨s4, v, r4, fr4, e_rb, w4, e_ver, e_me, e_el, v0, hv, v1, v2⟩ := run_lineEnd F fs _ _ eol d
    ((r2.trans r3) hi).1 rfl hf.f2 hf.f4 rfl (Nat.succ_ne_zero _) heol hd i3 hb3
  dsimp only [named] at e_rb w4 e_ver e_me e_el v1 v2
  have wall : WritesIn (s.rb + name.length)
      (s.rb + (name.length + pre.length + 1) + (value.flatMap VTok.seen).length + 1) s.buf s4.buf :=
    (wA.mono (Nat.le_refl _) (by omega)).trans
      ((w3.mono (by omega) (Nat.le_succ _)).trans (w4.mono (by omega) (Nat.le_refl _)))
  refine ⟨s4, r2.trans (r3.trans r4), fr4, ?_, wall.mono (Nat.le_add_right _ _) (by omega), e_ver, e_me, _, e_el, ?_, ?_⟩
  · rw [e_rb]
    simp only [List.length_append, List.length_cons, List.length_nil, hLW]
  · show (Http.kindHeader, sliceBytes s4.buf ⟨0, s.rb, name.length⟩, some (sliceBytes s4.buf v)) = _
    rw [sliceBytes_eq s4.buf s.rb name (hb1.left.left.writesIn wall (.inl (Nat.le_refl _))), hv]
  · exact ⟨Nat.le_refl _, by show s.rb + name.length ≤ s4.rb; omega,
      fun v' hv' => by cases hv'; exact ⟨by omega, by omega⟩, rfl, fun v' hv' => by cases hv'; exact v0⟩

theorem render_head (F : FLFlags) (f : FieldR) (h : f.ok F) (rest : List UInt8) :
    ∃ c t, f.render ++ rest = c :: t ∧ c ≠ cSP ∧ c ≠ cHT := by
  obtain ⟨name, pre, value, eol⟩ := f
  obtain ⟨hn0, hname, _⟩ := h
  simp only at hn0 hname
  cases name with
  | nil => exact absurd rfl hn0
  | cons c t =>
    have := (hname c (by simp)).1
    exact ⟨c, _, by simp only [FieldR.render, List.cons_append]; rfl, this.2.2.1, this.2.2.2.1⟩

theorem feol_head (F : FLFlags) (e : List UInt8) (h : FEol F e) : ∃ c t, e = c :: t ∧ c ≠ cSP ∧ c ≠ cHT := by
  cases h with
  | inl h => exact ⟨cCR, [cLF], h, by decide, by decide⟩
  | inr h => exact ⟨cLF, [], h.1, by decide, by decide⟩

theorem run_emptyLine (F : FLFlags) (fs : Nat) (s : HS) (e : List UInt8) (hg : Good s) (hp : s.p = 0)
    (he : FEol F e) (hb : RLP.BufIs s.buf s.rb e) : Finished F fs s e.length [] := by
  obtain ⟨k, hk⟩ := he.length_pos
  have hsz : s.rb + e.length ≤ s.buf.size := by
    have := get_some_lt ((hb k (by omega)).trans (List.getElem?_eq_getElem (by omega)))
    omega
  have hrb := hg.i1.hrb
  have hle := lastEnd_le s hg.i1.hver hg.i1.helems
  obtain ⟨h, hh, m, _⟩ := finishHeaders_moved (s.consume e.length) fs #[] (by show 2 ≤ s.rb + e.length; omega) hsz
    (by rw [lastElemEnd_consume]; show _ ≤ s.rb + e.length; omega)
  have st : hsStep F fs s = .done (.ok h) :=
    (hsStep_emptyLine F fs s he (hb.cast (by rw [hp]; rfl)) hp).trans hh
  have below := (hsStep_inv2 F fs s hg.i1 hg.i2).2 h st
  exact ⟨h, Scanner.run_done s _ st, below.1, ⟨[], by rw [below.2.2, List.append_nil], rfl⟩, m.hsize, m.high⟩

/-- **Round trip of a header section in any accepted rendering** (every combination of
    strictness flags, any number of fields — also none —, any following bytes).  The parser
    finishes and appends exactly one element per field, in order and with multiplicity, whose
    name and value read back from the final buffer are the name sent and `FieldR.semValue`: the
    value with the surrounding whitespace trimmed, every fold's line end replaced by spaces,
    every NUL / replaced bare CR read as a space. -/
theorem fields_roundtrip_nc (F : FLFlags) (fs : Nat) (fields : List FieldR) (endEol : List UInt8) (hend : FEol F endEol)
    (s : HS) (hg : Good s) (hf : Fresh s) (hok : ∀ f ∈ fields, f.ok F)
    (hbuf : RLP.BufIs s.buf s.rb (renderFieldsR fields ++ endEol)) :
    Finished F fs s ((renderFieldsR fields).length + endEol.length)
      (fields.map (fun f => (Http.kindHeader, f.name, some f.semValue))) := by
  induction fields generalizing s with
  | nil => exact Nat.zero_add _ ▸ run_emptyLine F fs s endEol hg hf.p hend hbuf
  | cons f rest ih =>
    obtain ⟨d, t, hdt, hd1, hd2⟩ : ∃ d t, renderFieldsR rest ++ endEol = d :: t ∧ d ≠ cSP ∧ d ≠ cHT := by
      cases rest with
      | nil => exact feol_head F endEol hend
      | cons f2 r2 =>
        obtain ⟨c, t, h1, h2, h3⟩ := render_head F f2 (hok f2 (by simp)) (renderFieldsR r2 ++ endEol)
        exact ⟨c, t, by rw [← h1, renderFieldsR, List.append_assoc], h2, h3⟩
    rw [renderFieldsR, List.append_assoc] at hbuf
    obtain ⟨s1, p1⟩ := run_line_nc F fs s f d hg hf (hok f List.mem_cons_self)
      (by rw [hdt, ← List.singleton_append, ← List.append_assoc] at hbuf; exact hbuf.left) ⟨hd1, hd2⟩
    have e1 := p1.rb
    rw [renderFieldsR, List.length_append, Nat.add_assoc]
    exact p1.finish hg (ih s1 (p1.steps hg).1 p1.fresh (fun f' hf' => hok f' (List.mem_cons_of_mem _ hf'))
      (by rw [e1]; exact hbuf.right.writesIn p1.buf (.inr (by omega))))

abbrev Field := List UInt8 × List UInt8

/-- a well-formed field: non-empty token-like name, value without CR/LF/NUL and without
    leading or trailing whitespace -/
structure FieldWF (f : Field) : Prop where
  n0 : f.1 ≠ []
  name : ∀ c ∈ f.1, plain c ∧ c ≠ 58
  value : ∀ c ∈ f.2, plain c ∨ c = cSP ∨ c = cHT
  first : ∀ c, f.2.head? = some c → plain c
  last : ∀ hne : f.2 ≠ [], ¬ (f.2.getLast hne = cSP ∨ f.2.getLast hne = cHT)

/-- canonical rendering of one field line -/
def renderField (f : Field) : List UInt8 := f.1 ++ [58, cSP] ++ f.2 ++ [cCR, cLF]

def renderFields : List Field → List UInt8
  | [] => []
  | f :: fs => renderField f ++ renderFields fs

/-- the canonical rendering as a `FieldR`: one space behind the colon, each byte of the value a
    token of its own, CRLF -/
def Field.toR (f : Field) : FieldR :=
  ⟨f.1, [], .ws cSP :: f.2.map (fun c => if isWs c then .ws c else .ch c), [cCR, cLF]⟩

theorem toks_flat (v : List UInt8) :
    (v.map (fun c => if isWs c then VTok.ws c else VTok.ch c)).flatMap VTok.flat = v ∧
    (v.map (fun c => if isWs c then VTok.ws c else VTok.ch c)).flatMap VTok.seen = v := by
  induction v with
  | nil => exact ⟨rfl, rfl⟩
  | cons c v ih =>
    simp only [List.map_cons, List.flatMap_cons, ih.1, ih.2]
    split <;> exact ⟨rfl, rfl⟩

theorem toks_crOK (v : List UInt8) (tail : List UInt8) :
    crOK (v.map (fun c => if isWs c then VTok.ws c else VTok.ch c)) tail = true := by
  induction v with
  | nil => rfl
  | cons c v ih =>
    simp only [List.map_cons, crOK, ih, Bool.and_true]
    split <;> rfl

theorem Field.toR_render (f : Field) : f.toR.render = renderField f := by
  simp only [Field.toR, FieldR.render, renderField, List.flatMap_cons, (toks_flat f.2).1, VTok.flat, List.append_nil,
    List.append_assoc, List.cons_append, List.nil_append]

theorem Field.toR_semValue {f : Field} (h : FieldWF f) : f.toR.semValue = f.2 := by
  have keep : ∀ (R : List UInt8) (hne : R ≠ []), isWs (R.head hne) = false → R.dropWhile isWs = R := by
    intro R hne hR
    cases R with
    | nil => exact absurd rfl hne
    | cons x xs => exact List.dropWhile_cons_of_neg (by simpa using hR)
  simp only [Field.toR, FieldR.semValue, List.flatMap_cons, (toks_flat f.2).2, VTok.seen, List.cons_append,
    List.nil_append, trimWs]
  rw [List.dropWhile_cons_of_pos (by decide)]
  by_cases hv : f.2 = []
  · rw [hv]; rfl
  · have hh : isWs (f.2.head hv) = false := by
      have := h.first (f.2.head hv) (List.head?_eq_some_head hv)
      simp [isWs, this.2.2.1, this.2.2.2.1]
    have hl : isWs (f.2.getLast hv) = false := by
      cases hw : isWs (f.2.getLast hv)
      · rfl
      · exact absurd ((isWs_iff _).mp hw) (h.last hv)
    rw [keep _ hv hh, keep _ (by simpa using hv) (by rw [List.head_reverse]; exact hl), List.reverse_reverse]

theorem Field.toR_ok (F : FLFlags) {f : Field} (h : FieldWF f) : f.toR.ok F := by
  refine ⟨h.n0, h.name, fun _ hw => absurd hw List.not_mem_nil, fun hne => absurd rfl hne, ?_, .inl rfl, ?_⟩
  · intro t ht
    rcases List.mem_cons.mp ht with rfl | ht
    · exact .inl rfl
    · obtain ⟨c, hc, rfl⟩ := List.mem_map.mp ht
      split
      · next hw => exact (isWs_iff c).mp hw
      · next hw => exact (h.value c hc).resolve_right (fun hw' => hw ((isWs_iff c).mpr hw'))
  · show (true && crOK _ _) = true
    rw [toks_crOK]; rfl

theorem renderFieldsR_toR (fields : List Field) : renderFieldsR (fields.map Field.toR) = renderFields fields := by
  induction fields with
  | nil => rfl
  | cons f fs ih => rw [List.map_cons, renderFieldsR, renderFields, ih, Field.toR_render]

/-- `X-A:` HT `va` CRLF SP `l` SP SP LF — optional whitespace after the colon, one obs-fold,
    trailing whitespace, bare LF as the line end -/
def exFieldR : FieldR :=
  ⟨[88, 45, 65], [], [.ws 9, .ch 118, .ch 97, .fold [13, 10] 32, .ch 108, .ws 32, .ws 32], [10]⟩

example : exFieldR.ok (FLFlags.ofLevel 0) := by decide
example : FEol (FLFlags.ofLevel 0) [10] := by decide
/-- not at level 1 (no folds, no bare LF) -/
example : ¬ exFieldR.ok (FLFlags.ofLevel 1) := by decide
example : exFieldR.render = [88, 45, 65, 58, 9, 118, 97, 13, 10, 32, 108, 32, 32, 10] := by decide
/-- the application sees `va   l`: CRLF → two spaces, the continuation's own space kept, the rest trimmed -/
example : exFieldR.semValue = [118, 97, 32, 32, 32, 108] := by decide
/-- whitespace before the colon needs level ≤ -3 -/
example : (⟨[65], [32], [.ch 98], [13, 10]⟩ : FieldR).ok (FLFlags.ofLevel (-3)) ∧
    ¬ (⟨[65], [32], [.ch 98], [13, 10]⟩ : FieldR).ok (FLFlags.ofLevel (-2)) := by decide

/-- the parser state after the 18 bytes of the request line `GET /?a HTTP/1.0`, whatever follows them -/
theorem good_afterReqLine (buf : Bytes) (h : 18 ≤ buf.size) :
    Good { buf := buf, rb := 18, rbSize := 30, elems := [⟨8, ⟨0, 6, 1⟩, none⟩], method := 0, version := 8 } := by
  -- `buf` occurs in no bound: they hold by evaluation
  refine ⟨Inv.start rfl rfl rfl rfl h (Nat.le_of_ble_eq_true rfl) ?_, Inv2.start rfl rfl ?_ ?_⟩
  · intro el hm; rw [List.mem_singleton.mp hm]; decide
  · intro el hm; rw [List.mem_singleton.mp hm]; decide
  · intro el hm sl hsl _
    rw [List.mem_singleton.mp hm] at hsl; simp [Elem.slices] at hsl; subst hsl; exact Nat.le_of_ble_eq_true rfl

/-- the state after the request line `GET /?a HTTP/1.0`, the read buffer holding
    `exFieldR.render`, a second canonical field `B: c` CRLF, the empty line as a bare LF, then `XY` -/
def exStartNC : HS :=
  { buf := #[71, 69, 84, 0, 47, 0, 97, 0, 72, 84, 84, 80, 47, 49, 46, 48, 0, 10,
             88, 45, 65, 58, 9, 118, 97, 13, 10, 32, 108, 32, 32, 10, 66, 58, 32, 99, 13, 10, 10, 88, 89],
    rb := 18, rbSize := 30, elems := [⟨8, ⟨0, 6, 1⟩, none⟩], method := 0, version := 8 }

def exFieldsNC : List FieldR := [exFieldR, ⟨[66], [], [.ws 32, .ch 99], [13, 10]⟩]

theorem exStartNC_good : Good exStartNC := good_afterReqLine _ (by decide)

/-- non-vacuity of `fields_roundtrip_nc`: its hypotheses hold for this input at level 0 -/
example : ∃ h : Headers, (hsScanner (FLFlags.ofLevel 0) 18).run exStartNC = .done (.ok h) ∧ Below h exStartNC.version ∧
    (∃ els, h.elems = exStartNC.elems ++ els ∧
      els.map (elemView h.buf) = [(Http.kindHeader, [88, 45, 65], some [118, 97, 32, 32, 32, 108]),
                                  (Http.kindHeader, [66], some [99])]) := by
  obtain ⟨h, h1, h2, h3, _⟩ := fields_roundtrip_nc (FLFlags.ofLevel 0) 18 exFieldsNC [10] (by decide) exStartNC exStartNC_good
    ⟨rfl, rfl, rfl, rfl, rfl⟩ (by decide) (by unfold RLP.BufIs; decide +kernel)
  exact ⟨h, h1, h2, h3⟩

/-- the same input evaluated (a test on one sample): two elements are appended, the value of the
    first one reads `va   l`; `read_buffer` ends behind the NUL of the last value (37, moved
    back by 2), `header_size` = 39 -/
example :
    (match (hsScanner (FLFlags.ofLevel 0) 18).run exStartNC with
     | .done (.ok h) => (h.rb, h.shifted, h.headerSize) == (37, 2, 39) &&
                        (h.elems.map (elemView h.buf)).drop 1 ==
                          [(1, [88, 45, 65], some [118, 97, 32, 32, 32, 108]), (1, [66], some [99])] &&
                        h.buf.toList.drop h.rb == [88, 89]
     | _ => false) = true := by decide +kernel

/-- `A:b` NUL `c` CR `d` CRLF with the CR replaced by a space: accepted at level -1 (not at 0, and
    not at -3 where a bare CR is kept), the application sees `b c d` -/
def exFieldCr : FieldR := ⟨[65], [], [.ch 98, .nul, .ch 99, .crSp, .ch 100], [13, 10]⟩
example : exFieldCr.ok (FLFlags.ofLevel (-1)) ∧ ¬ exFieldCr.ok (FLFlags.ofLevel 0) ∧
    ¬ exFieldCr.ok (FLFlags.ofLevel (-3)) := by decide
example : exFieldCr.render = [65, 58, 98, 0, 99, 13, 100, 13, 10] ∧ exFieldCr.semValue = [98, 32, 99, 32, 100] := by decide
/-- the same bytes at level -3: the bare CR is kept as a value byte -/
def exFieldCrKeep : FieldR := ⟨[65], [], [.ch 98, .nul, .ch 99, .crKeep, .ch 100], [13, 10]⟩
example : exFieldCrKeep.ok (FLFlags.ofLevel (-3)) ∧ ¬ exFieldCrKeep.ok (FLFlags.ofLevel (-2)) := by decide
example : exFieldCrKeep.render = exFieldCr.render ∧ exFieldCrKeep.semValue = [98, 32, 99, 13, 100] := by decide
/-- the context condition: a CR directly before a bare-LF line end (or before a fold with a bare
    LF) is a CRLF, not a bare CR; before CRLF it is one -/
example : ¬ (⟨[65], [], [.ch 98, .crSp], [10]⟩ : FieldR).ok (FLFlags.ofLevel (-1)) ∧
    ¬ (⟨[65], [], [.ch 98, .crSp, .fold [10] 32, .ch 99], [13, 10]⟩ : FieldR).ok (FLFlags.ofLevel (-1)) ∧
    (⟨[65], [], [.ch 98, .crSp], [13, 10]⟩ : FieldR).ok (FLFlags.ofLevel (-1)) := by decide

/-- the state after `GET /?a HTTP/1.0`, the read buffer holding `exFieldCr.render`, CRLF, `X` -/
def exStartCr : HS :=
  { buf := #[71, 69, 84, 0, 47, 0, 97, 0, 72, 84, 84, 80, 47, 49, 46, 48, 0, 10,
             65, 58, 98, 0, 99, 13, 100, 13, 10, 13, 10, 88],
    rb := 18, rbSize := 30, elems := [⟨8, ⟨0, 6, 1⟩, none⟩], method := 0, version := 8 }

theorem exStartCr_good : Good exStartCr := good_afterReqLine _ (by decide)

/-- non-vacuity with the replacement tokens: the hypotheses of `fields_roundtrip_nc` hold at level -1
    (CR → space) and at level -3 (CR kept) for the same bytes -/
example : (∃ h : Headers, (hsScanner (FLFlags.ofLevel (-1)) 18).run exStartCr = .done (.ok h) ∧
      ∃ els, h.elems = exStartCr.elems ++ els ∧
        els.map (elemView h.buf) = [(Http.kindHeader, [65], some [98, 32, 99, 32, 100])]) ∧
    (∃ h : Headers, (hsScanner (FLFlags.ofLevel (-3)) 18).run exStartCr = .done (.ok h) ∧
      ∃ els, h.elems = exStartCr.elems ++ els ∧
        els.map (elemView h.buf) = [(Http.kindHeader, [65], some [98, 32, 99, 13, 100])]) := by
  constructor
  · obtain ⟨h, h1, _, h3, _⟩ := fields_roundtrip_nc (FLFlags.ofLevel (-1)) 18 [exFieldCr] [13, 10] (by decide) exStartCr exStartCr_good
      ⟨rfl, rfl, rfl, rfl, rfl⟩ (by decide) (by unfold RLP.BufIs; decide +kernel)
    exact ⟨h, h1, h3⟩
  · obtain ⟨h, h1, _, h3, _⟩ := fields_roundtrip_nc (FLFlags.ofLevel (-3)) 18 [exFieldCrKeep] [13, 10] (by decide) exStartCr exStartCr_good
      ⟨rfl, rfl, rfl, rfl, rfl⟩ (by decide) (by unfold RLP.BufIs; decide +kernel)
    exact ⟨h, h1, h3⟩

/-- the same input evaluated at levels -1 and -3 (a test on one sample): the value reads `b c d`
    with one CR replaced (`crSp` = 1), resp. `b c` CR `d` with none replaced -/
example :
    (match (hsScanner (FLFlags.ofLevel (-1)) 18).run exStartCr, (hsScanner (FLFlags.ofLevel (-3)) 18).run exStartCr with
     | .done (.ok h), .done (.ok k) =>
        (h.elems.map (elemView h.buf)).drop 1 == [(1, [65], some [98, 32, 99, 32, 100])] && h.crSp == 1 &&
        (k.elems.map (elemView k.buf)).drop 1 == [(1, [65], some [98, 32, 99, 13, 100])] && k.crSp == 0 &&
        h.headerSize == 29 && h.buf.toList.drop h.rb == [88]
     | _, _ => false) = true := by decide +kernel

end HSP
end Mhd.Req
