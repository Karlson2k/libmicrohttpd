/-
  Round trip of the multipart machine: rendered bodies (`Item`: a form field, or a nested
  `multipart/mixed` container with its files), the encoding re-bracketed the way the machine consumes
  it (`afterB`, `afterN`), the side conditions (`ItemOk`), and the invariant `MInv` that relates the
  state of the post processor to the rest of a well-formed `multipart/form-data` stream.

  The invariant has one shape, lexer mode × phase: `Eats` says what `skip_rn` still takes from the front
  of the stream and in which state the main switch then runs; `MMain` relates that state to what follows.
  The C code has every state twice, for the top level and for the inside of a container; here the level
  is the parameter `Pos` of one phase each, and `Pos.hdrSt` … `Pos.bndNext` are the table of the pairs.
-/
import Mhd.Proofs.PPMpScan
namespace Mhd.PP

/-- one body part as it is rendered: its header lines (without CRLF, any spelling), the metadata the
    application must see, and the value -/
structure RPart where
  lines : List Bytes
  md : Meta
  value : Bytes

inductive Item
  /-- a top-level form field -/
  | field (p : RPart)
  /-- a nested `multipart/mixed` container: its own header lines, the field name, the complete
      Content-Type value `ct` (it ends with `boundary=nb`), the nested boundary, the files -/
  | mixed (lines : List Bytes) (name ct nb : Bytes) (inner : List RPart)

def rfield (p : RPart) : Meta × Bytes := (p.md, p.value)

/-- the fields the application must see, in order -/
def flat : List Item → List (Meta × Bytes)
  | [] => []
  | .field p :: r => rfield p :: flat r
  | .mixed _ _ _ _ inner :: r => inner.map rfield ++ flat r

theorem flat_append : ∀ (a b : List Item), flat (a ++ b) = flat a ++ flat b
  | [], b => rfl
  | .field p :: r, b => by simp [flat, flat_append r b]
  | .mixed _ _ _ _ inner :: r, b => by simp [flat, flat_append r b]

def linesEnc : List Bytes → Bytes
  | [] => []
  | ln :: rest => ln ++ (cCR :: cLF :: linesEnc rest)

def Item.lines : Item → List Bytes
  | .field p => p.lines
  | .mixed ls _ _ _ _ => ls

/-- the metadata strings after the headers of the item have been read -/
def Item.md : Item → Meta
  | .field p => p.md
  | .mixed _ name ct _ _ => ⟨some name, none, some ct, none⟩

/-- what follows `"--" ++ N` inside a nested container; `tl` = what follows its closing delimiter line -/
def afterN (N tl : Bytes) : List RPart → Bytes
  | [] => cDash :: cDash :: cCR :: cLF :: tl
  | q :: qs => cCR :: cLF :: (linesEnc q.lines ++ (cCR :: cLF :: (q.value ++ sCRLFDashDash ++ (N ++ afterN N tl qs))))

/-- what follows `"--" ++ B` at the top level -/
def afterB (B : Bytes) : List Item → Bytes
  | [] => [cDash, cDash, cCR, cLF]
  | .field p :: rest =>
    cCR :: cLF :: (linesEnc p.lines ++ (cCR :: cLF :: (p.value ++ sCRLFDashDash ++ (B ++ afterB B rest))))
  | .mixed ls _ _ nb inner :: rest =>
    cCR :: cLF :: (linesEnc ls ++ (cCR :: cLF :: (sDashDash ++ nb ++ afterN nb (sDashDash ++ B ++ afterB B rest) inner)))

/-- what follows the blank line after the headers of an item -/
def itemBody (B : Bytes) (it : Item) (rest : List Item) : Bytes :=
  match it with
  | .field p => p.value ++ sCRLFDashDash ++ (B ++ afterB B rest)
  | .mixed _ _ _ nb inner => sDashDash ++ nb ++ afterN nb (sDashDash ++ B ++ afterB B rest) inner

theorem afterB_cons (B : Bytes) (it : Item) (rest : List Item) :
    afterB B (it :: rest) = cCR :: cLF :: (linesEnc it.lines ++ (cCR :: cLF :: itemBody B it rest)) := by
  cases it <;> rfl

/-- the complete body: `--B CRLF headers CRLF CRLF body CRLF … --B-- CRLF` -/
def encodeItems (B : Bytes) (items : List Item) : Bytes := sDashDash ++ B ++ afterB B items

def none4 : Meta := ⟨none, none, none, none⟩

def LineOk (size : Nat) (ln : Bytes) : Prop := ln ≠ [] ∧ (∀ c ∈ ln, c ≠ cCR ∧ c ≠ cLF) ∧ ln.length < size

/-- the delimiter `CRLF--Bd` does not occur in `v` (nor across the end of `v` and the delimiter after it) -/
def FreshFor (Bd v : Bytes) : Prop :=
  occursIn (sCRLFDashDash ++ Bd) (v ++ (sCRLFDashDash ++ Bd).take ((sCRLFDashDash ++ Bd).length - 1)) = false

/-- side conditions on one rendered part: its header lines fit the buffer and contain no CR/LF, the line
    parser of `process_multipart_headers`, started with the strings `start`, reads the intended metadata
    from them, and the delimiter does not occur in the value -/
structure RPartOk (size : Nat) (start : Meta) (Bd : Bytes) (p : RPart) : Prop where
  lines : ∀ ln ∈ p.lines, LineOk size ln
  hdr : p.lines.foldl hdrM start = p.md
  fresh : FreshFor Bd p.value

inductive ItemOk (size : Nat) (B : Bytes) : Item → Prop
  | field (p : RPart) (h : RPartOk size none4 B p)
      (nm : ∀ ct, p.md.ctype = some ct → eqCaselessN ct sMixed sMixed.length = false) : ItemOk size B (.field p)
  | mixed (ls : List Bytes) (name ct nb : Bytes) (inner : List RPart) (hl : ∀ ln ∈ ls, LineOk size ln)
      (hh : ls.foldl hdrM none4 = ⟨some name, none, some ct, none⟩)
      (hm : eqCaselessN ct sMixed sMixed.length = true)
      (hb : (strstr sBoundaryEq ct).map (fun r => r.drop sBoundaryEq.length) = some nb)
      (n1 : 1 ≤ nb.length) (ns : nb.length + 4 < size)
      (hin : ∀ q ∈ inner, RPartOk size ⟨some name, none, none, none⟩ nb q) : ItemOk size B (.mixed ls name ct nb inner)

theorem ItemOk.lines_ok {size : Nat} {B : Bytes} {it : Item} (h : ItemOk size B it) :
    (∀ ln ∈ it.lines, LineOk size ln) ∧ it.lines.foldl hdrM none4 = it.md := by
  cases h with
  | field p h nm => exact ⟨h.lines, h.hdr⟩
  | mixed ls name ct nb inner hl hh _ _ _ _ _ => exact ⟨hl, hh⟩

structure Cfg where
  B : Bytes
  size : Nat
  items : List Item

structure CfgOk (c : Cfg) : Prop where
  b1 : 1 ≤ c.B.length
  bs : c.B.length + 4 < c.size
  items : ∀ it ∈ c.items, ItemOk c.size c.B it

/-- what `skip_rn` in mode `rn` eats from the front `R` of the stream before the main switch sees the rest `X`:
    a line end, or the closing dashes and the line end behind them; the main switch then runs in state
    `s'` (`dash_state` after the closing dashes, else the state `s` as it is) -/
inductive Eats (s ds : St) (rn : RN) (R X : Bytes) : St → Prop
  | inactive (hr : rn = .inactive) (h : R = X) : Eats s ds rn R X s
  | optN (hr : rn = .optN) (h : R = cLF :: X) : Eats s ds rn R X s
  | crlf (hr : rn = .full ∨ rn = .dash) (h : R = cCR :: cLF :: X) : Eats s ds rn R X s
  | dashes (hr : rn = .dash) (h : R = cDash :: cDash :: cCR :: cLF :: X) : Eats s ds rn R X ds
  | dash2 (hr : rn = .dash2) (h : R = cDash :: cCR :: cLF :: X) : Eats s ds rn R X ds

/-- what `MMain` reads of the post processor: the control fields that the main switch changes in the
    course of a body.  Not in it: the window and `skip_rn` (arguments of `MInv`), the constant fields
    (those the steps need are `MBase`), and what only the urlencoded parser uses; so a step that only
    moves the window keeps the invariant as it is. -/
structure MView where
  state : St
  evs : List Event
  md : Meta
  mustIkvi : Bool
  valueOffset : Nat
  dashState : St
  nested : Option Bytes
  haveName : Bool
  haveType : Bool
  haveFile : Bool
  haveEnc : Bool

def view (pp : PP) : MView :=
  ⟨pp.state, pp.evs, pp.metaOf, pp.mustIkvi, pp.valueOffset, pp.dashState, pp.nested,
    pp.haveName, pp.haveType, pp.haveFile, pp.haveEnc⟩

/-- the `have` marks inside a nested container whose outer headers gave only the name -/
def Marks (v : MView) (name : Bytes) : Prop :=
  v.haveName = true ∧ v.haveType = false ∧ v.haveFile = false ∧ v.haveEnc = false ∧ v.md.key = some name

/-- a place between two body parts: at the top level (`done` consumed, `rest` to come), or inside the
    container `.mixed ls name ct nb inner` (`idone` of its files consumed, `qs` to come) -/
inductive Pos
  | top (done rest : List Item)
  | nest (done : List Item) (ls : List Bytes) (name ct nb : Bytes) (inner : List RPart) (rest : List Item)
      (idone qs : List RPart)

namespace Pos

def In (c : Cfg) : Pos → Prop
  | top done rest => c.items = done ++ rest
  | nest done ls name ct nb inner rest idone qs => c.items = done ++ .mixed ls name ct nb inner :: rest ∧ inner = idone ++ qs

/-- the fields delivered before the place -/
def fs : Pos → List (Meta × Bytes)
  | top done _ => flat done
  | nest done _ _ _ _ _ _ idone _ => flat done ++ idone.map rfield

/-- the boundary of the level -/
def Bd (c : Cfg) : Pos → Bytes
  | top .. => c.B
  | nest _ _ _ _ nb .. => nb

/-- what follows `"--" ++ Bd` at the place -/
def after (c : Cfg) : Pos → Bytes
  | top _ rest => afterB c.B rest
  | nest _ _ _ _ nb _ rest _ qs => afterN nb (sDashDash ++ c.B ++ afterB c.B rest) qs

/-- what the level leaves in the four metadata strings before the headers of a part -/
def start : Pos → Meta
  | top .. => none4
  | nest _ _ name .. => ⟨some name, none, none, none⟩

/-- the header lines, the metadata and (after the empty line) the body of the part that starts at the place -/
def lines : Pos → List Bytes
  | top _ (it :: _) => it.lines
  | nest _ _ _ _ _ _ _ _ (q :: _) => q.lines
  | _ => []

def md : Pos → Meta
  | top _ (it :: _) => it.md
  | nest _ _ _ _ _ _ _ _ (q :: _) => q.md
  | _ => none4

def body (c : Cfg) : Pos → Bytes
  | top _ (it :: rest) => itemBody c.B it rest
  | nest _ _ _ _ nb _ rest _ (q :: qs) => q.value ++ sCRLFDashDash ++ (nb ++ afterN nb (sDashDash ++ c.B ++ afterB c.B rest) qs)
  | _ => []

/-- the level in the C code: the states of `post_process_multipart` come in pairs -/
def hdrSt : Pos → St | top .. => .processEntryHeaders | nest .. => .nestedProcessEntryHeaders
def valSt : Pos → St | top .. => .processValueToBoundary | nest .. => .nestedProcessValueToBoundary
def cleanSt : Pos → St | top .. => .performCleanup | nest .. => .nestedPerformCleanup
def dashSt : Pos → St | top .. => .done | nest .. => .nextBoundary
def bndSt : Pos → St | top .. => .nextBoundary | nest .. => .nestedInit
def bndNext : Pos → St | top .. => .performCleanup | nest .. => .nestedPerformMarking

/-- what a header or value state of the level needs besides the state -/
def Ctx (v : MView) : Pos → Prop
  | top .. => True
  | nest _ _ name _ nb .. => v.nested = some nb ∧ Marks v name

/-- what the delimiter state of the level needs besides the state -/
def BCtx (v : MView) : Pos → Prop
  | top .. => True
  | nest _ _ name _ nb .. => v.nested = some nb ∧ v.md = ⟨some name, none, none, none⟩

/-- the states in which the machine meets the CRLF after a delimiter line of the level -/
def Entry (v : MView) : Pos → Prop
  | top .. => (v.state = .processEntryHeaders ∧ v.md = none4) ∨ v.state = .performCleanup
  | nest _ _ name _ nb .. => v.nested = some nb ∧
      ((v.state = .nestedPerformMarking ∧ v.md = ⟨some name, none, none, none⟩) ∨
       (v.state = .nestedPerformCleanup ∧ Marks v name))

/-- nothing more follows at the level of the place: its closing delimiter line stands here -/
def AtEnd : Pos → Prop
  | top _ rest => rest = []
  | nest _ _ _ _ _ _ _ _ qs => qs = []

/-- what follows the closing delimiter line of the level -/
def close (c : Cfg) : Pos → Bytes
  | top .. => []
  | nest _ _ _ _ _ _ rest _ _ => sDashDash ++ c.B ++ afterB c.B rest

theorem after_end {c : Cfg} {ps : Pos} (h : ps.AtEnd) : ps.after c = cDash :: cDash :: cCR :: cLF :: ps.close c := by
  cases ps <;> cases h <;> rfl

theorem after_part {c : Cfg} {ps : Pos} (h : ¬ ps.AtEnd) :
    ps.after c = cCR :: cLF :: (linesEnc ps.lines ++ (cCR :: cLF :: ps.body c)) := by
  cases ps with
  | top done rest => cases rest with
    | nil => exact absurd rfl h
    | cons it rest => exact afterB_cons _ _ _
  | nest done ls name ct nb inner rest idone qs => cases qs with
    | nil => exact absurd rfl h
    | cons q qs => rfl

end Pos

/-- the main state against the rest `X` of the stream (after what `skip_rn` still has to eat) -/
inductive MMain (c : Cfg) (v : MView) (X : Bytes) : Prop
  | bnd0 (pre : Bytes) (hs : v.state = .init) (he : v.evs = []) (hm : v.md = none4)
      (hX : X = pre ++ (sDashDash ++ c.B ++ afterB c.B c.items))
      (hpre : ∀ k, k < pre.length →
        slice (pre ++ (sDashDash ++ c.B ++ afterB c.B c.items)) k (k + (2 + c.B.length)) ≠ sDashDash ++ c.B)
  /-- before or in the header lines of the part at the place `ps`: entered from the delimiter line (all its
      lines still to come), or reading them -/
  | hdr (ps : Pos) (lines : List Bytes) (hin : ps.In c) (hne : ¬ ps.AtEnd) (hd : Delivers v.evs ps.fs)
      (hs : (ps.Entry v ∧ lines = ps.lines) ∨ (v.state = ps.hdrSt ∧ ps.Ctx v ∧ lines.foldl hdrM v.md = ps.md))
      (hl : ∀ ln ∈ lines, LineOk c.size ln)
      (hX : X = linesEnc lines ++ (cCR :: cLF :: ps.body c))
  | chk (done : List Item) (it : Item) (rest : List Item)
      (hsp : c.items = done ++ it :: rest) (hd : Delivers v.evs (flat done))
      (hs : v.state = .performCheckMultipart) (hm : v.md = it.md) (hi : v.mustIkvi = true)
      (hX : X = itemBody c.B it rest)
  /-- in the value of `p`, `off` bytes of it delivered; `ps` = the place behind it -/
  | val (ps : Pos) (p : RPart) (fs0 : List (Meta × Bytes)) (off : Nat)
      (hin : ps.In c) (hfs : ps.fs = fs0 ++ [rfield p]) (hfr : FreshFor (ps.Bd c) p.value)
      (hs : v.state = ps.valSt) (hc : ps.Ctx v)
      (hv : Delivering v.evs v.mustIkvi v.valueOffset fs0 p.md (p.value.take off)) (hm : v.md = p.md)
      (hle : off ≤ p.value.length)
      (hX : X = p.value.drop off ++ sCRLFDashDash ++ (ps.Bd c ++ ps.after c))
  /-- before the delimiter at the place `ps` (`PP_NextBoundary` / `PP_Nested_Init`) -/
  | bnd (ps : Pos) (hin : ps.In c) (hd : Delivers v.evs ps.fs) (hs : v.state = ps.bndSt) (hc : ps.BCtx v)
      (hX : X = sDashDash ++ ps.Bd c ++ ps.after c)
  /-- behind the closing delimiter line of the body -/
  | fin (hd : Delivers v.evs (flat c.items)) (hs : v.state = .done) (hX : X = [])

/-- the post processor against the rest `R` of the stream: `skip_rn` eats its part, the main switch meets the
    phase that follows -/
inductive MInv (c : Cfg) (v : MView) (rn : RN) (R : Bytes) : Prop
  | main (X : Bytes) (s' : St) (hr : Eats v.state v.dashState rn R X s') (hm : MMain c { v with state := s' } X)

/-- fields that never change in multipart mode -/
structure MBase (c : Cfg) (pp : PP) : Prop where
  size : pp.bufferSize = c.size
  bnd : pp.boundary = c.B
  xbuf : pp.xbuf = []
  fault : pp.fault = none

/-- the machine cannot do anything with the window it has: the window is not full, and unless it is
    empty the stream `buf ++ pend` continues beyond it -/
def Stuck (size : Nat) (pp : PP) (pend : Bytes) : Prop := pp.buf.length < size ∧ (pp.buf ≠ [] → pend ≠ [])

theorem occursIn_false (needle : Bytes) : ∀ (hay : Bytes), occursIn needle hay = false →
    ∀ k, k + needle.length ≤ hay.length → slice hay k (k + needle.length) ≠ needle
  | [], h, k, hk => by
    have : needle = [] := List.length_eq_zero_iff.mp (by have : ([] : Bytes).length = 0 := rfl; omega)
    subst this; simp [occursIn] at h
  | c :: t, h, k, hk => by
    simp only [occursIn, Bool.or_eq_false_iff] at h
    cases k with
    | zero =>
      intro he
      have hp : needle <+: (c :: t) := by
        rw [← he]; simp only [slice, List.drop_zero, Nat.zero_add, Nat.sub_zero]; exact List.take_prefix _ _
      have := List.isPrefixOf_iff_prefix.mpr hp
      rw [this] at h; cases h.1
    | succ k =>
      have := occursIn_false needle t h.2 k (by simp at hk; omega)
      intro he; apply this
      rw [← he]; simp [slice]

theorem noocc_slice (d v tl : Bytes) (hd : 0 < d.length) (hocc : occursIn d (v ++ d.take (d.length - 1)) = false)
    (k : Nat) (hk : k < v.length) : slice (v ++ (d ++ tl)) k (k + d.length) ≠ d := by
  have hsplit : v ++ (d ++ tl) = (v ++ d.take (d.length - 1)) ++ (d.drop (d.length - 1) ++ tl) := by
    rw [List.append_assoc, ← List.append_assoc (d.take _), List.take_append_drop]
  rw [hsplit, slice_app _ _ _ _ (by simp only [List.length_append, List.length_take]; omega)]
  exact occursIn_false _ _ hocc k (by simp only [List.length_append, List.length_take]; omega)

theorem fresh_drop (B v tl : Bytes) (off k : Nat) (hocc : FreshFor B v) (hoff : off ≤ v.length)
    (hk : k < (v.drop off).length) :
    slice (v.drop off ++ sCRLFDashDash ++ (B ++ tl)) k (k + 4 + B.length) ≠ sCRLFDashDash ++ B := by
  have hdl : (sCRLFDashDash ++ B).length = 4 + B.length := by simp [sCRLFDashDash]; omega
  rw [List.length_drop] at hk
  have := noocc_slice (sCRLFDashDash ++ B) v tl (by omega) hocc (off + k) (by omega)
  rwa [List.append_assoc, slice_drop v _ off k _ hoff, ← List.append_assoc sCRLFDashDash, Nat.add_assoc k,
    ← Nat.add_assoc off, ← hdl]

end Mhd.PP
