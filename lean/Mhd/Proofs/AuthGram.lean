/-
  C14: the grammars `parse_dauth_params` is compared with, piece by piece as the scanner sees them: what a
  well-formed rendered parameter (`Elem.wf`) consists of, the body of a quoted-string (`QBody`), and the lenient
  grammar `Lenient` with its derivations (`Derives`); `Mhd.Proofs.AuthTurn` proves that whatever the scanner accepts
  is a sentence of `Lenient` with the values it reports, and which sentences it accepts.

  `Lenient` is the RFC 7235 / 7616 credentials grammar relaxed by exactly these leniencies:
    (1) an unquoted value may be empty and may contain any byte but NUL SP HT , ; DQUOTE (so also '=');
    (2) a quoted-string may contain any byte but NUL (control bytes too); a backslash quotes any byte but NUL;
    (3) an element whose name is not one of the twelve known names (compared caselessly, the name ending at
        '=' SP HT , ; or the end) is any text free of NUL, ';' and top-level ',' in which DQUOTE-delimited
        parts (with backslash pairs) may stand anywhere — no "=" needed, also empty (F36);
    (4) parameter names are not restricted to `tchar` (a known name is matched as a prefix followed by a
        delimiter; everything else falls under (3)).
-/
import Mhd.Proofs.AuthScan
namespace Mhd.Auth
open Mhd.Gen.Auth

theorem Elem.wf_ws (e : Elem) (h : e.wf = true) :
    e.item.slot < 12 ∧ allWs e.r.ws1 = true ∧ allWs e.r.ws2 = true ∧ allWs e.r.ws3 = true ∧ allWs e.r.ws4 = true := by
  unfold Elem.wf at h
  simp only [Bool.and_eq_true, decide_eq_true_eq, paramNames_length] at h
  obtain ⟨⟨⟨⟨⟨h1, h2⟩, h3⟩, h4⟩, h5⟩, _⟩ := h
  exact ⟨h1, h2, h3, h4, h5⟩

theorem Elem.wf_token (e : Elem) (h : e.wf = true) (hf : e.r.form = .token) :
    ∃ c r, e.item.value = c :: r ∧ c ≠ 34 ∧ (c :: r).all tokByte = true := by
  unfold Elem.wf at h
  rw [hf] at h
  simp only [Bool.and_eq_true, bne_iff_ne, ne_eq, Bool.not_eq_true'] at h
  obtain ⟨_, ⟨hall, hq⟩, hne⟩ := h
  cases hv : e.item.value with
  | nil => rw [hv] at hne; simp at hne
  | cons c r =>
    rw [hv] at hq hall
    exact ⟨c, r, rfl, by simpa using hq, hall⟩

theorem Elem.wf_quoted (e : Elem) (h : e.wf = true) (esc : List Bool) (hf : e.r.form = .quoted esc) :
    ∀ c ∈ e.item.value, c ≠ 0 := by
  unfold Elem.wf at h
  rw [hf] at h
  simp only [Bool.and_eq_true] at h
  intro c hc
  have := List.all_eq_true.mp h.2 c hc
  simpa using this

/-- (raw slice, quoted flag) recorded for parameter `k` after the rendered list: last occurrence wins -/
def rawView (es : List Elem) (init : Option (Bytes × Bool)) (k : Nat) : Option (Bytes × Bool) :=
  es.foldl (fun acc e => if e.item.slot = k then some (rawOf e, quotedOf e) else acc) init

def pr (p : Param) : Bytes × Bool := (p.raw, p.quoted)

theorem Slots.set_pr (st : Slots) (j : Nat) (p : Param) (k : Nat) :
    ((st.set j p) k).map pr = if j = k then some (pr p) else (st k).map pr := by
  unfold Slots.set
  by_cases hk : k = j
  · simp [hk]
  · have : ¬ j = k := fun h => hk h.symm
    simp [hk, this]

/-- body of a quoted-string as the scanner of parse_dauth_params accepts it: no NUL, no bare DQUOTE,
    every backslash followed by a byte other than NUL -/
def QBody : Bytes → Bool
  | [] => true
  | c :: r =>
    if c = 34 then false
    else if c = 92 then
      match r with
      | [] => false
      | c2 :: r2 => c2 ≠ 0 && QBody r2
    else c ≠ 0 && QBody r

theorem QBody_nil : QBody [] = true := by rw [QBody.eq_def]
theorem QBody_quote (r : Bytes) : QBody (34 :: r) = false := by rw [QBody.eq_def]; simp
theorem QBody_bs_end : QBody [92] = false := by rw [QBody.eq_def]; simp
theorem QBody_esc (c2 : UInt8) (r2 : Bytes) : QBody (92 :: c2 :: r2) = (c2 ≠ 0 && QBody r2) := by
  rw [QBody.eq_def]; simp
theorem QBody_plain (c : UInt8) (r : Bytes) (h34 : c ≠ 34) (h92 : c ≠ 92) : QBody (c :: r) = (c ≠ 0 && QBody r) := by
  rw [QBody.eq_def]; simp [h34, h92]

theorem QBody_decomp (q : Bytes) (hq : QBody q = true) : ∃ esc v, q = escRender esc v ∧ (∀ c ∈ v, c ≠ 0) := by
  fun_induction QBody q with
  | case1 => exact ⟨[], [], by simp [escRender], by simp⟩
  | case2 => cases hq
  | case3 => cases hq
  | case4 c2 r2 _ ih =>
    simp only [Bool.and_eq_true, decide_eq_true_eq, ne_eq] at hq
    obtain ⟨esc, v, he, hv⟩ := ih hq.2
    refine ⟨true :: esc, c2 :: v, by simp [escRender, he], fun x hx => ?_⟩
    rcases List.mem_cons.mp hx with h | h
    · rw [h]; exact hq.1
    · exact hv x h
  | case5 c r h34 h92 ih =>
    simp only [Bool.and_eq_true, decide_eq_true_eq, ne_eq] at hq
    obtain ⟨esc, v, he, hv⟩ := ih hq.2
    refine ⟨false :: esc, c :: v, by simp [escRender, h34, h92, he], fun x hx => ?_⟩
    rcases List.mem_cons.mp hx with h | h
    · rw [h]; exact hq.1
    · exact hv x h

theorem QBody_escRender (esc : List Bool) (v : Bytes) (hv : ∀ c ∈ v, c ≠ 0) : QBody (escRender esc v) = true := by
  induction v generalizing esc with
  | nil => cases esc <;> simp [escRender, QBody_nil]
  | cons c r ih =>
    have hc : c ≠ 0 := hv c (by simp)
    have hr : ∀ x ∈ r, x ≠ 0 := fun x hx => hv x (by simp [hx])
    cases esc with
    | nil =>
      simp only [escRender]
      by_cases h : c = 34 ∨ c = 92
      · simp [h, QBody_esc, hc, ih [] hr]
      · have h34 : c ≠ 34 := fun h' => h (Or.inl h')
        have h92 : c ≠ 92 := fun h' => h (Or.inr h')
        simp [h, QBody_plain c _ h34 h92, hc, ih [] hr]
    | cons b bs =>
      simp only [escRender]
      by_cases h : c = 34 ∨ c = 92 ∨ b = true
      · simp [h, QBody_esc, hc, ih bs hr]
      · have h34 : c ≠ 34 := fun h' => h (Or.inl h')
        have h92 : c ≠ 92 := fun h' => h (Or.inr (Or.inl h'))
        simp [h, QBody_plain c _ h34 h92, hc, ih bs hr]

theorem QBody_unquotes (raw : Bytes) (h : QBody raw = true) : (unquoteLoop raw).isSome := by
  obtain ⟨esc, v, rfl, _⟩ := QBody_decomp raw h
  simp [unquoteLoop_escRender]

end Mhd.Auth

namespace Mhd.Auth.Lenient
open Mhd.Auth Mhd.Gen.Auth

/-- value of a known parameter as written -/
inductive LVal
  | tok (v : Bytes)
  | quoted (raw : Bytes)
  deriving DecidableEq, Repr

def LVal.render : LVal → Bytes
  | .tok v => v
  | .quoted raw => 34 :: (raw ++ [34])

def LVal.wf : LVal → Bool
  | .tok v => v.all tokByte                 -- leniency (1)
  | .quoted raw => QBody raw                -- leniency (2)

/-- the slice and the `quoted` flag the scanner records -/
def LVal.rawq : LVal → Bytes × Bool
  | .tok v => (v, false)
  | .quoted raw => (raw, raw.any (· = 92))

/-- unknown element, leniency (3): the Boolean argument = inside a DQUOTE part -/
def junk : Bool → Bytes → Bool
  | false, [] => true
  | false, c :: r => c ≠ 44 && c ≠ 0 && c ≠ 59 && (if c = 34 then junk true r else junk false r)
  | true, [] => false
  | true, c :: r =>
    if c = 34 then junk false r
    else c ≠ 0 &&
      (if c = 92 then
        match r with
        | [] => false
        | _ :: r2 => junk true r2
       else junk true r)

inductive LElem
  | known (k : Nat) (name ws1 ws2 : Bytes) (val : LVal) (ws3 : Bytes)
  | other (u : Bytes)
  deriving DecidableEq, Repr

def LElem.render : LElem → Bytes
  | .known _ name ws1 ws2 val ws3 => name ++ (ws1 ++ 61 :: (ws2 ++ (val.render ++ ws3)))
  | .other u => u

def LElem.wf : LElem → Bool
  | .known k name ws1 ws2 val ws3 =>
    decide (k < paramNames.length) && name.map toLowerB == nameOf k && allWs ws1 && allWs ws2 && allWs ws3 && val.wf
  | .other u => junk false u && (u.head? != some 61)

theorem LElem.wf_known_iff {k : Nat} {name ws1 ws2 ws3 : Bytes} {val : LVal} :
    (LElem.known k name ws1 ws2 val ws3).wf = true ↔ k < 12 ∧ name.map toLowerB = nameOf k ∧ allWs ws1 = true ∧
      allWs ws2 = true ∧ allWs ws3 = true ∧ val.wf = true := by
  simp only [LElem.wf, Bool.and_eq_true, decide_eq_true_eq, beq_iff_eq, paramNames_length, and_assoc]

theorem LElem.wf_other_iff {u : Bytes} : (LElem.other u).wf = true ↔ junk false u = true ∧ u.head? ≠ some 61 := by
  simp only [LElem.wf, Bool.and_eq_true, bne_iff_ne, ne_eq]

/-- list elements with the OWS that follows their comma -/
def renderL : List (LElem × Bytes) → Bytes
  | [] => []
  | [x] => x.1.render
  | x :: y :: t => x.1.render ++ 44 :: (x.2 ++ renderL (y :: t))

/-- (slice, flag) recorded for parameter `k`: last occurrence wins -/
def lview (ls : List (LElem × Bytes)) (init : Option (Bytes × Bool)) (k : Nat) : Option (Bytes × Bool) :=
  ls.foldl (fun acc x => match x.1 with
    | .known k' _ _ _ val _ => if k' = k then some val.rawq else acc
    | .other _ => acc) init

/-- `s` is a sentence of the lenient grammar with derivation `(lead, ls)` -/
def Derives (lead : Bytes) (ls : List (LElem × Bytes)) (s : Bytes) : Prop :=
  s = lead ++ renderL ls ∧ allWs lead = true ∧ (∀ x ∈ ls, x.1.wf = true ∧ allWs x.2 = true)

def stepL (e : LElem) (acc : Option (Bytes × Bool)) (k : Nat) : Option (Bytes × Bool) :=
  match e with
  | .known k' _ _ _ val _ => if k' = k then some val.rawq else acc
  | .other _ => acc

theorem lview_cons (x : LElem × Bytes) (ls : List (LElem × Bytes)) (init : Option (Bytes × Bool)) (k : Nat) :
    lview (x :: ls) init k = lview ls (stepL x.1 init k) k := by
  simp only [lview, List.foldl_cons, stepL]

theorem lview_append (l₁ l₂ : List (LElem × Bytes)) (init : Option (Bytes × Bool)) (k : Nat) :
    lview (l₁ ++ l₂) init k = lview l₂ (lview l₁ init k) k := List.foldl_append

theorem LElem.render_nil (e : LElem) (h : e.render = []) (acc : Option (Bytes × Bool)) (k : Nat) :
    stepL e acc k = acc := by
  cases e with
  | known p name ws1 ws2 val ws3 => simp [LElem.render] at h
  | other u => rfl

theorem renderL_cons_ne (x : LElem × Bytes) (l : List (LElem × Bytes)) (h : l ≠ []) :
    renderL (x :: l) = x.1.render ++ 44 :: (x.2 ++ renderL l) := by
  cases l with
  | nil => exact absurd rfl h
  | cons a b => rfl

theorem lview_all (G : Bytes × Bool → Prop) (hG : ∀ val : LVal, val.wf = true → G val.rawq) (k : Nat) :
    ∀ (ls : List (LElem × Bytes)) (init : Option (Bytes × Bool)), (∀ x ∈ ls, x.1.wf = true) → (∀ y, init = some y → G y) →
      ∀ y, lview ls init k = some y → G y := by
  intro ls
  induction ls with
  | nil => intro init _ hi y hy; exact hi y hy
  | cons x l ih =>
    intro init hwf hi y hy
    rw [lview_cons] at hy
    refine ih _ (fun z hz => hwf z (List.mem_cons_of_mem _ hz)) ?_ y hy
    have hx := hwf x (by simp)
    cases hx1 : x.1 with
    | known p name ws1 ws2 val ws3 =>
      simp only [hx1, LElem.wf, Bool.and_eq_true] at hx
      intro z hz
      simp only [stepL] at hz
      split at hz
      · cases hz; exact hG val hx.2
      · exact hi z hz
    | other u => exact hi

/-- The condition on the name in leniency (3), which `LElem.wf` does not contain, and the position the scanner reads
    an element from: what is not a known parameter has no white space in front, and its name — the text up to the
    first delimiter, compared caselessly — is not a known one. -/
def LElem.exact : LElem → Bool
  | .known .. => true
  | .other u => (u.head?.all fun c => !isWs c) && paramNames.all fun kn => (nameAt u).map toLowerB != kn

theorem LElem.exact_other_iff {u : Bytes} :
    (LElem.other u).exact = true ↔ NoWs u ∧ ∀ kn ∈ paramNames, (nameAt u).map toLowerB ≠ kn := by
  cases u <;> simp [LElem.exact, NoWs]

end Mhd.Auth.Lenient
