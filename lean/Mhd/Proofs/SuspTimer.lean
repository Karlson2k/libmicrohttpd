/-
  C11 — the inactivity timer model (Mhd.Model.SuspTimer): two invariants over every history.
  `TInv` is about the clock fields, `LInv` about the membership counters of the two timeout
  lists; linking and unlinking touch only the counters (`link_rest`), everything else of the
  model touches only the clock fields and the flags.
-/
import Mhd.Model.SuspTimer
namespace Mhd.SuspTimer

/-- everything but the two membership counters -/
def TState.rest (s : TState) := (s.now, s.dflt, s.timeout, s.lastAct, s.suspended, s.closedTO, s.resumedAt)

theorem link_rest (s : TState) : s.link.rest = s.rest := by unfold TState.link; cases s.inNormal <;> rfl
theorem unlink_rest (s : TState) : s.unlink.rest = s.rest := by unfold TState.unlink; cases s.inNormal <;> rfl

@[simp] theorem link_closedTO (s : TState) : s.link.closedTO = s.closedTO := congrArg (·.2.2.2.2.2.1) (link_rest s)
@[simp] theorem link_dflt (s : TState) : s.link.dflt = s.dflt := congrArg (·.2.1) (link_rest s)
@[simp] theorem unlink_timeout (s : TState) : s.unlink.timeout = s.timeout := congrArg (·.2.2.1) (unlink_rest s)

/-- reachable-state invariant: the activity stamp is never older than the last resume, and never in the future -/
structure TInv (s : TState) : Prop where
  fresh : s.suspended = false → s.timeout ≠ 0 → s.resumedAt ≤ s.lastAct
  past : s.lastAct ≤ s.now
  rpast : s.resumedAt ≤ s.now

theorem TInv.of_rest {s s' : TState} (h : TInv s) (e : s'.rest = s.rest) : TInv s' := by
  simp only [TState.rest, Prod.mk.injEq] at e
  obtain ⟨e1, _, e3, e4, e5, _, e7⟩ := e
  exact ⟨by rw [e5, e3, e7, e4]; exact h.fresh, by rw [e4, e1]; exact h.past, by rw [e7, e1]; exact h.rpast⟩

theorem setTO_rest (g : TGuards) (s : TState) (ms : Nat) : (setTO g s ms).rest = ({ s with timeout := ms } : TState).rest := by
  have hu (u : TState) (e : u.rest = s.rest) : ({ u with timeout := ms } : TState).rest = ({ s with timeout := ms } : TState).rest := by
    simp only [TState.rest, Prod.mk.injEq] at e ⊢
    exact ⟨e.1, e.2.1, trivial, e.2.2.2⟩
  unfold setTO
  by_cases hs : s.suspended = true
  · rw [if_pos hs]
    cases g.setSkipsSusp
    · exact link_rest _
    · rfl
  · rw [if_neg hs]; exact (link_rest _).trans (hu _ (unlink_rest s))

theorem step_inv (g : TGuards) (hg : g.Sound) (s : TState) (h : TInv s) (op : TOp) : TInv (step g s op) := by
  obtain ⟨g1, g2, g3, g4, _⟩ := hg
  obtain ⟨h1, h2, h3⟩ := h
  cases op with
  | tick ms => exact ⟨h1, Nat.le_trans h2 (Nat.le_add_right _ _), Nat.le_trans h3 (Nat.le_add_right _ _)⟩
  | setTimeout ms =>
    -- a connection without a timeout gets `last_activity = now` first
    refine TInv.of_rest ?_ (setTO_rest g (if s.timeout = 0 then { s with lastAct := s.now } else s) ms)
    by_cases hz : s.timeout = 0
    · rw [if_pos hz]; exact ⟨fun _ _ => h3, Nat.le_refl _, h3⟩
    · rw [if_neg hz]; exact ⟨fun hs _ => h1 hs hz, h2, h3⟩
  | activity =>
    exact iteInduction (motive := TInv) (fun _ => ⟨h1, h2, h3⟩) fun _ =>
      iteInduction (motive := TInv) (fun _ => ⟨h1, h2, h3⟩) fun _ => ⟨fun _ _ => h3, Nat.le_refl _, h3⟩
  | idle =>
    exact iteInduction (motive := TInv) (fun _ => ⟨h1, h2, h3⟩) fun _ =>
      iteInduction (motive := TInv) (fun _ => ⟨h1, h2, h3⟩) fun _ =>
        iteInduction (motive := TInv) (fun _ => ⟨h1, h2, h3⟩) fun _ => ⟨h1, h2, h3⟩
  | suspend =>
    refine iteInduction (motive := TInv) (fun _ => ⟨h1, h2, h3⟩) fun _ => ?_
    have := unlink_rest s
    simp only [TState.rest, Prod.mk.injEq] at this
    exact ⟨fun hx => (nomatch hx), by show s.unlink.lastAct ≤ s.unlink.now; rw [this.2.2.2.1, this.1]; exact h2,
      by show s.unlink.resumedAt ≤ s.unlink.now; rw [this.2.2.2.2.2.2, this.1]; exact h3⟩
  | resume =>
    refine iteInduction (motive := TInv) (fun _ => ⟨h1, h2, h3⟩) fun _ => ?_
    -- the timer is restarted for a connection of either list
    refine TInv.of_rest ?_ (link_rest _)
    have hr : (if s.inNormal = true then g.restartNormal else g.restartManual) = true := by
      cases s.inNormal
      · exact g4
      · exact g3
    refine ⟨fun _ hz => ?_, ?_, Nat.le_refl _⟩
    · show s.now ≤ if s.timeout ≠ 0 ∧ _ then s.now else s.lastAct
      rw [if_pos ⟨hz, hr⟩]; exact Nat.le_refl _
    · exact iteInduction (motive := (· ≤ s.now)) (fun _ => Nat.le_refl _) (fun _ => h2)

theorem run_inv (g : TGuards) (hg : g.Sound) : ∀ (ops : List TOp) (s : TState), TInv s → TInv (run g s ops) := by
  intro ops; induction ops with
  | nil => intro s h; exact h
  | cons op r ih => intro s h; exact ih _ (step_inv g hg s h op)

/-- a start state: clock `t0`, daemon default `dflt`, the connection begins with the default timeout -/
def TState.start (t0 dflt : Nat) : TState :=
  { now := t0, dflt := dflt, timeout := dflt, lastAct := t0, resumedAt := t0, cntNormal := 1 }

theorem start_inv (t0 dflt : Nat) : TInv (TState.start t0 dflt) := ⟨fun _ _ => Nat.le_refl _, Nat.le_refl _, Nat.le_refl _⟩

/-- a suspended connection is linked into no timeout list; any other connection into exactly one, exactly
    once: the default-timeout list iff its timeout equals the daemon default -/
def LInv (s : TState) : Prop :=
  (s.suspended = true → s.cntNormal = 0 ∧ s.cntManual = 0) ∧
  (s.suspended = false → (s.inNormal = true → s.cntNormal = 1 ∧ s.cntManual = 0) ∧
                          (s.inNormal = false → s.cntNormal = 0 ∧ s.cntManual = 1))

theorem LInv_link (s : TState) (h : s.cntNormal = 0 ∧ s.cntManual = 0) (hs : s.suspended = false) : LInv s.link := by
  unfold TState.link
  cases hn : s.inNormal
  · exact ⟨fun hx => (nomatch hs.symm.trans hx), fun _ => ⟨fun hx => (nomatch hn.symm.trans hx), fun _ => ⟨h.1, congrArg (· + 1) h.2⟩⟩⟩
  · exact ⟨fun hx => (nomatch hs.symm.trans hx), fun _ => ⟨fun _ => ⟨congrArg (· + 1) h.1, h.2⟩, fun hx => (nomatch hn.symm.trans hx)⟩⟩

theorem unlink_counts (s : TState) (h : LInv s) (hs : s.suspended = false) : s.unlink.cntNormal = 0 ∧ s.unlink.cntManual = 0 := by
  unfold TState.unlink
  cases hn : s.inNormal
  · have := (h.2 hs).2 hn
    exact ⟨this.1, congrArg (· - 1) this.2⟩
  · have := (h.2 hs).1 hn
    exact ⟨congrArg (· - 1) this.1, this.2⟩

theorem LInv_setTO (g : TGuards) (hg : g.setSkipsSusp = true) (s0 : TState) (ms : Nat) (h : LInv s0) : LInv (setTO g s0 ms) := by
  unfold setTO
  cases hs : s0.suspended
  · exact LInv_link { s0.unlink with timeout := ms } (unlink_counts s0 h hs) ((congrArg (·.2.2.2.2.1) (unlink_rest s0)).trans hs)
  · rw [hg]; exact ⟨fun _ => h.1 hs, fun hx => (nomatch hx)⟩

theorem step_linv (g : TGuards) (hg : g.Sound) (s : TState) (h : LInv s) (op : TOp) : LInv (step g s op) := by
  obtain ⟨_, _, _, _, g5⟩ := hg
  cases op with
  | tick ms => exact h
  | setTimeout ms => exact LInv_setTO g g5 _ ms (iteInduction (motive := LInv) (fun _ => h) (fun _ => h))
  | activity =>
    exact iteInduction (motive := LInv) (fun _ => h) fun _ => iteInduction (motive := LInv) (fun _ => h) fun _ => h
  | idle =>
    exact iteInduction (motive := LInv) (fun _ => h) fun _ => iteInduction (motive := LInv) (fun _ => h) fun _ =>
      iteInduction (motive := LInv) (fun _ => h) fun _ => h
  | suspend =>
    refine iteInduction (motive := LInv) (fun _ => h) fun hc => ?_
    rw [Bool.or_eq_true, not_or, Bool.not_eq_true, Bool.not_eq_true] at hc
    exact ⟨fun _ => unlink_counts s h hc.2, fun hx => (nomatch hx)⟩
  | resume =>
    refine iteInduction (motive := LInv) (fun _ => h) fun hc => ?_
    rw [Bool.not_eq_true', Bool.not_eq_false] at hc
    exact LInv_link _ (h.1 hc) rfl

theorem run_linv (g : TGuards) (hg : g.Sound) : ∀ (ops : List TOp) (s : TState), LInv s → LInv (run g s ops) := by
  intro ops; induction ops with
  | nil => intro s h; exact h
  | cons op r ih => intro s h; exact ih _ (step_linv g hg s h op)

theorem start_linv (t0 dflt : Nat) : LInv (TState.start t0 dflt) :=
  ⟨fun hx => (nomatch hx), fun _ => ⟨fun _ => ⟨rfl, rfl⟩, fun hx => absurd (beq_self_eq_true dflt) (by rw [show (dflt == dflt) = false from hx]; exact Bool.false_ne_true)⟩⟩

theorem setTimeout_suspended_counts (g : TGuards) (hg : g.setSkipsSusp = true) (s : TState) (hs : s.suspended = true) (ms : Nat) :
    (step g s (.setTimeout ms)).cntNormal = s.cntNormal ∧ (step g s (.setTimeout ms)).cntManual = s.cntManual ∧
    (step g s (.setTimeout ms)).timeout = ms ∧ (step g s (.setTimeout ms)).suspended = true := by
  simp only [step, setTO]
  by_cases hz : s.timeout = 0 <;> simp [hz, hs, hg]

theorem resume_restarts (g : TGuards) (hg : g.Sound) (s : TState) (hs : s.suspended = true) (ht : s.timeout ≠ 0) :
    (step g s .resume).lastAct = s.now ∧ (step g s .resume).suspended = false ∧ (step g s .resume).resumedAt = s.now := by
  obtain ⟨_, _, g3, g4, _⟩ := hg
  have hr : (if s.inNormal = true then g.restartNormal else g.restartManual) = true := by
    cases s.inNormal
    · exact g4
    · exact g3
  have r := link_rest
    { s with
      suspended := false
      resumedAt := s.now
      lastAct := if s.timeout ≠ 0 ∧ (if s.inNormal = true then g.restartNormal else g.restartManual) = true then s.now else s.lastAct }
  simp only [TState.rest, Prod.mk.injEq] at r
  unfold step
  rw [hs]
  exact ⟨r.2.2.2.1.trans (if_pos ⟨ht, hr⟩), r.2.2.2.2.1, r.2.2.2.2.2.2⟩

theorem idle_suspended (g : TGuards) (hg : g.Sound) (s : TState) (hs : s.suspended = true) : step g s .idle = s := by
  simp [step, hg.2.1, hs]

theorem closed_only_when_idle_long (g : TGuards) (hg : g.Sound) (s : TState) (hi : TInv s) (h0 : s.closedTO = false)
    (h1 : (step g s .idle).closedTO = true) : s.suspended = false ∧ s.timeout ≠ 0 ∧ s.timeout < s.now - s.resumedAt := by
  by_cases hs : s.suspended = true
  · rw [idle_suspended g hg s hs, h0] at h1; exact absurd h1 (by simp)
  · have hs' : s.suspended = false := by simpa using hs
    simp only [step, h0, hs', Bool.and_false, Bool.false_eq_true, if_false] at h1
    by_cases hc : s.timeout ≠ 0 ∧ s.timeout < s.now - s.lastAct
    · have := hi.fresh hs' hc.1
      exact ⟨hs', hc.1, by omega⟩
    · rw [if_neg hc, h0] at h1; exact absurd h1 (by simp)

end Mhd.SuspTimer
