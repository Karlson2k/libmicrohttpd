import Mhd.Proofs.ReplyBridge
namespace Mhd.Tok
open Mhd.ReplyStr Mhd.Resp
open Mhd.Http (splitComma trimOWS ciEq hasToken isOWS vClose lower)

/-- `", "`-separated list of elements (the normal form the response code keeps the Connection value in) -/
def joinE : List Bytes → Bytes
  | [] => []
  | [e] => e
  | e :: e' :: t => e ++ 44 :: 32 :: joinE (e' :: t)

/-- an element of the list: non-empty, no comma -/
def ElemOK (e : Bytes) : Prop := e ≠ [] ∧ ∀ b ∈ e, b ≠ 44

/-- the grammar's view of one element -/
def isTok (lit e : Bytes) : Bool := ciEq (trimOWS e) lit

theorem joinE_eq : ∀ es : List Bytes, joinE es = Mhd.Str.joinWith Mhd.Str.sepCS es
  | [] => rfl
  | [e] => rfl
  | e :: e' :: t => by rw [joinE, Mhd.Str.joinWith, joinE_eq (e' :: t)]; simp [Mhd.Str.sepCS]

theorem joinE_cons (e : Bytes) (t : List Bytes) (ht : t ≠ []) : joinE (e :: t) = e ++ 44 :: 32 :: joinE t := by
  cases t with
  | nil => exact absurd rfl ht
  | cons a b => rfl

theorem joinE_eq_nil (es : List Bytes) (h : ∀ e ∈ es, ElemOK e) : joinE es = [] ↔ es = [] :=
  ⟨fun hj => Mhd.Str.join_eq_nil es (fun e he => (h e he).1) (joinE_eq es ▸ hj), fun h => h ▸ rfl⟩

theorem tokens_joinE : ∀ (es : List Bytes), es ≠ [] → (∀ e ∈ es, ElemOK e) →
    (splitComma (joinE es)).map trimOWS = es.map trimOWS
  | [], h, _ => absurd rfl h
  | [e], _, h => by simp [joinE, Mhd.Http.splitComma_elem e (h e (by simp)).2]
  | e :: e' :: t, _, h => by
    have ih := tokens_joinE (e' :: t) (by simp) (fun x hx => h x (by simp [hx]))
    simp only [joinE]
    rw [Mhd.Http.splitComma_prefix e _ (h e (by simp)).2]
    simp only [List.map_cons]
    rw [Mhd.Http.splitComma_ws_cons 32 _ (by decide), ih]
    simp

theorem hasToken_joinE (es : List Bytes) (lit : Bytes) (hl : lit ≠ []) (h : ∀ e ∈ es, ElemOK e) :
    hasToken (joinE es) lit = es.any (isTok lit) := by
  cases es with
  | nil =>
    simp only [joinE, List.any_nil]
    unfold hasToken
    simp only [splitComma, List.any_cons, List.any_nil, Bool.or_false]
    unfold ciEq trimOWS
    cases lit with
    | nil => exact absurd rfl hl
    | cons _ _ => simp
  | cons e t =>
    unfold hasToken
    have := tokens_joinE (e :: t) (by simp) h
    have e1 : (splitComma (joinE (e :: t))).any (fun t => ciEq (trimOWS t) lit)
        = ((splitComma (joinE (e :: t))).map trimOWS).any (fun t => ciEq t lit) := by
      rw [List.any_map]; rfl
    rw [e1, this, List.any_map]; rfl

theorem joinE_append (a b : List Bytes) (ha : a ≠ []) (hb : b ≠ []) :
    joinE (a ++ b) = joinE a ++ 44 :: 32 :: joinE b := by
  rw [joinE_eq, joinE_eq, joinE_eq, Mhd.Str.joinWith_append _ a b hb, if_neg ha, List.append_assoc]; rfl

def CloseFree (es : List Bytes) : Prop := ∀ e ∈ es, isTok vClose e = false

/-- shape of the stored Connection value, given the close flag -/
def ValShape (cc : Bool) (v : Bytes) : Prop :=
  ∃ es, v = joinE es ∧ (∀ e ∈ es, ElemOK e) ∧
    (if cc then ∃ es', es = sClose :: es' ∧ CloseFree es' else CloseFree es)

/-- the additional invariant: the Connection value is a `", "`-list; `close` is its first element iff
    HAS_CONNECTION_CLOSE, and no other element is a `close` token for the grammar's tokenizer -/
def ConnTok (r : Resp) : Prop := ∀ v, connVal r = some v → ValShape r.fa.connClose v

/-- what must be known about the two token editors of mhd_str.c (proved as `editorSpecs` in
    `Mhd.Proofs.ReplyTokSpecs`, from `removeToken_close_spec` and `removeTokens_sublist_spec`) -/
structure EditorSpecs : Prop where
  rt : ∀ value n out rem, removeTokenCaseless value sClose n = some ⟨out, rem⟩ →
        ∃ es, out = joinE es ∧ (∀ e ∈ es, ElemOK e) ∧ CloseFree es
  rts : ∀ es toks out rem, (∀ e ∈ es, ElemOK e) → removeTokensCaseless (joinE es) toks = some ⟨out, rem⟩ →
        ∃ fs : List Bytes, fs.Sublist es ∧ out = joinE fs

theorem elemOK_sClose : ElemOK sClose := ⟨by decide, by decide⟩
theorem isTok_sClose : isTok vClose sClose = true := by decide

theorem closeFree_sub (es fs : List Bytes) (hs : fs.Sublist es) (h : CloseFree es) : CloseFree fs :=
  fun e he => h e (hs.subset he)

theorem closeFree_append (a b : List Bytes) (ha : CloseFree a) (hb : CloseFree b) : CloseFree (a ++ b) := by
  intro e he
  rcases List.mem_append.1 he with h | h
  · exact ha e h
  · exact hb e h

theorem mergeConn_joinE (ins : Bool) (old : Option Bytes) (eo en : List Bytes)
    (ho : match old with | some o => o = joinE eo ∧ eo ≠ [] | none => eo = [])
    (heo : ∀ e ∈ eo, ElemOK e) (hen : ∀ e ∈ en, ElemOK e) :
    mergeConn ins old (joinE en) = joinE ((if ins then [sClose] else []) ++ eo ++ en) := by
  unfold mergeConn
  simp only
  have hne : (joinE en).isEmpty = decide (en = []) := by
    by_cases h : en = []
    · subst h; rfl
    · have : joinE en ≠ [] := fun hh => h ((joinE_eq_nil en hen).1 hh)
      cases hx : joinE en with
      | nil => exact absurd hx this
      | cons _ _ => simp [h]
  cases old with
  | none =>
    simp only at ho; subst ho
    simp only [List.append_nil]
    cases ins
    · simp only [Bool.false_eq_true, if_false, List.nil_append, List.isEmpty_nil, if_true]
      by_cases h : en = []
      · subst h; rfl
      · simp [hne, h]
    · simp only [if_true]
      by_cases h : en = []
      · subst h; simp [joinE]
      · have : sClose.isEmpty = false := by decide
        simp only [hne, h, decide_false, Bool.false_eq_true, if_false, this]
        rw [show [sClose] ++ en = [sClose] ++ en from rfl, joinE_append [sClose] en (by simp) h]
        simp [joinE, sSep]
  | some o =>
    obtain ⟨ho1, ho2⟩ := ho
    subst ho1
    have hjo : joinE eo ≠ [] := fun hh => ho2 ((joinE_eq_nil eo heo).1 hh)
    have hjoe : (joinE eo).isEmpty = false := by
      cases hx : joinE eo with
      | nil => exact absurd hx hjo
      | cons _ _ => rfl
    cases ins
    · simp only [Bool.false_eq_true, if_false, List.nil_append, List.isEmpty_nil, if_true, hjoe]
      by_cases h : en = []
      · subst h; simp [hne]
      · simp only [hne, h, decide_false, Bool.false_eq_true, if_false]
        rw [joinE_append eo en ho2 h]
        simp [sSep]
    · have hc : sClose.isEmpty = false := by decide
      simp only [if_true, hc, Bool.false_eq_true, if_false]
      have e1 : sClose ++ (sSep ++ joinE eo) = joinE ([sClose] ++ eo) := by
        rw [joinE_append [sClose] eo (by simp) ho2]; simp [joinE, sSep]
      by_cases h : en = []
      · subst h
        simp only [hne, decide_true, if_true, List.append_nil]
        exact e1
      · have hne2 : (sClose ++ (sSep ++ joinE eo)).isEmpty = false := by simp [sClose]
        simp only [hne, h, decide_false, Bool.false_eq_true, if_false, hne2]
        rw [e1, show [sClose] ++ eo ++ en = ([sClose] ++ eo) ++ en from rfl,
            joinE_append ([sClose] ++ eo) en (by simp) h]
        simp [sSep]

theorem connVal_of_shape (r : Resp) (v : Bytes) (rest : List Hdr) (h : r.hdrs = ⟨.header, sConnection, v⟩ :: rest) :
    connVal r = some v := by
  unfold connVal; rw [h]; simp [List.find?, Mhd.Resp.isHdr_conn_head]

theorem connVal_none (r : Resp) (hinv : Inv r) (hf : r.fa.connHdr = false) : connVal r = none := by
  unfold connVal
  have hcn := hinv.conn
  simp only [hf] at hcn
  rw [find_none_of_cnt_zero _ _ hcn.1]; rfl

theorem addHeaderConnection_connTok (S : EditorSpecs) (r : Resp) (value : Bytes) (hinv : Inv r) (hct : ConnTok r) :
    ConnTok (addHeaderConnection r value).2 := by
  rcases addHeaderConnection_cases r value hinv with h | ⟨norm0, vhc, norm, _, hrt, hn, _, _, hcase⟩
  · rw [h]; exact hct
  obtain ⟨e0, he0, hok0, hcf0⟩ := S.rt _ _ _ _ hrt
  obtain ⟨en, hen, hoken, hcfn⟩ : ∃ en, norm = joinE en ∧ (∀ e ∈ en, ElemOK e) ∧ CloseFree en := by
    rcases hn with ⟨_, rfl⟩ | ⟨rem, hrts⟩
    · exact ⟨[], rfl, nofun, nofun⟩
    · rw [he0] at hrts
      obtain ⟨fs, hsub, hp⟩ := S.rts e0 _ _ _ hok0 hrts
      exact ⟨fs, hp, fun e he => hok0 e (hsub.subset he), closeFree_sub _ _ hsub hcf0⟩
  subst hen
  have okc : ∀ (es : List Bytes), (∀ e ∈ es, ElemOK e) → ∀ e ∈ [sClose] ++ es, ElemOK e := fun es h e he => by
    rcases List.mem_append.1 he with he | he
    · rw [List.mem_singleton.1 he]; exact elemOK_sClose
    · exact h e he
  have oka : ∀ (a b : List Bytes), (∀ e ∈ a, ElemOK e) → (∀ e ∈ b, ElemOK e) → ∀ e ∈ a ++ b, ElemOK e :=
    fun a b ha hb e he => (List.mem_append.1 he).elim (ha e) (hb e)
  rcases hcase with ⟨v0, rest, hf, hh, _, he⟩ | ⟨hf, he⟩
  · rw [he]
    obtain ⟨eo, heo, hokeo, hsh⟩ := hct v0 (connVal_of_shape r v0 rest hh)
    have heo_ne : eo ≠ [] := fun h2 => by
      have := (hinv.clean ⟨.header, sConnection, v0⟩ (by rw [hh]; exact List.mem_cons_self)).2.1
      rw [heo, h2] at this; exact this rfl
    have hm := mergeConn_joinE (vhc && !r.fa.connClose) (some v0) eo en ⟨heo, heo_ne⟩ hokeo hoken
    intro v hv
    rw [connVal_of_shape _ _ rest rfl] at hv
    injection hv with hv; subst hv
    show ValShape (vhc && !r.fa.connClose || r.fa.connClose) _
    cases hins : vhc && !r.fa.connClose with
    | true =>
      have hcc : r.fa.connClose = false := by
        rw [Bool.and_eq_true, Bool.not_eq_true'] at hins; exact hins.2
      rw [hcc] at hsh
      rw [hins] at hm
      exact ⟨[sClose] ++ eo ++ en, hm, oka _ _ (okc eo hokeo) hoken,
        ⟨eo ++ en, by simp, closeFree_append _ _ hsh hcfn⟩⟩
    | false =>
      rw [hins] at hm
      refine ⟨eo ++ en, hm, oka _ _ hokeo hoken, ?_⟩
      rw [Bool.false_or]
      cases hcc : r.fa.connClose with
      | true =>
        rw [hcc] at hsh
        obtain ⟨es', h1, h2⟩ := hsh
        exact ⟨es' ++ en, by rw [h1]; rfl, closeFree_append _ _ h2 hcfn⟩
      | false => rw [hcc] at hsh; exact closeFree_append _ _ hsh hcfn
  · rw [he]
    have hm := mergeConn_joinE vhc none [] en rfl nofun hoken
    intro v hv
    rw [connVal_of_shape _ _ r.hdrs rfl] at hv
    injection hv with hv; subst hv
    show ValShape vhc _
    cases vhc with
    | true => exact ⟨[sClose] ++ en, by simpa using hm, okc en hoken, ⟨en, rfl, hcfn⟩⟩
    | false => exact ⟨en, by simpa using hm, hoken, hcfn⟩

theorem closeFree_not_prefix (es : List Bytes) (hok : ∀ e ∈ es, ElemOK e) (hcf : CloseFree es)
    (hp : ClosePrefix (joinE es)) : False := by
  have h1 := Mhd.Bridge.hasToken_close_of_prefix _ hp
  rw [hasToken_joinE es vClose (by decide) hok] at h1
  rw [List.any_eq_true] at h1
  obtain ⟨e, he, ht⟩ := h1
  rw [hcf e he] at ht; cases ht

theorem keepTest_head (fs : List Bytes) (hok : ∀ e ∈ fs, ElemOK e) : keepTest (joinE (sClose :: fs)) = true := by
  cases fs with
  | nil => decide
  | cons a b =>
    have hne : joinE (a :: b) ≠ [] := fun hh => by
      have := (joinE_eq_nil (a :: b) hok).1 hh; cases this
    rw [joinE_cons sClose (a :: b) (by simp)]
    unfold keepTest
    cases hx : joinE (a :: b) with
    | nil => exact absurd hx hne
    | cons c d => simp [sClose, sCloseSep]

theorem delHeaderConnection_connTok (S : EditorSpecs) (r : Resp) (value : Bytes) (hinv : Inv r) (hct : ConnTok r)
    (hf : r.fa.connHdr = true) : ConnTok (delHeaderConnection r value).2 := by
  rcases delHeaderConnection_cases r value hinv hf with h | ⟨v0, rest, v', hh, hrt, ⟨_, he⟩ | ⟨_, he⟩⟩
  · rw [h]; exact hct
  · rw [he]
    obtain ⟨_, rest1, hh1, hc0, _, _⟩ := conn_shape r hinv hf
    rw [hh] at hh1; injection hh1 with _ hr; subst hr
    intro v hv
    have : connVal { r with hdrs := rest, fa := { r.fa with connHdr := false, connClose := false } } = none := by
      unfold connVal; dsimp only
      rw [find_none_of_cnt_zero _ _ hc0]; rfl
    rw [this] at hv; cases hv
  · rw [he]
    obtain ⟨eo, heo, hokeo, hsh⟩ := hct v0 (connVal_of_shape r v0 rest hh)
    rw [heo] at hrt
    obtain ⟨fs, hsub, hp⟩ := S.rts eo _ _ _ hokeo hrt
    have hokf : ∀ e ∈ fs, ElemOK e := fun e he => hokeo e (hsub.subset he)
    intro v hv
    rw [connVal_of_shape _ _ rest rfl] at hv
    injection hv with hv; subst hv
    show ValShape (keepTest v' && r.fa.connClose) v'
    cases hcc : r.fa.connClose with
    | true =>
      rw [hcc] at hsh
      obtain ⟨es', h1, h2⟩ := hsh
      subst h1
      rw [Bool.and_true]
      rcases List.sublist_cons_iff.1 hsub with hsub' | ⟨fs', hfs, hsub'⟩
      · -- the leading close is removed: what remains has no close token, so the test fails
        have hcf := closeFree_sub _ _ hsub' h2
        have hk : keepTest v' = false := by
          cases hx : keepTest v' with
          | false => rfl
          | true => exact (closeFree_not_prefix _ hokf hcf (hp ▸ keepTest_prefix v' hx)).elim
        rw [hk]
        exact ⟨fs, hp, hokf, hcf⟩
      · subst hfs
        rw [hp, keepTest_head _ (fun e he => hokf e (List.mem_cons_of_mem _ he))]
        exact ⟨sClose :: fs', rfl, hokf, ⟨fs', rfl, closeFree_sub _ _ hsub' h2⟩⟩
    | false =>
      rw [hcc] at hsh
      rw [Bool.and_false]
      exact ⟨fs, hp, hokf, closeFree_sub eo fs hsub hsh⟩

theorem applyCall_connTok (S : EditorSpecs) (r : Resp) (c : Call) (hinv : Inv r) (hct : ConnTok r) :
    ConnTok (applyCall r c).2 := by
  rcases applyCall_cases r c hinv with ⟨⟨h1, h2, _⟩, _⟩ | ⟨v, h⟩ | ⟨hf, v, h⟩
  · intro v hv; rw [h1] at hv; rw [h2]; exact hct v hv
  · rw [h]; exact addHeaderConnection_connTok S r v hinv hct
  · rw [h]; exact delHeaderConnection_connTok S r v hinv hct hf

theorem runCalls_connTok (S : EditorSpecs) (cs : List Call) : ∀ (r : Resp), Inv r → ConnTok r → (∀ c ∈ cs, c.Legal) →
    ConnTok (runCalls r cs) :=
  fun _ hi hc hl => (List.foldlRecOn (motive := fun r => Inv r ∧ ConnTok r) cs _ ⟨hi, hc⟩ fun r h c hm =>
    ⟨applyCall_inv r c h.1 (hl c hm), applyCall_connTok S r c h.1 h.2⟩).2

theorem connTok_of_nil (r : Resp) (h : r.hdrs = []) : ConnTok r := by
  intro v hv; unfold connVal at hv; rw [h] at hv; simp at hv
end Mhd.Tok
