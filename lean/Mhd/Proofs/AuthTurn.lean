/-
  C14: the scanner of parse_dauth_params taken apart once.  Each sub-scanner is compared with the piece of the
  lenient grammar it reads, in both directions (`scanQ` with `QBody`, `skipU` with `junk`, `valueAt` and `knownValue`
  with `LVal`); `turn` is the body of the `while` loop, `runLoop` the loop with the fuel that always suffices.
  `parseDigest_exact`: the scanner accepts exactly the sentences of the lenient grammar whose elements satisfy
  `LElem.exact`, with the last occurrences in the slots.
-/
import Mhd.Proofs.AuthGram
namespace Mhd.Auth
open Mhd.Gen.Auth Mhd.Auth.Lenient

theorem scanQ_body (t : Option UInt8) (raw rest : Bytes) (h : QBody raw = true) :
    scanQ t (raw ++ 34 :: rest) = .ok (raw, raw.any (· = 92), rest) := by
  fun_induction QBody raw with
  | case1 => simp [scanQ_quote]
  | case2 => cases h
  | case3 => cases h
  | case4 c2 r2 _ ih =>
    simp only [Bool.and_eq_true, decide_eq_true_eq, ne_eq] at h
    simp [scanQ_esc _ _ _ h.1, ih h.2]
  | case5 c r h34 h92 ih =>
    simp only [Bool.and_eq_true, decide_eq_true_eq, ne_eq] at h
    simp [scanQ_plain _ _ _ h34 h92 h.1, ih h.2, h92]

theorem scanQ_ok (t : Option UInt8) (s : Bytes) (x : Bytes × Bool × Bytes) (h : scanQ t s = .ok x) :
    s = x.1 ++ 34 :: x.2.2 ∧ QBody x.1 = true ∧ x.2.1 = x.1.any (· = 92) := by
  fun_induction scanQ t s generalizing x with
  | case1 => cases h
  | case2 r => cases h; simp [QBody_nil]
  | case3 => cases h
  | case4 => cases h
  | case5 => cases h
  | case6 c r h0 _ ih =>
    rw [Res.map_eq_ok] at h
    obtain ⟨y, hy, rfl⟩ := h
    obtain ⟨e1, e2, _⟩ := ih y hy
    exact ⟨by simp only [List.cons_append]; rw [← e1], by simp [QBody_esc, h0, e2], by simp⟩
  | case7 => cases h
  | case8 c r h34 h92 h0 ih =>
    rw [Res.map_eq_ok] at h
    obtain ⟨y, hy, rfl⟩ := h
    obtain ⟨e1, e2, e3⟩ := ih y hy
    exact ⟨by simp only [List.cons_append]; rw [← e1], by simp [QBody_plain _ _ h34 h92, h0, e2], by simp [h92, e3]⟩

theorem scanTok_token (t : UInt8) (ht : t ≠ 59) (v rest : Bytes) (hv : v.all tokByte = true) (hrest : TokEnd rest) :
    scanTok (some t) (v ++ rest) = .ok (v, rest) := by
  induction v with
  | nil =>
    rcases hrest with h | ⟨c, r, h, hc⟩
    · subst h; simp [scanTok_nil_some, ht]
    · subst h; simp [scanTok_cons, hc]
  | cons c r ih =>
    simp only [List.all_cons, Bool.and_eq_true] at hv
    have hc := hv.1
    simp only [tokByte, Bool.and_eq_true, ne_eq, decide_eq_true_eq] at hc
    obtain ⟨⟨⟨⟨⟨h34, h0⟩, h32⟩, h9⟩, h44⟩, h59⟩ := hc
    simp [scanTok_cons, h34, h0, h32, h9, h44, h59, ih hv.2]

theorem scanTok_ok (t : Option UInt8) (s : Bytes) (x : Bytes × Bytes) (h : scanTok t s = .ok x) :
    s = x.1 ++ x.2 ∧ x.1.all tokByte = true := by
  induction s generalizing x with
  | nil =>
    cases t with
    | none => rw [scanTok_nil_none] at h; cases h
    | some t => rw [scanTok_nil_some] at h; split at h <;> cases h; exact ⟨rfl, rfl⟩
  | cons c r ih =>
    rw [scanTok_cons] at h
    split at h
    · cases h; exact ⟨rfl, rfl⟩
    · rename_i hd
      split at h; · cases h
      split at h; · cases h
      split at h; · cases h
      rename_i h59 h0 h34
      rw [Res.map_eq_ok] at h
      obtain ⟨y, hy, rfl⟩ := h
      obtain ⟨e1, e2⟩ := ih y hy
      simp only [not_or] at hd
      exact ⟨by simp only [List.cons_append]; rw [← e1], by simp [tokByte, h34, h0, h59, hd.1, hd.2.1, hd.2.2, e2]⟩

theorem skipU_junk (b : Bool) (u rest : Bytes) (h : junk b u = true) (ht : TailOK rest) :
    skipU b (u ++ rest) = .ok rest := by
  fun_induction junk b u with
  | case1 =>
    rcases ht with rfl | ⟨m, rfl⟩
    · exact skipU_false_nil
    · simp [skipU_false_cons]
  | case2 c r ih1 ih2 =>
    simp only [Bool.and_eq_true, decide_eq_true_eq, ne_eq] at h
    obtain ⟨⟨⟨h44, h0⟩, h59⟩, hr⟩ := h
    simp only [List.cons_append, skipU_false_cons, h44, h0, h59, or_self, if_false]
    by_cases hq : c = 34
    · rw [if_pos hq] at hr ⊢; exact ih1 hr
    · rw [if_neg hq] at hr ⊢; exact ih2 hr
  | case3 => cases h
  | case4 r ih => simpa [skipU_true_quote] using ih h
  | case5 c r h34 ih2 ih1 =>
    simp only [Bool.and_eq_true, decide_eq_true_eq, ne_eq] at h
    by_cases h92 : c = 92
    · subst h92
      cases r with
      | nil => simp at h
      | cons c2 r2 => simpa [skipU_true_esc] using ih2 (by simpa using h.2)
    · rw [if_neg h92] at h
      simpa [skipU_true_plain _ _ h34 h.1 h92] using ih1 h.2

theorem skipU_sound (b : Bool) (inp rest : Bytes) (h : skipU b inp = .ok rest) :
    ∃ u, inp = u ++ rest ∧ junk b u = true ∧ (rest = [] ∨ ∃ m, rest = 44 :: m) := by
  fun_induction skipU b inp generalizing rest with
  | case1 => cases h; exact ⟨[], rfl, by simp [junk], Or.inl rfl⟩
  | case2 r => cases h; exact ⟨[], rfl, by simp [junk], Or.inr ⟨r, rfl⟩⟩
  | case3 => cases h
  | case4 r _ _ ih =>
    obtain ⟨u, e1, e2, e3⟩ := ih rest h
    exact ⟨34 :: u, by rw [e1]; rfl, by simp [junk, e2], e3⟩
  | case5 c r h44 hbad hq ih =>
    obtain ⟨u, e1, e2, e3⟩ := ih rest h
    simp only [not_or] at hbad
    exact ⟨c :: u, by rw [e1]; rfl, by simp [junk, h44, hbad.1, hbad.2, hq, e2], e3⟩
  | case6 => cases h
  | case7 r ih =>
    obtain ⟨u, e1, e2, e3⟩ := ih rest h
    exact ⟨34 :: u, by rw [e1]; rfl, by rw [junk.eq_def]; simp [e2], e3⟩
  | case8 => cases h
  | case9 => cases h
  | case10 c r _ _ ih =>
    obtain ⟨u, e1, e2, e3⟩ := ih rest h
    exact ⟨92 :: c :: u, by rw [e1]; rfl, by simp [junk, e2], e3⟩
  | case11 c r hq h0 hbs ih =>
    obtain ⟨u, e1, e2, e3⟩ := ih rest h
    exact ⟨c :: u, by rw [e1]; rfl, by rw [junk.eq_def]; simp [hq, h0, hbs, e2], e3⟩

theorem valueAt_unquoted (t : Option UInt8) (s : Bytes) (h : s.head? ≠ some 34) :
    valueAt t s = (scanTok t s).map fun x => (s.length, x.1, false, x.2) := by
  unfold valueAt
  cases s with
  | nil => rfl
  | cons c r => simp only; rw [if_neg (by simpa using h)]

theorem valueAt_quoted (t : Option UInt8) (r : Bytes) :
    valueAt t (34 :: r) = (scanQ t r).map fun x => (r.length, x.1, x.2.1, x.2.2) := by
  simp [valueAt]

theorem valueAt_val (t : UInt8) (ht : t ≠ 59) (val : LVal) (W : Bytes) (hv : val.wf = true) (hW : TokEnd W) :
    ∃ vs, valueAt (some t) (val.render ++ W) = .ok (vs, val.rawq.1, val.rawq.2, W) := by
  cases val with
  | tok v =>
    have hhead : (v ++ W).head? ≠ some 34 := by
      cases v with
      | nil =>
        rcases hW with rfl | ⟨c, r, rfl, hc⟩
        · simp
        · rcases hc with h | h | h <;> subst h <;> simp
      | cons c r =>
        have := List.all_eq_true.mp hv c (by simp)
        simp only [tokByte, Bool.and_eq_true, ne_eq, decide_eq_true_eq] at this
        simpa using this.1.1.1.1.1
    exact ⟨(v ++ W).length, by simp only [LVal.render, LVal.rawq, valueAt_unquoted _ _ hhead, scanTok_token t ht v W hv hW, Res.map_ok]⟩
  | quoted raw =>
    refine ⟨(raw ++ [34] ++ W).length, ?_⟩
    simp only [LVal.render, LVal.rawq, List.cons_append, List.append_assoc, List.nil_append, valueAt_quoted,
      scanQ_body _ _ _ hv, Res.map_ok]

theorem valueAt_ok (t : Option UInt8) (r3 : Bytes) (x : Nat × Bytes × Bool × Bytes) (h : valueAt t r3 = .ok x) :
    ∃ val : LVal, r3 = val.render ++ x.2.2.2 ∧ val.wf = true ∧ val.rawq = (x.2.1, x.2.2.1) := by
  by_cases hq : r3.head? = some 34
  · obtain ⟨r4, rfl⟩ : ∃ r4, r3 = 34 :: r4 := by
      cases r3 with
      | nil => simp at hq
      | cons c r => exact ⟨r, by simpa using hq⟩
    rw [valueAt_quoted, Res.map_eq_ok] at h
    obtain ⟨a, ha, rfl⟩ := h
    obtain ⟨e1, e2, e3⟩ := scanQ_ok t r4 a ha
    exact ⟨.quoted a.1, by simp [LVal.render, e1], e2, by simp [LVal.rawq, e3]⟩
  · rw [valueAt_unquoted _ _ hq, Res.map_eq_ok] at h
    obtain ⟨a, ha, rfl⟩ := h
    obtain ⟨e1, e2⟩ := scanTok_ok t r3 a ha
    exact ⟨.tok a.1, e1, e2, rfl⟩

theorem knownValue_eq (t : Option UInt8) (ws1 X : Bytes) (hw1 : allWs ws1 = true) :
    knownValue t (ws1 ++ 61 :: X) =
      (valueAt t (skipWs X)).bind fun x =>
        match afterValue x.2.2.2 with
        | some r6 => .ok (x.1, x.2.1, x.2.2.1, r6)
        | none => .reject := by
  unfold knownValue
  rw [skipWs_append _ _ hw1, skipWs_cons]
  simp only [show isWs 61 = false by decide, Bool.false_eq_true, if_false, ne_eq, not_true_eq_false]
  rfl

theorem Lenient.LVal.render_head (val : LVal) (hv : val.wf = true) (X : Bytes) (hne : val.render ≠ []) :
    ∃ c r, val.render ++ X = c :: r ∧ isWs c = false := by
  cases val with
  | tok v =>
    cases v with
    | nil => exact absurd rfl hne
    | cons c r =>
      have := List.all_eq_true.mp hv c (by simp)
      simp only [tokByte, Bool.and_eq_true, ne_eq, decide_eq_true_eq] at this
      exact ⟨c, r ++ X, rfl, by simp [isWs, this.1.1.1.2, this.1.1.2]⟩
  | quoted raw => exact ⟨34, raw ++ [34] ++ X, by simp [LVal.render], by decide⟩

theorem knownValue_val (t : UInt8) (ht : t ≠ 59) (ws1 ws2 ws3 : Bytes) (val : LVal) (rest : Bytes)
    (hw1 : allWs ws1 = true) (hw2 : allWs ws2 = true) (hw3 : allWs ws3 = true) (hv : val.wf = true)
    (htl : TailOK rest) :
    ∃ vs, knownValue (some t) (ws1 ++ 61 :: (ws2 ++ (val.render ++ (ws3 ++ rest)))) =
      .ok (vs, val.rawq.1, val.rawq.2, rest) := by
  -- an empty unquoted value: the white space on both sides of it is skipped at once
  obtain ⟨W, hW, hskip, hafter⟩ :
      ∃ W, TokEnd W ∧ skipWs (val.render ++ (ws3 ++ rest)) = val.render ++ W ∧ afterValue W = some rest := by
    by_cases hne : val.render = []
    · refine ⟨rest, ws_tail_head [] rest rfl htl, ?_, afterValue_ok [] rest rfl htl⟩
      rw [hne, List.nil_append, List.nil_append, skipWs_append _ _ hw3, skipWs_tail _ htl]
    · exact ⟨ws3 ++ rest, ws_tail_head _ _ hw3 htl,
        skipWs_stop _ (Or.inr (LVal.render_head val hv _ hne)), afterValue_ok _ _ hw3 htl⟩
  obtain ⟨vs, hval⟩ := valueAt_val t ht val W hv hW
  exact ⟨vs, by rw [knownValue_eq _ _ _ hw1, skipWs_append _ _ hw2, hskip, hval]; simp [hafter]⟩

theorem afterValue_some (r5 r6 : Bytes) (h : afterValue r5 = some r6) : skipWs r5 = r6 ∧ TailOK r6 := by
  unfold afterValue at h
  split at h
  · rename_i hnil; cases h; exact ⟨hnil, Or.inl rfl⟩
  · rename_i c r hcons
    by_cases hc : c = 44
    · subst hc; simp at h; subst h; exact ⟨hcons, Or.inr ⟨r, rfl⟩⟩
    · simp [hc] at h

theorem knownValue_ok (t : Option UInt8) (s : Bytes) (x : Nat × Bytes × Bool × Bytes) (h : knownValue t s = .ok x) :
    ∃ (ws1 ws2 ws3 : Bytes) (val : LVal), s = ws1 ++ 61 :: (ws2 ++ (val.render ++ (ws3 ++ x.2.2.2))) ∧
      allWs ws1 = true ∧ allWs ws2 = true ∧ allWs ws3 = true ∧ val.wf = true ∧ val.rawq = (x.2.1, x.2.2.1) ∧
      TailOK x.2.2.2 := by
  obtain ⟨ws1, hs1, hw1, _⟩ := skipWs_split s
  cases hsk : skipWs s with
  | nil => simp [knownValue, hsk] at h
  | cons c r2 =>
    by_cases hc : c = 61
    · subst hc
      rw [hsk] at hs1
      rw [hs1, knownValue_eq _ _ _ hw1, Res.bind_eq_ok] at h
      obtain ⟨a, ha, h⟩ := h
      obtain ⟨val, hv1, hv2, hv3⟩ := valueAt_ok t _ a ha
      obtain ⟨ws2, hs2, hw2, _⟩ := skipWs_split r2
      obtain ⟨ws3, hs3, hw3, _⟩ := skipWs_split a.2.2.2
      cases h6 : afterValue a.2.2.2 with
      | none => simp [h6] at h
      | some r6 =>
        simp only [h6, Res.ok.injEq] at h
        subst h
        obtain ⟨e6, htl⟩ := afterValue_some _ _ h6
        refine ⟨ws1, ws2, ws3, val, ?_, hw1, hw2, hw3, hv2, hv3, htl⟩
        rw [← e6, ← hs3, ← hv1, ← hs2]; exact hs1
    · simp [knownValue, hsk, hc] at h

/-- what one turn does with a non-empty input: the slot it fills (known name) with the suffix length at the
    value start, the slice and the flag; and the input left behind the element -/
def turn (t : Option UInt8) (inp : Bytes) : Res (Option (Nat × Nat × Bytes × Bool) × Bytes) :=
  if inp.head? = some 61 then .reject
  else
    match findName paramNames 0 inp with
    | some (p, nmLen) => (knownValue t (inp.drop nmLen)).map fun x => (some (p, x.1, x.2.1, x.2.2.1), x.2.2.2)
    | none => (skipU false inp).map fun r6 => (none, r6)

def put (n : Nat) (st : Slots) : Option (Nat × Nat × Bytes × Bool) → Slots
  | none => st
  | some (p, vs, raw, q) => st.set p ⟨n - vs, raw, q⟩

theorem paramLoop_succ (t : Option UInt8) (n fuel : Nat) (st : Slots) (c : UInt8) (r : Bytes) :
    paramLoop t n (fuel + 1) st (c :: r) =
      (turn t (c :: r)).bind fun x => paramLoop t n fuel (put n st x.1) (nextParam x.2) := by
  rw [paramLoop.eq_3, turn]
  simp only [List.head?_cons, Option.some.injEq]
  by_cases hc : c = 61
  · simp [hc]
  · rw [if_neg hc, if_neg hc]
    cases findName paramNames 0 (c :: r) with
    | none => simp only; cases skipU false (c :: r) <;> rfl
    | some pl => simp only; cases knownValue t ((c :: r).drop pl.2) <;> rfl

theorem put_known (n : Nat) (st : Slots) (p vs : Nat) (val : LVal) (name ws1 ws2 ws3 : Bytes) (k : Nat) :
    ((put n st (some (p, vs, val.rawq.1, val.rawq.2))) k).map pr =
      stepL (.known p name ws1 ws2 val ws3) ((st k).map pr) k := by
  simp only [put, Slots.set_pr, stepL, pr]

theorem turn_sound (t : Option UInt8) (inp : Bytes) (x : Option (Nat × Nat × Bytes × Bool) × Bytes)
    (h : turn t inp = .ok x) :
    ∃ e : LElem, inp = e.render ++ x.2 ∧ e.wf = true ∧ TailOK x.2 ∧
      (∀ u, e = .other u → findName paramNames 0 inp = none) ∧
      ∀ n st k, ((put n st x.1) k).map pr = stepL e ((st k).map pr) k := by
  unfold turn at h
  split at h
  · cases h
  · rename_i h61
    cases hf : findName paramNames 0 inp with
    | some pl =>
      obtain ⟨p, nmLen⟩ := pl
      simp only [hf, Res.map_eq_ok] at h
      obtain ⟨y, hy, rfl⟩ := h
      obtain ⟨hp, hname, rfl⟩ := findName_known _ p nmLen hf
      obtain ⟨ws1, ws2, ws3, val, hs, hw1, hw2, hw3, hv, hrq, hrest⟩ := knownValue_ok t _ y hy
      refine ⟨.known p (nameAt inp) ws1 ws2 val ws3, ?_, ?_, hrest, nofun, fun n st k => ?_⟩
      · have := (drop_nameAt inp).symm
        rw [hs] at this
        simpa [LElem.render, List.append_assoc] using this
      · exact LElem.wf_known_iff.mpr ⟨hp, hname, hw1, hw2, hw3, hv⟩
      · rw [← put_known n st p y.1 val _ ws1 ws2 ws3 k, hrq]
    | none =>
      simp only [hf, Res.map_eq_ok] at h
      obtain ⟨r6, h6, rfl⟩ := h
      obtain ⟨u, hu1, hu2, hu3⟩ := skipU_sound false inp r6 h6
      refine ⟨.other u, hu1, ?_, hu3, fun _ _ => rfl, fun _ _ _ => rfl⟩
      refine LElem.wf_other_iff.mpr ⟨hu2, fun hh => ?_⟩
      apply h61
      rw [hu1]
      cases u with
      | nil => simp at hh
      | cons c u' => simpa using hh

theorem turn_known (t : Option UInt8) (p : Nat) (hp : p < 12) (name ws1 X : Bytes) (hn : name.map toLowerB = nameOf p)
    (hw1 : allWs ws1 = true) :
    turn t (name ++ (ws1 ++ 61 :: X)) =
      (knownValue t (ws1 ++ 61 :: X)).map fun x => (some (p, x.1, x.2.1, x.2.2.1), x.2.2.2) := by
  obtain ⟨c, r, hcr, hc⟩ := name_head p hp name hn
  have h61 : (name ++ (ws1 ++ 61 :: X)).head? ≠ some 61 := by
    rw [hcr]; intro h; simp at h; rw [h] at hc; exact absurd hc (by decide)
  rw [turn, if_neg h61, findName_named p hp name hn _ (delimited_ws_eq ws1 X hw1)]
  simp only [List.drop_left]

theorem turn_complete (t : UInt8) (ht : t ≠ 59) (e : LElem) (rest : Bytes) (hwf : e.wf = true) (hex : e.exact = true)
    (htl : TailOK rest) (hne : e.render ++ rest ≠ []) :
    ∃ o, turn (some t) (e.render ++ rest) = .ok (o, rest) ∧
      ∀ n st k, ((put n st o) k).map pr = stepL e ((st k).map pr) k := by
  cases e with
  | known p name ws1 ws2 val ws3 =>
    obtain ⟨hp, hn, hw1, hw2, hw3, hv⟩ := LElem.wf_known_iff.mp hwf
    obtain ⟨vs, hkv⟩ := knownValue_val t ht ws1 ws2 ws3 val rest hw1 hw2 hw3 hv htl
    refine ⟨some (p, vs, val.rawq.1, val.rawq.2), ?_, fun n st k => put_known n st p vs val name ws1 ws2 ws3 k⟩
    rw [show (LElem.known p name ws1 ws2 val ws3).render ++ rest =
        name ++ (ws1 ++ 61 :: (ws2 ++ (val.render ++ (ws3 ++ rest)))) by simp [LElem.render, List.append_assoc],
      turn_known _ p hp name ws1 _ hn hw1, hkv]
    rfl
  | other u =>
    rw [LElem.wf_other_iff] at hwf
    refine ⟨none, ?_, fun _ _ _ => rfl⟩
    have h61 : (u ++ rest).head? ≠ some 61 := by
      cases u with
      | nil =>
        rcases htl with rfl | ⟨m, rfl⟩
        · exact absurd rfl hne
        · simp
      | cons c u' => simpa using hwf.2
    simp only [LElem.render]
    rw [turn, if_neg h61, (findName_other u rest htl.delimited).mpr (LElem.exact_other_iff.mp hex).2]
    simp only [skipU_junk false u rest hwf.1 htl, Res.map_ok]

theorem turn_length (t : Option UInt8) (c : UInt8) (r : Bytes) (x : Option (Nat × Nat × Bytes × Bool) × Bytes)
    (h : turn t (c :: r) = .ok x) : (nextParam x.2).length < (c :: r).length := by
  obtain ⟨e, hs, _⟩ := turn_sound t _ x h
  have h1 := nextParam_length x.2
  have h2 := congrArg List.length hs
  simp only [List.length_append, List.length_cons] at h2 ⊢
  omega

theorem paramLoop_fuel (t : Option UInt8) (n : Nat) : ∀ (f1 f2 : Nat) (st : Slots) (inp : Bytes),
    inp.length < f1 → inp.length < f2 → paramLoop t n f1 st inp = paramLoop t n f2 st inp := by
  intro f1
  induction f1 with
  | zero => intro f2 st inp h; omega
  | succ f1 ih =>
    intro f2 st inp h1 h2
    obtain ⟨f2, rfl⟩ : ∃ k, f2 = k + 1 := ⟨f2 - 1, by omega⟩
    cases inp with
    | nil => rw [paramLoop.eq_2, paramLoop.eq_2]
    | cons c r =>
      rw [paramLoop_succ, paramLoop_succ]
      cases hx : turn t (c :: r) with
      | ok x =>
        have := turn_length t c r x hx
        simp only [List.length_cons] at this h1 h2
        exact ih f2 _ _ (by omega) (by omega)
      | reject => rfl
      | fault e => rfl

/-- the `while (str_len > i)` loop with the fuel that always suffices -/
def runLoop (t : Option UInt8) (n : Nat) (st : Slots) (inp : Bytes) : Res Slots := paramLoop t n (inp.length + 1) st inp

theorem paramLoop_eq_runLoop (t : Option UInt8) (n fuel : Nat) (st : Slots) (inp : Bytes) (h : inp.length < fuel) :
    paramLoop t n fuel st inp = runLoop t n st inp := paramLoop_fuel t n _ _ st inp h (Nat.lt_succ_self _)

theorem runLoop_nil (t : Option UInt8) (n : Nat) (st : Slots) : runLoop t n st [] = .ok st := by rw [runLoop, paramLoop.eq_2]

theorem runLoop_turn (t : Option UInt8) (n : Nat) (st : Slots) (inp : Bytes) (hne : inp ≠ []) :
    runLoop t n st inp = (turn t inp).bind fun x => runLoop t n (put n st x.1) (nextParam x.2) := by
  obtain ⟨c, r, rfl⟩ := List.exists_cons_of_ne_nil hne
  rw [runLoop, paramLoop_succ]
  cases hx : turn t (c :: r) with
  | ok x => exact paramLoop_eq_runLoop t n _ _ _ (turn_length t c r x hx)
  | reject => rfl
  | fault e => rfl

theorem parseDigest_eq_runLoop (s : Bytes) (t : Option UInt8) :
    parseDigest s t = (runLoop t s.length Slots.empty (skipWs s)).map fun st =>
      { slots := st, userhash := userhashOf (st kUserhash), algo3 := algoOf (st kAlgorithm), qop := qopOf (st kQop) } := by
  rw [parseDigest, paramLoop_eq_runLoop _ _ _ _ _ (Nat.lt_succ_of_le (skipWs_length s))]

theorem parseDigest_fields {s : Bytes} {t : Option UInt8} {d : DAuth} (h : parseDigest s t = .ok d) :
    d.algo3 = algoOf (d.slots kAlgorithm) ∧ d.qop = qopOf (d.slots kQop) ∧ d.userhash = userhashOf (d.slots kUserhash) := by
  rw [parseDigest, Res.map_eq_ok] at h
  obtain ⟨st, _, rfl⟩ := h
  exact ⟨rfl, rfl, rfl⟩

theorem runLoop_induct (t : Option UInt8) {P : Bytes → Prop} (nil : P [])
    (cons : ∀ c r, (∀ x, turn t (c :: r) = .ok x → P (nextParam x.2)) → P (c :: r)) : ∀ inp, P inp := by
  intro inp
  induction h : inp.length using Nat.strongRecOn generalizing inp with
  | _ m ih =>
    cases inp with
    | nil => exact nil
    | cons c r => exact cons c r fun x hx => ih _ (h ▸ turn_length t c r x hx) _ rfl

theorem exact_other (u rest : Bytes) (htl : TailOK rest) (hn : NoWs (u ++ rest))
    (hf : findName paramNames 0 (u ++ rest) = none) : (LElem.other u).exact = true := by
  refine LElem.exact_other_iff.mpr ⟨?_, (findName_other u rest htl.delimited).mp hf⟩
  cases u with
  | nil => exact .inl rfl
  | cons c u' =>
    rcases hn with h | ⟨c', r', h, hc⟩
    · cases h
    · cases h; exact .inr ⟨c, u', rfl, hc⟩

theorem runLoop_sound (t : Option UInt8) (n : Nat) : ∀ inp, NoWs inp → ∀ st st', runLoop t n st inp = .ok st' →
    ∃ ls : List (LElem × Bytes), ls ≠ [] ∧ renderL ls = inp ∧
      (∀ x ∈ ls, x.1.wf = true ∧ x.1.exact = true ∧ allWs x.2 = true) ∧
      ∀ k, (st' k).map pr = lview ls ((st k).map pr) k := by
  refine runLoop_induct t ?_ ?_
  · intro _ st st' h
    rw [runLoop_nil] at h; cases h
    exact ⟨[(.other [], [])], by simp, rfl, by simp [LElem.wf, LElem.exact, junk, allWs]; decide, fun k => rfl⟩
  · intro c r ih hn st st' h
    rw [runLoop_turn _ _ _ _ (List.cons_ne_nil c r), Res.bind_eq_ok] at h
    obtain ⟨x, hx, hrun⟩ := h
    obtain ⟨e, hs, hwf, htl, hoth, hput⟩ := turn_sound t _ x hx
    have hex : e.exact = true := by
      cases e with
      | known => rfl
      | other u => exact exact_other u x.2 htl (hs ▸ hn) (hs ▸ hoth u rfl)
    rcases htl with hr | ⟨m, hr⟩
    · rw [hr, nextParam, runLoop_nil] at hrun; cases hrun
      refine ⟨[(e, [])], by simp, by simp [renderL, hs, hr], by simp [hwf, hex, allWs], fun k => ?_⟩
      rw [lview_cons]; exact hput n st k
    · obtain ⟨ls', hne, hrend, hwfs, hview⟩ := ih x hx (by rw [hr]; exact skipWs_noWs m) _ _ hrun
      obtain ⟨w, hw1, hw2, _⟩ := skipWs_split m
      refine ⟨(e, w) :: ls', by simp, ?_, ?_, fun k => ?_⟩
      · rw [renderL_cons_ne _ _ hne, hrend, hs, hr]; simp only [nextParam]; rw [← hw1]
      · intro y hy
        rcases List.mem_cons.mp hy with rfl | hy
        · exact ⟨hwf, hex, hw2⟩
        · exact hwfs y hy
      · rw [lview_cons, hview k, hput n st k]

theorem Lenient.LElem.noWs_append (e : LElem) (hwf : e.wf = true) (hex : e.exact = true) (X : Bytes) (hX : NoWs X) :
    NoWs (e.render ++ X) := by
  cases e with
  | known p name ws1 ws2 val ws3 =>
    obtain ⟨hp, hn, _⟩ := LElem.wf_known_iff.mp hwf
    obtain ⟨c, r, rfl, hc⟩ := name_head p hp name hn
    exact Or.inr ⟨c, r ++ (ws1 ++ 61 :: (ws2 ++ (val.render ++ ws3))) ++ X, by simp [LElem.render],
      isWs_false_of_isDelim_false hc⟩
  | other u =>
    rcases (LElem.exact_other_iff.mp hex).1 with rfl | ⟨c, u', rfl, hc⟩
    · exact hX
    · exact Or.inr ⟨c, u' ++ X, rfl, hc⟩

/-- elements each followed by its comma and white space -/
def sepL : List (LElem × Bytes) → Bytes
  | [] => []
  | x :: l => x.1.render ++ 44 :: (x.2 ++ sepL l)

theorem sepL_noWs (ls : List (LElem × Bytes)) (h : ∀ x ∈ ls, x.1.wf = true ∧ x.1.exact = true ∧ allWs x.2 = true)
    (Y : Bytes) (hY : NoWs Y) : NoWs (sepL ls ++ Y) := by
  cases ls with
  | nil => exact hY
  | cons x l =>
    obtain ⟨hwf, hex, _⟩ := h x (by simp)
    simpa [sepL, List.append_assoc] using LElem.noWs_append x.1 hwf hex _ (Or.inr ⟨44, _, rfl, by decide⟩)

theorem runLoop_walk (t : UInt8) (ht : t ≠ 59) (n : Nat) : ∀ (ls : List (LElem × Bytes)) (st : Slots) (Y : Bytes),
    (∀ x ∈ ls, x.1.wf = true ∧ x.1.exact = true ∧ allWs x.2 = true) → NoWs Y →
    ∃ st', runLoop (some t) n st (sepL ls ++ Y) = runLoop (some t) n st' Y ∧
      ∀ k, (st' k).map pr = lview ls ((st k).map pr) k := by
  intro ls
  induction ls with
  | nil => intro st Y _ _; exact ⟨st, rfl, fun _ => rfl⟩
  | cons x l ih =>
    intro st Y h hY
    obtain ⟨hwf, hex, hw⟩ := h x (by simp)
    have hl := fun y hy => h y (List.mem_cons_of_mem _ hy)
    obtain ⟨o, hturn, hput⟩ := turn_complete t ht x.1 (44 :: (x.2 ++ (sepL l ++ Y))) hwf hex (Or.inr ⟨_, rfl⟩) (by simp)
    obtain ⟨st', hrun, hview⟩ := ih (put n st o) Y hl hY
    refine ⟨st', ?_, fun k => by rw [lview_cons, hview k, hput n st k]⟩
    have hs : sepL (x :: l) ++ Y = x.1.render ++ 44 :: (x.2 ++ (sepL l ++ Y)) := by simp [sepL, List.append_assoc]
    rw [hs, runLoop_turn _ _ _ _ (by simp), hturn, Res.bind_ok, nextParam, skipWs_append _ _ hw,
      skipWs_stop _ (sepL_noWs l hl Y hY), hrun]

theorem renderL_concat (l : List (LElem × Bytes)) (x : LElem × Bytes) :
    renderL (l ++ [x]) = sepL l ++ x.1.render := by
  induction l with
  | nil => rfl
  | cons y l ih => rw [List.cons_append, renderL_cons_ne _ _ (by simp), ih]; simp [sepL, List.append_assoc]

theorem renderL_noWs (ls : List (LElem × Bytes)) (h : ∀ x ∈ ls, x.1.wf = true ∧ x.1.exact = true ∧ allWs x.2 = true) :
    NoWs (renderL ls) := by
  rcases List.eq_nil_or_concat ls with rfl | ⟨l, x, rfl⟩
  · exact Or.inl rfl
  · rw [List.concat_eq_append] at h ⊢
    obtain ⟨hwf, hex, _⟩ := h x (by simp)
    rw [renderL_concat]
    exact sepL_noWs l (fun y hy => h y (List.mem_append_left _ hy)) _
      (by simpa using LElem.noWs_append x.1 hwf hex [] (Or.inl rfl))

/-- The loop walks over all but the last element (`runLoop_walk`); the last is followed by the end of the string,
    not by a comma. -/
theorem runLoop_complete (t : UInt8) (ht : t ≠ 59) (n : Nat) (ls : List (LElem × Bytes)) (st : Slots)
    (h : ∀ x ∈ ls, x.1.wf = true ∧ x.1.exact = true ∧ allWs x.2 = true) :
    ∃ st', runLoop (some t) n st (renderL ls) = .ok st' ∧ ∀ k, (st' k).map pr = lview ls ((st k).map pr) k := by
  rcases List.eq_nil_or_concat ls with rfl | ⟨l, x, rfl⟩
  · exact ⟨st, runLoop_nil _ _ _, fun _ => rfl⟩
  · rw [List.concat_eq_append] at h ⊢
    obtain ⟨hwf, hex, _⟩ := h x (by simp)
    obtain ⟨st1, hrun, hv1⟩ := runLoop_walk t ht n l st x.1.render (fun y hy => h y (List.mem_append_left _ hy))
      (by simpa using LElem.noWs_append x.1 hwf hex [] (Or.inl rfl))
    have hview : ∀ st2 : Slots, (∀ k, (st2 k).map pr = stepL x.1 ((st1 k).map pr) k) →
        ∀ k, (st2 k).map pr = lview (l ++ [x]) ((st k).map pr) k := fun st2 h2 k => by
      rw [h2 k, hv1 k, lview_append, lview_cons]; rfl
    rw [renderL_concat, hrun]
    by_cases hne : x.1.render = []
    · rw [hne, runLoop_nil]
      exact ⟨st1, rfl, hview st1 fun k => (LElem.render_nil _ hne _ k).symm⟩
    · obtain ⟨o, hturn, hput⟩ := turn_complete t ht x.1 [] hwf hex (Or.inl rfl) (by simpa using hne)
      rw [List.append_nil] at hturn
      refine ⟨put n st1 o, ?_, hview _ (hput n st1)⟩
      rw [runLoop_turn _ _ _ _ hne, hturn, Res.bind_ok]; exact runLoop_nil _ _ _

/-- Whatever `parse_dauth_params` accepts (with any byte, or none, behind the string) is a sentence of the lenient
    grammar whose elements satisfy `LElem.exact`, and every slot holds the last occurrence of its parameter. -/
theorem parseDigest_derives (s : Bytes) (t : Option UInt8) (d : DAuth) (h : parseDigest s t = .ok d) :
    ∃ lead ls, Derives lead ls s ∧ (∀ x ∈ ls, x.1.exact = true) ∧ ∀ k, (d.slots k).map pr = lview ls none k := by
  rw [parseDigest_eq_runLoop, Res.map_eq_ok] at h
  obtain ⟨st, hst, rfl⟩ := h
  obtain ⟨lead, hs, hlead, hn⟩ := skipWs_split s
  obtain ⟨ls, _, hrend, hwf, hview⟩ := runLoop_sound _ _ _ hn _ _ hst
  exact ⟨lead, ls, ⟨by rw [hrend]; exact hs, hlead, fun x hx => ⟨(hwf x hx).1, (hwf x hx).2.2⟩⟩,
    fun x hx => (hwf x hx).2.1, fun k => by simpa [Slots.empty] using hview k⟩

/-- `parse_dauth_params` (any byte but ';' behind the string) accepts exactly the sentences of the lenient grammar
    whose elements satisfy `LElem.exact`, with the last occurrences in the slots. -/
theorem parseDigest_exact (s : Bytes) (t : UInt8) (ht : t ≠ 59) (v : Nat → Option (Bytes × Bool)) :
    (∃ d, parseDigest s (some t) = .ok d ∧ ∀ k, (d.slots k).map pr = v k) ↔
    ∃ lead ls, Derives lead ls s ∧ (∀ x ∈ ls, x.1.exact = true) ∧ ∀ k, v k = lview ls none k := by
  constructor
  · rintro ⟨d, hd, hv⟩
    obtain ⟨lead, ls, h1, h2, h3⟩ := parseDigest_derives s _ d hd
    exact ⟨lead, ls, h1, h2, fun k => by rw [← hv k, h3 k]⟩
  · rintro ⟨lead, ls, ⟨rfl, hl, hwf⟩, hex, hv⟩
    have hall := fun x hx => (⟨(hwf x hx).1, hex x hx, (hwf x hx).2⟩ : x.1.wf = true ∧ x.1.exact = true ∧ allWs x.2 = true)
    obtain ⟨st', hrun, hview⟩ := runLoop_complete t ht (lead ++ renderL ls).length ls Slots.empty hall
    refine ⟨_, by rw [parseDigest_eq_runLoop, skipWs_append _ _ hl, skipWs_stop _ (renderL_noWs ls hall), hrun]; rfl,
      fun k => by rw [hv k]; simpa [Slots.empty] using hview k⟩

end Mhd.Auth
