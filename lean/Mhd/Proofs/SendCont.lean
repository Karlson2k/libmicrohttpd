/-
  C07 — the interim "100 Continue" send phase: delivered prefix, transient faults never close and
  never change what is delivered, composition with the final reply.
-/
import Mhd.Model.SendCont
import Mhd.Proofs.SendInv
namespace Mhd.Send
open Mhd.Gen.Send

/-- `out` is exactly the part of the message before the accumulated offset -/
structure CB (c : Cont) : Prop where
  nofault : c.fault = false
  le : c.off ≤ http100Continue.length
  out : c.st ≠ .closed → c.out = http100Continue.take c.off
  pfx : c.out <+: http100Continue
  recv : c.st = .bodyReceiving → c.off = http100Continue.length

/-- `CB`, and at the end of a turn a connection still in CONTINUE_SENDING has something left to send -/
structure CInv (c : Cont) : Prop extends CB c where
  sending : c.st = .continueSending → c.off < http100Continue.length

theorem contInit_inv : CInv contInit :=
  ⟨⟨rfl, Nat.zero_le _, fun _ => rfl, List.nil_prefix, fun h => by cases h⟩, fun _ => by decide⟩

theorem contWrite_inv {c : Cont} (h : CB c) (s : SockRes) : CB (contWrite c s) := by
  unfold contWrite
  cases hst : c.st with
  | bodyReceiving => simp only []; exact h
  | closed => simp only []; exact h
  | continueSending =>
    simp only []
    rw [if_neg (Nat.not_lt.mpr h.le)]
    have hout := h.out (by rw [hst]; decide)
    have spec := sendData_spec (http100Continue.drop c.off) s
    have hsplit : http100Continue.take c.off ++ http100Continue.drop c.off = http100Continue := List.take_append_drop _ _
    cases hr : (sendData false (http100Continue.drop c.off) s).ret with
    | error e =>
      have hw := spec.err e hr
      have hp : c.out ++ (sendData false (http100Continue.drop c.off) s).wire <+: http100Continue := by
        rw [hout]; exact prefix_append_of_prefix hsplit hw
      cases e
      case again =>
        have hw0 := spec.again hr
        simp only [hw0, List.append_nil]
        exact ⟨h.nofault, h.le, fun _ => hout, h.pfx, fun hb => by cases hb⟩
      all_goals
        exact ⟨h.nofault, h.le, fun hne => absurd rfl hne, hp, fun hb => by cases hb⟩
    | ok n =>
      obtain ⟨hn, hw⟩ := spec.ok n hr
      rw [List.length_drop] at hn
      have ho : c.out ++ (sendData false (http100Continue.drop c.off) s).wire = http100Continue.take (c.off + n) := by
        rw [hout, hw]; exact List.take_add.symm
      refine ⟨h.nofault, ?_, fun _ => ho, ?_, fun hb => ?_⟩
      · show c.off + n ≤ http100Continue.length
        exact Nat.add_le_of_le_sub' h.le hn
      · show c.out ++ _ <+: http100Continue
        rw [ho]; exact List.take_prefix _ _
      · cases hb

theorem contIdle_inv {c : Cont} (h : CB c) : CInv (contIdle c) := by
  unfold contIdle
  cases hst : c.st with
  | bodyReceiving => simp only []; exact ⟨h, fun x => by rw [hst] at x; cases x⟩
  | closed => simp only []; exact ⟨h, fun x => by rw [hst] at x; cases x⟩
  | continueSending =>
    simp only []
    by_cases he : c.off = http100Continue.length
    · rw [if_pos he]
      exact ⟨⟨h.nofault, h.le, fun _ => h.out (by rw [hst]; decide), h.pfx, fun _ => he⟩, fun x => by cases x⟩
    · rw [if_neg he]
      exact ⟨h, fun _ => Nat.lt_of_le_of_ne h.le he⟩

theorem contRound_inv {c : Cont} (h : CInv c) (x : CRound) : CInv (contRound c x) := by
  unfold contRound
  split
  · exact contIdle_inv (contWrite_inv h.toCB x.s)
  · exact contIdle_inv h.toCB

theorem contRun_inv : ∀ (xs : List CRound) (c : Cont), CInv c → CInv (contRun c xs) :=
  fun xs _ h => List.foldlRecOn xs _ h fun _ hc x _ => contRound_inv hc x

def CRound.transient (x : CRound) : Prop := x.s.isTransient = true
def CRound.good (x : CRound) : Prop := x.wr = true ∧ x.s.isData = true

instance : DecidablePred CRound.transient := fun x => by unfold CRound.transient; exact inferInstance
instance : DecidablePred CRound.good := fun x => by unfold CRound.good; exact inferInstance

def countGoodC (xs : List CRound) : Nat := xs.countP (fun x => decide x.good)

/-- what is still owed: the bytes not yet taken, plus one for the switch to BODY_RECEIVING -/
def cmu (c : Cont) : Nat := (http100Continue.length - c.off) + (if c.st = .continueSending then 1 else 0)

theorem contIdle_st (c : Cont) : (contIdle c).st = c.st ∨ ((contIdle c).st = .bodyReceiving ∧ c.st = .continueSending) := by
  unfold contIdle
  cases hst : c.st with
  | continueSending => simp only []; split
                       · right; simp
                       · left; exact hst
  | bodyReceiving => left; simp only [hst]
  | closed => left; simp only [hst]

theorem contIdle_off (c : Cont) : (contIdle c).off = c.off := by
  unfold contIdle; repeat' split
  all_goals rfl

theorem cmu_idle (c : Cont) : cmu (contIdle c) ≤ cmu c := by
  unfold cmu
  rw [contIdle_off]
  rcases contIdle_st c with e | ⟨e1, e2⟩
  · rw [e]; exact Nat.le_refl _
  · rw [e1, e2]; simp

theorem contWrite_transient {c : Cont} (h : CB c) (hne : c.st ≠ .closed) (s : SockRes) (ht : s.isTransient = true) :
    (contWrite c s).st = c.st ∧ c.off ≤ (contWrite c s).off := by
  unfold contWrite
  cases hst : c.st with
  | bodyReceiving => simp only []; exact ⟨hst, Nat.le_refl _⟩
  | closed => exact absurd hst hne
  | continueSending =>
    simp only []
    rw [if_neg (Nat.not_lt.mpr h.le)]
    cases hr : (sendData false (http100Continue.drop c.off) s).ret with
    | error e =>
      cases (sendData_trans (http100Continue.drop c.off) s ht).onlyAgain e hr
      exact ⟨rfl, Nat.le_refl _⟩
    | ok n => exact ⟨rfl, Nat.le_add_right _ _⟩

theorem contWrite_good {c : Cont} (h : CInv c) (hs : c.st = .continueSending) (s : SockRes) (hd : s.isData = true) :
    c.off < (contWrite c s).off := by
  unfold contWrite
  rw [hs]
  simp only []
  rw [if_neg (Nat.not_lt.mpr h.le)]
  have hlt := h.sending hs
  have hne : http100Continue.drop c.off ≠ [] :=
    List.ne_nil_of_length_pos (by rw [List.length_drop]; exact Nat.sub_pos_of_lt hlt)
  have ht := sendData_trans (http100Continue.drop c.off) s (data_transient hd)
  obtain ⟨n, hr⟩ := ht.data hd
  have hn := ht.pos hne n hr
  simp only [hr]
  exact Nat.lt_add_of_pos_right hn

theorem contRound_eff {c : Cont} (h : CInv c) (hne : c.st ≠ .closed) (x : CRound) (hx : x.transient) :
    (contRound c x).st ≠ .closed ∧ cmu (contRound c x) ≤ cmu c ∧
    (x.good → c.st = .continueSending → cmu (contRound c x) < cmu c) := by
  have hmono : ∀ d : Cont, d.st = c.st → c.off ≤ d.off → cmu d ≤ cmu c := by
    intro d h1 h2; unfold cmu; rw [h1]; omega
  have hstrict : ∀ d : Cont, d.st = c.st → c.off < d.off → d.off ≤ http100Continue.length → cmu d < cmu c := by
    intro d h1 h2 h3; unfold cmu; rw [h1]; omega
  unfold contRound
  by_cases hwr : x.wr = true
  · rw [if_pos hwr]
    obtain ⟨w1, w2⟩ := contWrite_transient h.toCB hne x.s hx
    have hb := contWrite_inv h.toCB x.s
    refine ⟨?_, Nat.le_trans (cmu_idle _) (hmono _ w1 w2), fun hg hs => ?_⟩
    · rcases contIdle_st (contWrite c x.s) with e | ⟨e, _⟩
      · rw [e, w1]; exact hne
      · rw [e]; decide
    · exact Nat.lt_of_le_of_lt (cmu_idle _) (hstrict _ w1 (contWrite_good h hs x.s hg.2) hb.le)
  · rw [if_neg hwr]
    refine ⟨?_, cmu_idle _, fun hg _ => absurd hg.1 hwr⟩
    rcases contIdle_st c with e | ⟨e, _⟩
    · rw [e]; exact hne
    · rw [e]; decide

theorem contRun_received : ∀ (xs : List CRound) (c : Cont), c.st = .bodyReceiving → contRun c xs = c
  | [], _, _ => rfl
  | x :: xs, c, h => by
    have e : contRound c x = c := by simp [contRound, contWrite, contIdle, h]
    show contRun (contRound c x) xs = c
    rw [e]; exact contRun_received xs c h

theorem contRun_progress : ∀ (xs : List CRound) (c : Cont), CInv c → c.st ≠ .closed → (∀ x ∈ xs, x.transient) →
    (contRun c xs).st ≠ .closed ∧ ((contRun c xs).st = .bodyReceiving ∨ cmu (contRun c xs) + countGoodC xs ≤ cmu c)
  | [], c, _, hne, _ => ⟨hne, Or.inr (by simp [contRun, countGoodC])⟩
  | x :: xs, c, h, hne, hx => by
    have hxt := hx x List.mem_cons_self
    obtain ⟨e1, e2, e3⟩ := contRound_eff h hne x hxt
    have ih := contRun_progress xs (contRound c x) (contRound_inv h x) e1 (fun y hy => hx y (List.mem_cons_of_mem _ hy))
    refine ⟨ih.1, ?_⟩
    show _ ∨ cmu (contRun (contRound c x) xs) + _ ≤ _
    rcases ih.2 with hd | hm
    · exact Or.inl hd
    · by_cases hs : c.st = .continueSending
      · right
        unfold countGoodC at hm ⊢
        rw [List.countP_cons]
        by_cases hg : x.good
        · have := e3 hg hs
          simp only [hg, decide_true, if_true]; omega
        · simp only [hg, decide_false, Bool.false_eq_true, if_false]; omega
      · left
        have hb : c.st = .bodyReceiving := by
          cases hc : c.st with
          | continueSending => exact absurd hc hs
          | bodyReceiving => rfl
          | closed => exact absurd hc hne
        rw [contRun_received (x :: xs) c hb]; exact hb

theorem cmu_init : cmu contInit = http100Continue.length + 1 := by decide

theorem CInv.complete {c : Cont} (h : CInv c) (hb : c.st = .bodyReceiving) : c.out = http100Continue := by
  have := h.out (by rw [hb]; decide)
  rw [this, h.recv hb]; exact List.take_length

end Mhd.Send
