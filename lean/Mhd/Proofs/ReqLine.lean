/-
  `get_request_line_inner` walked once (`Scanner.Walk`): `rlStep_walk` carries, in the same walk, no
  fault, `RLInv` with progress (the termination measure decreases), the content invariant `RLX`, the
  post-condition `RLPost` of a line handed out and the same step on the buffer with more bytes
  appended.  Hence `rlLaws`: `get_request_line_inner` satisfies the scanner laws for **every**
  combination of strictness flags.

  Post-condition of a whole run, for every input and every combination of flags: `RLInvX F s` (`RLInv`
  with `RLX`) holds in the initial state, is kept by the arrival of more data (`RLInvX.init`, `.ext` in
  `ReqLineInv`) and by every step, and a line handed out from such a state satisfies `RLPost`
  (`rl_run_more`, `rl_run_done`), which is what `TGT.processRequestTarget_no_fault` asks of the line.
-/
import Mhd.Proofs.ReqLineInv
import Mhd.Proofs.Scanner
namespace Mhd.Req
open Scanner (Walk)

/-- what an advance from `s` to `s'` owes; `x` is conditional because the scanner laws are owed under `RLInv` alone -/
structure Adv (F : RLFlags) (s s' : RL) : Prop where
  inv : RLInv s'
  size : s'.buf.size = s.buf.size
  prog : s.rb + s.p < s'.rb + s'.p
  x : RLX F s → RLX F s' ∧ s.rb ≤ s'.rb

/-- what a step from `s` that finishes owes -/
def Stop (F : RLFlags) (s : RL) (d : RLDone) : Prop :=
  ∀ l, d = .ok l → RLX F s → RLPost l ∧ l.buf.size = s.buf.size ∧ l.method = s.rb

abbrev RLWalk (F : RLFlags) (e : Bytes) (s : RL) := Walk (rlScanner F) e (Adv F s) (Stop F s)

section
variable {F : RLFlags} {e : Bytes} {s s1 : RL} {r rx : Step RL RLDone}

theorem Scanner.Walk.errReply (s0 : RL) (k : RLErrKind) : RLWalk F e s (s0.errReply k) ((rlExtend s0 e).errReply k) :=
  Walk.done (sc := rlScanner F) (d := .err _) nofun

theorem Scanner.Walk.errClose (k : RLErrKind) : RLWalk F e s (RL.errClose k) (RL.errClose k) :=
  Walk.done (sc := rlScanner F) (d := .err _) nofun

/-- the same pair of results, seen from a state with the same position and buffer size -/
theorem Scanner.Walk.from (h : RLWalk F e s1 r rx) (e1 : s1.buf.size = s.buf.size) (e2 : s1.rb = s.rb) (e3 : s1.p = s.p)
    (hx : RLX F s → RLX F s1) : RLWalk F e s r rx :=
  h.mono (fun _ a => ⟨a.inv, a.size.trans e1, e2 ▸ e3 ▸ a.prog, fun x => e2 ▸ a.x (hx x)⟩)
    (fun _ f l hl x => e1 ▸ e2 ▸ f l hl (hx x))

end

theorem onWsp_walk (F : RLFlags) (s : RL) (e : Bytes) (h : Mid F s) (hb : s.rb + s.p < s.buf.size) :
    RLWalk F e s (onWsp F s) (onWsp F (rlExtend s e)) := by
  have hi := h.toRLInv
  have hsz : s.rb + (s.p + 1) ≤ (s.buf.setIfInBounds (s.rb + s.p) 0).size := by rw [Array.size_setIfInBounds]; omega
  unfold onWsp
  dsimp only [rlExtend]
  refine .ite (fun hc => ?_) (fun hc => ?_)
  · refine .ite (fun hm => ?_) (fun hm => ?_)
    · refine .ite (fun _ => .errClose _) (fun hp0 => .wr hb ?_)
      -- the method ends here
      simp only [Bool.not_eq_true', beq_iff_eq] at hm hp0
      have hn := hi.hnom hm
      rw [rdRange_ext _ _ _ _ (Nat.le_of_succ_le hsz), rdRange_in (Nat.le_of_succ_le hsz)]
      exact .advance ⟨hi.wsp hsz rfl rfl (Nat.le_refl _) rfl rfl rfl, Array.size_setIfInBounds .., by dsimp only; omega,
        fun x => ⟨⟨fun _ => by show 1 ≤ s.p; omega, fun _ _ => by show s.p < s.p + 1; omega, fun _ => hn.2.2,
          fun v hv => (nomatch hn.2.2.symm.trans hv), fun _ => x.qn hn.2.1, fun t ht => (nomatch hn.2.1.symm.trans ht)⟩,
          Nat.le_refl _⟩⟩
    · simp only [Bool.not_eq_true', Bool.not_eq_false] at hm
      refine .ite (fun hw => ?_) (fun hw => ?_)
      · simp only [Bool.not_eq_true'] at hw
        refine .opt (fun hv => .opt (fun ht => ?_) (fun t ht => ?_)) (fun _ _ => .errReply s _)
        · exfalso
          have h1 := hi.hmeth hm ht
          have h2 := h.hblk hm ht
          simp only [h2, Bool.not_true, Bool.or_false, Bool.or_eq_true, beq_iff_eq, bne_iff_ne, ne_eq] at hc
          omega
        · -- the target ends here (whitespace in the URI is not parsed)
          have htp := hi.htgt t ht
          refine .wr hb (.advance ⟨hi.wsp hsz rfl rfl (Nat.le_refl _) rfl rfl hm, Array.size_setIfInBounds ..,
            by dsimp only; omega, fun x => ⟨⟨x.m1, fun _ hn => (nomatch ht.symm.trans hn), fun _ => hv,
              fun v hv' => (nomatch hv.symm.trans hv'), fun hn => (nomatch ht.symm.trans hn), fun t' ht' => ?_⟩, Nat.le_refl _⟩⟩)
          cases Option.some.inj (ht.symm.trans ht')
          have k := x.tgt t ht
          refine ⟨k.m, fun q hq => ?_, fun _ => ⟨htp.2, Nat.lt_succ_self _⟩,
            fun _ _ _ => ⟨rfl, Array.getElem?_setIfInBounds_self_of_lt hb⟩, fun v hv' => (nomatch hv.symm.trans hv')⟩
          obtain ⟨a, b, c, _⟩ := k.q q hq
          have hb' : (s.buf.setIfInBounds (s.rb + s.p) 0)[s.rb + q]? = s.buf[s.rb + q]? :=
            Array.getElem?_setIfInBounds_ne (by omega)
          exact ⟨Nat.lt_succ_of_lt a, hb'.trans b, c, fun _ => Or.inl a,
            fun v hv' => (nomatch hv.symm.trans hv')⟩
      · -- whitespace in the URI is parsed: a new whitespace block opens
        simp only [Bool.not_eq_true', Bool.not_eq_false] at hw
        have key : ∀ n, RLWalk F e s (.advance { s with numWs := n, wsStart := s.p, wsEnd := s.p + 1, p := s.p + 1 })
            (.advance { s with buf := s.buf ++ e, numWs := n, wsStart := s.p, wsEnd := s.p + 1, p := s.p + 1 }) := by
          intro n
          refine .advance ⟨hi.wsp (Nat.succ_le_of_lt hb) rfl rfl (Nat.le_refl _) rfl rfl hm, rfl, by dsimp only; omega,
            fun x => ⟨⟨x.m1, fun hm' hn => ?_, x.v, fun v hv' => (nomatch (x.v hw).symm.trans hv'), x.qn, fun t ht => ?_⟩,
              Nat.le_refl _⟩⟩
          · have := x.m3 hm' hn; have := hi.hws
            show s.methodLen < s.p + 1; omega
          · have k := x.tgt t ht
            refine ⟨k.m, fun q hq => ?_, fun _ => ⟨(hi.htgt t ht).2, Nat.lt_succ_self _⟩,
              fun hf => (nomatch hw.symm.trans hf), k.s2⟩
            obtain ⟨a, b, c, _, e⟩ := k.q q hq
            exact ⟨Nat.lt_succ_of_lt a, b, c, fun _ => Or.inl a, e⟩
        exact .ite (fun _ => key _) (fun _ => key _)
  · -- a further byte of the block
    simp only [Bool.or_eq_true, beq_iff_eq, bne_iff_ne, ne_eq, Bool.not_eq_true', not_or, Decidable.not_not,
      Bool.not_eq_false] at hc
    obtain ⟨⟨hne, hpe⟩, _⟩ := hc
    have hm : s.hasMethod = true := by
      cases hm : s.hasMethod with
      | true => rfl
      | false => exact absurd (hi.hnom hm).1 hne
    refine .advance ⟨hi.wsp (Nat.succ_le_of_lt hb) rfl rfl hi.hws.1 rfl rfl hm, rfl, by dsimp only; omega,
      fun x => ⟨⟨x.m1, fun hm' hn => ?_, x.v, fun v hv' => absurd (x.vw v hv') hne, x.qn, fun t ht => ?_⟩, Nat.le_refl _⟩⟩
    · have := x.m3 hm' hn
      show s.methodLen < s.p + 1; omega
    · have k := x.tgt t ht
      have hw := k.w hne
      refine ⟨k.m, fun q hq => ?_, fun _ => ⟨hw.1, by show s.wsStart < s.p + 1; omega⟩, fun hf hv _ => k.s1 hf hv hne, k.s2⟩
      obtain ⟨a, b, c, d, e⟩ := k.q q hq
      refine ⟨Nat.lt_succ_of_lt a, b, c, fun _ => ?_, e⟩
      have := d hne
      left; show q < s.wsStart; omega

theorem onOther_walk (F : RLFlags) (s : RL) (chr : UInt8) (e : Bytes) (h : Mid F s) (hc : s.buf[s.rb + s.p]? = some chr) :
    RLWalk F e s (onOther F s chr) (onOther F (rlExtend s e) chr) := by
  unfold onOther
  rw [endOfWspBlock_ext]
  have h1 := endOfWspBlock_inv F s h
  have h2 := endOfWspBlock_same F s
  have h3 := endOfWspBlock_x F s h.toRLInv
  generalize endOfWspBlock F s = s1 at h1 h2 h3
  obtain ⟨hi, ht⟩ := h1
  obtain ⟨e1, e2, e3⟩ := h2
  have hc1 : s1.buf[s1.rb + s1.p]? = some chr := by rw [e1, e2, e3]; exact hc
  dsimp only [rlExtend]
  have adv : ∀ n q, (RLX F s1 → RLX F { s1 with numWs := n, qmark := q, p := s1.p + 1 }) →
      RLWalk F e s (.advance { s1 with numWs := n, qmark := q, p := s1.p + 1 })
        (.advance { s1 with buf := s1.buf ++ e, numWs := n, qmark := q, p := s1.p + 1 }) := fun n q hx =>
    .advance ⟨inv_p_succ hi (get_some_lt hc1) ht n q, congrArg Array.size e1, by dsimp only; omega,
      fun x => ⟨hx (h3 x), Nat.le_of_eq e2.symm⟩⟩
  refine .ite (fun hq => .ite (fun hcond => adv _ _ fun x => ?_) fun _ => adv _ _ fun x => x.pSucc _) fun _ =>
    .ite (fun _ => .ite (fun _ => adv _ _ fun x => x.pSucc _) fun _ => .errClose _) fun _ =>
    .ite (fun _ => .errClose _) fun _ => adv _ _ fun x => x.pSucc _
  -- the first '?' of the target
  simp only [Bool.and_eq_true, Option.isNone_iff_eq_none, Option.isSome_iff_exists] at hcond
  obtain ⟨_, t, ht'⟩ := hcond
  exact RLX.qSet hi x t ht' (by rw [hc1, show chr = 63 by simpa using hq])

theorem processChar_walk (F : RLFlags) (s : RL) (chr : UInt8) (e : Bytes) (h : RLInv s)
    (hc : s.buf[s.rb + s.p]? = some chr) : RLWalk F e s (processChar F s chr) (processChar F (rlExtend s e) chr) := by
  unfold processChar
  rw [endOfWspStrict_ext]
  have h1 := endOfWspStrict_mid F s h
  have h2 := endOfWspStrict_same F s
  have h3 := endOfWspStrict_x F s h
  generalize endOfWspStrict F s = s1 at h1 h2 h3
  obtain ⟨e1, e2, e3⟩ := h2
  have hc1 : s1.buf[s1.rb + s1.p]? = some chr := by rw [e1, e2, e3]; exact hc
  exact .ite (fun _ => (onWsp_walk F s1 e h1 (get_some_lt hc1)).from (congrArg Array.size e1) e2 e3 h3)
    fun _ => (onOther_walk F s1 chr e h1 hc1).from (congrArg Array.size e1) e2 e3 h3

/-- at the line end the target `[t, t + tgtLen)` and the version start `v` are known: the target is
    NUL-terminated in front of the version, a recorded '?' is a '?' of the target or lies in the version -/
structure Resolved (s : RL) (t v : Nat) : Prop where
  ht1 : 1 ≤ t
  htl : t + s.tgtLen < v
  hnul : s.buf[s.rb + (t + s.tgtLen)]? = some 0
  hq : ∀ q, s.qmark = some q → s.buf[s.rb + q]? = some 63 ∧ q < s.p ∧ t ≤ q ∧ (q < t + s.tgtLen ∨ v ≤ q)

theorem finishLine_walk (F : RLFlags) (s0 s : RL) (chr : UInt8) (t v : Nat) (e : Bytes) (hsz : s.buf.size = s0.buf.size)
    (hrb : s.rb = s0.rb) (hb : s.rb + s.p < s.buf.size) (hcr : chr = cCR → s.rb + s.p + 1 < s.buf.size) (hvp : v ≤ s.p)
    (res : RLX F s0 → Resolved s t v) :
    RLWalk F e s0 (finishLine s chr t v) (finishLine (rlExtend s e) chr t v) := by
  have hle : s.rb + v + (s.p - v) ≤ s.buf.size := by omega
  unfold finishLine
  simp only [rlExtend, rdRange_ext _ _ _ _ hle, rdRange_in hle]
  cases hp : parseHttpVersion (s.buf.extract (s.rb + v) (s.rb + v + (s.p - v))).toList with
  | error c => exact .done (sc := rlScanner F) (d := .err _) nofun
  | ok hv =>
    refine .wr hb (.done fun l hl x => ?_)
    obtain ⟨ht1, htl, hnul, hq⟩ := res x
    obtain ⟨hlen, hno⟩ := parseHttpVersion_ok hp
    have hl8 : s.p - v = 8 := by
      have : (s.buf.extract (s.rb + v) (s.rb + v + (s.p - v))).toList.length = s.p - v := by
        simp only [Array.length_toList, Array.size_extract]; omega
      rw [this] at hlen; exact hlen
    cases hl
    refine ⟨⟨?_, ?_, ?_, ?_, ?_, ?_⟩, (Array.size_setIfInBounds ..).trans hsz, hrb⟩
    · show s.rb + (if chr == cCR then s.p + 2 else s.p + 1) ≤ (s.buf.setIfInBounds (s.rb + s.p) 0).size
      simp only [Array.size_setIfInBounds]
      split
      next hc => have := hcr (by simpa using hc); omega
      · omega
    · show s.rb < s.rb + t; omega
    · show s.rb + t + s.tgtLen < s.rb + v; omega
    · show (s.buf.setIfInBounds (s.rb + s.p) 0)[s.rb + t + s.tgtLen]? = some 0
      rw [Array.getElem?_setIfInBounds_ne (by omega), show s.rb + t + s.tgtLen = s.rb + (t + s.tgtLen) by omega]; exact hnul
    · intro q' hq'
      cases hqq : s.qmark with
      | none => rw [hqq] at hq'; simp at hq'
      | some q =>
        rw [hqq] at hq'
        have e : s.rb + q = q' := by simpa using hq'
        subst e
        obtain ⟨b, a, c, d⟩ := hq q hqq
        show s.rb + t ≤ s.rb + q ∧ s.rb + q < s.rb + t + s.tgtLen
        rcases d with d | d
        · omega
        · exfalso
          have hget : (s.buf.extract (s.rb + v) (s.rb + v + (s.p - v))).toList.getD (q - v) 0 = 63 := by
            rw [List.getD_eq_getElem?_getD, Array.getElem?_toList, Array.getElem?_extract, if_pos (by omega),
              show s.rb + v + (q - v) = s.rb + q by omega, b]; rfl
          exact hno (q - v) (by omega) hget
    · show s.rb + v + Gen.Discipline.httpVerLen + 1 ≤ s.rb + (if chr == cCR then s.p + 2 else s.p + 1)
      have : Gen.Discipline.httpVerLen = 8 := rfl
      rw [this]
      split <;> omega

theorem eolFinish_walk (F : RLFlags) (s0 s : RL) (chr : UInt8) (e : Bytes) (hsz : s.buf.size = s0.buf.size)
    (hrb : s.rb = s0.rb) (hb : s.rb + s.p < s.buf.size) (hcr : chr = cCR → s.rb + s.p + 1 < s.buf.size)
    (hv : ∀ v, s.version = some v → v ≤ s.p ∧ s.tgt ≠ none)
    (res : RLX F s0 → ∀ t v, s.tgt = some t → s.version = some v → Resolved s t v) :
    RLWalk F e s0 (eolFinish chr s) (eolFinish chr (rlExtend s e)) := by
  unfold eolFinish
  refine .optS (fun v hv' => .optS (fun t ht => ?_) fun ht => absurd ht (hv v hv').2) fun _ => .errReply s _
  exact finishLine_walk F s0 s chr t v e hsz hrb hb hcr (hv v hv').1 fun x => res x t v ht hv'

/-- the case that the line end itself fixes target and version, in the state `s` handed to `eolFinish` -/
theorem eolFinish_at (F : RLFlags) (s0 s : RL) (chr : UInt8) (e : Bytes) (t v : Nat) (hsz : s.buf.size = s0.buf.size)
    (hrb : s.rb = s0.rb) (hb : s.rb + s.p < s.buf.size) (hcr : chr = cCR → s.rb + s.p + 1 < s.buf.size)
    (ht : s.tgt = some t) (hv : s.version = some v) (hvp : v ≤ s.p) (res : RLX F s0 → Resolved s t v) :
    RLWalk F e s0 (eolFinish chr s) (eolFinish chr (rlExtend s e)) :=
  eolFinish_walk F s0 s chr e hsz hrb hb hcr
    (fun v' hv' => ⟨Option.some.inj (hv.symm.trans hv') ▸ hvp, by rw [ht]; nofun⟩)
    fun x t' v' ht' hv' => Option.some.inj (ht.symm.trans ht') ▸ Option.some.inj (hv.symm.trans hv') ▸ res x

theorem eolResolveWspInUri_walk (F : RLFlags) (chr : UInt8) (s : RL) (e : Bytes) (h : RLInv s) (hb : s.rb + s.p < s.buf.size)
    (hcr : chr = cCR → s.rb + s.p + 1 < s.buf.size) (hU : F.wspInUri = true) :
    RLWalk F e s (eolResolveWspInUri s (eolFinish chr)) (eolResolveWspInUri (rlExtend s e) (eolFinish chr)) := by
  have hws := h.hws
  -- nothing to resolve: no version has been found (`RLX.v`), the line is malformed
  have self : RLWalk F e s (eolFinish chr s) (eolFinish chr (rlExtend s e)) :=
    eolFinish_walk F s s chr e rfl rfl hb hcr h.hver fun x _ v _ hv => nomatch (x.v hU).symm.trans hv
  unfold eolResolveWspInUri
  dsimp only [rlExtend]
  refine .ite (fun hne => .optS (fun t ht => ?_) fun ht => .ite (fun hc => ?_) fun _ => self) fun _ => self
  · -- the last whitespace block of the line separates URI and version
    have hiw : s.rb + s.wsStart < s.buf.size := by omega
    refine .wr hiw (eolFinish_at F s _ chr e t s.wsEnd (Array.size_setIfInBounds ..) rfl (by simpa using hb)
      (by simpa using hcr) ht rfl hws.2 fun x => ?_)
    have hwt := (x.tgt t ht).w hne
    refine ⟨(h.htgt t ht).1, by show t + (s.wsStart - t) < s.wsEnd; omega, ?_, ?_⟩
    · show (s.buf.setIfInBounds (s.rb + s.wsStart) 0)[s.rb + (t + (s.wsStart - t))]? = some 0
      rw [show t + (s.wsStart - t) = s.wsStart by omega]; exact Array.getElem?_setIfInBounds_self_of_lt hiw
    · intro q hq
      obtain ⟨a, b, c, d, _⟩ := (x.tgt t ht).q q hq
      have dd := d hne
      refine ⟨?_, a, c, ?_⟩
      · show (s.buf.setIfInBounds (s.rb + s.wsStart) 0)[s.rb + q]? = some 63
        rw [Array.getElem?_setIfInBounds_ne (by omega)]; exact b
      · show q < t + (s.wsStart - t) ∨ s.wsEnd ≤ q
        omega
  · -- only method and version with more than one whitespace between them: zero-length URI
    have hiw : s.rb + (s.wsStart + 1) < s.buf.size := by omega
    exact .wr hiw (eolFinish_at F s _ chr e (s.wsStart + 1) s.wsEnd (Array.size_setIfInBounds ..) rfl (by simpa using hb)
      (by simpa using hcr) rfl rfl hws.2 fun _ => ⟨by omega, by show s.wsStart + 1 + 0 < s.wsEnd; omega,
        Array.getElem?_setIfInBounds_self_of_lt hiw, fun q hq => by simp at hq⟩)

theorem eolResolveStrict_walk (F : RLFlags) (chr : UInt8) (s : RL) (e : Bytes) (h : RLInv s) (hb : s.rb + s.p < s.buf.size)
    (hcr : chr = cCR → s.rb + s.p + 1 < s.buf.size) (hm : s.hasMethod = true) :
    RLWalk F e s (eolResolveStrict s (eolFinish chr)) (eolResolveStrict (rlExtend s e) (eolFinish chr)) := by
  -- target end and version start were fixed while reading (`TgtX.s2`)
  have self : RLWalk F e s (eolFinish chr s) (eolFinish chr (rlExtend s e)) :=
    eolFinish_walk F s s chr e rfl rfl hb hcr h.hver fun x t v ht hv =>
      ⟨(h.htgt t ht).1, ((x.tgt t ht).s2 v hv).1, ((x.tgt t ht).s2 v hv).2, fun q hq => by
        obtain ⟨a, b, c, _, d⟩ := (x.tgt t ht).q q hq
        exact ⟨b, a, c, d v hv⟩⟩
  unfold eolResolveStrict
  rw [show (rlExtend s e).version = s.version from rfl, show (rlExtend s e).tgt = s.tgt from rfl,
    show (rlExtend s e).p = s.p from rfl, show (rlExtend s e).rb = s.rb from rfl, show (rlExtend s e).buf = s.buf ++ e from rfl]
  cases hv : s.version with
  | some v => exact self
  | none =>
    cases ht : s.tgt with
    | none => exact self
    | some t =>
      -- only method and version: the byte in front of the "target" becomes a zero-length URI
      have h3 := h.htgt t ht
      have hi2 : s.rb + (t - 1) < s.buf.size := by omega
      refine .ite (fun hc => .ite (fun h0 => absurd h0 (by omega)) fun _ => .rdIn (by omega) fun b _ =>
        .ite (fun _ => .wr hi2 ?_) fun _ => self) fun _ => self
      exact eolFinish_at F s _ chr e (t - 1) t (Array.size_setIfInBounds ..) rfl (by simpa using hb) (by simpa using hcr)
        rfl rfl h3.2 fun x => ⟨by have := x.m1 hm; have := (x.tgt t ht).m hm; omega, by show t - 1 + 0 < t; omega,
          Array.getElem?_setIfInBounds_self_of_lt hi2, fun q hq => by simp at hq⟩

theorem handleEol_walk (F : RLFlags) (chr : UInt8) (s : RL) (e : Bytes) (h : RLInv s) (hb : s.rb + s.p < s.buf.size)
    (hcr : chr = cCR → s.rb + s.p + 1 < s.buf.size) : RLWalk F e s (handleEol F s chr) (handleEol F (rlExtend s e) chr) := by
  unfold handleEol
  exact .ite (fun hm => .ite (fun hw => eolResolveWspInUri_walk F chr s e h hb hcr hw)
    fun _ => eolResolveStrict_walk F chr s e h hb hcr hm) fun _ => .errReply s _

theorem charStep_walk (F : RLFlags) (s : RL) (e : Bytes) (h : RLInv s) :
    RLWalk F e s (charStep F s) (charStep F (rlExtend s e)) := by
  unfold charStep
  rw [show (rlExtend s e).p = s.p from rfl, show (rlExtend s e).rb = s.rb from rfl,
    show (rlExtend s e).buf = s.buf ++ e from rfl, show (rlExtend s e).crSp = s.crSp from rfl]
  refine .rdMore fun chr hc => ?_
  have hb := get_some_lt hc
  have fill : ¬ (s.p + 1 == s.fill) = true → s.rb + s.p + 1 < s.buf.size := fun hf => by
    simp only [RL.fill, beq_iff_eq] at hf; omega
  refine .ite (fun _ => .iteMore (fun hf => ?_) fun hf => .rdIn (fill hf) fun nxt _ =>
      .ite (fun _ => handleEol_walk F chr s e h hb fun _ => fill hf) fun _ =>
      .ite (fun _ => .wr hb ?_) fun _ => .ite (fun _ => .errReply s _) fun _ => processChar_walk F s chr e h hc)
    fun hcr => .ite (fun _ => .ite (fun _ => handleEol_walk F chr s e h hb fun hc' => absurd (by rw [hc']; rfl) hcr)
      fun _ => .errReply s _) fun _ => processChar_walk F s chr e h hc
  · have := fill hf
    simp only [RL.fill, beq_iff_eq]
    show ¬ s.p + 1 = (s.buf ++ e).size - s.rb
    rw [Array.size_append]; omega
  · -- a bare CR is replaced by a space
    exact (processChar_walk F { s with buf := s.buf.setIfInBounds (s.rb + s.p) cSP, crSp := s.crSp + 1 } cSP e
      (h.setBuf _ (by simp) _) (Array.getElem?_setIfInBounds_self_of_lt hb)).from (by simp) rfl rfl fun x => RLX.setP h x cSP _

theorem afterEmptyLine_walk (F : RLFlags) (s0 s : RL) (e : Bytes) (a : Adv F s0 s) :
    RLWalk F e s0 (afterEmptyLine F s) (afterEmptyLine F (rlExtend s e)) := by
  unfold afterEmptyLine
  exact .ite (fun _ => .errClose _) fun _ => .advance a

theorem rlStep_walk (F : RLFlags) (s : RL) (e : Bytes) (h : RLInv s) :
    RLWalk F e s (rlStep F s) (rlStep F (rlExtend s e)) := by
  have hch := charStep_walk F s e h
  unfold rlStep
  rw [show (rlExtend s e).p = s.p from rfl]
  refine .ite (fun hc => ?_) fun _ => hch
  -- the empty-line loop: an empty line at the buffer start is consumed, any other line is the request line
  simp only [Bool.and_eq_true, beq_iff_eq] at hc
  have after : ∀ k, 0 < k → s.rb + k ≤ s.buf.size →
      RLWalk F e s (afterEmptyLine F { s with rb := s.rb + k, skipped := s.skipped + 1 })
        (afterEmptyLine F (rlExtend { s with rb := s.rb + k, skipped := s.skipped + 1 } e)) := fun k h0 hk =>
    afterEmptyLine_walk F s _ e ⟨h.skip hc.1 k hk _, rfl, by show s.rb + s.p < s.rb + k + s.p; omega,
      fun x => ⟨RLX.atStart h x hc.1 _ _, Nat.le_add_right _ _⟩⟩
  have e5 : (rlExtend s e).rb = s.rb := rfl
  have e6 : (rlExtend s e).buf = s.buf ++ e := rfl
  unfold skipStep
  rw [e5, e6]
  cases hc0 : s.buf[s.rb]? with
  | none => exact .more
  | some c0 =>
    have hb := get_some_lt hc0
    rw [Array.getElem?_append_left hb, hc0]
    dsimp only
    by_cases hcr : (c0 == cCR) = true
    · simp only [hcr, ↓reduceIte]
      by_cases hf : (s.fill == 1) = true
      · simp only [hf, ↓reduceIte]; exact .more
      · simp only [hf, ↓reduceIte, Bool.false_eq_true]
        simp only [RL.fill, beq_iff_eq] at hf
        have hf2 : ¬ (((rlExtend s e).fill == 1) = true) := by
          simp only [RL.fill, beq_iff_eq, e5, e6, Array.size_append]; omega
        simp only [hf2, ↓reduceIte, Bool.false_eq_true]
        have hi : s.rb + 1 < s.buf.size := by omega
        rw [Array.getElem?_append_left hi]
        cases hn : s.buf[s.rb + 1]? with
        | none => rw [Array.getElem?_eq_none_iff] at hn; omega
        | some c1 =>
          dsimp only
          by_cases hlf : (c1 == cLF) = true
          · simp only [hlf, ↓reduceIte]; exact after 2 (by omega) (by omega)
          · simp only [hlf, ↓reduceIte, Bool.false_eq_true]; exact hch
    · simp only [hcr, ↓reduceIte, Bool.false_eq_true]
      by_cases hlf : (c0 == cLF && F.bareLfAsCrlf) = true
      · simp only [hlf, ↓reduceIte]; exact after 1 (by omega) (by omega)
      · simp only [hlf, ↓reduceIte, Bool.false_eq_true]; exact hch

theorem rlLaws (F : RLFlags) : Scanner.Laws (rlScanner F) RLInv :=
  .of_walk (fun s => s.buf.size) (fun s => s.rb + s.p) (fun _ => rfl) (fun _ h => h.hp)
    (fun s e h => (rlStep_walk F s e h).mono (fun _ a => ⟨a.inv, a.size, a.prog⟩) fun _ _ => trivial)
    (fun _ e h => h.ext e) (fun s => by show { s with buf := s.buf ++ #[] } = s; simp)
    (fun s a b => by show ({ s with buf := s.buf ++ a ++ b } : RL) = { s with buf := s.buf ++ (a ++ b) }; rw [Array.append_assoc])
    fun r a b => by
      cases r with
      | err x => rfl
      | ok l => show RLDone.ok { l with buf := l.buf ++ a ++ b } = RLDone.ok { l with buf := l.buf ++ (a ++ b) }; rw [Array.append_assoc]

theorem rl_run_both (F : RLFlags) (s : RL) (h : RLInvX F s) :
    (∀ s1, (rlScanner F).run s = .more s1 → RLInvX F s1 ∧ s1.buf.size = s.buf.size ∧ s.rb ≤ s1.rb) ∧
    (∀ r, (rlScanner F).run s = .done (.ok r) → RLPost r ∧ r.buf.size = s.buf.size ∧ s.rb ≤ r.method) := by
  have key := Scanner.run_induct (rlLaws F) (fun s' => RLX F s' ∧ s'.buf.size = s.buf.size ∧ s.rb ≤ s'.rb)
    (by
      intro a b hia hpa hst
      have w := (rlStep_walk F a #[] hia).adv b hst
      have h1 := w.x hpa.1
      exact ⟨h1.1, by rw [w.size]; exact hpa.2.1, Nat.le_trans hpa.2.2 h1.2⟩)
    s h.inv ⟨h.x, rfl, Nat.le_refl _⟩
  constructor
  · intro s1 hr
    obtain ⟨a, b, c, d⟩ := key.1 s1 hr
    exact ⟨⟨a, b⟩, c, d⟩
  · intro r hr
    obtain ⟨s1, a, ⟨b, c, d⟩, e⟩ := key.2.1 (.ok r) hr
    have := (rlStep_walk F s1 #[] a).fin _ e r rfl b
    exact ⟨this.1, by rw [this.2.1]; exact c, by rw [this.2.2]; exact d⟩

theorem rl_run_more (F : RLFlags) {s s1 : RL} (h : RLInvX F s) (hr : (rlScanner F).run s = .more s1) :
    RLInvX F s1 ∧ s1.buf.size = s.buf.size ∧ s.rb ≤ s1.rb :=
  (rl_run_both F s h).1 s1 hr

theorem rl_run_done (F : RLFlags) {s : RL} {r : ReqLine} (h : RLInvX F s) (hr : (rlScanner F).run s = .done (.ok r)) :
    RLPost r ∧ r.buf.size = s.buf.size ∧ s.rb ≤ r.method :=
  (rl_run_both F s h).2 r hr

end Mhd.Req
