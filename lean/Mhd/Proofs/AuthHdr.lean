/-
  C14: find_auth_rq_header_ completely characterised, the lookup with several request headers, and the
  per-request cache of the Authorization parameters on top of it.
-/
import Mhd.Proofs.AuthStr
import Mhd.Model.AuthCache
namespace Mhd.Auth
open Mhd.Gen.Auth

/-- `find_auth_rq_header_`, one list element, completely: a header matches iff it is of kind HEADER, its name
    is "Authorization" in any letter case, its value starts with the scheme token in any letter case and
    the token is the whole value or is followed by SP or HT; the parameters start after that one byte -/
theorem hdrMatch_exact (tok : Bytes) (h : Hdr) :
    hdrMatch tok h =
      if h.kind = headerKind ∧ h.name.map toLowerB = authHeader.map toLowerB ∧ tok.length ≤ h.value.length ∧
          (h.value.take tok.length).map toLowerB = tok.map toLowerB then
        match h.value.drop tok.length with
        | [] => some (tok.length, [])
        | c :: r => if c = 32 ∨ c = 9 then some (tok.length + 1, r) else none
      else none := by
  unfold hdrMatch
  by_cases hk : h.kind = headerKind
  · by_cases hl : authHeader.length = h.name.length
    · by_cases hv : tok.length > h.value.length
      · have : ¬ (h.kind = headerKind ∧ h.name.map toLowerB = authHeader.map toLowerB ∧ tok.length ≤ h.value.length ∧
            (h.value.take tok.length).map toLowerB = tok.map toLowerB) := by
          rintro ⟨_, _, h3, _⟩; omega
        rw [if_neg this, if_neg (by simpa using hk), if_neg (by simpa using hl), if_pos hv]
      · have hv' : tok.length ≤ h.value.length := by omega
        rw [if_neg (by simpa using hk), if_neg (by simpa using hl), if_neg hv]
        cases he : eqClN authHeader h.name
        · have : ¬ (h.kind = headerKind ∧ h.name.map toLowerB = authHeader.map toLowerB ∧ tok.length ≤ h.value.length ∧
              (h.value.take tok.length).map toLowerB = tok.map toLowerB) := by
            rintro ⟨_, hc, _, _⟩
            have := (eqClN_iff authHeader h.name).mpr hc.symm
            rw [he] at this; cases this
          rw [if_neg this]; rfl
        · have hn : h.name.map toLowerB = authHeader.map toLowerB := ((eqClN_iff _ _).mp he).symm
          cases hp : prefixCl h.value tok
          · have : ¬ (h.kind = headerKind ∧ h.name.map toLowerB = authHeader.map toLowerB ∧ tok.length ≤ h.value.length ∧
                (h.value.take tok.length).map toLowerB = tok.map toLowerB) := by
              rintro ⟨_, _, _, hc⟩
              have := (prefixCl_iff h.value tok).mpr ⟨hv', hc⟩
              rw [hp] at this; cases this
            rw [if_neg this]; rfl
          · have h4 := ((prefixCl_iff h.value tok).mp hp).2
            have hc : (h.kind = headerKind ∧ h.name.map toLowerB = authHeader.map toLowerB ∧ tok.length ≤ h.value.length ∧
                (h.value.take tok.length).map toLowerB = tok.map toLowerB) := ⟨hk, hn, hv', h4⟩
            rw [if_pos hc]
            simp only [Bool.not_true, Bool.false_eq_true, if_false]
            cases h.value.drop tok.length <;> rfl
    · have : ¬ (h.kind = headerKind ∧ h.name.map toLowerB = authHeader.map toLowerB ∧ tok.length ≤ h.value.length ∧
          (h.value.take tok.length).map toLowerB = tok.map toLowerB) := by
        rintro ⟨_, hc, _, _⟩
        have := congrArg List.length hc
        simp at this
        exact hl this.symm
      rw [if_neg this, if_neg (by simpa using hk), if_pos (by simpa using hl)]
  · have : ¬ (h.kind = headerKind ∧ h.name.map toLowerB = authHeader.map toLowerB ∧ tok.length ≤ h.value.length ∧
        (h.value.take tok.length).map toLowerB = tok.map toLowerB) := by
      rintro ⟨h1, _⟩; exact hk h1
    rw [if_neg this, if_pos (by simpa using hk)]

theorem findHdrLoop_first (tok : Bytes) (pre : List Hdr) (h : Hdr) (post : List Hdr) (k off : Nat) (rest : Bytes)
    (hpre : ∀ x ∈ pre, hdrMatch tok x = none) (hm : hdrMatch tok h = some (off, rest)) :
    findHdrLoop tok (pre ++ h :: post) k = some (k + pre.length, off, rest) := by
  induction pre generalizing k with
  | nil => simp [findHdrLoop, hm]
  | cons x xs ih =>
    have hx := hpre x (by simp)
    simp only [List.cons_append, findHdrLoop, hx]
    rw [ih (k + 1) (fun y hy => hpre y (by simp [hy]))]
    simp; omega

theorem findHdrLoop_none (tok : Bytes) (hs : List Hdr) (k : Nat) (h : ∀ x ∈ hs, hdrMatch tok x = none) :
    findHdrLoop tok hs k = none := by
  induction hs generalizing k with
  | nil => rfl
  | cons x xs ih => simp [findHdrLoop, h x (by simp), ih (k + 1) (fun y hy => h y (by simp [hy]))]

/-- a connection carrying `Authorization: <scheme> <value>`: scheme token in any letter case followed by
    SP or HT; `find_auth_rq_header_` hands the bytes after that separator to the parser -/
theorem findAuthHeader_single (tok sch : Bytes) (sp : UInt8) (rest : Bytes)
    (hs : sch.map toLowerB = tok.map toLowerB) (hsp : sp = 32 ∨ sp = 9) :
    findAuthHeader true tok [⟨headerKind, authHeader, sch ++ sp :: rest⟩] = some (0, tok.length + 1, rest) := by
  have hlen : sch.length = tok.length := by simpa using congrArg List.length hs
  have hm : hdrMatch tok ⟨headerKind, authHeader, sch ++ sp :: rest⟩ = some (tok.length + 1, rest) := by
    rw [hdrMatch_exact]
    have hc : ((⟨headerKind, authHeader, sch ++ sp :: rest⟩ : Hdr).kind = headerKind ∧
        (⟨headerKind, authHeader, sch ++ sp :: rest⟩ : Hdr).name.map toLowerB = authHeader.map toLowerB ∧
        tok.length ≤ (⟨headerKind, authHeader, sch ++ sp :: rest⟩ : Hdr).value.length ∧
        ((⟨headerKind, authHeader, sch ++ sp :: rest⟩ : Hdr).value.take tok.length).map toLowerB = tok.map toLowerB) := by
      refine ⟨rfl, rfl, by simp; omega, ?_⟩
      simp only [← hlen, List.take_left', hs]
    rw [if_pos hc]
    simp only [← hlen, List.drop_left', hsp, if_true]
  simp [findAuthHeader, findHdrLoop, hm]

theorem dauthParams_first (pre : List Hdr) (h : Hdr) (post : List Hdr) (off : Nat) (av : Bytes)
    (hpre : ∀ x ∈ pre, hdrMatch digestBase x = none) (hm : hdrMatch digestBase h = some (off, av)) :
    dauthParams (pre ++ h :: post) = dauthParams [h] := by
  have h1 := findHdrLoop_first digestBase pre h post 0 off av hpre hm
  have h2 := findHdrLoop_first digestBase [] h [] 0 off av (by simp) hm
  simp only [List.nil_append] at h2
  simp only [dauthParams, findAuthHeader, Bool.not_true, Bool.false_eq_true, if_false, h1, h2]

theorem dauthParams_none (hs : List Hdr) (h : ∀ x ∈ hs, hdrMatch digestBase x = none) : dauthParams hs = .ok none := by
  have := findHdrLoop_none digestBase hs 0 h
  simp [dauthParams, findAuthHeader, this]

theorem digestApiH_single (value : Bytes) : digestApiH [⟨headerKind, authHeader, value⟩] = digestApi value := by
  unfold digestApiH digestApi dauthParams
  cases findAuthHeader true digestBase [⟨headerKind, authHeader, value⟩] with
  | none => rfl
  | some x =>
    obtain ⟨a, b, av⟩ := x
    simp only
    cases parseDigest av (some 0) <;> rfl

theorem basicOf_bauthParams (hs : List Hdr) : basicOf (bauthParams hs) = basicApiH hs := by
  unfold bauthParams basicApiH basicInfo
  cases findAuthHeader true basicBase hs with
  | none => rfl
  | some x =>
    obtain ⟨a, b, av⟩ := x
    simp only
    cases parseBasic av with
    | ok o => cases o with
      | none => rfl
      | some p => rfl
    | reject => rfl
    | fault e => rfl

theorem init_consistent (hs : List Hdr) : RqAuth.init.consistent hs := by
  constructor <;> intro h <;> simp [RqAuth.init] at h

/-- `MHD_get_rq_bauth_params_`: a consistent cache is a memo of `bauthParams hs`, filled by the first query the
    connection state allows -/
theorem getBauth_eq (st : Bool) (hs : List Hdr) (c : RqAuth) (hc : c.consistent hs) :
    getBauth st hs c = (if st || c.bTried then bauthParams hs else none,
      if st && !c.bTried then { c with bTried := true, b := bauthParams hs } else c) := by
  unfold getBauth
  cases ht : c.bTried
  · cases st <;> rfl
  · simp [hc.1 ht]

/-- `MHD_get_rq_dauth_params_`: the same for `dauthParams hs`; a faulting parse caches nothing -/
theorem getDauth_eq (st : Bool) (hs : List Hdr) (c : RqAuth) (hc : c.consistent hs) :
    getDauth st hs c = if st || c.dTried then
        (dauthParams hs).map fun o => (o, if c.dTried then c else { c with dTried := true, d := o })
      else .ok (none, c) := by
  unfold getDauth
  cases ht : c.dTried
  · cases st <;> rfl
  · simp [← hc.2 ht]

end Mhd.Auth
