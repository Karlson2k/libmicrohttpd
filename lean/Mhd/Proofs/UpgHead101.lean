/-
  C20: the 101 head is what C04's model of `build_header_response` (`Mhd.Model.Reply`, `Mhd.Model.Resp`) produces
  for every response object an application can build from `MHD_create_response_for_upgrade` with legal API calls:
  MUST_UPGRADE, no body headers, no automatic "Connection" field, nothing prefixed to the stored "Connection" header,
  every stored header verbatim and in order (a stored "Content-Length" / "Transfer-Encoding" is not sent on a 1xx
  reply).  The response object's invariant (`Mhd.Resp.Inv`, `runCalls_inv`) is C04's.
-/
import Mhd.Proofs.ReplyClose
import Mhd.Model.Upg
namespace Mhd.Upg
open Mhd.Resp Mhd.Reply Mhd.ReplyStr

/-- header-kind entries that are sent on a 1xx reply: all but "Transfer-Encoding" / "Content-Length" -/
def keep101 (h : Hdr) : Bool :=
  h.kind == .header && ! nameIs h.name sTransferEncoding && ! nameIs h.name sContentLength

def toField (h : Hdr) : Field := ⟨h.name, h.value⟩

/-- the application's headers, verbatim and in list order -/
def appFields (r : Mhd.Resp.Resp) : List Field := (r.hdrs.filter keep101).map toField

theorem userFields_upgrade (c : Mhd.Reply.Conn) (r : Mhd.Resp.Resp) (hinv : Inv r) :
    userFields c r .mustUpgrade ⟨false, false, false⟩ = appFields r := by
  rw [userFields_eq c r _ _ hinv]
  have hp : (userSt c r .mustUpgrade ⟨false, false, false⟩).pre = [] := by
    simp [userSt, userInit, UH.pre, useConnClose, useConnKAlive]
  rw [hp, prefixFirst_nil]
  refine congrArg (List.map toField) (List.filter_congr fun h hm => ?_)
  -- an armed filter is one whose flag is set; with the flag clear the list has nothing for it to catch
  have armed : ∀ {k : Bytes} {b : Bool}, cnt k r.hdrs = b2n b → (b && isHdr k h) = isHdr k h := fun {k b} hc => by
    cases hh : isHdr k h with
    | false => exact Bool.and_false b
    | true => rw [flag_of_mem hc hm hh]; rfl
  have fT : (userSt c r .mustUpgrade ⟨false, false, false⟩).filterTE = r.fa.transEnc := by
    unfold userSt userInit; cases r.fa.transEnc <;> rfl
  have fC : (userSt c r .mustUpgrade ⟨false, false, false⟩).filterCL = r.fa.contentLength := by
    unfold userSt userInit; rw [hinv.noInsanity]; cases r.fa.contentLength <;> rfl
  have key : ∀ K T L a b : Bool, (a && (K && T)) = (K && T) → (b && (K && L)) = (K && L) →
      (K && !(a && T) && !(b && L)) = (K && !T && !L) := by decide
  unfold UH.sends keep101
  rw [fT, fC]
  exact key _ _ _ _ _ (armed hinv.te) (armed hinv.cl)

theorem connFields_upgrade (c : Mhd.Reply.Conn) (r : Mhd.Resp.Resp) : connFields c r .mustUpgrade = [] := by
  unfold connFields
  simp [useConnClose, useConnKAlive]

/-- the fields of the 101 head, in wire order -/
def fields101 (c : Mhd.Reply.Conn) (r : Mhd.Resp.Resp) (date : Bytes) : List Field :=
  dateFields c r (some date) ++ appFields r

/-- **the 101 head, explicitly**: status line, the automatic Date (unless suppressed / supplied by
    the application), the application's headers verbatim in order, empty line — nothing else -/
theorem headBytes_upgrade (c : Mhd.Reply.Conn) (r : Mhd.Resp.Resp) (code : Nat) (date : Bytes) (hinv : Inv r)
    (hu : r.upgrade = true) (hc : code ≤ 199) :
    headBytes c r code date =
      versionStr r false ++ [32] ++ codeDigits code ++ [32] ++ reasonPhrase code ++ crlf
        ++ ((fields101 c r date).map fieldLine).flatten ++ crlf := by
  unfold headBytes
  rw [setup_upgrade c r code hu hc]
  simp only [headSegs, List.map_append, List.flatten_append, map_fieldSeg_pieces, dateSegs_pieces,
    connFields_upgrade, userFields_upgrade c r hinv, fields101]
  simp [segStr, bodyHdrSegs, crlf, List.append_assoc]

theorem headBytes_is_buildHeaderResponse (c : Mhd.Reply.Conn) (r : Mhd.Resp.Resp) (code : Nat) (date : Bytes)
    (bufSize : Nat) (out : Bytes)
    (h : (buildHeaderResponse c r code false (some date) bufSize).2.2 = some out) :
    out = headBytes c r code date ∧
    (buildHeaderResponse c r code false (some date) bufSize).1 = (setupReplyProperties c r code).1 :=
  have ⟨e1, _, e3⟩ := buildHeader_eq c r code false (some date) bufSize out h
  ⟨e3, e1⟩

theorem runSegs_fits (bs : Nat) : ∀ (segs : List Seg) (buf : Bytes),
    buf.length + (segs.map fun s => max s.need s.piece.length).sum ≤ bs → (runSegs bs segs buf).isSome = true
  | [], buf, _ => by simp [runSegs]
  | s :: rest, buf, h => by
    simp only [List.map_cons, List.sum_cons] at h
    simp only [runSegs, appendChk]
    have h1 : ¬ bs < buf.length + s.need := by
      have : s.need ≤ max s.need s.piece.length := Nat.le_max_left _ _
      omega
    simp only [h1, if_false]
    apply runSegs_fits bs rest
    have : s.piece.length ≤ max s.need s.piece.length := Nat.le_max_right _ _
    simp only [List.length_append]
    omega

theorem headBytes_indep_of_request (c c' : Mhd.Reply.Conn) (r : Mhd.Resp.Resp) (code : Nat) (date : Bytes)
    (hinv : Inv r) (hu : r.upgrade = true) (hs : c.suppressDate = c'.suppressDate) (hc : code ≤ 199) :
    headBytes c r code date = headBytes c' r code date := by
  rw [headBytes_upgrade c r code date hinv hu hc, headBytes_upgrade c' r code date hinv hu hc]
  simp [fields101, dateFields, hs]

theorem addEntry_cases (r : Mhd.Resp.Resp) (k : Kind) (n v : Bytes) (P : Bool × Mhd.Resp.Resp → Prop)
    (h : ∀ ok r1, r1.upgrade = r.upgrade → P (ok, r1)) : P (addEntry r k n v) := by
  rcases Mhd.Resp.addEntry_cases r k n v with e | ⟨e, _⟩ <;> rw [e] <;> exact h _ _ rfl

theorem createUpgrade_upgrade : Resp.createUpgrade.upgrade = true := by decide

theorem upgradeObj_facts (cs : List Call) (hl : ∀ c ∈ cs, c.Legal) :
    Inv (runCalls Resp.createUpgrade cs) ∧ Mhd.Tok.ConnTok (runCalls Resp.createUpgrade cs) ∧
    (runCalls Resp.createUpgrade cs).upgrade = true ∧ (runCalls Resp.createUpgrade cs).fa.connClose = false := by
  have hi := runCalls_inv cs _ createUpgrade_inv hl
  have hu : (runCalls Resp.createUpgrade cs).upgrade = true :=
    (runCalls_upgrade cs _ createUpgrade_inv hl).trans createUpgrade_upgrade
  exact ⟨hi, Mhd.Tok.reachable_connTok _ cs (Or.inr (Or.inr rfl)) hl, hu, hi.upg hu⟩

end Mhd.Upg
