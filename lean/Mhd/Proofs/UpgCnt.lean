import Mhd.Proofs.UpgInv
namespace Mhd.Upg

/-- notification accounting of one connection -/
structure CntI (x : Conn) : Prop where
  completed : ∀ r, cnt (Ev.isCompleted r) x.log = if r < x.reqNo then 1 else 0
  handler : ∀ r, 0 < cnt (Ev.isHandler r) x.log → r < x.reqNo ∨ (r = x.reqNo ∧ x.clientAware = true)
  start0 : (x.loc = .none ∨ x.loc = .new) → cnt Ev.isStart x.log = 0
  start1 : (x.loc = .active ∨ x.loc = .suspended ∨ x.loc = .cleanup) → cnt Ev.isStart x.log = 1
  startle : cnt Ev.isStart x.log ≤ 1
  close : cnt Ev.isConnClose x.log = if x.loc = .freed then cnt Ev.isStart x.log else 0
  sockc : cnt Ev.isSockClose x.log = if x.loc = .freed then 1 else 0

theorem cntI_init : CntI {} := by constructor <;> simp

theorem cnt_snoc_false {p : Ev → Bool} {e : Ev} (l : List Ev) (h : p e = false) : cnt p (l ++ [e]) = cnt p l := by
  rw [cnt_append, cnt_single, h]; rfl

theorem cnt_snoc_true {p : Ev → Bool} {e : Ev} (l : List Ev) (h : p e = true) : cnt p (l ++ [e]) = cnt p l + 1 := by
  rw [cnt_append, cnt_single, h]; rfl

theorem cntI_of_eq {x y : Conn} (h : CntI x) (hl : y.log = x.log) (hr : y.reqNo = x.reqNo)
    (ha : y.clientAware = x.clientAware) (hloc : y.loc = x.loc) : CntI y := by
  obtain ⟨a, b, c, d, e, f, g⟩ := h
  exact ⟨by rw [hl, hr]; exact a, by rw [hl, hr, ha]; exact b, by rw [hl, hloc]; exact c,
         by rw [hl, hloc]; exact d, by rw [hl]; exact e, by rw [hl, hloc]; exact f, by rw [hl, hloc]; exact g⟩

/-- events that no counter looks at -/
def Ev.uncounted : Ev → Bool
  | .start | .handler _ _ | .completed _ _ | .connClose | .sockClose => false
  | _ => true

theorem cntI_emit {x : Conn} (h : CntI x) {e : Ev} (he : e.uncounted = true) : CntI (x.emit e) := by
  have z : ∀ p : Ev → Bool, p e = false → cnt p (x.emit e).log = cnt p x.log := fun p hp => cnt_snoc_false _ hp
  obtain ⟨z1, z2, z3, z4, z5⟩ : (∀ r, Ev.isCompleted r e = false) ∧ (∀ r, Ev.isHandler r e = false) ∧
      Ev.isStart e = false ∧ Ev.isConnClose e = false ∧ Ev.isSockClose e = false := by
    cases e with
    | start | handler _ _ | completed _ _ | connClose | sockClose => cases he
    | _ => exact ⟨fun _ => rfl, fun _ => rfl, rfl, rfl, rfl⟩
  obtain ⟨a, b, c, d, e, f, g⟩ := h
  exact ⟨by intro r; rw [z _ (z1 r)]; exact a r, by intro r; rw [z _ (z2 r)]; exact b r, by rw [z _ z3]; exact c,
         by rw [z _ z3]; exact d, by rw [z _ z3]; exact e, by rw [z _ z4, z _ z3]; exact f, by rw [z _ z5]; exact g⟩

theorem cntI_move {x y : Conn} (h : CntI x) (hl : y.log = x.log) (hr : y.reqNo = x.reqNo)
    (ha : y.clientAware = x.clientAware)
    (hx : x.loc = .active ∨ x.loc = .suspended ∨ x.loc = .cleanup)
    (hy : y.loc = .active ∨ y.loc = .suspended ∨ y.loc = .cleanup) : CntI y := by
  have s1 := h.start1 hx
  have hxf : x.loc ≠ .freed := by rcases hx with hx | hx | hx <;> simp [hx]
  have hyf : y.loc ≠ .freed := by rcases hy with hy | hy | hy <;> simp [hy]
  obtain ⟨a, b, c, d, e, f, g⟩ := h
  refine ⟨by rw [hl, hr]; exact a, by rw [hl, hr, ha]; exact b, ?_, by intro _; rw [hl]; exact s1,
          by rw [hl]; exact e, ?_, ?_⟩
  · intro h0; rcases hy with hy | hy | hy <;> rw [hy] at h0 <;> rcases h0 with h0 | h0 <;> cases h0
  · rw [hl, f, if_neg hxf, if_neg hyf]
  · rw [hl, g, if_neg hxf, if_neg hyf]

/-- the counters when a connection whose socket is open is released: `l` holds the socket close and, for a
    connection that was started, the connection-closed notification -/
theorem cntI_release {x y : Conn} (h : CntI x) (l : List Ev) (hl : y.log = x.log ++ l) (hr : y.reqNo = x.reqNo)
    (ha : y.clientAware = x.clientAware) (hx : x.loc ≠ .freed) (hy : y.loc = .freed)
    (h1 : ∀ r, cnt (Ev.isCompleted r) l = 0) (h2 : ∀ r, cnt (Ev.isHandler r) l = 0) (h3 : cnt Ev.isStart l = 0)
    (h4 : cnt Ev.isConnClose l = cnt Ev.isStart x.log) (h5 : cnt Ev.isSockClose l = 1) : CntI y := by
  obtain ⟨a, b, c, d, e, f, g⟩ := h
  rw [if_neg hx] at f g
  refine ⟨fun r => ?_, fun r h0 => ?_, ?_, ?_, ?_, ?_, ?_⟩
  · rw [hl, cnt_append, h1, hr]; exact a r
  · rw [hl, cnt_append, h2] at h0; rw [hr, ha]; exact b r h0
  · rw [hy]; intro h0; rcases h0 with h0 | h0 <;> cases h0
  · rw [hy]; intro h0; rcases h0 with h0 | h0 | h0 <;> cases h0
  · rw [hl, cnt_append, h3]; exact e
  · rw [hl, cnt_append, cnt_append, f, h3, h4, if_pos hy]; omega
  · rw [hl, cnt_append, g, h5, if_pos hy]

theorem Ev.neutral_uncounted {e : Ev} (he : e.neutral = true) : e.uncounted = true := by
  cases e <;> first | rfl | cases he

theorem cntI_kept (cfg : Cfg) : Kept cfg (CI cfg) CntI where
  act {x y} a hc h := by
    cases a with
    | ctl | dropRp | accept | built | head | marked | clientSend => exact cntI_of_eq h rfl rfl rfl rfl
    | emit e he => exact cntI_emit h (Ev.neutral_uncounted he)
    | shutdown => exact cntI_emit h rfl
    | recv n => exact cntI_of_eq (cntI_emit h (e := .ioRecv n) rfl) rfl rfl rfl rfl
    | send n => exact cntI_of_eq (cntI_emit h (e := .ioSend (x.wbuf.take n)) rfl) rfl rfl rfl rfl
    | appRecv n => exact cntI_of_eq (cntI_emit h (e := .appRecv _) rfl) rfl rfl rfl rfl
    | toCleanup ha => exact cntI_move h rfl rfl rfl (.inl ha) (.inr (.inr rfl))
    | resumeClean _ hs => exact cntI_move h rfl rfl rfl (.inr (.inl hs)) (.inr (.inr rfl))
    | handover rid ha =>
      exact cntI_emit (cntI_move (y := { takeExtra x with loc := .suspended }) h rfl rfl rfl (.inl ha) (.inr (.inl rfl)))
        (e := .upgrade rid x.rbuf) rfl
    | release hl =>
      exact cntI_release h [.connClose, .sockClose] (List.append_assoc ..) rfl rfl (by simp [hl]) rfl
        (fun _ => rfl) (fun _ => rfl) rfl (h.start1 (.inr (.inr hl))).symm rfl
    | stopNew hn =>
      exact cntI_release h [.sockClose] rfl rfl rfl (by simp [hn]) rfl
        (fun _ => rfl) (fun _ => rfl) rfl (h.start0 (.inr hn)).symm rfl
    | arrive hn =>
      have s0 := h.start0 (Or.inl hn)
      obtain ⟨a, b, c, d, e, f, g⟩ := h
      rw [hn] at f g
      exact ⟨a, b, fun _ => s0, nofun, e, f, g⟩
    | entered fin =>
      obtain ⟨a, b, c, d, e, f, g⟩ := h
      have k : ∀ p : Ev → Bool, p (.handler x.reqNo fin) = false → cnt p (handlerEntered x fin).log = cnt p x.log :=
        fun p hp => cnt_snoc_false _ hp
      refine ⟨fun r => ?_, fun r h0 => ?_, ?_, ?_, ?_, ?_, ?_⟩
      · rw [k _ rfl]; exact a r
      · by_cases hr : r = x.reqNo
        · exact .inr ⟨hr, rfl⟩
        · rw [k _ (by simp [Ev.isHandler]; omega)] at h0
          exact (b r h0).elim .inl (fun h1 => absurd h1.1 hr)
      · rw [k _ rfl]; exact c
      · rw [k _ rfl]; exact d
      · rw [k _ rfl]; exact e
      · rw [k _ rfl, k _ rfl]; exact f
      · rw [k _ rfl]; exact g
    | completed code =>
      obtain ⟨a, b, c, d, e, f, g⟩ := h
      have k : ∀ p : Ev → Bool, p (.completed x.reqNo code) = false →
          cnt p (x.log ++ [.completed x.reqNo code]) = cnt p x.log := fun p hp => cnt_snoc_false _ hp
      refine ⟨fun r => ?_, fun r h0 => ?_, ?_, ?_, ?_, ?_, ?_⟩
      · show cnt _ (x.log ++ [_]) = if r < x.reqNo + 1 then 1 else 0
        by_cases hr : r = x.reqNo
        · subst hr; rw [cnt_snoc_true _ (by simp [Ev.isCompleted]), a]; simp
        · rw [k _ (by simp [Ev.isCompleted]; omega), a]
          by_cases h1 : r < x.reqNo
          · rw [if_pos h1, if_pos (by omega)]
          · rw [if_neg h1, if_neg (by omega)]
      · have := b r (by rw [← k _ rfl]; exact h0)
        show r < x.reqNo + 1 ∨ _; omega
      · show _ → cnt _ (x.log ++ [_]) = 0; rw [k _ rfl]; exact c
      · show _ → cnt _ (x.log ++ [_]) = 1; rw [k _ rfl]; exact d
      · show cnt _ (x.log ++ [_]) ≤ 1; rw [k _ rfl]; exact e
      · show cnt _ (x.log ++ [_]) = if x.loc = .freed then cnt _ (x.log ++ [_]) else 0; rw [k _ rfl, k _ rfl]; exact f
      · show cnt _ (x.log ++ [_]) = _; rw [k _ rfl]; exact g
    | started hn =>
      have s0 := h.start0 (Or.inr hn)
      obtain ⟨a, b, c, d, e, f, g⟩ := h
      have k : ∀ p : Ev → Bool, p .start = false → cnt p (x.log ++ [.start]) = cnt p x.log :=
        fun p hp => cnt_snoc_false _ hp
      have k3 : cnt Ev.isStart (x.log ++ [.start]) = 1 := by rw [cnt_snoc_true _ rfl, s0]
      refine ⟨fun r => ?_, fun r h0 => ?_, nofun, fun _ => k3, ?_, ?_, ?_⟩
      · show cnt _ (x.log ++ [_]) = _; rw [k _ rfl]; exact a r
      · exact b r (by rw [← k _ rfl]; exact h0)
      · show cnt _ (x.log ++ [_]) ≤ 1; rw [k3]; exact Nat.le_refl 1
      · show cnt _ (x.log ++ [_]) = if Loc.active = Loc.freed then _ else 0
        rw [k _ rfl, f, hn]; rfl
      · show cnt _ (x.log ++ [_]) = if Loc.active = Loc.freed then 1 else 0
        rw [k _ rfl, g, hn]; rfl
    | incoherent hi => exact absurd hi hc.life.coherent

/-- lifecycle, log and counters of one connection: what the daemon-level invariant carries -/
structure FI (cfg : Cfg) (x : Conn) : Prop where
  ci : CI cfg x
  cn : CntI x

theorem fi_init (cfg : Cfg) : FI cfg {} := ⟨⟨life_init cfg, logI_init⟩, cntI_init⟩

theorem fi_kept (cfg : Cfg) : Kept cfg Any (FI cfg) :=
  ((ci_kept cfg).and (cntI_kept cfg)).of_iff fun _ => ⟨fun h => ⟨h.1, h.2⟩, fun h => ⟨h.ci, h.cn⟩⟩

end Mhd.Upg
