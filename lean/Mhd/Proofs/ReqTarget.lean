/-
  `process_request_target`, `MHD_parse_arguments_`, `MHD_unescape_plus`, the unescape callback
  (strict / lenient in-place percent decoders): the in-place C-string functions of the model
  meet functional specifications on byte lists (`plusMap`, `decS`, `decL`, `specArgs`), for every
  NUL-terminated input.  Each `*_spec` says that the function does not fault, what the string reads
  as afterwards (`StrOK`) and that nothing outside a window `[lo, hi]` of the buffer has changed
  (`Same`); windows compose, so a later operation finds the strings an earlier one has left.  A
  string is split at its first delimiter as a list (`split_first`), not by index arithmetic.
  Fault freedom for *every* buffer in which the target is followed by a NUL (interior NULs, any
  recorded '?' position inside the target: `parseArgs_nul`, `processRequestTarget_no_fault`)
  is the specification applied to the C string that ends at the first NUL (`cstr_exists`).
-/
import Mhd.Model.ReqTarget
import Mhd.Proofs.ReqBuf
namespace Mhd.Req
namespace TGT

/-- `MHD_unescape_plus` -/
def plusMap (w : List UInt8) : List UInt8 := w.map (fun c => if c == 43 then cSP else c)

/-- strict percent-decoding: `none` = broken encoding -/
def decS : List UInt8 → Option (List UInt8)
  | [] => some []
  | c :: rest =>
    if c == 37 then
      match rest with
      | d1 :: d2 :: rest' =>
        match xdigit d1, xdigit d2 with
        | some h, some l => (decS rest').map ((h * 16 + l) :: ·)
        | _, _ => none
      | _ => none
    else (decS rest).map (c :: ·)

/-- lenient percent-decoding (a '%' that does not start a valid triplet is copied, the
    following characters are scanned again) -/
def decL : List UInt8 → List UInt8
  | [] => []
  | c :: rest =>
    if c == 37 then
      match xdigit (rest.getD 0 0), xdigit (rest.getD 1 0), decide (2 ≤ rest.length) with
      | some h, some l, true => (h * 16 + l) :: decL (rest.drop 2)
      | _, _, _ => c :: decL rest
    else c :: decL rest
termination_by w => w.length
decreasing_by all_goals (simp_wf; try omega)

open RLP (BufIs)

/-- the byte that the two hex digits at the head of `t` stand for -/
def hex2 : List UInt8 → Option UInt8
  | d1 :: d2 :: _ =>
    match xdigit d1, xdigit d2 with
    | some h, some l => some (h * 16 + l)
    | _, _ => none
  | _ => none

theorem decS_cons_ne {c : UInt8} (rest : List UInt8) (h : c ≠ 37) : decS (c :: rest) = (decS rest).map (c :: ·) := by
  rw [decS.eq_def]; exact if_neg (by simpa using h)

theorem decS_pct (t : List UInt8) :
    decS (37 :: t) = match hex2 t with
      | some v => (decS (t.drop 2)).map (v :: ·)
      | none => none := by
  match t with
  | [] | [_] => rfl
  | d1 :: d2 :: t' =>
    simp only [decS, hex2, List.drop]
    cases xdigit d1 <;> cases xdigit d2 <;> rfl

theorem decL_nil : decL [] = [] := by rw [decL]

theorem decL_cons_ne {c : UInt8} (rest : List UInt8) (h : c ≠ 37) : decL (c :: rest) = c :: decL rest := by
  rw [decL, if_neg (by simpa using h)]

theorem decL_pct (t : List UInt8) :
    decL (37 :: t) = match hex2 t with
      | some v => v :: decL (t.drop 2)
      | none => 37 :: decL t := by
  rw [decL]
  refine (if_pos rfl).trans ?_
  match t with
  | [] => rfl
  | [d1] => simp only [List.getD_cons_zero]; cases xdigit d1 <;> rfl
  | d1 :: d2 :: t' =>
    simp only [List.getD_cons_zero, List.getD_cons_succ, hex2]
    cases xdigit d1 <;> cases xdigit d2 <;> rfl

theorem pct_induction {P : List UInt8 → Prop} (nil : P []) (lit : ∀ c t, c ≠ 37 → P t → P (c :: t))
    (esc : ∀ d1 d2 t v, hex2 (d1 :: d2 :: t) = some v → P t → P (37 :: d1 :: d2 :: t))
    (bad : ∀ t, hex2 t = none → P t → P (37 :: t)) (w : List UInt8) : P w := by
  suffices h : ∀ n (w : List UInt8), w.length ≤ n → P w from h _ w (Nat.le_refl _)
  intro n
  induction n with
  | zero => intro w hw; obtain rfl : w = [] := List.length_eq_zero_iff.mp (Nat.le_zero.mp hw); exact nil
  | succ n ih =>
    intro w hw
    match w with
    | [] => exact nil
    | c :: t =>
      have ht : t.length ≤ n := Nat.le_of_succ_le_succ hw
      by_cases hc : c = 37
      · subst hc
        cases hx : hex2 t with
        | none => exact bad t hx (ih t ht)
        | some v =>
          match t, hx with
          | d1 :: d2 :: t', hx => exact esc d1 d2 t' v hx (ih t' (Nat.le_trans (Nat.le_add_right _ 2) ht))
      · exact lit c t hc (ih t ht)

theorem decL_len (w : List UInt8) : (decL w).length ≤ w.length := by
  induction w using pct_induction with
  | nil => rw [decL_nil]; exact Nat.le_refl _
  | lit c t hc ih => rw [decL_cons_ne t hc]; exact Nat.succ_le_succ ih
  | esc d1 d2 t v hx ih => rw [decL_pct, hx]; exact Nat.succ_le_succ (Nat.le_trans ih (Nat.le_add_right _ 2))
  | bad t hx ih => rw [decL_pct, hx]; exact Nat.succ_le_succ ih

theorem decL_of_decS (w : List UInt8) : ∀ d, decS w = some d → decL w = d := by
  induction w using pct_induction with
  | nil => intro d h; cases h; exact decL_nil
  | lit c t hc ih =>
    intro d h
    rw [decS_cons_ne t hc] at h
    obtain ⟨d', hd', rfl⟩ := Option.map_eq_some_iff.mp h
    rw [decL_cons_ne t hc, ih d' hd']
  | esc d1 d2 t v hx ih =>
    intro d h
    rw [decS_pct, hx] at h
    obtain ⟨d', hd', rfl⟩ := Option.map_eq_some_iff.mp h
    rw [decL_pct, hx]
    exact congrArg (v :: ·) (ih d' hd')
  | bad t hx ih => intro d h; rw [decS_pct, hx] at h; cases h

/-- index of the first `c` in `w` -/
def idxOf (c : UInt8) : List UInt8 → Option Nat
  | [] => none
  | x :: xs => if x == c then some 0 else (idxOf c xs).map (· + 1)

def NoNul (w : List UInt8) : Prop := ∀ x ∈ w, x ≠ 0

theorem NoNul.tail {x : UInt8} {xs : List UInt8} (h : NoNul (x :: xs)) : NoNul xs := fun y hy => h y (by simp [hy])
theorem NoNul.head {x : UInt8} {xs : List UInt8} (h : NoNul (x :: xs)) : x ≠ 0 := h x (by simp)
theorem NoNul.left {a b : List UInt8} (h : NoNul (a ++ b)) : NoNul a := fun y hy => h y (by simp [hy])
theorem NoNul.right {a b : List UInt8} (h : NoNul (a ++ b)) : NoNul b := fun y hy => h y (by simp [hy])

/-- `buf'` has the size of `buf` and differs from it only inside `[lo, hi]`: the window of `ReqBuf` with the upper
    bound included, since `hi` is where the NUL of a string may stand -/
def Same (buf buf' : Bytes) (lo hi : Nat) : Prop := WritesIn lo (hi + 1) buf buf'

theorem Same.refl (buf : Bytes) (lo hi : Nat) : Same buf buf lo hi := WritesIn.refl ..

theorem Same.set (buf : Bytes) (v : UInt8) {p lo hi : Nat} (h1 : lo ≤ p) (h2 : p ≤ hi) :
    Same buf (buf.setIfInBounds p v) lo hi :=
  (WritesIn.refl ..).set p v h1 (Nat.lt_succ_of_le h2)

theorem Same.trans {b0 b1 b2 : Bytes} {lo1 hi1 lo2 hi2 lo hi : Nat} (h1 : Same b0 b1 lo1 hi1) (h2 : Same b1 b2 lo2 hi2)
    (l1 : lo ≤ lo1) (l2 : lo ≤ lo2) (u1 : hi1 ≤ hi) (u2 : hi2 ≤ hi) : Same b0 b2 lo hi :=
  WritesIn.trans (h1.mono l1 (Nat.succ_le_succ u1)) (h2.mono l2 (Nat.succ_le_succ u2))

theorem Same.of_set {buf b' : Bytes} {p lo hi : Nat} {v : UInt8} (h : Same (buf.setIfInBounds p v) b' lo hi)
    (h1 : lo ≤ p) (h2 : p ≤ hi) : Same buf b' lo hi :=
  (Same.set buf v h1 h2).trans h (Nat.le_refl _) (Nat.le_refl _) (Nat.le_refl _) (Nat.le_refl _)

theorem Same.bufIs {b b' : Bytes} {lo hi off : Nat} {w : List UInt8} (h : Same b b' lo hi) (hb : BufIs b off w)
    (ho : off + w.length ≤ lo ∨ hi < off) : BufIs b' off w :=
  hb.writesIn h ho

/-- result of an in-place string operation on the string at `a`: the string there is now `d`,
    nothing outside `[a, hi]` has changed -/
structure StrOK (buf buf' : Bytes) (a hi : Nat) (d : List UInt8) : Prop where
  same : Same buf buf' a hi
  str : BufIs buf' a (d ++ [0])

theorem StrOK.nil {buf : Bytes} {p hi : Nat} (hp : p < buf.size) (hh : p ≤ hi) :
    StrOK buf (buf.setIfInBounds p 0) p hi [] :=
  ⟨Same.set buf 0 (Nat.le_refl _) hh, RLP.BufIs.cons (Array.getElem?_setIfInBounds_self_of_lt hp) (fun _ hi' => nomatch hi')⟩

/-- `buf1` is `buf`, or `buf` with `v` written at `p`; the operation goes on behind it -/
theorem StrOK.cons {buf buf1 buf' : Bytes} {p hi : Nat} {v : UInt8} {d : List UInt8} (h1 : Same buf buf1 p p)
    (hv : buf1[p]? = some v) (hh : p ≤ hi) (h : StrOK buf1 buf' (p + 1) hi d) : StrOK buf buf' p hi (v :: d) :=
  ⟨h1.trans h.same (Nat.le_refl _) (Nat.le_succ _) hh (Nat.le_refl _),
    RLP.BufIs.cons ((h.same.out p (Or.inl (Nat.lt_succ_self p))).trans hv) h.str⟩

theorem StrOK.cons_set {buf buf' : Bytes} {p hi : Nat} {v : UInt8} {d : List UInt8} (hp : p < buf.size) (hh : p ≤ hi)
    (h : StrOK (buf.setIfInBounds p v) buf' (p + 1) hi d) : StrOK buf buf' p hi (v :: d) :=
  StrOK.cons (Same.set buf v (Nat.le_refl _) (Nat.le_refl _)) (Array.getElem?_setIfInBounds_self_of_lt hp) hh h

theorem StrOK.view {buf buf' : Bytes} {a hi : Nat} {d : List UInt8} (h : StrOK buf buf' a hi d) :
    sliceBytes buf' ⟨0, a, d.length⟩ = d := h.str.view

theorem not_beq {x c : UInt8} (h : x ≠ c) : ¬(x == c) = true := fun e => h (of_decide_eq_true e)

theorem strchr_spec (buf : Bytes) (c : UInt8) (hc : c ≠ 0) (w : List UInt8) :
    ∀ (fuel a : Nat), BufIs buf a (w ++ [0]) → NoNul w → w.length < fuel →
      strchr buf c fuel a = .ok ((idxOf c w).map (a + ·)) := by
  induction w with
  | nil =>
    intro fuel a hb _ hf
    cases fuel with
    | zero => exact absurd hf (Nat.not_lt_zero _)
    | succ f =>
      rw [strchr, hb.head]
      exact (if_neg (not_beq hc.symm)).trans (if_pos rfl)
  | cons x xs ih =>
    intro fuel a hb hn hf
    cases fuel with
    | zero => exact absurd hf (Nat.not_lt_zero _)
    | succ f =>
      rw [strchr, hb.head, idxOf]
      by_cases hx : (x == c) = true
      · exact (if_pos hx).trans (if_pos hx ▸ rfl)
      · refine (if_neg hx).trans ((if_neg (not_beq hn.head)).trans ?_)
        rw [ih f (a + 1) hb.tail hn.tail (Nat.lt_of_succ_lt_succ hf), if_neg hx]
        cases idxOf c xs with
        | none => rfl
        | some i => exact congrArg (fun n => Except.ok (some n)) (Nat.add_right_comm a 1 i)

theorem unescapePlus_spec (w : List UInt8) :
    ∀ (buf : Bytes) (fuel a hi : Nat), BufIs buf a (w ++ [0]) → NoNul w → w.length < fuel → a + w.length ≤ hi →
      ∃ buf', unescapePlus buf fuel a = .ok buf' ∧ StrOK buf buf' a hi (plusMap w) := by
  induction w with
  | nil =>
    intro buf fuel a hi hb _ hf _
    cases fuel with
    | zero => exact absurd hf (Nat.not_lt_zero _)
    | succ f => exact ⟨buf, by rw [unescapePlus, hb.head]; exact if_pos rfl, Same.refl .., hb⟩
  | cons x xs ih =>
    intro buf fuel a hi hb hn hf hhi
    cases fuel with
    | zero => exact absurd hf (Nat.not_lt_zero _)
    | succ f =>
      have hhi' : a + 1 + xs.length ≤ hi := by rw [List.length_cons] at hhi; omega
      have hf' : xs.length < f := Nat.lt_of_succ_lt_succ hf
      have ha : a ≤ hi := Nat.le_trans (Nat.le_add_right ..) hhi
      rw [unescapePlus, hb.head]
      show ∃ buf', (if (x == 0) = true then _ else _) = _ ∧ StrOK buf buf' a hi ((if x == 43 then cSP else x) :: plusMap xs)
      rw [if_neg (not_beq hn.head)]
      by_cases hp : (x == 43) = true
      · rw [if_pos hp, if_pos hp]
        obtain ⟨b', e, ok⟩ := ih (buf.setIfInBounds a cSP) f (a + 1) hi (hb.tail.set a cSP (Or.inl (Nat.lt_succ_self a)))
          hn.tail hf' hhi'
        exact ⟨b', e, ok.cons_set (hb.size_lt 0 (Nat.succ_pos _)) ha⟩
      · rw [if_neg hp, if_neg hp]
        obtain ⟨b', e, ok⟩ := ih buf f (a + 1) hi hb.tail hn.tail hf' hhi'
        exact ⟨b', e, ok.cons (Same.refl ..) hb.head ha⟩

theorem pctStrict_nul {buf : Bytes} {a f r w : Nat} (h0 : buf[a + r]? = some 0) (hw : a + w < buf.size) :
    pctStrict buf a (f + 1) r w = .ok (buf.setIfInBounds (a + w) 0, w) := by
  rw [pctStrict, h0]; exact (if_pos rfl).trans (if_pos hw)

theorem pctStrict_lit {buf : Bytes} {a f r w : Nat} {c : UInt8} (h0 : buf[a + r]? = some c) (hc0 : c ≠ 0) (hc : c ≠ 37)
    (hw : a + w < buf.size) :
    pctStrict buf a (f + 1) r w = pctStrict (buf.setIfInBounds (a + w) c) a f (r + 1) (w + 1) := by
  rw [pctStrict, h0]; exact (if_neg (not_beq hc0)).trans ((if_neg (not_beq hc)).trans (if_pos hw))

/-- at a '%': the two bytes behind it are looked at only up to the NUL, which is no hex digit -/
theorem pctStrict_pct {buf : Bytes} {a f r w : Nat} {t : List UInt8} (h0 : buf[a + r]? = some 37)
    (ht : BufIs buf (a + r + 1) (t ++ [0])) (hn : NoNul t) (ha : a < buf.size) (hw : a + w < buf.size) :
    pctStrict buf a (f + 1) r w =
      match hex2 t with
      | some v => pctStrict (buf.setIfInBounds (a + w) v) a f (r + 3) (w + 1)
      | none => .ok (buf.setIfInBounds a 0, 0) := by
  rw [pctStrict, h0]
  refine (if_neg (by decide)).trans ((if_pos rfl).trans ?_)
  match t with
  | [] => rw [ht.head]; exact (if_pos rfl).trans (if_pos ha)
  | [d1] =>
    rw [ht.head]
    refine (if_neg (not_beq hn.head)).trans ?_
    rw [ht.tail.head]
    exact (if_pos rfl).trans (if_pos ha)
  | d1 :: d2 :: t' =>
    rw [ht.head]
    refine (if_neg (not_beq hn.head)).trans ?_
    rw [ht.tail.head]
    refine (if_neg (not_beq hn.tail.head)).trans ?_
    simp only [if_pos hw, if_pos ha, hex2]
    cases xdigit d1 <;> cases xdigit d2 <;> rfl

theorem pctLenient_nul {buf : Bytes} {a f r w : Nat} (h0 : buf[a + r]? = some 0) (hw : a + w < buf.size) :
    pctLenient buf a (f + 1) r w = .ok (buf.setIfInBounds (a + w) 0, w) := by
  rw [pctLenient, h0]; exact (if_pos rfl).trans (if_pos hw)

theorem pctLenient_lit {buf : Bytes} {a f r w : Nat} {c : UInt8} (h0 : buf[a + r]? = some c) (hc0 : c ≠ 0) (hc : c ≠ 37)
    (hw : a + w < buf.size) :
    pctLenient buf a (f + 1) r w = pctLenient (buf.setIfInBounds (a + w) c) a f (r + 1) (w + 1) := by
  rw [pctLenient, h0]; exact (if_neg (not_beq hc0)).trans ((if_neg (not_beq hc)).trans (if_pos hw))

theorem pctLenient_end1 {buf : Bytes} {a f r w : Nat} (h0 : buf[a + r]? = some 37) (h1 : buf[a + r + 1]? = some 0)
    (hw : a + w + 1 < buf.size) :
    pctLenient buf a (f + 1) r w = .ok ((buf.setIfInBounds (a + w) 37).setIfInBounds (a + w + 1) 0, w + 1) := by
  rw [pctLenient, h0]
  refine (if_neg (by decide)).trans ((if_pos rfl).trans ?_)
  rw [h1]
  exact (if_pos rfl).trans (if_pos hw)

theorem pctLenient_end2 {buf : Bytes} {a f r w : Nat} {d1 : UInt8} (h0 : buf[a + r]? = some 37)
    (h1 : buf[a + r + 1]? = some d1) (hd1 : d1 ≠ 0) (h2 : buf[a + r + 2]? = some 0) (hw : a + w + 2 < buf.size) :
    pctLenient buf a (f + 1) r w =
      .ok (((buf.setIfInBounds (a + w) 37).setIfInBounds (a + w + 1) d1).setIfInBounds (a + w + 2) 0, w + 2) := by
  rw [pctLenient, h0]
  refine (if_neg (by decide)).trans ((if_pos rfl).trans ?_)
  rw [h1]
  refine (if_neg (not_beq hd1)).trans ?_
  rw [h2]
  exact (if_pos rfl).trans (if_pos hw)

theorem pctLenient_pct {buf : Bytes} {a f r w : Nat} {d1 d2 : UInt8} (t : List UInt8) (h0 : buf[a + r]? = some 37)
    (h1 : buf[a + r + 1]? = some d1) (hd1 : d1 ≠ 0) (h2 : buf[a + r + 2]? = some d2) (hd2 : d2 ≠ 0)
    (hw : a + w < buf.size) :
    pctLenient buf a (f + 1) r w =
      match hex2 (d1 :: d2 :: t) with
      | some v => pctLenient (buf.setIfInBounds (a + w) v) a f (r + 3) (w + 1)
      | none => pctLenient (buf.setIfInBounds (a + w) 37) a f (r + 1) (w + 1) := by
  rw [pctLenient, h0]
  refine (if_neg (by decide)).trans ((if_pos rfl).trans ?_)
  rw [h1]
  refine (if_neg (not_beq hd1)).trans ?_
  rw [h2]
  refine (if_neg (not_beq hd2)).trans ?_
  simp only [if_pos hw, hex2]
  cases xdigit d1 <;> cases xdigit d2 <;> rfl

/-- the cursors of a decoder loop: the undecoded `rest` (NUL-terminated, without NUL) is at the read
    cursor `r`, the write cursor `w` is not ahead of it, the fuel suffices, the NUL lies at most at `hi` -/
structure Cur (buf : Bytes) (a hi fuel r w : Nat) (rest : List UInt8) : Prop where
  wr : w ≤ r
  str : BufIs buf (a + r) (rest ++ [0])
  nn : NoNul rest
  fuel : rest.length < fuel
  hi : a + r + rest.length ≤ hi

theorem Cur.room {buf : Bytes} {a hi fuel r w : Nat} {rest : List UInt8} (h : Cur buf a hi fuel r w rest) {k : Nat}
    (hk : k ≤ rest.length) : a + w + k < buf.size ∧ a + w + k ≤ hi := by
  have hle := Nat.add_le_add (Nat.add_le_add_left h.wr a) hk
  exact ⟨Nat.lt_of_le_of_lt hle (h.str.size_lt rest.length (by rw [List.length_append]; exact Nat.lt_succ_self _)),
    Nat.le_trans hle h.hi⟩

theorem Cur.adv {buf : Bytes} {a hi f r w : Nat} {seg rest1 : List UInt8} (h : Cur buf a hi (f + 1) r w (seg ++ rest1))
    (v : UInt8) (hk : 0 < seg.length) : Cur (buf.setIfInBounds (a + w) v) a hi f (r + seg.length) (w + 1) rest1 := by
  have h2 := h.fuel; have h3 := h.hi
  rw [List.length_append] at h2 h3
  have hb := h.str
  rw [List.append_assoc] at hb
  refine ⟨Nat.add_le_add h.wr hk, ?_, h.nn.right,
    Nat.lt_of_lt_of_le (Nat.lt_add_of_pos_left hk) (Nat.le_of_lt_succ h2), by rw [← Nat.add_assoc, Nat.add_assoc (a + r)]; exact h3⟩
  have := hb.right.set (a + w) v (Or.inl (Nat.lt_of_le_of_lt (Nat.add_le_add_left h.wr a) (Nat.lt_add_of_pos_right hk)))
  rwa [Nat.add_assoc] at this

/-- what a decoder loop entered with write cursor `w` has done when it returns `n`: the decoded rest `d`
    stands at the write cursor; or (strict decoder, broken encoding) the string at `a` is empty -/
def Res (buf buf' : Bytes) (a hi w n : Nat) : Option (List UInt8) → Prop
  | some d => n = w + d.length ∧ StrOK buf buf' (a + w) hi d
  | none => n = 0 ∧ StrOK buf buf' a hi []

/-- the loop writes `v` at the write cursor and goes on (`F` is the run from there) -/
theorem Res.step {buf : Bytes} {a hi w : Nat} {v : UInt8} {o : Option (List UInt8)} {F : Except Fault (Bytes × Nat)}
    (h : ∃ buf' n, F = .ok (buf', n) ∧ Res (buf.setIfInBounds (a + w) v) buf' a hi (w + 1) n o)
    (hw : a + w < buf.size) (whi : a + w ≤ hi) : ∃ buf' n, F = .ok (buf', n) ∧ Res buf buf' a hi w n (o.map (v :: ·)) := by
  obtain ⟨b', n, e, h⟩ := h
  refine ⟨b', n, e, ?_⟩
  cases o with
  | none => exact ⟨h.1, h.2.same.of_set (Nat.le_add_right a w) whi, h.2.str⟩
  | some d => exact ⟨by rw [h.1, Nat.add_right_comm]; rfl, h.2.cons_set hw whi⟩

theorem pctStrict_loop (a hi : Nat) : ∀ (fuel : Nat) (buf : Bytes) (r w : Nat) (rest : List UInt8),
    Cur buf a hi fuel r w rest →
    ∃ buf' n, pctStrict buf a fuel r w = .ok (buf', n) ∧ Res buf buf' a hi w n (decS rest) := by
  intro fuel
  induction fuel with
  | zero => intro _ _ _ _ h; exact absurd h.fuel (Nat.not_lt_zero _)
  | succ f ih =>
    intro buf r w rest hc
    obtain ⟨hw, whi⟩ := hc.room (Nat.zero_le _)
    cases rest with
    | nil => exact ⟨_, _, pctStrict_nul hc.str.head hw, rfl, StrOK.nil hw whi⟩
    | cons c t =>
      by_cases h37 : c = 37
      · subst h37
        have ha : a < buf.size := Nat.lt_of_le_of_lt (Nat.le_add_right a w) hw
        rw [decS_pct, pctStrict_pct hc.str.head hc.str.tail hc.nn.tail ha hw]
        cases hx : hex2 t with
        | none => exact ⟨_, _, rfl, rfl, StrOK.nil ha (Nat.le_trans (Nat.le_add_right a w) whi)⟩
        | some v =>
          match t, hx with
          | d1 :: d2 :: t', _ =>
            exact Res.step (ih _ _ _ _ (hc.adv (seg := [37, d1, d2]) v (Nat.succ_pos 2))) hw whi
      · rw [decS_cons_ne t h37, pctStrict_lit hc.str.head hc.nn.head h37 hw]
        exact Res.step (ih _ _ _ _ (hc.adv (seg := [c]) c Nat.one_pos)) hw whi

theorem decL_single (c : UInt8) : decL [c] = [c] := by
  by_cases hc : c = 37
  · subst hc; rw [decL_pct, decL_nil]; rfl
  · rw [decL_cons_ne [] hc, decL_nil]

theorem pctLenient_loop (a hi : Nat) : ∀ (fuel : Nat) (buf : Bytes) (r w : Nat) (rest : List UInt8),
    Cur buf a hi fuel r w rest →
    ∃ buf' n, pctLenient buf a fuel r w = .ok (buf', n) ∧ Res buf buf' a hi w n (some (decL rest)) := by
  intro fuel
  induction fuel with
  | zero => intro _ _ _ _ h; exact absurd h.fuel (Nat.not_lt_zero _)
  | succ f ih =>
    intro buf r w rest hc
    obtain ⟨hw, whi⟩ := hc.room (Nat.zero_le _)
    cases rest with
    | nil => rw [decL_nil]; exact ⟨_, _, pctLenient_nul hc.str.head hw, rfl, StrOK.nil hw whi⟩
    | cons c t =>
      by_cases h37 : c = 37
      · subst h37
        rw [decL_pct]
        match t with
        | [] =>
          obtain ⟨hw1, whi1⟩ := hc.room (k := 1) (Nat.le_refl _)
          rw [decL_nil]
          exact ⟨_, _, pctLenient_end1 hc.str.head hc.str.tail.head hw1, rfl,
            StrOK.cons_set hw whi (StrOK.nil (by rw [Array.size_setIfInBounds]; exact hw1) whi1)⟩
        | [d1] =>
          obtain ⟨hw1, whi1⟩ := hc.room (k := 1) (Nat.le_succ _)
          obtain ⟨hw2, whi2⟩ := hc.room (k := 2) (Nat.le_refl _)
          rw [decL_single]
          exact ⟨_, _, pctLenient_end2 hc.str.head hc.str.tail.head hc.nn.tail.head hc.str.tail.tail.head hw2, rfl,
            StrOK.cons_set hw whi (StrOK.cons_set (by rw [Array.size_setIfInBounds]; exact hw1) whi1
              (StrOK.nil (by rw [Array.size_setIfInBounds, Array.size_setIfInBounds]; exact hw2) whi2))⟩
        | d1 :: d2 :: t' =>
          rw [pctLenient_pct t' hc.str.head hc.str.tail.head hc.nn.tail.head hc.str.tail.tail.head hc.nn.tail.tail.head hw]
          cases hex2 (d1 :: d2 :: t') with
          | none =>
            exact Res.step (ih _ _ _ _ (hc.adv (seg := [37]) 37 Nat.one_pos)) hw whi
          | some v =>
            exact Res.step (ih _ _ _ _ (hc.adv (seg := [37, d1, d2]) v (Nat.succ_pos 2))) hw whi
      · rw [decL_cons_ne t h37, pctLenient_lit hc.str.head hc.nn.head h37 hw]
        exact Res.step (ih _ _ _ _ (hc.adv (seg := [c]) c Nat.one_pos)) hw whi

/-- the decoded string so far (`pre`) followed by the decoding of the rest; empty on a broken encoding -/
def resS (pre rest : List UInt8) : List UInt8 :=
  match decS rest with
  | some d => pre ++ d
  | none => []

/-- what the application reads after the unescape callback -/
def decView (strict : Bool) (w : List UInt8) : List UInt8 := if strict then resS [] w else decL w

/-- … after `MHD_unescape_plus` and the unescape callback (arguments) -/
def argView (strict : Bool) (w : List UInt8) : List UInt8 := decView strict (plusMap w)

theorem Res.top {buf buf' : Bytes} {a hi n : Nat} {o : Option (List UInt8)} (h : Res buf buf' a hi 0 n o) :
    n = (o.getD []).length ∧ StrOK buf buf' a hi (o.getD []) := by
  cases o with
  | none => exact h
  | some d => exact ⟨h.1.trans (Nat.zero_add _), h.2⟩

theorem unescape_spec (strict : Bool) (buf : Bytes) {a hi : Nat} (w : List UInt8) (hb : BufIs buf a (w ++ [0]))
    (hn : NoNul w) (hhi : a + w.length ≤ hi) :
    ∃ buf', unescape strict buf a = .ok (buf', (decView strict w).length) ∧ StrOK buf buf' a hi (decView strict w) := by
  have hc : Cur buf a hi (buf.size - a + 1) 0 0 w :=
    ⟨Nat.le_refl _, hb, hn, by have := hb.size_lt w.length (by simp); omega, hhi⟩
  unfold unescape decView
  cases strict with
  | true =>
    obtain ⟨b', n, e, h⟩ := pctStrict_loop a hi _ buf 0 0 w hc
    have hd : resS [] w = (decS w).getD [] := by unfold resS; cases decS w <;> rfl
    rw [if_pos rfl, if_pos rfl, hd, e, h.top.1]
    exact ⟨b', rfl, h.top.2⟩
  | false =>
    obtain ⟨b', n, e, h⟩ := pctLenient_loop a hi _ buf 0 0 w hc
    exact ⟨b', e.trans (by rw [h.top.1]; rfl), h.top.2⟩

theorem plusMap_length (w : List UInt8) : (plusMap w).length = w.length := List.length_map _

theorem plusMap_noNul {w : List UInt8} (h : NoNul w) : NoNul (plusMap w) := by
  intro x hx
  obtain ⟨y, hy, rfl⟩ := List.mem_map.mp hx
  split
  · decide
  · exact h y hy

theorem plusUnescape_spec (strict : Bool) (buf : Bytes) {a hi : Nat} (w : List UInt8) (hb : BufIs buf a (w ++ [0]))
    (hn : NoNul w) (hhi : a + w.length ≤ hi) :
    ∃ buf', plusUnescape strict buf a = .ok (buf', (argView strict w).length) ∧ StrOK buf buf' a hi (argView strict w) := by
  have hsz : a + w.length < buf.size := hb.size_lt w.length (by simp)
  obtain ⟨b1, e1, ok1⟩ := unescapePlus_spec w buf (buf.size - a + 1) a hi hb hn (by omega) hhi
  obtain ⟨b2, e2, ok2⟩ := unescape_spec strict b1 (plusMap w) ok1.str (plusMap_noNul hn) ((plusMap_length w).symm ▸ hhi)
  refine ⟨b2, ?_, ok1.same.trans ok2.same (Nat.le_refl _) (Nat.le_refl _) (Nat.le_refl _) (Nat.le_refl _), ok2.str⟩
  unfold plusUnescape
  rw [e1]
  exact e2

theorem decView_len (strict : Bool) (w : List UInt8) : (decView strict w).length ≤ w.length := by
  unfold decView
  cases strict with
  | true =>
    simp only [↓reduceIte, resS]
    cases h : decS w with
    | none => exact Nat.zero_le _
    | some d => exact decL_of_decS w d h ▸ decL_len w
  | false => exact decL_len w

theorem argView_len (strict : Bool) (w : List UInt8) : (argView strict w).length ≤ w.length :=
  plusMap_length w ▸ decView_len strict (plusMap w)

theorem idxOf_append_of_not_mem {c : UInt8} {a : List UInt8} (b : List UInt8) (h : ∀ x ∈ a, x ≠ c) :
    idxOf c (a ++ b) = (idxOf c b).map (a.length + ·) := by
  induction a with
  | nil => simp
  | cons x xs ih =>
    have hx : (x == c) = false := by simpa using h x (by simp)
    simp only [List.cons_append, idxOf, hx, Bool.false_eq_true, ↓reduceIte, ih (fun y hy => h y (by simp [hy]))]
    cases idxOf c b <;> simp [Nat.add_right_comm]

theorem idxOf_none {c : UInt8} {w : List UInt8} (h : ∀ x ∈ w, x ≠ c) : idxOf c w = none := by
  simpa [idxOf] using idxOf_append_of_not_mem [] h

theorem idxOf_append_cons {c : UInt8} {a : List UInt8} (b : List UInt8) (h : ∀ x ∈ a, x ≠ c) :
    idxOf c (a ++ c :: b) = some a.length := by
  simp [idxOf_append_of_not_mem _ h, idxOf]

theorem split_first (c : UInt8) (w : List UInt8) :
    (∀ x ∈ w, x ≠ c) ∨ ∃ a b, w = a ++ c :: b ∧ ∀ x ∈ a, x ≠ c := by
  by_cases hm : c ∈ w
  · obtain ⟨a, b, e, hn⟩ := List.eq_append_cons_of_mem hm
    exact .inr ⟨a, b, e, fun x hx hc => hn (hc ▸ hx)⟩
  · exact .inl fun x hx hc => hm (hc ▸ hx)

theorem idxOf_lt {c : UInt8} {w : List UInt8} {i : Nat} (h : idxOf c w = some i) : i < w.length := by
  rcases split_first c w with hno | ⟨a, b, rfl, hno⟩
  · rw [idxOf_none hno] at h; cases h
  · rw [idxOf_append_cons b hno] at h; cases h; simp

theorem drop_split (a b : List UInt8) (c : UInt8) : (a ++ c :: b).drop (a.length + 1) = b := by
  rw [← List.drop_drop, List.drop_left]; rfl

/-- one `key[=value]` segment -/
def argEntrySpec (dv : List UInt8 → List UInt8) (seg : List UInt8) : List UInt8 × Option (List UInt8) :=
  match idxOf 61 seg with
  | none => (dv seg, none)
  | some j => (dv (seg.take j), some (dv (seg.drop (j + 1))))

theorem argEntrySpec_key (dv : List UInt8 → List UInt8) {seg : List UInt8} (h : ∀ x ∈ seg, x ≠ 61) :
    argEntrySpec dv seg = (dv seg, none) := by
  rw [argEntrySpec, idxOf_none h]

theorem argEntrySpec_kv (dv : List UInt8 → List UInt8) {k : List UInt8} (v : List UInt8) (h : ∀ x ∈ k, x ≠ 61) :
    argEntrySpec dv (k ++ 61 :: v) = (dv k, some (dv v)) := by
  rw [argEntrySpec, idxOf_append_cons v h]
  simp only [List.take_left, drop_split]

theorem elemIn_key {kind a n lo hi : Nat} (h1 : lo ≤ a) (h2 : a + n ≤ hi) : HSP.ElemIn ⟨kind, ⟨0, a, n⟩, none⟩ lo hi := by
  refine ⟨h1, h2, ?_, rfl, ?_⟩
  · intro _ h; cases h
  · intro _ h; cases h

theorem elemIn_kv {kind a n a' n' lo hi : Nat} (h1 : lo ≤ a) (h2 : a + n ≤ hi) (h3 : lo ≤ a') (h4 : a' + n' ≤ hi) :
    HSP.ElemIn ⟨kind, ⟨0, a, n⟩, some ⟨0, a', n'⟩⟩ lo hi := by
  refine ⟨h1, h2, ?_, rfl, ?_⟩
  · intro _ h; cases h; exact ⟨h3, h4⟩
  · intro _ h; cases h; rfl

theorem split_le {a hi : Nat} {k v : List UInt8} {c : UInt8} (h : a + (k ++ c :: v).length ≤ hi) :
    a + k.length < hi ∧ a + k.length + 1 + v.length ≤ hi := by
  rw [List.length_append, List.length_cons] at h; omega

/-- `seg` is at `args`, NUL-terminated; the '=' handed over is its first one -/
theorem argEntry_spec (strict : Bool) (kind : Nat) (buf : Bytes) {args hi : Nat} (seg : List UInt8)
    (hb : BufIs buf args (seg ++ [0])) (hn : NoNul seg) (hhi : args + seg.length ≤ hi) :
    ∃ b el, argEntry strict kind buf args ((idxOf 61 seg).map (args + ·)) = .ok (b, el) ∧ Same buf b args hi ∧
      HSP.elemView b el = (kind, argEntrySpec (argView strict) seg) ∧ HSP.ElemIn el args hi := by
  rcases split_first 61 seg with hno | ⟨k, v, rfl, hno⟩
  · obtain ⟨b, e, ok⟩ := plusUnescape_spec strict buf seg hb hn hhi
    rw [idxOf_none hno, argEntrySpec_key _ hno]
    refine ⟨b, ⟨kind, ⟨0, args, (argView strict seg).length⟩, none⟩, ?_, ok.same, ?_,
      elemIn_key (Nat.le_refl _) (Nat.le_trans (Nat.add_le_add_left (argView_len strict seg) _) hhi)⟩
    · simp only [argEntry, Option.map_none, e, bind, Except.bind, pure, Except.pure]
    · simp only [HSP.elemView, Option.map_none, ok.view]
  · obtain ⟨h1, h2⟩ := split_le hhi
    have hsz : args + k.length < buf.size := hb.delim_lt
    have lk := argView_len strict k
    -- the key, terminated by the NUL written over the '='
    obtain ⟨b1, e1, ok1⟩ := plusUnescape_spec strict _ k hb.cut hn.left (Nat.le_refl _)
    have sm1 : Same buf b1 args (args + k.length) := ok1.same.of_set (Nat.le_add_right ..) (Nat.le_refl _)
    obtain ⟨b2, e2, ok2⟩ := plusUnescape_spec strict b1 v (sm1.bufIs hb.behind (Or.inr (Nat.lt_succ_self _)))
      hn.right.tail h2
    have hkey : BufIs b2 args (argView strict k ++ [0]) :=
      ok2.same.bufIs ok1.str (Or.inl (by rw [List.length_append]; exact Nat.add_le_add_left (Nat.succ_le_succ lk) args))
    rw [idxOf_append_cons v hno, argEntrySpec_kv _ v hno]
    refine ⟨b2, ⟨kind, ⟨0, args, (argView strict k).length⟩, some ⟨0, args + k.length + 1, (argView strict v).length⟩⟩,
      ?_, sm1.trans ok2.same (Nat.le_refl _) (Nat.le_succ_of_le (Nat.le_add_right ..)) (Nat.le_of_lt h1) (Nat.le_refl _),
      ?_, elemIn_kv (Nat.le_refl _) (Nat.le_trans (Nat.add_le_add_left lk _) (Nat.le_of_lt h1))
        (Nat.le_succ_of_le (Nat.le_add_right ..))
        (Nat.le_trans (Nat.add_le_add_left (argView_len strict v) _) h2)⟩
    · simp only [argEntry, Option.map_some, hsz, ↓reduceIte, e1, e2, bind, Except.bind, pure, Except.pure]
    · simp only [HSP.elemView, Option.map_some, hkey.view, ok2.view]

/-- the query string split at '&', each segment at its first '=' (a trailing '&' adds nothing;
    an empty segment is an argument with an empty key and no value) -/
def specArgs (dv : List UInt8 → List UInt8) (q : List UInt8) : List (List UInt8 × Option (List UInt8)) :=
  if _h : q = [] then [] else
  match idxOf 38 q with
  | none => [argEntrySpec dv q]
  | some i => argEntrySpec dv (q.take i) :: specArgs dv (q.drop (i + 1))
termination_by q.length
decreasing_by
  have : q.length ≠ 0 := fun h0 => _h (List.length_eq_zero_iff.mp h0)
  simp only [List.length_drop]; omega

theorem specArgs_nil (dv : List UInt8 → List UInt8) : specArgs dv [] = [] := by rw [specArgs]; simp

theorem specArgs_last (dv : List UInt8 → List UInt8) {q : List UInt8} (h : q ≠ []) (hno : ∀ x ∈ q, x ≠ 38) :
    specArgs dv q = [argEntrySpec dv q] := by rw [specArgs]; simp [h, idxOf_none hno]

theorem specArgs_cons (dv : List UInt8 → List UInt8) {s : List UInt8} (q : List UInt8) (hno : ∀ x ∈ s, x ≠ 38) :
    specArgs dv (s ++ 38 :: q) = argEntrySpec dv s :: specArgs dv q := by
  rw [specArgs]; simp [idxOf_append_cons q hno]

/-- the '=' found in the whole string belongs to the segment before the first '&' iff it lies in it -/
theorem eqWithin_seg (args : Nat) {s : List UInt8} (q : List UInt8) (hno : ∀ x ∈ s, x ≠ 38) :
    eqWithin ((idxOf 61 (s ++ 38 :: q)).map (args + ·)) (args + s.length) = (idxOf 61 s).map (args + ·) := by
  rcases split_first 61 s with h | ⟨k, v, rfl, h⟩
  · rw [idxOf_append_of_not_mem _ h, idxOf_none h]
    cases hq : idxOf 61 (38 :: q) with
    | none => rfl
    | some j =>
      have : j ≠ 0 := by rintro rfl; simp [idxOf] at hq
      simp only [Option.map_some, Option.map_none, eqWithin]
      rw [if_pos (by omega)]
  · rw [List.append_assoc, List.cons_append, idxOf_append_cons _ h, idxOf_append_cons _ h]
    simp only [Option.map_some, eqWithin]
    rw [if_neg (by simp; omega)]

theorem parseArgs_step (strict : Bool) (kind f : Nat) {buf : Bytes} {args : Nat} (acc : List Elem) {q : List UInt8}
    (hb : BufIs buf args (q ++ [0])) (hn : NoNul q) (hq : q ≠ []) :
    parseArgs strict kind (f + 1) buf args acc =
      (match idxOf 38 q with
      | none => do
        let (b, el) ← argEntry strict kind buf args ((idxOf 61 q).map (args + ·))
        .ok (b, acc ++ [el])
      | some i => do
        let (b, el) ← argEntry strict kind (buf.setIfInBounds (args + i) 0) args
          (eqWithin ((idxOf 61 q).map (args + ·)) (args + i))
        parseArgs strict kind f b (args + i + 1) (acc ++ [el])) := by
  have hsz : args + q.length < buf.size := hb.size_lt q.length (by simp)
  have hfu : q.length < buf.size - args + 1 := by omega
  rw [parseArgs]
  match q, hq with
  | c :: t, _ =>
    rw [hb.head]
    refine (if_neg (not_beq hn.head)).trans ?_
    rw [strchr_spec buf 61 (by decide) _ _ args hb hn hfu, strchr_spec buf 38 (by decide) _ _ args hb hn hfu]
    cases ha : idxOf 38 (c :: t) with
    | none => rfl
    | some i => exact if_pos (show args + i < buf.size by have := idxOf_lt ha; omega)

/-- **`MHD_parse_arguments_` meets its specification and never faults**: for every
    NUL-terminated query string without interior NUL -/
theorem parseArgs_spec (strict : Bool) (kind : Nat) (hi : Nat) :
    ∀ (fuel : Nat) (buf : Bytes) (args : Nat) (acc : List Elem) (q : List UInt8),
      BufIs buf args (q ++ [0]) → NoNul q → q.length < fuel → args + q.length ≤ hi →
      ∃ buf' els, parseArgs strict kind fuel buf args acc = .ok (buf', acc ++ els) ∧ Same buf buf' args hi ∧
        els.map (HSP.elemView buf') = (specArgs (argView strict) q).map (fun kv => (kind, kv.1, kv.2)) ∧
        ∀ el ∈ els, HSP.ElemIn el args hi := by
  intro fuel
  induction fuel with
  | zero => intro _ _ _ _ _ _ hf; exact absurd hf (Nat.not_lt_zero _)
  | succ f ih =>
    intro buf args acc q hb hn hf hhi
    by_cases hq : q = []
    · subst hq
      exact ⟨buf, [], by rw [parseArgs, hb.head]; exact (if_pos rfl).trans (by rw [List.append_nil]), Same.refl .., by rw [specArgs_nil]; rfl, fun _ h => nomatch h⟩
    rw [parseArgs_step strict kind f acc hb hn hq]
    rcases split_first 38 q with hno | ⟨s, q2, rfl, hno⟩
    · obtain ⟨b, el, e, sm, hview, hin⟩ := argEntry_spec strict kind buf q hb hn hhi
      rw [idxOf_none hno, specArgs_last _ hq hno]
      exact ⟨b, [el], by simp only [e, bind, Except.bind], sm, by simp only [List.map_cons, List.map_nil, hview],
        fun el' h => by rw [List.mem_singleton.mp h]; exact hin⟩
    · obtain ⟨h1, h2⟩ := split_le hhi
      have hf2 : q2.length < f := by rw [List.length_append, List.length_cons] at hf; omega
      rw [idxOf_append_cons q2 hno, specArgs_cons _ q2 hno]
      simp only [eqWithin_seg args q2 hno]
      -- the segment, terminated by the NUL written over the '&'
      obtain ⟨b, el, e, sm, hview, hin⟩ := argEntry_spec strict kind _ s hb.cut hn.left (Nat.le_refl _)
      have sm1 : Same buf b args (args + s.length) := sm.of_set (Nat.le_add_right ..) (Nat.le_refl _)
      obtain ⟨b', els, e', sm', hview', hin'⟩ := ih b (args + s.length + 1) (acc ++ [el]) q2
        (sm1.bufIs hb.behind (Or.inr (Nat.lt_succ_self _))) hn.right.tail hf2 h2
      have hlo : args ≤ args + s.length + 1 := Nat.le_succ_of_le (Nat.le_add_right ..)
      refine ⟨b', el :: els, ?_, sm1.trans sm' (Nat.le_refl _) hlo (Nat.le_of_lt h1) (Nat.le_refl _), ?_, ?_⟩
      · simp only [e, bind, Except.bind, e', List.append_assoc, List.singleton_append]
      · rw [List.map_cons, List.map_cons, hview', ← hview,
          HSP.elemView_congr b' b el args (args + s.length) hin (fun j _ h2 => sm'.out j (Or.inl (Nat.lt_succ_of_lt h2)))]
      · exact List.forall_mem_cons.mpr
          ⟨hin.mono (Nat.le_refl _) (Nat.le_of_lt h1), fun el' h => (hin' el' h).mono hlo (Nat.le_refl _)⟩

/-- the decoded path and the query part of a request target -/
def pathOf (t : List UInt8) : List UInt8 := match idxOf 63 t with | some i => t.take i | none => t
def queryOf (t : List UInt8) : List UInt8 := match idxOf 63 t with | some i => t.drop (i + 1) | none => []

theorem target_noq {t : List UInt8} (h : ∀ x ∈ t, x ≠ 63) : pathOf t = t ∧ queryOf t = [] := by
  rw [pathOf, queryOf, idxOf_none h]; exact ⟨rfl, rfl⟩

theorem target_q {p : List UInt8} (q : List UInt8) (h : ∀ x ∈ p, x ≠ 63) :
    pathOf (p ++ 63 :: q) = p ∧ queryOf (p ++ 63 :: q) = q := by
  rw [pathOf, queryOf, idxOf_append_cons q h]; exact ⟨List.take_left, drop_split p q 63⟩

/-- a request line whose target is a proper C string -/
structure TargetWF (r : ReqLine) (t : List UInt8) : Prop where
  str : BufIs r.buf r.tgt (t ++ [0])
  nonul : NoNul t
  len : r.tgtLen = t.length
  q : r.qmark = (idxOf 63 t).map (r.tgt + ·)

/-- the record `process_request_target` hands out -/
abbrev targetOf (r : ReqLine) (raw : List UInt8) (buf : Bytes) (ulen : Nat) (elems : List Elem) : Target :=
  { buf := buf, rb := r.rb, method := r.method, methodLen := r.methodLen, mthd := r.mthd, url := r.tgt, urlLen := ulen,
    version := r.version, httpVer := r.httpVer, rawTarget := raw, elems := elems, crSp := r.crSp }

theorem processRequestTarget_noq {strict : Bool} {r : ReqLine} {raw : List UInt8} {b2 : Bytes} {n : Nat}
    (h1 : rdRange r.buf r.tgt r.tgtLen = some raw) (h2 : r.qmark = none) (h3 : unescape strict r.buf r.tgt = .ok (b2, n)) :
    processRequestTarget strict r = .ok (targetOf r raw b2 n []) := by
  simp only [processRequestTarget, h1, h2, h3, bind, Except.bind, pure, Except.pure, targetOf]

theorem processRequestTarget_q {strict : Bool} {r : ReqLine} {raw : List UInt8} {q : Nat} {b1 b2 : Bytes} {n : Nat}
    {els : List Elem} (h1 : rdRange r.buf r.tgt r.tgtLen = some raw) (h2 : r.qmark = some q) (hq : q < r.buf.size)
    (h3 : parseArgs strict Gen.Http.kindGetArgument (r.buf.size + 1) (r.buf.setIfInBounds q 0) (q + 1) [] = .ok (b1, els))
    (h4 : unescape strict b1 r.tgt = .ok (b2, n)) :
    processRequestTarget strict r = .ok (targetOf r raw b2 n els) := by
  simp only [processRequestTarget, h1, h2, hq, h3, h4, ↓reduceIte, bind, Except.bind, pure, Except.pure, targetOf]

/-- **`process_request_target` never faults and hands out the decoded path and the arguments
    of the specification**, for every target without interior NUL -/
theorem processRequestTarget_ok (strict : Bool) (r : ReqLine) (t : List UInt8) (h : TargetWF r t) :
    ∃ b2 els, processRequestTarget strict r = .ok (targetOf r t b2 (decView strict (pathOf t)).length els) ∧
      StrOK r.buf b2 r.tgt (r.tgt + t.length) (decView strict (pathOf t)) ∧
      els.map (HSP.elemView b2) =
        (specArgs (argView strict) (queryOf t)).map (fun kv => (Gen.Http.kindGetArgument, kv.1, kv.2)) ∧
      ∀ el ∈ els, HSP.ElemIn el r.tgt (r.tgt + t.length) := by
  have hend : r.tgt + t.length < r.buf.size := h.str.size_lt t.length (by simp)
  have hraw : rdRange r.buf r.tgt r.tgtLen = some t := by
    rw [h.len]; exact RLP.rdRange_eq r.buf r.tgt t h.str.left (Nat.le_of_lt hend)
  have hqm := h.q
  rcases split_first 63 t with hno | ⟨p, q, rfl, hno⟩
  · rw [idxOf_none hno] at hqm
    obtain ⟨b2, e, ok⟩ := unescape_spec strict r.buf t h.str h.nonul (Nat.le_refl _)
    rw [(target_noq hno).1, (target_noq hno).2, specArgs_nil]
    exact ⟨b2, [], processRequestTarget_noq hraw hqm e, ok, rfl, fun _ h => nomatch h⟩
  · rw [idxOf_append_cons q hno] at hqm
    obtain ⟨h1, h2⟩ := split_le (Nat.le_refl (r.tgt + (p ++ 63 :: q).length))
    have hlo : r.tgt ≤ r.tgt + p.length + 1 := Nat.le_succ_of_le (Nat.le_add_right ..)
    obtain ⟨b1, els, e1, sm1, hview1, hin1⟩ := parseArgs_spec strict Gen.Http.kindGetArgument _ (r.buf.size + 1)
      (r.buf.setIfInBounds (r.tgt + p.length) 0) (r.tgt + p.length + 1) [] q
      (h.str.behind.set _ _ (Or.inl (Nat.lt_succ_self _))) h.nonul.right.tail (by omega) h2
    -- the path, terminated by the NUL written over the '?'
    obtain ⟨b2, e2, ok2⟩ := unescape_spec strict b1 p
      (sm1.bufIs h.str.cut (Or.inl (by rw [List.length_append]; exact Nat.le_refl _))) h.nonul.left (Nat.le_refl _)
    rw [(target_q q hno).1, (target_q q hno).2]
    refine ⟨b2, els, processRequestTarget_q hraw hqm h.str.delim_lt e1 e2, ⟨?_, ok2.str⟩, ?_,
      fun el hel => (hin1 el hel).mono hlo (Nat.le_refl _)⟩
    · exact (sm1.trans ok2.same hlo (Nat.le_refl _) (Nat.le_refl _) (Nat.le_of_lt h1)).of_set (Nat.le_add_right ..)
        (Nat.le_of_lt h1)
    · rw [← hview1]
      exact List.map_congr_left fun el hel =>
        HSP.elemView_congr b2 b1 el _ _ (hin1 el hel) (fun j h1 _ => ok2.same.out j (Or.inr (Nat.lt_of_succ_le h1)))

theorem cstr_exists (buf : Bytes) {a hi : Nat} (h1 : a ≤ hi) (h2 : hi < buf.size) (h0 : buf[hi]? = some 0) :
    ∃ w, BufIs buf a (w ++ [0]) ∧ NoNul w ∧ a + w.length ≤ hi := by
  obtain ⟨n, rfl⟩ := Nat.exists_eq_add_of_le h1
  clear h1
  induction n generalizing a with
  | zero => exact ⟨[], RLP.BufIs.cons h0 (fun _ h => nomatch h), List.forall_mem_nil _, Nat.le_refl _⟩
  | succ n ih =>
    cases hx : buf[a]? with
    | none => exact absurd (Nat.lt_of_le_of_lt (Nat.le_add_right a _) h2) (Nat.not_lt.mpr (Array.getElem?_eq_none_iff.mp hx))
    | some x =>
      by_cases hz : x = 0
      · exact ⟨[], RLP.BufIs.cons (hz ▸ hx) (fun _ h => nomatch h), List.forall_mem_nil _, Nat.le_add_right ..⟩
      · obtain ⟨w, hb, hn, hl⟩ := ih (a := a + 1) (by rw [Nat.add_right_comm]; exact h2) (by rw [Nat.add_right_comm]; exact h0)
        rw [Nat.add_right_comm a 1, Nat.add_right_comm a 1] at hl
        exact ⟨x :: w, RLP.BufIs.cons hx hb, List.forall_mem_cons.mpr ⟨hz, hn⟩, hl⟩

theorem kinds_of_view {els : List Elem} {buf : Bytes} {spec : List (List UInt8 × Option (List UInt8))} {kind : Nat}
    (h : els.map (HSP.elemView buf) = spec.map (fun kv => (kind, kv.1, kv.2))) : ∀ el ∈ els, el.kind = kind := by
  intro el hel
  have h1 : HSP.elemView buf el ∈ els.map (HSP.elemView buf) := List.mem_map_of_mem hel
  rw [h] at h1
  obtain ⟨kv, _, hkv⟩ := List.mem_map.mp h1
  exact (congrArg (·.1) hkv).symm

theorem parseArgs_nul (strict : Bool) (kind : Nat) (buf : Bytes) {args hi : Nat} (acc : List Elem)
    (h1 : args ≤ hi) (h2 : hi < buf.size) (h0 : buf[hi]? = some 0) (fuel : Nat) (hf : hi - args < fuel) :
    ∃ buf' els, parseArgs strict kind fuel buf args acc = .ok (buf', acc ++ els) ∧ Same buf buf' args hi ∧
      ∀ el ∈ els, HSP.ElemIn el args hi ∧ el.kind = kind := by
  obtain ⟨w, hb, hn, hl⟩ := cstr_exists buf h1 h2 h0
  obtain ⟨b', els, e, sm, hview, hin⟩ := parseArgs_spec strict kind hi fuel buf args acc w hb hn (by omega) hl
  exact ⟨b', els, e, sm, fun el hel => ⟨hin el hel, kinds_of_view hview el hel⟩⟩

theorem unescape_nul (strict : Bool) (buf : Bytes) {a hi : Nat} (h1 : a ≤ hi) (h2 : hi < buf.size)
    (h0 : buf[hi]? = some 0) :
    ∃ buf' n, unescape strict buf a = .ok (buf', n) ∧ Same buf buf' a hi ∧ a + n ≤ hi := by
  obtain ⟨w, hb, hn, hl⟩ := cstr_exists buf h1 h2 h0
  obtain ⟨b', e, ok⟩ := unescape_spec strict buf w hb hn hl
  exact ⟨b', _, e, ok.same, Nat.le_trans (Nat.add_le_add_left (decView_len strict w) a) hl⟩

/-- **`process_request_target` never faults**: for every request line record whose target
    `[tgt, tgt + tgtLen)` is followed by a NUL inside the buffer and whose recorded '?'
    position (if any) lies inside the target — nothing is assumed about the bytes of the
    target (interior NULs, stray '%', …) nor about which '?' was recorded.  It writes only
    inside `[tgt, tgt + tgtLen]`, and the decoded path and all argument strings lie there. -/
theorem processRequestTarget_no_fault (strict : Bool) (r : ReqLine) (hlen : r.tgt + r.tgtLen < r.buf.size)
    (hnul : r.buf[r.tgt + r.tgtLen]? = some 0)
    (hq : ∀ q, r.qmark = some q → r.tgt ≤ q ∧ q < r.tgt + r.tgtLen) :
    ∃ T, processRequestTarget strict r = .ok T ∧ T.buf.size = r.buf.size ∧
      (∀ j, j < r.tgt ∨ r.tgt + r.tgtLen < j → T.buf[j]? = r.buf[j]?) ∧ T.url = r.tgt ∧ T.urlLen ≤ r.tgtLen ∧
      (∀ el ∈ T.elems, HSP.ElemIn el r.tgt (r.tgt + r.tgtLen) ∧ el.kind = Gen.Http.kindGetArgument) ∧
      T.rb = r.rb ∧ T.method = r.method ∧ T.version = r.version := by
  have hraw : rdRange r.buf r.tgt r.tgtLen = some _ := if_pos (Nat.le_of_lt hlen)
  cases hqm : r.qmark with
  | none =>
    obtain ⟨b2, n, e, sm, hn⟩ := unescape_nul strict r.buf (Nat.le_add_right r.tgt r.tgtLen) hlen hnul
    exact ⟨_, processRequestTarget_noq hraw hqm e, sm.size, sm.out, rfl, Nat.le_of_add_le_add_left hn,
      (by intro _ h; cases h), rfl, rfl, rfl⟩
  | some q =>
    obtain ⟨hq1, hq2⟩ := hq q hqm
    have hqs : q < r.buf.size := Nat.lt_trans hq2 hlen
    have hlo : r.tgt ≤ q + 1 := Nat.le_succ_of_le hq1
    obtain ⟨b1, els, e1, sm1, hin1⟩ := parseArgs_nul strict Gen.Http.kindGetArgument (r.buf.setIfInBounds q 0) [] hq2
      (by rw [Array.size_setIfInBounds]; exact hlen) ((Array.getElem?_setIfInBounds_ne (Nat.ne_of_lt hq2)).trans hnul)
      (r.buf.size + 1) (by omega)
    -- the path ends at the NUL written over the '?'
    have hq0 : b1[q]? = some 0 :=
      (sm1.out q (Or.inl (Nat.lt_succ_self q))).trans (Array.getElem?_setIfInBounds_self_of_lt hqs)
    obtain ⟨b2, n, e2, sm2, hn2⟩ := unescape_nul strict b1 hq1 (by rw [sm1.size, Array.size_setIfInBounds]; exact hqs) hq0
    have sm : Same r.buf b2 r.tgt (r.tgt + r.tgtLen) :=
      (sm1.trans sm2 hlo (Nat.le_refl _) (Nat.le_refl _) (Nat.le_of_lt hq2)).of_set hq1 (Nat.le_of_lt hq2)
    exact ⟨_, processRequestTarget_q hraw hqm hqs e1 e2, sm.size, sm.out, rfl,
      Nat.le_of_add_le_add_left (Nat.le_trans hn2 (Nat.le_of_lt hq2)),
      fun el hel => ⟨HSP.ElemIn.mono (hin1 el hel).1 hlo (Nat.le_refl _), (hin1 el hel).2⟩, rfl, rfl, rfl⟩

end TGT
end Mhd.Req
