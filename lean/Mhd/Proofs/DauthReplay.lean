/-
  C12 proofs: replay — a (nonce, count) pair authenticates at most once, at the level of whole credentials.
-/
import Mhd.Proofs.DauthOk
import Mhd.Proofs.NonceInv
namespace Mhd.Dauth
open Mhd.Auth Mhd.Gen.Auth Mhd.Gen.Dauth

theorem replay_refused (size : Nat) (tbl : Mhd.Nonce.Table) (h : List Mhd.Nonce.Ev) (hr : Mhd.Nonce.TblRel size tbl h)
    (n : Bytes) (t t' c : Nat) (hok : (Mhd.Nonce.checkNonceNc tbl n t c).2 = .ok) :
    (Mhd.Nonce.checkNonceNc (Mhd.Nonce.checkNonceNc tbl n t c).1 n t' c).2 ≠ .ok := by
  intro h2
  have hstep : Mhd.Nonce.step tbl (.check n t c) = ((Mhd.Nonce.checkNonceNc tbl n t c).1, .ok) := by
    simp [Mhd.Nonce.step, hok, Mhd.Nonce.Out.ofNc]
  have hr' := Mhd.Nonce.tblRel_step size tbl h (.check n t c) hr trivial
  rw [hstep] at hr'
  have hstep2 : (Mhd.Nonce.step (Mhd.Nonce.checkNonceNc tbl n t c).1 (.check n t' c)).2 = .ok := by
    simp [Mhd.Nonce.step, h2, Mhd.Nonce.Out.ofNc]
  have hf := Mhd.Nonce.ok_facts size _ _ (.check n t' c) hr' rfl hstep2
  have hu := (Mhd.Nonce.hist_ok size ⟨.check n t c, .ok⟩ h (Mhd.Nonce.slotIdx size n) rfl rfl).2
  apply hf.2.2.1
  simp only [Mhd.Nonce.Op.nonce, Mhd.Nonce.Op.count] at hu ⊢
  rw [hu]
  simp

theorem expected_ok_table (cfg : Cfg) (tbl : Mhd.Nonce.Table) (now : Nat) (r : Req) (call : Call) (timeout maxNc : Nat)
    (c : Cred) (lv : LenView) (h : (expectedClass cfg tbl now r call timeout maxNc c lv).2 = .ok) :
    ∃ a nci n t, specPre now timeout maxNc call c lv = .ok (a, nci, n, t) ∧
      (Mhd.Nonce.checkNonceNc tbl n t nci).2 = .ok ∧
      (expectedClass cfg tbl now r call timeout maxNc c lv).1 = (Mhd.Nonce.checkNonceNc tbl n t nci).1 := by
  obtain ⟨a, nci, n, t, hpre, hfresh, _⟩ := (expected_ok_stages _ _ _ _ _ _ _ _ _).mp h
  refine ⟨a, nci, n, t, hpre, hfresh, ?_⟩
  unfold expectedClass
  rw [hpre]
  simp only [hfresh]

theorem specPre_count (now timeout maxNc : Nat) (call : Call) (c : Cred) (lv : LenView) (a : Algo) (nci : Nat) (n : Bytes) (t : Nat)
    (h : specPre now timeout maxNc call c lv = .ok (a, nci, n, t)) :
    c.val kNonce = some n ∧
    ((c.qop = qopNone ∧ nci = 1) ∨ (c.qop ≠ qopNone ∧ ∃ txt, c.val kNc = some txt ∧ Mhd.Nonce.parseNc txt = some nci)) := by
  rw [specPre_ok_iff] at h
  obtain ⟨_, _, _, _, _, hNc, hNo⟩ := h
  rw [specNonce_iff] at hNo
  rw [specNc_iff] at hNc
  refine ⟨hNo.1, ?_⟩
  rcases hNc with h | ⟨hq, txt, h1, _, h3, _⟩
  · exact Or.inl h
  · exact Or.inr ⟨hq, txt, h1, h3⟩

/-- Replay: after a credential has been accepted, no credential that presents the same nonce and the same
    count text (same qop class) is accepted — whatever the request, the clock, the application's arguments -/
theorem replay_rejected_sem (size : Nat) (hist : List Mhd.Nonce.Ev) (cfg cfg' : Cfg) (tbl : Mhd.Nonce.Table)
    (hr : Mhd.Nonce.TblRel size tbl hist)
    (now now' : Nat) (r r' : Req) (call call' : Call) (timeout timeout' maxNc maxNc' : Nat) (c c' : Cred) (lv lv' : LenView)
    (hok : (expectedClass cfg tbl now r call timeout maxNc c lv).2 = .ok)
    (hn : c'.val kNonce = c.val kNonce) (hnc : c'.val kNc = c.val kNc) (hq : c'.qop = c.qop) :
    (expectedClass cfg' (expectedClass cfg tbl now r call timeout maxNc c lv).1 now' r' call' timeout' maxNc' c' lv').2 ≠ .ok := by
  intro hok'
  obtain ⟨a, nci, n, t, hpre, hfresh, htbl⟩ := expected_ok_table _ _ _ _ _ _ _ _ _ hok
  obtain ⟨a', nci', n', t', hpre', hfresh', _⟩ := expected_ok_table _ _ _ _ _ _ _ _ _ hok'
  obtain ⟨e1, e2⟩ := specPre_count _ _ _ _ _ _ _ _ _ _ hpre
  obtain ⟨e1', e2'⟩ := specPre_count _ _ _ _ _ _ _ _ _ _ hpre'
  rw [hn, e1] at e1'
  injection e1' with e1'
  subst e1'
  have hc : nci' = nci := by
    rcases e2 with ⟨q0, c0⟩ | ⟨q1, txt, h1, h2⟩
    · rcases e2' with ⟨_, c0'⟩ | ⟨q1', _⟩
      · rw [c0, c0']
      · rw [hq] at q1'; exact absurd q0 q1'
    · rcases e2' with ⟨q0', _⟩ | ⟨_, txt', h1', h2'⟩
      · rw [hq] at q0'; exact absurd q0' q1
      · rw [hnc, h1] at h1'; injection h1' with h1'; subst h1'
        rw [h2] at h2'; injection h2' with h2'; exact h2'.symm
  subst hc
  rw [htbl] at hfresh'
  exact replay_refused size tbl hist hr n t t' nci' hfresh hfresh'

end Mhd.Dauth
