/-
  C09 — the reference-count ledger.  The counter of a response is the
  application's own reference plus the connections that have it queued
  (`RT1`); `MHD_increment_response_rc` / `MHD_destroy_response` keep it so.
  The free-callback ledger.  The callbacks emitted are exactly
  the transitions of a response to "freed" (`FB`).
-/
import Mhd.Proofs.Limits

namespace Mhd.Limits

def appN (x : Resp) : Nat := if x.app then 1 else 0

/-- reference-count refinement for response `r`: the counter is the application's own reference
    plus `h` connection holders; the object is freed exactly when the counter is zero -/
def RT1 (r : Nat) (T : Nat → Option Resp) (h : Nat) : Prop :=
  match T r with
  | none => h = 0
  | some x => x.rc = appN x + h ∧ (x.freed = true ↔ x.rc = 0)

/-- no reference-count fault -/
def RFree (f : Option Fault) : Prop := f ≠ some .unknownResp ∧ f ≠ some .useAfterFree ∧ f ≠ some .rcUnderflow

theorem rfree_none : RFree none := by simp [RFree]

theorem RT1.congr {r : Nat} {T : Nat → Option Resp} {n m : Nat} (h : RT1 r T n) (e : m = n) : RT1 r T m := e ▸ h

theorem RT1.setFn_ne {r r0 : Nat} (e : r0 ≠ r) (T : Nat → Option Resp) (v : Option Resp) (n : Nat) :
    RT1 r (setFn T r0 v) n ↔ RT1 r T n := by
  unfold RT1 setFn; rw [if_neg (Ne.symm e)]

theorem RT1.setFn_self (r : Nat) (T : Nat → Option Resp) (x : Resp) (n : Nat) :
    RT1 r (setFn T r (some x)) n ↔ x.rc = appN x + n ∧ (x.freed = true ↔ x.rc = 0) := by
  unfold RT1 setFn; rw [if_pos rfl]

theorem RT1.live {r : Nat} {T : Nat → Option Resp} {n : Nat} (h : RT1 r T (n + 1)) :
    ∃ x, T r = some x ∧ x.freed = false ∧ x.rc = appN x + (n + 1) := by
  unfold RT1 at h
  cases hx : T r with
  | none => simp only [hx] at h; omega
  | some x =>
    simp only [hx] at h
    refine ⟨x, rfl, ?_, h.1⟩
    cases hf : x.freed with
    | false => rfl
    | true => have := h.2.mp hf; omega

theorem acquire_some {R R' : RespTab} {r : Nat} (h : acquire R r = some R') :
    ∃ x, R.tab r = some x ∧ x.app = true ∧ x.freed = false ∧
      R' = { R with tab := setFn R.tab r (some { x with rc := x.rc + 1 }) } := by
  unfold acquire at h
  cases hx : R.tab r with
  | none => simp only [hx] at h; cases h
  | some x =>
    simp only [hx] at h
    split at h
    · rename_i hc
      simp only [Bool.and_eq_true, Bool.not_eq_true'] at hc
      exact ⟨x, rfl, hc.1, hc.2, (Option.some.inj h).symm⟩
    · cases h

theorem acquire_freed (R : RespTab) (r : Nat) (x : Resp) (hx : R.tab r = some x) (hf : x.freed = true) :
    acquire R r = none := by
  unfold acquire
  simp [hx, hf]

/-- `MHD_destroy_response` on a live object -/
theorem release_live {R : RespTab} {r : Nat} {x : Resp} (hx : R.tab r = some x) (hnf : x.freed = false)
    (hrc : x.rc ≠ 0) :
    release R r = ({ R with tab := setFn R.tab r (some { x with rc := x.rc - 1, freed := decide (x.rc = 1) }) },
                   if x.rc = 1 ∧ x.hasCb = true then [.freeCb r] else []) := by
  unfold release
  by_cases h1 : x.rc = 1
  · cases hcb : x.hasCb <;> simp [hx, hnf, h1, hcb]
  · simp [hx, hnf, hrc, h1]

theorem release_cases (R : RespTab) (r : Nat) :
    (∃ x, R.tab r = some x ∧ x.freed = false ∧ x.rc ≠ 0) ∨
    (∃ f, release R r = ({ R with fault := some f }, [.panic f]) ∧
      (f = .unknownResp ∨ f = .useAfterFree ∨ f = .rcUnderflow)) := by
  unfold release
  cases hx : R.tab r with
  | none => exact .inr ⟨_, rfl, .inl rfl⟩
  | some x =>
    cases hf : x.freed with
    | true => exact .inr ⟨_, by simp [hf], .inr (.inl rfl)⟩
    | false =>
      by_cases h0 : x.rc = 0
      · exact .inr ⟨_, by simp [hf, h0], .inr (.inr rfl)⟩
      · exact .inl ⟨x, rfl, hf, h0⟩

theorem acquire_rt {R R' : RespTab} {r0 : Nat} (ha : acquire R r0 = some R') (h : Nat → Nat)
    (hr : ∀ r, RT1 r R.tab (h r)) :
    (∀ r, RT1 r R'.tab (h r + if r0 = r then 1 else 0)) ∧ R'.fault = R.fault := by
  obtain ⟨x, hx, _, hnf, rfl⟩ := acquire_some ha
  refine ⟨fun r => ?_, rfl⟩
  by_cases e : r0 = r
  · subst e
    have := hr r0
    unfold RT1 at this
    simp only [hx] at this
    rw [if_pos rfl, RT1.setFn_self]
    simp only [appN] at this ⊢
    simp only [hnf, Bool.false_eq_true, false_iff] at this ⊢
    omega
  · rw [if_neg e, RT1.setFn_ne e]; exact hr r

/-- with a holder present `MHD_destroy_response` cannot fault -/
theorem release_rt (R : RespTab) (r0 : Nat) (h : Nat → Nat)
    (hr : ∀ r, RT1 r R.tab (h r + if r0 = r then 1 else 0)) :
    (∀ r, RT1 r (release R r0).1.tab (h r)) ∧ (release R r0).1.fault = R.fault := by
  have h0 := hr r0
  rw [if_pos rfl] at h0
  obtain ⟨x, hx, hnf, hrc⟩ := h0.live
  rw [release_live hx hnf (by omega)]
  refine ⟨fun r => ?_, rfl⟩
  by_cases e : r0 = r
  · subst e
    show RT1 r0 (setFn R.tab r0 _) (h r0)
    rw [RT1.setFn_self]
    simp only [appN, decide_eq_true_eq] at hrc ⊢
    omega
  · have := hr r
    rw [if_neg e] at this
    exact (RT1.setFn_ne e _ _ _).mpr this

/-- refinement invariant of the response table.  `pc`: detached connections that still hold their
    response; a connection not yet started (`new_connections`, `pi`) holds none -/
structure RInvG (s : St) (pc pi : List Conn) : Prop where
  rt : ∀ r, RT1 r s.resps (hold r s.active + hold r s.susp + hold r s.cleanup + hold r pc)
  fresh : ∀ r, hold r s.newL + hold r pi = 0
  rf : RFree s.fault

abbrev RInv (s : St) : Prop := RInvG s [] []

theorem RInvG.move {s s' : St} {pc pi pc' pi' : List Conn} (h : RInvG s pc pi) (hr : s'.resps = s.resps)
    (hN : ∀ r, hold r s'.newL + hold r pi' = hold r s.newL + hold r pi)
    (hL : ∀ r, hold r s'.active + hold r s'.susp + hold r s'.cleanup + hold r pc'
              = hold r s.active + hold r s.susp + hold r s.cleanup + hold r pc)
    (hf : RFree s'.fault) : RInvG s' pc' pi' :=
  ⟨fun r => by rw [hr, hL r]; exact h.rt r, fun r => by rw [hN r]; exact h.fresh r, hf⟩

def phi (r : Nat) (T : Nat → Option Resp) : Nat :=
  match T r with
  | some x => if x.freed && x.hasCb then 1 else 0
  | none => 0

/-- free-callback balance: the callbacks emitted are exactly the transitions to "freed" -/
def FB (r : Nat) (Tb Ta : Nat → Option Resp) (evs : List Ev) : Prop := frc r evs + phi r Tb = phi r Ta

theorem FB.refl (r : Nat) (T : Nat → Option Resp) : FB r T T [] := Nat.zero_add _

theorem FB.trans {r : Nat} {T0 T1 T2 : Nat → Option Resp} {e1 e2 : List Ev} (h1 : FB r T0 T1 e1) (h2 : FB r T1 T2 e2) :
    FB r T0 T2 (e1 ++ e2) := by
  unfold FB at *; rw [frc_append]; omega

theorem FB.same {r : Nat} {T T' : Nat → Option Resp} {e : List Ev} (hp : phi r T' = phi r T) (he : frc r e = 0) :
    FB r T T' e := by
  unfold FB; omega

theorem phi_setFn_ne {r r0 : Nat} (h : r0 ≠ r) (T : Nat → Option Resp) (v : Option Resp) :
    phi r (setFn T r0 v) = phi r T := by
  unfold phi setFn; rw [if_neg (Ne.symm h)]

theorem phi_setFn_self (r : Nat) (T : Nat → Option Resp) (x : Resp) :
    phi r (setFn T r (some x)) = if x.freed && x.hasCb then 1 else 0 := by
  unfold phi setFn; rw [if_pos rfl]

theorem acquire_phi {R R' : RespTab} {r0 : Nat} (h : acquire R r0 = some R') (r : Nat) : phi r R'.tab = phi r R.tab := by
  obtain ⟨x, hx, _, _, rfl⟩ := acquire_some h
  by_cases e : r0 = r
  · subst e; rw [phi_setFn_self]; unfold phi; rw [hx]
  · exact phi_setFn_ne e _ _

theorem release_fb (R : RespTab) (r0 r : Nat) : FB r R.tab (release R r0).1.tab (release R r0).2 := by
  rcases release_cases R r0 with ⟨x, hx, hnf, hrc⟩ | ⟨f, he, _⟩
  · rw [release_live hx hnf hrc]
    unfold FB
    by_cases e : r0 = r
    · subst e
      rw [phi_setFn_self]; unfold phi
      by_cases h1 : x.rc = 1 <;> cases hcb : x.hasCb <;> simp [hx, hnf, h1]
    · rw [phi_setFn_ne e]
      split <;> simp [e]
  · rw [he]; exact FB.same rfl (by simp)

end Mhd.Limits
