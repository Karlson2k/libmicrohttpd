/-
  C06 — what the laws of the abstract per-connection step (`Laws`, `LawTable`, `LawOpen`) ask of C05's state machine
  (`connsmOps` of Mhd.Model.LoopConnSM); the laws themselves are `C06.connsm_satisfies_laws`, `_law_table`, `_law_open`.
  They rest on what MHD_connection_handle_idle of Mhd.Model.ConnSM leaves behind (`handleIdleWith_loopPost`), read off the
  relations `IdleStep` / `IdleRun` of `ConnSMOps`; `connsm_idle_active` is the shape every law about an idle call reduces to.
-/
import Mhd.Proofs.ConnSMOps
import Mhd.Model.LoopConnSM
import Mhd.Proofs.LoopProgress
import Mhd.Proofs.LoopConnSM
namespace Mhd.ConnSM
open Mhd.Gen.ConnState Mhd.Protocol
variable {σ : Type}

/-- no complete element is left unexamined in the read buffer of a connection that waits for the client -/
def Examined (c : Conn σ) : Prop := ReadState c.state → dropJunk c.buf = []

/-- the side condition is a Boolean so that `rfl` decides it when `s` is known only up to reduction -/
theorem notRead_of {c : Conn σ} {s : CState} (hs : c.state = s) (hn : decide (ReadState s) = false) : ¬ ReadState c.state :=
  fun hr => of_decide_eq_false hn (hs ▸ hr)

theorem examined_of_state {c : Conn σ} {s : CState} (hs : c.state = s) (hn : decide (ReadState s) = false) : Examined c :=
  fun hr => absurd hr (notRead_of hs hn)

theorem not_read_closed : ¬ ReadState CState.closed := by simp [ReadState]
theorem not_read_headersSending : ¬ ReadState CState.headersSending := by simp [ReadState]

theorem cleanupConnection_inCleanup (c : Conn σ) : (cleanupConnection c).1.inCleanup = true := by
  unfold cleanupConnection
  split
  · assumption
  · simp [dropResp]; split <;> rfl

/-- what one pass of the `switch` in MHD_connection_handle_idle guarantees, by the way it leaves the `switch` -/
def StepPost (c1 : Conn σ) : Flow → Prop
  | .stop => Examined c1
  | .dead => c1.inCleanup = true
  | .keep => c1.state = .upgrade
  | .again => True

theorem StepPost.of_flow {c1 : Conn σ} {f : Flow} (hf : f = .again ∨ f = .stop) (he : f = .stop → Examined c1) :
    StepPost c1 f := by
  rcases hf with rfl | rfl
  · trivial
  · exact he rfl

theorem IdleStep.stepPost {cfg : Cfg} {app : App σ} {env : IdleEnv} {c : Conn σ} {r} (st : IdleStep cfg app env c r) :
    StepPost r.1 r.2.2 := by
  have mv : ∀ m ∈ idleMoves, m.2.2 = .again ∨ m.2.2 = .stop := by decide
  have fm : ∀ m ∈ firstMoves, (m.2 = .again ∨ m.2 = .stop) ∧ ¬ ReadState m.1 := by decide
  cases st with
  | stay _ hs hx => exact hs ▸ hx
  | kept h => exact h
  | move _ _ hm _ hx => exact .of_flow (mv _ hm) hx
  | close _ hf => exact .of_flow hf fun _ => examined_of_state (closeError_state _) rfl
  | first _ _ hm => exact .of_flow (fm _ hm).1 fun _ hr => absurd hr (fm _ hm).2
  | cleanup => exact cleanupConnection_inCleanup c
  | _ => trivial

/-- what the `while` loop of MHD_connection_handle_idle leaves behind, by the way it ends -/
def LoopPost (c1 : Conn σ) : Flow → Prop
  | .stop => c1.suspended = true ∨ c1.fault = true ∨ Examined c1
  | .again => False
  | f => StepPost c1 f

theorem IdleRun.loopPost {cfg : Cfg} {app : App σ} {env : IdleEnv} {c : Conn σ} {r} (run : IdleRun cfg app env c r) :
    LoopPost r.1 r.2.2 := by
  induction run with
  | fuel => exact .inr (.inl rfl)
  | susp hs => exact .inl hs
  | @last _ _ _ f st hf =>
    have P := st.stepPost
    cases f
    · exact absurd rfl hf
    · exact .inr (.inr P)
    · exact P
    · exact P
  | more _ _ ih => exact ih

theorem transmitError_notRead (cfg : Cfg) (env : IdleEnv) (c : Conn σ) :
    ¬ ReadState (transmitError cfg env c).1.state := by
  rcases transmitError_out cfg env c with e | e | e
  · exact notRead_of e rfl
  · exact notRead_of e.1 rfl
  · exact notRead_of e.2 rfl

theorem recvNoSpace_notRead (cfg : Cfg) (env : IdleEnv) (c : Conn σ) (hw : wantsRead c = true) :
    ¬ ReadState (recvNoSpace cfg env c).1.state := by
  unfold recvNoSpace
  split
  · rw [closeError_state]; exact not_read_closed
  · exact transmitError_notRead cfg env c
  · exact transmitError_notRead cfg env c
  · split
    · unfold chunkSizeLineNoSpace
      split
      · have h1 := transmitError_notRead cfg env c
        generalize transmitError cfg env c = r1 at h1
        obtain ⟨c2, l2⟩ := r1
        simp only
        split
        · exact h1
        · exact transmitError_notRead cfg env c2
      · exact transmitError_notRead cfg env c
    · exact transmitError_notRead cfg env c
  · exact transmitError_notRead cfg env c
  · rename_i h1 h2 h3 h4 h5
    unfold wantsRead at hw
    split at hw <;> simp_all

theorem updateEventLoopInfo_loopPost (cfg : Cfg) (env : IdleEnv) {c : Conn σ} (h : LoopPost c .stop) :
    LoopPost (updateEventLoopInfo cfg env c).1 .stop := by
  unfold updateEventLoopInfo
  split
  · exact h
  · split
    · rename_i hc
      exact Or.inr (Or.inr fun hr => absurd hr (recvNoSpace_notRead cfg env c (by simpa using hc.2.1)))
    · exact h

theorem epollUpdate_cases (cfg : Cfg) (env : IdleEnv) (c : Conn σ) :
    (epollUpdate cfg env c).1.inCleanup = true ∨
    (epollUpdate cfg env c).1 = { c with inEpollSet := (epollUpdate cfg env c).1.inEpollSet } := by
  unfold epollUpdate
  split
  · exact Or.inr rfl
  · split
    · exact Or.inr rfl
    · exact Or.inr rfl
    · split <;> exact Or.inl (cleanupConnection_inCleanup _)

theorem handleIdleWith_loopPost (n : Nat) (cfg : Cfg) (app : App σ) (env : IdleEnv) (c : Conn σ) :
    ((handleIdleWith n cfg app env c).1.inCleanup = true ∨ LoopPost (handleIdleWith n cfg app env c).1 .stop) ∧
    (env.timedOut = false → (handleIdleWith n cfg app env c).1.state = .closed → (handleIdleWith n cfg app env c).1.inCleanup = true) := by
  unfold handleIdleWith
  have P := (idleLoop_run cfg app env n { c with touched := false }).loopPost
  generalize idleLoop cfg app env n { c with touched := false } = r at P
  obtain ⟨c1, l1, f⟩ := r
  cases f with
  | again => exact P.elim
  | dead => exact ⟨Or.inl P, fun _ _ => P⟩
  | keep => exact ⟨Or.inr (Or.inr (Or.inr (examined_of_state P rfl))), fun _ h => nomatch P.symm.trans h⟩
  | stop =>
    simp only
    split
    · rename_i hto
      exact ⟨Or.inr (Or.inr (Or.inr (examined_of_state (closeConn_state _ _) rfl))), fun h => nomatch hto.1.symm.trans h⟩
    · have U := updateEventLoopInfo_loopPost cfg env P
      generalize updateEventLoopInfo cfg env c1 = r2 at U
      obtain ⟨c2, l2⟩ := r2
      simp only
      split
      · exact ⟨Or.inl (cleanupConnection_inCleanup c2), fun _ _ => cleanupConnection_inCleanup c2⟩
      · rename_i hncl
        split
        · rcases epollUpdate_cases cfg env c2 with hc | he
          · exact ⟨Or.inl hc, fun _ _ => hc⟩
          · simp only
            rw [he]
            exact ⟨Or.inr U, fun _ h => absurd h hncl⟩
        · exact ⟨Or.inr U, fun _ h => absurd h hncl⟩

end Mhd.ConnSM

namespace Mhd.Loop
open Mhd.Gen.Loop Mhd.Gen.ConnState Mhd.ConnSM
variable {σ : Type}

theorem needsSM_sync (c : SMConn σ) (hex : Examined c) (hn : needsSM c = true) :
    (eliOfSM (eventLoopInfo c)).hasProcess = true := by
  unfold needsSM at hn
  unfold eventLoopInfo
  cases hst : c.state <;> simp only [hst, Bool.and_eq_true, Bool.not_eq_true'] at hn ⊢
  -- receiving states: nothing complete is buffered
  case init | reqLineReceiving | reqHeadersReceiving | footersReceiving =>
    rw [hex (by simp [ReadState, hst])] at hn
    simp at hn
  -- the states that wait for the socket to become writable, and CLOSED, have no work
  case continueSending | headersSending | normalBodyReady | chunkedBodyReady | footersSending | closed => simp at hn
  case bodyReceiving =>
    rw [if_pos ⟨hn.2.1, hn.2.2⟩]
    split
    · split <;> rfl
    · rfl
  all_goals rfl

theorem toNat_closed_eq : CState.closed.toNat = stClosed := rfl

theorem toNat_eq_closed (s : CState) (h : s.toNat = stClosed) : s = .closed := by
  cases s <;> first | rfl | (exfalso; revert h; decide)

theorem handleRead_recvErr_closed (c : SMConn σ) (hs : c.suspended = false) :
    (handleRead c (.recvErr false)).1.state = .closed := by
  unfold handleRead
  simp only []
  split
  · rename_i h
    rcases h with h | h
    · exact h
    · rw [hs] at h; cases h
  · simp only [Bool.false_eq_true, if_false]
    exact closeError_state c

section
variable (S : SMScript σ)

/-- the shape every law about an idle call that leaves the connection active reduces to -/
theorem connsm_idle_active (id : CId) (k : Nat) (wh : Wh) (l : Local (SMConn σ))
    (hact : ((connsmOps S).idle id k wh l).2 = .active) :
    ∃ c', c' = (handleIdle S.cfg S.app (S.idleEnv id k) { l.w with suspended := false }).1 ∧
      ((connsmOps S).idle id k wh l).1 = viewIdle l c' ∧ c'.inCleanup = false ∧ c'.suspended = false := by
  simp only [connsmOps] at hact ⊢
  by_cases hw : wh ≠ .active
  · rw [if_pos hw] at hact; exact absurd hact hw
  rw [if_neg hw] at hact ⊢
  by_cases hg : l.st = stClosed ∧ l.w.state ≠ .closed
  · rw [if_pos hg] at hact; cases hact
  rw [if_neg hg] at hact ⊢
  refine ⟨_, rfl, rfl, ?_⟩
  generalize (handleIdle S.cfg S.app (S.idleEnv id k) { l.w with suspended := false }).1 = c' at hact
  unfold whOfSM at hact
  cases hc : c'.inCleanup
  · cases hs : c'.suspended
    · exact ⟨rfl, rfl⟩
    · rw [hc, hs] at hact; cases hact
  · rw [hc] at hact; cases hact

theorem eliOfSM_of_code {e : ELI} {x : Eli} (h : connsmEliCode e = x.code) : eliOfSM e = x := by
  cases e <;> cases x <;> first | rfl | exact absurd h (by decide)

theorem eli_table_sm (c : SMConn σ) :
    (c.state.toNat ∈ writeStates → eliOfSM (eventLoopInfo c) = .write) ∧
    (c.state.toNat ∈ processStates → eliOfSM (eventLoopInfo c) = .process) ∧
    (c.state.toNat ∈ readStates → eliOfSM (eventLoopInfo c) = .read) :=
  have T := connsm_eli_in_table c
  ⟨fun h => eliOfSM_of_code (T.1 h), fun h => eliOfSM_of_code (T.2.1 h), fun h => eliOfSM_of_code (T.2.2.1 h)⟩

end
end Mhd.Loop
