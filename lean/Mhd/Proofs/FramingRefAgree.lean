/-
  The strict reference framer `Framer.frames` on strictly rendered valid requests (`ref_frames`); that it agrees
  with what the implementation model presents to the handler is `C03.frames_agree_reference`.
-/
import Mhd.Proofs.FramingPipeline
import Mhd.Proofs.FramingDecide
namespace Mhd.Framing
open Mhd.Gen.Framing Framer

set_option linter.unusedSectionVars false
variable [P : HeadParser] [L : LawfulHeadParser]

theorem takeLine_intro (l r : Bytes) (h : ∀ d ∈ l, d ≠ CR) : takeLine (l ++ CR :: LF :: r) = some (l, r) := by
  induction l with
  | nil => simp [takeLine]
  | cons c t ih =>
    have hc : c ≠ CR := h c List.mem_cons_self
    have ih' := ih (fun d hd => h d (List.mem_cons_of_mem _ hd))
    simp only [List.cons_append]
    cases hq : t ++ CR :: LF :: r with
    | nil => cases t <;> simp at hq
    | cons d rest' =>
      unfold takeLine
      have : (c == CR && d == LF) = false := by simp [hc]
      simp only [this, Bool.false_eq_true, if_false]
      rw [← hq, ih']

theorem takeWhile_hex_prefix (ds x : Bytes) (hd : ∀ d ∈ ds, isHex d = true)
    (hx : Stops isHex x) : (ds ++ x).takeWhile isHex = ds ∧ (ds ++ x).dropWhile isHex = x := by
  rw [List.takeWhile_append_of_pos hd, List.dropWhile_append_of_pos hd]
  cases x with
  | nil => simp
  | cons c r => simp [hx c r rfl]

/-- a chunk rendered strictly: CRLF line ends, no BWS, extension free of CR and LF -/
structure StrictLine (c : Chunk) : Prop where
  digitsNonempty : c.digits ≠ []
  digitsHex : ∀ d ∈ c.digits, isHex d = true
  noOverflow : hexValue c.digits ≤ uint64Max
  noBws : c.bws = []
  ext : c.ext = [] ∨ ∃ e, c.ext = SEMI :: e ∧ ∀ d ∈ e, d ≠ LF ∧ d ≠ CR
  eol : c.eol = .crlf

structure StrictChunk (c : Chunk) : Prop extends StrictLine c where
  size : hexValue c.digits = c.data.length
  nonEmpty : c.data ≠ []
  dataEol : c.dataEol = .crlf

structure StrictLast (c : Chunk) : Prop extends StrictLine c where
  zero : hexValue c.digits = 0

theorem StrictLine.lineOK {c : Chunk} (h : StrictLine c) (lvl : Int) : LineOK lvl c where
  digitsNonempty := h.digitsNonempty
  digitsHex := h.digitsHex
  noOverflow := h.noOverflow
  bwsWs := by rw [h.noBws]; intro d hd; cases hd
  bwsLevel := by rw [h.noBws]; intro hne; exact absurd rfl hne
  ext := by
    cases h.ext with
    | inl e => exact Or.inl e
    | inr e => obtain ⟨x, hx, hall⟩ := e; exact Or.inr ⟨x, hx, fun d hd => (hall d hd).1⟩
  eol := Or.inl h.eol

theorem StrictChunk.chunkOK {c : Chunk} (h : StrictChunk c) (lvl : Int) : ChunkOK lvl c :=
  { h.toStrictLine.lineOK lvl with size := h.size, nonEmpty := h.nonEmpty, dataEolOK := Or.inl h.dataEol }

theorem StrictLast.lastOK {c : Chunk} (h : StrictLast c) (lvl : Int) : LastOK lvl c :=
  { h.toStrictLine.lineOK lvl with zero := h.zero }

theorem isHex_ne_CR (d : UInt8) (h : isHex d = true) : d ≠ CR := by
  intro e; subst e; revert h; decide

theorem strict_takeLine (c : Chunk) (h : StrictLine c) (more : Bytes) :
    takeLine (c.line ++ more) = some (c.digits ++ c.ext, more) := by
  have hl : c.line ++ more = (c.digits ++ c.ext) ++ CR :: LF :: more := by
    simp [Chunk.line, h.noBws, h.eol, Eol.bytes, List.append_assoc]
  rw [hl]
  apply takeLine_intro
  intro d hd
  simp only [List.mem_append] at hd
  cases hd with
  | inl hd => exact isHex_ne_CR d (h.digitsHex d hd)
  | inr hd =>
    cases h.ext with
    | inl e => rw [e] at hd; cases hd
    | inr e =>
      obtain ⟨x, hx, hall⟩ := e
      rw [hx] at hd
      cases hd with
      | head => decide
      | tail _ hd => exact (hall d hd).2

theorem strict_chunkLine (c : Chunk) (h : StrictLine c) : chunkLine (c.digits ++ c.ext) = some (hexValue c.digits) := by
  have hx : Stops isHex c.ext := by
    intro a r har
    cases h.ext with
    | inl e => rw [e] at har; cases har
    | inr e => obtain ⟨x, hx, _⟩ := e; rw [hx] at har; cases har; decide
  have tw := takeWhile_hex_prefix c.digits c.ext h.digitsHex hx
  unfold chunkLine
  simp only [tw.1, tw.2]
  have hne : c.digits.isEmpty = false := List.isEmpty_eq_false_iff.2 h.digitsNonempty
  have hov : ¬ (hexValue c.digits > uint64Max) := by have := h.noOverflow; omega
  simp only [hne, Bool.false_or, decide_eq_true_eq, hov, if_false]
  cases h.ext with
  | inl e => rw [e]
  | inr e =>
    obtain ⟨x, hx', hall⟩ := e
    rw [hx']
    have : (x.all fun y => y != CR && y != LF) = true := by
      rw [List.all_eq_true]; intro y hy; simp [(hall y hy).1, (hall y hy).2]
    simp [this]

theorem ref_chunks (cs : List Chunk) (hcs : ∀ c ∈ cs, StrictChunk c) (last : Chunk) (hl : StrictLast last)
    (rest acc : Bytes) (f : Nat) (hf : cs.length < f) :
    chunks f (encodeChunked cs last ++ rest) acc = .ok (acc ++ cs.flatMap Chunk.data) rest := by
  induction cs generalizing acc f with
  | nil =>
    cases f with
    | zero => omega
    | succ f =>
      unfold chunks
      simp only [encodeChunked, List.flatMap_nil, List.nil_append, List.append_nil]
      rw [strict_takeLine last hl.toStrictLine rest]
      simp only [strict_chunkLine last hl.toStrictLine, hl.zero]
  | cons c t ih =>
    cases f with
    | zero => omega
    | succ f =>
      have hc := hcs c List.mem_cons_self
      have hdl : 0 < c.data.length := List.length_pos_iff.2 hc.nonEmpty
      unfold chunks
      have e1 : encodeChunked (c :: t) last ++ rest
          = c.line ++ (c.data ++ CR :: LF :: (encodeChunked t last ++ rest)) := by
        simp [encodeChunked, List.flatMap_cons, Chunk.bytes, hc.dataEol, Eol.bytes, List.append_assoc]
      rw [e1, strict_takeLine c hc.toStrictLine]
      simp only [strict_chunkLine c hc.toStrictLine, hc.size]
      have hnz : c.data.length ≠ 0 := by omega
      have hlen : ¬ ((c.data ++ CR :: LF :: (encodeChunked t last ++ rest)).length < c.data.length + 2) := by
        simp only [List.length_append, List.length_cons]; omega
      have hd2 : (List.drop c.data.length (c.data ++ CR :: LF :: (encodeChunked t last ++ rest))).take 2 = [CR, LF] := by
        rw [List.drop_left]; rfl
      have hdrop : List.drop (c.data.length + 2) (c.data ++ CR :: LF :: (encodeChunked t last ++ rest))
          = encodeChunked t last ++ rest := by
        rw [← List.drop_drop, List.drop_left]; rfl
      have hih := ih (fun c' hc' => hcs c' (List.mem_cons_of_mem _ hc')) (acc ++ c.data) f
        (by simp only [List.length_cons] at hf; omega)
      cases hn : c.data.length with
      | zero => omega
      | succ k =>
        rw [hn] at hlen hd2 hdrop
        simp only [hlen, if_false, hd2, beq_self_eq_true, if_true, hdrop]
        rw [← hn, List.take_left, hih]
        simp [List.flatMap_cons, List.append_assoc]

/-- a generated request whose framing fields satisfy RFC 9112 §6.3 and which is rendered strictly -/
structure MsgStrict (m : Msg) : Prop where
  headOK : P.head m.headBytes = .ok m.head []
  framing :
    match m.body with
    | .none => fieldValues m.head.fields hdrTransferEncoding = [] ∧
        (fieldValues m.head.fields hdrContentLength = [] ∨
          ∃ v, fieldValues m.head.fields hdrContentLength = [v] ∧ ValidDec v ∧ decValue v = 0)
    | .identity d => d ≠ [] ∧ fieldValues m.head.fields hdrTransferEncoding = [] ∧
        ∃ v, fieldValues m.head.fields hdrContentLength = [v] ∧ ValidDec v ∧ decValue v = d.length
    | .chunked cs last tr => (∃ te, fieldValues m.head.fields hdrTransferEncoding = [te] ∧ eqCI te tokChunked = true) ∧
        fieldValues m.head.fields hdrContentLength = [] ∧ m.head.http11 = true ∧
        (∀ c ∈ cs, StrictChunk c) ∧ StrictLast last ∧ ∃ fs, P.trailers tr = .ok fs []
  noClose : lookupToken m.head.fields hdrConnection tokClose = false
  keep : m.head.http11 = true ∨ lookupToken m.head.fields hdrConnection tokKeepAlive = true

theorem MsgStrict.msgOK {m : Msg} (h : MsgStrict m) (lvl : Int) (hh : HostOK lvl m.head.http11 m.head.fields) :
    MsgOK lvl m where
  headOK := h.headOK
  noClose := h.noClose
  keep := h.keep
  framing := by
    have hf := h.framing
    cases hb : m.body with
    | none =>
      rw [hb] at hf; simp only at hf ⊢
      cases hf.2 with
      | inl hcl => exact Or.inl (decideBody_none lvl _ _ hh hf.1 hcl)
      | inr hcl =>
        obtain ⟨v, hv, hvd, hz⟩ := hcl
        right; rw [decideBody_len lvl _ _ hh v hf.1 hv hvd, hz]
    | identity d =>
      rw [hb] at hf; simp only at hf ⊢
      obtain ⟨hd, hte, v, hv, hvd, hz⟩ := hf
      exact ⟨hd, by rw [decideBody_len lvl _ _ hh v hte hv hvd, hz]⟩
    | chunked cs last tr =>
      rw [hb] at hf; simp only at hf ⊢
      obtain ⟨⟨te, hte, hc⟩, hcl, h11, hcs, hl, htr⟩ := hf
      refine ⟨?_, fun c hc' => (hcs c hc').chunkOK lvl, hl.lastOK lvl, htr⟩
      rw [decideBody_chunked lvl _ _ hh te hte hc hcl, h11]; rfl

def Msg.frame (m : Msg) : Frame := ⟨m.head.method, m.head.target, m.body.data, true⟩

theorem encodeChunked_length (cs : List Chunk) (last : Chunk) (hcs : ∀ c ∈ cs, StrictChunk c) :
    cs.length ≤ (encodeChunked cs last).length := by
  induction cs with
  | nil => simp
  | cons c t ih =>
    have hc := hcs c List.mem_cons_self
    have hd : 0 < c.data.length := List.length_pos_iff.2 hc.nonEmpty
    have := ih (fun c' hc' => hcs c' (List.mem_cons_of_mem _ hc'))
    simp only [encodeChunked, List.flatMap_cons, List.length_append, Chunk.bytes, List.length_cons] at this ⊢
    omega

theorem ref_next (m : Msg) (h : MsgStrict m) (rest : Bytes) :
    Framer.next (m.bytes ++ rest) = .frame m.frame rest := by
  have hp : P.head (m.bytes ++ rest) = .ok m.head (m.body.bytes ++ rest) := by
    have := L.head_append m.headBytes (m.body.bytes ++ rest) m.head [] h.headOK
    simpa [Msg.bytes, List.append_assoc] using this
  have hpers : persistent m.head = true := by
    unfold persistent
    simp only [h.noClose, Bool.false_eq_true, if_false]
    cases h.keep with
    | inl hk => simp [hk]
    | inr hk => cases m.head.http11 <;> simp [hk]
  have hf := h.framing
  unfold Framer.next
  simp only [hp]
  cases hb : m.body with
  | none =>
    rw [hb] at hf; simp only at hf
    simp only [hf.1, Msg.frame, hb, BodySpec.data, BodySpec.bytes, List.nil_append]
    cases hf.2 with
    | inl hcl => simp only [hcl, hpers]
    | inr hcl =>
      obtain ⟨v, hv, hvd, hz⟩ := hcl
      have c1 := (validDec_iff v).mpr hvd
      rw [hz] at c1
      simp only [hv, hz, c1, Bool.false_eq_true, if_false, Nat.not_lt_zero, List.take_zero, List.drop_zero, hpers]
  | identity d =>
    rw [hb] at hf; simp only at hf
    obtain ⟨hd, hte, v, hv, hvd, hz⟩ := hf
    have c1 := (validDec_iff v).mpr hvd
    rw [hz] at c1
    have c2 : ¬ ((d ++ rest).length < d.length) := by simp only [List.length_append]; omega
    simp only [hte, hv, c1, Bool.false_eq_true, if_false, hz, Msg.frame, hb, BodySpec.data, BodySpec.bytes, c2,
      List.take_left, List.drop_left, hpers]
  | chunked cs last tr =>
    rw [hb] at hf; simp only at hf
    obtain ⟨⟨te, hte, hc⟩, hcl, h11, hcs, hl, fs, htr⟩ := hf
    have hfuel : cs.length < (encodeChunked cs last ++ tr ++ rest).length + 1 := by
      have := encodeChunked_length cs last hcs
      simp only [List.length_append]; omega
    have hch := ref_chunks cs hcs last hl (tr ++ rest) [] _ hfuel
    simp only [List.append_assoc] at hch
    have htr' := L.trailers_append tr rest fs [] htr
    simp only [hte, hcl, hc, Bool.not_true, List.isEmpty_nil, Bool.or_self, Bool.false_eq_true, if_false,
      BodySpec.bytes, List.append_assoc, hch, List.nil_append, htr', Msg.frame, hb, BodySpec.data, hpers]

theorem Msg.bytes_ne (m : Msg) (h : MsgStrict m) : m.bytes ≠ [] := by
  have := L.head_length _ _ _ h.headOK
  intro e
  have : m.headBytes.length = 0 := by
    have := congrArg List.length e
    simp only [Msg.bytes, List.length_append, List.length_nil] at this; omega
  omega

theorem ref_frames (ms : List Msg) (hms : ∀ m ∈ ms, MsgStrict m) (f : Nat) (hf : ms.length < f) :
    framesFuel f (ms.flatMap Msg.bytes) = (ms.map Msg.frame, .incomplete 0) := by
  induction ms generalizing f with
  | nil =>
    cases f with
    | zero => omega
    | succ f => rfl
  | cons m t ih =>
    cases f with
    | zero => omega
    | succ f =>
      have hm := hms m List.mem_cons_self
      have hne := Msg.bytes_ne m hm
      unfold framesFuel
      simp only [List.flatMap_cons]
      cases hq : m.bytes ++ t.flatMap Msg.bytes with
      | nil => exact absurd hq (List.append_ne_nil_of_left_ne_nil hne _)
      | cons a r =>
        simp only
        rw [← hq, ref_next m hm]
        have hpf : m.frame.persistent = true := rfl
        simp only [hpf, if_true]
        rw [ih (fun m' hm' => hms m' (List.mem_cons_of_mem _ hm')) f (by simp only [List.length_cons] at hf; omega)]
        rfl

def Frame.seen (f : Frame) : Seen := ⟨f.method, f.target, f.body⟩

end Mhd.Framing
