/-
  The invariant of the timeout bookkeeping, read connection by connection (`Inv.At`: an operation on one
  connection leaves the part about every other connection alone), and the kinds of change to one
  connection that preserve it.
-/
import Mhd.Proofs.TmoFn
import Mhd.Proofs.Lists
namespace Mhd.Tmo
open Mhd.Gen.Tmo

/-- the variant with all five C10 repairs (the select-loop flag is arbitrary) -/
def Fixed (v : Variant) : Prop :=
  v.optSorted = true ∧ v.optSusp = true ∧ v.stampNew = true ∧ v.hintSafe = true ∧ v.actSorted = true

/-- largest timeout that can be configured: `unsigned int` seconds as the harness allows, in ms -/
def tmoMax : Nat := 4000000 * msPerSec

@[simp] theorem set_c (d : Daemon) (i j : Id) (x : Conn) : (d.set i x).c j = if j = i then x else d.c j := rfl
@[simp] theorem set_cfg (d : Daemon) (i : Id) (x : Conn) : (d.set i x).cfg = d.cfg := rfl
@[simp] theorem set_now (d : Daemon) (i : Id) (x : Conn) : (d.set i x).now = d.now := rfl
@[simp] theorem set_back (d : Daemon) (i : Id) (x : Conn) : (d.set i x).back = d.back := rfl
@[simp] theorem set_used (d : Daemon) (i : Id) (x : Conn) : (d.set i x).used = d.used := rfl
@[simp] theorem set_newL (d : Daemon) (i : Id) (x : Conn) : (d.set i x).newL = d.newL := rfl
@[simp] theorem set_conns (d : Daemon) (i : Id) (x : Conn) : (d.set i x).conns = d.conns := rfl
@[simp] theorem set_normal (d : Daemon) (i : Id) (x : Conn) : (d.set i x).normal = d.normal := rfl
@[simp] theorem set_manual (d : Daemon) (i : Id) (x : Conn) : (d.set i x).manual = d.manual := rfl
@[simp] theorem set_susp (d : Daemon) (i : Id) (x : Conn) : (d.set i x).susp = d.susp := rfl
@[simp] theorem set_cleanup (d : Daemon) (i : Id) (x : Conn) : (d.set i x).cleanup = d.cleanup := rfl
@[simp] theorem set_eready (d : Daemon) (i : Id) (x : Conn) : (d.set i x).eready = d.eready := rfl
@[simp] theorem set_kq (d : Daemon) (i : Id) (x : Conn) : (d.set i x).kq = d.kq := rfl
@[simp] theorem set_fault (d : Daemon) (i : Id) (x : Conn) : (d.set i x).fault = d.fault := rfl
@[simp] theorem set_dataPending (d : Daemon) (i : Id) (x : Conn) : (d.set i x).dataPending = d.dataPending := rfl
@[simp] theorem set_resuming (d : Daemon) (i : Id) (x : Conn) : (d.set i x).resuming = d.resuming := rfl
@[simp] theorem set_haveNew (d : Daemon) (i : Id) (x : Conn) : (d.set i x).haveNew = d.haveNew := rfl
@[simp] theorem la_def (d : Daemon) (i : Id) : d.la i = (d.c i).la := rfl

/-- Structural and temporal invariant of the daemon's timeout bookkeeping. -/
structure Inv (d : Daemon) : Prop where
  nofault : d.fault = false
  ndConns : d.conns.Nodup
  ndNormal : d.normal.Nodup
  ndManual : d.manual.Nodup
  ndSusp : d.susp.Nodup
  ndNew : d.newL.Nodup
  ndClean : d.cleanup.Nodup
  ndEready : d.eready.Nodup
  connsIff : ∀ i, i ∈ d.conns ↔ (i ∈ d.normal ∨ i ∈ d.manual)
  normalT : ∀ i, i ∈ d.normal → (d.c i).tmo = d.cfg.dtmo
  manualT : ∀ i, i ∈ d.manual → (d.c i).tmo ≠ d.cfg.dtmo
  connsS : ∀ i, i ∈ d.conns → (d.c i).suspended = false
  suspS : ∀ i, i ∈ d.susp → (d.c i).suspended = true
  newT : ∀ i, i ∈ d.newL → (d.c i).tmo = d.cfg.dtmo ∧ (d.c i).suspended = false
  disjNew : ∀ i, i ∈ d.newL → i ∉ d.conns ∧ i ∉ d.susp ∧ i ∉ d.cleanup
  disjClean : ∀ i, i ∈ d.cleanup → i ∉ d.conns ∧ i ∉ d.susp
  usedAll : ∀ i, i ∈ d.newL ∨ i ∈ d.conns ∨ i ∈ d.susp ∨ i ∈ d.cleanup → i ∈ d.used
  ready : ∀ i, i ∈ d.eready ∨ i ∈ d.kq → i ∈ d.conns ∨ i ∈ d.cleanup
  nonEpoll : d.cfg.epoll = false → d.eready = [] ∧ d.kq = []
  -- temporal part: no stamp lies beyond the highest value the clock has shown (`now + back`);
  -- the order of the normal list does not depend on the clock at all
  laLe : ∀ i, (d.c i).la ≤ d.now + d.back
  sorted : d.cfg.dtmo ≠ 0 → d.normal.Pairwise (fun a b => (d.c b).la ≤ (d.c a).la)
  tmoB : ∀ i, (d.c i).tmo ≤ tmoMax
  dtmoB : d.cfg.dtmo ≤ tmoMax

theorem Inv.tmo_lt {d : Daemon} (h : Inv d) (i : Id) : (d.c i).tmo < 2 ^ 62 :=
  Nat.lt_of_le_of_lt (h.tmoB i) (by decide)

/-- while the clock is at most `jumpBackLimit` behind the highest value it has shown, the close decision
    is exact for every connection: expired means idle on the clock for more than the timeout -/
theorem Inv.expired_iff {d : Daemon} (h : Inv d) (hnow : d.now < 2 ^ 62) (hback : d.back ≤ jumpBackLimit) (i : Id) :
    checkTimedOut d.now (d.c i) = true ↔
      (d.c i).suspended = false ∧ (d.c i).tmo ≠ 0 ∧ (d.c i).tmo < d.now - (d.c i).la :=
  checkTimedOut_iff_jump d.now (d.c i) (Nat.le_trans (h.laLe i) (Nat.add_le_add_left hback _)) hnow
    (Nat.lt_trans (h.tmo_lt i) (by decide))

theorem inv_init (cfg : Cfg) (h : cfg.dtmo ≤ tmoMax) : Inv (Daemon.init cfg) := by
  constructor <;> simp [Daemon.init, clock0, h]

theorem sorted_congr {l : List Id} {f g : Id → Nat} (hfg : ∀ a, a ∈ l → f a = g a)
    (h : l.Pairwise (fun a b => f b ≤ f a)) : l.Pairwise (fun a b => g b ≤ g a) := by
  refine List.Pairwise.imp_of_mem ?_ h
  intro a b ha hb hab
  rw [← hfg a ha, ← hfg b hb]; exact hab

theorem mem_insSorted (f : Id → Nat) (l : List Id) (i j : Id) : j ∈ insSorted f l i ↔ j = i ∨ j ∈ l := by
  induction l with
  | nil => simp [insSorted]
  | cons a t ih =>
    unfold insSorted
    split
    · simp [ih]; grind
    · simp

theorem nodup_insSorted (f : Id → Nat) (l : List Id) (i : Id) (hi : i ∉ l) (h : l.Nodup) :
    (insSorted f l i).Nodup := by
  induction l with
  | nil => simp [insSorted]
  | cons a t ih =>
    unfold insSorted
    have hnd := List.nodup_cons.1 h
    split
    · refine List.nodup_cons.2 ⟨?_, ih (by grind) hnd.2⟩
      rw [mem_insSorted]; grind
    · exact List.nodup_cons.2 ⟨hi, h⟩

theorem sorted_insSorted (f : Id → Nat) (l : List Id) (i : Id)
    (h : l.Pairwise (fun a b => f b ≤ f a)) : (insSorted f l i).Pairwise (fun a b => f b ≤ f a) := by
  induction l with
  | nil => simp [insSorted]
  | cons a t ih =>
    unfold insSorted
    have hp := List.pairwise_cons.1 h
    split
    · rename_i hlt
      refine List.pairwise_cons.2 ⟨?_, ih hp.2⟩
      intro b hb
      rcases (mem_insSorted f t i b).1 hb with e | e
      · subst e; omega
      · exact hp.1 b e
    · rename_i hnlt
      refine List.pairwise_cons.2 ⟨?_, h⟩
      intro b hb
      rcases List.mem_cons.1 hb with e | e
      · subst e; omega
      · have := hp.1 b e; omega

/-- The part of `Inv` that speaks of a single connection.  It reads only which lists hold `j`, the stamp,
    timeout and suspended flag of `j`, the default timeout and the high-water mark of the clock. -/
structure Inv.At (d : Daemon) (j : Id) : Prop where
  connsIff : j ∈ d.conns ↔ (j ∈ d.normal ∨ j ∈ d.manual)
  normalT : j ∈ d.normal → (d.c j).tmo = d.cfg.dtmo
  manualT : j ∈ d.manual → (d.c j).tmo ≠ d.cfg.dtmo
  connsS : j ∈ d.conns → (d.c j).suspended = false
  suspS : j ∈ d.susp → (d.c j).suspended = true
  newT : j ∈ d.newL → (d.c j).tmo = d.cfg.dtmo ∧ (d.c j).suspended = false
  disjNew : j ∈ d.newL → j ∉ d.conns ∧ j ∉ d.susp ∧ j ∉ d.cleanup
  disjClean : j ∈ d.cleanup → j ∉ d.conns ∧ j ∉ d.susp
  usedAll : j ∈ d.newL ∨ j ∈ d.conns ∨ j ∈ d.susp ∨ j ∈ d.cleanup → j ∈ d.used
  ready : j ∈ d.eready ∨ j ∈ d.kq → j ∈ d.conns ∨ j ∈ d.cleanup
  laLe : (d.c j).la ≤ d.now + d.back
  tmoB : (d.c j).tmo ≤ tmoMax

theorem Inv.at {d : Daemon} (h : Inv d) (j : Id) : Inv.At d j :=
  ⟨h.connsIff j, h.normalT j, h.manualT j, h.connsS j, h.suspS j, h.newT j, h.disjNew j, h.disjClean j,
   h.usedAll j, h.ready j, h.laLe j, h.tmoB j⟩

theorem Inv.of_at {d : Daemon} (nofault : d.fault = false) (ndConns : d.conns.Nodup) (ndNormal : d.normal.Nodup)
    (ndManual : d.manual.Nodup) (ndSusp : d.susp.Nodup) (ndNew : d.newL.Nodup) (ndClean : d.cleanup.Nodup)
    (ndEready : d.eready.Nodup) (nonEpoll : d.cfg.epoll = false → d.eready = [] ∧ d.kq = [])
    (sorted : d.cfg.dtmo ≠ 0 → d.normal.Pairwise (fun a b => (d.c b).la ≤ (d.c a).la)) (dtmoB : d.cfg.dtmo ≤ tmoMax)
    (a : ∀ j, Inv.At d j) : Inv d :=
  ⟨nofault, ndConns, ndNormal, ndManual, ndSusp, ndNew, ndClean, ndEready, fun j => (a j).connsIff,
   fun j => (a j).normalT, fun j => (a j).manualT, fun j => (a j).connsS, fun j => (a j).suspS, fun j => (a j).newT,
   fun j => (a j).disjNew, fun j => (a j).disjClean, fun j => (a j).usedAll, fun j => (a j).ready, nonEpoll,
   fun j => (a j).laLe, sorted, fun j => (a j).tmoB, dtmoB⟩

theorem Inv.At.congr {d d' : Daemon} {j : Id} (a : Inv.At d j) (hcfg : d'.cfg = d.cfg)
    (hhw : d'.now + d'.back = d.now + d.back)
    (hla : (d'.c j).la = (d.c j).la) (htmo : (d'.c j).tmo = (d.c j).tmo)
    (hsus : (d'.c j).suspended = (d.c j).suspended)
    (hused : j ∈ d'.used ↔ j ∈ d.used) (hnewL : j ∈ d'.newL ↔ j ∈ d.newL) (hconns : j ∈ d'.conns ↔ j ∈ d.conns)
    (hnormal : j ∈ d'.normal ↔ j ∈ d.normal) (hmanual : j ∈ d'.manual ↔ j ∈ d.manual)
    (hsusp : j ∈ d'.susp ↔ j ∈ d.susp) (hcleanup : j ∈ d'.cleanup ↔ j ∈ d.cleanup)
    (hready : j ∈ d'.eready ∨ j ∈ d'.kq → j ∈ d.conns ∨ j ∈ d.cleanup) : Inv.At d' j := by
  constructor
  all_goals simp only [hcfg, hhw, hla, htmo, hsus, hused, hnewL, hconns, hnormal, hmanual, hsusp, hcleanup]
  · exact a.connsIff
  · exact a.normalT
  · exact a.manualT
  · exact a.connsS
  · exact a.suspS
  · exact a.newT
  · exact a.disjNew
  · exact a.disjClean
  · exact a.usedAll
  · exact hready
  · exact a.laLe
  · exact a.tmoB

theorem not_mem_susp_of_conns {d : Daemon} (h : Inv d) {i : Id} (hi : i ∈ d.conns) : i ∉ d.susp := fun x => by
  have a := h.suspS i x; rw [h.connsS i hi] at a; cases a

theorem mem_normal_of_conns {d : Daemon} (h : Inv d) {i : Id} (hi : i ∈ d.conns) (ht : (d.c i).tmo = d.cfg.dtmo) :
    i ∈ d.normal := by
  rcases (h.connsIff i).1 hi with h1 | h1
  · exact h1
  · exact absurd ht (h.manualT i h1)

theorem mem_manual_of_conns {d : Daemon} (h : Inv d) {i : Id} (hi : i ∈ d.conns) (ht : (d.c i).tmo ≠ d.cfg.dtmo) :
    i ∈ d.manual := by
  rcases (h.connsIff i).1 hi with h1 | h1
  · exact absurd (h.normalT i h1) ht
  · exact h1

/-- No record changes in what the invariant reads of it (stamp, timeout, suspended flag); what the epoll
    lists gain is live or awaits its cleanup. -/
theorem inv_inessential {d : Daemon} (h : Inv d) {g : Id → Conn} {e k : List Id}
    (hnde : e.Nodup) (hnep : d.cfg.epoll = false → e = [] ∧ k = [])
    (hrdy : ∀ j, j ∈ e ∨ j ∈ k → j ∈ d.eready ∨ j ∈ d.kq ∨ j ∈ d.conns ∨ j ∈ d.cleanup)
    (hc : ∀ j, (g j).la = (d.c j).la ∧ (g j).tmo = (d.c j).tmo ∧ (g j).suspended = (d.c j).suspended) :
    Inv { d with c := g, eready := e, kq := k } := by
  refine Inv.of_at h.nofault h.ndConns h.ndNormal h.ndManual h.ndSusp h.ndNew h.ndClean hnde hnep (fun hd => ?_) h.dtmoB
    (fun j => ?_)
  · exact sorted_congr (fun a _ => (hc a).1.symm) (h.sorted hd)
  · refine (h.at j).congr rfl rfl (hc j).1 (hc j).2.1 (hc j).2.2 .rfl .rfl .rfl .rfl .rfl .rfl .rfl (fun x => ?_)
    rcases hrdy j x with y | y | y
    · exact h.ready j (.inl y)
    · exact h.ready j (.inr y)
    · exact y

theorem inv_set_inessential {d : Daemon} (h : Inv d) (i : Id) (x : Conn)
    (h1 : x.la = (d.c i).la) (h2 : x.tmo = (d.c i).tmo) (h3 : x.suspended = (d.c i).suspended) :
    Inv (d.set i x) := by
  refine inv_inessential h h.ndEready h.nonEpoll (fun j hj => ?_) (fun j => ?_)
  · rcases hj with y | y
    · exact .inl y
    · exact .inr (.inl y)
  · by_cases hj : j = i <;> simp [hj, h1, h2, h3]

/-- The record of a connection that is in no timeout list changes (a suspended connection: override or
    nothing essential; a queued or unknown id: anything goes for a stamp that is not in the future). -/
theorem inv_offlist {d : Daemon} (h : Inv d) (i : Id) (hnc : i ∉ d.conns) (hnn : i ∉ d.newL) {g : Id → Conn} {e k : List Id}
    (hnde : e.Nodup) (hnep : d.cfg.epoll = false → e = [] ∧ k = [])
    (hrdy : ∀ j, j ∈ e ∨ j ∈ k → j ∈ d.eready ∨ j ∈ d.kq)
    (hc : ∀ j, j ≠ i → g j = d.c j)
    (hxs : (g i).suspended = (d.c i).suspended ∨ i ∉ d.susp) (hxl : (g i).la ≤ d.now + d.back)
    (hxt : (g i).tmo ≤ tmoMax) :
    Inv { d with c := g, eready := e, kq := k } := by
  have ai := h.at i
  have hin : i ∉ d.normal := fun x => hnc (ai.connsIff.2 (.inl x))
  have him : i ∉ d.manual := fun x => hnc (ai.connsIff.2 (.inr x))
  refine Inv.of_at h.nofault h.ndConns h.ndNormal h.ndManual h.ndSusp h.ndNew h.ndClean hnde hnep (fun hd => ?_) h.dtmoB
    (fun j => ?_)
  · exact sorted_congr (fun a ha => congrArg Conn.la (hc a (fun e => hin (e ▸ ha))).symm) (h.sorted hd)
  · by_cases e : j = i
    · subst e
      refine ⟨ai.connsIff, (absurd · hin), (absurd · him), (absurd · hnc), fun x => ?_, (absurd · hnn), (absurd · hnn),
        ai.disjClean, ai.usedAll, fun x => ai.ready (hrdy j x), hxl, hxt⟩
      rcases hxs with y | y
      · exact y.trans (ai.suspS x)
      · exact absurd x y
    · have hcj := hc j e
      exact (h.at j).congr rfl rfl (congrArg Conn.la hcj) (congrArg Conn.tmo hcj) (congrArg Conn.suspended hcj) .rfl .rfl .rfl .rfl .rfl .rfl .rfl
        (fun x => h.ready j (hrdy j x))

/-- Connection `i` ends up live and on the timeout list that matches its timeout, at its sorted position if
    that is the normal list: a live connection re-stamped or re-timed, a suspended one resumed, a queued
    one started. -/
theorem inv_place {d : Daemon} (h : Inv d) (i : Id) (hncl : i ∉ d.cleanup) (hnn : i ∉ d.newL) (hu : i ∈ d.used)
    {g : Id → Conn} {cs ss n m e k : List Id}
    (hconns : ∀ j, j ∈ cs ↔ j = i ∨ j ∈ d.conns) (hndc : cs.Nodup) (hsusp : ss = d.susp.erase i)
    (hnormal : n = if (g i).tmo = d.cfg.dtmo then insSorted (fun j => (g j).la) (d.normal.erase i) i else d.normal.erase i)
    (hmanual : ∀ j, j ∈ m ↔ (j = i ∧ (g i).tmo ≠ d.cfg.dtmo) ∨ j ∈ d.manual.erase i) (hndm : m.Nodup)
    (hnde : e.Nodup) (hnep : d.cfg.epoll = false → e = [] ∧ k = [])
    (hrdy : ∀ j, j ∈ e ∨ j ∈ k → j = i ∨ j ∈ d.eready ∨ j ∈ d.kq)
    (hc : ∀ j, j ≠ i → g j = d.c j)
    (hxs : (g i).suspended = false) (hxl : (g i).la ≤ d.now + d.back) (hxt : (g i).tmo ≤ tmoMax) :
    Inv { d with c := g, conns := cs, susp := ss, normal := n, manual := m, eready := e, kq := k } := by
  subst hsusp
  have hne := List.Nodup.not_mem_erase (a := i) h.ndNormal
  have hnd := h.ndNormal.erase i
  have hla : ∀ a, a ∈ d.normal.erase i → (d.c a).la = (g a).la := fun a ha =>
    congrArg Conn.la (hc a (fun e => hne (e ▸ ha))).symm
  have hN : ∀ j, j ∈ n ↔ (j = i ∧ (g i).tmo = d.cfg.dtmo) ∨ (j ≠ i ∧ j ∈ d.normal) := by
    intro j; rw [hnormal]; split
    · rw [mem_insSorted, List.Nodup.mem_erase_iff h.ndNormal]; grind
    · rw [List.Nodup.mem_erase_iff h.ndNormal]; grind
  refine Inv.of_at h.nofault hndc ?_ hndm (h.ndSusp.erase i) h.ndNew h.ndClean hnde hnep (fun hd => ?_) h.dtmoB (fun j => ?_)
  · rw [hnormal]; split
    · exact nodup_insSorted _ _ _ hne hnd
    · exact hnd
  · have hs := sorted_congr hla (List.Pairwise.sublist List.erase_sublist (h.sorted hd))
    show n.Pairwise _
    rw [hnormal]; split
    · exact sorted_insSorted _ _ _ hs
    · exact hs
  · by_cases e : j = i
    · subst e
      have n1 : j ∉ d.susp.erase j := List.Nodup.not_mem_erase h.ndSusp
      have n2 : j ∉ d.manual.erase j := List.Nodup.not_mem_erase h.ndManual
      have hNj := hN j; have hMj := hmanual j
      refine ⟨?_, fun x => (hNj.1 x).elim (·.2) (absurd rfl ·.1), fun x => (hMj.1 x).elim (·.2) (absurd · n2), fun _ => hxs,
        (absurd · n1), (absurd · hnn), (absurd · hnn), (absurd · hncl), fun _ => hu, fun _ => .inl ((hconns j).2 (.inl rfl)),
        hxl, hxt⟩
      by_cases ht : (g j).tmo = d.cfg.dtmo <;> simp [hconns, hNj, hMj, ht, n2]
    · have hcj := hc j e
      refine (h.at j).congr rfl rfl (congrArg Conn.la hcj) (congrArg Conn.tmo hcj) (congrArg Conn.suspended hcj) .rfl .rfl (by simp [hconns, e])
        (by simp [hN, e]) (by simp [hmanual, e, List.mem_erase_of_ne e]) (List.mem_erase_of_ne e) .rfl (fun x => ?_)
      rcases hrdy j x with y | y
      · exact absurd y e
      · exact h.ready j y

theorem inv_retime {d : Daemon} (h : Inv d) {i : Id} (hi : i ∈ d.conns) {x : Conn} {n m : List Id}
    (hnormal : n = if x.tmo = d.cfg.dtmo then insSorted (d.set i x).la (d.normal.erase i) i else d.normal.erase i)
    (hmanual : ∀ j, j ∈ m ↔ (j = i ∧ x.tmo ≠ d.cfg.dtmo) ∨ j ∈ d.manual.erase i) (hndm : m.Nodup)
    (hxs : x.suspended = false) (hxl : x.la ≤ d.now + d.back) (hxt : x.tmo ≤ tmoMax) :
    Inv { d.set i x with normal := n, manual := m } :=
  inv_place h i (fun y => (h.disjClean i y).1 hi) (fun y => (h.disjNew i y).1 hi) (h.usedAll i (.inr (.inl hi)))
    (fun _ => ⟨.inr, fun y => y.elim (· ▸ hi) id⟩) h.ndConns (List.erase_of_not_mem (not_mem_susp_of_conns h hi)).symm
    (by simp only [set_c, if_true]; exact hnormal) (by simpa using hmanual) hndm h.ndEready h.nonEpoll (fun _ hj => .inr hj)
    (fun j hj => by simp [hj]) (by simpa using hxs) (by simpa using hxl) (by simpa using hxt)

/-- A live connection leaves `connections` and its timeout list: into the suspended list
    (`toSusp`, flag set) or into the cleanup list. -/
theorem inv_deactivate {d : Daemon} (h : Inv d) (i : Id) (hi : i ∈ d.conns) (toSusp : Bool) {g : Id → Conn} {e k : List Id}
    (hnde : e.Nodup) (hnep : d.cfg.epoll = false → e = [] ∧ k = [])
    (hrdy : ∀ j, j ∈ e ∨ j ∈ k → (j ≠ i ∨ toSusp = false) ∧ (j ∈ d.eready ∨ j ∈ d.kq))
    (hc : ∀ j, j ≠ i → g j = d.c j)
    (hxs : (g i).suspended = toSusp) (hxl : (g i).la = (d.c i).la) (hxt : (g i).tmo = (d.c i).tmo) :
    Inv { d with c := g, conns := d.conns.erase i, normal := d.normal.erase i, manual := d.manual.erase i,
                 susp := if toSusp then i :: d.susp else d.susp, cleanup := if toSusp then d.cleanup else i :: d.cleanup,
                 eready := e, kq := k } := by
  have ai := h.at i
  have n5 : i ∉ d.susp := not_mem_susp_of_conns h hi
  have n6 : i ∉ d.cleanup := fun x => (ai.disjClean x).1 hi
  have hs : ∀ j, j ∈ (if toSusp then i :: d.susp else d.susp) ↔ (j = i ∧ toSusp = true) ∨ j ∈ d.susp := by
    intro j; cases toSusp <;> simp
  have hcl : ∀ j, j ∈ (if toSusp then d.cleanup else i :: d.cleanup) ↔ (j = i ∧ toSusp = false) ∨ j ∈ d.cleanup := by
    intro j; cases toSusp <;> simp
  refine Inv.of_at h.nofault (h.ndConns.erase i) (h.ndNormal.erase i) (h.ndManual.erase i) ?_ h.ndNew ?_ hnde hnep
    (fun hd => ?_) h.dtmoB (fun j => ?_)
  · dsimp only; split
    · exact List.nodup_cons.2 ⟨n5, h.ndSusp⟩
    · exact h.ndSusp
  · dsimp only; split
    · exact h.ndClean
    · exact List.nodup_cons.2 ⟨n6, h.ndClean⟩
  · refine sorted_congr ?_ (List.Pairwise.sublist List.erase_sublist (h.sorted hd))
    exact fun a ha => congrArg Conn.la (hc a ((List.Nodup.mem_erase_iff h.ndNormal).1 ha).1).symm
  · by_cases e : j = i
    · subst e
      have n1 : j ∉ d.conns.erase j := List.Nodup.not_mem_erase h.ndConns
      have n2 : j ∉ d.normal.erase j := List.Nodup.not_mem_erase h.ndNormal
      have n3 : j ∉ d.manual.erase j := List.Nodup.not_mem_erase h.ndManual
      have n4 : j ∉ d.newL := fun x => (ai.disjNew x).1 hi
      have s1 := fun x => ((hs j).1 x).elim (·.2) (absurd · n5)
      have c1 := fun x => ((hcl j).1 x).elim (·.2) (absurd · n6)
      refine ⟨⟨(absurd · n1), fun x => x.elim (absurd · n2) (absurd · n3)⟩, (absurd · n2), (absurd · n3), (absurd · n1),
        fun x => hxs.trans (s1 x), (absurd · n4), (absurd · n4), fun x => ⟨n1, fun y => ?_⟩,
        fun _ => ai.usedAll (.inr (.inl hi)), fun x => ?_, hxl ▸ ai.laLe, hxt ▸ ai.tmoB⟩
      · have := s1 y; rw [c1 x] at this; cases this
      · rcases (hrdy j x).1 with y | y
        · exact absurd rfl y
        · exact .inr ((hcl j).2 (.inl ⟨rfl, y⟩))
    · have hcj := hc j e
      exact (h.at j).congr rfl rfl (congrArg Conn.la hcj) (congrArg Conn.tmo hcj) (congrArg Conn.suspended hcj) .rfl .rfl (List.mem_erase_of_ne e) (List.mem_erase_of_ne e)
        (List.mem_erase_of_ne e) (by simp [hs, e]) (by simp [hcl, e]) (fun x => h.ready j (hrdy j x).2)

theorem inv_clock {d : Daemon} (h : Inv d) (now back : Nat) (hle : d.now + d.back ≤ now + back) :
    Inv { d with now := now, back := back } :=
  { h with laLe := fun j => Nat.le_trans (h.laLe j) hle }

end Mhd.Tmo
