/-
  C17 proofs: number printing — `MHD_uint16_to_str`, `MHD_uint64_to_str`
  (one model, two divisors), `MHD_uint32_to_strx`, `MHD_uint8_to_str_pad` — and
  that parsing reads the printed digits back (`parseDec_decDigits`, `xchar_table`).  Each printer writes `digitsB b ch (width b J v) v`
  (`Mhd.Num`): the first loop finds `width`, the second writes the digits.
-/
import Mhd.Proofs.StrNum

namespace Mhd.Str

theorem StagePost.full {out : Bytes} {pos : Nat} {d : Bytes} (h : out.length ≤ pos) (hd : 0 < d.length) :
    StagePost out pos d (0, out) :=
  .nofit rfl (Nat.lt_of_le_of_lt h (Nat.lt_add_of_pos_right hd))

theorem StagePost.one {out : Bytes} {pos : Nat} (c : UInt8) (hw : pos < out.length) :
    StagePost out pos [c] (pos + 1, out.set pos c) :=
  .done (List.length_set ..) hw (take_set_succ out pos c hw)

theorem StagePost.cons {out : Bytes} {pos : Nat} {c : UInt8} {d : Bytes} {r : Nat × Bytes} (hw : pos < out.length)
    (h : StagePost (out.set pos c) (pos + 1) d r) : StagePost out pos (c :: d) r := by
  obtain ⟨h1, h2⟩ := h
  rw [List.length_set] at h1 h2
  rw [take_set_succ out pos c hw, List.append_assoc] at h2
  refine ⟨h1, ?_⟩
  rw [List.length_cons, ← Nat.add_assoc, Nat.add_right_comm]
  exact h2

theorem StagePost.wrote {out d : Bytes} {r : Nat × Bytes} (h : StagePost out 0 d r) :
    Wrote (.ok r) out (if d.length ≤ out.length then some d else none) := by
  obtain ⟨h1, h2⟩ := h
  rw [Nat.zero_add, List.take_zero, List.nil_append] at h2
  refine ⟨r.1, r.2, rfl, h1, ?_⟩
  by_cases hf : d.length ≤ out.length
  · rw [if_pos hf] at h2 ⊢; exact h2
  · rw [if_neg hf] at h2 ⊢; exact h2

/-- reference: the `k+1` decimal digits of `v < 10^(k+1)`, most significant first -/
def decDigits : Nat → Nat → Bytes
  | 0, v => [UInt8.ofNat (v + 0x30)]
  | k + 1, v => UInt8.ofNat (v / 10 ^ (k + 1) + 0x30) :: decDigits k (v % 10 ^ (k + 1))

theorem decDigits_eq (k v : Nat) : decDigits k v = Mhd.Num.digitsB 10 (fun d => UInt8.ofNat (d + 0x30)) k v := by
  induction k generalizing v with
  | zero => rfl
  | succ k ih => rw [decDigits, Mhd.Num.digitsB, ih]

theorem decDigits_length (k v : Nat) : (decDigits k v).length = k + 1 := by
  rw [decDigits_eq, Mhd.Num.digitsB_length]

theorem decSkip (val : Nat) : ∀ j n, j < n →
    iter decSkipStep n ⟨val, 10 ^ j, val / 10 ^ j⟩ = .ok ⟨val, 10 ^ Mhd.Num.width 10 j val, val / 10 ^ Mhd.Num.width 10 j val⟩ := by
  intro j
  induction j with
  | zero =>
    intro n hn
    obtain ⟨n, rfl⟩ := Nat.exists_eq_succ_of_ne_zero (Nat.ne_of_gt hn)
    simp [iter, decSkipStep, Mhd.Num.width]
  | succ j ih =>
    intro n hn
    obtain ⟨n, rfl⟩ := Nat.exists_eq_succ_of_ne_zero (Nat.ne_of_gt (Nat.zero_lt_of_lt hn))
    rw [Mhd.Num.width]
    by_cases h0 : val / 10 ^ (j + 1) = 0
    · rw [if_pos h0, ← ih n (Nat.lt_of_succ_lt_succ hn)]
      simp only [iter, decSkipStep, h0, Mhd.Num.one_lt_pow_succ (b := 10) (by decide), and_self, if_true,
        Mhd.Num.pow_succ_div (b := 10) (by decide)]
    · rw [if_neg h0]
      simp [iter, decSkipStep, h0]

theorem decPrint : ∀ j val w (out : Bytes) n, j < n →
    ∃ r, iter decPrintStep n ⟨⟨val, 10 ^ j, val / 10 ^ j⟩, w, out⟩ = .ok r ∧ StagePost out w (decDigits j val) r := by
  intro j
  induction j with
  | zero =>
    intro val w out n hn
    obtain ⟨n, rfl⟩ := Nat.exists_eq_succ_of_ne_zero (Nat.ne_of_gt hn)
    by_cases hlt : w < out.length
    · exact ⟨_, by simp [iter, decPrintStep, hlt, wr_ok _ hlt], .one _ hlt⟩
    · exact ⟨_, by simp [iter, decPrintStep, hlt], .full (Nat.le_of_not_lt hlt) (Nat.succ_pos 0)⟩
  | succ j ih =>
    intro val w out n hn
    obtain ⟨n, rfl⟩ := Nat.exists_eq_succ_of_ne_zero (Nat.ne_of_gt (Nat.zero_lt_of_lt hn))
    by_cases hlt : w < out.length
    · obtain ⟨r, hr, hp⟩ := ih (val % 10 ^ (j + 1)) (w + 1) (out.set w (UInt8.ofNat (val / 10 ^ (j + 1) + 0x30))) n
        (Nat.lt_of_succ_lt_succ hn)
      refine ⟨r, ?_, .cons hlt hp⟩
      simp only [iter, decPrintStep, hlt, if_true, wr_ok _ hlt, bind_ok', Nat.ne_of_gt (Mhd.Num.one_lt_pow_succ (b := 10) (by decide) j),
        if_false, pure_eq_ok, Mhd.Num.pow_succ_div (b := 10) (by decide)]
      exact hr
    · exact ⟨_, by simp [iter, decPrintStep, hlt], .full (Nat.le_of_not_lt hlt) (Nat.succ_pos _)⟩

/-- `MHD_uint16_to_str` / `MHD_uint64_to_str` with initial divisor `10^K`: the `width + 1` digits of `val` -/
theorem uintToStr_spec (K val : Nat) (out : Bytes) (hK : K < 21) :
    Wrote (uintToStr (10 ^ K) val out) out
      (if Mhd.Num.width 10 K val + 1 ≤ out.length then some (decDigits (Mhd.Num.width 10 K val) val) else none) := by
  obtain ⟨r, hr, hp⟩ := decPrint (Mhd.Num.width 10 K val) val 0 out 21 (Nat.lt_of_le_of_lt (Mhd.Num.width_le ..) hK)
  rw [uintToStr, decSkip val K 21 hK, bind_ok', hr, ← decDigits_length (Mhd.Num.width 10 K val) val]
  exact hp.wrote

theorem digit_char_table : ∀ d : Fin 10,
    isDigit (UInt8.ofNat (d.val + 0x30)) = true ∧ decDigitVal (UInt8.ofNat (d.val + 0x30)) = d.val := by
  decide

theorem parseDec_decDigits (k v : Nat) (hv : v < 10 ^ (k + 1)) (hmax : v ≤ u64Max) :
    parseDec (decDigits k v) = (k + 1, v) := by
  rw [parseDec, digitRun, decVal, decDigits_eq]
  exact parse_digitsB (b := 10) (ch := fun d => UInt8.ofNat (d + 0x30)) (f := decDigitVal) (p := isDigit) (Nat.succ_pos 9)
    (fun d hd => (digit_char_table ⟨d, hd⟩).2) (fun d hd => (digit_char_table ⟨d, hd⟩).1) k v u64Max hv hmax

/-- reference: the `k+1` upper-case hexadecimal digits of `v < 16^(k+1)` -/
def hexDigitsU : Nat → Nat → Bytes
  | 0, v => [x32Char v]
  | k + 1, v => x32Char (v / 16 ^ (k + 1)) :: hexDigitsU k (v % 16 ^ (k + 1))

theorem hexDigitsU_eq (k v : Nat) : hexDigitsU k v = Mhd.Num.digitsB 16 x32Char k v := by
  induction k generalizing v with
  | zero => rfl
  | succ k ih => rw [hexDigitsU, Mhd.Num.digitsB, ih]

theorem hexDigitsU_length (k v : Nat) : (hexDigitsU k v).length = k + 1 := by
  rw [hexDigitsU_eq, Mhd.Num.digitsB_length]

theorem pow16_pos (k : Nat) : 0 < 16 ^ k := Nat.pow_pos (by decide)

/-- canonical loop state: `k+1` nibbles of `X` still to print, the top one in `digit` -/
def x32State (k X : Nat) : X32St := ⟨(X % 16 ^ k) * 16 ^ (8 - k), k, X / 16 ^ k⟩

theorem x32SkipStep_eq (j X d0 : Nat) (hj : j ≤ 7) :
    x32SkipStep ⟨X * 16 ^ (7 - j), j + 1, d0⟩ =
      if X / 16 ^ j = 0 ∧ j ≠ 0 then .ok (.inl (x32State j X)) else .ok (.inr (x32State j X)) := by
  obtain ⟨hr1, hr2⟩ := Mhd.Num.nibble_shift j X hj
  simp only [x32SkipStep, Nat.add_sub_cancel, hr1, hr2]; rfl

theorem x32Skip (X : Nat) : ∀ j n (d0 : Nat), j ≤ 7 → j + 1 < n →
    iter x32SkipStep n ⟨X * 16 ^ (7 - j), j + 1, d0⟩ = .ok (x32State (Mhd.Num.width 16 j X) X) := by
  intro j
  induction j with
  | zero =>
    intro n d0 h7 hn
    obtain ⟨n, rfl⟩ := Nat.exists_eq_succ_of_ne_zero (Nat.ne_of_gt (Nat.zero_lt_of_lt hn))
    rw [iter, x32SkipStep_eq 0 X d0 h7, if_neg fun h => h.2 rfl]; rfl
  | succ j ih =>
    intro n d0 h7 hn
    obtain ⟨n, rfl⟩ := Nat.exists_eq_succ_of_ne_zero (Nat.ne_of_gt (Nat.zero_lt_of_lt hn))
    rw [iter, x32SkipStep_eq (j + 1) X d0 h7, Mhd.Num.width]
    by_cases h0 : X / 16 ^ (j + 1) = 0
    · have hlt : X < 16 ^ (j + 1) := Nat.lt_of_div_eq_zero (pow16_pos _) h0
      rw [if_pos ⟨h0, Nat.succ_ne_zero j⟩, if_pos h0, x32State, h0, Nat.mod_eq_of_lt hlt, show 8 - (j + 1) = 7 - j by omega]
      exact ih n 0 (Nat.le_of_succ_le h7) (Nat.lt_of_succ_lt_succ hn)
    · rw [if_neg fun h => h0 h.1, if_neg h0]

theorem x32Print : ∀ j X w (out : Bytes) n, j ≤ 7 → j < n →
    ∃ r, iter x32PrintStep n ⟨x32State j X, w, out⟩ = .ok r ∧ StagePost out w (hexDigitsU j X) r := by
  intro j
  induction j with
  | zero =>
    intro X w out n _ hn
    obtain ⟨n, rfl⟩ := Nat.exists_eq_succ_of_ne_zero (Nat.ne_of_gt hn)
    by_cases hlt : w < out.length
    · exact ⟨_, by simp [iter, x32PrintStep, x32State, hlt, wr_ok _ hlt], .one _ hlt⟩
    · exact ⟨_, by simp [iter, x32PrintStep, hlt], .full (Nat.le_of_not_lt hlt) (Nat.succ_pos 0)⟩
  | succ j ih =>
    intro X w out n h7 hn
    obtain ⟨n, rfl⟩ := Nat.exists_eq_succ_of_ne_zero (Nat.ne_of_gt (Nat.zero_lt_of_lt hn))
    by_cases hlt : w < out.length
    · obtain ⟨hr1, hr2⟩ := Mhd.Num.nibble_shift j (X % 16 ^ (j + 1)) (Nat.le_of_succ_le h7)
      obtain ⟨r, hr, hp⟩ := ih (X % 16 ^ (j + 1)) (w + 1) (out.set w (x32Char (X / 16 ^ (j + 1)))) n
        (Nat.le_of_succ_le h7) (Nat.lt_of_succ_lt_succ hn)
      refine ⟨r, ?_, .cons hlt hp⟩
      simp only [iter, x32PrintStep, x32State, hlt, if_true, wr_ok _ hlt, bind_ok', Nat.add_one_ne_zero, if_false,
        pure_eq_ok, Nat.add_sub_cancel, show 8 - (j + 1) = 7 - j by omega, hr1, hr2]
      exact hr
    · exact ⟨_, by simp [iter, x32PrintStep, hlt], .full (Nat.le_of_not_lt hlt) (Nat.succ_pos _)⟩

theorem xchar_table : ∀ d : Fin 16, isXDigit (x32Char d.val) = true ∧ hexDigitVal (x32Char d.val) = d.val := by
  decide

def digitChar (d : Nat) : UInt8 := UInt8.ofNat (0x30 + d)

/-- what the three stages write (mirror of the control flow) -/
def padOnes (v : Nat) : Bytes := [digitChar v]
def padTens (v md : Nat) : Bytes :=
  if v / 10 = 0 then (if 2 ≤ md then 0x30 :: padOnes v else padOnes v) else digitChar (v / 10) :: padOnes (v % 10)
def padAll (v md : Nat) : Bytes :=
  if v / 100 = 0 then (if 3 ≤ md then 0x30 :: padTens v md else padTens v md)
  else digitChar (v / 100) :: padTens (v % 100) 2

/-- reference: `val` in decimal, left-padded with '0' to at least `pad` (and at least one) digits -/
def padSpec (val pad : Nat) : Bytes :=
  decDigits (max (if 100 ≤ val then 2 else if 10 ≤ val then 1 else 0) (pad - 1)) val

theorem padAll_eq_spec : ∀ (val : Fin 256) (pad : Fin 4), padAll val.val pad.val = padSpec val.val pad.val := by
  decide +kernel

theorem padOnes_length (v : Nat) : (padOnes v).length = 1 := rfl

theorem padTens_pos (v md : Nat) : 0 < (padTens v md).length := by
  unfold padTens
  split
  · split <;> exact Nat.succ_pos _
  · exact Nat.succ_pos _

theorem padAll_pos (v md : Nat) : 0 < (padAll v md).length := by
  unfold padAll
  split
  · split
    · exact Nat.succ_pos _
    · exact padTens_pos v md
  · exact Nat.succ_pos _

theorem padOnes_spec (v pos : Nat) (out : Bytes) :
    ∃ r, uint8PadOnes v pos out = .ok r ∧ StagePost out pos (padOnes v) r := by
  unfold uint8PadOnes
  by_cases h : out.length ≤ pos
  · exact ⟨_, by simp [h], .full h (Nat.succ_pos 0)⟩
  · have hw : pos < out.length := Nat.lt_of_not_le h
    exact ⟨_, by simp only [h, if_false, wr_ok _ hw, bind_ok', pure_eq_ok]; rfl, .one _ hw⟩

theorem padTens_spec (v md pos : Nat) (out : Bytes) :
    ∃ r, uint8PadTens v md pos out = .ok r ∧ StagePost out pos (padTens v md) r := by
  unfold uint8PadTens padTens
  by_cases h : out.length ≤ pos
  · exact ⟨_, by simp [h], .full h (padTens_pos v md)⟩
  · have hw : pos < out.length := Nat.lt_of_not_le h
    simp only [h, if_false, pure_eq_ok]
    by_cases h2 : v / 10 = 0
    · by_cases h3 : 2 ≤ md
      · simp only [h2, h3, if_true, wr_ok _ hw, bind_ok']
        obtain ⟨r, hr, hp⟩ := padOnes_spec v (pos + 1) (out.set pos 0x30)
        exact ⟨r, hr, .cons hw hp⟩
      · simp only [h2, h3, if_true, if_false]
        exact padOnes_spec v pos out
    · simp only [h2, if_false, wr_ok _ hw, bind_ok']
      obtain ⟨r, hr, hp⟩ := padOnes_spec (v % 10) (pos + 1) (out.set pos (UInt8.ofNat (0x30 + v / 10)))
      exact ⟨r, hr, .cons hw hp⟩

theorem uint8ToStrPad_mirror (val pad : Nat) (out : Bytes) :
    ∃ r, uint8ToStrPad val pad out = .ok r ∧ StagePost out 0 (padAll val pad) r := by
  unfold uint8ToStrPad padAll
  by_cases h0 : out.length = 0
  · exact ⟨_, by simp [h0], .full (Nat.le_of_eq h0) (padAll_pos val pad)⟩
  · have hw : 0 < out.length := Nat.pos_of_ne_zero h0
    simp only [h0, if_false, pure_eq_ok]
    by_cases h1 : val / 100 = 0
    · by_cases h3 : 3 ≤ pad
      · simp only [h1, h3, if_true, wr_ok _ hw, bind_ok']
        obtain ⟨r, hr, hp⟩ := padTens_spec val pad 1 (out.set 0 0x30)
        exact ⟨r, hr, .cons hw hp⟩
      · simp only [h1, h3, if_true, if_false]
        exact padTens_spec val pad 0 out
    · simp only [h1, if_false, wr_ok _ hw, bind_ok']
      obtain ⟨r, hr, hp⟩ := padTens_spec (val % 100) 2 1 (out.set 0 (UInt8.ofNat (0x30 + val / 100)))
      exact ⟨r, hr, .cons hw hp⟩

end Mhd.Str
