/-
  The buffer layer keeps both windows inside the arena and never changes the dimensions of the arena:
  `Inv d` (= `CMInv` with the dimensions `d`) holds after every operation (`step_inv`, `run_inv`), and
  `CMInv` implies `WindowsInside`.  The invariant is read phase by phase (`RecvInv` while a request is
  received, `SendInv` while the reply is sent).  The pool is used through one lemma per operation that says
  what it does to `Arena d` (cursors in order, dimensions `d`) and to `Top` (the last front block).
-/
import Mhd.Model.ConnMem
import Mhd.Proofs.PoolRz
namespace Mhd.ConnMem
open Mhd.Pool

/-- the cursor part of the pool invariant (no statement about the bytes) -/
def Geo (p : Pool) : Prop :=
  p.pos ≤ p.end_ ∧ p.end_ ≤ p.size ∧ p.pos % A = 0 ∧ p.end_ % A = 0 ∧ p.size % A = 0 ∧ p.size < 2 ^ 62

/-- the inductive strengthening of `WindowsInside`: the buffer of the current phase (the read buffer while a
    request is received, the write buffer while the reply is sent) is the last front block of the pool -/
def CMInv (c : CM) : Prop :=
  Geo c.p ∧ c.poolSize ≤ c.p.size ∧
  (match c.rb with
   | none => c.rbSize = 0 ∧ c.rbOff = 0
   | some r => c.rbBase ≤ r ∧ c.rbOff ≤ c.rbSize ∧ r + c.rbSize ≤ c.p.pos) ∧
  (c.sending = false →
     c.wb = none ∧ c.wbSize = 0 ∧ c.wbApp = 0 ∧ c.wbSend = 0 ∧
     ∀ r, c.rb = some r → c.p.pos = roundUp (r + c.rbSize)) ∧
  (c.sending = true →
     match c.wb with
     | none => c.wbSize = 0 ∧ c.wbApp = 0 ∧ c.wbSend = 0
     | some w => w % A = 0 ∧ c.wbSend ≤ c.wbApp ∧ c.wbApp ≤ c.wbSize ∧ w + c.wbSize ≤ c.p.pos ∧
                 c.p.pos = roundUp (w + c.wbSize) ∧ ∀ r, c.rb = some r → r + c.rbSize ≤ w)

/-- the statement the property is about: both windows lie inside the arena, below
    the back-allocated region, with ordered cursors, and do not overlap -/
def WindowsInside (c : CM) : Prop :=
  c.p.pos ≤ c.p.end_ ∧ c.p.end_ ≤ c.p.size ∧
  c.rbOff ≤ c.rbSize ∧ c.wbSend ≤ c.wbApp ∧ c.wbApp ≤ c.wbSize ∧
  (∀ r, c.rb = some r → r + c.rbSize ≤ c.p.pos) ∧ (c.rb = none → c.rbSize = 0) ∧
  (∀ w, c.wb = some w → w + c.wbSize ≤ c.p.pos) ∧ (c.wb = none → c.wbSize = 0) ∧
  (∀ r w, c.rb = some r → c.wb = some w → 0 < c.rbSize → 0 < c.wbSize → r + c.rbSize ≤ w ∨ w + c.wbSize ≤ r)

def dims (p : Pool) : Nat × Nat := (p.size, p.mem.length)

structure Arena (d : Nat × Nat) (p : Pool) : Prop where
  geo : Geo p
  dims : dims p = d

/-- `[o, o + n)` is the last block allocated from the front -/
structure Top (p : Pool) (o n : Nat) : Prop where
  le : o + n ≤ p.pos
  eq : p.pos = roundUp (o + n)

structure Inv (d : Nat × Nat) (c : CM) : Prop where
  inv : CMInv c
  dims : dims c.p = d

variable {d : Nat × Nat}

theorem Arena.size {p : Pool} (h : Arena d p) : p.size = d.1 := congrArg Prod.fst h.dims

/-- while a request is received: no write buffer; the read buffer is the last front block -/
structure RecvInv (d : Nat × Nat) (c : CM) : Prop where
  arena : Arena d c.p
  pool : c.poolSize ≤ d.1
  nowb : c.wb = none ∧ c.wbSize = 0 ∧ c.wbApp = 0 ∧ c.wbSend = 0
  rd : match c.rb with
    | none => c.rbSize = 0 ∧ c.rbOff = 0
    | some r => c.rbBase ≤ r ∧ c.rbOff ≤ c.rbSize ∧ Top c.p r c.rbSize

/-- while the reply is sent: the write buffer, if any, is the last front block, above the read buffer -/
structure SendInv (d : Nat × Nat) (c : CM) : Prop where
  arena : Arena d c.p
  pool : c.poolSize ≤ d.1
  rd : match c.rb with
    | none => c.rbSize = 0 ∧ c.rbOff = 0
    | some r => c.rbBase ≤ r ∧ c.rbOff ≤ c.rbSize ∧ r + c.rbSize ≤ c.p.pos
  wr : match c.wb with
    | none => c.wbSize = 0 ∧ c.wbApp = 0 ∧ c.wbSend = 0
    | some w => w % A = 0 ∧ c.wbSend ≤ c.wbApp ∧ c.wbApp ≤ c.wbSize ∧ w + c.wbSize ≤ c.p.pos ∧
                c.p.pos = roundUp (w + c.wbSize) ∧ ∀ r, c.rb = some r → r + c.rbSize ≤ w

theorem Inv.recv {c : CM} (h : Inv d c) (hs : c.sending = false) : RecvInv d c := by
  obtain ⟨⟨hg, hp, hrb, hr, _⟩, rfl⟩ := h
  obtain ⟨w0, w1, w2, w3, w4⟩ := hr hs
  refine ⟨⟨hg, rfl⟩, hp, ⟨w0, w1, w2, w3⟩, ?_⟩
  cases hb : c.rb with
  | none => rw [hb] at hrb; exact hrb
  | some r => rw [hb] at hrb; exact ⟨hrb.1, hrb.2.1, hrb.2.2, w4 r hb⟩

theorem RecvInv.window {c : CM} {r : Nat} (f : RecvInv d c) (hb : c.rb = some r) :
    c.rbBase ≤ r ∧ c.rbOff ≤ c.rbSize ∧ Top c.p r c.rbSize := by
  have := f.rd; rwa [hb] at this

theorem RecvInv.toSend {c : CM} (f : RecvInv d c) : SendInv d c := by
  refine ⟨f.arena, f.pool, ?_, ?_⟩
  · have := f.rd
    cases hb : c.rb with
    | none => rw [hb] at this; exact this
    | some r => rw [hb] at this; exact ⟨this.1, this.2.1, this.2.2.le⟩
  · rw [f.nowb.1]; exact f.nowb.2

theorem RecvInv.inv {c : CM} (f : RecvInv d c) (hs : c.sending = false) : Inv d c :=
  ⟨⟨f.arena.geo, f.arena.size ▸ f.pool, f.toSend.rd,
    fun _ => ⟨f.nowb.1, f.nowb.2.1, f.nowb.2.2.1, f.nowb.2.2.2, fun _ hb => (f.window hb).2.2.eq⟩,
    fun h => Bool.noConfusion (hs.symm.trans h)⟩, f.arena.dims⟩

theorem Inv.send {c : CM} (h : Inv d c) (hs : c.sending = true) : SendInv d c :=
  ⟨⟨h.inv.1, h.dims⟩, h.dims ▸ h.inv.2.1, h.inv.2.2.1, h.inv.2.2.2.2 hs⟩

theorem SendInv.inv {c : CM} (f : SendInv d c) (hs : c.sending = true) : Inv d c :=
  ⟨⟨f.arena.geo, f.arena.size ▸ f.pool, f.rd, fun h => Bool.noConfusion (hs.symm.trans h), fun _ => f.wr⟩, f.arena.dims⟩

theorem SendInv.window {c : CM} {w : Nat} (f : SendInv d c) (hb : c.wb = some w) :
    w % A = 0 ∧ c.wbSend ≤ c.wbApp ∧ c.wbApp ≤ c.wbSize ∧ Top c.p w c.wbSize ∧ ∀ r, c.rb = some r → r + c.rbSize ≤ w := by
  have := f.wr; rw [hb] at this
  exact ⟨this.1, this.2.1, this.2.2.1, ⟨this.2.2.2.1, this.2.2.2.2.1⟩, this.2.2.2.2.2⟩


theorem SendInv.windows {c : CM} (f : SendInv d c) : WindowsInside c := by
  have hrb := f.rd
  have hw := f.wr
  have hrd : c.rbOff ≤ c.rbSize ∧ (∀ r, c.rb = some r → r + c.rbSize ≤ c.p.pos) ∧ (c.rb = none → c.rbSize = 0) := by
    cases hb : c.rb with
    | none => rw [hb] at hrb; exact ⟨by omega, fun _ h => (nomatch h), fun _ => hrb.1⟩
    | some r => rw [hb] at hrb; exact ⟨hrb.2.1, fun _ h => (by cases h; exact hrb.2.2), fun h => (nomatch h)⟩
  have hwr : c.wbSend ≤ c.wbApp ∧ c.wbApp ≤ c.wbSize ∧ (c.wb = none → c.wbSize = 0) ∧
      ∀ w, c.wb = some w → w + c.wbSize ≤ c.p.pos ∧ ∀ r, c.rb = some r → r + c.rbSize ≤ w := by
    cases hwb : c.wb with
    | none => rw [hwb] at hw; exact ⟨by omega, by omega, fun _ => hw.1, fun _ h => (nomatch h)⟩
    | some w =>
      rw [hwb] at hw
      exact ⟨hw.2.1, hw.2.2.1, fun h => (nomatch h), fun _ h => by cases h; exact ⟨hw.2.2.2.1, hw.2.2.2.2.2⟩⟩
  exact ⟨f.arena.geo.1, f.arena.geo.2.1, hrd.1, hwr.1, hwr.2.1, hrd.2.1, hrd.2.2, fun w hw => (hwr.2.2.2 w hw).1, hwr.2.2.1,
    fun r w hb hw _ _ => .inl ((hwr.2.2.2 w hw).2 r hb)⟩

/-- what is asked of the sending phase is the weaker of the two readings -/
theorem windows_of_inv (c : CM) (h : CMInv c) : WindowsInside c := by
  cases hs : c.sending with
  | false => exact (Inv.recv ⟨h, rfl⟩ hs).toSend.windows
  | true => exact (Inv.send ⟨h, rfl⟩ hs).windows

/-! `omega` is given the order facts and the alignment facts separately, and `roundUp` only through
`roundUp_lt`: with all of them in one context it is slow. -/

theorem Geo.bounds {p : Pool} (h : Geo p) : p.pos ≤ p.end_ ∧ p.end_ ≤ p.size ∧ p.size < 2 ^ 62 :=
  ⟨h.1, h.2.1, h.2.2.2.2.2⟩

theorem Geo.aligned {p : Pool} (h : Geo p) : p.pos % 16 = 0 ∧ p.end_ % 16 = 0 ∧ p.size % 16 = 0 :=
  ⟨h.2.2.1, h.2.2.2.1, h.2.2.2.2.1⟩

/-- `ROUND_TO_ALIGN` away from the wrap-around -/
theorem roundUp_lt (n : Nat) (h : n < 2 ^ 62) : n ≤ roundUp n ∧ roundUp n < n + 16 ∧ roundUp n % 16 = 0 :=
  roundUp_spec n (by rw [W_eq]; show n + 15 < 2 ^ 64; omega)

theorem roundUp_mono {a b : Nat} (h : a ≤ b) (hs : b < 2 ^ 62) : roundUp a ≤ roundUp b :=
  have r := roundUp_lt b (by omega)
  roundUp_le _ _ (Nat.le_trans h r.1) r.2.2

theorem roundUp_add {a n : Nat} (ha : a % 16 = 0) (hs : a + n < 2 ^ 62) : roundUp (a + n) = a + roundUp n := by
  have r1 := roundUp_lt n (by omega)
  have r2 := roundUp_lt (a + n) (by omega)
  omega

theorem mod_W {n : Nat} (h : n < 2 ^ 62) : n % W = n := Nat.mod_eq_of_lt (Nat.lt_trans h (by decide))

theorem Geo.small {p : Pool} (h : Geo p) {n : Nat} (hn : n ≤ p.end_) : n < 2 ^ 62 :=
  Nat.lt_of_le_of_lt (Nat.le_trans hn h.2.1) h.2.2.2.2.2

theorem Geo.round {p : Pool} (h : Geo p) {n : Nat} (hn : n ≤ p.end_) :
    n ≤ roundUp n ∧ roundUp n ≤ p.end_ ∧ roundUp n % 16 = 0 :=
  have r := roundUp_lt n (h.small hn)
  ⟨r.1, roundUp_le _ _ hn h.2.2.2.1, r.2.2⟩

theorem Geo.mod_W {p : Pool} (h : Geo p) {n : Nat} (hn : n ≤ p.end_) : n % W = n :=
  Mhd.ConnMem.mod_W (h.small hn)

variable {p : Pool}

theorem Arena.takeEnd (h : Arena d p) {a : Nat} (ha : a % 16 = 0) (hle : a ≤ p.end_ - p.pos) :
    Arena d { p with end_ := p.end_ - a } := by
  have hb := h.geo.bounds
  exact ⟨⟨by show p.pos ≤ p.end_ - a; omega, by show p.end_ - a ≤ p.size; omega, h.geo.2.2.1,
    aligned_sub h.geo.2.2.2.1 ha, h.geo.2.2.2.2⟩, h.dims⟩

theorem Top.frame {p' : Pool} {o n : Nat} (t : Top p o n) (e : p'.pos = p.pos) : Top p' o n :=
  ⟨e ▸ t.le, e ▸ t.eq⟩

theorem allocate_end (p : Pool) (n : Nat) (h : Arena d p) :
    Arena d (allocate p n true).1 ∧ (allocate p n true).1.pos = p.pos := by
  unfold allocate
  by_cases h1 : (roundUp n = 0 ∧ n ≠ 0)
  · rw [if_pos h1]; exact ⟨h, rfl⟩
  · by_cases h2 : roundUp n > p.end_ - p.pos
    · rw [if_neg h1, if_pos h2]; exact ⟨h, rfl⟩
    · rw [if_neg h1, if_neg h2]
      exact ⟨h.takeEnd (roundUp_aligned n) (by omega), rfl⟩

theorem tryAlloc_cases (p : Pool) (n : Nat) (h : Arena d p) :
    (∃ need, tryAlloc p n = (p, none, need)) ∨
    (∃ p' off, tryAlloc p n = (p', some off, none) ∧ Arena d p' ∧ p'.pos = p.pos) := by
  unfold tryAlloc
  by_cases h1 : (roundUp n = 0 ∧ n ≠ 0)
  · left; rw [if_pos h1]; exact ⟨_, rfl⟩
  · by_cases h2 : roundUp n > p.end_ - p.pos
    · left; rw [if_neg h1, if_pos h2]; split <;> exact ⟨_, rfl⟩
    · right
      rw [if_neg h1, if_neg h2]
      exact ⟨_, _, rfl, h.takeEnd (roundUp_aligned n) (by omega), rfl⟩

theorem realloc_none (p : Pool) (n : Nat) (h : Arena d p) (hn : n ≤ p.end_ - p.pos) :
    (reallocate p none 0 n = (p, none) ∧ p.end_ - p.pos < roundUp n) ∨
    ∃ p', reallocate p none 0 n = (p', some p.pos) ∧ Arena d p' ∧ Top p' p.pos n := by
  have hb := h.geo.bounds
  have r := h.geo.round (Nat.le_trans hn (Nat.sub_le _ _))
  unfold reallocate
  simp only
  by_cases hf : roundUp n > p.end_ - p.pos
  · left; simp [hf]
  · right
    rw [if_neg (by omega)]
    exact ⟨_, rfl, ⟨⟨by show p.pos + roundUp n ≤ p.end_; omega, h.geo.2.1, aligned_add h.geo.2.2.1 r.2.2, h.geo.2.2.2⟩,
      h.dims⟩, Nat.add_le_add_left r.1 _, (roundUp_add h.geo.aligned.1 (h.geo.small (by omega))).symm⟩

/-- the `size_t` subtraction in the in-place guard of `reallocate` does not wrap -/
theorem sub_mod_W {e o : Nat} (ho : o ≤ e) (he : e < 2 ^ 62) : (e + W - o) % W = e - o := by
  rw [show e + W - o = e - o + W by omega, Nat.add_mod_right, mod_W (Nat.lt_of_le_of_lt (Nat.sub_le e o) he)]

theorem Arena.setPos (h : Arena d p) {x : Nat} (hx : x ≤ p.end_) {m : List UInt8} (hm : m.length = p.mem.length) :
    Arena d { p with pos := roundUp x, mem := m } :=
  ⟨⟨(h.geo.round hx).2.1, h.geo.2.1, (h.geo.round hx).2.2, h.geo.2.2.2⟩, (congrArg (Prod.mk p.size) hm).trans h.dims⟩

theorem Top.resize_fit {o os : Nat} (t : Top p o os) (h : Arena d p) {n : Nat} (hfit : o + n ≤ p.end_) :
    ∃ p', reallocate p (some o) os n = (p', some o) ∧ Arena d p' ∧ Top p' o n ∧ (os ≤ n → p'.mem = p.mem) := by
  have hoe : o + os ≤ p.end_ := Nat.le_trans t.le h.geo.1
  have hmod := h.geo.mod_W hoe
  have hm2 := h.geo.mod_W hfit
  have hl := t.eq
  refine ⟨{ p with pos := roundUp (o + n), mem := Mhd.PoolRz.shrinkMem p.mem o os n }, ?_,
    h.setPos hfit (Mhd.PoolRz.shrinkMem_length ..), ⟨(h.geo.round hfit).1, rfl⟩,
    fun hle => if_neg (Nat.not_lt.mpr hle)⟩
  by_cases hs : os > n
  · simp [reallocate, Mhd.PoolRz.shrinkMem, hs, hmod, ← hl, hm2]
  · have hsub : (p.end_ + W - o) % W = p.end_ - o :=
      sub_mod_W (Nat.le_trans (Nat.le_add_right o os) hoe) (h.geo.small (Nat.le_refl _))
    have g : ¬ (roundUp (o + n) > p.end_ ∨ roundUp (o + n) < p.pos ∨ n > p.end_ - o) := by
      have := (h.geo.round hfit).2.1
      have := hl ▸ roundUp_mono (Nat.add_le_add_left (Nat.le_of_not_gt hs) o) (h.geo.small hfit)
      omega
    simp [reallocate, Mhd.PoolRz.shrinkMem, hs, hmod, ← hl, hsub, hm2, g]

theorem Top.resize {o os : Nat} (t : Top p o os) (h : Arena d p) (n : Nat) :
    reallocate p (some o) os n = (p, none) ∨
    ∃ p', reallocate p (some o) os n = (p', some o) ∧ Arena d p' ∧ Top p' o n ∧ (os ≤ n → p'.mem = p.mem) := by
  by_cases hfit : o + n ≤ p.end_
  · exact .inr (t.resize_fit h hfit)
  · have hoe : o + os ≤ p.end_ := Nat.le_trans t.le h.geo.1
    have hsub : (p.end_ + W - o) % W = p.end_ - o :=
      sub_mod_W (Nat.le_trans (Nat.le_add_right o os) hoe) (h.geo.small (Nat.le_refl _))
    obtain ⟨hs, g⟩ : ¬ os > n ∧ n > p.end_ - o := by omega
    exact .inl (by simp [reallocate, hs, h.geo.mod_W hoe, ← t.eq, hsub, g])

theorem isResizable_iff (p : Pool) (o n : Nat) (h : o + n < 2 ^ 62) :
    isResizableInplace p (some o) n = true ↔ p.pos = roundUp (o + n) := by
  unfold isResizableInplace
  simp only [beq_iff_eq]
  rw [mod_W h]

theorem dealloc_front (p : Pool) (r n : Nat) (h : Arena d p) (hn : 0 < n) (hr : r + n ≤ p.pos) :
    Arena d (deallocate p (some r) n) := by
  have hb := h.geo.bounds
  have hn0 : ¬ n = 0 := by omega
  have hle : r ≤ p.pos := by omega
  by_cases hl : roundUp ((r + n) % W) = p.pos
  · have e : deallocate p (some r) n = { p with pos := roundUp r, mem := zeroRange p.mem r n } := by
      unfold deallocate; simp [hn0, hle, hl]
    rw [e]
    exact h.setPos (Nat.le_trans hle hb.1) (zeroRange_length ..)
  · have e : deallocate p (some r) n = { p with mem := zeroRange p.mem r n } := by
      unfold deallocate; simp [hn0, hle, hl]
    rw [e]
    exact ⟨h.geo, (congrArg (Prod.mk p.size) (zeroRange_length ..)).trans h.dims⟩

theorem reset_dims (p : Pool) (k : Option Nat) (c n : Nat) : dims (Mhd.Pool.reset p k c n) = dims p := by
  unfold Mhd.Pool.reset resetMove dims
  dsimp only
  repeat' split
  all_goals simp only [zeroRange_length, writeAt_length]

theorem reset_top (p : Pool) (keep : Option Nat) (copy n : Nat) (h : Arena d p) (hn : n ≤ p.size) :
    Arena d (Mhd.Pool.reset p keep copy n) ∧ Top (Mhd.Pool.reset p keep copy n) 0 n := by
  have hb := h.geo.bounds
  have r := roundUp_lt n (by omega)
  exact ⟨⟨⟨roundUp_le _ _ hn h.geo.2.2.2.2.1, Nat.le_refl _, r.2.2, h.geo.2.2.2.2.1, h.geo.2.2.2.2⟩,
    (reset_dims ..).trans h.dims⟩, (Nat.zero_add n).symm ▸ r.1, congrArg roundUp (Nat.zero_add n).symm⟩

/-- what `try_grow_read_buffer` adds to the window: at most the free space, and — with the guard
    `if (0 == small_inc) small_inc = 1`, or when `pool_increment` is not 1 … 7 — at least one byte -/
theorem growSizeG_add (m : Bool) (c : CM) (req : Bool) (n : Nat) (hg : Geo c.p) (h : growSizeG m c req = some n) :
    ∃ d, n = c.rbSize + d ∧ d ≤ getFree c.p ∧ ((m = true ∨ c.inc = 0 ∨ 8 ≤ c.inc) → 0 < d) := by
  have hav : getFree c.p ≠ 0 → 16 ≤ getFree c.p := by
    have := hg.bounds; have := hg.aligned; show c.p.end_ - c.p.pos ≠ 0 → 16 ≤ c.p.end_ - c.p.pos; omega
  clear hg
  unfold growSizeG at h
  dsimp only at h
  generalize getFree c.p = avail at h hav ⊢
  by_cases h0 : avail = 0
  · rw [if_pos h0] at h; cases h
  rw [if_neg h0] at h
  have hav := hav h0
  by_cases h1 : c.rbSize = 0
  · rw [if_pos h1] at h; cases h
    exact ⟨avail / 2, by omega, by omega, fun _ => by omega⟩
  rw [if_neg h1] at h
  by_cases h2 : c.inc > avail / 8
  · rw [if_pos h2] at h
    by_cases h3 : c.inc ≤ avail / 8 + (c.rbSize - c.rbOff) ∧ c.rbSize - c.rbOff < c.inc
    · rw [if_pos h3] at h; cases h
      exact ⟨_, rfl, by omega, fun _ => by omega⟩
    · rw [if_neg h3] at h
      cases req with
      | false => cases h
      | true =>
        simp only [Bool.not_true, Bool.false_eq_true, ↓reduceIte] at h
        have key : ∀ si : Nat, ((m = true ∨ c.inc = 0 ∨ 8 ≤ c.inc) → 0 < si) →
            (if si < avail then some (c.rbSize + si) else some (c.rbSize + avail)) = some n →
            ∃ d, n = c.rbSize + d ∧ d ≤ avail ∧ ((m = true ∨ c.inc = 0 ∨ 8 ≤ c.inc) → 0 < d) := by
          intro si hpos hh
          split at hh <;> cases hh
          · exact ⟨si, rfl, by omega, hpos⟩
          · exact ⟨avail, rfl, Nat.le_refl _, fun _ => by omega⟩
        refine key _ (fun hm => ?_) h
        have hq : 8 ≤ c.inc → 8 ≤ (if Mhd.Gen.ConnMem.bufIncSize > c.inc then c.inc else Mhd.Gen.ConnMem.bufIncSize) := by
          intro _; split
          · assumption
          · decide
        generalize (if Mhd.Gen.ConnMem.bufIncSize > c.inc then c.inc else Mhd.Gen.ConnMem.bufIncSize) = q at hq ⊢
        by_cases h5 : m = true ∧ q / 8 = 0
        · rw [if_pos h5]; exact Nat.one_pos
        · rw [if_neg h5]
          rcases hm with hm | hm | hm
          · exact Nat.pos_of_ne_zero fun hh => h5 ⟨hm, hh⟩
          · omega
          · have := hq hm; omega
  · rw [if_neg h2] at h; cases h
    exact ⟨avail / 8, rfl, by omega, fun _ => by omega⟩

/-- the code as it is: the guard is present (regenerated behaviour probe `growMinOne`) -/
theorem growSize_bounds (c : CM) (req : Bool) (n : Nat) (hg : Geo c.p) (h : growSize c req = some n) :
    c.rbSize < n ∧ n ≤ c.rbSize + getFree c.p := by
  obtain ⟨d, rfl, hd, hpos⟩ := growSizeG_add _ c req n hg h
  have := hpos (.inl rfl)
  omega

def Op.Valid : Op → Prop
  | .alloc n => n < W
  | _ => True

/-- `recv` and `bodyDrop` move the fill level inside the window -/
theorem Inv.setOff {c : CM} (h : Inv d c) (hs : (!c.sending) = true) (hb : c.rb.isSome = true) (off' : Nat)
    (hle : c.rbOff ≤ c.rbSize → off' ≤ c.rbSize) : Inv d { c with rbOff := off' } := by
  have hs : c.sending = false := by simpa using hs
  obtain ⟨r, hb⟩ := Option.isSome_iff_exists.mp hb
  have f := h.recv hs
  have fr := f.window hb
  refine RecvInv.inv ⟨f.arena, f.pool, f.nowb, ?_⟩ hs
  dsimp only; rw [hb]
  exact ⟨fr.1, hle fr.2.1, fr.2.2⟩

theorem step_recv (c : CM) (k : Nat) (h : Inv d c) : Inv d (step c (.recv k)).1 := by
  simp only [step]
  split
  · rename_i hc; exact h.setOff hc.1 hc.2.1 _ fun _ => by have := hc.2.2; omega
  · exact h

theorem step_bodyDrop (c : CM) (k : Nat) (h : Inv d c) : Inv d (step c (.bodyDrop k)).1 := by
  simp only [step]
  split
  · rename_i hc; exact h.setOff hc.1 hc.2.1 _ fun hle => Nat.le_trans (Nat.sub_le _ _) hle
  · exact h

/-- `consume` and `shiftBack` move the start of the read window; its end `r + rbSize` stays -/
theorem Inv.rewindow {c : CM} {r : Nat} (h : Inv d c) (hs : (!c.sending) = true) (hb : c.rb = some r)
    (r' size' off' : Nat)
    (hw : c.rbBase ≤ r → c.rbOff ≤ c.rbSize → r' + size' = r + c.rbSize ∧ c.rbBase ≤ r' ∧ off' ≤ size') :
    Inv d { c with rb := some r', rbSize := size', rbOff := off' } := by
  have hs : c.sending = false := by simpa using hs
  have f := h.recv hs
  have fr := f.window hb
  obtain ⟨he, h1, h2⟩ := hw fr.1 fr.2.1
  refine RecvInv.inv ⟨f.arena, f.pool, f.nowb, h1, h2, ?_⟩ hs
  exact ⟨he ▸ fr.2.2.le, he ▸ fr.2.2.eq⟩

theorem step_consume (c : CM) (k : Nat) (h : Inv d c) : Inv d (step c (.consume k)).1 := by
  simp only [step]
  cases hb : c.rb with
  | none => exact h
  | some r =>
    dsimp only
    split
    · rename_i hc; exact h.rewindow hc.1 hb _ _ _ fun _ _ => by have := hc.2; omega
    · exact h

theorem step_shiftBack (c : CM) (k : Nat) (h : Inv d c) : Inv d (step c (.shiftBack k)).1 := by
  simp only [step]
  cases hb : c.rb with
  | none => exact h
  | some r =>
    dsimp only
    split
    · rename_i hc; exact h.rewindow hc.1 hb _ _ c.rbOff fun _ _ => by have := hc.2; omega
    · exact h

theorem step_wAppend (c : CM) (k : Nat) (h : Inv d c) : Inv d (step c (.wAppend k)).1 := by
  simp only [step]
  split
  · rename_i hc
    obtain ⟨w, hb⟩ := Option.isSome_iff_exists.mp hc.2.1
    have f := h.send hc.1
    have fw := f.wr
    rw [hb] at fw
    refine SendInv.inv ⟨f.arena, f.pool, f.rd, ?_⟩ hc.1
    dsimp only; rw [hb]
    exact ⟨fw.1, by omega, by omega, fw.2.2.2⟩
  · exact h

theorem step_wSend (c : CM) (k : Nat) (h : Inv d c) : Inv d (step c (.wSend k)).1 := by
  simp only [step]
  split
  · rename_i hc
    have f := h.send hc.1
    have fw := f.wr
    refine SendInv.inv ⟨f.arena, f.pool, f.rd, ?_⟩ hc.1
    dsimp only
    cases hb : c.wb with
    | none => rw [hb] at fw; exact ⟨fw.1, fw.2.1, by omega⟩
    | some w => rw [hb] at fw; exact ⟨fw.1, by omega, fw.2.2⟩
  · exact h

theorem step_grow (c : CM) (req : Bool) (h : Inv d c) : Inv d (step c (.grow req)).1 := by
  simp only [step]
  cases hs : c.sending with
  | true => exact h
  | false =>
    simp only [Bool.false_eq_true, ↓reduceIte]
    unfold grow
    cases hgs : growSize c req with
    | none => exact h
    | some newSize =>
      have f := h.recv hs
      have hn := growSize_bounds c req newSize f.arena.geo hgs
      cases hrb : c.rb with
      | none =>
        have hz := f.rd
        rw [hrb] at hz
        simp only [Option.isSome_none, Bool.false_eq_true, false_and, ↓reduceIte]
        rw [hz.1] at hn ⊢
        rcases realloc_none c.p newSize f.arena (by have : getFree c.p = c.p.end_ - c.p.pos := rfl; omega) with
          ⟨he, _⟩ | ⟨p', he, ha, ht⟩
        · rw [he]; exact h
        · rw [he]
          exact RecvInv.inv ⟨ha, f.pool, f.nowb, Nat.le_refl _, hz.2 ▸ Nat.zero_le _, ht⟩ hs
      | some r =>
        have fr := f.window hrb
        simp only [Option.isSome_some, true_and]
        by_cases hres : isResizableInplace c.p (some r) c.rbSize = true
        · simp only [hres, Bool.not_true, Bool.false_eq_true, ↓reduceIte]
          rcases fr.2.2.resize f.arena newSize with he | ⟨p', he, ha, ht, _⟩
          · rw [he]; exact h
          · rw [he]
            exact RecvInv.inv ⟨ha, f.pool, f.nowb, fr.1, Nat.le_trans fr.2.1 (Nat.le_of_lt hn.1), ht⟩ hs
        · simp only [hres, Bool.not_false, ↓reduceIte]; exact h

theorem step_errRelease (c : CM) (h : Inv d c) : Inv d (step c .errRelease).1 := by
  simp only [step]
  cases hs : c.sending with
  | true => exact h
  | false =>
    simp only [Bool.false_eq_true, ↓reduceIte]
    have f := h.recv hs
    split
    · rename_i hz
      cases hb : c.rb with
      | none => have := f.rd; rw [hb] at this; omega
      | some r =>
        have d := dealloc_front c.p r c.rbSize f.arena (by omega) (f.window hb).2.2.le
        exact SendInv.inv ⟨d, f.pool, ⟨rfl, rfl⟩, by dsimp only; rw [f.nowb.1]; exact f.nowb.2⟩ rfl
    · exact SendInv.inv ⟨f.arena, f.pool, f.toSend.rd, f.toSend.wr⟩ rfl

theorem step_errReset (c : CM) (h : Inv d c) : Inv d (step c .errReset).1 := by
  simp only [step]
  cases hs : c.sending with
  | false => exact h
  | true =>
    simp only [Bool.not_true, Bool.false_eq_true, ↓reduceIte]
    have f := h.send hs
    have g := reset_top c.p none 0 0 f.arena (Nat.zero_le _)
    exact SendInv.inv ⟨g.1, f.pool, ⟨Nat.le_refl _, Nat.le_refl _, Nat.zero_le _⟩, ⟨rfl, rfl, rfl⟩⟩ rfl

theorem step_resetConn (c : CM) (h : Inv d c) : Inv d (step c .resetConn).1 := by
  simp only [step]
  split
  · rename_i hc
    have f := h.send hc.1
    have hb := f.arena.geo.bounds
    have hoff : c.rbOff ≤ c.p.size := by
      have := f.rd
      cases hrb : c.rb with
      | none => rw [hrb] at this; omega
      | some r => rw [hrb] at this; omega
    unfold resetConn
    dsimp only
    have hnew : (if c.rbOff > c.poolSize / 2 then c.rbOff else c.poolSize / 2) ≤ c.p.size := by
      have := f.arena.size ▸ f.pool; split <;> omega
    have g := reset_top c.p c.rb c.rbOff _ f.arena hnew
    refine RecvInv.inv ⟨g.1, f.pool, ⟨rfl, rfl, rfl, rfl⟩, Nat.le_refl _, ?_, g.2⟩ rfl
    dsimp only; split <;> omega
  · exact h

theorem SendInv.rdBelow {c : CM} (f : SendInv d c) {q : Nat} (hq : ∀ r, c.rb = some r → r + c.rbSize ≤ q) :
    match c.rb with
    | none => c.rbSize = 0 ∧ c.rbOff = 0
    | some r => c.rbBase ≤ r ∧ c.rbOff ≤ c.rbSize ∧ r + c.rbSize ≤ q := by
  have := f.rd
  cases hb : c.rb with
  | none => rw [hb] at this; exact this
  | some r => rw [hb] at this; exact ⟨this.1, this.2.1, hq r hb⟩

theorem step_shrinkRead (c : CM) (h : Inv d c) : Inv d (step c .shrinkRead).1 := by
  simp only [step]
  cases hs : c.sending with
  | true => exact h
  | false =>
    simp only [Bool.false_eq_true, ↓reduceIte]
    have f := h.recv hs
    unfold shrinkRead
    cases hrb : c.rb with
    | none => exact SendInv.inv ⟨f.arena, f.pool, f.toSend.rd, f.toSend.wr⟩ rfl
    | some r =>
      dsimp only
      have fr := f.window hrb
      split
      · exact SendInv.inv ⟨f.arena, f.pool, f.toSend.rd, f.toSend.wr⟩ rfl
      · split
        · rename_i hz ho
          have d := dealloc_front c.p r c.rbSize f.arena (Nat.pos_of_ne_zero hz) fr.2.2.le
          exact SendInv.inv ⟨d, f.pool, ⟨rfl, ho⟩, by dsimp only; rw [f.nowb.1]; exact f.nowb.2⟩ rfl
        · have hfit : r + c.rbOff ≤ c.p.end_ :=
            Nat.le_trans (Nat.add_le_add_left fr.2.1 r) (Nat.le_trans fr.2.2.le f.arena.geo.1)
          obtain ⟨p', he, ha, ht, _⟩ := fr.2.2.resize_fit f.arena hfit
          rw [he]
          exact SendInv.inv ⟨ha, f.pool, ⟨fr.1, Nat.le_refl _, ht.le⟩,
            by dsimp only; rw [f.nowb.1]; exact f.nowb.2⟩ rfl

theorem step_maxWrite (c : CM) (h : Inv d c) : Inv d (step c .maxWrite).1 := by
  simp only [step]
  cases hs : c.sending with
  | false => exact h
  | true =>
    simp only [Bool.not_true, Bool.false_eq_true, ↓reduceIte]
    have f := h.send hs
    have hb := f.arena.geo.bounds
    have hfr : getFree c.p = c.p.end_ - c.p.pos := rfl
    unfold maxWrite
    dsimp only
    split
    · cases hw : c.wb with
      | none =>
        have hz := f.wr
        rw [hw] at hz
        have hal : getFree c.p % 16 = 0 := aligned_sub f.arena.geo.2.2.2.1 f.arena.geo.2.2.1
        have hr := roundUp_of_aligned _ hal (Nat.lt_trans (f.arena.geo.small (Nat.sub_le _ _)) (by decide))
        rcases realloc_none c.p (getFree c.p) f.arena (Nat.le_refl _) with ⟨_, hc⟩ | ⟨p', he, ha, ht⟩
        · omega
        rw [hz.1, Nat.zero_add, he]
        dsimp only
        rw [if_pos (hz.2.2.trans hz.2.1.symm)]
        have := f.rd
        exact SendInv.inv ⟨ha, f.pool, f.rdBelow fun r hb' => by rw [hb'] at this; exact Nat.le_trans this.2.2 (Nat.le_trans (Nat.le_add_right ..) ht.le),
          f.arena.geo.2.2.1, Nat.le_refl _, Nat.zero_le _, ht.le, ht.eq, fun r hb' => by rw [hb'] at this; exact this.2.2⟩ hs
      | some w =>
        have fw := f.window hw
        have hfit : w + (c.wbSize + getFree c.p) ≤ c.p.end_ := by have := fw.2.2.2.1.le; omega
        obtain ⟨p', he, ha, ht, _⟩ := fw.2.2.2.1.resize_fit f.arena hfit
        rw [he]
        have hrd := f.rdBelow (q := p'.pos) fun r hb' => by
          have := fw.2.2.2.2 r hb'; have := ht.le; omega
        dsimp only
        split
        · exact SendInv.inv ⟨ha, f.pool, hrd, fw.1, Nat.le_refl _, Nat.zero_le _, ht.le, ht.eq, fw.2.2.2.2⟩ hs
        · exact SendInv.inv ⟨ha, f.pool, hrd, fw.1, fw.2.1, by show c.wbApp ≤ c.wbSize + getFree c.p; omega,
            ht.le, ht.eq, fw.2.2.2.2⟩ hs
    · exact h

theorem Inv.swap {c : CM} {p' : Pool} (h : Inv d c) (ha : Arena d p') (hpos : p'.pos = c.p.pos) :
    Inv d { c with p := p' } := by
  obtain ⟨⟨_, hp, hrb, hr, hs⟩, hd⟩ := h
  refine ⟨⟨ha.geo, (ha.size.trans (congrArg Prod.fst hd).symm) ▸ hp, ?_, fun hsd => ?_, fun hsd => ?_⟩, ha.dims⟩ <;>
    dsimp only <;> rw [hpos]
  · exact hrb
  · exact hr hsd
  · exact hs hsd

theorem resizable_none (p : Pool) (n : Nat) : isResizableInplace p none n = false := rfl

/-- `MHD_connection_alloc_memory_` after `try_alloc` failed: the last front block `[o, o + os)` gives up
    `k` bytes of its free tail, then the allocation is made from the end -/
theorem Top.shrink_alloc {o os : Nat} (t : Top p o os) (h : Arena d p) (k n : Nat) :
    ∃ p1, reallocate p (some o) os (os - k) = (p1, some o) ∧ Arena d (allocate p1 n true).1 ∧
      Top (allocate p1 n true).1 o (os - k) := by
  obtain ⟨p1, he, ha, ht, _⟩ := t.resize_fit h (n := os - k)
    (Nat.le_trans (Nat.add_le_add_left (Nat.sub_le os k) o) (Nat.le_trans t.le h.geo.1))
  have a := allocate_end p1 n ha
  exact ⟨p1, he, a.1, ht.frame a.2⟩

theorem step_alloc (c : CM) (n : Nat) (h : Inv d c) : Inv d (step c (.alloc n)).1 := by
  simp only [step]
  unfold allocMem
  have har : Arena d c.p := ⟨h.inv.1, h.dims⟩
  rcases tryAlloc_cases c.p n har with ⟨need, he⟩ | ⟨p', off, he, ha', hpos⟩
  · rw [he]
    cases need with
    | none => exact h
    | some need =>
      dsimp only
      split
      · rename_i hrw
        split
        · rename_i hroom
          cases hw : c.wb with
          | none => rw [hw, resizable_none] at hrw; cases hrw
          | some w =>
            cases hs : c.sending with
            | false => have := (h.recv hs).nowb.1; rw [hw] at this; cases this
            | true =>
              have f := h.send hs
              have fw := f.window hw
              obtain ⟨p1, he1, ha1, ht1⟩ := fw.2.2.2.1.shrink_alloc har need n
              rw [he1]
              exact SendInv.inv ⟨ha1, f.pool, f.rdBelow fun r hb' =>
                  Nat.le_trans (fw.2.2.2.2 r hb') (Nat.le_trans (Nat.le_add_right ..) ht1.le),
                fw.1, fw.2.1, by show c.wbApp ≤ c.wbSize - need; omega, ht1.le, ht1.eq, fw.2.2.2.2⟩ rfl
        · exact h
      · rename_i hrw
        split
        · rename_i hrr
          split
          · rename_i hroom
            cases hrb : c.rb with
            | none => rw [hrb, resizable_none] at hrr; cases hrr
            | some r =>
              rw [hrb] at hrr
              cases hs : c.sending with
              | false =>
                have f := h.recv hs
                have fr := f.window hrb
                obtain ⟨p1, he1, ha1, ht1⟩ := fr.2.2.shrink_alloc har need n
                rw [he1]
                exact RecvInv.inv ⟨ha1, f.pool, f.nowb, fr.1, by show c.rbOff ≤ c.rbSize - need; omega, ht1⟩ rfl
              | true =>
                have f := h.send hs
                have fr := f.rd
                rw [hrb] at fr
                have hlast : c.p.pos = roundUp (r + c.rbSize) :=
                  (isResizable_iff c.p r c.rbSize (har.geo.small (Nat.le_trans fr.2.2 har.geo.1))).mp hrr
                -- the write buffer cannot exist here: it would be the last block and the first branch would apply
                have hwn : c.wb = none := by
                  cases hw : c.wb with
                  | none => rfl
                  | some w =>
                    have fw := f.window hw
                    rw [hw] at hrw
                    exact absurd ((isResizable_iff c.p w c.wbSize
                      (har.geo.small (Nat.le_trans fw.2.2.2.1.le har.geo.1))).mpr fw.2.2.2.1.eq) hrw
                have fwn := f.wr
                rw [hwn] at fwn
                obtain ⟨p1, he1, ha1, ht1⟩ := Top.shrink_alloc ⟨fr.2.2, hlast⟩ har need n
                rw [he1]
                exact SendInv.inv ⟨ha1, f.pool, ⟨fr.1, by show c.rbOff ≤ c.rbSize - need; omega, ht1.le⟩,
                  by dsimp only; rw [hwn]; exact fwn⟩ rfl
          · exact h
        · exact h
  · rw [he]
    exact h.swap ha' hpos

theorem step_inv (c : CM) (o : Op) (h : Inv d c) : Inv d (step c o).1 := by
  cases o with
  | grow r => exact step_grow c r h
  | recv k => exact step_recv c k h
  | consume k => exact step_consume c k h
  | shiftBack k => exact step_shiftBack c k h
  | bodyDrop k => exact step_bodyDrop c k h
  | alloc n => exact step_alloc c n h
  | shrinkRead => exact step_shrinkRead c h
  | maxWrite => exact step_maxWrite c h
  | wAppend k => exact step_wAppend c k h
  | wSend k => exact step_wSend c k h
  | resetConn => exact step_resetConn c h
  | errRelease => exact step_errRelease c h
  | errReset => exact step_errReset c h

theorem step_cminv (c : CM) (o : Op) (h : CMInv c) : CMInv (step c o).1 := (step_inv c o ⟨h, rfl⟩).inv

theorem run_inv (c : CM) (ops : List Op) (h : CMInv c) (ho : ∀ o ∈ ops, o.Valid) : CMInv (run c ops) := by
  clear ho
  exact List.foldlRecOn ops _ h fun c hc o _ => step_cminv c o hc

theorem init_eq (allocSize poolSize inc : Nat) (ha : allocSize % A = 0) (hs : allocSize < 2 ^ 62)
    (hp : poolSize ≤ allocSize) :
    init allocSize poolSize inc =
      { p := { create allocSize with pos := roundUp (poolSize / 2) }, rb := some 0, rbSize := poolSize / 2, rbOff := 0,
        rbBase := 0, wb := none, wbSize := 0, wbApp := 0, wbSend := 0, sending := false, inc := inc,
        poolSize := poolSize } := by
  have r := roundUp_lt (poolSize / 2) (by omega)
  have hle : roundUp (poolSize / 2) ≤ allocSize := roundUp_le _ _ (by omega) ha
  have e : allocate (create allocSize) (poolSize / 2) false =
      ({ create allocSize with pos := roundUp (poolSize / 2) }, some 0) := by
    unfold allocate
    rw [if_neg (by omega), if_neg (by show ¬ roundUp (poolSize / 2) > allocSize - 0; omega)]
    simp [create]
  simp only [init, e, Option.isSome_some, ↓reduceIte, Option.getD_some]

theorem init_arena (allocSize poolSize inc : Nat) (ha : allocSize % A = 0) (hs : allocSize < 2 ^ 62)
    (hp : poolSize ≤ allocSize) : Inv (allocSize, allocSize) (init allocSize poolSize inc) := by
  rw [init_eq allocSize poolSize inc ha hs hp]
  have r := roundUp_lt (poolSize / 2) (by omega)
  have hle : roundUp (poolSize / 2) ≤ allocSize := roundUp_le _ _ (by omega) ha
  exact RecvInv.inv ⟨⟨⟨hle, Nat.le_refl _, r.2.2, ha, ha, hs⟩, congrArg (Prod.mk allocSize) List.length_replicate⟩,
    hp, ⟨rfl, rfl, rfl, rfl⟩, Nat.le_refl _, Nat.zero_le _, (Nat.zero_add _).symm ▸ r.1,
    congrArg roundUp (Nat.zero_add _).symm⟩ rfl

theorem init_inv (allocSize poolSize inc : Nat) (ha : allocSize % A = 0) (hs : allocSize < 2 ^ 62)
    (hp : poolSize ≤ allocSize) : CMInv (init allocSize poolSize inc) :=
  (init_arena allocSize poolSize inc ha hs hp).inv

end Mhd.ConnMem
