/-
  The chunk decoder, evaluated once per shape of input.  Every byte string is a run of `p`-bytes followed by
  nothing or by a byte that is not one (`span_cases`; the rest is `Stops p r`, defined in `FramingNum`), so a
  scanner built from `countWhile` / `strx` has one evaluation lemma per shape (`extAct_skip / _other / _semi`,
  `sizeLineAct_nonhex / _overflow / _open / _digits`) and every input has one of the shapes (`ext_cases`,
  `size_cases`).  A scanner that hands over to another one inherits `Scans` from it (`Scans.after`), so each
  scanner is looked at once, where it decides by itself.  The line-end test, which the model writes out in
  `sizeLineAct` and in `chunkAct`, is `eolAct` here (`eolAct_crlf / _lf / _err`); `prevOf e` is the `prev` of the
  model's `extAct`.
-/
import Mhd.Proofs.FramingNum
namespace Mhd.Framing
open Mhd.Gen.Framing Framer

theorem countWhile_le (p : UInt8 → Bool) (b : Bytes) : countWhile p b ≤ b.length := by
  induction b with
  | nil => simp [countWhile]
  | cons c t ih => unfold countWhile; split <;> simp <;> omega

theorem Stops.cons {p : UInt8 → Bool} {c : UInt8} (h : p c = false) (t : Bytes) : Stops p (c :: t) :=
  fun _ _ e => by cases e; exact h

theorem Stops.append {p : UInt8 → Bool} {c : UInt8} {t : Bytes} (h : Stops p (c :: t)) (e : Bytes) :
    Stops p (c :: (t ++ e)) := Stops.cons (h c t rfl) _

theorem span_cases (p : UInt8 → Bool) (b : Bytes) :
    ∃ a r, b = a ++ r ∧ (∀ x ∈ a, p x = true) ∧ Stops p r :=
  ⟨_, _, List.takeWhile_append_dropWhile.symm, List.all_eq_true.1 List.all_takeWhile, stops_dropWhile p b⟩

theorem countWhile_prefix (p : UInt8 → Bool) (a r : Bytes) (ha : ∀ x ∈ a, p x = true)
    (hr : Stops p r) : countWhile p (a ++ r) = a.length := by
  induction a with
  | nil =>
    cases r with
    | nil => rfl
    | cons c t => simp [countWhile, hr c t rfl]
  | cons c t ih =>
    simp only [List.cons_append, countWhile, ha c List.mem_cons_self, if_true, List.length_cons]
    rw [ih (fun x hx => ha x (List.mem_cons_of_mem _ hx))]

/-- a verdict that consumes some and at most `hi` bytes, or an error -/
def Act.Within (hi : Nat) : Act → Prop
  | .line len _ => 0 < len ∧ len ≤ hi
  | .term n => 0 < n ∧ n ≤ hi
  | .err _ => True
  | _ => False

/-- the scanner `f` is undecided on `b`, or its verdict is final — bytes arriving behind `b` do not change it —
    and consumes a non-empty prefix of at most `hi` bytes (or is an error) -/
def Scans (f : Bytes → Act) (b : Bytes) (hi : Nat) : Prop :=
  f b = .needMore ∨ ((∀ x, f (b ++ x) = f b) ∧ (f b).Within hi)

theorem Scans.const {f : Bytes → Act} {q : Bytes} {hi : Nat} {a : Act} (ha : a.Within hi)
    (h : ∀ x, f (q ++ x) = a) : Scans f q hi := by
  have e := h []; rw [List.append_nil] at e
  exact Or.inr ⟨fun x => (h x).trans e.symm, e ▸ ha⟩

theorem Scans.after {f g : Bytes → Act} {q r : Bytes} {hi : Nat} (hg : Scans g r hi)
    (h : ∀ x, f (q ++ x) = g (r ++ x)) : Scans f q hi := by
  have e := h []; rw [List.append_nil, List.append_nil] at e
  rcases hg with hn | ⟨hf, hw⟩
  · exact Or.inl (e.trans hn)
  · exact Or.inr ⟨fun x => (h x).trans ((hf x).trans e.symm), e ▸ hw⟩

/-- the line end after a chunk-size line (`two`, `one` = the line) or after chunk data (the terminator), as both
    branches of `process_request_body` test it: CRLF, or a bare LF where admitted; `c` is the byte at hand -/
def eolAct (bl : Bool) (c : UInt8) (rest : Bytes) (two one : Act) : Act :=
  match rest with
  | d :: _ => if c == CR && d == LF then two else if bl && c == LF then one else .err httpBadRequest
  | [] => if bl && c == LF then one else .needMore

theorem eolAct_crlf (bl : Bool) (r : Bytes) (two one : Act) : eolAct bl CR (LF :: r) two one = two := rfl

theorem eolAct_lf (rest : Bytes) (two one : Act) : eolAct true LF rest two one = one := by cases rest <;> rfl

theorem eolAct_err {bl : Bool} {c d : UInt8} {r : Bytes} {two one : Act} (h1 : ¬ (c = CR ∧ d = LF))
    (h2 : ¬ (bl = true ∧ c = LF)) : eolAct bl c (d :: r) two one = .err httpBadRequest := by
  have a1 : (c == CR && d == LF) = false := by simpa using h1
  have a2 : (bl && c == LF) = false := by simpa using h2
  rw [eolAct, a1, a2]; rfl

theorem eolAct_scans (bl : Bool) (c : UInt8) (rest : Bytes) (two one : Act) {hi : Nat}
    (h2 : rest ≠ [] → two.Within hi) (h1 : one.Within hi) :
    Scans (fun r => eolAct bl c r two one) rest hi := by
  cases rest with
  | cons d r =>
    refine Or.inr ⟨fun _ => rfl, ?_⟩
    show Act.Within hi (if _ then _ else if _ then _ else _)
    split
    · exact h2 nofun
    · split
      · exact h1
      · trivial
  | nil =>
    by_cases hl : (bl && c == LF) = true
    · simp only [Bool.and_eq_true, beq_iff_eq] at hl
      obtain ⟨rfl, rfl⟩ := hl
      exact Scans.const h1 fun x => eolAct_lf _ two one
    · exact Or.inl (by show eolAct bl c [] two one = _; unfold eolAct; simp only [hl, Bool.false_eq_true, if_false])

theorem extAct_skip (bl : Bool) (k v : Nat) (ws r : Bytes) (hws : ∀ x ∈ ws, isWs x = true) (hr : Stops isWs r) :
    extAct bl k v (ws ++ r) = extAct bl (k + ws.length) v r := by
  unfold extAct
  simp only
  rw [countWhile_prefix isWs ws r hws hr, List.drop_left, show countWhile isWs r = 0 from countWhile_prefix isWs [] r nofun hr]
  rfl

theorem extAct_other (bl : Bool) (k v : Nat) (c : UInt8) (after : Bytes) (hw : isWs c = false) (hc : (c == SEMI) = false) :
    extAct bl k v (c :: after) = .err httpBadRequest := by
  unfold extAct
  simp only [show countWhile isWs (c :: after) = 0 from countWhile_prefix isWs [] _ nofun (Stops.cons hw _), List.drop_zero, hc,
    Bool.false_eq_true, if_false]

/-- the byte before the LF that ends the extension `; e` -/
def prevOf (e : Bytes) : UInt8 := if e.length = 0 then SEMI else e.getD (e.length - 1) 0

theorem extAct_semi (bl : Bool) (k v : Nat) (e r : Bytes) (he : ∀ x ∈ e, (x != LF) = true) (hr : Stops (· != LF) r) :
    extAct bl k v (SEMI :: (e ++ r)) =
      match r with
      | [] => .needMore
      | _ :: _ => if bl then .line (k + 1 + e.length + 1) v else if prevOf e == CR then .line (k + 1 + e.length + 1) v
                  else .err httpBadRequest := by
  unfold extAct
  simp only [show countWhile isWs (SEMI :: (e ++ r)) = 0 from countWhile_prefix isWs [] _ nofun (Stops.cons (by decide) _),
    List.drop_zero, beq_self_eq_true, if_true, countWhile_prefix _ e r he hr, List.drop_left, Nat.add_zero]
  cases r with
  | nil => rfl
  | cons d more =>
    simp only [prevOf]
    by_cases hz : e.length = 0
    · simp only [hz, if_true]
    · simp only [hz, if_false, List.getD_eq_getElem?_getD, List.getElem?_append_left (show e.length - 1 < e.length by omega)]

theorem ext_cases (tl : Bytes) :
    ∃ ws r, tl = ws ++ r ∧ (∀ x ∈ ws, isWs x = true) ∧ Stops isWs r ∧
      (r = [] ∨ (∃ c after, r = c :: after ∧ isWs c = false ∧ (c == SEMI) = false) ∨
       ∃ e r2, r = SEMI :: (e ++ r2) ∧ (∀ x ∈ e, (x != LF) = true) ∧ Stops (· != LF) r2) := by
  obtain ⟨ws, r, e, hws, hr⟩ := span_cases isWs tl
  refine ⟨ws, r, e, hws, hr, ?_⟩
  cases r with
  | nil => exact Or.inl rfl
  | cons c after =>
    by_cases hc : (c == SEMI) = true
    · obtain ⟨e, r2, h2, he, hr2⟩ := span_cases (· != LF) after
      exact Or.inr (Or.inr ⟨e, r2, by rw [beq_iff_eq.1 hc, h2], he, hr2⟩)
    · exact Or.inr (Or.inl ⟨c, after, rfl, hr c after rfl, by simpa using hc⟩)

theorem extAct_scans (bl : Bool) (k size : Nat) (tl : Bytes) : Scans (extAct bl k size) tl (k + tl.length) := by
  obtain ⟨ws, r, rfl, hws, hr, hcase⟩ := ext_cases tl
  have skip := fun r hr => extAct_skip bl k size ws r hws hr
  rcases hcase with rfl | ⟨c, after, rfl, hw, hc⟩ | ⟨e, r2, rfl, he, hr2⟩
  · exact Or.inl (skip [] hr)
  · refine Scans.const (a := .err httpBadRequest) trivial fun x => ?_
    rw [List.append_assoc]
    exact (skip (c :: (after ++ x)) (Stops.cons hw _)).trans (extAct_other bl _ size c _ hw hc)
  · have ev := fun r2 hr2 => (skip (SEMI :: (e ++ r2)) (Stops.cons (by decide) _)).trans (extAct_semi bl _ size e r2 he hr2)
    cases r2 with
    | nil => exact Or.inl (ev [] hr2)
    | cons d more =>
      refine Scans.const (a := if bl then .line (k + ws.length + 1 + e.length + 1) size
          else if prevOf e == CR then .line (k + ws.length + 1 + e.length + 1) size else .err httpBadRequest) ?_ fun x => by
        rw [List.append_assoc, List.cons_append, List.append_assoc, List.cons_append]; exact ev _ (hr2.append x)
      have hin : (Act.line (k + ws.length + 1 + e.length + 1) size).Within (k + (ws ++ SEMI :: (e ++ d :: more)).length) :=
        ⟨by omega, by simp only [List.length_append, List.length_cons]; omega⟩
      split
      · exact hin
      · split
        · exact hin
        · trivial

theorem size_cases (b : Bytes) :
    b = [] ∨ (∃ c rest, b = c :: rest ∧ isHex c = false) ∨
    ∃ ds x, b = ds ++ x ∧ ds ≠ [] ∧ (∀ d ∈ ds, isHex d = true) ∧ Stops isHex x := by
  obtain ⟨ds, x, e, hd, hx⟩ := span_cases isHex b
  cases ds with
  | cons d t => exact Or.inr (Or.inr ⟨d :: t, x, e, nofun, hd, hx⟩)
  | nil =>
    cases x with
    | nil => exact Or.inl e
    | cons c rest => exact Or.inr (Or.inl ⟨c, rest, e, hx c rest rfl⟩)

theorem sizeLineAct_nonhex (bl bw : Bool) (c : UInt8) (rest : Bytes) (hc : isHex c = false) :
    sizeLineAct bl bw (c :: rest) = .err httpBadRequest := by
  have hv : hexVal c = none := by simpa [isHex] using hc
  unfold sizeLineAct
  simp only [show strx (c :: rest) = (0, 0) by simp [strx, strxAux, hv], List.length_cons]
  simp [hc]

theorem sizeLineAct_overflow (bl bw : Bool) (ds x : Bytes) (hne : ds ≠ []) (hd : ∀ d ∈ ds, isHex d = true)
    (hv : uint64Max < hexValue ds) : sizeLineAct bl bw (ds ++ x) = .err httpContentTooLarge := by
  have hs := strx_overflow ds x hd hv
  cases ds with
  | nil => exact absurd rfl hne
  | cons c t =>
    unfold sizeLineAct
    rw [List.cons_append] at hs
    simp only [hs, List.cons_append, List.length_cons]
    simp [hd c List.mem_cons_self]

theorem sizeLineAct_digits (bl bw : Bool) (ds : Bytes) (c : UInt8) (rest : Bytes) (hne : ds ≠ [])
    (hd : ∀ d ∈ ds, isHex d = true) (hc : isHex c = false) (hv : hexValue ds ≤ uint64Max) :
    sizeLineAct bl bw (ds ++ c :: rest) =
      if c == SEMI || (bw && (c == SP || c == HT)) then extAct bl ds.length (hexValue ds) (c :: rest)
      else eolAct bl c rest (.line (ds.length + 2) (hexValue ds)) (.line (ds.length + 1) (hexValue ds)) := by
  have hdl : 0 < ds.length := List.length_pos_iff.2 hne
  unfold sizeLineAct
  simp only [strx_digits ds _ hd (Stops.cons hc rest) hv]
  rw [if_neg (by simp only [List.length_append, List.length_cons]; omega), if_neg (by omega), List.drop_left]
  rfl

theorem sizeLineAct_open (bl bw : Bool) (ds : Bytes) (hd : ∀ d ∈ ds, isHex d = true) (hv : hexValue ds ≤ uint64Max) :
    sizeLineAct bl bw ds = .needMore := by
  have := strx_digits ds [] hd nofun hv
  rw [List.append_nil] at this
  unfold sizeLineAct
  simp only [this, if_true]

theorem sizeLineAct_scans (bl bw : Bool) (b : Bytes) : Scans (sizeLineAct bl bw) b b.length := by
  rcases size_cases b with rfl | ⟨c, rest, rfl, hc⟩ | ⟨ds, x, rfl, hne, hd, hx⟩
  · exact Or.inl rfl
  · exact Scans.const (a := .err httpBadRequest) trivial fun x => sizeLineAct_nonhex bl bw c _ hc
  · by_cases hv : hexValue ds ≤ uint64Max
    · cases x with
      | nil => rw [List.append_nil]; exact Or.inl (sizeLineAct_open bl bw ds hd hv)
      | cons c rest =>
        have ev := fun x => List.append_assoc ds (c :: rest) x ▸ sizeLineAct_digits bl bw ds c (rest ++ x) hne hd (hx c rest rfl) hv
        rw [show (ds ++ c :: rest).length = ds.length + (rest.length + 1) by rw [List.length_append, List.length_cons]]
        by_cases hs : (c == SEMI || (bw && (c == SP || c == HT))) = true
        · exact (extAct_scans bl ds.length (hexValue ds) (c :: rest)).after fun x => (ev x).trans (if_pos hs)
        · refine (eolAct_scans bl c rest (.line (ds.length + 2) (hexValue ds)) (.line (ds.length + 1) (hexValue ds))
            (fun hr => ?_) ?_).after fun x => (ev x).trans (if_neg hs)
          · have := List.length_pos_iff.2 hr
            exact ⟨Nat.succ_pos _, by omega⟩
          · exact ⟨Nat.succ_pos _, by omega⟩
    · exact Scans.const (a := .err httpContentTooLarge) trivial fun y =>
        List.append_assoc ds x y ▸ sizeLineAct_overflow bl bw ds _ hne hd (Nat.lt_of_not_le hv)

theorem chunkAct_zero (lvl : Int) (off : Nat) (b : Bytes) (hb : b ≠ []) :
    chunkAct lvl 0 off b = sizeLineAct (decide (lvl ≤ bareLfMaxLvl)) (decide (bwsAboveLvl < lvl)) b := by
  cases b with
  | nil => exact absurd rfl hb
  | cons c rest => unfold chunkAct; simp only [ne_eq, not_true_eq_false, and_false, if_false]

theorem chunkAct_data_of (lvl : Int) (cur off : Nat) (b : Bytes) (h1 : ¬ (off = cur ∧ cur ≠ 0)) (h2 : cur ≠ 0)
    (hb : b ≠ []) : chunkAct lvl cur off b = .data (min (cur - off) b.length) := by
  unfold chunkAct
  cases b with
  | nil => exact absurd rfl hb
  | cons c rest => simp only [if_neg h1, if_pos h2]

theorem chunkAct_end (lvl : Int) (cur off : Nat) (h : off = cur ∧ cur ≠ 0) (c : UInt8) (rest : Bytes) :
    chunkAct lvl cur off (c :: rest) = eolAct (decide (lvl ≤ bareLfMaxLvl)) c rest (.term 2) (.term 1) := by
  unfold chunkAct; simp only [if_pos h]; rfl

theorem chunkAct_cases (lvl : Int) (cur off : Nat) (b : Bytes) :
    (chunkAct lvl cur off b = .data (min (cur - off) b.length) ∧ ¬ (off = cur ∧ cur ≠ 0) ∧ cur ≠ 0 ∧ b ≠ []) ∨
    Scans (chunkAct lvl cur off) b b.length := by
  cases b with
  | nil => exact Or.inr (Or.inl rfl)
  | cons c rest =>
    by_cases h1 : off = cur ∧ cur ≠ 0
    · refine Or.inr ((eolAct_scans (decide (lvl ≤ bareLfMaxLvl)) c rest (.term 2) (.term 1)
        (fun hr => ⟨Nat.succ_pos _, Nat.succ_le_succ (List.length_pos_iff.2 hr)⟩) ⟨Nat.succ_pos _, Nat.succ_le_succ (Nat.zero_le _)⟩).after
        fun x => chunkAct_end lvl cur off h1 c (rest ++ x))
    · by_cases h2 : cur ≠ 0
      · exact Or.inl ⟨chunkAct_data_of lvl cur off _ h1 h2 (List.cons_ne_nil _ _), h1, h2, List.cons_ne_nil _ _⟩
      · rw [Classical.not_not.1 h2]
        exact Or.inr ((sizeLineAct_scans _ _ (c :: rest)).after fun x => chunkAct_zero lvl off _ (List.cons_ne_nil c (rest ++ x)))

theorem chunkAct_decided (lvl : Int) (cur off : Nat) (b : Bytes) (h : chunkAct lvl cur off b ≠ .needMore)
    (hd : ∀ n, chunkAct lvl cur off b ≠ .data n) :
    (∀ e, chunkAct lvl cur off (b ++ e) = chunkAct lvl cur off b) ∧ (chunkAct lvl cur off b).Within b.length := by
  rcases chunkAct_cases lvl cur off b with ⟨h0, _⟩ | h0 | h0
  · exact absurd h0 (hd _)
  · exact absurd h0 h
  · exact h0

theorem chunkAct_data (lvl : Int) (cur off : Nat) (b : Bytes) (n : Nat) (h : chunkAct lvl cur off b = .data n) :
    ¬ (off = cur ∧ cur ≠ 0) ∧ cur ≠ 0 ∧ b ≠ [] ∧ n = min (cur - off) b.length := by
  rcases chunkAct_cases lvl cur off b with ⟨e, p1, p2, p3⟩ | e | ⟨_, e⟩
  · exact ⟨p1, p2, p3, Act.data.inj (h.symm.trans e)⟩
  · rw [h] at e; cases e
  · rw [h] at e; exact e.elim

theorem chunkAct_term (lvl : Int) (cur off : Nat) (b : Bytes) (n : Nat) (h : chunkAct lvl cur off b = .term n) :
    0 < n ∧ n ≤ b.length := by
  have := (chunkAct_decided lvl cur off b (h ▸ nofun) fun _ => h ▸ nofun).2
  rwa [h] at this

theorem chunkAct_line (lvl : Int) (cur off : Nat) (b : Bytes) (len sz : Nat)
    (h : chunkAct lvl cur off b = .line len sz) : 0 < len ∧ len ≤ b.length := by
  have := (chunkAct_decided lvl cur off b (h ▸ nofun) fun _ => h ▸ nofun).2
  rwa [h] at this

theorem chunkAct_nonhex (lvl : Int) (c : UInt8) (rest : Bytes) (hc : isHex c = false) :
    chunkAct lvl 0 0 (c :: rest) = .err httpBadRequest := by
  rw [chunkAct_zero lvl 0 _ (List.cons_ne_nil _ _)]; exact sizeLineAct_nonhex _ _ c rest hc

theorem chunkAct_overflow (lvl : Int) (ds x : Bytes) (hne : ds ≠ []) (hd : ∀ d ∈ ds, isHex d = true)
    (hv : uint64Max < hexValue ds) : chunkAct lvl 0 0 (ds ++ x) = .err httpContentTooLarge := by
  rw [chunkAct_zero lvl 0 _ (List.append_ne_nil_of_left_ne_nil hne _)]; exact sizeLineAct_overflow _ _ ds x hne hd hv

theorem chunkAct_missing_crlf (lvl : Int) (n : Nat) (hn : n ≠ 0) (c d : UInt8) (r : Bytes)
    (h1 : ¬ (c = CR ∧ d = LF)) (h2 : ¬ (lvl ≤ bareLfMaxLvl ∧ c = LF)) :
    chunkAct lvl n n (c :: d :: r) = .err httpBadRequest := by
  rw [chunkAct_end lvl n n ⟨rfl, hn⟩]; exact eolAct_err h1 (by simpa using h2)

theorem chunkAct_junk_after_size (lvl : Int) (ds : Bytes) (c d : UInt8) (r : Bytes)
    (hne : ds ≠ []) (hd : ∀ x ∈ ds, isHex x = true) (hv : hexValue ds ≤ uint64Max)
    (hc : isHex c = false) (h0 : c ≠ SEMI) (h1 : ¬ (bwsAboveLvl < lvl ∧ (c = SP ∨ c = HT)))
    (h2 : ¬ (c = CR ∧ d = LF)) (h3 : ¬ (lvl ≤ bareLfMaxLvl ∧ c = LF)) :
    chunkAct lvl 0 0 (ds ++ c :: d :: r) = .err httpBadRequest := by
  rw [chunkAct_zero lvl 0 _ (List.append_ne_nil_of_left_ne_nil hne _), sizeLineAct_digits _ _ ds c _ hne hd hc hv,
    if_neg (by simpa [h0] using h1)]
  exact eolAct_err h2 (by simpa using h3)
end Mhd.Framing
