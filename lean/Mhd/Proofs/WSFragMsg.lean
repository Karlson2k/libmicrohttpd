/-
  A whole fragmented message — first frame without FIN, continuation frames with ping / pong
  frames in between, last frame with FIN — by induction over the list of frames; assembling
  mode and fragment mode.
-/
import Mhd.Proofs.WSFrag
namespace Mhd.WS

/-- what is sent between the first and the last frame of a fragmented message: a continuation
    frame without FIN carrying `p`, or a ping (`op = 9`) / pong (`op = 10`) frame -/
inductive Mid where
  | frag (p : List UInt8)
  | ctrl (op : Nat) (p : List UInt8)
  deriving Repr, DecidableEq

def Mid.b0 : Mid → UInt8
  | .frag _ => 0x00
  | .ctrl op _ => UInt8.ofNat (0x80 + op)

def Mid.payload : Mid → List UInt8
  | .frag p => p
  | .ctrl _ p => p

def midWire (masked : Bool) : List (Mid × Key) → List UInt8
  | [] => []
  | (x, k) :: r => wireOf masked x.b0 x.payload k ++ midWire masked r

def midData : List Mid → List UInt8
  | [] => []
  | .frag p :: r => p ++ midData r
  | .ctrl _ _ :: r => midData r

def midCtrlEvs : List Mid → List Ev
  | [] => []
  | .frag _ :: r => midCtrlEvs r
  | .ctrl op p :: r => (Int.ofNat op, plOf p, p.length) :: midCtrlEvs r

/-- side conditions on an interleaved control frame: ping or pong, RFC 6455 5.5 length limit,
    within the receiver's maximum payload size and allocation limit -/
def CtrlOK (maxPayload allocLimit : Nat) : Mid → Prop
  | .frag _ => True
  | .ctrl op p => (op = 9 ∨ op = 10) ∧ p.length ≤ 125 ∧ (maxPayload = 0 ∨ p.length ≤ maxPayload) ∧
      p.length + 1 ≤ allocLimit

theorem contByte : rsvBits 0x00 = 0 ∧ finBit 0x00 = false ∧ opcodeOf 0x00 = 0 := by decide
theorem lastByte : rsvBits 0x80 = 0 ∧ finBit 0x80 = true ∧ opcodeOf 0x80 = 0 := by decide
theorem firstByte (op : Nat) (hop : op = 1 ∨ op = 2) :
    rsvBits (UInt8.ofNat op) = 0 ∧ finBit (UInt8.ofNat op) = false ∧ opcodeOf (UInt8.ofNat op) = op := by
  rcases hop with h | h <;> subst h <;> decide

theorem mid_assemble (masked : Bool) (mx al : Nat) (l : List (Mid × Key)) :
    ∀ {ws : WS} {t : Nat} {acc : List UInt8} {u : Nat}, Bnd ws t acc u 1 → Recv ws masked false mx al → t ≠ 0 →
    (∀ x ∈ l, CtrlOK mx al x.1) → Fits mx al (acc.length + (midData (l.map Prod.fst)).length) →
    ∀ u', U8 t (midData (l.map Prod.fst)) u u' →
    ∃ ws', Run ws (midWire masked l) (midCtrlEvs (l.map Prod.fst)) (.more ws') ∧
      Bnd ws' t (acc ++ midData (l.map Prod.fst)) u' 1 ∧ Cfg ws ws' := by
  induction l with
  | nil =>
    intro ws t acc u hb _ _ _ _ u' hu
    rw [hu.nil]
    exact ⟨ws, .idle hb.step, by rw [List.map_nil, midData, List.append_nil]; exact hb, rfl, rfl, rfl⟩
  | cons xk r ih =>
    intro ws t acc u hb hc ht hctl hfit u' hu
    obtain ⟨x, k⟩ := xk
    have hv : ws.validity ≠ 0 := by rw [hb.val]; decide
    have hctl' : ∀ y ∈ r, CtrlOK mx al y.1 := fun y hy => hctl y (List.mem_cons_of_mem _ hy)
    cases x with
    | frag p =>
      simp only [List.map_cons, midData, List.length_append] at hfit hu ⊢
      obtain ⟨u1, hu1, hu2⟩ := hu.split
      obtain ⟨ws1, hrun1, hb1, hc1⟩ := data_frame_assemble hb hc 0x00 contByte.1 contByte.2.1 t
        (.inl ⟨contByte.2.2, ht, rfl⟩) p k (hfit.mono (Nat.add_le_add_left (Nat.le_add_right ..) _)) u1 hu1
      obtain ⟨ws2, hrun2, hb2, hc2⟩ := ih hb1 (hc.cfg hc1) ht hctl'
        (by rw [List.length_append, Nat.add_assoc]; exact hfit) u' hu2
      exact ⟨ws2, run_glue hb.inv hv hrun1 hrun2, List.append_assoc .. ▸ hb2, hc1.trans hc2⟩
    | ctrl op p =>
      obtain ⟨hop, hn, hfitp⟩ : CtrlOK mx al (.ctrl op p) := hctl _ (List.mem_cons_self ..)
      obtain ⟨ws1, hrun1, hb1, hc1⟩ := ctrl_frame hb hc op hop p k hn hfitp
      obtain ⟨ws2, hrun2, hb2, hc2⟩ := ih hb1 (hc.cfg hc1) ht hctl' hfit u' hu
      exact ⟨ws2, run_glue hb.inv hv hrun1 hrun2, hb2, hc1.trans hc2⟩

/-- **assembling mode, a whole fragmented message**: first frame (text / binary, no FIN), any
    continuation frames with ping / pong frames in between, last frame (continuation, FIN): the
    application gets the control frames in order and then one message, the concatenation -/
theorem msg_assembled {ws : WS} (hb : Bnd ws 0 [] 0 1) (hw : ws.wantFragments = false) (masked : Bool)
    (hm : masked = !ws.isClient) (op : Nat) (hop : op = 1 ∨ op = 2) (p0 : List UInt8) (k0 : Key)
    (l : List (Mid × Key)) (pn : List UInt8) (kn : Key)
    (hctl : ∀ x ∈ l, CtrlOK ws.maxPayload ws.allocLimit x.1)
    (hmax : ws.maxPayload = 0 ∨ (p0 ++ midData (l.map Prod.fst) ++ pn).length ≤ ws.maxPayload)
    (hal : (p0 ++ midData (l.map Prod.fst) ++ pn).length + 1 ≤ ws.allocLimit)
    (hutf : op = 1 → checkUtf8 (p0 ++ midData (l.map Prod.fst) ++ pn) 0 0 = .ok 0) :
    ∃ ws', Run ws (wireOf masked (UInt8.ofNat op) p0 k0 ++ midWire masked l ++ wireOf masked 0x80 pn kn)
        (midCtrlEvs (l.map Prod.fst) ++ [(Int.ofNat op, plOf (p0 ++ midData (l.map Prod.fst) ++ pn),
           (p0 ++ midData (l.map Prod.fst) ++ pn).length)]) (.more ws') ∧ Bnd ws' 0 [] 0 1 ∧ Cfg ws ws' := by
  obtain ⟨hr0, hf0, ho0⟩ := firstByte op hop
  have hv : ws.validity ≠ 0 := by rw [hb.val]; decide
  have hop0 : op ≠ 0 := by omega
  have hc : Recv ws masked false ws.maxPayload ws.allocLimit := ⟨hm, hw, rfl, rfl⟩
  have hfit : Fits ws.maxPayload ws.allocLimit (p0.length + (midData (l.map Prod.fst)).length + pn.length) := by
    simp only [List.length_append] at hmax hal; exact ⟨hmax, hal⟩
  -- validator states at the two inner frame boundaries
  obtain ⟨u2, hu12, hun⟩ := U8.split (t := op) ⟨hutf, fun _ => rfl⟩
  obtain ⟨u1, hu0, hum⟩ := hu12.split
  obtain ⟨ws1, hrun1, hb1, hc1⟩ := data_frame_assemble hb hc (UInt8.ofNat op) hr0 hf0 op
    (.inr ⟨ho0.symm ▸ hop, rfl, rfl, ho0.symm⟩) p0 k0
    (hfit.mono (by rw [List.length_nil, Nat.zero_add, Nat.add_assoc]; exact Nat.le_add_right ..)) u1 hu0
  obtain ⟨ws2, hrun2, hb2, hc2⟩ := mid_assemble masked _ _ l hb1 (hc.cfg hc1) hop0 hctl
    (hfit.mono (by rw [List.nil_append]; exact Nat.le_add_right ..)) u2 hum
  obtain ⟨ws3, hrun3, hb3, hc3⟩ := data_frame_fin hb2 (hc.cfg (hc1.trans hc2)) 0x80 lastByte.1 lastByte.2.1 op
    (.inl ⟨lastByte.2.2, hop0, rfl⟩) pn kn (by rw [List.nil_append, List.length_append]; exact hfit) hun
  exact ⟨ws3, run_glue hb.inv hv (run_glue hb.inv hv hrun1 hrun2) hrun3, hb3, (hc1.trans hc2).trans hc3⟩

/-- how many bytes of an unfinished character a fragment-mode decoder may keep back -/
def slack (t : Nat) : Nat := if t = 1 then 3 else 0

/-- the validator state after the payload `p` (text messages only) -/
def stepAfter (t u : Nat) (p : List UInt8) : Nat :=
  if t = 1 then (match checkUtf8 p u 0 with | .ok s => s | .invalid _ => 0) else u

/-- what is handed out for a non-final fragment `p` when `c` was kept back before: status mark
    `m`, the complete characters of `c ++ p` -/
def fragEv (t m u : Nat) (c p : List UInt8) : Ev :=
  (fragMark t m, cutPl (c ++ p) (cutLen t (stepAfter t u p) (c ++ p)), cutLen t (stepAfter t u p) (c ++ p))

/-- … and what is kept back then -/
def fragKeep (t u : Nat) (c p : List UInt8) : List UInt8 := (c ++ p).drop (cutLen t (stepAfter t u p) (c ++ p))

/-- fragment mode: what the application gets for the frames in the middle, from validator
    state `u` with `c` kept back -/
def fragEvs (t : Nat) : Nat → List UInt8 → List Mid → List Ev
  | _, _, [] => []
  | u, c, .ctrl op p :: r => (Int.ofNat op, plOf p, p.length) :: fragEvs t u c r
  | u, c, .frag p :: r => fragEv t 0x20 u c p :: fragEvs t (stepAfter t u p) (fragKeep t u c p) r

def fragCarry (t : Nat) : Nat → List UInt8 → List Mid → List UInt8
  | _, c, [] => c
  | u, c, .ctrl _ _ :: r => fragCarry t u c r
  | u, c, .frag p :: r => fragCarry t (stepAfter t u p) (fragKeep t u c p) r

/-- side conditions, fragment mode: each fragment (plus the ≤ 3 bytes that may have been kept
    back, text only) within the maximum payload size and the allocation limit -/
def FragOK (t maxPayload allocLimit : Nat) : Mid → Prop
  | .frag p => (maxPayload = 0 ∨ p.length + slack t ≤ maxPayload) ∧ p.length + slack t + 1 ≤ allocLimit
  | .ctrl op p => CtrlOK maxPayload allocLimit (.ctrl op p)

theorem fragKeep_le (t u : Nat) (c p : List UInt8) : (fragKeep t u c p).length ≤ slack t := by
  unfold fragKeep cutLen slack
  rw [List.length_drop]
  by_cases h1 : t = 1
  · rw [if_pos h1, if_pos h1]
    have : givenUtf8 (stepAfter 1 u p) ≤ 3 := by unfold givenUtf8; split <;> decide
    subst h1
    omega
  · rw [if_neg h1, if_neg h1]; omega

theorem U8.stepAfter {t : Nat} {p : List UInt8} {u u' : Nat} (h : U8 t p u u') : stepAfter t u p = u' := by
  unfold Mhd.WS.stepAfter
  by_cases h1 : t = 1
  · rw [if_pos h1, h.1 h1]
  · rw [if_neg h1, h.2 h1]

theorem mid_fragment (masked : Bool) (mx al : Nat) (l : List (Mid × Key)) :
    ∀ {ws : WS} {t : Nat} {acc : List UInt8} {u : Nat}, Bnd ws t acc u 1 → Recv ws masked true mx al → t ≠ 0 →
    acc.length ≤ slack t → 4 ≤ al → (∀ x ∈ l, FragOK t mx al x.1) →
    ∀ u', U8 t (midData (l.map Prod.fst)) u u' →
    ∃ ws', Run ws (midWire masked l) (fragEvs t u acc (l.map Prod.fst)) (.more ws') ∧
      Bnd ws' t (fragCarry t u acc (l.map Prod.fst)) u' 1 ∧ Cfg ws ws' ∧
      (fragCarry t u acc (l.map Prod.fst)).length ≤ slack t := by
  induction l with
  | nil =>
    intro ws t acc u hb _ _ hacc _ _ u' hu
    rw [hu.nil]
    exact ⟨ws, .idle hb.step, hb, ⟨rfl, rfl, rfl⟩, hacc⟩
  | cons xk r ih =>
    intro ws t acc u hb hc ht hacc hal4 hok u' hu
    obtain ⟨x, k⟩ := xk
    have hv : ws.validity ≠ 0 := by rw [hb.val]; decide
    have hok' : ∀ y ∈ r, FragOK t mx al y.1 := fun y hy => hok y (List.mem_cons_of_mem _ hy)
    cases x with
    | frag p =>
      have hfit : Fits mx al (p.length + slack t) := hok _ (List.mem_cons_self ..)
      obtain ⟨u1, hu1, hu2⟩ := U8.split (a := p) hu
      obtain ⟨ws1, hrun1, hb1, hc1⟩ := data_frame_fragment hb hc 0x00 contByte.1 contByte.2.1 t
        (.inl ⟨contByte.2.2, ht, rfl⟩) p k (hfit.mono (Nat.add_comm .. ▸ Nat.add_le_add_left hacc _)) hal4 u1 hu1
      cases hu1.stepAfter
      obtain ⟨ws2, hrun2, hb2, hc2, hle2⟩ := ih hb1 (hc.cfg hc1) ht (fragKeep_le t u acc p) hal4 hok' u' hu2
      exact ⟨ws2, run_glue hb.inv hv hrun1 hrun2, hb2, hc1.trans hc2, hle2⟩
    | ctrl op p =>
      obtain ⟨hop, hn, hfitp⟩ : CtrlOK mx al (.ctrl op p) := hok _ (List.mem_cons_self ..)
      obtain ⟨ws1, hrun1, hb1, hc1⟩ := ctrl_frame hb hc op hop p k hn hfitp
      obtain ⟨ws2, hrun2, hb2, hc2, hle2⟩ := ih hb1 (hc.cfg hc1) ht hacc hal4 hok' u' hu
      exact ⟨ws2, run_glue hb.inv hv hrun1 hrun2, hb2, hc1.trans hc2, hle2⟩

/-- **fragment mode, a whole fragmented message**: the application gets the first fragment
    (status FIRST), each continuation frame (NEXT) and each ping / pong frame in place, the last
    fragment (LAST); an unfinished character at the end of a text fragment is kept back and
    handed out at the head of the following fragment -/
theorem msg_fragments {ws : WS} (hb : Bnd ws 0 [] 0 1) (hw : ws.wantFragments = true) (masked : Bool)
    (hm : masked = !ws.isClient) (op : Nat) (hop : op = 1 ∨ op = 2) (p0 : List UInt8) (k0 : Key)
    (l : List (Mid × Key)) (pn : List UInt8) (kn : Key) (hal4 : 4 ≤ ws.allocLimit)
    (hok : ∀ x ∈ l, FragOK op ws.maxPayload ws.allocLimit x.1)
    (hok0 : FragOK op ws.maxPayload ws.allocLimit (.frag p0)) (hokn : FragOK op ws.maxPayload ws.allocLimit (.frag pn))
    (hutf : op = 1 → checkUtf8 (p0 ++ midData (l.map Prod.fst) ++ pn) 0 0 = .ok 0) :
    ∃ ws', Run ws (wireOf masked (UInt8.ofNat op) p0 k0 ++ midWire masked l ++ wireOf masked 0x80 pn kn)
        (fragEv op 0x10 0 [] p0 :: fragEvs op (stepAfter op 0 p0) (fragKeep op 0 [] p0) (l.map Prod.fst) ++
          [(Int.ofNat (op ||| 0x40),
            plOf (fragCarry op (stepAfter op 0 p0) (fragKeep op 0 [] p0) (l.map Prod.fst) ++ pn),
            (fragCarry op (stepAfter op 0 p0) (fragKeep op 0 [] p0) (l.map Prod.fst) ++ pn).length)])
        (.more ws') ∧ Bnd ws' 0 [] 0 1 ∧ Cfg ws ws' := by
  obtain ⟨hr0, hf0, ho0⟩ := firstByte op hop
  have hv : ws.validity ≠ 0 := by rw [hb.val]; decide
  have hop0 : op ≠ 0 := by omega
  have hc : Recv ws masked true ws.maxPayload ws.allocLimit := ⟨hm, hw, rfl, rfl⟩
  have hfit0 : Fits ws.maxPayload ws.allocLimit (p0.length + slack op) := hok0
  have hfitn : Fits ws.maxPayload ws.allocLimit (pn.length + slack op) := hokn
  obtain ⟨u2, hu12, hun⟩ := U8.split (t := op) ⟨hutf, fun _ => rfl⟩
  obtain ⟨u1, hu0, hum⟩ := hu12.split
  obtain ⟨ws1, hrun1, hb1, hc1⟩ := data_frame_fragment hb hc (UInt8.ofNat op) hr0 hf0 op
    (.inr ⟨ho0.symm ▸ hop, rfl, rfl, ho0.symm⟩) p0 k0
    (hfit0.mono (by rw [List.length_nil, Nat.zero_add]; exact Nat.le_add_right ..)) hal4 u1 hu0
  cases hu0.stepAfter
  obtain ⟨ws2, hrun2, hb2, hc2, hle2⟩ := mid_fragment masked _ _ l hb1 (hc.cfg hc1) hop0 (fragKeep_le op 0 [] p0) hal4
    hok u2 hum
  obtain ⟨ws3, hrun3, hb3, hc3⟩ := data_frame_fin hb2 (hc.cfg (hc1.trans hc2)) 0x80 lastByte.1 lastByte.2.1 op
    (.inl ⟨lastByte.2.2, hop0, rfl⟩) pn kn (hfitn.mono (Nat.add_comm .. ▸ Nat.add_le_add_left hle2 _)) hun
  have hne1 : ¬ opcodeOf (UInt8.ofNat op) = 0 := by rw [ho0]; exact hop0
  rw [if_neg hne1] at hrun1
  exact ⟨ws3, run_glue hb.inv hv (run_glue hb.inv hv hrun1 hrun2) hrun3, hb3, (hc1.trans hc2).trans hc3⟩

end Mhd.WS
