/-
  The functions over event logs that the statements of C20 are written with.
-/
import Mhd.Model.UpgDaemon

namespace Mhd.Upg

def hasUpg (l : List Ev) : Bool := l.any Ev.isUpgrade

/-- no daemon I/O event (recv / send / shutdown on the socket) after an `upgrade` event;
    `seen`: an upgrade event has already been passed -/
def okLog : Bool → List Ev → Bool
  | _, [] => true
  | seen, e :: l => if seen && e.isIo then false else okLog (seen || e.isUpgrade) l

/-- bytes handed to the application according to the log: extra data, then its own reads -/
def handedOf : List Ev → Bytes
  | [] => []
  | .upgrade _ extra :: l => extra ++ handedOf l
  | .appRecv bs :: l => bs ++ handedOf l
  | _ :: l => handedOf l

/-- bytes the daemon wrote to the client according to the log -/
def daemonWire : List Ev → Bytes
  | [] => []
  | .ioSend bs :: l => bs ++ daemonWire l
  | _ :: l => daemonWire l

def cnt (p : Ev → Bool) (l : List Ev) : Nat := l.countP p

def Ev.isStart : Ev → Bool | .start => true | _ => false
def Ev.isConnClose : Ev → Bool | .connClose => true | _ => false
def Ev.isSockClose : Ev → Bool | .sockClose => true | _ => false
def Ev.isCompleted (r : Nat) : Ev → Bool | .completed r' _ => r' == r | _ => false
def Ev.isHandler (r : Nat) : Ev → Bool | .handler r' _ => r' == r | _ => false

@[simp] theorem hasUpg_nil : hasUpg [] = false := rfl
@[simp] theorem hasUpg_append (a b : List Ev) : hasUpg (a ++ b) = (hasUpg a || hasUpg b) := by
  simp [hasUpg]
@[simp] theorem hasUpg_single (e : Ev) : hasUpg [e] = e.isUpgrade := by simp [hasUpg]
@[simp] theorem hasUpg_cons (e : Ev) (l : List Ev) : hasUpg (e :: l) = (e.isUpgrade || hasUpg l) := by simp [hasUpg]

theorem hasUpg_of_mem {rid : Nat} {extra : Bytes} {l : List Ev} (h : Ev.upgrade rid extra ∈ l) : hasUpg l = true := by
  simp only [hasUpg, List.any_eq_true]
  exact ⟨_, h, rfl⟩

theorem okLog_true_of (l : List Ev) (h : ∀ e ∈ l, e.isIo = false) (b : Bool) : okLog b l = true := by
  induction l generalizing b with
  | nil => rfl
  | cons e l ih =>
    have he := h e (by simp)
    simp only [okLog, he, Bool.and_false]
    exact ih (fun e' h' => h e' (by simp [h'])) _

theorem okLog_append (b : Bool) (a c : List Ev) :
    okLog b (a ++ c) = (okLog b a && okLog (b || hasUpg a) c) := by
  induction a generalizing b with
  | nil => simp [okLog]
  | cons e a ih =>
    simp only [List.cons_append, okLog]
    by_cases hb : (b && e.isIo) = true
    · simp [hb]
    · simp only [hb]
      rw [ih]
      simp [hasUpg, Bool.or_assoc]

theorem okLog_true_imp_false (l : List Ev) (h : okLog true l = true) : okLog false l = true := by
  induction l with
  | nil => rfl
  | cons e l ih =>
    simp only [okLog, Bool.true_and, Bool.true_or, Bool.false_and, Bool.false_or] at *
    by_cases he : e.isIo = true
    · simp [he] at h
    · simp only [he] at h
      by_cases hu : e.isUpgrade = true
      · simpa [hu] using h
      · have : e.isUpgrade = false := by simpa using hu
        rw [this]; exact ih h

@[simp] theorem okLog_single (b : Bool) (e : Ev) : okLog b [e] = !(b && e.isIo) := by
  simp [okLog]

@[simp] theorem handedOf_nil : handedOf [] = [] := rfl
theorem handedOf_append (a b : List Ev) : handedOf (a ++ b) = handedOf a ++ handedOf b := by
  induction a with
  | nil => rfl
  | cons e a ih => cases e <;> simp [handedOf, ih]

theorem daemonWire_append (a b : List Ev) : daemonWire (a ++ b) = daemonWire a ++ daemonWire b := by
  induction a with
  | nil => rfl
  | cons e a ih => cases e <;> simp [daemonWire, ih]

@[simp] theorem cnt_nil (p : Ev → Bool) : cnt p [] = 0 := rfl
@[simp] theorem cnt_append (p : Ev → Bool) (a b : List Ev) : cnt p (a ++ b) = cnt p a + cnt p b := by
  simp [cnt]
@[simp] theorem cnt_single (p : Ev → Bool) (e : Ev) : cnt p [e] = if p e then 1 else 0 := by
  simp [cnt, List.countP_cons]

def upgRids : List Ev → List Nat
  | [] => []
  | .upgrade rid _ :: l => rid :: upgRids l
  | _ :: l => upgRids l

theorem upgRids_append (a b : List Ev) : upgRids (a ++ b) = upgRids a ++ upgRids b := by
  induction a with
  | nil => rfl
  | cons e a ih => cases e <;> simp [upgRids, ih]

theorem upgRids_snoc (l : List Ev) {e : Ev} (he : e.isUpgrade = false) : upgRids (l ++ [e]) = upgRids l := by
  rw [upgRids_append]
  cases e <;> simp_all [upgRids, Ev.isUpgrade]

theorem upgRids_nil_of_noUpg : ∀ (l : List Ev), hasUpg l = false → upgRids l = [] := by
  intro l
  induction l with
  | nil => intro _; rfl
  | cons e l ih =>
    intro h
    simp only [hasUpg_cons, Bool.or_eq_false_iff] at h
    cases e <;> simp_all [upgRids, Ev.isUpgrade]

theorem mem_upgRids_of_mem {rid : Nat} {extra : Bytes} : ∀ {l : List Ev}, Ev.upgrade rid extra ∈ l → rid ∈ upgRids l := by
  intro l
  induction l with
  | nil => intro h; cases h
  | cons e l ih =>
    intro h
    rcases List.mem_cons.mp h with h1 | h1
    · subst h1; simp [upgRids]
    · have := ih h1
      cases e <;> simp_all [upgRids]

def noIo (l : List Ev) : Prop := ∀ e ∈ l, e.isIo = false

theorem okLog_true_noIo : ∀ (l : List Ev), okLog true l = true → noIo l := by
  intro l
  induction l with
  | nil => intro _ e he; cases he
  | cons a l ih =>
    intro h e he
    simp only [okLog, Bool.true_and, Bool.true_or] at h
    by_cases ha : a.isIo = true
    · simp [ha] at h
    · have ha' : a.isIo = false := by simpa using ha
      simp only [ha'] at h
      rcases List.mem_cons.mp he with rfl | h'
      · exact ha'
      · exact ih h e h'

end Mhd.Upg
