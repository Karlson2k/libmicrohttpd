/-
  C16 — "Hash functions equal the standards for every message and update pattern".

  For each algorithm X ∈ {MD5, SHA-1 (two copies), SHA-256, SHA-512/256}:  whatever context is
  handed in (fresh from malloc, wiped by an earlier finish, or abandoned in the middle of another
  message), `init`, then *any* list of chunks (every split, including empty chunks) at *any*
  addresses (alignment only selects which unrolled block of the transform runs), then `finish`
  returns — without leaving the bounds of any buffer — the standard's digest of the
  concatenation and leaves the wiped context, from which the same holds again (context re-use).

  `Spec.X.hash` is the transcription of RFC 1321 / FIPS 180-4 in `Model/Hash/SpecX.lean`
  (trusted; validated below on the published vectors, and against hashlib in every run).
  The models `Mhd.Hash.X.alg` are tied to the C code by the regenerated step tables / IVs /
  sizes in `Mhd.Gen.Hash` — the `…_table_is_standard` theorems (and with them the `…_chunks`
  theorems) stop checking when a constant, a register name, a shift amount or the order of the
  steps changes in the C source — and by the correspondence run of tools/props/C16.py.

  No message-length hypothesis is needed: `count << 3` (uint64) loses exactly the bits that the
  64-bit length field of the standards cannot hold (the standards define SHA-1/SHA-256 for
  < 2^61 bytes only; the specifications here use the low 64 bits beyond that, as RFC 1321
  prescribes for MD5).  SHA-512/256 keeps the high bits in `count_bits_hi`; its theorem needs
  each single chunk to be shorter than 2^64 bytes (what a `size_t length` can express).
-/
import Mhd.Proofs.Hash.Sha256
import Mhd.Proofs.Hash.Md5
import Mhd.Proofs.Hash.Sha512
import Mhd.Proofs.Hash.Sha1
import Mhd.Proofs.Hash.Casts
import Mhd.Proofs.Hash.LenField

namespace Mhd.C16
open Mhd.Hash

/-- the bytes fed to the hash by a list of `(address, chunk)` update calls -/
def message (chunks : List (Nat × List UInt8)) : List UInt8 := (chunks.map (·.2)).flatten

/-- every context, every chunk list, every alignment -/
theorem sha256_chunks (c : Ctx (R8 UInt32)) (hc : c.buffer.length = 64)
    (chunks : List (Nat × List UInt8)) :
    run Sha256.alg c chunks = .ok (Spec.Sha256.hash (message chunks), wiped Sha256.alg) :=
  run_correct Sha256.refines c hc chunks (fun _ _ => trivial)

/-- non-vacuity: a context with junk everywhere, three chunks (one empty, one misaligned) -/
example : run Sha256.alg ⟨⟨1, 2, 3, 4, 5, 6, 7, 8⟩, List.replicate 64 0xAA, 99, 0⟩
    [(0, [0x61]), (5, []), (3, [0x62, 0x63])] =
    .ok (Spec.Sha256.hash [0x61, 0x62, 0x63], wiped Sha256.alg) :=
  sha256_chunks _ rfl _

/-- context re-use: the context left by `finish` is again a legal starting point -/
theorem sha256_reuse (c : Ctx (R8 UInt32)) (hc : c.buffer.length = 64)
    (m1 m2 : List (Nat × List UInt8)) :
    ∃ d1 c1, run Sha256.alg c m1 = .ok (d1, c1) ∧
      run Sha256.alg c1 m2 = .ok (Spec.Sha256.hash (message m2), wiped Sha256.alg) :=
  ⟨_, _, sha256_chunks c hc m1, sha256_chunks _ (by simp [wiped]; rfl) m2⟩

example : ∃ d1 c1, run Sha256.alg ⟨⟨0, 0, 0, 0, 0, 0, 0, 0⟩, List.replicate 64 0, 0, 0⟩ [(0, [1, 2, 3])] = .ok (d1, c1) ∧
    run Sha256.alg c1 [(1, [4])] = .ok (Spec.Sha256.hash [4], wiped Sha256.alg) :=
  sha256_reuse _ rfl _ _

/-- what breaks when sha256.c changes a constant, a register name, the order of the steps or
    the initial value -/
theorem sha256_table_is_standard :
    Mhd.Gen.Hash.sha256Steps = (List.range 64).map Sha256.closedRow ∧
    Mhd.Gen.Hash.sha256StepsMis = (List.range 64).map Sha256.closedRow ∧
    Sha256.ivOf Mhd.Gen.Hash.sha256IV = Spec.Sha256.H0 ∧
    Mhd.Gen.Hash.sha256Block = 64 ∧ Mhd.Gen.Hash.sha256LenAdd = 8 :=
  ⟨Sha256.steps_closed, Sha256.stepsMis_closed, Sha256.iv_eq, by decide, by decide⟩

theorem md5_chunks (c : Ctx (R4 UInt32)) (hc : c.buffer.length = 64)
    (chunks : List (Nat × List UInt8)) :
    run Md5.alg c chunks = .ok (Spec.Md5.hash (message chunks), wiped Md5.alg) :=
  run_correct Md5.refines c hc chunks (fun _ _ => trivial)

example : run Md5.alg ⟨⟨9, 9, 9, 9⟩, List.replicate 64 0x55, 7, 0⟩
    [(1, [0x61]), (0, []), (2, [0x62, 0x63])] =
    .ok (Spec.Md5.hash [0x61, 0x62, 0x63], wiped Md5.alg) :=
  md5_chunks _ rfl _

theorem md5_reuse (c : Ctx (R4 UInt32)) (hc : c.buffer.length = 64)
    (m1 m2 : List (Nat × List UInt8)) :
    ∃ d1 c1, run Md5.alg c m1 = .ok (d1, c1) ∧
      run Md5.alg c1 m2 = .ok (Spec.Md5.hash (message m2), wiped Md5.alg) :=
  ⟨_, _, md5_chunks c hc m1, md5_chunks _ (by simp [wiped]; rfl) m2⟩

example : ∃ d1 c1, run Md5.alg ⟨⟨0, 0, 0, 0⟩, List.replicate 64 0, 0, 0⟩ [(0, [1, 2, 3])] = .ok (d1, c1) ∧
    run Md5.alg c1 [(1, [4])] = .ok (Spec.Md5.hash [4], wiped Md5.alg) :=
  md5_reuse _ rfl _ _

/-- md5.c: both recorded paths (aligned input; misaligned input copied to `X[]` first) carry the
    RFC's k, s, T in the RFC's order with the RFC's register cycling and round functions -/
theorem md5_table_is_standard :
    Mhd.Gen.Hash.md5Steps = (List.range 64).map (Md5.closedRow false) ∧
    Mhd.Gen.Hash.md5StepsMis = (List.range 64).map (Md5.closedRow true) ∧
    Md5.ivOf Mhd.Gen.Hash.md5IV = Spec.Md5.IV ∧
    Mhd.Gen.Hash.md5Block = 64 ∧ Mhd.Gen.Hash.md5LenAdd = 8 :=
  ⟨Md5.steps_closed, Md5.stepsMis_closed, Md5.iv_eq, by decide, by decide⟩

/-- every chunk is something a `size_t length` can describe -/
def sizeT (chunks : List (Nat × List UInt8)) : Prop := ∀ ch ∈ chunks, ch.2.length < 18446744073709551616

theorem sha512_256_chunks (c : Ctx (R8 UInt64)) (hc : c.buffer.length = 128)
    (chunks : List (Nat × List UInt8)) (hl : sizeT chunks) :
    run Sha512.alg c chunks = .ok (Spec.Sha512.hash (message chunks), wiped Sha512.alg) :=
  run_correct Sha512.refines c hc chunks hl

example : run Sha512.alg ⟨⟨1, 2, 3, 4, 5, 6, 7, 8⟩, List.replicate 128 0xAA, 99, 5⟩
    [(0, [0x61]), (5, []), (3, [0x62, 0x63])] =
    .ok (Spec.Sha512.hash [0x61, 0x62, 0x63], wiped Sha512.alg) :=
  sha512_256_chunks _ rfl _ (by intro ch h; simp at h; rcases h with rfl | rfl | rfl <;> decide)

theorem sha512_256_reuse (c : Ctx (R8 UInt64)) (hc : c.buffer.length = 128)
    (m1 m2 : List (Nat × List UInt8)) (h1 : sizeT m1) (h2 : sizeT m2) :
    ∃ d1 c1, run Sha512.alg c m1 = .ok (d1, c1) ∧
      run Sha512.alg c1 m2 = .ok (Spec.Sha512.hash (message m2), wiped Sha512.alg) :=
  ⟨_, _, sha512_256_chunks c hc m1 h1, sha512_256_chunks _ (by simp [wiped]; rfl) m2 h2⟩

/-- the split bit counter of sha512_256.c is exact: after any number of bytes `n` (fed in
    `size_t`-sized pieces) `count_bits_hi · 2^64 + count · 8 ≡ 8 n (mod 2^128)` — stated on the
    abstract counter that the invariant of `sha512_256_chunks` maintains -/
theorem sha512_256_counter (n len : Nat) (hl : len < 18446744073709551616) :
    Sha512.bump512 (Sha512.cnt512 n).1 (Sha512.cnt512 n).2 len = Sha512.cnt512 (n + len) ∧
    ((Sha512.cnt512 n).2 * 18446744073709551616 + (Sha512.cnt512 n).1 * 8)
      = (8 * n) % (18446744073709551616 * 18446744073709551616) :=
  -- `8 n = 2^64 · (n / 2^61) + 8 · (n mod 2^61)`, reduced modulo `2^64 · 2^64`
  ⟨Sha512.bump_eq n len hl, by
    simp only [Sha512.cnt512]
    rw [Nat.mod_mul, show (18446744073709551616 : Nat) = 8 * 2305843009213693952 from rfl,
      Nat.mul_mod_mul_left, Nat.mul_div_mul_left _ _ (by decide), Nat.add_comm,
      Nat.mul_comm (n % 2305843009213693952), Nat.mul_comm _ (8 * 2305843009213693952)]⟩

example : Sha512.bump512 (Sha512.cnt512 (2 ^ 61 - 1)).1 (Sha512.cnt512 (2 ^ 61 - 1)).2 5 = (4, 1) := by decide

theorem sha512_256_table_is_standard :
    Mhd.Gen.Hash.sha512Steps = (List.range 80).map Sha512.closedRow ∧
    Mhd.Gen.Hash.sha512StepsMis = (List.range 80).map Sha512.closedRow ∧
    Sha512.ivOf Mhd.Gen.Hash.sha512IV = Spec.Sha512.H0 ∧
    Mhd.Gen.Hash.sha512Block = 128 ∧ Mhd.Gen.Hash.sha512LenAdd = 16 :=
  ⟨Sha512.steps_closed, Sha512.stepsMis_closed, Sha512.iv_eq, by decide, by decide⟩

theorem sha1_chunks (c : Ctx (R5 UInt32)) (hc : c.buffer.length = 64)
    (chunks : List (Nat × List UInt8)) :
    run Sha1.alg c chunks = .ok (Spec.Sha1.hash (message chunks), wiped Sha1.alg) :=
  run_correct Sha1.refines c hc chunks (fun _ _ => trivial)

example : run Sha1.alg ⟨⟨1, 2, 3, 4, 5⟩, List.replicate 64 0xAA, 99, 0⟩
    [(0, [0x61]), (5, []), (3, [0x62, 0x63])] =
    .ok (Spec.Sha1.hash [0x61, 0x62, 0x63], wiped Sha1.alg) :=
  sha1_chunks _ rfl _

theorem sha1_reuse (c : Ctx (R5 UInt32)) (hc : c.buffer.length = 64)
    (m1 m2 : List (Nat × List UInt8)) :
    ∃ d1 c1, run Sha1.alg c m1 = .ok (d1, c1) ∧
      run Sha1.alg c1 m2 = .ok (Spec.Sha1.hash (message m2), wiped Sha1.alg) :=
  ⟨_, _, sha1_chunks c hc m1, sha1_chunks _ (by simp [wiped]; rfl) m2⟩

/-- the WebSocket copy -/
theorem ws_sha1_chunks (c : Ctx (R5 UInt32)) (hc : c.buffer.length = 64)
    (chunks : List (Nat × List UInt8)) :
    run Sha1.wsAlg c chunks = .ok (Spec.Sha1.hash (message chunks), wiped Sha1.wsAlg) :=
  run_correct Sha1.wsRefines c hc chunks (fun _ _ => trivial)

example : run Sha1.wsAlg ⟨⟨1, 2, 3, 4, 5⟩, List.replicate 64 0xAA, 99, 0⟩
    [(0, [0x61]), (5, []), (3, [0x62, 0x63])] =
    .ok (Spec.Sha1.hash [0x61, 0x62, 0x63], wiped Sha1.wsAlg) :=
  ws_sha1_chunks _ rfl _

theorem ws_sha1_reuse (c : Ctx (R5 UInt32)) (hc : c.buffer.length = 64)
    (m1 m2 : List (Nat × List UInt8)) :
    ∃ d1 c1, run Sha1.wsAlg c m1 = .ok (d1, c1) ∧
      run Sha1.wsAlg c1 m2 = .ok (Spec.Sha1.hash (message m2), wiped Sha1.wsAlg) :=
  ⟨_, _, ws_sha1_chunks c hc m1, ws_sha1_chunks _ (by simp [wiped]; rfl) m2⟩

/-- both copies execute the same steps, which are the standard's -/
theorem sha1_table_is_standard :
    Mhd.Gen.Hash.sha1Steps = (List.range 80).map Sha1.closedRow ∧
    Mhd.Gen.Hash.sha1StepsMis = (List.range 80).map Sha1.closedRow ∧
    Mhd.Gen.Hash.wsSha1Steps = (List.range 80).map Sha1.closedRow ∧
    Mhd.Gen.Hash.wsSha1StepsMis = (List.range 80).map Sha1.closedRow ∧
    Sha1.ivOf Mhd.Gen.Hash.sha1IV = Spec.Sha1.H0 ∧ Sha1.ivOf Mhd.Gen.Hash.wsSha1IV = Spec.Sha1.H0 ∧
    Mhd.Gen.Hash.sha1Block = 64 ∧ Mhd.Gen.Hash.sha1LenAdd = 8 ∧
    Mhd.Gen.Hash.wsSha1Block = 64 ∧ Mhd.Gen.Hash.wsSha1LenAdd = 8 :=
  ⟨Sha1.steps_closed, Sha1.stepsMis_closed, Sha1.wsSteps_closed, Sha1.wsStepsMis_closed,
   Sha1.iv_eq, Sha1.wsIv_eq, by decide, by decide, by decide, by decide⟩

/-! Integer widths in the control flow of update/finish.
  The models above take `length`, `count`, `bytes_have` as natural numbers (with the `uint64_t`
  wrap of `count` and the `unsigned int` subtraction written out).  The C functions mix `size_t`,
  `uint64_t` and `unsigned int`.  Widening conversions keep the value; a *narrowing* one —
  `if (((unsigned int) length) >= bytes_left)` — does not, and no message below 4 GiB shows it.
  `Mhd.Gen.Hash.narrowingCasts` (regenerated from clang's AST each run) lists every conversion
  from a 64-bit to a narrower integer type in the ten update/finish functions, written or
  implicit; the unchanged tree has exactly one per function,
  `bytes_have = (unsigned int) (ctx->count & (BLOCK_SIZE - 1))`. -/

/-- every narrowing conversion that can reach a comparison, a loop bound, a size or a local
    variable of the update/finish functions is the identity on every value its operand can take
    (for all values of the variables occurring in it), and the `length` parameter of every update
    function is 64 bits wide: the natural-number `length`/`count % B` of the models is what the
    C code computes with.  (Conversions of values that a finish function only stores — the length
    field — are data: `…_chunks` + the byte-counter cases of the run speak about those.) -/
theorem no_narrowing_in_control_flow :
    (∀ c ∈ Mhd.Gen.Hash.narrowingCasts, c.dataPath = false →
      ∀ env : String → Nat, c.operand.eval env % 2 ^ c.dstBits = c.operand.eval env) ∧
    (∀ u ∈ Mhd.Gen.Hash.updateLengthBits, u.2.2 = 64) ∧
    (∀ count : Nat, (count &&& 63) % 2 ^ 32 = count % 64 ∧ (count &&& 127) % 2 ^ 32 = count % 128) :=
  ⟨fun c hc hd env => c.harmless_keeps_value (casts_harmless c hc hd) env, length_params_64,
   fun count => ⟨bytes_have count 6 (by decide), bytes_have count 7 (by decide)⟩⟩

/-- non-vacuity: the list is not empty and speaks about the update functions … -/
example : ("MHD_SHA512_256_update", "(ctx->count & (SHA512_256_BLOCK_SIZE - 1))") ∈
    Mhd.Gen.Hash.narrowingCastsInUpdate.map (fun t => (t.1, t.2.1)) := by decide +kernel
/-- … and the criterion rejects the conversion `(unsigned int) length`: it is not harmless, and a
    length of 2^32 + 5 is changed by it (to 5, which is less than the free space of the buffer) -/
example : (⟨"MHD_SHA512_256_update", "length", 34, true, true, false, 64, 32, .other "length" 64⟩ : NarrowCast).harmless = false
    ∧ (CExpr.other "length" 64).eval (fun _ => 2 ^ 32 + 5) % 2 ^ 32 = 5 := by decide

/-! No state outside the arguments.
  The models' `transform`, `update`, `finish` are functions of their arguments: the digest depends
  on the context and the data only.  That abstracts the C functions correctly only if these keep
  nothing in objects that outlive a call — a `static uint64_t W[16]` schedule buffer in a transform
  gives the right digest in every single-threaded run and wrong ones when two connections' threads
  check Digest Auth at the same time.  `Mhd.Gen.Hash.mutableStatics` (regenerated each run from
  the symbol tables of the five translation units compiled with the configured flags) lists every
  object with static storage duration that lives in a writable section: static locals, file-scope
  objects, thread-local ones.  Constant tables (`.rodata`, `constStatics`) are not state. -/

/-- the five hash translation units define no writable object with static storage duration, and
    the scan did look at all five (it saw their init/update/finish functions): the purity of the
    model functions is a checked abstraction (the run adds 4–8 threads hashing concurrently) -/
theorem hash_functions_have_no_mutable_static_state :
    Mhd.Gen.Hash.mutableStatics = [] ∧
    Mhd.Gen.Hash.staticsScanned.map (·.1) =
      ["src/microhttpd/md5.c", "src/microhttpd/sha1.c", "src/microhttpd/sha256.c",
       "src/microhttpd/sha512_256.c", "src/microhttpd_ws/sha1.c"] ∧
    (∀ u ∈ Mhd.Gen.Hash.staticsScanned, 3 ≤ u.2) := by decide +kernel

/-- non-vacuity: the statement is about a list that a `static` buffer would make non-empty
    (the translator checks on a probe file each run that it sees such objects and tells them from
    const tables) -/
example : [("src/microhttpd/sha512_256.c", "W", 89)] ≠ ([] : List (String × String × Nat)) := by decide

/-! The length field written by finish.
  `…_chunks` compare the digest with the specification, and the specifications pad with the
  full-width bit length (`Spec.X.lenField n` = the 64-bit, for SHA-512/256 the 128-bit, encoding of
  `8·n`).  The statement about the field itself is a direct corollary of the invariant behind
  `…_chunks` (`Mhd.Hash.lengthField_eq`: byte counter = bytes fed, `putLen` = `lenField`):
  whatever was fed since `init`, in whatever pieces, `finish` stores `8·total` — all 64 (128) bits
  of it, not only the low word.  `lengthField A c` is by definition the byte string `finish` writes
  at offset `B - L` of the last block (`finish_uses_lengthField`).  -/
/-- SHA-256: the 8 bytes stored at offset 56 of the last block are the big-endian `8·total`: modulo 2^64 in
    general (`count << 3`), exactly for every total below 2^61 bytes (the standard's own limit) -/
theorem finish_length_encoding_sha256 (c : Ctx (R8 UInt32)) (hc : c.buffer.length = 64)
    (chunks : List (Nat × List UInt8)) :
    ∃ c', feed Sha256.alg (init Sha256.alg c) chunks = .ok c' ∧
      beVal (lengthField Sha256.alg c') = (8 * (message chunks).length) % 2 ^ 64 ∧
      ((message chunks).length < 2 ^ 61 → beVal (lengthField Sha256.alg c') = 8 * (message chunks).length) :=
  lengthField_val Sha256.refines beVal (2 ^ 64) beVal_lenField64 (2 ^ 61) (by decide) c hc chunks (fun _ _ => trivial)

/-- SHA-1 (src/microhttpd/sha1.c) -/
theorem finish_length_encoding_sha1 (c : Ctx (R5 UInt32)) (hc : c.buffer.length = 64)
    (chunks : List (Nat × List UInt8)) :
    ∃ c', feed Sha1.alg (init Sha1.alg c) chunks = .ok c' ∧
      beVal (lengthField Sha1.alg c') = (8 * (message chunks).length) % 2 ^ 64 ∧
      ((message chunks).length < 2 ^ 61 → beVal (lengthField Sha1.alg c') = 8 * (message chunks).length) :=
  lengthField_val Sha1.refines beVal (2 ^ 64) beVal_lenField64 (2 ^ 61) (by decide) c hc chunks (fun _ _ => trivial)

/-- SHA-1 (src/microhttpd_ws/sha1.c) -/
theorem finish_length_encoding_ws_sha1 (c : Ctx (R5 UInt32)) (hc : c.buffer.length = 64)
    (chunks : List (Nat × List UInt8)) :
    ∃ c', feed Sha1.wsAlg (init Sha1.wsAlg c) chunks = .ok c' ∧
      beVal (lengthField Sha1.wsAlg c') = (8 * (message chunks).length) % 2 ^ 64 ∧
      ((message chunks).length < 2 ^ 61 → beVal (lengthField Sha1.wsAlg c') = 8 * (message chunks).length) :=
  lengthField_val Sha1.wsRefines beVal (2 ^ 64) beVal_lenField64 (2 ^ 61) (by decide) c hc chunks (fun _ _ => trivial)

/-- MD5: little-endian, and modulo 2^64 by definition (RFC 1321 §3.2) -/
theorem finish_length_encoding_md5 (c : Ctx (R4 UInt32)) (hc : c.buffer.length = 64)
    (chunks : List (Nat × List UInt8)) :
    ∃ c', feed Md5.alg (init Md5.alg c) chunks = .ok c' ∧
      leVal (lengthField Md5.alg c') = (8 * (message chunks).length) % 2 ^ 64 ∧
      ((message chunks).length < 2 ^ 61 → leVal (lengthField Md5.alg c') = 8 * (message chunks).length) :=
  lengthField_val Md5.refines leVal (2 ^ 64) leVal_lenField64 (2 ^ 61) (by decide) c hc chunks (fun _ _ => trivial)

/-- SHA-512/256: 16 bytes at offset 112 (`count_bits_hi` then `count << 3`), exact below 2^125 bytes -/
theorem finish_length_encoding_sha512_256 (c : Ctx (R8 UInt64)) (hc : c.buffer.length = 128)
    (chunks : List (Nat × List UInt8)) (hl : sizeT chunks) :
    ∃ c', feed Sha512.alg (init Sha512.alg c) chunks = .ok c' ∧
      beVal (lengthField Sha512.alg c') = (8 * (message chunks).length) % 2 ^ 128 ∧
      ((message chunks).length < 2 ^ 125 → beVal (lengthField Sha512.alg c') = 8 * (message chunks).length) :=
  lengthField_val Sha512.refines beVal (2 ^ 128) sha512_lenField_val (2 ^ 125) (by decide) c hc chunks hl

/-- at 2^29 bytes the bit length leaves the low 32-bit word (the field is 00 00 00 01 00 00 00 00),
    at 2^32 bytes it is 2^35 — for every way of feeding that many bytes; nothing is evaluated on
    a list of that length -/
example (c : Ctx (R5 UInt32)) (hc : c.buffer.length = 64) (chunks : List (Nat × List UInt8))
    (h : (message chunks).length = 2 ^ 29) :
    ∃ c', feed Sha1.alg (init Sha1.alg c) chunks = .ok c' ∧ beVal (lengthField Sha1.alg c') = 2 ^ 32 := by
  obtain ⟨c', hf, _, hx⟩ := finish_length_encoding_sha1 c hc chunks
  exact ⟨c', hf, by rw [hx (by rw [h]; decide), h]⟩

example (c : Ctx (R8 UInt32)) (hc : c.buffer.length = 64) (chunks : List (Nat × List UInt8))
    (h : (message chunks).length = 2 ^ 32) :
    ∃ c', feed Sha256.alg (init Sha256.alg c) chunks = .ok c' ∧ beVal (lengthField Sha256.alg c') = 2 ^ 35 := by
  obtain ⟨c', hf, _, hx⟩ := finish_length_encoding_sha256 c hc chunks
  exact ⟨c', hf, by rw [hx (by rw [h]; decide), h]⟩

/-- such chunk lists exist (one call of 2^29 bytes; 2^32 bytes as 2^12 calls of 2^20) … -/
example : (message [(0, List.replicate (2 ^ 29) 0)]).length = 2 ^ 29 := by
  simp only [message, List.map_cons, List.map_nil, List.flatten_cons, List.flatten_nil, List.append_nil,
    List.length_replicate]
/-- … and the bytes of the field at 2^29: the upper word is 1 -/
example : Spec.Sha1.spec.lenField (2 ^ 29) = [0, 0, 0, 1, 0, 0, 0, 0] ∧
    beVal [0, 0, 0, 1, 0, 0, 0, 0] = 8 * 2 ^ 29 := by decide

/-! Tests (not proofs): the specifications on published vectors -/

def hex (bs : List UInt8) : String :=
  String.ofList (bs.foldr (fun b acc =>
    let d := fun (n : Nat) => if n < 10 then Char.ofNat (48 + n) else Char.ofNat (87 + n)
    d (b.toNat / 16) :: d (b.toNat % 16) :: acc) [])

def ascii (s : String) : List UInt8 := s.toUTF8.toList
def msg448 : List UInt8 := ascii "abcdbcdecdefdefgefghfghighijhijkijkljklmklmnlmnomnopnopq"
def msg896 : List UInt8 :=
  ascii "abcdefghbcdefghicdefghijdefghijkefghijklfghijklmghijklmnhijklmnoijklmnopjklmnopqklmnopqrlmnopqrsmnopqrstnopqrstu"

-- FIPS 180-4 / NIST CSRC example vectors
#guard hex (Spec.Sha256.hash (ascii "abc")) = "ba7816bf8f01cfea414140de5dae2223b00361a396177a9cb410ff61f20015ad"
#guard hex (Spec.Sha256.hash []) = "e3b0c44298fc1c149afbf4c8996fb92427ae41e4649b934ca495991b7852b855"
#guard hex (Spec.Sha256.hash msg448) = "248d6a61d20638b8e5c026930c3e6039a33ce45964ff2167f6ecedd419db06c1"
#guard hex (Spec.Sha1.hash (ascii "abc")) = "a9993e364706816aba3e25717850c26c9cd0d89d"
#guard hex (Spec.Sha1.hash []) = "da39a3ee5e6b4b0d3255bfef95601890afd80709"
#guard hex (Spec.Sha1.hash msg448) = "84983e441c3bd26ebaae4aa1f95129e5e54670f1"
#guard hex (Spec.Sha512.hash (ascii "abc")) = "53048e2681941ef99b2e29b76b4c7dabe4c2d0c634fc6d46e0e2f13107e7af23"
#guard hex (Spec.Sha512.hash []) = "c672b8d1ef56ed28ab87c3622c5114069bdd3ad7b8f9737498d0c01ecef0967a"
#guard hex (Spec.Sha512.hash msg896) = "3928e184fb8690f840da3988121d31be65cb9d3ef83ee6146feac861e19b563a"
-- RFC 1321 appendix A.5 test suite
#guard hex (Spec.Md5.hash []) = "d41d8cd98f00b204e9800998ecf8427e"
#guard hex (Spec.Md5.hash (ascii "a")) = "0cc175b9c0f1b6a831c399e269772661"
#guard hex (Spec.Md5.hash (ascii "abc")) = "900150983cd24fb0d6963f7d28e17f72"
#guard hex (Spec.Md5.hash (ascii "message digest")) = "f96b697d7cb7938d525a2f31aaf161d0"
#guard hex (Spec.Md5.hash (ascii "abcdefghijklmnopqrstuvwxyz")) = "c3fcd3d76192e4007dfb496cca67e13b"
#guard hex (Spec.Md5.hash (ascii "ABCDEFGHIJKLMNOPQRSTUVWXYZabcdefghijklmnopqrstuvwxyz0123456789")) =
  "d174ab98d277d9f5a5611c2c9f419d9f"
#guard hex (Spec.Md5.hash (ascii "12345678901234567890123456789012345678901234567890123456789012345678901234567890")) =
  "57edf4a22be3c955ac49da2e2107b67a"

end Mhd.C16
