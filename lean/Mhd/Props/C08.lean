/-
  C08 — Connection arena: disjoint in-bounds blocks, contents preserved,
  refused request leaves the arena unchanged, reset keeps the requested bytes;
  a request that does not fit is refused (413/414/431 or a close) rather than overflowing.

  Statements: the pool of the ordinary build (proofs in `Mhd.Proofs.PoolInv`), both build variants with
  the red zone as a parameter (`rz_*`, `pool_*`; `Mhd.Proofs.PoolRzInv`), the status code of a no-space
  refusal (`Mhd.Proofs.NoSpace`), the hard size bound at connection level over C01's composed model
  (`arena_hard_bound`; `Mhd.Proofs.NoSpaceConn`) and the reply head inside the write buffer
  (`header_build_in_bounds`; `Mhd.Proofs.ReplyBounds`).  The pool theorems quantify over every pool state
  satisfying the invariant, every operation and every `size_t` argument (`n < 2^64`), and `run_wf`
  lifts them to every operation sequence of any length.
-/
import Mhd.Proofs.PoolInv
import Mhd.Proofs.NoSpace
import Mhd.Proofs.ConnRead
import Mhd.Proofs.NoSpaceConn
import Mhd.Proofs.PoolRzInv
import Mhd.Proofs.ReplyBounds
import Mhd.Gen.ReplyBounds

namespace Mhd.C08
open Mhd.Pool

/-- The arena invariant and the well-formedness of the set of live blocks are
    preserved by every operation with every argument. -/
theorem step_wf (s : St) (o : Op) (h : WF s) (ho : o.Valid) : WF (step s o).1 :=
  Mhd.Pool.step_wf s o h ho

/-- … hence hold in every reachable state, for operation sequences of any length. -/
theorem run_wf (allocSize : Nat) (ha : allocSize % A = 0) (hs : allocSize < 2 ^ 62)
    (ops : List Op) (ho : ∀ o ∈ ops, o.Valid) : WF (run (St.init allocSize) ops) :=
  Mhd.Pool.run_wf allocSize ha hs ops ho

/-- A block handed out lies inside the arena, is aligned for any object, and
    does not overlap any block that is still live. -/
theorem block_in_bounds_disjoint (s : St) (o : Op) (h : WF s) (ho : o.Valid) (off len : Nat)
    (hr : (step s o).2 = .block off len) :
    off % A = 0 ∧ off + len ≤ s.p.size ∧
    ∃ b ∈ (step s o).1.live, b.off = off ∧ b.len = len ∧
      ∀ c ∈ (step s o).1.live, c ≠ b → Disjoint b c :=
  Mhd.Pool.block_in_bounds_disjoint s o h ho off len hr

/-- A refused request leaves the arena (cursors, contents, live set) unchanged. -/
theorem refused_unchanged (s : St) (o : Op) (h : WF s) (ho : o.Valid)
    (hr : (step s o).2 = .null ∨ ∃ n, (step s o).2 = .nullNeed n) : (step s o).1 = s :=
  Mhd.Pool.refused_unchanged s o h ho hr

/-- No operation other than `reset` changes the bytes of a live block that it
    was not asked to operate on. -/
theorem others_untouched (s : St) (o : Op) (h : WF s) (ho : o.Valid) (hnr : ¬ o.isReset)
    (j : Nat) (b : Blk) (hb : s.live[j]? = some b) (hj : o.target ≠ some j) :
    readAt (step s o).1.p.mem b.off b.len = readAt s.p.mem b.off b.len :=
  Mhd.Pool.others_untouched s o h ho hnr j b hb hj

/-- Growing, shrinking or relocating a block preserves `min old new` bytes. -/
theorem realloc_preserves (s : St) (i n : Nat) (h : WF s) (hn : n < W) (b : Blk)
    (hb : s.live[i]? = some b) (hf : b.front = true) (off len : Nat)
    (hr : (step s (.realloc (some i) n)).2 = .block off len) :
    len = n ∧ readAt (step s (.realloc (some i) n)).1.p.mem off (min b.len n)
              = readAt s.p.mem b.off (min b.len n) :=
  Mhd.Pool.realloc_preserves s i n h hn b hb hf off len hr

/-- A reset keeps exactly the requested bytes, at the start of the arena, and
    gives the whole arena back. -/
theorem reset_keeps (s : St) (i copy n : Nat) (h : WF s) (b : Blk) (hb : s.live[i]? = some b)
    (hc : copy ≤ b.len) (hcn : copy ≤ n) (hn : n ≤ s.p.size) :
    let s' := (step s (.reset (some i) copy n)).1
    readAt s'.p.mem 0 copy = readAt s.p.mem b.off copy ∧
    s'.p.end_ = s'.p.size ∧ s'.p.size = s.p.size ∧ s'.p.pos = roundUp n ∧ s'.live = [⟨0, n, true⟩] :=
  Mhd.Pool.reset_keeps s i copy n h b hb hc hcn hn

/-- "… keeps *exactly* the requested bytes": everything behind them is zeroed (the `memset` of `MHD_pool_reset`) -/
theorem reset_zeroes_rest (s : St) (i copy n : Nat) (h : WF s) (b : Blk) (hb : s.live[i]? = some b)
    (hc : copy ≤ b.len) (hcn : copy ≤ n) (hn : n ≤ s.p.size) :
    let s' := (step s (.reset (some i) copy n)).1
    readAt s'.p.mem copy (s.p.size - copy) = List.replicate (s.p.size - copy) 0 :=
  Mhd.Pool.reset_zeroes_rest s i copy n h b hb hc hcn hn

/-- Relocation copies between ranges that do not overlap (the `memcpy` of `MHD_pool_reallocate` is defined): the
    reallocated block stays where it is, or the old block was empty (nothing is copied), or the new block lies
    entirely behind the old one. -/
theorem realloc_move_no_overlap (s : St) (i n : Nat) (h : WF s) (b : Blk)
    (hb : s.live[i]? = some b) (hf : b.front = true) (off len : Nat)
    (hr : (step s (.realloc (some i) n)).2 = .block off len) :
    off = b.off ∨ b.len = 0 ∨ b.off + b.len ≤ off :=
  Mhd.Pool.realloc_move_no_overlap s i n h b hb hf off len hr

/-- "aligned for any object": the alignment of the blocks (`ALIGN_SIZE`, regenerated) is a multiple of
    `_Alignof (max_align_t)` of the configured build (regenerated); the arena base itself comes from
    `malloc` / `mmap` (the white-box harness checks the absolute address of every block it is handed) -/
theorem alignment_covers_max_align : A % Mhd.Gen.Pool.maxAlign = 0 ∧ 0 < Mhd.Gen.Pool.maxAlign := by decide

/-- Non-vacuity: a concrete reachable state with two live blocks satisfies the
    hypotheses used above. -/
example : WF (run (St.init 64) [.alloc 10 false, .alloc 16 true, .realloc (some 0) 30]) := by
  apply Mhd.Pool.run_wf <;> simp [Op.Valid, W, A, Mhd.Gen.Pool.alignSize]

/-! Both build variants of the pool (`Mhd.PoolRz`).

`Mhd.Model.PoolRz` is memorypool.c with the red zone as a parameter: `rz = 0` the ordinary build (it agrees
with `Mhd.Pool`, `rz_agrees_with_ordinary_model`), `rz = ALIGN_SIZE` the `MHD_ASAN_POISON_ACTIVE` build the
second daemon build of C01/C08 uses (`ROUND_TO_ALIGN_PLUS_RED_ZONE`, no early return for zero-sized blocks in
`MHD_pool_deallocate`, the `__asan_region_is_poisoned` decision there, `MHD_pool_get_free` keeping a red zone
back, the user-poison map).  The first seven theorems above (`step_wf` … `reset_keeps`; not `reset_zeroes_rest`,
`realloc_move_no_overlap`, which are stated here for the ordinary build only) hold for every valid variant (`Var.Valid`: red zone 0 or
`ALIGN_SIZE`) whose wrap test on the rounded size is sound (`Var.Sound`: always in the ordinary build; in the
red-zone build iff the code tests `asize < size` — regenerated probe `Mhd.Gen.Pool.sizeWrapByCompare`;
with `(0 == asize) && (0 != size)` the sizes `SIZE_MAX-14 … SIZE_MAX` pass it: `rz_wrap_witness`).
`WF v` is the invariant of variant `v`: in the red-zone build every block — also a zero-sized one — owns
`rz` bytes behind it that belong to nobody (`rz_live_red_zone`); the build-independent reading
(`Mhd.PoolRz.WFW`: blocks in their part of the arena, pairwise disjoint) follows from it (`WF.weak`) but is
not inductive on its own (`Mhd.PoolRz.wfw_not_inductive`). -/

section RedZone
open Mhd.PoolRz (Var)

theorem rz_step_wf (v : Var) (hv : v.Valid) (hs : v.Sound) (s : Mhd.PoolRz.St) (o : Op) (h : Mhd.PoolRz.WF v s)
    (ho : o.Valid) : Mhd.PoolRz.WF v (Mhd.PoolRz.step v s o).1 :=
  Mhd.PoolRz.step_wf v hv hs s o h ho

theorem rz_run_wf (v : Var) (hv : v.Valid) (hs : v.Sound) (allocSize : Nat) (ha : allocSize % A = 0)
    (hsz : allocSize < 2 ^ 62) (ops : List Op) (ho : ∀ o ∈ ops, o.Valid) :
    Mhd.PoolRz.WF v (Mhd.PoolRz.run v (Mhd.PoolRz.St.init allocSize) ops) :=
  Mhd.PoolRz.run_wf v hv hs allocSize ha hsz ops ho

/-- the invariant of the variant implies the build-independent one -/
theorem rz_wf_weak (v : Var) (s : Mhd.PoolRz.St) (h : Mhd.PoolRz.WF v s) : Mhd.PoolRz.WFW s := h.weak

/-- no operation poisons / unpoisons outside the arena -/
theorem rz_step_no_fault (v : Var) (hv : v.Valid) (hs : v.Sound) (s : Mhd.PoolRz.St) (o : Op)
    (h : Mhd.PoolRz.WF v s) (ho : o.Valid) : (Mhd.PoolRz.step v s o).2 ≠ .fault :=
  Mhd.PoolRz.step_no_fault v hv hs s o h ho

theorem rz_block_in_bounds_disjoint (v : Var) (hv : v.Valid) (hs : v.Sound) (s : Mhd.PoolRz.St) (o : Op)
    (h : Mhd.PoolRz.WF v s) (ho : o.Valid) (off len : Nat) (hr : (Mhd.PoolRz.step v s o).2 = .block off len) :
    off % A = 0 ∧ off + len ≤ s.p.size ∧
    ∃ b ∈ (Mhd.PoolRz.step v s o).1.live, b.off = off ∧ b.len = len ∧
      ∀ c ∈ (Mhd.PoolRz.step v s o).1.live, c ≠ b → Disjoint b c :=
  Mhd.PoolRz.block_in_bounds_disjoint v hv hs s o h ho off len hr

theorem rz_refused_unchanged (v : Var) (hv : v.Valid) (hs : v.Sound) (s : Mhd.PoolRz.St) (o : Op)
    (h : Mhd.PoolRz.WF v s) (ho : o.Valid)
    (hr : (Mhd.PoolRz.step v s o).2 = .null ∨ ∃ n, (Mhd.PoolRz.step v s o).2 = .nullNeed n) :
    (Mhd.PoolRz.step v s o).1 = s :=
  Mhd.PoolRz.refused_unchanged v hv hs s o h ho hr

theorem rz_others_untouched (v : Var) (hv : v.Valid) (hs : v.Sound) (s : Mhd.PoolRz.St) (o : Op)
    (h : Mhd.PoolRz.WF v s) (ho : o.Valid) (hnr : ¬ o.isReset) (j : Nat) (b : Blk) (hb : s.live[j]? = some b)
    (hj : o.target ≠ some j) :
    readAt (Mhd.PoolRz.step v s o).1.p.mem b.off b.len = readAt s.p.mem b.off b.len :=
  Mhd.PoolRz.others_untouched v hv hs s o h ho hnr j b hb hj

theorem rz_realloc_preserves (v : Var) (hv : v.Valid) (hs : v.Sound) (s : Mhd.PoolRz.St) (i n : Nat)
    (h : Mhd.PoolRz.WF v s) (hn : n < W) (b : Blk) (hb : s.live[i]? = some b) (hf : b.front = true) (off len : Nat)
    (hr : (Mhd.PoolRz.step v s (.realloc (some i) n)).2 = .block off len) :
    len = n ∧ readAt (Mhd.PoolRz.step v s (.realloc (some i) n)).1.p.mem off (min b.len n)
              = readAt s.p.mem b.off (min b.len n) :=
  Mhd.PoolRz.realloc_preserves v hv hs s i n h hn b hb hf off len hr

/-- (the block asked for must fit the arena together with its red zone: `hrz`; the callers ask for
    `pool_size / 2` or the read-ahead) -/
theorem rz_reset_keeps (v : Var) (hv : v.Valid) (s : Mhd.PoolRz.St) (i copy n : Nat) (h : Mhd.PoolRz.WF v s) (b : Blk)
    (hb : s.live[i]? = some b) (hc : copy ≤ b.len) (hcn : copy ≤ n) (hn : n ≤ s.p.size)
    (hrz : roundUp n + v.rz ≤ s.p.size) :
    let s' := (Mhd.PoolRz.step v s (.reset (some i) copy n)).1
    readAt s'.p.mem 0 copy = readAt s.p.mem b.off copy ∧
    s'.p.end_ = s'.p.size ∧ s'.p.size = s.p.size ∧ s'.p.pos = Mhd.PoolRz.roundRz v n ∧ s'.live = [⟨0, n, true⟩] :=
  Mhd.PoolRz.reset_keeps v hv s i copy n h b hb hc hcn hn hrz

/-- the red zone of a freshly allocated block is inside its part of the arena; that its bytes belong to no live block
    is `rz_live_red_zone` in the successor state, which is `WF` again -/
theorem rz_alloc_red_zone (v : Var) (hv : v.Valid) (hs : v.Sound) (s : Mhd.PoolRz.St) (n : Nat) (fe : Bool)
    (h : Mhd.PoolRz.WF v s) (hn : n < W) (off len : Nat) (hr : (Mhd.PoolRz.step v s (.alloc n fe)).2 = .block off len) :
    len = n ∧ (fe = false → off + roundUp n + v.rz ≤ (Mhd.PoolRz.step v s (.alloc n fe)).1.p.pos) ∧
    (fe = true → off + roundUp n + v.rz ≤ s.p.end_) := by
  obtain ⟨p', nb, e, rfl, _, hl, _, _, hx⟩ := (Mhd.PoolRz.step_alloc hv hs h hn fe).block hr
  rw [e]
  exact ⟨hl, hx⟩

/-- red-zone build: every live block together with its red zone lies in its part of the arena and outside every
    other live block together with that block's red zone -/
theorem rz_live_red_zone (v : Var) (s : Mhd.PoolRz.St) (h : Mhd.PoolRz.WF v s) (hrz : v.rz ≠ 0) (i j : Nat) (b c : Blk)
    (hb : s.live[i]? = some b) (hc : s.live[j]? = some c) (hij : i ≠ j) :
    (b.front = true → b.off + b.len + v.rz ≤ s.p.pos) ∧
    (b.front = false → s.p.end_ ≤ b.off ∧ b.off + b.len + v.rz ≤ s.p.size) ∧
    (b.off + b.len + v.rz ≤ c.off ∨ c.off + c.len + v.rz ≤ b.off) := by
  -- `Inside` + `Sep`, restated
  have hd := List.pairwise_getElem? (fun _ _ => Mhd.PoolRz.Sep.symm) h.2.2 hb hc hij
  have := (h.2.1 _ (List.mem_of_getElem? hb)).2.2.2 (Or.inr hrz)
  refine ⟨this.1, this.2, ?_⟩
  unfold Mhd.PoolRz.Sep at hd; omega

/-- at red zone 0 the parameterised model is the model of the ordinary build: same successor state, same result -/
theorem rz_agrees_with_ordinary_model (chk : Bool) (s : Mhd.PoolRz.St) (o : Op) (ho : o.Valid)
    (h : Mhd.PoolRz.WF ⟨0, chk⟩ s) :
    Mhd.PoolRz.eraseSt (Mhd.PoolRz.step ⟨0, chk⟩ s o).1 = (step (Mhd.PoolRz.eraseSt s) o).1 ∧
    Mhd.PoolRz.eraseRes (Mhd.PoolRz.step ⟨0, chk⟩ s o).2 = (step (Mhd.PoolRz.eraseSt s) o).2 ∧
    (Mhd.PoolRz.step ⟨0, chk⟩ s o).2 ≠ .fault :=
  Mhd.PoolRz.erase_step_wf chk s o ho h

/-- the variants that exist are valid, the ordinary build is sound whatever the wrap test, the red-zone build of
    the code as it is (`Mhd.Gen.Pool.redZoneAsan`, `sizeWrapByCompare` regenerated) is sound iff the probe says so -/
theorem rz_code_variants :
    (∀ chk, Var.Valid ⟨0, chk⟩ ∧ Var.Sound ⟨0, chk⟩) ∧
    Var.Valid ⟨Mhd.Gen.Pool.redZoneAsan, Mhd.Gen.Pool.sizeWrapByCompare⟩ ∧
    (Mhd.Gen.Pool.sizeWrapByCompare = true → Var.Sound ⟨Mhd.Gen.Pool.redZoneAsan, Mhd.Gen.Pool.sizeWrapByCompare⟩) :=
  ⟨fun _ => ⟨Or.inl rfl, Or.inr rfl⟩, Or.inr rfl, fun h => Or.inl h⟩

/-- **Witness** (kernel-checked) that the soundness hypothesis is needed: the red-zone build with the test
    `(0 == asize) && (0 != size)` hands out a "block" of `SIZE_MAX` bytes at offset 0 of a 64-byte arena (16 bytes
    reserved) and unpoisons outside the arena — on the real code ASan's own CHECK aborts the process
    (`MHD_pool_allocate (pool, SIZE_MAX, false)`, memorypool.c:424). -/
theorem rz_wrap_witness :
    (Mhd.PoolRz.step ⟨16, false⟩ (Mhd.PoolRz.St.init 64) (.alloc (2 ^ 64 - 1) false)).2 = .fault ∧
    (Mhd.PoolRz.allocate ⟨16, false⟩ (Mhd.PoolRz.create 64) (2 ^ 64 - 1) false).2 = some 0 ∧
    (Mhd.PoolRz.allocate ⟨16, false⟩ (Mhd.PoolRz.create 64) (2 ^ 64 - 1) false).1.pos = 16 := by
  decide

/-- Non-vacuity: a reachable state of the red-zone build with a front, a zero-sized and a back block -/
example : Mhd.PoolRz.WF ⟨16, true⟩ (Mhd.PoolRz.run ⟨16, true⟩ (Mhd.PoolRz.St.init 128)
    [.alloc 10 false, .alloc 0 false, .alloc 5 true, .realloc (some 0) 30]) := by
  apply Mhd.PoolRz.run_wf <;> simp [Op.Valid, W, A, Mhd.Gen.Pool.alignSize, Mhd.PoolRz.Var.Valid, Mhd.PoolRz.Var.Sound]

/-! The variants that exist in the code as it is — no hypothesis left.

`Var.Extracted v`: `v` is the ordinary build or the red-zone build with the regenerated red-zone size and the
regenerated wrap-test probe.  Both are valid and sound (`rz_extracted`; `decide` over the regenerated constants — with
the unsound wrap test of finding F38 this proof fails, the check then reports the proof obligation). -/

/-- the two builds of memorypool.c, as extracted -/
def Var.Extracted (v : Var) : Prop :=
  v = ⟨0, Mhd.Gen.Pool.sizeWrapByCompare⟩ ∨ v = ⟨Mhd.Gen.Pool.redZoneAsan, Mhd.Gen.Pool.sizeWrapByCompare⟩

theorem rz_extracted (v : Var) (hx : Var.Extracted v) : v.Valid ∧ v.Sound := by
  have hs : Mhd.Gen.Pool.sizeWrapByCompare = true := by decide
  have hr : Mhd.Gen.Pool.redZoneAsan = A := by decide
  rcases hx with rfl | rfl
  · exact ⟨Or.inl rfl, Or.inr rfl⟩
  · exact ⟨Or.inr hr, Or.inl hs⟩

theorem pool_step_wf (v : Var) (hx : Var.Extracted v) (s : Mhd.PoolRz.St) (o : Op) (h : Mhd.PoolRz.WF v s)
    (ho : o.Valid) : Mhd.PoolRz.WF v (Mhd.PoolRz.step v s o).1 :=
  rz_step_wf v (rz_extracted v hx).1 (rz_extracted v hx).2 s o h ho

theorem pool_run_wf (v : Var) (hx : Var.Extracted v) (allocSize : Nat) (ha : allocSize % A = 0)
    (hsz : allocSize < 2 ^ 62) (ops : List Op) (ho : ∀ o ∈ ops, o.Valid) :
    Mhd.PoolRz.WF v (Mhd.PoolRz.run v (Mhd.PoolRz.St.init allocSize) ops) :=
  rz_run_wf v (rz_extracted v hx).1 (rz_extracted v hx).2 allocSize ha hsz ops ho

theorem pool_step_no_fault (v : Var) (hx : Var.Extracted v) (s : Mhd.PoolRz.St) (o : Op)
    (h : Mhd.PoolRz.WF v s) (ho : o.Valid) : (Mhd.PoolRz.step v s o).2 ≠ .fault :=
  rz_step_no_fault v (rz_extracted v hx).1 (rz_extracted v hx).2 s o h ho

theorem pool_block_in_bounds_disjoint (v : Var) (hx : Var.Extracted v) (s : Mhd.PoolRz.St) (o : Op)
    (h : Mhd.PoolRz.WF v s) (ho : o.Valid) (off len : Nat) (hr : (Mhd.PoolRz.step v s o).2 = .block off len) :
    off % A = 0 ∧ off + len ≤ s.p.size ∧
    ∃ b ∈ (Mhd.PoolRz.step v s o).1.live, b.off = off ∧ b.len = len ∧
      ∀ c ∈ (Mhd.PoolRz.step v s o).1.live, c ≠ b → Disjoint b c :=
  rz_block_in_bounds_disjoint v (rz_extracted v hx).1 (rz_extracted v hx).2 s o h ho off len hr

theorem pool_refused_unchanged (v : Var) (hx : Var.Extracted v) (s : Mhd.PoolRz.St) (o : Op)
    (h : Mhd.PoolRz.WF v s) (ho : o.Valid)
    (hr : (Mhd.PoolRz.step v s o).2 = .null ∨ ∃ n, (Mhd.PoolRz.step v s o).2 = .nullNeed n) :
    (Mhd.PoolRz.step v s o).1 = s :=
  rz_refused_unchanged v (rz_extracted v hx).1 (rz_extracted v hx).2 s o h ho hr

theorem pool_others_untouched (v : Var) (hx : Var.Extracted v) (s : Mhd.PoolRz.St) (o : Op)
    (h : Mhd.PoolRz.WF v s) (ho : o.Valid) (hnr : ¬ o.isReset) (j : Nat) (b : Blk) (hb : s.live[j]? = some b)
    (hj : o.target ≠ some j) :
    readAt (Mhd.PoolRz.step v s o).1.p.mem b.off b.len = readAt s.p.mem b.off b.len :=
  rz_others_untouched v (rz_extracted v hx).1 (rz_extracted v hx).2 s o h ho hnr j b hb hj

theorem pool_realloc_preserves (v : Var) (hx : Var.Extracted v) (s : Mhd.PoolRz.St) (i n : Nat)
    (h : Mhd.PoolRz.WF v s) (hn : n < W) (b : Blk) (hb : s.live[i]? = some b) (hf : b.front = true) (off len : Nat)
    (hr : (Mhd.PoolRz.step v s (.realloc (some i) n)).2 = .block off len) :
    len = n ∧ readAt (Mhd.PoolRz.step v s (.realloc (some i) n)).1.p.mem off (min b.len n)
              = readAt s.p.mem b.off (min b.len n) :=
  rz_realloc_preserves v (rz_extracted v hx).1 (rz_extracted v hx).2 s i n h hn b hb hf off len hr

theorem pool_reset_keeps (v : Var) (hx : Var.Extracted v) (s : Mhd.PoolRz.St) (i copy n : Nat) (h : Mhd.PoolRz.WF v s)
    (b : Blk) (hb : s.live[i]? = some b) (hc : copy ≤ b.len) (hcn : copy ≤ n) (hn : n ≤ s.p.size)
    (hrz : roundUp n + v.rz ≤ s.p.size) :
    let s' := (Mhd.PoolRz.step v s (.reset (some i) copy n)).1
    readAt s'.p.mem 0 copy = readAt s.p.mem b.off copy ∧
    s'.p.end_ = s'.p.size ∧ s'.p.size = s.p.size ∧ s'.p.pos = Mhd.PoolRz.roundRz v n ∧ s'.live = [⟨0, n, true⟩] :=
  rz_reset_keeps v (rz_extracted v hx).1 s i copy n h b hb hc hcn hn hrz

theorem pool_alloc_red_zone (v : Var) (hx : Var.Extracted v) (s : Mhd.PoolRz.St) (n : Nat) (fe : Bool)
    (h : Mhd.PoolRz.WF v s) (hn : n < W) (off len : Nat) (hr : (Mhd.PoolRz.step v s (.alloc n fe)).2 = .block off len) :
    len = n ∧ (fe = false → off + roundUp n + v.rz ≤ (Mhd.PoolRz.step v s (.alloc n fe)).1.p.pos) ∧
    (fe = true → off + roundUp n + v.rz ≤ s.p.end_) :=
  rz_alloc_red_zone v (rz_extracted v hx).1 (rz_extracted v hx).2 s n fe h hn off len hr

/-- Non-vacuity: the red-zone build as extracted, a reachable state -/
example : Mhd.PoolRz.WF ⟨Mhd.Gen.Pool.redZoneAsan, Mhd.Gen.Pool.sizeWrapByCompare⟩
    (Mhd.PoolRz.run ⟨Mhd.Gen.Pool.redZoneAsan, Mhd.Gen.Pool.sizeWrapByCompare⟩ (Mhd.PoolRz.St.init 128)
      [.alloc 10 false, .alloc 0 false, .alloc 5 true, .realloc (some 0) 30]) := by
  apply pool_run_wf _ (Or.inr rfl) <;> simp [Op.Valid, W, A, Mhd.Gen.Pool.alignSize]

end RedZone

/-! "A request that does not fit is refused with 413/414/431 or a close."

`get_no_space_err_status_code` picks the status of the refusal from the sizes of the request's
elements; whatever they are, the answer is one of the "too large" codes (501 only when a
non-standard method token is what makes the request large).  That the refusal happens — for every
byte stream, every segmentation, every arena size and every strictness level — and which of the
codes it is, is `arena_hard_bound` below (composition with C01's `Mhd.ConnRead`). -/

theorem no_space_status_is_too_large (i : Mhd.NoSpace.Input) :
    Mhd.NoSpace.status i = Mhd.Gen.ConnMem.httpContentTooLarge ∨
    Mhd.NoSpace.status i = Mhd.Gen.ConnMem.httpUriTooLong ∨
    Mhd.NoSpace.status i = Mhd.Gen.ConnMem.httpHeaderFieldsTooLarge ∨
    Mhd.NoSpace.status i = Mhd.Gen.ConnMem.httpNotImplemented :=
  Mhd.NoSpace.status_in_set i

/-- the codes are the ones the property names (regenerated from microhttpd.h) -/
theorem no_space_codes : Mhd.Gen.ConnMem.httpContentTooLarge = 413 ∧ Mhd.Gen.ConnMem.httpUriTooLong = 414 ∧
    Mhd.Gen.ConnMem.httpHeaderFieldsTooLarge = 431 ∧ Mhd.Gen.ConnMem.httpNotImplemented = 501 := by decide

def exInput : Mhd.NoSpace.Input :=
  ⟨Mhd.Gen.ConnMem.stageHeaders, 9000, .other, 9000, some 1, 1, false, 0⟩

example : Mhd.NoSpace.status exInput = 431 := by decide

/-- for a standard method: 413 exactly for an over-long chunk-size line, otherwise 431 when the field
    lines dominate the request target by the code's thresholds (`headersDominate`), else 414 -/
theorem no_space_status_by_what_fills (i : Mhd.NoSpace.Input) (hm : i.methodOther = false) :
    Mhd.NoSpace.status i =
      if i.stage = Mhd.Gen.ConnMem.stageBodyChunked ∧ Mhd.Gen.ConnMem.minReasonableChunkLine < i.addSize
      then Mhd.Gen.ConnMem.httpContentTooLarge
      else if Mhd.NoSpace.headersDominate (Mhd.NoSpace.hostSplit i).2 i.uri (Mhd.NoSpace.hostSplit i).1
      then Mhd.Gen.ConnMem.httpHeaderFieldsTooLarge else Mhd.Gen.ConnMem.httpUriTooLong := by
  unfold Mhd.NoSpace.status
  split
  · rfl
  · simp only [hm, Bool.false_eq_true, if_false]
    exact Mhd.NoSpace.blame_std_method _ _ _

theorem no_space_501_only_for_nonstandard_method (i : Mhd.NoSpace.Input)
    (h : Mhd.NoSpace.status i = Mhd.Gen.ConnMem.httpNotImplemented) : i.methodOther = true := by
  cases hm : i.methodOther with
  | true => rfl
  | false =>
    rw [no_space_status_by_what_fills i hm] at h
    split at h
    · cases h
    · split at h <;> cases h

theorem no_space_413_iff (i : Mhd.NoSpace.Input) :
    Mhd.NoSpace.status i = Mhd.Gen.ConnMem.httpContentTooLarge ↔
      (i.stage = Mhd.Gen.ConnMem.stageBodyChunked ∧ Mhd.Gen.ConnMem.minReasonableChunkLine < i.addSize) := by
  open Mhd.NoSpace in
  unfold status
  constructor
  · intro h
    split at h
    · assumption
    · rcases blame_in_set (hostSplit i).2 i.uri (if i.methodOther then i.methodLen else 0) (hostSplit i).1 with e | e | e <;>
        rw [e] at h <;> cases h
  · intro h; rw [if_pos h]

/-! The hard size bound at connection level (second sentence of the property).

`Mhd.ArenaBound.runT` is C01's composed model `Mhd.ConnRead.run` (request line, header section, body,
footers, keep-alive reset — all on the ONE arena `cm.p` created with the configured size) observed by a
trace that records, at the moment the run enters `.error .noSpace`, which refusal the code decides
(`handle_recv_no_space` / `handle_req_headers_no_space` / `handle_req_footers_no_space` /
`handle_req_chunk_size_line_no_space` with the inputs of `get_no_space_err_status_code`).  The CR
component of the traced run *is* `Mhd.ConnRead.run` (first conjunct), so C01's theorems apply to it. -/

open Mhd.ArenaBound Mhd.ConnRead Mhd.ConnMem in
/-- **For every client byte stream, every segmentation, every arena size / pool size / increment,
    every strictness level and every application behaviour (`cfg`):**
    (1) the traced run is `Mhd.ConnRead.run`;
    (2) no parser access outside the received bytes, no operation the buffer layer refuses;
    (3) every block the request processing works in — the read buffer (with the request line, the
        field lines, the body window), the write buffer, and (by `CMInv`) the cursors between which the
        back-allocated request elements lie — is inside the one arena of the configured size: `… ≤ pos ≤ end_ ≤ size`
        and `size = allocSize` throughout (the arena is never replaced or enlarged: there is no other memory in the
        model's state, every allocation is an operation on `cm.p`);
    (4) the connection never waits for data with a full read buffer: what does not fit is not stored;
    (5) when the request does not fit (`.error .noSpace`: the buffer is full and cannot grow, or a parsed
        field line finds no room for its element) the refusal has been decided and is a close or one of
        413 / 414 / 431 (501 only for a non-standard method, `no_space_501_only_for_nonstandard_method`). -/
theorem arena_hard_bound (cfg : Cfg) (allocSize poolSize inc : Nat) (lvl : Int) (ha : allocSize % A = 0)
    (hs : allocSize < 2 ^ 62) (hp : poolSize ≤ allocSize) (hp2 : 2 ≤ poolSize) (chunks : List (List UInt8)) :
    let t := runT cfg (initT allocSize poolSize inc lvl) chunks
    t.x = Mhd.ConnRead.run cfg (Mhd.ConnRead.init allocSize poolSize inc lvl) chunks ∧
    ((∀ f, t.x.phase ≠ .fault f) ∧ (∀ n, t.x.phase ≠ .refused n)) ∧
    (t.x.cm.p.size = allocSize ∧ CMInv t.x.cm ∧ WindowsInside t.x.cm) ∧
    (t.x.wantsRead = true → t.x.cm.rbOff < t.x.cm.rbSize) ∧
    (t.x.phase = .error .noSpace → ∃ r, t.log = some r ∧ r.Allowed) := by
  intro t
  have hx : t.x = Mhd.ConnRead.run cfg (Mhd.ConnRead.init allocSize poolSize inc lvl) chunks :=
    runT_x cfg chunks (initT allocSize poolSize inc lvl)
  have hsafe := run_init_safe cfg allocSize poolSize inc lvl ha hs hp chunks
  have hlive := run_init_live cfg allocSize poolSize inc lvl ha hs hp hp2 chunks
  refine ⟨hx, ?_, ?_, ?_, ?_⟩
  · rw [hx]; exact safe_not_faulty hsafe
  · rw [hx]; exact ⟨safe_size hsafe, safe_cminv hsafe,
      Mhd.ConnMem.windows_of_inv _ (safe_cminv hsafe)⟩
  · rw [hx]; exact hlive
  · intro hph
    have hg := runT_good cfg chunks _ (initT_good allocSize poolSize inc lvl)
    have hl : t.log.isSome = true := hg (by show isNoSpace t.x.phase = true; rw [hph]; rfl)
    obtain ⟨r, hr⟩ := Option.isSome_iff_exists.mp hl
    exact ⟨r, hr, runT_allowed cfg chunks _ (by intro r h; simp [initT] at h) r hr⟩

open Mhd.ArenaBound Mhd.ConnRead in
/-- **which refusal, by the stage and by what fills the buffer** (`handle_recv_no_space`): a full buffer
    while the request line is received → 414 when the method is one of GET … DELETE, otherwise a close;
    in the header section → the status `get_no_space_err_status_code` computes for the raw buffer content
    (`no_space_status_by_what_fills`: 431 or 414 by what dominates); while the chunk-size line is read →
    413 if it carries an extension; in the footers → 431. -/
theorem refusal_by_stage (x : CR) (a : Aux) :
    (∀ s, x.phase = .reqLine s →
        refusalGrow x a = if s.looksHttp then .status Mhd.Gen.ConnMem.httpUriTooLong else .close) ∧
    (∀ hs fs, x.phase = .headers hs fs → ∃ i : Mhd.NoSpace.Input,
        refusalGrow x a = .status (Mhd.NoSpace.status i) ∧ i.stage = Mhd.Gen.ConnMem.stageHeaders ∧
        i.addSize = x.cm.rbOff ∧ i.optHdr = x.cm.rb.getD 0 + x.cm.rbOff - fs ∧ i.uri = a.uri) ∧
    (∀ b, x.phase = .body b → b.chunked = true → b.off = b.cur → b.cur = 0 →
        ((b.buf.extract (x.cm.rb.getD 0) (x.cm.rb.getD 0 + x.cm.rbOff)).toList.contains 59) = true →
        refusalGrow x a = .status Mhd.Gen.ConnMem.httpContentTooLarge) ∧
    (∀ s rq, x.phase = .footers s rq → refusalGrow x a = .status Mhd.Gen.ConnMem.httpHeaderFieldsTooLarge) := by
  refine ⟨?_, ?_, ?_, ?_⟩
  · intro s h; simp only [refusalGrow, h]
  · intro hs fs h; exact ⟨_, by simp only [refusalGrow, h]; rfl, rfl, rfl, rfl, rfl⟩
  · intro b h h1 h2 h3 h4; simp only [refusalGrow, h, h1, h2, h3, h4, and_self, if_true]
  · intro s rq h; simp only [refusalGrow, h]

/-- the configuration of the examples: framing given directly, keep-alive, the application takes 2 bytes per call -/
def exCfg (fr : Mhd.ConnRead.Framing) : Mhd.ConnRead.Cfg :=
  { frame := fun _ _ => fr, keepAlive := fun _ _ => true, take := fun _ _ => 2 }

/-- Non-vacuity of (5): `GET /aaaa…` (200 × `a`) on a 64-byte arena — refused with 414;
    (`decide +kernel`: the composed model is evaluated by the kernel — a test of the example) -/
example : (Mhd.ArenaBound.runT (exCfg .none) (Mhd.ArenaBound.initT 64 64 16 0)
    [[71, 69, 84, 32, 47] ++ List.replicate 200 97]).log = some (.status 414) := by decide +kernel

/-- … the same with a non-standard method token (`BREW /aaaa…`): closed without a reply -/
example : (Mhd.ArenaBound.runT (exCfg .none) (Mhd.ArenaBound.initT 64 64 16 0)
    [[66, 82, 69, 87, 32, 47] ++ List.replicate 200 97]).log = some .close := by decide +kernel

/-- … `GET / HTTP/1.1\r\nX: vvvv…` (300 × `v`) in two chunks on a 256-byte arena: 431, and the run is in `.error .noSpace` -/
def exRun431 : Mhd.ArenaBound.TR := Mhd.ArenaBound.runT (exCfg .none) (Mhd.ArenaBound.initT 256 256 16 0)
    [[71, 69, 84, 32, 47, 32, 72, 84, 84, 80, 47, 49, 46, 49, 13, 10, 88, 58, 32], List.replicate 300 118]
example : (exRun431.log, Mhd.ArenaBound.isNoSpace exRun431.x.phase) = (some (Mhd.ArenaBound.Refusal.status 431), true) := by
  decide +kernel

/-! "… refused rather than overflowing" for the REPLY head.

`build_header_response` / `add_user_headers` fill the write buffer — the last front block of the arena, directly in
front of the blocks allocated from the arena's end.  `Mhd.ReplyBounds.headActs` lists every space check and every
write of the builder (one level finer than C04's `headSegs`: the application's `Connection:` header with MHD's
token merged in is three writes under two checks); `runActs` performs the writes unchecked and records the highest
index stored.  `recheck` is the regenerated behaviour probe `Mhd.Gen.ReplyBounds.mergeTokenRechecksLine`. -/

open Mhd.ReplyBounds Mhd.Reply Mhd.Resp in
/-- **Every append of the reply-head builder is covered by a check in front of it**: for every connection state,
    response object, status code 100…999, Date string (≤ 30 bytes; `get_date_str` gives 29), keep-alive decision,
    buffer size and start state inside the buffer — no byte is stored at an index `≥ bufSize`, neither when the head
    is built nor when the builder refuses (then the bytes stored so far stay below `bufSize` as well). -/
theorem header_build_in_bounds (c : Conn) (r : Resp) (rcode : Nat) (icy : Bool) (date : Option Mhd.ReplyStr.Bytes) (ka : KA) (props : Props)
    (h1 : 100 ≤ rcode) (h2 : rcode ≤ 999) (hd : ∀ d, date = some d → d.length ≤ 30) (bufSize : Nat) (w : WB)
    (hw : w.hw ≤ bufSize) :
    (runActs bufSize (headActs Mhd.Gen.ReplyBounds.mergeTokenRechecksLine c r rcode icy date ka props) w).1.hw ≤ bufSize := by
  have hf : Mhd.Gen.ReplyBounds.mergeTokenRechecksLine = true := by decide
  rw [hf]
  exact headActs_inB c r rcode icy date ka props h1 h2 hd bufSize w hw

open Mhd.ReplyBounds Mhd.Reply Mhd.Resp in
/-- the fine model refuses exactly when C04's (tied) `headSegs` model refuses and builds the same bytes -/
theorem header_build_refines_c04 (c : Conn) (r : Resp) (rcode : Nat) (icy : Bool) (date : Option Mhd.ReplyStr.Bytes) (ka : KA)
    (props : Props) (bufSize : Nat) :
    runB bufSize (headActs true c r rcode icy date ka props) [] = runSegs bufSize (headSegs c r rcode icy date ka props) [] := by
  have e : headSegs c r rcode icy date ka props =
      preSegs c r rcode icy date ka ++ ((userFields c r ka props).map fieldSeg ++ postSegs r props) := by
    simp [headSegs, preSegs, postSegs, List.append_assoc]
  rw [e]
  unfold headActs userActs userFields
  rw [List.append_assoc, runB_append, runB_segs, runSegs_append]
  cases runSegs bufSize (preSegs c r rcode icy date ka) [] with
  | none => rfl
  | some b1 =>
    simp only [Option.bind]
    rw [runB_userLoop, runSegs_append]
    cases runSegs bufSize _ b1 with
    | none => rfl
    | some b2 => simp only [Option.bind]; exact runB_segs _ _ _

/-- the footer block of a chunked reply stays inside its buffer -/
theorem footer_build_in_bounds (r : Mhd.Resp.Resp) (bufSize : Nat) (b : Mhd.ReplyStr.Bytes)
    (h : Mhd.Reply.buildFooter r bufSize = some b) : b.length ≤ bufSize := by
  unfold Mhd.Reply.buildFooter at h
  split at h
  · simp at h
  · split at h
    · simp at h
    · rename_i buf hb
      split at h
      · simp at h
      · injection h with h; subst h
        simp only [List.length_append, Mhd.Reply.crlf, List.length_cons, List.length_nil]; omega

/-- **Witness** that the covering check is needed: with a check that covers only the token, `Connection: xxxxxxxx`
    + `close, ` into a 24-byte buffer stores bytes up to index 28; with the covering check the builder refuses after
    `Connection: ` (12 bytes). -/
theorem header_build_unchecked_merge_overflows :
    (Mhd.ReplyBounds.runActs 24 (Mhd.ReplyBounds.userFieldActs false Mhd.Resp.sConnection Mhd.Resp.sCloseSep (List.replicate 8 120)) ⟨[], 0⟩).1.hw = 29 ∧
    (Mhd.ReplyBounds.runActs 24 (Mhd.ReplyBounds.userFieldActs true Mhd.Resp.sConnection Mhd.Resp.sCloseSep (List.replicate 8 120)) ⟨[], 0⟩)
      = (⟨Mhd.Resp.sConnection ++ Mhd.Reply.colonSp, 12⟩, false) := by
  -- the plain line (22 bytes) fits, the token (7) fits at position 12, value and CRLF are then stored up to
  -- index 28 (`hw` = 29, one past it)
  decide

end Mhd.C08
