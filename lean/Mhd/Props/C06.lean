/-
  C06 — Progress: no lost wake-up, every request is answered or closed.

  Where a statement is an instance of a more general lemma of Mhd.Proofs.Loop* its proof is that instance; where
  it is the natural statement itself, the proof stands here.  The event-loop model is
  Mhd.Model.Loop / LoopRounds (connection lists in pointer order, flags,
  call_handlers, the three traversals following `prev` / `prevE`, get_fdset,
  get_timeout).  What a handler does to its own connection is the parameter
  `ops : Ops W`; the theorems hold for EVERY `ops` that satisfies the law record
  `Laws ops needs` (Mhd.Proofs.LoopCH), every daemon state satisfying the
  invariant, every readiness set, every history — no bound on the number of
  connections, rounds or handler calls.

  `needs l` = "the connection has work that can proceed without new network input
  or an explicit resume".

  Covered: the tie to the source text, call_handlers, the round post-conditions and no lost wake-up for
  the select / poll loop, the same for epoll (`LawsEp`, `InvEP`), progress under a fair schedule, the witness
  against the loop that reads `pos->prev` after the call, thread-per-connection (Mhd.Model.LoopTpc), pipelined
  requests (Mhd.Model.LoopReset), and the laws discharged for C05's connection state machine (`connsmOps`).
-/
import Mhd.Proofs.LoopProgress
import Mhd.Proofs.LoopEpoll
import Mhd.Proofs.LoopTpc
import Mhd.Proofs.LoopConnSM
import Mhd.Proofs.LoopReset
import Mhd.Proofs.LoopConnSMLaws

namespace Mhd.C06
open Mhd.Loop Mhd.Gen.Loop Mhd.Gen.ConnState

variable {W : Type}

/-- `internal_run_from_select` saves `pos->prev` before `call_handlers` (regenerated from
    daemon.c; false on a tree without the F10 fix, and then this file does not compile). -/
theorem code_select_saves_prev : selectSavesPrev = true := by decide
theorem code_poll_saves_prev : pollSavesPrev = true := by decide
theorem code_epoll_saves_prev : epollSavesPrev = true := by decide

/-- hence the round functions of the model that follow /repo are the ones the theorems are about -/
theorem runFromSelect_is_saved (ops : Ops W) (d : Daemon W) (rdy : Ready) :
    runFromSelect ops d rdy = runFromSelectWith ops true d rdy := by
  unfold runFromSelect; rw [code_select_saves_prev]

theorem pollAll_is_saved (ops : Ops W) (d : Daemon W) (rdy : Ready) :
    pollAll ops d rdy = pollAllWith ops true d rdy := by
  unfold pollAll; rw [code_poll_saves_prev]

theorem epollRound_is_saved (ops : Ops W) (d : Daemon W) (evs : List EpEv) :
    epollRound ops d evs = epollRoundWith ops true d evs := by
  unfold epollRound; rw [code_epoll_saves_prev]

/-- the bit tests of the loops on `event_loop_info` (values regenerated from internal.h) -/
theorem eli_bits : ∀ e : Eli,
    (e.hasRead = true ↔ (e = .read ∨ e = .processRead)) ∧
    (e.hasProcess = true ↔ (e = .process ∨ e = .processRead)) ∧
    (e.isWrite = true ↔ e = .write) := by
  intro e; cases e <;> decide

/-- call_handlers always ends with MHD_connection_handle_idle on that connection … -/
theorem call_handlers_idles (ops : Ops W) (ep : Bool) (c : Conn W) (wh : Wh) (rr wr fc : Bool) :
    Ev.idle c.id ∈ (chLocal ops ep c wh rr wr fc).evs :=
  chLocal_idled ops ep c wh rr wr fc

/-- … so a connection it leaves in the active list is in sync (work pending ⇒ PROCESS state),
    and the `data_already_pending` block was reached for it. -/
theorem call_handlers_sync {ops : Ops W} {needs : Local W → Bool} (L : Laws ops needs) (ep : Bool) (c : Conn W)
    (rr wr fc : Bool) (h : (chLocal ops ep c .active rr wr fc).wh = .active) :
    Sync needs (chLocal ops ep c .active rr wr fc).c ∧ (chLocal ops ep c .active rr wr fc).dapCheck = true :=
  ⟨chLocal_sync L ep c .active rr wr fc h, chLocal_dapCheck L ep c rr wr fc h⟩

/-- **select.**  For every daemon state satisfying the invariant, every readiness set and every
    lawful `ops`: after `MHD_run_from_select2` the invariant holds again — in particular every
    active connection is in sync and `data_already_pending` is set if one of them is in a PROCESS
    state — and every connection that is active afterwards was passed through handle_idle in
    this round (including connections resumed or added in this round). -/
theorem select_round_post {ops : Ops W} {needs : Local W → Bool} (L : Laws ops needs) {d : Daemon W}
    (h : InvSP needs d) (rdy : Ready) :
    InvSP needs (runFromSelect ops d rdy) ∧
    ∃ pre, (runFromSelect ops d rdy).log = pre ++ d.log ∧
      ∀ c ∈ (runFromSelect ops d rdy).conns, Ev.idle c.id ∈ pre := by
  rw [runFromSelect_is_saved]
  have ⟨hi, pre, hl, hc⟩ := round_post L h rdy false
  exact ⟨hi, pre, hl, fun c hm => (hc c hm).elim (fun h => nomatch h.1) id⟩

/-- **poll.**  Same, except that connections added during the round (they are not in the array
    poll() was called with) are not visited; they are fresh. -/
theorem poll_round_post {ops : Ops W} {needs : Local W → Bool} (L : Laws ops needs) {d : Daemon W}
    (h : InvSP needs d) (rdy : Ready) :
    InvSP needs (pollAll ops d rdy) ∧
    ∃ pre, (pollAll ops d rdy).log = pre ++ d.log ∧
      ∀ c ∈ (pollAll ops d rdy).conns, c.id ∈ ids d.newc ∨ Ev.idle c.id ∈ pre := by
  rw [pollAll_is_saved]
  have ⟨hi, pre, hl, hc⟩ := round_post L h rdy true
  exact ⟨hi, pre, hl, fun c hm => (hc c hm).imp (·.2) id⟩

/-- the pending-work flag, spelled out: after a round, some active connection in a PROCESS state
    ⇒ `data_already_pending` -/
theorem pending_flag {needs : Local W → Bool} {d : Daemon W} (h : InvSP needs d) :
    (∃ c ∈ d.conns, c.loc.eli.hasProcess = true) → d.dap = true :=
  fun ⟨c, hc, hp⟩ => h.flag c hc hp

/-- **No closed connection is left waiting.**  If handle_idle never leaves a connection in the active list
    in the CLOSED state (`LawOpen`: true of the code with the F22 fix, false without it — there a connection
    closed while its wait state is computed stays active, unwatched, with "no timeout"), then after every
    round of either loop no active connection is closed-but-not-cleaned-up. -/
theorem round_leaves_no_closed {ops : Ops W} {needs : Local W → Bool} (LO : LawOpen ops) {d : Daemon W}
    (h : InvSP needs d) (rdy : Ready) (poll : Bool) (hnew : ∀ c ∈ d.newc, c.loc.st ≠ stClosed) :
    ∀ c ∈ (roundOf ops poll d rdy).conns, c.loc.st ≠ stClosed :=
  fun c hc => (IdlePost.round (Q := fun l => l.st ≠ stClosed) LO.idle_open h rdy poll c hc).elim
    (fun ⟨_, y, hy, e⟩ => e ▸ hnew y hy) id

/-- non-vacuity: the witness instance satisfies `LawOpen` -/
example : LawOpen Witness.ops := ⟨by
  intro id k wh l hw
  simp only [Witness.ops] at hw ⊢
  split at hw
  · cases hw
  · rename_i h; simp only [h, if_false]; exact h⟩

/-- **Every active connection waits for what its state calls for.**  Under `LawTable` (handle_idle ends with the
    regenerated state → event_loop_info table of MHD_connection_update_event_loop_info) every connection a round
    of either loop leaves active — except those added during the round — is in the wait class of its state; in
    particular a connection with a reply to send is watched for writability. -/
theorem round_wait_class {ops : Ops W} {needs : Local W → Bool} (LT : LawTable ops) {d : Daemon W}
    (h : InvSP needs d) (rdy : Ready) (poll : Bool) :
    ∀ c ∈ (roundOf ops poll d rdy).conns, c.id ∈ ids d.newc ∨ TableOK c.loc :=
  fun c hc => (IdlePost.round LT.idle_table h rdy poll c hc).imp_left (·.1)

/-- the regenerated table puts the states `call_handlers` writes in into the WRITE class, the "unready" and
    full-request states into PROCESS, the line/header receiving states into READ (fails to `decide` if a case of
    MHD_connection_update_event_loop_info is given another wait class) -/
theorem wait_table_sane :
    stHeadersSending ∈ writeStates ∧ stNormalBodyReady ∈ writeStates ∧ stChunkedBodyReady ∈ writeStates ∧
    stInit ∈ readStates ∧ stClosed ∉ writeStates ++ processStates ++ readStates ∧
    (∀ s ∈ writeStates, s ∉ processStates ∧ s ∉ readStates) ∧ writeStates.length = 5 ∧ processStates.length = 3 ∧
    readStates.length = 4 := by decide

/-- non-vacuity of `round_wait_class`: a step whose idle sets the wait class from the table is lawful -/
def fixEli (l : Local Unit) : Local Unit :=
  if l.st ∈ writeStates then { l with eli := .write }
  else if l.st ∈ processStates then { l with eli := .process }
  else if l.st ∈ readStates then { l with eli := .read } else l
def tblOps : Ops Unit := { read := fun _ _ _ l => l, write := fun _ _ l => l, close := fun _ _ l => l,
                           idle := fun _ _ wh l => (fixEli l, wh) }
theorem wait_classes_disjoint : ∀ s, (s ∈ writeStates → s ∉ processStates ∧ s ∉ readStates) ∧ (s ∈ processStates → s ∉ readStates) := by
  intro s
  simp only [writeStates, processStates, readStates, List.mem_cons, List.not_mem_nil, or_false]
  omega
example : LawTable tblOps := ⟨by
  intro id k wh l _
  show TableOK (fixEli l)
  unfold TableOK fixEli
  have := wait_classes_disjoint l.st
  by_cases h1 : l.st ∈ writeStates
  · simp [h1, (this.1 h1).1, (this.1 h1).2]
  · by_cases h2 : l.st ∈ processStates
    · simp [h1, h2, this.2 h2]
    · by_cases h3 : l.st ∈ readStates <;> simp [h1, h2, h3]⟩

/-- the eready drop test of MHD_epoll is the exact one -/
theorem code_eready_drop_exact : ereadyDropExactRead = true := readWait_exact

/-- The invariant holds in every state reachable from an empty daemon by any sequence of
    MHD_add_connection (fresh connection), MHD_resume_connection and event-loop rounds with
    arbitrary readiness, for the select loop (`poll = false`) and the poll loop. -/
theorem invariant_reachable {ops : Ops W} {needs : Local W → Bool} (L : Laws ops needs) {poll : Bool} {d : Daemon W}
    (h : Reach ops needs poll d) : InvSP needs d := by
  induction h with
  | init a => exact init_inv needs a
  | add c _ hc ih => exact addConn_inv ih hc
  | resume id _ ih => exact resumeReq_inv ih id
  | round rdy _ ih => exact (round_post L ih rdy poll).1

/-- **No lost wake-up.**  In every reachable state: if MHD_get_timeout64 answers "no timeout" and none
    of the descriptors MHD_get_fdset2 asked to watch is ready, then no active connection has work that
    could proceed — none needs processing, none waits for readability with a readable descriptor, none
    waits for writability with a writable descriptor. -/
theorem no_lost_wakeup {ops : Ops W} {needs : Local W → Bool} (L : Laws ops needs) {poll : Bool} {d : Daemon W}
    (h : Reach ops needs poll d) (rdy : Ready) (q : Quiescent d rdy) :
    ∀ c ∈ d.conns, needs c.loc = false ∧ ¬ (c.loc.eli.hasRead = true ∧ rdyR rdy c.id = true) ∧
      ¬ (c.loc.eli.isWrite = true ∧ rdyW rdy c.id = true) :=
  no_lost_wakeup_sp (invariant_reachable L h) rdy q

/-- **epoll, round post-condition.**  MHD_epoll does not pass every connection through handle_idle.
    What every round keeps (`InvEP`), for every state satisfying it, every list of delivered epoll
    events and every `ops` satisfying `LawsEp`: every active connection is in sync; every active
    connection that is in a PROCESS state, or waits for an event that is cached as ready, is in the
    eready list; the IN_EREADY bits agree with the list; no fault. -/
theorem epoll_round_post {ops : Ops W} {needs : Local W → Bool} (L : LawsEp ops needs) {d : Daemon W}
    (h : InvEP needs d) (evs : List EpEv) : InvEP needs (epollRound ops d evs) := by
  rw [epollRound_is_saved]; exact epoll_round L h evs

/-- … in every state reachable by MHD_add_connection / MHD_resume_connection / rounds with arbitrary events. -/
theorem invariant_reachable_epoll {ops : Ops W} {needs : Local W → Bool} (L : LawsEp ops needs) {d : Daemon W}
    (h : ReachEp ops needs d) : InvEP needs d := by
  induction h with
  | init a => exact init_invEp needs a
  | add c _ hc ih => exact addConn_invEp ih hc
  | resume id _ ih => exact resumeReq_invEp ih id
  | round evs _ ih => exact epoll_round L ih evs

/-- **No lost wake-up, epoll.**  In every reachable state in which MHD_get_timeout64 answers "no timeout"
    (so the eready list is empty): no active connection needs processing, none waits for readability
    while the daemon already knows the descriptor is readable, none waits for writability while the
    daemon already knows it is writable.  (New kernel events are outside the model: they make the epoll
    descriptor the application watches readable.) -/
theorem no_lost_wakeup_epoll {ops : Ops W} {needs : Local W → Bool} (L : LawsEp ops needs) {d : Daemon W}
    (h : ReachEp ops needs d) (q : getTimeout d = .none) :
    ∀ c ∈ d.conns, needs c.loc = false ∧ ¬ (c.loc.eli.hasRead = true ∧ c.loc.rdReady = true) ∧
      ¬ (c.loc.eli.isWrite = true ∧ c.loc.wrReady = true) :=
  no_lost_wakeup_ep (invariant_reachable_epoll L h) q

/-- the pending-work memory of the epoll loop, spelled out -/
theorem pending_flag_epoll {needs : Local W → Bool} {d : Daemon W} (h : InvEP needs d) :
    (∃ c ∈ d.conns, c.loc.eli.hasProcess = true) → d.eready ≠ [] := by
  rintro ⟨c, hc, hp⟩ he
  have := (h.quiet he c hc).2.1
  rw [hp] at this; cases this

/-- Non-vacuity for epoll: `Witness.ops` satisfies `LawsEp`; an epoll daemon after one
    MHD_add_connection, a round, an EPOLLIN event and another round is reachable, and the
    connection (closed by the read in this instance) is gone. -/
theorem witness_lawsEp : LawsEp Witness.ops Witness.needs where
  toLaws := Witness.laws
  needs_ready := by intro l r w; rfl
  idle_quiet := by
    intro id k l _ hb hw _
    simp only [Witness.ops] at hw ⊢
    split at hw
    · cases hw
    · rename_i h; simp only [h, if_false]; exact hb
  idle_cleanup := by
    intro id k l
    simp only [Witness.ops]
    split <;> rfl

example : ∃ d, ReachEp Witness.ops Witness.needs d ∧ d.conns.length = 0 ∧ d.log = [.idle 7, .read 7, .idle 7, .idle 7] := by
  refine ⟨_, ReachEp.round [⟨7, true, false, false⟩] (ReachEp.round [] (ReachEp.add { id := 7, loc := Witness.mkLoc stInit .read }
    (ReachEp.init true) ⟨by simp, by simp, by simp, by simp, rfl, rfl, rfl, rfl, rfl⟩)), ?_, ?_⟩ <;> decide

/-- **One fair round.**  A connection that awaits its reply and is in a PROCESS or WRITE state, in a round
    in which it is reported writable if it waits for writability and no socket error is reported
    for it: after the round it is no longer active (closed, or suspended by its own handler), or its
    reply is complete, or its measure `rank` is strictly smaller — for every state satisfying the
    invariant, every readiness of the other connections, every lawful `ops`, both loops. -/
theorem progress_one_round {ops : Ops W} {needs awaiting : Local W → Bool} {replies rank : Local W → Nat}
    (L : Laws ops needs) (PL : ProgLaws ops awaiting replies rank) {d : Daemon W} (h : InvSP needs d)
    (rdy : Ready) (poll : Bool) {c : Conn W} (hc : c ∈ d.conns) (ha : awaiting c.loc = true)
    (hs : c.loc.eli = .process ∨ c.loc.eli = .write) (hfair : c.loc.eli = .write → rdyW rdy c.id = true)
    (hne : rdyE rdy c.id = false) :
    ∀ c' ∈ (roundOf ops poll d rdy).conns, c'.id = c.id → replies c'.loc ≤ replies c.loc →
      awaiting c'.loc = true ∧ replies c'.loc = replies c.loc ∧ rank c'.loc < rank c.loc ∧
        (c'.loc.eli = .process ∨ c'.loc.eli = .write) :=
  progress_round L PL h rdy poll hc ha hs hfair hne

/-- **Progress.**  For every history `H` of MHD_add_connection / MHD_resume_connection / event-loop
    rounds that is fair for connection `p` (see `FairFor`: nothing is assumed about the other
    connections) and contains more than `rank` rounds: at some point of `H` connection `p` has its
    reply completely sent (`replies` grew) or is no longer in the active list (closed, or
    suspended by its own handler). -/
theorem progress {ops : Ops W} {needs awaiting : Local W → Bool} {replies rank : Local W → Nat}
    (L : Laws ops needs) (PL : ProgLaws ops awaiting replies rank) (poll : Bool) (p : CId)
    (H : List (Step W)) (d : Daemon W) (c : Conn W) (hinv : InvSP needs d) (hc : c ∈ d.conns) (hid : c.id = p)
    (ha : awaiting c.loc = true) (hs : c.loc.eli = .process ∨ c.loc.eli = .write)
    (hfair : FairFor ops needs poll p d H) (hr : rank c.loc < nRounds H) :
    ∃ H1 H2, H = H1 ++ H2 ∧ ∀ c' ∈ (runSteps ops poll d H1).conns, c'.id = p → replies c.loc < replies c'.loc := by
  -- before the `rank + 1`-th round: a round either serves `p` or lowers its rank (`progress_round`)
  induction H generalizing d c with
  | nil => simp [nRounds] at hr
  | cons st H' ih =>
    cases st with
    | add c2 =>
      obtain ⟨_, hfresh, hf'⟩ := hfair
      obtain ⟨H1, H2, e, hh⟩ := ih (addConn d c2) c (addConn_inv hinv hfresh) hc hid ha hs hf' hr
      exact ⟨.add c2 :: H1, H2, by rw [e]; rfl, hh⟩
    | resume id =>
      obtain ⟨H1, H2, e, hh⟩ := ih (resumeReq d id) c (resumeReq_inv hinv id) hc hid ha hs hfair hr
      exact ⟨.resume id :: H1, H2, by rw [e]; rfl, hh⟩
    | round rdy =>
      obtain ⟨hf0, hf'⟩ := hfair
      have hf1 := hf0 c hc hid
      have hinv' : InvSP needs (roundOf ops poll d rdy) := (round_post L hinv rdy poll).1
      have PR := progress_round L PL hinv rdy poll hc ha hs (by rw [hid]; exact hf1.1) (by rw [hid]; exact hf1.2)
      by_cases hex : ∃ c' ∈ (roundOf ops poll d rdy).conns, c'.id = p ∧ replies c'.loc ≤ replies c.loc
      · obtain ⟨c', hc', hid', hle⟩ := hex
        have P := PR c' hc' (hid'.trans hid.symm) hle
        have hr' : rank c'.loc < nRounds H' := by simp only [nRounds] at hr; omega
        obtain ⟨H1, H2, e, hh⟩ := ih (roundOf ops poll d rdy) c' hinv' hc' hid' P.1 P.2.2.2 hf' hr'
        refine ⟨.round rdy :: H1, H2, by rw [e]; rfl, ?_⟩
        intro c'' hc'' hid''
        have := hh c'' hc'' hid''
        rw [P.2.1] at this
        exact this
      · refine ⟨[.round rdy], H', rfl, ?_⟩
        intro c' hc' hid'
        rcases Nat.lt_or_ge (replies c.loc) (replies c'.loc) with h1 | h1
        · exact h1
        · exact absurd ⟨c', hc', hid', h1⟩ hex

/-- Non-vacuity of the progress theorems: a lawful instance (`Demo`), a state satisfying the
    invariant in which connection 0 still needs two idle calls, a fair history of three rounds
    (connection 1 is readable in the second one): after two rounds the reply is complete. -/
example :
    Laws Demo.ops Demo.needs ∧ ProgLaws Demo.ops Demo.awaiting Demo.replies Demo.rank ∧ InvSP Demo.needs Demo.d0 ∧
    FairFor Demo.ops Demo.needs false 0 Demo.d0 [.round {}, .round { r := [1] }, .round {}] ∧
    (∀ c' ∈ (runSteps Demo.ops false Demo.d0 [.round {}, .round { r := [1] }]).conns, c'.id = 0 → 0 < Demo.replies c'.loc) := by
  refine ⟨Demo.laws, Demo.progLaws, Demo.d0_inv, ?_, ?_⟩
  · simp only [FairFor]
    decide
  · decide

/-- Two connections, lawful `ops`, a state satisfying the invariant: the older connection's client
    closes while the newer one waits for its content callback.  With the pointer read after the
    call the round handles only connection 0 (log), leaves connection 1 in a PROCESS state with
    `data_already_pending = false`, answers "no timeout" and watches connection 1 for errors only:
    quiescent while work is pending. -/
theorem select_unsaved_prev_loses_wakeup :
    Laws Witness.ops Witness.needs ∧ InvSP Witness.needs Witness.d0 ∧
    (runFromSelectWith Witness.ops false Witness.d0 Witness.rdy).log = [.idle 0, .read 0] ∧
    Quiescent (runFromSelectWith Witness.ops false Witness.d0 Witness.rdy) {} ∧
    ∃ c ∈ (runFromSelectWith Witness.ops false Witness.d0 Witness.rdy).conns, Witness.needs c.loc = true := by
  refine ⟨Witness.laws, Witness.d0_inv, Witness.after_log, ⟨Witness.after_hint, ?_, ?_⟩, ?_⟩
  · rw [show getFdset (runFromSelectWith Witness.ops false Witness.d0 Witness.rdy) = _ from Witness.after_fdset]
    intro id h; simp at h
  · rw [show getFdset (runFromSelectWith Witness.ops false Witness.d0 Witness.rdy) = _ from Witness.after_fdset]
    intro id h; simp at h
  · decide

/-- … and therefore breaks the invariant the other loops keep. -/
theorem select_unsaved_prev_breaks_invariant :
    ¬ InvSP Witness.needs (runFromSelectWith Witness.ops false Witness.d0 Witness.rdy) := by
  intro h
  obtain ⟨_, _, _, _, ⟨c, hc, hn⟩⟩ := select_unsaved_prev_loses_wakeup
  have := h.flag c hc (h.sync c hc hn)
  have hd : (runFromSelectWith Witness.ops false Witness.d0 Witness.rdy).dap = false := Witness.after_flags.1
  rw [hd] at this; cases this

/-- Non-vacuity of the round theorems: the same state and readiness under the loop of /repo —
    both connections are handled, connection 1 stays active in a PROCESS state and the flag is set. -/
example :
    (runFromSelect Witness.ops Witness.d0 Witness.rdy).log = [.idle 1, .idle 0, .read 0] ∧
    (runFromSelect Witness.ops Witness.d0 Witness.rdy).dap = true ∧
    getTimeout (runFromSelect Witness.ops Witness.d0 Witness.rdy) = .zero := by decide

/-- Non-vacuity of `no_lost_wakeup`: a reachable state with an active connection (one
    MHD_add_connection, one round) that is quiescent as long as the client sends nothing. -/
example : ∃ d, Reach Witness.ops Witness.needs false d ∧ d.conns.length = 1 ∧ Quiescent d {} := by
  refine ⟨_, Reach.round {} (Reach.add { id := 7, loc := Witness.mkLoc stInit .read } (Reach.init true)
    ⟨by simp, by simp, by simp, by simp, rfl, rfl, rfl⟩), ?_, ?_⟩
  · decide
  · refine ⟨by decide, ?_, ?_⟩ <;> intro id _ <;> rfl

/-! Thread-per-connection (thread_main_handle_connection): one thread per connection; model `Mhd.Model.LoopTpc`.
  The thread blocks in select()/poll() on its own socket, or — while the connection is suspended — on the daemon's
  inter-thread channel for at most 250 ms.  The daemon thread clears `suspended` when it processes a resume
  (`tpcResumed`).  Same laws of the abstract step as above. -/

/-- the post-resume idle call is followed by a second look at `con->suspended` (regenerated from daemon.c;
    false on a tree without the F29 fix, and then this file does not compile) -/
theorem code_tpc_rechecks_suspend : tpcRechecksSuspend = true := by decide

/-- the thread remembers a suspension made by its own handler in `con->suspend_seen`, set in
    internal_suspend_connection_ and tested next to `was_suspended` (regenerated from daemon.c; false on a tree
    without the F30 fix, and then this file does not compile) -/
theorem code_tpc_marks_suspend : tpcMarksSuspend = true := by decide

/-- hence the daemon thread may process a resume at any moment (`Noticed` is no restriction for the loop of /repo):
    the histories of `TReach … tpcMarksSuspend` contain resumes at arbitrary points between iterations -/
theorem tpc_resume_any_time (t : TState W) : Noticed tpcMarksSuspend t := Or.inl code_tpc_marks_suspend

/-- hence the loop of /repo is the re-checking, early-marking one -/
theorem tpcHead_is_rechecking (ops : Ops W) (t : TState W) : tpcHead ops t = tpcHeadWith ops true tpcMarksSuspend t := by
  unfold tpcHead; rw [code_tpc_rechecks_suspend]
theorem tpcIter_is_rechecking (ops : Ops W) (t : TState W) (rr wr er : Bool) :
    tpcIter ops t rr wr er = tpcIterWith ops true tpcMarksSuspend t rr wr er := by
  unfold tpcIter; rw [code_tpc_rechecks_suspend]

/-- The invariant of a connection's thread (an active connection that is past the post-resume idle call is in sync;
    a loop that marks early knows every suspension) holds in every state reachable from the creation of the thread by
    iterations with arbitrary socket readiness and by resumes — resumes at any moment if the loop marks a
    suspension when its handler suspends (it does: `code_tpc_marks_suspend`, `tpc_resume_any_time`), otherwise
    (`Noticed`) only after the thread has seen `con->suspended`. -/
theorem tpc_invariant_reachable {ops : Ops W} {needs : Local W → Bool} (L : Laws ops needs) {t : TState W}
    (h : TReach ops needs tpcMarksSuspend t) : TInv needs tpcMarksSuspend t :=
  treach_inv L h

/-- **No lost wake-up, thread-per-connection.**  In every reachable state, when the thread reaches its blocking call:
    * the connection is suspended ⇒ the call waits on the inter-thread channel, for a bounded time (a resume wakes
      it; a consumed signal only delays it);
    * the connection is active ⇒ the call is on the socket, with zero timeout if the connection has work that needs
      no network input, watching readability / writability when the connection waits for them;
    * the call has no timeout ⇒ the connection is not suspended, and if active it has no work that could proceed
      without new network input. -/
theorem tpc_no_lost_wakeup {ops : Ops W} {needs : Local W → Bool} (L : Laws ops needs) {t : TState W}
    (h : TReach ops needs tpcMarksSuspend t) {t1 : TState W} {b : TBlock} (hb : tpcHead ops t = (t1, some b)) :
    (t1.wh = .susp → b = suspendedWait) ∧
    (t1.wh = .active → b.onItc = false ∧ (needs t1.c.loc = true → b.wait = .zero) ∧
        (t1.c.loc.eli.hasRead = true → b.r = true) ∧ (t1.c.loc.eli.isWrite = true → b.w = true)) ∧
    (b.wait = .forever → t1.wh ≠ .susp ∧ (t1.wh = .active → needs t1.c.loc = false)) := by
  rw [tpcHead_is_rechecking] at hb
  exact no_lost_wakeup_tpc L tpcMarksSuspend (treach_inv L h) hb

/-- the wait of a suspended connection's thread: the inter-thread channel is in the wait set and the wait is bounded -/
theorem tpc_suspended_wait : suspendedWait.onItc = true ∧ suspendedWait.wait = .bounded250 := ⟨rfl, rfl⟩

/-- **A resume is served.**  A thread that has noticed the suspension and whose connection the daemon thread
    resumed passes the connection through handle_idle before it blocks again (whatever the two source-text facts). -/
theorem tpc_resume_is_served (ops : Ops W) (recheck early : Bool) {t : TState W} (hc : t.c.loc.st ≠ stClosed)
    (hs : t.wh = .susp) (hw : t.wasSuspended = true) :
    ∃ evs, (tpcHeadWith ops recheck early (tpcResumed t)).1.log = evs ++ t.log ∧ Ev.idle t.c.id ∈ evs := by
  have e : tpcResumed t = { t with wh := .active } := by unfold tpcResumed; rw [if_pos hs]
  rw [e]
  exact tpc_resumed_idles (ops := ops) recheck early (t := { t with wh := .active }) hc (fun h => by cases h) hw

/-- a loop that marks a suspension when the handler suspends needs no discipline of the daemon thread -/
theorem tpc_marking_resume_any_time (t : TState W) : Noticed true t := Or.inl rfl

/-- … and in every reachable state of such a loop a suspended connection is known to be suspended -/
theorem tpc_marking_knows {ops : Ops W} {needs : Local W → Bool} (L : Laws ops needs) {t : TState W}
    (h : TReach ops needs true t) (hs : t.wh = .susp) : t.wasSuspended = true :=
  (treach_inv L h).marked rfl hs

/-- **One fair iteration.**  A connection that awaits its reply (PROCESS or WRITE state), whose thread's blocking
    call returns with the socket writable if it waits for writability and without socket error: the thread leaves
    the loop (connection closed), or the connection left the active list (closed, or suspended by its own handler),
    or its reply is complete, or its measure `rank` is strictly smaller. -/
theorem tpc_progress_one_iteration {ops : Ops W} {needs awaiting : Local W → Bool} {replies rank : Local W → Nat}
    (L : Laws ops needs) (PL : ProgLaws ops awaiting replies rank) {t : TState W}
    (hw : t.wh = .active) (hs : t.wasSuspended = false) (ha : awaiting t.c.loc = true)
    (he : t.c.loc.eli = .process ∨ t.c.loc.eli = .write) (rr wr : Bool) (hfair : t.c.loc.eli = .write → wr = true) :
    match tpcIter ops t rr wr false with
    | none => True
    | some t' => t'.wh ≠ .active ∨ replies t.c.loc < replies t'.c.loc ∨
        (awaiting t'.c.loc = true ∧ replies t'.c.loc = replies t.c.loc ∧ rank t'.c.loc < rank t.c.loc ∧
          (t'.c.loc.eli = .process ∨ t'.c.loc.eli = .write) ∧ t'.wasSuspended = false) :=
  tpc_progress_iter L PL tpcRechecksSuspend tpcMarksSuspend hw hs ha he rr wr hfair

/-- **Progress, thread-per-connection.**  For every history `H` of returns of the thread's blocking call and resumes
    that is fair for the connection (`TFair`) and contains more than `rank` iterations: at some point of `H` the thread
    has left the loop (connection closed), or the connection is no longer active (closed, or suspended by its own
    handler), or its reply is completely sent. -/
theorem tpc_progress {ops : Ops W} {needs awaiting : Local W → Bool} {replies rank : Local W → Nat}
    (L : Laws ops needs) (PL : ProgLaws ops awaiting replies rank) (H : List TStep) (t : TState W)
    (hw : t.wh = .active) (hs : t.wasSuspended = false) (ha : awaiting t.c.loc = true)
    (he : t.c.loc.eli = .process ∨ t.c.loc.eli = .write)
    (hfair : TFair ops tpcRechecksSuspend tpcMarksSuspend t H) (hr : rank t.c.loc < nIters H) :
    ∃ H1 H2, H = H1 ++ H2 ∧
      match tpcRun ops tpcRechecksSuspend tpcMarksSuspend t H1 with
      | none => True
      | some t' => t'.wh ≠ .active ∨ replies t.c.loc < replies t'.c.loc :=
  tpc_progress_run L PL tpcRechecksSuspend tpcMarksSuspend H t hw hs ha he hfair hr

/-- Non-vacuity (progress): the lawful instance `Demo`, a thread whose connection needs two more idle calls, three
    fair iterations: after two of them the reply is complete. -/
example :
    TFair Demo.ops tpcRechecksSuspend tpcMarksSuspend { c := { id := 0, loc := Demo.mkLoc 2 .process }, wh := .active }
      [.iter false false false, .resumed, .iter false false false, .iter false false false] ∧
    (tpcRun Demo.ops tpcRechecksSuspend tpcMarksSuspend { c := { id := 0, loc := Demo.mkLoc 2 .process }, wh := .active }
      [.iter false false false, .resumed, .iter false false false]).map (fun t => (t.wh, Demo.replies t.c.loc)) = some (.active, 1) := by
  refine ⟨?_, by decide⟩
  simp only [TFair]
  decide

/-- **Without the re-check (the loop before the F29 fix) a resume wakes nobody.**  Lawful `ops`; the handler suspends,
    the thread notices, the daemon resumes, the post-resume idle call suspends again: the loop with the re-check waits
    on the inter-thread channel; the loop without it blocks on the client socket with no timeout while the connection
    is suspended — the next resume finds nobody waiting for it. -/
theorem tpc_no_recheck_loses_wakeup :
    Laws (TpcWitness.ops true) TpcWitness.needs ∧
    (∀ rc, ∃ t, tpcRun (TpcWitness.ops true) rc false TpcWitness.t0 [.iter true false false, .iter false false false, .resumed] = some t ∧
        t.wh = .active ∧ t.wasSuspended = true ∧
        (tpcHeadWith (TpcWitness.ops true) true false t).2 = some suspendedWait ∧
        (tpcHeadWith (TpcWitness.ops true) false false t).1.wh = .susp ∧
        (tpcHeadWith (TpcWitness.ops true) false false t).2 =
          some { wait := .forever, onItc := false, r := true, w := false, e := false }) := by
  refine ⟨TpcWitness.laws true, fun rc => ?_⟩
  cases rc <;> exact ⟨_, rfl, by decide⟩

/-- **A resume processed before the thread has noticed the suspension is lost unless the loop marks early.**
    Lawful `ops`; the request arrives, the handler suspends the connection and the application has the reply ready;
    the daemon thread processes the resume before the connection's thread is back at the loop head (`¬ Noticed`).
    The loop that only looks at `con->suspended` blocks on the socket for readability with no timeout although the
    connection has work that needs no input; the loop that marks the suspension runs handle_idle and waits for
    writability. -/
theorem tpc_unnoticed_resume_loses_wakeup :
    Laws (TpcWitness.ops false) TpcWitness.needs ∧
    (∃ t ts, tpcRun (TpcWitness.ops false) true false TpcWitness.t0 [.iter true false false] = some ts ∧ ¬ Noticed false ts ∧
        tpcRun (TpcWitness.ops false) true false TpcWitness.t0 [.iter true false false, .resumed] = some t ∧
        (tpcHeadWith (TpcWitness.ops false) true false t).1.wh = .active ∧
        TpcWitness.needs (tpcHeadWith (TpcWitness.ops false) true false t).1.c.loc = true ∧
        (tpcHeadWith (TpcWitness.ops false) true false t).2 =
          some { wait := .forever, onItc := false, r := true, w := false, e := false }) ∧
    (∃ t, tpcRun (TpcWitness.ops false) true true TpcWitness.t0 [.iter true false false, .resumed] = some t ∧
        TpcWitness.needs (tpcHeadWith (TpcWitness.ops false) true true t).1.c.loc = false ∧
        (tpcHeadWith (TpcWitness.ops false) true true t).2 =
          some { wait := .forever, onItc := false, r := false, w := true, e := false }) := by
  refine ⟨TpcWitness.laws false, ⟨_, _, rfl, ?_, rfl, by decide⟩, ⟨_, rfl, by decide⟩⟩
  intro h
  rcases h with h | h
  · cases h
  · exact absurd (h (by decide)) (by decide)

/-- … so without the discipline the invariant of `tpc_invariant_reachable` is not kept by that loop. -/
theorem tpc_unnoticed_resume_breaks_invariant :
    ∃ t, tpcRun (TpcWitness.ops false) true false TpcWitness.t0 [.iter true false false, .resumed] = some t ∧
      ¬ TInv TpcWitness.needs false t := by
  refine ⟨_, rfl, fun h => ?_⟩
  have := h.sync (by decide) (by decide) (by decide)
  revert this; decide

/-- Non-vacuity with the resume at the critical moment: the loop of /repo, the handler suspends, the daemon thread
    processes the resume at once (`tpc_resume_any_time`): the state is reachable, the thread runs handle_idle and then
    waits for writability. -/
example : ∃ t, TReach (TpcWitness.ops false) TpcWitness.needs tpcMarksSuspend t ∧ t.wh = .active ∧
    (tpcHead (TpcWitness.ops false) t).1.log = [.idle 0, .idle 0, .read 0] ∧
    (tpcHead (TpcWitness.ops false) t).2 = some { wait := .forever, onItc := false, r := false, w := true, e := false } := by
  have h0 : TReach (TpcWitness.ops false) TpcWitness.needs tpcMarksSuspend TpcWitness.t0 :=
    TReach.init TpcWitness.c0 (fun h => by revert h; decide)
  have h1 := TReach.iter (t' := _) true false false h0 rfl
  have h2 := TReach.resumed h1 (tpc_resume_any_time _)
  exact ⟨_, h2, by decide, by decide, by decide⟩

/-- Non-vacuity of `tpc_no_lost_wakeup` / `tpc_invariant_reachable`: a reachable state of the loop of /repo in which
    the handler suspended, the thread noticed, the daemon resumed — and the next blocking call is on the socket for
    writability (the reply queued by the post-resume idle call). -/
example : ∃ t, TReach (TpcWitness.ops false) TpcWitness.needs tpcMarksSuspend t ∧ t.wh = .active ∧ t.wasSuspended = true ∧
    (tpcHead (TpcWitness.ops false) t).2 = some { wait := .forever, onItc := false, r := false, w := true, e := false } := by
  have h0 : TReach (TpcWitness.ops false) TpcWitness.needs tpcMarksSuspend TpcWitness.t0 :=
    TReach.init TpcWitness.c0 (fun h => by revert h; decide)
  have h1 := TReach.iter (t' := _) true false false h0 rfl
  have h2 := TReach.iter (t' := _) false false false h1 rfl
  have h3 := TReach.resumed h2 (Or.inr (fun _ => by decide))
  exact ⟨_, h3, by decide, by decide, by decide⟩

/-- MHD_select, MHD_poll_all, MHD_poll_listen_socket and MHD_epoll call resume_suspended_connections() in every cycle before
    they block, whatever the threading mode: a top-level statement of the function, before the blocking call, with no operand
    that depends on thread-per-connection evaluated before it (regenerated from daemon.c; false — and this file does not
    compile — e.g. when the call is moved behind `! MHD_D_IS_USING_THREAD_PER_CONN_ (daemon) &&`, seeded change C06_7) -/
theorem code_backends_resume_every_cycle :
    selectResumesEveryCycle = true ∧ pollAllResumesEveryCycle = true ∧ pollListenResumesEveryCycle = true ∧
    epollResumesEveryCycle = true := by decide

/-- **The daemon thread's cycle processes resumes.**  Thread-per-connection, select() or poll() back-end: after
    MHD_resume_connection on a suspended connection, the next cycle of the daemon thread has made the connection active
    again and cleared the mark … -/
theorem daemon_cycle_processes_resumes (b : TBackend) {ths : List (TThread W)} {th : TThread W} (hm : th ∈ ths)
    (hr : th.resuming = true) (hs : th.t.wh = .susp) :
    ∃ th' ∈ tpcDaemonCycle b ths, th'.t = tpcResumed th.t ∧ th'.t.wh = .active ∧ th'.resuming = false := by
  have hb : daemonResumes b = true := by cases b <;> decide
  unfold tpcDaemonCycle; rw [hb]
  exact ⟨_, tpcDaemonCycle_resumes hm hr, rfl, tpcResumed_active hs, rfl⟩

/-- … and (with `tpc_resume_is_served`) its thread, which has noticed the suspension, passes it through handle_idle before
    it blocks again: **a resume request is served**. -/
theorem tpc_resume_request_is_served (ops : Ops W) (b : TBackend) {ths : List (TThread W)} {th : TThread W} (hm : th ∈ ths)
    (hr : th.resuming = true) (hs : th.t.wh = .susp) (hc : th.t.c.loc.st ≠ stClosed) (hw : th.t.wasSuspended = true) :
    ∃ th' ∈ tpcDaemonCycle b ths, th'.t.wh = .active ∧
      ∃ evs, (tpcHead ops th'.t).1.log = evs ++ th.t.log ∧ Ev.idle th.t.c.id ∈ evs := by
  obtain ⟨th', hm', e, ha, _⟩ := daemon_cycle_processes_resumes b hm hr hs
  refine ⟨th', hm', ha, ?_⟩
  rw [e]
  exact tpc_resume_is_served ops tpcRechecksSuspend tpcMarksSuspend hc hs hw

/-- **A daemon thread that does not call resume_suspended_connections leaves the connection suspended for ever**: its thread
    wakes from the bounded wait, finds `suspended` still set and waits again, for every number of rounds — no reply, no close. -/
theorem deaf_daemon_never_resumes (ops : Ops W) (recheck early : Bool) (n : Nat) (th : TThread W) (hs : th.t.wh = .susp)
    (hc : th.t.c.loc.st ≠ stClosed) :
    (tpcDeafRounds ops recheck early n th).t.wh = .susp ∧ (tpcDeafRounds ops recheck early n th).resuming = th.resuming := by
  induction n generalizing th with
  | zero => exact ⟨hs, rfl⟩
  | succ k ih =>
    have e : tpcDeafRound ops recheck early th = { th with t := { th.t with wasSuspended := true } } := by
      unfold tpcDeafRound
      rw [tpcIter_suspended ops recheck early hs hc]
      rfl
    show (tpcDeafRounds ops recheck early k (tpcDeafRound ops recheck early th)).t.wh = .susp ∧
      (tpcDeafRounds ops recheck early k (tpcDeafRound ops recheck early th)).resuming = th.resuming
    rw [e]
    exact ih { th with t := { th.t with wasSuspended := true } } hs hc

/-- Non-vacuity: the suspended, noticed thread of the witness instance with a resume request: one daemon cycle (either
    back-end) and the thread's next loop head run handle_idle; 100 rounds of a deaf daemon leave it suspended. -/
example : ∃ t, tpcRun (TpcWitness.ops false) true true TpcWitness.t0 [.iter true false false, .iter false false false] = some t ∧
    t.wh = .susp ∧ t.wasSuspended = true ∧
    (∀ b, ((tpcDaemonCycle b [{ t := t, resuming := true }]).map (fun th => (th.t.wh, th.resuming))) = [(.active, false)]) ∧
    (tpcDeafRounds (TpcWitness.ops false) true true 100 { t := t, resuming := true }).t.wh = .susp := by
  refine ⟨_, rfl, by decide, by decide, fun b => by cases b <;> decide, ?_⟩
  exact (deaf_daemon_never_resumes _ true true 100 _ (by decide) (by decide)).1

/-! Pipelined requests: buffered input is work.  After a completely sent reply on a kept-alive connection the read
  buffer may already hold the next request.  Model `Mhd.Model.LoopReset` (`w` = "bytes the parser has not looked at
  yet"); `needsBuf l = l.w || PROCESS`. -/

/-- case FULL_REPLY_SENT of MHD_connection_handle_idle goes on with the state loop after connection_reset() (regenerated from
    connection.c; false on a tree where the loop is left there — seeded change C06_4 — and then this file does not compile) -/
theorem code_reply_sent_continues : replySentContinues = true := by decide

/-- hence the step of /repo is the continuing one -/
theorem replySentIdle_is_continuing (parse : Local Bool → Nat) (l : Local Bool) :
    replySentIdle parse l = replySentIdleWith true parse l := by
  unfold replySentIdle; rw [code_reply_sent_continues]

/-- **Buffered input is not left behind.**  Whatever is buffered and wherever the parser gets with it: after handle_idle
    no unexamined input remains, so the step is in sync for `needsBuf` (instance of `Laws.idle_sync` for this path; monitored on
    the real code as law `idle_buffered`: state INIT after handle_idle ⇒ read_buffer_offset = 0). -/
theorem reply_sent_leaves_no_unexamined_input (parse : Local Bool → Nat) (l : Local Bool) :
    (replySentIdle parse l).w = false ∧
    (needsBuf (replySentIdle parse l) = true → (replySentIdle parse l).eli.hasProcess = true) := by
  rw [replySentIdle_is_continuing]
  exact ⟨replySent_examined parse l, replySent_sync parse l⟩

/-- witness: reply just sent (FULL_REPLY_SENT), a complete pipelined request buffered; the parser would get to HEADERS_PROCESSED -/
def pipeLoc : Local Bool := { st := 21, eli := .write, rdReady := false, wrReady := false, bufSpace := true, w := true }
def pipeDaemon (continues : Bool) : Daemon Bool :=
  { conns := [{ id := 0, loc := replySentIdleWith continues (fun _ => 11) pipeLoc }] }

/-- **Leaving the loop there loses the buffered request.**  connection_reset() sets PROCESS for the buffered bytes, but
    MHD_connection_update_event_loop_info recomputes the wait class from the state alone (INIT: READ, regenerated table): the
    daemon is quiescent — "no timeout", only readability watched — while a complete request waits in the buffer.  With the
    `continue` the same connection ends in sync.  (Also non-vacuity of the theorem above.) -/
theorem reply_sent_break_loses_wakeup :
    getTimeout (pipeDaemon false) = .none ∧ Quiescent (pipeDaemon false) {} ∧
    (∃ c ∈ (pipeDaemon false).conns, needsBuf c.loc = true ∧ c.loc.st = stInit ∧ c.loc.eli = .read) ∧
    (∀ c ∈ (pipeDaemon true).conns, needsBuf c.loc = true → c.loc.eli.hasProcess = true) := by
  refine ⟨by decide, ⟨by decide, ?_, ?_⟩, ⟨_, List.mem_cons_self, by decide⟩, ?_⟩
  · intro id _; rfl
  · intro id _; rfl
  · intro c hc; simp only [pipeDaemon, List.mem_cons, List.not_mem_nil, or_false] at hc; subst hc; decide

/-- **The concrete connection step waits for what the table says.**  `Mhd.ConnSM.eventLoopInfo` (Mhd.Model.ConnSM, C05's
    hand-written model of MHD_connection_update_event_loop_info) gives, for every connection state the table lists and
    every value of the other fields, the wait class of the regenerated table that `LawTable` / `round_wait_class` use:
    sending states WRITE, unready / full-request states PROCESS, line / header / footer receiving states READ,
    CLOSED → CLEANUP.  (BODY_RECEIVING, whose wait class depends on the buffer, is in none of the lists.  Of the other
    laws, `Laws`, `LawTable` and (without connection time-outs) `LawOpen` are proved for ConnSM's step below —
    `connsm_satisfies_laws` and the two after it; `ProgLaws` stays an assumption, monitored on every logged handler call.) -/
theorem connsm_wait_class_in_table {σ : Type} (c : Mhd.ConnSM.Conn σ) :
    (c.state.toNat ∈ writeStates → connsmEliCode (Mhd.ConnSM.eventLoopInfo c) = eliWrite) ∧
    (c.state.toNat ∈ processStates → connsmEliCode (Mhd.ConnSM.eventLoopInfo c) = eliProcess) ∧
    (c.state.toNat ∈ readStates → connsmEliCode (Mhd.ConnSM.eventLoopInfo c) = eliRead) ∧
    (c.state.toNat = stClosed → connsmEliCode (Mhd.ConnSM.eventLoopInfo c) = eliCleanup) :=
  connsm_eli_in_table c

/-- non-vacuity: every class of the table is inhabited by a state of the C05 model -/
example : Mhd.Gen.ConnState.CState.headersSending.toNat ∈ writeStates ∧ Mhd.Gen.ConnState.CState.init.toNat ∈ readStates ∧
    Mhd.Gen.ConnState.CState.fullReqReceived.toNat ∈ processStates ∧ Mhd.Gen.ConnState.CState.closed.toNat = stClosed := by decide

/-! The concrete connection step: C05's state machine satisfies the laws.  `connsmOps S` (Mhd.Model.LoopConnSM) is the
  `Ops` built from C05's model of MHD_connection_handle_read / _write / _idle / _close_ (Mhd.Model.ConnSM, its unbounded
  handle_idle loop); `S` scripts everything the environment decides.  `needsSM` reads "work that needs no network
  input" off the connection record. -/

/-- **The safety laws hold for the concrete step** — for every application, configuration and environment script:
    after handle_idle an active connection with pending work (a complete element buffered where one is awaited — in
    particular a pipelined next request —, upload data the handler is working through, or a state in which MHD calls the
    application) is in a PROCESS wait class; a closed connection is moved to the cleanup list; handle_read with a socket
    error closes; a handler never puts a connection back into the active list. -/
theorem connsm_satisfies_laws (S : SMScript σ) : Laws (connsmOps S) connsmNeeds := {
  idle_where := by
    intro id k wh l h
    simp only [connsmOps, if_pos h]
    exact h
  read_force := by
    intro id k l
    simp only [connsmOps, if_true, viewIO]
    rw [handleRead_recvErr_closed _ rfl]; rfl
  idle_closed := by
    open Mhd.ConnSM in
    intro id k l h
    simp only [connsmOps, ne_eq, not_true, if_false]
    by_cases hc : l.w.state = .closed
    · rw [if_neg (fun hh => hh.2 hc)]
      have hk : (handleIdle S.cfg S.app (S.idleEnv id k) { l.w with suspended := false }).1.inCleanup = true := by
        rw [handleIdle_closed (c := { l.w with suspended := false }) rfl hc]; exact cleanupConnection_inCleanup _
      simp only [whOfSM, hk, if_true]
    · rw [if_pos ⟨h, hc⟩]
  idle_sync := by
    open Mhd.ConnSM in
    intro id k wh l hact hn
    obtain ⟨c', hc', e, hnc, hns⟩ := connsm_idle_active S id k wh l hact
    rw [e] at hn ⊢
    have hnd : needsSM c' = true := hn
    have hnf : c'.fault = false := by
      unfold needsSM at hnd
      cases h : c'.fault with
      | false => rfl
      | true => rw [h] at hnd; cases hnd
    -- handle_idle ends in the cleanup list, suspended, at a fault (MHD_PANIC / fuel of the model) or `Examined`: in a receiving
    -- state only with no complete element buffered.  "Stays active" excludes the first two and `needsSM` is false at a fault;
    -- with `Examined` the receiving cases of `needsSM` are false too, and every state left has a PROCESS wait class.
    have hex : Examined c' := by
      rcases (hc' ▸ (handleIdleWith_loopPost _ S.cfg S.app (S.idleEnv id k) { l.w with suspended := false }).1) with h | h | h | h
      · rw [hnc] at h; cases h
      · rw [hns] at h; cases h
      · rw [hnf] at h; cases h
      · exact h
    show (viewIdle l c').eli.hasProcess = true
    simp only [viewIdle, hns, Bool.false_eq_true, if_false]
    exact needsSM_sync c' hex hnd }

/-- … and so do the wait-class table law and (without connection time-outs) "no closed connection stays active" -/
theorem connsm_satisfies_law_table (S : SMScript σ) : LawTable (connsmOps S) := by
  refine ⟨fun id k wh l hact => ?_⟩
  obtain ⟨c', _, e, _, hns⟩ := connsm_idle_active S id k wh l hact
  rw [e]
  unfold TableOK
  simp only [viewIdle, hns, Bool.false_eq_true, if_false]
  exact eli_table_sm c'

theorem connsm_satisfies_law_open (S : SMScript σ) (hto : ∀ id k, (S.idleEnv id k).timedOut = false) :
    LawOpen (connsmOps S) := by
  refine ⟨fun id k wh l hact => ?_⟩
  obtain ⟨c', hc', e, hnc, _⟩ := connsm_idle_active S id k wh l hact
  rw [e]
  show c'.state.toNat ≠ stClosed
  intro hcl
  have := (hc' ▸ (Mhd.ConnSM.handleIdleWith_loopPost _ S.cfg S.app (S.idleEnv id k) { l.w with suspended := false }).2 (hto id k))
    (toNat_eq_closed _ hcl)
  rw [this] at hnc
  cases hnc

/-- **No lost wake-up, select / poll loop, with C05's connection state machine as the step** (no assumption left about
    the step): in every reachable quiescent state no active connection has work that needs no input … -/
theorem no_lost_wakeup_connsm (S : SMScript σ) {poll : Bool} {d : Daemon (SMConn σ)}
    (h : Reach (connsmOps S) connsmNeeds poll d) (rdy : Ready) (q : Quiescent d rdy) :
    ∀ c ∈ d.conns, needsSM c.loc.w = false ∧ ¬ (c.loc.eli.hasRead = true ∧ rdyR rdy c.id = true) ∧
      ¬ (c.loc.eli.isWrite = true ∧ rdyW rdy c.id = true) :=
  no_lost_wakeup (connsm_satisfies_laws S) h rdy q

/-- … spelled out for the receiving states: no active connection waits for the client while a complete request line,
    header block or trailer (e.g. of a pipelined request) sits in its read buffer. -/
theorem no_unexamined_input_when_quiescent (S : SMScript σ) {poll : Bool} {d : Daemon (SMConn σ)}
    (h : Reach (connsmOps S) connsmNeeds poll d) (rdy : Ready) (q : Quiescent d rdy) :
    ∀ c ∈ d.conns, c.loc.w.fault = false → Mhd.ConnSM.ReadState c.loc.w.state → Mhd.ConnSM.dropJunk c.loc.w.buf = [] := by
  intro c hc hf hr
  have hn := (no_lost_wakeup_connsm S h rdy q c hc).1
  unfold needsSM at hn
  rw [hf] at hn
  rcases hr with e | e | e | e <;> simp [e] at hn <;> exact hn

/-- the same for the thread-per-connection loop -/
theorem tpc_no_lost_wakeup_connsm (S : SMScript σ) {t : TState (SMConn σ)}
    (h : TReach (connsmOps S) connsmNeeds tpcMarksSuspend t) {t1 : TState (SMConn σ)} {b : TBlock}
    (hb : tpcHead (connsmOps S) t = (t1, some b)) :
    (t1.wh = .susp → b = suspendedWait) ∧
    (t1.wh = .active → b.onItc = false ∧ (needsSM t1.c.loc.w = true → b.wait = .zero) ∧
        (t1.c.loc.eli.hasRead = true → b.r = true) ∧ (t1.c.loc.eli.isWrite = true → b.w = true)) ∧
    (b.wait = .forever → t1.wh ≠ .susp ∧ (t1.wh = .active → needsSM t1.c.loc.w = false)) :=
  tpc_no_lost_wakeup (connsm_satisfies_laws S) h hb

/-- round post-conditions for the concrete step: wait class of every surviving connection from the table; no closed
    connection left active (no time-outs) -/
theorem round_wait_class_connsm (S : SMScript σ) {d : Daemon (SMConn σ)} (h : InvSP connsmNeeds d) (rdy : Ready) (poll : Bool) :
    ∀ c ∈ (roundOf (connsmOps S) poll d rdy).conns, c.id ∈ ids d.newc ∨ TableOK c.loc :=
  round_wait_class (connsm_satisfies_law_table S) h rdy poll

/-- **Progress with the concrete step**: `Laws` is discharged; the reply-side laws `ProgLaws` (monotone reply count, a
    measure that every fair write / idle call decreases) remain the hypothesis — Mhd.Model.ConnSM has no reply counter and
    its "not ready" answers are environment choices, so they are not derivable from it. -/
theorem progress_connsm (S : SMScript σ) {awaiting : Local (SMConn σ) → Bool} {replies rank : Local (SMConn σ) → Nat}
    (PL : ProgLaws (connsmOps S) awaiting replies rank) (poll : Bool) (p : CId)
    (H : List (Step (SMConn σ))) (d : Daemon (SMConn σ)) (c : Conn (SMConn σ)) (hinv : InvSP connsmNeeds d) (hc : c ∈ d.conns)
    (hid : c.id = p) (ha : awaiting c.loc = true) (hs : c.loc.eli = .process ∨ c.loc.eli = .write)
    (hfair : FairFor (connsmOps S) connsmNeeds poll p d H) (hr : rank c.loc < nRounds H) :
    ∃ H1 H2, H = H1 ++ H2 ∧ ∀ c' ∈ (runSteps (connsmOps S) poll d H1).conns, c'.id = p → replies c.loc < replies c'.loc :=
  progress (connsm_satisfies_laws S) PL poll p H d c hinv hc hid ha hs hfair hr

/-- Non-vacuity: an application that replies at the final call; a connection with a complete GET buffered: handle_idle
    runs it to HEADERS_SENDING / WRITE (nothing pending); with only the request line buffered it stays READ and nothing
    is pending; a reachable daemon (one MHD_add_connection, one round in which the request is read) is quiescent
    afterwards: the fast track of call_handlers has sent the whole reply (6 handler calls) and the kept-alive connection waits
    for the next request. -/
def demoApp : Mhd.ConnSM.App Unit :=
  { uriLog := fun s => (s, none),
    handle := fun s ci => (s, { take := ci.offered, act := if ci.site = .final then .reply { rid := 1 } true else .cont }) }
def demoScript : SMScript Unit :=
  { cfg := {}, app := demoApp, idleEnv := fun _ _ => {}, recv := fun _ _ => .recv [.line .ok, .headers .none true false], wr := fun _ _ => .done }
def demoLoc (buf : List Mhd.ConnSM.Tok) : Local (SMConn Unit) :=
  { st := stInit, eli := .read, rdReady := false, wrReady := false, bufSpace := true, w := { app := (), started := true, buf := buf } }

example :
    ((connsmOps demoScript).idle 0 0 .active (demoLoc [.line .ok, .headers .none true false])).1.st = stHeadersSending ∧
    ((connsmOps demoScript).idle 0 0 .active (demoLoc [.line .ok, .headers .none true false])).1.eli = .write ∧
    connsmNeeds ((connsmOps demoScript).idle 0 0 .active (demoLoc [.line .ok, .headers .none true false])).1 = false ∧
    ((connsmOps demoScript).idle 0 0 .active (demoLoc [.line .ok])).1.eli = .read ∧
    connsmNeeds ((connsmOps demoScript).idle 0 0 .active (demoLoc [.line .ok])).1 = false ∧
    connsmNeeds (demoLoc [.line .ok]) = true := by decide

example : ∃ d, Reach (connsmOps demoScript) connsmNeeds false d ∧ d.conns.length = 1 ∧ Quiescent d {} ∧
    d.conns.map (fun c => (c.loc.st, c.loc.eli)) = [(stInit, .read)] ∧ d.log.length = 6 := by
  refine ⟨_, Reach.round { r := [7] } (Reach.add { id := 7, loc := demoLoc [] } (Reach.init true)
    ⟨by simp, by simp, by simp, by simp, rfl, rfl, rfl⟩), ?_, ?_, ?_⟩
  · decide
  · refine ⟨by decide, ?_, ?_⟩ <;> intro id hid
    · rfl
    · rfl
  · decide

end Mhd.C06
