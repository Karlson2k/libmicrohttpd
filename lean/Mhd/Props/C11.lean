/-
  C11 — Suspend/resume freezes and later continues a connection losslessly.

  Statements only; the proofs are in Mhd.Proofs.Susp*.  The model (Mhd.Model.SuspConn,
  Mhd.Model.SuspDaemon) is parameterised by the `suspended` guards of the C source; every
  theorem below is about `srcGuards`, the guards found in the source tree as it stands
  (Mhd.Gen.Susp, regenerated on every run).  `guards_present` is the point where a guard that
  disappeared from daemon.c / connection.c breaks the build.

  Quantification: every daemon history (`List Op`, any length) of a daemon started in any mode
  with any application scripts (`plans c` for the first request of connection `c`, `later c` — a list
  of any length — for the requests that follow on the same keep-alive connection; the bytes of a
  following request may already sit in the read buffer while an earlier one is suspended; per request: suspend points at the first call and its repetitions, at upload call i, at the
  final call and its repetitions, at content-reader call j; per point the resume is issued
  after k rounds / in the callback right after the suspend / *before* the suspend (the other
  order of the race with a second thread) / by an explicit operation), arrivals, client sends of any
  symbols at any time, explicit resumes of any connection at any time (also of connections
  that are not suspended), rounds in select / poll / epoll mode with *any* readiness answer of
  the kernel, any number of connections.
-/
import Mhd.Proofs.SuspLossless
import Mhd.Proofs.SuspEpoll
import Mhd.Proofs.SuspThread
import Mhd.Proofs.SuspTimer

namespace Mhd.C11
open Mhd.Susp

/-- (A) Every `suspended` guard the property rests on is present in the source:
    the `while (! connection->suspended)` loop of MHD_connection_handle_idle and its exit after the
    first call, the early returns of handle_read / handle_write / update_event_loop_info, the epoll
    update skip, the `instant_retry` loop of process_request_body, and the `resuming` short-cut of
    internal_suspend_connection_. -/
theorem guards_present : srcGuards.Sound := by decide

/-- The daemon's lists and the per-connection flags agree in every reachable state:
    a connection is in the suspended list iff its `suspended` flag is set; the suspended list is
    disjoint from the active list; the eready and timeout lists are sub-lists of the active list. -/
theorem lists_consistent (m : Mode) (plans : Nat → Plan) (later : Nat → List Plan) (ops : List Op) : WF (run srcGuards (Daemon.init m plans later) ops).1 :=
  run_WF srcGuards guards_present ops _ (WF_init m plans later)

/-- A suspended connection is in no list that an event loop traverses. -/
theorem suspended_not_traversed (m : Mode) (plans : Nat → Plan) (later : Nat → List Plan) (ops : List Op) (c : Nat)
    (hs : ((run srcGuards (Daemon.init m plans later) ops).1.conn c).suspended = true) :
    let d := (run srcGuards (Daemon.init m plans later) ops).1
    c ∈ d.susp ∧ c ∉ d.active ∧ c ∉ d.eready ∧ c ∉ d.normalTO ∧ c ∉ d.newConns := by
  have hw := lists_consistent m plans later ops
  have h1 := (hw.susp_iff c).1 hs
  have h2 : c ∉ (run srcGuards (Daemon.init m plans later) ops).1.active := fun hm => hw.act_nosusp c hm h1
  exact ⟨h1, h2, fun hm => h2 (hw.er_sub c hm), fun hm => h2 (hw.to_sub c hm), fun hm => (hw.new_fresh c hm).2 h1⟩

/-- No resume request is ever lost: whenever a suspended connection has its `resuming` flag
    set, `daemon->resuming` is set as well, so the next resume_suspended_connections scans the
    list (this is what the `if (connection->resuming)` short-cut of internal_suspend_connection_
    protects). -/
theorem no_lost_resume (m : Mode) (plans : Nat → Plan) (later : Nat → List Plan) (ops : List Op) (c : Nat) :
    let d := (run srcGuards (Daemon.init m plans later) ops).1
    (d.conn c).suspended = true → (d.conn c).resuming = true → d.resuming = true :=
  (lists_consistent m plans later ops).no_lost c

/-- … and the entry points return first thing: even if an event loop did call them, the turn of
    a suspended connection does nothing (no callback, no recv/send, no state change). -/
theorem suspended_entry_points_return (ep rr wr : Bool) (k : Conn) (hk : k.suspended = true) :
    callHandlers srcGuards ep k rr wr = (k, []) ∧ handleIdle srcGuards ep k = (k, []) ∧
    handleRead srcGuards k = (k, []) ∧ handleWrite srcGuards k = (k, []) :=
  ⟨callHandlers_suspended srcGuards guards_present ep rr wr k hk,
   handleIdle_suspended srcGuards guards_present ep k hk,
   handleRead_suspended srcGuards guards_present.2.2.2.1 k hk,
   handleWrite_suspended srcGuards guards_present.2.2.2.2.1 k hk⟩

/-- FROZEN.  While a connection is suspended and no resume has been requested (nor is one
    scheduled for this very round by the script thread), *no* operation — a round in any mode
    with any readiness, arrivals, sends, resumes of other connections — emits an event for it,
    changes its processing state (`Conn.core`: everything but the socket's receive queue, the
    ghost copy of the client's bytes and the script timer) or moves it out of the suspended
    list.  A `send` of its own client only appends to the socket's receive queue. -/
theorem suspended_frozen (m : Mode) (plans : Nat → Plan) (later : Nat → List Plan) (ops : List Op) (c : Nat) (op : Op)
    (hs : c ∈ (run srcGuards (Daemon.init m plans later) ops).1.susp)
    (hr : ((run srcGuards (Daemon.init m plans later) ops).1.conn c).resuming = false)
    (ht : ((run srcGuards (Daemon.init m plans later) ops).1.conn c).timer ≠ some 0)
    (hop : match op with
      | .resume c' => c' ≠ c
      | .round ids _ _ => ids.Nodup
      | .eround ids _ => ids.Nodup
      | _ => True) :
    let d := (run srcGuards (Daemon.init m plans later) ops).1
    proj c (step srcGuards d op).2 = [] ∧ c ∈ (step srcGuards d op).1.susp ∧
    ((step srcGuards d op).1.conn c).core = (d.conn c).core ∧
    ((step srcGuards d op).1.conn c).inbox
      = (d.conn c).inbox ++ (match op with | .send c' syms => if c' = c then syms else [] | _ => []) := by
  have r := frozen_step srcGuards guards_present _ (lists_consistent m plans later ops) c ⟨hs, hr, nofun⟩ ht op hop
  exact ⟨r.1, r.2.1.1, r.2.2.1, r.2.2.2⟩

/-- QUIET.  In the event log of every history, projected on any connection: between an
    effective `suspend` and the `resumed` marker (the move back by resume_suspended_connections)
    there is no handler call, no content-reader call, no recv and no send for that connection,
    and no second suspend.  (`quietFrom` is the monitor; `some s` = accepted, `s` = suspended at
    the end.)  Assumption on the application: a content reader of a *known-size* response that
    suspends returns 0 — or the write path is guarded (`writeReaderGuard`, see `reader_data_witness`). -/
theorem quiet_while_suspended (m : Mode) (plans : Nat → Plan) (later : Nat → List Plan) (ops : List Op)
    (hplans : srcGuards.writeReader = true ∨ ∀ c, ∀ p ∈ plans c :: later c, p.rd = false ∨ p.rkind = .cbUnknown) (c : Nat) :
    quietFrom false (proj c (run srcGuards (Daemon.init m plans later) ops).2)
      = some ((run srcGuards (Daemon.init m plans later) ops).1.conn c).suspended :=
  run_quiet srcGuards guards_present ops (Daemon.init m plans later) c (hplans.imp id fun h => h c)

/-- RESUME RE-ENTERS AT THE SAME STATE.  A suspended connection whose resume was requested is
    moved back by the next resume_suspended_connections: into the active list (so the next
    traversal runs MHD_connection_handle_idle on it), out of the suspended list, `suspended` and
    `resuming` cleared, in epoll mode queued in the eready list as read- and write-ready — and
    nothing else of its record has changed (`resumedConn`). -/
theorem resume_reenters (m : Mode) (plans : Nat → Plan) (later : Nat → List Plan) (ops : List Op) (c : Nat)
    (hs : c ∈ (run srcGuards (Daemon.init m plans later) ops).1.susp)
    (hr : ((run srcGuards (Daemon.init m plans later) ops).1.conn c).resuming = true) :
    let d := (run srcGuards (Daemon.init m plans later) ops).1
    (c, CEv.resumed) ∈ (resumeSuspended srcGuards d).2 ∧ c ∈ (resumeSuspended srcGuards d).1.active ∧
    c ∉ (resumeSuspended srcGuards d).1.susp ∧
    (resumeSuspended srcGuards d).1.conn c = resumedConn srcGuards d.isEpoll (d.conn c) ∧
    (d.isEpoll = true → c ∈ (resumeSuspended srcGuards d).1.eready) :=
  resume_moves_back srcGuards _ (lists_consistent m plans later ops) c hs hr

theorem resumedConn_core (ep : Bool) (k : Conn) :
    (resumedConn srcGuards ep k).noEpoll = { k with suspended := false, resuming := false }.noEpoll ∧
    (ep = true → (resumedConn srcGuards ep k).readReady = true ∧ (resumedConn srcGuards ep k).writeReady = true ∧
                 (resumedConn srcGuards ep k).inEready = true) := by
  have hg : srcGuards.resumeReady = true := by decide
  cases ep <;> simp [resumedConn, Conn.noEpoll, hg]

/-- RACE.  "Another thread resumes right after the handler suspended" has two sequential
    interleavings (both calls run under cleanup_connection_mutex): (A) suspend, resume, and then
    the daemon's resume_suspended_connections; (B) resume first, then the suspend finds
    `resuming` set and only clears it.  Both continue from the same connection state. -/
theorem race_both_orders (ep : Bool) (k : Conn) (hs : k.suspended = false) (hr : k.resuming = false) :
    let kA := resumedConn srcGuards ep (suspendAct srcGuards k .imm).1
    let kB := (suspendAct srcGuards k .pre).1
    kA.noEpoll = kB.noEpoll ∧ kA.suspended = false ∧ kB.suspended = false ∧
    kA.resuming = false ∧ kB.resuming = false ∧ kA.dres = true ∧ kB.dres = true ∧
    (suspendAct srcGuards k .imm).2 = [.suspend true, .resumeReq] ∧
    (suspendAct srcGuards k .pre).2 = [.resumeReq, .suspend false] :=
  race_same_state srcGuards guards_present.2.2.2.2.2.2.2 ep k hs hr

/-- LOSSLESS (request side), for every history and every connection: the bytes delivered to the
    handler so far (over all requests of the connection), followed by the body bytes waiting in the
    read buffer — including read-ahead of pipelined requests — and in the socket, are exactly the
    body bytes the client has sent: nothing is lost, duplicated or reordered, wherever in whichever
    request and however often the connection was suspended. -/
theorem upload_lossless (m : Mode) (plans : Nat → Plan) (later : Nat → List Plan) (ops : List Op) (c : Nat) :
    let r := run srcGuards (Daemon.init m plans later) ops
    upBytes (proj c r.2) ++ dataOf (r.1.conn c).rbuf ++ dataOf (r.1.conn c).inbox = dataOf (r.1.conn c).sent :=
  (run_acct srcGuards ops m plans later c).2.up

/-- the scripts of a connection are served in order: `done` (completed), `plan` (current), `later` -/
theorem pipeline_order (m : Mode) (plans : Nat → Plan) (later : Nat → List Plan) (ops : List Op) (c : Nat) :
    let k := (run srcGuards (Daemon.init m plans later) ops).1.conn c
    k.done ++ k.plan :: k.later = plans c :: later c :=
  (run_acct srcGuards ops m plans later c).1

/-- LOSSLESS (reply side): the body bytes sent to the client so far are the complete reply bodies of
    the requests already served (`bodies k.done`), followed by the first `rwp` bytes of the current
    reply minus the chunk waiting in the write buffer; and once the last request is finished the
    client has received every body completely, in request order. -/
theorem reply_lossless (m : Mode) (plans : Nat → Plan) (later : Nat → List Plan) (ops : List Op) (c : Nat) :
    let r := run srcGuards (Daemon.init m plans later) ops
    let k := r.1.conn c
    wireBytes (proj c r.2) ++ k.wpend = bodies k.done ++ patRange k.plan.rid 0 k.rwp ∧ k.rwp ≤ k.plan.size ∧
    (k.st = .finished → k.later = [] → wireBytes (proj c r.2) = bodies (plans c :: later c)) := by
  have h := run_acct srcGuards ops m plans later c
  exact ⟨h.2.rep.wire, h.2.rep.le, fun hf hl => (h.2.finished h.1 hf hl).1⟩

/-- a finished pipeline of Content-Length (or body-less) requests has delivered exactly the declared
    number of body bytes to the handler -/
theorem upload_complete (m : Mode) (plans : Nat → Plan) (later : Nat → List Plan) (ops : List Op) (c : Nat)
    (hb : ∀ p ∈ plans c :: later c, p.body ≠ .chunked)
    (hf : ((run srcGuards (Daemon.init m plans later) ops).1.conn c).st = .finished)
    (hl : ((run srcGuards (Daemon.init m plans later) ops).1.conn c).later = []) :
    (upBytes (proj c (run srcGuards (Daemon.init m plans later) ops).2)).length = clSum (plans c :: later c) := by
  have h := run_acct srcGuards ops m plans later c
  exact (h.2.finished h.1 hf hl).2 hb

/-- STUTTER EQUIVALENCE over request sequences.  Take any two histories — e.g. one with suspend points
    anywhere in any request of the pipeline, any resume delays, modes and interleavings, and the same
    scripts with all suspends erased (`Plan.erase`) — in which connection `c` carries the same
    sequence of requests (body kinds, replies) and the client sent the same body bytes.  If both ran
    the pipeline to completion, the projections on `c` agree: the client received the same reply
    bodies, and (pipelines without chunked uploads) the handler consumed the same upload bytes. -/
theorem stutter_equivalence (m₁ m₂ : Mode) (pl₁ pl₂ : Nat → Plan) (la₁ la₂ : Nat → List Plan) (ops₁ ops₂ : List Op) (c : Nat)
    (hplan : (pl₁ c :: la₁ c).map Plan.erase = (pl₂ c :: la₂ c).map Plan.erase)
    (hsent : dataOf ((run srcGuards (Daemon.init m₁ pl₁ la₁) ops₁).1.conn c).sent
              = dataOf ((run srcGuards (Daemon.init m₂ pl₂ la₂) ops₂).1.conn c).sent)
    (hf₁ : ((run srcGuards (Daemon.init m₁ pl₁ la₁) ops₁).1.conn c).st = .finished ∧
           ((run srcGuards (Daemon.init m₁ pl₁ la₁) ops₁).1.conn c).later = [])
    (hf₂ : ((run srcGuards (Daemon.init m₂ pl₂ la₂) ops₂).1.conn c).st = .finished ∧
           ((run srcGuards (Daemon.init m₂ pl₂ la₂) ops₂).1.conn c).later = []) :
    wireBytes (proj c (run srcGuards (Daemon.init m₁ pl₁ la₁) ops₁).2)
      = wireBytes (proj c (run srcGuards (Daemon.init m₂ pl₂ la₂) ops₂).2) ∧
    ((∀ p ∈ pl₁ c :: la₁ c, p.body ≠ .chunked) →
      upBytes (proj c (run srcGuards (Daemon.init m₁ pl₁ la₁) ops₁).2)
        = upBytes (proj c (run srcGuards (Daemon.init m₂ pl₂ la₂) ops₂).2)) :=
  stutter srcGuards guards_present m₁ m₂ pl₁ pl₂ la₁ la₂ ops₁ ops₂ c hplan hsent hf₁ hf₂

/-- NO LOST WAKE-UP (edge-triggered epoll).  In every reachable state of an epoll daemon: if `c` is
    suspended with a resume request pending when MHD_epoll starts (after the script thread's timers),
    then this round — for *every* answer `evs` of epoll_wait, the empty one included — logs the
    `resumed` marker for `c` and afterwards gives `c` a turn that starts from exactly the record it was
    frozen with (flags cleared, read- and write-ready set): MHD_connection_handle_idle from the timeout
    scan or call_handlers(read_ready, write_ready) from the eready traversal.  Bytes buffered before the
    suspension (`rbuf`, pipelined read-ahead included) or arrived during it (`inbox`: the edge the
    daemon did not see) are therefore processed without any new epoll event. -/
theorem epoll_no_lost_wakeup (plans : Nat → Plan) (later : Nat → List Plan) (ops : List Op) (c : Nat)
    (ids : List Nat) (evs : List (Nat × Bool × Bool)) :
    let d := (run srcGuards (Daemon.init .epoll plans later) ops).1
    c ∈ (timers d ids).1.susp → ((timers d ids).1.conn c).resuming = true →
    ∃ pre post f,
      (roundEpoll srcGuards d ids evs).2
        = pre ++ tag c (f (clearDres (resumedConn srcGuards true ((timers d ids).1.conn c)))).2 ++ post ∧
      (c, CEv.resumed) ∈ pre ∧
      (f = handleIdle srcGuards true ∨ f = fun k => callHandlers srcGuards true k true true) := by
  intro d hs hr
  have hm : d.isEpoll = true := isEpoll_of_mode (run_mode srcGuards ops (Daemon.init .epoll plans later))
  exact epoll_resume_round srcGuards (by decide) d (lists_consistent .epoll plans later ops) hm c ids evs hs hr

/-- the eready traversal reaches every connection that is queued and marked ready, with both ready
    flags passed to call_handlers and its record untouched by the turns before -/
theorem eready_traversal_visits (c : Nat) (l : List Nat) (d : Daemon) (hc : c ∈ l) (hq : ReadyQ d c) :
    ∃ pre post, (travEready srcGuards l d).2
        = pre ++ tag c (callHandlers srcGuards d.isEpoll (clearDres (d.conn c)) true true).2 ++ post ∧ proj c pre = [] :=
  travEready_visits srcGuards c l d hc hq

/-- while a resume request is pending, and while the eready list is not empty, MHD_get_timeout
    answers 0: the event loop is told not to block before the round that serves it -/
theorem no_block_while_pending (m : Mode) (plans : Nat → Plan) (later : Nat → List Plan) (ops : List Op) (c : Nat) :
    let d := (run srcGuards (Daemon.init m plans later) ops).1
    (c ∈ d.susp → (d.conn c).resuming = true → d.hintZero = true) ∧
    (d.isEpoll = true → c ∈ d.eready → d.hintZero = true) :=
  ⟨resume_pending_hint _ (lists_consistent m plans later ops) c, fun hm => readyq_hint _ hm c⟩

section timer
open Mhd.SuspTimer

/-- the five timer guards are in the source (the fifth: MHD_set_connection_option moves a connection between the
    timeout lists only inside `if (! connection->suspended)`): MHD_update_last_activity_ and connection_check_timedout skip a
    suspended connection; resume_suspended_connections restarts the timer for a connection of the
    default-timeout list *and* for one of the manual-timeout list (both determined by asking the real code:
    suspended longer than the timeout on the virtual clock, resumed, `last_activity` read back) -/
theorem timer_guards_present : srcTGuards.Sound := by decide

/-- RESUME RESTARTS THE TIMER, whichever timeout list the connection returns to (default timeout, or its
    own timeout ≠ daemon default): in every state with the connection suspended and a timeout set,
    the move back sets `last_activity` to the current time. -/
theorem resume_restarts_timer_all_lists (s : TState) (hs : s.suspended = true) (ht : s.timeout ≠ 0) :
    (step srcTGuards s .resume).lastAct = s.now ∧ (step srcTGuards s .resume).suspended = false ∧
    (s.inNormal = true ∨ s.inNormal = false) := by
  have := resume_restarts srcTGuards timer_guards_present s hs ht
  exact ⟨this.1, this.2.1, by cases s.inNormal <;> simp⟩

/-- NO TIMEOUT WHILE SUSPENDED: however far the clock advances, the timeout check of
    MHD_connection_handle_idle does nothing to a suspended connection. -/
theorem no_timeout_while_suspended (s : TState) (hs : s.suspended = true) (ms : Nat) :
    step srcTGuards (step srcTGuards s (.tick ms)) .idle = step srcTGuards s (.tick ms) :=
  idle_suspended srcTGuards timer_guards_present _ hs

/-- … and over every history (ticks of any size, suspends, resumes, activity, timeout changes, idle passes
    in any order, any daemon default): whenever an idle pass closes the connection for inactivity, the
    connection is not suspended and has been idle *since its last resume* for longer than its timeout —
    time spent suspended never counts. -/
theorem no_early_timeout_after_resume (t0 dflt : Nat) (ops : List TOp) :
    let s := run srcTGuards (TState.start t0 dflt) ops
    s.closedTO = false → (step srcTGuards s .idle).closedTO = true →
    s.suspended = false ∧ s.timeout ≠ 0 ∧ s.timeout < s.now - s.resumedAt := by
  intro s h0 h1
  exact closed_only_when_idle_long srcTGuards timer_guards_present s
    (run_inv srcTGuards timer_guards_present ops _ (start_inv t0 dflt)) h0 h1

/-- SET-TIMEOUT WHILE SUSPENDED KEEPS THE LISTS: MHD_set_connection_option (TIMEOUT) on a suspended connection —
    legal at any time, from any thread — records the new value and links the connection into no list. -/
theorem set_timeout_while_suspended_keeps_lists (s : TState) (hs : s.suspended = true) (ms : Nat) :
    (step srcTGuards s (.setTimeout ms)).cntNormal = s.cntNormal ∧ (step srcTGuards s (.setTimeout ms)).cntManual = s.cntManual ∧
    (step srcTGuards s (.setTimeout ms)).timeout = ms ∧ (step srcTGuards s (.setTimeout ms)).suspended = true :=
  setTimeout_suspended_counts srcTGuards timer_guards_present.2.2.2.2 s hs ms

/-- TIMEOUT LISTS CONSISTENT, over every history (timeout changes to any value at any point — before a suspend, while
    suspended, after a resume —, suspends, resumes, ticks, activity, idle passes; any daemon default): a suspended
    connection is in no timeout list; any other connection is in exactly one, exactly once — the default-timeout
    list iff its timeout equals the daemon default.  (Counts are multiplicities: a node linked twice would make
    every XDLL walk of the daemon spin.) -/
theorem timeout_lists_consistent (t0 dflt : Nat) (ops : List TOp) :
    let s := run srcTGuards (TState.start t0 dflt) ops
    (s.suspended = true → s.cntNormal = 0 ∧ s.cntManual = 0) ∧
    (s.suspended = false → (s.timeout = s.dflt → s.cntNormal = 1 ∧ s.cntManual = 0) ∧
                            (s.timeout ≠ s.dflt → s.cntNormal = 0 ∧ s.cntManual = 1)) := by
  have h := run_linv srcTGuards timer_guards_present ops _ (start_linv t0 dflt)
  simpa [LInv, TState.inNormal] using h

/-- set to its own value while suspended, resumed, set back to the default: always one membership -/
example :
    let s := run srcTGuards (TState.start 0 5000) [.suspend, .setTimeout 2000, .tick 9000, .resume]
    s.cntNormal = 0 ∧ s.cntManual = 1 ∧ s.closedTO = false ∧
    (step srcTGuards s (.setTimeout 5000)).cntNormal = 1 ∧ (step srcTGuards s (.setTimeout 5000)).cntManual = 0 := by decide +kernel

/-- WITNESS that the `if (! connection->suspended)` around the list moves is necessary: without it a
    timeout change during the suspension plus the resume link the node twice -/
theorem set_timeout_guard_witness :
    (run { srcTGuards with setSkipsSusp := false } (TState.start 0 5000) [.suspend, .setTimeout 2000, .resume]).cntManual = 2 := by
  decide +kernel

/-- a connection with its own timeout (2 s, daemon default 5 s: manual list) suspended for 7 s and resumed
    survives the idle pass right after the resume, and is closed once it has really been idle for > 2 s -/
example :
    let ops := [TOp.setTimeout 2000, .suspend, .tick 7000, .idle, .resume, .idle]
    (run srcTGuards (TState.start 1000 5000) ops).closedTO = false ∧
    (run srcTGuards (TState.start 1000 5000) ops).inNormal = false ∧
    (run srcTGuards (TState.start 1000 5000) (ops ++ [.tick 2001, .idle])).closedTO = true := by decide +kernel

/-- WITNESS that the manual-list restart is necessary: without it the same history closes the
    connection in the first idle pass after the resume -/
theorem manual_restart_witness :
    (run { srcTGuards with restartManual := false } (TState.start 1000 5000)
      [.setTimeout 2000, .suspend, .tick 7000, .idle, .resume, .idle]).closedTO = true := by decide +kernel

end timer

/-- what "served" means for a round `R` in which the other thread's MHD_resume_connection (c) lands at position `p`
    (`R (some p)`): at position 0 — before resume_suspended_connections — this very round moves `c` back; at every later
    position the request is pending when the round ends (`c` still in the suspended list, `connection->resuming` and
    `daemon->resuming` set, all lists consistent), MHD_get_timeout answers 0 — the loop must not block; with an internal
    thread the ITC signal written by MHD_resume_connection plays this role — and the next resume_suspended_connections
    moves `c` back. -/
def ServedAt (c : Nat) (R : Option Nat → Daemon × List Ev) : Prop :=
  (c, CEv.resumed) ∈ (R (some 0)).2 ∧
  ∀ q, 1 ≤ q →
    WF (R (some q)).1 ∧ Pend c (R (some q)).1 ∧ (R (some q)).1.hintZero = true ∧
    (c, CEv.resumed) ∈ (resumeSuspended srcGuards (R (some q)).1).2 ∧ c ∈ (resumeSuspended srcGuards (R (some q)).1).1.active

/-- RESUME AT ANY POINT OF A ROUND.  The rounds of the three event loops are split into their atomic steps —
    every step runs with, or is protected by, cleanup_connection_mutex, and so is MHD_resume_connection:
    epoll: resume_suspended_connections | epoll_wait results | new connections | timeout scan | one call_handlers per
    eready entry; select / poll: resume_suspended_connections | new connections | one call_handlers per connection of the
    snapshot.  `roundEpollAt` / `roundSelectAt` / `roundPollAt` are the rounds of the model (`… none` = `roundEpoll` /
    `roundSelect` / `roundPoll`) with the request of another thread landing between any two steps (`some q`: q = 0, 1, 2, …,
    beyond the last turn = at the end).  In every reachable state, for a suspended connection nobody has asked to resume
    yet, for every position, every kernel answer and every script: the request is served (`ServedAt`). -/
theorem resume_any_point_of_round (m : Mode) (plans : Nat → Plan) (later : Nat → List Plan) (ops : List Op) (c : Nat)
    (ids : List Nat) (hnd : ids.Nodup) (rd wr : Nat → Bool) (evs : List (Nat × Bool × Bool)) :
    let d := (run srcGuards (Daemon.init m plans later) ops).1
    c ∈ d.susp → (d.conn c).resuming = false → (d.conn c).timer ≠ some 0 →
    ServedAt c (roundEpollAt srcGuards d ids evs c) ∧ ServedAt c (roundSelectAt srcGuards d ids rd wr c) ∧
    ServedAt c (roundPollAt srcGuards d ids rd wr c) ∧
    roundEpollAt srcGuards d ids evs c none = roundEpoll srcGuards d ids evs ∧
    roundSelectAt srcGuards d ids rd wr c none = roundSelect srcGuards d ids rd wr ∧
    roundPollAt srcGuards d ids rd wr c none = roundPoll srcGuards d ids rd wr := by
  intro d hs hr ht
  have hw := lists_consistent m plans later ops
  have fin : ∀ R : Option Nat → Daemon × List Ev,
      ((c, CEv.resumed) ∈ (R (some 0)).2 ∧ ∀ q, 1 ≤ q → GS c (R (some q)).1) → ServedAt c R := by
    intro R h
    refine ⟨h.1, fun q hq => ?_⟩
    have gs := h.2 q hq
    have sv := gs.served srcGuards
    exact ⟨gs.1, gs.2, sv.1, sv.2.1, sv.2.2.1⟩
  exact ⟨fin _ (resume_any_point_epoll srcGuards guards_present c d hw ⟨hs, hr, nofun⟩ ht ids hnd evs),
    fin _ (resume_any_point_select srcGuards guards_present c d hw ⟨hs, hr, nofun⟩ ht ids hnd rd wr),
    fin _ (resume_any_point_poll srcGuards guards_present c d hw ⟨hs, hr, nofun⟩ ht ids hnd rd wr),
    roundEpollAt_none _ _ _ _ _, roundSelectAt_none _ _ _ _ _ _, roundPollAt_none _ _ _ _ _ _⟩

def demoPlan : Plan :=
  { body := .chunked, fs := [.delay 1], us := [(0, .imm), (1, .pre)], ls := [.manual], rs := [(1, .delay 0)],
    size := 6, cbmax := 4, rid := 1 }

def allReady : Nat → Bool := fun _ => true

def demoSyms : List Sym := [.head, .sz 2, .b 1, .b 2, .crlf, .sz 1, .b 3, .crlf, .last, .trailerEnd]

def rounds (n : Nat) : List Op := List.replicate n (.round [0, 1] allReady allReady)

def demoPlans : Nat → Plan := fun c => if c = 0 then demoPlan else { size := 3, rid := 2 }

def noLater : Nat → List Plan := fun _ => []

/-- two connections, the first one with suspend points of all four kinds -/
def demoOps : List Op :=
  [.arrive 0, .arrive 1, .send 0 demoSyms, .send 1 [.head]] ++ rounds 9 ++ [.resume 0] ++ rounds 9

/-- the demo history suspends connection 0 four times effectively and once in vain (resume first),
    serves both requests completely and leaves nobody suspended -/
example : ((run srcGuards (Daemon.init .select demoPlans noLater) demoOps).1.conn 0).st = .finished ∧
    ((run srcGuards (Daemon.init .select demoPlans noLater) demoOps).1.conn 1).st = .finished ∧
    (run srcGuards (Daemon.init .select demoPlans noLater) demoOps).1.susp = [] ∧
    ((proj 0 (run srcGuards (Daemon.init .select demoPlans noLater) demoOps).2).filter (· == .suspend true)).length = 4 ∧
    ((proj 0 (run srcGuards (Daemon.init .select demoPlans noLater) demoOps).2).filter (· == .suspend false)).length = 1 ∧
    upBytes (proj 0 (run srcGuards (Daemon.init .select demoPlans noLater) demoOps).2) = [1, 2, 3] := by decide +kernel

/-- the same request with every suspend erased runs to completion as well (hypotheses of
    `stutter_equivalence` are satisfiable) -/
example : ((run srcGuards (Daemon.init .epoll (fun c => (demoPlans c).erase) noLater)
      ([.arrive 0, .send 0 demoSyms, .eround [0] [], .eround [0] [(0, true, true)], .eround [0] [], .eround [0] [],
        .eround [0] [], .eround [0] []])).1.conn 0).st = .finished := by decide +kernel

/-- a reachable state with one connection suspended (hypotheses of `suspended_frozen`) … -/
example : (run srcGuards (Daemon.init .epoll demoPlans noLater)
      [.arrive 0, .arrive 1, .send 0 demoSyms, .eround [0, 1] [], .eround [0, 1] [(0, true, true)]]).1.susp = [0] ∧
    ((run srcGuards (Daemon.init .epoll demoPlans noLater)
      [.arrive 0, .arrive 1, .send 0 demoSyms, .eround [0, 1] [], .eround [0, 1] [(0, true, true)]]).1.conn 0).resuming = false := by
  decide +kernel

/-- … and one with a pending resume request (hypotheses of `resume_reenters`) -/
example : (run srcGuards (Daemon.init .select demoPlans noLater) ([.arrive 0, .send 0 demoSyms] ++ rounds 4)).1.susp = [0] ∧
    ((run srcGuards (Daemon.init .select demoPlans noLater) ([.arrive 0, .send 0 demoSyms] ++ rounds 4)).1.conn 0).resuming = true := by
  decide +kernel

/-- a keep-alive pipeline of three requests on connection 0 — chunked upload, Content-Length upload,
    GET — with suspend points in every one of them -/
def pipeFirst : Plan := { body := .chunked, us := [(0, .delay 1)], rs := [(0, .delay 0)], size := 5, cbmax := 3, rid := 1 }
def pipeLater : List Plan :=
  [{ body := .cl 3, fs := [.imm], us := [(0, .delay 2)], ls := [.delay 0], rkind := .cbKnown, size := 4, cbmax := 2, rid := 2 },
   { fs := [.pre], ls := [.manual], size := 2, rid := 3 }]

/-- the client sends all three requests at once: while request 0 is suspended, requests 1 and 2 sit in
    the read buffer (read-ahead) -/
def pipeSyms : List Sym :=
  [.head, .sz 2, .b 1, .b 2, .crlf, .last, .trailerEnd, .head, .b 7, .b 8, .b 9, .head]

def pipeOps : List Op :=
  [.arrive 0, .send 0 pipeSyms] ++ List.replicate 16 (.eround [0] [(0, true, true)]) ++ [.resume 0] ++
  List.replicate 6 (.eround [0] [])

/-- the pipelined history (epoll mode) serves all three requests, suspends 6 times effectively and once in
    vain, delivers the upload bytes of requests 0 and 1 in order and leaves nothing behind
    (hypotheses of `reply_lossless`, `stutter_equivalence`: `finished ∧ later = []`) -/
example :
    let r := run srcGuards (Daemon.init .epoll (fun _ => pipeFirst) (fun _ => pipeLater)) pipeOps
    (r.1.conn 0).st = .finished ∧ (r.1.conn 0).later = [] ∧ (r.1.conn 0).done.length = 2 ∧ r.1.susp = [] ∧
    ((proj 0 r.2).filter (· == .suspend true)).length = 6 ∧ ((proj 0 r.2).filter (· == .suspend false)).length = 1 ∧
    ((proj 0 r.2).filter (· == .completed)).length = 3 ∧
    upBytes (proj 0 r.2) = [1, 2, 7, 8, 9] ∧ (wireBytes (proj 0 r.2)).length = 11 := by decide +kernel

/-- read-ahead while suspended: after the first rounds request 0 is suspended in its upload call and the
    complete requests 1 and 2 are in the read buffer — `suspended_frozen` keeps them there (`Conn.core`
    contains `rbuf`) -/
example :
    let d := (run srcGuards (Daemon.init .epoll (fun _ => pipeFirst) (fun _ => pipeLater))
      [.arrive 0, .send 0 pipeSyms, .eround [0] [], .eround [0] [(0, true, true)]]).1
    d.susp = [0] ∧ (d.conn 0).done = [] ∧ (d.conn 0).rbuf = [.crlf, .last, .trailerEnd, .head, .b 7, .b 8, .b 9, .head] := by
  decide +kernel

/-- the same pipeline with every suspend erased runs to completion in select mode
    (second history of `stutter_equivalence`) -/
example :
    let r := run srcGuards (Daemon.init .select (fun _ => pipeFirst.erase) (fun _ => pipeLater.map Plan.erase))
      ([.arrive 0, .send 0 pipeSyms] ++ List.replicate 12 (.round [0] allReady allReady))
    (r.1.conn 0).st = .finished ∧ (r.1.conn 0).later = [] ∧ upBytes (proj 0 r.2) = [1, 2, 7, 8, 9] := by decide +kernel

/-- hypotheses of `epoll_no_lost_wakeup`: a reachable epoll state with connection 0 suspended and its
    resume requested; the next round is run with *no* epoll event and serves it: the handler is called -/
example :
    let d := (run srcGuards (Daemon.init .epoll (fun _ => pipeFirst) (fun _ => pipeLater))
      [.arrive 0, .send 0 pipeSyms, .eround [0] [], .eround [0] [(0, true, true)], .resume 0]).1
    0 ∈ (timers d [0]).1.susp ∧ ((timers d [0]).1.conn 0).resuming = true ∧ d.hintZero = true ∧
    (0, CEv.resumed) ∈ (roundEpoll srcGuards d [0] []).2 ∧
    ((proj 0 (roundEpoll srcGuards d [0] []).2).filter (fun e => match e with | .handler .. => true | _ => false)).length = 1 := by
  decide +kernel

/-- an all-Content-Length pipeline (hypothesis of `upload_complete` and of the upload half of
    `stutter_equivalence`) -/
example : ∀ p ∈ ({ body := .cl 2, size := 1 } : Plan) :: [{ body := .none, size := 1 }, { body := .cl 1, size := 1 }],
    p.body ≠ .chunked := by decide

/-- hypotheses of `resume_any_point_of_round` (connection 0 suspended, nobody has asked to resume it, connection 1 is
    in the traversal), and one injected round evaluated: the request lands before the first eready turn (position 4)
    of a round without epoll events; at the end it is pending -/
example : let d := (run srcGuards (Daemon.init .epoll demoPlans noLater)
      [.arrive 0, .arrive 1, .send 0 demoSyms, .send 1 [.head], .eround [0, 1] [], .eround [0, 1] [(0, true, true), (1, true, true)]]).1
    0 ∈ d.susp ∧ (d.conn 0).resuming = false ∧ (d.conn 0).timer ≠ some 0 ∧ d.eready ≠ [] ∧
    0 ∈ (roundEpollAt srcGuards d [0, 1] [] 0 (some 4)).1.susp ∧
    ((roundEpollAt srcGuards d [0, 1] [] 0 (some 4)).1.conn 0).resuming = true ∧
    (roundEpollAt srcGuards d [0, 1] [] 0 (some 4)).1.resuming = true ∧
    (0, CEv.resumed) ∈ (roundEpollAt srcGuards d [0, 1] [] 0 (some 0)).2 := by decide +kernel

/-- the unchanged tree's `process_request_body` loops `while (instant_retry)` without looking at
    `connection->suspended`; every other guard present -/
def asIsGuards : Guards :=
  { idleLoop := true, idleFirstCall := true, idleEpoll := true, read := true, write := true, eli := true,
    bodyRetry := false, writeReader := false, shortcut := true, resumeReady := true, selectPrevAfter := false }

/-- WITNESS (kernel-checked) that this guard is necessary: with a chunked upload whose chunks are
    all in the read buffer, a handler that suspends in the first upload call is called again for
    the next chunk while the connection is suspended — the monitor rejects the log. -/
theorem instant_retry_witness :
    quietFrom false (proj 0 (run asIsGuards (Daemon.init .select (fun _ => { body := .chunked, us := [(0, .manual)], size := 3 }))
      ([.arrive 0, .send 0 demoSyms] ++ rounds 2)).2) = none := by
  decide +kernel

/-- WITNESS that the reader assumption of `quiet_while_suspended` is necessary as long as
    MHD_connection_handle_write sends right after try_ready_normal_body: a reader of a known-size
    response that suspends *and* returns data gets its block sent while suspended. -/
theorem reader_data_witness :
    quietFrom false (proj 0 (run { asIsGuards with bodyRetry := true }
      (Daemon.init .select (fun _ => { rkind := .cbKnown, rs := [(1, .manual)], rd := true, size := 6, cbmax := 2 }))
      ([.arrive 0, .send 0 [.head]] ++ rounds 4)).2) = none := by
  decide +kernel

end Mhd.C11
