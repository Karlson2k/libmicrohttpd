/-
  C14 — Authorization headers are decoded exactly (Basic and Digest parameters).

  Where a statement is an instance of a lemma of `Mhd.Proofs.Auth*` its proof is that instance; where it is
  the natural statement itself, the proof stands here, on the lemmas of those modules.  Model: `Mhd.Model.Auth`,
  `Mhd.Model.AuthInfo` (mirrors gen_auth.c / basicauth.c / digestauth.c), grammar side
  `Mhd.Model.AuthGrammar` (`render`, `view`, reference tables, base64 encoder).

  Quantification: every theorem holds for all byte strings / all parameter lists of any
  length, all renderings (order = order of the list, letter case of every name, optional
  white space at every position the grammar allows it, token or quoted-string form, any
  set of backslash-escaped characters) — no size bound anywhere.
-/
import Mhd.Proofs.AuthSem
import Mhd.Proofs.AuthSafe
import Mhd.Proofs.AuthTerm
import Mhd.Proofs.AuthB64Canon
import Mhd.Proofs.AuthEmbed
import Mhd.Proofs.AuthHdr
import Mhd.Proofs.AuthCorrupt
import Mhd.Proofs.AuthRef
import Mhd.Proofs.AuthLay
import Mhd.Proofs.AuthTurn

namespace Mhd.C14
open Mhd.Auth Mhd.Gen.Auth

/-- the regenerated `tk_names[]` / `params[]` tables are the ones the model's slot constants refer to:
    name k is stored in field k, and the constants `kNonce … kUserhash` index them as written -/
theorem param_table :
    paramNames =
      [/- nonce -/ [110, 111, 110, 99, 101],
       /- opaque -/ [111, 112, 97, 113, 117, 101],
       /- algorithm -/ [97, 108, 103, 111, 114, 105, 116, 104, 109],
       /- response -/ [114, 101, 115, 112, 111, 110, 115, 101],
       /- username -/ [117, 115, 101, 114, 110, 97, 109, 101],
       /- username* -/ [117, 115, 101, 114, 110, 97, 109, 101, 42],
       /- realm -/ [114, 101, 97, 108, 109],
       /- uri -/ [117, 114, 105],
       /- qop -/ [113, 111, 112],
       /- cnonce -/ [99, 110, 111, 110, 99, 101],
       /- nc -/ [110, 99],
       /- userhash -/ [117, 115, 101, 114, 104, 97, 115, 104]] ∧
    paramSlots = ["nonce", "opaque", "algorithm", "response", "username", "username_ext", "realm", "uri", "qop_raw",
      "cnonce", "nc", "userhash"] ∧
    kNonce = 0 ∧ kOpaque = 1 ∧ kAlgorithm = 2 ∧ kResponse = 3 ∧ kUsername = 4 ∧ kUsernameExt = 5 ∧ kRealm = 6 ∧
    kUri = 7 ∧ kQop = 8 ∧ kCnonce = 9 ∧ kNc = 10 ∧ kUserhash = 11 := by decide +kernel

/-- `parse_dauth_params (render p ρ)` succeeds for every well-formed parameter list `es` (semantic
    items with their rendering choices, `WF` is decidable) and delivers, for every parameter `k`, the
    value the sender meant (`view` ignores all rendering choices; last occurrence wins), the algorithm /
    qop constants of the *meaning* of those parameters, and the userhash flag.  `t` is the byte stored
    behind the string (the NUL of the header value in the connection buffer); any byte but ';' will do. -/
theorem digest_roundtrip (lead : Bytes) (es : List Elem) (t : UInt8) (ht : t ≠ 59) (hwf : WF lead es = true) :
    ∃ d, parseDigest (render lead es) (some t) = .ok d ∧
      (∀ k, (d.slots k).map paramUnq = view es k) ∧
      d.algo3 = algoSem (view es kAlgorithm) ∧ d.qop = qopSem (view es kQop) ∧
      d.userhash = userhashSem (view es kUserhash) :=
  parseDigest_render lead es t ht hwf

/-- … hence two renderings of the same parameters (same items in the same order; everything else —
    case, white space, token vs. quoted-string, escapes — chosen independently) are indistinguishable. -/
theorem digest_rendering_invariant (lead lead' : Bytes) (es es' : List Elem) (t : UInt8) (ht : t ≠ 59)
    (hwf : WF lead es = true) (hwf' : WF lead' es' = true) (hsame : es.map (·.item) = es'.map (·.item)) :
    ∃ d d', parseDigest (render lead es) (some t) = .ok d ∧ parseDigest (render lead' es') (some t) = .ok d' ∧
      (∀ k, (d.slots k).map paramUnq = (d'.slots k).map paramUnq) ∧
      d.algo3 = d'.algo3 ∧ d.qop = d'.qop ∧ d.userhash = d'.userhash := by
  obtain ⟨d, h1, h2, h3, h4, h5⟩ := parseDigest_render lead es t ht hwf
  obtain ⟨d', h1', h2', h3', h4', h5'⟩ := parseDigest_render lead' es' t ht hwf'
  have hv := view_congr hsame
  exact ⟨d, d', h1, h1', fun k => by rw [h2 k, h2' k, hv], by rw [h3, h3', hv], by rw [h4, h4', hv],
    by rw [h5, h5', hv]⟩

/-- Non-vacuity: a three-parameter list with upper-case names, white space everywhere, a quoted
    value with an escaped `"` and an algorithm written as quoted-string with one escaped letter. -/
def exElems : List Elem :=
  [⟨⟨kUsername, [97, 34, 98]⟩, ⟨[true], [32], [9], .quoted [], [32], [32, 9]⟩⟩,
   ⟨⟨kAlgorithm, [77, 68, 53, 45, 115, 101, 115, 115]⟩, ⟨[true, true], [], [], .quoted [false, false, false, false, false, false, false, true], [], []⟩⟩,
   ⟨⟨kNc, [48, 48, 48, 48, 48, 48, 48, 49]⟩, ⟨[], [], [], .token, [], []⟩⟩]

example : WF [32] exElems = true := by decide +kernel
example : view exElems kAlgorithm = some [77, 68, 53, 45, 115, 101, 115, 115] := by decide +kernel
example : algoSem (view exElems kAlgorithm) = algoMd5Sess := by decide +kernel

/-- The same for the full list grammar of RFC 7235: known parameters in any rendering, interleaved with
    arbitrary extension parameters (any other name; token or quoted-string value with any escapes) and
    empty list elements (`,,`, leading and trailing commas).  Extension parameters and empty elements
    change nothing. -/
theorem digest_roundtrip_full (lead : Bytes) (gs : List GElem) (t : UInt8) (ht : t ≠ 59) (hwf : WFG lead gs = true) :
    ∃ d, parseDigest (renderG lead gs) (some t) = .ok d ∧
      (∀ k, (d.slots k).map paramUnq = viewG gs k) ∧
      d.algo3 = algoSem (viewG gs kAlgorithm) ∧ d.qop = qopSem (viewG gs kQop) ∧
      d.userhash = userhashSem (viewG gs kUserhash) :=
  parseDigest_renderG lead gs t ht hwf

/-- Non-vacuity: `,  Realm = "a\"b" ,, x-ext="q,;=\"" , NC=0000000a ,` -/
def exG : List GElem :=
  [.empty [32, 32],
   .known ⟨⟨kRealm, [97, 34, 98]⟩, ⟨[true], [32], [32], .quoted [], [32], []⟩⟩,
   .empty [32],
   .ext [120, 45, 101, 120, 116] ⟨[], [], [], .quoted [], [32], [32]⟩ [113, 44, 59, 61, 34],
   .known ⟨⟨kNc, [48, 48, 48, 48, 48, 48, 48, 97]⟩, ⟨[true, true], [], [], .token, [32], []⟩⟩,
   .empty []]

example : WFG [] exG = true := by decide +kernel
example : viewG exG kRealm = some [97, 34, 98] ∧ viewG exG kNc = some [48, 48, 48, 48, 48, 48, 48, 97] := by decide +kernel
example : renderG [] exG = [44, 32, 32, 82, 101, 97, 108, 109, 32, 61, 32, 34, 97, 92, 34, 98, 34, 32, 44, 44, 32,
    120, 45, 101, 120, 116, 61, 34, 113, 44, 59, 61, 92, 34, 34, 32, 44, 32, 78, 67, 61, 48, 48, 48, 48, 48, 48, 48, 97, 32, 44] := by decide +kernel

/-- `get_rq_dauth_algo`: a value written as quoted-string with any set of escaped characters is mapped to
    the same constant as the plain token, namely the constant of the reference table
    (`algoSem`: RFC 7616 names compared caselessly).  On the tree before fix F5 the regenerated
    if-chains differ and this theorem does not build. -/
theorem algo_quoting_invariant (off off' : Nat) (v : Bytes) (esc : List Bool) :
    algoOf (some ⟨off, escRender esc v, anyEsc esc v⟩) = algoOf (some ⟨off', v, false⟩) ∧
    algoOf (some ⟨off', v, false⟩) = algoSem (some v) ∧ algoOf none = algoSem none := by
  have hd := denotes_escRender esc v
  have h1 := algoOf_denotes off (escRender esc v, anyEsc esc v) v hd
  have h2 := algoOf_denotes off' (v, false) v (by simp [Denotes])
  exact ⟨by rw [h1, h2], h2, by simp [algoOf, algoSem, algo_chains_agree.2.2.1]⟩

theorem qop_quoting_invariant (off off' : Nat) (v : Bytes) (esc : List Bool) :
    qopOf (some ⟨off, escRender esc v, anyEsc esc v⟩) = qopOf (some ⟨off', v, false⟩) ∧
    qopOf (some ⟨off', v, false⟩) = qopSem (some v) ∧ qopOf none = qopSem none := by
  have hd := denotes_escRender esc v
  have h1 := qopOf_denotes off (escRender esc v, anyEsc esc v) v hd
  have h2 := qopOf_denotes off' (v, false) v (by simp [Denotes])
  exact ⟨by rw [h1, h2], h2, by simp [qopOf, qopSem, qop_chains_agree.2.2.1]⟩

theorem userhash_quoting_invariant (off off' : Nat) (v : Bytes) (esc : List Bool) :
    userhashOf (some ⟨off, escRender esc v, anyEsc esc v⟩) = userhashOf (some ⟨off', v, false⟩) ∧
    userhashOf (some ⟨off', v, false⟩) = userhashSem (some v) := by
  have hd := denotes_escRender esc v
  have h1 := userhashOf_denotes off (escRender esc v, anyEsc esc v) v hd
  have h2 := userhashOf_denotes off' (v, false) v (by simp [Denotes])
  exact ⟨by rw [h1, h2], h2⟩

/-- the two inputs of DESIGN §6 F5: `"SHA-512-25\6"` and `"MD5-ses\s"` -/
example : algoOf (some ⟨0, [83, 72, 65, 45, 53, 49, 50, 45, 50, 53, 92, 54], true⟩) = algoSha512 := by decide +kernel
example : algoOf (some ⟨0, [77, 68, 53, 45, 115, 101, 115, 92, 115], true⟩) = algoMd5Sess := by decide +kernel

/-- With any byte stored behind the string (`term = some t`; inside the library this is the NUL that
    terminates every header value in the connection buffer) `parse_dauth_params` never reads an index
    above `str_len`, for every input; the fuel of the model loop always suffices. -/
theorem digest_no_fault (s : Bytes) (t : UInt8) (e : Site) : parseDigest s (some t) ≠ .fault e :=
  parseDigest_some_noFault s t e

/-- Without such a byte the only out-of-range reads are the two reads of index `str_len` itself:
    gen_auth.c:520 (backslash as the last byte inside a quoted value) and gen_auth.c:540 (`';' == str[i]`
    after an unquoted value that ends the string). -/
theorem digest_fault_sites (s : Bytes) (e : Site) (h : parseDigest s none = .fault e) :
    e = .quotedBackslashEnd ∨ e = .tokenEnd := by
  have := parseDigest_isFault s none
  rw [h] at this
  cases e <;> simp at this ⊢

/-- both reads do happen: `nc=1` and `nc="a\` in exact-size buffers -/
example : (parseDigest [110, 99, 61, 49] none).map (fun _ => ()) = .fault .tokenEnd := by decide +kernel
example : (parseDigest [110, 99, 61, 34, 97, 92] none).map (fun _ => ()) = .fault .quotedBackslashEnd := by decide +kernel

/-- The result depends on that byte only when it is ';'. -/
theorem digest_term_irrelevant (s : Bytes) (t : UInt8) (ht : t ≠ 59) :
    parseDigest s (some t) = parseDigest s (some 0) := by
  unfold parseDigest
  rw [paramLoop_term t ht]

/-- … and then it does: `nc=1` is accepted with NUL behind it and rejected with ';' behind it. -/
example : (parseDigest [110, 99, 61, 49] (some 0)).map (fun d => (d.slots kNc).map paramUnq) = .ok (some [49]) := by decide +kernel
example : (parseDigest [110, 99, 61, 49] (some 59)).map (fun d => (d.slots kNc).map paramUnq) = .reject := by decide +kernel

/-- user-id and password come back exactly; the split is at the first colon -/
theorem basic_roundtrip (u pw : Bytes) (hu : ∀ c ∈ u, c ≠ 58) :
    basicDecode (b64Enc (u ++ 58 :: pw)) = some (u, some pw) := by
  unfold basicDecode
  rw [b64Dec_enc _ (by simp)]
  simp [splitColon_append u pw hu]

/-- no colon ⇒ the password is absent -/
theorem basic_nocolon (u : Bytes) (hne : u ≠ []) (hu : ∀ c ∈ u, c ≠ 58) :
    basicDecode (b64Enc u) = some (u, none) := by
  unfold basicDecode
  rw [b64Dec_enc _ hne]
  have : u.length ≠ 0 := by simpa using hne
  simp [splitColon_none u hu, this]

example : basicDecode (b64Enc ([65, 108] ++ 58 :: [111, 58, 112])) = some ([65, 108], some [111, 58, 112]) := by decide +kernel

/-- invalid base64 is rejected: whatever `MHD_base64_to_bin_n` accepts is the canonical RFC 4648
    encoding (alphabet, padding, zero trailing bits, length) of what it returns -/
theorem basic_invalid_base64_rejected (tok : Bytes) (r : Bytes × Option Bytes) (h : basicDecode tok = some r) :
    ∃ dec, dec ≠ [] ∧ tok = b64Enc dec ∧ r = splitColon dec := by
  unfold basicDecode at h
  cases hd : b64Dec tok with
  | none => simp [hd] at h
  | some dec =>
    simp only [hd] at h
    split at h
    · simp at h
    · rename_i hl
      simp only [Option.some.injEq] at h
      exact ⟨dec, by intro he; rw [he] at hl; simp at hl, b64Dec_canonical tok dec hd, h.symm⟩

example : basicDecode [81, 82, 61, 61] = none := by decide +kernel      -- "QR==": non-zero trailing bits
example : basicDecode [81, 81, 61] = none := by decide +kernel          -- "QQ=": length not a multiple of four

/-- token68 extraction is exact: precisely `OWS token68 OWS` is accepted … -/
theorem basic_token_exact (w1 tok w2 : Bytes) (h1 : allWs w1 = true) (h2 : allWs w2 = true) (hne : tok ≠ [])
    (ht : tok.all tok68Byte = true) : parseBasic (w1 ++ tok ++ w2) = .ok (some (w1.length, tok)) := by
  obtain ⟨c, r, rfl⟩ := List.exists_cons_of_ne_nil hne
  have hc : isWs c = false := by
    simp only [List.all_cons, Bool.and_eq_true, tok68Byte, ne_eq, decide_eq_true_eq] at ht
    simp [isWs, ht.1.1.1.1.1, ht.1.1.1.1.2]
  have hskip : skipWs (w1 ++ (c :: r) ++ w2) = c :: (r ++ w2) := by
    rw [List.append_assoc, skipWs_append _ _ h1]
    exact skipWs_stop _ (Or.inr ⟨c, r ++ w2, rfl, hc⟩)
  have hw2 : w2 = [] ∨ ∃ c r, w2 = c :: r ∧ isWs c = true := by
    cases w2 with
    | nil => exact Or.inl rfl
    | cons x xs => simp only [allWs, List.all_cons, Bool.and_eq_true] at h2; exact Or.inr ⟨x, xs, rfl, h2.1⟩
  have hscan := scanTok68_ok (c :: r) w2 ht hw2
  have hsk2 : skipWs w2 = [] := by
    have := skipWs_append w2 [] h2
    simpa [skipWs_nil] using this
  unfold parseBasic
  rw [hskip]
  simp only [List.cons_append] at hscan
  simp only [hscan, hsk2]
  simp

/-- … and nothing else: a second token or any other garbage after the token68, and NUL , ; inside
    it, are rejected (every accepted string has the shape above) -/
theorem basic_garbage_rejected (s : Bytes) (off : Nat) (tok : Bytes) (h : parseBasic s = .ok (some (off, tok))) :
    ∃ w1 w2, s = w1 ++ tok ++ w2 ∧ allWs w1 = true ∧ allWs w2 = true ∧ off = w1.length ∧ tok ≠ [] ∧
      tok.all tok68Byte = true := by
  obtain ⟨w1, hs, hw1, hhead⟩ := skipWs_split s
  unfold parseBasic at h
  rcases hhead with h0 | ⟨c, r, hcr, hc⟩
  · rw [h0] at h; simp at h
  · rw [hcr] at h hs
    simp only at h
    cases hscan : scanTok68 (c :: r) with
    | none => rw [hscan] at h; simp at h
    | some p =>
      obtain ⟨tok', r1⟩ := p
      rw [hscan] at h
      simp only at h
      obtain ⟨w2, hr1, hw2, hh2⟩ := skipWs_split r1
      obtain ⟨hsplit, htok⟩ := scanTok68_sound _ _ _ hscan
      rcases hh2 with h20 | ⟨c2, r2, h2, _⟩
      · rw [h20] at h hr1
        simp at h
        obtain ⟨rfl, rfl⟩ := h
        refine ⟨w1, w2, ?_, hw1, hw2, ?_, ?_, htok⟩
        · rw [hs, hsplit, hr1]; simp
        · rw [hs]; simp
        -- an empty token would make `c :: r`, which `skipWs` left with a head that is no white space, equal to `r1 = w2`, all white space
        · intro he
          rw [he] at hsplit
          simp only [List.nil_append] at hsplit
          rw [← hsplit] at hr1
          have : allWs (c :: r) = true := by rw [hr1]; simpa using hw2
          simp [allWs, hc] at this
      · rw [h2] at h; simp at h

example : parseBasic [65, 66, 32, 67] = .reject := by decide +kernel     -- "AB C"
example : parseBasic [32, 65, 66, 9] = .ok (some (1, [65, 66])) := by decide +kernel

/-- `find_auth_rq_header_`, one header, completely characterised -/
theorem find_header_exact (tok : Bytes) (h : Hdr) :
    hdrMatch tok h =
      if h.kind = headerKind ∧ h.name.map toLowerB = authHeader.map toLowerB ∧ tok.length ≤ h.value.length ∧
          (h.value.take tok.length).map toLowerB = tok.map toLowerB then
        match h.value.drop tok.length with
        | [] => some (tok.length, [])
        | c :: r => if c = 32 ∨ c = 9 then some (tok.length + 1, r) else none
      else none :=
  hdrMatch_exact tok h

/-- … and the first matching header of the list is the one used; no match ⇒ not found. -/
theorem find_header_first (tok : Bytes) (pre : List Hdr) (h : Hdr) (post : List Hdr) (off : Nat) (rest : Bytes)
    (hpre : ∀ x ∈ pre, hdrMatch tok x = none) (hm : hdrMatch tok h = some (off, rest)) :
    findAuthHeader true tok (pre ++ h :: post) = some (pre.length, off, rest) := by
  have := findHdrLoop_first tok pre h post 0 off rest hpre hm
  simpa [findAuthHeader] using this

example : findAuthHeader true digestBase
    [⟨headerKind, [72, 111, 115, 116], [120]⟩, ⟨headerKind, authHeader.map toUpperB, [100, 73, 71, 69, 83, 84, 9, 110, 99, 61, 49]⟩] =
    some (1, 7, [110, 99, 61, 49]) := by decide +kernel
example : findAuthHeader true digestBase [⟨headerKind, authHeader, digestBase⟩] = some (0, 6, []) := by decide +kernel
example : findAuthHeader true digestBase [⟨headerKind, authHeader, digestBase ++ [120]⟩] = none := by decide +kernel

/-- the public Basic API on a real header value: scheme in any letter case, SP or HT, optional further white
    space around the token68 -/
theorem basic_api_roundtrip (sch : Bytes) (sp : UInt8) (w1 w2 u pw : Bytes)
    (hs : sch.map toLowerB = basicBase.map toLowerB) (hsp : sp = 32 ∨ sp = 9)
    (h1 : allWs w1 = true) (h2 : allWs w2 = true) (hu : ∀ c ∈ u, c ≠ 58) :
    basicApi (sch ++ sp :: (w1 ++ b64Enc (u ++ 58 :: pw) ++ w2)) = some (u, some pw) := by
  unfold basicApi
  rw [findAuthHeader_single basicBase sch sp _ hs hsp]
  have hne := b64Enc_ne_nil (u ++ 58 :: pw) (by simp)
  have htok := b64Enc_tok68 _ (u ++ 58 :: pw) (Nat.le_refl _)
  simp only [basicInfo, basic_token_exact w1 _ w2 h1 h2 hne htok]
  have : (b64Enc (u ++ 58 :: pw)).length ≠ 0 := by simpa using hne
  simp [this, basic_roundtrip u pw hu]

example : basicApi ([98, 65, 83, 73, 67] ++ 9 :: ([32] ++ b64Enc ([65] ++ 58 :: [66, 58]) ++ [32])) = some ([65], some [66, 58]) := by
  decide +kernel

/-- parse ∘ render followed by the information API gives the structures of the canonical (unquoted)
    parameters; only `cnonce_len`, which by its API definition counts the backslashes, is that of the rendering -/
theorem info_roundtrip (lead : Bytes) (es : List Elem) (t : UInt8) (ht : t ≠ 59) (hwf : WF lead es = true)
    (hinfo : es.all Elem.infoWf = true) (s' : Bytes) (term' : Option UInt8) :
    ∃ d, parseDigest (render lead es) (some t) = .ok d ∧
      eraseCnl (requestInfo (render lead es) (some t) d) = eraseCnl (requestInfo s' term' (canon (view es))) ∧
      usernameInfo (render lead es) (some t) d = usernameInfo s' term' (canon (view es)) ∧
      (d.slots kCnonce).map (fun p => p.raw.length) = (rawView es none kCnonce).map (fun x => x.1.length) := by
  obtain ⟨d, hp, hraw, _⟩ := parseDigest_render_raw lead es t ht hwf
  obtain ⟨d2, hp2, hv, ha, hq, hu⟩ := parseDigest_render lead es t ht hwf
  cases hp.symm.trans hp2
  have hok := infoOK_of_wf es d hinfo hraw
  rw [canon_eq_plain d _ hv ha hq hu]
  refine ⟨d, hp, (requestInfo_plain _ _ _ _ d hok).symm, (usernameInfo_plain _ _ _ _ d hok).symm, ?_⟩
  rw [← hraw kCnonce]
  cases d.slots kCnonce <;> rfl

/-- the public Digest API on a real header value (scheme in any letter case, SP or HT, then any rendering of
    the parameters): both calls return the structures of the canonical parameters -/
theorem digest_api_roundtrip (sch : Bytes) (sp : UInt8) (lead : Bytes) (es : List Elem)
    (hs : sch.map toLowerB = digestBase.map toLowerB) (hsp : sp = 32 ∨ sp = 9)
    (hwf : WF lead es = true) (hinfo : es.all Elem.infoWf = true) (s' : Bytes) (term' : Option UInt8) :
    ∃ i u, digestApi (sch ++ sp :: render lead es) = .ok (some (i, u)) ∧
      eraseCnl i = eraseCnl (requestInfo s' term' (canon (view es))) ∧
      u = usernameInfo s' term' (canon (view es)) := by
  obtain ⟨d, hp, hi, hu, _⟩ := info_roundtrip lead es 0 (by decide) hwf hinfo s' term'
  refine ⟨_, _, ?_, hi, hu⟩
  unfold digestApi
  rw [findAuthHeader_single digestBase sch sp _ hs hsp]
  simp only [hp]

/-- Non-vacuity, all three user-name notations: the canonical parameters of the meaning give
    STANDARD `a"b`, USERHASH with binary `ab cd`, EXTENDED `J ä` decoded from `UTF-8''J%20%C3%A4`. -/
def exStd : List Elem := [⟨⟨kUsername, [97, 34, 98]⟩, ⟨[], [], [], .quoted [true], [], []⟩⟩,
  ⟨⟨kNc, [48, 97]⟩, ⟨[true], [32], [], .quoted [false, true], [], []⟩⟩]
def exHash : List Elem := [⟨⟨kUserhash, [84, 82, 85, 69]⟩, ⟨[], [], [], .token, [], []⟩⟩,
  ⟨⟨kUsername, [97, 98, 67, 68]⟩, ⟨[], [], [], .quoted [], [], []⟩⟩]
def exExt : List Elem := [⟨⟨kUsernameExt, [85, 84, 70, 45, 56, 39, 39, 74, 37, 50, 48, 37, 67, 51, 37, 65, 52]⟩, ⟨[], [], [], .token, [], []⟩⟩]

example : WF [] exStd = true ∧ exStd.all Elem.infoWf = true := by decide +kernel
example : WF [] exHash = true ∧ exHash.all Elem.infoWf = true := by decide +kernel
example : WF [] exExt = true ∧ exExt.all Elem.infoWf = true := by decide +kernel
example : (usernameInfo [] none (canon (view exStd))) = .ok (⟨unStandard, some [97, 34, 98], none, none⟩, algoMd5) := by decide +kernel
example : (usernameInfo [] none (canon (view exHash))) = .ok (⟨unUserhash, none, some [97, 98, 67, 68], some [0xab, 0xcd]⟩, algoMd5) := by decide +kernel
example : (usernameInfo [] none (canon (view exExt))) = .ok (⟨unExtended, some [74, 32, 0xc3, 0xa4], none, none⟩, algoMd5) := by decide +kernel
example : eraseCnl (requestInfo [] none (canon (view exStd))) =
    .ok ⟨algoMd5, ⟨unStandard, some [97, 34, 98], none, none⟩, none, none, qopNone, 0, 10⟩ := by decide +kernel

/-! Single-character corruptions of a rendering.
  `render lead (pre ++ e :: post) = valPrefix lead pre e ++ (value of e as rendered ++ valSuffix e post)`
  (`render_split`); the theorems replace one byte of the value region of an arbitrary parameter `e` of an
  arbitrary well-formed list, at every position and with every byte they name.

  Proved: (quoted form) every position between the DQUOTEs × every replacement byte: NUL ⇒ rejected; the body
  still is a quoted-string body ⇒ accepted and only that parameter changes.  (token form) every position ×
  every byte: NUL, ';' ⇒ rejected; any byte that may stand in an unquoted value ⇒ only that parameter changes.
  Corruptions that only change letter case of a name or replace SP by HT (or vice versa) are renderings of the
  same items: `digest_rendering_invariant`.

  NOT proved (`corruption_structural_witness`, hence the names `corruption_local_*` for the parts and no theorem
  `corruption_local` for all positions/bytes): replacement bytes that re-bracket the string — a DQUOTE or a backslash
  that breaks a quoted-pair inside a quoted value, a DQUOTE at the first position of an unquoted value, SP / HT / ','
  inside an unquoted value, the DQUOTEs themselves, and positions outside values ("=", commas, names).  Since fix F35
  a DQUOTE inside an unquoted value is refused, which closes the continuation `ab" ,nonce=evil"`; what remains false
  on the code is re-bracketing that ends in the unknown-element skipper (it accepts any text with balanced DQUOTE
  parts; witness (3), finding F36) and the inherent case (2) where the corrupted string is itself in the grammar.
  Checked dynamically without waiver: `corruption_rule` in tools/props/C14.py.
-/

theorem withValue_wf_quoted (e : Elem) (he : e.wf = true) (v' : Bytes) (esc' : List Bool) (hv : ∀ c ∈ v', c ≠ 0) :
    (e.withValue v' (.quoted esc')).wf = true := by
  obtain ⟨h1, h2, h3, h4, h5⟩ := e.wf_ws he
  simp only [Elem.wf, Elem.withValue, Bool.and_eq_true, decide_eq_true_eq, paramNames_length, List.all_eq_true]
  exact ⟨⟨⟨⟨⟨h1, h2⟩, h3⟩, h4⟩, h5⟩, fun c hc => by simpa using hv c hc⟩

theorem withValue_wf_token (e : Elem) (he : e.wf = true) (v' : Bytes) (hall : v'.all tokByte = true)
    (hhead : v'.head? ≠ some 34) (hne : v' ≠ []) : (e.withValue v' .token).wf = true := by
  obtain ⟨h1, h2, h3, h4, h5⟩ := e.wf_ws he
  simp only [Elem.wf, Elem.withValue, Bool.and_eq_true, decide_eq_true_eq, paramNames_length]
  refine ⟨⟨⟨⟨⟨h1, h2⟩, h3⟩, h4⟩, h5⟩, ⟨hall, by simpa using hhead⟩, by simpa using hne⟩

/-- Corruption inside a quoted value, any position of the body (between the DQUOTEs), any replacement
    byte, as long as the body still is a quoted-string body (`QBody`: no NUL, no bare DQUOTE, no backslash
    left without its character): accepted, the string is a rendering of the same list with that one value
    replaced — every other parameter, and algorithm / qop / userhash unless that parameter is the one hit,
    keep their meaning. -/
theorem corruption_local_quoted (lead : Bytes) (pre : List Elem) (e : Elem) (post : List Elem) (t : UInt8) (ht : t ≠ 59)
    (hwf : WF lead (pre ++ e :: post) = true) (esc : List Bool) (hf : e.r.form = .quoted esc)
    (j : Nat) (b : UInt8) (hj : j < (escRender esc e.item.value).length)
    (hq : QBody ((escRender esc e.item.value).set j b) = true) :
    ∃ d v' esc', parseDigest ((render lead (pre ++ e :: post)).set ((valPrefix lead pre e).length + (1 + j)) b) (some t) = .ok d ∧
      (escRender esc e.item.value).set j b = escRender esc' v' ∧
      (∀ k, (d.slots k).map paramUnq = view (pre ++ e.withValue v' (.quoted esc') :: post) k) ∧
      (∀ k, k ≠ e.item.slot → (d.slots k).map paramUnq = view (pre ++ e :: post) k) ∧
      (e.item.slot ≠ kAlgorithm → d.algo3 = algoSem (view (pre ++ e :: post) kAlgorithm)) ∧
      (e.item.slot ≠ kQop → d.qop = qopSem (view (pre ++ e :: post) kQop)) ∧
      (e.item.slot ≠ kUserhash → d.userhash = userhashSem (view (pre ++ e :: post) kUserhash)) := by
  obtain ⟨esc', v', hdec, hv'⟩ := QBody_decomp _ hq
  have he : e.wf = true := (WF_mid lead pre e post hwf).2.2.1
  have hwf' := withValue_wf_quoted e he v' esc' hv'
  obtain ⟨d, hp, hview, ha, hqq, hu⟩ := parse_replaced lead pre e post t ht hwf v' (.quoted esc') hwf'
  refine ⟨d, v', esc', ?_, hdec, hview, ?_, ?_, ?_, ?_⟩
  · rw [render_split, hf, set_in_value _ _ _ _ _ (by simp [renderValue]; omega)]
    have : (renderValue e.item.value (.quoted esc)).set (1 + j) b = renderValue v' (.quoted esc') := by
      simp only [renderValue, Nat.add_comm 1 j, List.set_cons_succ]
      rw [List.set_append_left _ _ hj, hdec]
    rw [this]; exact hp
  · intro k hk; rw [hview k, view_withValue _ _ _ _ _ _ hk]
  · intro hk; rw [ha, view_withValue _ _ _ _ _ _ (Ne.symm hk)]
  · intro hk; rw [hqq, view_withValue _ _ _ _ _ _ (Ne.symm hk)]
  · intro hk; rw [hu, view_withValue _ _ _ _ _ _ (Ne.symm hk)]

/-- … and when the replacement byte is NUL the string is rejected, at every position of the body. -/
theorem corruption_rejected_quoted_nul (lead : Bytes) (pre : List Elem) (e : Elem) (post : List Elem) (t : UInt8) (ht : t ≠ 59)
    (hwf : WF lead (pre ++ e :: post) = true) (esc : List Bool) (hf : e.r.form = .quoted esc)
    (j : Nat) (hj : j < (escRender esc e.item.value).length) :
    parseDigest ((render lead (pre ++ e :: post)).set ((valPrefix lead pre e).length + (1 + j)) 0) (some t) = .reject := by
  have he : e.wf = true := (WF_mid lead pre e post hwf).2.2.1
  have hv := e.wf_quoted he esc hf
  rw [render_split, hf, set_in_value _ _ _ _ _ (by simp [renderValue]; omega)]
  have hset : (renderValue e.item.value (.quoted esc)).set (1 + j) 0 =
      34 :: ((escRender esc e.item.value).set j 0 ++ [34]) := by
    simp only [renderValue, Nat.add_comm 1 j, List.set_cons_succ]
    rw [List.set_append_left _ _ hj]
  rw [hset]
  apply parse_value_reject lead pre e post t ht hwf
  · exact ⟨34, _, rfl, by decide⟩
  · have := scanQ_nul t (escRender esc e.item.value) j ([34] ++ valSuffix e post)
      (QBody_escRender esc _ hv) hj
    simp only [valueAt, List.cons_append, if_true, List.append_assoc] at this ⊢
    rw [this]; rfl

/-- Corruption inside an unquoted value: a replacement byte that may stand in such a value (anything but
    NUL SP HT , ; DQUOTE) changes only that parameter. -/
theorem corruption_local_token (lead : Bytes) (pre : List Elem) (e : Elem) (post : List Elem) (t : UInt8) (ht : t ≠ 59)
    (hwf : WF lead (pre ++ e :: post) = true) (hf : e.r.form = .token)
    (j : Nat) (b : UInt8) (hj : j < e.item.value.length) (hb : tokByte b = true) :
    ∃ d, parseDigest ((render lead (pre ++ e :: post)).set ((valPrefix lead pre e).length + j) b) (some t) = .ok d ∧
      (∀ k, (d.slots k).map paramUnq = view (pre ++ e.withValue (e.item.value.set j b) .token :: post) k) ∧
      (∀ k, k ≠ e.item.slot → (d.slots k).map paramUnq = view (pre ++ e :: post) k) ∧
      (e.item.slot ≠ kAlgorithm → d.algo3 = algoSem (view (pre ++ e :: post) kAlgorithm)) ∧
      (e.item.slot ≠ kQop → d.qop = qopSem (view (pre ++ e :: post) kQop)) ∧
      (e.item.slot ≠ kUserhash → d.userhash = userhashSem (view (pre ++ e :: post) kUserhash)) := by
  have he : e.wf = true := (WF_mid lead pre e post hwf).2.2.1
  obtain ⟨c, r, hv, hc, hall⟩ := e.wf_token he hf
  have hall' : (e.item.value.set j b).all tokByte = true := by
    rw [List.all_eq_true]
    intro x hx
    rcases List.mem_or_eq_of_mem_set hx with h | h
    · rw [hv] at h; exact List.all_eq_true.mp hall x h
    · rw [h]; exact hb
  have hhead : (e.item.value.set j b).head? ≠ some 34 := by
    rw [hv]
    have hb34 : b ≠ 34 := by
      intro h; rw [h] at hb; exact absurd hb (by decide)
    cases j with
    | zero => simpa using hb34
    | succ j => simpa using hc
  have hne : e.item.value.set j b ≠ [] := by
    intro h
    have hl : (e.item.value.set j b).length = 0 := by rw [h]; rfl
    rw [List.length_set] at hl; omega
  have hwf' := withValue_wf_token e he _ hall' hhead hne
  obtain ⟨d, hp, hview, ha, hqq, hu⟩ := parse_replaced lead pre e post t ht hwf _ .token hwf'
  refine ⟨d, ?_, hview, ?_, ?_, ?_, ?_⟩
  · rw [render_split, hf, set_in_value _ _ _ _ _ (by simpa [renderValue] using hj)]
    exact hp
  · intro k hk; rw [hview k, view_withValue _ _ _ _ _ _ hk]
  · intro hk; rw [ha, view_withValue _ _ _ _ _ _ (Ne.symm hk)]
  · intro hk; rw [hqq, view_withValue _ _ _ _ _ _ (Ne.symm hk)]
  · intro hk; rw [hu, view_withValue _ _ _ _ _ _ (Ne.symm hk)]

/-- … NUL and ';' are rejected at every position of the value, and so is a DQUOTE at every position but the
    first (since fix F35; at the first position it opens a quoted-string, see `corruption_structural_witness`). -/
theorem corruption_rejected_token (lead : Bytes) (pre : List Elem) (e : Elem) (post : List Elem) (t : UInt8) (ht : t ≠ 59)
    (hwf : WF lead (pre ++ e :: post) = true) (hf : e.r.form = .token)
    (j : Nat) (b : UInt8) (hj : j < e.item.value.length) (hb : b = 0 ∨ b = 59 ∨ (b = 34 ∧ j ≠ 0)) :
    parseDigest ((render lead (pre ++ e :: post)).set ((valPrefix lead pre e).length + j) b) (some t) = .reject := by
  have he : e.wf = true := (WF_mid lead pre e post hwf).2.2.1
  obtain ⟨c, r, hv, hc, hall⟩ := e.wf_token he hf
  rw [render_split, hf, set_in_value _ _ _ _ _ (by simpa [renderValue] using hj)]
  simp only [renderValue]
  -- the changed value is still scanned as a token: its first byte — `b` itself when `j = 0`, hence no DQUOTE there — is neither
  -- white space, which `skipWs` would pass over, nor the DQUOTE that sends `valueAt` to `scanQ`; `scanTok` then meets `b` and gives up
  have hhead : ∃ c' r', e.item.value.set j b ++ valSuffix e post = c' :: r' ∧ isWs c' = false ∧ c' ≠ 34 := by
    rw [hv]
    cases j with
    | zero =>
      refine ⟨b, r ++ valSuffix e post, by simp, ?_, ?_⟩ <;> rcases hb with h | h | h <;>
        first | (exact absurd rfl h.2) | (subst h; decide)
    | succ j =>
      simp only [List.all_cons, Bool.and_eq_true, tokByte, ne_eq, decide_eq_true_eq] at hall
      exact ⟨c, r.set j b ++ valSuffix e post, by simp, by simp [isWs, hall.1.1.1.1.2, hall.1.1.1.2], hc⟩
  obtain ⟨c', r', hcr, hws, h34⟩ := hhead
  apply parse_value_reject lead pre e post t ht hwf
  · exact ⟨c', r', hcr, hws⟩
  · have hb' : b = 0 ∨ b = 59 ∨ b = 34 := by
      rcases hb with h | h | h
      · exact Or.inl h
      · exact Or.inr (Or.inl h)
      · exact Or.inr (Or.inr h.1)
    have := scanTok_bad t b hb' e.item.value j (valSuffix e post) (by rw [hv]; exact hall) hj
    rw [hcr] at this ⊢
    simp only [valueAt, h34, if_false, this]
    rfl

/-- Non-vacuity and the limit of the two theorems: `nonce="good",realm="abX ,nonce=evil"`, byte 22 is the `X`. -/
def exCorPre : List Elem := [⟨⟨kNonce, [103, 111, 111, 100]⟩, ⟨[], [], [], .quoted [], [], []⟩⟩]
def exCorE : Elem := ⟨⟨kRealm, [97, 98, 88, 32, 44, 110, 111, 110, 99, 101, 61, 101, 118, 105, 108]⟩, ⟨[], [], [], .quoted [], [], []⟩⟩
def exCorTok : Elem := ⟨⟨kRealm, [97, 98, 88, 110, 111, 110, 99, 101, 61, 101, 118, 105, 108]⟩, ⟨[], [], [], .token, [], []⟩⟩

example : WF [] (exCorPre ++ exCorE :: []) = true ∧ exCorE.r.form = .quoted [] ∧ (valPrefix [] exCorPre exCorE).length + (1 + 2) = 22 ∧
    2 < (escRender [] exCorE.item.value).length ∧ QBody ((escRender [] exCorE.item.value).set 2 89) = true := by decide +kernel
example : WF [] (exCorPre ++ exCorTok :: []) = true ∧ exCorTok.r.form = .token ∧ 2 < exCorTok.item.value.length ∧ tokByte 89 = true := by decide +kernel

/-- second example: `nonce="good",realm="abX ,nonce=evil,",opaque="\""`, byte 22 is the `X` -/
def exCorE2 : Elem := ⟨⟨kRealm, [97, 98, 88, 32, 44, 110, 111, 110, 99, 101, 61, 101, 118, 105, 108, 44]⟩, ⟨[], [], [], .quoted [], [], []⟩⟩
def exCorPost2 : List Elem := [⟨⟨kOpaque, [34]⟩, ⟨[], [], [], .quoted [], [], []⟩⟩]

/-- What the `corruption_*` theorems leave out, on the code as it is after fix F35 (a DQUOTE inside an unquoted
    value is refused):
    (1) `nonce="good",realm="abX ,nonce=evil"` with X := DQUOTE — before the fix accepted with nonce = `evil"` —
        is rejected.
    (2) `nonce="good",realm=abXnonce=evil` with X := ',' gives `nonce="good",realm=ab,nonce=evil`: accepted, nonce
        changes from `good` to `evil`.  This one is inherent: the corrupted string is itself a credential string of
        the grammar and the reference reader reports the same nonce; no recipient can tell.  (The uncorrupted
        string is outside the RFC grammar — '=' in a token — but accepted by the scanner.)
    (3) `nonce="good",realm="abX ,nonce=evil,",opaque="\""` with X := DQUOTE: the quoted-string ends early, `nonce=evil`
        becomes a parameter, and the rest `",opaque="\""` is skipped as an unknown element (the skipper accepts any
        text with balanced DQUOTE parts): accepted, nonce changes and opaque disappears.  The corrupted string is
        NOT in the grammar (reference reader: none); needs a later value containing an escaped DQUOTE. -/
theorem corruption_structural_witness :
    (parseDigest (render [] (exCorPre ++ [exCorE])) (some 0)).map (fun d => (d.slots kNonce).map paramUnq) = .ok (some [103, 111, 111, 100]) ∧
    (parseDigest ((render [] (exCorPre ++ [exCorE])).set 22 34) (some 0)).map (fun d => (d.slots kNonce).map paramUnq) = .reject ∧
    (parseDigest (render [] (exCorPre ++ [exCorTok])) (some 0)).map (fun d => (d.slots kNonce).map paramUnq) = .ok (some [103, 111, 111, 100]) ∧
    (parseDigest ((render [] (exCorPre ++ [exCorTok])).set 21 44) (some 0)).map (fun d => (d.slots kNonce).map paramUnq) =
      .ok (some [101, 118, 105, 108]) ∧
    Ref.value ((render [] (exCorPre ++ [exCorTok])).set 21 44) kNonce = some [101, 118, 105, 108] ∧
    WF [] (exCorPre ++ exCorE2 :: exCorPost2) = true ∧
    (parseDigest (render [] (exCorPre ++ exCorE2 :: exCorPost2)) (some 0)).map (fun d => ((d.slots kNonce).map paramUnq, (d.slots kOpaque).map paramUnq)) =
      .ok (some [103, 111, 111, 100], some [34]) ∧
    (parseDigest ((render [] (exCorPre ++ exCorE2 :: exCorPost2)).set 22 34) (some 0)).map (fun d => ((d.slots kNonce).map paramUnq, (d.slots kOpaque).map paramUnq)) =
      .ok (some [101, 118, 105, 108], none) ∧
    Ref.parse ((render [] (exCorPre ++ exCorE2 :: exCorPost2)).set 22 34) = none := by decide +kernel

/-- the reference reader's result is a parse tree of its input: a well-formed element list (every choice the
    grammar leaves to the sender recorded) whose rendering is the input -/
theorem reference_returns_parse_tree (s lead : Bytes) (gs : List GElem) (h : Ref.parse s = some (lead, gs)) :
    renderG lead gs = s ∧ WFG lead gs = true := by
  open Ref in
  simp only [parse, Option.map_eq_some_iff, Prod.mk.injEq] at h
  obtain ⟨gs', hgs', hl, hg⟩ := h
  obtain ⟨_, hr, hwf⟩ := elems_tree _ _ gs' hgs'
  subst hl; subst hg
  exact ⟨by simp [renderG, hr, spanP_eq], by simp [WFG, ws_allWs, hwf]⟩

/-- For EVERY byte string `s` (not only renderings of parameter sets): when the recursive-descent reference
    reader of the RFC 7235 / 7616 grammar (`Mhd.Auth.Ref.parse`, written from the ABNF: `token BWS "=" BWS
    ( token / quoted-string )`, comma-separated list with OWS and empty elements, names caseless, extension
    parameters skipped, last occurrence of a repeated parameter counts) accepts `s`, so does
    `parse_dauth_params`, and every parameter, the algorithm and qop constants and the userhash flag are
    those of the reference reader. -/
theorem parse_agrees_reference (s : Bytes) (t : UInt8) (ht : t ≠ 59) (lead : Bytes) (gs : List GElem)
    (h : Ref.parse s = some (lead, gs)) :
    ∃ d, parseDigest s (some t) = .ok d ∧
      (∀ k, (d.slots k).map paramUnq = Ref.value s k) ∧
      d.algo3 = algoSem (Ref.value s kAlgorithm) ∧ d.qop = qopSem (Ref.value s kQop) ∧
      d.userhash = userhashSem (Ref.value s kUserhash) := by
  obtain ⟨hr, hwf⟩ := reference_returns_parse_tree s lead gs h
  have hv : ∀ k, Ref.value s k = viewG gs k := fun k => by simp [Ref.value, h]
  simp only [hv]
  rw [← hr]
  exact parseDigest_renderG lead gs t ht hwf

/-- Non-vacuity: ` ,  Realm = "a\"b" ,, x-ext="q,;=\"" , NC=0000000a ,` (the rendering of `exG` with a leading SP)
    is accepted by the reference reader with realm = `a"b`, nc = `0000000a`; a repeated parameter: last wins. -/
example : (Ref.parse (renderG [32] exG)).isSome = true ∧ Ref.value (renderG [32] exG) kRealm = some [97, 34, 98] ∧
    Ref.value (renderG [32] exG) kNc = some [48, 48, 48, 48, 48, 48, 48, 97] ∧ Ref.value (renderG [32] exG) kNonce = none := by
  decide +kernel
example : Ref.value [110, 99, 61, 49, 44, 78, 67, 61, 34, 92, 50, 34] kNc = some [50] := by decide +kernel   -- `nc=1,NC="\2"`

/-- The converse does not hold: `parse_dauth_params` accepts strings outside the grammar (for these the reference
    reader, like every RFC-conforming recipient, has no answer).  Witnesses, one per kind of leniency, each
    rejected by the reference reader and accepted by the model of the C scanner (and by the real code: corpus/auth):
    (1) `nc=` empty unquoted value, (2) — (`realm=a"b`, DQUOTE inside an unquoted value: refused since fix F35, stated
    here as rejected), (3) `realm=a=b` '=' inside an unquoted value, (4) `foo` unknown element without "=", (5) `fo o="x` + `"y` quoted parts anywhere in an unknown
    element, (6) `realm="a` + 0x01 + `"` control character inside a quoted-string.
    The exact accepted language is given by `digest_accepts_only_lenient_grammar` below. -/
theorem digest_accepts_beyond_grammar_witness :
    (Ref.parse [110, 99, 61] = none ∧ (parseDigest [110, 99, 61] (some 0)).map (fun d => (d.slots kNc).map paramUnq) = .ok (some [])) ∧
    (Ref.parse [114, 101, 97, 108, 109, 61, 97, 34, 98] = none ∧
      (parseDigest [114, 101, 97, 108, 109, 61, 97, 34, 98] (some 0)).map (fun d => (d.slots kRealm).map paramUnq) = .reject) ∧
    (Ref.parse [114, 101, 97, 108, 109, 61, 97, 61, 98] = none ∧
      (parseDigest [114, 101, 97, 108, 109, 61, 97, 61, 98] (some 0)).map (fun d => (d.slots kRealm).map paramUnq) = .ok (some [97, 61, 98])) ∧
    (Ref.parse [102, 111, 111] = none ∧ (parseDigest [102, 111, 111] (some 0)).map (fun _ => ()) = .ok ()) ∧
    (Ref.parse [102, 111, 32, 111, 34, 44, 34, 121] = none ∧
      (parseDigest [102, 111, 32, 111, 34, 44, 34, 121] (some 0)).map (fun _ => ()) = .ok ()) ∧
    (Ref.parse [114, 101, 97, 108, 109, 61, 34, 97, 1, 34] = none ∧
      (parseDigest [114, 101, 97, 108, 109, 61, 34, 97, 1, 34] (some 0)).map (fun d => (d.slots kRealm).map paramUnq) = .ok (some [97, 1])) := by
  decide +kernel

/-- `MHD_digest_auth_get_request_info3` for EVERY parameter structure `d` (whatever header produced it): the
    regions the returned pointers refer to (`username` / `userhash_hex` / `userhash_bin` / `opaque` / `realm`, strings
    with their terminating NUL) follow one another without overlap inside the `unif_buf_size` bytes computed by
    `get_rq_unames_size` + `opaque.len + 1` + `realm.len + 1`; also the bytes `MHD_hex_to_bin` may write for an
    invalid userhash (`touched`, seed kind C14_2: `(len + 1) / 2`, not `len / 2`) and `unif_buf_used` stay inside. -/
theorem info_block_layout (s : Bytes) (term : Option UInt8) (d : DAuth) (L : Lay) (h : requestInfoLay s term d = .ok L) :
    chain 0 L.regions L.size ∧ L.touched ≤ L.size ∧ L.used ≤ L.size := by
  unfold requestInfoLay at h
  simp only at h
  by_cases hut : unameType d ≠ unMissing ∧ unameType d ≠ unInvalid
  · rw [if_pos hut] at h
    cases hr : rqUname s term d (unameType d) with
    | ok u =>
      simp only [hr, IRes.ok.injEq] at h
      obtain ⟨b, c⟩ := unameLay_fits s term d _ u hr
      have hL : L = asm (d.slots kOpaque) (d.slots kRealm) (unamesSize d (unameType d)) (unameLay (unameType d) u) := h.symm
      rw [hL]; exact asm_fits _ _ _ _ b c (unameLay_chain _ u)
    | null => simp [hr] at h
    | overread => simp [hr] at h
  · rw [if_neg hut] at h
    simp only [IRes.ok.injEq] at h
    have hL : L = asm (d.slots kOpaque) (d.slots kRealm) (unamesSize d (unameType d))
        (unameLay (unameType d) ⟨unameType d, none, none, none⟩) := h.symm
    have hnone : unameLay (unameType d) ⟨unameType d, none, none, none⟩ = (none, none, none, 0, 0) := by
      unfold unameLay; split
      · rfl
      · split <;> rfl
    rw [hL, hnone]
    exact asm_fits _ _ _ _ (Nat.zero_le _) (Nat.zero_le _) (Nat.le_refl 0)

theorem username_block_layout (s : Bytes) (term : Option UInt8) (d : DAuth) (L : Lay) (h : usernameLay s term d = .ok L) :
    chain 0 L.regions L.size ∧ L.touched ≤ L.size ∧ L.used ≤ L.size :=
  usernameLay_fits s term d L h

/-- userhash `abCD` (+ binary ab cd), opaque absent, realm absent: 5 + 2 bytes, all used;
    odd-length invalid userhash `abc`: 4 + 2 bytes allocated, 2 bytes touched behind the hex string -/
example : requestInfoLay [] none (canon (view exHash)) =
    .ok ⟨7, none, some (0, 4), some (5, 2), none, none, 7, 7⟩ := by decide +kernel
example : requestInfoLay [] none (canon (fun k => if k = kUsername then some [97, 98, 99] else if k = kUserhash then some [116, 114, 117, 101] else none)) =
    .ok ⟨6, none, some (0, 3), none, none, none, 6, 4⟩ := by decide +kernel
example : chain 0 [(0, 5), (5, 2)] 7 ∧ ¬ chain 0 [(0, 5), (4, 2)] 7 ∧ ¬ chain 0 [(0, 5), (5, 3)] 7 := by simp [chain]

/-- `get_rq_uname_type` is total and exact; a parameter that is present with length 0 counts as present
    (seed kind C14_4) -/
theorem uname_type_exact (d : DAuth) :
    (unameType d = unMissing ↔ d.slots kUsername = none ∧ d.slots kUsernameExt = none) ∧
    (unameType d = unStandard ↔ (d.slots kUsername).isSome ∧ d.slots kUsernameExt = none ∧ d.userhash = false) ∧
    (unameType d = unUserhash ↔ (d.slots kUsername).isSome ∧ d.slots kUsernameExt = none ∧ d.userhash = true) ∧
    (unameType d = unExtended ↔ d.slots kUsername = none ∧
      ∃ e, d.slots kUsernameExt = some e ∧ e.quoted = false ∧ d.userhash = false ∧ extPrefix.length + 1 ≤ e.raw.length) ∧
    (unameType d = unInvalid ↔ ((d.slots kUsername).isSome ∧ (d.slots kUsernameExt).isSome) ∨
      (d.slots kUsername = none ∧ ∃ e, d.slots kUsernameExt = some e ∧
        ¬ (e.quoted = false ∧ d.userhash = false ∧ extPrefix.length + 1 ≤ e.raw.length))) ∧
    (unameType d = unMissing ∨ unameType d = unStandard ∨ unameType d = unUserhash ∨ unameType d = unExtended ∨
      unameType d = unInvalid) := by
  obtain ⟨c1, c2, c3, m1, m2, m3, i1, i2, i3, mi⟩ := unameTypes_distinct
  unfold unameType
  cases hu : d.slots kUsername <;> cases he : d.slots kUsernameExt
  · simp [m1, m2, m3, mi]
  · rename_i e
    by_cases hc : (!e.quoted && !d.userhash && decide (extPrefix.length + 1 ≤ e.raw.length)) = true
    · have hc' := hc
      simp only [Bool.and_eq_true, Bool.not_eq_true', decide_eq_true_eq] at hc'
      simp [m3.symm, c2.symm, c3.symm, i3.symm, hc'.1.1, hc'.1.2, hc'.2]
    · have hc' := hc
      simp only [Bool.and_eq_true, Bool.not_eq_true', decide_eq_true_eq] at hc'
      simp only [hc]
      simp [mi.symm, i1, i2, i3]
      intro a b; exact Nat.lt_of_not_le fun c => hc' ⟨⟨a, b⟩, c⟩
  · cases hh : d.userhash <;> simp [m1.symm, m2.symm, c1, c1.symm, c2, c3, i1.symm, i2.symm]
  · simp [mi.symm, i1, i2, i3]

/-- `username=""`: present and empty is STANDARD with the empty name, not MISSING -/
example : (parseDigest [117, 115, 101, 114, 110, 97, 109, 101, 61, 34, 34] (some 0)).map
    (fun d => (unameType d, usernameInfo [] none d)) = .ok (unStandard, .ok (⟨unStandard, some [], none, none⟩, algoMd5)) := by decide +kernel

/-- The first header (kind HEADER, name `Authorization` caseless) whose value is the scheme token followed by
    SP / HT / nothing decides: headers before it that do not match — other names, other kinds, the other scheme,
    `Digestx` — are passed over, headers after it are never looked at, even when the first one does not parse. -/
theorem digest_api_first_matching_header (pre : List Hdr) (h : Hdr) (post : List Hdr) (off : Nat) (av : Bytes)
    (hpre : ∀ x ∈ pre, hdrMatch digestBase x = none) (hm : hdrMatch digestBase h = some (off, av)) :
    digestApiH (pre ++ h :: post) = digestApiH [h] ∧ digestLayH (pre ++ h :: post) = digestLayH [h] := by
  simp only [digestApiH, digestLayH, dauthParams_first pre h post off av hpre hm, and_self]

theorem digest_api_no_header (hs : List Hdr) (h : ∀ x ∈ hs, hdrMatch digestBase x = none) : digestApiH hs = .ok none := by
  simp [digestApiH, dauthParams_none hs h, Res.map]

theorem basic_api_first_matching_header (pre : List Hdr) (h : Hdr) (post : List Hdr) (off : Nat) (av : Bytes)
    (hpre : ∀ x ∈ pre, hdrMatch basicBase x = none) (hm : hdrMatch basicBase h = some (off, av)) :
    basicApiH (pre ++ h :: post) = basicInfo av := by
  have h1 := findHdrLoop_first basicBase pre h post 0 off av hpre hm
  simp only [basicApiH, findAuthHeader, Bool.not_true, Bool.false_eq_true, if_false, h1]

theorem basic_api_no_header (hs : List Hdr) (h : ∀ x ∈ hs, hdrMatch basicBase x = none) : basicApiH hs = none := by
  have := findHdrLoop_none basicBase hs 0 h
  simp [basicApiH, findAuthHeader, this]

/-- one header: the functions of `digest_api_roundtrip` / `basic_api_roundtrip` -/
theorem api_single_header (value : Bytes) :
    digestApiH [⟨headerKind, authHeader, value⟩] = digestApi value ∧ basicApiH [⟨headerKind, authHeader, value⟩] = basicApi value :=
  ⟨digestApiH_single value, rfl⟩

/-- `Authorization: Basic QTpC` then `Authorization: Digest nc=1;` (broken) then `Authorization: Digest nc=2`:
    Basic credentials `A:B`; no Digest credentials (the first Digest header is the one parsed) -/
def exHdrs : List Hdr :=
  [⟨headerKind, authHeader, basicBase ++ [32, 81, 84, 112, 67]⟩,
   ⟨headerKind, authHeader, digestBase ++ [32, 110, 99, 61, 49, 59]⟩,
   ⟨headerKind, authHeader, digestBase ++ [32, 110, 99, 61, 50]⟩]
example : basicApiH exHdrs = some ([65], some [66]) ∧ (digestApiH exHdrs).map (fun o => o.isSome) = .ok false ∧
    (digestApiH exHdrs.reverse).map (fun o => o.isSome) = .ok true := by decide +kernel

/-- A query made before the request headers are processed (only possible from the callback installed with
    MHD_OPTION_URI_LOG_CALLBACK) returns "no credentials" and leaves the cache untouched — for all three API
    functions, any headers, any cache in which that scheme has not been tried (in particular the fresh one). -/
theorem early_query_not_cached (hs : List Hdr) (c : RqAuth) :
    (c.bTried = false → basicQ false hs c = (none, c)) ∧
    (c.dTried = false → infoQ false hs c = .ok (none, c) ∧ unameQ false hs c = .ok (none, c)) := by
  constructor
  · intro h; simp [basicQ, getBauth, h, basicOf]
  · intro h; simp [infoQ, unameQ, getDauth, h]

/-- … so whatever was asked early (any number of times), a later query for the same request returns what the
    headers say: the answers of the cache-free functions `basicApiH` / `digestApiH`. -/
theorem late_query_after_early (hs : List Hdr) :
    (basicQ true hs (basicQ false hs (basicQ false hs RqAuth.init).2).2).1 = basicApiH hs ∧
    (infoQ true hs RqAuth.init).map (·.1) = (digestApiH hs).map (fun o => o.map (·.1)) ∧
    (unameQ true hs RqAuth.init).map (·.1) = (digestApiH hs).map (fun o => o.map (·.2)) ∧
    infoQ false hs RqAuth.init = .ok (none, RqAuth.init) ∧ unameQ false hs RqAuth.init = .ok (none, RqAuth.init) := by
  have e := early_query_not_cached hs RqAuth.init
  have eb := e.1 rfl
  refine ⟨?_, ?_, ?_, (e.2 rfl).1, (e.2 rfl).2⟩
  · rw [eb]; simp only [eb]
    simp [basicQ, getBauth, RqAuth.init, basicOf_bauthParams]
  · simp only [infoQ, getDauth, RqAuth.init, digestApiH]
    cases dauthParams hs <;> simp [Res.map]
    rename_i o; cases o <;> rfl
  · simp only [unameQ, getDauth, RqAuth.init, digestApiH]
    cases dauthParams hs <;> simp [Res.map]
    rename_i o; cases o <;> rfl

/-- General form, for a cache in any state reachable within the request (`consistent`): the answer is the one
    of the headers as soon as the state allows it or the scheme has been tried, "none" otherwise; the cache stays
    consistent; and once tried, the answer no longer depends on the connection state (repeated queries are
    idempotent). -/
theorem basic_query_spec (st : Bool) (hs : List Hdr) (c : RqAuth) (hc : c.consistent hs) :
    (basicQ st hs c).1 = (if st || c.bTried then basicApiH hs else none) ∧ (basicQ st hs c).2.consistent hs ∧
    (∀ st', (basicQ st' hs (basicQ true hs c).2) = ((basicQ true hs c).1, (basicQ true hs c).2)) := by
  have hfill : ∀ st, (if (st && !c.bTried) = true then { c with bTried := true, b := bauthParams hs } else c).consistent hs := by
    intro st; split
    · exact ⟨fun _ => rfl, hc.2⟩
    · exact hc
  refine ⟨?_, ?_, fun st' => ?_⟩
  · simp only [basicQ, getBauth_eq st hs c hc]
    split
    · exact basicOf_bauthParams hs
    · rfl
  · simp only [basicQ, getBauth_eq st hs c hc]; exact hfill st
  · simp only [basicQ, getBauth_eq true hs c hc, Bool.true_or, if_true]
    rw [getBauth_eq st' hs _ (hfill true)]
    cases ht : c.bTried <;> simp [ht]

theorem digest_query_spec (st : Bool) (hs : List Hdr) (c : RqAuth) (hc : c.consistent hs) (x : Option (Bytes × DAuth) × RqAuth)
    (hx : getDauth st hs c = .ok x) :
    Res.ok x.1 = (if st || c.dTried then dauthParams hs else .ok none) ∧ x.2.consistent hs ∧
    (st = true → ∀ st', getDauth st' hs x.2 = .ok (x.1, x.2)) := by
  rw [getDauth_eq st hs c hc] at hx
  by_cases h : (st || c.dTried) = true
  · rw [if_pos h] at hx ⊢
    cases hd : dauthParams hs <;> rw [hd] at hx <;> cases hx
    rename_i o
    have hcons : (if c.dTried = true then c else { c with dTried := true, d := o }).consistent hs := by
      split
      · exact hc
      · exact ⟨hc.1, fun _ => hd.symm⟩
    refine ⟨rfl, hcons, fun hst st' => ?_⟩
    rw [getDauth_eq st' hs _ hcons, hd]
    cases ht : c.dTried <;> simp [ht]
  · rw [if_neg h] at hx ⊢
    cases hx
    exact ⟨rfl, hc, fun hst => absurd (by simp [hst]) h⟩

/-- `connection_reset` clears the cache for the next request on a keep-alive connection: the fresh cache is
    consistent with every header list, so the next request's answers depend on its own headers only. -/
theorem next_request_fresh (hs' : List Hdr) :
    RqAuth.init.consistent hs' ∧ (basicQ true hs' RqAuth.init).1 = basicApiH hs' := by
  refine ⟨init_consistent hs', ?_⟩
  have := (basic_query_spec true hs' RqAuth.init (init_consistent hs')).1
  simpa using this

/-- Non-vacuity (headers of `exHdrs`: Basic `A:B`; first Digest header broken): early queries see nothing and cache
    nothing, the handler sees the Basic credentials, a second request with other headers sees its own. -/
example : (basicQ false exHdrs RqAuth.init).1 = none ∧
    (basicQ true exHdrs (basicQ false exHdrs RqAuth.init).2).1 = some ([65], some [66]) ∧
    (basicQ true (exHdrs.drop 2) RqAuth.init).1 = none := by decide +kernel

/-- For EVERY byte string `s`: if `parse_dauth_params` accepts `s`, then `s` is a sentence of the lenient grammar
    `Mhd.Auth.Lenient` — OWS, then elements separated by "," OWS, each element either a known parameter
    `name BWS "=" BWS ( value ) OWS` or an "other" element — and every slot holds exactly the (slice, escape flag)
    of the last occurrence of that parameter in the derivation, so the unquoted values agree.  The grammar is the
    RFC 7235 / 7616 grammar relaxed by exactly: unquoted values may be empty and contain any byte but NUL SP HT , ;
    DQUOTE ('=' too); quoted-strings may contain any byte but NUL (a backslash quotes any byte but NUL); an element
    whose name is not one of the twelve known names is any text without NUL, ';' and top-level ',' with DQUOTE-delimited
    parts anywhere, no "=" needed (this rule alone is F36).  Together with `parse_agrees_reference` the accepted
    language lies between the strict and this lenient grammar.  (The derivation is given as a tree whose rendering
    is `s`, not by a second executable reader.) -/
theorem digest_accepts_only_lenient_grammar (s : Bytes) (t : UInt8) (d : DAuth) (h : parseDigest s (some t) = .ok d) :
    ∃ lead ls, Lenient.Derives lead ls s ∧
      (∀ k, (d.slots k).map pr = Lenient.lview ls none k) ∧
      (∀ k, (d.slots k).map paramUnq = (Lenient.lview ls none k).map fun x => if x.2 then unquote x.1 else x.1) := by
  obtain ⟨lead, ls, hd, _, hv⟩ := parseDigest_derives s _ d h
  refine ⟨lead, ls, hd, hv, fun k => ?_⟩
  rw [← hv k]
  cases d.slots k with
  | none => rfl
  | some p => simp [pr, paramUnq]

/-- Non-vacuity: a derivation of ` nc= , fo o","y,Realm = "a` 0x01 `"` (empty value, an element without "=" that
    contains a quoted comma, a control byte in a quoted-string) -/
def exLen : List (Lenient.LElem × Bytes) :=
  [(.known kNc [110, 99] [] [] (.tok []) [32], [32]), (.other [102, 111, 32, 111, 34, 44, 34, 121], []),
   (.known kRealm [82, 101, 97, 108, 109] [32] [32] (.quoted [97, 1]) [], [])]
example : (∀ x ∈ exLen, x.1.wf = true ∧ allWs x.2 = true) ∧
    Lenient.lview exLen none kRealm = some ([97, 1], false) ∧ Lenient.lview exLen none kNc = some ([], false) ∧
    (parseDigest ([32] ++ Lenient.renderL exLen) (some 0)).map (fun d => ((d.slots kRealm).map pr, (d.slots kNc).map pr)) =
      .ok (some ([97, 1], false), some ([], false)) := by decide +kernel

end Mhd.C14
