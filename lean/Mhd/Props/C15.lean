/-
  C15 — POST processor returns the encoded fields for every split of the body.

  Where a statement is an instance of a lemma of `Mhd.Proofs.PP*` its proof is that instance; where it
  is the natural statement itself, the proof stands here.  The model (`Mhd.Model.PP*`) mirrors
  src/microhttpd/postprocessor.c; `run n ctype chunks` is the complete life of a post processor:
  `MHD_create_post_processor` with buffer size `n` for a request whose Content-Type is `ctype`,
  one `MHD_post_process` call per element of `chunks`, `MHD_destroy_post_processor`.
  `pp.evs` is the list of iterator calls, `pp.fault` an access outside an object.

  `Delivers evs fields` (Mhd.Proofs.PPSpec): the calls deliver exactly `fields`, in order — per
  field at least one call, every call with the field's key / file name / type / encoding,
  offsets contiguous from 0, data concatenating to the value.
-/
import Mhd.Proofs.PPUrl
import Mhd.Proofs.PPMulti
import Mhd.Proofs.PPUrlSafe
import Mhd.Proofs.PPMxSyn

namespace Mhd.C15
open Mhd.PP

/-- Round trip for **every conforming rendering**: `fields` are lists of tokens (a literal byte
    other than NUL `% & = CR LF` — `+` standing for a space — or `%XY` with two hex digits of either
    case), keys non-empty and shorter than the key buffer (`n + 4` bytes); the text
    `k1=v1&k2=v2…` may be followed by any number of CR/LF.  For **every** buffer size `n`, and
    **every** split of the text into chunks (any number, empty ones included): the life of the post
    processor ends with `MHD_YES`, no access leaves an object, and the iterator calls deliver exactly
    the decoded fields in order (keys as C strings). -/
theorem url_roundtrip_tokens (n : Nat) (fields : List FieldT) (nl : Bytes) (chunks : List Bytes)
    (hok : ∀ f ∈ fields, f.Ok (n + Mhd.Gen.PP.bufferSlack)) (hnl : IsNl nl)
    (hc : chunks.flatten = encF fields ++ nl) :
    ∃ pp, run n Mhd.Gen.PP.encUrl chunks = some (pp, true) ∧ pp.fault = none ∧
      Delivers pp.evs (fields.map fld) := by
  simp only [run, create_url, Option.map_some]
  by_cases hne : nl = []
  · -- no newline in the input: `MHD_destroy_post_processor` supplies one if a value is open
    subst hne
    have G1 : UGoodRt [cLF] (n + Mhd.Gen.PP.bufferSlack) fields [cLF]
        (feedAll { isUrl := true, bufferSize := n + Mhd.Gen.PP.bufferSlack } chunks) := by
      apply (feedAll_good hok isNl_lf chunks _ _ _).1
      rw [hc, List.append_nil]; exact good_init n fields [cLF]
    generalize feedAll { isUrl := true, bufferSize := n + Mhd.Gen.PP.bufferSlack } chunks = ppE at G1
    obtain ⟨hU, hsz, hInv⟩ := G1
    have hB := hU.1
    cases hInv with
    | init done rem hst hall hR hev hbp hvo hxb hmu =>
      have hrem : rem = [] := encF_eq_nil (List.append_cancel_right (as := []) hR).symm
      rw [hrem, List.append_nil] at hall
      exact ⟨ppE, by rw [destroy_idle ppE (Or.inr hst) hxb hB.fault], hB.fault, hall ▸ hev⟩
    | key done f rest kd kr hst hall hk hkd hR hev hkey hvo hxb =>
      exact (key_not_nl isNl_lf hR).elim
    | val done f rest wrest hst hall hR hval hkey =>
      obtain ⟨_, hG2⟩ := feed_good (d := [cLF]) (F := []) hok isNl_lf
        ⟨hU, hsz, LInv.val done f rest wrest hst hall hR hval hkey⟩
      obtain ⟨s1, s2, s3, s4⟩ := good_end_nl (List.cons_ne_nil _ _) hG2
      rw [feed_nonempty (d := [cLF]) hB.fault hB.url (Nat.succ_ne_zero 0)] at s1 s2 s3 s4
      exact ⟨(postProcessUrlencoded ppE [cLF]).1, by simp [destroy, hB.fault, hst, s1, s2], s3, s4⟩
    | cb done f rest sv ev hst hall hR hsv hev' hval hkey => cases hsv
    | done pre hst hnle hev hxb =>
      exact ⟨ppE, by rw [destroy_idle ppE (Or.inl hst) hxb hB.fault], hB.fault, hev⟩
  · have G1 : UGoodRt [] (n + Mhd.Gen.PP.bufferSlack) fields nl
        (feedAll { isUrl := true, bufferSize := n + Mhd.Gen.PP.bufferSlack } chunks) := by
      apply (feedAll_good hok hnl chunks _ _ _).1
      rw [hc, List.append_nil]; exact good_init n fields nl
    obtain ⟨s1, s2, s3, s4⟩ := good_end_nl hne G1
    exact ⟨_, by rw [destroy_idle _ (Or.inl s1) s2 s3], s3, s4⟩

/-- … and every single `MHD_post_process` call on the way returns `MHD_YES`. -/
theorem url_every_call_accepts (n : Nat) (fields : List FieldT) (nl : Bytes) (chunks : List Bytes)
    (hok : ∀ f ∈ fields, f.Ok (n + Mhd.Gen.PP.bufferSlack)) (hnl : IsNl nl)
    (hc : chunks.flatten = encF fields ++ nl)
    (pre : List Bytes) (c : Bytes) (post : List Bytes) (hs : chunks = pre ++ c :: post) :
    (feed (feedAll { isUrl := true, bufferSize := n + Mhd.Gen.PP.bufferSlack } pre) c).2 = true :=
  (feedAll_good hok hnl chunks [] _ (by rw [List.append_nil, hc]; exact good_init n fields nl)).2 pre c post hs

/-- Round trip for the reference encoder `encodeUrl` (unreserved bytes literal, space as `+`,
    everything else `%XX`): binary values, empty values, percent signs, `&`, `=`, CR, LF, NUL in
    values are all covered; keys are non-empty C strings whose encoding fits the key buffer. -/
theorem url_roundtrip (n : Nat) (fields : List (Bytes × Bytes)) (chunks : List Bytes)
    (hk : ∀ kv ∈ fields, kv.1 ≠ [] ∧ (∀ c ∈ kv.1, c ≠ 0) ∧ (encStr kv.1).length < n + Mhd.Gen.PP.bufferSlack)
    (hc : chunks.flatten = encodeUrl fields) :
    ∃ pp, run n Mhd.Gen.PP.encUrl chunks = some (pp, true) ∧ pp.fault = none ∧
      Delivers pp.evs (fields.map fun kv => (urlMeta kv.1, kv.2)) := by
  have hok : ∀ f ∈ fields.map tokField, f.Ok (n + Mhd.Gen.PP.bufferSlack) := by
    intro f hf
    simp only [List.mem_map] at hf
    obtain ⟨kv, hkv, rfl⟩ := hf
    obtain ⟨h1, _, h3⟩ := hk kv hkv
    refine ⟨?_, allOk_map_tokOf _, allOk_map_tokOf _, by simpa [tokField, rawOf_map_tokOf] using h3⟩
    simpa [tokField] using h1
  obtain ⟨pp, h1, h2, h3⟩ := url_roundtrip_tokens n (fields.map tokField) [] chunks hok (by intro c h; cases h)
    (by rw [hc, encodeUrl_eq]; simp)
  refine ⟨pp, h1, h2, ?_⟩
  have : (fields.map tokField).map fld = fields.map fun kv => (urlMeta kv.1, kv.2) := by
    rw [List.map_map]
    apply List.map_congr_left
    intro kv hkv
    simp [fld, tokField, decOf_map_tokOf, cstr_of_no_zero kv.1 (hk kv hkv).2.1]
  rw [← this]; exact h3

/-- Split independence: two arbitrary splits of the same well-formed text deliver the same fields. -/
theorem url_split_independent (n : Nat) (fields : List FieldT) (nl : Bytes) (chunks₁ chunks₂ : List Bytes)
    (hok : ∀ f ∈ fields, f.Ok (n + Mhd.Gen.PP.bufferSlack)) (hnl : IsNl nl)
    (h₁ : chunks₁.flatten = encF fields ++ nl) (h₂ : chunks₂.flatten = chunks₁.flatten) :
    ∃ pp₁ pp₂, run n Mhd.Gen.PP.encUrl chunks₁ = some (pp₁, true) ∧ run n Mhd.Gen.PP.encUrl chunks₂ = some (pp₂, true) ∧
      Delivers pp₁.evs (fields.map fld) ∧ Delivers pp₂.evs (fields.map fld) := by
  obtain ⟨p1, a1, _, a3⟩ := url_roundtrip_tokens n fields nl chunks₁ hok hnl h₁
  obtain ⟨p2, b1, _, b3⟩ := url_roundtrip_tokens n fields nl chunks₂ hok hnl (h₂.trans h₁)
  exact ⟨p1, p2, a1, b1, a3, b3⟩

/-- Memory safety for **every input** (well-formed or not), every split, every buffer size and every
    Content-Type that selects the urlencoded parser: no access leaves an object (key buffer, `pp->xbuf`,
    the on-stack `xbuf[XBUF_SIZE + 1]`, the caller's `post_data`), `abort ()`/`MHD_PANIC` are never
    reached, and both loops of the model end within their fuel (i.e. they terminate). -/
theorem url_no_fault (n : Nat) (ctype : Bytes) (pp0 : PP) (chunks : List Bytes)
    (hc : create n ctype = some pp0) (hu : pp0.isUrl = true) :
    (destroy (feedAll pp0 chunks)).1.fault = none :=
  Mhd.PP.url_no_fault n ctype pp0 chunks hc hu

/-- Non-vacuity of `url_no_fault`: the standard content type creates an urlencoded post processor. -/
example : ∃ pp0, create 256 Mhd.Gen.PP.encUrl = some pp0 ∧ pp0.isUrl = true :=
  ⟨_, create_url 256, rfl⟩

/-- Non-vacuity: two fields (`a A` with value `%&`, `b` with the empty value), rendered
    `a+%41=%25%26&b=` and split inside an escape, inside a key, and with an empty chunk;
    smallest legal buffer. -/
example : ∃ pp, run 256 Mhd.Gen.PP.encUrl
      [[0x61, 0x2B, 0x25, 0x34], [0x31, 0x3D, 0x25, 0x32, 0x35, 0x25, 0x32], [], [0x36, 0x26], [0x62, 0x3D]] = some (pp, true)
    ∧ pp.fault = none ∧
    Delivers pp.evs (List.map fld
      [⟨[.lit 0x61, .lit 0x2B, .esc 0x34 0x31], [.esc 0x32 0x35, .esc 0x32 0x36]⟩, ⟨[.lit 0x62], []⟩]) :=
  url_roundtrip_tokens 256
    [⟨[.lit 0x61, .lit 0x2B, .esc 0x34 0x31], [.esc 0x32 0x35, .esc 0x32 0x36]⟩, ⟨[.lit 0x62], []⟩] [] _
    (by decide) (by intro c h; cases h) (by decide)

/-- Non-vacuity for the reference encoder: key `k y`, binary value `00 25 ff`; key `z`, empty value. -/
example : ∃ pp, run 300 Mhd.Gen.PP.encUrl [encodeUrl [([0x6B, 0x20, 0x79], [0, 0x25, 0xff]), ([0x7A], [])]] = some (pp, true)
    ∧ pp.fault = none ∧
    Delivers pp.evs [(urlMeta [0x6B, 0x20, 0x79], [0, 0x25, 0xff]), (urlMeta [0x7A], [])] :=
  url_roundtrip 300 [([0x6B, 0x20, 0x79], [0, 0x25, 0xff]), ([0x7A], [])] _ (by decide) (by simp)

/-- Multipart, **every input (well-formed or not), every split, every buffer size and boundary**:
    no access leaves an object (`fault = none` — in particular the window `buf[0 .. buffer_pos)` is
    never read beyond `buffer_pos`, `memmove` never gets a negative size, the nested boundary is never
    NULL where it is used, `MHD_PANIC` is never reached) and the `while` loop of
    `post_process_multipart` terminates (a potential that every iteration lowers: `Mhd.PP.phi`);
    **no fabricated data**: every delivered value byte is a byte of the input; and if every
    `MHD_post_process` call returned `MHD_YES`, every delivered piece is a contiguous piece of the input. -/
theorem multipart_all_inputs (n : Nat) (ctype : Bytes) (pp0 : PP) (chunks : List Bytes)
    (hc : create n ctype = some pp0) (hu : pp0.isUrl = false) :
    (destroy (feedAll pp0 chunks)).1.fault = none ∧
      (∀ e ∈ (destroy (feedAll pp0 chunks)).1.evs, ∀ b ∈ e.data, b ∈ chunks.flatten) ∧
      ((feedAllYes pp0 chunks).2 = true →
        ∀ e ∈ (destroy (feedAll pp0 chunks)).1.evs, e.data <:+: chunks.flatten) :=
  Mhd.PP.multipart_all_inputs n ctype pp0 chunks hc hu

/-- Non-vacuity: `multipart/form-data; boundary=AaB03x` with the smallest buffer creates a multipart
    post processor, so the hypotheses above are satisfiable (for every chunk list). -/
example : ∃ pp0, create 256 (Mhd.Gen.PP.encMultipart ++
      [0x3B, 0x20, 0x62, 0x6F, 0x75, 0x6E, 0x64, 0x61, 0x72, 0x79, 0x3D, 0x41, 0x61, 0x42, 0x30, 0x33, 0x78]) = some pp0
    ∧ pp0.isUrl = false ∧ pp0.boundary = [0x41, 0x61, 0x42, 0x30, 0x33, 0x78] := by
  have h : (create 256 (Mhd.Gen.PP.encMultipart ++
      [0x3B, 0x20, 0x62, 0x6F, 0x75, 0x6E, 0x64, 0x61, 0x72, 0x79, 0x3D, 0x41, 0x61, 0x42, 0x30, 0x33, 0x78])).map
      (fun p => (p.isUrl, p.boundary)) = some (false, [0x41, 0x61, 0x42, 0x30, 0x33, 0x78]) := by decide +kernel
  obtain ⟨p, hp, he⟩ := Option.map_eq_some_iff.mp h
  exact ⟨p, hp, congrArg Prod.fst he, congrArg Prod.snd he⟩

/-- **Round trip, single-level multipart/form-data, EVERY split, every buffer size and boundary.**
    `parts` is any list of fields (name, optional file name / content type / transfer encoding, value:
    arbitrary bytes — CR, LF, NUL, `--`, boundary look-alikes included); `encodeMultipart` is the standard
    rendering `--B CRLF headers CRLF CRLF value CRLF … --B-- CRLF`.  Side conditions:
    * `boundaryFresh`: the delimiter `CRLF--B` does not occur in a value (nor across the end of a value
      and the delimiter that follows it) — decidable;
    * `PartOk (n+4) p`: every header line of `p` is shorter than the buffer (`n + 4` bytes) and free of
      CR/LF, is read back to the intended four strings by the line parser of `process_multipart_headers`
      (`hdrM` folds `try_get_value`/`try_match_header` over the lines — decidable; it fails e.g. for a
      name containing ` filename=` or a content type containing `Content-Transfer-Encoding: `), and the
      content type is not `multipart/mixed` (nested containers: `multipart_nested_roundtrip`);
    * the boundary is not empty (`create` already guarantees `2·|B|+2 ≤ n`).
    Then for **every** list of chunks whose concatenation is the body: every `MHD_post_process` call returns
    `MHD_YES`, `MHD_destroy_post_processor` returns `MHD_YES`, no access leaves an object, and the iterator
    calls deliver exactly the fields, in order, each with its key / file name / content type / encoding,
    offsets contiguous from 0, data concatenating to the value (`Delivers`). -/
theorem multipart_roundtrip (n : Nat) (ctype : Bytes) (pp0 : PP) (parts : List Part) (chunks : List Bytes)
    (hc : create n ctype = some pp0) (hu : pp0.isUrl = false) (hB : 1 ≤ pp0.boundary.length)
    (hfresh : boundaryFresh pp0.boundary parts = true) (hp : ∀ p ∈ parts, PartOk (n + 4) p)
    (hch : chunks.flatten = encodeMultipart pp0.boundary parts) :
    ∃ pp, run n ctype chunks = some (pp, true) ∧ pp.fault = none ∧ Delivers pp.evs (parts.map fieldOf) ∧
      ∀ pre ch post, chunks = pre ++ ch :: post → (feed (feedAll pp0 pre) ch).2 = true :=
  Mhd.PP.multipart_roundtrip n ctype pp0 parts chunks hc hu hB hfresh hp hch

/-- Split independence for multipart: two arbitrary splits of the same well-formed body deliver the same
    fields (the pieces may be cut differently, their concatenation per field is the same). -/
theorem multipart_split_independent (n : Nat) (ctype : Bytes) (pp0 : PP) (parts : List Part)
    (chunks₁ chunks₂ : List Bytes)
    (hc : create n ctype = some pp0) (hu : pp0.isUrl = false) (hB : 1 ≤ pp0.boundary.length)
    (hfresh : boundaryFresh pp0.boundary parts = true) (hp : ∀ p ∈ parts, PartOk (n + 4) p)
    (h₁ : chunks₁.flatten = encodeMultipart pp0.boundary parts) (h₂ : chunks₂.flatten = chunks₁.flatten) :
    ∃ pp₁ pp₂, run n ctype chunks₁ = some (pp₁, true) ∧ run n ctype chunks₂ = some (pp₂, true) ∧
      Delivers pp₁.evs (parts.map fieldOf) ∧ Delivers pp₂.evs (parts.map fieldOf) := by
  obtain ⟨p1, a1, _, a3, _⟩ := Mhd.PP.multipart_roundtrip n ctype pp0 parts chunks₁ hc hu hB hfresh hp h₁
  obtain ⟨p2, b1, _, b3, _⟩ := Mhd.PP.multipart_roundtrip n ctype pp0 parts chunks₂ hc hu hB hfresh hp (h₂.trans h₁)
  exact ⟨p1, p2, a1, b1, a3, b3⟩

/-! Non-vacuity: boundary `AaB03x`, smallest buffer; field `k1` with the binary value
    `a CR LF - - A a B 0 3 00 ff` (a boundary look-alike: the delimiter minus its last byte), and a file
    field `f` (`a.txt`, `text/plain`, `binary`) with the empty value; the body is cut inside the first
    value, then a 1-byte piece, an empty piece, and the rest. -/

def exCtype : Bytes := Mhd.Gen.PP.encMultipart ++ ofStr "; boundary=AaB03x"
def exParts : List Part :=
  [{ name := ofStr "k1", value := [0x61, 0x0D, 0x0A, 0x2D, 0x2D, 0x41, 0x61, 0x42, 0x30, 0x33, 0x00, 0xFF] },
   { name := ofStr "f", filename := some (ofStr "a.txt"), ctype := some (ofStr "text/plain"),
     enc := some (ofStr "binary"), value := [] }]

theorem exCreate : ∃ pp0, create 256 exCtype = some pp0 ∧ pp0.isUrl = false ∧ pp0.boundary = ofStr "AaB03x" := by
  have h : (create 256 exCtype).map (fun p => (p.isUrl, p.boundary)) = some (false, ofStr "AaB03x") := by
    simp only [exCtype, ofStr_ofList]; decide +kernel
  obtain ⟨p, hp, he⟩ := Option.map_eq_some_iff.mp h
  exact ⟨p, hp, congrArg Prod.fst he, congrArg Prod.snd he⟩

theorem exPartOk : ∀ p ∈ exParts, PartOk (256 + 4) p := by
  intro p hp
  simp only [exParts, List.mem_cons, List.mem_nil_iff, or_false, ofStr_ofList] at hp
  apply partOk_of_plain
  rcases hp with rfl | rfl
  · refine ⟨by unfold Plain; decide +kernel, nofun, nofun, nofun, ?_⟩
    simp only [hdrLines, dispLine, ofStr_ofList]; decide +kernel
  · refine ⟨by unfold Plain; decide +kernel, ?_, ?_, ?_, ?_⟩
    · intro f hf; cases hf; unfold Plain; decide +kernel
    · intro t ht; cases ht; exact ⟨by unfold NoCtl; decide +kernel, by decide +kernel⟩
    · intro e he; cases he; unfold NoCtl; decide +kernel
    · simp only [hdrLines, dispLine, ofStr_ofList]; decide +kernel

theorem exSplit (E : Bytes) : [E.take 70, (E.drop 70).take 1, [], E.drop 71].flatten = E := by
  have : E.drop 71 = (E.drop 70).drop 1 := by rw [List.drop_drop]
  simp only [List.flatten_cons, List.flatten_nil, List.nil_append, List.append_nil, this, List.take_append_drop]

example : ∃ pp, run 256 exCtype [(encodeMultipart (ofStr "AaB03x") exParts).take 70,
      ((encodeMultipart (ofStr "AaB03x") exParts).drop 70).take 1, [],
      (encodeMultipart (ofStr "AaB03x") exParts).drop 71] = some (pp, true) ∧ pp.fault = none ∧
    Delivers pp.evs (exParts.map fieldOf) := by
  obtain ⟨pp0, h1, h2, h3⟩ := exCreate
  obtain ⟨pp, r1, r2, r3, _⟩ := multipart_roundtrip 256 exCtype pp0 exParts _ h1 h2 (by rw [h3]; decide +kernel)
    (by rw [h3]; decide +kernel) exPartOk (by rw [h3]; exact exSplit _)
  exact ⟨pp, r1, r2, r3⟩

/-- **Round trip with nested multipart/mixed and arbitrary header spelling, EVERY split.**
    `items` is a list of rendered body parts (`Mhd.PP.Item`): a form field (`.field`: any header lines,
    the metadata they stand for, the value), or a `multipart/mixed` container (`.mixed`: its header
    lines, field name, Content-Type value ending in `boundary=nb`, the files with their own header
    lines and values); `encodeItems` writes `--B CRLF lines CRLF CRLF value CRLF …`, a container as
    `--nb CRLF lines CRLF CRLF value CRLF … --nb-- CRLF`, and `--B-- CRLF` at the end.
    `ItemOk`: header lines shorter than the buffer and free of CR/LF; the line parser of
    `process_multipart_headers` reads the intended strings from them (for a file inside a container:
    started with the container's name — so header names in any letter case, extra parameters etc. are
    all covered as long as the parser reads them right: decidable); the delimiter of the level does
    not occur in a value; `2 ≤ |nb|+…` fits the buffer.  Then for every split: every call returns
    `MHD_YES`, no fault, and the iterator calls deliver exactly `flat items` in order: every file of a
    container under the container's name with its own file name / type / encoding, and **every field
    after a container under its own key, file name, content type and encoding** (the `have` marks and
    `free_unmarked` after `PP_PerformCleanup` are part of the invariant: `MMain.hdr` demands that the
    cleanup state leaves all four strings NULL). -/
theorem multipart_nested_roundtrip (n : Nat) (ctype : Bytes) (pp0 : PP) (items : List Item) (chunks : List Bytes)
    (hc : create n ctype = some pp0) (hu : pp0.isUrl = false) (hB : 1 ≤ pp0.boundary.length)
    (hit : ∀ it ∈ items, ItemOk (n + 4) pp0.boundary it)
    (hch : chunks.flatten = encodeItems pp0.boundary items) :
    ∃ pp, run n ctype chunks = some (pp, true) ∧ pp.fault = none ∧ Delivers pp.evs (flat items) ∧
      ∀ pre ch post, chunks = pre ++ ch :: post → (feed (feedAll pp0 pre) ch).2 = true :=
  Mhd.PP.multipart_items_roundtrip n ctype pp0 items chunks hc hu hB hit hch

/-! Non-vacuity: a container `files` (nested boundary `BbC04y`) with one file `f1.txt` (`text/plain`,
    value `abc`), FOLLOWED by a plain field `after` whose header is written in lower case; cut as above. -/

def exItems : List Item :=
  [.mixed [ofStr "Content-Disposition: form-data; name=\"files\"", ofStr "Content-Type: multipart/mixed; boundary=BbC04y"]
      (ofStr "files") (ofStr "multipart/mixed; boundary=BbC04y") (ofStr "BbC04y")
      [⟨[ofStr "Content-Disposition: attachment; filename=\"f1.txt\"", ofStr "Content-Type: text/plain"],
        ⟨some (ofStr "files"), some (ofStr "f1.txt"), some (ofStr "text/plain"), none⟩, ofStr "abc"⟩],
   .field ⟨[ofStr "content-disposition: form-data; name=\"after\""], ⟨some (ofStr "after"), none, none, none⟩, ofStr "x"⟩]

theorem exItemsOk : ∀ it ∈ exItems, ItemOk (256 + 4) (ofStr "AaB03x") it := by
  intro it hit
  simp only [exItems, List.mem_cons, List.mem_nil_iff, or_false, ofStr_ofList] at hit ⊢
  rcases hit with rfl | rfl
  · refine .mixed _ _ _ _ _ (by unfold LineOk; decide +kernel) (by decide +kernel) (by decide +kernel)
      (by decide +kernel) (by decide +kernel) (by decide +kernel) ?_
    intro q hq
    simp only [List.mem_cons, List.mem_nil_iff, or_false] at hq
    subst hq
    exact ⟨by unfold LineOk; decide +kernel, by decide +kernel, by unfold FreshFor; decide +kernel⟩
  · exact .field _ ⟨by unfold LineOk; decide +kernel, by decide +kernel, by unfold FreshFor; decide +kernel⟩
      (by intro ct h; cases h)

example : ∃ pp, run 256 exCtype [(encodeItems (ofStr "AaB03x") exItems).take 70,
      ((encodeItems (ofStr "AaB03x") exItems).drop 70).take 1, [],
      (encodeItems (ofStr "AaB03x") exItems).drop 71] = some (pp, true) ∧ pp.fault = none ∧
    Delivers pp.evs (flat exItems) := by
  obtain ⟨pp0, h1, h2, h3⟩ := exCreate
  obtain ⟨pp, r1, r2, r3, _⟩ := multipart_nested_roundtrip 256 exCtype pp0 exItems _ h1 h2 (by rw [h3]; decide +kernel)
    (by rw [h3]; exact exItemsOk) (by rw [h3]; exact exSplit _)
  exact ⟨pp, r1, r2, r3⟩

/-- **… with a preamble.**  The body may start with arbitrary text before the first delimiter (RFC 2046
    §5.1.1 allows a preamble and tells implementations to ignore it), as long as `"--" ++ B` does not start
    inside it (`PreOk`, decidable): `PP_Init` skips it — up to the next `-` each time — and the rest is as
    above. -/
theorem multipart_preamble_roundtrip (n : Nat) (ctype : Bytes) (pp0 : PP) (items : List Item) (chunks : List Bytes)
    (pre : Bytes) (hc : create n ctype = some pp0) (hu : pp0.isUrl = false) (hB : 1 ≤ pp0.boundary.length)
    (hit : ∀ it ∈ items, ItemOk (n + 4) pp0.boundary it) (hpre : PreOk pp0.boundary pre)
    (hch : chunks.flatten = pre ++ encodeItems pp0.boundary items) :
    ∃ pp, run n ctype chunks = some (pp, true) ∧ pp.fault = none ∧ Delivers pp.evs (flat items) ∧
      ∀ pre ch post, chunks = pre ++ ch :: post → (feed (feedAll pp0 pre) ch).2 = true := by
  refine multipart_items_roundtrip_gen n ctype pp0 items chunks pre hc hu hB hit ?_ hch
  intro k hk
  have hl : (sDashDash ++ pp0.boundary).length = 2 + pp0.boundary.length := by simp [sDashDash]; omega
  have := noocc_slice (sDashDash ++ pp0.boundary) pre (afterB pp0.boundary items) (by omega) hpre k hk
  rwa [hl] at this

/-- Non-vacuity: the items above after the preamble `This is a multi-part message.-\r\n`. -/
example : ∃ pp, run 256 exCtype [ofStr "This is a multi-part message.-\r\n" ++ encodeItems (ofStr "AaB03x") exItems]
      = some (pp, true) ∧ pp.fault = none ∧ Delivers pp.evs (flat exItems) := by
  obtain ⟨pp0, h1, h2, h3⟩ := exCreate
  obtain ⟨pp, r1, r2, r3, _⟩ := multipart_preamble_roundtrip 256 exCtype pp0 exItems _
    (ofStr "This is a multi-part message.-\r\n") h1 h2 (by rw [h3]; decide +kernel)
    (by rw [h3]; exact exItemsOk) (by rw [h3]; unfold PreOk; decide +kernel)
    (by rw [h3, List.flatten_cons, List.flatten_nil, List.append_nil])
  exact ⟨pp, r1, r2, r3⟩

/-- **Round trip in the reference encoding under purely syntactic side conditions** (`PartPlain`): name and
    file name without NUL, `"`, CR, LF; content type and transfer encoding without NUL, CR, LF; content
    type not `multipart/mixed`; every header line shorter than the buffer; plus `boundaryFresh`.  (After
    fix F34 the line parser reads every such header back exactly: `Mhd.PP.hdr_of_plain`.) -/
theorem multipart_roundtrip_syntactic (n : Nat) (ctype : Bytes) (pp0 : PP) (parts : List Part) (chunks : List Bytes)
    (hc : create n ctype = some pp0) (hu : pp0.isUrl = false) (hB : 1 ≤ pp0.boundary.length)
    (hfresh : boundaryFresh pp0.boundary parts = true) (hp : ∀ p ∈ parts, PartPlain (n + 4) p)
    (hch : chunks.flatten = encodeMultipart pp0.boundary parts) :
    ∃ pp, run n ctype chunks = some (pp, true) ∧ pp.fault = none ∧ Delivers pp.evs (parts.map fieldOf) ∧
      ∀ pre ch post, chunks = pre ++ ch :: post → (feed (feedAll pp0 pre) ch).2 = true :=
  Mhd.PP.multipart_roundtrip_syntactic n ctype pp0 parts chunks hc hu hB hfresh hp hch

/-- Non-vacuity of `PartPlain`: the file field of `exParts` and a name that tripped the parser before fix F34. -/
def exQuirk : Part :=
  { name := ofStr "a filename=", filename := some (ofStr "y.txt"), ctype := some (ofStr "text/plain; x=\"y\""), enc := some (ofStr "binary"), value := [] }

example : PartPlain (256 + 4) exQuirk := by
  simp only [exQuirk, ofStr_ofList]
  refine ⟨by unfold Plain; decide +kernel, ?_, ?_, ?_, ?_⟩
  · intro f hf; cases hf; unfold Plain; decide +kernel
  · intro t ht; cases ht; exact ⟨by unfold NoCtl; decide +kernel, by decide +kernel⟩
  · intro e he; cases he; unfold NoCtl; decide +kernel
  · simp only [hdrLines, dispLine, ofStr_ofList]; decide +kernel

/-- **Epilogue.**  What the code does with bytes after the closing delimiter line `--B-- CRLF`: they are
    NOT ignored — `PP_Done` with more data makes `MHD_post_process` return `MHD_NO` (state `PP_Error`) and
    `MHD_destroy_post_processor` return `MHD_NO`; the fields have all been delivered before.  Kernel-checked
    on the body of `exParts` followed by the epilogue `x` (one call): both results `MHD_NO`, 2 iterator
    calls.  (RFC 2046 §5.1.1 says an epilogue is to be ignored; the property text does not cover it.  A
    trailing CRLF-less end `--B--` is accepted: `PP_Done` with `skip_rn = RN_Full`.) -/
example : ((create 256 exCtype).map fun pp0 =>
      let r := feed pp0 (encodeMultipart (ofStr "AaB03x") exParts ++ ofStr "x")
      (r.2, (destroy r.1).2, r.1.evs.length, r.1.fault)) = some (false, false, 2, none) := by
  simp only [exCtype, exParts, encodeMultipart, encPartHeaders, ofStr_ofList]
  decide +kernel

/-! Finding F34 (fixed in /repo 3c7e4de, model follows the fixed code): before the fix `try_get_value`
    matched ` filename=` inside the quoted name and `try_match_header` matched a header name anywhere in a
    line.  Kernel-checked: with the fixed parser the `hdr` clause of `PartOk` holds for these conforming
    parts (on the unfixed code the first reported the file name `; filename=`, the second the
    transfer encoding `foo"`). -/
example : (hdrLines { name := ofStr "a filename=", filename := some (ofStr "y.txt"), value := [] }).foldl hdrM none4
    = metaP { name := ofStr "a filename=", filename := some (ofStr "y.txt"), value := [] } := by
  simp only [hdrLines, dispLine, metaP, ofStr_ofList]; decide +kernel
example : (hdrLines { name := ofStr "k", ctype := some (ofStr "text/plain; x=\"Content-Transfer-Encoding: foo\""), value := [] }).foldl hdrM none4
    = metaP { name := ofStr "k", ctype := some (ofStr "text/plain; x=\"Content-Transfer-Encoding: foo\""), value := [] } := by
  simp only [hdrLines, dispLine, metaP, ofStr_ofList]; decide +kernel

/-
  Not proved: the syntactic condition is proved for the reference rendering of top-level fields
  (`PartPlain`); for arbitrary renderings / nested containers the `hdr` clauses of `RPartOk` / `ItemOk` stay
  decidable predicates stated with the line parser `hdrM`.  The epilogue behaviour (rejected) is shown on
  a witness only, not as a theorem over all bodies and splits.
-/

end Mhd.C15
