/-
  C09 — Connection limits hold and no capacity or resource is ever leaked.

  Statements, each proved here from the lemmas of `Mhd.Proofs.Limits*`.  The model is
  `Mhd.Model.Limits`: `step : St → Op → St × List Ev` mirrors the admission and
  disposal code of daemon.c and the reference count of response.c.  Every
  theorem quantifies over every configuration (limits, per-address limit,
  thread-safe or not, epoll or not, thread per connection or not), every state
  satisfying the invariant and every operation; `run_*` lift them to every
  history (list of operations of any length), including every failure exit of
  connection admission (the injected failure site is part of the state).

  What `daemon->connections` counts (found by reading the code, stated in
  `limits_hold`): the members of `connections`, `suspended_connections` and
  `cleanup` — *not* the externally added connections still waiting in
  `new_connections`; the per-address counters also count those.
-/
import Mhd.Proofs.LimitsTrace
import Mhd.Proofs.Lists

namespace Mhd.C09
open Mhd.Limits

/-- The accounting invariant is preserved by every operation: arrival (accepted, refused by
    the global limit, by the per-address limit, by the accept policy, failed in any of the
    allocations, refused by the second limit check, failed after insertion), event-loop
    round (resume, new-connection list, handlers incl. suspend / upgrade / close, cleanup),
    client events, resume / upgrade-close, query, stop. -/
theorem step_inv (s : St) (o : Op) (h : Inv s) : Inv (step s o).1 :=
  (step_ok s o).inv h

/-- … hence it holds after every history, from every configuration. -/
theorem run_inv (cfg : Cfg) (ops : List Op) : Inv (run (St.init cfg) ops).1 :=
  Mhd.Limits.run_inv ops _ (init_inv cfg)

/-- In every reachable state: the counter is exactly the number of connections in the
    active, suspended and cleanup lists and never exceeds the limit; for every address the
    counter equals the number of connections from that address in the four lists and never
    exceeds the per-address limit; the MHD_PANIC of `MHD_ip_limit_del` and a wrap-around of
    the counter are unreachable. -/
theorem limits_hold (cfg : Cfg) (ops : List Op) :
    let s := (run (St.init cfg) ops).1
    s.connections = s.active.length + s.susp.length + s.cleanup.length ∧
    s.connections ≤ s.cfg.limit ∧
    (∀ a, s.cfg.perIp ≠ 0 → a ≠ 0 →
      s.ipCount a = ((s.newL ++ s.active ++ s.susp ++ s.cleanup).filter (fun c => c.addr == a)).length) ∧
    (∀ a, s.ipCount a ≤ s.cfg.perIp) ∧
    s.fault ≠ some .ipDelZero ∧ s.fault ≠ some .connUnderflow := by
  intro s
  have h : Inv s := run_inv cfg ops
  refine ⟨?_, h.le, ?_, h.ipLe, h.cf.1, h.cf.2⟩
  · have := h.conns; simpa [mu_all] using this
  · intro a hp ha
    have := h.ip a
    rw [if_neg (fun hg => hg.elim hp ha)] at this
    simp only [this, ← List.countP_eq_length_filter, List.countP_append]
    rfl

/-- Capacity is restored: whenever no connection is left in any list (all were closed and
    cleaned up, or the daemon was stopped), the counter and every per-address counter are
    back to zero — no failure exit and no close path has lost a unit. -/
theorem capacity_restored (cfg : Cfg) (ops : List Op) :
    let s := (run (St.init cfg) ops).1
    s.newL = [] → s.active = [] → s.susp = [] → s.cleanup = [] →
    s.connections = 0 ∧ ∀ a, s.ipCount a = 0 := by
  intro s h1 h2 h3 h4
  exact Inv.zero_of_empty (run_inv cfg ops) ⟨h1, h2, h3, h4⟩

/-- Closing every connection and one (cleanup) round restores the capacity: in any reachable
    state in which no connection is waiting in `new_connections` or suspended and every
    active connection's client has closed (no unanswered request), one event-loop round leaves
    every list empty and both kinds of counters at zero. -/
theorem close_all_then_round (cfg : Cfg) (ops : List Op) :
    let s := (run (St.init cfg) ops).1
    s.newL = [] → s.susp = [] → (∀ c ∈ s.active, c.req = none ∧ c.clientClosed = true) →
    let s' := (round s).1
    (s'.newL = [] ∧ s'.active = [] ∧ s'.susp = [] ∧ s'.cleanup = []) ∧ s'.connections = 0 ∧ ∀ a, s'.ipCount a = 0 := by
  intro s h1 h2 h3
  have he := round_closes_all s h1 h2 h3
  exact ⟨he, Inv.zero_of_empty ((round_tr s).inv (run_inv cfg ops)) he⟩

/-- Stopping the daemon after any history (`MHD_stop_daemon` called once, suspended connections
    resumed before as the API demands — otherwise the C code MHD_PANICs, `stopSuspended`):
    no connection is left in any list, both kinds of counters are zero, and over the whole
    trace every connection that ever arrived (index `< nextId`: accepted, refused or failed at
    any exit) had its socket closed exactly once, every start notification is matched by
    exactly one close notification, and no connection is started twice. -/
theorem stop_exactly_once (cfg : Cfg) (ops : List Op) :
    let r := run (St.init cfg) ops
    let q := step r.1 .stop
    r.1.shutdown = false → r.1.fault = none → q.1.fault ≠ some .stopSuspended →
    (q.1.newL = [] ∧ q.1.active = [] ∧ q.1.susp = [] ∧ q.1.cleanup = []) ∧
    q.1.connections = 0 ∧ (∀ a, q.1.ipCount a = 0) ∧
    (∀ c, fdc c (r.2 ++ q.2) = if c < r.1.nextId then 1 else 0) ∧
    (∀ c, clc c (r.2 ++ q.2) = stc c (r.2 ++ q.2) ∧ stc c (r.2 ++ q.2) ≤ 1) := by
  intro r q h1 h2 h3
  have hq : q = stop r.1 := step_stop_eq r.1 h1 h2
  have he := stop_empties r.1 (hq ▸ h3)
  rw [← hq] at he
  have hok := (run_ok ops (St.init cfg)).trans (step_ok r.1 .stop)
  have hz := Inv.zero_of_empty (hok.inv (init_inv cfg)) he
  refine ⟨he, hz.1, hz.2, ?_⟩
  obtain ⟨e1, e2, e3, e4⟩ := he
  -- with every list empty the life-cycle ledger speaks of the trace alone
  have ht : ∀ c, fdc c (r.2 ++ q.2) = (if c < r.1.nextId then 1 else 0) ∧
      stc c (r.2 ++ q.2) = clc c (r.2 ++ q.2) ∧ clc c (r.2 ++ q.2) ≤ fdc c (r.2 ++ q.2) := fun c => by
    have hn : q.1.nextId = r.1.nextId := hq ▸ (stop_tr r.1).next
    have := hok.tinv [] (init_tinv cfg) c
    unfold NN LL at this
    rw [e1, e2, e3, e4, hn] at this
    simp only [List.nil_append, nu_nil, Nat.add_zero, Nat.zero_add] at this
    exact this
  refine ⟨fun c => (ht c).1, fun c => ⟨(ht c).2.1.symm, ?_⟩⟩
  obtain ⟨a1, a2, a3⟩ := ht c
  have : fdc c (r.2 ++ q.2) ≤ 1 := by rw [a1]; split <;> omega
  omega

/-- Without a stop: in every reachable state every connection index that was ever handed to
    the daemon is either still in one of the lists or had its socket closed exactly once, and
    the started-but-not-closed connections are exactly the members of the three counted lists
    (so never more than `limit` of them, by `limits_hold`). -/
theorem lifecycle_balance (cfg : Cfg) (ops : List Op) (c : Nat) :
    let r := run (St.init cfg) ops
    fdc c r.2 + ((r.1.newL ++ r.1.active ++ r.1.susp ++ r.1.cleanup).filter (fun x => x.id == c)).length
      = (if c < r.1.nextId then 1 else 0) ∧
    stc c r.2 = ((r.1.active ++ r.1.susp ++ r.1.cleanup).filter (fun x => x.id == c)).length + clc c r.2 := by
  intro r
  have ht : TInv r.1 r.2 := (run_ok ops (St.init cfg)).tinv [] (init_tinv cfg)
  obtain ⟨a1, a2, _⟩ := ht c
  simp only [NN, LL, nu_nil, Nat.add_zero] at a1 a2
  simp only [← List.countP_eq_length_filter, List.countP_append]
  exact ⟨by rw [← a1]; unfold nu; omega, a2⟩

/-- Response lifetime, refinement to the multiset of holders: in every reachable state the
    reference count of every response object equals the application's own reference (if it
    still has it) plus the number of connections that have the response queued; the object is
    freed exactly when that number is zero; a connection never holds an unknown or freed
    response; and the faults "use after free", "counter underflow", "unknown response" are
    unreachable (so nothing uses a response after its free callback). -/
theorem refcount_refines (cfg : Cfg) (ops : List Op) (r : Nat) :
    let s := (run (St.init cfg) ops).1
    let holders := ((s.newL ++ s.active ++ s.susp ++ s.cleanup).filter (fun c => c.resp == some r)).length
    (match s.resps r with
      | none => holders = 0
      | some x => x.rc = (if x.app then 1 else 0) + holders ∧ (x.freed = true ↔ x.rc = 0)) ∧
    s.fault ≠ some .useAfterFree ∧ s.fault ≠ some .rcUnderflow ∧ s.fault ≠ some .unknownResp := by
  intro s holders
  have h : RInv s := (run_ok ops (St.init cfg)).rinv (init_rinv cfg)
  have hh : hold r s.active + hold r s.susp + hold r s.cleanup + hold r [] = holders := by
    have := h.fresh r
    simp only [holders, ← List.countP_eq_length_filter, List.countP_append]
    unfold hold at this ⊢; omega
  have := h.rt r
  rw [hh] at this
  refine ⟨?_, h.rf.2.1, h.rf.2.2, h.rf.1⟩
  unfold RT1 appN at this
  exact this

/-- The free callback runs exactly at the transition of the counter from 1 to 0 and the object is
    then marked freed (local specification of `MHD_destroy_response` on a live object); a freed
    object can never be queued again. -/
theorem free_callback_at_zero (R : RespTab) (r : Nat) (x : Resp) (hx : R.tab r = some x)
    (hnf : x.freed = false) (hrc : 1 ≤ x.rc) :
    (release R r).2 = (if x.rc = 1 ∧ x.hasCb = true then [Ev.freeCb r] else []) ∧
    (release R r).1.tab r = some { x with rc := x.rc - 1, freed := decide (x.rc = 1) } ∧
    (release R r).1.fault = R.fault ∧
    (∀ R' x', R'.tab r = some x' → x'.freed = true → acquire R' r = none) := by
  rw [release_live hx hnf (by omega)]
  exact ⟨rfl, by simp [setFn], rfl, fun R' x' h1 h2 => acquire_freed R' r x' h1 h2⟩

/-- Over every history the free callback of a response has run exactly once if the object has
    been freed (and has a callback), and not at all otherwise — together with
    `refcount_refines` (freed ⇔ counter 0 ⇔ neither the application nor any connection holds
    it): exactly once, exactly when the count reaches zero, and no use follows. -/
theorem free_callback_exactly_once (cfg : Cfg) (ops : List Op) (r : Nat) :
    (run (St.init cfg) ops).2.count (.freeCb r) = (match (run (St.init cfg) ops).1.resps r with
      | some x => if x.freed && x.hasCb then 1 else 0
      | none => 0) := by
  have h : frc r _ + 0 = phi r _ := (run_ok ops (St.init cfg)).fb r
  unfold phi frc at h
  exact h

/-- Every way a connection takes and drops a response reference is a transition of the model and is
    covered by `refcount_refines` / `free_callback_exactly_once` (they quantify over every history):
    the final reply (`doReply`/`runReply`: +1 at MHD_queue_response, −1 at connection_reset or
    MHD_connection_close_ or cleanup), the upgrade reply (−1 right after the 101 header), interim
    "102 Processing" replies (`interimOne`: +1, −1 in the FULL_REPLY_SENT branch), a response queued
    from outside the handler on a suspended connection (`Op.extQueue`: +1), a failed / refused queue
    (no change), a daemon-generated error reply (`Beh.bad`: no application response is touched).
    Local law of the interim replies: any number of them, on any table that refines a holder
    count, leaves every response with the same holders (every reference taken is given back),
    raises no fault, and emits no socket / notification event. -/
theorem interim_replies_balanced (R : RespTab) (c : Conn) (pre : List Nat) (H : Nat → Nat)
    (h : ∀ r, RT1 r R.tab (H r)) :
    (∀ r, RT1 r (interims R c pre).1.tab (H r)) ∧ (interims R c pre).1.fault = R.fault ∧
    (∀ x, fdc x (interims R c pre).2.2 = 0 ∧ stc x (interims R c pre).2.2 = 0 ∧ clc x (interims R c pre).2.2 = 0) :=
  ⟨((interims_neutral c pre R).rt H h).1, ((interims_neutral c pre R).rt H h).2, (interims_neutral c pre R).ts.quiet⟩

/-- Stop releases every response: after any history and a `stop` that does not hit the API-misuse
    panic, no connection holds a response any more — every response object ever created has
    reference count 1 if the application still has its own reference and 0 otherwise; in the latter
    case it is freed and its free callback has run exactly once over the whole trace (never, if it has
    none).  With `refcount_refines` (freed ⇔ count 0; a freed response cannot be queued,
    `free_callback_at_zero`) this is "exactly once and only after its last use". -/
theorem stop_releases_every_response (cfg : Cfg) (ops : List Op) (r : Nat) :
    let h := run (St.init cfg) ops
    let q := step h.1 .stop
    h.1.shutdown = false → h.1.fault = none → q.1.fault ≠ some .stopSuspended →
    match q.1.resps r with
    | none => True
    | some x => x.rc = (if x.app then 1 else 0) ∧
        (x.app = false → x.freed = true ∧ (h.2 ++ q.2).count (.freeCb r) = if x.hasCb then 1 else 0) := by
  intro h q h1 h2 h3
  have hq : q = stop h.1 := step_stop_eq h.1 h1 h2
  have he := stop_empties h.1 (hq ▸ h3)
  rw [← hq] at he
  obtain ⟨e1, e2, e3, e4⟩ := he
  have hok := (run_ok ops (St.init cfg)).trans (step_ok h.1 .stop)
  have hrt : RT1 r q.1.resps (hold r q.1.active + hold r q.1.susp + hold r q.1.cleanup + hold r []) :=
    (hok.rinv (init_rinv cfg)).rt r
  have hf : frc r (h.2 ++ q.2) + 0 = phi r q.1.resps := hok.fb r
  rw [e2, e3, e4] at hrt
  unfold RT1 at hrt
  unfold phi frc at hf
  cases hx : q.1.resps r with
  | none => trivial
  | some x =>
    simp only [hx] at hrt hf ⊢
    obtain ⟨a1, a2⟩ : x.rc = appN x + 0 ∧ (x.freed = true ↔ x.rc = 0) := hrt
    refine ⟨a1, fun ha => ?_⟩
    have hz : x.rc = 0 := by simp only [appN, ha, Bool.false_eq_true, if_false] at a1; exact a1
    have hfr : x.freed = true := a2.mpr hz
    exact ⟨hfr, by simpa [hfr] using hf⟩

/-- Upgraded connections and their slot: the 101 reply hands the connection over (`urh`), the response
    reference is given back, and the connection keeps its slot (it moves to the suspended list, which
    `limits_hold` counts) until the application closes the session.  If the application closes it inside
    its upgrade handler (`Beh.upgradeClose`), the connection is disposed of in the same settled round
    (disposition `clean`: cleanup list → counter and per-address counter decremented, socket closed,
    by `run_inv` / `lifecycle_balance`); otherwise it is suspended and `Op.upClose` or `stop` disposes of it. -/
theorem upgrade_close_timing (R : RespTab) (c : Conn) (r : Nat) (cl : Bool)
    (hc : c.clientClosed = false) (hu : isUpg R r = true) :
    (runReply R c r cl).2.2.1 = (if c.inClose then Disp.clean else Disp.susp) ∧
    (runReply R c r cl).2.1.urh = true ∧ (runReply R c r cl).2.1.resp = none ∧
    ((runReply R c r cl).2.1.wasClosed = true ↔ (c.wasClosed = true ∨ c.inClose = true)) := by
  unfold runReply
  simp only [hc, hu, if_true, Bool.false_eq_true, if_false]
  refine ⟨trivial, trivial, ?_, ?_⟩
  · unfold closeConn; split
    · rfl
    · rename_i h; exact h
  · unfold closeConn; split <;> simp

/-- A failing accept()/accept4() on the listen socket (EMFILE, ENFILE, ECONNABORTED, EAGAIN, …:
    MHD_accept_connection returns before internal_add_connection) changes nothing: no counter, no
    per-address counter, no list — capacity cannot be lost there. -/
theorem accept_failure_loses_nothing (s : St) : step s .acceptFail = (s, []) := by
  unfold step; split <;> rfl

/-- Thread pool (MHD_OPTION_THREAD_POOL_SIZE = n ≥ 1 workers): the workers' connection limits,
    as computed by MHD_start_daemon_va, sum to the configured limit — for every limit and every
    pool size. -/
theorem pool_split_sum (limit n : Nat) (hn : 0 < n) : (workerLimits limit n).sum = limit := by
  have h : (workerLimits limit n).sum = n * (limit / n) + min (limit % n) n := List.sum_range_split _ _ n
  rw [h, Nat.min_eq_left (Nat.le_of_lt (Nat.mod_lt _ hn))]
  exact Nat.div_add_mod limit n

/-- … hence the global bound follows from the per-daemon invariant: for any `n` worker daemons
    `w 0 … w (n-1)`, each in a state satisfying the accounting invariant (every reachable
    state does, `run_inv`) and each configured with its share of the limit, the total number of
    connections is at most the configured limit; and when MHD_add_connection finds no worker with
    room (`pickWorker = none`: every worker is at its own limit) the daemon as a whole is serving
    exactly `limit` connections — the split loses no capacity either. -/
theorem pool_bound (limit n : Nat) (hn : 0 < n) (w : Nat → St)
    (h : ∀ i, i < n → Inv (w i) ∧ (w i).cfg.limit = splitLimit limit n i) :
    ((List.range n).map (fun i => (w i).connections)).sum ≤ limit ∧
    ((∀ i, i < n → ¬ (w i).connections < (w i).cfg.limit) →
      ((List.range n).map (fun i => (w i).connections)).sum = limit) := by
  have hs := pool_split_sum limit n hn
  unfold workerLimits at hs
  constructor
  · exact Nat.le_trans (List.sum_range_le (fun i => (w i).connections) (splitLimit limit n) n
      (fun i hi => (h i hi).2 ▸ (h i hi).1.le)) (Nat.le_of_eq hs)
  · intro hfull
    have : (List.range n).map (fun i => (w i).connections) = (List.range n).map (splitLimit limit n) :=
      List.map_congr_left (fun i hi => by
        have hi := List.mem_range.mp hi
        have h1 := (h i hi).1.le
        have h2 := hfull i hi
        rw [(h i hi).2] at h1 h2
        exact Nat.le_antisymm h1 (Nat.le_of_not_lt h2))
    rw [this]; exact hs

/-- a worker picked by MHD_add_connection has room (so its own limit check passes) -/
theorem pool_pick_has_room (conns limits : Nat → Nat) (n off j : Nat)
    (h : pickWorker conns limits n off = some j) : conns j < limits j := by
  unfold pickWorker at h
  obtain ⟨k, _, hk⟩ := List.exists_of_findSome?_eq_some h
  split at hk
  · rename_i hc; exact Option.some.inj hk ▸ hc
  · cases hk

/-- Non-vacuity (the seeded example): limit 5 over 4 workers is 2,1,1,1; 7 over 3 is 3,2,2. -/
example : workerLimits 5 4 = [2, 1, 1, 1] ∧ workerLimits 7 3 = [3, 2, 2] ∧ workerLimits 1 6 = [1, 0, 0, 0, 0, 0] := by
  decide +kernel

/-- Non-vacuity: a history with a refused arrival (global limit), a per-address refusal, a
    policy refusal, a failed allocation, a suspended and an upgraded connection reaches a
    state with one active, one suspended and one upgraded connection. -/
def demoCfg : Cfg := { limit := 3, perIp := 1, threadSafe := false, epoll := true, tpc := false,
                       allowSuspend := true, allowUpgrade := true }
def demoOps : List Op :=
  [.respCreate 1 false true false, .respCreate 3 false false true,
   .arrive 1 true true,            -- accepted
   .arrive 1 true true,            -- refused: per-address limit
   .arrive 2 false true,           -- refused by the accept policy
   .armFail .conn, .arrive 2 true true,   -- calloc of the connection fails
   .arrive 2 true true,            -- accepted
   .arrive 3 true true,            -- accepted
   .arrive 4 true true,            -- refused: global limit
   .req 0 (.suspend 1 []), .req 4 (.reply 3 false []), .round]

example : let s := (run (St.init demoCfg) demoOps).1
    s.connections = 3 ∧ s.active.length = 1 ∧ s.susp.length = 2 ∧ (s.susp.filter (·.urh)).length = 1 ∧
    s.ipCount 1 = 1 ∧ s.ipCount 2 = 1 ∧ s.ipCount 3 = 1 ∧ s.ipCount 4 = 0 ∧ s.fault = none := by
  decide +kernel

/-- Non-vacuity of `stop_exactly_once`: the demo history followed by the application closing the
    upgraded connection, resuming the suspended one, and `stop`: no panic, 7 sockets closed. -/
example : let r := run (St.init demoCfg) (demoOps ++ [.upClose 4, .resume 0])
    let q := step r.1 .stop
    r.1.shutdown = false ∧ r.1.fault = none ∧ q.1.fault = none ∧ r.1.nextId = 7 ∧
    (q.2.filter (fun e => match e with | .fdClose _ => true | _ => false)).length = 3 ∧
    (q.2.filter (fun e => match e with | .connClose _ => true | _ => false)).length = 3 := by
  decide +kernel

/-- Non-vacuity of `refcount_refines`: a shared response held by the application and by a
    connection whose client does not read (counter 2), then by the connection alone (counter 1,
    not freed), then released by the connection's close: freed, free callback emitted once. -/
example :
    let ops : List Op := [.respCreate 2 true true false, .arrive 1 true true, .hold 0, .req 0 (.reply 2 false []), .round]
    let s1 := (run (St.init demoCfg) ops).1
    let s2 := (run (St.init demoCfg) (ops ++ [.respDrop 2])).1
    let r3 := run (St.init demoCfg) (ops ++ [.respDrop 2, .clientClose 0, .round])
    (s1.resps 2).map (·.rc) = some 2 ∧ (s2.resps 2).map (fun x => (x.rc, x.freed)) = some (1, false) ∧
    (r3.1.resps 2).map (fun x => (x.rc, x.freed)) = some (0, true) ∧ r3.2.count (.freeCb 2) = 1 ∧ r3.1.fault = none := by
  decide +kernel

/-- Non-vacuity of the interim-reply transitions: two "102 Processing" replies (responses 5 and 6) and then
    the final reply 1 to a client that does not read a big final response: all three are queued, 5 and 6
    are back to the application's reference alone, 1 is held by the connection (count 2); after the
    application drops all of them and the daemon stops, each callback has run exactly once. -/
example :
    let ops : List Op := [.respCreate 1 true true false, .respCreate 5 false true false, .respCreate 6 false true false,
                          .arrive 1 true true, .hold 0, .req 0 (.reply 1 false [5, 6]), .round]
    let r1 := run (St.init demoCfg) ops
    let r2 := run (St.init demoCfg) (ops ++ [.respDrop 1, .respDrop 5, .respDrop 6, .stop])
    r1.2.filter (fun e => match e with | .queued _ _ _ => true | _ => false) = [.queued 0 5 true, .queued 0 6 true, .queued 0 1 true] ∧
    (r1.1.resps 5).map (·.rc) = some 1 ∧ (r1.1.resps 6).map (·.rc) = some 1 ∧ (r1.1.resps 1).map (·.rc) = some 2 ∧
    (r1.1.active.map (·.closeAfter)) = [true] ∧
    r2.2.count (.freeCb 1) = 1 ∧ r2.2.count (.freeCb 5) = 1 ∧ r2.2.count (.freeCb 6) = 1 ∧ r2.1.fault = none := by
  decide +kernel

/-- Non-vacuity of `Op.extQueue` and `Beh.bad`: connection 0 suspends, the application queues response 1 from
    outside the handler (count 2), resumes; the reply runs and the connection closes; connection 1 sends a
    malformed request and is closed by the daemon; an interim reply with an 'upgrade' response is refused. -/
example :
    let ops : List Op := [.respCreate 1 false true false, .respCreate 3 false false true, .arrive 1 true true, .arrive 2 true true,
                          .arrive 3 true true, .req 0 (.suspend 1 []), .req 1 .bad, .req 2 (.reply 1 false [3]), .round, .extQueue 0 1]
    let r1 := run (St.init demoCfg) ops
    let r2 := run (St.init demoCfg) (ops ++ [.resume 0, .round])
    (r1.1.resps 1).map (·.rc) = some 2 ∧ r1.1.susp.map (·.resp) = [some 1] ∧ r1.2.count (.queued 2 3 false) = 1 ∧
    r1.2.count (.connClose 1) = 1 ∧ r1.2.count (.connClose 2) = 1 ∧
    (r2.1.resps 1).map (·.rc) = some 1 ∧ r2.2.count (.connClose 0) = 1 ∧ r2.1.connections = 0 ∧ r2.1.fault = none := by
  decide +kernel

/-- Non-vacuity of `upgrade_close_timing` at history level (limit 3, one connection per address): connection 0
    closes its upgraded session inside the handler — after the round it is gone, its slot and address are free
    again, socket closed once; connection 1 is upgraded and stays (slot kept) until `upClose`; connection 2 is
    upgraded and never closed before `stop`, which closes it.  Afterwards everything is zero. -/
example :
    let ops : List Op := [.respCreate 3 false false true, .arrive 1 true true, .arrive 2 true true, .arrive 3 true true,
                          .req 0 (.upgradeClose 3 []), .req 1 (.reply 3 false []), .req 2 (.reply 3 false []), .round]
    let r1 := run (St.init demoCfg) ops
    let r2 := run (St.init demoCfg) (ops ++ [.upClose 1, .round])
    let r3 := run (St.init demoCfg) (ops ++ [.upClose 1, .round, .stop])
    r1.1.connections = 2 ∧ r1.1.ipCount 1 = 0 ∧ r1.1.susp.length = 2 ∧ r1.2.count (.fdClose 0) = 1 ∧ r1.2.count (.upgraded 0) = 1 ∧
    r2.1.connections = 1 ∧ r2.2.count (.fdClose 1) = 1 ∧
    r3.1.connections = 0 ∧ r3.2.count (.fdClose 2) = 1 ∧ r3.2.count (.connClose 2) = 1 ∧ (∀ a, a < 5 → r3.1.ipCount a = 0) ∧ r3.1.fault = none := by
  decide +kernel

end Mhd.C09
