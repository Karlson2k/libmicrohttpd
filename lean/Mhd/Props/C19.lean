/-
  C19 — WebSocket codec (src/microhttpd_ws/mhd_websocket.c): (i) split-independent decoding,
  (ii) lossless round trip, (iii) RFC 6455 violations, (iv) no access outside the buffers,
  (v) encoder calls between decoder calls change nothing the decoder reads.

  The lemmas behind these statements are in `Mhd.Proofs.WS*`.  Everything is about the model of
  the code *after* the fixes F7 and F7c of known_findings.json (`lg = false`); the behaviour of the code
  before the fixes is kept in the model (`lg = true`) for the witness theorems at the end.

  Quantification: every decoder state satisfying the representation invariant `Inv`
  (it holds after `MHD_websocket_stream_init` and is preserved by every call, so this is a
  superset of the reachable states), every input buffer / chunk list, every payload size,
  mask key, flag combination and size limit.  No bound on lengths or on the number of calls.
  Environment assumption carried by `Inv`: the allocation callbacks never hand out
  2^63 bytes or more (`allocLimit < 2^63`, true of every malloc: PTRDIFF_MAX).
-/
import Mhd.Proofs.WSFragSend
import Mhd.Proofs.WSFragOut
import Mhd.Proofs.WSEncDec
import Mhd.Proofs.WSErr

namespace Mhd.C19
open Mhd.WS

/-- a server-side stream as `MHD_websocket_stream_init (&ws, 0, 0)` leaves it (allocation limit 1000) -/
def ws0 : WS := { flags := 0, maxPayload := 0, allocLimit := 1000, rng := [] }

/-- `session ws chunks` is what an application sees (status ≠ 0, returned allocation, length —
    in order) when it receives `chunks` one after the other and runs the documented loop
    `while (off < n) { st = MHD_websocket_decode (rest…); if (st < 0) break; off += read_len; }`
    on each, stopping for good at the first negative status.

    For every stream state between two calls that is still valid (any role, flags, size limit,
    allocation limit, any point inside a frame, a fragmented message, after a close frame …)
    and every list of chunks — any number, any sizes, empty ones included — the application
    sees exactly what it sees when it is handed the concatenation in one piece. -/
theorem split_independent (ws : WS) (hi : Inv ws) (hq : sil ws = 0) (hv : ws.validity ≠ 0)
    (chunks : List (List UInt8)) : session ws chunks = session ws [chunks.flatten] :=
  session_split_independent hi hq hv chunks

/-- … in particular from a freshly initialised stream. -/
theorem split_independent_init (flags maxPayload allocLimit : Nat) (ws : WS) (ha : allocLimit < 2 ^ 63)
    (h : WS.init flags maxPayload allocLimit = some ws) (chunks : List (List UInt8)) :
    session ws chunks = session ws [chunks.flatten] :=
  let ⟨hi, hq, hv⟩ := init_inv flags maxPayload allocLimit ws ha h
  session_split_independent hi hq (by rw [hv]; decide) chunks

/-- non-vacuity, and the input of F7: a masked close frame, code 1000, reason "bye!!", fed byte
    by byte, is the close frame it is in one piece -/
example : session ws0 ([0x88, 0x87, 1, 2, 3, 4, 0x02, 0xea, 0x61, 0x7d, 0x64, 0x23, 0x22].map fun b => [b]) =
    [(8, some [0x03, 0xe8, 0x62, 0x79, 0x65, 0x21, 0x21, 0], 7)] := by decide

/-! (ii) The sending side is in every round-trip theorem the model of the real encoder
  (`encodeData` behind `MHD_websocket_encode_text/_binary`, `encodePingPong`, `encodeClose` of
  `Mhd.Model.WS`), not a separate renderer; that the frames are RFC 6455 framing (`frameBytes`) is
  a lemma (`encodeFrame_full`). -/

/-- **decode (encode m) = m**, text and binary messages sent as one frame
    (`MHD_websocket_encode_text/binary` with `MHD_WEBSOCKET_FRAGMENTATION_NONE`).
    `wsS` is the sender's stream, `wsR` the receiver's, in the opposite role, between two
    frames of a live session with no message under assembly.  For every payload (any length
    ≥ 0 in any of the three length encodings, valid UTF-8 if text), every mask key the
    sender's rng hands out, every way of cutting the produced frame into chunks: the receiving
    application gets exactly one frame — status = opcode, the payload NUL-terminated
    (`NULL` for an empty one), its length.  Size hypotheses: the payload fits the receiver's
    configured maximum and both allocations succeed. -/
theorem roundtrip_data (wsR wsS : WS) (h : Inv wsR) (hs : wsR.step = 0) (hv : wsR.validity = 1)
    (hdt : wsR.dataType = 0) (hrole : wsS.isClient = !wsR.isClient) (op : Nat) (hop : op = 1 ∨ op = 2)
    (payload : List UInt8) (hn : payload.length < 2 ^ 63)
    (hmax : wsR.maxPayload = 0 ∨ payload.length ≤ wsR.maxPayload) (halR : payload.length + 1 ≤ wsR.allocLimit)
    (halS : overheadSize wsS payload.length + payload.length + 1 ≤ wsS.allocLimit)
    (hutf : op = 1 → checkUtf8 payload 0 0 = .ok 0) :
    ∃ wire, (encodeData wsS payload 0 op).st = 0 ∧ (encodeData wsS payload 0 op).frame = some (wire ++ [0]) ∧
      ∀ chunks : List (List UInt8), chunks.flatten = wire →
        session wsR chunks = [(Int.ofNat op, plOf payload, payload.length)] := by
  exact roundtrip_frame wsS h hs (by omega) _ payload halS fun k =>
    roundtrip_data_run wsR h hs hv hdt op hop payload hmax halR hutf wsS.isClient hrole k

/-- **decode (encode m) = m**, ping and pong frames: any payload of ≤ 125 bytes, any key, any
    chunking, any live receiver state between two frames (also inside a fragmented message or
    after a close frame). -/
theorem roundtrip_pingpong (wsR wsS : WS) (h : Inv wsR) (hs : wsR.step = 0) (hv : wsR.validity ≠ 0)
    (hrole : wsS.isClient = !wsR.isClient) (op : Nat) (hop : op = 9 ∨ op = 10)
    (payload : List UInt8) (hn : payload.length ≤ 125)
    (hmax : wsR.maxPayload = 0 ∨ payload.length ≤ wsR.maxPayload) (halR : payload.length + 1 ≤ wsR.allocLimit)
    (halS : overheadSize wsS payload.length + payload.length + 1 ≤ wsS.allocLimit) :
    ∃ wire, (encodePingPong wsS payload op).st = 0 ∧ (encodePingPong wsS payload op).frame = some (wire ++ [0]) ∧
      ∀ chunks : List (List UInt8), chunks.flatten = wire →
        session wsR chunks = [(Int.ofNat op, plOf payload, payload.length)] := by
  rw [encodePingPong_eq wsS payload op hn]
  exact roundtrip_frame wsS h hs hv _ payload halS fun k =>
    (ctrl_frame_run h hs hv op (by omega) payload hn (by omega) hmax halR (by omega) wsS.isClient hrole k).imp
      fun _ x => x.1

/-- **decode (encode m) = m**, close frames (`MHD_websocket_encode_close` with a status code
    ≥ 1000 and a reason of ≤ 123 bytes of valid UTF-8): the receiver gets a CLOSE_FRAME whose
    payload is the two code bytes (network order) followed by the reason. -/
theorem roundtrip_close (wsR wsS : WS) (h : Inv wsR) (hs : wsR.step = 0) (hv : wsR.validity ≠ 0)
    (hrole : wsS.isClient = !wsR.isClient) (code : Nat) (hcode : 1000 ≤ code) (reason : List UInt8)
    (hn : reason.length ≤ 123) (hutf : checkUtf8 reason 0 0 = .ok 0)
    (hmax : wsR.maxPayload = 0 ∨ 2 + reason.length ≤ wsR.maxPayload) (halR : 2 + reason.length + 1 ≤ wsR.allocLimit)
    (halS : overheadSize wsS (2 + reason.length) + (2 + reason.length) + 1 ≤ wsS.allocLimit) :
    ∃ wire, (encodeClose wsS code reason).st = 0 ∧ (encodeClose wsS code reason).frame = some (wire ++ [0]) ∧
      ∀ chunks : List (List UInt8), chunks.flatten = wire →
        session wsR chunks = [(8, some (beBytes 2 code ++ reason ++ [0]), 2 + reason.length)] := by
  have hpl : (beBytes 2 code ++ reason).length = 2 + reason.length := by simp [beBytes_length]
  have hE : [((8 : Int), some (beBytes 2 code ++ reason ++ [0]), 2 + reason.length)] =
      [(Int.ofNat 8, plOf (beBytes 2 code ++ reason), (beBytes 2 code ++ reason).length)] := by
    rw [hpl]; simp [plOf, beBytes]
  rw [encodeClose_eq wsS code reason hcode hn hutf, hE]
  exact roundtrip_frame wsS h hs hv _ _ (hpl ▸ halS) fun k =>
    (ctrl_frame_run h hs hv 8 (by omega) _ (by omega) (by omega) (hpl ▸ hmax) (hpl ▸ halR)
      (fun _ _ => by rwa [List.drop_left' (beBytes_length 2 code)]) wsS.isClient hrole k).imp fun _ x => x.1

/-- … and `MHD_websocket_encode_close (ws, MHD_WEBSOCKET_CLOSEREASON_NO_REASON, NULL, 0, …)`: a
    close frame without payload arrives as a CLOSE_FRAME with `NULL` / 0.  (`1 ≤ allocLimit` is
    not needed by the decoder, which allocates nothing here; the helper lemma asks for it.) -/
theorem roundtrip_close_noreason (wsR wsS : WS) (h : Inv wsR) (hs : wsR.step = 0) (hv : wsR.validity ≠ 0)
    (hrole : wsS.isClient = !wsR.isClient) (halR : 1 ≤ wsR.allocLimit)
    (halS : overheadSize wsS 0 + 0 + 1 ≤ wsS.allocLimit) :
    ∃ wire, (encodeClose wsS 0 []).st = 0 ∧ (encodeClose wsS 0 []).frame = some (wire ++ [0]) ∧
      ∀ chunks : List (List UInt8), chunks.flatten = wire → session wsR chunks = [(8, none, 0)] := by
  rw [encodeClose_noreason_eq]
  exact roundtrip_frame wsS h hs hv _ [] halS fun k =>
    (ctrl_frame_run h hs hv 8 (by omega) [] (by simp) (by simp) (by simp) halR (by simp) wsS.isClient hrole
      k).imp fun _ x => x.1

/-- non-vacuity: a client sends "hé" masked with the key 01 02 03 04 to a server -/
example : (encodeData { ws0 with flags := 1, rng := [1, 2, 3, 4] } [0x68, 0xC3, 0xA9] 0 1).frame =
      some ([0x81, 0x83, 1, 2, 3, 4, 0x69, 0xC1, 0xAA] ++ [0]) ∧
    session ws0 [[0x81, 0x83, 1], [2, 3, 4, 0x69, 0xC1], [0xAA]] = [(1, some [0x68, 0xC3, 0xA9, 0], 3)] := by
  constructor <;> decide

/-! Fragmented messages: the sender is the model of an application that calls
  `MHD_websocket_encode_text` (with its `utf8_step` variable) or `MHD_websocket_encode_binary` with `MHD_WEBSOCKET_FRAGMENTATION_FIRST`
  for `p0`, then for each element of `mids` either the same encoder with `…_FOLLOWING`
  (`Mid.frag p`) or `MHD_websocket_encode_ping` / `_pong` (`Mid.ctrl 9 p` / `Mid.ctrl 10 p`), then
  the data encoder with `…_LAST` for `pn`, and sends the `frame_len` bytes of every frame it
  gets (`sendMessage`, `Mhd.Proofs.WSFragSend`; the encoders are the models of the real ones in
  `Mhd.Model.WS`, the same the single-frame theorems use).  Any number of fragments, any payload
  sizes (0 included), any keys from the sender's rng, both role pairings.

  The receiver is between two frames with no message under assembly (`step = 0`,
  `validity = 1`, `data_type = 0`, `data_payload = NULL`, `data_payload_size = 0`; every state
  reached from `MHD_websocket_stream_init` with `data_type = 0` is like that).

  Not covered, and why: a *close* frame between two fragments — the decoder then accepts only
  control frames (`validity = ONLY_CONTROL_FRAMES`) and answers the next continuation frame with
  PROTOCOL_ERROR (theorem `bad_frame_sequence`), so there is no round trip to state.
-/

/-- **decode (encode m) = m, fragmented message, assembling mode** (no
    `MHD_WEBSOCKET_FLAG_WANT_FRAGMENTS`).  For every way of cutting the bytes sent into chunks
    the receiving application gets the interleaved ping / pong frames, in order, as they arrive,
    and then exactly one message: status = TEXT_FRAME / BINARY_FRAME, payload = the concatenation
    of all fragment payloads, NUL-terminated (`NULL` if empty), its length.
    Text: the hypothesis is that the *concatenation* is valid UTF-8 — a fragment boundary may
    fall anywhere inside a multi-byte character.
    Size conditions, receiver: the *whole message* fits `max_payload_size` (0 = no limit) and the
    allocation limit (the decoder reallocs the message buffer frame by frame); each control
    payload ≤ 125 bytes and within both limits (`CtrlOK`).  Sender: every frame fits its
    allocation limit (`SendFits`, `SendOK`), which is below 2^63. -/
theorem roundtrip_fragmented_assembled (wsR wsS : WS) (h : Inv wsR) (hs : wsR.step = 0) (hv : wsR.validity = 1)
    (hdt : wsR.dataType = 0) (hnb : wsR.dataBuf = none) (hds : wsR.dataSize = 0)
    (hw : wsR.wantFragments = false) (hrole : wsS.isClient = !wsR.isClient) (hAS : wsS.allocLimit < 2 ^ 63)
    (op : Nat) (hop : op = 1 ∨ op = 2) (p0 : List UInt8) (mids : List Mid) (pn : List UInt8)
    (hctl : ∀ x ∈ mids, CtrlOK wsR.maxPayload wsR.allocLimit x)
    (hmax : wsR.maxPayload = 0 ∨ (p0 ++ midData mids ++ pn).length ≤ wsR.maxPayload)
    (halR : (p0 ++ midData mids ++ pn).length + 1 ≤ wsR.allocLimit)
    (hS0 : SendFits wsS p0) (hSm : ∀ x ∈ mids, SendOK wsS x) (hSn : SendFits wsS pn)
    (hutf : op = 1 → checkUtf8 (p0 ++ midData mids ++ pn) 0 0 = .ok 0) :
    ∃ tx, sendMessage wsS op p0 mids pn = some tx ∧
      ∀ chunks : List (List UInt8), chunks.flatten = tx.wire →
        session wsR chunks = midCtrlEvs mids ++
          [(Int.ofNat op, plOf (p0 ++ midData mids ++ pn), (p0 ++ midData mids ++ pn).length)] := by
  obtain ⟨k0, ks, kn, tx, hk, hsend, hwire⟩ := sendMessage_ok wsS hAS op hop p0 mids pn hS0 hSm hSn hutf
  subst hk
  refine ⟨tx, hsend, ?_⟩
  intro chunks hc
  have hb : Bnd wsR 0 [] 0 1 := ⟨h, hs, hv, hdt, fun h => absurd rfl h, h.u8a (by omega)⟩
  obtain ⟨ws', hrun, _, _⟩ := msg_assembled hb hw wsS.isClient hrole op hop p0 k0 ks pn kn
    (fun x hx => hctl x.1 (List.mem_map_of_mem hx)) hmax halR hutf
  exact session_of_wire h (sil_of_step0 hs) (by omega) hrun chunks (hc.trans hwire)

/-- **decode (encode m) = m, fragmented message, fragment mode**
    (`MHD_WEBSOCKET_FLAG_WANT_FRAGMENTS`).  For every chunking the application gets, in the order
    of the frames: the first fragment with status TEXT/BINARY_FIRST_FRAGMENT (`op ||| 0x10`),
    each continuation frame with …_NEXT_FRAGMENT (`op ||| 0x20`) and each ping / pong frame in
    its place, the last fragment with …_LAST_FRAGMENT (`op ||| 0x40`) — `msgFragEvs`, defined
    in `Mhd.Proofs.WSFragOut` from `fragEv` / `fragEvs` / `fragCarry` of `Mhd.Proofs.WSFragMsg`.
    Binary: each fragment carries exactly the payload of its frame (`fragments_binary` below).
    Text: a fragment that ends inside a multi-byte character is handed out without the bytes of
    that character (`cutLen`, `cutPl`), which are kept (`fragKeep`, 1–3 bytes) and handed out at
    the head of the next fragment; nothing is lost or reordered (`fragments_lossless` below).
    Size conditions (`FragOK`): each fragment payload — for text plus 3, the bytes possibly kept
    back, which the decoder counts against the limits — fits `max_payload_size` and the
    allocation limit, which is at least 4; control frames as in assembling mode. -/
theorem roundtrip_fragmented_fragments (wsR wsS : WS) (h : Inv wsR) (hs : wsR.step = 0) (hv : wsR.validity = 1)
    (hdt : wsR.dataType = 0) (hnb : wsR.dataBuf = none) (hds : wsR.dataSize = 0)
    (hw : wsR.wantFragments = true) (hrole : wsS.isClient = !wsR.isClient) (hAS : wsS.allocLimit < 2 ^ 63)
    (op : Nat) (hop : op = 1 ∨ op = 2) (p0 : List UInt8) (mids : List Mid) (pn : List UInt8)
    (hal4 : 4 ≤ wsR.allocLimit)
    (hok0 : FragOK op wsR.maxPayload wsR.allocLimit (.frag p0))
    (hok : ∀ x ∈ mids, FragOK op wsR.maxPayload wsR.allocLimit x)
    (hokn : FragOK op wsR.maxPayload wsR.allocLimit (.frag pn))
    (hS0 : SendFits wsS p0) (hSm : ∀ x ∈ mids, SendOK wsS x) (hSn : SendFits wsS pn)
    (hutf : op = 1 → checkUtf8 (p0 ++ midData mids ++ pn) 0 0 = .ok 0) :
    ∃ tx, sendMessage wsS op p0 mids pn = some tx ∧
      ∀ chunks : List (List UInt8), chunks.flatten = tx.wire →
        session wsR chunks = msgFragEvs op p0 mids pn := by
  obtain ⟨k0, ks, kn, tx, hk, hsend, hwire⟩ := sendMessage_ok wsS hAS op hop p0 mids pn hS0 hSm hSn hutf
  subst hk
  refine ⟨tx, hsend, ?_⟩
  intro chunks hc
  have hb : Bnd wsR 0 [] 0 1 := ⟨h, hs, hv, hdt, fun h => absurd rfl h, h.u8a (by omega)⟩
  obtain ⟨ws', hrun, _, _⟩ := msg_fragments hb hw wsS.isClient hrole op hop p0 k0 ks pn kn hal4
    (fun x hx => hok x.1 (List.mem_map_of_mem hx)) hok0 hokn hutf
  exact session_of_wire h (sil_of_step0 hs) (by omega) hrun chunks (hc.trans hwire)

/-- … binary: the fragments are exactly the frame payloads (statuses 0x12, 0x22 …, 0x42;
    `plainEvs` lists the frames in the middle: `(0x22, payload, length)` for a continuation
    frame, `(9 or 10, payload, length)` for a ping / pong). -/
theorem fragments_binary (p0 : List UInt8) (mids : List Mid) (pn : List UInt8) :
    msgFragEvs 2 p0 mids pn = (0x12, plOf p0, p0.length) :: plainEvs 2 mids ++ [(0x42, plOf pn, pn.length)] := by
  obtain ⟨a, b⟩ := fragEv_whole 2 0x10 0 p0 (Or.inl (by decide))
  obtain ⟨c, d⟩ := fragEvs_binary 2 (by decide) mids (stepAfter 2 0 p0)
  unfold msgFragEvs
  rw [a, b, c, d]
  rfl

/-- … text and binary: the payloads of the fragment events (`payload[0 .. payload_len)` of every
    event with a FIRST / NEXT / LAST status), concatenated in order, are the message — nothing
    is lost, duplicated or reordered when bytes of a split character move to the next fragment. -/
theorem fragments_lossless (op : Nat) (hop : op = 1 ∨ op = 2) (p0 : List UInt8) (mids : List Mid) (pn : List UInt8)
    (hl : ∀ x ∈ mids, ∀ c p, x = .ctrl c p → c < 16) :
    dataBytes (msgFragEvs op p0 mids pn) = p0 ++ midData mids ++ pn := by
  unfold msgFragEvs
  have h40 : (16 : Int) ≤ Int.ofNat (op ||| 0x40) := fragMark_ge op 0x40 hop (by omega)
  rw [dataBytes_append, dataBytes_cons, dataBytes_cons, evBytes_whole _ h40]
  have h1 := evBytes_frag op 0x10 0 hop (by omega) [] p0
  have h2 := fragEvs_lossless op hop mids hl (stepAfter op 0 p0) (fragKeep op 0 [] p0)
  have h3 : dataBytes [] = [] := rfl
  rw [h3, List.append_nil, ← List.append_assoc, List.append_assoc (evBytes _), h2, ← List.append_assoc, h1]
  simp

/-- the message of the examples: "hé!" as text, cut inside the `é` (C3 | A9), a ping between the
    halves of the character, an empty continuation frame -/
def exMids : List Mid := [.ctrl 9 [0x70], .frag [0xA9], .frag []]
/-- a client whose rng hands out the keys 01 02 03 04, 05 06 07 08, … -/
def exClient : WS := { ws0 with flags := 1, rng := (List.range 20).map fun i => UInt8.ofNat (i + 1) }

theorem ws0_inv : Inv ws0 := (init_inv 0 0 1000 ws0 (by decide) rfl).1

/-- non-vacuity of `roundtrip_fragmented_assembled`: the hypotheses hold for the example … -/
example : ∃ tx, sendMessage exClient 1 [0x68, 0xC3] exMids [0x21] = some tx ∧
    ∀ chunks : List (List UInt8), chunks.flatten = tx.wire →
      session ws0 chunks = [(9, some [0x70, 0], 1), (1, some [0x68, 0xC3, 0xA9, 0x21, 0], 4)] :=
  roundtrip_fragmented_assembled ws0 exClient ws0_inv rfl rfl rfl rfl rfl (by decide) (by decide) (by decide)
    1 (Or.inl rfl) [0x68, 0xC3] exMids [0x21]
    (by intro x hx; simp [exMids] at hx; rcases hx with rfl | rfl | rfl <;> first | trivial | (simp only [CtrlOK]; decide))
    (Or.inl rfl) (by decide) (by unfold SendFits; decide)
    (by intro x hx; simp [exMids] at hx; rcases hx with rfl | rfl | rfl <;> (simp only [SendOK, SendFits]; decide))
    (by unfold SendFits; decide) (by intro _; decide)

/-- … and these are the bytes: five frames with five keys; the same bytes cut at another place -/
example : (sendMessage exClient 1 [0x68, 0xC3] exMids [0x21]).map (·.wire) =
      some [0x01, 0x82, 1, 2, 3, 4, 0x69, 0xC1,   0x89, 0x81, 5, 6, 7, 8, 0x75,   0x00, 0x81, 9, 10, 11, 12, 0xA0,
            0x00, 0x80, 13, 14, 15, 16,   0x80, 0x81, 17, 18, 19, 20, 0x30] ∧
    session ws0 [[0x01, 0x82, 1, 2, 3, 4, 0x69], [0xC1, 0x89, 0x81, 5, 6, 7, 8, 0x75, 0x00, 0x81, 9, 10, 11, 12],
                 [0xA0, 0x00, 0x80, 13, 14, 15, 16, 0x80, 0x81, 17, 18, 19, 20, 0x30]] =
      [(9, some [0x70, 0], 1), (1, some [0x68, 0xC3, 0xA9, 0x21, 0], 4)] := by
  constructor <;> decide

/-- non-vacuity of `roundtrip_fragmented_fragments` (receiver with WANT_FRAGMENTS) … -/
example : ∃ tx, sendMessage exClient 1 [0x68, 0xC3] exMids [0x21] = some tx ∧
    ∀ chunks : List (List UInt8), chunks.flatten = tx.wire →
      session { ws0 with flags := 2 } chunks = msgFragEvs 1 [0x68, 0xC3] exMids [0x21] :=
  roundtrip_fragmented_fragments { ws0 with flags := 2 } exClient
    (init_inv 2 0 1000 _ (by decide) rfl).1 rfl rfl rfl rfl rfl (by decide) (by decide) (by decide)
    1 (Or.inl rfl) [0x68, 0xC3] exMids [0x21] (by decide)
    (by simp only [FragOK]; decide)
    (by intro x hx; simp [exMids] at hx; rcases hx with rfl | rfl | rfl <;> (simp only [FragOK, CtrlOK]; decide))
    (by simp only [FragOK]; decide)
    (by unfold SendFits; decide)
    (by intro x hx; simp [exMids] at hx; rcases hx with rfl | rfl | rfl <;> (simp only [SendOK, SendFits]; decide))
    (by unfold SendFits; decide) (by intro _; decide)

/-- … and what the application gets: "h" (the C3 is kept back), the ping, "é" whole with the
    second frame, an empty NEXT fragment, "!" — on the wire bytes cut as above -/
example : msgFragEvs 1 [0x68, 0xC3] exMids [0x21] =
      [(0x11, some [0x68, 0, 0], 1), (9, some [0x70, 0], 1), (0x21, some [0xC3, 0xA9, 0], 2), (0x21, none, 0),
       (0x41, some [0x21, 0], 1)] ∧
    session { ws0 with flags := 2 }
        [[0x01, 0x82, 1, 2, 3, 4, 0x69], [0xC1, 0x89, 0x81, 5, 6, 7, 8, 0x75, 0x00, 0x81, 9, 10, 11, 12],
         [0xA0, 0x00, 0x80, 13, 14, 15, 16, 0x80, 0x81, 17, 18, 19, 20, 0x30]] =
      msgFragEvs 1 [0x68, 0xC3] exMids [0x21] ∧
    dataBytes (msgFragEvs 1 [0x68, 0xC3] exMids [0x21]) = [0x68, 0xC3, 0xA9, 0x21] := by
  refine ⟨?_, ?_, ?_⟩ <;> decide

/-- A freshly initialised stream satisfies the invariant and is between two calls. -/
theorem init_ready (flags maxPayload allocLimit : Nat) (ws : WS) (ha : allocLimit < 2 ^ 63)
    (h : WS.init flags maxPayload allocLimit = some ws) : Inv ws ∧ Ready ws :=
  let ⟨hi, hq, _⟩ := init_inv flags maxPayload allocLimit ws ha h
  ⟨hi, fun _ => ⟨hi, hq⟩⟩

/-- One call of `MHD_websocket_decode`, any state satisfying the invariant, any buffer: the
    model returns (it never reaches `fault`, i.e. every `streambuf[i]` had `i < streambuf_len`,
    every payload / header write and every UTF-8 read was inside its allocation, the loop
    terminated), the invariant holds again, `*streambuf_read_len ≤ streambuf_len`, the
    returned payload is NULL/0 or an allocation holding payload and terminator, and a
    successful call on a non-empty buffer consumed at least one byte. -/
theorem decode_no_fault (ws : WS) (h : ws.validity ≠ 0 → Inv ws) (buf : List UInt8) :
    ∃ ws' st rd pl plen, decode false ws buf = .ret ws' st rd pl plen ∧ CallOK buf.length ws' st rd pl plen ∧
      (0 ≤ st → sil ws = 0 → buf ≠ [] → 1 ≤ rd) := by
  by_cases hv : ws.validity = 0
  · -- a stream that is no longer valid answers STREAM_BROKEN
    exact ⟨ws, -2, 0, none, 0, decode_broken hv buf, ⟨h, Nat.zero_le _, rfl, fun h0 => by omega⟩, fun h0 => by omega⟩
  · obtain ⟨ws', st, k, pl, plen, he, hc, hp, _⟩ := loop_spec (3 * buf.length + 4) (h hv) hv buf 0
      (by have := sil_le ws; omega)
    rw [Nat.zero_add, ← decode_loop hv] at he
    exact ⟨ws', st, k, pl, plen, he, hc, hp⟩

/-- The application's receive loop over one chunk never faults and never spins: it ends
    with everything consumed (and the state is ready for the next chunk) or with an error status. -/
theorem feed_no_fault (ws : WS) (h : Ready ws) (chunk : List UInt8) :
    ∃ ws' calls e, feed false ws chunk = (ws', calls, e) ∧ (e = .consumed ∨ e = .error) ∧
      (ws'.validity ≠ 0 → Inv ws') ∧ (e = .consumed → Ready ws') :=
  feedLoop_ok (chunk.length + 9) h chunk [] (by omega)

/-- non-vacuity: a state reached by real traffic (text frame header + 2 of 5 payload bytes)
    satisfies the hypotheses -/
example : WS.init 0 0 1000 = some ws0 ∧
    (feed false ws0 [0x81, 0x85, 1, 2, 3, 4, 0x69, 0x67]).2.2 = .consumed ∧
    (feed false ws0 [0x81, 0x85, 1, 2, 3, 4, 0x69, 0x67]).1.step = 17 ∧
    (feed false ws0 [0x81, 0x85, 1, 2, 3, 4, 0x69, 0x67]).1.payloadIndex = 2 := by
  refine ⟨rfl, ?_, ?_, ?_⟩ <;> decide

/-! (v) Encoder and decoder share the stream object, not state.
  An application answers a ping or sends its own data while a large frame is still arriving:
  it calls `MHD_websocket_encode_*` on the same `struct MHD_WebSocketStream` between two
  `MHD_websocket_decode` calls.  The encoders are modelled as functions that return the stream
  (`EncRes.ws`); the decoder as a function of the stream. -/

/-- Every encoder of the public API (`Enc`: text with or without `utf8_step`, binary, ping, pong,
    close; any arguments, successful or not) leaves every field of the stream as it was — decode
    step, frame header and its size, payload size and index, **mask key**, data / control
    buffers, both UTF-8 steps, data type, validity, configuration — except the position in the
    rng script (a client draws the 4 key bytes). -/
theorem encode_preserves_decoder_state (ws : WS) (e : Enc) : ∃ r, (e.run ws).ws = { ws with rng := r } :=
  Enc.run_ws ws e

/-- `sessionI ws ops`: what the application sees of the decoder (as `session`) when `ops` mixes
    received chunks (`Op.feed`) with encoder calls on the same stream (`Op.enc`), any number, at
    any place — also between the pieces of one incoming frame.  It is what it sees without the
    encoder calls, and (by split independence) what it sees for the received bytes in one piece.
    `NoDraw`: the decoder itself does not draw from the rng, i.e. not (client role **and**
    `GENERATE_CLOSE_FRAMES_ON_ERROR`).  In that excluded combination the *key* of a generated
    close frame comes from the rng, whose position the application's own encoder calls advance,
    so equality of the returned bytes is not to be expected there. -/
theorem decode_interleaved_with_encode_independent (ws : WS) (hi : Inv ws) (hq : sil ws = 0) (hv : ws.validity ≠ 0)
    (hg : NoDraw ws) (ops : List Op) :
    sessionI ws ops = session ws (feedsOf ops) ∧ sessionI ws ops = session ws [(feedsOf ops).flatten] := by
  have h := sessionI_eq_session ws hg ops
  exact ⟨h, by rw [h]; exact split_independent ws hi hq hv _⟩

/-- non-vacuity (and the scenario of a shared `mask_key`): a client receives the ping "abcdef" in
    two pieces and encodes a pong and a text frame of its own (keys 01 02 03 04, 05 06 07 08) in
    between: the ping arrives intact, the mask key of the stream is still the (zero) key of the
    incoming frame -/
example :
    sessionI exClient [.feed [0x89, 0x06, 0x61, 0x62], .enc (.pong [0x61]), .enc (.text [0x68] 0 none), .feed [0x63, 0x64, 0x65, 0x66]] =
      [(9, some [0x61, 0x62, 0x63, 0x64, 0x65, 0x66, 0], 6)] ∧
    ((Enc.pong [0x61]).run (feed false exClient [0x89, 0x06, 0x61, 0x62]).1).frame = some [0x8A, 0x81, 1, 2, 3, 4, 0x60, 0] ∧
    ((Enc.pong [0x61]).run (feed false exClient [0x89, 0x06, 0x61, 0x62]).1).ws.maskKey = [0, 0, 0, 0] ∧
    NoDraw exClient := by
  refine ⟨?_, ?_, ?_, Or.inl ?_⟩ <;> decide

/-- RFC 6455 5.2: a reserved bit is set ⇒ PROTOCOL_ERROR, stream invalid. -/
theorem reserved_bits (ws : WS) (b : UInt8) (rest : List UInt8) (hv : ws.validity ≠ 0) (hs : ws.step = 0)
    (hb : rsvBits b ≠ 0) : Rejected (decode false ws (b :: rest)) (-1) :=
  rejected_of_trip hv (by rw [iter_start _ _ _ hs, stepStart_eq, if_pos ⟨hv, .inl hb⟩])

/-- RFC 6455 5.2: unknown opcode ⇒ PROTOCOL_ERROR, stream invalid. -/
theorem unknown_opcode (ws : WS) (b : UInt8) (rest : List UInt8) (hv : ws.validity ≠ 0) (hs : ws.step = 0)
    (hb : opcodeOf b ≠ 0 ∧ opcodeOf b ≠ 1 ∧ opcodeOf b ≠ 2 ∧ opcodeOf b ≠ 8 ∧ opcodeOf b ≠ 9 ∧ opcodeOf b ≠ 10) :
    Rejected (decode false ws (b :: rest)) (-1) :=
  rejected_of_trip hv (by rw [iter_start _ _ _ hs, stepStart_eq, if_pos ⟨hv, .inr (.inr (.inr (.inr hb)))⟩])

/-- RFC 6455 5.4 / 5.5: a fragmented control frame ⇒ PROTOCOL_ERROR, stream invalid. -/
theorem fragmented_control (ws : WS) (b : UInt8) (rest : List UInt8) (hv : ws.validity ≠ 0) (hs : ws.step = 0)
    (hop : opcodeOf b = 8 ∨ opcodeOf b = 9 ∨ opcodeOf b = 10) (hfin : finBit b = false) :
    Rejected (decode false ws (b :: rest)) (-1) :=
  rejected_of_trip hv (by rw [iter_start _ _ _ hs, stepStart_eq, if_pos ⟨hv, .inr (.inr (.inr (.inl ⟨hop, hfin⟩)))⟩])

/-- RFC 6455 5.4 / 5.5.1: continuation without a started message, a new data frame inside a
    fragmented message, any data frame after a close frame ⇒ PROTOCOL_ERROR, stream invalid. -/
theorem bad_frame_sequence (ws : WS) (b : UInt8) (rest : List UInt8) (hv : ws.validity ≠ 0) (hs : ws.step = 0)
    (hseq : (opcodeOf b = 0 ∧ (ws.dataType = 0 ∨ ws.validity = 2)) ∨
            ((opcodeOf b = 1 ∨ opcodeOf b = 2) ∧ (ws.dataType ≠ 0 ∨ ws.validity = 2))) :
    Rejected (decode false ws (b :: rest)) (-1) :=
  rejected_of_trip hv (by
    rw [iter_start _ _ _ hs, stepStart_eq, if_pos ⟨hv, hseq.elim (fun h => .inr (.inl h)) (fun h => .inr (.inr (.inl h)))⟩])

/-- RFC 6455 5.1, 5.5, 5.5.1, second header byte: MASK bit wrong for the role (a server
    receives an unmasked frame, a client a masked one), control frame with a 16/64-bit
    length, close frame with one payload byte ⇒ PROTOCOL_ERROR, stream invalid. -/
theorem wrong_mask_or_control_length (ws : WS) (b h0 : UInt8) (rest : List UInt8) (hv : ws.validity ≠ 0)
    (hs : ws.step = 1) (hh : ws.hdr[0]? = some h0)
    (hbad : finBit b = ws.isClient ∨ (126 ≤ len7 b ∧ ctlBit h0 = true) ∨ (len7 b = 1 ∧ opcodeOf h0 = 8)) :
    Rejected (decode false ws (b :: rest)) (-1) :=
  rejected_of_trip hv (by rw [iter_len1 _ _ _ hs, stepLen1_eq hh, if_pos ⟨hv, hbad⟩])

/-- 7-bit length over the configured maximum ⇒ MAXIMUM_SIZE_EXCEEDED, stream invalid. -/
theorem over_max_7bit (ws : WS) (h : Inv ws) (b h0 : UInt8) (rest : List UInt8) (hv : ws.validity ≠ 0)
    (hs : ws.step = 1) (hh : ws.hdr[0]? = some h0)
    (hgood : finBit b ≠ ws.isClient ∧ (len7 b < 126) ∧ ¬ (len7 b = 1 ∧ opcodeOf h0 = 8))
    (hmax : ws.maxPayload ≠ 0 ∧ ws.maxPayload < len7 b) :
    Rejected (decode false ws (b :: rest)) (-5) := by
  have hb : ¬ (ws.validity ≠ 0 ∧ Len1Bad ws h0 b) := by
    rintro ⟨_, hb | hb | hb⟩
    · exact hgood.1 hb
    · omega
    · exact hgood.2.2 hb
  refine rejected_of_trip hv (w := pushed ws b) (c := 1009) (adv := 1) ?_
  rw [iter_len1 _ _ _ hs, stepLen1_eq hh, if_neg hb, if_pos h.push_lt, if_neg (by omega), if_neg (by omega)]
  exact sizeKnown_over hmax

/-- RFC 6455 5.2, 16-bit length (`lenField ws b 2` = the two bytes at `frame_header[2]` once
    `b` is stored): value ≤ 125 ⇒ PROTOCOL_ERROR; over the maximum ⇒ MAXIMUM_SIZE_EXCEEDED. -/
theorem length16 (ws : WS) (h : Inv ws) (b : UInt8) (rest : List UInt8) (hv : ws.validity ≠ 0) (hs : ws.step = 3) :
    (lenField ws b 2 ≤ 125 → Rejected (decode false ws (b :: rest)) (-1)) ∧
    (125 < lenField ws b 2 → ws.maxPayload ≠ 0 ∧ ws.maxPayload < lenField ws b 2 →
      Rejected (decode false ws (b :: rest)) (-5)) := by
  have key := stepLen2of2_eq ws b
  rw [if_pos (h.push_ext 2 (by omega)), ← iter_len2of2 _ _ rest hs] at key
  exact ⟨fun hl => rejected_of_trip hv (by rw [key, if_pos hl]),
    fun hg hm => rejected_of_trip hv (by rw [key, if_neg (by omega)]; exact sizeKnown_over hm)⟩

/-- RFC 6455 5.2, 64-bit length: most significant bit set or value ≤ 65535 ⇒ PROTOCOL_ERROR;
    over the maximum ⇒ MAXIMUM_SIZE_EXCEEDED. -/
theorem length64 (ws : WS) (h : Inv ws) (b : UInt8) (rest : List UInt8) (hv : ws.validity ≠ 0) (hs : ws.step = 11) :
    (0x7fffffffffffffff < lenField ws b 8 → Rejected (decode false ws (b :: rest)) (-1)) ∧
    (lenField ws b 8 ≤ 65535 → Rejected (decode false ws (b :: rest)) (-1)) ∧
    (65535 < lenField ws b 8 → lenField ws b 8 ≤ 0x7fffffffffffffff →
      ws.maxPayload ≠ 0 ∧ ws.maxPayload < lenField ws b 8 → Rejected (decode false ws (b :: rest)) (-5)) := by
  have key := stepLen8of8_eq ws b
  rw [if_pos (h.push_ext 8 (by omega)), ← iter_len8of8 _ _ rest hs] at key
  exact ⟨fun hl => rejected_of_trip hv (by rw [key, if_pos hl]),
    fun hl => rejected_of_trip hv (by rw [key, if_neg (by omega), if_pos hl]),
    fun hg hl hm => rejected_of_trip hv (by rw [key, if_neg (by omega), if_neg (by omega)]; exact sizeKnown_over hm)⟩

/-- a continuation frame that makes the assembled message larger than the maximum
    ⇒ MAXIMUM_SIZE_EXCEEDED (whatever the next buffer is, even an empty one). -/
theorem over_max_continuation (ws : WS) (h0 : UInt8) (buf : List UInt8) (hv : ws.validity ≠ 0) (hs : ws.step = 16)
    (hh : ws.hdr[0]? = some h0) (hop : opcodeOf h0 = 0)
    (hmax : ws.maxPayload ≠ 0 ∧ ws.maxPayload < (ws.payloadSize + ws.dataSize) % W) :
    Rejected (decode false ws buf) (-5) := by
  rw [err_cont_max ws h0 buf hv hs hh hop hmax]; exact rejected_errRet _ _ _ _

/-- RFC 6455 8.1: an invalid byte in the (unmasked) payload of a text message is answered with
    UTF8_ENCODING_ERROR in the very call that delivers it, wherever the chunk boundaries are:
    `ws` is any state inside a text payload, `ws.dataUtf8` the validator state left by the
    previous chunks. -/
theorem invalid_utf8_text (ws : WS) (h : Inv ws) (hv : ws.validity ≠ 0) (hs : ws.step = 17) (hd : ws.dataType = 1)
    (rest : List UInt8) (o : Nat)
    (hbad : checkUtf8 (copyPayload (rest.take (min (ws.payloadSize - ws.payloadIndex) rest.length)) ws.maskKey
              (ws.payloadIndex % 4)) ws.dataUtf8 0 = .invalid o) :
    Rejected (decode false ws rest) (-6) := by
  rw [← List.take_eq_take_min] at hbad
  have hne : rest ≠ [] := by intro hn; subst hn; simp [copyPayload, xorMask, checkUtf8] at hbad
  obtain ⟨h0, hh0, _⟩ := h.h0 (by omega) (by omega)
  apply rejected_of_iter hne hv
  rw [iter_payload _ _ hne (Or.inl hs), stepPayload_eq h (Or.inl hs)]
  refine payTrip_invalid h0 hh0 ((if_pos hs).mpr hd) _ o ?_
  rw [show skipOf ws = 0 from if_pos hs, List.drop_zero, show regOf ws = ws.dataUtf8 from if_pos hs]
  exact hbad

/-- … and in the reason of a close frame (bytes from offset 2 of the payload on). -/
theorem invalid_utf8_close (ws : WS) (h : Inv ws) (hv : ws.validity ≠ 0) (hs : ws.step = 18) (h0 : UInt8)
    (hh : ws.hdr[0]? = some h0) (hop : opcodeOf h0 = 8) (rest : List UInt8) (o : Nat)
    (h2 : 2 < ws.payloadIndex + min (ws.payloadSize - ws.payloadIndex) rest.length)
    (hbad : checkUtf8 ((copyPayload (rest.take (min (ws.payloadSize - ws.payloadIndex) rest.length)) ws.maskKey
              (ws.payloadIndex % 4)).drop (2 - ws.payloadIndex)) ws.ctrlUtf8 0 = .invalid o) :
    Rejected (decode false ws rest) (-6) := by
  rw [← List.take_eq_take_min] at hbad
  have h17 : ¬ ws.step = 17 := by omega
  have hne : rest ≠ [] := by intro hn; subst hn; simp [copyPayload, xorMask, checkUtf8] at hbad
  apply rejected_of_iter hne hv
  rw [iter_payload _ _ hne (Or.inr hs), stepPayload_eq h (Or.inr hs)]
  refine payTrip_invalid h0 hh ((if_neg h17).mpr hop) _ o ?_
  rw [show skipOf ws = 2 - ws.payloadIndex from if_neg h17, show regOf ws = ws.ctrlUtf8 from if_neg h17]
  exact hbad

/-- a text message that ends inside a UTF-8 sequence (code after F7c). -/
theorem truncated_utf8_text (ws : WS) (h : Inv ws) (hv : ws.validity ≠ 0) (hs : ws.step = 17) (hd : ws.dataType = 1)
    (h0 : UInt8) (hh : ws.hdr[0]? = some h0) (hfin : finBit h0 = true) (rest : List UInt8) (hne : rest ≠ [])
    (hk : ws.payloadSize - ws.payloadIndex ≤ rest.length) (s : Nat)
    (hck : checkUtf8 (copyPayload (rest.take (ws.payloadSize - ws.payloadIndex)) ws.maskKey (ws.payloadIndex % 4))
             ws.dataUtf8 0 = .ok s) (hs0 : s ≠ 0) :
    Rejected (decode false ws rest) (-6) := by
  have hidx := h.idx
  apply rejected_of_iter hne hv
  rw [iter_payload _ _ hne (Or.inl hs), stepPayload_eq h (Or.inl hs)]
  refine payTrip_truncated h0 hh hfin (Or.inl hs) ((if_pos hs).mpr hd) _
    (by rw [copyPayload_length, List.length_take]; omega) s ?_ hs0
  rw [show skipOf ws = 0 from if_pos hs, List.drop_zero, show regOf ws = ws.dataUtf8 from if_pos hs]
  exact hck

/-- a close reason that ends inside a UTF-8 sequence (code after F7c). -/
theorem truncated_utf8_close (ws : WS) (h : Inv ws) (hv : ws.validity ≠ 0) (hs : ws.step = 18)
    (h0 : UInt8) (hh : ws.hdr[0]? = some h0) (hop : opcodeOf h0 = 8) (rest : List UInt8)
    (hk : ws.payloadSize - ws.payloadIndex ≤ rest.length) (hk0 : ws.payloadSize - ws.payloadIndex ≠ 0)
    (h2 : 2 < ws.payloadSize) (s : Nat)
    (hck : checkUtf8 ((copyPayload (rest.take (ws.payloadSize - ws.payloadIndex)) ws.maskKey (ws.payloadIndex % 4)).drop
             (2 - ws.payloadIndex)) ws.ctrlUtf8 0 = .ok s) (hs0 : s ≠ 0) :
    Rejected (decode false ws rest) (-6) := by
  have hidx := h.idx
  have h17 : ¬ ws.step = 17 := by omega
  have hne : rest ≠ [] := by intro hn; subst hn; simp at hk; omega
  obtain ⟨h0', hh0', hfinc⟩ := h.h0 (by omega) (by omega)
  cases hh.symm.trans hh0'
  apply rejected_of_iter hne hv
  rw [iter_payload _ _ hne (Or.inr hs), stepPayload_eq h (Or.inr hs)]
  refine payTrip_truncated h0 hh (hfinc.2 (by omega)) (Or.inr hs) ((if_neg h17).mpr hop) _
    (by rw [copyPayload_length, List.length_take]; omega) s ?_ hs0
  rw [show skipOf ws = 2 - ws.payloadIndex from if_neg h17, show regOf ws = ws.ctrlUtf8 from if_neg h17]
  exact hck

/-- non-vacuity of the state hypotheses of (iii): the states named there are reached from a
    fresh stream by ordinary header bytes (server role; `[0x82, 0xFE, 0x00]` = binary frame,
    masked, 16-bit length whose first byte is 0 — the next byte `0x7D` makes it non-minimal) -/
example : (feed false ws0 [0x82, 0xFE, 0x00]).2.2 = .consumed ∧ (feed false ws0 [0x82, 0xFE, 0x00]).1.step = 3 ∧
    (feed false ws0 [0x82, 0xFE, 0x00]).1.validity ≠ 0 ∧ lenField (feed false ws0 [0x82, 0xFE, 0x00]).1 0x7D 2 ≤ 125 := by
  refine ⟨?_, ?_, ?_, ?_⟩ <;> decide

example : Rejected (decode false ws0 [0xC1]) (-1) :=
  reserved_bits _ _ _ (by decide) (by decide) (by decide)

/-- F7 (mhd_websocket.c:1225–1247 before the fix): the same close frame decodes in one call but
    faults (the UTF-8 check runs past the payload allocation: `bytes_to_check = bytes_to_take -
    utf8_start` wraps around) when its reason arrives in pieces — split dependence and an
    out-of-bounds read. -/
theorem F7_witness :
    (feed true ws0 [0x88, 0x87, 1, 2, 3, 4, 0x02, 0xea, 0x61, 0x7d, 0x64, 0x23, 0x22]).2.2 = .consumed ∧
    sessionG true ws0 [[0x88, 0x87, 1, 2, 3, 4, 0x02, 0xea, 0x61, 0x7d, 0x64, 0x23, 0x22]] =
      [(8, some [0x03, 0xe8, 0x62, 0x79, 0x65, 0x21, 0x21, 0], 7)] ∧
    (feed true (feed true ws0 [0x88, 0x87, 1, 2, 3, 4, 0x02, 0xea, 0x61]).1 [0x7d]).2.2 =
      .fault "UTF-8 check reads outside the payload allocation" := by decide

/-- F7c (before the fix): a text message that ends inside a UTF-8 sequence (`C3`) is handed to
    the application as a valid text frame, and the stale validator state makes the next,
    valid message (`"A"`) fail. -/
theorem F7c_witness :
    sessionG true ws0 [[0x81, 0x81, 0, 0, 0, 0, 0xC3], [0x81, 0x81, 0, 0, 0, 0, 0x41]] =
      [(1, some [0xC3, 0], 1), (-6, none, 0)] ∧
    session ws0 [[0x81, 0x81, 0, 0, 0, 0, 0xC3], [0x81, 0x81, 0, 0, 0, 0, 0x41]] = [(-6, none, 0)] := by decide

end Mhd.C19
