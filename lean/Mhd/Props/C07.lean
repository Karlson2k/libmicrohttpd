/-
  C07 — Socket and allocation failures never corrupt, duplicate or wedge.

  Model: `Mhd.Model.Send` (mhd_send.c: MHD_send_data_, MHD_send_hdr_and_body_,
  MHD_send_iovec_/send_iov_nontls, MHD_send_sendfile_, the errno mapping;
  connection.c: recv_param_adapter) and `Mhd.Model.SendConn` (connection.c:
  MHD_connection_handle_write, the reply states of MHD_connection_handle_idle,
  try_ready_normal_body, try_ready_chunked_body, check_write_done; the upload path of
  MHD_connection_handle_read / process_request_body).

  `stream r` is the reply stream `R` = header ++ body (or ++ chunk frames ++ footer);
  `c.out` is what the socket took so far; `pending r c` is what the offsets of the
  connection say is still to be sent.  A fault script is a list of `Round`s: for every turn
  of the event loop the answer of the operating system to the (at most two) system calls,
  the answers of the content reader and of the allocator, and whether the socket was
  write-ready at all.  All theorems quantify over every reply description `r` satisfying
  `WF`, every fault script of any length, every answer in it.

  The close path (MHD_connection_close_, connection_reset, cleanup_connection) is modelled by the
  record `Conn.bk : Bk`: the flags the three functions test and clear (`client_aware`,
  `rp.response ≠ NULL`, `pool ≠ NULL`, `in_cleanup`) and ghost counters of what they did
  (completion notifications with their code, response references dropped, pools destroyed /
  reset, insertions into the clean-up list).

  Where a statement is an instance of a more general lemma of `Mhd.Proofs.Send*` its proof is that instance;
  where it is the natural statement itself, the proof stands here.
-/
import Mhd.Proofs.SendProgress
import Mhd.Proofs.SendUp
import Mhd.Proofs.SendClose
import Mhd.Proofs.SendCont

namespace Mhd.C07
open Mhd.Send Mhd.Gen.Send

/-- The invariant `delivered ++ pending(offsets) = R` (plus the representation facts it
    rests on: offsets inside the write buffer, the iovec tracker in step with the body
    position, no out-of-range access) is preserved by every round with every answer of
    the socket, the content reader and the allocator. -/
theorem round_inv (r : Resp) (hw : WF r) (c : Conn) (h : Inv r c) (x : Round) (hx : x.Legal) :
    Inv r (round r c x) :=
  Mhd.Send.round_inv hw h x hx

/-- For EVERY fault script: the bytes delivered to the client are a prefix of the reply
    stream — no gap, no duplication — and as long as the connection is not closed the
    rest of the stream is exactly what the offsets say is pending; no buffer access is out
    of range.  (`allocStart` = does build_header_response get its memory.) -/
theorem delivered_prefix (r : Resp) (hw : WF r) (allocStart : Bool) (xs : List Round)
    (hx : ∀ x ∈ xs, x.Legal) :
    let c := run r (startReply r allocStart) xs
    c.out <+: stream r ∧ c.fault = false ∧ (c.st ≠ .closed → c.out ++ pending r c = stream r) := by
  have h := run_inv hw xs (startReply r allocStart) (start_inv hw allocStart) hx
  exact ⟨h.pfx, h.nofault, h.eqn⟩

/-- When the reply is complete, exactly `R` has been delivered — whatever faults happened
    on the way. -/
theorem done_delivers_all (r : Resp) (hw : WF r) (allocStart : Bool) (xs : List Round)
    (hx : ∀ x ∈ xs, x.Legal) (hd : (run r (startReply r allocStart) xs).st = .done) :
    (run r (startReply r allocStart) xs).out = stream r :=
  (run_inv hw xs (startReply r allocStart) (start_inv hw allocStart) hx).done_out hd

/-- Transient faults alone (short counts, EAGAIN, EINTR, a content reader that is not ready,
    rounds in which the socket is not writable) never close the connection … -/
theorem transient_never_closes (r : Resp) (hw : WFp r) (xs : List Round) (hx : ∀ x ∈ xs, x.transient) :
    (run r (startReply r true) xs).st ≠ .closed :=
  (run_progress hw xs _ (start_inv hw.wf true) nofun hx).1

/-- … and never change what is finally delivered: every productive round (socket writable and
    taking data, content reader ready) strictly decreases the measure `mu` (eight units per
    byte still to deliver plus the rank of the state), every other transient round leaves it
    unchanged or smaller; so a script with more than `8 * |R|` productive rounds — however
    they are interleaved with transient failures — ends with the reply complete and exactly
    `R` delivered. -/
theorem transient_delivers_all (r : Resp) (hw : WFp r) (xs : List Round) (hx : ∀ x ∈ xs, x.transient)
    (hn : 8 * (stream r).length < countGood xs) :
    (run r (startReply r true) xs).st = .done ∧ (run r (startReply r true) xs).out = stream r := by
  have hp := run_progress hw xs _ (start_inv hw.wf true) nofun hx
  have hd : (run r (startReply r true) xs).st = .done := by
    rcases hp.2 with hd | hm
    · exact hd
    · rw [mu_start] at hm; omega
  exact ⟨hd, done_delivers_all r hw.wf true xs (fun x hxm => (hx x hxm).legal) hd⟩

/-- the measure itself: what is still owed after any transient-only script -/
theorem transient_measure (r : Resp) (hw : WFp r) (xs : List Round) (hx : ∀ x ∈ xs, x.transient) :
    (run r (startReply r true) xs).st = .done ∨
    mu r (run r (startReply r true) xs) + countGood xs ≤ 8 * (stream r).length := by
  have hp := run_progress hw xs _ (start_inv hw.wf true) nofun hx
  rw [mu_start] at hp
  exact hp.2

/-- After the connection has been closed (or the reply completed) nothing is ever sent
    again: every further round leaves the state and `out` unchanged; the only thing that may still
    happen is the (guarded, idempotent) `cleanup_connection` of the CLOSED case of the idle loop. -/
theorem closed_never_sends (r : Resp) (c : Conn) (h : c.st = .closed ∨ c.st = .done) (xs : List Round) :
    (run r c xs).st = c.st ∧ (run r c xs).out = c.out ∧ (run r c xs = c ∨ run r c xs = idleClosed c) := by
  rcases run_final (r := r) xs c h with e | e <;> rw [e]
  · exact ⟨rfl, rfl, Or.inl rfl⟩
  · exact ⟨idleClosed_st c, idleClosed_out c, Or.inr rfl⟩

/-- A permanent failure of the system call (`errno` not mapped to "again") closes the
    connection and nothing of that call reaches the wire — unless the round made no call at
    all, in which case the answer is irrelevant.  Standard senders; for sendfile see
    `sendfile_error_policy`. -/
theorem hard_error_closes (r : Resp) (c : Conn) (e : Errno) (he : Errno.isHard e) (hsf : c.sf = false)
    (x : Round) (hwr : x.wr = true) (hs1 : x.s1 = .err e) :
    ((round r c x).st = .closed ∧ (round r c x).out = c.out) ∨
    round r c x = round r c { x with s1 := .full } :=
  permanent_closes_aux e (by unfold Permanent; rw [if_neg (by rw [hsf]; exact fun h => nomatch h.2)]; exact he) x hwr hs1

/-- … and the sendfile sender: EBADF (the one errno `MHD_send_sendfile_` does not answer with a
    retry or the fall-back) closes the connection, nothing reaches the wire. -/
theorem sendfile_hard_error_closes (r : Resp) (c : Conn) (e : Errno) (he : Errno.isHardSendfile e)
    (hs : c.st = .normalBodyReady) (hsf : c.sf = true) (x : Round) (hwr : x.wr = true) (hs1 : x.s1 = .err e) :
    ((round r c x).st = .closed ∧ (round r c x).out = c.out) ∨
    round r c x = round r c { x with s1 := .full } :=
  permanent_closes_aux e (by unfold Permanent; rw [if_pos ⟨hs, hsf⟩]; exact he) x hwr hs1

/-- sendfile(): EAGAIN/EINTR ⇒ retry later; EBADF ⇒ hard error; every other errno ⇒
    nothing sent, fall back to the standard sender and retry (mhd_send.c:1255-1279). -/
theorem sendfile_error_policy (t : Bool) (file : Bytes) (fdOff pos total : Nat) (e : Errno)
    (hoff : pos + fdOff ≤ off64Max) :
    let x := sendSendfile t file fdOff pos total (.err e)
    x.out.wire = [] ∧
    (if e.isEagain || e.isEintr then x.out.ret = .error .again ∧ x.sf = true
     else if e.isEbadf then x.out.ret = .error .badf
     else x.out.ret = .error .again ∧ x.sf = false) := by
  intro x
  have hx : x = _ := sendSendfile_err t file fdOff pos total e (Nat.not_lt.mpr hoff)
  rw [hx]
  cases e.isEagain <;> cases e.isEintr <;> cases e.isEbadf <;> first | exact ⟨rfl, rfl, rfl⟩ | exact ⟨rfl, rfl⟩

/-- Every allocation site of the reply path: a failing allocation closes the connection
    or was not needed in this round (the round ends exactly as with a successful one). -/
theorem alloc_failure_closes_or_unchanged (r : Resp) (c : Conn) (x : Round) :
    (round r c { x with allocW := false, allocI := false }).st = .closed ∨
    round r c { x with allocW := false, allocI := false } =
      round r c { x with allocW := true, allocI := true } := by
  unfold round
  refine handleIdle_alloc r x.appI ?_
  cases x.wr
  · exact Or.inr rfl
  · exact handleWrite_alloc r c x.s1 x.s2 x.appW

/-- … the header block cannot be built: closed before anything is sent. -/
theorem alloc_failure_at_start (r : Resp) :
    (startReply r false).st = .closed ∧ (startReply r false).out = [] := ⟨rfl, rfl⟩

/-- … the write buffer cannot be grown to the minimum a chunk needs: closed, nothing sent. -/
theorem alloc_failure_chunk_buffer (r : Resp) (c : Conn) (app : AppAns) (alloc : Bool)
    (hs : c.st = .chunkedBodyUnready) (h0 : ¬ (c.tot = 0 ∨ c.rp = c.tot)) (hb : r.wbSize < minChunkBuf) :
    (idleStep r c app alloc).st = .closed ∧ (idleStep r c app alloc).out = c.out := by
  rw [idleStep_cbUnready hs, if_neg h0, tryChunk_eq, if_pos hb]
  exact ⟨rfl, rfl⟩

/-- Uploads: for every script of receive results (short reads, EAGAIN, EINTR, errors, EOF)
    and every way the application consumes the data, the bytes handed to the application
    are a prefix of the request body, in order, without gap or duplication. -/
theorem upload_prefix (cap : Nat) (body rest : Bytes) (ops : List UpOp) :
    (upRun (upInit cap body rest) ops).handed <+: body :=
  (upRun_inv ops _ (upInit_inv cap body rest)).handed_prefix

/-- "No duplication or gap" over the whole life of a connection: for a keep-alive connection that
    serves any number of (pipelined) requests, each reply with its own fault script — short writes
    inside the header, inside a chunk header, between iovec elements, in the combined
    header+body send, after the sendfile fall-back, allocation failures, reader errors — the
    concatenation of ALL bytes the socket accepted is a prefix of the concatenation of the reply
    streams; a reply is started only after the previous one is complete. -/
theorem session_prefix (ss : List (Resp × Bool × List Round)) (hw : ∀ s ∈ ss, WF s.1)
    (hx : ∀ s ∈ ss, ∀ x ∈ s.2.2, x.Legal) :
    session ss <+: (ss.map (fun s => stream s.1)).flatten := by
  induction ss with
  | nil => exact List.prefix_refl _
  | cons s rest ih =>
    obtain ⟨r, a, xs⟩ := s
    have hwr : WF r := hw (r, a, xs) List.mem_cons_self
    have hinv := run_inv hwr xs (startReply r a) (start_inv hwr a) (hx (r, a, xs) List.mem_cons_self)
    have ih := ih (fun s hs => hw s (List.mem_cons_of_mem _ hs)) (fun s hs => hx s (List.mem_cons_of_mem _ hs))
    simp only [session, List.map_cons, List.flatten_cons]
    split
    · rename_i hd
      rw [hinv.done_out hd.1]
      exact (List.prefix_append_right_inj _).mpr ih
    · rw [List.append_nil]
      exact List.IsPrefix.trans hinv.pfx (List.prefix_append _ _)

/-- "Transient failures alone never change what is finally delivered", for unbounded repetition:
    take ANY infinite schedule `f` of transient rounds (EAGAIN, EINTR, short counts, reader not
    ready, socket not writable — in any interleaving, repeated without bound).
    FAIRNESS HYPOTHESIS (the only one): productive rounds keep coming — after every point of the
    schedule there is a later round in which the socket is writable, takes at least one byte and
    the reader is ready.  Then from some point on the reply is complete and exactly `R` has been
    delivered (and by `closed_never_sends` it stays that way). -/
theorem transient_fair_delivers_all (r : Resp) (hw : WFp r) (f : Nat → Round) (hx : ∀ n, (f n).transient)
    (fair : ∀ n, ∃ m, n ≤ m ∧ (f m).good) :
    ∃ N, ∀ n, N ≤ n →
      (run r (startReply r true) ((List.range n).map f)).st = .done ∧
      (run r (startReply r true) ((List.range n).map f)).out = stream r := by
  obtain ⟨N, hN⟩ := fair_count Round.good f fair (8 * (stream r).length + 1)
  refine ⟨N, fun n hn => ?_⟩
  exact transient_delivers_all r hw _ (fun x hxm => by
    obtain ⟨i, _, rfl⟩ := List.mem_map.mp hxm
    exact hx i) (hN n hn)

/-- Release exactly once, for EVERY fault script: while the reply is in progress nothing has been
    notified or released; after an error close there is exactly one completion notification
    (WITH_ERROR — or COMPLETED_OK when a reader of the `failEos` kind ended the body early by
    END_OF_STREAM, which is what try_ready_normal_body reports —) iff the request had been presented
    to the application, the response reference
    has been dropped exactly once, the pool destroyed exactly once, the connection inserted into
    the clean-up list at most once; after a completed reply one notification iff presented
    (COMPLETED_OK, or WITH_ERROR for an automatic error reply), the response reference dropped
    exactly once, the pool reset (keep-alive) or destroyed — exactly one of the two, once. -/
theorem release_exactly_once (r : Resp) (allocStart : Bool) (xs : List Round) :
    let c := run r (startReply r allocStart) xs
    (c.st ≠ .closed → c.st ≠ .done →
      c.bk.notes = [] ∧ c.bk.aware = r.aware ∧ c.bk.respHeld = true ∧ c.bk.respDrops = 0 ∧ c.bk.poolLive = true ∧
      c.bk.poolDestroys = 0 ∧ c.bk.poolResets = 0 ∧ c.bk.cstClosed = false ∧ c.bk.cleanups = 0 ∧ c.bk.inCleanup = false) ∧
    (c.st = .closed → ∃ t, (t = Term.withError ∨ (r.failEos = true ∧ t = Term.completedOk)) ∧
      c.bk.notes = (if r.aware then [t] else []) ∧ c.bk.aware = false ∧
      c.bk.respHeld = false ∧ c.bk.respDrops = 1 ∧ c.bk.poolLive = false ∧ c.bk.poolDestroys = 1 ∧
      c.bk.poolResets = 0 ∧ c.bk.cstClosed = true ∧ c.bk.cleanups = (if c.bk.inCleanup then 1 else 0)) ∧
    (c.st = .done →
      c.bk.notes.length = (if r.aware then 1 else 0) ∧
      (∀ t ∈ c.bk.notes, t = Term.completedOk ∨ (t = Term.withError ∧ r.stopErr = true ∧ r.reuse = false)) ∧
      c.bk.aware = false ∧ c.bk.respHeld = false ∧ c.bk.respDrops = 1 ∧
      c.bk.poolDestroys + c.bk.poolResets = 1 ∧ c.bk.poolLive = decide (c.bk.poolResets = 1) ∧
      c.bk.cstClosed = decide (c.bk.poolDestroys = 1) ∧
      c.bk.cleanups = (if c.bk.inCleanup then 1 else 0) ∧ (c.bk.inCleanup = true → c.bk.cstClosed = true)) := by
  have hb := run_book_inv xs _ (start_book r allocStart)
  exact ⟨fun h1 h2 => hb.live_counts (fun hf => hf.elim h1 h2), hb.closed_counts, hb.done_counts⟩

/-- After a permanent failure of a socket call — in ANY state of the reply, after ANY history of
    faults — the connection is closed, nothing of that call reaches the wire, completion is
    notified exactly once (iff the request was presented to the application), the response
    reference is dropped exactly once, the pool is destroyed exactly once, the connection is
    put on the clean-up list exactly once; and whatever rounds `ys` follow change none of this:
    no further byte is sent.  (Or the round made no system call at all, then the answer is
    irrelevant.)  `Permanent c e`: what the code treats as permanent in state `c` — for the
    sendfile sender only EBADF (`sendfile_error_policy`), for the standard senders every errno not
    mapped to "try again" (ECONNRESET, EPIPE, ENOTCONN, EINVAL, ENOMEM, EBADF, …). -/
theorem permanent_failure_releases_once (r : Resp) (allocStart : Bool) (xs : List Round) (x : Round)
    (e : Errno) (hwr : x.wr = true) (hs1 : x.s1 = .err e) (ys : List Round)
    (he : Permanent (run r (startReply r allocStart) xs) e) :
    let c := run r (startReply r allocStart) xs
    let c' := run r (round r c x) ys
    round r c x = round r c { x with s1 := .full } ∨
    (c'.st = .closed ∧ c'.out = c.out ∧
     (∃ t, (t = Term.withError ∨ (r.failEos = true ∧ t = Term.completedOk)) ∧
           c'.bk.notes = (if r.aware then [t] else [])) ∧ c'.bk.aware = false ∧
     c'.bk.respHeld = false ∧ c'.bk.respDrops = 1 ∧ c'.bk.poolLive = false ∧ c'.bk.poolDestroys = 1 ∧
     c'.bk.poolResets = 0 ∧ c'.bk.inCleanup = true ∧ c'.bk.cleanups = 1) := by
  intro c c'
  rcases permanent_closes_aux (r := r) (c := c) e he x hwr hs1 with ⟨hst, hout⟩ | hsame
  · right
    obtain ⟨t, ht, hbk⟩ := round_closed_bk (run_book_inv xs _ (start_book r allocStart)) x hst
    -- the clean-up has run: the rounds `ys` change nothing
    have hc' : c' = round r c x := run_settled ys _ (Or.inl hst) (settled_of_fin (round_bk_fin r c x))
    rw [hc']
    refine ⟨hst, hout, ⟨t, term_cases ht, ?_⟩, ?_⟩ <;> rw [hbk] <;> cases r.aware <;> cases t <;> decide
  · left; exact hsame

/-- A content reader that ends the body before the declared size (known size, no chunking) —
    by MHD_CONTENT_READER_END_WITH_ERROR, or prematurely by MHD_CONTENT_READER_END_OF_STREAM
    (`r.failEos`) —: try_ready_normal_body closes the connection at once, sends nothing more, records
    the position reached as the size, and reports WITH_ERROR resp. COMPLETED_OK (the code's choice
    for END_OF_STREAM); the response reference and the pool go exactly once (`Bk.close`). -/
theorem reader_failure_closes (r : Resp) (c : Conn) (alloc : Bool) (hk : r.kind = .callback)
    (h0 : ¬ (c.tot = 0 ∨ c.rp = c.tot)) (hwin : ¬ (c.ds ≤ c.rp ∧ c.rp < c.dz + c.ds)) (hsf : c.sf = false) :
    let c' := (tryReadyNormalBody r c .err alloc).1
    (tryReadyNormalBody r c .err alloc).2 = false ∧ c'.st = .closed ∧ c'.out = c.out ∧ c'.tot = c.rp ∧
    c'.bk = c.bk.close (if r.failEos then Term.completedOk else Term.withError) := by
  have hsf' : ¬ c.sf = true := by rw [hsf]; decide
  simp only [tryReadyNormalBody, h0, hk, hwin, hsf', if_false, crcCall]
  exact ⟨rfl, rfl, rfl, rfl, rfl⟩

/-- A reply that ended without delivering the whole announced stream (Content-Length not met: reader
    failure, premature END_OF_STREAM, permanent socket error, allocation failure) is NEVER followed
    by a kept-alive connection: the only final state with less than `R` on the wire is `closed`,
    whose C state is CLOSED, pool destroyed, never reset for a next request (`session` starts no
    further reply); and what was delivered is a prefix of header ++ content. -/
theorem truncated_reply_never_kept (r : Resp) (hw : WF r) (allocStart : Bool) (xs : List Round)
    (hx : ∀ x ∈ xs, x.Legal) :
    let c := run r (startReply r allocStart) xs
    (c.st = .closed ∨ c.st = .done) → c.out ≠ stream r →
    c.st = .closed ∧ c.out <+: stream r ∧ c.bk.cstClosed = true ∧ c.bk.poolLive = false ∧
    c.bk.poolDestroys = 1 ∧ c.bk.poolResets = 0 ∧ c.bk.respDrops = 1 ∧
    c.bk.notes.length = (if r.aware then 1 else 0) := by
  intro c hfin hne
  have hinv := run_inv hw xs (startReply r allocStart) (start_inv hw allocStart) hx
  have hcl : c.st = .closed := by
    rcases hfin with h | h
    · exact h
    · exact absurd (done_delivers_all r hw allocStart xs hx h) hne
  obtain ⟨t, _, h1, _, _, h4, h5, h6, h7, h8, _⟩ := (run_book_inv xs _ (start_book r allocStart)).closed_counts hcl
  refine ⟨hcl, hinv.pfx, h8, h5, h6, h7, h4, ?_⟩
  show (run r (startReply r allocStart) xs).bk.notes.length = _
  rw [h1]; cases r.aware <;> rfl

/-- Uploads, completion: when nothing of the body remains to be processed, the application has
    received exactly the body — whatever short reads, EAGAIN, EINTR happened on the way. -/
theorem upload_complete (cap : Nat) (body rest : Bytes) (ops : List UpOp)
    (h0 : (upRun (upInit cap body rest) ops).remaining = 0) :
    (upRun (upInit cap body rest) ops).handed = body :=
  (upRun_inv ops _ (upInit_inv cap body rest)).complete h0

/-- Uploads: EAGAIN / EINTR on `recv` change nothing at all … -/
theorem upload_transient_unchanged (u : Up) (e : Errno) (h : (e.isEagain || e.isEintr) = true) :
    upRead u (.err e) = u := by
  have hm : mapRecvErr e = .again := by
    unfold mapRecvErr
    cases h1 : e.isEagain
    · have h2 : e.isEintr = true := by simpa [h1] using h
      simp [h2]
    · simp
  unfold upRead recvAdapter
  simp only [hm, Bool.false_eq_true, if_false]
  split
  · rfl
  · split <;> rfl

/-- … a permanent receive error (reset, …) or the end of the stream closes the read side, and
    after that nothing more is ever handed to the application. -/
theorem upload_closed_stops (u : Up) (h : u.closed = true) (ops : List UpOp) : upRun u ops = u := by
  induction ops with
  | nil => rfl
  | cons op ops ih =>
    have e : upStep u op = u := by
      cases op with
      | read r => simp [upStep, upRead, h]
      | process t => simp [upStep, upProcess, h]
    show upRun (upStep u op) ops = u
    rw [e]
    exact ih

theorem upload_hard_error_closes (u : Up) (e : Errno) (he : mapRecvErr e ≠ .again) (hc : u.closed = false)
    (hsp : u.cap ≠ u.buf.length) :
    (upRead u (.err e)).closed = true ∧ (upRead u (.err e)).handed = u.handed := by
  unfold upRead recvAdapter
  simp only [hc, Bool.false_eq_true, if_false, hsp]
  cases hm : mapRecvErr e <;> first | exact absurd hm he | simp

/-! The interim "100 Continue" message (CONTINUE_SENDING) is a send phase of its own,
  `Mhd.Model.SendCont`: handle_write sends the rest of the message from the ACCUMULATED offset
  `continue_message_write_offset`, handle_idle switches to BODY_RECEIVING when the accumulated offset
  equals the length.  The reply stream of an `Expect: 100-continue` exchange whose body is held
  back is  interim message ++ final reply. -/

/-- For EVERY fault script of the interim phase: what the socket took is a prefix of the interim
    message — exactly the part before the accumulated offset —, no access behind the message; and
    when the connection has moved on to BODY_RECEIVING exactly the message has been delivered. -/
theorem interim_delivered_prefix (cs : List CRound) :
    let c := contRun contInit cs
    c.out <+: http100Continue ∧ c.fault = false ∧ c.off ≤ http100Continue.length ∧
    (c.st ≠ .closed → c.out = http100Continue.take c.off) ∧
    (c.st = .bodyReceiving → c.out = http100Continue) ∧
    (c.st = .continueSending → c.off < http100Continue.length) := by
  have h := contRun_inv cs contInit contInit_inv
  exact ⟨h.pfx, h.nofault, h.le, h.out, h.complete, h.sending⟩

/-- Transient faults (every short count, EAGAIN, EINTR, socket not writable) never close the
    connection in the interim phase … -/
theorem interim_transient_never_closes (cs : List CRound) (hx : ∀ x ∈ cs, x.transient) :
    (contRun contInit cs).st ≠ .closed :=
  (contRun_progress cs contInit contInit_inv (by decide) hx).1

/-- … and never wedge it: every productive round moves the accumulated offset, so after more than
    `|message| + 1` productive rounds — however interleaved with failures — the connection is in
    BODY_RECEIVING and exactly the message went out. -/
theorem interim_transient_delivers_all (cs : List CRound) (hx : ∀ x ∈ cs, x.transient)
    (hn : http100Continue.length + 1 < countGoodC cs) :
    (contRun contInit cs).st = .bodyReceiving ∧ (contRun contInit cs).out = http100Continue := by
  have hp := contRun_progress cs contInit contInit_inv (by decide) hx
  have hb : (contRun contInit cs).st = .bodyReceiving := by
    rcases hp.2 with h | h
    · exact h
    · rw [cmu_init] at h; omega
  exact ⟨hb, (contRun_inv cs contInit contInit_inv).complete hb⟩

/-- the same for an infinite fair schedule (fairness: productive rounds keep coming) -/
theorem interim_fair_completes (f : Nat → CRound) (hx : ∀ n, (f n).transient)
    (fair : ∀ n, ∃ m, n ≤ m ∧ (f m).good) :
    ∃ N, ∀ n, N ≤ n → (contRun contInit ((List.range n).map f)).st = .bodyReceiving ∧
                      (contRun contInit ((List.range n).map f)).out = http100Continue := by
  obtain ⟨N, hN⟩ := fair_count CRound.good f fair (http100Continue.length + 2)
  refine ⟨N, fun n hn => ?_⟩
  exact interim_transient_delivers_all _ (fun x hxm => by
    obtain ⟨i, _, rfl⟩ := List.mem_map.mp hxm
    exact hx i) (hN n hn)

/-- a permanent error in the interim phase closes the connection, nothing of that call is sent,
    and the final reply is never started (`exchangeOut`) -/
theorem interim_hard_error_closes (c : Cont) (hs : c.st = .continueSending) (hle : c.off ≤ http100Continue.length)
    (e : Errno) (he : Errno.isHard e) :
    (contWrite c (.err e)).st = .closed ∧ (contWrite c (.err e)).out = c.out := by
  unfold contWrite
  rw [hs]
  simp only []
  rw [if_neg (Nat.not_lt.mpr hle), sendData_err]
  unfold Errno.isHard at he
  generalize mapSendErr e = m at he
  cases m
  case again => exact absurd rfl he
  all_goals exact ⟨rfl, List.append_nil _⟩

/-- The whole `Expect: 100-continue` exchange, for EVERY fault script of the interim phase and EVERY
    fault script of the final reply: the bytes delivered are a prefix of
    interim message ++ reply stream; the reply is started only after the complete interim message. -/
theorem exchange_delivered_prefix (r : Resp) (hw : WF r) (allocStart : Bool) (cs : List CRound) (xs : List Round)
    (hx : ∀ x ∈ xs, x.Legal) :
    exchangeOut r allocStart cs xs <+: http100Continue ++ stream r := by
  have hc := contRun_inv cs contInit contInit_inv
  have hr := run_inv hw xs (startReply r allocStart) (start_inv hw allocStart) hx
  unfold exchangeOut
  simp only []
  split
  · rename_i hb
    rw [hc.complete hb]
    exact (List.prefix_append_right_inj _).mpr hr.pfx
  · rw [List.append_nil]
    exact List.IsPrefix.trans hc.pfx (List.prefix_append _ _)

/-- Transient failures alone never change what such an exchange finally delivers: with fair
    schedules for both phases, from some point on exactly  interim message ++ R  has been delivered. -/
theorem exchange_fair_delivers_all (r : Resp) (hw : WFp r) (f : Nat → CRound) (g : Nat → Round)
    (hf : ∀ n, (f n).transient) (hg : ∀ n, (g n).transient)
    (fairf : ∀ n, ∃ m, n ≤ m ∧ (f m).good) (fairg : ∀ n, ∃ m, n ≤ m ∧ (g m).good) :
    ∃ N M, ∀ n m, N ≤ n → M ≤ m →
      exchangeOut r true ((List.range n).map f) ((List.range m).map g) = http100Continue ++ stream r := by
  obtain ⟨N, hN⟩ := interim_fair_completes f hf fairf
  obtain ⟨M, hM⟩ := transient_fair_delivers_all r hw g hg fairg
  refine ⟨N, M, fun n m hn hm => ?_⟩
  unfold exchangeOut
  simp only []
  rw [if_pos (hN n hn).1, (hN n hn).2, (hM m hm).2]

/-- a chunked reply from a content reader, 7 body bytes, chunks of at most 3 -/
def exResp : Resp :=
  { hdr := [72, 84, 84, 80, 13, 10, 13, 10], body := [1, 2, 3, 4, 5, 6, 7], kind := .callback, iov := [],
    sizeKnown := false, chunked := true, sendBody := true, footer := [48, 13, 10, 13, 10],
    bufSize := 1024, wbSize := 32768, cbMax := 3, fdOff := 0, sendfile := false, thrPerConn := false,
    noVec := false, nonblk := true }

theorem exResp_wf : WF exResp :=
  ⟨by decide, by decide, by decide, by decide, by decide, by decide, by decide, by decide⟩

theorem exResp_wfp : WFp exResp :=
  ⟨exResp_wf, by decide, by decide, by decide, by decide⟩

set_option maxRecDepth 8192 in
/-- short writes, EAGAIN, EINTR and a reader that is not ready at first: the reply still
    arrives complete, and the hypotheses of the theorems above are satisfiable -/
example :
    let xs : List Round :=
      [{ s1 := .short 3 }, { s1 := .err .EAGAIN }, { s1 := .full, appI := .notReady }, { wr := false },
       { s1 := .short 2 }, { s1 := .err .EINTR }, { s1 := .full }, { s1 := .full }, { s1 := .full }, { s1 := .full }]
    (∀ x ∈ xs, x.Legal) ∧ (∀ x ∈ xs, x.transient) ∧ countGood xs = 6 ∧
    (run exResp (startReply exResp true) xs).st = .done ∧
    (run exResp (startReply exResp true) xs).out = stream exResp := by
  decide +kernel

/-- a connection reset in the middle: closed, a strict prefix was delivered -/
example :
    let c := run exResp (startReply exResp true) [{ s1 := .full }, { s1 := .short 4 }, { s1 := .err .ECONNRESET }, { s1 := .full }]
    c.st = .closed ∧ c.out.length = 12 ∧ c.out <+: stream exResp := by
  decide

example : Errno.isHard .ECONNRESET ∧ Errno.isHard .EPIPE ∧ ¬ Errno.isHard .EAGAIN ∧ ¬ Errno.isHard .EINTR := by decide

example : (upRun (upInit 8 [1, 2, 3, 4, 5] [9, 9])
    [.read (.data 2), .process 1, .read (.err .EAGAIN), .read (.data 100), .process 100]).handed = [1, 2, 3, 4, 5] := by
  decide

/-- a fair schedule with unbounded repetition of failures: every other round EAGAIN, the rounds in
    between take a single byte -/
def exFair (n : Nat) : Round := if n % 2 = 1 then { s1 := .short 1 } else { s1 := .err .EAGAIN }

example : (∀ n, (exFair n).transient) ∧ (∀ n, ∃ m, n ≤ m ∧ (exFair m).good) := by
  constructor
  · intro n; unfold exFair; split <;> decide
  · intro n
    refine ⟨2 * n + 1, by omega, ?_⟩
    have : (2 * n + 1) % 2 = 1 := by omega
    unfold exFair; rw [if_pos this]; decide

/-- a second reply (static buffer, keep-alive) for the session example -/
def exResp2 : Resp :=
  { hdr := [72, 84, 84, 80, 13, 10, 13, 10], body := [9, 8, 7], kind := .buffer, iov := [],
    sizeKnown := true, chunked := false, sendBody := true, footer := [48, 13, 10, 13, 10],
    bufSize := 1024, wbSize := 32768, cbMax := 0, fdOff := 0, sendfile := false, thrPerConn := false,
    noVec := false, nonblk := true }

set_option maxRecDepth 8192 in
/-- two pipelined replies: the first one complete in spite of a short header+body send, the second one
    reset inside its header: everything the socket took is a strict prefix of `R₁ ++ R₂` -/
example :
    let ss : List (Resp × Bool × List Round) :=
      [(exResp2, true, [{ s1 := .short 9 }, { s1 := .err .EINTR }, { s1 := .full }]),
       (exResp2, true, [{ s1 := .short 2 }, { s1 := .err .ECONNRESET }, { s1 := .full }])]
    session ss = stream exResp2 ++ [72, 84] ∧ (session ss).length = 13 := by
  decide

set_option maxRecDepth 8192 in
/-- a reset in the middle of a reply that the application knows about: closed, one WITH_ERROR
    notification, the response and the pool released once, one clean-up — and nothing moves later -/
example :
    let c := run exResp (startReply exResp true)
      [{ s1 := .full }, { s1 := .short 4 }, { s1 := .err .ECONNRESET }, { s1 := .full }, { s1 := .full }]
    c.st = .closed ∧ c.bk.notes = [Term.withError] ∧ c.bk.respDrops = 1 ∧ c.bk.poolDestroys = 1 ∧
    c.bk.cleanups = 1 ∧ c.bk.respHeld = false ∧ c.bk.poolLive = false := by
  decide

set_option maxRecDepth 8192 in
/-- a complete keep-alive reply: one COMPLETED_OK notification, the pool reset, not destroyed -/
example :
    let c := run exResp2 (startReply exResp2 true) [{ s1 := .full }, { s1 := .full }]
    c.st = .done ∧ c.bk.notes = [Term.completedOk] ∧ c.bk.respDrops = 1 ∧ c.bk.poolDestroys = 0 ∧
    c.bk.poolResets = 1 ∧ c.bk.cleanups = 0 := by
  decide

example : Permanent (run exResp (startReply exResp true) [{ s1 := .full }]) .ECONNRESET ∧
    Errno.isHardSendfile .EBADF ∧ ¬ Errno.isHardSendfile .EINVAL := by decide

example : (upRun (upInit 8 [1, 2, 3] []) [.read (.data 3), .process 3]).remaining = 0 := by decide

example : mapRecvErr .ECONNRESET ≠ .again ∧ ((Errno.EINTR).isEagain || (Errno.EINTR).isEintr) = true := by decide

/-- the interim message cut after 10 bytes, then EAGAIN, then the rest: BODY_RECEIVING is reached and
    exactly the message went out (the accumulated offset, not the count of one call, decides) -/
example :
    let cs : List CRound := [{ s := .short 10 }, { s := .err .EAGAIN }, { wr := false }, { s := .full }]
    (∀ x ∈ cs, x.transient) ∧ (contRun contInit cs).st = .bodyReceiving ∧
    (contRun contInit cs).out = http100Continue ∧ (contRun contInit cs).off = 25 := by decide

def exFairC (n : Nat) : CRound := if n % 2 = 1 then { s := .short 1 } else { s := .err .EINTR }

example : (∀ n, (exFairC n).transient) ∧ (∀ n, ∃ m, n ≤ m ∧ (exFairC m).good) := by
  constructor
  · intro n; unfold exFairC; split <;> decide
  · intro n
    refine ⟨2 * n + 1, by omega, ?_⟩
    have : (2 * n + 1) % 2 = 1 := by omega
    unfold exFairC; rw [if_pos this]; decide

set_option maxRecDepth 8192 in
/-- interim message in two pieces, then the final reply with a short combined header+body send -/
example :
    exchangeOut exResp2 true [{ s := .short 24 }, { s := .short 1 }] [{ s1 := .short 9 }, { s1 := .full }, { s1 := .full }]
      = http100Continue ++ stream exResp2 := by decide

/-- a reset inside the interim message: closed, the final reply is never started -/
example : exchangeOut exResp2 true [{ s := .short 7 }, { s := .err .ECONNRESET }] [{ s1 := .full }] = http100Continue.take 7 := by
  decide

/-- a known-size callback reply (7 bytes announced) whose reader ends by END_OF_STREAM too early -/
def exRespEos : Resp :=
  { hdr := [72, 84, 84, 80, 13, 10, 13, 10], body := [1, 2, 3, 4, 5, 6, 7], kind := .callback, iov := [],
    sizeKnown := true, chunked := false, sendBody := true, footer := [48, 13, 10, 13, 10],
    bufSize := 1024, wbSize := 32768, cbMax := 3, fdOff := 0, sendfile := false, thrPerConn := false,
    noVec := false, nonblk := true, failEos := true }

set_option maxRecDepth 8192 in
/-- three content bytes are sent, then the reader reports END_OF_STREAM: closed (never kept), a strict prefix of
    header ++ content delivered, one completion with the code the library chooses (COMPLETED_OK), response and
    pool released once; a pipelined follower is not served on that connection -/
example :
    let xs : List Round := [{ s1 := .full }, { s1 := .full }, { s1 := .full, appW := .err, appI := .err }, { s1 := .full }]
    let c := run exRespEos (startReply exRespEos true) xs
    c.st = .closed ∧ c.out = exRespEos.hdr ++ [1, 2, 3] ∧ c.out ≠ stream exRespEos ∧
    c.bk.notes = [Term.completedOk] ∧ c.bk.respDrops = 1 ∧ c.bk.poolDestroys = 1 ∧ c.bk.poolResets = 0 ∧
    session [(exRespEos, true, xs), (exResp2, true, [{ s1 := .full }])] = exRespEos.hdr ++ [1, 2, 3] := by
  decide

end Mhd.C07
