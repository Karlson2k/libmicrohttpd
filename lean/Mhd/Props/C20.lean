/-
  C20 — Protocol upgrade hands the byte stream over losslessly and cleans up once.

  Statements over the executable model `Mhd.Model.Upg` / `Mhd.Model.UpgDaemon` (non-TLS daemon,
  not thread-per-connection).  All theorems quantify over every history `ops : List Op` of the
  daemon: any number of connections, any client writes, event-loop rounds with ANY schedule
  (which connections are processed, how many bytes each recv / send moves), application actions
  on handed-over sockets, and MHD_stop_daemon at any point.  No bound on lengths or counts.

  The request-head parser and the bytes of ordinary replies are parameters (C02/C03/C04); the
  parser is only assumed prefix-stable where stated.

  The 101 head is not a fixed text: `head101` is C04's model of `build_header_response`
  (`Mhd.Reply.headSegs` after `setup_reply_properties`) applied to the response object the
  application built (`MHD_create_response_for_upgrade` + any legal sequence of
  MHD_add_response_header / MHD_del_response_header / MHD_set_response_options), see
  `head101_is_reply_builder`, `upgrade_head_connection_tokens`, `head101_explicit`.

  Thread-per-connection: the model has no thread identity; that the handle is released only after the connection's
  thread has left the upgrade handler and was joined (MHD_cleanup_connections) is covered by the tie only (gated
  upgrade handler in harness/h_upg.c, ASan), not by a theorem.

  TLS-upgraded connections: the forwarding layer (`process_urh`, the "finished forwarding" test,
  `clean_ready`, the close action, shutdown) is modelled in `Mhd.Model.UpgTls` as far as it is
  logic — buffers, fill levels, stop flags, readiness bits — with the record layer (GnuTLS) and the
  socketpair as environment: theorems `tls_*`.
-/
import Mhd.Proofs.UpgDaemon
import Mhd.Proofs.UpgHead
import Mhd.Proofs.UpgHead101
import Mhd.Proofs.UpgTlsClose

namespace Mhd.C20
open Mhd.Upg

/-- the daemon after any history of operations (connections arriving, client bytes, event-loop
    rounds with any schedule, application actions on handed-over sockets, stop) -/
def reach (base : Cfg) (behs : Nat → Nat → Beh) (ops : List Op) : Daemon :=
  run (Daemon.init base behs) ops

/-- one connection of it -/
def connOf (base : Cfg) (behs : Nat → Nat → Beh) (ops : List Op) (c : Nat) : Conn := (reach base behs ops).conn c

theorem reach_inv (base behs ops) : DInv (reach base behs ops) :=
  dinv_run _ ops (dinv_init base behs)

/-- the configuration and the applications' behaviours are parameters of a history: no operation changes them -/
theorem step_base (d : Daemon) (op : Op) : (step d op).base = d.base ∧ (step d op).behs = d.behs := by
  cases op with
  | clientSend c bs => exact ⟨rfl, rfl⟩
  | _ => simp only [step]; split <;> exact ⟨rfl, rfl⟩

theorem run_base (d : Daemon) (ops : List Op) : (run d ops).base = d.base ∧ (run d ops).behs = d.behs := by
  induction ops generalizing d with
  | nil => exact ⟨rfl, rfl⟩
  | cons op ops ih =>
    have a := ih (step d op)
    have b := step_base d op
    exact ⟨a.1.trans b.1, a.2.trans b.2⟩

/-- **Conservation, for every history and every partition into reads.**  At any time the bytes the
    client has written are exactly: the request heads the parser consumed, then what was handed
    to the application (the `extra` argument of the upgrade handler followed by the application's
    own reads from the socket, in log order), then the read window, then what is still in the
    socket — nothing lost, nothing duplicated, order kept.  After the hand-over the read window is
    empty (`read_buffer_offset = 0`), so every byte after the heads is either with the application
    or still in the socket. -/
theorem lossless_handover (base : Cfg) (behs : Nat → Nat → Beh) (ops : List Op) (c : Nat) :
    (connOf base behs ops c).heads.flatten ++ handedOf (connOf base behs ops c).log ++ (connOf base behs ops c).rbuf
      ++ (connOf base behs ops c).sockIn = (connOf base behs ops c).sent ∧
    (hasUpg (connOf base behs ops c).log = true → (connOf base behs ops c).rbuf = []) := by
  have h := ((reach_inv base behs ops).conns c).ci.logi
  refine ⟨?_, h.upg_rbuf⟩
  have := h.cons
  rw [h.handed_log] at this
  exact this

/-- **The head is found at the same place whatever the split.**  For a prefix-stable parser
    (C02) and a stream that starts with the request head `head`, the first head consumed on the
    connection is `head` itself — for every history, i.e. any number of reads at any positions. -/
theorem head_found_for_every_split (base : Cfg) (behs : Nat → Nat → Beh) (ops : List Op) (c : Nat)
    (head s : Bytes) (hs : PStable base.parser) (hh : IsHead base.parser head)
    (h1 : head <+: s) (h2 : (connOf base behs ops c).sent <+: s) :
    ∀ h0, (connOf base behs ops c).heads.head? = some h0 → h0 = head :=
  (Kept.run hdI_kept ops (dinv_init base behs) (fun _ => hdI_init _) c).first head s hh hs h1 h2

/-- **Every byte after the head reaches the application exactly once and in order.**  When the
    upgraded request is the first one on the connection (one head consumed), then after the
    hand-over: `extra ++ (application reads) ++ (bytes still in the socket)` is exactly what the
    client sent after the head. -/
theorem following_bytes_reach_application (base : Cfg) (behs : Nat → Nat → Beh) (ops : List Op) (c : Nat)
    (head : Bytes) (hs : PStable base.parser) (hh : IsHead base.parser head) :
    head <+: (connOf base behs ops c).sent → hasUpg (connOf base behs ops c).log = true →
    (connOf base behs ops c).heads.length = 1 →
    handedOf (connOf base behs ops c).log ++ (connOf base behs ops c).sockIn
      = (connOf base behs ops c).sent.drop head.length := by
  intro h1 hu hl
  obtain ⟨hc, hr⟩ := lossless_handover base behs ops c
  obtain ⟨h0, hx⟩ := List.length_eq_one_iff.mp hl
  have h0e : h0 = head :=
    head_found_for_every_split base behs ops c head _ hs hh h1 (List.prefix_refl _) h0 (by rw [hx]; rfl)
  rw [hx, hr hu, h0e] at hc
  rw [← hc]; simp

/-- **Wire accounting.**  Everything the daemon ever sent on the socket, plus what is still in its
    write buffer, is the concatenation of the replies it built; after the hand-over the write
    buffer is empty (the 101 head was sent completely before the upgrade handler ran). -/
theorem wire_accounting (base : Cfg) (behs : Nat → Nat → Beh) (ops : List Op) (c : Nat) :
    daemonWire (connOf base behs ops c).log ++ (connOf base behs ops c).wbuf = (connOf base behs ops c).outq.flatten ∧
    (hasUpg (connOf base behs ops c).log = true → (connOf base behs ops c).wbuf = []) := by
  have h := ((reach_inv base behs ops).conns c).ci.logi
  exact ⟨h.wire, h.upg_wbuf⟩

/-- **The client receives exactly the 101 reply head.**  For every history: once the upgrade handler
    has been called for response `rid`, all bytes the daemon has ever written to this client are
    the replies to the earlier requests of the connection (`pre`, empty when the upgraded request
    is the first) followed by exactly `head101` of that response — complete, nothing after it
    (`no_daemon_io_after_handover` excludes later writes, so this stays true for ever).
    `head101` is the reply builder of C04 applied to the response object with whatever flags and
    headers the application gave it (`head101_is_reply_builder`); what that is, byte for byte, for
    every object an application can build: `head101_explicit`, `upgrade_head_connection_tokens`. -/
theorem wire_is_head101 (base : Cfg) (behs : Nat → Nat → Beh) (ops : List Op) (c : Nat) (rid : Nat) (extra : Bytes)
    (h : Ev.upgrade rid extra ∈ (connOf base behs ops c).log) :
    ∃ pre : List Bytes, daemonWire (connOf base behs ops c).log = pre.flatten ++ head101 base (base.resp rid) := by
  have hl : LogI (connOf base behs ops c) := ((reach_inv base behs ops).conns c).ci.logi
  obtain ⟨pre, hpre⟩ : ∃ pre, (connOf base behs ops c).outq = pre ++ [head101 base (base.resp rid)] :=
    (Kept.run wi_kept ops (dinv_init base behs) (fun _ => wi_init _) c).c rid (mem_upgRids_of_mem h)
  have hwire := hl.wire
  rw [hl.upg_wbuf (hasUpg_of_mem h), List.append_nil, hpre, List.flatten_append] at hwire
  exact ⟨pre, hwire.trans (by simp)⟩

open Mhd.Resp Mhd.Reply in
/-- **`head101` is `build_header_response`** (C04's model, `icy = false`, the connection as the upgrade
    path leaves it): whenever the builder does not refuse for lack of write-buffer space its output
    is `head101`, and its keep-alive decision is the one of `setup_reply_properties`. -/
theorem head101_is_reply_builder (cfg : Cfg) (rs : Mhd.Upg.Resp) (bufSize : Nat) (out : Bytes)
    (h : (buildHeaderResponse (replyConn cfg) rs.obj rs.code false (some cfg.date) bufSize).2.2 = some out) :
    out = head101 cfg rs :=
  (headBytes_is_buildHeaderResponse (replyConn cfg) rs.obj rs.code cfg.date bufSize out h).1

open Mhd.Resp Mhd.Reply in
/-- **No automatic "Connection" tokens on an upgrade reply — for all response flags and all header
    call sequences.**  Let `r` be ANY response object obtained from `MHD_create_response_for_upgrade`
    by legal API calls (`cs`: add / delete headers incl. several "Connection" values in any case and
    order, footers, `MHD_set_response_options` with any flags except the insanity flag), queued with a
    1xx status on ANY connection (any HTTP version, method, early or late reply, any "Connection" tokens
    in the request, also a connection already forced to MUST_CLOSE by the request's framing: fix F37,
    cf. `Mhd.C04.upgrade_reply_no_close`).  Then
    * `setup_reply_properties` decides MUST_UPGRADE, no body, no body headers,
    * no automatic "Connection" field is written,
    * `add_user_headers` writes exactly the application's stored headers, verbatim and in order
      (`appFields`: every header-kind entry except "Transfer-Encoding" / "Content-Length"), so the
      stored "Connection" header — which is first in the list — goes out with NOTHING prefixed
      (no `close, `, no `Keep-Alive, `),
    * no automatic "Content-Length" / "Transfer-Encoding" is written,
    * and no Connection field of the whole block carries a `close` token. -/
theorem upgrade_head_connection_tokens (cs : List Call) (hl : ∀ c ∈ cs, c.Legal) (c : Mhd.Reply.Conn)
    (code : Nat) (hc : code ≤ 199) (date : Option Bytes) :
    (setupReplyProperties c (runCalls Resp.createUpgrade cs) code) = (.mustUpgrade, ⟨false, false, false⟩) ∧
    connFields c (runCalls Resp.createUpgrade cs) .mustUpgrade = [] ∧
    userFields c (runCalls Resp.createUpgrade cs) .mustUpgrade ⟨false, false, false⟩
      = appFields (runCalls Resp.createUpgrade cs) ∧
    (∀ v rest, (runCalls Resp.createUpgrade cs).hdrs = ⟨.header, sConnection, v⟩ :: rest →
      (userFields c (runCalls Resp.createUpgrade cs) .mustUpgrade ⟨false, false, false⟩).head? = some ⟨sConnection, v⟩) ∧
    bodyHdrSegs (runCalls Resp.createUpgrade cs) ⟨false, false, false⟩ = [] ∧
    Mhd.Http.announcesClose (((allFields c (runCalls Resp.createUpgrade cs) date .mustUpgrade
        ⟨false, false, false⟩).map toHttp).map Mhd.Http.normField) = false := by
  obtain ⟨hi, ht, hu, hcc⟩ := upgradeObj_facts cs hl
  refine ⟨setup_upgrade c _ code hu hc, connFields_upgrade c _, userFields_upgrade c _ hi, ?_, by simp [bodyHdrSegs],
    Mhd.Tok.no_close_in_fields' c _ date .mustUpgrade _ hi ht hcc rfl⟩
  intro v rest hh
  rw [userFields_upgrade c _ hi]
  unfold appFields
  rw [hh]
  have : keep101 ⟨.header, sConnection, v⟩ = true := by
    simp [keep101, Mhd.Resp.nameIs_conn_te, Mhd.Resp.nameIs_conn_cl]
  simp [this, toField]

open Mhd.Resp Mhd.Reply in
/-- **The 101 head, byte for byte**, for every response object an application can build from
    `MHD_create_response_for_upgrade` (without the HTTP/1.0 flags, with which the response is refused:
    `unmet_precondition_refused` / `oneXXresp10`): the status line `HTTP/1.1 101 Switching Protocols`
    (constants regenerated independently for C20), the automatic Date unless suppressed or supplied by
    the application, then exactly the application's headers verbatim in order, then the empty line. -/
theorem head101_explicit (cfg : Cfg) (cs : List Call) (hl : ∀ c ∈ cs, c.Legal) (cih : Bool)
    (h10 : (runCalls Resp.createUpgrade cs).flags.http10Server = false) :
    head101 cfg { obj := runCalls Resp.createUpgrade cs, closeInHandler := cih, code := Mhd.Gen.Upg.switchingProtocols } =
      [72, 84, 84, 80, 47, 49, 46, 49, 32, 49, 48, 49, 32] ++ Mhd.Gen.Upg.reason101 ++ [13, 10]
        ++ ((fields101 (replyConn cfg) (runCalls Resp.createUpgrade cs) cfg.date).map fieldLine).flatten ++ [13, 10] := by
  obtain ⟨hi, _, hu, _⟩ := upgradeObj_facts cs hl
  unfold head101
  rw [headBytes_upgrade (replyConn cfg) _ _ cfg.date hi hu (by show Mhd.Gen.Upg.switchingProtocols ≤ 199; decide)]
  have e1 : versionStr (runCalls Resp.createUpgrade cs) false = [72, 84, 84, 80, 47, 49, 46, 49] := by
    simp only [versionStr, h10]; decide
  have e2 : codeDigits Mhd.Gen.Upg.switchingProtocols = [49, 48, 49] := by decide
  have e3 : reasonPhrase Mhd.Gen.Upg.switchingProtocols = Mhd.Gen.Upg.reason101 := by decide
  simp only [e1, e2, e3, Mhd.Reply.crlf]
  simp [List.append_assoc]

open Mhd.Resp Mhd.Reply in
/-- **The head does not depend on the request**: HTTP/1.1 or 1.2+, any method, reply queued at the
    first or the final handler call, request with `Connection: keep-alive, upgrade` or
    `Connection: close, upgrade`, client half-closed, connection already forced to MUST_CLOSE (request with both
    Content-Length and chunked Transfer-Encoding; fix F37) — the same bytes. -/
theorem upgrade_head_indep_of_request (cs : List Call) (hl : ∀ c ∈ cs, c.Legal) (c c' : Mhd.Reply.Conn)
    (hs : c.suppressDate = c'.suppressDate)
    (code : Nat) (hc : code ≤ 199) (date : Bytes) :
    headBytes c (runCalls Resp.createUpgrade cs) code date = headBytes c' (runCalls Resp.createUpgrade cs) code date := by
  obtain ⟨hi, _, hu, _⟩ := upgradeObj_facts cs hl
  exact headBytes_indep_of_request c c' _ code date hi hu hs hc

open Mhd.Resp Mhd.Reply in
/-- **…in particular not on the request method**: GET, HEAD, POST, PUT, DELETE, OPTIONS, CONNECT, TRACE, an unknown
    method — a 1xx reply gets no body headers whatever the method (`is_reply_body_needed` looks at the status class
    first), so a HEAD request answered with 101 receives the same head, without `Content-Length`. -/
theorem upgrade_head_any_method (cs : List Call) (hl : ∀ c ∈ cs, c.Legal) (c : Mhd.Reply.Conn) (m : Mthd)
    (code : Nat) (hc : code ≤ 199) (date : Bytes) :
    headBytes { c with mthd := m } (runCalls Resp.createUpgrade cs) code date = headBytes c (runCalls Resp.createUpgrade cs) code date ∧
    (setupReplyProperties { c with mthd := m } (runCalls Resp.createUpgrade cs) code).2.useReplyBodyHeaders = false :=
  ⟨upgrade_head_indep_of_request cs hl { c with mthd := m } c rfl code hc date,
   by rw [setup_upgrade _ _ code (upgradeObj_facts cs hl).2.2.1 hc]⟩

/-- an accepted upgrade response has status 101 and none of the HTTP/1.0 response flags -/
theorem accepted_upgrade_is_101_http11 (cfg : Cfg) (shutdown : Bool) (x : Conn) (rs : Mhd.Upg.Resp)
    (h : queueCheck cfg shutdown x rs = none) (hu : rs.upgrade = true) :
    rs.code = Mhd.Gen.Upg.switchingProtocols ∧ rs.flags10 = false := by
  obtain ⟨_, _, _, _, _, _, hc, _, _, _, _, _, _, hf, _⟩ := queueCheck_eq_none.mp h
  exact ⟨hc hu, hf (by rw [hc hu]; decide)⟩

/-- the reply built for an accepted upgrade response is exactly the 101 head -/
theorem upgrade_reply_is_head101 (cfg : Cfg) (x : Conn) (rid : Nat) (h : x.rp = some rid)
    (hu : (cfg.resp rid).upgrade = true) :
    (startReply cfg x).wbuf = x.wbuf ++ head101 cfg (cfg.resp rid) ∧
    (startReply cfg x).outq = x.outq ++ [head101 cfg (cfg.resp rid)] := by
  simp [startReply, replyBytes, h, hu]

/-- **No recv / send / shutdown by the daemon on the socket after the upgrade handler was called**
    — in any later round with any schedule, whatever the other connections do, including the
    shutdown path: in the event log of every connection, after every history, no daemon I/O event
    follows an `upgrade` event. -/
theorem no_daemon_io_after_handover (base : Cfg) (behs : Nat → Nat → Beh) (ops : List Op) (c : Nat)
    (l1 l2 : List Ev) (e : Ev) (hl : (connOf base behs ops c).log = l1 ++ e :: l2)
    (he : e.isUpgrade = true) : ∀ e' ∈ l2, e'.isIo = false := by
  have h : okLog false (connOf base behs ops c).log = true := ((reach_inv base behs ops).conns c).ci.logi.ok
  rw [hl, okLog_append] at h
  have h2 : okLog (false || hasUpg l1) (e :: l2) = true := by
    cases h1 : okLog false l1 <;> simp_all
  have hio : e.isIo = false := by cases e <;> simp_all [Ev.isUpgrade, Ev.isIo]
  simp only [okLog, hio, he, Bool.and_false, Bool.or_true] at h2
  exact okLog_true_noIo l2 (by simpa using h2)

/-- **After MHD_stop_daemon — at whatever point of whatever history it comes: close action
    issued inside the handler, later, or never — every connection is released exactly once**:
    as many connection-closed notifications as connection-started ones (at most one), the socket
    closed exactly once if the connection was ever added, and exactly one completion notification
    for every request whose handler was called. -/
theorem released_exactly_once_at_stop (base : Cfg) (behs : Nat → Nat → Beh) (ops : List Op) (c : Nat)
    (hs : (reach base behs ops).shutdown = true) :
    ((connOf base behs ops c).loc = .freed ∨ (connOf base behs ops c).loc = .none) ∧
    cnt Ev.isConnClose (connOf base behs ops c).log = cnt Ev.isStart (connOf base behs ops c).log ∧
    cnt Ev.isStart (connOf base behs ops c).log ≤ 1 ∧
    cnt Ev.isSockClose (connOf base behs ops c).log = (if (connOf base behs ops c).loc = .freed then 1 else 0) ∧
    ∀ r, 0 < cnt (Ev.isHandler r) (connOf base behs ops c).log → cnt (Ev.isCompleted r) (connOf base behs ops c).log = 1 := by
  have hi := reach_inv base behs ops
  have hloc : (connOf base behs ops c).loc = .freed ∨ (connOf base behs ops c).loc = .none := hi.stopped hs c
  have hf : FI ((reach base behs ops).cfg c) (connOf base behs ops c) := hi.conns c
  generalize connOf base behs ops c = x at *
  have haw : x.clientAware = false :=
    hf.ci.life.not_aware (by rcases hloc with h1 | h1 <;> simp [h1]) (by rcases hloc with h1 | h1 <;> simp [h1])
  refine ⟨hloc, ?_, hf.cn.startle, hf.cn.sockc, ?_⟩
  · rw [hf.cn.close]
    rcases hloc with h1 | h1
    · simp [h1]
    · have := hf.cn.start0 (Or.inl h1)
      simp [h1, this]
  · intro r hr
    rcases hf.cn.handler r hr with h1 | h1
    · rw [hf.cn.completed r]; simp [h1]
    · rw [haw] at h1; cases h1.2

/-- the same for a history that ends with stop -/
theorem released_exactly_once_after_stop (base : Cfg) (behs : Nat → Nat → Beh) (ops : List Op) (c : Nat) :
    cnt Ev.isConnClose (connOf base behs (ops ++ [.stop]) c).log = cnt Ev.isStart (connOf base behs (ops ++ [.stop]) c).log ∧
    cnt Ev.isStart (connOf base behs (ops ++ [.stop]) c).log ≤ 1 ∧
    cnt Ev.isSockClose (connOf base behs (ops ++ [.stop]) c).log
      = (if (connOf base behs (ops ++ [.stop]) c).loc = .freed then 1 else 0) ∧
    ∀ r, 0 < cnt (Ev.isHandler r) (connOf base behs (ops ++ [.stop]) c).log →
      cnt (Ev.isCompleted r) (connOf base behs (ops ++ [.stop]) c).log = 1 := by
  have hs : (reach base behs (ops ++ [.stop])).shutdown = true :=
    (congrArg Daemon.shutdown (List.foldl_append ..)).trans (stop_sets_shutdown _)
  exact (released_exactly_once_at_stop base behs _ c hs).2

/-- **Never twice, at any time**: in every reachable state each of the three notifications and
    the socket close has happened at most once per connection / request. -/
theorem never_twice (base : Cfg) (behs : Nat → Nat → Beh) (ops : List Op) (c : Nat) :
    cnt Ev.isConnClose (connOf base behs ops c).log ≤ 1 ∧ cnt Ev.isSockClose (connOf base behs ops c).log ≤ 1 ∧
    ∀ r, cnt (Ev.isCompleted r) (connOf base behs ops c).log ≤ 1 := by
  have hf : FI ((reach base behs ops).cfg c) (connOf base behs ops c) := (reach_inv base behs ops).conns c
  generalize connOf base behs ops c = x at *
  refine ⟨?_, ?_, ?_⟩
  · rw [hf.cn.close]; split
    · exact hf.cn.startle
    · exact Nat.zero_le _
  · rw [hf.cn.sockc]; split <;> simp
  · intro r; rw [hf.cn.completed r]; split <;> simp

/-- **The close action releases the connection in the very next round** — no lost wake-up: for
    every reachable daemon, every connection whose socket the application still owns and every
    schedule of the following round, after `MHD_upgrade_action (CLOSE)` and one round the
    connection has left all lists (completion notified, connection-closed notified, socket
    closed: the counters of `never_twice` then read exactly one). -/
theorem close_action_releases_in_next_round (base : Cfg) (behs : Nat → Nat → Beh) (ops : List Op) (c : Nat)
    (sched : Nat → Option IoAct)
    (hns : (reach base behs ops).shutdown = false) (ho : (connOf base behs ops c).appOwns = true) :
    ((step (step (reach base behs ops) (.upClose c)) (.round sched)).conn c).loc = .freed :=
  upClose_round_freed (reach_inv base behs ops) c sched hns ho

/-- a refused `MHD_queue_response` returns the connection exactly as it was -/
theorem refused_unchanged (cfg : Cfg) (shutdown : Bool) (x : Conn) (rid : Nat)
    (h : (queueResponse cfg shutdown x rid).2 = false) : (queueResponse cfg shutdown x rid).1 = x := by
  unfold queueResponse at *
  split
  · rfl
  · rename_i hq; simp [hq] at h

/-- **Each unmet precondition alone makes the daemon refuse an upgrade response**: daemon started
    without MHD_ALLOW_UPGRADE, status other than 101, no Connection header, Connection header
    without the `upgrade` token, request not HTTP/1.1-compatible; and status 101 with a response
    that was not created for upgrade. -/
theorem unmet_precondition_refused (cfg : Cfg) (shutdown : Bool) (x : Conn) (rs : Resp)
    (h : (rs.upgrade = true ∧
            (cfg.allowUpgrade = false ∨ rs.code ≠ Mhd.Gen.Upg.switchingProtocols ∨ rs.connHdr = none ∨
             hasToken (rs.connHdr.getD []) Mhd.Gen.Upg.upgradeToken = false ∨
             ∀ hd, x.req = some hd → hd.ver.compat11 = false)) ∨
         (rs.upgrade = false ∧ rs.code = Mhd.Gen.Upg.switchingProtocols)) :
    queueCheck cfg shutdown x rs ≠ none := by
  intro hq
  obtain ⟨hd, hreq, _, _, _, a1, a2, a3, a4, a5, h2, _⟩ := queueCheck_eq_none.mp hq
  rcases h with ⟨hu, h⟩ | ⟨hu, h⟩
  · rcases h with h | h | h | h | h
    · rw [a1 hu] at h; cases h
    · exact h (a2 hu)
    · exact a3 hu h
    · rw [a4 hu] at h; cases h
    · have := h hd hreq; rw [a5 hu] at this; cases this
  · have := h2 h; rw [hu] at this; cases this

theorem tryQueue_cons (cfg : Cfg) (sh : Bool) (x : Conn) (rid : Nat) (rest : List Nat) :
    tryQueue cfg sh x (rid :: rest) =
      if (queueResponse cfg sh x rid).2 = true then (queueResponse cfg sh x rid).1.emit (.queued x.reqNo rid true)
      else tryQueue cfg sh ((queueResponse cfg sh x rid).1.emit (.queued x.reqNo rid false)) rest := rfl

theorem tryQueue_cons_refused (cfg : Cfg) (sh : Bool) (x : Conn) (rid : Nat) (rest : List Nat)
    (h : (queueResponse cfg sh x rid).2 = false) :
    tryQueue cfg sh x (rid :: rest) = tryQueue cfg sh (x.emit (.queued x.reqNo rid false)) rest := by
  have e := refused_unchanged cfg sh x rid h
  rw [tryQueue_cons, h, e]; rfl

theorem tryQueue_cons_accepted (cfg : Cfg) (sh : Bool) (x : Conn) (rid : Nat) (rest : List Nat)
    (h : (queueResponse cfg sh x rid).2 = true) :
    tryQueue cfg sh x (rid :: rest) = (queueResponse cfg sh x rid).1.emit (.queued x.reqNo rid true) := by
  rw [tryQueue_cons, h]; rfl

/-- **…and the connection is still answerable**: in the state the refusal left behind, an ordinary
    response (not for upgrade, status 200..999, not a 2xx answer to CONNECT) is accepted, and the
    scripted handler that tries the refused response first and the ordinary one second ends with
    the ordinary one queued. -/
theorem ordinary_response_after_refusal_accepted (cfg : Cfg) (x : Conn) (bad good : Nat) (hd : Head)
    (hreq : x.req = some hd) (hrp : x.rp = none) (hst : x.st = .headersProcessed ∨ x.st = .fullReq)
    (hbad : (queueResponse cfg false x bad).2 = false)
    (hg : (cfg.resp good).upgrade = false) (hc : 200 ≤ (cfg.resp good).code ∧ (cfg.resp good).code ≤ 999)
    (hcon : ¬ (hd.connect = true ∧ (cfg.resp good).code / 100 = 2)) :
    queueCheck cfg false x (cfg.resp good) = none ∧
    (tryQueue cfg false x [bad, good]).rp = some good ∧
    (tryQueue cfg false x [bad, good]).log = x.log ++ [.queued x.reqNo bad false, .queued x.reqNo good true] := by
  have hnu : ¬ (cfg.resp good).upgrade = true := by rw [hg]; nofun
  have hne : (cfg.resp good).code ≠ Mhd.Gen.Upg.switchingProtocols := by
    show (cfg.resp good).code ≠ 101; omega
  have hq : queueCheck cfg false x (cfg.resp good) = none :=
    queueCheck_eq_none.mpr ⟨hd, hreq, hrp, hst, rfl, (absurd · hnu), (absurd · hnu), (absurd · hnu), (absurd · hnu),
      (absurd · hnu), (absurd · hne), ⟨by omega, hc.2⟩, fun h => by omega, fun h => by omega, fun h1 h2 => hcon ⟨h1, h2⟩⟩
  have hq' : queueCheck cfg false (x.emit (.queued x.reqNo bad false)) (cfg.resp good) = none := hq
  have e2 : (queueResponse cfg false (x.emit (.queued x.reqNo bad false)) good).2 = true := by
    simp only [queueResponse, hq']
  have e3 : (queueResponse cfg false (x.emit (.queued x.reqNo bad false)) good).1.rp = some good := by
    simp only [queueResponse, hq']
  have e4 : (queueResponse cfg false (x.emit (.queued x.reqNo bad false)) good).1.log = x.log ++ [.queued x.reqNo bad false] := by
    simp only [queueResponse, hq']; rfl
  rw [tryQueue_cons_refused cfg false x bad [good] hbad, tryQueue_cons_accepted cfg false _ good [] e2]
  refine ⟨hq, e3, ?_⟩
  show (queueResponse cfg false (x.emit (.queued x.reqNo bad false)) good).1.log ++ [_] = _
  rw [e4]; simp [Conn.emit]

/-! Non-vacuity: a concrete history that satisfies the hypotheses used above. -/

namespace Ex

/-- a toy parser: the head is the three bytes `G \n \n` -/
def parser : Parser := ⟨fun bs => if ([71, 10, 10] : Bytes).isPrefixOf bs then some ⟨3, .v11, false, false⟩ else none⟩

/-- flags = MHD_RF_SEND_KEEP_ALIVE_HEADER -/
def kaFlags : Mhd.Resp.RFlags := { sendKeepAlive := true }
/-- an upgrade response the application decorated: Connection edited twice (the `upgrade` token ends
    up in the middle, a keep-alive token is dropped by the response API), several protocols offered,
    the keep-alive response flag set -/
def upCalls : List Mhd.Resp.Call :=
  [.opt kaFlags, .del Mhd.Resp.sConnection [85, 112, 103, 114, 97, 100, 101],
   .add Mhd.Resp.sConnection [88, 45, 65, 44, 32, 117, 112, 71, 82, 65, 68, 69, 44, 32, 75, 101, 101, 112, 45, 65, 108, 105, 118, 101],
   .add [85, 112, 103, 114, 97, 100, 101] [119, 115, 44, 32, 104, 50, 99],
   .add Mhd.Resp.sConnection [88, 45, 66]]
def upResp : Resp := { obj := Mhd.Resp.runCalls Mhd.Resp.Resp.createUpgrade upCalls, closeInHandler := false, code := 101 }
def okResp : Resp := { obj := Mhd.Resp.Resp.create 5, closeInHandler := false, code := 200 }

def base : Cfg := { allowUpgrade := true, parser := parser, resp := fun rid => if rid = 1 then upResp else okResp,
                    beh := fun _ => { early := false, tries := [] }, date := [68], render := fun _ => [82] }
def behs : Nat → Nat → Beh := fun _ _ => { early := false, tries := [1] }
def all : Nat → Option IoAct := fun _ => some { rdReady := true, rdMax := 100, wrReady := true, wrMax := 100 }

/-- head split over two reads, two bytes of read-ahead, one more byte after the hand-over, the
    application reads, closes; a second connection arrives and is still open at stop -/
def ops : List Op :=
  [.arrive 0, .round all, .clientSend 0 [71, 10], .round all, .clientSend 0 [10, 1, 2], .round all, .round all,
   .arrive 1, .clientSend 0 [3], .round all, .upRecv 0 10, .upClose 0, .round all, .stop]

theorem parser_stable : PStable parser := by
  intro a b h hp
  simp only [parser] at *
  split at hp
  · rename_i hpre
    have : ([71, 10, 10] : Bytes).isPrefixOf (a ++ b) = true := by
      rw [List.isPrefixOf_iff_prefix] at *
      exact hpre.trans (List.prefix_append a b)
    simp [this]; simpa using hp
  · cases hp

theorem head_ok : IsHead parser [71, 10, 10] := by
  refine ⟨⟨⟨3, .v11, false, false⟩, by simp [parser], rfl⟩, ?_⟩
  intro p hp hne
  have hlen : p.length < 3 := by
    have h1 := hp.length_le
    have : p.length ≠ 3 := by
      intro h3
      exact hne (List.IsPrefix.eq_of_length hp (by simpa using h3))
    simp at h1; omega
  simp only [parser]
  split
  · rename_i h
    rw [List.isPrefixOf_iff_prefix] at h
    have := h.length_le
    simp at this; omega
  · rfl

end Ex

set_option maxRecDepth 200000 in
/-- the example history really hands over: extra data `[1,2]`, one more byte read by the
    application, everything accounted for, released exactly once -/
example : hasUpg (connOf Ex.base Ex.behs Ex.ops 0).log = true ∧
    handedOf (connOf Ex.base Ex.behs Ex.ops 0).log = [1, 2, 3] ∧
    (connOf Ex.base Ex.behs Ex.ops 0).heads = [[71, 10, 10]] ∧
    (connOf Ex.base Ex.behs Ex.ops 0).sent = [71, 10, 10, 1, 2, 3] ∧
    (connOf Ex.base Ex.behs Ex.ops 0).loc = .freed ∧
    cnt Ev.isConnClose (connOf Ex.base Ex.behs Ex.ops 0).log = 1 ∧
    cnt (Ev.isCompleted 0) (connOf Ex.base Ex.behs Ex.ops 0).log = 1 ∧
    cnt Ev.isSockClose (connOf Ex.base Ex.behs Ex.ops 1).log = 1 ∧
    (reach Ex.base Ex.behs Ex.ops).shutdown = true ∧
    Ev.upgrade 1 [1, 2] ∈ (connOf Ex.base Ex.behs Ex.ops 0).log ∧
    daemonWire (connOf Ex.base Ex.behs Ex.ops 0).log = head101 Ex.base Ex.upResp := by decide +kernel

set_option maxRecDepth 200000 in
/-- hypotheses of `close_action_releases_in_next_round` are satisfiable: before the close action
    the application owns the socket of connection 0 and the daemon is running -/
example : (connOf Ex.base Ex.behs (Ex.ops.take 11) 0).appOwns = true ∧
    (reach Ex.base Ex.behs (Ex.ops.take 11)).shutdown = false := by decide +kernel

/-- the decorated example response: the calls are legal, the object keeps the upgrade handler and the
    keep-alive response flag, its "Connection" value has the `upgrade` token in the middle
    (hypotheses of `upgrade_head_connection_tokens` / `head101_explicit` are satisfiable, non-trivially) -/
example : (∀ c ∈ Ex.upCalls, c.Legal) ∧ Ex.upResp.obj.flags.sendKeepAlive = true ∧ Ex.upResp.upgrade = true ∧
    Ex.upResp.obj.flags.http10Server = false ∧
    Ex.upResp.connHdr = some [88, 45, 65, 44, 32, 117, 112, 71, 82, 65, 68, 69, 44, 32, 88, 45, 66] := by
  have hconn : ∀ v, (Mhd.Resp.Call.add Mhd.Resp.sConnection v).Legal :=
    fun _ => ⟨by decide, fun h => absurd h (by decide)⟩
  have hupg : ∀ v, (Mhd.Resp.Call.add [85, 112, 103, 114, 97, 100, 101] v).Legal :=
    fun _ => ⟨by decide, fun h => absurd h (by decide)⟩
  exact ⟨List.forall_mem_cons.2 ⟨rfl, List.forall_mem_cons.2 ⟨trivial, List.forall_mem_cons.2 ⟨hconn _,
    List.forall_mem_cons.2 ⟨hupg _, List.forall_mem_cons.2 ⟨hconn _, fun _ h => (List.not_mem_nil h).elim⟩⟩⟩⟩⟩, by decide +kernel⟩

/-- the theorems hold in particular on a connection that the request's framing already forced to MUST_CLOSE
    (Content-Length together with chunked Transfer-Encoding): still MUST_UPGRADE, still the same head (fix F37) -/
example : (Mhd.Reply.setupReplyProperties { keepalive := .mustClose } Ex.upResp.obj 101).1 = .mustUpgrade ∧
    headBytes { keepalive := .mustClose } Ex.upResp.obj 101 Ex.base.date = head101 Ex.base Ex.upResp := by decide +kernel

/-- … and on a HEAD request (the model's `head101` is computed for GET): same head, no body headers -/
example : headBytes { mthd := .head } Ex.upResp.obj 101 Ex.base.date = head101 Ex.base Ex.upResp ∧
    Mhd.Reply.isReplyBodyNeeded .head 101 = .none := by decide +kernel

set_option maxRecDepth 200000 in
/-- … and its 101 head, computed by the reply builder: `HTTP/1.1 101 Switching Protocols`, `Date: D`,
    `Connection: X-A, upGRADE, X-B` (no `Keep-Alive, ` although MHD_RF_SEND_KEEP_ALIVE_HEADER is set),
    `Upgrade: ws, h2c`, empty line; the builder with a 200-byte buffer returns the same bytes, with
    a 60-byte buffer it refuses -/
example : head101 Ex.base Ex.upResp = ([72, 84, 84, 80, 47, 49, 46, 49, 32, 49, 48, 49, 32, 83, 119, 105, 116, 99, 104, 105, 110, 103, 32, 80, 114, 111, 116, 111, 99, 111, 108, 115, 13, 10, 68, 97, 116, 101, 58, 32, 68, 13, 10, 67, 111, 110, 110, 101, 99, 116, 105, 111, 110, 58, 32, 88, 45, 65, 44, 32, 117, 112, 71, 82, 65, 68, 69, 44, 32, 88, 45, 66, 13, 10, 85, 112, 103, 114, 97, 100, 101, 58, 32, 119, 115, 44, 32, 104, 50, 99, 13, 10, 13, 10] : Bytes) ∧
    (Mhd.Reply.buildHeaderResponse (replyConn Ex.base) Ex.upResp.obj 101 false (some Ex.base.date) 200).2.2 = some ([72, 84, 84, 80, 47, 49, 46, 49, 32, 49, 48, 49, 32, 83, 119, 105, 116, 99, 104, 105, 110, 103, 32, 80, 114, 111, 116, 111, 99, 111, 108, 115, 13, 10, 68, 97, 116, 101, 58, 32, 68, 13, 10, 67, 111, 110, 110, 101, 99, 116, 105, 111, 110, 58, 32, 88, 45, 65, 44, 32, 117, 112, 71, 82, 65, 68, 69, 44, 32, 88, 45, 66, 13, 10, 85, 112, 103, 114, 97, 100, 101, 58, 32, 119, 115, 44, 32, 104, 50, 99, 13, 10, 13, 10] : Bytes) ∧
    (Mhd.Reply.buildHeaderResponse (replyConn Ex.base) Ex.upResp.obj 101 false (some Ex.base.date) 60).2.2 = none := by
  decide +kernel

/-- hypotheses of the refusal theorems are satisfiable: an upgrade response with status 200 is
    refused in a state where a plain 200 response is accepted -/
example : let x : Conn := { loc := .active, st := .fullReq, req := some ⟨3, .v11, false, false⟩ }
    let cfg : Cfg := { Ex.base with resp := fun rid => if rid = 1 then { Ex.upResp with code := 200 } else Ex.okResp }
    (queueResponse cfg false x 1).2 = false ∧ queueCheck cfg false x (cfg.resp 0) = none := by decide +kernel

end Mhd.C20

namespace Mhd.C20
open Mhd.UpgTls

/-- a forwarding handle after any history: client writes, application writes, visits by the event loop
    with ANY readiness pattern and ANY outcome of the four I/O calls (short counts, EAGAIN, EINTR, end of
    stream, hard errors), the close action, resume scans, cleanup, shutdown visits — in any order -/
def tlsReach (cap ssizeMax sendMax : Nat) (tpc : Bool) (ops : List Mhd.UpgTls.Op) : St :=
  Mhd.UpgTls.run (St.init cap ssizeMax sendMax tpc) ops

/-- **Both directions are prefix-preserving FIFOs, for every interleaving.**  At any time, what the client
    sent is exactly: what was forwarded to the application, then what was discarded, then the forwarding
    buffer, then what is still unread — in this order; and symmetrically for the application's bytes.
    Hence the forwarded bytes are a prefix of the sent ones: no duplication, no reordering, and the only
    loss is `dropIn` / `dropOut`, which are contiguous and (see `tls_no_loss_*`) empty while both sides are
    open.  Once something was discarded that direction is stopped for good (`in/out_buffer_size = 0`). -/
theorem tls_forwarding_fifo (cap ssizeMax sendMax : Nat) (tpc : Bool) (ops : List Mhd.UpgTls.Op) :
    let s := tlsReach cap ssizeMax sendMax tpc ops
    s.toApp ++ s.dropIn ++ s.inBuf ++ s.remoteIn = s.clientSent ∧
    s.toClient ++ s.dropOut ++ s.outBuf ++ s.pairIn = s.appSent ∧
    (s.dropIn = [] ∨ (s.inBuf = [] ∧ s.inSize = 0)) ∧ (s.dropOut = [] ∨ (s.outBuf = [] ∧ s.outSize = 0)) := by
  have h := inv_run _ ops (inv_init cap ssizeMax sendMax tpc)
  exact ⟨h.i.eq, h.o.eq, h.i.drop, h.o.drop⟩

/-- **The forwarding buffers are never overrun**: every receive writes inside `[used, size)`, fill levels
    and sizes never exceed the allocation, for every history -/
theorem tls_buffers_never_overrun (cap ssizeMax sendMax : Nat) (tpc : Bool) (ops : List Mhd.UpgTls.Op) :
    let s := tlsReach cap ssizeMax sendMax tpc ops
    s.fault = none ∧ s.inBuf.length ≤ s.cap ∧ s.outBuf.length ≤ s.cap ∧ s.inSize ≤ s.cap ∧ s.outSize ≤ s.cap := by
  have h := inv_run _ ops (inv_init cap ssizeMax sendMax tpc)
  exact ⟨h.nf, h.i.len, h.o.len, h.i.size, h.o.size⟩

/-- **No loss client → application** as long as the application has not issued the close action, the
    daemon is not shutting down and no write to the application's socket failed hard -/
theorem tls_no_loss_client_to_app (cap ssizeMax sendMax : Nat) (tpc : Bool) (ops : List Mhd.UpgTls.Op)
    (h : ∀ op ∈ ops, op.noInDrop) :
    let s := tlsReach cap ssizeMax sendMax tpc ops
    s.toApp ++ s.inBuf ++ s.remoteIn = s.clientSent := by
  have hi := (inv_run _ ops (inv_init cap ssizeMax sendMax tpc)).i.eq
  have hd : (run (St.init cap ssizeMax sendMax tpc) ops).dropIn = [] := (run_keepsIn ops _ rfl h).1
  simp only [tlsReach]
  simp only [inDir, hd] at hi; simpa using hi

/-- **No loss application → client** as long as the daemon is not shutting down and no TLS write failed
    hard — also across the application's close action: what it wrote before closing is still delivered -/
theorem tls_no_loss_app_to_client (cap ssizeMax sendMax : Nat) (tpc : Bool) (ops : List Mhd.UpgTls.Op)
    (h : ∀ op ∈ ops, op.noOutDrop) :
    let s := tlsReach cap ssizeMax sendMax tpc ops
    s.toClient ++ s.outBuf ++ s.pairIn = s.appSent := by
  have hi := (inv_run _ ops (inv_init cap ssizeMax sendMax tpc)).o.eq
  have hd : (run (St.init cap ssizeMax sendMax tpc) ops).dropOut = [] := run_keepsOut ops _ h
  simp only [tlsReach]
  simp only [outDir, hd] at hi; simpa using hi

/-- **Released exactly once**: the completion notification / move to the cleanup list happens at most once
    in every history, and has happened exactly when the connection has left the suspended list;
    `clean_ready` is only ever set with both directions stopped and empty and the socketpair shut down -/
theorem tls_released_exactly_once (cap ssizeMax sendMax : Nat) (tpc : Bool) (ops : List Mhd.UpgTls.Op) :
    let s := tlsReach cap ssizeMax sendMax tpc ops
    s.released ≤ 1 ∧ (s.released = 1 ↔ s.loc ≠ .suspended) ∧
    (s.cleanReady = true → finished s = true ∧ s.pairShut = true) := by
  have h := inv_run _ ops (inv_init cap ssizeMax sendMax tpc)
  simp only [tlsReach]
  refine ⟨?_, ?_, h.clean⟩
  · rw [h.rel]; split <;> simp
  · rw [h.rel]; split <;> simp_all

/-- **The application's close is propagated and completes** (one-step form, any reachable or unreachable
    state): after the close action, with nothing more in flight from the application and nothing buffered
    for the client, the next visit — unless its forced last read from the socketpair is interrupted
    (hypothesis `pairRecv ≠ .intr`) — stops both directions, shuts down the socketpair, sets `clean_ready`;
    the following resume scan releases the connection with exactly one more completion -/
theorem tls_app_close_completes (lv : Bool) (rdy : Celi × Celi) (e : Env) (s : St) (hl : s.loc = .suspended) (hc : s.cleanReady = false)
    (hw : s.wasClosed = true) (hp : s.pairIn = []) (ho : s.outBuf = []) (hi : e.pairRecv ≠ .intr) :
    finished (visit false lv rdy e s) = true ∧ (visit false lv rdy e s).cleanReady = true ∧ (visit false lv rdy e s).pairShut = true ∧
    (resumeScan (visit false lv rdy e s)).loc = .cleanup ∧ (resumeScan (visit false lv rdy e s)).released = s.released + 1 := by
  obtain ⟨_, _, ro, so, hin, hout, hk, hwc, l, r, -, hcl, hfin⟩ := visit_spec false lv rdy e s rfl hl hc
  rw [hw] at hin hwc
  -- the forced read finds nothing and stops the direction; there is nothing to send either
  have hf := (finished_iff _).mpr ⟨hin ▸ Dir.closed_stages ..,
    hout ▸ Dir.forced_stages (d := outDir s) hp ho (hk hw).1 (hk hw).2 hi so _⟩
  exact ⟨hf, hcl.trans hf, (hfin hf).1, r ▸ resumeScan_releases l (hfin hf).2 hwc (hcl.trans hf)⟩

/-- **MHD_stop_daemon completes the forwarding in one visit**, whatever is buffered and whatever the I/O
    calls return -/
theorem tls_stop_completes (lv : Bool) (rdy : Celi × Celi) (e : Env) (s : St) (hl : s.loc = .suspended) (hc : s.cleanReady = false) :
    finished (visit true lv rdy e s) = true ∧ (visit true lv rdy e s).cleanReady = true ∧ (visit true lv rdy e s).pairShut = true ∧
    (visit true lv rdy e s).resuming = true ∧ (visit true lv rdy e s).wasClosed = true := by
  obtain ⟨_, _, _, _, hin, hout, -, hw, -, -, -, hcl, hfin⟩ := visit_spec true lv rdy e s rfl hl hc
  have hf := (finished_iff _).mpr ⟨hin ▸ Dir.closed_stages .., hout ▸ Dir.flush_idle _⟩
  exact ⟨hf, hcl.trans hf, (hfin hf).1, (hfin hf).2, hw⟩

/-- **The client's close is propagated**: end of stream or a hard error from the record layer stops reading
    from the client for good (no further `gnutls_record_recv`), what was received before stays in the
    buffer for the application; the application sees end of stream when the forwarding is finished
    (`tls_released_exactly_once`: `clean_ready → pairShut`) -/
theorem tls_client_close_stops_reading (e : Env) (s : St) (hr : (s.remote.rd || s.remote.err || s.tlsReadReady) = true)
    (hroom : s.inBuf.length < s.inSize) (he : e.tlsRecv = .eof ∨ e.tlsRecv = .fatal) :
    (stageTlsRecv e s).inSize = 0 ∧ (stageTlsRecv e s).inBuf = s.inBuf ∧
    ∀ e', stageTlsRecv e' (stageTlsRecv e s) = stageTlsRecv e s := by
  have hc : (((s.remote.err || s.remote.rd) || s.tlsReadReady) && decide (s.inBuf.length < s.inSize)) = true := by
    rw [Bool.or_comm s.remote.err, hr, decide_eq_true hroom]; rfl
  have h0 : (stageTlsRecv e s).inSize = 0 ∧ (stageTlsRecv e s).inBuf = s.inBuf := by
    rw [stageTlsRecv_eq, if_pos hc]
    rcases he with he | he <;> (rw [he]; exact ⟨rfl, rfl⟩)
  exact ⟨h0.1, h0.2, fun e' => tlsRecv_skip e' _ h0.1⟩

namespace ExTls
def rdyAll : Celi × Celi := (⟨true, true, false⟩, ⟨true, true, false⟩)
def env (a b c d : IoRes) : Env := { tlsRecv := a, pairRecv := b, tlsSend := c, pairSend := d }
/-- 8-byte buffers; the client sends 11 bytes, the application 3; short reads and writes, an EAGAIN, an EINTR;
    then the application writes 2 more bytes and closes; everything is flushed; resume scan; cleanup -/
def ops : List Mhd.UpgTls.Op :=
  [.clientSend [1, 2, 3, 4, 5, 6, 7, 8, 9, 10, 11], .appSend [101, 102, 103],
   .visit true rdyAll (env (.ok 5) (.ok 2) (.ok 1) (.ok 3)),
   .visit false rdyAll (env (.ok 100) .intr .again (.ok 1)),
   .visit true rdyAll (env (.ok 100) (.ok 100) (.ok 100) (.ok 100)),
   .visit true rdyAll (env .again .again .again (.ok 100)),
   .appSend [104, 105], .appClose,
   .visit true rdyAll (env (.ok 100) (.ok 100) (.ok 100) .again),
   .visit true rdyAll (env .again .again .again .again),
   .resumeScan, .cleanup]
end ExTls

/-- the example history: all 11 client bytes reach the application in order before it closes, all 5
    application bytes reach the client (the last two after the close action), nothing is discarded,
    released once; its prefix before the close satisfies the hypotheses of both no-loss theorems -/
example : let s := tlsReach 8 1000 1000 false ExTls.ops
    s.toApp = [1, 2, 3, 4, 5, 6, 7, 8, 9, 10, 11] ∧ s.toClient = [101, 102, 103, 104, 105] ∧ s.dropIn = [] ∧ s.dropOut = [] ∧
    s.released = 1 ∧ s.loc = .freed ∧ s.pairShut = true ∧ s.fault = none := by decide +kernel

example : (∀ op ∈ ExTls.ops.take 7, op.noInDrop) ∧ (∀ op ∈ ExTls.ops, op.noOutDrop) := by
  constructor
  · intro op h
    simp only [ExTls.ops, List.take, List.mem_cons, List.not_mem_nil, or_false] at h
    rcases h with rfl | rfl | rfl | rfl | rfl | rfl | rfl <;> simp [Mhd.UpgTls.Op.noInDrop, ExTls.env]
  · intro op h
    simp only [ExTls.ops, List.mem_cons, List.not_mem_nil, or_false] at h
    rcases h with rfl | rfl | rfl | rfl | rfl | rfl | rfl | rfl | rfl | rfl | rfl | rfl <;> simp [Mhd.UpgTls.Op.noOutDrop, ExTls.env]

/-- hypotheses of the one-step theorems are satisfiable: the state before the ninth operation of the example
    (closed by the application, nothing in flight, nothing buffered for the client) -/
example : let s := tlsReach 8 1000 1000 false (ExTls.ops.take 9)
    s.loc = .suspended ∧ s.cleanReady = false ∧ s.wasClosed = true ∧ s.pairIn = [] ∧ s.outBuf = [] := by decide +kernel

end Mhd.C20
