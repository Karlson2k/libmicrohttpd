/-
  C03 — Request framing is unambiguous; no desynchronisation.

  Where a statement is an instance of a more general lemma of `Mhd.Proofs.Framing*` its proof is that
  instance; where it is the natural statement itself, the proof stands here.  The model
  (`Mhd.Model.Framing`, `Chunked`, `FramingConn`, `FramingTake`) mirrors `parse_connection_headers`,
  `process_request_body`, `transmit_error_response_len`, `MHD_queue_response`,
  `keepalive_possible`, `connection_reset` and the receive side of
  `MHD_connection_handle_idle` of connection.c *with the fixes F2, F3, F9, F16 applied*.

  The request-head parser is a **parameter** (`HeadParser`): all theorems about the connection
  automaton hold for every head parser that is an incremental scanner (`LawfulHeadParser`: its
  verdict on a buffer is not changed by bytes arriving behind it; a head is never empty) and for
  every `Head` such a parser delivers — any method and target, **any list of (name, value)
  fields**: any letter case, order, multiplicity, list values.  The framing decision
  `decideBody` is characterised on every field list (`decideBody_agrees_reference`).
  Which bytes make up a head, and which fields they denote, is C02's subject; the strict
  splitter `parseHead` (CRLF only, token names, OWS around values) is one lawful instance
  (`strict_parser_lawful`) and the one the executable driver runs — there, input it does not
  accept drives the model into `outOfDomain` (no prediction), never into a silent default.
  (`Expect: 100-continue` is inside the domain: `need100Continue` / `continueSending`.)
-/
import Mhd.Proofs.FramingRefAgree
import Mhd.Proofs.FramingTake
import Mhd.Proofs.FramingHead
import Mhd.Proofs.FramingReqHead
import Mhd.Proofs.FramingReplyBridge
import Mhd.Props.C04

namespace Mhd.C03
open Mhd.Framing Mhd.Gen.Framing Mhd.Framing.Framer

/-- ∀ strictness level, ∀ HTTP version, ∀ field list on which the Host rule does not fire:
    no Transfer-Encoding and no Content-Length ⇒ no body; exactly one valid Content-Length ⇒ that
    length; exactly one Transfer-Encoding equal to `chunked` (any case) and no Content-Length ⇒
    chunked (and, for HTTP/1.0, the connection is marked must-close). -/
theorem decideBody_valid (lvl : Int) (http11 : Bool) (fs : List Field) (hh : HostOK lvl http11 fs) :
    (fieldValues fs hdrTransferEncoding = [] → fieldValues fs hdrContentLength = [] →
        decideBody lvl http11 fs = .none) ∧
    (∀ v, fieldValues fs hdrTransferEncoding = [] → fieldValues fs hdrContentLength = [v] → ValidDec v →
        decideBody lvl http11 fs = .len (decValue v)) ∧
    (∀ te, fieldValues fs hdrTransferEncoding = [te] → eqCI te tokChunked = true →
        fieldValues fs hdrContentLength = [] → decideBody lvl http11 fs = .chunked (! http11)) :=
  ⟨decideBody_none lvl http11 fs hh, fun v => decideBody_len lvl http11 fs hh v,
   fun te => decideBody_chunked lvl http11 fs hh te⟩

example : decideBody 1 true [⟨hdrHost, [104]⟩, ⟨[99, 111, 110, 116, 101, 110, 116, 45, 76, 69, 78, 71, 84, 72], [52, 50]⟩]
    = .len 42 := by decide

/-- ∀ levels, ∀ versions, ∀ field lists: every curated framing defect is refused —
    several Content-Length fields (equal or not), several Transfer-Encoding fields, a
    Transfer-Encoding whose first value is not exactly `chunked`, Transfer-Encoding together with
    Content-Length at level ≥ 1, a malformed or unrepresentable single Content-Length,
    a missing Host on HTTP/1.1 above level −3. -/
theorem decideBody_rejects_defects (lvl : Int) (http11 : Bool) (fs : List Field) :
    (2 ≤ (fieldValues fs hdrContentLength).length → decideBody lvl http11 fs = .reject httpBadRequest) ∧
    (2 ≤ (fieldValues fs hdrTransferEncoding).length → decideBody lvl http11 fs = .reject httpBadRequest) ∧
    (∀ te rest, fieldValues fs hdrTransferEncoding = te :: rest → eqCI te tokChunked = false →
        decideBody lvl http11 fs = .reject httpBadRequest) ∧
    (fieldValues fs hdrTransferEncoding ≠ [] → fieldValues fs hdrContentLength ≠ [] → teClRejectFromLvl ≤ lvl →
        decideBody lvl http11 fs = .reject httpBadRequest) ∧
    (∀ v, fieldValues fs hdrTransferEncoding = [] → fieldValues fs hdrContentLength = [v] → ¬ ValidDec v →
        decideBody lvl http11 fs = .reject httpBadRequest ∨ decideBody lvl http11 fs = .reject httpContentTooLarge) ∧
    (hostAboveLvl < lvl → http11 = true → lookup fs hdrHost = none →
        decideBody lvl http11 fs = .reject httpBadRequest) :=
  ⟨decideBody_multi_cl lvl http11 fs, decideBody_multi_te lvl http11 fs,
   fun te rest => decideBody_te_not_chunked lvl http11 fs te rest,
   decideBody_te_cl lvl http11 fs, fun v => decideBody_bad_cl lvl http11 fs v,
   fun hl h11 hn => decideBody_host_rule lvl http11 fs fun hh => hh ⟨hl, h11, by rw [hn]; rfl⟩⟩

example : decideBody 0 true [⟨hdrHost, [104]⟩, ⟨hdrContentLength, [48]⟩, ⟨hdrContentLength, [51, 54]⟩]
    = .reject 400 := by decide

/-- Below the strict threshold Transfer-Encoding + Content-Length is tolerated (chunked wins),
    but the connection is marked must-close (see `no_reparse`). -/
theorem decideBody_te_cl_tolerated (lvl : Int) (http11 : Bool) (fs : List Field) (hh : HostOK lvl http11 fs)
    (te v : Bytes) (hte : fieldValues fs hdrTransferEncoding = [te]) (hc : eqCI te tokChunked = true)
    (hcl : fieldValues fs hdrContentLength = [v]) (hl : ¬ teClRejectFromLvl ≤ lvl) :
    decideBody lvl http11 fs = .chunked true :=
  decideBody_te_cl_lenient lvl http11 fs hh te v hte hc hcl hl

/-- **`decideBody` = the strict RFC 9112 §6.3 reference on EVERY field list.**  ∀ level, ∀ HTTP
    version, ∀ list of (name, value) fields whatsoever — no canonicity, names in any case, any
    order, duplicates, several Content-Length / Transfer-Encoding fields, list values, empty values —
    on which the Host rule does not fire: where the reference `Framer.bodyKind` (20 lines, counts
    *all* fields of a name) says no body / length n / chunked, `decideBody` says the same (chunked on
    HTTP/1.0 additionally marks the connection must-close); where the reference says *invalid*,
    `decideBody` refuses with 400 or 413 — the single exception being exactly one
    `Transfer-Encoding: chunked` plus exactly one Content-Length below the strict threshold, which is
    read as chunked with the connection marked must-close.  `bodyKind` has no fifth outcome, so this
    is a total characterisation. -/
theorem decideBody_agrees_reference (lvl : Int) (http11 : Bool) (fs : List Field) (hh : HostOK lvl http11 fs) :
    match bodyKind fs with
    | .none => decideBody lvl http11 fs = .none
    | .len n => decideBody lvl http11 fs = .len n
    | .chunked => decideBody lvl http11 fs = .chunked (! http11)
    | .invalid =>
      (TeClPair fs ∧ ¬ teClRejectFromLvl ≤ lvl ∧ decideBody lvl http11 fs = .chunked true) ∨
      decideBody lvl http11 fs = .reject httpBadRequest ∨ decideBody lvl http11 fs = .reject httpContentTooLarge := by
  unfold bodyKind
  cases hte : fieldValues fs hdrTransferEncoding with
  | nil =>
    cases hcl : fieldValues fs hdrContentLength with
    | nil => exact decideBody_none lvl http11 fs hh hte hcl
    | cons v r =>
      cases r with
      | nil =>
        cases hc : (v.isEmpty || ! v.all isDigit || decide (decValue v ≥ sizeUnknown)) with
        | false =>
          simp only [hc, Bool.false_eq_true, if_false]
          exact decideBody_len lvl http11 fs hh v hte hcl ((validDec_iff v).mp hc)
        | true =>
          simp only [hc, if_true]
          refine Or.inr (decideBody_bad_cl lvl http11 fs v hte hcl fun hv => ?_)
          rw [(validDec_iff v).mpr hv] at hc; cases hc
      | cons v2 r2 =>
        exact Or.inr (Or.inl (decideBody_multi_cl lvl http11 fs (by rw [hcl]; simp)))
  | cons te r =>
    cases r with
    | nil =>
      cases hc : eqCI te tokChunked with
      | false =>
        have hrej := decideBody_te_not_chunked lvl http11 fs te [] hte hc
        cases hcl : fieldValues fs hdrContentLength with
        | nil => simp only [hc, Bool.false_eq_true, if_false]; exact Or.inr (Or.inl hrej)
        | cons v r2 => exact Or.inr (Or.inl hrej)
      | true =>
        cases hcl : fieldValues fs hdrContentLength with
        | nil => simp only [hc, if_true]; exact decideBody_chunked lvl http11 fs hh te hte hc hcl
        | cons v r2 =>
          cases r2 with
          | nil =>
            by_cases hl : teClRejectFromLvl ≤ lvl
            · exact Or.inr (Or.inl (decideBody_te_cl lvl http11 fs (by rw [hte]; simp) (by rw [hcl]; simp) hl))
            · exact Or.inl ⟨⟨te, v, hte, hc, hcl⟩, hl, decideBody_te_cl_lenient lvl http11 fs hh te v hte hc hcl hl⟩
          | cons v2 r3 =>
            exact Or.inr (Or.inl (decideBody_multi_cl lvl http11 fs (by rw [hcl]; simp)))
    | cons te2 r2 =>
      have hrej := decideBody_multi_te lvl http11 fs (by rw [hte]; simp)
      cases hcl : fieldValues fs hdrContentLength <;> exact Or.inr (Or.inl hrej)

/-- … and when the Host rule fires, the request is refused whatever the framing fields are. -/
theorem host_rule_refuses (lvl : Int) (http11 : Bool) (fs : List Field) (hh : ¬ HostOK lvl http11 fs) :
    decideBody lvl http11 fs = .reject httpBadRequest :=
  decideBody_host_rule lvl http11 fs hh

/-- Non-vacuity / the defect classes on non-canonical field lists: mixed-case names, a list-valued
    Transfer-Encoding (`gzip, chunked`), `chunked` not final, two Transfer-Encoding fields, two equal
    Content-Length fields, a list-valued Content-Length, TE + CL at level 1 and at level 0, HTTP/1.0 + TE. -/
example : bodyKind [⟨[104, 79, 115, 84], [104]⟩, ⟨[116, 82, 65, 78, 83, 70, 69, 82, 45, 101, 110, 99, 111, 100, 105, 110, 103], [103, 122, 105, 112, 44, 32, 99, 104, 117, 110, 107, 101, 100]⟩] = .invalid ∧
    decideBody 0 true [⟨[104, 79, 115, 84], [104]⟩, ⟨[116, 82, 65, 78, 83, 70, 69, 82, 45, 101, 110, 99, 111, 100, 105, 110, 103], [103, 122, 105, 112, 44, 32, 99, 104, 117, 110, 107, 101, 100]⟩] = .reject 400 := by decide
example : bodyKind [⟨hdrTransferEncoding, [99, 104, 117, 110, 107, 101, 100, 44, 103, 122, 105, 112]⟩] = .invalid ∧
    decideBody (-3) false [⟨hdrTransferEncoding, [99, 104, 117, 110, 107, 101, 100, 44, 103, 122, 105, 112]⟩] = .reject 400 := by decide
example : bodyKind [⟨hdrTransferEncoding, tokChunked⟩, ⟨[84, 82, 65, 78, 83, 70, 69, 82, 45, 69, 78, 67, 79, 68, 73, 78, 71], tokChunked⟩] = .invalid ∧
    decideBody (-3) false [⟨hdrTransferEncoding, tokChunked⟩, ⟨[84, 82, 65, 78, 83, 70, 69, 82, 45, 69, 78, 67, 79, 68, 73, 78, 71], tokChunked⟩] = .reject 400 := by decide
example : bodyKind [⟨hdrContentLength, [53]⟩, ⟨[99, 111, 110, 116, 101, 110, 116, 45, 108, 101, 110, 103, 116, 104], [53]⟩] = .invalid ∧
    decideBody (-3) false [⟨hdrContentLength, [53]⟩, ⟨[99, 111, 110, 116, 101, 110, 116, 45, 108, 101, 110, 103, 116, 104], [53]⟩] = .reject 400 := by decide
example : bodyKind [⟨hdrContentLength, [53, 44, 32, 53]⟩] = .invalid ∧
    decideBody (-3) false [⟨hdrContentLength, [53, 44, 32, 53]⟩] = .reject 400 := by decide
example : bodyKind [⟨hdrContentLength, [53]⟩, ⟨hdrTransferEncoding, [67, 104, 117, 110, 107, 101, 100]⟩] = .invalid ∧
    decideBody 1 false [⟨hdrContentLength, [53]⟩, ⟨hdrTransferEncoding, [67, 104, 117, 110, 107, 101, 100]⟩] = .reject 400 ∧
    decideBody 0 false [⟨hdrContentLength, [53]⟩, ⟨hdrTransferEncoding, [67, 104, 117, 110, 107, 101, 100]⟩] = .chunked true := by decide
example : bodyKind [⟨hdrTransferEncoding, tokChunked⟩] = .chunked ∧
    decideBody 3 false [⟨hdrTransferEncoding, tokChunked⟩] = .chunked true := by decide

/-- **every refused head ⇒ error reply + close, no resync**, whatever head parser delivered the
    field list: in `headersReceived` a `reject st` decision queues the error reply, drops the read
    buffer and leaves the connection in a state from which, by `no_reparse`, no byte is ever parsed
    as a request again.  With `decideBody_agrees_reference` / `decideBody_rejects_defects` /
    `host_rule_refuses` this covers each head-level defect class on arbitrary field lists. -/
theorem framing_defect_no_resync [HeadParser] (lvl : Int) (app : App) (s : St) (st : Nat)
    (hs : s.state = .headersReceived) (wf : FlagsWF s)
    (hd : decideBody lvl s.head.http11 s.head.fields = .reject st) :
    idleStep lvl app s = some (errorReply s st) ∧ NoReparse (errorReply s st) ∧ (errorReply s st).buf = [] := by
  refine ⟨?_, errorReply_props s st wf, errorReply_buf s st⟩
  unfold idleStep; rw [hs]; simp only [hd]

/-- **decode ∘ encode = id, consumed length = encoding length.**  ∀ level, ∀ body split into any
    chunks (any sizes ≥ 1, any hex rendering of the size incl. leading zeros / either case, any
    chunk extension, BWS where the level admits it, CRLF or — where the level admits it — bare-LF
    line ends), ∀ bytes `rest` that follow: from the start of the body the automaton (i) hands the
    application exactly the chunk data, in order (`uploadAll`, which is one coalesced upload event
    carrying `cs.flatMap data`, see `chunked_upload_is_body`), (ii) consumes exactly
    `encodeChunked cs last` — `rest` is left in the buffer untouched, so the trailer section / next
    request starts at the right byte — and (iii) arrives at `bodyReceived`.  `Steps` = finitely many
    iterations of the idle loop. -/
theorem chunked_decode_encode [HeadParser] [LawfulHeadParser] (lvl : Int) (app : App) (cs : List Chunk) (hcs : ∀ c ∈ cs, ChunkOK lvl c)
    (last : Chunk) (hl : LastOK lvl last) (rest : Bytes)
    (s : St) (hs : s.state = .bodyReceiving) (hch : s.chunked = true) (hrem : s.remaining ≠ 0)
    (hcur : s.cur = 0) (hoff : s.off = 0) (hbuf : s.buf = encodeChunked cs last ++ rest) :
    Steps lvl app s { s with buf := rest, out := uploadAll cs s.out, state := .bodyReceived, remaining := 0 } :=
  steps_chunked_body lvl app cs hcs last hl rest s hs hch hrem hcur hoff hbuf

theorem chunked_upload_is_body (cs : List Chunk) (out : List Ev) (hne : cs ≠ []) :
    uploadAll cs out = emitUpload (cs.flatMap Chunk.data) out :=
  uploadAll_eq cs out hne

/-- Non-vacuity: a lenient-level chunking with an extension, upper-case hex with a leading zero and a
    bare-LF line end satisfies `ChunkOK`, and `Steps` really is about `idle`. -/
example : ChunkOK 0 ⟨[48, 65], [], [59, 120], .lf, [1, 2, 3, 4, 5, 6, 7, 8, 9, 10], .crlf⟩ :=
  { digitsNonempty := by decide, digitsHex := by decide, noOverflow := by decide, bwsWs := by decide,
    bwsLevel := by decide, ext := Or.inr ⟨[120], rfl, by decide⟩, eol := Or.inr (by decide),
    size := by decide, nonEmpty := by decide, dataEolOK := Or.inl rfl }

/-- `Steps` is what the executable `idle` does. -/
theorem steps_idle [HeadParser] [LawfulHeadParser] (lvl : Int) (app : App) (s t : St) (h : Steps lvl app s t) (wf : ChunkWF s) :
    idle lvl app s = idle lvl app t :=
  (idle_of_steps lvl app s t h wf).1

/-- **split independence.**  ∀ level, ∀ application script, ∀ list of segments: feeding the segments
    one by one leaves the connection in the same state — same handler calls with the same (coalesced)
    upload bytes, same replies, same close decision, same bytes left in the buffer — as feeding their
    concatenation in one piece.  Covers head, body (identity and chunked), trailers and pipelining. -/
theorem split_independence [HeadParser] [LawfulHeadParser] (lvl : Int) (app : App) (segs : List Bytes) :
    runSegs lvl app segs = runSegs lvl app [segs.flatten] :=
  runSegs_flatten lvl app segs

/-- … in its incremental form, from any state with ordered chunk counters. -/
theorem feed_feed [HeadParser] [LawfulHeadParser] (lvl : Int) (app : App) (s : St) (wf : ChunkWF s) (a b : Bytes) :
    feed lvl app (feed lvl app s a) b = feed lvl app s (a ++ b) :=
  feed_append lvl app s wf a b

example : @runSegs strictParser 1 (fun _ => .cont 200 false) [[71, 69, 84], [32, 47, 32, 72, 84, 84, 80, 47, 49, 46, 48, 13], [10, 13, 10]]
    = @runSegs strictParser 1 (fun _ => .cont 200 false) [[71, 69, 84, 32, 47, 32, 72, 84, 84, 80, 47, 49, 46, 48, 13, 10, 13, 10]] :=
  @split_independence strictParser strictLawful _ _ _

/-- **malformed chunk syntax ⇒ error.**  ∀ level: a chunk-size line that does not start with a hex
    digit (400); a chunk size that does not fit 64 bits (413); junk between size and line end (400);
    chunk data not followed by CRLF — or a bare LF where the level forbids it (400). -/
theorem malformed_chunk_rejected (lvl : Int) :
    (∀ c rest, isHex c = false → chunkAct lvl 0 0 (c :: rest) = .err httpBadRequest) ∧
    (∀ ds x, ds ≠ [] → (∀ d ∈ ds, isHex d = true) → uint64Max < hexValue ds →
        chunkAct lvl 0 0 (ds ++ x) = .err httpContentTooLarge) ∧
    (∀ ds c d r, ds ≠ [] → (∀ x ∈ ds, isHex x = true) → hexValue ds ≤ uint64Max → isHex c = false →
        c ≠ SEMI → ¬ (bwsAboveLvl < lvl ∧ (c = SP ∨ c = HT)) → ¬ (c = CR ∧ d = LF) →
        ¬ (lvl ≤ bareLfMaxLvl ∧ c = LF) → chunkAct lvl 0 0 (ds ++ c :: d :: r) = .err httpBadRequest) ∧
    (∀ n c d r, n ≠ 0 → ¬ (c = CR ∧ d = LF) → ¬ (lvl ≤ bareLfMaxLvl ∧ c = LF) →
        chunkAct lvl n n (c :: d :: r) = .err httpBadRequest) :=
  ⟨fun c rest => chunkAct_nonhex lvl c rest,
   fun ds x => chunkAct_overflow lvl ds x,
   fun ds c d r => chunkAct_junk_after_size lvl ds c d r,
   fun n c d r hn => chunkAct_missing_crlf lvl n hn c d r⟩

/-- … and never a silent resync: the error reply drops the read buffer and leaves the connection in a
    state from which, by `no_reparse`, no byte is ever parsed as a request again. -/
theorem chunk_error_no_resync [HeadParser] (lvl : Int) (s : St) (st : Nat) (hc : s.chunked = true) (wf : FlagsWF s)
    (ha : chunkAct lvl s.cur s.off s.buf = .err st) :
    bodyStep lvl s = some (errorReply s st) ∧ NoReparse (errorReply s st) ∧ (errorReply s st).buf = [] :=
  ⟨bodyStep_err lvl s st hc ha, errorReply_props s st wf, errorReply_buf s st⟩

example : chunkAct 1 5 5 [10, 48, 13, 10] = .err 400 := by decide

/-- chunk-size line edge cases, per level (tests of the model by kernel evaluation; the ∀-statements
    are `chunked_decode_encode` — every hex rendering incl. leading zeros beyond 16 digits, extensions,
    BWS / bare LF where the level admits them — and `malformed_chunk_rejected`):
    17 significant hex digits ⇒ 413; 18 leading zeros are fine; BWS before `;` only above level 2;
    BWS without extension ⇒ 400; bare LF only up to level 0; an extension may contain anything but LF. -/
example : chunkAct 1 0 0 ([49] ++ List.replicate 16 48 ++ [13, 10]) = .err 413 := by decide
example : chunkAct 1 0 0 (List.replicate 18 48 ++ [53, 13, 10]) = .line 21 5 := by decide
example : chunkAct 3 0 0 [53, 32, 59, 120, 13, 10] = .line 6 5 ∧ chunkAct 2 0 0 [53, 32, 59, 120, 13, 10] = .err 400 := by decide
example : chunkAct 3 0 0 [53, 32, 13, 10] = .err 400 := by decide
example : chunkAct 0 0 0 [53, 10, 97] = .line 2 5 ∧ chunkAct 1 0 0 [53, 10, 97] = .err 400 := by decide
example : chunkAct 1 0 0 [53, 59, 34, 13, 34, 61, 13, 10] = .line 8 5 ∧ chunkAct 1 0 0 [53, 59, 97, 10, 98, 13, 10] = .err 400 := by decide

/-- **No desynchronisation on valid streams.**  ∀ level, ∀ list of valid generated requests
    (`MsgOK`: head bytes which the head parser — any lawful one — accepts, delivering any `Head`
    whatsoever (any field list); framing fields for which `decideBody` gives
    the body kind that was rendered — see `decideBody_valid` —, identity body of the announced length
    or any admissible chunking plus a canonical trailer section, no `close`), ∀ application that reads
    every body and replies at the final call, ∀ segmentation of the concatenated stream: the handler is
    presented exactly these requests — methods, targets, body bytes, in order — the connection ends
    in `init` with an empty buffer, ready for request number `ms.length`. -/
theorem pipeline_no_desync [HeadParser] [LawfulHeadParser] (lvl : Int) (app : App) (ms : List Msg) (segs : List Bytes)
    (hok : ∀ m ∈ ms, MsgOK lvl m) (happ : ∀ j, j < ms.length → ∃ st, app j = .cont st false)
    (hsegs : segs.flatten = ms.flatMap Msg.bytes) :
    framesOf (runSegs lvl app segs) = ms.map Msg.seen ∧
    (runSegs lvl app segs).state = .init ∧ (runSegs lvl app segs).buf = [] ∧
    (runSegs lvl app segs).nreq = ms.length := by
  have h := pipeline_frames lvl app ms segs hok happ hsegs
  refine ⟨h.1, ?_, ?_, ?_⟩ <;> rw [h.2] <;> rfl

/-- **`frames (impl stream) = Framer.frames stream`.**  ∀ level, ∀ list of requests whose framing
    fields satisfy RFC 9112 §6.3 (`MsgStrict`: no TE and no CL, or one valid CL of the body's length,
    or TE exactly `chunked` on HTTP/1.1 with no CL — the three valid outcomes of `bodyKind` —; head
    bytes accepted by the (arbitrary lawful) head parser; strict chunk rendering: CRLF only,
    no BWS, any chunk sizes / extensions free of CR and LF), on which the Host rule does not fire,
    ∀ segmentation: the requests the model presents to the handler are exactly the frames of the
    strict reference framer `Framer.frames` (≈ 40 lines in `Mhd.Model.FramingRef`; it delimits heads
    with the same head parser and bodies by RFC 9112 §6.3 / §7.1), which consumes the whole stream. -/
theorem frames_agree_reference [HeadParser] [LawfulHeadParser] (lvl : Int) (app : App) (ms : List Msg) (segs : List Bytes)
    (hms : ∀ m ∈ ms, MsgStrict m) (hh : ∀ m ∈ ms, HostOK lvl m.head.http11 m.head.fields)
    (happ : ∀ j, j < ms.length → ∃ st, app j = .cont st false)
    (hsegs : segs.flatten = ms.flatMap Msg.bytes) :
    framesOf (runSegs lvl app segs) = (Framer.frames lvl segs.flatten).1.map Frame.seen ∧
    (Framer.frames lvl segs.flatten).2 = .incomplete 0 := by
  have h1 := pipeline_frames lvl app ms segs (fun m hm => (hms m hm).msgOK lvl (hh m hm)) happ hsegs
  -- the fuel of `Framer.frames`, stream length + 1, against the one unit `framesFuel` spends per frame (`ref_frames`):
  -- a request has at least one byte
  have hlen : ms.length < (ms.flatMap Msg.bytes).length + 1 := by
    clear h1 hsegs happ hh
    induction ms with
    | nil => simp
    | cons m t ih =>
      have hne := Msg.bytes_ne m (hms m List.mem_cons_self)
      have : 0 < m.bytes.length := List.length_pos_iff.2 hne
      have := ih (fun m' hm' => hms m' (List.mem_cons_of_mem _ hm'))
      simp only [List.flatMap_cons, List.length_append, List.length_cons] at this ⊢
      omega
  have h2 := ref_frames ms hms _ hlen
  unfold Framer.frames
  rw [hsegs, h2, h1.1]
  simp [List.map_map, Function.comp_def, Msg.frame, Msg.seen, Frame.seen]

/-- Non-vacuity of `MsgStrict`: a chunked POST with one 3-byte chunk carrying an extension. -/
example : @MsgStrict strictParser ⟨[80, 79, 83, 84, 32, 47, 32, 72, 84, 84, 80, 47, 49, 46, 49, 13, 10, 72, 111, 115, 116, 58, 32, 104, 13, 10,
                      84, 114, 97, 110, 115, 102, 101, 114, 45, 69, 110, 99, 111, 100, 105, 110, 103, 58, 32, 67, 72, 85, 78, 75, 69, 68, 13, 10, 13, 10],
    ⟨[80, 79, 83, 84], [47], true, [⟨[72, 111, 115, 116], [104]⟩, ⟨hdrTransferEncoding, [67, 72, 85, 78, 75, 69, 68]⟩]⟩,
    .chunked [⟨[51], [], [59, 120], .crlf, [97, 98, 99], .crlf⟩] ⟨[48], [], [], .crlf, [], .crlf⟩ [13, 10]⟩ :=
  @MsgStrict.mk strictParser _ (by decide)
    (⟨⟨[67, 72, 85, 78, 75, 69, 68], by decide, by decide⟩, by decide, rfl,
      fun c hc => by
        simp only [List.mem_singleton] at hc; subst hc
        exact { digitsNonempty := by decide, digitsHex := by decide, noOverflow := by decide, noBws := rfl,
                ext := Or.inr ⟨[120], rfl, by decide⟩, eol := rfl, size := by decide, nonEmpty := by decide, dataEol := rfl },
      { digitsNonempty := by decide, digitsHex := by decide, noOverflow := by decide, noBws := rfl,
        ext := Or.inl rfl, eol := rfl, zero := by decide },
      ⟨[], by decide⟩⟩)
    (by decide) (Or.inl rfl)

/-- What the strict instance accepts is decidable. -/
example : CanonicalHead [71, 69, 84, 32, 47, 32, 72, 84, 84, 80, 47, 49, 46, 48, 13, 10, 13, 10] := by decide

/-- Non-vacuity of `MsgOK`: `GET / HTTP/1.1` + `Host: h`, no body. -/
example : @MsgOK strictParser 3 ⟨[71, 69, 84, 32, 47, 32, 72, 84, 84, 80, 47, 49, 46, 49, 13, 10, 72, 111, 115, 116, 58, 32, 104, 13, 10, 13, 10],
                  ⟨[71, 69, 84], [47], true, [⟨[72, 111, 115, 116], [104]⟩]⟩, .none⟩ :=
  @MsgOK.mk strictParser _ _ (by decide) (Or.inl (by decide)) (by decide) (Or.inl rfl)

/-- The strict splitter is a lawful head parser (non-vacuity of `LawfulHeadParser`; it is the
    instance the correspondence run executes). -/
theorem strict_parser_lawful : @LawfulHeadParser strictParser := strictLawful

/-- Non-vacuity of `MsgOK` on a head that is far from canonical *as a field list*: names in mixed
    case, optional whitespace around values, the same name twice (`x-a`), a list-valued field, a
    `cOnTeNt-LeNgTh` of `003`; identity body `abc`. -/
example : @MsgOK strictParser 1
    ⟨[80, 85, 84, 32, 47, 120, 32, 72, 84, 84, 80, 47, 49, 46, 49, 13, 10, 104, 79, 115, 84, 58, 9, 32, 104, 32, 13, 10,
      120, 45, 97, 58, 49, 13, 10, 88, 45, 65, 58, 32, 97, 44, 32, 98, 32, 44, 99, 13, 10,
      99, 79, 110, 84, 101, 78, 116, 45, 76, 101, 78, 103, 84, 104, 58, 32, 32, 48, 48, 51, 9, 13, 10, 13, 10],
     ⟨[80, 85, 84], [47, 120], true,
      [⟨[104, 79, 115, 84], [104]⟩, ⟨[120, 45, 97], [49]⟩, ⟨[88, 45, 65], [97, 44, 32, 98, 32, 44, 99]⟩,
       ⟨[99, 79, 110, 84, 101, 78, 116, 45, 76, 101, 78, 103, 84, 104], [48, 48, 51]⟩]⟩,
     .identity [97, 98, 99]⟩ :=
  @MsgOK.mk strictParser _ _ (by decide +kernel) ⟨by decide, by decide⟩ (by decide) (Or.inl rfl)

/-- **A partial take is absorbed.**  ∀ level, ∀ state with ordered chunk counters, ∀ `k`: if the
    body loop offers the handler `n` bytes and the handler takes only `min k n` of them
    (`takeStep`: exactly those bytes are appended to the upload, removed from the front of the read
    buffer — the `memmove` —, and `current_chunk_offset` / `remaining_upload_size` advance by exactly
    that number), then the take-all automaton has a step `s → s'` from the state before, and the
    state after the partial take either is `s'` or reaches `s'` in one step: the bytes left are
    presented again and nothing else — no chunk boundary, no counter — has moved. -/
theorem take_absorbed [HeadParser] [LawfulHeadParser] (lvl : Int) (app : App) (k : Nat) (s s1 : St)
    (h : takeStep lvl k s = some s1) (wf : ChunkWF s) :
    ∃ s', idleStep lvl app s = some s' ∧ ChunkWF s1 ∧ (s1 = s' ∨ idleStep lvl app s1 = some s') :=
  take_confluent lvl app k s s1 h wf

/-- **No desynchronisation under any take pattern.**  ∀ level, ∀ application, ∀ schedule — any
    interleaving of bytes arriving (`bytes b`), idle-loop cases in which the handler takes all it is
    offered (`step`) and body-loop iterations in which it takes at most `k` bytes (`take k`, every
    `k`, 0 included): once the loop has then run to quiescence, the connection is in exactly the
    state that feeding all the arrived bytes in one piece to the take-all automaton produces — the
    same handler calls with the same coalesced upload bytes (concatenation of the bytes taken = the
    body), same chunk position, same replies, same bytes left for the next request. -/
theorem partial_takes_no_desync [HeadParser] [LawfulHeadParser] (lvl : Int) (app : App) (is : List Inp) :
    idle lvl app (runSched lvl app is {}) = runSegs lvl app [is.flatMap Inp.arrived] := by
  rw [sched_eq_feed lvl app is {} (by simp [ChunkWF])]
  rfl

/-- … hence `pipeline_no_desync` for every take pattern: the handler is presented exactly the
    generated requests with exactly their bodies, and the next request starts at the right byte. -/
theorem pipeline_no_desync_takes [HeadParser] [LawfulHeadParser] (lvl : Int) (app : App) (ms : List Msg) (is : List Inp)
    (hok : ∀ m ∈ ms, MsgOK lvl m) (happ : ∀ j, j < ms.length → ∃ st, app j = .cont st false)
    (hbytes : is.flatMap Inp.arrived = ms.flatMap Msg.bytes) :
    framesOf (idle lvl app (runSched lvl app is {})) = ms.map Msg.seen ∧
    (idle lvl app (runSched lvl app is {})).state = .init ∧ (idle lvl app (runSched lvl app is {})).buf = [] ∧
    (idle lvl app (runSched lvl app is {})).nreq = ms.length := by
  rw [partial_takes_no_desync lvl app is]
  exact pipeline_no_desync lvl app ms [is.flatMap Inp.arrived] hok happ (by simpa using hbytes)

/-- Non-vacuity: `POST` with a 5-byte chunk arriving in two pieces; the handler takes 2, then 0,
    then (after the rest has arrived) 1 byte, then all: 3 partial takes really happen (the state
    changes at each), and the upload seen is `hello`. -/
example :
    let s0 : St := { state := .bodyReceiving, chunked := true, remaining := sizeUnknown, buf := [53, 13, 10, 104, 101, 108] }
    let s1 := @runSched strictParser 1 (fun _ => .cont 200 false) [.step, .take 2] s0
    let s2 := @runSched strictParser 1 (fun _ => .cont 200 false) [.take 0, .bytes [108, 111, 13, 10, 48, 13, 10], .take 1] s1
    s1.buf = [108] ∧ s1.off = 2 ∧ s1.out = [.upload [104, 101]] ∧
    s2.buf = [108, 111, 13, 10, 48, 13, 10] ∧ s2.off = 3 ∧ s2.out = [.upload [104, 101, 108]] ∧
    (@idle strictParser 1 (fun _ => .cont 200 false) s2).out.getLast? = some (.upload [104, 101, 108, 108, 111]) := by decide

/-!
  `reqParser lvl rbSize` (`Mhd.Model.FramingReqHead`) runs C02's model of `get_request_line_inner`
  and then C02's model of `get_req_headers` (field lines, folding, bare CR / LF / NUL policy,
  whitespace rules, in-place termination, shift-back) on the bytes of the read buffer and reads C03's
  `Head` off the result: method, raw target, version class, and the field list = the elements of
  kind `MHD_HEADER_KIND` in list order, names and values as they stand in the final buffer.  The
  `…_real_parser…` theorems below are about this parser, not an abstract one.

  `_partial`: the composition leaves out `process_request_target` (the target is the raw one —
  no influence on framing), the two checks of the outer `get_request_line` (whitespace in the URI,
  over-long version string ⇒ refusal) and `parse_cookie_header`; trailers are scanned by the
  field-line scanner of the header section.  A head the scanners refuse is `refuse` with the
  scanner's reply (400 / 505 / … or close without reply) ⇒ `head_refusal_no_resync`.  The full
  statement would use `Req.getRequestLineOuter` + `Req.parseCookieHeader`; missing for it: the fact
  that `processRequestTarget` commutes with bytes arriving behind the request line (not exported by
  C02). -/

/-- **A head the parser refuses ⇒ error reply (or close), nothing re-parsed** — every head parser:
    in `init`, a `refuse x` verdict (forbidden bare CR / LF at that level, obs-fold where not
    admitted, whitespace before the colon, bad version, NUL …) makes the automaton queue the error
    reply `x = some code` — connection tainted, `no_reparse` applies — or close without reply
    (`x = none`); the read buffer is dropped in either case. -/
theorem head_refusal_no_resync [HeadParser] (lvl : Int) (app : App) (s : St) (x : Option Nat) (hs : s.state = .init)
    (wf : FlagsWF s) (hp : HeadParser.head s.buf = .refuse x) :
    idleStep lvl app s = some (refuseWith s x) ∧ (refuseWith s x).buf = [] ∧
    (∀ st, x = some st → NoReparse (refuseWith s x)) ∧ (x = none → (refuseWith s x).state = .closed) := by
  refine ⟨?_, ?_, ?_, ?_⟩
  · unfold idleStep; rw [hs]; simp only [hp]
  · cases x with
    | none => rfl
    | some st => exact errorReply_buf s st
  · intro st hx; subst hx; exact errorReply_props s st wf
  · intro hx; subst hx; rfl

/-- **C02's scanners form a lawful head parser**, every level, every read-buffer size: from
    `Req.rlLaws` / `Req.HSP.hsLaws` (a finished run is unchanged by bytes arriving behind it — C02's
    split independence), `Req.rl_run_done` (`RLPost`: shape of every accepted request line) and
    `Req.HSP.run_stable` (every string handed out lies below `read_buffer`). -/
theorem real_parser_lawful (lvl : Int) (rbSize : Nat) : @LawfulHeadParser (reqParser lvl rbSize) :=
  @LawfulHeadParser.of_extend (reqParser lvl rbSize) rfl (reqHead_extend lvl rbSize) (reqHead_length lvl rbSize)
    (reqTrailers_extend lvl rbSize) (reqTrailers_length lvl rbSize)

/-- **No desynchronisation, real head parser.**  `pipeline_no_desync` with the head parser
    instantiated: ∀ level, ∀ read-buffer size, ∀ list of requests whose head bytes C02's scanners
    accept *at that level* (incl. — where the level admits them — bare LF line ends, folded lines,
    whitespace before the colon, bare CR / NUL replaced by SP, leading empty lines) and whose field
    list, as delivered by the scanners, makes `decideBody` announce the body that was rendered,
    ∀ segmentation: the handler is presented exactly these requests, the connection ends in `init`
    with an empty buffer. -/
theorem pipeline_no_desync_real_parser_partial (lvl : Int) (rbSize : Nat) (app : App) (ms : List Msg) (segs : List Bytes)
    (hok : ∀ m ∈ ms, @MsgOK (reqParser lvl rbSize) lvl m) (happ : ∀ j, j < ms.length → ∃ st, app j = .cont st false)
    (hsegs : segs.flatten = ms.flatMap Msg.bytes) :
    framesOf (@runSegs (reqParser lvl rbSize) lvl app segs) = ms.map Msg.seen ∧
    (@runSegs (reqParser lvl rbSize) lvl app segs).state = .init ∧ (@runSegs (reqParser lvl rbSize) lvl app segs).buf = [] ∧
    (@runSegs (reqParser lvl rbSize) lvl app segs).nreq = ms.length :=
  @pipeline_no_desync (reqParser lvl rbSize) (real_parser_lawful lvl rbSize) lvl app ms segs hok happ hsegs

/-- **Agreement with the reference framer, real head parser.**  ∀ level, ∀ read-buffer size: on
    streams of requests whose heads C02's scanners accept and whose *delivered field list* satisfies
    RFC 9112 §6.3 (`MsgStrict`), the requests the model presents are exactly the frames of the
    reference framer.  Where the level lets the real parser accept heads a strict HTTP grammar would
    not (bare LF, obs-fold, whitespace before the colon …), the reference framer is applied to the
    **normalised head** — the field list after the parser's unfolding / replacement / trimming, and
    the head end where the parser found it — and RFC 9112 §6.3 / §7.1 strictly from there on. -/
theorem frames_agree_reference_real_parser_partial (lvl : Int) (rbSize : Nat) (app : App) (ms : List Msg) (segs : List Bytes)
    (hms : ∀ m ∈ ms, @MsgStrict (reqParser lvl rbSize) m) (hh : ∀ m ∈ ms, HostOK lvl m.head.http11 m.head.fields)
    (happ : ∀ j, j < ms.length → ∃ st, app j = .cont st false)
    (hsegs : segs.flatten = ms.flatMap Msg.bytes) :
    framesOf (@runSegs (reqParser lvl rbSize) lvl app segs) = (@Framer.frames (reqParser lvl rbSize) lvl segs.flatten).1.map Frame.seen ∧
    (@Framer.frames (reqParser lvl rbSize) lvl segs.flatten).2 = .incomplete 0 :=
  @frames_agree_reference (reqParser lvl rbSize) (real_parser_lawful lvl rbSize) lvl app ms segs hms hh happ hsegs

/-- … and split independence / take-pattern independence of the composition, for the record. -/
theorem split_independence_real_parser_partial (lvl : Int) (rbSize : Nat) (app : App) (segs : List Bytes) :
    @runSegs (reqParser lvl rbSize) lvl app segs = @runSegs (reqParser lvl rbSize) lvl app [segs.flatten] :=
  @split_independence (reqParser lvl rbSize) (real_parser_lawful lvl rbSize) lvl app segs

/-- Non-vacuity (kernel evaluation of C02's scanners — a test of the example, not a proof step): at
    level 0 the head `PUT /x HTTP/1.1 LF  hOsT: HT SP h SP CRLF  Fold: a CRLF SP SP b LF
    content-LENGTH: 3 CRLF  LF` — bare LF line ends, a folded line, mixed-case names, OWS — is
    accepted and delivers three fields; with the body `abc` it is a `MsgOK`; at level 1 the same
    bytes are refused with 400 (bare LF). -/
example : @MsgOK (reqParser 0 4096) 0
    ⟨[80, 85, 84, 32, 47, 120, 32, 72, 84, 84, 80, 47, 49, 46, 49, 10, 104, 79, 115, 84, 58, 9, 32, 104, 32, 13, 10,
      70, 111, 108, 100, 58, 32, 97, 13, 10, 32, 32, 98, 10,
      99, 111, 110, 116, 101, 110, 116, 45, 76, 69, 78, 71, 84, 72, 58, 32, 51, 13, 10, 10],
     ⟨[80, 85, 84], [47, 120], true,
      [⟨[104, 79, 115, 84], [104]⟩, ⟨[70, 111, 108, 100], [97, 32, 32, 32, 32, 98]⟩,
       ⟨[99, 111, 110, 116, 101, 110, 116, 45, 76, 69, 78, 71, 84, 72], [51]⟩]⟩,
     .identity [97, 98, 99]⟩ :=
  @MsgOK.mk (reqParser 0 4096) _ _ (by decide +kernel) ⟨by decide, by decide⟩ (by decide) (Or.inl rfl)

example : reqHead 1 4096 [80, 85, 84, 32, 47, 120, 32, 72, 84, 84, 80, 47, 49, 46, 49, 10, 104, 79, 115, 84, 58, 9, 32, 104, 32, 13, 10,
      70, 111, 108, 100, 58, 32, 97, 13, 10, 32, 32, 98, 10,
      99, 111, 110, 116, 101, 110, 116, 45, 76, 69, 78, 71, 84, 72, 58, 32, 51, 13, 10, 10] = .refuse (some 400) := by decide +kernel

/-- … and the connection answers 400 with close and drops the pipelined request behind it -/
example : (@runSegs (reqParser 1 4096) 1 (fun _ => .cont 200 false)
    [[80, 85, 84, 32, 47, 120, 32, 72, 84, 84, 80, 47, 49, 46, 49, 10, 104, 58, 49, 13, 10, 13, 10,
      71, 69, 84, 32, 47, 32, 72, 84, 84, 80, 47, 49, 46, 48, 13, 10, 13, 10]]).out = [.close, .reply 400 true] := by decide +kernel

/-- the whole connection with the real parser on that lenient stream followed by a pipelined
    `GET / HTTP/1.0` (kernel evaluation): two requests, the first with body `abc` -/
example : framesOf (@runSegs (reqParser 0 4096) 0 (fun _ => .cont 200 false)
    [[80, 85, 84, 32, 47, 120, 32, 72, 84, 84, 80, 47, 49, 46, 49, 10, 104, 79, 115, 84, 58, 9, 32, 104, 32, 13, 10,
      70, 111, 108, 100, 58, 32, 97, 13, 10, 32, 32, 98, 10,
      99, 111, 110, 116, 101, 110, 116, 45, 76, 69, 78, 71, 84, 72, 58, 32, 51, 13, 10, 10, 97, 98],
     [99, 71, 69, 84, 32, 47, 32, 72, 84, 84, 80, 47, 49, 46, 48, 13, 10, 13, 10]])
    = [⟨[80, 85, 84], [47, 120], [97, 98, 99]⟩, ⟨[71, 69, 84], [47], []⟩] := by decide +kernel

/-- Once `discard_request ∨ stop_with_error ∨ keepalive = MUST_CLOSE` ("reply carries close")
    holds in a state other than `init`, then after **any** sequence of transitions — idle-loop
    cases under any application behaviour, interleaved with any bytes from the client — the
    automaton is never in `init` again: no later byte reaches the request-line parser
    (`parseHead` is only evaluated in `init`). -/
theorem no_reparse [HeadParser] (lvl : Int) (s s' : St) (hr : Reach lvl s s') (hwf : FlagsWF s)
    (ht : Tainted s) (hs : s.state ≠ .init) : s'.state ≠ .init ∧ Tainted s' :=
  let j := ((reach_keeps lvl s s' hr).2 ⟨hwf, ht, hs⟩).1
  ⟨j.2.2, j.2.1⟩

/-- … and once the current request is past its first handler call, the handler is never shown
    another request: the number of `first` events stays what it is, forever. -/
theorem no_further_request [HeadParser] (lvl : Int) (s s' : St) (hr : Reach lvl s s') (hwf : FlagsWF s)
    (ht : Tainted s) (hp : PastFirst s) : countFirst s'.out = countFirst s.out :=
  (((reach_keeps lvl s s' hr).2 ⟨hwf, ht, hp.1⟩).2 hp).2

/-- The hypothesis `FlagsWF` holds in every state the model can reach from a fresh connection. -/
theorem flagsWF_reachable [HeadParser] (lvl : Int) (s : St) (hr : Reach lvl {} s) : FlagsWF s :=
  (reach_keeps lvl {} s hr).1 flagsWF_init

/-- Where the taint comes from (i): an error reply (`transmit_error_response_len`). -/
theorem error_reply_taints [HeadParser] (s : St) (status : Nat) (hwf : FlagsWF s) :
    Tainted (errorReply s status) ∧ (errorReply s status).state ≠ .init :=
  (errorReply_props s status hwf).2

/-- **A reply that announces close ON THE WIRE is the last thing the connection serves.**  In
    `no_reparse` "reply carries close" is a flag of the reply.  Here it is the bytes: for every
    response object reachable by any legal sequence of `MHD_add_response_header` /
    `MHD_del_response_header` / footer / option calls from any constructor (C04's model of response.c)
    that stays inside C03's assumptions (`PlainResp`: no upgrade, no HTTP/1.0 response flags, known
    size), queued for the request of framing state `s` (`connOf s` = that connection as the reply
    builder sees it): the complete reply parses, and **if its head has a Connection field with a
    `close` token** (C04's grammar-level `announcesClose`) then the framing automaton's reply step
    leaves the connection tainted, and after **any** further transitions and bytes it is never in
    `init` again and the handler is never shown another request.  Proof: `Mhd.C04.close_announced_iff`
    (wire ⇔ MUST_CLOSE in the reply builder) + agreement of the two models of `keepalive_possible`
    (`ka_bridge`) + `no_reparse` / `no_further_request`. -/
theorem announced_close_no_further_request [HeadParser] (r0 : Mhd.Resp.Resp) (cs : List Mhd.Resp.Call)
    (h0 : (∃ size, r0 = Mhd.Resp.Resp.create size) ∨ (∃ f, f.insanity = false ∧ r0 = Mhd.Resp.Resp.createEmpty f) ∨
      r0 = Mhd.Resp.Resp.createUpgrade)
    (hl : ∀ c ∈ cs, c.Legal) (hplain : PlainResp (Mhd.Resp.runCalls r0 cs))
    (lvl : Int) (app : App) (s : St) (status : Nat) (hs : s.state = .startReply) (wf : FlagsWF s)
    (hresp : s.resp = some (status, (Mhd.Resp.runCalls r0 cs).fa.connClose))
    (st : Mhd.Reply.CState) (allow : Bool) (code0 : Nat) (q : Mhd.Reply.Queued) (src : Mhd.Reply.BodySrc)
    (date : Option Mhd.ReplyStr.Bytes) (wb : Nat)
    (hq : Mhd.Reply.queueResponse (connOf s) st false false allow code0 (Mhd.Resp.runCalls r0 cs) = some q)
    (hdate : ∀ d, date = some d → Mhd.Http.NoCRLF d) (hsz : (Mhd.Resp.runCalls r0 cs).totalSize < 2 ^ 64)
    (hsrc : Mhd.Reply.SrcLegal (Mhd.Resp.runCalls r0 cs) wb src) (hwb : 128 ≤ wb)
    (hcomp : (Mhd.Reply.sendReply (connOf s) (Mhd.Resp.runCalls r0 cs) q src date wb
      (Mhd.Reply.startPosAfterQueue q (Mhd.Resp.runCalls r0 cs) 0)).complete = true) :
    ∃ p, Mhd.Http.parseReply (Mhd.Reply.reqOf (connOf s)) (Mhd.Reply.sendReply (connOf s) (Mhd.Resp.runCalls r0 cs) q src date wb
        (Mhd.Reply.startPosAfterQueue q (Mhd.Resp.runCalls r0 cs) 0)).wire = some p ∧
      (Mhd.Http.announcesClose p.fields = true →
        ∃ s1, idleStep lvl app s = some s1 ∧ NoReparse s1 ∧ PastFirst s1 ∧
          ∀ s', Reach lvl s1 s' → s'.state ≠ .init ∧ countFirst s'.out = countFirst s1.out) := by
  obtain ⟨p, hp, hiff, _⟩ := Mhd.C04.close_announced_iff r0 cs h0 hl (connOf s) st allow code0 q src date wb hq hdate hsz hsrc hwb hcomp
  rw [Mhd.C04.sendReply_ka] at hiff
  exact ⟨p, hp, fun hann => mustClose_taints _ hplain lvl app s status hs wf hresp q.code (hiff.1 hann)⟩

/-- Non-vacuity, the call sequence of seed C03_7: add `Connection: close`, add `Connection: Foo`
    (value `close, Foo`), delete `Foo` — the response object still carries the close flag, is plain,
    and the calls are legal (kernel evaluation of C04's response model). -/
example :
    let cs : List Mhd.Resp.Call := [.add Mhd.Resp.sConnection [99, 108, 111, 115, 101], .add Mhd.Resp.sConnection [70, 111, 111],
                                    .del Mhd.Resp.sConnection [70, 111, 111]]
    (Mhd.Resp.runCalls (Mhd.Resp.Resp.create 5) cs).fa.connClose = true ∧
    (Mhd.Resp.runCalls (Mhd.Resp.Resp.create 5) cs).upgrade = false ∧
    (Mhd.Resp.runCalls (Mhd.Resp.Resp.create 5) cs).totalSize = 5 := by decide +kernel

/-- For whole runs: whatever was fed before (`segs₁`), if the connection is then tainted and not
    in `init`, no continuation `segs₂` of the stream brings it back to `init` or shows the handler a new request. -/
theorem no_reparse_run [HeadParser] (lvl : Int) (app : App) (segs₁ segs₂ : List Bytes)
    (ht : Tainted (runSegs lvl app segs₁)) (hs : (runSegs lvl app segs₁).state ≠ .init) :
    (runSegs lvl app (segs₁ ++ segs₂)).state ≠ .init := by
  have h1 : Reach lvl {} (runSegs lvl app segs₁) := reach_foldl_feed lvl app segs₁ {}
  have h2 : Reach lvl (runSegs lvl app segs₁) (runSegs lvl app (segs₁ ++ segs₂)) := by
    unfold runSegs; rw [List.foldl_append]; exact reach_foldl_feed lvl app segs₂ _
  exact (no_reparse lvl _ _ h2 (flagsWF_reachable lvl _ h1) ht hs).1

/-- Non-vacuity: Transfer-Encoding + Content-Length at a lenient level leaves the connection, in the
    middle of the body, in a tainted state other than `init` (the hypotheses of `no_reparse`), and an
    early reply ends in `closed`. -/
example :
    (@runSegs strictParser 0 (fun _ => .cont 200 false) [[80, 79, 83, 84, 32, 47, 32, 72, 84, 84, 80, 47, 49, 46, 49, 13, 10, 72, 111, 115, 116, 58, 32, 104, 13, 10, 84, 114, 97, 110, 115, 102, 101, 114, 45, 69, 110, 99, 111, 100, 105, 110, 103, 58, 32, 99, 104, 117, 110, 107, 101, 100, 13, 10, 67, 111, 110, 116, 101, 110, 116, 45, 76, 101, 110, 103, 116, 104, 58, 32, 51, 13, 10, 13, 10, 53, 13, 10, 97, 98]]).keepalive = .mustClose ∧
    (@runSegs strictParser 0 (fun _ => .cont 200 false) [[80, 79, 83, 84, 32, 47, 32, 72, 84, 84, 80, 47, 49, 46, 49, 13, 10, 72, 111, 115, 116, 58, 32, 104, 13, 10, 84, 114, 97, 110, 115, 102, 101, 114, 45, 69, 110, 99, 111, 100, 105, 110, 103, 58, 32, 99, 104, 117, 110, 107, 101, 100, 13, 10, 67, 111, 110, 116, 101, 110, 116, 45, 76, 101, 110, 103, 116, 104, 58, 32, 51, 13, 10, 13, 10, 53, 13, 10, 97, 98]]).state = .bodyReceiving := by decide +kernel

example :
    (@runSegs strictParser 0 (fun _ => .early 200 false)
      [[71, 69, 84, 32, 47, 32, 72, 84, 84, 80, 47, 49, 46, 48, 13, 10, 13, 10]]).discard = true ∧
    (@runSegs strictParser 0 (fun _ => .early 200 false)
      [[71, 69, 84, 32, 47, 32, 72, 84, 84, 80, 47, 49, 46, 48, 13, 10, 13, 10]]).state = .closed := by decide

end Mhd.C03
