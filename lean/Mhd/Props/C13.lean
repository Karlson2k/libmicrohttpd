/-
  C13 — Digest nonces: issued-only, expiring, each nonce count usable once.

  Object: the executable model `Mhd.Nonce` (lean/Mhd/Model/Nonce.lean) of
  check_nonce_nc, is_slot_available, calculate_add_nonce (table part),
  get_nonce_timestamp, fast_simple_hash and the nonce / nonce-count vetting
  sequence of digest_auth_check_all(_inner) in src/microhttpd/digestauth.c.

  Quantification.  `size` is the table size (`daemon->nonce_nc_size`, any
  natural number including 0), `ops` any list of operations of any length
    add ts nonce          — calculate_add_nonce produced `nonce` at time `ts`
    check nonce time nc   — check_nonce_nc
    present now timeout max_nc stdlen nonce nc — MHD_digest_auth_check3's vetting
  with arbitrary arguments.  The only hypothesis on `ops` is `Op.Wf`: a
  *registered* nonce is non-empty and has no NUL byte (the daemon makes them
  with MHD_bin_to_hex), and `stdlen` is one of the two NONCE_STD_LEN values.
  Presented nonces are arbitrary byte strings; clauses that identify a presented
  nonce with a registered one ask it to be NUL-free (`NoNul`) — an HTTP field
  value cannot contain NUL.

  Concurrency.  In the C code every access to the table happens between
  `MHD_mutex_lock_chk_ (&daemon->nnc_lock)` and the matching unlock, in
  check_nonce_nc and in calculate_add_nonce; one model step is one such
  critical section.  The theorems are over *arbitrary sequences* of steps,
  which therefore covers every interleaving of concurrent presentations and
  registrations; that every access to the table is really made under the lock
  is the theorem `nonce_table_accessed_only_under_lock` over the lock table
  regenerated from the clang AST at every run.

  Generation.  The registered nonces are tied to the code that makes them:
  section "nonce generation" composes `Mhd.Dauth.calcNonce` (calculate_nonce at
  the byte level, hash = C16's specification) and `Mhd.NonceGen.calcAddNonce
  (Retry)` with the runs of this file (`generation_is_run_step`,
  `generated_nonce_wellformed`, `generated_then_verified`, `bound_*`,
  `nonce_length_matches_algorithm`, `retry_*`).

  The history of a run is kept most-recent-first; its abstract view is
    lastAdd  size h i   the nonce registered last in slot i
    usedSince size h i  the list (set) of counts accepted in slot i since then
    okCount h n c / addCount h n   how often (n, c) was accepted / n registered.
  Where a statement is an instance of a more general lemma of `Mhd.Proofs.Nonce*` its
  proof is that instance; where it is the natural statement itself, the proof stands here.
-/
import Mhd.Proofs.NoncePolicy
import Mhd.Proofs.NonceGen
import Mhd.Props.C18

namespace Mhd.C13
open Mhd.Nonce Mhd.Gen.Nonce

/-- Refinement step.  If `(nc, nmask)` represents the set `used` (`WInv`: 0 and
    the highest count are used, nothing above the highest is, bit `i` of the mask
    says whether `nc - 1 - i` is used), then after presenting any count `c < 2^32`
    it represents `used ∪ {c}` if `c` was accepted and `used` otherwise. -/
theorem window_refines (w : Win) (used : Nat → Prop) (c : Nat) (hi : WInv w used)
    (hc : c < W32) (hw : w.nc < W32) :
    WInv (windowStep w c).1 (fun n => used n ∨ ((windowStep w c).2 = true ∧ n = c)) :=
  Mhd.Nonce.window_refines w used c hi hc hw

/-- … and `c` is accepted exactly when it has not been used and is at most 64
    behind the highest count used (jumps forward of any size are accepted:
    for `c` above the highest both conditions are automatic). -/
theorem window_exact (w : Win) (used : Nat → Prop) (c : Nat) (hi : WInv w used)
    (hc : c < W32) (hw : w.nc < W32) :
    (windowStep w c).2 = true ↔ (¬ used c ∧ w.nc ≤ c + 64) :=
  Mhd.Nonce.window_ok_iff w used c hi hc hw

/-- Non-vacuity, and the jumps of exactly 63 / 64 / 65 / 66: starting from the
    window after counts {0, 1}, jump to 1 + j; count 2 is then still inside the
    window for j = 63, 64, 65 and outside for j = 66. -/
example : WInv ⟨1, 1#64⟩ (fun c => c = 0 ∨ c = 1) := by
  refine ⟨Or.inl rfl, Or.inr rfl, ?_, ?_⟩
  · intro n hn; show n ≤ 1; omega
  · intro i hi
    show (1#64).getLsbD i = true ↔ i < 1 ∧ (1 - 1 - i = 0 ∨ 1 - 1 - i = 1)
    rw [BitVec.getLsbD_one]
    simp
example : ((windowStep (windowStep ⟨1, 1#64⟩ 64).1 2).2, (windowStep (windowStep ⟨1, 1#64⟩ 65).1 2).2,
           (windowStep (windowStep ⟨1, 1#64⟩ 66).1 2).2, (windowStep (windowStep ⟨1, 1#64⟩ 67).1 2).2)
    = (true, true, true, false) := by decide

/-- Refinement of whole runs: after any sequence of operations on a table of
    any size, every slot holds the nonce registered last in it (followed by the
    terminating NUL; first byte NUL if nothing was ever registered), its `nc` fits
    32 bits, and its (nc, nmask) pair represents {0} ∪ the counts accepted since
    that registration. -/
theorem run_refines (size : Nat) (ops : List Op) (hwf : ∀ o ∈ ops, o.Wf) :
    TblRel size (run size ops).1 (run size ops).2 :=
  run_rel size ops hwf

/-- Each count authenticates at most once per registration of the nonce: in any
    run, `(n, c)` is accepted at most as many times as `n` was registered. -/
theorem at_most_once (size : Nat) (ops : List Op) (hwf : ∀ o ∈ ops, o.Wf)
    (n : Bytes) (hn : NoNul n) (hne : n ≠ []) (c : Nat) :
    okCount (run size ops).2 n c ≤ addCount (run size ops).2 n :=
  (run_cnt size ops hwf n hn hne c).1

/-- … in particular at most once for a nonce issued once. -/
theorem at_most_once_single (size : Nat) (ops : List Op) (hwf : ∀ o ∈ ops, o.Wf)
    (n : Bytes) (hn : NoNul n) (hne : n ≠ []) (c : Nat) (h1 : addCount (run size ops).2 n ≤ 1) :
    okCount (run size ops).2 n c ≤ 1 :=
  Nat.le_trans (at_most_once size ops hwf n hn hne c) h1

/-- A nonce the daemon never registered is never accepted, with any count. -/
theorem never_issued (size : Nat) (ops : List Op) (hwf : ∀ o ∈ ops, o.Wf)
    (n : Bytes) (hn : NoNul n) (hne : n ≠ []) (c : Nat) (h0 : addCount (run size ops).2 n = 0) :
    okCount (run size ops).2 n c = 0 :=
  Nat.eq_zero_of_le_zero (h0 ▸ at_most_once size ops hwf n hn hne c)

/-- Soundness of an acceptance, at any point of any run: if the next
    presentation `o` (through check_nonce_nc or through the whole vetting
    sequence) is accepted, then its count is non-zero, below the guard
    `UINT32_MAX - 64`, was not accepted before since the registration, is at most
    64 behind every count accepted since — and the nonce is the one registered
    last in its slot: a nonce that was evicted (its slot re-used for another
    nonce) or never registered is not accepted. -/
theorem accepted_counts_bounded (size : Nat) (ops : List Op) (hwf : ∀ o ∈ ops, o.Wf) (o : Op)
    (hadd : o.isAdd = false) (hok : (step (run size ops).1 o).2 = .ok) :
    o.count ≠ 0 ∧ o.count < ncGuard ∧
    o.count ∉ usedSince size (run size ops).2 (slotIdx size o.nonce) ∧
    (∀ u ∈ usedSince size (run size ops).2 (slotIdx size o.nonce), u ≤ o.count + 64) ∧
    (NoNul o.nonce → o.nonce ≠ [] → lastAdd size (run size ops).2 (slotIdx size o.nonce) = some o.nonce) :=
  ok_facts size _ _ o (run_rel size ops hwf) hadd hok

/-- The same as a statement about eviction: if the nonce registered last in the
    slot of `n` is not `n`, no presentation of `n` is accepted. -/
theorem ok_only_if_registered_last (size : Nat) (ops : List Op) (hwf : ∀ o ∈ ops, o.Wf) (o : Op)
    (hadd : o.isAdd = false) (hn : NoNul o.nonce) (hne : o.nonce ≠ [])
    (hev : lastAdd size (run size ops).2 (slotIdx size o.nonce) ≠ some o.nonce) :
    (step (run size ops).1 o).2 ≠ .ok :=
  fun hok => hev ((accepted_counts_bounded size ops hwf o hadd hok).2.2.2.2 hn hne)

/-- Window completeness, at any point of any run: if `n` is the nonce registered
    last in its slot, then every count that is non-zero, below the guard, not yet
    accepted and at most 64 behind every count accepted so far IS accepted by
    check_nonce_nc (whatever `nonce_time` is passed). -/
theorem window_complete (size : Nat) (ops : List Op) (hwf : ∀ o ∈ ops, o.Wf) (n : Bytes) (t c : Nat)
    (hla : lastAdd size (run size ops).2 (slotIdx size n) = some n)
    (hc0 : c ≠ 0) (hcg : c < ncGuard)
    (hnew : c ∉ usedSince size (run size ops).2 (slotIdx size n))
    (hwin : ∀ u ∈ usedSince size (run size ops).2 (slotIdx size n), u ≤ c + 64) :
    (step (run size ops).1 (.check n t c)).2 = .ok := by
  have := complete_of_rel size _ _ n t c (run_rel size ops hwf) hla hc0 hcg hnew hwin
  simp [step, this, Out.ofNc]

/-- … and by the whole vetting sequence, if in addition the count does not
    exceed `max_nc` (0 = the daemon default) and the nonce is not older than
    `nonce_timeout` (0 = the daemon default). -/
theorem window_complete_present (size : Nat) (ops : List Op) (hwf : ∀ o ∈ ops, o.Wf)
    (now tmo mx : Nat) (n : Bytes) (t c : Nat)
    (hla : lastAdd size (run size ops).2 (slotIdx size n) = some n)
    (hc0 : c ≠ 0) (hcg : c < ncGuard)
    (hnew : c ∉ usedSince size (run size ops).2 (slotIdx size n))
    (hwin : ∀ u ∈ usedSince size (run size ops).2 (slotIdx size n), u ≤ c + 64)
    (hmx : c ≤ (if mx = 0 then defMaxNc else mx))
    (ht : getNonceTimestamp n n.length = .ts t)
    (hexp : trim (sub64 now t) ≤ ((if tmo = 0 then defTimeout else tmo) * 1000) % 2 ^ timeoutBits) :
    (step (run size ops).1 (.present now tmo mx n.length n c)).2 = .ok := by
  have := complete_of_rel size _ _ n t c (run_rel size ops hwf) hla hc0 hcg hnew hwin
  simp [step, present_live _ now tmo mx n c t hc0 hmx ht hexp, this, Out.ofNc]

/-- A (well-formed) nonce older than the configured lifetime is reported stale,
    whatever the table contains, and the table is not touched.  `nonce_timeout`
    is multiplied by 1000 as `unsigned int`, as in the C code. -/
theorem expired_is_stale (tbl : Table) (now tmo mx : Nat) (n : Bytes) (c t : Nat)
    (hc : c ≠ 0) (hmx : c ≤ (if mx = 0 then defMaxNc else mx))
    (ht : getNonceTimestamp n n.length = .ts t)
    (hexp : trim (sub64 now t) > ((if tmo = 0 then defTimeout else tmo) * 1000) % 2 ^ timeoutBits) :
    present tbl now tmo mx n.length n c = (tbl, .stale) :=
  present_expired tbl now tmo mx n c t hc (by omega) ht hexp

/-- A count above the configured maximum is reported stale (table untouched);
    counts at or above `UINT32_MAX - 64` are never accepted
    (`accepted_counts_bounded`). -/
theorem above_max_nc_is_stale (tbl : Table) (now tmo mx sl : Nat) (n : Bytes) (c : Nat)
    (hc : c ≠ 0) (hmx : (if mx = 0 then defMaxNc else mx) < c) :
    present tbl now tmo mx sl n c = (tbl, .stale) := by
  unfold present
  simp only []
  have h0 : (if mx = 0 then defMaxNc else mx) ≠ 0 := by
    split
    · simp [defMaxNc]
    · assumption
  rw [if_neg hc, if_pos ⟨h0, hmx⟩]

/-- The slot of the presented nonce `n` holds another issued nonce of the same
    length, made for time `tm`; `t` is the time `n` carries.  With
    `d = (t - tm) mod 2^48`: `stale` if `d ≤ REUSE_TIMEOUT·1000` ("may not have been
    placed in the slot because another nonce had not expired"), `stale` if
    `d ≤ (2^48-1)/2`, else `wrong`; the table is not touched.  (So, as the code
    stands: a presented nonce *not older* than the one in the slot is stale, an
    *older* one — e.g. one evicted by a newer nonce — is reported wrong; the
    comments in check_nonce_nc describe the opposite intent for the last two
    cases.  The property only requires "never accepted", see
    `ok_only_if_registered_last`.) -/
theorem evicted_classification (size : Nat) (ops : List Op) (hwf : ∀ o ∈ ops, o.Wf)
    (hm : Bytes) (tm : Nat) (n : Bytes) (t c : Nat)
    (hla : lastAdd size (run size ops).2 (slotIdx size n) = some (mkNonce hm tm))
    (hstd : (mkNonce hm tm).length = stdLenMd5 ∨ (mkNonce hm tm).length = stdLenSha)
    (hlen : n.length = (mkNonce hm tm).length) (hne : n ≠ mkNonce hm tm) (hc : c < ncGuard) :
    step (run size ops).1 (.check n t c) =
      ((run size ops).1,
       if reuseTimeout * 1000 ≥ trim (sub64 t (trim tm)) then .stale
       else if trim (W64 - 1) / 2 ≥ trim (sub64 t (trim tm)) then .stale else .wrong) := by
  have hr := run_rel size ops hwf
  obtain ⟨nn, hnn, hs⟩ := hr.slot (Nat.zero_lt_of_lt (hr.2.1 _ _ hla)) n
  obtain ⟨k1, k2, _⟩ := hs.2.2.2.2.2.1 _ hla
  obtain ⟨c1, c2⟩ := classify_same_length nn hm tm n t k1 k2 hstd hlen hne
  have hlen' : n.length ≤ maxNonceLen := by
    rw [hlen]; rcases hstd with h | h <;> rw [h] <;> simp [stdLenMd5, stdLenSha, maxNonceLen]
  simp only [step, check_mismatch _ n t c nn hlen' hc hnn c1, c2]
  split
  · rfl
  · split <;> rfl

/-- Nothing was ever registered in the slot of `n`: `wrong`. -/
theorem never_registered_slot_is_wrong (size : Nat) (ops : List Op) (hwf : ∀ o ∈ ops, o.Wf)
    (n : Bytes) (t c : Nat) (hsz : 0 < size)
    (hla : lastAdd size (run size ops).2 (slotIdx size n) = none)
    (hn : NoNul n) (hne : n ≠ []) (hlen : n.length ≤ maxNonceLen) (hc : c < ncGuard) :
    step (run size ops).1 (.check n t c) = ((run size ops).1, .wrong) := by
  obtain ⟨nn, hnn, hs⟩ := (run_rel size ops hwf).slot hsz n
  rw [hla] at hs
  simp only [step, check_mismatch _ n t c nn hlen hc hnn (hs.not_matches hn hne hlen (fun h => by cases h)),
    classify_empty nn n t (hs.2.2.2.2.1 rfl) hs.2.2.1 hlen, Out.ofNc]

/-- When calculate_add_nonce has made the nonce `n` at time `ts`, at any point of
    any run (table size > 0):
    * nothing registered in its slot yet → registered;
    * `n` itself is registered there → refused (it would clear the usage history);
    * another nonce is there (and `n` is not a prefix of it) and at least one count
      of it has been accepted → registered (the old nonce is evicted);
    * another issued nonce, made for time `tm`, is there, unused → registered iff
      it is older than REUSE_TIMEOUT: `(ts - tm) mod 2^48 > REUSE_TIMEOUT·1000`. -/
theorem registration_policy (size : Nat) (ops : List Op) (hwf : ∀ o ∈ ops, o.Wf)
    (ts : Nat) (n : Bytes) (hsz : 0 < size) (hn : NoNul n) (hne : n ≠ []) (hlen : n.length ≤ maxNonceLen) :
    (lastAdd size (run size ops).2 (slotIdx size n) = none →
       (step (run size ops).1 (.add ts n)).2 = .added) ∧
    (lastAdd size (run size ops).2 (slotIdx size n) = some n →
       (step (run size ops).1 (.add ts n)).2 = .refused) ∧
    (∀ m, lastAdd size (run size ops).2 (slotIdx size n) = some m → ¬ n <+: m →
       usedSince size (run size ops).2 (slotIdx size n) ≠ [] →
       (step (run size ops).1 (.add ts n)).2 = .added) ∧
    (∀ hm tm, lastAdd size (run size ops).2 (slotIdx size n) = some (mkNonce hm tm) →
       ((mkNonce hm tm).length = stdLenMd5 ∨ (mkNonce hm tm).length = stdLenSha) → ¬ n <+: mkNonce hm tm →
       usedSince size (run size ops).2 (slotIdx size n) = [] →
       (step (run size ops).1 (.add ts n)).2 =
         (if reuseTimeout * 1000 < trim (sub64 ts (trim tm)) then .added else .refused)) := by
  obtain ⟨nn, hnn, hs⟩ := (run_rel size ops hwf).slot hsz n
  have hstep := fun b => add_result _ ts n nn b hnn
    (by have := hs.2.2.1; simp only [nonceBufSize, maxNonceLen] at *; omega)
  obtain ⟨a1, a2, a3, a4⟩ := hs.avail ts hn hlen
  refine ⟨fun hla => hstep _ (a1 hla), fun hla => hstep _ (a2 hla), fun m hla hp hus => hstep _ (a3 m hla hp hus),
    fun hm tm hla hstd hp hus => ?_⟩
  rw [hstep _ (a4 hm tm hla hstd hp hus)]
  simp only [decide_eq_true_eq]

/-- get_nonce_timestamp reads back from a nonce made by calculate_nonce (hex hash
    followed by the 12 hex digits of the time; whatever follows in the buffer)
    the time it was made for, trimmed to 48 bits. -/
theorem issued_nonce_timestamp (hashHex rest : Bytes) (ts : Nat)
    (hl : (mkNonce hashHex ts).length = stdLenMd5 ∨ (mkNonce hashHex ts).length = stdLenSha) :
    getNonceTimestamp (mkNonce hashHex ts ++ rest) (mkNonce hashHex ts).length = .ts (trim ts) :=
  getNonceTimestamp_mkNonce hashHex rest ts hl

/-- No step of any run reads outside the presented nonce or a slot buffer: the
    checked accessors of the model never report `fault` (registered nonces at most
    MAX_DIGEST_NONCE_LENGTH long, presented ones arbitrary). -/
theorem no_fault (size : Nat) (ops : List Op) (hwf : ∀ o ∈ ops, o.Wf) :
    ∀ e ∈ (run size ops).2, e.out ≠ .fault :=
  run_no_fault ops _ [] (bufOk_init size) nofun fun o ho => (hwf o ho).safe

/-! Non-vacuity: concrete runs satisfying the hypotheses above (`decide +kernel` here evaluates closed terms; these
    are instances, not the proofs). -/

def exH (b : UInt8) : Bytes := List.replicate 32 b
/-- a 44-character nonce made at t = 1000 -/
def exA : Bytes := mkNonce (exH 97) 1000
/-- another one made at t = 1005 -/
def exB : Bytes := mkNonce (exH 98) 1005
/-- register A, use count 1, then jump forward by `j` -/
def exOps (j : Nat) : List Op := [.add 1000 exA, .check exA 1000 1, .check exA 1000 (1 + j)]
/-- register A, use it, B evicts it (1-slot table) -/
def exEvict : List Op := [.add 1000 exA, .check exA 1000 1, .add 1005 exB]

theorem exA_ok : NoNul exA ∧ exA ≠ [] ∧ exA.length ≤ maxNonceLen :=
  ⟨by show ∀ b ∈ exA, b ≠ 0; decide, by decide, by decide⟩
theorem exB_ok : NoNul exB ∧ exB ≠ [] ∧ exB.length ≤ maxNonceLen :=
  ⟨by show ∀ b ∈ exB, b ≠ 0; decide, by decide, by decide⟩

theorem exOps_wf (j : Nat) : ∀ o ∈ exOps j, o.Wf := by
  intro o ho
  simp only [exOps, List.mem_cons, List.not_mem_nil, or_false] at ho
  rcases ho with rfl | rfl | rfl
  · exact exA_ok
  · trivial
  · trivial

theorem exEvict_wf : ∀ o ∈ exEvict, o.Wf := by
  intro o ho
  simp only [exEvict, List.mem_cons, List.not_mem_nil, or_false] at ho
  rcases ho with rfl | rfl | rfl
  · exact exA_ok
  · trivial
  · exact exB_ok

/-- jumps of exactly 63, 64 and 65: count 2 is still inside the window and is accepted -/
example : (step (run 1 (exOps 63)).1 (.check exA 1000 2)).2 = .ok :=
  window_complete 1 (exOps 63) (exOps_wf 63) exA 1000 2 (by decide +kernel) (by decide) (by decide)
    (by decide +kernel) (by decide +kernel)
example : (step (run 1 (exOps 64)).1 (.check exA 1000 2)).2 = .ok :=
  window_complete 1 (exOps 64) (exOps_wf 64) exA 1000 2 (by decide +kernel) (by decide) (by decide)
    (by decide +kernel) (by decide +kernel)
example : (step (run 1 (exOps 65)).1 (.check exA 1000 2)).2 = .ok :=
  window_complete 1 (exOps 65) (exOps_wf 65) exA 1000 2 (by decide +kernel) (by decide) (by decide)
    (by decide +kernel) (by decide +kernel)
/-- … through the whole vetting sequence too (t = 1000, now = 50 000, default timeout 90 s) -/
example : (step (run 1 (exOps 65)).1 (.present 50000 0 0 exA.length exA 2)).2 = .ok :=
  window_complete_present 1 (exOps 65) (exOps_wf 65) 50000 0 0 exA 1000 2 (by decide +kernel) (by decide)
    (by decide) (by decide +kernel) (by decide +kernel) (by decide) (by decide +kernel) (by decide +kernel)
/-- after a jump of 66 the window-completeness hypothesis fails for count 2 (68 > 2 + 64) and the code
    refuses it; a replay of count 1 is refused (sample evaluation) -/
example : (step (run 1 (exOps 66)).1 (.check exA 1000 2)).2 = .stale := by decide +kernel
example : (step (run 1 (exOps 5)).1 (.check exA 1000 1)).2 = .stale := by decide +kernel
/-- the run really accepts: two acceptances, one registration, and `at_most_once` is tight -/
example : okCount (run 1 (exOps 5)).2 exA 1 = 1 ∧ addCount (run 1 (exOps 5)).2 exA = 1 := by decide +kernel
/-- eviction: after B took the slot, A is not accepted … -/
example : (step (run 1 exEvict).1 (.check exA 1000 2)).2 ≠ .ok :=
  ok_only_if_registered_last 1 exEvict exEvict_wf (.check exA 1000 2) rfl exA_ok.1 exA_ok.2.1 (by decide +kernel)
/-- … and is classified by the time stamps (here: A is 5 ms older than B → `wrong` as the code stands) -/
example : step (run 1 exEvict).1 (.check exA 1000 2) = ((run 1 exEvict).1, .wrong) := by
  have := evicted_classification 1 exEvict exEvict_wf (exH 98) 1005 exA 1000 2 (by decide +kernel)
    (by decide) (by decide) (by decide) (by decide)
  rw [this]; decide +kernel
/-- registration policy, fourth clause: A unused and 5 ms old keeps its slot, 30 001 ms later it loses it -/
example : (step (run 1 [.add 1000 exA]).1 (.add 1005 exB)).2 = .refused := by
  have hwf : ∀ o ∈ [Op.add 1000 exA], o.Wf := by intro o ho; simp at ho; subst ho; exact exA_ok
  have := (registration_policy 1 [.add 1000 exA] hwf 1005 exB (by decide) exB_ok.1 exB_ok.2.1 exB_ok.2.2).2.2.2
    (exH 97) 1000 (by decide +kernel) (by decide) (by decide +kernel) (by decide +kernel)
  rw [this]; decide +kernel
example : (step (run 1 [.add 1000 exA]).1 (.add 31001 (mkNonce (exH 98) 31001))).2 = .added := by decide +kernel
/-- the refinement relation on a concrete reachable table with a used window -/
example : TblRel 2 (run 2 (exOps 64)).1 (run 2 (exOps 64)).2 := run_refines 2 (exOps 64) (exOps_wf 64)
example : (run 2 (exOps 64)).1.map (fun s => (s.nc, s.nmask.toNat)) ≠ [(0, 0), (0, 0)] := by decide +kernel
/-- no fault on a concrete run that exercises every operation kind -/
example : ∀ e ∈ (run 1 (exEvict ++ [.present 50000 0 0 exA.length exA 2])).2, e.out ≠ .fault :=
  no_fault 1 _ (by
    intro o ho
    rcases List.mem_append.mp ho with h | h
    · exact exEvict_wf o h
    · simp at h; subst h; exact Or.inl (by decide))

/-- Every public entry point (MHD_digest_auth_check3, _check_digest3 and the legacy
    _check2, _check, _check_digest2, _check_digest) is the vetting sequence with its
    arguments mapped by `Api.args`, i.e. a `present` operation: all the theorems about
    arbitrary operation sequences above cover presentations through any mix of them. -/
theorem api_is_present (a : Api) (tbl : Table) (now tmo mx sl : Nat) (n : Bytes) (c : Nat) :
    presentApi a tbl now tmo mx sl n c =
      step tbl (.present now (a.args tmo mx).1 (a.args tmo mx).2 sl n c) := rfl

/-- The nonce lifetime the application asks for reaches the vetting sequence unchanged
    through every entry point; `max_nc` does through the two `…3` functions, the legacy
    ones (which have no such parameter) pass 0 = the daemon default. -/
theorem api_args (a : Api) (tmo mx : Nat) :
    (a.args tmo mx).1 = tmo ∧ (a.args tmo mx).2 = (if a.legacy then 0 else mx) := by
  cases a <;> exact ⟨rfl, rfl⟩

/-- the `max_nc` in force for a call of entry point `a` with argument `mx` -/
def effMaxNc (a : Api) (mx : Nat) : Nat := if a.legacy ∨ mx = 0 then defMaxNc else mx

theorem effMaxNc_eq (a : Api) (tmo mx : Nat) :
    (if (a.args tmo mx).2 = 0 then defMaxNc else (a.args tmo mx).2) = effMaxNc a mx := by
  cases a <;> simp [Api.args, effMaxNc, Api.legacy] <;> rfl

/-- Through every entry point: a (well-formed) nonce older than the lifetime the
    application asked for (0 = daemon default) is reported stale — `MHD_INVALID_NONCE`
    for the legacy functions — and the table is untouched. -/
theorem expired_is_stale_api (a : Api) (tbl : Table) (now tmo mx : Nat) (n : Bytes) (c t : Nat)
    (hc : c ≠ 0) (hmx : c ≤ effMaxNc a mx)
    (ht : getNonceTimestamp n n.length = .ts t)
    (hexp : trim (sub64 now t) > ((if tmo = 0 then defTimeout else tmo) * 1000) % 2 ^ timeoutBits) :
    presentApi a tbl now tmo mx n.length n c = (tbl, .stale) ∧
    (a.legacy = true → a.result .stale = .invalidNonce) ∧ (a.legacy = false → a.result .stale = .res .stale) := by
  refine ⟨?_, ?_, ?_⟩
  · unfold presentApi
    apply expired_is_stale tbl now _ _ n c t hc
    · rw [effMaxNc_eq]; exact hmx
    · exact ht
    · rw [(api_args a tmo mx).1]; exact hexp
  · intro h; simp [Api.result, h]
  · intro h; simp [Api.result, h]

/-- Through every entry point: a count above the `max_nc` in force (the argument of the
    `…3` functions, otherwise the daemon default — never the lifetime argument) is
    reported stale. -/
theorem above_max_nc_is_stale_api (a : Api) (tbl : Table) (now tmo mx sl : Nat) (n : Bytes) (c : Nat)
    (hc : c ≠ 0) (hmx : effMaxNc a mx < c) :
    presentApi a tbl now tmo mx sl n c = (tbl, .stale) := by
  unfold presentApi
  apply above_max_nc_is_stale tbl now _ _ sl n c hc
  rw [effMaxNc_eq]; exact hmx

/-- Through every entry point, at any point of any run: a fresh count inside the window
    of the nonce registered last in its slot, not above the `max_nc` in force, on a nonce
    not older than the requested lifetime, is accepted (`MHD_YES` for the legacy ones). -/
theorem window_complete_api (a : Api) (size : Nat) (ops : List Op) (hwf : ∀ o ∈ ops, o.Wf)
    (now tmo mx : Nat) (n : Bytes) (t c : Nat)
    (hla : lastAdd size (run size ops).2 (slotIdx size n) = some n)
    (hc0 : c ≠ 0) (hcg : c < ncGuard)
    (hnew : c ∉ usedSince size (run size ops).2 (slotIdx size n))
    (hwin : ∀ u ∈ usedSince size (run size ops).2 (slotIdx size n), u ≤ c + 64)
    (hmx : c ≤ effMaxNc a mx)
    (ht : getNonceTimestamp n n.length = .ts t)
    (hexp : trim (sub64 now t) ≤ ((if tmo = 0 then defTimeout else tmo) * 1000) % 2 ^ timeoutBits) :
    (presentApi a (run size ops).1 now tmo mx n.length n c).2 = .ok ∧
    (a.legacy = true → a.result .ok = .yes) := by
  refine ⟨?_, fun h => by simp [Api.result, h]⟩
  rw [api_is_present]
  apply window_complete_present size ops hwf now _ _ n t c hla hc0 hcg hnew hwin
  · rw [effMaxNc_eq]; exact hmx
  · exact ht
  · rw [(api_args a tmo mx).1]; exact hexp

/-- instance (the seeded-change scenario): lifetime 5 s through MHD_digest_auth_check_digest2,
    nonce made at t = 1000, presented at t = 7000 → stale; and count 20 is below the
    max_nc in force (1000), so `above_max_nc_is_stale_api` does not apply to it -/
example : presentApi .checkDigest2 (run 1 (exOps 5)).1 7000 5 0 exA.length exA 7 = ((run 1 (exOps 5)).1, .stale) :=
  (expired_is_stale_api .checkDigest2 _ 7000 5 0 exA 7 1000 (by decide) (by decide) (by decide +kernel)
    (by decide +kernel)).1
example : effMaxNc .checkDigest2 0 = 1000 ∧ effMaxNc .check3 5 = 5 := by decide
example : (presentApi .checkDigest2 (run 1 (exOps 5)).1 3000 5 0 exA.length exA 20).2 = .ok :=
  (window_complete_api .checkDigest2 1 (exOps 5) (exOps_wf 5) 3000 5 0 exA 1000 20 (by decide +kernel) (by decide)
    (by decide) (by decide +kernel) (by decide +kernel) (by decide) (by decide +kernel) (by decide +kernel)).1

/-- a 76-character nonce made at t = 1000 -/
def exL : Bytes := mkNonce (List.replicate 64 99) 1000
/-- 76 bytes that were never registered: the 44-character nonce `exA`, a NUL, and the
    bytes the longer nonce `exL` left behind in the slot buffer -/
def exAlias : Bytes := exA ++ 0 :: exL.drop 45

/-- Witness (kernel-evaluated on the model; the real code answers the same in the
    correspondence run): register the long nonce L, use it, let the short nonce A
    take the slot.  memcpy leaves L's tail behind A's terminating NUL, so the
    never-registered byte string `A ++ [NUL] ++ tail(L)` compares equal to the slot
    and is accepted by check_nonce_nc (and then shares A's window).  This is outside
    the property's domain — the request parser rejects NUL in a field value or
    turns it into a space before the Authorization header is looked at — and is
    the reason for the `NoNul` hypothesis in `at_most_once`, `never_issued`,
    `accepted_counts_bounded`. -/
theorem nul_alias_witness :
    addCount (run 1 [.add 1000 exL, .check exL 1000 1, .add 1000 exA]).2 exAlias = 0 ∧
    (step (run 1 [.add 1000 exL, .check exL 1000 1, .add 1000 exA]).1 (.check exAlias 1000 1)).2 = .ok := by
  decide +kernel

/-! Nonce generation (calculate_nonce, calculate_add_nonce, calculate_add_nonce_with_retry).
  `Mhd.Dauth.calcNonce cfg r realm a t` is `calculate_nonce` at the byte level: the lower-case hex text of
  `a.hash` (the hash *specification* of C16, which `Mhd.C16.*_chunks` prove the incremental C code computes
  for any sequence of `digest_update` chunks) of the string `Mhd.Dauth.nonceInput cfg r realm t` — six
  big-endian time-stamp bytes, then, each preceded by ':', the daemon's random seed and what the binding
  option `cfg.bindType` selects (socket address | IP address | method | URI | GET arguments | realm) —
  followed by the twelve hex digits of the 48-bit time stamp.  `Mhd.NonceGen.calcAddNonce(Retry)` are
  `calculate_add_nonce(_with_retry)` on the table.  No cryptographic claim is made anywhere: where a
  statement needs two hash values to differ, that is an explicit hypothesis about those two concrete inputs. -/

section generation
open Mhd.Dauth Mhd.NonceGen Mhd.Gen.Dauth Mhd.Auth Mhd.Gen.Auth

/-- (a) Every generated nonce has the length `NONCE_STD_LEN (digest_size)` of the algorithm it was made
    for, consists of lower-case hexadecimal digits (no NUL), is `hex (H (bound inputs)) ‖ hex (time)`,
    `get_nonce_timestamp` reads the generation time back (trimmed to 48 bits), it is a well-formed
    registration in the sense of this file (`Op.Wf`), and the presence check of the verifier accepts its length. -/
theorem generated_nonce_wellformed (cfg : Cfg) (r : Req) (realm : List UInt8) (a : Algo) (t : Nat) (n : List UInt8)
    (h : calcNonce cfg r realm a t = some n) :
    n.length = a.stdLen ∧ (a.stdLen = stdLenMd5 ∨ a.stdLen = stdLenSha) ∧
    (∀ c ∈ n, isLowerHex c = true) ∧
    (∃ x, nonceInput cfg r realm t = some x ∧ n = mkNonce (binToHex (a.hash x)) t) ∧
    getNonceTimestamp n n.length = .ts (trim t) ∧
    (Op.add t n).Wf ∧
    (∀ lv : LenView, lv kNonce = some n.length → presNonce a lv = .ok ()) :=
  have hf := calcNonce_format cfg r realm a t n h
  ⟨hf.length, stdLen_cases a, ((format_iff a t n).mp hf).2.1, calcNonce_eq cfg r realm a t n h, hf.timestamp, hf.wf,
   hf.presNonce⟩

/-- (a) … and "Get 'nonce' with basic checks" of digest_auth_check_all_inner (length = that of the client's
    algorithm, time stamp readable, not older than `nonce_timeout`) accepts it, sent as a token or as a
    quoted string, at every time `now` with `t ≤ now ≤ t + nonce_timeout·1000` (the product as `unsigned int`),
    delivering the nonce and its trimmed time stamp to `check_nonce_nc`. -/
theorem generated_nonce_passes_format_checks (cfg : Cfg) (r : Req) (realm : List UInt8) (a : Algo) (t : Nat) (n : List UInt8)
    (h : calcNonce cfg r realm a t = some n) (d : DAuth) (p : Param) (hp : d.slots kNonce = some p)
    (hu : getUnq p = .ok n) (now timeout : Nat) (h1 : t ≤ now) (h2 : now < W64)
    (h3 : now - t ≤ (timeout * 1000) % 2 ^ timeoutBits) :
    stageNonce a now timeout d = .ok (n, trim t) := by
  rw [(calcNonce_format cfg r realm a t n h).stageNonce d p hp hu now timeout h1 h2 (age_small h3), if_neg (by omega)]

/-- … and reports it stale (`MHD_DAUTH_NONCE_STALE`) after that -/
theorem generated_nonce_expires (cfg : Cfg) (r : Req) (realm : List UInt8) (a : Algo) (t : Nat) (n : List UInt8)
    (h : calcNonce cfg r realm a t = some n) (d : DAuth) (p : Param) (hp : d.slots kNonce = some p)
    (hu : getUnq p = .ok n) (now timeout : Nat) (h1 : t ≤ now) (h2 : now < W64) (h4 : now - t < 2 ^ 48)
    (h3 : now - t > (timeout * 1000) % 2 ^ timeoutBits) :
    stageNonce a now timeout d = .error .nonceStale := by
  rw [(calcNonce_format cfg r realm a t n h).stageNonce d p hp hu now timeout h1 h2 h4, if_pos h3]

/-- A generation (`calculate_add_nonce`) at any point of any run IS the run extended by the operation
    `add t nonce` with a well-formed nonce: `at_most_once`, `never_issued`, `window_complete`,
    `registration_policy`, `no_fault` … (all stated for arbitrary well-formed operation sequences) hold for
    the sequences in which the registered nonces are the ones the daemon really derives. -/
theorem generation_is_run_step (size : Nat) (ops : List Op) (hwf : ∀ o ∈ ops, o.Wf)
    (cfg : Cfg) (r : Req) (realm : List UInt8) (a : Algo) (t : Nat) (tbl' : Table) (g : Gen)
    (h : calcAddNonce cfg (run size ops).1 r realm a t = (tbl', some g)) :
    run size (ops ++ [.add t g.nonce]) = (tbl', ⟨.add t g.nonce, outOf g⟩ :: (run size ops).2) ∧
    (∀ o ∈ ops ++ [.add t g.nonce], o.Wf) :=
  Mhd.NonceGen.generation_is_run_step size ops hwf cfg r realm a t tbl' g h

/-- (b) Generated, then verified — the table part.  At any point of any run, as long as a generated nonce is
    the one registered last in its slot, the whole vetting sequence accepts it with every fresh count inside
    the window not above `max_nc`, at every time `now` with `t ≤ now ≤ t + nonce_timeout·1000` (0 = the daemon
    defaults): `window_complete_present` with the hypotheses about the nonce's format discharged for generated
    nonces and the expiry condition in its natural form. -/
theorem generated_then_verified_later (size : Nat) (ops : List Op) (hwf : ∀ o ∈ ops, o.Wf)
    (cfg : Cfg) (r : Req) (realm : List UInt8) (a : Algo) (t : Nat) (n : List UInt8)
    (hg : calcNonce cfg r realm a t = some n)
    (hla : lastAdd size (run size ops).2 (slotIdx size n) = some n)
    (now tmo mx c : Nat) (hc0 : c ≠ 0) (hcg : c < ncGuard)
    (hnew : c ∉ usedSince size (run size ops).2 (slotIdx size n))
    (hwin : ∀ u ∈ usedSince size (run size ops).2 (slotIdx size n), u ≤ c + 64)
    (hmx : c ≤ (if mx = 0 then defMaxNc else mx))
    (h1 : t ≤ now) (h2 : now < W64)
    (h3 : now - t ≤ ((if tmo = 0 then defTimeout else tmo) * 1000) % 2 ^ timeoutBits) :
    (step (run size ops).1 (.present now tmo mx a.stdLen n c)).2 = .ok := by
  show (present _ now tmo mx a.stdLen n c).2 = _
  rw [(calcNonce_format cfg r realm a t n hg).present _ now tmo mx c hc0 hmx h1 h2 (age_small h3), if_neg (by omega)]
  exact window_complete size ops hwf n _ c hla hc0 hcg hnew hwin

/-- … in particular right after `calculate_add_nonce` registered the nonce at time `t` (at any point of any
    run), with every count `0 < c < UINT32_MAX - 64` not above `max_nc`: the run extended by the registration
    has the nonce last in its slot and no count used. -/
theorem generated_then_verified (size : Nat) (ops : List Op) (hwf : ∀ o ∈ ops, o.Wf)
    (cfg : Cfg) (r : Req) (realm : List UInt8) (a : Algo) (t : Nat) (tbl' : Table) (n : List UInt8)
    (h : calcAddNonce cfg (run size ops).1 r realm a t = (tbl', some ⟨n, true⟩))
    (now tmo mx c : Nat) (hc0 : c ≠ 0) (hcg : c < ncGuard) (hmx : c ≤ (if mx = 0 then defMaxNc else mx))
    (h1 : t ≤ now) (h2 : now < W64)
    (h3 : now - t ≤ ((if tmo = 0 then defTimeout else tmo) * 1000) % 2 ^ timeoutBits) :
    (step tbl' (.present now tmo mx a.stdLen n c)).2 = .ok := by
  obtain ⟨hrun, hwf'⟩ := Mhd.NonceGen.generation_is_run_step size ops hwf cfg r realm a t tbl' ⟨n, true⟩ h
  have hh := hist_added size ⟨.add t n, .added⟩ (run size ops).2 (slotIdx size n) rfl
  have hr2 : (run size (ops ++ [.add t n])).2 = ⟨.add t n, .added⟩ :: (run size ops).2 := by rw [hrun]; rfl
  have := generated_then_verified_later size (ops ++ [.add t n]) hwf' cfg r realm a t n
    (calcAddNonce_step cfg _ tbl' r realm a t ⟨n, true⟩ h).1 (by rw [hr2, hh.1]; simp [Op.nonce]) now tmo mx c hc0 hcg
    (by rw [hr2, hh.2]; simp [Op.nonce]) (by rw [hr2, hh.2]; simp [Op.nonce]) hmx h1 h2 h3
  rwa [show (run size (ops ++ [.add t n])).1 = tbl' by rw [hrun]] at this

/-- … and a generated nonce older than the lifetime is stale for the vetting sequence, whatever the table holds -/
theorem generated_then_expired (tbl : Table) (cfg : Cfg) (r : Req) (realm : List UInt8) (a : Algo) (t : Nat) (n : List UInt8)
    (hg : calcNonce cfg r realm a t = some n) (now tmo mx c : Nat) (hc0 : c ≠ 0)
    (hmx : c ≤ (if mx = 0 then defMaxNc else mx)) (h1 : t ≤ now) (h2 : now < W64) (h4 : now - t < 2 ^ 48)
    (h3 : now - t > ((if tmo = 0 then defTimeout else tmo) * 1000) % 2 ^ timeoutBits) :
    present tbl now tmo mx a.stdLen n c = (tbl, .stale) := by
  rw [(calcNonce_format cfg r realm a t n hg).present tbl now tmo mx c hc0 hmx h1 h2 h4, if_pos h3]

/-- (b) Generated, then verified — the binding part ("The 'nonce' was generated in the same conditions").
    With a binding option, a nonce generated for request `r` and realm `realm` passes the re-derivation
    made for a later request `r'` (realm `call.realm`) whenever the *bound inputs* are the same — i.e. the
    strings `nonceInput` builds for the two are equal; the verifier derives from the parsed (48-bit) time. -/
theorem bound_same_inputs_accepted (cfg : Cfg) (a : Algo) (r r' : Req) (realm : List UInt8) (call : Call) (d : DAuth)
    (t : Nat) (n : List UInt8) (np : Param) (hg : calcNonce cfg r realm a t = some n)
    (hnp : d.slots kNonce = some np) (hpq : PQ np) (hun : paramUnq np = n)
    (hsame : nonceInput cfg r' call.realm t = nonceInput cfg r realm t) :
    stageBind cfg a r' call d (trim t) = .ok () := by
  unfold stageBind
  by_cases hb : cfg.bindType ≠ bindNone
  · rw [if_pos hb, if_neg (tmp1_ok' a)]
    have : calcNonce cfg r' call.realm a (trim t) = some n := by
      rw [calcNonce_trim]
      simp only [calcNonce, hsame] at hg ⊢
      exact hg
    rw [this]
    simp only [hnp, need, bind, Except.bind, isParamEq_sem np n hpq, hun, decide_true, if_true]
  · rw [if_neg hb]

/-- (b) … and is refused with `MHD_DAUTH_NONCE_OTHER_COND` (`MHD_INVALID_NONCE` through the legacy
    functions) when the bound inputs `x` (generation) and `y` (verification) have different hashes:
    `a.hash x ≠ a.hash y` is a hypothesis about these two concrete strings, not a cryptographic claim. -/
theorem bound_inputs_differ_rejected (cfg : Cfg) (a : Algo) (r r' : Req) (realm : List UInt8) (call : Call) (d : DAuth)
    (t : Nat) (n : List UInt8) (np : Param) (hg : calcNonce cfg r realm a t = some n) (hb : cfg.bindType ≠ bindNone)
    (hnp : d.slots kNonce = some np) (hpq : PQ np) (hun : paramUnq np = n)
    (x y : List UInt8) (hx : nonceInput cfg r realm t = some x) (hy : nonceInput cfg r' call.realm t = some y)
    (hH : a.hash x ≠ a.hash y) :
    stageBind cfg a r' call d (trim t) = .error .nonceOtherCond ∧ Legacy.ofRes .nonceOtherCond = .invalidNonce :=
  ⟨stageBind_differs cfg a r r' realm call d t n np hg hb hnp hpq hun x y hx hy hH, rfl⟩

/-- `MHD_DAUTH_BIND_NONCE_URI`: the same nonce presented for another URI (path) — the hashed strings
    really differ (`x ≠ y`), so the hypothesis is exactly "no collision on this pair" -/
theorem bound_uri_rejected (cfg : Cfg) (a : Algo) (r : Req) (u' : List UInt8) (call : Call) (d : DAuth)
    (t : Nat) (n : List UInt8) (np : Param) (hg : calcNonce cfg r call.realm a t = some n)
    (hopt : has cfg.bindType bindUri = true) (hu : u' ≠ r.url)
    (hnp : d.slots kNonce = some np) (hpq : PQ np) (hun : paramUnq np = n)
    (x y : List UInt8) (hx : nonceInput cfg r call.realm t = some x)
    (hy : nonceInput cfg { r with url := u' } call.realm t = some y) (hH : a.hash x ≠ a.hash y) :
    x ≠ y ∧ stageBind cfg a { r with url := u' } call d (trim t) = .error .nonceOtherCond := by
  exact ⟨nonceInput_url_ne cfg r call.realm u' t x y hopt hu hx hy,
    stageBind_differs cfg a r _ call.realm call d t n np hg (has_ne_none hopt) hnp hpq hun x y hx hy hH⟩

/-- `MHD_DAUTH_BIND_NONCE_URI_PARAMS`: … for other GET arguments (as `calculate_nonce` serialises them:
    `NUL NUL name NUL value` each) -/
theorem bound_uri_params_rejected (cfg : Cfg) (a : Algo) (r : Req) (args' : List (List UInt8 × Option (List UInt8))) (call : Call)
    (d : DAuth) (t : Nat) (n : List UInt8) (np : Param) (hg : calcNonce cfg r call.realm a t = some n)
    (hopt : has cfg.bindType bindUriParams = true) (hu : argsForNonce args' ≠ argsForNonce r.args)
    (hnp : d.slots kNonce = some np) (hpq : PQ np) (hun : paramUnq np = n)
    (x y : List UInt8) (hx : nonceInput cfg r call.realm t = some x)
    (hy : nonceInput cfg { r with args := args' } call.realm t = some y) (hH : a.hash x ≠ a.hash y) :
    x ≠ y ∧ stageBind cfg a { r with args := args' } call d (trim t) = .error .nonceOtherCond := by
  exact ⟨nonceInput_args_ne cfg r call.realm args' t x y hopt hu hx hy,
    stageBind_differs cfg a r _ call.realm call d t n np hg (has_ne_none hopt) hnp hpq hun x y hx hy hH⟩

/-- `MHD_DAUTH_BIND_NONCE_REALM`: … for another realm -/
theorem bound_realm_rejected (cfg : Cfg) (a : Algo) (r : Req) (realm : List UInt8) (call : Call)
    (d : DAuth) (t : Nat) (n : List UInt8) (np : Param) (hg : calcNonce cfg r realm a t = some n)
    (hopt : has cfg.bindType bindRealm = true) (hu : call.realm ≠ realm)
    (hnp : d.slots kNonce = some np) (hpq : PQ np) (hun : paramUnq np = n)
    (x y : List UInt8) (hx : nonceInput cfg r realm t = some x)
    (hy : nonceInput cfg r call.realm t = some y) (hH : a.hash x ≠ a.hash y) :
    x ≠ y ∧ stageBind cfg a r call d (trim t) = .error .nonceOtherCond := by
  exact ⟨nonceInput_realm_ne cfg r realm call.realm t x y hopt hu hx hy,
    stageBind_differs cfg a r r realm call d t n np hg (has_ne_none hopt) hnp hpq hun x y hx hy hH⟩

/-- `MHD_DAUTH_BIND_NONCE_CLIENT_IP`: … from another client address (`sin_addr` / `sin6_addr`; the port
    is not bound) -/
theorem bound_client_ip_rejected (cfg : Cfg) (a : Algo) (r : Req) (addr' : List UInt8) (call : Call)
    (d : DAuth) (t : Nat) (n : List UInt8) (np : Param) (hg : calcNonce cfg r call.realm a t = some n)
    (hopt : has cfg.bindType bindClientIp = true)
    (hnp : d.slots kNonce = some np) (hpq : PQ np) (hun : paramUnq np = n)
    (x y : List UInt8) (hx : nonceInput cfg r call.realm t = some x)
    (hy : nonceInput cfg { r with addr := addr' } call.realm t = some y) (hH : a.hash x ≠ a.hash y) :
    stageBind cfg a { r with addr := addr' } call d (trim t) = .error .nonceOtherCond := by
  exact stageBind_differs cfg a r _ call.realm call d t n np hg (has_ne_none hopt) hnp hpq hun x y hx hy hH

/-- without a binding option (`MHD_DAUTH_BIND_NONCE_NONE`, the default) the nonce is not re-derived:
    any client may use it for any resource until it expires (documented behaviour) -/
theorem unbound_not_rechecked (cfg : Cfg) (a : Algo) (r : Req) (call : Call) (d : DAuth) (t : Nat)
    (hb : cfg.bindType = bindNone) : stageBind cfg a r call d t = .ok () := by
  unfold stageBind
  rw [if_neg (by simp [hb])]

/-- (c) The nonce length is tied to the *client's* algorithm: whatever bytes are presented, if their
    number is not `NONCE_STD_LEN` of the algorithm the client uses (`sl`), the vetting sequence answers
    `MHD_DAUTH_NONCE_WRONG` and does not touch the table — in particular for an issued 44-character nonce
    extended to 76 characters with a time stamp of the client's choice and presented with MD5 (both lengths
    are acceptable to `get_nonce_timestamp` alone), and for a nonce generated for one algorithm presented
    with an algorithm of the other digest size. -/
theorem nonce_length_matches_algorithm :
    (∀ (tbl : Table) (now tmo mx sl : Nat) (n : List UInt8) (c : Nat), c ≠ 0 → c ≤ (if mx = 0 then defMaxNc else mx) →
       sl ≠ n.length → present tbl now tmo mx sl n c = (tbl, .wrong)) ∧
    (∀ (a' : Algo) (now timeout : Nat) (d : DAuth) (p : Param) (n : List UInt8), d.slots kNonce = some p →
       getUnq p = .ok n → a'.stdLen ≠ n.length → stageNonce a' now timeout d = .error .nonceWrong) ∧
    (∀ (cfg : Cfg) (r : Req) (realm : List UInt8) (a a' : Algo) (t : Nat) (n ext : List UInt8)
       (tbl : Table) (now tmo mx c : Nat), calcNonce cfg r realm a t = some n → c ≠ 0 →
       c ≤ (if mx = 0 then defMaxNc else mx) → (a'.stdLen ≠ a.stdLen ∨ ext ≠ []) →
       (a'.stdLen ≠ a.stdLen → present tbl now tmo mx a'.stdLen n c = (tbl, .wrong)) ∧
       (ext ≠ [] → present tbl now tmo mx a.stdLen (n ++ ext) c = (tbl, .wrong))) := by
  refine ⟨fun tbl now tmo mx sl n c hc hmx hl => present_length_tie tbl now tmo mx sl n c hc hmx hl,
   fun a' now timeout d p n hp hu hl => stageNonce_length_tie a' now timeout d p n hp hu hl, ?_⟩
  intro cfg r realm a a' t n ext tbl now tmo mx c hg hc hmx _
  have hlen := (calcNonce_format cfg r realm a t n hg).length
  refine ⟨fun h => present_length_tie tbl now tmo mx _ n c hc hmx (by rw [hlen]; exact h),
    fun h => present_length_tie tbl now tmo mx _ _ c hc hmx ?_⟩
  rw [List.length_append, hlen]
  have : ext.length ≠ 0 := fun e => h (List.eq_nil_of_length_eq_zero e)
  omega

/-- The second attempt never re-uses the first time stamp — so the two nonces differ in their last twelve
    characters — and, when the clock has not moved, is back-dated by 1 … `DAUTH_JUMPBACK_MAX` (127) ms:
    such a nonce is "already `d` ms old" for the verifier and for `REUSE_TIMEOUT`. -/
theorem retry_timestamp_differs (t1 t2 rnd : Nat) (h1 : t1 < W64) (h2 : t2 < W64) :
    retryTime t1 t2 rnd ≠ t1 ∧ retryTime t1 t2 rnd < W64 ∧
    (t1 = t2 → 1 ≤ sub64 t1 (retryTime t1 t2 rnd) ∧ sub64 t1 (retryTime t1 t2 rnd) ≤ jumpbackMax) := by
  unfold retryTime
  by_cases h : t1 = t2
  · subst h
    rw [if_pos rfl]
    simp only []
    have hj : jumpBack rnd < W64 := Nat.lt_of_le_of_lt (jumpBack_le rnd) (by decide)
    by_cases h' : t1 = sub64 t1 (jumpBack rnd)
    · -- `jumpBack rnd = 0`: the code goes back by `retryFallback` instead
      rw [if_pos h', ← h']
      obtain ⟨a, b, c⟩ := sub64_back t1 Mhd.Gen.NonceGen.retryFallback h1 (by decide) (by decide)
      exact ⟨a, b, fun _ => by rw [c]; decide⟩
    · rw [if_neg h']
      have h0 : 1 ≤ jumpBack rnd := by
        rcases Nat.eq_zero_or_pos (jumpBack rnd) with e | e
        · rw [e, sub64, Nat.sub_zero, Nat.add_mod_right, Nat.mod_eq_of_lt h1] at h'
          exact (h' rfl).elim
        · exact e
      obtain ⟨a, b, c⟩ := sub64_back t1 (jumpBack rnd) h1 h0 hj
      exact ⟨a, b, fun _ => by rw [c]; exact ⟨h0, jumpBack_le rnd⟩⟩
  · rw [if_neg h]
    exact ⟨fun e => h e.symm, h2, fun e => (h e).elim⟩

/-- What `calculate_add_nonce_with_retry` hands to the client: the outcome of the first attempt if that
    registered the nonce (or there is no table); otherwise the second nonce (time `retryTime`) if it could
    be registered; otherwise the first nonce, unregistered, with return value `false` (the client's next
    request is then answered "stale" and it retries).  Each attempt is a `calculate_add_nonce`, i.e. a
    step `add` of the runs above (`generation_is_run_step`). -/
theorem retry_outcome (cfg : Cfg) (tbl tbl' : Table) (r : Req) (realm : List UInt8) (a : Algo) (t1 t2 rnd : Nat) (g : Gen)
    (h : calcAddNonceRetry cfg tbl r realm a t1 t2 rnd = (tbl', some g)) :
    (calcAddNonce cfg tbl r realm a t1 = (tbl', some g) ∧ (g.added = true ∨ tbl.length = 0)) ∨
    (∃ tbl1 g1 g2, calcAddNonce cfg tbl r realm a t1 = (tbl1, some g1) ∧ g1.added = false ∧ tbl.length ≠ 0 ∧
       calcAddNonce cfg tbl1 r realm a (retryTime t1 t2 rnd) = (tbl', some g2) ∧
       ((g2.added = true ∧ g = g2) ∨ (g2.added = false ∧ g = g1))) := by
  unfold calcAddNonceRetry at h
  cases h1 : calcAddNonce cfg tbl r realm a t1 with
  | mk tbl1 o1 =>
    rw [h1] at h
    cases o1 with
    | none => simp only [Prod.mk.injEq] at h; cases h.2
    | some g1 =>
      simp only [] at h
      by_cases ha : g1.added = true
      · rw [if_pos ha] at h
        simp only [Prod.mk.injEq, Option.some.injEq] at h
        obtain ⟨rfl, rfl⟩ := h
        exact Or.inl ⟨rfl, Or.inl ha⟩
      · rw [if_neg ha] at h
        by_cases hz : tbl.length = 0
        · rw [if_pos hz] at h
          simp only [Prod.mk.injEq, Option.some.injEq] at h
          obtain ⟨rfl, rfl⟩ := h
          exact Or.inl ⟨rfl, Or.inr hz⟩
        · rw [if_neg hz] at h
          cases h2 : calcAddNonce cfg tbl1 r realm a (retryTime t1 t2 rnd) with
          | mk tbl2 o2 =>
            rw [h2] at h
            cases o2 with
            | none => simp only [Prod.mk.injEq] at h; cases h.2
            | some g2 =>
              simp only [] at h
              refine Or.inr ⟨tbl1, g1, g2, rfl, by simpa using ha, hz, ?_⟩
              by_cases hb : g2.added = true
              · rw [if_pos hb] at h
                simp only [Prod.mk.injEq, Option.some.injEq] at h
                obtain ⟨rfl, rfl⟩ := h
                exact ⟨h2, Or.inl ⟨hb, rfl⟩⟩
              · rw [if_neg hb] at h
                simp only [Prod.mk.injEq, Option.some.injEq] at h
                obtain ⟨rfl, rfl⟩ := h
                exact ⟨h2, Or.inr ⟨by simpa using hb, rfl⟩⟩

/-! Non-vacuity: a concrete daemon (bind = URI, seed "se"), request `GET /a`, realm "r", MD5, t = 1000
    (`decide +kernel` evaluates closed terms, MD5 included; these are instances, not the proofs). -/

def gCfg : Cfg := ⟨bindUri, [115, 101], 90, 1000, true⟩
def gReq : Req := { method := [71, 69, 84], mthd := 1, url := [47, 97], args := [], hdrs := [], addr := [] }
def gCall : Call := ⟨[114], [117], .password [112], 0, 0, 2, 127⟩
/-- the nonce `calculate_nonce` makes for it -/
def gNonce : List UInt8 := (calcNonce gCfg gReq [114] .md5 1000).getD []
def gD : DAuth := { slots := fun k => if k = kNonce then some ⟨0, gNonce, false⟩ else none,
                    userhash := false, algo3 := 1, qop := 2 }

/-- `calculate_nonce` succeeds as soon as the bound inputs can be read; the hash is not evaluated -/
theorem gNonce_gen : calcNonce gCfg gReq [114] .md5 1000 = some gNonce := by
  have h : (nonceInput gCfg gReq [114] 1000).isSome = true := by decide
  obtain ⟨x, hx⟩ := Option.isSome_iff_exists.mp h
  unfold gNonce calcNonce
  rw [hx]
  rfl

example : gNonce.length = 44 ∧ getNonceTimestamp gNonce 44 = .ts 1000 := by
  have h := generated_nonce_wellformed gCfg gReq [114] .md5 1000 gNonce gNonce_gen
  have hl : gNonce.length = 44 := h.1
  exact ⟨hl, by have := h.2.2.2.2.1; rw [hl] at this; exact this⟩
/-- generated on an empty 2-slot table at t = 1000: registered (first clause of `registration_policy`);
    presented at t = 90 999 with count 7: accepted; at t = 91 001: stale -/
theorem gAdd : calcAddNonce gCfg (run 2 []).1 gReq [114] .md5 1000 =
    ((calcAddNonce gCfg (run 2 []).1 gReq [114] .md5 1000).1, some ⟨gNonce, true⟩) := by
  have hwf := (calcNonce_format gCfg gReq [114] .md5 1000 gNonce gNonce_gen).wf
  exact calcAddNonce_of_added gCfg _ gReq [114] .md5 1000 gNonce gNonce_gen
    ((registration_policy 2 [] (by intro o ho; cases ho) 1000 gNonce (by decide) hwf.1 hwf.2.1 hwf.2.2).1 rfl)
example : (step (calcAddNonce gCfg (run 2 []).1 gReq [114] .md5 1000).1 (.present 90999 0 0 44 gNonce 7)).2 = .ok :=
  generated_then_verified 2 [] (by intro o ho; cases ho) gCfg gReq [114] .md5 1000 _ gNonce gAdd 90999 0 0 7
    (by decide) (by decide) (by decide) (by decide) (by decide) (by decide)
example : present [] 91001 0 0 44 gNonce 7 = ([], .stale) :=
  generated_then_expired [] gCfg gReq [114] .md5 1000 gNonce gNonce_gen 91001 0 0 7 (by decide) (by decide) (by decide)
    (by decide) (by decide) (by decide)
example : stageNonce .md5 90999 90 gD = .ok (gNonce, 1000) :=
  generated_nonce_passes_format_checks gCfg gReq [114] .md5 1000 gNonce gNonce_gen gD ⟨0, gNonce, false⟩ rfl rfl 90999 90
    (by decide) (by decide) (by decide)
-- the same request verifies; `GET /b` does not (the two MD5 values differ: evaluated)
example : stageBind gCfg .md5 gReq gCall gD (trim 1000) = .ok () :=
  bound_same_inputs_accepted gCfg .md5 gReq gReq [114] gCall gD 1000 gNonce ⟨0, gNonce, false⟩ gNonce_gen rfl
    (by intro h; cases h) rfl rfl
set_option maxRecDepth 100000 in
example : stageBind gCfg .md5 { gReq with url := [47, 98] } gCall gD (trim 1000) = .error .nonceOtherCond :=
  (bound_uri_rejected gCfg .md5 gReq [47, 98] gCall gD 1000 gNonce ⟨0, gNonce, false⟩ gNonce_gen (by decide) (by decide) rfl
    (by intro h; cases h) rfl _ _ rfl rfl (by decide +kernel)).2
/-- the seeded-change scenario of (c): the issued nonce, 20 more characters and a time stamp of the client's
    choice, presented with MD5: wrong -/
example : present [] 2000 0 0 44 (gNonce ++ List.replicate 20 48 ++ hexTs 2000) 1 = ([], .wrong) :=
  nonce_length_matches_algorithm.1 [] 2000 0 0 44 _ 1 (by decide) (by decide) (by
    have : gNonce.length = 44 := (generated_nonce_wellformed gCfg gReq [114] .md5 1000 gNonce gNonce_gen).1
    simp [this, hexTs, tsChars, timestampBinSize])
/-- retry: same clock value, `random ()` = 12345 → back-dated time stamp (evaluated) -/
example : retryTime 5000 5000 12345 ≠ 5000 ∧ 5000 - retryTime 5000 5000 12345 ≤ 127 := by decide +kernel
example : jumpBack 0 ≤ 127 ∧ retryTime 1 1 4 < W64 := by decide +kernel

end generation

/-! Concurrency: one model step = one critical section of `nnc_lock`.
  "These guarantees hold for any order and interleaving of requests, including concurrent ones."
  The table `Mhd.Gen.Locks.table` is regenerated from the clang AST of digestauth.c (and daemon.c,
  connection.c, response.c) by tools/locktable.py at every run: per function the lock / unlock events and
  every access to a member of `struct MHD_NonceNc` (`nonce`, `nc`, `nmask`; field `nnc`), each with the set
  of mutexes held on *all* paths from the function entry (`must`) and the set certainly held at entry on every
  call path (`entryMust`, certified by `contextOk`: implied at every call site). -/

section concurrency
open Mhd.Gen.Locks Mhd.Locks

/-- every access to a slot of the nonce-nc map is made with `nnc_lock` held -/
def nncUnderLock (t : List Entry) : Bool :=
  t.all fun en => en.events.all fun e =>
    match e.kind with
    | .acc .nnc _ => (effMust en e).contains Lock.nnc_lock
    | _ => true

/-- while `nnc_lock` may be held: no callback into the application, no thread join / wait, no other mutex
    requested, and the only function called is `is_slot_available` (which takes no lock) -/
def nncSectionPlain (t : List Entry) : Bool :=
  t.all fun en => en.events.all fun e =>
    !(effMay en e).contains Lock.nnc_lock ||
      (match e.kind with
       | .callback => false
       | .join => false
       | .wait => false
       | .lock _ => false
       | .call k => (t[k]?.map fun ce => ce.name == "is_slot_available" && ce.events.all fun e' =>
                      match e'.kind with
                      | .acc .nnc _ => true
                      | _ => false) == some true
       | _ => true)

/-- the functions that touch the map -/
def nncFunctions (t : List Entry) : List String :=
  (t.filter fun en => en.events.any fun e => match e.kind with | .acc .nnc _ => true | _ => false).map (·.name)

/-- **The nonce-nc map is accessed only under `nnc_lock`.**  In the regenerated table:
    (1) every read and write of a slot member is made while `nnc_lock` is held on all paths (locked in the
        function itself, or certainly held by every caller — `is_slot_available`);
    (2) the entry contexts used in (1) are implied by every call site (`contextOk`, `idsOk`);
    (3) the functions that touch the map are exactly check_nonce_nc, is_slot_available,
        calculate_add_nonce — the three the model steps `check` / `add` mirror;
    (4) a critical section is plain computation: no application callback, no blocking call, no second
        mutex, so it terminates and cannot deadlock.
    Hence concurrent presentations and registrations are linearised at the lock: every concurrent
    execution is equivalent to *some sequence* of model steps, and `at_most_once`, `never_issued`,
    `window_complete`, … — stated for *arbitrary* sequences — cover all interleavings.  (That a pthread
    mutex provides mutual exclusion is assumed; C18 validates the locking dynamically with TSan.) -/
theorem nonce_table_accessed_only_under_lock :
    (∀ en ∈ table, ∀ e ∈ en.events, ∀ w, e.kind = Kind.acc Field.nnc w → Lock.nnc_lock ∈ effMust en e) ∧
    (idsOk table = true ∧ contextOk table = true) ∧
    nncFunctions table = ["check_nonce_nc", "is_slot_available", "calculate_add_nonce"] ∧
    nncSectionPlain table = true := by
  refine ⟨?_, Mhd.C18.context_certificate, by decide +kernel, by decide +kernel⟩
  have h : nncUnderLock table = true := by decide +kernel
  intro en hen e he w hk
  have h1 := List.all_eq_true.mp h en hen
  have h2 := List.all_eq_true.mp h1 e he
  rw [hk] at h2
  exact List.contains_iff_mem.mp h2

/-- non-vacuity: the table does contain locked reads and writes of the map, in both critical sections
    (comparing names is the dear part of an evaluation, so the entries are first filtered by what is
    claimed of them, and the name is looked up among the few that remain) -/
example : ∃ en ∈ table, en.name = "check_nonce_nc" ∧ ∃ e ∈ en.events, e.kind = Kind.acc Field.nnc true ∧
    Lock.nnc_lock ∈ effMust en e := List.exists_of_mem_map_filter _ _ table _ (by decide +kernel)
example : ∃ en ∈ table, en.name = "calculate_add_nonce" ∧ ∃ e ∈ en.events, e.kind = Kind.acc Field.nnc true ∧
    Lock.nnc_lock ∈ effMust en e := List.exists_of_mem_map_filter _ _ table _ (by decide +kernel)
example : ∃ en ∈ table, en.name = "is_slot_available" ∧ en.entryMust = [Lock.nnc_lock] ∧
    ∃ e ∈ en.events, e.kind = Kind.acc Field.nnc false := List.exists_of_mem_map_filter _ _ table _ (by decide +kernel)

end concurrency
end Mhd.C13
