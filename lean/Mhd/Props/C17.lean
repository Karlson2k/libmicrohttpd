/-
  C17 — Text/number codecs are exact, total and respect buffer bounds
  (src/microhttpd/mhd_str.c, configured build: MHD_FAVOR_FAST_CODE).

  Where a statement is an instance of a more general lemma of `Mhd.Proofs.Str*` its
  proof is that instance; where it is the natural statement itself, the proof stands
  here.  Conventions of the model
  (`Mhd.Model.Str*`): a C input `(ptr, len)` is a byte list whose length is the
  stated length — reading at an index ≥ that length is the fault `read`; an
  output buffer is a byte list of the stated size — writing at an index ≥ that
  size is the fault `write`; a loop that does not terminate is the fault `fuel`.
  Every theorem of the form `f … = .ok …` / `Wrote (f …) …` / `∃ r, f … = .ok r ∧ …`
  therefore contains "no read beyond the stated input length, no write beyond
  the stated output size, terminates" for **all** inputs of any length.

  `Wrote res out (some d)` : normal return, buffer size unchanged, return value
  `= d.length`, first bytes of the buffer `= d`;  `Wrote res out none` : normal
  return, buffer size unchanged, return value 0.

  The model follows the code with build/fixes/F12, F17a, F17b, F17c, F17d applied.
-/
import Mhd.Proofs.StrNum
import Mhd.Proofs.StrPrint
import Mhd.Proofs.StrHex
import Mhd.Proofs.StrPct
import Mhd.Proofs.StrQuote
import Mhd.Proofs.StrB64
import Mhd.Proofs.StrCmp
import Mhd.Proofs.StrTok
import Mhd.Proofs.StrRm
import Mhd.Proofs.StrRmMain
import Mhd.Proofs.StrRtMain
import Mhd.Proofs.StrRtNorm

namespace Mhd.C17
open Mhd.Str

/-- `MHD_str_to_uint64_n_`: consumes the maximal run of decimal digits; fails (0) iff
    the run is empty or its value exceeds `UINT64_MAX`; never reads beyond `len`. -/
theorem strToUint64N_exact (s : Bytes) : strToUint64N s = .ok (parseDec s) := by
  unfold strToUint64N
  by_cases h0 : s.length = 0
  · simp only [h0, if_true, pure_eq_ok, parseDec_first_nondigit s fun h => absurd h (h0 ▸ Nat.lt_irrefl 0)]
  · simp only [h0, if_false]
    refine dec_loop s _ (fun _ => True) (fun st hi => ?_) (Nat.pos_of_ne_zero h0) trivial
    rcases strToUint64N_step s st hi.1 with ⟨s', hs, hi', hii⟩ | hr
    · exact .inl ⟨s', hs, ⟨hi', trivial⟩, hii ▸ Nat.lt_succ_self _⟩
    · exact .inr hr

/-- `MHD_str_to_uint64_` on any buffer that contains a NUL: same result, never reads
    past the terminator. -/
theorem strToUint64_exact (s : Bytes) (hz : 0 ∈ s) : strToUint64 s = .ok (parseDec s) := by
  obtain ⟨c, tail, rfl, -⟩ := exists_cstr s hz
  -- the loop stands at a digit, so before the NUL
  refine dec_loop _ _ (fun st => st.i ≤ c.length) (fun st hi => ?_) (List.length_pos_of_mem hz) (Nat.zero_le _)
  obtain ⟨⟨hinv, hlt, hd⟩, hic⟩ := hi
  have hne : st.i ≠ c.length := by
    rintro h
    simp only [h, List.getElem_append_right (Nat.le_refl _), Nat.sub_self, List.getElem_cons_zero] at hd
    exact absurd hd (by decide)
  have hlc : st.i < c.length := Nat.lt_of_le_of_ne hic hne
  rw [strToUint64Step_eq _ st (by rw [List.length_append, List.length_cons]; omega)]
  rcases strToUint64N_step _ st ⟨hinv, hlt, hd⟩ with ⟨s', hs, hi', hii⟩ | hr
  · exact .inl ⟨s', hs, ⟨hi', hii ▸ hlc⟩, hii ▸ Nat.lt_succ_self _⟩
  · exact .inr hr

/-- overflow / no-digit detection characterised exactly -/
theorem parseDec_zero_iff (s : Bytes) :
    (parseDec s).1 = 0 ↔ digitRun s = [] ∨ decVal (digitRun s) > 2 ^ 64 - 1 :=
  parseResult_fst_eq_zero_iff ..

theorem strxToUint32N_exact (s : Bytes) : strxToUint32N s = .ok (parseHex (2 ^ 32 - 1) s) :=
  strxToUintN_spec _ s
theorem strxToUint64N_exact (s : Bytes) : strxToUint64N s = .ok (parseHex (2 ^ 64 - 1) s) :=
  strxToUintN_spec _ s
theorem strxToUint32_exact (s : Bytes) (hz : 0 ∈ s) : strxToUint32 s = .ok (parseHex (2 ^ 32 - 1) s) :=
  strxToUint_spec _ s hz
theorem strxToUint64_exact (s : Bytes) (hz : 0 ∈ s) : strxToUint64 s = .ok (parseHex (2 ^ 64 - 1) s) :=
  strxToUint_spec _ s hz

theorem parseHex_zero_iff (max : Nat) (s : Bytes) :
    (parseHex max s).1 = 0 ↔ xdigitRun s = [] ∨ hexVal (xdigitRun s) > max :=
  parseResult_fst_eq_zero_iff ..

example : strToUint64N [0x31, 0x38, 0x20] = .ok (2, 18) := rfl
example : strxToUint32 [0x66, 0x46, 0x67, 0] = .ok (2, 255) := rfl
/-- 2^64 = "18446744073709551616" overflows, 2^64 - 1 = "18446744073709551615" does not -/
example : strToUint64N [0x31, 0x38, 0x34, 0x34, 0x36, 0x37, 0x34, 0x34, 0x30, 0x37, 0x33, 0x37, 0x30, 0x39, 0x35, 0x35, 0x31, 0x36, 0x31, 0x36] = .ok (0, 0) := rfl
example : strToUint64N [0x31, 0x38, 0x34, 0x34, 0x36, 0x37, 0x34, 0x34, 0x30, 0x37, 0x33, 0x37, 0x30, 0x39, 0x35, 0x35, 0x31, 0x36, 0x31, 0x35] = .ok (20, 2 ^ 64 - 1) := rfl

/-- `MHD_uint64_to_str`: writes the canonical decimal representation (`k+1` digits with
    `10^k ≤ val < 10^(k+1)`, or the single digit for `val < 10`) iff the buffer has
    at least `k+1` bytes, and returns 0 iff it is shorter. -/
theorem uint64ToStr_exact (val : Nat) (out : Bytes) (hv : val ≤ 2 ^ 64 - 1) :
    ∃ k, (k = 0 ∨ 10 ^ k ≤ val) ∧ val < 10 ^ (k + 1) ∧
      Wrote (uint64ToStr val out) out (if k + 1 ≤ out.length then some (decDigits k val) else none) :=
  have h : val < 10 ^ (19 + 1) := Nat.lt_of_le_of_lt hv (by decide)
  ⟨_, Mhd.Num.width_min 19 val, Mhd.Num.lt_pow_width (by decide) h, uintToStr_spec 19 val out (by decide)⟩

theorem uint16ToStr_exact (val : Nat) (out : Bytes) (hv : val < 65536) :
    ∃ k, (k = 0 ∨ 10 ^ k ≤ val) ∧ val < 10 ^ (k + 1) ∧
      Wrote (uint16ToStr val out) out (if k + 1 ≤ out.length then some (decDigits k val) else none) :=
  have h : val < 10 ^ (4 + 1) := Nat.lt_trans hv (by decide)
  ⟨_, Mhd.Num.width_min 4 val, Mhd.Num.lt_pow_width (by decide) h, uintToStr_spec 4 val out (by decide)⟩

/-- the digits printed are the value: `decVal (decDigits k v) = v` -/
theorem decDigits_value (k v : Nat) (hv : v < 10 ^ (k + 1)) : decVal (decDigits k v) = v := by
  rw [decVal, valB, decDigits_eq, Mhd.Num.digitsB_val (by decide) (fun d hd => (digit_char_table ⟨d, hd⟩).2) k v hv, Nat.zero_mul,
    Nat.zero_add]

/-- `MHD_str_to_uint64_n_ ∘ MHD_uint64_to_str = id`; the printer reports 0 exactly when
    the buffer is shorter than the number of digits. -/
theorem print_parse_roundtrip (val : Nat) (out : Bytes) (hv : val ≤ 2 ^ 64 - 1) :
    ∃ n o, uint64ToStr val out = .ok (n, o) ∧
      (n ≠ 0 → strToUint64N (o.take n) = .ok (n, val)) ∧
      (n = 0 ↔ ∀ k, val < 10 ^ (k + 1) → out.length < k + 1) := by
  obtain ⟨k, hk1, hk2, n, o, hr, hl, hp⟩ := uint64ToStr_exact val out hv
  refine ⟨n, o, hr, ?_⟩
  by_cases hfit : k + 1 ≤ out.length
  · simp only [hfit, if_true, decDigits_length] at hp
    refine ⟨fun _ => by rw [hp.2, strToUint64N_exact, parseDec_decDigits k val hk2 hv, hp.1], ?_⟩
    exact ⟨fun h => absurd (hp.1.symm.trans h) (Nat.succ_ne_zero k), fun h => absurd (h k hk2) (Nat.not_lt.mpr hfit)⟩
  · simp only [hfit, if_false] at hp
    refine ⟨fun hn => absurd hp hn, fun _ k' hk' => ?_, fun _ => hp⟩
    have : k ≤ k' := by
      rcases hk1 with h | h
      · exact h ▸ Nat.zero_le _
      · exact Nat.le_of_lt_succ ((Nat.pow_lt_pow_iff_right (by decide)).mp (Nat.lt_of_le_of_lt h hk'))
    omega

/-- `MHD_uint32_to_strx`: canonical upper-case hexadecimal representation iff it fits -/
theorem uint32ToStrx_exact (val : Nat) (out : Bytes) (hv : val < 2 ^ 32) :
    ∃ k, (k = 0 ∨ 16 ^ k ≤ val) ∧ val < 16 ^ (k + 1) ∧
      Wrote (uint32ToStrx val out) out (if k + 1 ≤ out.length then some (hexDigitsU k val) else none) := by
  have hk2 : val < 16 ^ (Mhd.Num.width 16 7 val + 1) := Mhd.Num.lt_pow_width (by decide) hv
  obtain ⟨r, hr, hp⟩ := x32Print (Mhd.Num.width 16 7 val) val 0 out 9 (Mhd.Num.width_le ..) (Nat.lt_of_le_of_lt (Mhd.Num.width_le ..) (by decide))
  refine ⟨_, Mhd.Num.width_min 7 val, hk2, ?_⟩
  have hk3 := x32Skip val 7 9 0 (Nat.le_refl _) (by decide)
  rw [Nat.sub_self, Nat.pow_zero, Nat.mul_one] at hk3
  rw [uint32ToStrx, hk3, bind_ok', hr, ← hexDigitsU_length (Mhd.Num.width 16 7 val) val]
  exact hp.wrote

/-- `MHD_strx_to_uint32_n_ ∘ MHD_uint32_to_strx = id` -/
theorem strx_print_parse_roundtrip (val : Nat) (out : Bytes) (hv : val < 2 ^ 32) :
    ∃ n o, uint32ToStrx val out = .ok (n, o) ∧ (n ≠ 0 → strxToUint32N (o.take n) = .ok (n, val)) := by
  obtain ⟨k, _, hk2, n, o, hr, _, hp⟩ := uint32ToStrx_exact val out hv
  refine ⟨n, o, hr, fun hn => ?_⟩
  by_cases hfit : k + 1 ≤ out.length
  · simp only [hfit, if_true, hexDigitsU_length] at hp
    rw [hp.2, hp.1, strxToUint32N, strxToUintN_spec, parseHex, xdigitRun, hexVal, hexDigitsU_eq]
    exact congrArg _ (parse_digitsB (b := 16) (ch := x32Char) (f := hexDigitVal) (p := isXDigit) (Nat.succ_pos 15)
      (fun d hd => (xchar_table ⟨d, hd⟩).2) (fun d hd => (xchar_table ⟨d, hd⟩).1) k val _ hk2 (Nat.le_of_lt_succ hv))
  · simp only [hfit, if_false] at hp; exact absurd hp hn

example : uint32ToStrx 0xBEEF (List.replicate 4 0) = .ok (4, [0x42, 0x45, 0x45, 0x46]) := rfl
example : uint32ToStrx 0 [7] = .ok (1, [0x30]) := rfl

/-- `MHD_uint8_to_str_pad`: for every 8-bit value, every permitted `min_digits` (0..3) and every
    buffer: the value in decimal, zero-padded on the left to `max (min_digits, 1)` digits, iff it
    fits; 0 iff it does not.  (`padSpec` = `decDigits` with the padded digit count; the mirror of
    the code's three stages equals it by `decide` over all 256 × 4 arguments.) -/
theorem uint8ToStrPad_exact (val pad : Nat) (out : Bytes) (hv : val < 256) (hp : pad ≤ 3) :
    Wrote (uint8ToStrPad val pad out) out
      (if (padSpec val pad).length ≤ out.length then some (padSpec val pad) else none) := by
  obtain ⟨r, hr, hpst⟩ := uint8ToStrPad_mirror val pad out
  rw [show padAll val pad = padSpec val pad from padAll_eq_spec ⟨val, hv⟩ ⟨pad, Nat.lt_succ_of_le hp⟩] at hpst
  rw [hr]; exact hpst.wrote

example : uint8ToStrPad 7 3 (List.replicate 3 0) = .ok (3, [0x30, 0x30, 0x37]) := rfl
example : uint8ToStrPad 7 3 (List.replicate 2 0) = .ok (0, [0x30, 0x30]) := rfl
example : padSpec 205 0 = [0x32, 0x30, 0x35] ∧ padSpec 5 2 = [0x30, 0x35] := by decide

example : uint64ToStr 1234 (List.replicate 4 0) = .ok (4, [0x31, 0x32, 0x33, 0x34]) := rfl
example : uint64ToStr 1234 (List.replicate 3 0) = .ok (0, [0x31, 0x32, 0x33]) := rfl

theorem binToHex_exact (bin out : Bytes) (hsz : 2 * bin.length ≤ out.length) :
    Wrote (binToHex bin out) out (some (hexSpec bin)) := by
  obtain ⟨x, hx, hp⟩ := iter_scan _ (B2HInv bin out) (·.r) bin.length _ (fun _ hi => hi.1) (binToHex_step bin out hsz)
    (bin.length + 1) (Nat.lt_succ_self _) ⟨0, 0, out⟩ (DecInv.init ..)
  rw [binToHex, hx]; exact hp

/-- `MHD_hex_to_bin` into a buffer of the documented size `(len + 1) / 2` = `hexToBinSpec`: two digits per byte, an implied
    leading zero digit for an odd `len`, 0 on a non-digit.  The loop tests `r < len` and reads `hex[r + 1]` as well: `H2BInv`
    keeps the number of unread digits even, so that read stays inside `len`, and `2 * w ≤ r + 1`, so the write inside the buffer. -/
theorem hexToBin_exact (hex out : Bytes) (hsz : (hex.length + 1) / 2 ≤ out.length) :
    Wrote (hexToBin hex out) out (hexToBinSpec hex) := by
  have hloop : ∀ st : RW, H2BInv hex out st.r st.w st.out →
      Wrote (iter (hexToBinStep hex) (hex.length + 1) st) out (hexToBinSpec hex) := by
    intro st hst
    obtain ⟨x, hx, hp⟩ := iter_scan _ (fun st : RW => H2BInv hex out st.r st.w st.out) (·.r) hex.length _
      (fun _ hi => hi.1.1) (hexToBin_step hex out (by omega)) (hex.length + 1) (Nat.lt_succ_self _) st hst
    rw [hx]; exact hp
  have hinit := DecInv.init hexToBinSpec hex out
  unfold hexToBin
  by_cases h0 : hex.length = 0
  · rw [if_pos h0]; exact hinit.wrote_done (Nat.le_of_eq h0) rfl
  · have hpos : 0 < hex.length := Nat.pos_of_ne_zero h0
    rw [if_neg h0]
    by_cases hodd : hex.length % 2 ≠ 0
    · have hm : hex.length = 1 + 2 * (hex.length / 2) := by omega
      have hd := List.drop_eq_getElem_cons hpos
      have hspec := hexToBinSpec_odd hex[0] (rest := hex.drop 1)
        (by rw [List.length_drop, hm, Nat.add_sub_cancel_left, Nat.mul_mod_right])
      simp only [hodd, if_true, ne_eq, not_false_eq_true, rd_lt hpos, bind_ok']
      rcases toxdigit_cases hex[0] with ⟨l, hx, _, ht⟩ | ⟨hx, ht⟩
      · have hw : 0 < out.length := by omega
        rw [hx] at hspec
        simp only [ht, Int.natCast_nonneg, Int.not_lt.mpr, if_false, Int.toNat_natCast, wr_ok _ hw, bind_ok']
        exact hloop ⟨1, 1, out.set 0 (UInt8.ofNat l)⟩ ⟨hinit.emit1 (pre := [_]) hd hspec hw, ⟨_, hm⟩, Nat.le_refl _⟩
      · rw [hx] at hspec
        simp only [ht, if_true, Int.reduceNeg, Int.reduceLT]
        exact hinit.wrote_none (hd ▸ hspec) rfl
    · simp only [hodd, if_false]
      have hm : hex.length = 0 + 2 * (hex.length / 2) := by omega
      exact hloop ⟨0, 0, out⟩ ⟨hinit, ⟨_, hm⟩, Nat.zero_le _⟩

/-- `MHD_hex_to_bin ∘ MHD_bin_to_hex = id` -/
theorem hexToBin_binToHex (b out1 out2 : Bytes) (h1 : 2 * b.length ≤ out1.length) (h2 : b.length ≤ out2.length) :
    ∃ n o n' o', binToHex b out1 = .ok (n, o) ∧ n = 2 * b.length ∧
      hexToBin (o.take n) out2 = .ok (n', o') ∧ n' = b.length ∧ o'.take n' = b := by
  obtain ⟨n, o, hr, _, hn, ht⟩ := binToHex_exact b out1 h1
  have hlen : (hexSpec b).length = 2 * b.length := hexSpec_length b
  obtain ⟨n', o', hr', _, hp'⟩ := hexToBin_exact (hexSpec b) out2 (by omega)
  rw [hexToBin_hexSpec] at hp'
  exact ⟨n, o, n', o', hr, hn.trans hlen, ht ▸ hr', hp'.1, hp'.2⟩

example : binToHex [0x00, 0xff, 0x1a] (List.replicate 6 0) = .ok (6, [0x30, 0x30, 0x66, 0x66, 0x31, 0x61]) := rfl

/-- `MHD_str_pct_decode_strict_n_` = the strict reference decoder; 0 iff the input is
    broken or empty or the result does not fit into `buf_size` -/
theorem pctDecodeStrictN_exact (s out : Bytes) :
    Wrote (pctDecodeStrictN s out) out ((pctStrict s).filter (fitsIn out.length)) := by
  obtain ⟨x, hx, hp⟩ := iter_scan _ (fun st : RW => PctInv s out st.r st.w st.out) (·.r) s.length _ (fun _ hi => hi.1.1)
    (pctStrict_step s out) (s.length + 1) (Nat.lt_succ_self _) ⟨0, 0, out⟩ ⟨DecInv.init .., Nat.le_refl _⟩
  rw [pctDecodeStrictN, hx]; exact hp

/-- `MHD_str_pct_decode_lenient_n_` = the lenient reference decoder with its flag -/
theorem pctDecodeLenientN_exact (s out : Bytes) :
    ∃ r, pctDecodeLenientN s out = .ok r ∧ r.2.1.length = out.length ∧
      if (pctLenient s).1.length ≤ out.length then
        r.1 = (pctLenient s).1.length ∧ r.2.1.take r.1 = (pctLenient s).1 ∧ r.2.2 = (pctLenient s).2
      else r.1 = 0 :=
  show ∃ r, pctDecodeLenientN s out = .ok r ∧ PctLPost s out r from
  iter_scan _ (fun st : RWB => PctLInv s out st.r st.w st.out st.broken) (·.r) s.length _ (fun _ hi => hi.1.1)
    (pctLenient_step s out) (s.length + 1) (Nat.lt_succ_self _) ⟨0, 0, out, false⟩
    ⟨DecInv.init .., Nat.le_refl _, (Bool.false_or _).symm⟩

/-- in place, on any buffer `c ++ NUL :: tail` with `c` free of NUL -/
theorem pctDecodeInPlaceStrict_exact (c tail : Bytes) (hz : ∀ x ∈ c, x ≠ 0) :
    ∃ r, pctDecodeInPlaceStrict (c ++ 0 :: tail) = .ok r ∧ r.2.length = c.length + 1 + tail.length ∧
      match pctStrict c with
      | some d => r.1 = d.length ∧ r.2.take r.1 = d ∧ r.2[r.1]? = some 0
      | none => r.1 = 0 ∧ r.2[0]? = some 0 :=
  show ∃ r, pctDecodeInPlaceStrict (c ++ 0 :: tail) = .ok r ∧ IPPost c tail r from
  iter_scan _ (fun st : IP => IPInv c tail st.r st.w st.buf) (·.r) c.length _ (fun _ hi => hi.1.1.1)
    (pctInPlaceStrict_step c tail hz) ((c ++ 0 :: tail).length + 1) (by rw [List.length_append]; omega)
    ⟨0, 0, c ++ 0 :: tail⟩ ⟨⟨DecInv.init .., Nat.le_refl _⟩, rfl⟩

theorem pctDecodeInPlaceLenient_exact (c tail : Bytes) (hz : ∀ x ∈ c, x ≠ 0) :
    ∃ r, pctDecodeInPlaceLenient (c ++ 0 :: tail) = .ok r ∧ r.2.1.length = c.length + 1 + tail.length ∧
      r.1 = (pctLenient c).1.length ∧ r.2.1.take r.1 = (pctLenient c).1 ∧ r.2.1[r.1]? = some 0 ∧
      r.2.2 = (pctLenient c).2 :=
  show ∃ r, pctDecodeInPlaceLenient (c ++ 0 :: tail) = .ok r ∧ IPLPost c tail r from
  iter_scan _ (fun st : IPB => IPLInv c tail st.r st.w st.buf st.broken) (·.r) c.length _ (fun _ hi => hi.1.1.1)
    (pctInPlaceLenient_step c tail hz) ((c ++ 0 :: tail).length + 1) (by rw [List.length_append]; omega)
    ⟨0, 0, c ++ 0 :: tail, false⟩ ⟨⟨DecInv.init .., Nat.le_refl _, (Bool.false_or _).symm⟩, rfl⟩

/-- in place = copying (strict) -/
theorem inPlaceStrict_eq_copying (c tail out : Bytes) (hz : ∀ x ∈ c, x ≠ 0) (hsz : c.length ≤ out.length) :
    ∃ n b o, pctDecodeInPlaceStrict (c ++ 0 :: tail) = .ok (n, b) ∧ pctDecodeStrictN c out = .ok (n, o) ∧
      b.take n = o.take n := by
  obtain ⟨⟨n, b⟩, hr, hl, hp⟩ := pctDecodeInPlaceStrict_exact c tail hz
  obtain ⟨n', o, hr', hl', hp'⟩ := pctDecodeStrictN_exact c out
  cases hs : pctStrict c with
  | none =>
    rw [hs] at hp hp'
    obtain rfl : n' = 0 := hp'
    obtain rfl : n = 0 := hp.1
    exact ⟨0, b, o, hr, hr', rfl⟩
  | some d =>
    have hfit : fitsIn out.length d = true := decide_eq_true (Nat.le_trans (pctStrict_length_le c d hs) hsz)
    rw [hs] at hp hp'
    rw [Option.filter_some, if_pos hfit] at hp'
    obtain rfl : n' = d.length := hp'.1
    obtain rfl : n = d.length := hp.1
    exact ⟨_, b, o, hr, hr', hp.2.1.trans hp'.2.symm⟩

/-- in place = copying (lenient, including the flag) -/
theorem inPlaceLenient_eq_copying (c tail out : Bytes) (hz : ∀ x ∈ c, x ≠ 0) (hsz : c.length ≤ out.length) :
    ∃ n b o br, pctDecodeInPlaceLenient (c ++ 0 :: tail) = .ok (n, b, br) ∧
      pctDecodeLenientN c out = .ok (n, o, br) ∧ b.take n = o.take n := by
  obtain ⟨⟨n, b, br⟩, hr, hl, hn, ht, _, hb⟩ := pctDecodeInPlaceLenient_exact c tail hz
  obtain ⟨⟨n', o, br'⟩, hr', hl', hp'⟩ := pctDecodeLenientN_exact c out
  rw [if_pos (Nat.le_trans (pctLenient_length_le c) hsz)] at hp'
  obtain rfl : n' = n := hp'.1.trans hn.symm
  obtain rfl : br' = br := hp'.2.2.trans hb.symm
  exact ⟨_, b, o, _, hr, hr', ht.trans hp'.2.1.symm⟩

/-- the lenient decoder extends the strict one -/
theorem lenient_extends_strict (s d : Bytes) (h : pctStrict s = some d) : pctLenient s = (d, false) :=
  pctLenient_of_strict s d h

/-- every buffer with a NUL has the form `c ++ 0 :: tail` used above -/
theorem zstring_decompose (b : Bytes) (h : 0 ∈ b) : ∃ c tail, b = c ++ 0 :: tail ∧ ∀ x ∈ c, x ≠ 0 :=
  exists_cstr b h

/-- "a%41%" : strict fails, lenient gives "aA%" and the flag; trailing "%4" is not over-read (F12) -/
example : pctStrict [0x61, 0x25, 0x34, 0x31] = some [0x61, 0x41] ∧
          pctLenient [0x61, 0x25, 0x34, 0x31, 0x25] = ([0x61, 0x41, 0x25], true) := by decide
example : pctDecodeStrictN [0x25, 0x34] [0, 0] = .ok (0, [0, 0]) := rfl
/-- "%%41" decodes to "%A" both ways (F17a) -/
example : pctDecodeInPlaceLenient [0x25, 0x25, 0x34, 0x31, 0] = .ok (2, [0x25, 0x41, 0, 0x31, 0], true) := rfl
example : pctDecodeLenientN [0x25, 0x25, 0x34, 0x31] [0, 0, 0, 0] = .ok (2, [0x25, 0x41, 0, 0], true) := rfl

/-- `MHD_str_unquote` (result buffer of the documented size) -/
theorem unquote_exact (q out : Bytes) (hsz : q.length ≤ out.length) :
    Wrote (unquote q out) out (unquoteSpec q) := by
  obtain ⟨x, hx, hp⟩ := iter_scan _ (fun st : RW => ShrInv unquoteSpec q out st.r st.w st.out) (·.r) q.length _
    (fun _ hi => hi.1.1) (unquote_step q out hsz) (q.length + 1) (Nat.lt_succ_self _) ⟨0, 0, out⟩
    ⟨DecInv.init .., Nat.le_refl _⟩
  rw [unquote, hx]; exact hp

/-- `MHD_str_quote`: the quoted form iff it fits, 0 otherwise -/
theorem quote_exact (u out : Bytes) (hu : u.length < 2 ^ 63) :
    Wrote (quote u out) out (if (quoteSpec u).length ≤ out.length then some (quoteSpec u) else none) := by
  -- `hu`: the `size_t` product `unquoted_len * 2` cannot wrap
  have hmod : (u.length * 2) % 2 ^ 64 = u.length * 2 := Nat.mod_eq_of_lt (by omega)
  have hinit : QuoInv u out 0 0 out := ⟨DecInv.init .., Nat.zero_le _⟩
  rw [← filter_fits_some, quote, hmod]
  by_cases hfast : u.length * 2 ≤ out.length
  · obtain ⟨x, hx, hp⟩ := iter_scan _ (fun st : RW => QuoInv u out st.r st.w st.out) (·.r) u.length _ (fun _ hi => hi.1.1)
      (quoteFast_step u out (by omega)) (u.length + 1) (Nat.lt_succ_self _) ⟨0, 0, out⟩ hinit
    rw [if_pos hfast, hx]; exact hp
  · rw [if_neg hfast]
    by_cases hq : u.length > out.length
    · rw [if_pos hq]
      refine hinit.1.wrote_nofit (fun d hd => ?_) rfl
      obtain rfl := Option.some.inj hd
      have := (quoteSpec_length_le u).1
      rw [List.drop_zero]; omega
    · obtain ⟨x, hx, hp⟩ := iter_scan _ (fun st : RW => QuoInv u out st.r st.w st.out) (·.r) u.length _ (fun _ hi => hi.1.1)
        (quoteSlow_step u out) (u.length + 1) (Nat.lt_succ_self _) ⟨0, 0, out⟩ hinit
      rw [if_neg hq, hx]; exact hp

/-- unquote ∘ quote = id (reference level and model level) -/
theorem unquoteSpec_quoteSpec (s : Bytes) : unquoteSpec (quoteSpec s) = some s := by
  induction s with
  | nil => simp [quoteSpec, unquoteSpec_nil]
  | cons c t ih =>
    by_cases h : c = 0x5c ∨ c = 0x22
    · simp only [quoteSpec, h, if_true]
      rw [unquoteSpec_bs, ih]; simp
    · simp only [quoteSpec, h, if_false]
      rw [unquoteSpec_cons_ne c _ (by intro hc; exact h (Or.inl hc)), ih]; simp

theorem unquote_quote_model (u out1 out2 : Bytes) (hu : u.length < 2 ^ 63)
    (h1 : (quoteSpec u).length ≤ out1.length) (h2 : (quoteSpec u).length ≤ out2.length) :
    ∃ n o n' o', quote u out1 = .ok (n, o) ∧ n = (quoteSpec u).length ∧
      unquote (o.take n) out2 = .ok (n', o') ∧ n' = u.length ∧ o'.take n' = u := by
  obtain ⟨n, o, hr, _, hp⟩ := quote_exact u out1 hu
  rw [if_pos h1] at hp
  obtain ⟨n', o', hr', _, hp'⟩ := unquote_exact (quoteSpec u) out2 h2
  rw [unquoteSpec_quoteSpec] at hp'
  exact ⟨n, o, n', o', hr, hp.1, hp.2 ▸ hr', hp'.1, hp'.2⟩

/-- `MHD_str_equal_quoted_bin_n (q, u)` ⇔ `unquote q = u` -/
theorem equalQuoted_iff (q u : Bytes) : equalQuotedBinN q u = .ok (decide (unquoteSpec q = some u)) := by
  rw [equalQuotedBinN, equalQuotedGen_spec, quotedEq]
  cases unquoteSpec q with
  | none => simp
  | some u' => simp [listEq_beq]

/-- `MHD_str_equal_caseless_quoted_bin_n (q, u)` ⇔ `unquote q` exists and equals `u` caselessly -/
theorem equalCaselessQuoted_exact (q u : Bytes) :
    equalCaselessQuotedBinN q u = .ok (match unquoteSpec q with
                                       | some u' => listEq charsEqualCaseless u' u
                                       | none => false) :=
  equalQuotedGen_spec charsEqualCaseless q u

example : quoteSpec [0x61, 0x22, 0x5c] = [0x61, 0x5c, 0x22, 0x5c, 0x5c] ∧
          unquoteSpec [0x61, 0x5c] = none := by decide
example : equalCaselessQuotedBinN [0x5c, 0x41, 0x62] [0x61, 0x42] = .ok true := rfl

/-- `MHD_base64_to_bin_n` = RFC 4648 decoder (mandatory canonical padding) iff the data
    fits; 0 for invalid/empty input or a too small buffer -/
theorem base64ToBinN_exact (s out : Bytes) :
    Wrote (base64ToBinN s out) out ((b64Spec s).filter (fitsIn out.length)) := by
  have hinit := DecInv.init b64Spec s out
  unfold base64ToBinN
  by_cases h0 : s.length = 0
  · rw [if_pos h0]; exact (hinit.wrote_done (Nat.le_of_eq h0) b64Spec_nil).filter_fits
  · simp only [h0, if_false, pure_eq_ok]
    by_cases h4 : s.length % 4 ≠ 0
    · rw [if_pos h4]
      refine (hinit.wrote_none ?_ rfl).filter_fits
      cases hs : b64Spec s with
      | none => exact hs
      | some d => obtain ⟨g, hg, _⟩ := b64Spec_length s d hs; omega
    · rw [if_neg h4]
      obtain ⟨G, hG⟩ : ∃ G, s.length = 4 * G := ⟨s.length / 4, by omega⟩
      rw [show s.length / 4 = G by omega]
      by_cases hsz : G * 3 - 2 > out.length
      · -- even the shortest decoding of this many groups does not fit
        rw [if_pos hsz]
        refine hinit.wrote_nofit (fun d hd => ?_) rfl
        obtain ⟨g, hg, _, hge⟩ := b64Spec_length s d hd
        have := hge (fun h => h0 (h ▸ rfl))
        omega
      -- the size test just passed, `3 * G - 2 ≤ bin_size`, covers every write made without a test: a group that is not the last
      -- is written at `j = 3 * g` with `g + 1 < G` (`B64Inv`), three bytes, and the last group's first byte at `3 * (G - 1)`;
      -- only the second and third byte of the last group are tested against `bin_size` (`b64Last_wrote`)
      · obtain ⟨⟨ok, st⟩, hr, hp⟩ := iter_scan _ (fun st : B64St => B64Inv s out st.i st.j st.out) (·.i) s.length _
          (fun _ hi => hi.1.1) (b64Loop_step s out G hG (by omega)) (s.length + 1) (Nat.lt_succ_self _) ⟨0, 0, out⟩
          ⟨hinit, by show 0 + 4 ≤ s.length; omega, 0, rfl, rfl⟩
        simp only [hsz, if_false, hr, bind_ok']
        rcases hp with ⟨rfl, ⟨hi, hi4, g, hig, hjg⟩, hend⟩ | ⟨rfl, hlen, hnone⟩
        · obtain ⟨i, j, o⟩ := st
          dsimp only at hi hi4 hig hjg hend
          have h3 : i + 3 < s.length := hi4
          have h2 : i + 2 < s.length := Nat.lt_of_succ_lt h3
          have h1 : i + 1 < s.length := Nat.lt_of_succ_lt h2
          have h0 : i < s.length := Nat.lt_of_succ_lt h1
          obtain ⟨x, hx, hpost⟩ := b64Last_wrote (rd_lt h0) (rd_lt h1) (rd_lt h2) (rd_lt h3)
            (show j < o.length by have := hi.2.1; omega)
          have hd : s.drop i = [s[i], s[i + 1], s[i + 2], s[i + 3]] := by
            rw [List.drop_eq_getElem_cons h0, List.drop_eq_getElem_cons h1, List.drop_eq_getElem_cons h2,
              List.drop_eq_getElem_cons h3, List.drop_eq_nil_of_le hend]
          rw [← b64Spec_last, ← hd] at hpost
          simp only [if_true, hx]
          exact hi.wrote_last hpost
        · simp only [Bool.false_eq_true, if_false]
          exact hnone ▸ (Wrote.zero hlen).filter_fits

/-- "QUI=" is "AB"; "QUJ=" (non-zero trailing bits) and "QU==" … are rejected/accepted canonically -/
example : b64Spec [0x51, 0x55, 0x49, 0x3d] = some [0x41, 0x42] ∧ b64Spec [0x51, 0x55, 0x4a, 0x3d] = none ∧
          b64Spec [0x51, 0x51, 0x3d, 0x3d] = some [0x41] ∧ b64Spec [0x51, 0x52, 0x3d, 0x3d] = none := by decide
example : base64ToBinN [0x51, 0x55, 0x4a, 0x44] [0, 0, 0] = .ok (3, [0x41, 0x42, 0x43]) := rfl

/-- `charsequalcaseless` ⇔ equal after US-ASCII lower-casing (for every pair of bytes) -/
theorem charsEqualCaseless_lower (a b : UInt8) : charsEqualCaseless a b = (toLower a == toLower b) :=
  charsEqualCaseless_iff a b

theorem equalCaselessBinN_exact (a b : Bytes) (h : a.length = b.length) :
    equalCaselessBinN a b a.length = .ok (listEq charsEqualCaseless a b) :=
  equalCaselessBinAt_spec a 0 b 0 a.length a b [] [] (List.append_nil _).symm (List.append_nil _).symm rfl h.symm

/-- `MHD_str_equal_caseless_` on two z-terminated buffers -/
theorem equalCaseless_exact (ca ta cb tb : Bytes) (hza : ∀ x ∈ ca, x ≠ 0) (hzb : ∀ x ∈ cb, x ≠ 0) :
    equalCaseless (ca ++ 0 :: ta) (cb ++ 0 :: tb) = .ok (listEq charsEqualCaseless ca cb) := by
  -- the loop of `MHD_str_equal_caseless_n_` with a limit `m` beyond both strings
  obtain ⟨m, hma, hmb⟩ : ∃ m, ca.length < m ∧ cb.length < m := ⟨ca.length + cb.length + 1, by omega, by omega⟩
  obtain ⟨h1, h2⟩ := equalCaselessNStep_cmp ca ta cb tb m hza hzb
  rw [List.take_of_length_le (Nat.le_of_lt hma), List.take_of_length_le (Nat.le_of_lt hmb)] at h1 h2
  exact cmp_iter _ ca cb
    (fun i x y A B hA hB => equalCaselessStep_eq _ _ m i (Nat.lt_trans (lt_of_drop hA) hma) ▸ h1 i x y A B hA hB)
    (fun i hia hib h => equalCaselessStep_eq _ _ m i (Nat.lt_of_le_of_lt hia hma) ▸ h2 i hia hib h)
    _ _ 0 _ rfl rfl (Nat.zero_le _) (Nat.zero_le _) (by simp; omega)

/-- `MHD_str_equal_caseless_n_` on two z-terminated buffers: caseless equality of the first
    `maxlen` characters of the two strings (`strncasecmp (…) == 0`) -/
theorem equalCaselessN_exact (ca ta cb tb : Bytes) (maxlen : Nat) (hza : ∀ x ∈ ca, x ≠ 0) (hzb : ∀ x ∈ cb, x ≠ 0) :
    equalCaselessN (ca ++ 0 :: ta) (cb ++ 0 :: tb) maxlen =
      .ok (listEq charsEqualCaseless (ca.take maxlen) (cb.take maxlen)) :=
  cmp_iter _ _ _ (equalCaselessNStep_cmp ca ta cb tb maxlen hza hzb).1 (equalCaselessNStep_cmp ca ta cb tb maxlen hza hzb).2
    _ _ 0 _ rfl rfl (Nat.zero_le _) (Nat.zero_le _) (by simp; omega)

example : equalCaseless [0x41, 0x62, 0] [0x61, 0x42, 0, 0x7a] = .ok true := rfl
example : equalCaselessN [0x41, 0x62, 0x63, 0] [0x61, 0x42, 0x7a, 0] 2 = .ok true := rfl

/-- `MHD_str_has_token_caseless_ (str, token, token_len)` on any z-terminated string and
    any permitted token (non-empty; no NUL, space, tab, comma): true exactly when the
    token is a member of the reference token list — split on ',', trim spaces and tabs,
    compare caselessly.  (Needs the repair F17b.) -/
theorem hasToken_iff_member (c tail tok : Bytes) (hz : ∀ x ∈ c, x ≠ 0) (htok : TokenOk tok) :
    hasTokenCaseless (c ++ 0 :: tail) tok =
      .ok ((tokensOf c).any (fun e => listEq charsEqualCaseless e tok)) := by
  show hasTokenCaseless (c ++ 0 :: tail) tok = .ok (hasTokenSpec c tok)
  unfold hasTokenCaseless
  have hne : tok.length ≠ 0 := by
    intro h; exact htok.1 (List.eq_nil_of_length_eq_zero h)
  simp only [hne, if_false]
  obtain ⟨b, hb, hp⟩ := iter_spec (hasTokenStep (c ++ 0 :: tail) tok)
    (fun p => p ≤ c.length ∧ hasTokenSpec c tok = (tokListOf (c.drop p)).any (fun e => ceqBytes e tok))
    (fun p => (c.drop p).length) (fun b => b = hasTokenSpec c tok) (hasToken_step c tail tok hz htok)
    ((c ++ 0 :: tail).length + 1) 0 ⟨Nat.zero_le _, hasTokenSpec_eq_any c tok htok.1⟩
    (by rw [List.drop_zero, List.length_append]; exact Nat.lt_succ_of_le (Nat.le_add_right _ _))
  rw [hb, hp]

theorem hasToken_empty_token (s : Bytes) : hasTokenCaseless s [] = .ok false := by
  simp [hasTokenCaseless]

/-- " a ,, B" has the elements "a", "", "B" -/
example : tokensOf [0x20, 0x61, 0x20, 0x2c, 0x2c, 0x20, 0x42] = [[0x61], [], [0x42]] := by decide
/-- "c,close" contains the token "CLOSE" (F17b: the unrepaired code says no) -/
example : hasTokenCaseless [0x63, 0x2c, 0x63, 0x6c, 0x6f, 0x73, 0x65, 0] [0x43, 0x4c, 0x4f, 0x53, 0x45] = .ok true := rfl
example : TokenOk [0x63, 0x6c, 0x6f, 0x73, 0x65] :=
  ⟨List.cons_ne_nil _ _, by decide⟩

/-- The reference editor, spelled out: `removeTokenOut str tok` is the ", "-joined list of the
    elements of `str` (split on ',', spaces/tabs trimmed) that are non-empty and not caselessly
    equal to `tok`, each normalised by `normElem` (every inner run of spaces/tabs becomes one
    space); `hasTokenSpec str tok` says that some element equals `tok` caselessly. -/
theorem removeTokenOut_def (str tok : Bytes) :
    removeTokenOut str tok = ([0x2c, 0x20] : Bytes).intercalate
      (((tokensOf str).filter (fun e => !e.isEmpty && !listEq charsEqualCaseless e tok)).map normElem) ∧
    hasTokenSpec str tok = (tokensOf str).any (fun e => listEq charsEqualCaseless e tok) :=
  ⟨by unfold removeTokenOut; rw [joinWith_eq_intercalate]; rfl, rfl⟩

/-- `MHD_str_remove_token_caseless_ (str, str_len, token, token_len, buf, &buf_size)`, for **every**
    input string, **every** token the function permits (`tokenLegal`: non-empty, no space, tab,
    comma — decidable) and **every** output buffer size:
    * the call returns normally (no read beyond `str_len`/`token_len`, no write beyond `*buf_size`,
      all loops terminate) and the buffer keeps its size;
    * the overflow guard `SSIZE_MAX <= str_len / 2 * 3 + 3` refuses (false, -1);
    * otherwise "buffer too small" (false, -1) is reported **exactly when** the reference output does
      not fit, and when it fits the return value is the reference flag (token ∈ elements),
      `*buf_size` is the exact output length and the buffer starts with the reference output.
    The hypothesis `str.length ≤ SSIZE_MAX` is the C object-size limit: it is what keeps the
    `size_t` expression of the guard from wrapping (the model computes it modulo 2^64). -/
theorem removeToken_exact (str tok out : Bytes) (htok : tokenLegal tok = true)
    (hlen : str.length ≤ Mhd.Gen.Str.ssizeMax) :
    ∃ o, o.length = out.length ∧
      if Mhd.Gen.Str.ssizeMax ≤ str.length / 2 * 3 + 3 then removeTokenCaseless str tok out = .ok (false, -1, o)
      else if (removeTokenOut str tok).length ≤ out.length then
        removeTokenCaseless str tok out = .ok (hasTokenSpec str tok, ((removeTokenOut str tok).length : Int), o) ∧
        o.take (removeTokenOut str tok).length = removeTokenOut str tok
      else removeTokenCaseless str tok out = .ok (false, -1, o) := by
  obtain ⟨hne, htk'⟩ := (tokenLegal_iff tok).mp htok
  unfold removeTokenCaseless
  rw [rm_refuse_nowrap _ hlen]
  by_cases hbig : Mhd.Gen.Str.ssizeMax ≤ str.length / 2 * 3 + 3
  · exact ⟨out, rfl, by simp only [hbig, if_true, pure_eq_ok]⟩
  simp only [hbig, if_false]
  obtain ⟨r, hr, hp⟩ := iter_spec (rmOuterStep str tok) (OutInv str tok out.length) (fun st => (str.drop st.s1).length)
    (OutPost str tok out.length) (rmOuter_exact_step str tok out.length hne htk') (str.length + 1) ⟨0, 0, out, false⟩
    ⟨⟨by simp, by simp, rfl⟩, by simp [removeTokenOut_eq, joinWith_eq_emit, keptOut_eq_keptOf],
      by simp [hasTokenSpec_eq_any _ _ hne]⟩ (by simp)
  simp only [hr, bind_ok']
  cases r with
  | fail =>
    have hp' : ¬ (removeTokenOut str tok).length ≤ out.length := hp
    exact ⟨out, rfl, by simp only [hp', if_false, pure_eq_ok]⟩
  | done st =>
    obtain ⟨q1, q2, q3, q4⟩ := hp
    have hl : (removeTokenOut str tok).length = st.w := by rw [q3]; exact List.length_take_of_le (q1.symm ▸ q2)
    refine ⟨st.out, q1, ?_⟩
    have hfit : (removeTokenOut str tok).length ≤ out.length := hl.symm ▸ q2
    simp only [hfit, if_true, pure_eq_ok]
    exact ⟨by rw [q4, hl], by rw [hl]; exact q3.symm⟩

/-- "close" is a legal token; ",a" and "" are not -/
example : tokenLegal [0x63, 0x6c, 0x6f, 0x73, 0x65] = true ∧ tokenLegal [0x2c, 0x61] = false ∧ tokenLegal [] = false := by decide
/-- " a \\t b ,, CLOSE ,clo" minus "close": elements "a \\t b", "", "CLOSE", "clo" → "a b, clo", flag true -/
example : removeTokenOut [0x20, 0x61, 0x20, 0x09, 0x20, 0x62, 0x20, 0x2c, 0x2c, 0x20, 0x43, 0x4c, 0x4f, 0x53, 0x45, 0x20, 0x2c, 0x63, 0x6c, 0x6f]
            [0x63, 0x6c, 0x6f, 0x73, 0x65] = [0x61, 0x20, 0x62, 0x2c, 0x20, 0x63, 0x6c, 0x6f] ∧
          hasTokenSpec [0x20, 0x61, 0x20, 0x09, 0x20, 0x62, 0x20, 0x2c, 0x2c, 0x20, 0x43, 0x4c, 0x4f, 0x53, 0x45, 0x20, 0x2c, 0x63, 0x6c, 0x6f]
            [0x63, 0x6c, 0x6f, 0x73, 0x65] = true := by decide

/-- The reference, spelled out.  `csElems s` are the elements of a ", "-separated string,
    `tokListOf tokens` the trimmed non-empty elements of the token list (split on ',', trim
    spaces/tabs); the result keeps, in order, the elements that equal none of the tokens
    caselessly; the flag says whether some element equals a token. -/
theorem removeTokensOut_def (s tokens : Bytes) :
    removeTokensOut s tokens = ([0x2c, 0x20] : Bytes).intercalate
      ((csElems s).filter (fun e => !((tokensOf tokens).filter (fun t => !t.isEmpty)).any (fun t => listEq charsEqualCaseless e t))) ∧
    removeTokensFlag s tokens =
      (csElems s).any (fun e => ((tokensOf tokens).filter (fun t => !t.isEmpty)).any (fun t => listEq charsEqualCaseless e t)) := by
  constructor
  · unfold removeTokensOut; rw [joinWith_eq_intercalate]; rfl
  · unfold removeTokensFlag keepAll tokListOf; simp

/-- `MHD_str_remove_tokens_caseless_ (str, &str_len, tokens, tokens_len)`, for **every** string that
    satisfies the documented precondition and **every** token list (any bytes, any length).
    The precondition "the input string must be normalised" is used by the function only as
    `isCsList str` (decidable): `str` is the ", "-join of non-empty, comma-free elements — weaker
    than the documented normal form (which also forbids leading/trailing/repeated blanks inside
    elements), and satisfied by every output of `MHD_str_remove_token_caseless_`
    (`removeToken_output_normalised`).  Then
    * the call returns normally (no read/write outside `[0, *str_len)` of the buffer and
      `[0, tokens_len)` of the token list, all five nested loops terminate);
    * `*str_len` on return is the length of the reference result and the buffer starts with it;
    * the return value is true exactly when some element was removed;
    * the string never grows, the allocated buffer keeps its size. -/
theorem removeTokens_exact (str tokens : Bytes) (hn : isCsList str = true) :
    ∃ buf, removeTokensCaseless str tokens =
        .ok (removeTokensFlag str tokens, (removeTokensOut str tokens).length, buf) ∧
      buf.length = str.length ∧ (removeTokensOut str tokens).length ≤ str.length ∧
      buf.take (removeTokensOut str tokens).length = removeTokensOut str tokens :=
  removeTokensCaseless_spec str tokens hn

/-- every output of `MHD_str_remove_token_caseless_` (for any string and token) satisfies the
    precondition of `MHD_str_remove_tokens_caseless_`, and its elements are the kept elements -/
theorem removeToken_output_normalised (s tok : Bytes) :
    isCsList (removeTokenOut s tok) = true ∧
    csElems (removeTokenOut s tok) =
      ((tokensOf s).filter (fun e => !e.isEmpty && !listEq charsEqualCaseless e tok)).map normElem :=
  show isCsList (removeTokenOut s tok) = true ∧ csElems (removeTokenOut s tok) = keptOut tok s from
  ⟨isCsList_join _ (keptOut_elemOk tok s), csElems_join _ (keptOut_elemOk tok s)⟩

/-- the two editors composed, as `connection.c` uses them: normalise with the first (any string
    `s`), then remove a token list in place — no fault, and the result is the filtered list -/
theorem removeTokens_after_removeToken (s tok tokens : Bytes) :
    ∃ buf, removeTokensCaseless (removeTokenOut s tok) tokens =
        .ok (removeTokensFlag (removeTokenOut s tok) tokens, (removeTokensOut (removeTokenOut s tok) tokens).length, buf) ∧
      buf.take (removeTokensOut (removeTokenOut s tok) tokens).length = removeTokensOut (removeTokenOut s tok) tokens := by
  obtain ⟨buf, h1, _, _, h4⟩ := removeTokens_exact (removeTokenOut s tok) tokens (removeToken_output_normalised s tok).1
  exact ⟨buf, h1, h4⟩

/-- "a b, close, c" is a normalised list with elements "a b", "close", "c"; ",x" and "a,b" are not -/
example : isCsList [0x61, 0x20, 0x62, 0x2c, 0x20, 0x63, 0x6c, 0x6f, 0x73, 0x65, 0x2c, 0x20, 0x63] = true ∧
          csElems [0x61, 0x20, 0x62, 0x2c, 0x20, 0x63, 0x6c, 0x6f, 0x73, 0x65, 0x2c, 0x20, 0x63] =
            [[0x61, 0x20, 0x62], [0x63, 0x6c, 0x6f, 0x73, 0x65], [0x63]] ∧
          isCsList [0x2c, 0x78] = false ∧ isCsList [0x61, 0x2c, 0x62] = false ∧ isCsList [] = true := by decide
/-- "a b, close, c" minus the tokens of " C ,,\tCLOSE , a" ("C", "CLOSE", "a") is "a b"; the flag is set -/
example : removeTokensOut [0x61, 0x20, 0x62, 0x2c, 0x20, 0x63, 0x6c, 0x6f, 0x73, 0x65, 0x2c, 0x20, 0x63]
            [0x20, 0x43, 0x20, 0x2c, 0x2c, 0x09, 0x43, 0x4c, 0x4f, 0x53, 0x45, 0x20, 0x2c, 0x20, 0x61] = [0x61, 0x20, 0x62] ∧
          removeTokensFlag [0x61, 0x20, 0x62, 0x2c, 0x20, 0x63, 0x6c, 0x6f, 0x73, 0x65, 0x2c, 0x20, 0x63]
            [0x20, 0x43, 0x20, 0x2c, 0x2c, 0x09, 0x43, 0x4c, 0x4f, 0x53, 0x45, 0x20, 0x2c, 0x20, 0x61] = true := by decide

/-- `MHD_str_remove_token_caseless_` with **any** token (also one outside the documented
    domain, e.g. empty or containing a comma): for every string, token and output buffer the call
    returns normally — no read beyond `str_len` / `token_len`, no write beyond
    `*buf_size`, all loops terminate —, the buffer keeps its size, and the reported
    `*buf_size` is -1 or lies within the buffer. -/
theorem removeToken_safe_any_token (str token out : Bytes) :
    ∃ r n o, removeTokenCaseless str token out = .ok (r, n, o) ∧ o.length = out.length ∧
      (n = -1 ∨ (0 ≤ n ∧ n ≤ (out.length : Int))) := by
  unfold removeTokenCaseless
  by_cases hbig : Mhd.Gen.Str.ssizeMax ≤ ((str.length / 2) * 3 + 3) % 2 ^ 64
  · simp only [hbig, if_true, pure_eq_ok]
    exact ⟨_, _, _, rfl, rfl, Or.inl rfl⟩
  · simp only [hbig, if_false]
    obtain ⟨r, hr, hp⟩ := iter_spec (rmOuterStep str token) (RmBnd str out.length) (fun st => (str.drop st.s1).length)
      (OuterPost str out.length) (rmOuter_step str token out.length) (str.length + 1) ⟨0, 0, out, false⟩
      ⟨by simp, by simp, rfl⟩ (by simp)
    simp only [hr, bind_ok']
    cases r with
    | fail => exact ⟨_, _, _, rfl, rfl, Or.inl rfl⟩
    | done st =>
      obtain ⟨_, h2, h3⟩ := hp
      exact ⟨_, _, _, rfl, h3, Or.inr ⟨Int.natCast_nonneg _, Int.ofNat_le.mpr h2⟩⟩

/-- " a ,close , b" minus "CLOSE" is "a, b" -/
example : removeTokenCaseless [0x20, 0x61, 0x20, 0x2c, 0x63, 0x6c, 0x6f, 0x73, 0x65, 0x20, 0x2c, 0x20, 0x62] [0x43, 0x4c, 0x4f, 0x53, 0x45] (List.replicate 4 0) = .ok (true, 4, [0x61, 0x2c, 0x20, 0x62]) := rfl
/-- F17c: "close \t x" is kept, and normalised to "close x" (the unrepaired code copies " \t " verbatim) -/
example : removeTokenCaseless [0x63, 0x6c, 0x6f, 0x73, 0x65, 0x20, 0x09, 0x20, 0x78] [0x63, 0x6c, 0x6f, 0x73, 0x65] (List.replicate 8 0) = .ok (false, 7, [0x63, 0x6c, 0x6f, 0x73, 0x65, 0x20, 0x78, 0x00]) := rfl
/-- one byte too few: refused with -1 -/
example : (removeTokenCaseless [0x20, 0x61, 0x20, 0x2c, 0x63, 0x6c, 0x6f, 0x73, 0x65, 0x20, 0x2c, 0x20, 0x62] [0x43, 0x4c, 0x4f, 0x53, 0x45] (List.replicate 3 0)).map (fun r => (r.1, r.2.1)) = .ok (false, -1) := rfl
/-- the in-place multi-token removal on a normalised list: "a, close, b" minus "b ,CLOSE" is "a" -/
example : removeTokensCaseless [0x61, 0x2c, 0x20, 0x63, 0x6c, 0x6f, 0x73, 0x65, 0x2c, 0x20, 0x62] [0x62, 0x20, 0x2c, 0x43, 0x4c, 0x4f, 0x53, 0x45] = .ok (true, 1, [0x61, 0x2c, 0x20, 0x63, 0x6c, 0x6f, 0x73, 0x65, 0x2c, 0x20, 0x62]) := rfl

theorem nofault_parse (s : Bytes) :
    NoFault (strToUint64N s) ∧ NoFault (strxToUint32N s) ∧ NoFault (strxToUint64N s) ∧
    (0 ∈ s → NoFault (strToUint64 s) ∧ NoFault (strxToUint32 s) ∧ NoFault (strxToUint64 s)) :=
  ⟨⟨_, strToUint64N_exact s⟩, ⟨_, strxToUintN_spec _ s⟩, ⟨_, strxToUintN_spec _ s⟩,
   fun hz => ⟨⟨_, strToUint64_exact s hz⟩, ⟨_, strxToUint_spec _ s hz⟩, ⟨_, strxToUint_spec _ s hz⟩⟩⟩

theorem nofault_print (val : Nat) (out : Bytes) :
    (val ≤ 2 ^ 64 - 1 → NoFault (uint64ToStr val out)) ∧ (val < 65536 → NoFault (uint16ToStr val out)) ∧
    (val < 2 ^ 32 → NoFault (uint32ToStrx val out)) := by
  refine ⟨?_, ?_, ?_⟩
  · intro hv; obtain ⟨_, _, _, h⟩ := uint64ToStr_exact val out hv; exact h.noFault
  · intro hv; obtain ⟨_, _, _, h⟩ := uint16ToStr_exact val out hv; exact h.noFault
  · intro hv; obtain ⟨_, _, _, h⟩ := uint32ToStrx_exact val out hv; exact h.noFault

theorem nofault_codecs (s out : Bytes) :
    NoFault (pctDecodeStrictN s out) ∧ NoFault (pctDecodeLenientN s out) ∧ NoFault (base64ToBinN s out) ∧
    (s.length < 2 ^ 63 → NoFault (quote s out)) ∧
    (s.length ≤ out.length → NoFault (unquote s out)) ∧
    (2 * s.length ≤ out.length → NoFault (binToHex s out)) ∧
    ((s.length + 1) / 2 ≤ out.length → NoFault (hexToBin s out)) := by
  refine ⟨(pctDecodeStrictN_exact s out).noFault, ?_, (base64ToBinN_exact s out).noFault,
    fun h => (quote_exact s out h).noFault, fun h => (unquote_exact s out h).noFault,
    fun h => (binToHex_exact s out h).noFault, fun h => (hexToBin_exact s out h).noFault⟩
  obtain ⟨r, h, _⟩ := pctDecodeLenientN_exact s out; exact ⟨r, h⟩

theorem nofault_inplace (b : Bytes) (hz : 0 ∈ b) :
    NoFault (pctDecodeInPlaceStrict b) ∧ NoFault (pctDecodeInPlaceLenient b) := by
  obtain ⟨c, tail, rfl, hc⟩ := exists_cstr b hz
  obtain ⟨r1, h1, _⟩ := pctDecodeInPlaceStrict_exact c tail hc
  obtain ⟨r2, h2, _⟩ := pctDecodeInPlaceLenient_exact c tail hc
  exact ⟨⟨r1, h1⟩, ⟨r2, h2⟩⟩

theorem nofault_hasToken (s tok : Bytes) (hz : 0 ∈ s) (htok : TokenOk tok ∨ tok = []) :
    NoFault (hasTokenCaseless s tok) := by
  rcases htok with h | h
  · obtain ⟨c, tail, rfl, hc⟩ := exists_cstr s hz
    exact ⟨_, hasToken_iff_member c tail tok hc h⟩
  · subst h; exact ⟨_, hasToken_empty_token s⟩

theorem nofault_compare (q u : Bytes) :
    NoFault (equalQuotedBinN q u) ∧ NoFault (equalCaselessQuotedBinN q u) ∧
    (q.length = u.length → NoFault (equalCaselessBinN q u q.length)) ∧
    (0 ∈ q → 0 ∈ u → NoFault (equalCaseless q u)) := by
  refine ⟨⟨_, equalQuoted_iff q u⟩, ⟨_, equalQuotedGen_spec _ q u⟩,
    fun h => ⟨_, equalCaselessBinN_exact q u h⟩, ?_⟩
  intro hq hu
  obtain ⟨ca, ta, rfl, hca⟩ := exists_cstr q hq
  obtain ⟨cb, tb, rfl, hcb⟩ := exists_cstr u hu
  exact ⟨_, equalCaseless_exact ca ta cb tb hca hcb⟩

end Mhd.C17
