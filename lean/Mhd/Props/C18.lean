/-
  C18 — Threaded modes: no harmful data race, no deadlock, clean stop under load.

  Claimed as PARTIAL by design (DESIGN.md §3 C18).  A theorem cannot exhibit a data race in
  compiled C.  What *is* logic is stated and proved here:

  * over `Mhd.Gen.Locks.table` — regenerated from daemon.c / connection.c / response.c /
    digestauth.c by `tools/locktable.py` on every run — by `decide +kernel` over the WHOLE
    table (a proof, not a sample: the domain is the table), lifted to ∀-statements by the
    lemmas of `Mhd.Proofs.Locks`;
  * over an abstract small-step model of threads taking mutexes according to the table's
    permitted (held, requested) pairs (`Mhd.Locks.Sys`): acyclic order ⇒ no cycle of waiting
    threads, for every number of threads and every interleaving;
  * over the shutdown state machine `Mhd.Stop`: for every number of workers and connections,
    every scheduler and every network behaviour;
  * over the join loop of thread-per-connection mode `Mhd.StopJoin`, whose iteration discipline
    (how the loop finds its next list position after it released the mutex for a join) is the
    regenerated fact `Mhd.Gen.Locks.unlockLoops`: for every number of connections and every
    interleaving of thread exits.

  Not carried by any theorem (validated dynamically by the ThreadSanitizer stress run of
  `tools/props/C18.py`, and labelled so in the evidence): that the table is a sound abstraction
  of what the compiled code does (held-lock sets, thread roles), memory-order effects on the
  benign flags, races inside libc/GnuTLS, scheduler-dependent liveness.
-/
import Mhd.Proofs.Locks
import Mhd.Proofs.LocksStop
import Mhd.Proofs.LocksJoin

namespace Mhd.C18
open Mhd.Gen.Locks Mhd.Locks

/-- The extractor's certificates are consistent with the table itself: `id`s are positions,
    and for every call site the callee's entry context (locks certainly / possibly held at entry,
    thread-per-connection guard, inherited role) is implied by the call site; roots (public API,
    address-taken, referenced from other files) assume no lock at entry. -/
theorem context_certificate : idsOk table = true ∧ contextOk table = true := by
  constructor <;> decide +kernel

/-- Every lock-order edge of the table — mutex `p.2` requested at a point where `p.1` may be
    held, through any depth of calls — goes strictly upwards in `lockRank`.  Hence the order
    graph is acyclic and no mutex is requested while it may already be held. -/
theorem lock_order_ranked : ∀ p ∈ lockEdges table, lockRank p.1 < lockRank p.2 :=
  (rankOk_iff table lockRank).mp (by decide +kernel)

theorem lock_order_edge_iff (h l : Lock) :
    (h, l) ∈ lockEdges table ↔
      ∃ en ∈ table, ∃ e ∈ en.events, e.kind = Kind.lock l ∧ h ∈ effMay en e :=
  mem_lockEdges table h l

-- non-vacuity: the table does contain a nested acquisition (close_all_connections holds the
-- new-connections mutex while new_connection_close_ → MHD_ip_limit_del takes the per-IP mutex)
example : (Lock.new_connections_mutex, Lock.per_ip_connection_mutex) ∈ lockEdges table := by
  decide +kernel

/-- **No deadlock by lock ordering.**  Any number of threads (`T` arbitrary), any interleaving:
    in every state reachable by threads that request a mutex only in a context the table
    permits, there is no cycle of threads each waiting for a mutex owned by the next. -/
theorem no_deadlock_by_lock_order {T : Type} [DecidableEq T] (s : Sys T)
    (h : Sys.Reachable (lockEdges table) s) (t : T) : ¬ Sys.WaitPlus s t t :=
  Sys.no_wait_cycle (Sys.disciplined_of_reachable h) lock_order_ranked t

/-- … and some blocked thread is always blocked on a mutex that is free or owned by a thread
    that is not itself blocked on a mutex. -/
theorem some_blocked_thread_can_proceed {T : Type} [DecidableEq T] (s : Sys T)
    (h : Sys.Reachable (lockEdges table) s) (threads : List T) (t0 : T) (l0 : Lock)
    (h0 : t0 ∈ threads) (hw : s.want t0 = some l0) :
    ∃ t ∈ threads, ∃ l, s.want t = some l ∧
      (s.owner l = none ∨ ∃ t', s.owner l = some t' ∧ (s.want t' = none ∨ t' ∉ threads)) :=
  Sys.exists_unblocked (Sys.disciplined_of_reachable h) lock_order_ranked threads t0 l0 h0 hw

-- non-vacuity: a reachable state of the abstract system in which the hypotheses hold with a
-- thread that owns one mutex and waits for another one
example : ∃ s : Sys Nat, Sys.Reachable (lockEdges table) s ∧
    s.owner Lock.new_connections_mutex = some 0 ∧ s.want 0 = some Lock.per_ip_connection_mutex := by
  refine ⟨((((Sys.init : Sys Nat).setWant 0 (some Lock.new_connections_mutex)).setOwner
      Lock.new_connections_mutex (some 0)).setWant 0 none).setWant 0 (some Lock.per_ip_connection_mutex), ?_, ?_, ?_⟩
  · refine Sys.Reachable.step (Sys.Reachable.step (Sys.Reachable.step Sys.Reachable.init
      (Sys.Step.request _ 0 Lock.new_connections_mutex rfl ?_)) (Sys.Step.grant _ 0 _ ?_ ?_))
      (Sys.Step.request _ 0 Lock.per_ip_connection_mutex ?_ ?_)
    · intro h hh; simp [Sys.init] at hh
    · simp [Sys.setWant]
    · simp [Sys.setWant, Sys.init]
    · simp [Sys.setWant]
    · intro h hh
      simp only [Sys.setWant, Sys.setOwner, Sys.init] at hh
      by_cases hl : h = Lock.new_connections_mutex
      · subst hl; decide +kernel
      · simp [hl] at hh
  · simp [Sys.setWant, Sys.setOwner]
  · simp [Sys.setWant]

/-- No thread joins another thread or blocks in select/poll/epoll_wait while it may hold a
    mutex (so a thread that owns a mutex is never itself waiting for anything but a mutex). -/
theorem no_lock_held_while_blocking :
    ∀ en ∈ table, ∀ e ∈ en.events, (e.kind = Kind.join ∨ e.kind = Kind.wait) → effMay en e = [] :=
  (blockingOk_iff table).mp (by decide +kernel)

/-- **Every path from a lock to a function exit releases the lock.**  Over the structured control flow
    of the clang AST of all four files (early `return`s, `break` / `continue` / `goto` out of a locked
    region, the end of the body; a callee that leaves a mutex held leaves it held in its caller):
    the only exits reached with a mutex taken by the function (or a callee) possibly still held are
    those of the *lock wrappers* — functions whose whole body is the one lock call
    (`MHD_ip_count_lock`), confirmed as such by the table; their callers fall under the same rule.
    Together with `no_lock_held_while_blocking` this discharges what `no_deadlock_by_lock_order` /
    `some_blocked_thread_can_proceed` leave open: a thread that owns a mutex and is not itself waiting
    for one reaches an unlock before it leaves the code that took the mutex, so no mutex stays owned
    for ever (the next digest operation / `MHD_stop_daemon` would otherwise block on it). -/
theorem locks_released_on_every_path :
    (∀ x ∈ exitsHoldingLock, (x.1, x.2.1) ∈ lockWrappers) ∧ (∀ w ∈ lockWrappers, wrapperOk table w = true) :=
  (exitsOk_iff table exitsHoldingLock lockWrappers).mp (by decide +kernel)

-- non-vacuity: the wrapper is there (so the extraction does see exits with a lock held), and the nonce
-- table functions take and release their mutex
example : ("MHD_ip_count_lock", Lock.per_ip_connection_mutex) ∈ lockWrappers ∧ exitsHoldingLock ≠ [] := by decide +kernel
example : ∃ en ∈ table, en.name = "check_nonce_nc" ∧
    (∃ e ∈ en.events, e.kind = Kind.lock Lock.nnc_lock) ∧ (∃ e ∈ en.events, e.kind = Kind.unlock Lock.nnc_lock) := by
  -- the search tests the name last, and only of functions that take and release the mutex
  have h : (table.any fun en => en.events.any (fun e => e.kind == Kind.lock Lock.nnc_lock) &&
      en.events.any (fun e => e.kind == Kind.unlock Lock.nnc_lock) && en.name == "check_nonce_nc") = true := by
    decide +kernel
  obtain ⟨en, hen, h⟩ := List.any_eq_true.mp h
  simp only [Bool.and_eq_true, List.any_eq_true, beq_iff_eq] at h
  exact ⟨en, hen, h.2, h.1.1, h.1.2⟩

/-
  Full statement (does NOT hold on the unchanged tree, see `lockset_witness`):
    ∀ en ∈ table, ∀ e ∈ en.events, ∀ f w, e.kind = .acc f w → protectedAcc en e f = true
-/
/-- **Lockset discipline (partial).**  Every access to a field of the shared set is
    (i) under the mutex designated for that field (held at the access on every path, counting
    what every caller holds), or (ii) confined to the single daemon-thread role (or made while
    no other thread can reach the object), or (iii) to one of the documented benign flags /
    the connection counter — *except* reads of `connection->suspended` and accesses to
    `urh->was_closed`, which the unchanged tree performs without their mutex (finding F18b;
    ThreadSanitizer confirms the first one in thread-per-connection mode). -/
theorem lockset_partial :
    ∀ en ∈ table, ∀ e ∈ en.events, ∀ f w, e.kind = Kind.acc f w →
      (protectedAcc en e f = true ∨ knownUnprotected f w = true) :=
  locksetOk_acc table (by decide +kernel)

/-- kernel-checked witness that the full statement fails on the table of the unchanged tree -/
theorem lockset_witness :
    ¬ (∀ en ∈ table, ∀ e ∈ en.events, ∀ f w, e.kind = Kind.acc f w → protectedAcc en e f = true) :=
  locksetStrict_false table (by decide +kernel)

/-- **Writes need the mutex itself.**  Every write of a shared field is made under the mutex
    designated for the field — the daemon-thread role alone is not accepted for the lists that
    connection threads also touch in thread-per-connection mode — except: benign fields, the
    daemon-only fields (epoll ready list, `thread_joined`) written by the confined daemon thread,
    fresh objects, the detached local hand-over list, start-up code, and `urh->was_closed`
    (known finding F18b).  The known-unprotected accesses of `connection->suspended` are reads. -/
theorem writes_under_mutex :
    ∀ en ∈ table, ∀ e ∈ en.events, ∀ f, e.kind = Kind.acc f true → writeOk en e f = true :=
  (writesOk_iff table).mp (by decide +kernel)

-- non-vacuity: the table contains protected writes of each kind
example : ∃ en ∈ table, ∃ e ∈ en.events, e.kind = Kind.acc Field.conn_list true ∧
    underDesignated en e Field.conn_list = true := exists_acc_of_any _ _ _ (by decide +kernel)
example : ∃ en ∈ table, ∃ e ∈ en.events, e.kind = Kind.acc Field.nnc true ∧
    underDesignated en e Field.nnc = true := exists_acc_of_any _ _ _ (by decide +kernel)
example : ∃ en ∈ table, ∃ e ∈ en.events, e.kind = Kind.acc Field.reference_count true ∧
    underDesignated en e Field.reference_count = true := exists_acc_of_any _ _ _ (by decide +kernel)
example : ∃ en ∈ table, ∃ e ∈ en.events, e.kind = Kind.acc Field.eready_list true ∧
    underDesignated en e Field.eready_list = false ∧ confined en e Field.eready_list = true :=
  exists_acc_of_any _ _ _ (by decide +kernel)

example : ∃ en ∈ table, ∃ e ∈ en.events, e.kind = Kind.acc Field.per_ip_count true ∧
    underDesignated en e Field.per_ip_count = true := exists_acc_of_any _ _ _ (by decide +kernel)

/-- **The per-address tree and the nonce table are touched under their mutex only.**  Every access —
    read or write, in any thread role — to the per-IP connection accounting (the search tree
    `daemon->per_ip_connection_count` handed to tsearch/tfind/tdelete and the `count` of its nodes)
    and to the digest-auth nonce table (`daemon->nnc[]`: `nonce`, `nc`, `nmask`) is made with
    `per_ip_connection_mutex` resp. `nnc_lock` certainly held (held on every path, counting what
    every caller holds); the only other accesses are in start-up code.  No daemon-thread
    confinement, no benign exception is accepted for these two objects. -/
theorem per_ip_and_nonce_under_mutex :
    ∀ en ∈ table, ∀ e ∈ en.events, ∀ f w, e.kind = Kind.acc f w → f ∈ strictFields →
      strictAccOk en e f = true :=
  (strictOk_iff table).mp (by decide +kernel)

-- non-vacuity: the table has reads and writes of both objects; a lookup moved in front of the lock
-- (the accesses of MHD_ip_limit_del lose their mutex) breaks the check
example : ∃ en ∈ table, ∃ e ∈ en.events, e.kind = Kind.acc Field.per_ip_count false ∧ en.name = "MHD_ip_limit_del" :=
  exists_acc_of_any _ _ _ (by decide +kernel)
example : ∃ en ∈ table, ∃ e ∈ en.events, e.kind = Kind.acc Field.nnc false ∧
    underDesignated en e Field.nnc = true := exists_acc_of_any _ _ _ (by decide +kernel)

/-- **Flag and list change together.**  Every write of `daemon->have_new` is made while
    `new_connections_mutex` is held (and such writes exist), i.e. inside the critical section that
    inserts into / detaches the hand-over list: no `MHD_add_connection` from another thread can
    land between the detach and the clearing of the flag. -/
theorem have_new_paired : haveNewPairedOk table = true := by decide +kernel

/-- **A resume shortens the wait.**  In each of the three event loops (select, poll, epoll) the
    result of `resume_suspended_connections` reaches, by data / control flow in the AST, the
    timeout argument of the following select / poll / epoll_wait as a forced zero; only the loop
    that runs exclusively in thread-per-connection mode discards it. -/
theorem resume_forces_zero_timeout : resumeTimeoutOk resumeWaitSites = true := by decide +kernel

/-- Application callbacks run with no library mutex held, except the content reader (under the
    response mutex, documented) and the completion notification issued by
    `resume_suspended_connections` for an upgraded connection. -/
theorem callbacks_unlocked :
    ∀ en ∈ table, ∀ e ∈ en.events, e.kind = Kind.callback → ∀ l ∈ effMay en e,
      (l = Lock.response_mutex ∨
        (l = Lock.cleanup_connection_mutex ∧ en.name = "resume_suspended_connections")) :=
  (callbackOk_iff table).mp (by decide +kernel)

/-- Shutdown sequencing as written in the source: `MHD_stop_daemon` writes the shutdown flag
    before it joins the daemon thread and calls `close_all_connections` itself only on the
    no-internal-thread branch; `MHD_polling_thread` calls `close_all_connections` after its last
    test of the flag; `close_all_connections` joins, closes via `close_connection` and ends with
    `MHD_cleanup_connections`. -/
theorem stop_sequence : stopSequenceOk table = true := by decide +kernel

/-! The whole-table checks are sensitive (kernel-checked mutations of the regenerated table).
  These are *tests of the checks*, not part of the property: each mutates the generated table the
  way a change of the C source would and shows that the corresponding `decide` would fail. -/

/-- rewrite the events of one function of the table -/
def mutFn (name : String) (f : List Ev → List Ev) (t : List Entry) : List Entry :=
  t.map (fun en => if en.name == name then { en with events := f en.events } else en)

-- the accesses of MHD_resume_connection lose their mutex
example : locksetOk (mutFn "MHD_resume_connection" (fun es => es.map (fun e => { e with must := [] })) table) = false :=
  all_map_name_false table _ _ _ (by decide +kernel)
example : writesOk (mutFn "new_connection_process_" (fun es => es.map (fun e => { e with must := [] })) table) = false :=
  all_map_name_false table _ _ _ (by decide +kernel)
-- a function takes the new-connections mutex while holding the per-IP mutex (inverse of the existing edge)
example : rankOk (mutFn "MHD_ip_count_lock" (fun es => es ++
    [⟨.lock .new_connections_mutex, 0, [.per_ip_connection_mutex], [.per_ip_connection_mutex], [], [], .any⟩]) table)
    lockRank = false := by decide +kernel
-- MHD_stop_daemon joins with a mutex held / joins before it sets the flag
example : blockingOk (mutFn "MHD_stop_daemon" (fun es => es.map (fun e => { e with may := [.cleanup_connection_mutex] })) table) = false :=
  all_map_name_false table _ _ _ (by decide +kernel)
example : stopSequenceOk (mutFn "MHD_stop_daemon" List.reverse table) = false := by decide +kernel
-- the flag is cleared outside the critical section / the poll loop discards the resume result
example : haveNewPairedOk (mutFn "new_connections_list_process_" (fun es => es.map (fun e => { e with must := [] })) table) = false := by
  decide +kernel
example : resumeTimeoutOk (resumeWaitSites.map (fun s => if s.1 == "MHD_poll_all" then (s.1, s.2.1, s.2.2.1, false) else s)) = false := by
  decide +kernel
-- the response mutex is released before the shared data block is read
example : locksetOk (mutFn "MHD_connection_handle_write" (fun es => es.map (fun e => { e with may := [], must := [] })) table) = false :=
  all_map_name_false table _ _ _ (by decide +kernel)
-- a callee assumes a lock that a call site does not hold
example : contextOk (table.map (fun en =>
    if en.name == "close_connection" then { en with entryMust := [.cleanup_connection_mutex] } else en)) = false := by
  decide +kernel
-- an application callback under the cleanup mutex
example : callbackOk (mutFn "MHD_connection_close_" (fun es => es.map (fun e => { e with may := [.cleanup_connection_mutex] })) table) = false :=
  all_map_name_false table _ _ _ (by decide +kernel)

-- check_nonce_nc gets an early return between the lock and the unlock of the nonce-table mutex
example : exitsOk table (("check_nonce_nc", Lock.nnc_lock, 864, true) :: exitsHoldingLock) lockWrappers = false := by
  decide +kernel
-- the per-IP lookup is moved in front of MHD_ip_count_lock()
example : strictOk (mutFn "MHD_ip_limit_del" (fun es => es.map (fun e => { e with must := [] })) table) = false :=
  all_map_name_false table _ _ _ (by decide +kernel)
-- the join loop of close_all_connections carries a saved link across the join
example : Mhd.StopJoin.cursorRuleOk (unlockLoops.map (fun x =>
    if x.1 == "close_all_connections" && x.2.2.2.1 == Field.conn_list then (x.1, x.2.1, x.2.2.1, x.2.2.2.1, CursorKind.carriedValue) else x)) = false := by
  decide +kernel

open Mhd.Stop

/-- every state reachable from daemons in normal operation satisfies the invariant -/
theorem stop_invariant (ws ws' : List Worker) (sched : List (Nat × Act))
    (hinit : ∀ w ∈ ws, InitW w) (h : run ws sched = some ws') : Good ws' :=
  (run_spec sched (fun w hw => goodW_of_init (hinit w hw)) h).1

/-- **No deadlock, no lost wake-up.**  In every reachable state, for every worker that is not yet
    joined, either the next statement of `MHD_stop_daemon` is enabled, or the worker has been
    signalled and its own thread can move *without any network event*. -/
theorem stop_progress (ws ws' : List Worker) (sched : List (Nat × Act))
    (hinit : ∀ w ∈ ws, InitW w) (h : run ws sched = some ws') :
    ∀ w ∈ ws', w.stage ≠ .joined →
      (∃ w', wstep w .stop = some w') ∨
      (w.stage = .signalled ∧ ∃ w', wstep w (.run false []) = some w') :=
  fun w hw hj => worker_progress (stop_invariant ws ws' sched hinit h w hw) hj

/-- **Bounded stop.**  In any run, under any scheduler and any network behaviour, the number of
    steps that belong to the shutdown protocol (statements of `MHD_stop_daemon` and steps of
    workers whose flag is set) is at most `phi ws` = Σ (number of active connections + 9). -/
theorem stop_bounded (ws ws' : List Worker) (sched : List (Nat × Act))
    (hinit : ∀ w ∈ ws, InitW w) (h : run ws sched = some ws') :
    countProtocol ws sched ≤ phi ws :=
  Nat.le_trans (Nat.le_add_right _ _) (run_spec sched (fun w hw => goodW_of_init (hinit w hw)) h).2

/-- **Clean stop.**  When every worker is joined, every polling thread has exited, every list is
    empty (all connections freed) and every connection was notified exactly once. -/
theorem stop_final (ws ws' : List Worker) (sched : List (Nat × Act))
    (hinit : ∀ w ∈ ws, InitW w) (h : run ws sched = some ws') :
    ∀ w ∈ ws', w.stage = .joined →
      w.pc = .exited ∧ ∀ c ∈ w.conns, c.st = .freed ∧ c.notified = 1 :=
  fun w hw hj => joined_final (stop_invariant ws ws' sched hinit h w hw) hj

/-- at no time has any connection been notified more than once -/
theorem notified_at_most_once (ws ws' : List Worker) (sched : List (Nat × Act))
    (hinit : ∀ w ∈ ws, InitW w) (h : run ws sched = some ws') :
    ∀ w ∈ ws', ∀ c ∈ w.conns, c.notified ≤ 1 :=
  fun w hw => notified_le_one (stop_invariant ws ws' sched hinit h w hw)

-- non-vacuity: two workers (one blocked in poll with two live connections, one in the middle of
-- a handling round), stopped while a client closes a connection; the run ends with both joined
def exWs : List Worker :=
  [⟨.running, .polling, false, false, [⟨.active, 0⟩, ⟨.active, 0⟩]⟩,
   ⟨.running, .handling, false, true, [⟨.active, 0⟩, ⟨.cleanup, 1⟩]⟩]

def exSched : List (Nat × Act) :=
  [(1, .run false [true]), (0, .stop), (1, .stop), (0, .stop), (1, .stop), (1, .run false []),
   (0, .run false []), (0, .run false [false, true]), (0, .run false []), (0, .run false []),
   (0, .run false []), (0, .run false []), (0, .stop),
   (1, .run false []), (1, .run false []), (1, .stop)]

example : ∀ w ∈ exWs, InitW w := by decide
example : (run exWs exSched).map (fun ws => ws.all (fun w => w.stage == .joined)) = some true := by decide
example : countProtocol exWs exSched ≤ phi exWs := by decide

open Mhd.StopTpc in
/-- **Stop terminates in thread-per-connection mode** (repaired thread exit path): for any number
    of connections, each either in the normal list or resumed-but-not-yet-processed in the
    suspended list, and for *every* choice of which connection threads observe the shutdown before
    the daemon thread processes the resumes, the daemon's final loop finds the connection list
    empty; every connection ends freed, its thread exited, notified exactly once. -/
theorem tpc_stop_terminates (cs : List (StopTpc.TC × Bool)) (h : ∀ p ∈ cs, StopTpc.InitC p.1) :
    ∃ r, StopTpc.stopTpc true cs = some r ∧ r.length = cs.length ∧
      ∀ c ∈ r, c.place = .freed ∧ c.notified = 1 ∧ c.exited = true := by
  have key : ∀ c ∈ settle true cs, c.place = .cleanup ∧ c.notified = 1 ∧ c.exited = true := by
    intro c hc
    simp only [settle, List.mem_map] at hc
    obtain ⟨p, hp, rfl⟩ := hc
    exact one_fixed p.1 p.2 (h p hp)
  refine ⟨(settle true cs).map freeC, ?_, by simp [settle], ?_⟩
  · unfold stopTpc
    rw [if_pos]
    simp only [List.all_eq_true]
    intro c hc
    simp [(key c hc).1]
  · intro c hc
    simp only [List.mem_map] at hc
    obtain ⟨b, hb, rfl⟩ := hc
    obtain ⟨h1, h2, h3⟩ := key b hb
    simp [freeC, h1, h2, h3]

/-- kernel-checked witness of the violation in the code *before* fix F18a: one resumed connection
    whose thread observes the shutdown before the daemon thread has processed the resume makes the
    final loop of `close_all_connections` spin forever (observed as the watchdog expiry of the
    stress harness on the unrepaired tree). -/
theorem tpc_stop_unfixed_witness :
    StopTpc.InitC ⟨.susp, 0, false⟩ ∧ StopTpc.stopTpc false [(⟨.susp, 0, false⟩, true)] = none :=
  ⟨by decide, StopTpc.stop_unfixed_spins⟩

-- non-vacuity: three connections, mixed placement and timing
example : (StopTpc.stopTpc true [(⟨.conn, 0, false⟩, true), (⟨.susp, 0, false⟩, true), (⟨.susp, 0, false⟩, false)]).isSome = true := by
  decide

open Mhd.StopJoin

/-- **No list cursor is carried across an unlock … lock window.**  For every loop of the four source
    files whose body releases and re-takes a mutex while it walks one of the daemon's lists
    (`unlockLoops`, regenerated from the clang AST: MHD_cleanup_connections, and the two join loops of
    close_all_connections), the position used after the window is read again from the list head /
    tail under the mutex — except the walk over the suspended list (upgraded TLS connections), which
    keeps its *node* and re-reads the link under the mutex (`pinnedNodeLoop`, trusted exception).
    The join loop over `connections` and the clean-up loop over `cleanup` are both present. -/
theorem cursor_not_carried_across_unlock :
    cursorRuleOk unlockLoops = true ∧
    (cursorOf unlockLoops "close_all_connections" Field.conn_list).isSome = true ∧
    cursorOf unlockLoops "MHD_cleanup_connections" Field.cleanup_list = some CursorKind.rereadHead := by
  decide +kernel

/-- **The stop procedure joins every connection thread** (thread-per-connection mode), with the
    iteration discipline *as found in the source*: for any number of connections (distinct ids, tail
    first) and any interleaving of thread exits (`sched`: which other connection threads run their
    exit path — move their connection from the `connections` list to the `cleanup` list — while the
    mutex is released around each join, in which order), the join loop followed by the test of the
    "now that we're alone" loop does not panic, leaves the `connections` list empty, every connection
    is in the cleanup list, and every thread is joined exactly once (in the loop, or — flag
    `thread_joined` unset — by MHD_cleanup_connections).  Fails to build when the regenerated
    discipline of the loop is anything but `rereadHead`. -/
theorem tpc_join_every_thread (conns : List Nat) (hnd : conns.Nodup) (sched : List (List Nat)) :
    ∃ s, closeAllTpc (joinLoopCursor unlockLoops) conns sched = Outcome.ok s ∧ s.conn = [] ∧
      (∀ x, x ∈ s.cleanup ↔ x ∈ conns) ∧
      (∀ x ∈ conns, (s.joined ++ joinedInCleanup s).count x = 1) ∧
      (∀ x ∈ s.joined ++ joinedInCleanup s, x ∈ conns) := by
  rw [cursor_of_rule unlockLoops cursor_not_carried_across_unlock.1 cursor_not_carried_across_unlock.2.1]
  exact closeAll_reread conns sched

-- non-vacuity: five connections, exits of 4 and 2 during the first join and of 5 during the second
example : closeAllTpc (joinLoopCursor unlockLoops) [1, 2, 3, 4, 5] [[4, 2], [5]] =
    Outcome.ok ⟨[], [4, 2, 1, 5, 3], [3, 1]⟩ := by decide +kernel
example : [1, 2, 3, 4, 5].Nodup := by decide

/-- kernel-checked witness histories for the two carried-cursor variants.  (1) three connections
    (1 = tail = oldest), the link `prev = pos->prev` saved before the unlock: while the daemon thread
    waits for thread 1, thread 2 ends and moves its connection to the cleanup list; the saved pointer
    continues the walk in the cleanup list; connection 3 is never visited and the following loop
    panics ("Failed to join a thread") with thread 3 unjoined.  (2) the node itself carried and
    `pos = pos->prev` read after the re-lock: already two connections and no concurrent exit at all
    suffice (the joined connection has moved itself to the cleanup list). -/
theorem tpc_join_carried_cursor_witness :
    closeAllTpc CursorKind.carriedValue [1, 2, 3] [[2]] = Outcome.panic 3 ∧
    closeAllTpc CursorKind.freshLinkOfCarriedNode [1, 2] [] = Outcome.panic 2 := by
  decide +kernel

-- … while without concurrent exits the carried link goes unnoticed (why the test suite passes)
example : closeAllTpc CursorKind.carriedValue [1, 2, 3] [] = Outcome.ok ⟨[], [1, 2, 3], [3, 2, 1]⟩ := by decide +kernel

end Mhd.C18
