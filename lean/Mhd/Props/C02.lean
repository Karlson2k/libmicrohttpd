/-
  C02 — the application sees exactly the request the client sent.

  The lemmas are in `Mhd.Proofs.Scanner`, `Mhd.Proofs.ReqLine` (+ `ReqLineInv`),
  `Mhd.Proofs.ReqField`, `ReqStable`, `ReqRoundtrip` (+ `NC`), `ReqLineRoundtrip` (+ `Blk`),
  `ReqTarget` (+ `RT`, `NC`, `Ext`), `ReqCookie`: where a statement is an instance of a more general one
  its proof is that instance; where it is the natural statement itself, the proof stands here.  The models are `Mhd.Model.ReqLine` (get_request_line_inner),
  `Mhd.Model.ReqTarget` (get_request_line, process_request_target, MHD_parse_arguments_,
  MHD_unescape_plus, the strict / lenient in-place percent decoders), `Mhd.Model.ReqField`
  (get_req_header / get_req_headers incl. the shift-back block), `Mhd.Model.ReqCookie`
  (parse_cookies_string, parse_cookie_header); every strictness flag comes from the
  regenerated `Mhd.Gen.Discipline`.

  All theorems quantify over every strictness level (in fact over every combination of
  flags) unless they say "level ≥ 0", every initial buffer content, every position of the read
  buffer in the arena and every segmentation of the input (lists of chunks of any length,
  including empty chunks); there is no bound on any size.
-/
import Mhd.Proofs.ReqLine
import Mhd.Proofs.ReqField
import Mhd.Proofs.ReqStable
import Mhd.Proofs.ReqRoundtrip
import Mhd.Proofs.ReqRoundtripNC
import Mhd.Proofs.ReqLineRoundtrip
import Mhd.Proofs.ReqTargetRT
import Mhd.Proofs.ReqTargetNC
import Mhd.Proofs.ReqLineRoundtripBlk
import Mhd.Proofs.ReqCookie
import Mhd.Proofs.ReqTargetExt

namespace Mhd.C02
open Mhd.Req

/-- `get_request_line_inner` never reads or writes outside the received bytes and never
    dereferences NULL: for every level, every arena prefix `buf` with the read buffer at any
    offset `rb`, and every segmentation `chunks` of whatever arrives later, feeding the
    chunks one by one (calling the parser after each) never faults. -/
theorem reqline_no_fault (lvl : Int) (buf : Bytes) (rb : Nat) (h : rb ≤ buf.size) (chunks : List Bytes)
    (f : Fault) :
    let sc := rlScanner (RLFlags.ofLevel lvl)
    sc.feedAll (sc.run (RL.init buf rb)) chunks ≠ .fault f :=
  Scanner.feedAll_no_fault (rlLaws _) _ (RLInv.init buf rb h) chunks f

/-- the same for arbitrary flag combinations (not only the seven levels) -/
theorem reqline_no_fault_flags (F : RLFlags) (s : RL) (hs : RLInv s) (chunks : List Bytes) (f : Fault) :
    (rlScanner F).feedAll ((rlScanner F).run s) chunks ≠ .fault f :=
  Scanner.feedAll_no_fault (rlLaws F) s hs chunks f

/-- `get_req_headers` (field lines, folding, in-place termination, element list and the
    shift-back block at the end of the header section) never faults: for every level, every
    state satisfying the representation invariant `HSP.Inv` (which holds after any processed
    request line, see `field_inv_start`) and every segmentation. -/
theorem field_no_fault (lvl : Int) (fieldStart : Nat) (s : HS) (hs : HSP.Inv s) (chunks : List Bytes) (f : Fault) :
    let sc := hsScanner (FLFlags.ofLevel lvl) fieldStart
    sc.feedAll (sc.run s) chunks ≠ .fault f :=
  Scanner.feedAll_no_fault (HSP.hsLaws _ fieldStart) s hs chunks f

/-- the invariant needed by `field_no_fault` holds in the state in which header parsing
    starts, provided the version string (8 bytes + NUL) lies before the read buffer and no
    element of the list so far is a field line (after the request line the list holds the
    query arguments only) -/
theorem field_inv_start (buf : Bytes) (rb rbSize method version : Nat) (elems : List Elem)
    (h1 : rb ≤ buf.size) (h2 : version + Mhd.Gen.Discipline.httpVerLen + 1 ≤ rb)
    (h3 : ∀ el ∈ elems, el.kind ≠ Mhd.Gen.Http.kindHeader) :
    HSP.Inv { buf := buf, rb := rb, rbSize := rbSize, elems := elems, method := method, version := version } :=
  HSP.Inv.start rfl rfl rfl rfl h1 h2 h3

/-- feeding any segmentation to `get_request_line_inner` equals feeding the concatenation -/
theorem reqline_split_independent (lvl : Int) (buf : Bytes) (rb : Nat) (h : rb ≤ buf.size) (chunks : List Bytes) :
    let sc := rlScanner (RLFlags.ofLevel lvl)
    sc.feedAll (sc.run (RL.init buf rb)) chunks = sc.run (RL.init (buf ++ Scanner.flatten chunks) rb) :=
  Scanner.feedAll_flatten (rlLaws _) chunks _ (RLInv.init buf rb h)

/-- two segmentations of the same bytes: same outcome (same result, same buffer contents,
    same positions) -/
theorem reqline_any_two_segmentations (lvl : Int) (buf : Bytes) (rb : Nat) (h : rb ≤ buf.size)
    (c₁ c₂ : List Bytes) (hc : Scanner.flatten c₁ = Scanner.flatten c₂) :
    let sc := rlScanner (RLFlags.ofLevel lvl)
    sc.feedAll (sc.run (RL.init buf rb)) c₁ = sc.feedAll (sc.run (RL.init buf rb)) c₂ :=
  Scanner.feedAll_eq_of_flatten_eq (rlLaws _) _ (RLInv.init buf rb h) c₁ c₂ hc

/-- feeding any segmentation to `get_req_headers` equals feeding the concatenation -/
theorem field_split_independent (lvl : Int) (fieldStart : Nat) (s : HS) (hs : HSP.Inv s) (chunks : List Bytes) :
    let sc := hsScanner (FLFlags.ofLevel lvl) fieldStart
    sc.feedAll (sc.run s) chunks = sc.run (hsExtend s (Scanner.flatten chunks)) :=
  Scanner.feedAll_flatten (HSP.hsLaws _ fieldStart) chunks s hs

theorem field_any_two_segmentations (lvl : Int) (fieldStart : Nat) (s : HS) (hs : HSP.Inv s)
    (c₁ c₂ : List Bytes) (hc : Scanner.flatten c₁ = Scanner.flatten c₂) :
    let sc := hsScanner (FLFlags.ofLevel lvl) fieldStart
    sc.feedAll (sc.run s) c₁ = sc.feedAll (sc.run s) c₂ :=
  Scanner.feedAll_eq_of_flatten_eq (HSP.hsLaws _ fieldStart) s hs c₁ c₂ hc

/-- second half of the start invariant: in the state in which header parsing starts, no
    element is a field line and all strings handed out so far (the query arguments, inside
    the request target) end before the end of the version string -/
theorem field_inv2_start (buf : Bytes) (rb rbSize method version : Nat) (elems : List Elem)
    (h3 : ∀ el ∈ elems, el.kind ≠ Mhd.Gen.Http.kindHeader)
    (h4 : ∀ el ∈ elems, ∀ sl ∈ HSP.Elem.slices el, sl.region = 0 →
      sl.off + sl.len ≤ version + Mhd.Gen.Discipline.httpVerLen) :
    HSP.Inv2 { buf := buf, rb := rb, rbSize := rbSize, elems := elems, method := method, version := version } :=
  HSP.Inv2.start rfl rfl h3 h4

/-- **Strings shown to the application stay valid and unchanged** (this is what the
    shift-back defect F1 violated).  Header parsing starts in any state satisfying the
    invariants (`field_inv_start`, `field_inv2_start`: true after every request line), the
    header section arrives in *any* segmentation, parsing finishes with header set `h`.
    Then, at every level:
    * every string of every element (query arguments, field names, field values — each with
      its terminating NUL) and the HTTP version string lie strictly below `read_buffer`,
      also after the header tail has been re-used: whatever is received later (body,
      pipelined requests) is stored at or above `read_buffer` and cannot overwrite them;
    * the elements present at the start are the first elements of the final list (nothing
      dropped or reordered), and their bytes are unchanged. -/
theorem strings_stable (lvl : Int) (fieldStart : Nat) (s : HS) (hs : HSP.Inv s) (hs2 : HSP.Inv2 s)
    (chunks : List Bytes) (h : Headers)
    (hr : let sc := hsScanner (FLFlags.ofLevel lvl) fieldStart
          sc.feedAll (sc.run s) chunks = .done (.ok h)) :
    HSP.Below h s.version ∧ (∃ t, h.elems = s.elems ++ t) ∧
      (∀ i, i < s.rb → i < h.rb → h.buf[i]? = s.buf[i]?) := by
  dsimp only at hr
  rw [Scanner.feedAll_flatten (HSP.hsLaws _ fieldStart) chunks s hs] at hr
  have := HSP.run_stable (FLFlags.ofLevel lvl) fieldStart (hsExtend s (Scanner.flatten chunks))
    (hs.ext _) (hs2.ext _) h hr
  refine ⟨this.1, this.2.1, fun i h1 h2 => ?_⟩
  rw [this.2.2 i h1 h2]
  exact Array.getElem?_append_left (by have := hs.hp; omega)

/-! Round trip.  Full statement (DESIGN.md Appendix B `Req.roundtrip`): for every level, every request `r` and
  every rendering `ρ` admissible at that level, `appView (parse (render r lvl ρ)) = r`.
  Proved here, for **every segmentation**:
  * `reqline_roundtrip_partial` — the request line in its canonical rendering
    (`method SP target SP version CRLF`) at every level ≥ 0;
  * `fields_roundtrip_partial` — the header section in its canonical rendering
    (`name ": " value CRLF`) at **every** level, any number of fields.
  * `reqline_roundtrip_nc_partial`, `reqline_target_roundtrip_partial` (below) — the request
    line in **every** rendering admitted at levels ≥ 0 (leading empty lines, HT separator, bare
    LF) with percent/plus decoding of the target in every admissible encoding;
  * `reqline_target_roundtrip_all_levels_partial` — the same at **every** level, with whitespace
    blocks (SP / HT / VT / FF) as separators at levels < 0.
  * `fields_roundtrip_nc_partial` — field lines in every non-canonical rendering the levels accept
    (whitespace around the value and before the colon, obs-folds, bare LF, empty section).
  Missing for the full statement (carried by the correspondence run only — bounded-exhaustive
  white-box differential + the daemon engine with rendered requests and the semantic oracle),
  all at lenient levels: request line at levels < 0 with whitespace inside the URI or a bare
  CR (kept / replaced by a space); field lines with whitespace / NUL / CR inside or an empty
  name, without colon, or starting with whitespace (levels ≤ −1 / −2: kept, skipped or
  discarded — not renderings of a well-formed field); the lenient cookie renderings (`okLax`). -/

/-- a request-line token character: not CR, LF, SP, HT, VT, FF, NUL -/
abbrev TokenChar := RLP.rplain

/-- **Request line: the application is given exactly the method, target and version sent.**
    Level ≥ 0, canonical rendering, any segmentation.  The bytes `m SP t SP v CRLF` (method `m`
    and version `v` of token characters without '?', target `t` of token characters, `v`
    a supported `HTTP/1.x`) arrive in any chunks at the read position `rb` of a fresh
    connection buffer.  Then the parser finishes with the request line `r`: its three strings
    read back as `m`, `t`, `v`, each NUL-terminated; the method enum is that of `m`; the
    position of the first '?' of `t` is remembered (where the arguments start); no whitespace
    is counted in the URI; exactly the line is consumed. -/
theorem reqline_roundtrip_partial (lvl : Int) (hl : 0 ≤ lvl) (buf : Bytes) (rb : Nat) (chunks : List Bytes)
    (m t v : List UInt8) (hv : Int) (hrb : rb ≤ buf.size) (hm0 : m ≠ []) (ht0 : t ≠ [])
    (hm : ∀ c ∈ m, TokenChar c ∧ c ≠ 63) (ht : ∀ c ∈ t, TokenChar c) (hvl : v.length = 8)
    (hvc : ∀ c ∈ v, TokenChar c ∧ c ≠ 63) (hpv : parseHttpVersion v = .ok hv)
    (hbuf : RLP.BufIs (buf ++ Scanner.flatten chunks) rb (m ++ [cSP] ++ t ++ ([cSP] ++ v ++ [cCR, cLF]))) :
    let sc := rlScanner (RLFlags.ofLevel lvl)
    ∃ r, sc.feedAll (sc.run (RL.init buf rb)) chunks = .done (.ok r) ∧
      RLP.BufIs r.buf r.method (m ++ [0]) ∧ RLP.BufIs r.buf r.tgt (t ++ [0]) ∧ RLP.BufIs r.buf r.version (v ++ [0]) ∧
      r.method = rb ∧ r.methodLen = m.length ∧ r.mthd = stdMethodOf m ∧ r.tgtLen = t.length ∧
      r.qmark = (RLP.firstQ t).map (r.tgt + ·) ∧ r.httpVer = hv ∧ r.numWs = 0 ∧
      r.rb = rb + (m.length + t.length + 12) := by
  intro sc
  have hB : (RLFlags.ofLevel lvl).wspBlocks = false := by
    simp only [RLFlags.ofLevel, Mhd.Gen.Discipline.rl_wsp_blocks, decide_eq_false_iff_not]; omega
  have hrb' : rb ≤ (buf ++ Scanner.flatten chunks).size := by rw [Array.size_append]; omega
  obtain ⟨r, hr, ok⟩ := RLP.reqline_roundtrip_nc (RLFlags.ofLevel lvl) hB _ rb [] m t v [cCR, cLF] cSP cSP hv hrb'
    (fun _ h => nomatch h) (.inl rfl) rfl rfl (.inl rfl) hm0 ht0 hm ht hvl hvc hpv hbuf
  exact ⟨r, (reqline_split_independent lvl buf rb hrb chunks).trans hr, ok.vMethod, ok.vTgt, ok.vVersion, ok.method,
    ok.methodLen, ok.mthd, ok.tgtLen, ok.qmark, ok.httpVer, ok.numWs,
    ok.rb.trans (by show rb + 0 + m.length + t.length + 10 + 2 = _; omega)⟩

/-- **Field lines in every non-canonical rendering the level accepts: the application sees
    exactly the fields sent.**  Every level, any segmentation, any number of fields (none:
    the empty header section).  A rendering `HSP.FieldR` of a field chooses
    * whitespace (SP / HT) between name and colon — levels ≤ −3 (`allowWspBeforeColon`); it is
      removed from the name;
    * the value part as a list of tokens `HSP.VTok`: value bytes (anything but CR LF SP HT NUL),
      whitespace bytes anywhere — after the colon, inside, before the line end —, and obs-folds
      (a line end followed by SP / HT) anywhere — levels ≤ 0 (`allowFolded`); a NUL (levels ≤ −1,
      the code overwrites it with a space: `VTok.nul`) and a bare CR not followed by LF (levels
      −1, −2: overwritten with a space, `VTok.crSp`; level −3: kept as a value byte, `VTok.crKeep`);
    * the line end: CR LF, or a bare LF at levels ≤ 0 (`HSP.FEol`); likewise for the empty line
      `endEol` that ends the section.
    `HSP.FieldR.ok` is the (decidable) side condition.  The value the application must see is
    `HSP.FieldR.semValue`: in the token bytes **every byte of the line end of an obs-fold is
    replaced by a space** (CR LF → two spaces, bare LF → one; the whitespace that starts the
    continuation line is kept), a NUL and a replaced bare CR are a space, then whitespace is
    trimmed on both sides.  Then header parsing
    finishes, the element list grows by exactly one element per field — in order, with
    multiplicity —, name and value read back from the final buffer as `name` / `semValue`;
    all strings lie below `read_buffer`; `header_size` counts exactly the bytes of the head.
    Missing for the full statement (correspondence only), all at lenient levels and none of
    them a rendering of a well-formed field: NUL / bare CR / obs-fold inside the field *name*;
    lines starting with whitespace (discarded, ≤ −1); whitespace inside or an empty field
    name, lines without colon (skipped) at levels ≤ −2. -/
theorem fields_roundtrip_nc_partial (lvl : Int) (fieldStart : Nat) (fields : List HSP.FieldR) (endEol : List UInt8) (s : HS)
    (chunks : List Bytes) (hs : HSP.Inv s) (hs2 : HSP.Inv2 s) (hfresh : HSP.Fresh s)
    (hok : ∀ f ∈ fields, f.ok (FLFlags.ofLevel lvl)) (hend : HSP.FEol (FLFlags.ofLevel lvl) endEol)
    (hbuf : HSP.BufIs (s.buf ++ Scanner.flatten chunks) s.rb (HSP.renderFieldsR fields ++ endEol)) :
    let sc := hsScanner (FLFlags.ofLevel lvl) fieldStart
    ∃ h : Headers, sc.feedAll (sc.run s) chunks = .done (.ok h) ∧ HSP.Below h s.version ∧
      (∃ els, h.elems = s.elems ++ els ∧
        els.map (HSP.elemView h.buf) = fields.map (fun f => (Mhd.Gen.Http.kindHeader, f.name, some f.semValue))) ∧
      h.headerSize = s.rb + (HSP.renderFieldsR fields).length + endEol.length - s.method := by
  intro sc
  obtain ⟨h, h1, h2, h3, h4, _⟩ := HSP.fields_roundtrip_nc (FLFlags.ofLevel lvl) fieldStart fields endEol hend
    (hsExtend s (Scanner.flatten chunks)) ⟨hs.ext _, hs2.ext _⟩ ⟨hfresh.p, hfresh.f1, hfresh.f2, hfresh.f3, hfresh.f4⟩ hok hbuf
  exact ⟨h, by rw [Scanner.feedAll_flatten (HSP.hsLaws _ fieldStart) chunks s hs]; exact h1, h2, h3,
    h4.trans (by rw [Nat.add_assoc]; rfl)⟩

/-- **Field lines: the application sees exactly the fields the client sent.**  For every
    level, any list of well-formed fields (`HSP.FieldWF`: non-empty name of token-like
    characters, value without CR / LF / NUL and without leading or trailing whitespace —
    interior whitespace, any other byte incl. ≥ 0x80 allowed), rendered canonically as
    `name ": " value CRLF … CRLF` at the read position of any state satisfying the
    invariants, arriving in **any segmentation**: header parsing finishes, the element list
    grows by exactly one element per field — in order, with multiplicity, nothing added,
    dropped, merged or truncated — whose name and value read back from the final buffer
    are the bytes sent; `header_size` counts exactly the bytes of the head; the unconsumed
    bytes (body / next request) follow at `read_buffer`. -/
theorem fields_roundtrip_partial (lvl : Int) (fieldStart : Nat) (fields : List HSP.Field) (s : HS) (chunks : List Bytes)
    (hs : HSP.Inv s) (hs2 : HSP.Inv2 s) (hfresh : HSP.Fresh s) (hwf : ∀ f ∈ fields, HSP.FieldWF f)
    (hbuf : HSP.BufIs (s.buf ++ Scanner.flatten chunks) s.rb (HSP.renderFields fields ++ [cCR, cLF])) :
    let sc := hsScanner (FLFlags.ofLevel lvl) fieldStart
    ∃ h : Headers, sc.feedAll (sc.run s) chunks = .done (.ok h) ∧ HSP.Below h s.version ∧
      (∃ els, h.elems = s.elems ++ els ∧
        els.map (HSP.elemView h.buf) = fields.map (fun f => (Mhd.Gen.Http.kindHeader, f.1, some f.2))) ∧
      h.headerSize = s.rb + (HSP.renderFields fields).length + 2 - s.method := by
  have hx := fields_roundtrip_nc_partial lvl fieldStart (fields.map HSP.Field.toR) [cCR, cLF] s chunks hs hs2 hfresh
    (fun f hf' => by obtain ⟨g, hg', rfl⟩ := List.mem_map.mp hf'; exact HSP.Field.toR_ok _ (hwf g hg'))
    (.inl rfl) (by rw [HSP.renderFieldsR_toR]; exact hbuf)
  rw [HSP.renderFieldsR_toR, List.map_map] at hx
  rw [List.map_congr_left (g := fun f : HSP.Field => (Mhd.Gen.Http.kindHeader, f.1, some f.2))
    (fun f hf' => by show (Mhd.Gen.Http.kindHeader, f.1, some f.toR.semValue) = _; rw [HSP.Field.toR_semValue (hwf f hf')])] at hx
  exact hx

/-! Request target and arguments: `process_request_target`, `MHD_parse_arguments_`,
  `MHD_unescape_plus`, the strict / lenient in-place percent decoders.
  The reference decoding of a raw request target `t` (a byte string) is
  * path  = the bytes before the first '?' (all of `t` if there is none), percent-decoded;
  * query = the bytes after the first '?', split at every '&' (a trailing '&' adds nothing,
    an empty segment is an argument with empty name and no value); each segment split at
    its first '=' into name and value (no '=': the argument has **no value**); name and value
    '+' → space first, then percent-decoded.
  Percent-decoding is `TGT.decS` (strict: `%` must be followed by two hex digits, otherwise the
  string is truncated to the empty string, as `MHD_str_pct_decode_in_place_strict_` documents)
  at levels ≥ 0 and `TGT.decL` (lenient: a `%` that does not start a valid escape stands for
  itself) below; the theorems hold for either decoder with any flag (`strict : Bool`). -/

/-- reference: the decoded path of a raw request target -/
abbrev refPath (strict : Bool) (t : List UInt8) : List UInt8 := TGT.decView strict (TGT.pathOf t)

/-- reference: the (name, value-or-none) list of a raw request target -/
abbrev refArgs (strict : Bool) (t : List UInt8) : List (List UInt8 × Option (List UInt8)) :=
  TGT.specArgs (TGT.argView strict) (TGT.queryOf t)

/-- **`MHD_parse_arguments_` never faults** and never writes outside the string: for every
    buffer with a NUL at some index `hi ≥ args` — nothing else is assumed about the bytes
    (stray or truncated escapes, any number of '&' / '=') — every decoder, every element list
    so far.  The buffer keeps its size, bytes outside `[args, hi]` are unchanged, the new
    elements have the requested kind and their strings lie inside `[args, hi)`. -/
theorem args_no_fault (strict : Bool) (kind : Nat) (buf : Bytes) (args hi : Nat) (acc : List Elem) (fuel : Nat)
    (h1 : args ≤ hi) (h2 : hi < buf.size) (h0 : buf[hi]? = some 0) (hf : hi - args < fuel) :
    ∃ buf' els, parseArgs strict kind fuel buf args acc = .ok (buf', acc ++ els) ∧ buf'.size = buf.size ∧
      (∀ j, j < args ∨ hi < j → buf'[j]? = buf[j]?) ∧ ∀ el ∈ els, HSP.ElemIn el args hi ∧ el.kind = kind := by
  obtain ⟨b', els, e, sm, h⟩ := TGT.parseArgs_nul strict kind buf acc h1 h2 h0 fuel hf
  exact ⟨b', els, e, sm.size, sm.out, h⟩

/-- **`process_request_target` never faults** and never writes outside the target: for every
    request-line record whose target `[tgt, tgt + tgtLen)` is followed by a NUL inside the
    buffer and whose recorded '?' position (if any) lies inside the target.  Nothing is
    assumed about the bytes of the target (interior NUL, stray '%', …).  All strings handed
    to the application (decoded URL, argument names and values) lie inside the target, hence
    below the version string. -/
theorem target_no_fault (strict : Bool) (r : ReqLine) (hlen : r.tgt + r.tgtLen < r.buf.size)
    (hnul : r.buf[r.tgt + r.tgtLen]? = some 0)
    (hq : ∀ q, r.qmark = some q → r.tgt ≤ q ∧ q < r.tgt + r.tgtLen) :
    ∃ T, processRequestTarget strict r = .ok T ∧ T.buf.size = r.buf.size ∧
      (∀ j, j < r.tgt ∨ r.tgt + r.tgtLen < j → T.buf[j]? = r.buf[j]?) ∧ T.url = r.tgt ∧ T.urlLen ≤ r.tgtLen ∧
      (∀ el ∈ T.elems, HSP.ElemIn el r.tgt (r.tgt + r.tgtLen) ∧ el.kind = Mhd.Gen.Http.kindGetArgument) ∧
      T.rb = r.rb ∧ T.method = r.method ∧ T.version = r.version :=
  TGT.processRequestTarget_no_fault strict r hlen hnul hq

/-- **Exact decoding of every request target.**  For every request-line record whose target
    is the C string `t` (no interior NUL — the line parser refuses NUL — with the first '?'
    recorded, `TGT.TargetWF`): the URI logger is shown `t` itself, the URL handed to the
    application is the reference path, and the argument elements are the reference argument
    list — in order, with multiplicity, name-only arguments with `value = NULL`. -/
theorem target_decoding_exact (strict : Bool) (r : ReqLine) (t : List UInt8) (h : TGT.TargetWF r t) :
    ∃ T, processRequestTarget strict r = .ok T ∧ T.rawTarget = t ∧
      sliceBytes T.buf ⟨0, T.url, T.urlLen⟩ = refPath strict t ∧
      T.elems.map (HSP.elemView T.buf) = (refArgs strict t).map (fun kv => (Mhd.Gen.Http.kindGetArgument, kv.1, kv.2)) := by
  obtain ⟨b2, els, e, ok, hv, _⟩ := TGT.processRequestTarget_ok strict r t h
  exact ⟨_, e, rfl, ok.view, hv⟩

/-- **decode (render x) = x.**  `TGT.TargetR` is a rendering of a semantic (path, argument
    list): per byte the choice literal / `%HL` with either hex-digit case / '+' for a space in
    arguments, and the choice of a trailing '&'.  `TGT.TargetR.ok` (a decidable `Bool`) is the
    encoder's side condition: literals are request-line characters other than the delimiters
    of their position ('%', and '?' in the path; '%' '+' '&' '=' in names; '%' '+' '&' in values),
    non-empty path, trailing '&' present after an empty last argument and absent without
    arguments.  For every admissible rendering the reference decoding — hence by
    `target_decoding_exact` the code — gives back exactly the path and the arguments. -/
theorem target_render_decode (strict : Bool) (R : TGT.TargetR) (h : R.ok = true) :
    refPath strict R.render = R.semPath ∧ refArgs strict R.render = R.semArgs :=
  TGT.target_decode_render strict R h

/-- **Every semantic request target has an admissible rendering**: the round trips
    (`target_render_decode`, `reqline_target_roundtrip_partial`) quantify over renderings; this
    says they reach every non-empty path and every argument list of arbitrary bytes (NUL, '&',
    '=', '%', ≥ 0x80 … included; name-only and empty-named arguments included). -/
theorem every_target_has_rendering (path : List UInt8) (hp : path ≠ []) (args : List (List UInt8 × Option (List UInt8))) :
    ∃ R : TGT.TargetR, R.ok = true ∧ R.semPath = path ∧ R.semArgs = args := by
  open TGT in
  -- escape everything
  refine ⟨⟨path.map escAll, some (args.map encArg, needTr args)⟩, ?_, semToks_escAll path, ?_⟩
  · unfold TargetR.ok
    have h1 : (path.map escAll).isEmpty = false := by cases path with
      | nil => exact absurd rfl hp
      | cons _ _ => rfl
    have h2 : (args.map encArg).all ArgR.ok = true := by
      rw [List.all_eq_true]
      intro r hr
      simp only [List.mem_map] at hr
      obtain ⟨a, _, rfl⟩ := hr
      exact encArg_ok a
    have h3 := segsTrailOK_enc args
    simp only [h1, all_escAll Tok.okPath (fun _ => rfl), h2, List.map_map, Bool.not_false, Bool.true_and, Bool.and_true]
    exact h3
  · unfold TargetR.semArgs
    simp only [List.map_map]
    conv => rhs; rw [← List.map_id args]
    apply List.map_congr_left
    intro a _; exact encArg_sem a

/-- **Round trip of the request line including target decoding** — level ≥ 0, **every rendering
    of the request line the level admits**, **any segmentation**, **any admissible rendering `R`
    of the target**:
    `els` empty lines first (each `CR LF` or, where admitted, a bare `LF`; their number within the
    level's limit: `RLP.SkipOK`), separators `w1`, `w2` any byte the level treats as whitespace
    (SP; HT at level 0), the line end `CR LF` or (level 0) a bare `LF` (`RLP.LineEnd`).
    `get_request_line` succeeds; the application is given the method, the path `R.semPath`, the
    arguments `R.semArgs` (in order, with multiplicity, name-only arguments without value) and
    the version; the URI logger sees the target as sent; exactly the bytes up to the line end are
    consumed.  Holds for both decoders (`strict` arbitrary, in particular
    `Mhd.Gen.Discipline.unesc_strict lvl`) and any pool size.
    Missing for the full statement: levels < 0 (merged whitespace blocks, whitespace kept in
    the URI, bare CR) — by correspondence only. -/
theorem reqline_target_roundtrip_partial (lvl : Int) (hl : 0 ≤ lvl) (strict : Bool) (pool : Nat) (buf : Bytes) (rb : Nat)
    (chunks : List Bytes) (els : List (List UInt8)) (m v eol : List UInt8) (w1 w2 : UInt8) (R : TGT.TargetR) (hv : Int)
    (hrb : rb ≤ buf.size) (hels : ∀ e ∈ els, RLP.LineEnd (RLFlags.ofLevel lvl) e)
    (hk : RLP.SkipOK (RLFlags.ofLevel lvl) els.length)
    (hw1 : rlIsWsp (RLFlags.ofLevel lvl) w1 = true) (hw2 : rlIsWsp (RLFlags.ofLevel lvl) w2 = true)
    (heol : RLP.LineEnd (RLFlags.ofLevel lvl) eol) (hm0 : m ≠ [])
    (hm : ∀ c ∈ m, TokenChar c ∧ c ≠ 63) (hR : R.ok = true) (hvl : v.length = 8)
    (hvc : ∀ c ∈ v, TokenChar c ∧ c ≠ 63) (hpv : parseHttpVersion v = .ok hv)
    (hbuf : RLP.BufIs (buf ++ Scanner.flatten chunks) rb
      (els.flatten ++ (m ++ [w1] ++ R.render ++ ([w2] ++ v ++ eol)))) :
    let sc := rlScanner (RLFlags.ofLevel lvl)
    ∃ T, getRequestLineOuter (RLFlags.ofLevel lvl) strict pool (sc.feedAll (sc.run (RL.init buf rb)) chunks) = .ok T ∧
      T.rawTarget = R.render ∧
      sliceBytes T.buf ⟨0, T.url, T.urlLen⟩ = R.semPath ∧
      T.elems.map (HSP.elemView T.buf) = R.semArgs.map (fun kv => (Mhd.Gen.Http.kindGetArgument, kv.1, kv.2)) ∧
      RLP.BufIs T.buf T.method (m ++ [0]) ∧ T.methodLen = m.length ∧ T.mthd = stdMethodOf m ∧
      RLP.BufIs T.buf T.version (v ++ [0]) ∧ T.httpVer = hv ∧
      T.rb = rb + els.flatten.length + m.length + R.render.length + 10 + eol.length := by
  intro sc
  have hB : (RLFlags.ofLevel lvl).wspBlocks = false := by
    simp only [RLFlags.ofLevel, Mhd.Gen.Discipline.rl_wsp_blocks, decide_eq_false_iff_not]; omega
  have hrb' : rb ≤ (buf ++ Scanner.flatten chunks).size := by rw [Array.size_append]; omega
  rw [reqline_split_independent lvl buf rb hrb chunks]
  exact TGT.reqline_target_roundtrip_nc (RLFlags.ofLevel lvl) hB strict pool _ rb els m v eol w1 w2 R hv hrb' hels hk
    hw1 hw2 heol hm0 hm hR hvl hvc hpv hbuf

/-- **Round trip of the request line including target decoding at every level** (−3 … 3 and
    beyond), any segmentation, any admissible rendering `R` of the target: `els` empty lines
    (each CRLF or, where admitted, bare LF; number within the level's limit), the separators
    `ws1`, `ws2` non-empty blocks of bytes the level treats as whitespace (SP; HT at levels ≤ 0;
    VT, FF at levels ≤ −1) — of length one at levels ≥ 0, where blocks are not merged —, line end
    CRLF or (levels ≤ 0) bare LF.  `get_request_line` succeeds and the application is given the
    method, the path, the arguments (in order, with multiplicity, name-only arguments without
    value) and the version; the URI logger sees the target as sent; exactly the line is consumed.
    Missing for the full statement (correspondence only): at levels < 0 the renderings
    with whitespace *inside* the target (kept at levels ≤ −2) and with a bare CR in the line
    (treated as a space at −1, −2, kept at −3). -/
theorem reqline_target_roundtrip_all_levels_partial (lvl : Int) (strict : Bool) (pool : Nat) (buf : Bytes) (rb : Nat)
    (chunks : List Bytes) (els : List (List UInt8)) (m v eol ws1 ws2 : List UInt8) (R : TGT.TargetR) (hv : Int)
    (hrb : rb ≤ buf.size) (hels : ∀ e ∈ els, RLP.LineEnd (RLFlags.ofLevel lvl) e)
    (hk : RLP.SkipOK (RLFlags.ofLevel lvl) els.length)
    (hws1 : ws1 ≠ [] ∧ ∀ w ∈ ws1, rlIsWsp (RLFlags.ofLevel lvl) w = true)
    (hws2 : ws2 ≠ [] ∧ ∀ w ∈ ws2, rlIsWsp (RLFlags.ofLevel lvl) w = true)
    (hsingle : 0 ≤ lvl → ws1.length = 1 ∧ ws2.length = 1)
    (heol : RLP.LineEnd (RLFlags.ofLevel lvl) eol) (hm0 : m ≠ [])
    (hm : ∀ c ∈ m, TokenChar c ∧ c ≠ 63) (hR : R.ok = true) (hvl : v.length = 8)
    (hvc : ∀ c ∈ v, TokenChar c ∧ c ≠ 63) (hpv : parseHttpVersion v = .ok hv)
    (hbuf : RLP.BufIs (buf ++ Scanner.flatten chunks) rb
      (els.flatten ++ (m ++ ws1 ++ R.render ++ (ws2 ++ v ++ eol)))) :
    let sc := rlScanner (RLFlags.ofLevel lvl)
    ∃ T, getRequestLineOuter (RLFlags.ofLevel lvl) strict pool (sc.feedAll (sc.run (RL.init buf rb)) chunks) = .ok T ∧
      T.rawTarget = R.render ∧
      sliceBytes T.buf ⟨0, T.url, T.urlLen⟩ = R.semPath ∧
      T.elems.map (HSP.elemView T.buf) = R.semArgs.map (fun kv => (Mhd.Gen.Http.kindGetArgument, kv.1, kv.2)) ∧
      RLP.BufIs T.buf T.method (m ++ [0]) ∧ T.methodLen = m.length ∧ T.mthd = stdMethodOf m ∧
      RLP.BufIs T.buf T.version (v ++ [0]) ∧ T.httpVer = hv ∧
      T.rb = rb + els.flatten.length + m.length + ws1.length + R.render.length + ws2.length + 8 + eol.length := by
  intro sc
  rw [reqline_split_independent lvl buf rb hrb chunks]
  exact TGT.reqline_target_blk (RLFlags.ofLevel lvl) strict pool _ rb els m v eol ws1 ws2 R hv
    (by rw [Array.size_append]; omega) hels hk hws1 hws2
    (fun hB => hsingle (by
      simp only [RLFlags.ofLevel, Mhd.Gen.Discipline.rl_wsp_blocks, decide_eq_false_iff_not] at hB; omega))
    heol hm0 hm hR hvl hvc hpv hbuf

/-- the raw request line (no target decoding) in **every rendering admitted at level ≥ 0**
    (see `reqline_target_roundtrip_partial` for the renderings): the three strings read back
    NUL-terminated as sent, the first '?' is recorded, `skipped` counts the empty lines. -/
theorem reqline_roundtrip_nc_partial (lvl : Int) (hl : 0 ≤ lvl) (buf : Bytes) (rb : Nat) (chunks : List Bytes)
    (els : List (List UInt8)) (m t v eol : List UInt8) (w1 w2 : UInt8) (hv : Int) (hrb : rb ≤ buf.size)
    (hels : ∀ e ∈ els, RLP.LineEnd (RLFlags.ofLevel lvl) e) (hk : RLP.SkipOK (RLFlags.ofLevel lvl) els.length)
    (hw1 : rlIsWsp (RLFlags.ofLevel lvl) w1 = true) (hw2 : rlIsWsp (RLFlags.ofLevel lvl) w2 = true)
    (heol : RLP.LineEnd (RLFlags.ofLevel lvl) eol) (hm0 : m ≠ []) (ht0 : t ≠ [])
    (hm : ∀ c ∈ m, TokenChar c ∧ c ≠ 63) (ht : ∀ c ∈ t, TokenChar c) (hvl : v.length = 8)
    (hvc : ∀ c ∈ v, TokenChar c ∧ c ≠ 63) (hpv : parseHttpVersion v = .ok hv)
    (hbuf : RLP.BufIs (buf ++ Scanner.flatten chunks) rb (els.flatten ++ (m ++ [w1] ++ t ++ ([w2] ++ v ++ eol)))) :
    let sc := rlScanner (RLFlags.ofLevel lvl)
    ∃ r, sc.feedAll (sc.run (RL.init buf rb)) chunks = .done (.ok r) ∧
      RLP.LineNC r (buf ++ Scanner.flatten chunks) (rb + els.flatten.length) m t v hv els.length eol.length := by
  intro sc
  have hB : (RLFlags.ofLevel lvl).wspBlocks = false := by
    simp only [RLFlags.ofLevel, Mhd.Gen.Discipline.rl_wsp_blocks, decide_eq_false_iff_not]; omega
  have hrb' : rb ≤ (buf ++ Scanner.flatten chunks).size := by rw [Array.size_append]; omega
  rw [reqline_split_independent lvl buf rb hrb chunks]
  exact RLP.reqline_roundtrip_nc (RLFlags.ofLevel lvl) hB _ rb els m t v eol w1 w2 hv hrb' hels hk hw1 hw2 heol hm0 ht0
    hm ht hvl hvc hpv hbuf

/-- **Every successfully parsed request line is well-shaped** — every combination of flags
    (hence every level), every buffer, every segmentation, every input: the target
    `[tgt, tgt + tgtLen)` lies between the method and the version string, is followed by a NUL,
    the recorded '?' lies inside the target, the version string with its NUL ends before
    `read_buffer`, which is inside the buffer. -/
theorem reqline_post (F : RLFlags) (buf : Bytes) (rb : Nat) (h : rb ≤ buf.size) (chunks : List Bytes) (r : ReqLine)
    (hr : (rlScanner F).feedAll ((rlScanner F).run (RL.init buf rb)) chunks = .done (.ok r)) : RLPost r := by
  rw [Scanner.feedAll_flatten (rlLaws F) chunks _ (RLInv.init buf rb h)] at hr
  exact (rl_run_done F ((RLInvX.init F buf rb h).ext _) hr).1

/-- **`get_request_line` never faults** (inner scanner, whitespace check and
    `process_request_target` with `MHD_parse_arguments_` and the decoders together): every
    combination of flags, either decoder, every pool size, every buffer, every segmentation,
    every input. -/
theorem get_request_line_no_fault (F : RLFlags) (strict : Bool) (pool : Nat) (buf : Bytes) (rb : Nat) (h : rb ≤ buf.size)
    (chunks : List Bytes) (f : Fault) :
    getRequestLineOuter F strict pool ((rlScanner F).feedAll ((rlScanner F).run (RL.init buf rb)) chunks) ≠ .fault f := by
  cases hr : (rlScanner F).feedAll ((rlScanner F).run (RL.init buf rb)) chunks with
  | more s => simp only [getRequestLineOuter]; split <;> (intro h'; cases h')
  | fault f' => exact absurd hr (reqline_no_fault_flags F _ (RLInv.init buf rb h) chunks f')
  | done d =>
    cases d with
    | err e => intro h'; cases h'
    | ok r =>
      have post := reqline_post F buf rb h chunks r hr
      have hv : Mhd.Gen.Discipline.httpVerLen = 8 := rfl
      obtain ⟨T, hT, _⟩ := TGT.processRequestTarget_no_fault strict r
        (by have := post.htl; have := post.hv; have := post.hrb; omega) post.hnul post.hq
      simp only [getRequestLineOuter, hT]
      cases lineWspCheck F pool r <;> (intro h'; cases h')

/-- **`process_request_target` does not depend on what has been received behind the request
    line**: success on `r.buf` gives the identical record on `r.buf ++ e` (same URL, same
    argument slices, same raw target), the result buffer being the old one followed by `e`
    untouched — although the loop fuel of the model is a function of the buffer size. -/
theorem target_buffer_extension (strict : Bool) (r : ReqLine) (e : Bytes) (T : Target)
    (h : processRequestTarget strict r = .ok T) :
    processRequestTarget strict { r with buf := r.buf ++ e } = .ok { T with buf := T.buf ++ e } :=
  TGT.processRequestTarget_buffer_extension strict r e T h

/-- **`parse_cookies_string` never faults**: every flag combination, every byte array with the
    end position `n` inside it (nothing assumed about the bytes — quotes, separators,
    whitespace anywhere, not even the terminating NUL), every start index; the loop terminates
    within the fuel `parse_cookie_header` gives it, the in-place NUL writes stay inside. -/
theorem cookie_string_no_fault (F : CKFlags) (n fuel : Nat) (str : Bytes) (i : Nat) (ns : Bool) (acc : List Elem)
    (hn : n < str.size) (hf : n - i + 1 ≤ fuel) :
    ∃ out, parseCookiesString F n fuel str i ns acc = .ok out ∧ out.str.size = str.size :=
  CK.parseCookiesString_no_fault F n fuel str i ns acc hn hf

/-- **`parse_cookie_header` never faults**: every level (every flag combination), every
    buffer, every element list whose value strings lie inside the buffer (true for every
    list the field-line parser produces) — whatever the `Cookie` field contains. -/
theorem cookie_no_fault (F : CKFlags) (buf : Bytes) (elems : List Elem)
    (h : ∀ e ∈ elems, ∀ v, e.value = some v → v.off + v.len ≤ buf.size) :
    ∃ c, parseCookieHeader F buf elems = .ok c :=
  CK.parseCookieHeader_ok_of_inBounds F buf elems h

/-- **Cookies: the application sees exactly the cookies sent** — every level (every flag
    combination), the canonical rendering `n1=v1; n2=v2; …` with each value optionally in
    double quotes (`CK.render`; names non-empty without `= SP HT " , ; NUL`, values without
    `; " , \ SP HT NUL`: `CK.CookieSpec.Valid`): `parse_cookies_string` returns the strict
    result `ok` and exactly one element per cookie, in order, with multiplicity, kind cookie,
    whose name and value read back NUL-terminated from the pool copy (an empty value is the
    static empty string) — `CK.CookiesAre`.
    Missing for the full statement (correspondence only): the non-canonical renderings admitted
    at levels ≤ 0 (no space or a tab after ';', empty cookies `;;`, whitespace around '=' and
    inside quoted values, leading/trailing whitespace), which give `okLax`, and the exact
    characterisation of the refused strings. -/
theorem cookies_roundtrip_partial (F : CKFlags) (cs : List CK.CookieSpec) (hval : ∀ c ∈ cs, c.Valid)
    (fuel : Nat) (hf : (CK.render cs).length + 1 ≤ fuel) :
    ∃ out, parseCookiesString F (CK.render cs).length fuel (CK.render cs ++ [0]).toArray 0 false [] = .ok out ∧
      out.res = .ok ∧ out.str.size = (CK.render cs).length + 1 ∧ CK.CookiesAre out.str out.elems cs :=
  CK.cookies_roundtrip F cs hval fuel hf

/-- the same through `parse_cookie_header`: the first `Cookie` field of the element list
    holds the rendering; the cookie elements are appended to the list, result `ok` -/
theorem cookie_header_roundtrip_partial (F : CKFlags) (buf : Bytes) (elems : List Elem) (e : Elem) (v : Slice)
    (cs : List CK.CookieSpec) (hval : ∀ c ∈ cs, c.Valid)
    (hl : lookupElem buf elems Mhd.Gen.Http.kindHeader Mhd.Gen.Http.hdrCookieBytes = some e) (hv : e.value = some v)
    (hr : rdRange buf v.off v.len = some (CK.render cs)) :
    ∃ cpy els, parseCookieHeader F buf elems = .ok ⟨.ok, cpy, elems ++ els⟩ ∧ CK.CookiesAre cpy els cs :=
  CK.cookieHeader_roundtrip F buf elems e v cs hval hl hv hr

/-- **The look-up returns the first element whose name is the key — exactly, never a prefix.**
    `lookupElem` (= `MHD_lookup_connection_value_n` for a non-NULL key) answers `e` iff `e` is
    of one of the requested kinds, its name has the **same length** as the key and equals it
    ignoring ASCII case (`NameMatches`), and no earlier element of the list does; it answers
    "not found" iff no element matches.  (An element whose name merely starts with the key, or
    of which the key is an extension, is never returned.) -/
theorem lookup_exact (buf : Bytes) (elems : List Elem) (kind : Nat) (key : List UInt8) :
    (∀ e, lookupElem buf elems kind key = some e ↔
      NameMatches buf kind key e ∧ ∃ pre post, elems = pre ++ e :: post ∧ ∀ x ∈ pre, ¬ NameMatches buf kind key x) ∧
    (lookupElem buf elems kind key = none ↔ ∀ x ∈ elems, ¬ NameMatches buf kind key x) :=
  ⟨lookupElem_some buf elems kind key, lookupElem_none buf elems kind key⟩

/-- cookies come from a field named exactly `Cookie` only: without such a field (e.g. only
    `Cookie2: …`) `parse_cookie_header` adds nothing -/
theorem cookies_only_from_cookie_field (F : CKFlags) (buf : Bytes) (elems : List Elem)
    (h : ∀ x ∈ elems, ¬ NameMatches buf Mhd.Gen.Http.kindHeader Mhd.Gen.Http.hdrCookieBytes x) :
    parseCookieHeader F buf elems = .ok ⟨.ok, #[], elems⟩ := by
  unfold parseCookieHeader
  rw [(lookupElem_none buf elems _ _).mpr h]
  rfl

/-! Non-vacuity: the hypotheses are satisfiable by concrete, non-trivial values
   (byte arrays written out: `decide` evaluates the model in the kernel). -/

/-- a request line arriving in three pieces at level 0 ("GET /a?", "x=1 HT", "TP/1.1\r\nHost: h\r\n"):
    parsed with method at 0, target at 4 (6 bytes, '?' at 6), version at 11, line consumed up to 21.
    (`decide +kernel`: the model is evaluated by the kernel — a test of the example, not a proof step
    of any theorem) -/
example :
    (match (rlScanner (RLFlags.ofLevel 0)).feedAll ((rlScanner (RLFlags.ofLevel 0)).run (RL.init #[] 0))
        [#[71, 69, 84, 32, 47, 97, 63], #[120, 61, 49, 32, 72, 84], #[84, 80, 47, 49, 46, 49, 13, 10, 72, 111, 115, 116, 58, 32, 104, 13, 10]] with
     | .done (.ok r) => some (r.method, r.tgt, r.tgtLen, r.qmark, r.version, r.rb)
     | _ => none) = some (0, 4, 6, some 6, 11, 21) := by decide +kernel

/-- the state after the request line `GET /?a HTTP/1.0`: it satisfies both invariants; the
    read buffer is small (30 < 1500), so the header tail is re-used when the header ends -/
def exHS : HS :=
  { buf := #[71, 69, 84, 0, 47, 0, 97, 0, 72, 84, 84, 80, 47, 49, 46, 48, 0, 10], rb := 18, rbSize := 30,
    elems := [⟨8, ⟨0, 6, 1⟩, none⟩], method := 0, version := 8 }

example : HSP.Inv exHS :=
  field_inv_start _ 18 30 0 8 _ (by decide) (by decide) (by intro el hm; simp at hm; subst hm; decide)

example : HSP.Inv2 exHS :=
  field_inv2_start _ 18 30 0 8 _ (by intro el hm; simp at hm; subst hm; decide)
    (by intro el hm sl hsl _; simp at hm; subst hm; simp [HSP.Elem.slices] at hsl; subst hsl; decide)

/-- the header section "A: b\r\n\r\nXY" arriving as "A: ", "b\r", "\n\r\nXY": one element is appended,
    `read_buffer` ends at 23 (moved back by 3), `header_size` = 26 -/
example :
    (match (hsScanner (FLFlags.ofLevel 0) 18).feedAll ((hsScanner (FLFlags.ofLevel 0) 18).run exHS)
        [#[65, 58, 32], #[98, 13], #[10, 13, 10, 88, 89]] with
     | .done (.ok h) => (h.rb, h.shifted, h.headerSize) == (23, 3, 26) &&
                        (h.elems.map (HSP.elemView h.buf)).drop 1 == [(1, [65], some [98])]
     | _ => false) = true := by decide +kernel

/-- a well-formed field with interior whitespace: `Ab: x y` -/
example : HSP.FieldWF ([65, 98], [120, 32, 121]) := by
  refine ⟨by decide, ?_, ?_, ?_, ?_⟩
  · intro c hc; simp at hc; rcases hc with rfl | rfl <;> (unfold HSP.plain; decide)
  · intro c hc; simp at hc; rcases hc with rfl | rfl | rfl <;> first | (left; unfold HSP.plain; decide) | (right; left; decide)
  · intro c hc; simp at hc; subst hc; unfold HSP.plain; decide
  · intro hne; simp [cSP, cHT]

/-- the hypotheses of `reqline_roundtrip_partial` for `GET /a?x HTTP/1.1` -/
example : parseHttpVersion [72, 84, 84, 80, 47, 49, 46, 49] = .ok Mhd.Gen.Http.ver11 := by rfl

example : (∀ c ∈ [71, 69, 84], TokenChar c ∧ c ≠ 63) ∧ (∀ c ∈ [47, 97, 63, 120], TokenChar c) ∧
    RLP.firstQ [47, 97, 63, 120] = some 2 := by
  refine ⟨?_, ?_, by decide⟩
  · intro c hc; simp at hc; rcases hc with rfl | rfl | rfl <;> (unfold TokenChar RLP.rplain; decide)
  · intro c hc; simp at hc; rcases hc with rfl | rfl | rfl | rfl <;> (unfold TokenChar RLP.rplain; decide)

/-- an admissible rendering with every kind of choice: path `/a%20+%C3`, arguments
    `x=1+%2b=`, `%79` (no value), `=` (empty name, empty value), `` (empty name, no value; needs
    the trailing '&'):  "/a%20+%C3?x=1+%2b=&%79&=&&" -/
def exR : TGT.TargetR :=
  { path := [.lit 47, .lit 97, .esc 2 0 false true, .lit 43, .esc 12 3 true false],
    query := some ([⟨[.lit 120], some [.lit 49, .plus, .esc 2 11 false false, .lit 61]⟩, ⟨[.esc 7 9 true true], none⟩,
                    ⟨[], some []⟩, ⟨[], none⟩], true) }

example : exR.ok = true ∧
    exR.render = [47, 97, 37, 50, 48, 43, 37, 67, 51, 63, 120, 61, 49, 43, 37, 50, 98, 61, 38, 37, 55, 57, 38, 61, 38, 38] ∧
    exR.semPath = [47, 97, 32, 43, 195] ∧
    exR.semArgs = [([120], some [49, 32, 43, 61]), ([121], none), ([], some []), ([], none)] := by decide

/-- the whole way on concrete bytes: "GET /a%20+%C3?x=1+%2b=&%79&=&& HTTP/1.1\r\n" in two pieces at
    level 1 (strict decoder) and level 0 (lenient decoder): decoded URL and arguments as `exR` says
    (`decide +kernel` evaluates the model: a test of the example, not a proof step) -/
example : ∀ lvl ∈ [(0 : Int), 1],
    (match getRequestLineOuter (RLFlags.ofLevel lvl) (Mhd.Gen.Discipline.unesc_strict lvl) 1500
        ((rlScanner (RLFlags.ofLevel lvl)).feedAll ((rlScanner (RLFlags.ofLevel lvl)).run (RL.init #[] 0))
          [#[71, 69, 84, 32, 47, 97, 37, 50, 48, 43, 37, 67, 51, 63, 120, 61, 49, 43, 37],
           #[50, 98, 61, 38, 37, 55, 57, 38, 61, 38, 38, 32, 72, 84, 84, 80, 47, 49, 46, 49, 13, 10]]) with
     | .ok T => (sliceBytes T.buf ⟨0, T.url, T.urlLen⟩, T.elems.map (HSP.elemView T.buf)) ==
         (exR.semPath, exR.semArgs.map (fun kv => (Mhd.Gen.Http.kindGetArgument, kv.1, kv.2)))
     | _ => false) = true := by decide +kernel

/-- a target the hypotheses of `target_no_fault` allow although it is no proper rendering
    (interior NUL, truncated escape, '?' recorded at the second '?'): no fault, the URL is
    cut at the NUL -/
def exOdd : ReqLine :=
  { buf := #[71, 0, 47, 0, 63, 37, 63, 37, 52, 0, 72, 0], rb := 12, method := 0, methodLen := 1, mthd := 1, tgt := 2,
    tgtLen := 7, qmark := some 6, version := 10, httpVer := 1, numWs := 0, crSp := 0, skipped := 0 }

example :
    (match processRequestTarget true exOdd with
     | .ok T => some (T.urlLen, T.elems.length)
     | .error _ => none) = some (1, 1) := by decide +kernel

/-- the rendering side conditions of `reqline_target_roundtrip_partial` at level 0: one empty line
    ended by a bare LF, HT as separator, bare LF as line end are admitted (and 1024 empty lines
    are, 1025 are not); at level 1 only one CRLF empty line, SP, CRLF -/
example : RLP.LineEnd (RLFlags.ofLevel 0) [cLF] ∧ RLP.SkipOK (RLFlags.ofLevel 0) 1024 ∧ ¬ RLP.SkipOK (RLFlags.ofLevel 0) 1025 ∧
    rlIsWsp (RLFlags.ofLevel 0) cHT = true ∧ RLP.SkipOK (RLFlags.ofLevel 1) 1 ∧ ¬ RLP.SkipOK (RLFlags.ofLevel 1) 2 ∧
    rlIsWsp (RLFlags.ofLevel 1) cHT = false ∧ ¬ RLP.LineEnd (RLFlags.ofLevel 1) [cLF] := by decide

/-- a non-canonical line with an encoded target, evaluated: "\nGET\t/a%20b?x=+1\tHTTP/1.0\n" at level 0 -/
example :
    (match getRequestLineOuter (RLFlags.ofLevel 0) (Mhd.Gen.Discipline.unesc_strict 0) 1500
        ((rlScanner (RLFlags.ofLevel 0)).feedAll ((rlScanner (RLFlags.ofLevel 0)).run (RL.init #[] 0))
          [#[10, 71, 69, 84, 9, 47, 97, 37, 50], #[48, 98, 63, 120, 61, 43, 49, 9, 72, 84, 84, 80, 47, 49, 46, 48, 10]]) with
     | .ok T => (sliceBytes T.buf ⟨0, T.url, T.urlLen⟩, T.elems.map (HSP.elemView T.buf), T.rb) ==
         ([47, 97, 32, 98], [(Mhd.Gen.Http.kindGetArgument, [120], some [32, 49])], 26)
     | _ => false) = true := by decide +kernel

/-- `get_request_line_no_fault` on garbage: NULs, stray '%', lone CR, many '?' (level -3 keeps bare CR) -/
example : ∀ lvl ∈ [(-3 : Int), 0, 3],
    (match getRequestLineOuter (RLFlags.ofLevel lvl) (Mhd.Gen.Discipline.unesc_strict lvl) 1500
        ((rlScanner (RLFlags.ofLevel lvl)).feedAll ((rlScanner (RLFlags.ofLevel lvl)).run (RL.init #[] 0))
          [#[71, 32, 63, 37, 63, 13, 37, 52, 32, 32], #[72, 84, 84, 80, 47, 49, 46, 49, 13, 10]]) with
     | .fault _ => false
     | _ => true) = true := by decide +kernel

/-- the hypothesis of `cookie_no_fault` for a header list with one `Cookie` field whose value
    `a="b c" ;;x` is not a valid cookie string at any level: no fault, result `malformed` at level 1 -/
example :
    (match parseCookieHeader (CKFlags.ofLevel 1)
        #[67, 111, 111, 107, 105, 101, 0, 97, 61, 34, 98, 32, 99, 34, 32, 59, 59, 120, 0]
        [⟨Mhd.Gen.Http.kindHeader, ⟨0, 0, 6⟩, some ⟨0, 7, 11⟩⟩] with
     | .ok c => c.res == CKRes.malformed
     | .error _ => false) = true := by decide +kernel

/-- valid cookies: `a=b`, `c=""` (empty quoted value), `de="f g"`‑like values are excluded (space), `de="fg"` -/
example : ∀ c ∈ [CK.CookieSpec.mk [97] [98] false, ⟨[99], [], true⟩, ⟨[100, 101], [102, 103], true⟩], c.Valid := by
  unfold CK.CookieSpec.Valid; decide

example : CK.render [⟨[97], [98], false⟩, ⟨[99], [], true⟩, ⟨[100, 101], [102, 103], true⟩] =
    [97, 61, 98, 59, 32, 99, 61, 34, 34, 59, 32, 100, 101, 61, 34, 102, 103, 34] := by decide

/-- `every_target_has_rendering` on a path and arguments with NUL, '&', '=', '%' bytes -/
example : ∃ R : TGT.TargetR, R.ok = true ∧ R.semPath = [47, 0, 63, 37] ∧ R.semArgs = [([38, 61], some [0]), ([], none)] :=
  every_target_has_rendering _ (by decide) _

/-- the rendering side conditions of `reqline_target_roundtrip_all_levels_partial` at level −3: VT and FF
    are separators, any number of empty lines may precede -/
example : rlIsWsp (RLFlags.ofLevel (-3)) cVT = true ∧ rlIsWsp (RLFlags.ofLevel (-3)) cFF = true ∧
    RLP.SkipOK (RLFlags.ofLevel (-3)) 100000 ∧ RLP.LineEnd (RLFlags.ofLevel (-3)) [cLF] := by decide

/-- evaluated at level −2: "\r\n\nGET \t/a%2Fb?k\x0b HTTP/1.1\n" -/
example :
    (match getRequestLineOuter (RLFlags.ofLevel (-2)) (Mhd.Gen.Discipline.unesc_strict (-2)) 1500
        ((rlScanner (RLFlags.ofLevel (-2))).feedAll ((rlScanner (RLFlags.ofLevel (-2))).run (RL.init #[] 0))
          [#[13, 10, 10, 71, 69, 84, 32, 9, 47, 97, 37, 50, 70, 98, 63, 107, 11, 32, 72, 84, 84, 80, 47], #[49, 46, 49, 10]]) with
     | .ok T => (sliceBytes T.buf ⟨0, T.url, T.urlLen⟩, T.elems.map (HSP.elemView T.buf), T.rb) ==
         ([47, 97, 47, 98], [(Mhd.Gen.Http.kindGetArgument, [107], none)], 27)
     | _ => false) = true := by decide +kernel

/-- look-up on `Accept-Encoding: gz`, `accept: t` (buffer "Accept-Encoding\0gz\0accept\0t\0"): the key `Accept`
    finds the second element (value at 26), the keys `Accep` and `Acceptx` find nothing -/
example :
    let buf : Bytes := #[65, 99, 99, 101, 112, 116, 45, 69, 110, 99, 111, 100, 105, 110, 103, 0, 103, 122, 0, 97, 99, 99, 101, 112, 116, 0, 116, 0]
    let els : List Elem := [⟨1, ⟨0, 0, 15⟩, some ⟨0, 16, 2⟩⟩, ⟨1, ⟨0, 19, 6⟩, some ⟨0, 26, 1⟩⟩]
    (lookupElem buf els 1 [65, 99, 99, 101, 112, 116]).map (·.value) = some (some ⟨0, 26, 1⟩) ∧
    lookupElem buf els 1 [65, 99, 99, 101, 112] = none ∧ lookupElem buf els 1 [65, 99, 99, 101, 112, 116, 120] = none := by
  decide

/-- a field in a non-canonical rendering accepted at level 0: "X-A:\tva\r\n l  \n" (HT after the colon, one obs-fold,
    trailing spaces, bare LF): the application must see "va   l"; the same rendering is refused at level 1; whitespace
    before the colon is accepted at level −3 only -/
example : HSP.exFieldR.ok (FLFlags.ofLevel 0) ∧ ¬ HSP.exFieldR.ok (FLFlags.ofLevel 1) ∧
    HSP.exFieldR.semValue = [118, 97, 32, 32, 32, 108] := by decide

/-- NUL and bare CR inside a value: "A:b\0c\rd\r\n" is accepted at level −1 (both become spaces: the application sees
    "b c d") and, with the CR kept, at level −3 ("b c\rd"); refused at level 0 -/
example : HSP.exFieldCr.ok (FLFlags.ofLevel (-1)) ∧ ¬ HSP.exFieldCr.ok (FLFlags.ofLevel 0) ∧
    HSP.exFieldCr.semValue = [98, 32, 99, 32, 100] ∧ HSP.exFieldCrKeep.ok (FLFlags.ofLevel (-3)) ∧
    HSP.exFieldCrKeep.semValue = [98, 32, 99, 13, 100] := by decide

end Mhd.C02
