/-
  C04 — Every reply is a well-formed, self-consistently framed HTTP message.

  The specification `Mhd.Http.WellFramed` / `Mhd.Http.parseReply` is the strict response grammar of
  `Mhd.Proofs.ReplyGrammar` (nothing of the model is used there).

  Quantification: every theorem holds for EVERY response object reachable by a finite sequence of legal
  API calls (theorem `calls_preserve_inv` gives `Inv` for all of them), every connection state `c`
  (request method, HTTP version, Connection tokens of the request, read-closed / discard flags,
  previous keep-alive state, daemon date option), every status code accepted by `MHD_queue_response`,
  every body source that keeps the content contract (`SrcLegal`), every write-buffer size ≥ 128, every
  date string without CR/LF.  `complete = true` says that the header block fitted into the buffer and
  the body source ended regularly (otherwise the daemon aborts the connection instead of finishing
  the message).
-/
import Mhd.Proofs.ReplyClose
import Mhd.Proofs.ReplyError
import Mhd.Proofs.ReplyIov

namespace Mhd.C04
open Mhd.ReplyStr Mhd.Resp Mhd.Reply
open Mhd.Http (WellFramed parseReply Framing normField NoCRLF announcesClose managedName)
open Mhd.Gen.Reply (sizeUnknown)

/-- Every legal call of the response API (add / delete header, add footer, set options) keeps the
    representation invariant "`flags_auto` says exactly what the header list contains"
    (`Mhd.Resp.Inv`: a single leading Connection header iff HAS_CONNECTION_HDR, close flag ⇒ the value
    starts with the `close` token, exactly one Transfer-Encoding / Date / Content-Length header iff the
    respective flag, never both Transfer-Encoding and Content-Length, every stored name and value free
    of CR/LF, application Content-Length only on HEAD-only responses …) — for every response object
    satisfying it and every call with every argument.  This is the step that `flags_auto = …` (F4),
    the footer-blind delete (F4c) and the Date replacement (F4d) break in the unfixed code. -/
theorem call_preserves_inv (r : Resp) (c : Call) (h : Inv r) (hl : c.Legal) : Inv (applyCall r c).2 :=
  Mhd.Resp.applyCall_inv r c h hl

/-- … hence the invariant holds after EVERY finite sequence of calls, for every way of creating the
    response (any size / unknown size, empty with any flags except the insanity flag, upgrade). -/
theorem calls_preserve_inv (r0 : Resp) (cs : List Call)
    (h0 : (∃ size, r0 = Resp.create size) ∨ (∃ f, f.insanity = false ∧ r0 = Resp.createEmpty f) ∨ r0 = Resp.createUpgrade)
    (hl : ∀ c ∈ cs, c.Legal) : Inv (runCalls r0 cs) := by
  apply Mhd.Resp.runCalls_inv cs r0 _ hl
  rcases h0 with ⟨s, rfl⟩ | ⟨f, hf, rfl⟩ | rfl
  · exact Mhd.Resp.create_inv s
  · exact Mhd.Resp.createEmpty_inv f hf
  · exact Mhd.Resp.createUpgrade_inv

/-- Non-vacuity: the call sequence that breaks the unfixed code (F4: Transfer-Encoding, then Connection)
    is legal, and the resulting object carries both headers with both flags set. -/
example :
    let r := runCalls (Resp.create 5) [.add sTransferEncoding sChunked, .add sConnection [102, 111, 111]]
    r.fa.transEnc = true ∧ r.fa.connHdr = true ∧ r.hdrs.length = 2 := by decide

/-- A completely sent reply is a well-formed, self-consistently framed HTTP/1.x message. -/
theorem reply_wellFramed (c : Conn) (r : Resp) (st : CState) (allow : Bool) (code0 : Nat) (q : Queued) (src : BodySrc)
    (date : Option Bytes) (wb : Nat)
    (hinv : Inv r) (hq : queueResponse c st false false allow code0 r = some q)
    (hdate : ∀ d, date = some d → NoCRLF d) (hsz : r.totalSize < 2 ^ 64)
    (hsrc : SrcLegal r wb src) (hwb : 128 ≤ wb)
    (hcomp : (sendReply c r q src date wb (startPosAfterQueue q r 0)).complete = true) :
    WellFramed (reqOf c) (sendReply c r q src date wb (startPosAfterQueue q r 0)).wire := by
  unfold WellFramed
  rw [Mhd.Reply.reply_parses c r st allow code0 q src date wb hinv hq hdate hsz hsrc hwb hcomp]
  rfl

/-- What the strict parser finds in it: the status code that was queued; exactly one body delimitation —
    none for HEAD / 1xx / 204 / 304, chunked (only possible towards an HTTP/1.1 client), Content-Length equal
    to the size of the response, or close-delimited —; the body is byte for byte what the application
    supplied (nothing for HEAD / 1xx / 204 / 304); the trailers of a chunked reply are exactly the footers of the
    response (every footer-kind entry, verbatim, once, in insertion order), and there are no trailers otherwise. -/
theorem one_body_delimitation (c : Conn) (r : Resp) (st : CState) (allow : Bool) (code0 : Nat) (q : Queued) (src : BodySrc)
    (date : Option Bytes) (wb : Nat)
    (hinv : Inv r) (hq : queueResponse c st false false allow code0 r = some q)
    (hdate : ∀ d, date = some d → NoCRLF d) (hsz : r.totalSize < 2 ^ 64)
    (hsrc : SrcLegal r wb src) (hwb : 128 ≤ wb)
    (hcomp : (sendReply c r q src date wb (startPosAfterQueue q r 0)).complete = true) :
    ∃ p, parseReply (reqOf c) (sendReply c r q src date wb (startPosAfterQueue q r 0)).wire = some p ∧
      p.code = q.code ∧
      p.framing = (if NoBody c q.code then Framing.none
                   else if (setupReplyProperties c r q.code).2.chunked then Framing.chunked
                   else if r.totalSize ≠ sizeUnknown then Framing.length r.totalSize else Framing.close) ∧
      p.body = (if NoBody c q.code then [] else appBody src) ∧
      (p.framing = Framing.chunked → ver11Compat c.ver = true) ∧
      (∀ n, p.framing = Framing.length n → p.body.length = n) ∧
      p.trailers = (if p.framing = Framing.chunked then ((footerFields r.hdrs).map toHttp).map normField else []) := by
  refine ⟨_, Mhd.Reply.reply_parses c r st allow code0 q src date wb hinv hq hdate hsz hsrc hwb hcomp, rfl, rfl, rfl, ?_, ?_, ?_⟩
  · intro hf
    exact ((setup_props c r q.code).2.2.1 ((expectedFraming_chunked c r q.code).1 hf).2).2.1
  · intro n hf
    obtain ⟨hnb, hkn, rfl⟩ := expectedFraming_length c r q.code n hf
    show (if NoBody c q.code then [] else appBody src).length = r.totalSize
    rw [if_neg hnb]; exact appBody_length r wb src hsrc hkn
  · exact ite_congr (propext (expectedFraming_chunked c r q.code).symm) (fun _ => rfl) (fun _ => rfl)

/-- No body byte follows the header block of a reply to HEAD or with status 1xx / 204 / 304. -/
theorem no_body_when_forbidden (c : Conn) (r : Resp) (st : CState) (allow : Bool) (code0 : Nat) (q : Queued) (src : BodySrc)
    (date : Option Bytes) (wb : Nat)
    (hq : queueResponse c st false false allow code0 r = some q) (hnb : NoBody c q.code) (h : Bytes)
    (hh : (buildHeaderResponse c r q.code q.icy date wb).2.2 = some h) :
    (sendReply c r q src date wb (startPosAfterQueue q r 0)).wire = h := by
  rw [sendReply_queued c r st allow code0 q src date wb h hq hh]
  dsimp only
  rw [if_pos hnb]; exact List.append_nil h

/-- Application header fields other than Connection, Content-Length, Transfer-Encoding and Date appear in the
    parsed reply verbatim (the value as stored, leading whitespace aside), exactly once each, in insertion order:
    the sub-list of unmanaged fields of the header block IS the list of header-kind entries with unmanaged names.
    Footer-kind entries appear — all of them, whatever their name, same sense of verbatim / once / in order — as
    the trailer section of a chunked reply, and nowhere when the reply is not chunked or has no body. -/
theorem user_headers_verbatim (c : Conn) (r : Resp) (st : CState) (allow : Bool) (code0 : Nat) (q : Queued) (src : BodySrc)
    (date : Option Bytes) (wb : Nat)
    (hinv : Inv r) (hq : queueResponse c st false false allow code0 r = some q)
    (hdate : ∀ d, date = some d → NoCRLF d) (hsz : r.totalSize < 2 ^ 64)
    (hsrc : SrcLegal r wb src) (hwb : 128 ≤ wb)
    (hcomp : (sendReply c r q src date wb (startPosAfterQueue q r 0)).complete = true) :
    ∃ p, parseReply (reqOf c) (sendReply c r q src date wb (startPosAfterQueue q r 0)).wire = some p ∧
      p.fields.filter (fun f => ! managedName f.name) = ((userHdrs r.hdrs).map toHttp).map normField ∧
      p.trailers = (if ¬ NoBody c q.code ∧ (setupReplyProperties c r q.code).2.chunked = true
                    then ((footerFields r.hdrs).map toHttp).map normField else []) := by
  refine ⟨_, Mhd.Reply.reply_parses c r st allow code0 q src date wb hinv hq hdate hsz hsrc hwb hcomp, ?_, rfl⟩
  simp only
  rw [parsed_unmanaged, allFields_unmanaged c r date _ _ hinv]

/-- Whenever the daemon is going to close the connection after the reply (`connection_reset` with
    `reuse = false`), the reply carries `Connection: close`. -/
theorem close_announced (c : Conn) (r : Resp) (st : CState) (allow : Bool) (code0 : Nat) (q : Queued) (src : BodySrc)
    (date : Option Bytes) (wb : Nat)
    (hinv : Inv r) (hq : queueResponse c st false false allow code0 r = some q)
    (hdate : ∀ d, date = some d → NoCRLF d) (hsz : r.totalSize < 2 ^ 64)
    (hsrc : SrcLegal r wb src) (hwb : 128 ≤ wb) (hup : r.upgrade = false)
    (hcomp : (sendReply c r q src date wb (startPosAfterQueue q r 0)).complete = true)
    (hcl : closesAfter c (setupReplyProperties c r q.code).1 = true) :
    ∃ p, parseReply (reqOf c) (sendReply c r q src date wb (startPosAfterQueue q r 0)).wire = some p ∧
      announcesClose p.fields = true := by
  refine ⟨_, Mhd.Reply.reply_parses c r st allow code0 q src date wb hinv hq hdate hsz hsrc hwb hcomp, ?_⟩
  exact close_in_fields c r date _ _ hinv ((closesAfter_iff c r q.code hup).1 hcl)

/-- the keep-alive state the reply leaves the connection with is the one `setup_reply_properties` decided -/
theorem sendReply_ka (c : Conn) (r : Resp) (q : Queued) (src : BodySrc) (date : Option Bytes) (wb sp : Nat) :
    (sendReply c r q src date wb sp).ka = (setupReplyProperties c r q.code).1 := by
  unfold sendReply buildHeaderResponse
  rcases setupReplyProperties c r q.code with ⟨ka, props⟩
  dsimp only
  cases (if (wb == 0) = true then none else runSegs wb (headSegs c r q.code q.icy date ka props) []) with
  | none => rfl
  | some h =>
    dsimp only
    exact ite_cases (fun o : ReplyOut => o.ka = ka) (fun _ => rfl) fun _ =>
      ite_cases (fun o : ReplyOut => o.ka = ka) (fun _ => rfl) fun _ => rfl

/-- … if AND ONLY IF.  For every response object reachable by any legal sequence of add / delete header / footer
    / option calls from any constructor, every request, every reply decision: the head of the complete reply has a
    Connection field with a `close` token (found by the grammar's own tokenizer: split at commas, trim OWS, compare
    case-insensitively) exactly when the connection is left in MHD_CONN_MUST_CLOSE — which, for everything but an
    upgrade response, is exactly when the daemon closes the connection after the reply (`connection_reset` with
    `reuse = false`).  Nothing about the string editors is assumed: `Mhd.Tok.editorSpecs` proves that the model
    copies of `MHD_str_remove_token_caseless_` (output: a `", "`-list without any `close` element) and
    `MHD_str_remove_tokens_caseless_` (output: the `", "`-list of a sub-list of the elements) keep the stored value
    in the normal form in which `close` can only be the first element and only together with
    MHD_RAF_HAS_CONNECTION_CLOSE (`Mhd.Tok.ConnTok`, preserved by every call: `Mhd.Tok.applyCall_connTok`). -/
theorem close_announced_iff (r0 : Resp) (cs : List Call)
    (h0 : (∃ size, r0 = Resp.create size) ∨ (∃ f, f.insanity = false ∧ r0 = Resp.createEmpty f) ∨ r0 = Resp.createUpgrade)
    (hl : ∀ c ∈ cs, c.Legal)
    (c : Conn) (st : CState) (allow : Bool) (code0 : Nat) (q : Queued) (src : BodySrc) (date : Option Bytes) (wb : Nat)
    (hq : queueResponse c st false false allow code0 (runCalls r0 cs) = some q)
    (hdate : ∀ d, date = some d → NoCRLF d) (hsz : (runCalls r0 cs).totalSize < 2 ^ 64)
    (hsrc : SrcLegal (runCalls r0 cs) wb src) (hwb : 128 ≤ wb)
    (hcomp : (sendReply c (runCalls r0 cs) q src date wb (startPosAfterQueue q (runCalls r0 cs) 0)).complete = true) :
    ∃ p, parseReply (reqOf c) (sendReply c (runCalls r0 cs) q src date wb (startPosAfterQueue q (runCalls r0 cs) 0)).wire = some p ∧
      (announcesClose p.fields = true ↔
        (sendReply c (runCalls r0 cs) q src date wb (startPosAfterQueue q (runCalls r0 cs) 0)).ka = .mustClose) ∧
      ((runCalls r0 cs).upgrade = false →
        (announcesClose p.fields = true ↔
          closesAfter c (sendReply c (runCalls r0 cs) q src date wb (startPosAfterQueue q (runCalls r0 cs) 0)).ka = true)) := by
  have hinv : Inv (runCalls r0 cs) := calls_preserve_inv r0 cs h0 hl
  have hct := Mhd.Tok.reachable_connTok r0 cs h0 hl
  refine ⟨_, Mhd.Reply.reply_parses c _ st allow code0 q src date wb hinv hq hdate hsz hsrc hwb hcomp, ?_, ?_⟩
  · rw [sendReply_ka]; exact Mhd.Tok.announces_iff_mustClose c _ date q.code hinv hct
  · intro hup
    rw [sendReply_ka, closesAfter_iff c _ q.code hup]
    exact Mhd.Tok.announces_iff_mustClose c _ date q.code hinv hct

/-- Non-vacuity, direction "announced ⇒ closes": the application adds `Connection: Foo, cLoSe`; the hypotheses
    hold and the connection is left in MUST_CLOSE. -/
example :
    let r := runCalls (Resp.create 5) [.add sConnection [70, 111, 111, 44, 32, 99, 76, 111, 83, 101]]
    let c : Conn := {}
    ∃ q, queueResponse c .fullReqReceived false false false 200 r = some q ∧
      SrcLegal r 4096 (.buffer [97, 98, 99, 100, 101]) ∧
      (sendReply c r q (.buffer [97, 98, 99, 100, 101]) none 4096 (startPosAfterQueue q r 0)).complete = true ∧
      (sendReply c r q (.buffer [97, 98, 99, 100, 101]) none 4096 (startPosAfterQueue q r 0)).ka = .mustClose := by
  refine ⟨⟨200, false, false, false⟩, by decide, ⟨by decide, by decide⟩, by decide, by decide⟩

/-- Non-vacuity, direction "not announced ⇒ stays open" on the edit sequence that needs the flag re-evaluation of
    `del_response_header_connection`: `close` is added, a short token (`TE`, < 5 bytes) is added, `close` is
    deleted again.  The stored value is `TE`, the close flag is cleared, the connection is kept alive. -/
example :
    let r := runCalls (Resp.create 5)
      [.add sConnection sClose, .add sConnection [84, 69], .del sConnection sClose]
    let c : Conn := {}
    r.hdrs = [⟨.header, sConnection, [84, 69]⟩] ∧ r.fa.connClose = false ∧
    ∃ q, queueResponse c .fullReqReceived false false false 200 r = some q ∧
      SrcLegal r 4096 (.buffer [97, 98, 99, 100, 101]) ∧
      (sendReply c r q (.buffer [97, 98, 99, 100, 101]) none 4096 (startPosAfterQueue q r 0)).complete = true ∧
      (sendReply c r q (.buffer [97, 98, 99, 100, 101]) none 4096 (startPosAfterQueue q r 0)).ka = .useKeepalive ∧
      closesAfter c (sendReply c r q (.buffer [97, 98, 99, 100, 101]) none 4096 (startPosAfterQueue q r 0)).ka = false := by
  refine ⟨by decide, by decide, ⟨200, false, false, false⟩, by decide, ⟨by decide, by decide⟩, by decide, by decide, by decide⟩

/-- `100 Continue` is sent only to an HTTP/1.1 client that asked for it while the body is still awaited. -/
theorem continue_only_when_asked (ver : Ver) (remaining : Nat) (expect : Option Bytes)
    (h : need100Continue ver remaining expect = true) :
    ver11Compat ver = true ∧ remaining ≠ 0 ∧ ∃ e, expect = some e ∧ strEqCaseless e s100Continue = true := by
  unfold need100Continue at h
  split at h
  · cases h
  · rename_i hv
    split at h
    · cases h
    · rename_i hr
      cases expect with
      | none => cases h
      | some e =>
        refine ⟨by simpa using hv, by simpa using hr, e, rfl, h⟩

/-- Non-vacuity of the reply theorems: a response with a forced `Transfer-Encoding: chunked` and an extra
    Connection token (the F4 sequence), a footer, queued with 200 for a GET HTTP/1.1 request, 5 body bytes. -/
example :
    let r := runCalls (Resp.create 5)
      [.add sTransferEncoding sChunked, .add sConnection [102, 111, 111], .add [88, 45, 65] [118], .foot [88, 45, 84] [116]]
    let c : Conn := {}
    ∃ q, queueResponse c .fullReqReceived false false false 200 r = some q ∧
      SrcLegal r 4096 (.buffer [97, 98, 99, 100, 101]) ∧
      (sendReply c r q (.buffer [97, 98, 99, 100, 101]) none 4096 (startPosAfterQueue q r 0)).complete = true := by
  refine ⟨⟨200, false, false, false⟩, by decide, ⟨by decide, by decide⟩, by decide⟩

/-- An upgrade response never announces `close` and always leaves the connection in MUST_UPGRADE — also on a
    connection that was already marked MUST_CLOSE (request with ambiguous framing): `keepalive_possible` decides the
    upgrade first (fix F37; before it, `close, ` was put in front of the application's `Connection: Upgrade`). -/
theorem upgrade_reply_no_close (r0 : Resp) (cs : List Call)
    (h0 : (∃ size, r0 = Resp.create size) ∨ (∃ f, f.insanity = false ∧ r0 = Resp.createEmpty f) ∨ r0 = Resp.createUpgrade)
    (hl : ∀ c ∈ cs, c.Legal)
    (c : Conn) (st : CState) (allow : Bool) (code0 : Nat) (q : Queued) (src : BodySrc) (date : Option Bytes) (wb : Nat)
    (hq : queueResponse c st false false allow code0 (runCalls r0 cs) = some q)
    (hdate : ∀ d, date = some d → NoCRLF d) (hsz : (runCalls r0 cs).totalSize < 2 ^ 64)
    (hsrc : SrcLegal (runCalls r0 cs) wb src) (hwb : 128 ≤ wb)
    (hcomp : (sendReply c (runCalls r0 cs) q src date wb (startPosAfterQueue q (runCalls r0 cs) 0)).complete = true)
    (hup : (runCalls r0 cs).upgrade = true) :
    (sendReply c (runCalls r0 cs) q src date wb (startPosAfterQueue q (runCalls r0 cs) 0)).ka = .mustUpgrade ∧
    ∃ p, parseReply (reqOf c) (sendReply c (runCalls r0 cs) q src date wb (startPosAfterQueue q (runCalls r0 cs) 0)).wire = some p ∧
      announcesClose p.fields = false := by
  obtain ⟨p, hp, hiff, _⟩ := close_announced_iff r0 cs h0 hl c st allow code0 q src date wb hq hdate hsz hsrc hwb hcomp
  have hcode : q.code = 101 := (queue_facts c st allow code0 _ q hq).2.2.2.1 hup
  have hka : (setupReplyProperties c (runCalls r0 cs) q.code).1 = .mustUpgrade := by
    rw [setup_upgrade c _ q.code hup (by rw [hcode]; decide)]
  rw [sendReply_ka] at hiff ⊢
  refine ⟨hka, p, hp, ?_⟩
  cases hx : announcesClose p.fields with
  | false => rfl
  | true => have := hiff.1 hx; rw [hka] at this; cases this

/-- Non-vacuity: the 101 reply of an upgrade response on a connection that is already MUST_CLOSE. -/
example :
    let c : Conn := { keepalive := .mustClose }
    ∃ q, queueResponse c .fullReqReceived false false true 101 Resp.createUpgrade = some q ∧
      (sendReply c Resp.createUpgrade q (.buffer []) none 4096 (startPosAfterQueue q Resp.createUpgrade 0)).complete = true ∧
      (sendReply c Resp.createUpgrade q (.buffer []) none 4096 (startPosAfterQueue q Resp.createUpgrade 0)).ka = .mustUpgrade := by
  refine ⟨⟨101, false, true, false⟩, by decide, by decide, by decide⟩

/-- Error replies the daemon generates itself (`transmit_error_response_len`: 400 / 413 / 431 / 501 / 505 … and the 301
    redirect with its unchecked `Location` entry) go through the same reply builder.  Whenever such a reply is
    produced at all (otherwise the connection is closed without a byte): it is sent completely, is WellFramed, is
    never chunked, carries exactly the static message as body (nothing for HEAD), announces `Connection: close`, and
    the connection is left in MUST_CLOSE with `discard_request` set, i.e. the daemon closes after it — for every
    connection state, request method / version, status code, message, date option and buffer sizes. -/
theorem error_reply_framed_and_closes (c : Conn) (swe late shut : Bool) (code0 : Nat) (msg : Bytes)
    (hdr : Option (Bytes × Bytes)) (date : Option Bytes) (wb1 wb2 : Nat) (out : ReplyOut)
    (hh : ∀ n v, hdr = some (n, v) → ErrHdrOK n v) (hmsg : msg.length < sizeUnknown)
    (hdate : ∀ d, date = some d → NoCRLF d) (hwb1 : 128 ≤ wb1) (hwb2 : 128 ≤ wb2)
    (h : transmitErrorResponse c swe late shut code0 msg hdr date wb1 wb2 = .reply out) :
    out.complete = true ∧ WellFramed (reqOf c) out.wire ∧
    out.ka = .mustClose ∧ closesAfter { c with discardRequest := true } out.ka = true ∧
    ∃ p, parseReply (reqOf c) out.wire = some p ∧ announcesClose p.fields = true ∧
      p.body = (if NoBody c p.code then [] else msg) ∧
      (∀ n, p.framing = Framing.length n → n = msg.length) ∧ p.framing ≠ Framing.chunked := by
  obtain ⟨q, wb, hwbc, _, hq, rfl, hfit⟩ := transmitError_cases c swe late shut code0 msg hdr date wb1 wb2 out h
  have hlen : msg.length ≠ sizeUnknown := by omega
  have hwb : 128 ≤ wb := by rcases hwbc with rfl | rfl <;> assumption
  -- `Location` is appended without the checks of MHD_add_response_header, but under `ErrHdrOK` it is the entry one legal `add`
  -- makes: the response is reachable from `create`, so `Inv` and `ConnTok` hold and what is proved of an application's reply
  -- (`reply_parses`, `announces_iff_mustClose`) applies, on the connection with `discard_request` and MUST_CLOSE set
  obtain ⟨cs, hl, hr⟩ := errorResponse_reachable msg.length hdr hh
  have h0 : (∃ size, Resp.create msg.length = Resp.create size) ∨
      (∃ f, f.insanity = false ∧ Resp.create msg.length = Resp.createEmpty f) ∨ Resp.create msg.length = Resp.createUpgrade :=
    Or.inl ⟨_, rfl⟩
  have hinv : Inv (errorResponse msg.length hdr) := by rw [hr]; exact calls_preserve_inv _ cs h0 hl
  have hct : Mhd.Tok.ConnTok (errorResponse msg.length hdr) := by rw [hr]; exact Mhd.Tok.reachable_connTok _ cs h0 hl
  obtain ⟨hts, hup⟩ := errorResponse_props msg.length hdr
  have hsz : (errorResponse msg.length hdr).totalSize < 2 ^ 64 := by
    rw [hts]; have : sizeUnknown < 2 ^ 64 := by decide
    omega
  have hsrc : SrcLegal (errorResponse msg.length hdr) wb (.buffer msg) := ⟨hts.symm, by rw [hts]; exact hlen⟩
  have hk := setup_mustClose { c with discardRequest := true, keepalive := .mustClose } (errorResponse msg.length hdr) q.code rfl
    (errorResponse_props msg.length hdr).2
  have hq2 : queueResponse { c with discardRequest := true, keepalive := .mustClose } .fullReqReceived false false false
      code0 (errorResponse msg.length hdr) = some q := hq
  have hcomp := errorReply_complete _ .fullReqReceived code0 msg hdr q date wb hlen hh hq2 hfit
  have hp := Mhd.Reply.reply_parses { c with discardRequest := true, keepalive := .mustClose } _ .fullReqReceived false
    code0 q (.buffer msg) date wb hinv hq2 hdate hsz hsrc hwb hcomp
  have hnc := errorResponse_notChunked { c with discardRequest := true, keepalive := .mustClose } msg.length hdr q.code hlen hh
  have hp' : parseReply (reqOf c) (sendReply { c with discardRequest := true, keepalive := .mustClose }
      (errorResponse msg.length hdr) q (.buffer msg) date wb (startPosAfterQueue q (errorResponse msg.length hdr) 0)).wire
      = some _ := hp
  refine ⟨hcomp, ?_, ?_, ?_, _, hp', ?_, rfl, ?_, ?_⟩
  · unfold WellFramed; rw [hp']; rfl
  · rw [sendReply_ka]; exact hk
  · rw [sendReply_ka, hk]; rfl
  · exact (Mhd.Tok.announces_iff_mustClose _ _ date q.code hinv hct).2 hk
  · intro n hf
    rw [(expectedFraming_length _ _ q.code n hf).2.2, hts]
  · intro hf
    rw [((expectedFraming_chunked _ _ q.code).1 hf).2] at hnc; cases hnc

/-- Non-vacuity: the 400 reply to a malformed request line of an HTTP/1.1 keep-alive client, and the 301
    redirect with the unchecked `Location` entry. -/
example :
    ∃ out, transmitErrorResponse {} false false false 400 [60, 104, 62] none none 4096 4096 = .reply out ∧
      out.ka = .mustClose := ⟨_, rfl, by decide⟩
example : ErrHdrOK [76, 111, 99, 97, 116, 105, 111, 110] [47, 97, 37, 50, 48, 98] :=
  ⟨by decide, by decide, by decide, by decide, by decide, by decide, by decide, by decide, by decide⟩

/-- `MHD_create_response_from_iovec`: for EVERY element array (zero-length elements at the beginning, in the middle,
    at the end, only zero-length elements, one or many non-empty elements, elements sharing memory, any NULL base on
    a zero-length element) in which each non-empty element points to `iov_len` readable bytes: if a response is
    created, its size is the sum of the element lengths and the body bytes the send path reads from it — through
    the single-buffer shortcut (`i_cp == 1`) or the compacted copy — are exactly the elements' bytes one after the
    other.  (With `total_size` known and this body as `BodySrc.buffer`, `one_body_delimitation` carries it to
    the wire.) -/
theorem iovec_body_is_concatenation (l : List Mhd.Iov.IoVec) (cnt : Nat) (r : Mhd.Iov.IovResp) (hl : Mhd.Iov.Legal l)
    (h : Mhd.Iov.createFromIovec (some l) cnt = some r) :
    Mhd.Iov.iovBody r.data = Mhd.Iov.concat l ∧ r.totalSize = (Mhd.Iov.concat l).length := by
  open Mhd.Iov in
  unfold createFromIovec at h
  dsimp only at h
  cases hc : iovCount l {} with
  | none => rw [hc] at h; cases h
  | some st =>
    rw [hc] at h
    dsimp only at h
    obtain ⟨a, _, c, d, f⟩ := iovCount_spec l {} st hl (by decide) hc
    have a' : st.total = (concat l).length := by rw [a]; exact Nat.zero_add _
    have c' : st.icp = (iovCompact l).length := by rw [c]; exact Nat.zero_add _
    by_cases h0 : st.icp = 0
    · rw [if_pos (beq_iff_eq.2 h0)] at h
      injection h with h; subst h
      have : iovCompact l = [] := List.length_eq_zero_iff.1 (c'.symm.trans h0)
      exact ⟨by rw [← concat_compact l, this]; rfl, a'⟩
    · rw [if_neg (by rw [beq_iff_eq]; exact h0)] at h
      by_cases h1 : st.icp = 1
      · -- the single-buffer shortcut: `data_size` = the length of the only non-empty element
        rw [if_pos (beq_iff_eq.2 h1)] at h
        obtain ⟨e, he⟩ := List.length_eq_one_iff.1 (c'.symm.trans h1)
        obtain ⟨m, hm1, hm2⟩ := f e he
        rw [hm1] at h
        injection h with h; subst h
        have hcat : concat l = m.take e.len := by
          rw [← concat_compact l, he, concat, List.flatMap_cons, List.flatMap_nil, List.append_nil, elemBytes, hm2]; rfl
        have hmem : e ∈ l := mem_iovCompact l e (by rw [he]; exact List.mem_cons_self)
        refine ⟨?_, a'⟩
        show m.take st.total = concat l
        rw [a', hcat, List.length_take, List.take_eq_take_iff]
        omega
      · rw [if_neg (by rw [beq_iff_eq]; exact h1)] at h
        injection h with h; subst h
        exact ⟨concat_compact l, a'⟩

/-- Non-vacuity on the layout that needs `last_valid_buffer`: a zero-length element (pointing at foreign memory),
    a NULL zero-length element, then the only non-empty one, then another empty one — the shortcut is taken and
    the body is the non-empty element. -/
example :
    Mhd.Iov.createFromIovec (some [⟨some [35, 35, 35], 0⟩, ⟨none, 0⟩, ⟨some [97, 98, 99], 3⟩, ⟨some [36], 0⟩]) 4
      = some ⟨3, .single [97, 98, 99] 3⟩ := by decide

/-- … and two non-empty elements sharing memory around an empty one go through the compacted copy. -/
example :
    (Mhd.Iov.createFromIovec (some [⟨some [97, 98, 99], 2⟩, ⟨none, 0⟩, ⟨some [97, 98, 99], 3⟩]) 3).map
      (fun r => (r.totalSize, Mhd.Iov.iovBody r.data)) = some (5, [97, 98, 97, 98, 99]) := by decide

end Mhd.C04
