/-
  C05 — Handler call protocol and exactly-once completion notification.

  Behind the statements is the refinement argument of `Mhd.Proofs.ConnSM*`
  (relation `Rel` between the connection record and the state of the protocol
  automaton, preserved by every function of the model): where a statement is an
  instance of a more general lemma its proof is that instance; where it is the
  natural statement itself, the proof stands here.

  Quantification: every configuration, every scripted application (any state type,
  any decision function), every initial application state and every finite sequence
  of connection events `Mhd.ConnSM.Ev` — received tokens in any segmentation, peer
  close, read errors, `MHD_connection_handle_idle` under any environment (time-out,
  pool exhaustion, allocation / header-build / epoll_ctl failures, content-reader
  results, shutdown flag, failure of MHD_response_execute_upgrade_), write progress,
  forced close, resume, daemon shutdown, end of an upgraded connection, cleanup — in
  any order and of any length.  No bound anywhere.

  Responses may be interim ones (102 Processing: after the complete reply the request
  goes back to HEADERS_PROCESSED, the handler is asked again and another response may be
  queued — any number of times) and upgrade responses (MHD_response_execute_upgrade_:
  connection suspended, upgrade handler called, response released; the connection
  leaves the suspended list through resume_suspended_connections' `urh` branch, which
  delivers the one completion notification and puts it on the cleanup list).

  The only hypothesis, `EvOk cfg e`, says that the event does not drive the connection
  down one of the four paths that lose or corrupt the notification in an *unrepaired*
  tree (F9, F9b, F9c, F14); it is vacuous as soon as the corresponding repair flag
  regenerated from connection.c is `true` (`evOk_of_fixed`).
-/
import Mhd.Proofs.ConnSMStep
import Mhd.Proofs.ConnSMFuel
import Mhd.Proofs.ConnSMUpload
import Mhd.Proofs.ConnSMBracket
import Mhd.Proofs.ConnSMChunked

namespace Mhd.C05
open Mhd.ConnSM Mhd.Protocol Mhd.Gen.ConnState

/-- configuration whose repair flags are the ones regenerated from the source tree -/
def treeCfg (uriLog allowSuspend epoll : Bool) : Cfg :=
  { uriLog := uriLog, allowSuspend := allowSuspend, epoll := epoll,
    f9Fixed := f9Fixed, allocBypassFixed := allocBypassFixed,
    epollBypassFixed := epollBypassFixed, f14Fixed := f14Fixed, f14ClearsAware := f14ClearsAware }

/-- The callback log of every run respects the documented call protocol: start first; per request
    the first handler call comes from the first call site without upload data and sees the fresh
    context; call sites in the order first* upload* final*; every upload call starts exactly where
    the application stopped taking bytes; no handler call after a response was queued or after the
    handler failed; the completion callback fires only for a presented request, with that request's
    context, at most once; the strings of a presented request are not released before its
    completion; the close notification comes only when no request is open. -/
theorem protocol_accepts {σ : Type} (cfg : Cfg) (app : App σ) (s : σ) (evs : List Ev)
    (hok : ∀ e ∈ evs, EvOk cfg e) :
    Protocol.accepts (run cfg app (Conn.init s) evs).2 := by
  have h := run_rel cfg app evs (Conn.init s) .fresh (init_rel s) hok
  unfold Protocol.accepts
  intro hb
  rw [hb] at h
  exact h

/-- … and once the connection has been freed by MHD_cleanup_connections the log is complete:
    start and close notifications bracket everything and every presented request was completed
    (exactly once, by `protocol_accepts`). -/
theorem protocol_complete {σ : Type} (cfg : Cfg) (app : App σ) (s : σ) (evs : List Ev)
    (hok : ∀ e ∈ evs, EvOk cfg e) (hcl : (run cfg app (Conn.init s) evs).1.cleaned = true) :
    Protocol.complete (run cfg app (Conn.init s) evs).2 := by
  have h := run_rel cfg app evs (Conn.init s) .fresh (init_rel s) hok
  unfold Protocol.complete
  generalize Protocol.run .fresh (run cfg app (Conn.init s) evs).2 = p at h
  cases p <;> simp_all [Rel]

/-- The invariant behind it: in every reachable state of a live connection `client_aware` is set
    exactly when the automaton has a presented, not yet completed request — and then the request
    context of the connection is that request's context. -/
theorem aware_iff_open_request {σ : Type} (cfg : Cfg) (app : App σ) (s : σ) (evs : List Ev)
    (hok : ∀ e ∈ evs, EvOk cfg e) (hcl : (run cfg app (Conn.init s) evs).1.cleaned = false) :
    ((run cfg app (Conn.init s) evs).1.clientAware = true ↔
      ∃ r, Protocol.run .fresh (run cfg app (Conn.init s) evs).2 = .req r ∧
           r.ctx = (run cfg app (Conn.init s) evs).1.ctx) := by
  have h := run_rel cfg app evs (Conn.init s) .fresh (init_rel s) hok
  generalize Protocol.run .fresh (run cfg app (Conn.init s) evs).2 = p at h
  cases p <;> simp_all [Rel]

/-- Every way into MHD_CONNECTION_CLOSED either went through MHD_connection_close_ or happened
    with `client_aware` unset: a live connection in state CLOSED is never client-aware and holds no
    response; a connection in the cleanup list is in state CLOSED or — when it was upgraded and has
    been taken off the suspended list — in state UPGRADE, and in both cases it is not client-aware
    (the completion notification has been delivered) and holds no response. -/
theorem closed_only_unaware {σ : Type} (cfg : Cfg) (app : App σ) (s : σ) (evs : List Ev)
    (hok : ∀ e ∈ evs, EvOk cfg e) (hcl : (run cfg app (Conn.init s) evs).1.cleaned = false) :
    ((run cfg app (Conn.init s) evs).1.state = .closed →
       (run cfg app (Conn.init s) evs).1.clientAware = false ∧ (run cfg app (Conn.init s) evs).1.response = none) ∧
    ((run cfg app (Conn.init s) evs).1.inCleanup = true →
       ((run cfg app (Conn.init s) evs).1.state = .closed ∨ (run cfg app (Conn.init s) evs).1.state = .upgrade) ∧
       (run cfg app (Conn.init s) evs).1.clientAware = false ∧ (run cfg app (Conn.init s) evs).1.response = none) := by
  have h := run_rel cfg app evs (Conn.init s) .fresh (init_rel s) hok
  generalize Protocol.run .fresh (run cfg app (Conn.init s) evs).2 = p at h
  generalize (run cfg app (Conn.init s) evs).1 = c at h hcl ⊢
  have hinv := h.inv hcl
  refine ⟨hinv.2.2.2.1, fun hi => ?_⟩
  obtain ⟨h1, h2, h3⟩ := hinv.2.2.2.2.2.1 hi
  refine ⟨?_, h2, h3⟩
  cases hst : c.state <;> simp [hst] at h1 <;> simp

/-- An upgraded connection that has not been freed yet (state UPGRADE) holds no response object any more
    (it was released right after the upgrade handler returned); it has an open request exactly when it
    is client-aware (`aware_iff_open_request`), and for that request the protocol automaton has recorded
    the accepted response and the upgrade, so that no further handler call and no further response is
    accepted before the completion. -/
theorem upgraded_holds_no_response {σ : Type} (cfg : Cfg) (app : App σ) (s : σ) (evs : List Ev)
    (hok : ∀ e ∈ evs, EvOk cfg e) (hcl : (run cfg app (Conn.init s) evs).1.cleaned = false)
    (hup : (run cfg app (Conn.init s) evs).1.state = .upgrade) :
    (run cfg app (Conn.init s) evs).1.response = none ∧
    (∀ r, Protocol.run .fresh (run cfg app (Conn.init s) evs).2 = .req r → r.replied = true ∧ r.upgraded = true) := by
  have h := run_rel cfg app evs (Conn.init s) .fresh (init_rel s) hok
  generalize Protocol.run .fresh (run cfg app (Conn.init s) evs).2 = p at h
  generalize (run cfg app (Conn.init s) evs).1 = c at h hcl hup ⊢
  refine ⟨(h.inv hcl).resp_none (by rw [hup]; decide), ?_⟩
  intro r hp
  subst hp
  simp only [Rel] at h
  rw [h.2.2.2.2.2.2.1, h.2.2.2.2.2.2.2.2.2.2]
  simp [respOrUpg, hup]

/-- For every connection object and every history: the callback log is empty (the connection was refused before
    it was announced: connection limit — quick or firm check —, per-IP limit, accept policy, allocation failure), or
    it begins with MHD_CONNECTION_NOTIFY_STARTED and then contains either no further notification (still open) or
    exactly one MHD_CONNECTION_NOTIFY_CLOSED, behind which nothing but free callbacks of response objects follows:
    never a second STARTED, never a second CLOSED, no URI log / handler / upgrade / completion callback outside
    the bracket.  Once the connection object has been freed the bracket is closed: every STARTED has its CLOSED. -/
theorem start_close_paired {σ : Type} (cfg : Cfg) (app : App σ) (s : σ) (evs : List Ev)
    (hok : ∀ e ∈ evs, EvOk cfg e) :
    ((run cfg app (Conn.init s) evs).2 = [] ∨
     ∃ rest, (run cfg app (Conn.init s) evs).2 = .connStart :: rest ∧
       ((∀ e ∈ rest, isNotify e = false) ∨
        ∃ mid tail, rest = mid ++ .connClose :: tail ∧ (∀ e ∈ mid, isNotify e = false) ∧ ∀ e ∈ tail, isFree e = true)) ∧
    ((run cfg app (Conn.init s) evs).1.cleaned = true →
     ∃ mid tail, (run cfg app (Conn.init s) evs).2 = .connStart :: (mid ++ .connClose :: tail) ∧
       (∀ e ∈ mid, isNotify e = false) ∧ ∀ e ∈ tail, isFree e = true) :=
  ⟨accepts_bracket _ (protocol_accepts cfg app s evs hok),
   fun hcl => complete_bracket _ (protocol_complete cfg app s evs hok hcl)⟩

/-- the two events that admit a connection (new_connection_process_ succeeded / failed after NOTIFY_STARTED) -/
def isAdmission : Ev → Bool
  | .start => true
  | .startFailed => true
  | _ => false

/-- A connection that was refused before new_connection_process_ announced it gets NEITHER notification, whatever
    happens afterwards: without an admission event the log stays empty. -/
theorem refused_silent {σ : Type} (cfg : Cfg) (app : App σ) (s : σ) (evs : List Ev)
    (h : ∀ e ∈ evs, isAdmission e = false) : (run cfg app (Conn.init s) evs).2 = [] := by
  have key : ∀ (evs : List Ev) (c : Conn σ), c.started = false → (∀ e ∈ evs, isAdmission e = false) →
      (run cfg app c evs).2 = [] := by
    intro evs
    induction evs with
    | nil => intro c _ _; rfl
    | cons e t ih =>
      intro c hs hall
      have he := hall e (by simp)
      have hstep : step cfg app c e = (c, []) := by
        unfold Mhd.ConnSM.step
        by_cases hf : c.fault = true
        · rw [if_pos hf]
        rw [if_neg hf]
        cases e
        case start | startFailed => cases he
        all_goals exact if_pos (.inl (by rw [hs]; rfl))
      simp only [Mhd.ConnSM.run, hstep, List.nil_append]
      exact ih c hs (fun e' he' => hall e' (by simp [he']))
  exact key evs (Conn.init s) rfl h

/-- … and a connection whose admission fails after NOTIFY_STARTED (thread creation, epoll_ctl(ADD)) gets BOTH, at
    once, and nothing else ever -/
example :
    let app : App Unit := { uriLog := fun _ => ((), none), handle := fun _ _ => ((), {}) }
    (Mhd.ConnSM.run {} app (Conn.init ()) [.startFailed, .recv [.line .ok, .headers .none true false], .idle {}, .start,
                                           .startFailed, .cleanup]).2 = [.connStart, .connClose] ∧
    (Mhd.ConnSM.run {} app (Conn.init ()) [.recv [.line .ok], .idle {}, .shutdownClose, .cleanup]).2 = [] := by decide

/-- The `while (! connection->suspended)` loop of MHD_connection_handle_idle never stops because its bound
    (`idleFuel`) was reached: MHD_connection_handle_idle run with ANY larger bound gives the same connection
    record and the same callback log — for every connection record, application and environment. -/
theorem idle_fuel_sufficient {σ : Type} (cfg : Cfg) (app : App σ) (env : IdleEnv) (c : Conn σ) (n : Nat)
    (h : idleFuel c ≤ n) : handleIdleWith n cfg app env c = handleIdle cfg app env c :=
  handleIdle_fuel_irrelevant cfg app env c n h

/-- … and the `do … while (instant_retry)` loop of process_request_body never stops because its bound
    (`bodyFuel`) was reached. -/
theorem body_fuel_sufficient {σ : Type} (cfg : Cfg) (app : App σ) (env : IdleEnv) (buf : List Tok) (c : Conn σ) (n : Nat)
    (h : bodyFuel buf ≤ n) : processBody cfg app env n buf c = processBody cfg app env (bodyFuel buf) buf c := by
  have := bodyMeasure_le buf c
  unfold bodyFuel at h ⊢
  exact processBody_fuel cfg app env _ _ buf c (by omega) (by omega)

example : idleFuel (Conn.init ()) ≤ 1000 ∧ bodyFuel [.data 3, .chunkEnd] ≤ 1000 := by decide

/-- Thread-per-connection mode, daemon shutdown: the exit path of the connection's own thread
    (`MHD_connection_close_ (DAEMON_SHUTDOWN)` then `MHD_connection_handle_idle`) is the event `shutdownClose`
    for every connection that is not suspended: same callback log, same record up to the scratch flag `touched`.
    So all theorems above cover that path too.  (Not covered: a suspended connection that is being resumed is
    first taken back from the suspended list by the thread; no run against the real code in this mode.) -/
theorem tpc_shutdown_is_shutdownClose {σ : Type} (cfg : Cfg) (app : App σ) (env : IdleEnv) (c : Conn σ)
    (hf : c.fault = false) (hs : c.started = true) (hc : c.cleaned = false) (hi : c.inCleanup = false)
    (hsu : c.suspended = false) :
    (handleIdle cfg app env (closeConn c terminatedDaemonShutdown).1).1 =
      { (Mhd.ConnSM.step cfg app c .shutdownClose).1 with touched := false } ∧
    (closeConn c terminatedDaemonShutdown).2 ++ (handleIdle cfg app env (closeConn c terminatedDaemonShutdown).1).2 =
      (Mhd.ConnSM.step cfg app c .shutdownClose).2 := by
  -- the two calls stand at the end of thread_main_handle_connection; `shutdownClose` is close_connection of the other modes
  have hstep : Mhd.ConnSM.step cfg app c .shutdownClose =
      ({ (closeConn c terminatedDaemonShutdown).1 with inCleanup := true }, (closeConn c terminatedDaemonShutdown).2) := by
    unfold Mhd.ConnSM.step
    simp [hf, hs, hc, hi, hsu]
  rw [hstep]
  have hcl : (closeConn c terminatedDaemonShutdown).1.state = .closed := closeConn_state _ _
  have hresp : (closeConn c terminatedDaemonShutdown).1.response = none := by rw [closeConn_fst]
  have hsus : (closeConn c terminatedDaemonShutdown).1.suspended = false := by rw [closeConn_fst]; exact hsu
  have hic : (closeConn c terminatedDaemonShutdown).1.inCleanup = false := by rw [closeConn_fst]; exact hi
  generalize closeConn c terminatedDaemonShutdown = r at hcl hresp hsus hic ⊢
  obtain ⟨c1, l1⟩ := r
  rw [handleIdle_closed hsus hcl, cleanupConnection_fst]
  cases c1
  cases hresp; cases hsus; cases hic
  exact ⟨rfl, List.append_nil _⟩

example :
    let app : App Unit := { uriLog := fun _ => ((), none), handle := fun _ _ => ((), { ctxOut := some 1 }) }
    let c := (Mhd.ConnSM.run {} app (Conn.init ()) [.start, .recv [.line .ok, .headers .none true false], .idle {}]).1
    c.fault = false ∧ c.started = true ∧ c.cleaned = false ∧ c.inCleanup = false ∧ c.suspended = false ∧
    c.clientAware = true ∧
    (Mhd.ConnSM.step {} app c .shutdownClose).2 = [.completed terminatedDaemonShutdown (some 1)] := by decide

/-- PARTIAL (chunked counterpart of `upload_complete_length`).  With the ghost field `chunkTotal` (sum of the chunk
    sizes declared so far) process_request_body keeps, for a chunked upload that is not discarded,
    `upOff + chunkLeft = chunkTotal`, `chunkLeft = 0` outside a chunk, and `chunkLeft = 0` once the last chunk has
    been seen (`remaining = 0`) — for every buffer content, fuel and application.  The other outcome, `Safe`, is outside
    the accounting: the handler returned MHD_NO or the body was malformed, and the connection is closed or sends the error
    reply with the rest of the upload discarded.  `hrem` is the `mhd_assert (0 != remaining_upload_size)` of case
    BODY_RECEIVING: only the zero chunk, which ends the loop, clears it.  Full statement, NOT proved:
    in every reachable record in FULL_REQ_RECEIVED … FULL_REPLY_SENT with chunked framing and the upload not
    discarded, `upOff = chunkTotal`.  Missing: the lifting of `CInv` (Mhd/Proofs/ConnSMChunked.lean) through
    idleCase / step (the interim loop-back to HEADERS_PROCESSED with `remaining = 0` needs its own clause). -/
theorem chunked_body_accounting_partial {σ : Type} (cfg : Cfg) (app : App σ) (env : IdleEnv) (n : Nat) (buf : List Tok)
    (c : Conn σ) (hst : c.state = .bodyReceiving) (h : BInv c)
    (hrem : c.haveChunked = true → c.discard = false → c.remaining ≠ 0) :
    Safe (processBody cfg app env n buf c).1 ∨
    ((processBody cfg app env n buf c).1.state = .bodyReceiving ∧ BInv (processBody cfg app env n buf c).1) :=
  (processBody_run cfg app env n buf c).binv hst h hrem

example :
    let c : Conn Unit := { app := (), state := .bodyReceiving, haveChunked := true, remaining := 1 }
    let app : App Unit := { uriLog := fun _ => ((), none), handle := fun _ ci => ((), { take := ci.offered }) }
    let r := processBody {} app {} 20 [.chunkHdr 3, .data 3, .chunkEnd, .chunkHdr 2, .data 2, .chunkEnd, .chunkHdr 0] c
    r.1.upOff = 5 ∧ r.1.chunkTotal = 5 ∧ r.1.chunkLeft = 0 ∧ r.1.remaining = 0 := by decide

/-- Upload accounting, for every event sequence (no hypothesis at all, repaired tree or not): in every reachable
    connection record
    * before HEADERS_PROCESSED nothing has been taken;
    * from HEADERS_PROCESSED to FULL_REPLY_SENT, for a request with Content-Length whose upload has not been
      discarded: (bytes taken by the application so far) + (bytes still to come) = Content-Length;
    * from BODY_RECEIVED to FULL_REPLY_SENT nothing remains to come, unless the upload has been discarded.
    `upOff` is the sum of the `taken` fields of the upload calls of the request, each of which starts at the
    previous sum and offers the next bytes of the read buffer (`protocol_accepts`: `off = nextOff`,
    `taken ≤ len`): every body byte is presented, in order; what the handler declines is presented again;
    nothing else is. -/
theorem upload_accounting {σ : Type} (cfg : Cfg) (app : App σ) (s : σ) (evs : List Ev) :
    Mhd.ConnSM.UInv (run cfg app (Conn.init s) evs).1 :=
  run_uinv cfg app evs (Conn.init s) (init_uinv s)

/-- Whole body before the final call / before COMPLETED_OK (Content-Length framing): whenever the connection
    is in FULL_REQ_RECEIVED (the state of every final handler call) … FULL_REPLY_SENT (the state in which
    connection_reset delivers MHD_REQUEST_TERMINATED_COMPLETED_OK) and the upload has not been discarded,
    the application has taken exactly Content-Length bytes — and that is the offset the protocol automaton
    has arrived at by adding up the upload calls of the log. -/
theorem upload_complete_length {σ : Type} (cfg : Cfg) (app : App σ) (s : σ) (evs : List Ev)
    (hok : ∀ e ∈ evs, EvOk cfg e) (n : Nat)
    (hfr : (run cfg app (Conn.init s) evs).1.framing = .length n)
    (hch : (run cfg app (Conn.init s) evs).1.haveChunked = false)
    (hd : (run cfg app (Conn.init s) evs).1.discard = false)
    (hst : 11 ≤ (run cfg app (Conn.init s) evs).1.state.toNat ∧ (run cfg app (Conn.init s) evs).1.state.toNat ≤ 21) :
    (run cfg app (Conn.init s) evs).1.upOff = n ∧
    (∀ r, Protocol.run .fresh (run cfg app (Conn.init s) evs).2 = .req r → r.nextOff = n) := by
  have hu := upload_accounting cfg app s evs
  have h := run_rel cfg app evs (Conn.init s) .fresh (init_rel s) hok
  generalize Protocol.run .fresh (run cfg app (Conn.init s) evs).2 = p at h
  generalize (run cfg app (Conn.init s) evs).1 = c at h hu hfr hch hd hst ⊢
  unfold Mhd.ConnSM.UInv at hu
  have h2 := hu.2.1 (by omega) hst.2 hch hd
  have h3 := hu.2.2 (by omega) hst.2 hd
  rw [hfr] at h2
  simp only [frameLen] at h2
  have hn : c.upOff = n := by omega
  refine ⟨hn, ?_⟩
  intro r hp
  subst hp
  simp only [Rel] at h
  rw [h.2.2.2.2.2.1]; exact hn

/-- What the code does with the upload after an EARLY response (accepted in HEADERS_PROCESSED, i.e. from the first
    handler call or while the connection is suspended there — also an interim 102 one): the rest of the upload
    is discarded — `remaining_upload_size = 0`, `discard_request = true`, straight to START_REPLY; no body byte
    is presented any more (and the connection is closed after the final reply).  A response accepted in
    FULL_REQ_RECEIVED changes nothing of the accounting. -/
theorem early_response_discards_upload {σ : Type} (env : IdleEnv) (c : Conn σ) (r : Resp)
    (hacc : (queueResponse env c r).2.2 = true) :
    (c.state = .headersProcessed →
       (queueResponse env c r).1.discard = true ∧ (queueResponse env c r).1.remaining = 0 ∧
       (queueResponse env c r).1.state = .startReply ∧ (queueResponse env c r).1.upOff = c.upOff) ∧
    (c.state ≠ .headersProcessed →
       c.state = .fullReqReceived ∧ (queueResponse env c r).1.discard = c.discard ∧
       (queueResponse env c r).1.remaining = c.remaining ∧ (queueResponse env c r).1.upOff = c.upOff) := by
  rcases queueResponse_cases env c r with e | ⟨-, ⟨h5, e⟩ | ⟨h11, e⟩⟩ <;> rw [e] at hacc ⊢
  · cases hacc
  · exact ⟨fun _ => ⟨rfl, rfl, rfl, rfl⟩, fun x => absurd h5 x⟩
  · exact ⟨fun x => absurd (h11.symm.trans x) (by decide), fun _ => ⟨h11, rfl, rfl, rfl⟩⟩

/-- takes 2 bytes per upload call -/
def nibbler : App Unit :=
  { uriLog := fun _ => ((), none),
    handle := fun _ ci => ((), { take := 2, act := if ci.site = .final then .reply { rid := 0 } false else .cont,
                                  ctxOut := some 1 }) }

/-- a 5-byte body arriving in two pieces, taken 2 bytes at a time: upload calls at offsets 0, 2, 4, 4 (the byte the
    handler declined is presented again), the final call at offset 5 = Content-Length -/
example :
    let r := run {} nibbler (Conn.init ())
      [.start, .recv [.line .ok, .headers (.length 5) true false, .data 4], .idle {}, .idle {}, .idle {},
       .recv [.data 1], .idle {}]
    r.2.filterMap (fun e => match e with | .handler .upload off len taken _ _ _ => some (off, len, taken) | _ => none)
      = [(0, 4, 2), (2, 2, 2), (4, 1, 1)] ∧
    r.2.filterMap (fun e => match e with | .handler .final off _ _ _ _ _ => some off | _ => none) = [5] ∧
    r.1.upOff = 5 ∧ r.1.discard = false := by decide

/-- With the four repairs in place there is no hypothesis left: every event sequence. -/
theorem protocol_accepts_fixed {σ : Type} (cfg : Cfg) (h9 : cfg.f9Fixed = true) (ha : cfg.allocBypassFixed = true)
    (he : cfg.epollBypassFixed = true) (h14 : cfg.f14Fixed = true ∧ cfg.f14ClearsAware = true)
    (app : App σ) (s : σ) (evs : List Ev) :
    Protocol.accepts (run cfg app (Conn.init s) evs).2 ∧
    ((run cfg app (Conn.init s) evs).1.cleaned = true → Protocol.complete (run cfg app (Conn.init s) evs).2) :=
  ⟨protocol_accepts cfg app s evs (fun e _ => evOk_of_fixed cfg h9 ha he h14 e),
   protocol_complete cfg app s evs (fun e _ => evOk_of_fixed cfg h9 ha he h14 e)⟩

/-- The source tree this proof was regenerated from contains the F9 repair (the `return` after the
    first error response in handle_req_chunk_size_line_no_space).  Fails to check on an unrepaired tree. -/
theorem tree_f9_fixed : f9Fixed = true := by decide

/-- … and the other three repairs (allocation-failure exit and "release everything" branch of
    transmit_error_response_len, epoll_ctl failure exit of MHD_connection_epoll_update_). -/
theorem tree_other_repairs :
    allocBypassFixed = true ∧ epollBypassFixed = true ∧ f14Fixed = true ∧ f14ClearsAware = true := by decide

/-- The theorem for the tree as it is: every configuration of the callbacks / polling mode, every
    application, every event sequence. -/
theorem protocol_accepts_tree {σ : Type} (uriLog allowSuspend epoll : Bool) (app : App σ) (s : σ) (evs : List Ev) :
    Protocol.accepts (run (treeCfg uriLog allowSuspend epoll) app (Conn.init s) evs).2 ∧
    ((run (treeCfg uriLog allowSuspend epoll) app (Conn.init s) evs).1.cleaned = true →
      Protocol.complete (run (treeCfg uriLog allowSuspend epoll) app (Conn.init s) evs).2) :=
  protocol_accepts_fixed _ tree_f9_fixed tree_other_repairs.1 tree_other_repairs.2.1 tree_other_repairs.2.2 app s evs

/-! What each repair is needed for: kernel-checked runs of the model of the unrepaired code; the same scripts are
    replayed against the real library by tools/props/C05.py. -/

/-- an application that lets every request through and never replies -/
def passive : App Unit :=
  { uriLog := fun _ => ((), none), handle := fun _ _ => ((), { act := .cont, ctxOut := some 1 }) }

/-- suspends in its first call, continues afterwards -/
def suspendFirst : App Nat :=
  { uriLog := fun n => (n, none),
    handle := fun n _ => (n + 1, { act := if n = 0 then .suspend else .cont, ctxOut := some 1 }) }

/-- F9: over-long chunk-extension line, pool exhausted: the second error response sets CLOSED
    directly; the connection is cleaned up with the request still open. -/
theorem witness_f9 :
    ¬ Protocol.accepts (run { f9Fixed := false } passive (Conn.init ())
        [.start, .recv [.line .ok, .headers .chunked true false, .junk], .idle {},
         .idle { noSpace := true, chunkExt := true }, .idle {}, .cleanup]).2 := by decide

/-- F9b: MHD's error response cannot be allocated after the handler has seen the request. -/
theorem witness_alloc_bypass :
    ¬ Protocol.accepts (run { allocBypassFixed := false } passive (Conn.init ())
        [.start, .recv [.line .ok, .headers .chunked true false, .chunkBad], .idle { errAllocFail := true },
         .idle {}, .cleanup]).2 := by decide

/-- F9c: epoll_ctl(EPOLL_CTL_ADD) fails for a resumed connection. -/
theorem witness_epoll_bypass :
    ¬ Protocol.accepts (run { epoll := true, epollBypassFixed := false } suspendFirst (Conn.init 0)
        [.start, .recv [.line .ok, .headers (.length 5) true false], .idle {}, .resume,
         .idle { epollAdd := some false }, .cleanup]).2 := by decide

/-- F14: the header of MHD's error reply does not fit; everything is released while the request is
    still presented to the application. -/
theorem witness_f14 :
    ¬ Protocol.accepts (run { f14Fixed := false } passive (Conn.init ())
        [.start, .recv [.line .ok, .headers .chunked true false, .chunkBad], .idle { errHdrFail1 := true }]).2 := by
  decide

/-- F14 regression (seeded change C07_3): the completion callback runs in the "release everything"
    branch but `client_aware` is not cleared: the notification fires a second time at close. -/
theorem witness_f14_double_completion :
    ¬ Protocol.accepts (run { f14ClearsAware := false } passive (Conn.init ())
        [.start, .recv [.line .ok, .headers .chunked true false, .chunkBad], .idle { errHdrFail1 := true },
         .write .done, .idle {}, .write .done, .idle {}]).2 := by
  decide

/-- replies at the final call -/
def replier : App Unit :=
  { uriLog := fun _ => ((), none),
    handle := fun _ ci => ((), { take := ci.offered,
                                  act := if ci.site = .final then .reply { rid := 0 } false else .cont,
                                  ctxOut := some 1 }) }

/-- two pipelined requests (the first with a body delivered in two pieces), keep-alive, then the peer
    closes; the hypotheses of the theorems hold and the log is non-trivial, accepted and complete. -/
example :
    let r := run {} replier (Conn.init ())
      [.start, .recv [.line .ok, .headers (.length 5) true false, .data 2], .idle {}, .recv [.data 3, .line .ok],
       .idle {}, .write .done, .idle {}, .write .done, .idle {}, .recv [.headers .none true false], .idle {},
       .write .done, .idle {}, .write .done, .idle {}, .recvEof, .idle {}, .cleanup]
    r.2.length = 14 ∧ Protocol.accepts r.2 ∧ Protocol.complete r.2 ∧ r.1.cleaned = true := by decide

/-- first call: 102 (with free callback); asked again: continues; final call: 102 again; asked again
    (first site, then final site): final reply -/
def interimApp : App Nat :=
  { uriLog := fun n => (n, none),
    handle := fun n _ => (n + 1,
      { act := if n = 0 then .reply { rid := 6, interim := true, body := false, freeCb := true } false
               else if n = 2 then .reply { rid := 5, interim := true, body := false } false
               else if n = 4 then .reply { rid := 0 } false else .cont,
        ctxOut := some 1 }) }

/-- two interim replies and a final one for one request: five handler calls, three accepted responses,
    one completion; accepted and complete -/
example :
    let r := run {} interimApp (Conn.init 0)
      [.start, .recv [.line .ok, .headers .none true false], .idle {}, .write .done, .idle {},
       .write .done, .idle {}, .write .done, .idle {}, .write .done, .idle {}, .cleanup]
    (r.2.filter (fun e => match e with | .handler .. => true | _ => false)).length = 5 ∧
    (r.2.filter (· == .interimSent)).length = 2 ∧ (r.2.filter (· == .queued)).length = 3 ∧
    (r.2.filter (fun e => match e with | .completed .. => true | _ => false)).length = 1 ∧
    Protocol.accepts r.2 ∧ Protocol.complete r.2 ∧ r.1.cleaned = true := by decide

/-- replies with an upgrade response at the final call -/
def upgrader : App Unit :=
  { uriLog := fun _ => ((), some 7),
    handle := fun _ ci => ((), { act := if ci.site = .final then .reply { rid := 7, upgrade := true, body := false } false else .cont,
                                  ctxOut := some 1 }) }

/-- upgrade: after the header has been sent the upgrade handler is called, the connection is suspended in
    state UPGRADE with the request still open (time-outs, resume, forced close and shutdown-close do not
    touch it); `upgradeDone` delivers the single completion notification; accepted and complete -/
example :
    let evs : List Ev := [.start, .recv [.line .ok, .headers .none true false], .idle {}, .write .done, .idle {},
                          .idle { timedOut := true }, .resume, .forceClose, .shutdownClose, .recvEof]
    let r1 := run {} upgrader (Conn.init ()) evs
    let r2 := run {} upgrader (Conn.init ()) (evs ++ [.upgradeDone, .upgradeDone, .cleanup])
    r1.1.state = .upgrade ∧ r1.1.suspended = true ∧ r1.1.clientAware = true ∧ r1.1.response = none ∧
    (r1.2.filter (· == .upgrade)).length = 1 ∧ Protocol.accepts r1.2 ∧ ¬ Protocol.complete r1.2 ∧
    (r2.2.filter (fun e => match e with | .completed .. => true | _ => false)).length = 1 ∧
    Protocol.accepts r2.2 ∧ Protocol.complete r2.2 ∧ r2.1.cleaned = true := by decide

/-- MHD_response_execute_upgrade_ fails: closed with error, completion delivered once, no upgrade callback -/
example :
    let r := run {} upgrader (Conn.init ())
      [.start, .recv [.line .ok, .headers .none true false], .idle {}, .write .done, .idle { upgradeFail := true }, .cleanup]
    (r.2.filter (· == .upgrade)).length = 0 ∧ r.2.contains (.completed terminatedWithError (some 1)) = true ∧
    Protocol.accepts r.2 ∧ Protocol.complete r.2 := by decide

/-- the automaton rejects what the upgrade and interim events must exclude: an upgrade callback without an accepted
    response, a handler call after the upgrade, a second interim continuation without a new response -/
example : ¬ Protocol.accepts [.connStart, .uriLog none, .handler .first 0 0 0 none (some 1) true, .upgrade] ∧
    ¬ Protocol.accepts [.connStart, .uriLog none, .handler .first 0 0 0 none (some 1) true, .queued, .upgrade,
                        .handler .final 0 0 0 (some 1) (some 1) true] ∧
    ¬ Protocol.accepts [.connStart, .uriLog none, .handler .first 0 0 0 none (some 1) true, .queued, .interimSent,
                        .interimSent] ∧
    -- the `upgraded` flag: no second upgrade callback, no interim continuation after the upgrade
    ¬ Protocol.accepts [.connStart, .uriLog none, .handler .first 0 0 0 none (some 1) true, .queued, .upgrade, .upgrade] ∧
    ¬ Protocol.accepts [.connStart, .uriLog none, .handler .first 0 0 0 none (some 1) true, .queued, .upgrade, .interimSent] ∧
    Protocol.accepts [.connStart, .uriLog none, .handler .first 0 0 0 none (some 1) true, .queued, .upgrade,
                      .completed 0 (some 1), .connClose] := by decide

example : ∀ e ∈ ([.start, .idle { timedOut := true, noSpace := true, chunkExt := true, errAllocFail := true,
                                  errHdrFail1 := true, epollAdd := some false }, .cleanup] : List Ev), EvOk {} e :=
  fun e _ => evOk_of_fixed {} rfl rfl rfl ⟨rfl, rfl⟩ e

end Mhd.C05
