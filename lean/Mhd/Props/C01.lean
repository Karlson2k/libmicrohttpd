/-
  C01 — Memory safety for every client byte stream (model-level part).

  What is proved here: the *buffer layer* of connection.c — the functions that
  place and move the read and write windows inside the connection arena
  (MHD_connection_alloc_memory_, try_grow_read_buffer, connection_shrink_read_buffer,
  connection_maximize_write_buffer, the parsers' consume step, the end-of-headers
  shift-back, the receive step, connection_reset's pool reset and the two buffer
  releases of the error path) — keeps both windows inside the arena, below the
  back-allocated region, with ordered cursors and without overlap, for EVERY
  sequence of these operations with EVERY argument (illegal uses are refused by
  the model exactly where the state machine never performs them; the harness
  follows the same discipline).  The receive step may only write
  `[rb + rbOff, rb + rbOff + k)` with `k ≤ rbSize − rbOff`, hence inside the window.

  What this composes with: C08 (the pool hands out in-bounds, disjoint blocks),
  C02/C03 (the parsers index only inside the window they are given).  What a
  theorem about the model cannot exhibit — a wild pointer in the C that the model
  does not have — is covered by the correspondence runs under ASan/UBSan
  (tools/props/C01.py), evaluated on every case.
-/
import Mhd.Proofs.ConnMem
import Mhd.Proofs.ConnRead
import Mhd.Props.C02
import Mhd.Props.C08

namespace Mhd.C01
open Mhd.ConnMem
open Mhd.Pool (A W)

/-- every operation preserves the buffer-layer invariant … -/
theorem step_wf (c : CM) (o : Op) (h : CMInv c) (ho : o.Valid) : CMInv (step c o).1 :=
  Mhd.ConnMem.step_cminv c o h

/-- … so it holds after every operation sequence from the initial connection state
    (any arena size, any configured pool size ≤ arena, any increment) -/
theorem run_wf (allocSize poolSize inc : Nat) (ha : allocSize % A = 0) (hs : allocSize < 2 ^ 62)
    (hp : poolSize ≤ allocSize) (ops : List Op) (ho : ∀ o ∈ ops, o.Valid) :
    CMInv (run (init allocSize poolSize inc) ops) :=
  Mhd.ConnMem.run_inv _ ops (Mhd.ConnMem.init_inv allocSize poolSize inc ha hs hp) ho

/-- In every reachable state both windows lie inside the arena (below `pos ≤ end_ ≤ size`),
    fills are within sizes, and the read and write windows do not overlap. -/
theorem windows_inside_arena (allocSize poolSize inc : Nat) (ha : allocSize % A = 0)
    (hs : allocSize < 2 ^ 62) (hp : poolSize ≤ allocSize) (ops : List Op) (ho : ∀ o ∈ ops, o.Valid) :
    WindowsInside (run (init allocSize poolSize inc) ops) :=
  Mhd.ConnMem.windows_of_inv _ (run_wf allocSize poolSize inc ha hs hp ops ho)

/-- The bytes a receive step writes are inside the read window, hence inside the arena. -/
theorem recv_writes_inside (c : CM) (k : Nat) (h : CMInv c) (r : Nat) (hb : c.rb = some r)
    (hok : (step c (.recv k)).2 = .ok) :
    r + c.rbOff + k ≤ r + c.rbSize ∧ r + c.rbSize ≤ c.p.pos ∧ c.p.pos ≤ c.p.size := by
  have w := Mhd.ConnMem.windows_of_inv c h
  have hk : k ≤ c.rbSize - c.rbOff := by
    simp only [step] at hok
    split at hok
    · rename_i hc; exact hc.2.2
    · simp at hok
  have := w.2.2.2.2.2.1 r hb
  exact ⟨by have := w.2.2.1; omega, this, by have := w.1; have := w.2.1; omega⟩

/-! Composition with the request-head parsers (C02) and the pool (C08).

The buffer layer above hands the parsers a window `[rb, rb + rbSize)` that lies inside the arena; the
parsers — byte-accurate models with *checked* access, where every out-of-window index is an explicit
`fault` — never fault inside the window they are given, for every strictness level, every buffer
content, every read position and every segmentation of the client's bytes (C02); and the blocks the
pool hands out are in bounds and pairwise disjoint (C08).  The three statements together are the
model-level content of "no out-of-bounds access for any client byte stream"; they are collected here
so that C01's audit depends on all of them. -/

/-- request-line parser: no access outside the received bytes, any level, any segmentation -/
theorem reqline_parser_no_fault (lvl : Int) (buf : Mhd.Req.Bytes) (rb : Nat) (h : rb ≤ buf.size)
    (chunks : List Mhd.Req.Bytes) (f : Mhd.Req.Fault) :
    let sc := Mhd.Req.rlScanner (Mhd.Req.RLFlags.ofLevel lvl)
    sc.feedAll (sc.run (Mhd.Req.RL.init buf rb)) chunks ≠ .fault f :=
  Mhd.C02.reqline_no_fault lvl buf rb h chunks f

/-- header-section parser incl. the end-of-headers shift-back: no fault, any level, any segmentation -/
theorem field_parser_no_fault (lvl : Int) (fieldStart : Nat) (s : Mhd.Req.HS) (hs : Mhd.Req.HSP.Inv s)
    (chunks : List Mhd.Req.Bytes) (f : Mhd.Req.Fault) :
    let sc := Mhd.Req.hsScanner (Mhd.Req.FLFlags.ofLevel lvl) fieldStart
    sc.feedAll (sc.run s) chunks ≠ .fault f :=
  Mhd.C02.field_no_fault lvl fieldStart s hs chunks f

/-- pool: every reachable pool state is well-formed (blocks in bounds, aligned, pairwise disjoint) -/
theorem pool_blocks_wf (allocSize : Nat) (ha : allocSize % A = 0) (hs : allocSize < 2 ^ 62)
    (ops : List Mhd.Pool.Op) (ho : ∀ o ∈ ops, o.Valid) :
    Mhd.Pool.WF (Mhd.Pool.run (Mhd.Pool.St.init allocSize) ops) :=
  Mhd.C08.run_wf allocSize ha hs ops ho

/-- Non-vacuity: a concrete history (receive, consume a line, shift back, steal for an
    allocation, switch to sending, build the write buffer, reset for the next request)
    satisfies the hypotheses and ends in a state with both buffers in use earlier. -/
example : WindowsInside (run (init 1024 1024 64)
    [.recv 300, .consume 120, .shiftBack 4, .grow true, .alloc 40, .shrinkRead, .maxWrite, .wAppend 90,
     .wSend 90, .resetConn, .recv 10]) := by
  apply windows_inside_arena <;> simp [A, Mhd.Gen.Pool.alignSize, Op.Valid, W]

/-! Composition: the request-receiving half of a connection on ONE arena (`Mhd.ConnRead`).

`ConnRead` runs the buffer layer above, the request-head parsers of C02 and the chunk decoder of C03 on
the same arena (`cm.p.mem`): received bytes are stored at `read_buffer + read_buffer_offset`, the idle loop
runs `get_request_line` (`rlScanner`, `processRequestTarget`), `get_req_headers` (`hsStep`, incl. the
shift-back), `process_request_body` (identity and chunked: `chunkAct` on the window contents, the
application takes what the take pattern says, the rest is moved to the window start), the footers
through the same header scanner, `check_and_grow_read_buffer_space`, and — the reply taken as sent —
`connection_reset` with keep-alive (pool reset keeping the read-ahead), after which the next pipelined
request is parsed from the arena base.  Every change of the window is an operation of the buffer layer
(`consume`, `alloc` per request element, `shiftBack`, `bodyDrop`, `grow`, `shrinkRead`, `resetConn`,
`errRelease`).  A parser access outside the buffer it is given is the phase `fault`, an operation the
buffer layer refuses is the phase `refused`.  The theorems hold for every arena size, every pool
size / increment, every strictness level, every list of chunks (every byte stream × every segmentation,
the empty chunk being an idle round without data) and every `Cfg`: every framing decision of
`parse_connection_headers`, every keep-alive decision, and every behaviour of the access handler the API
permits as far as the buffers are concerned — first call: go on / early reply / MHD_NO; every upload call:
any number of bytes taken or MHD_NO; final call: reply / MHD_NO; `Expect: 100-continue`. -/

open Mhd.ConnRead in
/-- **(1) no fault, no refused operation, windows inside the arena — for every client byte stream,
    over whole pipelined request sequences.**
    The proof establishes, state by state, the precondition of the parser that runs next
    (`RLInvX` for the request line — also for the request line that starts in the read-ahead after a
    reset —, `RLPost` ⇒ `processRequestTarget_no_fault`, `HSP.Inv`/`Inv2` at the start of and during
    the header section, `HSP.Inv` for the footers, the chunk decoder's "at most the available bytes"),
    and that each operation the parsers trigger is accepted by the buffer layer (`Mhd.ConnRead.Safe`). -/
theorem connread_no_fault (cfg : Mhd.ConnRead.Cfg) (allocSize poolSize inc : Nat) (lvl : Int) (ha : allocSize % A = 0)
    (hs : allocSize < 2 ^ 62) (hp : poolSize ≤ allocSize) (chunks : List (List UInt8)) :
    let x := Mhd.ConnRead.run cfg (Mhd.ConnRead.init allocSize poolSize inc lvl) chunks
    (∀ f, x.phase ≠ .fault f) ∧ (∀ n, x.phase ≠ .refused n) ∧ WindowsInside x.cm := by
  intro x
  have h := run_init_safe cfg allocSize poolSize inc lvl ha hs hp chunks
  exact ⟨(safe_not_faulty h).1, (safe_not_faulty h).2, Mhd.ConnMem.windows_of_inv _ (safe_cminv h)⟩

open Mhd.ConnRead in
/-- **(2) the bytes the parsers may touch.**  In every phase that carries a buffer (request line,
    headers, body, footers, …) that buffer is exactly the arena prefix `[0, read_buffer +
    read_buffer_offset)`: it ends at the end of the received data, inside the read window
    `[read_buffer, read_buffer + read_buffer_size)`, which lies below `pos ≤ size`; the read block
    starts at the arena base (`rbBase = 0`).  The parsers' accessors fault on every index `≥ buf.size`
    (the chunk decoder is handed exactly the window contents) and by (1) no fault occurs, so every
    index read or written is `< read_buffer + read_buffer_offset ≤ size`. -/
theorem connread_parser_view_inside (cfg : Mhd.ConnRead.Cfg) (allocSize poolSize inc : Nat) (lvl : Int)
    (ha : allocSize % A = 0) (hs : allocSize < 2 ^ 62) (hp : poolSize ≤ allocSize) (chunks : List (List UInt8)) :
    let x := Mhd.ConnRead.run cfg (Mhd.ConnRead.init allocSize poolSize inc lvl) chunks
    ∀ buf r, x.phase.view? = some (buf, r) →
      x.cm.rb = some r ∧ x.cm.rbBase = 0 ∧ buf.size = r + x.cm.rbOff ∧ x.cm.rbOff ≤ x.cm.rbSize ∧
      r + x.cm.rbSize ≤ x.cm.p.pos ∧ x.cm.p.pos ≤ x.cm.p.size := by
  intro x buf r hv
  exact safe_view (run_init_safe cfg allocSize poolSize inc lvl ha hs hp chunks) buf r hv

open Mhd.ConnRead in
/-- **(3) never stuck with a full buffer.**  After every chunk, a connection that is going to read
    (MHD_EVENT_LOOP_INFO_READ) has free space in its read window: when the window is full and nothing
    could be processed, `check_and_grow_read_buffer_space` either really enlarged it, or handed the
    turn to the application (body data it has not taken yet: PROCESS only), or moved the connection
    to the error phase (reply 413/414/431 + close).  Rests on the guard `if (0 == small_inc)
    small_inc = 1` of `try_grow_read_buffer` (fix F32), whose presence is the regenerated behaviour
    probe `Mhd.Gen.ConnMem.growMinOne`: without it the proof obligation fails
    (see `grow_stuck_without_guard`). -/
theorem connread_full_buffer_is_error (cfg : Mhd.ConnRead.Cfg) (allocSize poolSize inc : Nat) (lvl : Int)
    (ha : allocSize % A = 0) (hs : allocSize < 2 ^ 62) (hp : poolSize ≤ allocSize) (hp2 : 2 ≤ poolSize)
    (chunks : List (List UInt8)) :
    let x := Mhd.ConnRead.run cfg (Mhd.ConnRead.init allocSize poolSize inc lvl) chunks
    x.wantsRead = true → x.cm.rbOff < x.cm.rbSize := by
  intro x
  exact run_init_live cfg allocSize poolSize inc lvl ha hs hp hp2 chunks

/-- a configuration for the examples: the framing decision is given directly, keep-alive, the application
    takes at most 2 bytes per call -/
def exCfg (fr : Mhd.ConnRead.Framing) : Mhd.ConnRead.Cfg :=
  { frame := fun _ _ => fr, keepAlive := fun _ _ => true, take := fun _ _ => 2 }

/-- Non-vacuity, stage 1: a complete head at level 0 on a 1024-byte arena, in three chunks
    (`GET /a?x=1 HTT`, `P/1.1\r\nHost: h\r\nA: `, `b\r\n\r\nXY`), framing decision "stop": the run ends in
    HEADERS_RECEIVED with three elements, the window moved back by 3 bytes over the header tail, two
    unread bytes in it.  (`decide +kernel`: the composed model is evaluated by the kernel — a test of the
    example, not a proof step of any theorem.) -/
example :
    (let x := Mhd.ConnRead.run (exCfg .stop) (Mhd.ConnRead.init 1024 1024 64 0)
        [[71, 69, 84, 32, 47, 97, 63, 120, 61, 49, 32, 72, 84, 84],
         [80, 47, 49, 46, 49, 13, 10, 72, 111, 115, 116, 58, 32, 104, 13, 10, 65, 58, 32],
         [98, 13, 10, 13, 10, 88, 89]]
     match x.phase with
     | .headersDone h _ => (h.elems.length, h.shifted, x.cm.rb, x.cm.rbOff) == (3, 3, some 35, 2)
     | _ => false) = true := by decide +kernel

/-- Non-vacuity, stage 2 (identity body): `P / HTTP/1.1\r\n\r\n` + `abcde` + `XY`, Content-Length 5, the
    application takes 2 bytes per call: after the first chunk (head + `abc`) one byte waits in the
    window; two idle rounds and the rest later the request is complete and — keep-alive — the
    connection is reset with the read-ahead `XY` at the arena base as the start of the next request. -/
example :
    (let x := Mhd.ConnRead.run (exCfg (.len 5)) (Mhd.ConnRead.init 256 256 16 0)
        [[80, 32, 47, 32, 72, 84, 84, 80, 47, 49, 46, 49, 13, 10, 13, 10, 97, 98, 99], [], [100, 101, 88, 89], [], []]
     match x.phase with
     | .reqLine s => (s.buf.toList, x.cm.rb, x.cm.rbOff, x.cm.rbSize) == ([88, 89], some 0, 2, 128)
     | _ => false) = true := by decide +kernel

/-- Non-vacuity, stage 2 (chunked body + trailer): `3\r\nabc\r\n0\r\nT: v\r\n\r\n` after the head, then a second
    pipelined request line start `GET`: the chunks are decoded inside the window, the footer line goes
    through the header scanner, the connection is reset and `GET` is the read-ahead. -/
example :
    (let x := Mhd.ConnRead.run (exCfg .chunked) (Mhd.ConnRead.init 256 256 16 0)
        [[80, 32, 47, 32, 72, 84, 84, 80, 47, 49, 46, 49, 13, 10, 13, 10, 51, 13, 10, 97, 98],
         [99, 13, 10, 48, 13, 10, 84, 58, 32, 118, 13, 10, 13, 10, 71, 69, 84], [], []]
     match x.phase with
     | .reqLine s => (s.buf.toList, x.cm.rbOff) == ([71, 69, 84], 3)
     | _ => false) = true := by decide +kernel

/-- Non-vacuity, handler outcomes: (a) MHD_NO from the second upload call in the middle of a body: the connection
    is closed at once, no buffer operation follows; (b) a reply queued by the first call: the body is never
    read, closed after the reply; (c) `Expect: 100-continue` with an empty read buffer: CONTINUE_SENDING, then
    the body is received. -/
example :
    (let head : List UInt8 := [80, 32, 47, 32, 72, 84, 84, 80, 47, 49, 46, 49, 13, 10, 13, 10]
     let cfgNo : Mhd.ConnRead.Cfg := { exCfg (.len 9) with refuse := fun k => k != 1 }
     let cfgEarly : Mhd.ConnRead.Cfg := { exCfg (.len 9) with first := fun _ _ => .reply }
     let cfg100 : Mhd.ConnRead.Cfg := { exCfg (.len 3) with expect100 := fun _ _ => true }
     let a := Mhd.ConnRead.run cfgNo (Mhd.ConnRead.init 256 256 16 0) [head ++ [97, 98, 99, 100], []]
     let b := Mhd.ConnRead.run cfgEarly (Mhd.ConnRead.init 256 256 16 0) [head ++ [97, 98, 99, 100]]
     let c1 := Mhd.ConnRead.run cfg100 (Mhd.ConnRead.init 256 256 16 0) [head]
     let c2 := Mhd.ConnRead.run cfg100 (Mhd.ConnRead.init 256 256 16 0) [head, [], [97, 98]]
     (match a.phase with | .error .closed => true | _ => false) &&
     (match b.phase with | .error .closed => true | _ => false) &&
     (match c1.phase with | .cont100 _ => !c1.wantsRead | _ => false) &&
     (match c2.phase with | .body bd => bd.remaining == 1 | _ => false)) = true := by decide +kernel

/-- Non-vacuity of the error outcome: a request line longer than anything the 64-byte arena can
    hold ends in the error phase `noSpace` (reply + close), not in a stuck state. -/
example :
    (let x := Mhd.ConnRead.run (exCfg .none) (Mhd.ConnRead.init 64 64 16 0) [List.replicate 200 65]
     match x.phase with
     | .error .noSpace => true
     | _ => false) = true := by decide +kernel

open Mhd.ConnRead in
/-- **(2b) one arena.**  In every state of every run (whole pipelined sequences, every handler behaviour) the
    buffer the phase carries — what the parsers of C02 and the chunk decoder of C03 work on — is exactly the
    arena prefix `mem[0, read_buffer + read_buffer_offset)`, and the arena has the size of the pool: the
    parsers and the buffer layer really work on the same bytes. -/
theorem connread_one_arena (cfg : Mhd.ConnRead.Cfg) (allocSize poolSize inc : Nat) (lvl : Int) (ha : allocSize % A = 0)
    (hs : allocSize < 2 ^ 62) (hp : poolSize ≤ allocSize) (chunks : List (List UInt8)) :
    let x := Mhd.ConnRead.run cfg (Mhd.ConnRead.init allocSize poolSize inc lvl) chunks
    ∀ b r, x.phase.view? = some (b, r) →
      x.cm.p.mem.length = x.cm.p.size ∧ x.cm.p.mem.take b.size = b.toList := by
  intro x
  exact safe_one_arena (run_init_safe cfg allocSize poolSize inc lvl ha hs hp chunks)

/-- Non-vacuity of (2b): after a complete request with a 5-byte body and the reset, the read-ahead `XY` is at the
    arena base. -/
example :
    (let x := Mhd.ConnRead.run (exCfg (.len 5)) (Mhd.ConnRead.init 256 256 16 0)
        [[80, 32, 47, 32, 72, 84, 84, 80, 47, 49, 46, 49, 13, 10, 13, 10, 97, 98, 99], [], [100, 101, 88, 89], [], []]
     x.cm.p.mem.take 2 == [88, 89] && (x.phase.view?.map (·.1.toList)) == some [88, 89]) = true := by decide +kernel

open Mhd.ConnRead in
/-- **(2c) the body / chunk decoder reads below the fill level only.**  In every state of every run in the
    body phase, what `process_request_body`'s decoder is handed (`Body.window`) is exactly the received bytes
    `[read_buffer, read_buffer + read_buffer_offset)` of the arena prefix: its length is `read_buffer_offset`,
    its `k`-th byte is the arena byte `read_buffer + k`, and the arena prefix ends there — no byte behind the
    fill level (stale remnants of earlier payload) is visible to it.  `body_decoder_within_window` adds that
    no decision of the decoder loop advances beyond the window. -/
theorem connread_reads_below_fill (cfg : Mhd.ConnRead.Cfg) (allocSize poolSize inc : Nat) (lvl : Int)
    (ha : allocSize % A = 0) (hs : allocSize < 2 ^ 62) (hp : poolSize ≤ allocSize) (chunks : List (List UInt8)) :
    let x := Mhd.ConnRead.run cfg (Mhd.ConnRead.init allocSize poolSize inc lvl) chunks
    ∀ b, x.phase = .body b →
      b.window.length = x.cm.rbOff ∧ b.buf.size = b.rb + x.cm.rbOff ∧
      ∀ k, k < x.cm.rbOff → b.window[k]? = b.buf[b.rb + k]? := by
  intro x b hb
  exact body_window (run_init_safe cfg allocSize poolSize inc lvl ha hs hp chunks) b hb

open Mhd.ConnRead in
/-- the decoder loop on a window `w`: whatever the chunk decoder decides (chunk terminator, size line,
    payload), `buffer_head` stays inside the window — the explicit `overrun` result is unreachable and the
    final `buffer_head − read_buffer` is at most `|w|` (so `available` never wraps) -/
theorem body_decoder_within_window (lvl : Int) (take : Nat → Nat → Option Nat) (chunked : Bool) (w : List UInt8)
    (fuel : Nat) (s : BL) (h : s.head ≤ w.length) :
    (∀ n, bodyLoop lvl take chunked w fuel s ≠ .overrun n) ∧
    (∀ s', bodyLoop lvl take chunked w fuel s = .ok s' → s'.head ≤ w.length) :=
  bodyLoop_ok lvl take chunked w fuel s h

/-- Non-vacuity of (2c) and of the split chunk terminator: `3 CRLF abc CR` | `LF 0 CRLF CRLF`, the first read
    ends between CR and LF of the chunk terminator: the decoder waits with the CR in the window (1 byte), the
    next read completes the request. -/
example :
    (let x := Mhd.ConnRead.run (exCfg .chunked) (Mhd.ConnRead.init 256 256 16 0)
        [[80, 32, 47, 32, 72, 84, 84, 80, 47, 49, 46, 49, 13, 10, 13, 10, 51, 13, 10, 97, 98, 99, 13], [], []]
     match x.phase with
     | .body b => (b.window, b.cur, b.off) == ([13], 3, 3)
     | _ => false) = true := by decide +kernel

open Mhd.ConnRead in
/-- **internal look-ups consult header-kind elements only.**  The keep-alive decision (`keepalive_possible`:
    tokens `close` / `Keep-Alive` of the request's `Connection` field) and the framing decision
    (`parse_connection_headers`: Host, Transfer-Encoding, Content-Length, Cookie) and `need_100_continue`
    (Expect) of the standard configuration are functions of the elements of kind MHD_HEADER_KIND alone: query arguments (with or
    without value), cookies or trailers named like these fields cannot influence them. -/
theorem internal_lookups_header_kind_only (lvl : Int) (pat : List (Option Nat)) (f : HRes) (l : Bool)
    (buf : Mhd.Req.Bytes) (rq : Rq) :
    let hdrOnly : Rq := { rq with elems := rq.elems.filter (fun e => e.kind == Mhd.Gen.Http.kindHeader) }
    (mkCfg lvl pat f l).keepAlive buf rq = (mkCfg lvl pat f l).keepAlive buf hdrOnly ∧
    (mkCfg lvl pat f l).frame buf rq = (mkCfg lvl pat f l).frame buf hdrOnly ∧
    (mkCfg lvl pat f l).expect100 buf rq = (mkCfg lvl pat f l).expect100 buf hdrOnly := by
  simp only [mkCfg]
  rw [← fieldsOf_filter]
  exact ⟨rfl, rfl, rfl⟩

/-- Non-vacuity: `GET /?Connection HTTP/1.1` + `Connection: close`: the valueless query argument named
    `Connection` is in the element list (kind GET_ARGUMENT, value NULL) but the decision comes from the
    header field: the connection is closed after the reply. -/
example :
    (let x := Mhd.ConnRead.run (Mhd.ConnRead.mkCfg 0 []) (Mhd.ConnRead.init 512 512 16 0)
        [[71, 69, 84, 32, 47, 63, 67, 111, 110, 110, 101, 99, 116, 105, 111, 110, 32, 72, 84, 84, 80, 47, 49, 46, 49, 13, 10,
          72, 111, 115, 116, 58, 32, 104, 13, 10,
          67, 111, 110, 110, 101, 99, 116, 105, 111, 110, 58, 32, 99, 108, 111, 115, 101, 13, 10, 13, 10]]
     match x.phase with
     | .error .closed => true
     | _ => false) = true := by decide +kernel

/-- **Witness for the guard (3) rests on** (defect F32 in `try_grow_read_buffer`, liveness only): in the variant
    of the code WITHOUT `if (0 == small_inc) small_inc = 1` (`growSizeG false`), with `pool_increment = 7` on a
    64-byte arena and a full 32-byte window (32 bytes of the pool still free), the mandatory grow computes a
    "new" size equal to the old one — `small_inc = 7 / 8 = 0` — and reports success; the connection then waits
    for data with a full buffer until it times out.  With the guard the new size is 33. -/
theorem grow_stuck_without_guard :
    (let c := (step (init 64 64 7) (.recv 32)).1
     (c.rbOff, c.rbSize, growSizeG false c true, growSizeG true c true)) = (32, 32, some 32, some 33) := by decide +kernel

/-- the same 32 bytes through the composed model of the code as it is: the window grows, the connection keeps
    reading with one free byte -/
example :
    (let x := Mhd.ConnRead.run (exCfg .none) (Mhd.ConnRead.init 64 64 7 0) [List.replicate 32 65]
     (x.reading, x.cm.rbOff, x.cm.rbSize)) = (true, 32, 33) := by decide +kernel

end Mhd.C01
