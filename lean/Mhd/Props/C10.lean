/-
  C10 — Inactivity timeouts and the sleep hint are exact.

  Where a statement is an instance of a more general lemma of `Mhd.Proofs.Tmo*` its proof is that instance;
  where it is the natural statement itself, the proof stands here.  The model (`Mhd.Model.Tmo`, `TmoLoop`) mirrors
  connection_check_timedout, connection_get_wait, MHD_update_last_activity_,
  MHD_set_connection_option(TIMEOUT), internal_suspend_connection_, resume_suspended_connections,
  new_connection_process_, cleanup_connection, MHD_get_timeout64 and the timeout scans of the
  select and epoll loops.  The clock of a history is an arbitrary sequence of forward and backward
  steps; the ghost field `back` of the model is the distance of the clock from the highest value it has
  shown so far (`clock_displacement`, `clock_highWater`) and "small backward jumps" means
  `back ≤ jumpBackLimit` (5000 ms, the tolerance of `connection_check_timedout`) in the state considered.
  Idle time is measured on the clock: `now - last_activity`, 0 while the clock is behind the stamp.
  `Variant.current` is regenerated from the tree under test on every run
  (behaviour probes on the real code); the history theorems hold for the repaired behaviour and
  `current_is_repaired` is the obligation that fails on a tree without the repairs.
  The `asIs_*` theorems are kernel-checked witnesses of what the unrepaired code does.
-/
import Mhd.Proofs.TmoSend
import Mhd.Proofs.TmoPend
import Mhd.Proofs.TmoClock
import Mhd.Proofs.TmoComplete
import Mhd.Proofs.TmoHint
import Mhd.Proofs.TmoConv

namespace Mhd.C10
open Mhd.Tmo Mhd.Gen.Tmo

theorem current_is_repaired : Fixed Variant.current := ⟨rfl, rfl, rfl, rfl, rfl⟩

/-- Exactness of `connection_check_timedout`: with a stamp that is not in the future, a connection is
    closed for timeout iff it is not suspended, has a timeout, and has been idle for MORE than it. -/
theorem closeDecision_exact (now : Nat) (c : Conn) (h1 : c.la ≤ now) (h2 : now < 2 ^ 63) :
    checkTimedOut now c = true ↔ c.suspended = false ∧ c.tmo ≠ 0 ∧ c.tmo < now - c.la :=
  checkTimedOut_iff now c h1 h2

/-- Suspended connections never time out (any clock value, any stamp). -/
theorem suspended_never_timedOut (now : Nat) (c : Conn) (h : c.suspended = true) : checkTimedOut now c = false :=
  checkTimedOut_suspended now c h

/-- Timeout 0 means no timeout. -/
theorem zero_means_none (now : Nat) (c : Conn) (h : c.tmo = 0) : checkTimedOut now c = false :=
  checkTimedOut_noTimeout now c h

/-- `connection_get_wait` and `connection_check_timedout` agree for every input, wrapped or not:
    the wait is 0 exactly when the connection is to be closed. -/
theorem wait_in_sync_with_close (now : Nat) (c : Conn) (hs : c.suspended = false) (h0 : c.tmo ≠ 0) :
    getWait now c = 0 ↔ checkTimedOut now c = true := by
  -- the source asks for it: "Keep the next lines in sync with #connection_get_wait()" in connection_check_timedout
  unfold getWait checkTimedOut
  simp only [hs, h0, granularity]
  by_cases a : c.tmo < sub64 now c.la
  · by_cases b : halfRange < sub64 now c.la
    · by_cases d : sub64 c.la now ≤ jumpBackLimit <;> simp [a, b, d]
    · simp [a, b]
  · by_cases e : sub64 now c.la = c.tmo
    · simp [e]
    · simp [a, e]; omega

/-- The wait never exceeds the time to the deadline plus the granularity; it is 0 after the deadline
    and exactly the remaining time before it. -/
theorem wait_bound (now : Nat) (c : Conn) (h1 : c.la ≤ now) (h2 : now < 2 ^ 63) :
    getWait now c ≤ (c.la + c.tmo - now) + granularity ∧
    (c.la + c.tmo < now → getWait now c = 0) ∧
    (now < c.la + c.tmo → getWait now c = c.la + c.tmo - now) :=
  getWait_bound now c h1 h2

/-- Backward clock jump of at most `jumpBackLimit` (5000 ms): not a timeout … -/
theorem jumpBack_tolerated (now : Nat) (c : Conn) (h1 : now < c.la) (h2 : c.la - now ≤ jumpBackLimit)
    (hla : c.la < W) (ht : c.tmo < 2 ^ 63) : checkTimedOut now c = false :=
  checkTimedOut_jumpBack now c h1 h2 hla ht

/-- … and the hint for that connection is the granularity (100 ms). -/
theorem jumpBack_wait (now : Nat) (c : Conn) (h1 : now < c.la) (h2 : c.la - now ≤ jumpBackLimit)
    (hla : c.la < W) (ht : c.tmo < 2 ^ 63) : getWait now c = granularity :=
  getWait_jumpBack now c h1 h2 hla ht

/-- A larger backward jump is treated as a timeout (the rule the code implements). -/
theorem bigJumpBack_closes (now : Nat) (c : Conn) (h1 : now < c.la) (h2 : jumpBackLimit < c.la - now)
    (h3 : c.la - now < 2 ^ 62) (hla : c.la < W) (ht : c.tmo < 2 ^ 62) (hs0 : c.suspended = false)
    (h0 : c.tmo ≠ 0) : checkTimedOut now c = true :=
  checkTimedOut_bigJumpBack now c h1 h2 h3 hla (Nat.lt_trans ht (by decide)) hs0 h0

/-- The close decision is exact also while the clock is up to `jumpBackLimit` behind the stamp: the idle
    time measured on the clock is then 0 and the connection is not closed. -/
theorem closeDecision_exact_smallJump (now : Nat) (c : Conn) (h1 : c.la ≤ now + jumpBackLimit) (h2 : now < 2 ^ 62)
    (ht : c.tmo < 2 ^ 63) :
    checkTimedOut now c = true ↔ c.suspended = false ∧ c.tmo ≠ 0 ∧ c.tmo < now - c.la :=
  checkTimedOut_iff_jump now c h1 h2 ht

/-- Clock reading and displacement after a history are determined by the clock operations of the
    history alone (forward steps, backward steps; a backward step below 0 is skipped) … -/
theorem clock_displacement (cfg : Cfg) (ops : List Op) :
    let d := run Variant.current (Daemon.init cfg) ops
    (d.now, d.back) = ops.foldl clockStep (clock0, 0) :=
  run_clock Variant.current ops (Daemon.init cfg)

/-- … and `now + back` is the running maximum of the clock: `back` is how far the clock is behind the
    highest value it has shown. -/
theorem clock_highWater (p : Nat × Nat) (o : Op) :
    (clockStep p o).1 + (clockStep p o).2 = max (p.1 + p.2) (clockStep p o).1 := by
  cases o with
  | tick ms => simp only [clockStep]; omega
  | tickback ms => simp only [clockStep]; split <;> omega
  | _ => exact (Nat.max_eq_left (Nat.le_add_right _ _)).symm

/-- The bookkeeping invariant (no list corruption, list membership consistent with timeout values and
    suspended flags, no stamp beyond the highest clock value shown, default-timeout list ordered by last
    activity) holds after every history of script operations — any length, any number of connections,
    both loops, the clock stepping forward and backward by any amounts. -/
theorem inv_reachable (cfg : Cfg) (hc : cfg.dtmo ≤ tmoMax) (ops : List Op) :
    Inv (run Variant.current (Daemon.init cfg) ops) :=
  inv_run current_is_repaired ops _ (inv_init cfg hc)

/-- `Sorted (≥) (normalList.map lastActivity)` in every reachable state (of a daemon that has a default
    timeout; without one the order of that list is never looked at) — whatever the clock does: every
    insertion of a connection stamped with the current time goes to its sorted position, which is the
    head unless the clock has stepped back. -/
theorem normalList_sorted (cfg : Cfg) (hc : cfg.dtmo ≤ tmoMax) (ops : List Op) :
    let d := run Variant.current (Daemon.init cfg) ops
    d.cfg.dtmo ≠ 0 → (d.normal.map d.la).Pairwise (· ≥ ·) := by
  intro d hd
  rw [List.pairwise_map]
  exact ((inv_reachable cfg hc ops).sorted hd).imp (fun hab => hab)

/-- No checked list operation ever fails (no `XDLL_remove` of an element that is not in the list). -/
theorem no_list_corruption (cfg : Cfg) (hc : cfg.dtmo ≤ tmoMax) (ops : List Op) :
    (run Variant.current (Daemon.init cfg) ops).fault = false :=
  (inv_reachable cfg hc ops).nofault

/-- No stamp lies beyond the highest value the clock has shown: with the clock at most `jumpBackLimit`
    behind that value every stamp is within the tolerance of `connection_check_timedout`. -/
theorem stamps_within_tolerance (cfg : Cfg) (hc : cfg.dtmo ≤ tmoMax) (ops : List Op) :
    let d := run Variant.current (Daemon.init cfg) ops
    d.back ≤ jumpBackLimit → ∀ i, (d.c i).la ≤ d.now + jumpBackLimit := by
  intro d hb i
  have : (d.c i).la ≤ d.now + d.back := (inv_reachable cfg hc ops).laLe i
  omega

/-- **Never closed while idle ≤ T, never while suspended.**  In every state reached by a history whose
    clock is — when the round begins — at most `jumpBackLimit` behind the highest value it has shown
    (forward steps of any size and backward steps in any number and at any position before that), for
    the select and the epoll loop alike: a connection that a round closes for timeout was — when the round
    began — not suspended, had a timeout T ≠ 0 and had been idle for more than T on the clock
    (`now - last_activity > T`; in particular the clock is past the stamp).  Connections that are
    read, resumed or started in that round are therefore not closed by it. -/
theorem round_closes_only_expired (cfg : Cfg) (hc : cfg.dtmo ≤ tmoMax) (ops : List Op) :
    let d := run Variant.current (Daemon.init cfg) ops
    d.now < 2 ^ 62 → d.back ≤ jumpBackLimit → ∀ i aware, Event.tmoClose i aware ∈ (round Variant.current d).2 →
      (d.c i).suspended = false ∧ (d.c i).tmo ≠ 0 ∧ (d.c i).tmo < d.now - (d.c i).la := by
  intro d hnow hback i aware hev
  exact ((inv_reachable cfg hc ops).expired_iff hnow hback i).1 ((sound_round Variant.current d).2 i aware hev).2.2

/-- The same for ANY state, clock value and code variant, in terms of the close decision:
    a round closes for timeout only what `connection_check_timedout` accepts for the pre-round state. -/
theorem round_sound_any_state (v : Variant) (d : Daemon) (i : Id) (aware : Bool)
    (h : Event.tmoClose i aware ∈ (round v d).2) :
    (d.c i).suspended = false ∧ (d.c i).tmo ≠ 0 ∧ checkTimedOut d.now (d.c i) = true :=
  (sound_round v d).2 i aware h

/-- Suspended connections are not closed for timeout by a round, not even the one that resumes them. -/
theorem suspended_not_closed_by_round (v : Variant) (d : Daemon) (i : Id) (aware : Bool)
    (hs : (d.c i).suspended = true) : Event.tmoClose i aware ∉ (round v d).2 := by
  intro h
  have := (round_sound_any_state v d i aware h).1
  rw [hs] at this; cases this

/-- **Closed in the first round after idle > T (epoll loop).**  In every reachable state of a daemon
    that runs the epoll loop, every live (started, not suspended) connection with timeout T ≠ 0 that has
    been idle for more than T is closed for timeout by the very next round — with
    MHD_REQUEST_TERMINATED_TIMEOUT_REACHED reported iff the application has seen the request.
    This is where the order of the default-timeout list is needed: the loop stops scanning at the first
    connection that is not expired. -/
theorem epoll_round_closes_every_expired (cfg : Cfg) (hc : cfg.dtmo ≤ tmoMax) (ops : List Op) :
    let d := run Variant.current (Daemon.init cfg) ops
    d.cfg.epoll = true → d.now < 2 ^ 62 → d.back ≤ jumpBackLimit → ∀ i, i ∈ d.conns → (d.c i).closed = false →
      (d.c i).tmo ≠ 0 → (d.c i).tmo < d.now - (d.c i).la →
      Event.tmoClose i (d.c i).aware ∈ (round Variant.current d).2 := by
  intro d he hnow hback i hi hcl h0 hidle
  have h : Inv d := inv_reachable cfg hc ops
  have ht := (h.expired_iff hnow hback i).2 ⟨h.connsS i hi, h0, hidle⟩
  unfold round
  simp only [he, if_true]
  exact roundEpoll_complete current_is_repaired h hnow hback i hi hcl ht

/-- **Closed in the first round after idle > T (select loop).**  For a select loop that saves
    `pos->prev` before it calls the handlers (`selectSavesPrev`, i.e. F10 repaired — the flag is probed on
    the real code on every run and is not part of C10): in every reachable state every live connection
    that has been idle for more than its timeout, whose socket has nothing to read (no unread data, the
    peer has not closed) and that is not sending a reply is closed for timeout by the very next round.
    (A connection with readable data is read first — that is activity; for a replying connection see
    `replying_without_progress_times_out`.) -/
theorem select_round_closes_every_expired (hsp : Variant.current.savePrev = true)
    (cfg : Cfg) (hc : cfg.dtmo ≤ tmoMax) (ops : List Op) :
    let d := run Variant.current (Daemon.init cfg) ops
    d.cfg.epoll = false → d.now < 2 ^ 62 → d.back ≤ jumpBackLimit → ∀ i, i ∈ d.conns → (d.c i).closed = false →
      (d.c i).unread = false → (d.c i).peerClosed = false → (d.c i).replying = false →
      (d.c i).tmo ≠ 0 → (d.c i).tmo < d.now - (d.c i).la →
      Event.tmoClose i (d.c i).aware ∈ (round Variant.current d).2 := by
  intro d he hnow hback i hi hcl hu hp hrep h0 hidle
  have h : Inv d := inv_reachable cfg hc ops
  have ht := (h.expired_iff hnow hback i).2 ⟨h.connsS i hi, h0, hidle⟩
  unfold round
  simp only [he, Bool.false_eq_true, if_false]
  exact roundSelect_complete current_is_repaired hsp h i hi hcl ⟨hu, hp⟩ hrep ht

/-- The manual-timeout list is scanned completely by the epoll loop: every expired member is closed
    (any state, any variant). -/
theorem manual_scan_closes_expired (d : Daemon) (i : Id) (hnd : d.manual.Nodup) (hi : i ∈ d.manual)
    (hc : (d.c i).closed = false) (ht : checkTimedOut d.now (d.c i) = true) :
    Event.tmoClose i (d.c i).aware ∈ (scanManual d.manual.reverse d).2 :=
  scanManual_complete _ d i hnd.reverse (List.mem_reverse.2 hi) hc ht

/- Full statement for the select loop (not proved, and false for the select loop of the tree as found — F10, owned by
   C06: `internal_run_from_select` reads `pos->prev` after `call_handlers`, so a connection that is
   cleaned up or suspended in a round ends the traversal of that round):
     every live expired connection whose socket is not readable is closed by the next select round.
   Proved here for BOTH ways of reading `pos->prev`: the traversal closes every expired connection in a
   round in which no socket is readable and no closed connection awaits its cleanup (then no connection
   leaves the list).  With F10 repaired the side condition is not needed: see
   `select_round_closes_every_expired` above. -/
theorem select_round_closes_expired_partial (v : Variant) (rs : List Id) (l : List Id) (d : Daemon) (i : Id)
    (hnd : l.Nodup) (hi : i ∈ l)
    (hquiet : ∀ j, j ∈ l → j ∈ d.conns ∧ (d.c j).closed = false ∧ rs.contains j = false ∧ (d.c j).replying = false)
    (ht : checkTimedOut d.now (d.c i) = true) :
    Event.tmoClose i (d.c i).aware ∈ (travSel v rs l d).2 :=
  travSel_reaches v rs l d i hnd hi (.inr hquiet) (hquiet i hi).2.1 (hquiet i hi).2.2.2 (hquiet i hi).2.2.1 ht

/-- An override takes effect immediately: the value is stored whether or not the connection is
    suspended … -/
theorem override_immediate (d : Daemon) (i : Id) (s : Nat) :
    ((setTimeout Variant.current d i s).c i).tmo = s * msPerSec :=
  setTimeout_tmo current_is_repaired.2.1 d i s

/-- … and a live connection is on the timeout list that is consulted for that value. -/
theorem override_list_migration (cfg : Cfg) (hc : cfg.dtmo ≤ tmoMax) (ops : List Op)
    (i : Id) (s : Nat) (hs : s ≤ 4000000) :
    let d := run Variant.current (Daemon.init cfg) ops
    i ∈ d.conns →
      (i ∈ (setTimeout Variant.current d i s).normal ↔ s * msPerSec = d.cfg.dtmo) ∧
      (i ∈ (setTimeout Variant.current d i s).manual ↔ s * msPerSec ≠ d.cfg.dtmo) := by
  intro d hi
  exact setTimeout_list current_is_repaired (inv_reachable cfg hc ops) i s hi (Nat.mul_le_mul_right _ hs)

/-- Resume restarts the timer. -/
theorem resume_restarts_timer (v : Variant) (d : Daemon) (i : Id) (hr : (d.c i).resuming = true) :
    ((resumeOne v d i).c i).suspended = false ∧ ((resumeOne v d i).c i).tmo = (d.c i).tmo ∧
    ((d.c i).tmo ≠ 0 → ((resumeOne v d i).c i).la = d.now) := by
  rw [resumeOne_eq v d i hr]
  exact ⟨by simp [resumedRec], by simp [resumedRec], fun h => by simp [resumedRec, h]⟩

/-- `hint ≤ earliestDeadline − now + 100 ms`, small backward clock jumps included: in every state whose
    clock is at most `jumpBackLimit` behind the highest value it has shown, for every connection in a
    timeout list that has a timeout, the hint does not exceed the time left to its deadline
    (`last_activity + T - now`) plus the granularity, and the hint is 0 once a deadline has passed. -/
theorem hint_le_earliest_deadline (cfg : Cfg) (hc : cfg.dtmo ≤ tmoMax) (ops : List Op) :
    let d := run Variant.current (Daemon.init cfg) ops
    d.now + jumpBackLimit < 2 ^ 62 → d.back ≤ jumpBackLimit → ∀ hh, hint Variant.current d = some hh →
      ∀ i, i ∈ d.normal ∨ i ∈ d.manual → (d.c i).tmo ≠ 0 →
        hh ≤ ((d.c i).la + (d.c i).tmo - d.now) + granularity ∧
        ((d.c i).la + (d.c i).tmo < d.now → hh = 0) := by
  intro d hnow hback hh heq i hi hti
  have hI : Inv d := inv_reachable cfg hc ops
  exact hint_bound current_is_repaired.2.2.2.1 hI (by omega) hback hh heq i hi hti

/-- `MHD_get_timeout64` answers "no timeout" only when nothing is pending and no connection in a
    timeout list has a timeout. -/
theorem hint_none_only_when_idle (cfg : Cfg) (hc : cfg.dtmo ≤ tmoMax) (ops : List Op) :
    let d := run Variant.current (Daemon.init cfg) ops
    d.now + d.back < 2 ^ 62 → hint Variant.current d = none →
      pending d = false ∧ ∀ i, i ∈ d.normal ∨ i ∈ d.manual → (d.c i).tmo = 0 := by
  intro d hnow heq
  exact hint_none current_is_repaired.2.2.2.1 (inv_reachable cfg hc ops) hnow heq

/-- The hint is 0 whenever work is already pending (data_already_pending, a non-empty cleanup list,
    a resume request, queued new connections, a non-empty eready list) — every state, every variant. -/
theorem hint_zero_when_pending (v : Variant) (d : Daemon) (hp : pending d = true) : hint v d = some 0 := by
  unfold hint; simp [hp]

/-- **Every send that makes progress restarts the timer** (the regenerated table of the call sites of
    `MHD_update_last_activity_`): in each of the five states in which `MHD_connection_handle_write` sends
    (100 Continue, header block, normal body, chunked body, footers) the call follows the send and no
    completion test (`check_write_done`, offset comparison) stands between them — a partial send counts. -/
theorem partial_send_is_activity :
    ∀ s, s ∈ sendStates → activitySites.any (fun t =>
      t.1 == "MHD_connection_handle_write" && t.2.1 == s && t.2.2.1 && t.2.2.2) = true := by
  decide +kernel

/-- … and so does every successful `recv`. -/
theorem recv_is_activity :
    activitySites.any (fun t => t.1 == "MHD_connection_handle_read" && t.2.2.1 && t.2.2.2) = true := by
  decide +kernel

/-- In the model: a replying connection whose socket takes more bytes in the round (a parameter of the
    round: any set of connections, so every pattern of partial sends) is stamped with the current time
    and is not closed for timeout by that `call_handlers` — however long it was idle before. -/
theorem send_progress_restarts_timer (v : Variant) (d : Daemon) (i : Id) (r : Bool)
    (hi : i ∈ d.normal ∨ (d.c i).tmo ≠ d.cfg.dtmo) (hc : (d.c i).closed = false) (hr : (d.c i).replying = true)
    (hs : (d.c i).suspended = false) (h0 : (d.c i).tmo ≠ 0) (hw : i ∈ d.wset) :
    ((writeStep v d i).1.c i).la = d.now ∧ ∀ a, Event.tmoClose i a ∉ (callHandlersSel0 v d i r).2 :=
  send_progress_is_activity v d i r hc hr hs h0 hw

/-- A replying connection without progress in the round is closed exactly like an idle one. -/
theorem replying_without_progress_times_out (v : Variant) (d : Daemon) (i : Id) (r : Bool)
    (hc : (d.c i).closed = false) (hr : (d.c i).replying = true) (hw : i ∉ d.wset) (hf : i ∉ d.fset)
    (ht : checkTimedOut d.now (d.c i) = true) :
    Event.tmoClose i (d.c i).aware ∈ (callHandlersSel0 v d i r).2 := by
  rw [callHandlersSel0_replying v d i r hc hr]
  have e : writeStep v d i = (d, []) := by
    unfold writeStep; simp [hw, hf]
  unfold seq2
  rw [e]
  exact List.mem_append_right _ (handleIdle_closes hc ht)

/-- a reply drained in pieces 4 s apart under a 10 s timeout: never closed; then 10001 ms without any
    progress: closed with the timeout code (the history theorems `inv_reachable`,
    `round_closes_only_expired`, `hint_le_earliest_deadline` quantify over such histories too) -/
theorem slow_reader_is_not_idle :
    let v : Variant := ⟨true, true, true, true, true, true, true⟩
    let ops : List Op := [.arrive 0, .round, .get 0 false, .round, .tick 4000, .roundw [0] [], .tick 4000, .roundw [0] [],
      .tick 4000, .roundw [0] [], .tick 4000, .roundw [0] []]
    let d := run v (Daemon.init ⟨false, 10000, true⟩) ops
    d.now = clock0 + 16000 ∧ (d.c 0).closed = false ∧ (d.c 0).la = d.now ∧ hint v d = some 10000 ∧
    (step v (run v d [.tick 10001]) .round).map (·.2) = some [Event.tmoClose 0 true] := by
  decide +kernel

/-- the tree under test only ever RAISES `data_already_pending` at the end of `call_handlers`
    (probed on the real code on every run: two connections, the older one left with unprocessed upload
    data, the younger one idle, select loop) -/
theorem current_accumulates_pending : Variant.current.pendAccum = true := rfl

/-- The end of `call_handlers`: the flag is raised for a connection in a PROCESS wait state, an already
    raised flag stays, no connection record is touched. -/
theorem pending_flag_only_raised (d : Daemon) (i : Id) :
    (notePending Variant.current d i).c = d.c ∧
    (procWait (d.c i) = true → (notePending Variant.current d i).dataPending = true) ∧
    (d.dataPending = true → (notePending Variant.current d i).dataPending = true) :=
  notePending_spec current_accumulates_pending d i

/-- **The sleep hint is zero whenever a connection handled in the round has work pending** — the real
    accumulation, connection by connection in traversal order: for the select loop (with `pos->prev`
    saved, F10 repaired), any state, any list of connections in any order, any set of readable sockets:
    after the traversal, if some traversed connection is in a PROCESS wait state (here: upload data the
    handler has left in the read buffer) then `MHD_get_timeout64` returns 0 — also when connections with
    nothing pending are handled after it. -/
theorem select_traversal_pending_hint_zero (hsp : Variant.current.savePrev = true) (rs l : List Id) (d : Daemon)
    (hnd : l.Nodup) (i : Id) (hi : i ∈ l)
    (hp : procWait ((travSel Variant.current rs l d).1.c i) = true) :
    hint Variant.current (travSel Variant.current rs l d).1 = some 0 := by
  have h := travSel_pending current_accumulates_pending hsp rs l d hnd i hi hp
  exact hint_zero_when_pending _ _ (by simp [pending, h])

/-- A flag that is already up survives the traversal. -/
theorem select_traversal_keeps_pending (hsp : Variant.current.savePrev = true) (rs l : List Id) (d : Daemon)
    (hnd : l.Nodup) (h : d.dataPending = true) : (travSel Variant.current rs l d).1.dataPending = true :=
  travSel_keeps current_accumulates_pending rs l d h

/-- two connections, the older one (0) gets four upload bytes and a handler that takes one per call -/
def pendHistory : List Op := [.arrive 0, .arrive 1, .round, .slow 0, .sendn 0 4, .round]

/-- the tree with `call_handlers` ASSIGNING the flag for every connection (seeded change C10_4) -/
def assignsPending : Variant := ⟨true, true, true, true, true, true, false⟩

/-- With the assignment, the idle connection 1 — handled after connection 0 — writes the flag back:
    three upload bytes wait in the read buffer of connection 0, no socket event will come, and the hint
    is the time to the next deadline. -/
theorem assigned_flag_is_cleared_by_idle_connection :
    let d := run assignsPending (Daemon.init ⟨false, 10000, true⟩) pendHistory
    (d.c 0).buf = 3 ∧ procWait (d.c 0) = true ∧ d.dataPending = false ∧ hint assignsPending d = some 10000 := by
  decide +kernel

/-- … whereas the accumulating form gives 0, in the select and in the epoll loop, for three rounds. -/
theorem accumulated_flag_gives_zero :
    let v : Variant := ⟨true, true, true, true, true, true, true⟩
    (∀ e, hint v (run v (Daemon.init ⟨e, 10000, true⟩) pendHistory) = some 0) ∧
    (∀ e, hint v (run v (Daemon.init ⟨e, 10000, true⟩) (pendHistory ++ [.round, .round])) = some 0) ∧
    (∀ e, hint v (run v (Daemon.init ⟨e, 10000, true⟩) (pendHistory ++ [.round, .round, .round])) = some 10000) := by
  decide +kernel

/-- No wrapper or loop-internal conversion of a hint `u` yields a wait longer than `u`, and none yields
    a negative one: MHD_get_timeout64s, MHD_get_timeout_i, get_timeout_millisec_ and
    get_timeout_millisec_int (cap `maxT`, -1 = none; used by MHD_poll_all and MHD_epoll), the poll timeout
    of thread_main_handle_connection. -/
theorem conversions_never_longer (u : Nat) (maxT : Int) (hm : -1 ≤ maxT) (hM : maxT ≤ intMax) :
    (0 ≤ getTimeout64s (some u) ∧ getTimeout64s (some u) ≤ u) ∧
    (0 ≤ getTimeoutI (some u) ∧ getTimeoutI (some u) ≤ u ∧ getTimeoutI (some u) ≤ intMax) ∧
    (0 ≤ getTimeoutMillisec (some u) maxT ∧ getTimeoutMillisec (some u) maxT ≤ u) ∧
    (0 ≤ getTimeoutMillisecInt (some u) maxT ∧ getTimeoutMillisecInt (some u) maxT ≤ u ∧
      getTimeoutMillisecInt (some u) maxT ≤ intMax ∧ (0 ≤ maxT → getTimeoutMillisecInt (some u) maxT ≤ maxT)) ∧
    (0 ≤ tpcPoll u ∧ tpcPoll u ≤ u ∧ tpcPoll u ≤ intMax) := by
  have a := getTimeout64s_spec u
  have b := getTimeoutI_spec u
  have c := getTimeoutMillisec_spec u maxT hm hM
  have e := getTimeoutMillisecInt_spec u maxT hm hM
  have f := tpcPoll_spec u
  exact ⟨⟨a.1, a.2.1⟩, ⟨b.1, b.2.1, b.2.2.1⟩, ⟨c.1, c.2.1⟩, ⟨e.1, e.2.1, e.2.2.1, e.2.2.2.1⟩, ⟨f.1, f.2.1, f.2.2.1⟩⟩

/-- The legacy wrappers are exact with respect to MHD_get_timeout64: `MHD_get_timeout` returns the same
    value (and MHD_NO together with it), `MHD_get_timeout64s` / `MHD_get_timeout_i` return it whenever it
    fits the type and -1 exactly for MHD_NO. -/
theorem legacy_wrappers_exact (u : Nat) (hu : u < W) :
    getTimeoutULL (some u) = some u ∧ getTimeoutULL none = none ∧
    ((u : Int) ≤ int64Max → getTimeout64s (some u) = u) ∧ getTimeout64s none = -1 ∧
    ((u : Int) ≤ intMax → getTimeoutI (some u) = u) ∧ getTimeoutI none = -1 :=
  ⟨getTimeoutULL_spec u hu, getTimeoutULL_none, (getTimeout64s_spec u).2.2.2, getTimeout64s_none,
   (getTimeoutI_spec u).2.2.2, getTimeoutI_none⟩

/-- The poll / epoll_wait timeout of the internal loops is the hint itself when it fits an `int` and no
    cap is lower, and the cap (or -1 = indefinitely) when there is no hint. -/
theorem loop_timeout_exact (u : Nat) (maxT : Int) (hm : -1 ≤ maxT) (hM : maxT ≤ intMax) :
    ((u : Int) ≤ intMax → (maxT = -1 ∨ (u : Int) ≤ maxT) → maxT ≠ 0 → getTimeoutMillisecInt (some u) maxT = u) ∧
    getTimeoutMillisecInt none maxT = maxT :=
  ⟨(getTimeoutMillisecInt_spec u maxT hm hM).2.2.2.2, getTimeoutMillisecInt_none maxT hM⟩

/-- MHD_select: the value put into the `struct timeval` never exceeds the hint (nor a positive cap), and
    the timeval denotes it exactly — every `uint64_t`. -/
theorem select_timeval_exact (u : Nat) (hu : u < W) (millisec : Int) :
    ∃ t, selectTmo (some u) millisec = some t ∧ t ≤ u ∧ (0 < millisec → (t : Int) ≤ millisec) ∧
      0 ≤ (selectTv t).1 ∧ 0 ≤ (selectTv t).2 ∧ (selectTv t).2 < 1000000 ∧
      (selectTv t).1 * 1000 + (selectTv t).2 / 1000 = t := by
  obtain ⟨t, h1, h2, h3, _⟩ := selectTmo_spec u millisec
  have := selectTv_exact t (Nat.lt_of_le_of_lt h2 hu)
  exact ⟨t, h1, h2, h3, this⟩

/-- thread_main_handle_connection: the timeval denotes the remaining time exactly for every value below
    2^63 ms (the API admits timeouts up to `UINT64_MAX / 4000 - 1` s only) … -/
theorem thread_timeval_exact (ms : Nat) (h : ms < 9223372036854775808) :
    0 ≤ (tpcTv ms).1 ∧ 0 ≤ (tpcTv ms).2 ∧ (tpcTv ms).2 < 1000000 ∧
    (tpcTv ms).1 * 1000 + (tpcTv ms).2 / 1000 = ms := by
  simp only [tpcTv, toInt64_small h]
  have : Int.tdiv (ms : Int) 1000 = ((ms / 1000 : Nat) : Int) := by
    rw [Int.tdiv_eq_ediv_of_nonneg (by omega)]; rfl
  rw [this]
  omega

/-- … and beyond that the cast-before-division makes `tv_sec` negative (select fails), never longer. -/
theorem thread_timeval_huge_negative (ms : Nat) (h1 : 9223372036854775808 + 1000 ≤ ms) (h2 : ms + 1000 ≤ W) :
    (tpcTv ms).1 < 0 := by
  simp only [tpcTv, toInt64, W] at *
  have : ¬ ms < 9223372036854775808 := by omega
  simp only [this, if_false]
  have h3 : (ms : Int) - 18446744073709551616 = -((18446744073709551616 - ms : Nat) : Int) := by omega
  rw [h3, Int.neg_tdiv]
  have h5 : 1000 ≤ 18446744073709551616 - ms := by omega
  have h4 : (0 : Int) < Int.tdiv ((18446744073709551616 - ms : Nat) : Int) 1000 := by
    rw [Int.tdiv_eq_ediv_of_nonneg (by omega)]
    omega
  omega

/-- **The wait of the internal loops never exceeds the earliest deadline + granularity**: in every
    reachable state with a small clock displacement, whatever cap the loop passes. -/
theorem loop_wait_le_earliest_deadline (cfg : Cfg) (hc : cfg.dtmo ≤ tmoMax) (ops : List Op)
    (maxT : Int) (hm : -1 ≤ maxT) (hM : maxT ≤ intMax) :
    let d := run Variant.current (Daemon.init cfg) ops
    d.now + jumpBackLimit < 2 ^ 62 → d.back ≤ jumpBackLimit → ∀ hh, hint Variant.current d = some hh →
      ∀ i, i ∈ d.normal ∨ i ∈ d.manual → (d.c i).tmo ≠ 0 →
        getTimeoutMillisecInt (some hh) maxT ≤ (((d.c i).la + (d.c i).tmo - d.now) + granularity : Nat) := by
  intro d hnow hback hh heq i hi hti
  have h1 : hh ≤ ((d.c i).la + (d.c i).tmo - d.now) + granularity :=
    (hint_le_earliest_deadline cfg hc ops hnow hback hh heq i hi hti).1
  have h2 := (getTimeoutMillisecInt_spec hh maxT hm hM).2.1
  exact Int.le_trans h2 (Int.ofNat_le.2 h1)

def cfgT10 (epoll : Bool) : Cfg := ⟨epoll, 10000, true⟩

/-- the three-step history of F11: A and B arrive, A is overridden to 5 s, B is active 3 s later,
    A is overridden back to the default 10 s one second after that -/
def f11History : List Op :=
  [.arrive 0, .arrive 1, .round, .setTimeout 0 5, .tick 3000, .send 1, .round, .tick 1000, .setTimeout 0 10]

/-- F11: the override back to the default value puts A (older stamp) in front of B: the list is not
    sorted, and the hint is 9000 ms although A's deadline is 6000 ms away. -/
theorem asIs_F11_hint_exceeds_deadline :
    let d := run Variant.asIs (Daemon.init (cfgT10 false)) f11History
    d.normal = [0, 1] ∧ (d.c 0).la < (d.c 1).la ∧
    hint Variant.asIs d = some 9000 ∧ (d.c 0).la + (d.c 0).tmo - d.now = 6000 := by
  decide +kernel

/-- F11 in epoll mode: 6.5 s later A has been idle for 10.5 s > 10 s, but the round does not close it
    (the scan stops at B, which is not expired) … -/
theorem asIs_F11_epoll_expired_not_closed :
    let d := run Variant.asIs (Daemon.init (cfgT10 true)) (f11History ++ [.round, .tick 6500])
    checkTimedOut d.now (d.c 0) = true ∧ (round Variant.asIs d).2 = [] := by
  decide +kernel

/-- … whereas the repaired insertion keeps the list sorted, gives the hint 6000 and closes A in that round. -/
theorem repaired_F11 :
    let v : Variant := ⟨true, true, true, true, false, true, true⟩
    let d := run v (Daemon.init (cfgT10 true)) f11History
    d.normal = [1, 0] ∧ hint v d = some 6000 ∧
    (round v (run v d [.round, .tick 6500])).2 = [Event.tmoClose 0 false] := by
  decide +kernel

/-- F11b: an override on a suspended connection is silently dropped by the unrepaired code … -/
theorem asIs_F11b_override_ignored_while_suspended :
    let d := run Variant.asIs (Daemon.init (cfgT10 false))
      [.arrive 0, .round, .susp 0, .send 0, .round, .setTimeout 0 3]
    (d.c 0).suspended = true ∧ (d.c 0).tmo = 10000 := by
  decide +kernel

/-- F11c: a connection queued before a resumed one is inserted in front of it with its older stamp. -/
theorem asIs_F11c_new_connection_breaks_order :
    let d := run Variant.asIs (Daemon.init (cfgT10 true))
      [.arrive 0, .round, .susp 0, .send 0, .round, .tick 1000, .arrive 1, .tick 2000, .resume 0, .round]
    d.normal = [1, 0] ∧ (d.c 1).la < (d.c 0).la := by
  decide +kernel

/-- F11d: with a timed-out connection still waiting for its cleanup, the wrapped comparison in the
    manual-list scan skips it and the hint is 7000 ms instead of 0. -/
theorem asIs_F11d_hint_skips_expired :
    let d := run Variant.asIs (Daemon.init (cfgT10 false))
      [.arrive 0, .arrive 1, .round, .setTimeout 0 1, .setTimeout 1 7, .tick 2000, .send 1, .round]
    (d.c 0).closed = true ∧ 0 ∈ d.manual ∧ (d.c 0).la + (d.c 0).tmo < d.now ∧
    hint Variant.asIs d = some 7000 := by
  decide +kernel

/-- the history of F11e: both connections are active, the clock steps back by 300 ms (well inside the
    5000 ms tolerance), then the older one of the two is active again -/
def f11eHistory : List Op :=
  [.arrive 0, .arrive 1, .round, .tick 1000, .send 0, .round, .tickback 300, .send 1, .round, .tick 1000]

/-- the tree with every earlier repair but head insertion of freshly stamped connections -/
def preF11e : Variant := ⟨true, true, true, true, true, false, true⟩

/-- F11e: after a small backward jump the freshly stamped connection 1 is put in front of connection 0
    whose stamp is younger: the list is not sorted, and the hint (9300 ms) exceeds the time left to
    connection 1's deadline (9000 ms) by more than the granularity. -/
theorem asIs_F11e_jump_breaks_order :
    let d := run preF11e (Daemon.init (cfgT10 true)) f11eHistory
    d.back ≤ jumpBackLimit ∧ d.normal = [1, 0] ∧ (d.c 1).la < (d.c 0).la ∧
    hint preF11e d = some 9300 ∧ (d.c 1).la + (d.c 1).tmo - d.now = 9000 := by
  decide +kernel

/-- F11e in epoll mode: 9001 ms later connection 1 has been idle for 10001 ms > 10 s, but the round does
    not close it (the scan stops at connection 0, the tail, which is not expired) … -/
theorem asIs_F11e_epoll_expired_not_closed :
    let d := run preF11e (Daemon.init (cfgT10 true)) (f11eHistory ++ [.tick 9001])
    d.back ≤ jumpBackLimit ∧ (d.c 1).tmo < d.now - (d.c 1).la ∧ (round preF11e d).2 = [] := by
  decide +kernel

/-- … whereas the sorted insertion keeps the order, gives the hint 9000 and closes connection 1 in that
    round. -/
theorem repaired_F11e :
    let v : Variant := ⟨true, true, true, true, true, true, true⟩
    let d := run v (Daemon.init (cfgT10 true)) f11eHistory
    d.normal = [0, 1] ∧ hint v d = some 9000 ∧
    (round v (run v d [.tick 9001])).2 = [Event.tmoClose 1 true] := by
  decide +kernel

/-- The boundary of "small": with the clock more than `jumpBackLimit` behind the highest value it has
    shown (here two steps of 3000 ms) the code's own rule ("too large jump back") closes a connection
    whose idle time on the clock is 0 — the hypothesis `back ≤ jumpBackLimit` of
    `round_closes_only_expired` cannot be dropped. -/
theorem largeDisplacement_closes_idle :
    let v : Variant := ⟨true, true, true, true, true, true, true⟩
    let d := run v (Daemon.init (cfgT10 false)) [.arrive 0, .round, .tickback 3000, .tickback 3000]
    d.back = 6000 ∧ d.now - (d.c 0).la = 0 ∧ (round v d).2 = [Event.tmoClose 0 false] := by
  decide +kernel

/-- a reachable state with a suspended connection, one on the manual list and one on the normal list
    satisfies the invariant, has a hint, and that hint obeys the bound -/
example :
    let d := run Variant.current (Daemon.init (cfgT10 true))
      [.arrive 0, .arrive 1, .arrive 2, .round, .send 0, .send 1, .round, .setTimeout 1 7, .susp 0, .send 0,
       .tick 500, .round, .tick 2500, .round]
    Inv d ∧ d.susp = [0] ∧ d.manual = [1] ∧ d.normal = [2] ∧ hint Variant.current d = some 4000 := by
  refine ⟨inv_reachable _ (by decide) _, ?_⟩
  decide +kernel

/-- a reachable state after backward jumps at three positions (cumulated 4999 ms behind the high-water
    mark at the end): the hypotheses of the history theorems hold, the list is sorted although
    connection 1 was stamped after the jumps, and the hint is exact -/
example :
    let d := run Variant.current (Daemon.init (cfgT10 true))
      [.arrive 0, .arrive 1, .round, .tick 6000, .send 0, .round, .tickback 2000, .send 1, .round, .tickback 2999,
       .tick 1000, .tickback 1000]
    d.now < 2 ^ 62 ∧ d.back ≤ jumpBackLimit ∧ d.back = 4999 ∧ d.normal = [0, 1] ∧ (d.c 1).la < (d.c 0).la ∧
    d.now < (d.c 1).la ∧ hint Variant.current d = some 100 := by
  decide +kernel

example : ∃ now c, c.la ≤ now ∧ now < 2 ^ 63 ∧ checkTimedOut now c = true :=
  ⟨20001, { la := 10000, tmo := 10000 }, by decide, by decide, by decide⟩

example : getTimeoutMillisecInt (some 18446744073709551615) (-1) = 2147483647 ∧ getTimeoutMillisecInt (some 7000) 250 = 250 ∧
    getTimeoutI (some 4294967296) = 2147483647 ∧ selectTv 18446744073709551615 = (18446744073709551, 615000) ∧
    tpcTv 9999 = (9, 999000) := by decide +kernel

example : ∃ now c, now < c.la ∧ c.la - now ≤ jumpBackLimit ∧ c.la < W ∧ c.tmo < 2 ^ 63 ∧ getWait now c = 100 :=
  ⟨1000, { la := 6000, tmo := 10000 }, by decide, by decide, by decide, by decide, by decide⟩

end Mhd.C10
